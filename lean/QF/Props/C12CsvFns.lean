import QF.Props.C12CsvCanon
import QF.Core.ExecAttr
import QF.Core.ListFacts
import QF.Props.C12CsvMirror
/-!
# C12 / C15 — the meaning of the canonical CSV-reader terms, function by function

Symbolic execution of the canonical terms of C12CsvCanon (`canonFns`) in the semantics `CR.S.exec` / `CR.E.eval`
(QF/Core/CRExpr.lean): one lemma per statement form (`exec_*`; loops keep their step function folded so that the loop
lemmas can be stated by induction on the budget), and then, bottom-up along the call graph, one lemma per function that
says that a call of the translated function does to the state what the hand mirror's function (QF/Core/Csv.lean) does:

* `call_wrapRead`  — `eofReaderWrapper.Read` over the underlying reader `CR.underRead` = `Csv.Src.read`
* `call_more`      — `bufferedReader.more` = `Csv.Buf.more`
* `call_bufReset`, `call_fsReset` — `reset` = `Csv.Buf.reset` (+ the three fields)
* `call_unquoted`  — `fields.nextUnquotedField` = `Csv.nextUnquoted` (loop: `unq_loop`), exactly, the budget included

The remaining functions follow in the same namespace: `call_quoted` in C12CsvQuoted, `call_fsNext`, `call_rdNext`,
`call_rdRead`, `call_rdErr`, `call_newReader` in C12CsvGen.

`WF b` (`cursor ≤ len ≤ cap`, C12CsvMirror) is the invariant of the buffer under which Go's bounds checks and the mirror's agree.
Where the mirror has ONE loop for two nested ones of the Go text (`nextQuotedField`) the statement is `Refines`: the call returns
what the mirror returns unless the mirror gives up (`panic "fuel"`).
The depth argument of `callAt` in the `call_*` lemmas (`n+1` for `wrapRead`, `n+2` for `more`, … ) is the height of the
function in the call graph: a call at depth `d+1` runs the body with depth `d` left for its own calls.
-/
namespace QF.Props.C12CsvGen
open QF QF.CR Csv
set_option linter.unusedSimpArgs false

/-- the environment of a function body run at call depth `n + 1` -/
abbrev env (fuel n : Nat) : Env := { call := callAt canonFns fuel n, fuel := fuel }

theorem callAt_succ (fuel n : Nat) (f : FnId) (fn : Fn) (h : canonFns.lookup f = some fn) (args : List Val) (hp : Reader) :
    callAt canonFns fuel (n+1) f args hp = runFn (env fuel n) fn args hp := by
  simp [callAt, h]

theorem set_apply (σ : Store) (v w : Var) (x : Val) : σ.set v x w = if w = v then some x else σ w := rfl

/-! ## Execution lemmas (one per statement form; `loop` keeps its step function folded) -/

def stepOf (Γ : Env) (body : S) (h : Reader) (σ : Store) : Out := body.exec Γ h σ

section exec
variable (Γ : Env) (h : Reader) (σ : Store)
theorem exec_skip : S.skip.exec Γ h σ = .next h σ := rfl
theorem exec_block_nil : (S.block []).exec Γ h σ = .next h σ := rfl
theorem exec_block_cons (s : S) (ss : List S) :
    (S.block (s :: ss)).exec Γ h σ = (match s.exec Γ h σ with | .next h' σ' => (S.block ss).exec Γ h' σ' | r => r) := rfl
theorem exec_seq (a b : S) : (S.seq a b).exec Γ h σ = (match a.exec Γ h σ with | .next h' σ' => b.exec Γ h' σ' | r => r) := rfl
theorem exec_assign (l : L) (e : E) : (S.assign l e).exec Γ h σ =
    Out.ofRes (e.eval h σ) fun x => match assignL h σ l x with | some p => .next p.1 p.2 | none => .stuck := rfl
theorem exec_incr (l : L) : (S.incr l).exec Γ h σ =
    (match readL h σ l with
     | some (.int n) => (match assignL h σ l (.int (n + 1)) with | some p => .next p.1 p.2 | none => .stuck)
     | _ => .stuck) := rfl
theorem exec_copy (dst src : E) : (S.copy dst src).exec Γ h σ =
    Out.ofRes (dst.eval h σ) fun d => Out.ofRes (src.eval h σ) fun s =>
      match d, s with
      | .view o1 l1 _, .view o2 l2 _ =>
        .next { h with fs := { h.fs with buf := { h.fs.buf with
          data := writeAll h.fs.buf.data o1 (readView h.fs.buf.data o2 (min l1 l2)) } } } σ
      | _, _ => .stuck := rfl
theorem exec_copyVar (v : Var) (src : E) : (S.copyVar v src).exec Γ h σ =
    Out.ofRes (src.eval h σ) fun s =>
      match σ v, s with
      | some (.fresh a l), .view o2 l2 _ => .next h (σ.set v (.fresh (writeAll a 0 (readView h.fs.buf.data o2 (min l l2))) l))
      | _, _ => .stuck := rfl
theorem exec_setRowAt (i e : E) : (S.setRowAt i e).exec Γ h σ =
    Out.ofRes (i.eval h σ) fun iv => Out.ofRes (e.eval h σ) fun x =>
      match iv, x with
      | .int n, .snap f => if 0 ≤ n ∧ n < h.row.length then .next { h with row := h.row.set n.toNat f } σ else .panic .index
      | _, _ => .stuck := rfl
theorem exec_ite (c : E) (t e : S) : (S.ite c t e).exec Γ h σ =
    Out.ofRes (c.eval h σ) fun x =>
      match x with
      | .bool true => t.exec Γ h σ
      | .bool false => e.exec Γ h σ
      | _ => .stuck := rfl
theorem exec_loop (body : S) : (S.loop body).exec Γ h σ = iter (stepOf Γ body) Γ.fuel h σ := rfl
theorem exec_brk : S.brk.exec Γ h σ = .brk h σ := rfl
theorem exec_cont : S.cont.exec Γ h σ = .cont h σ := rfl
theorem exec_ret (es : List E) : (S.ret es).exec Γ h σ = Out.ofRes (evalList h σ es) fun vs => .ret h vs := rfl
theorem exec_call (ls : List L) (f : FnId) (args : List E) : (S.call ls f args).exec Γ h σ =
    Out.ofRes (evalList h σ args) fun vs =>
      match Γ.call f vs h with
      | .ret h' rs => (match assignAll h' σ ls rs with
                       | some p => .next p.1 p.2
                       | none => (match ls with | [] => .next h' σ | _ => .stuck))
      | .panic c => .panic c
      | .stuck => .stuck := rfl
theorem exec_retCall (f : FnId) (args : List E) : (S.retCall f args).exec Γ h σ =
    Out.ofRes (evalList h σ args) fun vs =>
      match Γ.call f vs h with
      | .ret h' rs => .ret h' rs
      | .panic c => .panic c
      | .stuck => .stuck := rfl
theorem exec_rawRead (n er : L) (dst : E) : (S.rawRead n er dst).exec Γ h σ =
    Out.ofRes (dst.eval h σ) fun d =>
      match d with
      | .view off len _ =>
        let r := underRead h.fs.buf.src len
        let h1 : Reader := { h with fs := { h.fs with buf := { h.fs.buf with
          data := writeAll h.fs.buf.data off r.1, src := r.2.2 } } }
        (match assignAll h1 σ [n, er] [.int r.1.length, .err r.2.1] with
         | some p => .next p.1 p.2
         | none => .stuck)
      | _ => .stuck := rfl
end exec

/-- `o`, and if it ends normally the continuation `k`. The rest of a block stays folded behind `k` until the statement before
it has run, so that it is run once, on the state it really sees. -/
def andThen : CR.Out → (Reader → Store → CR.Out) → CR.Out
  | .next h σ, k => k h σ
  | .brk h σ, _ => .brk h σ
  | .cont h σ, _ => .cont h σ
  | .ret h vs, _ => .ret h vs
  | .panic c, _ => .panic c
  | .stuck, _ => .stuck

theorem exec_block_andThen (Γ : Env) (h : Reader) (σ : Store) (s : S) (ss : List S) :
    (S.block (s :: ss)).exec Γ h σ = andThen (s.exec Γ h σ) ((S.block ss).exec Γ) := by
  rw [exec_block_cons]; cases s.exec Γ h σ <;> rfl

theorem exec_seq_andThen (Γ : Env) (h : Reader) (σ : Store) (a b : S) :
    (S.seq a b).exec Γ h σ = andThen (a.exec Γ h σ) (b.exec Γ) := by
  rw [exec_seq]; cases a.exec Γ h σ <;> rfl

theorem cast_add (a b : Nat) : (a : Int) + (b : Int) = ((a + b : Nat) : Int) := (Int.natCast_add a b).symm
theorem cast_add_one (a : Nat) : (a : Int) + 1 = ((a + 1 : Nat) : Int) := rfl

/- The equations of the interpreter and the normal form of its values: the simp set `cr_exec`. The operations on values
(`arith`, `compare`, `setFld`, `Val.slice`, …) are in it by their equations, one per case, WITHOUT the last one, the catch-all
(`| _, _ => .stuck`): that equation is conditional (`(∀ m n, x = .int m → y = .int n → False) → arith f x y = .stuck`), and simp
simplifies the continuation of every `Res.bind` / `Out.ofRes` before the value is there, so it would try, and fail, to discharge it
on the bound variable of each of them: more than half the cost of a run. -/
attribute [cr_exec] exec_block_nil exec_block_andThen exec_skip exec_seq_andThen andThen exec_assign exec_incr exec_copy exec_copyVar
  exec_setRowAt exec_ite exec_loop exec_brk exec_cont exec_ret exec_call exec_retCall exec_rawRead E.eval evalList bindArgs
  set_apply assignL assignAll.eq_1 assignAll.eq_2 readL getFld lenOf asInt.eq_1 asBool.eq_1 arith.eq_1 remV.eq_1
  compare.eq_1 compare.eq_2 compare.eq_3 compare.eq_4 COp.holds COp.same.eq_1 COp.same.eq_2
  setFld.eq_1 setFld.eq_2 setFld.eq_3 setFld.eq_4 setFld.eq_5 setFld.eq_6 setFld.eq_7 setFld.eq_8 setFld.eq_9 setFld.eq_10 setFld.eq_11
  Val.len.eq_1 Val.len.eq_2 Val.len.eq_3 Val.len.eq_4 Val.cap.eq_1 Val.cap.eq_2 Val.index.eq_1 Val.index.eq_2 Val.index.eq_3
  Val.slice.eq_1 Val.slice.eq_2 Val.slice.eq_3 Res.bind_ok Res.bind_panic Res.bind_stuck Out.ofRes_ok Out.ofRes_panic
  Out.ofRes_stuck cast_add cast_add_one ListFacts.cast_succ_sub_one ListFacts.cast_two_mul Int.toNat_natCast Int.toNat_zero Int.ofNat_lt Int.ofNat_le
  Int.natCast_inj Int.natCast_pos Int.natCast_nonneg Int.le_refl Nat.le_refl Nat.le_add_right eq_self gt_iff_lt ge_iff_le
  Nat.sub_zero Nat.zero_add Option.map_some Option.bind_some List.length_nil List.length_cons and_self and_true true_and
  decide_true decide_false Bool.not_true Bool.not_false decide_eq_true_eq Bool.false_eq_true Bool.decide_eq_true
  Option.some.injEq

/-- Symbolic execution of the statement forms (loops stay folded) and of expressions. Every `int` of the store is kept as the
cast of a natural, so that Go's bounds checks come out as comparisons of naturals; the caller hands in the facts that decide
them (and the values of the variables) as rewrite rules. -/
macro "exec_simp" " [" ts:Lean.Parser.Tactic.simpLemma,* "]" : tactic =>
  `(tactic| simp only [cr_exec, Nat.reduceEqDiff, ↓reduceIte, reduceCtorEq, $ts,*])

/-- `a && b`: `b` is looked at only when `a` holds -/
theorem eval_and {h : Reader} {σ : Store} {a b : E} {p q : Bool} (ha : a.eval h σ = .ok (.bool p))
    (hb : p = true → b.eval h σ = .ok (.bool q)) : (E.and a b).eval h σ = .ok (.bool (p && q)) := by
  cases p
  · simp only [E.eval, ha, Res.bind_ok, asBool, Bool.false_eq_true, if_false, Bool.false_and]
  · simp only [E.eval, ha, hb rfl, Res.bind_ok, asBool, if_true, Bool.true_and]


/-- the state with another buffer -/
def withBuf (h : Reader) (b : Buf) : Reader := { h with fs := { h.fs with buf := b } }

/-! ## `eofReaderWrapper.Read` -/

/-- what the wrapper does with the answer of the underlying reader: `io.EOF` together with data is held back -/
def wrapOf (r : List Byte × Option RErr × Src) : List Byte × Option RErr × Src :=
  if r.2.1 = some .eof ∧ 0 < r.1.length then (r.1, none, { r.2.2 with wrapEof := true }) else r

/-- The mirror's `Src.read` is the wrapper around the underlying reader. -/
theorem read_eq_wrap (s : Src) (room : Nat) :
    s.read room = if s.wrapEof then ([], some .eof, s) else wrapOf (underRead s room) := by
  obtain ⟨rest, sched, failAt, calls, ewd, weof, fwd⟩ := s
  cases weof
  · simp only [Src.read, underRead, wrapOf, Bool.false_eq_true, if_false]
    split
    · simp
    · split
      · simp
      · rename_i h1 h2
        dsimp only
        generalize min (min (match sched with | [] => rest.length | k :: _ => k) room) rest.length = m
        by_cases hf : (failAt == some calls) = true
        · simp [hf]
        · have hr : 0 < rest.length := by cases rest <;> simp_all
          have hne : rest ≠ [] := by intro h; simp [h] at hr
          cases ewd <;> by_cases hm : m = rest.length <;> by_cases h0 : 0 < m <;> simp [hf, hm, h0, hr, hne]
  · simp [Src.read]

/-- The wrapper's `Read` over the underlying reader is the mirror's `Src.read`: the bytes go to the array at the offset of
the slice, the call returns their number and the error. -/
theorem call_wrapRead (fuel n : Nat) (h : Reader) (off len cap : Nat) :
    callAt canonFns fuel (n+1) .wrapRead [.view off len cap] h =
      .ret (withBuf h { h.fs.buf with data := writeAll h.fs.buf.data off (h.fs.buf.src.read len).1, src := (h.fs.buf.src.read len).2.2 })
        [.int (h.fs.buf.src.read len).1.length, .err (h.fs.buf.src.read len).2.1] := by
  rw [callAt_succ _ _ .wrapRead fnWrapRead rfl, read_eq_wrap]
  unfold runFn fnWrapRead
  by_cases hw : h.fs.buf.src.wrapEof = true
  · exec_simp [hw, withBuf, writeAll]
    rfl
  · generalize hr : underRead h.fs.buf.src len = r
    obtain ⟨bytes, e, s'⟩ := r
    exec_simp [hw, withBuf, hr, wrapOf]
    by_cases hc : e = some RErr.eof ∧ 0 < bytes.length
    · exec_simp [hc, hc.1, hc.2]
    · by_cases he : e = some RErr.eof
      · exec_simp [he, hc, show ¬ 0 < bytes.length from fun hl => hc ⟨he, hl⟩]
      · exec_simp [he, false_and]

/-! ## Arrays -/

theorem toList_writeAll : ∀ (bs : List Byte) (a : Array Byte) (off : Nat), off + bs.length ≤ a.size →
    (writeAll a off bs).toList = a.toList.take off ++ bs ++ a.toList.drop (off + bs.length)
  | [], a, off, _ => by simp [writeAll]
  | b :: bs, a, off, hle => by
    simp only [List.length_cons] at hle
    have hlt : off < a.toList.length := by simp; omega
    have h2 : off + 1 + bs.length ≤ (a.setIfInBounds off b).size := by simp; omega
    rw [writeAll, toList_writeAll bs _ _ h2]
    simp only [Array.toList_setIfInBounds, List.length_cons]
    rw [List.take_succ_eq_append_getElem (by simpa using hlt), List.getElem_set_self, List.take_set_of_le (Nat.le_refl _),
      List.drop_set_of_lt (by omega)]
    simp [Nat.add_assoc, Nat.add_comm 1]

/-- the copy into the grown array of `more` -/
theorem writeAll_grow (a : Array Byte) :
    writeAll (Array.replicate (2 * a.size + 1) 0) 0 (readView a 0 a.size) = a ++ Array.replicate (a.size + 1) 0 := by
  apply Array.ext'
  rw [toList_writeAll _ _ _ (by simp [readView]; omega)]
  simp only [readView, Nat.zero_add, List.take_zero, List.nil_append, List.drop_zero, Array.toList_replicate, Array.toList_append,
    List.drop_replicate]
  rw [List.take_of_length_le (by simp)]
  congr 1
  simp
  omega

/-! ## `bufferedReader.more` -/

theorem call_more (fuel n : Nat) (h : Reader) (hwf : h.fs.buf.len ≤ h.fs.buf.data.size) :
    callAt canonFns fuel (n+2) .more [] h = .ret (withBuf h h.fs.buf.more.1) [.err h.fs.buf.more.2] := by
  rw [callAt_succ _ _ .more fnMore rfl, C15Faults.more_eq]
  unfold runFn fnMore growPart
  by_cases hg : h.fs.buf.len = h.fs.buf.data.size
  · have hb := (C15Faults.read_bytes h.fs.buf.src (h.fs.buf.data.size + 1)).2
    have hgr : h.fs.buf.data.size ≤ 2 * h.fs.buf.data.size + 1 := by omega
    exec_simp [hg, hgr, hb, Nat.add_le_add_iff_left, Nat.add_sub_cancel_left, call_wrapRead, C15Faults.growBuf, C15Faults.roomOf, withBuf, writeAll_grow, Nat.min_self, Array.size_append, Array.size_replicate, size_writeAll]
    simp only [beq_self_eq_true, ite_true, Array.size_append, Array.size_replicate, Nat.add_sub_cancel_left]
  · have hb := (C15Faults.read_bytes h.fs.buf.src (h.fs.buf.data.size - h.fs.buf.len)).2
    have hg' : (h.fs.buf.len == h.fs.buf.data.size) = false := by simp [hg]
    have hb' : h.fs.buf.len + (h.fs.buf.src.read (h.fs.buf.data.size - h.fs.buf.len)).1.length ≤ h.fs.buf.data.size := by omega
    exec_simp [hg, hg', hwf, hb', call_wrapRead, C15Faults.growBuf, C15Faults.roomOf, withBuf, size_writeAll]

/-! ## `reset` -/

theorem call_bufReset (fuel n : Nat) (h : Reader) (hwf : WF h.fs.buf) :
    callAt canonFns fuel (n+1) .bufReset [] h = .ret (withBuf h h.fs.buf.reset) [] := by
  rw [callAt_succ _ _ .bufReset fnBufReset rfl]
  unfold runFn fnBufReset
  obtain ⟨h1, h2⟩ := hwf
  have h3 : h.fs.buf.len - h.fs.buf.cursor ≤ h.fs.buf.data.size := by omega
  exec_simp [h1, h2, h3, ← Int.natCast_sub h1, withBuf, Buf.reset, size_writeAll]
  rw [Nat.min_eq_right (Nat.sub_le _ _), readView, Nat.add_sub_cancel' h1]

theorem call_fsReset (fuel n : Nat) (h : Reader) (hwf : WF h.fs.buf) :
    callAt canonFns fuel (n+2) .fsReset [] h =
      .ret { h with fs := { h.fs with buf := h.fs.buf.reset, field := [], fieldStart := 0, hitEOL := false } } [] := by
  rw [callAt_succ _ _ .fsReset fnFsReset rfl]
  unfold runFn fnFsReset
  exec_simp [call_bufReset _ _ _ hwf, withBuf]

/-! ## Results and panics of the mirror as results of a call -/

/-- the class of a panic of the mirror -/
def cls (w : String) : PCls :=
  if w = "fuel" ∨ w = "fuel(row)" ∨ w = "fuel(all)" then .fuel
  else if w = "slice bounds out of range" then .slice
  else .index

theorem cls_fuel : cls "fuel" = .fuel := by decide
theorem cls_fuel_row : cls "fuel(row)" = .fuel := by decide
theorem cls_fuel_all : cls "fuel(all)" = .fuel := by decide
theorem cls_slice : cls "slice bounds out of range" = .slice := by decide
theorem cls_len : cls "index out of range (len)" = .index := by decide
theorem cls_cap : cls "index out of range (cap)" = .index := by decide
theorem cls_quoted : cls "index out of range (quoted)" = .index := by decide
theorem cls_first : cls "index out of range (first)" = .index := by decide

/-- The run `c` returns what the mirror's `o` returns (seen through `emb`) unless the mirror gives up. -/
def Refines {α γ : Type} (emb : Csv.Out α → γ) (o : Csv.Out α) (c : γ) : Prop := o ≠ .panic "fuel" → c = emb o

section Refines
variable {α β γ δ : Type} {emb : Csv.Out α → γ} {o : Csv.Out α} {c : γ}

theorem Refines.of_eq (h : c = emb o) : Refines emb o c := fun _ => h

theorem Refines.zero : Refines emb (.panic "fuel") c := fun h => absurd rfl h

/-- the outcome seen through `g` (a body's outcome as the result of the call) -/
theorem Refines.map (hs : Refines emb o c) (g : γ → δ) {emb' : Csv.Out α → δ} (he : ∀ o, g (emb o) = emb' o) :
    Refines emb' o (g c) :=
  fun h => (congrArg g (hs h)).trans (he o)

/-- a panic handed on from a callee -/
theorem Refines.panic_of {emb' : Csv.Out β → δ} {c' : δ} {w : String} (hs : Refines emb (.panic w) c)
    (hc : c = emb (.panic w) → c' = emb' (.panic w)) : Refines emb' (.panic w) c' :=
  fun h => hc (hs (panic_cast h))
end Refines

/-- a result of `nextUnquoted` / `Fields.next` as the result of a loop or body: the new `fields`, the flag -/
def retF (h : Reader) : Csv.Out (Fields × Bool) → CR.Out
  | .ok (fs, b) => .ret { h with fs := fs } [.bool b]
  | .panic w => .panic (cls w)

/-! ## `fields.nextUnquotedField` -/

/-- what a round of a loop leaves to the following rounds -/
def contK (step : Reader → Store → CR.Out) (k : Nat) : CR.Out → CR.Out
  | .next h σ => iter step k h σ
  | .cont h σ => iter step k h σ
  | .brk h σ => .next h σ
  | r => r

theorem iter_succ (step : Reader → Store → CR.Out) (k : Nat) (h : Reader) (σ : Store) :
    iter step (k + 1) h σ = contK step k (step h σ) := by
  rw [iter]; cases step h σ <;> rfl

theorem UInt8_ofNat_10 : UInt8.ofNat 10 = LF := rfl
theorem UInt8_ofNat_13 : UInt8.ofNat 13 = Csv.CR := rfl
theorem UInt8_ofNat_34 : UInt8.ofNat 34 = QUOTE := rfl

theorem unq_tail (fuel n k : Nat) (h : Reader) (σ : Store) (cursor : Nat)
    (ih : ∀ (h : Reader) (σ : Store) (cursor : Nat),
      σ 0 = some (.int cursor) → h.fs.fieldStart ≤ cursor → cursor ≤ h.fs.buf.len → WF h.fs.buf →
      iter (stepOf (env fuel (n+2)) unqBody) k h σ = retF h (nextUnquoted k h.fs cursor))
    (hσ : σ 0 = some (.int cursor)) (hfs : h.fs.fieldStart ≤ cursor) (hls : h.fs.buf.len ≤ h.fs.buf.data.size) :
    contK (stepOf (env fuel (n+2)) unqBody) k ((S.block unqTail).exec (env fuel (n+2)) h σ) = retF h (C15Faults.unqStep k cursor h.fs) := by
  unfold C15Faults.unqStep unqTail unqSwitch
  by_cases hlt : cursor < h.fs.buf.len
  · have hsz : cursor < h.fs.buf.data.size := by omega
    rw [dif_pos hsz, if_pos hlt]
    exec_simp [hσ, hlt, hfs, Nat.le_of_lt hsz]
    rw [getElem!_pos h.fs.buf.data cursor hsz]
    generalize h.fs.buf.data[cursor] = ch
    have hrv : readView h.fs.buf.data h.fs.fieldStart (cursor - h.fs.fieldStart) =
        (h.fs.buf.data.toList.take cursor).drop h.fs.fieldStart := by rw [readView, Nat.add_sub_cancel' hfs]
    by_cases hd : ch = h.fs.delim
    · simp [hd, retF, contK, andThen, hrv, Buf.slice]
    · by_cases hl : ch = LF
      · subst hl
        simp [hd, retF, contK, andThen, hrv, Buf.slice, UInt8_ofNat_10]
      · simp only [hd, hl, UInt8_ofNat_10, decide_false, beq_iff_eq, if_false, andThen, contK]
        rw [ih _ _ (cursor + 1) (by simp [set_apply]) (by simp; omega) (by simp; omega) ⟨by simp; omega, by simpa using hls⟩]
        rfl
  · exec_simp [hσ, hlt]
    split <;> simp only [retF, contK, cls_len, cls_cap]

theorem unq_loop (fuel n : Nat) : ∀ (k : Nat) (h : Reader) (σ : Store) (cursor : Nat),
    σ 0 = some (.int cursor) → h.fs.fieldStart ≤ cursor → cursor ≤ h.fs.buf.len → WF h.fs.buf →
    iter (stepOf (env fuel (n+2)) unqBody) k h σ = retF h (nextUnquoted k h.fs cursor) := by
  intro k
  induction k with
  | zero => intro h σ cursor _ _ _ _; simp [iter, nextUnquoted, retF, cls_fuel]
  | succ k ih =>
    intro h σ cursor hσ hfs hcl hwf
    have hls := hwf.2
    rw [C15Faults.nextUnquoted_succ, iter_succ, stepOf, exec_block_andThen]
    by_cases hge : cursor ≥ h.fs.buf.len
    · rw [if_pos hge]
      obtain ⟨ml, _, hm, _⟩ := more_later h.fs.buf hwf
      have hcs : cursor ≤ h.fs.buf.more.1.data.size := by have := ml.wf.2; omega
      unfold unqMore
      exec_simp [hσ, hge, call_more _ _ _ hls, withBuf]
      rcases h.fs.buf.more.2 with _ | (_ | _)
      · exec_simp []
        exact unq_tail fuel n k _ _ cursor ih (by simp only [set_apply, hσ]; rfl) hfs ml.wf.2
      · exec_simp [hfs, hcs]
        simp only [retF, contK, Buf.slice, readView, Nat.add_sub_cancel' hfs]
      · exec_simp []
        simp only [retF, contK]
    · rw [if_neg hge]
      exec_simp [hσ, hge]
      exact unq_tail fuel n k h σ cursor ih hσ hfs hls

/-- a result of the mirror as the result of a call -/
def callF (h : Reader) : Csv.Out (Fields × Bool) → CallRes
  | .ok (fs, b) => .ret { h with fs := fs } [.bool b]
  | .panic w => .panic (cls w)

/-- `fields.nextUnquotedField` is the mirror's `nextUnquoted` from the cursor of the buffer, the budget included. -/
theorem call_unquoted (fuel n : Nat) (h : Reader) (hwf : FWF h.fs) :
    callAt canonFns fuel (n+3) .unquoted [] h = callF h (nextUnquoted fuel h.fs h.fs.buf.cursor) := by
  rw [callAt_succ _ _ .unquoted fnUnquoted rfl]
  unfold runFn fnUnquoted
  exec_simp []
  rw [unq_loop fuel n fuel h _ h.fs.buf.cursor (by simp [set_apply]) hwf.1 hwf.2.1 hwf.2]
  cases nextUnquoted fuel h.fs h.fs.buf.cursor with
  | ok p => rfl
  | panic w => rfl

end QF.Props.C12CsvGen
