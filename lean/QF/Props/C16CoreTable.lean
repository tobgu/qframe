import QF.Props.C16PrecisionCheck
/-!
# C16 — the Ryu core: the hypothesis of `ryu_shortest_partial` without machine arithmetic

`shape_of_exp` (for all 2048 exponent fields): the shift passed to `mulShift64` is in `[64, 128)`, the halves of the multiplier
are 64-bit, and the multiplier is below `2^(shift+8)` — the bit counts of the table entries are checked entry by entry
(`entries_ok`), and the precision lemma at `m = 1` ties `multiplier / 2^shift` to the scale `N/D ∈ [1, 100)`. Hence (`mulShift64_table`) every
`mulShift64` call of step 3 returns `⌊m · multiplier / 2^shift⌋` exactly, and the hypothesis of `ryu_shortest_partial` becomes a
statement about the table entries only (`ryu_shortest_of_table_precision`). `table_index_in_range`, `mulVal_pos`, `mulVal_neg` say
which numbers these entries are (`C16Tables`).
-/
namespace QF.Props.C16Core
open QF.Ryu64

/-! ## the hypothesis of `ryu_shortest_partial` without machine arithmetic -/

/-- Shape of the multiplier and the shift for every exponent field: `shape_of_prec` at the case `m = 1` of `precision`. -/
theorem shape_of_exp (exp : Nat) (he : exp < 2048) : ∃ s : Nat, shiftOf exp = (s : Int) ∧ 64 ≤ s ∧ s < 128 ∧
    (mulOf exp).1 < 2 ^ 64 ∧ (mulOf exp).2 < 2 ^ 64 ∧ mulVal exp < 2 ^ (s + 8) :=
  shape_of_prec exp he (precision exp 1 he (by decide) (isExc_false (by omega) (by omega)))

/-- With the multipliers and shifts the code uses, `mulShift64` is the exact floor `⌊m · multiplier / 2^shift⌋` for every
factor `m < 2^56` (all of `mv`, `mp`, `mm`): `mulShift64_exact` applies for every exponent field. -/
theorem mulShift64_table (exp m : Nat) (he : exp < 2048) (hm : m < 2 ^ 56) :
    mulShift64 m (mulOf exp) (shiftOf exp) = m * mulVal exp / 2 ^ (shiftOf exp).toNat := by
  obtain ⟨s, hs, a, b, c, d, e⟩ := shape_of_exp exp he
  rw [hs]
  apply mulShift64_exact m _ _ s (Nat.lt_trans hm (by decide)) c d a b
  rw [Nat.div_lt_iff_lt_mul (Nat.two_pow_pos s)]
  have h1 : m * mulVal exp < 2 ^ 56 * 2 ^ (s + 8) :=
    Nat.mul_lt_mul_of_le_of_lt (Nat.le_of_lt hm) e (by decide)
  rw [← Nat.pow_add] at h1 ⊢
  rwa [show 56 + (s + 8) = 64 + s by omega] at h1

/-- The hypothesis of `ryu_shortest_partial` reduced to pure arithmetic about the table entries: it suffices that for the three
factors `m ∈ {mv, mp, mm}` of the float, `⌊m · multiplier / 2^shift⌋ = ⌊m · N / D⌋` (no 64-bit arithmetic left). -/
theorem ryu_shortest_of_table_precision (mant exp : Nat) (hm : mant < 2 ^ 52) (he : exp < 2047) (hnz : mant ≠ 0 ∨ exp ≠ 0)
    (P : ∀ m, (m = mvOf (decodeM2 mant exp) ∨ m = mpOf (decodeM2 mant exp) ∨
          m = mmOf (decodeM2 mant exp) (mmShiftOf mant exp)) →
        m * mulVal exp / 2 ^ (shiftOf exp).toNat = m * scaleNum exp / scaleDen exp) :
    ∃ k : Nat, (float64ToDecimal mant exp).e = e10Of exp + (k : Int) ∧
      Spec (mmOf (decodeM2 mant exp) (mmShiftOf mant exp) * scaleNum exp) (mvOf (decodeM2 mant exp) * scaleNum exp)
        (mpOf (decodeM2 mant exp) * scaleNum exp) (scaleDen exp) (acceptBoundsOf mant exp)
        (float64ToDecimal mant exp).m k := by
  obtain ⟨hm1, hm2, hs, emv, emp, emm⟩ := factors mant exp hm hnz
  have he' : exp < 2048 := by omega
  apply ryu_shortest_partial mant exp hm he hnz
  · rw [mulShift64_table exp _ he' (by rw [emv]; omega)]; exact P _ (Or.inl rfl)
  · rw [mulShift64_table exp _ he' (by rw [emp]; omega)]; exact P _ (Or.inr (Or.inl rfl))
  · rw [mulShift64_table exp _ he' (by rw [emm]; omega)]; exact P _ (Or.inr (Or.inr rfl))


set_option exponentiation.threshold 1100 in
/-- the table look-ups of step 3 are inside the tables for every exponent field: `q < 292` for `e2 ≥ 0`, `i = −e2 − q < 326` for `e2 < 0` -/
theorem table_index_in_range (exp : Nat) (he : exp < 2047) :
    (decodeE2 exp ≥ 0 → qOf exp < 292) ∧ (¬ decodeE2 exp ≥ 0 → (-decodeE2 exp - (qOf exp : Int)).toNat < 326) := by
  rw [decodeE2_nonneg_iff]
  constructor
  · intro h
    obtain ⟨-, -, -, -, -, -, a, -⟩ := scale_pos exp h (by omega)
    apply Nat.lt_of_not_le; intro hge
    have h1 : 10 ^ 292 ≤ 10 ^ qOf exp := Nat.pow_le_pow_right (by decide) hge
    have h2 : 2 ^ (exp - 1077) ≤ 2 ^ 969 := Nat.pow_le_pow_right (by decide) (by omega)
    have h3 : (2 : Nat) ^ 969 < 10 ^ 292 := by decide +kernel
    exact absurd (Nat.le_trans h1 (Nat.le_trans a h2)) (Nat.not_le_of_lt h3)
  · intro h
    obtain ⟨i, -, hn, he2, -, -, -, -, -, -, c, -⟩ := scale_neg exp (by omega)
    rw [show (-decodeE2 exp - (qOf exp : Int)).toNat = i by omega]
    have hn2 : i + qOf exp ≤ 1076 := by split at hn <;> omega
    generalize qOf exp = q at *
    apply Nat.lt_of_not_le; intro hge
    -- 10^i = 5^i · 2^i < 100 · 2^q · 2^i = 100 · 2^(i+q) ≤ 100 · 2^1076 < 10^326
    have h1 : 10 ^ 326 ≤ 10 ^ i := Nat.pow_le_pow_right (by decide) hge
    have h2 : (10 : Nat) ^ i = 5 ^ i * 2 ^ i := by rw [← Nat.mul_pow]
    have h3 : 5 ^ i * 2 ^ i < 100 * 2 ^ q * 2 ^ i :=
      Nat.mul_lt_mul_of_lt_of_le c (Nat.le_refl _) (Nat.two_pow_pos _)
    have h4 : 100 * 2 ^ q * 2 ^ i = 100 * 2 ^ (i + q) := by
      rw [Nat.mul_assoc, ← Nat.pow_add, Nat.add_comm]
    have h5 : 2 ^ (i + q) ≤ 2 ^ 1076 := Nat.pow_le_pow_right (by decide) hn2
    have h6 : 100 * (2 : Nat) ^ 1076 < 10 ^ 326 := by decide +kernel
    have h7 : 100 * 2 ^ (i + q) ≤ 100 * 2 ^ 1076 := Nat.mul_le_mul_left 100 h5
    rw [h2] at h1
    rw [h4] at h3
    exact absurd (Nat.lt_of_le_of_lt h1 (Nat.lt_of_lt_of_le h3 h7)) (Nat.lt_asymm h6)

/-- what the multiplier is (from `C16Tables`): for `e2 ≥ 0` it is `⌊2^(bitlen(5^q) − 1 + 122) / 5^q⌋ + 1` with `q = qOf exp` -/
theorem mulVal_pos (exp : Nat) (h : decodeE2 exp ≥ 0) (hq : qOf exp < 292) :
    mulVal exp = 2 ^ (QF.Props.C16.bitlen (5 ^ qOf exp) - 1 + 122) / 5 ^ qOf exp + 1 := by
  have hc := all_range_lift QF.Props.C16.pow5InvSplit64_correct (qOf exp) hq
  unfold QF.Props.C16.invOk QF.Props.C16.val at hc
  rw [beq_iff_eq, Array.getElem!_eq_getD] at hc
  unfold mulVal mulOf
  rw [if_pos h, ← hc, Nat.add_comm]
  rfl

/-- for `e2 < 0` it is `⌊5^i · 2^121 / 2^bitlen(5^i)⌋` with `i = −e2 − q` -/
theorem mulVal_neg (exp : Nat) (h : ¬ decodeE2 exp ≥ 0) (hi : (-decodeE2 exp - (qOf exp : Int)).toNat < 326) :
    mulVal exp = 5 ^ (-decodeE2 exp - (qOf exp : Int)).toNat * 2 ^ 121 /
      2 ^ QF.Props.C16.bitlen (5 ^ (-decodeE2 exp - (qOf exp : Int)).toNat) := by
  have hc := all_range_lift QF.Props.C16.pow5Split64_correct _ hi
  unfold QF.Props.C16.splitOk QF.Props.C16.val at hc
  rw [beq_iff_eq, Array.getElem!_eq_getD] at hc
  unfold mulVal mulOf
  rw [if_neg h, ← hc, Nat.add_comm]
  rfl

end QF.Props.C16Core
