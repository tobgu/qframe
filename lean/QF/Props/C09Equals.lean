import QF.Spec.Ops
/-!
# C09: `Equals` is an equivalence relation

`equalsS` (QF/Spec/Ops.lean) is the specification of `QFrame.Equals`. Here we prove that it is
reflexive, symmetric and transitive on *arbitrary* logical frames (no well-formedness hypothesis is
needed: `cells[r]!` falls back to the default cell on both sides), and that it ignores the enum value
table (`vals`) and strictness flag (`strict`) of the columns. All of it is read off one characterisation, `equalsS_iff`:
the same number of rows, the same names, and at every position columns that are `ColSame`.
-/
namespace QF.Props.C09
open QF

/-! ## Cells -/

theorem cellEq_refl (c : Cell) : cellEq c c = true := by
  cases c with
  | float b => cases h : F64.isNaN b <;> simp [cellEq, h]
  | int v => simp [cellEq]
  | bool b => simp [cellEq]
  | str s => simp [cellEq]

theorem cellEq_symm (a b : Cell) : cellEq a b = cellEq b a := by
  cases a <;> cases b <;> simp only [cellEq]
  case float.float x y =>
    have hk : (F64.key x == F64.key y) = (F64.key y == F64.key x) := Bool.beq_comm
    rw [hk]
    cases F64.isNaN x <;> cases F64.isNaN y <;> rfl
  all_goals exact Bool.beq_comm

/-- off the float/float case `cellEq` is `==` -/
theorem cellEq_eq_beq (a b : Cell) (h : ∀ x y, a = .float x → b ≠ .float y) : cellEq a b = (a == b) := by
  cases a <;> cases b <;> first | rfl | exact absurd rfl (h _ _ rfl)

theorem cellEq_trans (a b c : Cell) : cellEq a b = true → cellEq b c = true → cellEq a c = true := by
  cases a with
  | float x =>
    cases b with
    | float y =>
      cases c with
      | float z =>
        simp only [cellEq]
        cases F64.isNaN x <;> cases F64.isNaN y <;> cases F64.isNaN z <;> simp
        intro h1 h2; exact h1.trans h2
      | _ => intro _ h; cases eq_of_beq h
    | _ => intro h; cases eq_of_beq h
  | _ =>
    -- `a` is no float: `cellEq a b` is `a == b`, so `b` is `a`
    intro h1 h2
    rw [cellEq_eq_beq _ _ (fun _ _ e => by cases e)] at h1
    rw [eq_of_beq h1]
    exact h2

/-! ## Columns: what `equalsS` compares at one position -/

/-- the same type, and the first `n` cells pairwise `cellEq` -/
def ColSame (n : Nat) (x y : LCol) : Prop := x.ty = y.ty ∧ ∀ r, r < n → cellEq x.cells[r]! y.cells[r]! = true

theorem ColSame.refl (n : Nat) (x : LCol) : ColSame n x x := ⟨rfl, fun _ _ => cellEq_refl _⟩

theorem ColSame.symm {n : Nat} {x y : LCol} (h : ColSame n x y) : ColSame n y x :=
  ⟨h.1.symm, fun r hr => by rw [cellEq_symm]; exact h.2 r hr⟩

theorem ColSame.trans {n : Nat} {x y z : LCol} (h : ColSame n x y) (g : ColSame n y z) : ColSame n x z :=
  ⟨h.1.trans g.1, fun r hr => cellEq_trans _ _ _ (h.2 r hr) (g.2 r hr)⟩

/-! ## Frames: `equalsS`, position by position -/

theorem zip_all_index {α : Type} [Inhabited α] (R : α → α → Bool) (xs ys : List α) (h : xs.length = ys.length) :
    (List.zip xs ys).all (fun p => R p.1 p.2) = (List.range xs.length).all (fun i => R xs[i]! ys[i]!) := by
  induction xs generalizing ys with
  | nil => rfl
  | cons x t ih =>
    cases ys with
    | nil => cases h
    | cons y t2 =>
      rw [List.length_cons, List.range_succ_eq_map, List.all_cons, List.all_map]
      simp only [List.zip_cons_cons, List.all_cons, List.getElem!_cons_zero]
      rw [ih t2 (Nat.succ.inj h)]
      congr 2

theorem map_beq_zip (xs ys : List LCol) (h : xs.length = ys.length) :
    (xs.map (·.ty) == ys.map (·.ty)) = (List.zip xs ys).all (fun p => p.1.ty == p.2.ty) := by
  induction xs generalizing ys with
  | nil =>
    cases ys with
    | nil => rfl
    | cons y t => cases h
  | cons x t ih =>
    cases ys with
    | nil => cases h
    | cons y t2 => simp only [List.map_cons, List.cons_beq_cons, List.zip_cons_cons, List.all_cons, ih t2 (Nat.succ.inj h)]

theorem all_and {α : Type} (l : List α) (p q : α → Bool) : (l.all p && l.all q) = l.all (fun x => p x && q x) := by
  induction l with
  | nil => rfl
  | cons x t ih =>
    simp only [List.all_cons, ← ih]
    cases p x <;> cases q x <;> simp

theorem names_length {a b : LFrame} (h : a.names = b.names) : a.cols.length = b.cols.length := by
  simpa [LFrame.names] using congrArg List.length h

/-- **`equalsS`, position by position**: the same number of rows, the same names in order, and at every position columns
of the same type whose first `n` cells are pairwise `cellEq`. Everything else about `equalsS` is read off this. -/
theorem equalsS_iff (a b : LFrame) :
    equalsS a b = true ↔ a.n = b.n ∧ a.names = b.names ∧ ∀ i, i < a.cols.length → ColSame a.n (a.cols[i]!) (b.cols[i]!) := by
  by_cases hn : a.names = b.names
  · have hl := names_length hn
    unfold equalsS
    rw [Bool.and_assoc (a.n == b.n && a.names == b.names), map_beq_zip _ _ hl, all_and,
      zip_all_index (fun x y => x.ty == y.ty && (List.range a.n).all (fun r => cellEq x.cells[r]! y.cells[r]!)) _ _ hl]
    simp only [ColSame, Bool.and_eq_true, beq_iff_eq, List.all_eq_true, List.mem_range, and_assoc]
  · have : (a.names == b.names) = false := beq_false_of_ne hn
    simp [equalsS, this, hn]

/-- … for the columns at a position both frames have -/
theorem equalsS_getElem {a b : LFrame} (h : equalsS a b = true) (i : Nat) (h1 : i < a.cols.length) (h2 : i < b.cols.length) :
    a.cols[i].name = b.cols[i].name ∧ ColSame a.n a.cols[i] b.cols[i] := by
  obtain ⟨_, hm, hc⟩ := (equalsS_iff a b).1 h
  have hn : a.names[i]? = b.names[i]? := by rw [hm]
  have := hc i h1
  rw [getElem!_pos _ i h1, getElem!_pos _ i h2] at this
  exact ⟨by simpa [LFrame.names, h1, h2] using hn, this⟩

theorem equalsS_refl (f : LFrame) : equalsS f f = true :=
  (equalsS_iff f f).2 ⟨rfl, rfl, fun _ _ => ColSame.refl _ _⟩

theorem equalsS_symm' {a b : LFrame} (h : equalsS a b = true) : equalsS b a = true := by
  obtain ⟨hn, hm, hc⟩ := (equalsS_iff a b).1 h
  exact (equalsS_iff b a).2 ⟨hn.symm, hm.symm, fun i hi => hn ▸ (hc i (names_length hm ▸ hi)).symm⟩

theorem equalsS_symm (a b : LFrame) : equalsS a b = equalsS b a :=
  Bool.eq_iff_iff.2 ⟨equalsS_symm', equalsS_symm'⟩

theorem equalsS_trans (a b c : LFrame) :
    equalsS a b = true → equalsS b c = true → equalsS a c = true := by
  intro h g
  obtain ⟨hn, hm, hc⟩ := (equalsS_iff a b).1 h
  obtain ⟨gn, gm, gc⟩ := (equalsS_iff b c).1 g
  exact (equalsS_iff a c).2 ⟨hn.trans gn, hm.trans gm,
    fun i hi => (hc i hi).trans (hn ▸ gc i (names_length hm ▸ hi))⟩

/-- equal frames compare alike with every third frame -/
theorem equalsS_congr_left (a b c : LFrame) (h : equalsS a b = true) : equalsS a c = equalsS b c := by
  have h' : equalsS b a = true := by rw [equalsS_symm]; exact h
  cases hx : equalsS a c <;> cases hy : equalsS b c <;> try rfl
  · rw [equalsS_trans _ _ _ h hy] at hx
    cases hx
  · rw [equalsS_trans _ _ _ h' hx] at hy
    cases hy

/-! ## What `Equals` ignores -/

/-- Replace the enum value table and strictness flag of a column, keeping name, type and cells. -/
def LCol.setEnum (c : LCol) (t : List Bytes × Bool) : LCol :=
  { c with vals := t.1, strict := t.2 }

/-- Rewrite the enum value table and strictness flag of every column with an arbitrary,
column-dependent choice `t`. -/
def LFrame.setEnum (f : LFrame) (t : LCol → List Bytes × Bool) : LFrame :=
  { f with cols := f.cols.map (fun c => LCol.setEnum c (t c)) }

theorem names_setEnum (f : LFrame) (t : LCol → List Bytes × Bool) :
    (LFrame.setEnum f t).names = f.names := by
  simp [LFrame.setEnum, LFrame.names, LCol.setEnum, Function.comp_def]

/-- `equalsS` does not look at `vals`/`strict` at all: rewriting them arbitrarily (and independently)
in both arguments does not change the verdict. -/
theorem equalsS_setEnum (a b : LFrame) (t u : LCol → List Bytes × Bool) :
    equalsS (LFrame.setEnum a t) (LFrame.setEnum b u) = equalsS a b := by
  have hlen : ∀ (f : LFrame) t, (LFrame.setEnum f t).cols.length = f.cols.length := fun f t => List.length_map _
  rw [Bool.eq_iff_iff, equalsS_iff, equalsS_iff, names_setEnum, names_setEnum, hlen]
  refine and_congr_right fun _ => and_congr_right fun hm => forall₂_congr fun i hi => ?_
  have hi' : i < b.cols.length := names_length hm ▸ hi
  -- a column and its rewriting have the same type and cells
  show ColSame a.n ((a.cols.map _)[i]!) ((b.cols.map _)[i]!) ↔ _
  rw [getElem!_pos _ i (by simpa using hi), getElem!_pos _ i (by simpa using hi'), List.getElem_map, List.getElem_map,
    getElem!_pos _ i hi, getElem!_pos _ i hi']
  exact Iff.rfl

/-- Two frames that differ only in the `vals`/`strict` fields of their columns are `equalsS`-equal:
a frame equals any rewriting of its own enum tables. -/
theorem equalsS_ignores_enum_table (f : LFrame) (t : LCol → List Bytes × Bool) :
    equalsS f (LFrame.setEnum f t) = true := by
  have h := equalsS_setEnum f f (fun c => (c.vals, c.strict)) t
  have hid : LFrame.setEnum f (fun c => (c.vals, c.strict)) = f := by
    cases f with
    | mk cols n =>
      simp only [LFrame.setEnum, LCol.setEnum]
      congr 1
      exact List.map_id' cols
  rw [hid] at h
  rw [h]; exact equalsS_refl f

/-- More generally, two rewritings of the same frame are equal. -/
theorem equalsS_ignores_enum_table' (f : LFrame) (t u : LCol → List Bytes × Bool) :
    equalsS (LFrame.setEnum f t) (LFrame.setEnum f u) = true := by
  rw [equalsS_setEnum]; exact equalsS_refl f

/-! ## Non-trivial instances -/

/-- +0 / -0 / NaN with different payloads; a third float column differing in payload only. -/
def exA : LFrame :=
  { n := 3
    cols := [
      { name := [120], ty := .float, cells := #[.float 0, .float 0x7ff8000000000001, .float 0x3ff0000000000000] },
      { name := [121], ty := .enum, vals := [[97], [98]], strict := true,
        cells := #[.str (some [97]), .str none, .str (some [98])] },
      -- ill-formed on purpose: fewer cells than `n`
      { name := [122], ty := .int, cells := #[.int 1] } ] }

def exB : LFrame :=
  { n := 3
    cols := [
      { name := [120], ty := .float, cells := #[.float 0x8000000000000000, .float 0xfff0000000000005, .float 0x3ff0000000000000] },
      { name := [121], ty := .enum, vals := [[98], [97], [99]], strict := false,
        cells := #[.str (some [97]), .str none, .str (some [98])] },
      { name := [122], ty := .int, cells := #[.int 1, .int 0, .int 0, .int 7] } ] }

def exC : LFrame :=
  { n := 3
    cols := [
      { name := [120], ty := .float, cells := #[.float 0, .float 0x7ff0000000000001, .float 0x3ff0000000000000] },
      { name := [121], ty := .enum, cells := #[.str (some [97]), .str none, .str (some [98])] },
      { name := [122], ty := .int, cells := #[.int 1, .int 0, .int 0] } ] }

/-- Hypotheses of `cellEq_trans` on -0, +0 (and the relation is not plain equality). -/
example : cellEq (.float 0x8000000000000000) (.float 0) = true ∧
    cellEq (.float 0) (.float 0x8000000000000000) = true ∧
    Cell.float 0x8000000000000000 ≠ Cell.float 0 := by decide

/-- Hypotheses of `cellEq_trans` on NaNs with different payloads. -/
example : cellEq (.float 0x7ff8000000000001) (.float 0xfff0000000000005) = true ∧
    cellEq (.float 0xfff0000000000005) (.float 0x7ff0000000000001) = true := by decide

/-- Hypotheses of `equalsS_trans` hold on three pairwise different frames. -/
example : equalsS exA exB = true ∧ equalsS exB exC = true := by decide

/-- ... and the relation is not trivially true. -/
example : equalsS exA { exA with n := 2 } = false := by decide

/-- `exB`'s enum column is a genuine rewriting target: tables differ, verdict does not. -/
example : equalsS exA (LFrame.setEnum exA (fun _ => ([[98], [97], [99]], false))) = true :=
  equalsS_ignores_enum_table _ _

#print axioms cellEq_refl
#print axioms cellEq_symm
#print axioms cellEq_trans
#print axioms equalsS_refl
#print axioms equalsS_symm
#print axioms equalsS_trans
#print axioms equalsS_setEnum
#print axioms equalsS_ignores_enum_table
#print axioms equalsS_ignores_enum_table'

end QF.Props.C09
