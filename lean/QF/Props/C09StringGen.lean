import QF.Props.C09Observe
import QF.Spec.Render
import QF.Gen.Writers
/-!
# C09 — the layout decisions of today's `QFrame.String()` are those of the spec's `stringPieces` (tie T1, by semantics)

`QF.Gen.stringAst` (regenerated on every run by go/cmd/extract/wast.go) is the body of `QFrame.String` after its guard as a
layout program `QF.PS` (QF/Core/WExpr.lean); `QF.Gen.fixLengthAst` is `fixLengthString`, `QF.Gen.intMaxAst` / `intMinAst`
are `integer.Max` / `Min`, `QF.Gen.dataTypeNames` the strings `Column.DataType()` returns. This file proves, for the terms
generated TODAY:

* `gen_string_no_opaque`, `gen_string_canon` — all of them were translated completely and are the canonical terms
* `gen_minmax_semantics`  — `Max` / `Min` are `max` / `min` on all ints
* `gen_fix_semantics`     — `fixLengthString(s, pad, w)` is the spec's `fixLen s pad w` for every `w ≥ 3` (the text cut to
                            `w - 3` bytes and `...` when it is longer than `w`, else left-padded to `w`);
                            `gen_fix_panics`: for `w < 3` and a longer text Go panics (the comment in the source says so)
* `gen_type_letters`      — the first byte of `DataType()` is the spec's `typeLetter` for the five column types
* `gen_string_semantics`  — on EVERY frame whose cells are of their column's type the string `String()` returns is the
                            rendering of the spec's `stringPieces f`: header `name(letter)` per column in a field of width
                            `max(len(header), 5)`, the rule of `-`, at most 50 rows of cells (`StringAt(·, "null")` of
                            today's column code) right-aligned or cut to the column width, the truncation notice iff there
                            are more than 50 rows, the `Dims` line. Float cells are rendered with the parameter `fmt`
                            (`Piece.flt w b` ↦ `fixLen (fmt b) ' ' w`): what the spec's `stringDenotes` then checks of the
                            digits is C16's business.
-/
namespace QF.Props.C09StringGen
open QF
open QF.Props.C03Compare (pkgOf tys)

/-! ## The canonical terms -/

def canonFix : FX :=
  .ite .gt .lenS .w (.ret (.cat (.sliceTo .s (.sub .w (.lit 3))) (.lit [46, 46, 46])))
    (.ite .gt (.sub .w .lenS) (.lit 0) (.ret (.cat (.rep .pad (.sub .w .lenS)) .s)) (.ret .s))

def canonMax : IE := .ite .gt .x .y .x .y
def canonMin : IE := .ite .lt .x .y .x .y

def canonTypeNames : List (String × Bytes) :=
  [("icolumn", [105, 110, 116]), ("fcolumn", [102, 108, 111, 97, 116]), ("bcolumn", [98, 111, 111, 108]),
   ("scolumn", [115, 116, 114, 105, 110, 103]), ("ecolumn", [101, 110, 117, 109])]

/-- `s.name + "(" + string(s.DataType())[:1] + ")"` -/
def hdrE : PE := .cat (.cat (.cat .colName (.str [40])) (.sliceTo 1 .typeName)) (.str [41])

def hdrBody : PS := .setWidth (.max (.len hdrE) (.num 5)) (.setRow (.fix hdrE (.str [32]) .width) .done)

def ruleE : PE := .fix (.str []) (.str [45]) .width

def ruleBody : PS := .setRow ruleE .done

def nullLit : Bytes := [110, 117, 108, 108]

def cellE : PE := .fix (.cellStr nullLit) (.str [32]) .width

def cellBody : PS := .setRow cellE .done

def rowBody : PS := .forCols cellBody (.pushJoin [32] .done)

def truncLit : Bytes :=
  [46, 46, 46, 32, 112, 114, 105, 110, 116, 111, 117, 116, 32, 116, 114, 117, 110, 99, 97, 116, 101, 100, 32, 46, 46, 46]

/-- `fmt.Sprintf("\nDims = %d x %d", len(qf.columns), qf.Len())` -/
def dimsE : PE :=
  .cat (.cat (.cat (.str [10, 68, 105, 109, 115, 32, 61, 32]) (.itoa .ncols)) (.str [32, 120, 32])) (.itoa .nrows)

def canonTail : PS :=
  .forRowsTo (.min .nrows (.num 50)) rowBody
    (.ifGt .nrows (.num 50) (.push (.str truncLit) .done) (.push dimsE (.retJoin [10])))

def canonString : PS :=
  .allocResult (.allocRow (.allocWidths (.forCols hdrBody (.pushJoin [32]
    (.forCols ruleBody (.pushJoin [32] canonTail))))))

theorem gen_string_no_opaque :
    Gen.stringAst.hasOpaque = false ∧ Gen.fixLengthAst.hasOpaque = false ∧ Gen.intMaxAst.hasOpaque = false ∧
    Gen.intMinAst.hasOpaque = false ∧ Gen.dataTypeNames.map (·.1) = tys.map pkgOf := by decide +kernel

theorem gen_string_canon :
    Gen.stringAst = canonString ∧ Gen.fixLengthAst = canonFix ∧ Gen.intMaxAst = canonMax ∧ Gen.intMinAst = canonMin ∧
    Gen.dataTypeNames = canonTypeNames := by decide +kernel

/-! ## `Max`, `Min`, `fixLengthString`, the type letters -/

theorem canonMax_sem (x y : Int) : canonMax.eval x y = some (max x y) := by
  simp only [canonMax, IE.eval, ICmp.eval]
  by_cases h : x > y
  · simp [h]; omega
  · simp [h]; omega

theorem canonMin_sem (x y : Int) : canonMin.eval x y = some (min x y) := by
  simp only [canonMin, IE.eval, ICmp.eval]
  by_cases h : x < y
  · simp [h]; omega
  · simp [h]; omega

/-- **`integer.Max` / `integer.Min` of today's source** are `max` / `min` on all pairs of ints. -/
theorem gen_minmax_semantics (x y : Int) :
    Gen.intMaxAst.eval x y = some (max x y) ∧ Gen.intMinAst.eval x y = some (min x y) := by
  rw [gen_string_canon.2.2.1, gen_string_canon.2.2.2.1]
  exact ⟨canonMax_sem x y, canonMin_sem x y⟩

theorem canonFix_sem (s : Bytes) (p : UInt8) (w : Nat) (hw : 3 ≤ w) :
    canonFix.eval s [p] w = some (fixLen s p w) := by
  unfold fixLen
  by_cases h : s.length > w
  · have h' : (s.length : Int) > (w : Int) := by omega
    have h1 : (0 : Int) ≤ (w : Int) - 3 ∧ (w : Int) - 3 ≤ (s.length : Int) := by omega
    have h2 : ((w : Int) - 3).toNat = w - 3 := by omega
    have h3 : (3 : Int) ≤ (w : Int) := by omega
    simp [canonFix, FX.eval, FXS.eval, FXI.eval, ICmp.eval, h, h', h1, h2, h3]
  · have h' : ¬ (s.length : Int) > (w : Int) := by omega
    by_cases hp : (w : Int) - (s.length : Int) > 0
    · have h2 : ((w : Int) - (s.length : Int)).toNat = w - s.length := by omega
      have hlt : s.length < w := by omega
      have hle : s.length ≤ w := by omega
      simp [canonFix, FX.eval, FXS.eval, FXI.eval, ICmp.eval, h, h', h2, hlt, hle]
    · have h0 : w - s.length = 0 := by omega
      have hnlt : ¬ s.length < w := by omega
      simp [canonFix, FX.eval, FXS.eval, FXI.eval, ICmp.eval, h, h', h0, hnlt]

/-- **`fixLengthString` of today's source is the spec's `fixLen`** for every text, every pad byte and every width `w ≥ 3`:
a text longer than `w` is cut to its first `w - 3` bytes followed by `...`; otherwise it is padded on the left to `w`. -/
theorem gen_fix_semantics (s : Bytes) (p : UInt8) (w : Nat) (hw : 3 ≤ w) :
    Gen.fixLengthAst.eval s [p] w = some (fixLen s p w) := by
  rw [gen_string_canon.2.1]
  exact canonFix_sem s p w hw

/-- "NB: Assumes desiredLen to be >= 3": with a smaller width and a longer text the slice bound is negative — Go panics. -/
theorem gen_fix_panics (s pad : Bytes) (w : Int) (hw : w < 3) (hs : (s.length : Int) > w) :
    Gen.fixLengthAst.eval s pad w = none := by
  rw [gen_string_canon.2.1]
  have h1 : ¬ ((3 : Int) ≤ w ∧ w - 3 ≤ (s.length : Int)) := by omega
  simp [canonFix, FX.eval, FXS.eval, FXI.eval, ICmp.eval, hs, h1]

/-- **The type letters**: the first byte of the string `DataType()` of each of the five column packages returns is the
spec's `typeLetter` (`i`, `f`, `b`, `s`, `e`). -/
theorem gen_type_letters : ∀ ty ∈ tys, ∃ tn, Gen.dataTypeNames.lookup (pkgOf ty) = some tn ∧ 1 ≤ tn.length ∧
    tn.take 1 = typeLetter ty := by
  decide +kernel

/-! ## The spec side: `stringPieces` as lines -/

/-- the bytes of a piece: a float cell of width `w` is the formatter's text, right-aligned or cut -/
def pieceBytes (fmt : UInt64 → Bytes) : Piece → Bytes
  | .lit b => b
  | .flt w bits => fixLen (fmt bits) 32 w

/-- the text a list of pieces stands for, with `fmt` for the float cells -/
def render (fmt : UInt64 → Bytes) (ps : List Piece) : Bytes := ps.flatMap (pieceBytes fmt)

/-- `name(letter)` -/
def hdrOf (c : LCol) : Bytes := c.name ++ [40] ++ typeLetter c.ty ++ [41]

/-- the width of a column: `max(len(header), 5)` -/
def wOf (c : LCol) : Nat := max (hdrOf c).length 5

/-- `StringAt(·, "null")` -/
def cellText (fmt : UInt64 → Bytes) (x : Cell) : Bytes := if x.isNull then nullLit else C13Write.cellString fmt x

def hdrLine (f : LFrame) : Bytes := joinBytes [32] (f.cols.map (fun c => fixLen (hdrOf c) 32 (wOf c)))
def ruleLine (f : LFrame) : Bytes := joinBytes [32] (f.cols.map (fun c => List.replicate (wOf c) 45))
def dataLine (fmt : UInt64 → Bytes) (f : LFrame) (i : Nat) : Bytes :=
  joinBytes [32] (f.cols.map (fun c => fixLen (cellText fmt c.cells[i]!) 32 (wOf c)))
def dimsLine (f : LFrame) : Bytes := strBytes s!"Dims = {f.cols.length} x {f.n}"

/-- the strings `String()` joins with newlines -/
def lines (fmt : UInt64 → Bytes) (f : LFrame) : List Bytes :=
  hdrLine f :: ruleLine f :: ((List.range (min f.n 50)).map (dataLine fmt f) ++
    ((if f.n > 50 then [truncLit] else []) ++ [[10] ++ dimsLine f]))

theorem sb_null : strBytes "null" = nullLit := by decide +kernel
theorem sb_true : strBytes "true" = [116, 114, 117, 101] := by decide +kernel
theorem sb_false : strBytes "false" = [102, 97, 108, 115, 101] := by decide +kernel
theorem sb_trunc : strBytes "... printout truncated ..." = truncLit := by decide +kernel
theorem sb_dims : strBytes "Dims = " = [68, 105, 109, 115, 32, 61, 32] := by decide +kernel
theorem sb_x : strBytes " x " = [32, 120, 32] := by decide +kernel

theorem joinBytes_cons (sep a : Bytes) (l : List Bytes) : joinBytes sep (a :: l) = a ++ l.flatMap (sep ++ ·) := by
  induction l generalizing a with
  | nil => simp [joinBytes]
  | cons b l ih =>
    have := ih b
    simp only [joinBytes, List.intersperse_cons_cons, List.flatten_cons] at this ⊢
    rw [this]
    simp

/-! `render` goes through everything `stringPieces` is built from. -/

theorem render_append (fmt : UInt64 → Bytes) (a b : List Piece) : render fmt (a ++ b) = render fmt a ++ render fmt b :=
  List.flatMap_append

theorem render_lit (fmt : UInt64 → Bytes) (b : Bytes) : render fmt [Piece.lit b] = b := by simp [render, pieceBytes]

theorem render_flatten_map {α : Type} (fmt : UInt64 → Bytes) (g : α → List Piece) (rs : List α) :
    render fmt (rs.map g).flatten = rs.flatMap (fun r => render fmt (g r)) := by
  induction rs with
  | nil => rfl
  | cons r rs ih => simp only [List.map_cons, List.flatten_cons, render_append, ih, List.flatMap_cons]

/-- the spec's `sep`: the fields rendered, joined by a space -/
theorem render_sep (fmt : UInt64 → Bytes) : ∀ ps : List (List Piece),
    render fmt (ps.intersperse [Piece.lit [32]]).flatten = joinBytes [32] (ps.map (render fmt))
  | [] => rfl
  | [p] => by simp [joinBytes]
  | p :: q :: ps => by
    have := render_sep fmt (q :: ps)
    simp only [List.map_cons, joinBytes_cons, List.intersperse_cons_cons, List.flatten_cons, render_append, render_lit] at this ⊢
    rw [this]
    simp

/-- **The spec's pieces are these lines, joined by newlines.** -/
theorem render_stringPieces (fmt : UInt64 → Bytes) (f : LFrame) :
    render fmt (stringPieces f) = joinBytes [10] (lines fmt f) := by
  have hz : List.zip f.cols (f.cols.map wOf) = f.cols.map (fun c => (c, wOf c)) := by
    have := List.zip_map' (f := id) (g := wOf) (l := f.cols)
    rwa [List.map_id] at this
  have hw : ∀ c : LCol, max (c.name ++ [40] ++ typeLetter c.ty ++ [41]).length 5 = wOf c := fun _ => rfl
  -- `render` is pushed down to the cells; the three `zip`s become `map`s over the columns
  simp only [stringPieces, List.map_map, Function.comp_def, hw, hz, List.zip_map', render_append, render_sep, render_lit,
    render_flatten_map]
  rw [lines, joinBytes_cons]
  simp only [List.append_assoc, List.cons_append, List.nil_append, render, sb_trunc, hdrLine, hdrOf, ruleLine, dimsLine,
    dataLine, List.flatMap_cons, List.flatMap_append, List.flatMap_map, List.flatMap_nil, List.append_cancel_left_eq,
    List.cons.injEq, true_and]
  -- (`congr 1` here is slow to check: it tries `rfl` on the whole text first)
  refine congr (congrArg _ ?_) ?_
  · -- row by row, column by column: the pieces of a cell are its text, right-aligned or cut
    congr 1; funext r; congr 3; funext c
    generalize c.cells[r]! = x
    rcases x with _ | b | (_ | _) | (_ | _) <;>
      simp [cellText, Cell.isNull, C13Write.cellString, sb_null, sb_true, sb_false, pieceBytes]
    split <;> simp [pieceBytes]
  · split <;> simp [pieceBytes]

/-! ## The code side: the canonical program, once and for all -/

/-- what the canonical program needs of its environment -/
structure EnvOK (fmt : UInt64 → Bytes) (E : PEnv) : Prop where
  typeName : ∀ c ∈ E.f.cols, ∃ tn, E.typeName c = some tn ∧ 1 ≤ tn.length ∧ tn.take 1 = typeLetter c.ty
  strAt : ∀ c ∈ E.f.cols, ∀ i, i < E.f.n → E.strAt c nullLit c.cells[i]! = some (cellText fmt c.cells[i]!)
  fix : ∀ (s : Bytes) (p : UInt8) (w : Nat), 3 ≤ w → E.fix s [p] w = some (fixLen s p w)
  max : ∀ a b, E.max a b = some (max a b)
  min : ∀ a b, E.min a b = some (min a b)
  itoa : ∀ n : Nat, E.itoa n = strBytes (toString n)

theorem set_at {α : Type} (a b : List α) (x y : α) (n : Nat) (h : a.length = n) : (a ++ x :: b).set n y = a ++ y :: b := by
  subst h; simp

theorem get_at {α : Type} (a b : List α) (x : α) (n : Nat) (h : a.length = n) : (a ++ x :: b)[n]? = some x := by
  subst h; simp

theorem wOf_ge (c : LCol) : 3 ≤ wOf c := by unfold wOf; omega

theorem hdrE_eval (fmt : UInt64 → Bytes) (E : PEnv) (hE : EnvOK fmt E) (c0 : PCtx) (j : Nat) (c : LCol) (hc : c ∈ E.f.cols)
    (σ : PSt) : hdrE.eval E { c0 with col := some (j, c) } σ = some (.s (hdrOf c)) := by
  obtain ⟨tn, h1, h2, h3⟩ := hE.typeName c hc
  simp [hdrE, PE.eval, h1, h2, h3, hdrOf]

/-- the first loop: the widths and the header cells -/
theorem loop_hdr (fmt : UInt64 → Bytes) (E : PEnv) (hE : EnvOK fmt E) (c0 : PCtx) (res rold : List Bytes)
    (hr : rold.length = E.f.cols.length) :
    loopIdx (fun j col σ => hdrBody.run E { c0 with col := some (j, col) } σ) (fun σ => σ.ret.isSome) 0 E.f.cols
        { result := res, row := rold, widths := List.replicate E.f.cols.length 0, ret := none }
      = some { result := res, row := E.f.cols.map (fun c => fixLen (hdrOf c) 32 (wOf c)),
               widths := E.f.cols.map (fun c => ((wOf c : Nat) : Int)), ret := none } := by
  -- the widths after the columns `pre`: theirs, then zeros
  have := loopIdx_fill (fun j col σ => hdrBody.run E { c0 with col := some (j, col) } σ) (fun σ => σ.ret.isSome)
    (fun pre l => { result := res, row := l, ret := none,
                    widths := pre.map (fun c => ((wOf c : Nat) : Int)) ++ List.replicate (E.f.cols.length - pre.length) 0 })
    id (fun c => fixLen (hdrOf c) 32 (wOf c)) (fun _ _ => rfl) E.f.cols
    (fun pre c cs' hsplit rdone ro rold' h2 => ?_) E.f.cols [] rold rfl hr
  · simpa using this
  rw [h2]
  have hc : c ∈ E.f.cols := by rw [hsplit]; simp
  have hmax : max ((hdrOf c).length : Int) 5 = ((wOf c : Nat) : Int) := by unfold wOf; omega
  have hn : E.f.cols.length - pre.length = cs'.length + 1 := by simp [hsplit]
  have hn' : E.f.cols.length - (pre ++ [c]).length = cs'.length := by simp [hsplit]; omega
  have h3 : (pre.map (fun c => ((wOf c : Nat) : Int))).length = pre.length := List.length_map _
  have hlw : pre.length < (pre.map (fun c => ((wOf c : Nat) : Int)) ++ 0 :: List.replicate cs'.length 0).length := by simp
  have hlr : pre.length < (rdone ++ ro :: rold').length := by simp; omega
  rw [hn, hn', List.replicate_succ]
  simp only [id, hdrBody, PS.run, PE.eval, hdrE_eval fmt E hE c0 _ c hc, hE.max, hmax, Option.map_some, hlw, if_true,
    set_at _ _ _ _ _ h3, Option.bind_some, get_at _ _ _ _ h3, hE.fix _ _ _ (wOf_ge c), hlr, set_at _ _ _ _ _ h2,
    List.map_append, List.map_cons, List.map_nil, List.append_assoc, List.singleton_append]

def widthsOf (f : LFrame) : List Int := f.cols.map (fun c => ((wOf c : Nat) : Int))

/-- `for j := range qf.columns { row[j] = fixLengthString(e, pad, widths[j]) }` once the widths are set (the rule, the cells
of a row) -/
theorem loop_fix (fmt : UInt64 → Bytes) (E : PEnv) (hE : EnvOK fmt E) (c0 : PCtx) (body : PS) (e : PE) (p : UInt8)
    (t : LCol → Bytes) (hbody : body = .setRow (.fix e (.str [p]) .width) .done)
    (he : ∀ j c, c ∈ E.f.cols → ∀ σ, e.eval E { c0 with col := some (j, c) } σ = some (.s (t c)))
    (res rold : List Bytes) (hr : rold.length = E.f.cols.length) :
    loopIdx (fun j col σ => body.run E { c0 with col := some (j, col) } σ) (fun σ => σ.ret.isSome)
        0 E.f.cols { result := res, row := rold, widths := widthsOf E.f, ret := none }
      = some { result := res, row := E.f.cols.map (fun c => fixLen (t c) p (wOf c)), widths := widthsOf E.f, ret := none } := by
  have := loopIdx_fill (fun j col σ => body.run E { c0 with col := some (j, col) } σ) (fun σ => σ.ret.isSome)
    (fun _ l => { result := res, row := l, widths := widthsOf E.f, ret := none }) id (fun c => fixLen (t c) p (wOf c))
    (fun _ _ => rfl) E.f.cols (fun pre c cs' hsplit rdone ro rold h2 => ?_) E.f.cols [] rold rfl hr
  · simpa using this
  have hlr : pre.length < (rdone ++ ro :: rold).length := by simp; omega
  have hw : (widthsOf E.f)[pre.length]? = some ((wOf c : Nat) : Int) := by rw [widthsOf, hsplit]; simp
  rw [hbody, h2]
  simp only [id, PS.run, PE.eval, he _ c (by simp [hsplit]), hw, Option.bind_some, Option.map_some, hE.fix _ _ _ (wOf_ge c),
    hlr, if_true, set_at _ _ _ _ _ h2]

/-- one data row -/
theorem canon_row (fmt : UInt64 → Bytes) (E : PEnv) (hE : EnvOK fmt E) (c0 : PCtx) (i : Nat) (hi : i < E.f.n)
    (res row : List Bytes) (hrow : row.length = E.f.cols.length) :
    rowBody.run E { c0 with row := some i } { result := res, row := row, widths := widthsOf E.f, ret := none }
      = some { result := res ++ [dataLine fmt E.f i],
               row := E.f.cols.map (fun c => fixLen (cellText fmt c.cells[i]!) 32 (wOf c)), widths := widthsOf E.f,
               ret := none } := by
  have := loop_fix fmt E hE { c0 with row := some i } cellBody (.cellStr nullLit) 32 (fun c => cellText fmt c.cells[i]!) rfl
    (fun j c hc σ => by simp [PE.eval, hi, hE.strAt c hc i hi]) res row hrow
  simp only [rowBody, PS.run]
  rw [this]
  simp [dataLine]

theorem canon_rows (fmt : UInt64 → Bytes) (E : PEnv) (hE : EnvOK fmt E) (c0 : PCtx) :
    ∀ (rs : List Nat) (j : Nat) (res row : List Bytes), (∀ i ∈ rs, i < E.f.n) → row.length = E.f.cols.length →
    ∃ row', row'.length = E.f.cols.length ∧
      loopIdx (fun _ i σ => rowBody.run E { c0 with row := some i } σ) (fun σ => σ.ret.isSome) j rs
          { result := res, row := row, widths := widthsOf E.f, ret := none }
        = some { result := res ++ rs.map (dataLine fmt E.f), row := row', widths := widthsOf E.f, ret := none } := by
  intro rs
  induction rs with
  | nil => intro j res row _ h; exact ⟨row, h, by simp [loopIdx]⟩
  | cons i rs ih =>
    intro j res row hlt hrow
    rw [loopIdx]
    simp only [Option.isSome_none, Bool.false_eq_true, if_false]
    rw [canon_row fmt E hE c0 i (hlt i (by simp)) res row hrow]
    obtain ⟨row', h1, h2⟩ := ih (j + 1) (res ++ [dataLine fmt E.f i])
      (E.f.cols.map (fun c => fixLen (cellText fmt c.cells[i]!) 32 (wOf c))) (fun x hx => hlt x (by simp [hx])) (by simp)
    refine ⟨row', h1, ?_⟩
    simp only [Option.bind_some]
    rw [h2]
    simp

theorem dims_eq (f : LFrame) :
    [10, 68, 105, 109, 115, 32, 61, 32] ++ strBytes (toString f.cols.length) ++ [32, 120, 32] ++ strBytes (toString f.n)
      = [10] ++ dimsLine f := by
  have e : dimsLine f = strBytes ("Dims = " ++ toString f.cols.length ++ " x " ++ toString f.n) := rfl
  rw [e, strBytes_append, strBytes_append, strBytes_append, sb_dims, sb_x]
  simp

/-- **The canonical program returns the spec's lines joined by newlines**, on every frame. -/
theorem canon_output (fmt : UInt64 → Bytes) (E : PEnv) (hE : EnvOK fmt E) :
    canonString.output E = some (render fmt (stringPieces E.f)) := by
  rw [render_stringPieces]
  have h1 := loop_hdr fmt E hE {} [] (List.replicate E.f.cols.length []) (by simp)
  have h2 := loop_fix fmt E hE {} ruleBody (.str []) 45 (fun _ => []) rfl (fun _ _ _ _ => rfl)
    [hdrLine E.f] (E.f.cols.map (fun c => fixLen (hdrOf c) 32 (wOf c))) (by simp)
  obtain ⟨row', _, h3⟩ := canon_rows fmt E hE {} (List.range (min E.f.n 50)) 0 [hdrLine E.f, ruleLine E.f]
    (E.f.cols.map (fun c => fixLen [] 45 (wOf c)))
    (fun i hi => by have := List.mem_range.1 hi; omega) (by simp)
  have hmin : (min (E.f.n : Int) 50).toNat = min E.f.n 50 := by omega
  unfold PS.output canonString
  simp only [PS.run]
  rw [h1]
  simp only [Option.isSome_none, Bool.false_eq_true, if_false]
  have e1 : joinBytes [32] (E.f.cols.map (fun c => fixLen (hdrOf c) 32 (wOf c))) = hdrLine E.f := rfl
  have e2 : (E.f.cols.map (fun c => ((wOf c : Nat) : Int))) = widthsOf E.f := rfl
  rw [e1, e2, List.nil_append, h2]
  simp only [Option.isSome_none, Bool.false_eq_true, if_false]
  have e3 : joinBytes [32] (E.f.cols.map (fun c => fixLen [] 45 (wOf c))) = ruleLine E.f := by simp [ruleLine, fixLen]
  rw [e3]
  simp only [canonTail, PS.run, PE.eval, hE.min, Option.map_some, hmin, List.cons_append, List.nil_append]
  rw [h3]
  simp only [Option.isSome_none, Bool.false_eq_true, if_false, dimsE, PE.eval, hE.itoa]
  by_cases hn : E.f.n > 50
  · have hn' : (E.f.n : Int) > 50 := by omega
    simp only [hn', if_true, Option.bind_some]
    rw [dims_eq]
    simp [lines, hn]
  · have hn' : ¬ (E.f.n : Int) > 50 := by omega
    simp only [hn', if_false, Option.bind_some]
    rw [dims_eq]
    simp [lines, hn]

/-! ## Today's `String()` -/

/-- the environment of today's source: the type names, `fixLengthString`, `Max`, `Min` are the extracted terms; a cell is
rendered by today's extracted `StringAt` of its column's package (`fmt` = `strconv.FormatFloat(·, 'f', -1, 64)`); `%d` is
the decimal text -/
def genEnv (fmt : UInt64 → Bytes) (f : LFrame) : PEnv where
  f := f
  typeName := fun c => Gen.dataTypeNames.lookup (pkgOf c.ty)
  strAt := fun c naRep x =>
    match C09Observe.genStringAt ⟨fmt, fmt, C14.appendQuoted⟩ c.ty c.vals naRep [] x with
    | some (.str b) => some b
    | _ => none
  fix := fun s p w => Gen.fixLengthAst.eval s p w
  max := fun a b => Gen.intMaxAst.eval a b
  min := fun a b => Gen.intMinAst.eval a b
  itoa := intStr

/-- the string today's `String()` returns on the frame `f` -/
def genString (fmt : UInt64 → Bytes) (f : LFrame) : Option Bytes := Gen.stringAst.output (genEnv fmt f)

theorem genEnv_ok (fmt : UInt64 → Bytes) (f : LFrame) (hf : C09Observe.FrameTyped f) : EnvOK fmt (genEnv fmt f) where
  typeName := fun c hc => gen_type_letters c.ty (hf c hc).1
  strAt := by
    intro c hc i hi
    have ht := hf c hc
    simp only [genEnv]
    rw [C09Observe.gen_stringAt_naRep ht.1 _ c.vals nullLit [] _ (ht.2 i hi)]
    rfl
  fix := fun s p w hw => gen_fix_semantics s p w hw
  max := fun a b => (gen_minmax_semantics a b).1
  min := fun a b => (gen_minmax_semantics a b).2
  itoa := fun _ => rfl

/-- **Today's `String()` prints the spec's `stringPieces`.** On every frame whose cells are of their column's type, the
string the extracted program returns — with today's `fixLengthString`, `integer.Max` / `Min`, `DataType()` strings and
per-cell `StringAt(·, "null")` — is the rendering of `stringPieces f`: for every column the header `name(letter)` in a field
of width `max(len(header), 5)`, the rule, the first `min(n, 50)` rows with every cell right-aligned in its column's width
or cut to `width - 3` bytes and `...`, fields separated by one space, lines by `\n`; `... printout truncated ...` iff
`n > 50`; an empty line and `Dims = <columns> x <rows>`. A non-NaN float cell stands for `fixLen (fmt b) ' ' w`. -/
theorem gen_string_semantics (fmt : UInt64 → Bytes) (f : LFrame) (hf : C09Observe.FrameTyped f) :
    genString fmt f = some (render fmt (stringPieces f)) := by
  rw [genString, gen_string_canon.1]
  exact canon_output fmt _ (genEnv_ok fmt f hf)

/-- the layout in words: the lines that are joined -/
theorem gen_string_lines (fmt : UInt64 → Bytes) (f : LFrame) (hf : C09Observe.FrameTyped f) :
    genString fmt f = some (joinBytes [10] (lines fmt f)) := by
  rw [gen_string_semantics fmt f hf, render_stringPieces]

/-! ## Witnesses: the statements tell wrong layouts apart -/

def wFmt : UInt64 → Bytes := fun _ => [48]

/-- an environment in which everything can be computed: the canonical helper terms, `cellText` for the cells, the decimal
digits for `%d` -/
def wEnv (f : LFrame) : PEnv where
  f := f
  typeName := fun c => canonTypeNames.lookup (pkgOf c.ty)
  strAt := fun _ naRep x => some (if x.isNull then naRep else C13Write.cellString wFmt x)
  fix := fun s p w => canonFix.eval s p w
  max := fun a b => canonMax.eval a b
  min := fun a b => canonMin.eval a b
  itoa := fun n => C14ToJson.natDigits n.toNat

theorem wEnv_ok (f : LFrame) (hf : ∀ c ∈ f.cols, c.ty ∈ tys) : EnvOK wFmt (wEnv f) where
  typeName := by
    intro c hc
    have := gen_type_letters c.ty (hf c hc)
    rwa [gen_string_canon.2.2.2.2] at this
  strAt := fun _ _ _ _ => rfl
  fix := fun s p w hw => canonFix_sem s p w hw
  max := canonMax_sem
  min := canonMin_sem
  itoa := by
    intro n
    have := C14ToJson.intText_eq (n : Int)
    simp only [Int.natCast_nonneg, if_true, Int.toNat_natCast] at this
    show C14ToJson.natDigits ((n : Int)).toNat = _
    rw [Int.toNat_natCast, ← this]
    rfl

/-- one bool column `a` and one string column `name` with a long and a null cell; two rows -/
def wFrame : LFrame :=
  { cols := [{ name := [97], ty := .bool, cells := #[.bool true, .bool false] },
             { name := [110, 97, 109, 101], ty := .string, cells := #[.str (some [108, 111, 110, 103, 101, 114, 32, 116, 101, 120, 116]), .str none] }],
    n := 2 }

/-- the canonical program on the witness frame:
```
 a(b) name(s)
----- -------
 true long...
false    null

Dims = 2 x 2
``` -/
theorem canon_wFrame : canonString.output (wEnv wFrame) = some
    [32, 97, 40, 98, 41, 32, 110, 97, 109, 101, 40, 115, 41, 10,
     45, 45, 45, 45, 45, 32, 45, 45, 45, 45, 45, 45, 45, 10,
     32, 116, 114, 117, 101, 32, 108, 111, 110, 103, 46, 46, 46, 10,
     102, 97, 108, 115, 101, 32, 32, 32, 32, 110, 117, 108, 108, 10,
     10, 68, 105, 109, 115, 32, 61, 32, 50, 32, 120, 32, 50] := by
  decide +kernel

example : canonString.output (wEnv wFrame) = some
    [32, 97, 40, 98, 41, 32, 110, 97, 109, 101, 40, 115, 41, 10,
     45, 45, 45, 45, 45, 32, 45, 45, 45, 45, 45, 45, 45, 10,
     32, 116, 114, 117, 101, 32, 108, 111, 110, 103, 46, 46, 46, 10,
     102, 97, 108, 115, 101, 32, 32, 32, 32, 110, 117, 108, 108, 10,
     10, 68, 105, 109, 115, 32, 61, 32, 50, 32, 120, 32, 50] :=
  canon_wFrame

example : canonString.output (wEnv wFrame) = some (render wFmt (stringPieces wFrame)) :=
  canon_output wFmt _ (wEnv_ok wFrame (by decide))

/-- A minimum column width of 3 instead of 5 prints other widths than the spec's `max(len(header), 5)`. -/
def minWidth3 : PS :=
  .allocResult (.allocRow (.allocWidths (.forCols
    (.setWidth (.max (.len hdrE) (.num 3)) (.setRow (.fix hdrE (.str [32]) .width) .done))
    (.pushJoin [32] (.forCols ruleBody (.pushJoin [32] canonTail))))))

example : minWidth3.output (wEnv wFrame) ≠ canonString.output (wEnv wFrame) := by
  rw [canon_wFrame]
  decide +kernel

/-- Two letters of the type name instead of one: `a(bo)`. -/
def twoLetters : PS :=
  .allocResult (.allocRow (.allocWidths (.forCols
    (.setWidth (.max (.len (.cat (.cat (.cat .colName (.str [40])) (.sliceTo 2 .typeName)) (.str [41]))) (.num 5))
      (.setRow (.fix (.cat (.cat (.cat .colName (.str [40])) (.sliceTo 2 .typeName)) (.str [41])) (.str [32]) .width) .done))
    (.pushJoin [32] (.forCols ruleBody (.pushJoin [32] canonTail))))))

example : twoLetters.output (wEnv wFrame) ≠ canonString.output (wEnv wFrame) := by
  rw [canon_wFrame]
  decide +kernel

/-- `StringAt(·, "")` instead of `StringAt(·, "null")`: the null cell is printed as blanks. -/
def naRepEmpty : PS :=
  .allocResult (.allocRow (.allocWidths (.forCols hdrBody (.pushJoin [32] (.forCols ruleBody (.pushJoin [32]
    (.forRowsTo (.min .nrows (.num 50))
      (.forCols (.setRow (.fix (.cellStr []) (.str [32]) .width) .done) (.pushJoin [32] .done))
      (.ifGt .nrows (.num 50) (.push (.str truncLit) .done) (.push dimsE (.retJoin [10]))))))))))

example : naRepEmpty.output (wEnv wFrame) ≠ canonString.output (wEnv wFrame) := by
  rw [canon_wFrame]
  decide +kernel

/-- A row limit of 1 instead of 50 (rows beyond it dropped, notice printed) on a frame with two rows. -/
def limit1 : PS :=
  .allocResult (.allocRow (.allocWidths (.forCols hdrBody (.pushJoin [32] (.forCols ruleBody (.pushJoin [32]
    (.forRowsTo (.min .nrows (.num 1)) rowBody
      (.ifGt .nrows (.num 1) (.push (.str truncLit) .done) (.push dimsE (.retJoin [10]))))))))))

example : limit1.output (wEnv wFrame) ≠ canonString.output (wEnv wFrame) := by
  rw [canon_wFrame]
  decide +kernel

/-- `fixLengthString` that pads on the right (left-aligned cells) is not `fixLen`. -/
def padRight : FX :=
  .ite .gt .lenS .w (.ret (.cat (.sliceTo .s (.sub .w (.lit 3))) (.lit [46, 46, 46])))
    (.ite .gt (.sub .w .lenS) (.lit 0) (.ret (.cat .s (.rep .pad (.sub .w .lenS)))) (.ret .s))

example : padRight.eval [97] [32] 3 = some [97, 32, 32] ∧ fixLen [97] 32 3 = [32, 32, 97] := by decide

/-- … one that cuts to `w - 2` bytes before the dots makes the field one byte too wide. -/
def cutLate : FX :=
  .ite .gt .lenS .w (.ret (.cat (.sliceTo .s (.sub .w (.lit 2))) (.lit [46, 46, 46])))
    (.ite .gt (.sub .w .lenS) (.lit 0) (.ret (.cat (.rep .pad (.sub .w .lenS)) .s)) (.ret .s))

example : cutLate.eval [97, 98, 99, 100, 101, 102] [32] 5 = some [97, 98, 99, 46, 46, 46] ∧
    fixLen [97, 98, 99, 100, 101, 102] 32 5 = [97, 98, 46, 46, 46] := by decide

/-- `Max` with the comparison turned round is `min`. -/
example : (IE.ite .lt .x .y .x .y).eval 7 5 = some 5 ∧ max (7 : Int) 5 = 7 := by decide

#print axioms gen_string_no_opaque
#print axioms gen_string_canon
#print axioms gen_minmax_semantics
#print axioms gen_fix_semantics
#print axioms gen_fix_panics
#print axioms gen_type_letters
#print axioms render_stringPieces
#print axioms canon_output
#print axioms gen_string_semantics
#print axioms gen_string_lines

end QF.Props.C09StringGen
