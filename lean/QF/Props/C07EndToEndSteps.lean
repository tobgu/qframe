import QF.Props.C07Eval
import QF.Props.C07Functions
/-!
# C07 — from the frame mirror to the denotational spec: definitions and the per-node steps

Support for QF/Props/C07EndToEnd.lean (the statements are there).  Contents:

1. the abstraction of a mirror frame `Fr.Frame` to a logical frame `QF.LFrame` (`absL`), of a mirror value to a cell
   (`cellOf`), of the mirror's expression type `Ex'` to the spec's `EArg` (`toSpec`); `NoCapture`, `Agree`;
2. the spec's denotation written node by node (`d1`, `d2`, `den_x1`, `den_x2`);
3. the hypotheses of the main theorem on the operands (`cellOK`, `opnd`, `InScope`)
4. and on the evaluation context (`CtxOK`);
5. what the three computed columns hold (`constCol_cells`, `applyFn1_cells`, `col2_cells`);
6. `Sem`: what one `execute` step leaves behind, and the two generic steps `unary_step`, `colcol_step`
   (an operand column looked up in the current frame, the function looked up in the context, the temp column
   appended, the intermediate temporaries dropped);
7. `Opd`: an operand as the enclosing expression sees it; names looked up in a frame extended by temporaries
   (`lookup_stable`, `agree_ext`); the constant's column (`valL_const`).
-/
namespace QF.Props.C07EndToEnd
open Fr QF QF.Props.C08 QF.Props.C07Eval

/-! ## 1. abstraction -/

def tyC : Ty → CType
  | .int => .int | .float => .float | .bool => .bool | .str => .string | .enum => .enum

/-- a value of the frame mirror as the spec's cell (the mirror's enum cells carry no value table: see `opnd`) -/
def cellOf : Fr.Val → Cell
  | .int v => .int v | .float b => .float b | .bool b => .bool b | .str s => .str s | .enum _ => .str none

/-- a cell read through the row index (`none` does not occur in a well-formed frame) -/
def ocell : Option Fr.Val → Cell
  | some v => cellOf v
  | none => .str none

/-- one entry of `Frame.abs` as a logical column; `enc`: the mirror's names as the spec's byte strings -/
def entryCol (enc : String → Bytes) (e : Entry) : LCol :=
  { name := enc e.1, ty := tyC e.2.1, cells := (e.2.2.map ocell).toArray }

def valL (e : Entry) : QF.Val := { ty := tyC e.2.1, cells := (e.2.2.map ocell).toArray }

def absL (enc : String → Bytes) (f : Frame) : LFrame := { cols := f.abs.map (entryCol enc), n := f.index.length }

def resL (enc : String → Bytes) (f : Frame) : Res := if f.err.isSome then .err else .ok (absL enc f)

def toSpec (enc : String → Bytes) : Ex' → EArg
  | .col n => .col (enc n)
  | .const v => .val (cellOf v)
  | .unary op s => .x op [.col (enc s)]
  | .colConst op s v false => .x op [.col (enc s), .val (cellOf v)]
  | .colConst op s v true => .x op [.val (cellOf v), .col (enc s)]
  | .colCol op a b => .x op [.col (enc a), .col (enc b)]
  | .ex1 op e => .x op [toSpec enc e]
  | .ex2 op l r => .x op [toSpec enc l, toSpec enc r]
  | .error => .bad

/-- no constant of the expression is an enum value of the mirror (the decoder builds none) -/
def noEnumConst : Ex' → Bool
  | .const (.enum _) => false
  | .colConst _ _ (.enum _) _ => false
  | .ex1 _ e => noEnumConst e
  | .ex2 _ l r => noEnumConst l && noEnumConst r
  | _ => true

def isCol : Ex' → Bool
  | .col _ => true
  | _ => false

/-- The expression does not refer to a column that is not in the frame under a name `execute` may give to a temporary.
(Such a reference could be satisfied by the temporary of a sibling sub-expression — the finding of C07EndToEnd.lean. Since the
repair `Eval` rejects every reference that is not a column of the frame before it executes anything, so this holds whenever
`execute'` runs under `eval'`: `noCapture_of_present`.) -/
def NoCapture (f : Frame) (e : Ex') : Prop := ∀ n, n ∈ refs e → f.byName n = none → ¬ IsTemp n

/-- `F` is what the mirror frame `f` shows under the names the expression refers to -/
def Agree (enc : String → Bytes) (f : Frame) (F : LFrame) (e : Ex') : Prop :=
  F.n = f.index.length ∧ ∀ n, n ∈ refs e → F.find? (enc n) = (absLookup f.abs n).map (entryCol enc)

theorem noCapture_of_present {f : Frame} {e : Ex'} (h : ∀ n, n ∈ refs e → (f.byName n).isSome = true) :
    NoCapture f e := by
  intro n hn hb
  have := h n hn
  rw [hb] at this
  cases this

theorem tyC_inj {a b : Ty} (h : tyC a = tyC b) : a = b := by
  cases a <;> cases b <;> simp [tyC] at h <;> rfl

theorem fkind_tyC {t : Ty} (h : t ≠ .enum) : fkind (tyC t) = tyC t := by
  cases t <;> first | rfl | exact absurd rfl h

theorem name_beq (enc : String → Bytes) (henc : ∀ a b, enc a = enc b → a = b) (e : Entry) (dst : String) :
    ((entryCol enc e).name == enc dst) = (e.1 == dst) := by
  by_cases h : e.1 = dst
  · simp [entryCol, h]
  · have : enc e.1 ≠ enc dst := fun hh => h (henc _ _ hh)
    show (enc e.1 == enc dst) = (e.1 == dst)
    rw [beq_eq_false_iff_ne.mpr this, beq_eq_false_iff_ne.mpr h]

theorem find_map_entryCol (enc : String → Bytes) (henc : ∀ a b, enc a = enc b → a = b) (l : List Entry) (n : String) :
    (l.map (entryCol enc)).find? (fun c => c.name == enc n) = (absLookup l n).map (entryCol enc) := by
  unfold absLookup
  induction l with
  | nil => rfl
  | cons e l ih =>
    simp only [List.map_cons, List.find?_cons, name_beq enc henc e n]
    cases e.1 == n
    · exact ih
    · rfl

theorem find_absL (enc : String → Bytes) (henc : ∀ a b, enc a = enc b → a = b) (f : Frame) (n : String) :
    (absL enc f).find? (enc n) = (absLookup f.abs n).map (entryCol enc) := by
  unfold absL LFrame.find?
  exact find_map_entryCol enc henc f.abs n

theorem agree_self (enc : String → Bytes) (henc : ∀ a b, enc a = enc b → a = b) (f : Frame) (e : Ex') :
    Agree enc f (absL enc f) e := ⟨rfl, fun n _ => find_absL enc henc f n⟩

/-! ## 2. the spec's denotation, node by node -/

def dcol (F : LFrame) (n : Bytes) : Option QF.Val :=
  (F.find? n).map (fun c => { ty := c.ty, vals := c.vals, strict := c.strict, cells := c.cells })

def dval (F : LFrame) (c : Cell) : Option QF.Val := some { ty := cellType c, cells := (List.replicate F.n c).toArray }

def d1 (s : String) (op : String) : Option QF.Val → Option QF.Val
  | none => none
  | some v => match evalUnary s op v.ty with
    | none => none
    | some (rt, g) => some { ty := rt, cells := v.cells.map g }

def d2 (s : String) (n : Nat) (op : String) : Option QF.Val → Option QF.Val → Option QF.Val
  | none, _ => none
  | some _, none => none
  | some v, some w =>
    if v.ty != w.ty then none else
    match evalBinary s op v.ty with
    | none => none
    | some g => some { ty := fkind v.ty, cells := ((List.range n).map (fun r => g v.cells[r]! w.cells[r]!)).toArray }

theorem den_col (s : String) (F : LFrame) (n : Bytes) : (EArg.col n).den s F = dcol F n := by
  rw [EArg.den]; rfl

theorem den_val (s : String) (F : LFrame) (c : Cell) : (EArg.val c).den s F = dval F c := by
  rw [EArg.den]; rfl

theorem den_bad (s : String) (F : LFrame) : EArg.bad.den s F = none := by
  rw [EArg.den]

theorem den_x1 (s : String) (F : LFrame) (op : String) (a : EArg) :
    (EArg.x op [a]).den s F = d1 s op (a.den s F) := by
  rw [EArg.den, denExpr]
  cases a.den s F with
  | none => rfl
  | some v =>
    simp only [d1]
    cases evalUnary s op v.ty with
    | none => rfl
    | some p => rfl

theorem den_x2 (s : String) (F : LFrame) (op : String) (a b : EArg) :
    (EArg.x op [a, b]).den s F = d2 s F.n op (a.den s F) (b.den s F) := by
  rw [EArg.den]
  simp only [denExpr]
  cases a.den s F with
  | none => rfl
  | some v =>
    simp only []
    rw [denFold]
    cases b.den s F with
    | none => rfl
    | some w =>
      simp only [d2]
      split
      · rfl
      · cases evalBinary s op v.ty with
        | none => rfl
        | some g => simp only [denFold]

theorem d2_none_right (s : String) (n : Nat) (op : String) (o : Option QF.Val) : d2 s n op o none = none := by
  cases o <;> rfl

theorem dcol_none {F : LFrame} {n : Bytes} (h : F.find? n = none) : dcol F n = none := by
  unfold dcol; rw [h]; rfl

/-- a column reference that the logical frame does not have makes the spec's value an error, wherever it stands -/
theorem den_none_of_ref (enc : String → Bytes) (s : String) (F : LFrame) (e : Ex') :
    (∃ n, n ∈ refs e ∧ F.find? (enc n) = none) → (toSpec enc e).den s F = none := by
  induction e with
  | col n =>
    rintro ⟨m, hm, h⟩
    simp only [refs, List.mem_singleton] at hm; subst hm
    simp only [toSpec, den_col, dcol_none h]
  | const v => rintro ⟨m, hm, _⟩; simp [refs] at hm
  | error => rintro ⟨m, hm, _⟩; simp [refs] at hm
  | unary op c =>
    rintro ⟨m, hm, h⟩
    simp only [refs, List.mem_singleton] at hm; subst hm
    simp only [toSpec, den_x1, den_col, dcol_none h]; rfl
  | colConst op c v cf =>
    rintro ⟨m, hm, h⟩
    simp only [refs, List.mem_singleton] at hm; subst hm
    cases cf
    · simp only [toSpec, den_x2, den_col, dcol_none h]; rfl
    · simp only [toSpec, den_x2, den_col, dcol_none h, d2_none_right]
  | colCol op a b =>
    rintro ⟨m, hm, h⟩
    simp only [refs, List.mem_cons, List.not_mem_nil, or_false] at hm
    rcases hm with rfl | rfl
    · simp only [toSpec, den_x2, den_col, dcol_none h]; rfl
    · simp only [toSpec, den_x2, den_col, dcol_none h, d2_none_right]
  | ex1 op e ih =>
    rintro ⟨m, hm, h⟩
    simp only [toSpec, den_x1, ih ⟨m, hm, h⟩]; rfl
  | ex2 op l r ihl ihr =>
    rintro ⟨m, hm, h⟩
    simp only [refs, List.mem_append] at hm
    rcases hm with hm | hm
    · simp only [toSpec, den_x2, ihl ⟨m, hm, h⟩]; rfl
    · simp only [toSpec, den_x2, ihr ⟨m, hm, h⟩, d2_none_right]

theorem dcol_of_agree {enc : String → Bytes} {f : Frame} {F : LFrame} {e : Ex'} (A : Agree enc f F e)
    {n : String} (hn : n ∈ refs e) : dcol F (enc n) = (absLookup f.abs n).map valL := by
  unfold dcol
  rw [A.2 n hn]
  cases absLookup f.abs n <;> rfl

/-! ## 3. cells in range, operands in scope -/

/-- a cell of a column of type `t` as the functions of a context expect it: of the type's kind, an int a Go `int` -/
def cellOK (t : CType) (c : Cell) : Bool :=
  match fkind t, c with
  | .int, .int v => decide (C07Functions.int64 v)
  | .float, .float _ => true
  | .bool, .bool _ => true
  | .string, .str _ => true
  | _, _ => false

theorem cellOK_cellIn {t : CType} {c : Cell} (h : cellOK t c = true) : C07Functions.cellIn t c := by
  unfold C07Functions.cellIn
  unfold cellOK at h
  cases hk : fkind t <;> cases c <;> simp [hk, C07Functions.cellInK] at h ⊢
  -- left: an int cell of an int column
  exact h

theorem cellIn_cellOK {t : CType} {c : Cell} (h : C07Functions.cellIn t c) : cellOK t c = true := by
  unfold C07Functions.cellIn at h
  unfold cellOK
  cases hk : fkind t <;> cases c <;> simp [hk, C07Functions.cellInK] at h ⊢
  -- left: an int cell of an int column
  exact h

/-- An operand of a function application is in the scope of the statement: not an enum column (the frame mirror has no
value tables), not one of the (operand type, operator) pairs `gap` for which the spec deliberately has no function, and
its cells are cells of its type (ints in the range of Go's `int`). -/
def opnd (gap : CType → String → Bool) (op : String) : Option QF.Val → Bool
  | none => true
  | some v => v.ty != .enum && !gap v.ty op && v.cells.all (cellOK v.ty)

/-- every operand of every function application of the expression is in scope (`opnd`), evaluated by the spec on `F`: for
intermediate results a hypothesis on the spec's values, not on the code's -/
def InScope (enc : String → Bytes) (s : String) (gap : CType → String → Bool) (F : LFrame) : Ex' → Bool
  | .col _ => true
  | .const _ => true
  | .error => true
  | .unary op c => opnd gap op (dcol F (enc c))
  | .colCol op a b => opnd gap op (dcol F (enc a)) && opnd gap op (dcol F (enc b))
  | .colConst op c v _ => opnd gap op (dcol F (enc c)) && opnd gap op (dval F (cellOf v))
  | .ex1 op e => InScope enc s gap F e && opnd gap op ((toSpec enc e).den s F)
  | .ex2 op l r => InScope enc s gap F l && InScope enc s gap F r &&
      opnd gap op ((toSpec enc l).den s F) && opnd gap op ((toSpec enc r).den s F)

theorem opnd_some {gap : CType → String → Bool} {op : String} {v : QF.Val} (h : opnd gap op (some v) = true) :
    v.ty ≠ .enum ∧ gap v.ty op = false ∧ ∀ c, c ∈ v.cells.toList → cellOK v.ty c = true := by
  simp only [opnd, Bool.and_eq_true, bne_iff_ne, ne_eq, Bool.not_eq_true', Array.all_eq_true] at h
  refine ⟨h.1.1, h.1.2, ?_⟩
  intro c hc
  obtain ⟨i, hi, rfl⟩ := List.getElem_of_mem hc
  simpa using h.2 i (by simpa using hi)

/-! ## 4. the evaluation context -/

/-- Every function the mirror's context finds computes the spec's (`evalUnary` / `evalBinary` of the spec's context `s`),
and it finds one exactly when the spec has one — for all operand types and operators outside `gap`, enum columns aside. -/
structure CtxOK (s : String) (ctx : Ctx) (gap : CType → String → Bool) : Prop where
  un : ∀ (t : Ty) (op : String), t ≠ .enum → gap (tyC t) op = false →
    (evalUnary s op (tyC t) = none → ctx.fn1 t op = none) ∧
    (∀ rt g, evalUnary s op (tyC t) = some (rt, g) →
      ∃ rty fn, ctx.fn1 t op = some (rty, fn) ∧ tyC rty = rt ∧
        ∀ v, cellOK (tyC t) (cellOf v) = true → cellOf (fn v) = g (cellOf v))
  bin : ∀ (t : Ty) (op : String), t ≠ .enum → gap (tyC t) op = false →
    (evalBinary s op (tyC t) = none → ctx.fn2 t op = none) ∧
    (∀ g, evalBinary s op (tyC t) = some g →
      ∃ fn, ctx.fn2 t op = some fn ∧
        ∀ u v, cellOK (tyC t) (cellOf u) = true → cellOK (tyC t) (cellOf v) = true →
          cellOf (fn u v) = g (cellOf u) (cellOf v))

/-! ## 5. what the computed columns hold -/

theorem data_some {c : Col} {L p : Nat} (h : c.data.length = L) (hp : p < L) : ∃ u, c.data[p]? = some u :=
  ⟨c.data[p], List.getElem?_eq_getElem (by omega)⟩

theorem constCol_cells (f : Frame) (L : Nat) (wf : WF f L) (hL : physLen f = L) (v : Fr.Val) :
    (f.index.map fun p => (constCol f v).data[p]?).map ocell = List.replicate f.index.length (cellOf v) := by
  rw [List.map_map]
  rw [List.eq_replicate_iff]
  refine ⟨by simp, ?_⟩
  intro b hb
  obtain ⟨p, hp, rfl⟩ := List.mem_map.mp hb
  have := wf.ixLt p hp
  simp [constCol, hL, List.getElem?_replicate, this, ocell]

theorem applyFn1_cells (f : Frame) (L : Nat) (wf : WF f L) (fn : Fr.Val → Fr.Val) (rty : Ty) (src : Col)
    (hs : src.data.length = L) (g : Cell → Cell)
    (hg : ∀ p, p ∈ f.index → ∀ u, src.data[p]? = some u → cellOf (fn u) = g (cellOf u)) :
    (f.index.map fun p => (applyFn1 f L fn rty src).data[p]?).map ocell =
      ((f.index.map fun p => src.data[p]?).map ocell).map g := by
  rw [applyFn1_rowwise f L wf fn rty src hs]
  simp only [List.map_map]
  apply List.map_congr_left
  intro p hp
  obtain ⟨u, hu⟩ := data_some hs (wf.ixLt p hp)
  simp [hu, ocell, hg p hp u hu]

theorem col2_cells (f : Frame) (L : Nat) (wf : WF f L) (hL : physLen f = L) (x y : NCol)
    (hx : x.col.data.length = L) (hy : y.col.data.length = L) (fn : Fr.Val → Fr.Val → Fr.Val) (g : Cell → Cell → Cell)
    (hg : ∀ p, p ∈ f.index → ∀ u v, x.col.data[p]? = some u → y.col.data[p]? = some v →
      cellOf (fn u v) = g (cellOf u) (cellOf v)) :
    (f.index.map fun p => (col2 f x y fn).data[p]?).map ocell =
      (List.range f.index.length).map (fun r =>
        g ((f.index.map fun p => x.col.data[p]?).map ocell).toArray[r]!
          ((f.index.map fun p => y.col.data[p]?).map ocell).toArray[r]!) := by
  apply List.ext_getElem
  · simp
  · intro r h1 h2
    have hr : r < f.index.length := by simpa using h1
    have hp : f.index[r] ∈ f.index := List.getElem_mem hr
    have hlt := wf.ixLt _ hp
    obtain ⟨u, hu⟩ := data_some hx hlt
    obtain ⟨v, hv⟩ := data_some hy hlt
    simp [col2, hL, hlt, hp, hu, hv, hr, ocell, hg _ hp u v hu hv]

/-! ## 6. one `execute` step against the spec's value -/

/-- What `execute` leaves behind, against the spec's value `o` of the expression.  `none`: the frame carries an error.
`some v`: no error; the frame is the original one plus at most one column (none for a column expression, one otherwise),
that column is the one `execute` names, its name is a temp name, and the column `execute` names holds `v`.
(`col` is `false` wherever `Sem` is stated: `exec_den` says of a column expression only `Opd`.) -/
def Sem (f : Frame) (L : Nat) (col : Bool) (r : Frame × String) : Option QF.Val → Prop
  | none => r.1.err.isSome = true
  | some v => ∃ mid ent, Ext f r.1 L mid ∧ mid.length = (if col then 0 else 1) ∧
      (∀ m, m ∈ mid → m.1 = r.2 ∧ IsTemp m.1) ∧ absLookup r.1.abs r.2 = some ent ∧ valL ent = v

theorem sem_some (f : Frame) (L : Nat) (col : Bool) (g : Frame) (c : String) (v : QF.Val) :
    Sem f L col (g, c) (some v) ↔ ∃ mid ent, Ext f g L mid ∧ mid.length = (if col then 0 else 1) ∧
      (∀ m, m ∈ mid → m.1 = c ∧ IsTemp m.1) ∧ absLookup g.abs c = some ent ∧ valL ent = v := Iff.rfl

theorem sem_none (f : Frame) (L : Nat) (col : Bool) (g : Frame) (c : String) :
    Sem f L col (g, c) none ↔ g.err.isSome = true := Iff.rfl

theorem drop_err_isSome (g : Frame) (D : List String) (h : g.err.isSome = true) : (drop g D).err.isSome = true := by
  rw [drop_of_err g D h]; exact h

/-- a step that `execUnary_ok` rules out leaves an error, also after the `Drop` -/
theorem execUnary_fails {ctx : Ctx} {op c : String} {g : Frame} (D : List String)
    (h : ∀ s rty fn, g.byName c = some s → ctx.fn1 s.col.ty op ≠ some (rty, fn)) :
    (drop (execUnary ctx op c g).1 D).err.isSome = true :=
  drop_err_isSome _ _ (Option.isSome_iff_ne_none.mpr fun h' => by
    obtain ⟨_, s, rty, fn, hs, hf⟩ := execUnary_ok ctx op c g h'
    exact h s rty fn hs hf)

theorem execColCol_fails {ctx : Ctx} {op a b : String} {g : Frame} (D : List String)
    (h : ∀ x y fn, g.byName a = some x → g.byName b = some y → x.col.ty = y.col.ty → ctx.fn2 x.col.ty op ≠ some fn) :
    (drop (execColCol ctx op a b g).1 D).err.isSome = true :=
  drop_err_isSome _ _ (Option.isSome_iff_ne_none.mpr fun h' => by
    obtain ⟨_, x, y, fn, ha, hb, hty, hf⟩ := execColCol_ok ctx op a b g h'
    exact h x y fn ha hb hty hf)

theorem absLookup_append_left (l m : List Entry) (n : String) (e : Entry) (h : absLookup l n = some e) :
    absLookup (l ++ m) n = some e := by
  unfold absLookup at h ⊢
  rw [List.find?_append, h]; rfl

theorem absLookup_byName {g : Frame} {L : Nat} (wf : WF g L) (u : UniqueNames g) (n : String) :
    absLookup g.abs n = (g.byName n).map (entry g.index) := by
  rw [← lookup_eq_absLookup g L wf u n]; rfl

/-- `C07Eval.leaf_out` against the spec's value `v` of the node -/
theorem leaf_sem {f g2 : Frame} {L : Nat} {mid : List Entry} (wf : WF f L) (E : Ext f g2 L mid)
    (hlen : g2.cols.length < 10000) (pre : String)
    (hpre : pre = "const" ∨ pre = "unary" ∨ pre = "colcol") (c : Col) (hc : c.data.length = L)
    (D : List String) (hD1 : ∀ d, d ∈ D → d ∈ mid.map (·.1)) (hD2 : ∀ m, m ∈ mid → m.1 ∈ D) (v : QF.Val)
    (hv : valL (colEntry g2.index (tempColName g2 pre) c) = v) :
    Sem f L false (drop (execLeaf pre g2 c).1 D, (execLeaf pre g2 c).2) (some v) := by
  obtain ⟨P, hT⟩ := leaf_out wf E hlen pre hpre c hc D hD1 hD2
  rw [sem_some]
  refine ⟨[colEntry g2.index (tempColName g2 pre) c], colEntry g2.index (tempColName g2 pre) c, P.toExt, rfl, ?_, ?_, hv⟩
  · intro m hm
    simp only [List.mem_singleton] at hm
    subst hm
    exact ⟨P.name, P.name ▸ hT⟩
  · rw [P.abs]
    exact absLookup_append_fresh f.abs _ _ P.name (P.fresh_names wf)

theorem mem_cells_valL (ix : List Nat) (c : NCol) (p : Nat) (hp : p ∈ ix) (u : Fr.Val) (hu : c.col.data[p]? = some u) :
    cellOf u ∈ (valL (entry ix c)).cells.toList := by
  simp only [valL, entry, List.map_map]
  exact List.mem_map.mpr ⟨p, hp, by simp [hu, ocell]⟩

/-- **A unary function applied to a column of the current frame.** `g` is the original frame `f` plus the
temporaries `mid`; `c` names the operand; the spec's value of the operand is what `g` holds under `c`.
`hD1` is asked only when `c` is a column of `g`: otherwise the result is an error and `D` does not matter. -/
theorem unary_step {s : String} {ctx : Ctx} {gap : CType → String → Bool} (ok : CtxOK s ctx gap)
    {f g : Frame} {L : Nat} {mid : List Entry} (wf : WF f L) (E : Ext f g L mid) (hL : physLen g = L)
    (hlen : g.cols.length < 10000) (op c : String) (D : List String)
    (hD1 : (g.byName c).isSome = true → ∀ d, d ∈ D → d ∈ mid.map (·.1)) (hD2 : ∀ m, m ∈ mid → m.1 ∈ D)
    (o : Option QF.Val) (ho : o = (absLookup g.abs c).map valL) (hs : opnd gap op o = true) :
    Sem f L false (drop (execUnary ctx op c g).1 D, (execUnary ctx op c g).2) (d1 s op o) := by
  rw [absLookup_byName E.wf E.uniq] at ho
  cases hb : g.byName c with
  | none =>
    rw [hb] at ho; subst ho
    exact execUnary_fails D fun x _ _ hx => nomatch hb.symm.trans hx
  | some sc =>
    rw [hb] at ho
    simp only [Option.map_some] at ho
    subst ho
    obtain ⟨hne, hgap, hcells⟩ := opnd_some hs
    have hty : (valL (entry g.index sc)).ty = tyC sc.col.ty := rfl
    rw [hty] at hne hgap hcells
    have hne' : sc.col.ty ≠ .enum := fun h => hne (by rw [h]; rfl)
    obtain ⟨hnone, hsome⟩ := ok.un sc.col.ty op hne' hgap
    cases hev : evalUnary s op (tyC sc.col.ty) with
    | none =>
      have hd : d1 s op (some (valL (entry g.index sc))) = none := by simp [d1, hty, hev]
      rw [hd]
      exact execUnary_fails D fun x rty fn hx hf => by
        rw [hb] at hx
        cases hx
        rw [hnone hev] at hf
        cases hf
    | some p =>
      obtain ⟨rt, g'⟩ := p
      obtain ⟨rty, fn, hf, hrt, hag⟩ := hsome rt g' hev
      have hd : d1 s op (some (valL (entry g.index sc))) =
          some { ty := rt, cells := (valL (entry g.index sc)).cells.map g' } := by simp [d1, hty, hev]
      rw [hd, execUnary_eq ctx op c g E.err sc hb rty fn hf]
      have hsc : sc.col.data.length = L := E.wf.len sc (byName_mem E.wf hb)
      refine leaf_sem wf E hlen "unary" (.inr (.inl rfl)) _ (by rw [applyFn1_length, hL]) D
        (hD1 (by simp [hb])) hD2 _ ?_
      simp only [valL, colEntry, entry]
      rw [hL, applyFn1_cells g L E.wf fn rty sc.col hsc g' (fun p hp u hu =>
        hag u (hcells _ (mem_cells_valL g.index sc p hp u hu)))]
      simp [applyFn1, hrt]


theorem tyC_ne {a b : Ty} (h : a ≠ b) : (tyC a != tyC b) = true := by
  simpa using fun hh => h (tyC_inj hh)

/-- **A binary function applied to two columns of the current frame**: as `unary_step`, `a` and `b` name the operands in `g`.
`n` with `hn` and not `g.index.length`, so that the conclusion has the shape of `den_x2` (`d2 s F.n …`) where it is applied. -/
theorem colcol_step {s : String} {ctx : Ctx} {gap : CType → String → Bool} (ok : CtxOK s ctx gap)
    {f g : Frame} {L : Nat} {mid : List Entry} (wf : WF f L) (E : Ext f g L mid) (hL : physLen g = L)
    (hlen : g.cols.length < 10000) (op a b : String) (D : List String)
    (hD1 : (g.byName a).isSome = true → (g.byName b).isSome = true → ∀ d, d ∈ D → d ∈ mid.map (·.1))
    (hD2 : ∀ m, m ∈ mid → m.1 ∈ D) (n : Nat) (hn : n = g.index.length)
    (o1 o2 : Option QF.Val) (ho1 : o1 = (absLookup g.abs a).map valL) (ho2 : o2 = (absLookup g.abs b).map valL)
    (hs1 : opnd gap op o1 = true) (hs2 : opnd gap op o2 = true) :
    Sem f L false (drop (execColCol ctx op a b g).1 D, (execColCol ctx op a b g).2) (d2 s n op o1 o2) := by
  rw [absLookup_byName E.wf E.uniq] at ho1 ho2
  cases ha : g.byName a with
  | none =>
    rw [ha] at ho1; subst ho1
    exact execColCol_fails D fun x _ _ hx => nomatch ha.symm.trans hx
  | some x =>
    cases hb : g.byName b with
    | none =>
      rw [hb] at ho2
      simp only [Option.map_none] at ho2
      subst ho2
      rw [d2_none_right]
      exact execColCol_fails D fun _ y _ _ hy => nomatch hb.symm.trans hy
    | some y =>
      rw [ha] at ho1; rw [hb] at ho2
      simp only [Option.map_some] at ho1 ho2
      subst ho1; subst ho2
      have htx : (valL (entry g.index x)).ty = tyC x.col.ty := rfl
      have hty' : (valL (entry g.index y)).ty = tyC y.col.ty := rfl
      by_cases hty : x.col.ty = y.col.ty
      · obtain ⟨hne, hgap, hcx⟩ := opnd_some hs1
        obtain ⟨_, _, hcy⟩ := opnd_some hs2
        rw [htx] at hne hgap hcx
        rw [hty', ← hty] at hcy
        have hne' : x.col.ty ≠ .enum := fun h => hne (by rw [h]; rfl)
        obtain ⟨hnone, hsome⟩ := ok.bin x.col.ty op hne' hgap
        have hfk : fkind (tyC x.col.ty) = tyC x.col.ty := fkind_tyC hne'
        cases hev : evalBinary s op (tyC x.col.ty) with
        | none =>
          have hev' : evalBinary s op (tyC y.col.ty) = none := hty ▸ hev
          have hd : d2 s n op (some (valL (entry g.index x))) (some (valL (entry g.index y))) = none := by
            simp [d2, htx, hty', hty, hev']
          rw [hd]
          exact execColCol_fails D fun x' _ fn hx _ _ hf => by
            rw [ha] at hx
            cases hx
            rw [hnone hev] at hf
            cases hf
        | some g' =>
          obtain ⟨fn, hf, hag⟩ := hsome g' hev
          have hd : d2 s n op (some (valL (entry g.index x))) (some (valL (entry g.index y))) =
              some { ty := tyC x.col.ty,
                     cells := ((List.range n).map (fun r => g' (valL (entry g.index x)).cells[r]!
                        (valL (entry g.index y)).cells[r]!)).toArray } := by
            have hev' : evalBinary s op (tyC y.col.ty) = some g' := hty ▸ hev
            have hfk' : fkind (tyC y.col.ty) = tyC y.col.ty := hty ▸ hfk
            simp [d2, htx, hty', hty, hev', hfk']
          rw [hd, execColCol_eq ctx op a b g E.err x y ha hb hty fn hf]
          have hx : x.col.data.length = L := E.wf.len x (byName_mem E.wf ha)
          have hy : y.col.data.length = L := E.wf.len y (byName_mem E.wf hb)
          refine leaf_sem wf E hlen "colcol" (.inr (.inr rfl)) _ (by rw [col2_length, hL]) D
            (hD1 (by simp [ha]) (by simp [hb])) hD2 _ ?_
          simp only [valL, colEntry, entry]
          rw [col2_cells g L E.wf hL x y hx hy fn g' (fun p hp u v hu hv =>
            hag u v (hcx _ (mem_cells_valL g.index x p hp u hu)) (hcy _ (mem_cells_valL g.index y p hp v hv))), hn]
          simp [col2]
      · have hd : d2 s n op (some (valL (entry g.index x))) (some (valL (entry g.index y))) = none := by
          simp only [d2, htx, hty', tyC_ne hty, if_true]
        rw [hd]
        exact execColCol_fails D fun x' y' _ hx hy hxy _ => by
          rw [ha] at hx
          cases hx
          rw [hb] at hy
          cases hy
          exact hty hxy


/-! ## 7. an operand, as the enclosing expression sees it -/

/-- The result `r` of executing an operand whose spec value is `o`: either the frame carries an error and the spec has
no value, or the frame is the original one plus at most one temp column, and `o` is what the frame holds under the
name returned (no value if there is no such column: a column expression naming an unknown column, one of `R`). -/
def Opd (f : Frame) (L : Nat) (R : List String) (r : Frame × String) (o : Option QF.Val) : Prop :=
  (r.1.err.isSome = true ∧ o = none) ∨
  ∃ mid, Ext f r.1 L mid ∧ mid.length ≤ 1 ∧ (∀ m, m ∈ mid → m.1 = r.2 ∧ IsTemp m.1) ∧
    o = (absLookup r.1.abs r.2).map valL ∧ (mid = [] → r.2 ∈ R)

theorem opd_of_sem {f : Frame} {L : Nat} {R : List String} {r : Frame × String} {o : Option QF.Val}
    (h : Sem f L false r o) : Opd f L R r o := by
  cases o with
  | none => exact .inl ⟨h, rfl⟩
  | some v =>
    obtain ⟨mid, ent, E, hl, hm, hlk, hv⟩ := h
    refine .inr ⟨mid, E, by simp at hl; omega, hm, by rw [hlk, ← hv]; rfl, ?_⟩
    intro h0; rw [h0] at hl; simp at hl

theorem byName_none_of_lookup {g : Frame} {L : Nat} (wf : WF g L) (u : UniqueNames g) {n : String}
    (h : absLookup g.abs n = none) : g.byName n = none := by
  rw [absLookup_byName wf u] at h
  cases hb : g.byName n with
  | none => rfl
  | some c => rw [hb] at h; cases h

/-- looking a name up in a frame extended by temporaries: the same as before, unless the name is a temp name that was
free before -/
theorem lookup_stable {f g : Frame} {L : Nat} {mid : List Entry} (wf : WF f L) (u : UniqueNames f) (E : Ext f g L mid)
    (hT : ∀ m, m ∈ mid → IsTemp m.1) (n : String) (hn : f.byName n = none → ¬ IsTemp n) :
    absLookup g.abs n = absLookup f.abs n := by
  rw [E.abs]
  cases h : absLookup f.abs n with
  | some e => exact absLookup_append_left _ _ _ _ h
  | none =>
    have hb := byName_none_of_lookup wf u h
    unfold absLookup at h ⊢
    rw [List.find?_append, h]
    simp only [Option.none_or]
    rw [List.find?_eq_none]
    intro m hm hmn
    have : m.1 = n := by simpa using hmn
    exact hn hb (this ▸ hT m hm)

theorem noCapture_ext {f g : Frame} {L : Nat} {mid : List Entry} (wf : WF f L) (E : Ext f g L mid) {e : Ex'}
    (h : NoCapture f e) : NoCapture g e := by
  intro n hn hg
  apply h n hn
  rw [none_iff wf]
  rw [none_iff E.wf, E.names] at hg
  exact fun hh => hg (List.mem_append_left _ hh)

theorem agree_ext {enc : String → Bytes} {f g : Frame} {L : Nat} {mid : List Entry} {F : LFrame} {e : Ex'}
    (wf : WF f L) (u : UniqueNames f) (E : Ext f g L mid) (hT : ∀ m, m ∈ mid → IsTemp m.1)
    (hc : NoCapture f e) (A : Agree enc f F e) : Agree enc g F e := by
  refine ⟨by rw [A.1, E.index], ?_⟩
  intro n hn
  rw [A.2 n hn, lookup_stable wf u E hT n (hc n hn)]

theorem noCapture_mono {f : Frame} {e e' : Ex'} (hsub : ∀ n, n ∈ refs e' → n ∈ refs e) (h : NoCapture f e) :
    NoCapture f e' := fun n hn => h n (hsub n hn)

theorem agree_mono {enc : String → Bytes} {f : Frame} {F : LFrame} {e e' : Ex'}
    (hsub : ∀ n, n ∈ refs e' → n ∈ refs e) (h : Agree enc f F e) : Agree enc f F e' :=
  ⟨h.1, fun n hn => h.2 n (hsub n hn)⟩

theorem tyOf_cellType {v : Fr.Val} (h : ∀ r, v ≠ .enum r) : tyC (tyOf v) = cellType (cellOf v) := by
  cases v <;> first | rfl | exact absurd rfl (h _)

/-- the constant's temp column holds the spec's value of the constant -/
theorem valL_const (g : Frame) (L : Nat) (wf : WF g L) (hL : physLen g = L) (v : Fr.Val) (hv : ∀ r, v ≠ .enum r)
    (F : LFrame) (hn : F.n = g.index.length) (t : String) :
    some (valL (colEntry g.index t (constCol g v))) = dval F (cellOf v) := by
  simp only [valL, colEntry, dval]
  rw [constCol_cells g L wf hL v, hn]
  simp only [constCol]
  rw [tyOf_cellType hv]

end QF.Props.C07EndToEnd
