import QF.Props.C12InferGen
import QF.Core.CGExpr
import QF.Core.ListFacts
import QF.Gen.CsvGlue
/-!
# C12 / C15 — the glue of `ReadCSV` of today's source IS the spec's `readCsvS` from the records on (tie T1, by semantics)

`QF.Gen.isEmptyLineAst`, `addAliasAst`, `renameDupAst`, `resizePointersAst`, `resizeBytesAst`, `readCsvAst`,
`readCsvEntryAst` (regenerated on every run by go/cmd/extract/csvgast.go) hold `isEmptyLine`,
`addAliasToMissingColumnNames`, `renameDuplicateColumns`, `resizeColPointers`, `resizeColBytes` and `ReadCSV` of
/repo/internal/io/csv.go and `ReadCSV` of /repo/qframe.go as terms of `QF.CGB` / `CGA` / `CGR` / `CGZ` / `CG` / `CGU`
(QF/Core/CGExpr.lean: their Go meaning; the fastcsv reader is scripted, `columnToData` and the helpers are parameters of
`CG.run`). `columnToData` itself is regenerated by iast.go (C12InferGen), the fastcsv reader by csvast.go (C12CsvGen). This
file proves, for the terms generated TODAY:

* `gen_csvglue_no_opaque`, `gen_csvglue_canon` — everything was found, translated completely, and is the canonical term
* `gen_isEmptyLine_semantics` — `isEmptyLine` is the spec's (one field, and it is empty)
* `gen_alias_semantics`       — `addAliasToMissingColumnNames` replaces exactly the empty names
* `gen_rename_semantics`      — `renameDuplicateColumns` is the spec's `renameDup` for EVERY list of names: first occurrences
                                 keep their name, a later one gets the first `name<counter>`, counter from 0, that is neither
                                 an original name nor a name given before; the unbounded `for { … }` ends within
                                 `len(headers) + 2` rounds (pigeonhole: `firstFree_found`; `fmt.Sprint` is injective:
                                 `candOf_inj`)
* `gen_resize_identity`       — `resizeColPointers` / `resizeColBytes` leave the contents of every slice alone, whatever
                                 the capacities are
* `canon_run`                 — for every environment whose helpers are the spec's and whose `columnToData` is the spec's
                                 `csvColumn` (`Implements`; the script of the reader is free) the term of `ReadCSV` returns
                                 an error when the reader fails — `r.Err()` non-nil after the loop or at a record after the
                                 header — and else what the spec's `csvGlueS` (= `readCsvS` from the records on,
                                 `readCsvS_eq`) makes of the fields: every loop of the term is proved once, against the
                                 stage of the spec it computes (`rows_loop`: `readCsvS.rows`; `data_loop`: the columns, the
                                 enum declarations threaded by `delete`; with distinct names this is the spec's column by
                                 column, `dataLoopS_nodup`; with a name twice both sides are an error)
* `gen_csvglue_all`           — … over today's helpers and today's `columnToData` (`env_implements`), for EVERY script
* `gen_csvglue_semantics`     — the case of no reader error: for EVERY list of records and EVERY configuration an error
                                 exactly where `csvGlueS` has one, else exactly its column names and columns. No hypotheses.
* `gen_csvglue_refines_spec`  — … on the records of the RFC 4180 scanner this is `readCsvS`, up to `New`'s check of the names
* `gen_csvglue_faults` (C15)  — a reader error (at a record, or after the loop) is returned, never swallowed
* `gen_readcsv_entry`         — `ReadCSV` of the root package: `QFrame{Err: err}` iff `io.ReadCSV` fails, else
                                 `New(data, ColumnOrder(columns...))`

Witnesses at the end: the duplicate counter starting at 1, the empty-line test on the wrong field, a dropped row-length
check, the alias applied after the renaming, … violate the statements.
-/
namespace QF.Props.C12GlueGen
open QF QF.Props.C12Infer QF.Props.C12InferGen

/-! ## Canonical terms -/

def canonEmptyLine : CGB := .and (.lenIs 1) (.lenAtIs 0 0)

def canonAlias : CGA := .rangeHeaders (.ifNameEmpty (.setAlias .done) .done) .retHeaders

/-- `_, ok := headersMap[h]; if !ok { headersMap[h] = i }` -/
def firstsBody : CGR := .lookupH (.ifNotOk (.setMapH .done) .done)

/-- `candidateName := headers[i] + fmt.Sprint(counter); _, ok = headersMap[candidateName];
if ok { counter++ } else { headers[i] = candidateName; headersMap[headers[i]] = i; break }` -/
def pickBody : CGR :=
  .bindCandidate (.lookupCandidate (.ifOk (.incCounter .done) (.setHeaderCandidate (.setMapCurrent .brk)) .done))

/-- `index, ok := headersMap[h]; if ok && i != index { counter := 0; for { … } }` -/
def renameBody : CGR := .lookupH (.ifOtherIndex (.zeroCounter (.forever pickBody .done)) .done)

def canonRename : CGR := .newMap (.rangeHeaders firstsBody (.rangeHeaders renameBody .retHeaders))

/-- `if cap(p) < bound { q := make([]T, 0, bound); q = append(q, p...); slices[i] = q }` -/
def growBody : CGZ := .ifCapLess (.makeNew (.appendAll (.store .done))) .done

def canonResizePointers : CGZ := .rangeSlices growBody .done
def canonResizeBytes : CGZ := .rangeSlices (.bindEstimate growBody) .done

/-- the header row read from the reader -/
def headerBlock : CG := .readHeader .retErr (.makeHeaders (.rangeHeaders (.setHeaderFromRecord .done) .done))

/-- the part of a round after the width test -/
def acceptRow : CG :=
  .ifEmptyIgnored .cont (.rangeFields (.appendField .done)
    (.incNonEmpty (.ifResizeDue (.resizeBytes (.resizePointers .done)) .done)))

def rowBody : CG :=
  .ifReaderErr .retErr (.incRow (.bindFields (.ifWrongWidth (.ifEmptyIgnored .cont .retErr) acceptRow)))

/-- the columns, the two checks, the result -/
def dataBlock : CG :=
  .makeDataMap (.rangeHeadersData (.toData .retErr (.setData .done))
    (.ifEnumsLeft .retErr (.ifFewerKeys (.buildDupMessage .retErr) .retOk)))

def afterLoop : CG := .ifReaderErr .retErr (.ifAlias (.applyAlias .done) (.ifRename (.applyRename .done) dataBlock))

/-- `colBytes := make(…); row := 1; nonEmptyRows := 0; for r.Next() { … }; …` -/
def initBlock2 : CG := .makeBytes (.initRow (.initNonEmpty (.forNext rowBody afterLoop)))

/-- `colPointers := make(…); for i := range headers { colPointers[i] = []P{} }; …` -/
def initBlock : CG := .makePointers (.rangeHeaders (.setEmptyPointers .done) initBlock2)

def canonReadCsv : CG := .newReader (.headersFromConf (.ifNoHeaders headerBlock initBlock))

def canonEntry : CGU := .newConfig (.readCsv .retErrFrame .retNewOrdered)

theorem gen_csvglue_canon :
    Gen.isEmptyLineAst = canonEmptyLine ∧ Gen.addAliasAst = canonAlias ∧ Gen.renameDupAst = canonRename ∧
    Gen.resizePointersAst = canonResizePointers ∧ Gen.resizeBytesAst = canonResizeBytes ∧
    Gen.readCsvAst = canonReadCsv ∧ Gen.readCsvEntryAst = canonEntry := by decide

theorem gen_csvglue_no_opaque :
    Gen.isEmptyLineAst.hasOpaque = false ∧ Gen.addAliasAst.hasOpaque = false ∧ Gen.renameDupAst.hasOpaque = false ∧
    Gen.resizePointersAst.hasOpaque = false ∧ Gen.resizeBytesAst.hasOpaque = false ∧
    Gen.readCsvAst.hasOpaque = false ∧ Gen.readCsvEntryAst.hasOpaque = false := by decide

-- The equation lemmas of the interpreters are generated here, once (the attribute ends with the section); made inside a
-- proof they are made again in every proof that rewrites with them.
section
attribute [local simp] CGB.eval CGA.run CGR.run CGZ.run CG.run iterCG iterCGA iterCGR iterCGZ foreverCGR cgInsert cgrInsert
  renameDup.go renameDup.go.pick readCsvS.rows
end

/-- `fmt.Sprint(counter)`: the decimal digits -/
def decSprint (n : Nat) : Bytes := strBytes (toString n)

/-! ## `isEmptyLine` -/

/-- **`isEmptyLine` of today's source is the spec's**: one field, and it is empty. -/
theorem gen_isEmptyLine_semantics (fields : List Bytes) : Gen.isEmptyLineAst.eval fields = some (isEmptyLine fields) := by
  rw [gen_csvglue_canon.1]
  cases fields with
  | nil => rfl
  | cons f t =>
    cases t with
    | nil =>
      cases f with
      | nil => rfl
      | cons b bs => simp [canonEmptyLine, CGB.eval, isEmptyLine]
    | cons g t => simp [canonEmptyLine, CGB.eval, isEmptyLine]

/-! ## `addAliasToMissingColumnNames` -/

def aliasOf («alias» : Bytes) (h : Bytes) : Bytes := if h.isEmpty then «alias» else h

theorem alias_loop («alias» : Bytes) : ∀ (rest done : List Bytes),
    iterCGA (fun i h => (CGA.ifNameEmpty (.setAlias .done) .done).run «alias» (some i) h) done.length rest.length
      (done ++ rest) = .next (done ++ rest.map (aliasOf «alias»)) := by
  intro rest
  induction rest with
  | nil => intro done; simp [iterCGA]
  | cons r rest ih =>
    intro done
    have hget : (done ++ r :: rest)[done.length]? = some r := by simp
    have hlt : done.length < (done ++ r :: rest).length := by simp
    have hset : (done ++ r :: rest).set done.length «alias» = done ++ «alias» :: rest := by simp
    have hstep : (CGA.ifNameEmpty (.setAlias .done) .done).run «alias» (some done.length) (done ++ r :: rest) =
        .next (done ++ aliasOf «alias» r :: rest) := by
      by_cases he : r.isEmpty = true
      · simp only [CGA.run, Option.bind_some, hget, he, if_true, hlt, hset, aliasOf]
      · simp only [CGA.run, Option.bind_some, hget, he, aliasOf]
        simp
    simp only [List.length_cons, iterCGA, hstep]
    have := ih (done ++ [aliasOf «alias» r])
    simpa using this

/-- `addAliasToMissingColumnNames` of today's source -/
def genAlias (hs : List Bytes) («alias» : Bytes) : Option (List Bytes) :=
  match Gen.addAliasAst.run «alias» none hs with
  | .ret hs' => some hs'
  | _ => none

/-- **`addAliasToMissingColumnNames` of today's source** replaces exactly the empty names by the alias. -/
theorem gen_alias_semantics (hs : List Bytes) («alias» : Bytes) :
    genAlias hs «alias» = some (hs.map (fun h => if h.isEmpty then «alias» else h)) := by
  unfold genAlias
  rw [gen_csvglue_canon.2.1]
  have := alias_loop «alias» hs []
  simp only [List.length_nil, List.nil_append] at this
  rw [canonAlias, CGA.run, this]
  rfl

/-! ## The resize helpers only change capacities -/

theorem grow_step {α : Type} (capLess : Nat → Bool) (pre : CGZ → CGZ) (hpre : ∀ (t : CGZ) cur (σ : CGZSt α), (pre t).run capLess cur σ = t.run capLess cur σ)
    (done rest : List (List α)) (p : List α) (σ : CGZSt α) (hs : σ.slices = done ++ p :: rest) :
    ∃ σ', (pre growBody).run capLess (some done.length) { σ with p := p } = some σ' ∧ σ'.slices = σ.slices := by
  rw [hpre]
  have hlt : done.length < (done ++ p :: rest).length := by simp
  by_cases hc : capLess done.length = true
  · refine ⟨{ σ with p := p, q := some ([] ++ p), slices := σ.slices.set done.length ([] ++ p) }, ?_, ?_⟩
    · simp [growBody, CGZ.run, hc, hs]
    · simp [hs]
  · exact ⟨{ σ with p := p }, by simp [growBody, CGZ.run, hc], rfl⟩

theorem grow_loop {α : Type} (capLess : Nat → Bool) (pre : CGZ → CGZ)
    (hpre : ∀ (t : CGZ) cur (σ : CGZSt α), (pre t).run capLess cur σ = t.run capLess cur σ) :
    ∀ (rest done : List (List α)) (σ : CGZSt α), σ.slices = done ++ rest →
    ∃ σ', iterCGZ (fun i τ => match τ.slices[i]? with
        | none => none
        | some p => (pre growBody).run capLess (some i) { τ with p := p }) done.length rest.length σ = some σ' ∧
      σ'.slices = σ.slices := by
  intro rest
  induction rest with
  | nil => intro done σ _; exact ⟨σ, rfl, rfl⟩
  | cons p rest ih =>
    intro done σ hs
    have hget : σ.slices[done.length]? = some p := by rw [hs]; simp
    obtain ⟨σ1, h1, hs1⟩ := grow_step capLess pre hpre done rest p σ hs
    obtain ⟨σ2, h2, hs2⟩ := ih (done ++ [p]) σ1 (by rw [hs1, hs]; simp)
    refine ⟨σ2, ?_, hs2.trans hs1⟩
    simp only [List.length_cons, iterCGZ, hget, h1]
    simpa using h2

/-- the loop of either helper from the start: `pre` is what stands in front of `growBody` in a round -/
theorem grow_run {α : Type} (capLess : Nat → Bool) (pre : CGZ → CGZ)
    (hpre : ∀ (t : CGZ) cur (σ : CGZSt α), (pre t).run capLess cur σ = t.run capLess cur σ) (slices : List (List α)) :
    ((CGZ.rangeSlices (pre growBody) .done).run capLess none ({ slices := slices } : CGZSt α)).map (·.slices) = some slices := by
  obtain ⟨σ', h, hs⟩ := grow_loop capLess pre hpre slices [] ({ slices := slices } : CGZSt α) rfl
  simp only [List.length_nil] at h
  have hu : (CGZ.rangeSlices (pre growBody) .done).run capLess none ({ slices := slices } : CGZSt α) =
      match iterCGZ (fun i τ => match τ.slices[i]? with
          | none => none
          | some p => (pre growBody).run capLess (some i) { τ with p := p }) 0 slices.length { slices := slices } with
      | some σ' => some σ'
      | none => none := rfl
  rw [hu, h]
  simp [hs]

/-- **`resizeColPointers` and `resizeColBytes` of today's source leave the contents of every slice alone**, whatever the
capacities are (`capLess`): they only re-allocate. -/
theorem gen_resize_identity {α : Type} (capLess : Nat → Bool) (slices : List (List α)) :
    (Gen.resizePointersAst.run capLess none ({ slices := slices } : CGZSt α)).map (·.slices) = some slices ∧
    (Gen.resizeBytesAst.run capLess none ({ slices := slices } : CGZSt α)).map (·.slices) = some slices := by
  rw [gen_csvglue_canon.2.2.2.1, gen_csvglue_canon.2.2.2.2.1]
  exact ⟨grow_run capLess id (fun _ _ _ => rfl) slices, grow_run capLess CGZ.bindEstimate (fun _ _ _ => rfl) slices⟩

/-! ## The loops that only move data, for every environment -/

/-- the fields of a row appended to the columns -/
def appendRow (cells : List (List Bytes)) (fields : List Bytes) : List (List Bytes) :=
  List.zipWith (fun c f => c ++ [f]) cells fields

section Run
variable {δ : Type} (E : CGEnv δ)

/-- `for i := range headers { headers[i] = string(byteHeader[i]) }` -/
theorem header_loop (rc : Option (List Bytes × Bool)) : ∀ (rest done l : List Bytes) (τ : CGSt δ), l.length = rest.length →
    τ.byteHeader = done ++ rest → τ.headers = done ++ List.replicate rest.length [] →
    iterCG (fun i (_ : Bytes) τ => (CG.setHeaderFromRecord .done).run E (some i) rc τ) done.length l τ =
      .next { τ with headers := done ++ rest } := by
  intro rest
  induction rest with
  | nil =>
    intro done l τ hl _ hh
    have : l = [] := List.eq_nil_of_length_eq_zero hl
    subst this
    have h2 : τ.headers = done := by simpa using hh
    cases τ
    simp only [] at h2
    subst h2
    simp [iterCG]
  | cons b rest ih =>
    intro done l τ hl hb hh
    cases l with
    | nil => simp at hl
    | cons x l =>
      simp only [List.length_cons, Nat.add_right_cancel_iff] at hl
      have hget : τ.byteHeader[done.length]? = some b := by rw [hb]; simp
      have hlt : done.length < τ.headers.length := by rw [hh]; simp
      have hset : τ.headers.set done.length b = (done ++ [b]) ++ List.replicate rest.length [] := by
        rw [hh]; simp [List.replicate_succ]
      have hstep : (CG.setHeaderFromRecord .done).run E (some done.length) rc τ =
          .next { τ with headers := (done ++ [b]) ++ List.replicate rest.length [] } := by
        simp only [CG.run, hget, hlt, if_true, hset]
      simp only [iterCG, hstep]
      have := ih (done ++ [b]) l { τ with headers := (done ++ [b]) ++ List.replicate rest.length [] } hl
        (by simp [hb]) rfl
      simpa using this

/-- `for i := range headers { colPointers[i] = []P{} }` -/
theorem pointers_loop (rc : Option (List Bytes × Bool)) (n : Nat) : ∀ (l : List Bytes) (i : Nat) (τ : CGSt δ),
    τ.nPointers = some n → i + l.length ≤ n →
    iterCG (fun i (_ : Bytes) τ => (CG.setEmptyPointers .done).run E (some i) rc τ) i l τ = .next τ := by
  intro l
  induction l with
  | nil => intro i τ _ _; rfl
  | cons x l ih =>
    intro i τ hp hle
    simp only [List.length_cons] at hle
    have hlt : i < n := by omega
    have hstep : (CG.setEmptyPointers .done).run E (some i) rc τ = .next τ := by
      simp only [CG.run, hp, hlt, if_true]
    simp only [iterCG, hstep]
    exact ih (i + 1) τ hp (by omega)

/-- `for i, col := range fields { … }`: the fields appended to the columns -/
theorem fields_loop (rc : Option (List Bytes × Bool)) (n : Nat) : ∀ (restF : List Bytes) (restC doneC : List (List Bytes))
    (τ : CGSt δ), τ.cells = doneC ++ restC → restF.length = restC.length → τ.nPointers = some n → τ.nBytes = some n →
    τ.cells.length = n →
    iterCG (fun i c τ => (CG.appendField .done).run E (some i) rc { τ with col := c }) doneC.length restF τ =
      .next { τ with cells := doneC ++ appendRow restC restF, col := restF.getLastD τ.col } := by
  intro restF
  induction restF with
  | nil =>
    intro restC doneC τ hc hl _ _ _
    have : restC = [] := List.eq_nil_of_length_eq_zero hl.symm
    subst this
    have h2 : τ.cells = doneC := by simpa using hc
    cases τ
    simp only [] at h2
    subst h2
    simp [iterCG, appendRow]
  | cons f restF ih =>
    intro restC doneC τ hc hl hp hb hn
    cases restC with
    | nil => simp at hl
    | cons c0 restC =>
      simp only [List.length_cons, Nat.add_right_cancel_iff] at hl
      have hlt : doneC.length < n := by rw [← hn, hc]; simp
      have hlt' : doneC.length < τ.cells.length := by rw [hn]; exact hlt
      have hget : τ.cells[doneC.length]! = c0 := by rw [hc]; simp
      have hset : τ.cells.set doneC.length (c0 ++ [f]) = (doneC ++ [c0 ++ [f]]) ++ restC := by rw [hc]; simp
      have hstep : (CG.appendField .done).run E (some doneC.length) rc { τ with col := f } =
          .next { τ with col := f, cells := (doneC ++ [c0 ++ [f]]) ++ restC } := by
        simp only [CG.run, hp, hb, hlt, hlt', and_self, if_true, hget, hset]
      simp only [iterCG, hstep]
      have := ih restC (doneC ++ [c0 ++ [f]]) { τ with col := f, cells := (doneC ++ [c0 ++ [f]]) ++ restC } rfl hl hp hb
        (by simp only []; rw [← hn, hc]; simp)
      simp only [List.length_append, List.length_cons, List.length_nil, Nat.zero_add] at this
      rw [this, List.getLastD_cons]
      simp [appendRow]

end Run

section Run2
variable {δ : Type} (E : CGEnv δ)

/-- what the loop over the records keeps fixed -/
structure Inv (σ : CGSt δ) (hs : List Bytes) : Prop where
  headers : σ.headers = hs
  np : σ.nPointers = some hs.length
  nb : σ.nBytes = some hs.length
  nc : σ.cells.length = hs.length

theorem resize_run (cur : Option Nat) (rc : Option (List Bytes × Bool)) (σ : CGSt δ) (hs : List Bytes) (hi : Inv σ hs) :
    (CG.ifResizeDue (.resizeBytes (.resizePointers .done)) .done).run E cur rc σ = .next σ := by
  by_cases h : (σ.nonEmpty == 1000 && E.hintBig) = true
  · simp [CG.run, cgIf, h, hi.np, hi.nb]
  · simp [CG.run, cgIf, h]

/-! The blocks of the term that hold a loop, one step unfolded (for a concrete `δ` such a restatement is not closed by `rfl`;
rewriting the goal with the equations of `CG.run` instead costs twice as much). -/

theorem rowBody_eq (cur : Option Nat) (fields : List Bytes) (flag : Bool) (σ : CGSt δ) :
    rowBody.run E cur (some (fields, flag)) σ =
      cgIf flag (fun _ => .retErr) (fun τ =>
        cgIf (fields.length != τ.headers.length) ((CG.ifEmptyIgnored .cont .retErr).run E cur (some (fields, flag)))
          (acceptRow.run E cur (some (fields, flag))) { τ with fields := fields }) σ := rfl

theorem dataBlock_eq (σ : CGSt δ) :
    dataBlock.run E none none σ =
      match iterCG (fun i h τ => (CG.toData .retErr (.setData .done)).run E (some i) none { τ with header := h }) 0 σ.headers
          { σ with dataMap := some [], enums := E.enums } with
      | .next σ' => (CG.ifEnumsLeft .retErr (.ifFewerKeys (.buildDupMessage .retErr) .retOk)).run E none none σ'
      | r => r := rfl

theorem initBlock_eq (σ : CGSt δ) :
    initBlock.run E none none σ =
      match iterCG (fun i (_ : Bytes) τ => (CG.setEmptyPointers .done).run E (some i) none τ) 0 σ.headers
          { σ with nPointers := some σ.headers.length } with
      | .next σ' => initBlock2.run E none none σ'
      | r => r := rfl

theorem initBlock2_eq (τ : CGSt δ) :
    initBlock2.run E none none τ =
      match iterCG (fun _ r τ' => rowBody.run E none (some r) τ') 0 (E.records.drop τ.pos)
          { τ with nBytes := some τ.headers.length, cells := List.replicate τ.headers.length [], nonEmpty := 0 } with
      | .next σ' => afterLoop.run E none none σ'
      | r => r := rfl

theorem headerBlock_run (σ : CGSt δ) :
    headerBlock.run E none none σ =
      match E.records[σ.pos]? with
      | none => .retErr
      | some r0 => .next { σ with byteHeader := r0.1, pos := σ.pos + 1, headers := r0.1 } := by
  cases hr : E.records[σ.pos]? with
  | none => simp [headerBlock, CG.run, hr]
  | some r0 =>
    have := header_loop E none r0.1 [] (List.replicate r0.1.length ([] : Bytes))
      { σ with byteHeader := r0.1, pos := σ.pos + 1, headers := List.replicate r0.1.length [] } (by simp) rfl rfl
    simp only [List.length_nil, List.nil_append] at this
    rw [headerBlock, CG.run]
    simp only [hr]
    rw [CG.run, CG.run]
    dsimp only
    rw [this]
    rfl

end Run2

/-! ## The spec on the records the reader returns -/

/-- `readCsvS` from the records on, without the check of the names that `New` makes: the column names, the columns, the
number of rows; `none` = an error -/
def csvGlueS (po : ParseOracle) (cfg : CsvCfg) (recs : List (List Bytes)) : Option (List Bytes × List LCol × Nat) :=
  let hdr : Option (List Bytes × List (List Bytes)) :=
    if cfg.headers.isEmpty then
      match recs with
      | [] => none
      | h :: rest => some (h, rest)
    else some (cfg.headers, recs)
  match hdr with
  | none => none
  | some (headers, body) =>
    match readCsvS.rows cfg headers [] body with
    | none => none
    | some data =>
      let headers := if cfg.«alias».isEmpty then headers else headers.map (fun h => if h.isEmpty then cfg.«alias» else h)
      let headers := if cfg.rename then renameDup headers else headers
      let cols := (List.range headers.length).map (fun i =>
        csvColumn po cfg (headers[i]!) (data.map (fun r => r[i]!)))
      if cols.any (fun c => c.1.isNone) then none else
      let usedEnums := (List.zip headers cols).filterMap (fun (h, c) => if c.2 then some h else none)
      if !(cfg.enums.all (fun e => usedEnums.contains e.1)) then none else
      if headers.eraseDups.length != headers.length then none else
      some (headers, cols.filterMap (·.1), data.length)

/-- the four checks at the end of `readCsvS` are the three of `csvGlueS` followed by the check of the names -/
theorem chain (c1 c2 c3 : Bool) (hs : List Bytes) (cols : List LCol) (n : Nat) :
    (if c1 then Res.err else if c2 then .err else if c3 then .err else if !(hs.all legalName) then .err
      else .ok { cols := cols, n := n }) =
    match (if c1 then none else if c2 then none else if c3 then none else some (hs, cols, n) :
        Option (List Bytes × List LCol × Nat)) with
    | none => Res.err
    | some (headers, cols, n) => if !(headers.all legalName) then Res.err else Res.ok { cols := cols, n := n } := by
  cases c1 <;> cases c2 <;> cases c3 <;> rfl

/-- `readCsvS` is the parser, `csvGlueS`, and the check of the names -/
theorem readCsvS_eq (po : ParseOracle) (cfg : CsvCfg) (doc : Bytes) :
    readCsvS po cfg doc =
      match csvGlueS po cfg (rfcParse cfg.delim doc) with
      | none => .err
      | some (headers, cols, n) => if !(headers.all legalName) then .err else .ok { cols := cols, n := n } := by
  unfold readCsvS csvGlueS
  simp only []
  generalize (if cfg.headers.isEmpty = true then _ else _ : Option (List Bytes × List (List Bytes))) = hdr
  cases hdr with
  | none => rfl
  | some hb =>
    obtain ⟨hs, body⟩ := hb
    simp only []
    cases readCsvS.rows cfg hs [] body with
    | none => rfl
    | some data => exact chain _ _ _ _ _ _

/-! ## Today's helpers and `columnToData` as the parameters -/

/-- `renameDuplicateColumns` of today's source; the unbounded `for { … }` is given `len(headers) + 2` rounds
(`gen_rename_semantics`: it never needs more) -/
def genRename (hs : List Bytes) : Option (List Bytes) :=
  match Gen.renameDupAst.run decSprint (hs.length + 2) none { headers := hs } with
  | .ret hs' => some hs'
  | _ => none

/-- the environment of `ReadCSV`: the configuration, the scripted reader, today's helpers and today's `columnToData` -/
def env (po : ParseOracle) (cfg : CsvCfg) (hintBig : Bool) (records : List (List Bytes × Bool)) (finalErr : Bool) :
    CGEnv Data :=
  { confHeaders := cfg.headers, ignoreEmpty := cfg.ignoreEmpty, rename := cfg.rename, «alias» := cfg.«alias»,
    hintBig := hintBig, enums := cfg.enums, records := records, finalErr := finalErr,
    isEmptyLine := Gen.isEmptyLineAst.eval, addAlias := genAlias, renameDup := genRename,
    toData := fun en h cs => genColumnToData po { cfg with enums := en } h cs }

/-- `ReadCSV` of internal/io of today's source -/
def genReadCsv (po : ParseOracle) (cfg : CsvCfg) (hintBig : Bool) (records : List (List Bytes × Bool)) (finalErr : Bool) :
    Option (Option (List (Bytes × Data) × List Bytes)) :=
  runReadCsv (env po cfg hintBig records finalErr) Gen.readCsvAst

/-! ## `renameDuplicateColumns` -/

/-- `headers[i] + fmt.Sprint(counter)` -/
def candOf (h : Bytes) (n : Nat) : Bytes := h ++ strBytes (toString n)

theorem strBytes_inj (s t : String) (h : strBytes s = strBytes t) : s = t :=
  ListFacts.toUTF8_toList_inj h

theorem candOf_inj (h : Bytes) (a b : Nat) (e : candOf h a = candOf h b) : a = b :=
  ListFacts.toString_nat_inj (strBytes_inj _ _ (List.append_cancel_left e))

/-- the first counter among `n, …, n + k - 1` whose candidate is free -/
def firstFree (mem : Bytes → Bool) (h : Bytes) (k n : Nat) : Option Nat := (List.range' n k).find? (fun j => !mem (candOf h j))

/-- with more rounds than there are taken names a free candidate is found -/
theorem firstFree_found (mem : Bytes → Bool) (h : Bytes) (B : List Bytes) (hB : ∀ c, mem c = true → c ∈ B) (k n : Nat)
    (hk : B.length < k) : firstFree mem h k n ≠ none := by
  intro hnone
  have hnd : ((List.range' n k).map (candOf h)).Nodup :=
    List.pairwise_map.2 ((List.nodup_range' (s := n) (n := k)).imp fun hab e => hab (candOf_inj h _ _ e))
  have := hnd.length_le_of_subset (l₂ := B) (by
    intro c hc
    obtain ⟨j, hj, rfl⟩ := List.mem_map.1 hc
    exact hB _ (by simpa using List.find?_eq_none.1 hnone j hj))
  simp at this
  omega

/-- the spec's `pick` is that search -/
theorem pick_eq (seen firsts : List Bytes) (h : Bytes) : ∀ (k n : Nat),
    renameDup.go.pick seen firsts h k n = ((firstFree (fun c => (seen ++ firsts).contains c) h k n).map (candOf h)).getD h := by
  intro k
  induction k with
  | zero => intro n; rw [renameDup.go.pick]; rfl
  | succ k ih =>
    intro n
    rw [renameDup.go.pick, firstFree, List.range'_succ, List.find?_cons]
    simp only [candOf]
    cases (seen ++ firsts).contains (h ++ strBytes (toString n))
    · rfl
    · exact ih (n + 1)

theorem cgrInsert_eq (m : List (Bytes × Nat)) (k : Bytes) (v : Nat) : cgrInsert m k v = ListFacts.assocInsert m k v := by
  induction m with
  | nil => rfl
  | cons e rest ih => rw [cgrInsert, ListFacts.assocInsert, ih]

/-- one round of `for { … }`: the candidate is taken and the counter goes up, or it is free and becomes the name -/
theorem pick_step (F i : Nat) (h : Bytes) (σ : CGRSt) (hh : σ.headers[i]? = some h) :
    pickBody.run decSprint F (some i) σ =
      if (σ.map.lookup (candOf h σ.counter)).isSome then
        .next { σ with candidate := candOf h σ.counter, ok := true, counter := σ.counter + 1 }
      else .brk { σ with candidate := candOf h σ.counter, ok := false, headers := σ.headers.set i (candOf h σ.counter),
                         map := cgrInsert σ.map (candOf h σ.counter) i } := by
  obtain ⟨hi, hget⟩ := List.getElem?_eq_some_iff.1 hh
  have hc : h ++ decSprint σ.counter = candOf h σ.counter := rfl
  cases hm : (σ.map.lookup (candOf h σ.counter)).isSome <;> simp [pickBody, CGR.run, hi, hget, hc, hm]

theorem pick_loop (F i : Nat) (h : Bytes) (mem : Bytes → Bool) : ∀ (k n : Nat) (σ : CGRSt), σ.headers[i]? = some h → σ.counter = n →
    (∀ c, (σ.map.lookup c).isSome = mem c) →
    foreverCGR (fun τ => pickBody.run decSprint F (some i) τ) k σ =
      match firstFree mem h k n with
      | none => .stuck
      | some m => .next { σ with counter := m, candidate := candOf h m, ok := false,
                                 headers := σ.headers.set i (candOf h m), map := cgrInsert σ.map (candOf h m) i } := by
  intro k
  induction k with
  | zero => intro n σ _ _ _; rfl
  | succ k ih =>
    intro n σ hh hc hm
    subst hc
    simp only [foreverCGR, firstFree, List.range'_succ, List.find?_cons, pick_step F i h σ hh, hm]
    cases mem (candOf h σ.counter)
    · rfl
    · exact ih (σ.counter + 1) { σ with candidate := candOf h σ.counter, ok := true, counter := σ.counter + 1 } hh rfl hm

/-- a round of the first / second loop over the names -/
def firstsStep (F : Nat) : Nat → CGRSt → CGROut := fun i τ =>
  match τ.headers[i]? with
  | some h => firstsBody.run decSprint F (some i) { τ with h := h }
  | none => .stuck

def renameStep (F : Nat) : Nat → CGRSt → CGROut := fun i τ =>
  match τ.headers[i]? with
  | some h => renameBody.run decSprint F (some i) { τ with h := h }
  | none => .stuck

theorem idxOf?_snoc (pre : List Bytes) (h x : Bytes) :
    (pre ++ [h]).idxOf? x = (pre.idxOf? x).or (if h = x then some pre.length else none) := by
  rw [List.idxOf?, List.findIdx?_append, List.findIdx?_cons]
  by_cases hx : h = x <;> simp [hx]

/-- the first loop: the index of the first occurrence of every name -/
theorem firsts_loop (F : Nat) : ∀ (rest pre : List Bytes) (σ : CGRSt), σ.headers = pre ++ rest →
    (∀ x, σ.map.lookup x = pre.idxOf? x) →
    ∃ σ', iterCGR (firstsStep F) pre.length rest.length σ = .next σ' ∧ σ'.headers = σ.headers ∧
      ∀ x, σ'.map.lookup x = (pre ++ rest).idxOf? x := by
  intro rest
  induction rest with
  | nil => intro pre σ _ hm; exact ⟨σ, rfl, rfl, by simpa using hm⟩
  | cons h rest ih =>
    intro pre σ hh hm
    have hget : σ.headers[pre.length]? = some h := by rw [hh]; simp
    simp only [List.length_cons, iterCGR, firstsStep, hget]
    cases hl : σ.map.lookup h with
    | some j =>
      have hstep : firstsBody.run decSprint F (some pre.length) { σ with h := h } =
          .next { σ with h := h, index := j, ok := true } := by
        simp [firstsBody, CGR.run, hl]
      rw [hstep]
      have := ih (pre ++ [h]) { σ with h := h, index := j, ok := true } (by simp [hh]) (by
        intro x
        rw [idxOf?_snoc, ← hm]
        by_cases hx : h = x
        · rw [← hx, hl]; rfl
        · simp [hx])
      simpa using this
    | none =>
      have hstep : firstsBody.run decSprint F (some pre.length) { σ with h := h } =
          .next { σ with h := h, index := 0, ok := false, map := cgrInsert σ.map h pre.length } := by
        simp [firstsBody, CGR.run, hl]
      rw [hstep]
      have := ih (pre ++ [h]) { σ with h := h, index := 0, ok := false, map := cgrInsert σ.map h pre.length } (by simp [hh]) (by
        intro x
        rw [idxOf?_snoc, ← hm, cgrInsert_eq, ListFacts.lookup_assocInsert]
        by_cases hx : h = x
        · rw [← hx, hl]; simp
        · simp [hx, Ne.symm hx])
      simpa using this

/-- the second loop: every later occurrence of a name gets the first free `name<counter>` -/
theorem rename_loop (hs : List Bytes) (F : Nat) (hF : F = hs.length + 2) :
    ∀ (rest pre outs : List Bytes) (σ : CGRSt),
    hs = pre ++ rest → σ.headers = outs ++ rest → outs.length = pre.length →
    (∀ x, x ∈ hs → (x ∈ outs ↔ x ∈ pre)) →
    (∀ x, (σ.map.lookup x).isSome = (outs.reverse ++ hs.eraseDups).contains x) →
    (∀ x, x ∈ hs → σ.map.lookup x = some (hs.idxOf x)) →
    ∃ σ', iterCGR (renameStep F) pre.length rest.length σ = .next σ' ∧
      σ'.headers = outs ++ renameDup.go F outs.reverse hs.eraseDups rest := by
  intro rest
  induction rest with
  | nil =>
    intro pre outs σ _ hh _ _ _ _
    exact ⟨σ, rfl, by rw [hh, renameDup.go]⟩
  | cons h rest ih =>
    intro pre outs σ hsplit hh hlen hJ hK hL
    have hget : σ.headers[pre.length]? = some h := by rw [hh, ← hlen]; simp
    have hmem : h ∈ hs := by rw [hsplit]; simp
    simp only [List.length_cons, iterCGR, renameStep, hget]
    simp only [renameBody, CGR.run, hL h hmem, Bool.true_and]
    rw [renameDup.go]
    have hins : ∀ c x, ((outs ++ [c]).reverse ++ hs.eraseDups).contains x = (x == c || (σ.map.lookup x).isSome) := by
      intro c x
      rw [hK, List.reverse_append, List.reverse_singleton, List.append_assoc, List.singleton_append, List.contains_cons]
    by_cases hp : h ∈ pre
    · -- a later occurrence
      have hne : (pre.length != hs.idxOf h) = true := bne_iff_ne.2 (by
        rw [hsplit, List.idxOf_append, if_pos hp]; exact Nat.ne_of_gt (List.idxOf_lt_length_of_mem hp))
      have hseen : outs.reverse.contains h = true := List.contains_iff_mem.2 (List.mem_reverse.2 ((hJ h hmem).2 hp))
      simp only [hne, hseen, if_true, pick_eq]
      -- a free candidate exists: the names taken are among the `len(headers)` names of the list as it stands
      have hfound := firstFree_found (fun c => (outs.reverse ++ hs.eraseDups).contains c) h (outs ++ rest) (by
        intro c hc
        simp only [List.contains_iff_mem, List.mem_append, List.mem_reverse, List.mem_eraseDups, hsplit, List.mem_cons] at hc ⊢
        rcases hc with ho | hc | rfl | hc
        · exact .inl ho
        · exact .inl ((hJ c (by simp [hsplit, hc])).2 hc)
        · exact .inl ((hJ c hmem).2 hp)
        · exact .inr hc) F 0 (by
        have : hs.length = pre.length + (rest.length + 1) := by rw [hsplit]; simp
        simp only [List.length_append, hlen]
        omega)
      have hpl := pick_loop F pre.length h _ F 0 { σ with h := h, index := hs.idxOf h, ok := true, counter := 0 } hget rfl hK
      cases hff : firstFree (fun c => (outs.reverse ++ hs.eraseDups).contains c) h F 0 with
      | none => exact absurd hff hfound
      | some m =>
        rw [hff] at hpl
        simp only [hpl, Option.map_some, Option.getD_some]
        have hnh : candOf h m ∉ hs := fun hc => by
          have hfree := List.find?_some hff
          dsimp only at hfree
          rw [List.contains_iff_mem.2 (List.mem_append_right _ (List.mem_eraseDups.2 hc))] at hfree
          cases hfree
        obtain ⟨σ', hrun, hres⟩ := ih (pre ++ [h]) (outs ++ [candOf h m])
          { σ with h := h, index := hs.idxOf h, ok := false, counter := m, candidate := candOf h m,
                   headers := (outs ++ [candOf h m]) ++ rest, map := cgrInsert σ.map (candOf h m) pre.length }
          (by rw [hsplit]; simp) rfl (by simp [hlen])
          (by intro x hx
              have hxn : x ≠ candOf h m := fun e => hnh (e ▸ hx)
              simp only [List.mem_append, List.mem_singleton, hxn, or_false, hJ x hx]
              exact ⟨.inl, fun h1 => h1.elim id (· ▸ hp)⟩)
          (by intro x
              rw [hins, cgrInsert_eq, ListFacts.lookup_assocInsert]
              by_cases hx : x = candOf h m <;> simp [hx])
          (by intro x hx
              have hxn : x ≠ candOf h m := fun e => hnh (e ▸ hx)
              simp only [cgrInsert_eq, ListFacts.lookup_assocInsert, beq_iff_eq, hxn, if_false]
              exact hL x hx)
        refine ⟨σ', ?_, by rw [hres]; simp⟩
        have hset : (outs ++ h :: rest).set pre.length (candOf h m) = (outs ++ [candOf h m]) ++ rest := by
          rw [← hlen]; simp
        simp only [hh, hset]
        simpa using hrun
    · -- a first occurrence
      have hne : (pre.length != hs.idxOf h) = false := by
        rw [hsplit, List.idxOf_append, if_neg hp, List.idxOf_cons_self, Nat.zero_add]; exact bne_self_eq_false _
      have hseen : outs.reverse.contains h = false :=
        Bool.eq_false_iff.2 fun hc => hp ((hJ h hmem).1 (List.mem_reverse.1 (List.contains_iff_mem.1 hc)))
      simp only [hne, hseen, Bool.false_eq_true, if_false]
      obtain ⟨σ', hrun, hres⟩ := ih (pre ++ [h]) (outs ++ [h])
        { σ with h := h, index := hs.idxOf h, ok := true }
        (by rw [hsplit]; simp) (by simp [hh]) (by simp [hlen])
        (by intro x hx
            simp only [List.mem_append, List.mem_cons, List.not_mem_nil, or_false, hJ x hx])
        (by intro x
            rw [hins]
            by_cases hx : x = h <;> simp [hx, hL h hmem])
        hL
      exact ⟨σ', by simpa using hrun, by rw [hres]; simp⟩

/-- **`renameDuplicateColumns` of today's source is the spec's `renameDup`**, for every list of names: the first occurrence
of a name keeps it, every later occurrence gets the first `name<counter>` (counter from 0) that is neither an original
name nor a name given before; the search always ends within `len(headers) + 2` rounds. -/
theorem gen_rename_semantics (hs : List Bytes) : genRename hs = some (renameDup hs) := by
  unfold genRename
  rw [gen_csvglue_canon.2.2.1]
  have hu : canonRename.run decSprint (hs.length + 2) none { headers := hs } =
      match iterCGR (firstsStep (hs.length + 2)) 0 hs.length { headers := hs, map := [] } with
      | .next σ' =>
        (match iterCGR (renameStep (hs.length + 2)) 0 σ'.headers.length σ' with
          | .next σ'' => .ret σ''.headers
          | r => r)
      | r => r := rfl
  rw [hu]
  obtain ⟨σ1, h1, hh1, hm1⟩ := firsts_loop (hs.length + 2) hs [] { headers := hs, map := [] } rfl (fun _ => rfl)
  simp only [List.length_nil, List.nil_append] at h1 hm1
  rw [h1]
  simp only []
  have hhs : σ1.headers = hs := hh1
  obtain ⟨σ2, h2, hh2⟩ := rename_loop hs (hs.length + 2) rfl hs [] [] σ1 rfl (by simp [hhs]) rfl
    (by intro x _; simp)
    (by intro x; rw [hm1]; exact Bool.eq_iff_iff.2 (by simp))
    (fun x hx => (hm1 x).trans (List.findIdx?_eq_some_iff_findIdx_eq.2 ⟨List.idxOf_lt_length_of_mem hx, rfl⟩))
  simp only [List.length_nil] at h2
  rw [hhs, h2]
  simp only [hh2, List.nil_append]
  rfl

/-! ## What the glue needs of its environment -/

/-- `E` holds the configuration `cfg`, its helpers are the spec's and its `columnToData` is the spec's `csvColumn` (as the
logical column of the data); the script of the reader (`records`, `finalErr`) and `hintBig` are free. -/
structure Implements (E : CGEnv Data) (po : ParseOracle) (cfg : CsvCfg) : Prop where
  confHeaders : E.confHeaders = cfg.headers
  ignoreEmpty : E.ignoreEmpty = cfg.ignoreEmpty
  rename : E.rename = cfg.rename
  «alias» : E.«alias» = cfg.«alias»
  enums : E.enums = cfg.enums
  isEmptyLine : ∀ f, E.isEmptyLine f = some (isEmptyLine f)
  addAlias : ∀ hs a, E.addAlias hs a = some (hs.map (fun h => if h.isEmpty then a else h))
  renameDup : ∀ hs, E.renameDup hs = some (renameDup hs)
  toData : ∀ en h cs, (E.toData en h cs).map (fun r => r.map (fun d => (d.1.toLCol h, d.2))) =
    some (specView (csvColumn po { cfg with enums := en } h cs))

/-- today's helpers and today's `columnToData` -/
theorem env_implements (po : ParseOracle) (cfg : CsvCfg) (hintBig : Bool) (records : List (List Bytes × Bool)) (finalErr : Bool) :
    Implements (env po cfg hintBig records finalErr) po cfg :=
  ⟨rfl, rfl, rfl, rfl, rfl, gen_isEmptyLine_semantics, gen_alias_semantics, gen_rename_semantics,
    fun en h cs => gen_columnToData_spec po { cfg with enums := en } h cs⟩

/-! ## Rows into columns -/

/-- the columns of a list of rows of width `n` -/
def colsOf (n : Nat) (rows : List (List Bytes)) : List (List Bytes) := (List.range n).map (fun i => rows.map (fun r => r[i]!))

theorem appendRow_colsOf (n : Nat) (rows : List (List Bytes)) (r : List Bytes) (h : r.length = n) :
    appendRow (colsOf n rows) r = colsOf n (rows ++ [r]) := by
  apply List.ext_getElem
  · simp [appendRow, colsOf, h]
  · intro i h1 h2
    have hi : i < n := by simpa [colsOf] using h2
    have hr : i < r.length := by omega
    simp [appendRow, colsOf, hr]

theorem colsOf_nil (n : Nat) : colsOf n [] = List.replicate n [] := by
  apply List.ext_getElem <;> simp [colsOf]

/-! ## The loop over the records -/

section Rows
variable {E : CGEnv Data} {po : ParseOracle} {cfg : CsvCfg} (hE : Implements E po cfg)
include hE

theorem acceptRow_run (cur : Option Nat) (r : List Bytes × Bool) (σ : CGSt Data) (hs : List Bytes) (hi : Inv σ hs)
    (hl : σ.fields.length = hs.length) :
    acceptRow.run E cur (some r) σ =
      if isEmptyLine σ.fields && cfg.ignoreEmpty then .cont σ
      else .next { σ with cells := appendRow σ.cells σ.fields, col := σ.fields.getLastD σ.col, nonEmpty := σ.nonEmpty + 1 } := by
  rw [acceptRow, CG.run, hE.isEmptyLine, hE.ignoreEmpty]
  simp only [cgIf]
  split
  · rfl
  · have hloop := fields_loop E (some r) hs.length σ.fields σ.cells [] σ rfl (hl.trans hi.nc.symm) hi.np hi.nb hi.nc
    simp only [List.length_nil, List.nil_append] at hloop
    rw [CG.run, hloop]
    simp only []
    rw [CG.run]
    exact resize_run E cur (some r) _ hs ⟨hi.headers, hi.np, hi.nb, by simp [appendRow, hi.nc, hl]⟩

/-- **the loop over the records**: an error at a record with the reader's error set or where the spec's `rows` has one, else
the columns of the spec's rows -/
theorem rows_loop (cur : Option Nat) (hs : List Bytes) : ∀ (recs : List (List Bytes × Bool)) (acc : List (List Bytes)) (i : Nat)
    (σ : CGSt Data), Inv σ hs → σ.cells = colsOf hs.length acc.reverse →
    match (if recs.any (·.2) then none else readCsvS.rows cfg hs acc (recs.map (·.1))) with
    | none => iterCG (fun _ r τ => rowBody.run E cur (some r) τ) i recs σ = .retErr
    | some data => ∃ σ', iterCG (fun _ r τ => rowBody.run E cur (some r) τ) i recs σ = .next σ' ∧ Inv σ' hs ∧
        σ'.cells = colsOf hs.length data := by
  intro recs
  induction recs with
  | nil => intro acc i σ hi hc; exact ⟨σ, rfl, hi, by simpa [readCsvS.rows] using hc⟩
  | cons r recs ih =>
    intro acc i σ hi hc
    obtain ⟨r, flag⟩ := r
    have hh := hi.headers
    subst hh
    simp only [iterCG, rowBody_eq, List.any_cons, List.map_cons]
    cases flag with
    | true => simp [cgIf]
    | false =>
      rw [readCsvS.rows]
      have hi' : Inv ({ σ with fields := r } : CGSt Data) σ.headers := ⟨rfl, hi.np, hi.nb, hi.nc⟩
      have hskip := ih acc (i + 1) _ hi' hc
      simp only [cgIf, Bool.false_eq_true, if_false, Bool.false_or]
      -- the round of the spec's `rows` has the `if` tree of the round of the code: one case analysis runs both
      by_cases hw : (r.length != σ.headers.length) = true
      · simp only [hw, if_true, CG.run, hE.isEmptyLine, hE.ignoreEmpty, cgIf]
        by_cases he : (isEmptyLine r && cfg.ignoreEmpty) = true
        · simpa [he] using hskip
        · simp [he]
      · have hl : r.length = σ.headers.length := by simpa using hw
        simp only [hw, Bool.false_eq_true, if_false, acceptRow_run hE cur (r, false) { σ with fields := r } σ.headers hi' hl]
        by_cases he : (isEmptyLine r && cfg.ignoreEmpty) = true
        · simp only [he, if_true]
          exact hskip
        · simp only [he, Bool.false_eq_true, if_false]
          exact ih (r :: acc) (i + 1) _ ⟨rfl, hi.np, hi.nb, by simp [appendRow, hi.nc, hl]⟩
            (by simp [hc, appendRow_colsOf σ.headers.length acc.reverse r hl])

end Rows

/-! ## The map `dataMap` -/

section Ins
variable {δ : Type}

theorem cgInsert_eq (m : List (Bytes × δ)) (k : Bytes) (d : δ) : cgInsert m k d = ListFacts.assocInsert m k d := by
  induction m with
  | nil => rfl
  | cons e rest ih => rw [cgInsert, ListFacts.assocInsert, ih]

theorem cgInsert_new (m : List (Bytes × δ)) (k : Bytes) (d : δ) (h : k ∉ m.map (·.1)) : cgInsert m k d = m ++ [(k, d)] :=
  cgInsert_eq m k d ▸ ListFacts.assocInsert_new m k d h

end Ins

/-! ## The loop over the columns against the spec -/

/-- the map as the columns `New` receives -/
def viewMap (m : List (Bytes × Data)) : List (Bytes × LCol) := m.map (fun e => (e.1, e.2.toLCol e.1))

theorem viewMap_insert (m : List (Bytes × Data)) (h : Bytes) (d : Data) :
    viewMap (cgInsert m h d) = cgInsert (viewMap m) h (d.toLCol h) := by
  rw [cgInsert_eq, cgInsert_eq]; exact ListFacts.assocInsert_map (fun k (x : Data) => x.toLCol k) m h d

/-- the loop over the columns with the spec's `csvColumn` in place of `columnToData`, the enum declarations threaded as
`delete` does: `none` = an error -/
def dataLoopS (po : ParseOracle) (cfg : CsvCfg) : List Bytes → List (List Bytes) →
    List (Bytes × List Bytes) × List (Bytes × LCol) → Option (List (Bytes × List Bytes) × List (Bytes × LCol))
  | h :: hs, cs :: cells, st =>
    match specView (csvColumn po { cfg with enums := st.1 } h cs) with
    | none => none
    | some (c, deleted) =>
      dataLoopS po cfg hs cells (if deleted then st.1.filter (fun e => e.1 != h) else st.1, cgInsert st.2 h c)
  | _, _, st => some st

section Columns
variable {E : CGEnv Data} {po : ParseOracle} {cfg : CsvCfg} (hE : Implements E po cfg)
include hE

theorem data_loop (cells : List (List Bytes)) : ∀ (hs : List Bytes) (i : Nat) (σ : CGSt Data) (m : List (Bytes × Data)),
    σ.cells = cells → σ.dataMap = some m → i + hs.length ≤ cells.length →
    match dataLoopS po cfg hs (cells.drop i) (σ.enums, viewMap m) with
    | none => iterCG (fun i h τ => (CG.toData .retErr (.setData .done)).run E (some i) none { τ with header := h }) i hs σ = .retErr
    | some st => ∃ σ' m', iterCG (fun i h τ => (CG.toData .retErr (.setData .done)).run E (some i) none
          { τ with header := h }) i hs σ = .next σ' ∧ σ'.enums = st.1 ∧ σ'.dataMap = some m' ∧ viewMap m' = st.2 ∧
        σ'.headers = σ.headers := by
  intro hs
  induction hs with
  | nil => intro i σ m _ hm _; exact ⟨σ, m, rfl, rfl, hm, rfl, rfl⟩
  | cons h hs ih =>
    intro i σ m hc hm hle
    have hi : i < cells.length := by simp only [List.length_cons] at hle; omega
    have ht := hE.toData σ.enums h cells[i]
    rw [List.drop_eq_getElem_cons hi]
    simp only [dataLoopS]
    cases hx : E.toData σ.enums h cells[i] with
    | none => simp [hx] at ht
    | some x =>
      rw [hx] at ht
      simp only [Option.map_some, Option.some.injEq] at ht
      rw [← ht]
      cases x with
      | none => simp [iterCG, CG.run, hc, List.getElem?_eq_getElem hi, hx]
      | some dd =>
        obtain ⟨d, deleted⟩ := dd
        have hstep : (CG.toData .retErr (.setData .done)).run E (some i) none { σ with header := h } =
            .next { σ with header := h, data := some d, enums := if deleted then σ.enums.filter (fun e => e.1 != h) else σ.enums,
                           dataMap := some (cgInsert m h d) } := by
          simp [CG.run, hc, List.getElem?_eq_getElem hi, hx, hm]
        simp only [Option.map_some, iterCG, hstep]
        have := ih (i + 1) { σ with header := h, data := some d, enums := if deleted then σ.enums.filter (fun e => e.1 != h) else σ.enums,
                                    dataMap := some (cgInsert m h d) } (cgInsert m h d) hc rfl (by simp only [List.length_cons] at hle; omega)
        rw [List.drop_add_one_eq_tail_drop] at this
        simpa [viewMap_insert] using this

end Columns

/-! ## Threading the enum declarations makes no difference when the names are distinct -/

/-- `csvColumn` looks at the enum declarations only through the entry of its own name -/
theorem csvColumn_enums (po : ParseOracle) (cfg : CsvCfg) (en : List (Bytes × List Bytes)) (name : Bytes) (cells : List Bytes)
    (h1 : en.find? (·.1 == name) = cfg.enums.find? (·.1 == name))
    (h2 : en.any (·.1 == name) = cfg.enums.any (·.1 == name)) :
    csvColumn po { cfg with enums := en } name cells = csvColumn po cfg name cells := by
  unfold csvColumn
  simp only [h1, h2]

theorem find_filter_not (en : List (Bytes × List Bytes)) (D : List Bytes) (name : Bytes) (h : name ∉ D) :
    (en.filter (fun e => !D.contains e.1)).find? (·.1 == name) = en.find? (·.1 == name) ∧
    (en.filter (fun e => !D.contains e.1)).any (·.1 == name) = en.any (·.1 == name) := by
  have hp : ∀ e : Bytes × List Bytes, (!D.contains e.1 && e.1 == name) = (e.1 == name) := by
    intro e
    by_cases he : e.1 = name
    · simp [he, h]
    · simp [he]
  simp only [List.find?_filter, List.any_filter, ← Bool.and_eq_true, Bool.decide_eq_true, hp, and_self]

theorem filter_filter_ne (en : List (Bytes × List Bytes)) (D : List Bytes) (h : Bytes) :
    (en.filter (fun e => !D.contains e.1)).filter (fun e => e.1 != h) = en.filter (fun e => !(D ++ [h]).contains e.1) := by
  rw [List.filter_filter]
  apply List.filter_congr
  intro e _
  by_cases h1 : e.1 ∈ D <;> by_cases h2 : e.1 = h <;> simp [h1, h2]

/-- the names whose column consumed an enum declaration -/
def flagged {α : Type} (hs : List Bytes) (cols : List (α × Bool)) : List Bytes :=
  (List.zip hs cols).filterMap (fun x => if x.2.2 then some x.1 else none)

theorem flagged_cons {α : Type} (h : Bytes) (hs : List Bytes) (c : α) (deleted : Bool) (cols : List (α × Bool)) :
    flagged (h :: hs) ((c, deleted) :: cols) = (if deleted then [h] else []) ++ flagged hs cols := by
  cases deleted <;> rfl

/-- the spec's columns of the names `hs` over the cell lists `cells` -/
def specCols (po : ParseOracle) (cfg : CsvCfg) (hs : List Bytes) (cells : List (List Bytes)) : List (Option LCol × Bool) :=
  List.zipWith (csvColumn po cfg) hs cells

theorem renameDup_go_length (fuel : Nat) (firsts : List Bytes) : ∀ (l seen : List Bytes),
    (renameDup.go fuel seen firsts l).length = l.length := by
  intro l
  induction l with
  | nil => intro seen; simp [renameDup.go]
  | cons h rest ih =>
    intro seen
    rw [renameDup.go]
    split <;> simp [ih]

theorem renameDup_length (hs : List Bytes) : (renameDup hs).length = hs.length := by
  unfold renameDup
  exact renameDup_go_length _ _ _ _

/-- what `ReadCSV` returns, as `New` sees it: the names and the columns in the order of the map -/
def viewCsv (r : List (Bytes × Data) × List Bytes) : List Bytes × List LCol := (r.2, (viewMap r.1).map (·.2))

/-- the names after the alias and the renaming -/
def finalHeadersS (cfg : CsvCfg) (hs : List Bytes) : List Bytes :=
  let hs := if cfg.«alias».isEmpty then hs else hs.map (fun h => if h.isEmpty then cfg.«alias» else h)
  if cfg.rename then renameDup hs else hs

theorem finalHeadersS_length (cfg : CsvCfg) (hs : List Bytes) : (finalHeadersS cfg hs).length = hs.length := by
  unfold finalHeadersS
  by_cases ha : cfg.«alias».isEmpty = true <;> by_cases hr : cfg.rename = true <;> simp [ha, hr, renameDup_length]

theorem filterMap_fst_length (L : List (Option LCol × Bool)) (h : L.any (fun c => c.1.isNone) = false) :
    (L.filterMap (·.1)).length = L.length := by
  induction L with
  | nil => rfl
  | cons c L ih =>
    obtain ⟨col, flag⟩ := c
    cases col with
    | none => simp at h
    | some lc => simpa using ih (by simpa using h)

/-- declarations are left in the map iff not every declaration was used -/
theorem enums_left (enums : List (Bytes × List Bytes)) (U : List Bytes) :
    decide ((enums.filter (fun e => !U.contains e.1)).length > 0) = !(enums.all (fun e => U.contains e.1)) := by
  rw [Bool.eq_iff_iff]
  simp [List.length_filter_pos_iff]

/-- what the spec makes of its columns -/
def specOutcome (cfg : CsvCfg) (hs' : List Bytes) (L : List (Option LCol × Bool)) : Option (List Bytes × List LCol) :=
  if L.any (fun c => c.1.isNone) then none else
  if !(cfg.enums.all (fun e => (flagged hs' L).contains e.1)) then none else
  if hs'.eraseDups.length != hs'.length then none else
  some (hs', L.filterMap (·.1))

/-- **with distinct names the threaded loop is the spec's column by column**: `D` are the declarations consumed so far -/
theorem dataLoopS_nodup (po : ParseOracle) (cfg : CsvCfg) : ∀ (hs : List Bytes) (cells : List (List Bytes)) (D : List Bytes)
    (acc : List (Bytes × LCol)), hs.Nodup → (∀ h ∈ hs, h ∉ D ∧ h ∉ acc.map (·.1)) →
    dataLoopS po cfg hs cells (cfg.enums.filter (fun e => !D.contains e.1), acc) =
      if (specCols po cfg hs cells).any (fun c => c.1.isNone) then none
      else some (cfg.enums.filter (fun e => !(D ++ flagged hs (specCols po cfg hs cells)).contains e.1),
        acc ++ List.zip hs ((specCols po cfg hs cells).filterMap (·.1))) := by
  intro hs
  induction hs with
  | nil => intro cells D acc _ _; simp [dataLoopS, specCols, flagged]
  | cons h hs ih =>
    intro cells D acc hnd hfresh
    cases cells with
    | nil => simp [dataLoopS, specCols, flagged]
    | cons cs cells =>
      simp only [List.nodup_cons] at hnd
      obtain ⟨hD, hacc⟩ := hfresh h (List.mem_cons_self ..)
      have hf := find_filter_not cfg.enums D h hD
      obtain ⟨col, deleted, hcc⟩ : ∃ col deleted, csvColumn po cfg h cs = (col, deleted) := ⟨_, _, rfl⟩
      simp only [dataLoopS, csvColumn_enums po cfg _ h _ hf.1 hf.2, specCols, List.zipWith_cons_cons, List.any_cons, hcc]
      cases col with
      | none => simp [specView]
      | some c =>
        have hen : (if deleted = true then (cfg.enums.filter (fun e => !D.contains e.1)).filter (fun e => e.1 != h)
            else cfg.enums.filter (fun e => !D.contains e.1)) =
            cfg.enums.filter (fun e => !(D ++ if deleted then [h] else []).contains e.1) := by
          cases deleted
          · simp
          · exact filter_filter_ne cfg.enums D h
        have := ih cells (D ++ if deleted then [h] else []) (acc ++ [(h, c)]) hnd.2 (by
          intro x hx
          obtain ⟨h1, h2⟩ := hfresh x (List.mem_cons_of_mem _ hx)
          have hne : x ≠ h := fun e => hnd.1 (e ▸ hx)
          refine ⟨?_, by simpa [hne] using h2⟩
          cases deleted <;> simp [h1, hne])
        simp only [specCols] at this
        simp only [specView, Option.map_some, cgInsert_new acc h c hacc, hen, this, Option.isNone_some, Bool.false_or,
          flagged_cons, List.append_assoc]
        rfl

/-- whatever the names, the map gets the keys that `eraseDups` keeps of them (it runs the same insertion) -/
theorem dataLoopS_keys (po : ParseOracle) (cfg : CsvCfg) : ∀ (hs : List Bytes) (cells : List (List Bytes))
    (en en' : List (Bytes × List Bytes)) (acc m : List (Bytes × LCol)), hs.length ≤ cells.length →
    dataLoopS po cfg hs cells (en, acc) = some (en', m) →
    m.length = (List.eraseDupsBy.loop (· == ·) hs (acc.map (·.1)).reverse).length := by
  intro hs
  induction hs with
  | nil =>
    intro cells en en' acc m _ h
    simp only [dataLoopS, Option.some.injEq, Prod.mk.injEq] at h
    simp [← h.2, List.eraseDupsBy.loop]
  | cons h hs ih =>
    intro cells en en' acc m hle hres
    cases cells with
    | nil => simp at hle
    | cons cs cells =>
      unfold dataLoopS at hres
      cases hv : specView (csvColumn po { cfg with enums := en } h cs) with
      | none => rw [hv] at hres; simp at hres
      | some cd =>
        rw [hv] at hres
        rw [ih _ _ _ _ _ (by simpa using hle) hres, cgInsert_eq, ListFacts.assocInsert_eraseDups]

/-- what the code makes of the result of the loop over the columns -/
def goOutcome (hs' : List Bytes) (r : Option (List (Bytes × List Bytes) × List (Bytes × LCol))) : Option (List Bytes × List LCol) :=
  match r with
  | none => none
  | some (en, m) => if en.length > 0 then none else if hs'.length > m.length then none else some (hs', m.map (·.2))

/-- **the loop over the columns and the two checks after it, against the spec** -/
theorem outcome_eq (po : ParseOracle) (cfg : CsvCfg) (cells : List (List Bytes)) (hs' : List Bytes)
    (hcells : hs'.length ≤ cells.length) :
    goOutcome hs' (dataLoopS po cfg hs' cells (cfg.enums, [])) = specOutcome cfg hs' (specCols po cfg hs' cells) := by
  by_cases hnd : hs'.Nodup
  · have hN := dataLoopS_nodup po cfg hs' cells [] [] hnd (by simp)
    have hft : cfg.enums.filter (fun e => !([] : List Bytes).contains e.1) = cfg.enums := by simp
    simp only [hft, List.nil_append] at hN
    have hed : (hs'.eraseDups.length != hs'.length) = false :=
      Bool.eq_false_iff.2 fun h => (ListFacts.eraseDups_ne_iff hs').1 h hnd
    rw [hN]
    unfold specOutcome
    cases hany : (specCols po cfg hs' cells).any (fun c => c.1.isNone) with
    | true => rfl
    | false =>
      have hlen : ((specCols po cfg hs' cells).filterMap (·.1)).length = hs'.length := by
        rw [filterMap_fst_length _ hany]
        simp only [specCols, List.length_zipWith]
        omega
      have hl := enums_left cfg.enums (flagged hs' (specCols po cfg hs' cells))
      simp only [goOutcome, Bool.false_eq_true, if_false, hed, List.length_zip, hlen, Nat.min_self, Nat.lt_irrefl,
        List.map_snd_zip (Nat.le_of_eq hlen), ← hl, decide_eq_true_eq]
  · -- a name twice: an error on both sides
    have hed : (hs'.eraseDups.length != hs'.length) = true := (ListFacts.eraseDups_ne_iff hs').2 hnd
    have hspec : specOutcome cfg hs' (specCols po cfg hs' cells) = none := by
      simp only [specOutcome, hed, if_true, ite_self]
    rw [hspec]
    cases hy : dataLoopS po cfg hs' cells (cfg.enums, []) with
    | none => rfl
    | some st =>
      have hk : st.2.length = hs'.eraseDups.length := dataLoopS_keys po cfg hs' cells cfg.enums st.1 [] st.2 hcells hy
      have hlt : st.2.length < hs'.length := by
        have := (ListFacts.eraseDups_length hs').1
        have : hs'.eraseDups.length ≠ hs'.length := bne_iff_ne.1 hed
        omega
      simp only [goOutcome, hlt, if_true, ite_self]

/-! ## From the end of the record loop to the result -/

/-- the spec after the header: its rows, the final names, its columns over the columns of the rows, the three checks -/
def specTail (po : ParseOracle) (cfg : CsvCfg) (hs : List Bytes) (body : List (List Bytes)) : Option (List Bytes × List LCol × Nat) :=
  match readCsvS.rows cfg hs [] body with
  | none => none
  | some data =>
    (specOutcome cfg (finalHeadersS cfg hs) (specCols po cfg (finalHeadersS cfg hs) (colsOf hs.length data))).map
      (fun r => (r.1, r.2, data.length))

/-- what a run returns, as `New` sees it: `none` = no meaning, `some none` = an error -/
def outView : CGOut Data → Option (Option (List Bytes × List LCol))
  | .retOk m hs => some (some (viewCsv (m, hs)))
  | .retErr => some none
  | _ => none

theorem runReadCsv_view (E : CGEnv Data) (t : CG) :
    (runReadCsv E t).map (fun r => r.map viewCsv) = outView (t.run E none none {}) := by
  unfold runReadCsv outView
  cases t.run E none none {} <;> rfl

section Tail
variable {E : CGEnv Data} {po : ParseOracle} {cfg : CsvCfg} (hE : Implements E po cfg)
include hE

theorem dataBlock_run (σ : CGSt Data) (hcells : σ.headers.length ≤ σ.cells.length) :
    outView (dataBlock.run E none none σ) = some (specOutcome cfg σ.headers (specCols po cfg σ.headers σ.cells)) := by
  have hl := data_loop hE σ.cells σ.headers 0 { σ with dataMap := some [], enums := E.enums } [] rfl rfl (by simpa using hcells)
  have hv : viewMap ([] : List (Bytes × Data)) = [] := rfl
  simp only [hE.enums, List.drop_zero, hv] at hl
  rw [dataBlock_eq, ← outcome_eq po cfg σ.cells σ.headers hcells]
  simp only [hE.enums]
  cases hd : dataLoopS po cfg σ.headers σ.cells (cfg.enums, []) with
  | none => rw [hd] at hl; simp only [] at hl; rw [hl]; rfl
  | some st =>
    rw [hd] at hl
    obtain ⟨σ', m', h1, h2, h3, h4, h5⟩ := hl
    obtain ⟨en, mv⟩ := st
    simp only [] at h2 h4
    have hml : m'.length = mv.length := by rw [← h4]; simp [viewMap]
    rw [h1]
    simp only [CG.run, cgIf, h2, h3, h5, goOutcome, hml]
    by_cases ha : en.length > 0
    · simp [ha, outView]
    · by_cases hb : σ.headers.length > mv.length <;> simp [ha, hb, outView, viewCsv, h4]

theorem afterLoop_run (σ : CGSt Data) :
    afterLoop.run E none none σ =
      if E.finalErr then .retErr else dataBlock.run E none none { σ with headers := finalHeadersS cfg σ.headers } := by
  simp only [afterLoop, CG.run, cgIf, hE.«alias», hE.rename, finalHeadersS]
  cases E.finalErr with
  | true => rfl
  | false =>
    simp only [Bool.false_eq_true, if_false]
    cases cfg.«alias».isEmpty <;> cases cfg.rename <;> simp [hE.addAlias, hE.renameDup]

/-- **the term from the column pointers on**: an error when the reader fails (after the loop, or at a record), else what the
spec makes of the records that are left -/
theorem initBlock_run (σ : CGSt Data) :
    outView (initBlock.run E none none σ) =
      some (if E.finalErr || (E.records.drop σ.pos).any (·.2) then none
        else (specTail po cfg σ.headers ((E.records.drop σ.pos).map (·.1))).map (fun r => (r.1, r.2.1))) := by
  have hp := pointers_loop E none σ.headers.length σ.headers 0 { σ with nPointers := some σ.headers.length } rfl (by simp)
  rw [initBlock_eq, hp]
  simp only []
  rw [initBlock2_eq]
  have hinv : Inv ({ σ with nPointers := some σ.headers.length, nBytes := some σ.headers.length, cells := List.replicate σ.headers.length [], nonEmpty := 0 } : CGSt Data) σ.headers :=
    ⟨rfl, rfl, rfl, by simp⟩
  have hl := rows_loop hE none σ.headers (E.records.drop σ.pos) [] 0 _ hinv (by simp [colsOf_nil])
  simp only [] at hl ⊢
  unfold specTail
  cases hany : (E.records.drop σ.pos).any (·.2) with
  | true => rw [hany] at hl; simp only [if_true] at hl; rw [hl]; simp [outView]
  | false =>
    rw [hany] at hl
    simp only [Bool.false_eq_true, if_false] at hl
    cases hr : readCsvS.rows cfg σ.headers [] ((E.records.drop σ.pos).map (·.1)) with
    | none => rw [hr] at hl; simp only [] at hl; rw [hl]; simp [outView]
    | some data =>
      rw [hr] at hl
      obtain ⟨σ', h1, hi', hc'⟩ := hl
      rw [h1]
      simp only []
      rw [afterLoop_run hE]
      cases E.finalErr with
      | true => simp [outView]
      | false =>
        have hlen := finalHeadersS_length cfg σ.headers
        simp only [Bool.false_eq_true, if_false, Bool.false_or]
        rw [dataBlock_run hE _ (by simp [hc', colsOf, hlen, hi'.headers]), hi'.headers, hc']
        simp only [Option.map_map]
        cases specOutcome cfg (finalHeadersS cfg σ.headers) (specCols po cfg (finalHeadersS cfg σ.headers) (colsOf σ.headers.length data)) <;> rfl

end Tail

/-- **`csvGlueS` unfolded once**: the header (given, or the first record) and `specTail` -/
theorem csvGlueS_eq (po : ParseOracle) (cfg : CsvCfg) (recs : List (List Bytes)) :
    csvGlueS po cfg recs =
      match (if cfg.headers.isEmpty then (match recs with | [] => none | h :: rest => some (h, rest))
          else some (cfg.headers, recs) : Option (List Bytes × List (List Bytes))) with
      | none => none
      | some (hs, body) => specTail po cfg hs body := by
  unfold csvGlueS specTail
  simp only []
  generalize (if cfg.headers.isEmpty = true then _ else _ : Option (List Bytes × List (List Bytes))) = hdr
  cases hdr with
  | none => rfl
  | some hb =>
    obtain ⟨hs, body⟩ := hb
    simp only []
    cases readCsvS.rows cfg hs [] body with
    | none => rfl
    | some data =>
      have hcols : ∀ hs' : List Bytes, hs'.length = hs.length →
          (List.range hs'.length).map (fun i => csvColumn po cfg (hs'[i]!) (data.map (fun r => r[i]!))) =
            specCols po cfg hs' (colsOf hs.length data) := by
        intro hs' hlen
        apply List.ext_getElem
        · simp [specCols, colsOf, hlen]
        · intro i h1 h2
          have hi : i < hs'.length := by simpa using h1
          simp [specCols, colsOf, hi]
      have hfs : (if cfg.rename = true then renameDup (if cfg.«alias».isEmpty = true then hs
            else hs.map (fun h => if h.isEmpty then cfg.«alias» else h))
          else (if cfg.«alias».isEmpty = true then hs else hs.map (fun h => if h.isEmpty then cfg.«alias» else h))) =
          finalHeadersS cfg hs := rfl
      simp only [hfs, specOutcome, flagged, ← hcols (finalHeadersS cfg hs) (finalHeadersS_length cfg hs),
        apply_ite (Option.map _), Option.map_none, Option.map_some]

/-- what a result of `csvGlueS` was made of: the header `hs0` and the spec's rows `data` of the records after it, final names
of the same number, columns that all exist -/
theorem csvGlueS_some {po : ParseOracle} {cfg : CsvCfg} {recs : List (List Bytes)} {hs : List Bytes} {cols : List LCol} {n : Nat}
    (h : csvGlueS po cfg recs = some (hs, cols, n)) :
    ∃ hs0 body data, (if cfg.headers.isEmpty then recs = hs0 :: body else hs0 = cfg.headers ∧ body = recs) ∧
      readCsvS.rows cfg hs0 [] body = some data ∧ hs.length = hs0.length ∧ n = data.length ∧
      (specCols po cfg hs (colsOf hs0.length data)).any (fun c => c.1.isNone) = false ∧
      cols = (specCols po cfg hs (colsOf hs0.length data)).filterMap (·.1) := by
  rw [csvGlueS_eq] at h
  split at h
  · cases h
  · rename_i hs0 body heq
    refine ⟨hs0, body, ?_⟩
    have hhdr : if cfg.headers.isEmpty then recs = hs0 :: body else hs0 = cfg.headers ∧ body = recs := by
      split at heq
      · rename_i he
        rw [if_pos he]
        split at heq
        · cases heq
        · cases heq; rfl
      · rename_i he
        rw [if_neg he]
        cases heq
        exact ⟨rfl, rfl⟩
    unfold specTail at h
    cases hr : readCsvS.rows cfg hs0 [] body with
    | none => rw [hr] at h; cases h
    | some data =>
      rw [hr] at h
      have hl := finalHeadersS_length cfg hs0
      simp only [specOutcome, Option.map_eq_some_iff, Option.ite_none_left_eq_some, Option.some.injEq, Prod.mk.injEq,
        Prod.exists] at h
      obtain ⟨_, _, ⟨hany, _, _, rfl, rfl⟩, rfl, rfl, rfl⟩ := h
      exact ⟨data, hhdr, rfl, hl, rfl, Bool.eq_false_iff.2 hany, rfl⟩

/-- **The canonical term against the spec, for every script of the reader**: an error when the reader fails (after the loop,
or at a record after the header), else what `csvGlueS` makes of the fields of the records. -/
theorem canon_run {E : CGEnv Data} {po : ParseOracle} {cfg : CsvCfg} (hE : Implements E po cfg) :
    (runReadCsv E canonReadCsv).map (fun r => r.map viewCsv) =
      some (if E.finalErr || (E.records.drop (if cfg.headers.isEmpty then 1 else 0)).any (·.2) then none
        else (csvGlueS po cfg (E.records.map (·.1))).map (fun r => (r.1, r.2.1))) := by
  rw [runReadCsv_view, canonReadCsv, CG.run, CG.run, CG.run, hE.confHeaders, csvGlueS_eq]
  dsimp only
  cases hh : cfg.headers with
  | cons a b =>
    simp only [cgIf, List.length_cons, Nat.add_one_ne_zero, beq_iff_eq, if_false, List.isEmpty_cons, Bool.false_eq_true]
    rw [initBlock_run hE]
    rfl
  | nil =>
    simp only [cgIf, List.length_nil, beq_self_eq_true, if_true, List.isEmpty_nil]
    rw [headerBlock_run]
    cases hr : E.records with
    | nil => simp [outView]
    | cons r0 rest =>
      simp only [List.getElem?_cons_zero]
      rw [initBlock_run hE, hr]
      rfl

/-! ## Today's source -/

/-- **One statement for every script of the reader**, over today's helpers and today's `columnToData`: an error when the
reader fails (after the loop, or at a record after the header), else what the spec's `csvGlueS` makes of the fields. -/
theorem gen_csvglue_all (po : ParseOracle) (cfg : CsvCfg) (hintBig : Bool) (records : List (List Bytes × Bool))
    (finalErr : Bool) :
    (genReadCsv po cfg hintBig records finalErr).map (fun r => r.map viewCsv) =
      some (if finalErr || (records.drop (if cfg.headers.isEmpty then 1 else 0)).any (·.2) then none
        else (csvGlueS po cfg (records.map (·.1))).map (fun r => (r.1, r.2.1))) := by
  unfold genReadCsv
  rw [gen_csvglue_canon.2.2.2.2.2.1]
  exact canon_run (env_implements po cfg hintBig records finalErr)

/-- **The glue of `ReadCSV` of today's source against the spec.** For EVERY list of records the reader returns (no reader
error) and EVERY configuration (headers given or read from the first record, `IgnoreEmptyLines`, the alias for missing
names, `RenameDuplicateColumns`, declared types and enum values, `EmptyNull`, any `RowCountHint`), with today's
`isEmptyLine`, `addAliasToMissingColumnNames`, `renameDuplicateColumns` and `columnToData`: the function has a meaning; it
returns an error exactly when the spec's `csvGlueS` does (no header record, a row of the wrong width that is not an ignored
empty line, a column that cannot be built, an enum declaration no enum column used, two columns with the same name), and
otherwise exactly the spec's column names and columns (in the order of the names). No hypotheses. -/
theorem gen_csvglue_semantics (po : ParseOracle) (cfg : CsvCfg) (hintBig : Bool) (recs : List (List Bytes)) :
    (genReadCsv po cfg hintBig (recs.map (fun r => (r, false))) false).map (fun r => r.map viewCsv) =
      some ((csvGlueS po cfg recs).map (fun r => (r.1, r.2.1))) := by
  rw [gen_csvglue_all]
  have : ((recs.map (fun r => (r, false))).drop (if cfg.headers.isEmpty then 1 else 0)).any (·.2) = false := by
    rw [← List.map_drop, List.any_map]; exact List.any_eq_false.2 (fun _ _ => by simp)
  rw [this, List.map_map]
  simp [Function.comp_def]

/-- … hence, on the records the RFC 4180 scanner finds in a document, `ReadCSV` of internal/io returns what `readCsvS`
says, up to the check of the names and the row count that `New` adds (`readCsvS_eq`). -/
theorem gen_csvglue_refines_spec (po : ParseOracle) (cfg : CsvCfg) (hintBig : Bool) (doc : Bytes) :
    (genReadCsv po cfg hintBig ((rfcParse cfg.delim doc).map (fun r => (r, false))) false).map (fun r => r.map viewCsv) =
        some ((csvGlueS po cfg (rfcParse cfg.delim doc)).map (fun r => (r.1, r.2.1))) ∧
    readCsvS po cfg doc =
      match csvGlueS po cfg (rfcParse cfg.delim doc) with
      | none => .err
      | some (headers, cols, n) => if !(headers.all legalName) then .err else .ok { cols := cols, n := n } :=
  ⟨gen_csvglue_semantics po cfg hintBig _, readCsvS_eq po cfg doc⟩

/-! ## Reader errors (C15) -/

/-- **An error of the underlying reader is never swallowed**: when `r.Err()` is non-nil after the loop (the reader failed at
a row boundary or while the header was read), or non-nil at a record `Next` delivers after the header, `ReadCSV` returns an
error. -/
theorem gen_csvglue_faults (po : ParseOracle) (cfg : CsvCfg) (hintBig : Bool) (records : List (List Bytes × Bool))
    (finalErr : Bool)
    (h : finalErr = true ∨ ∃ r ∈ records.drop (if cfg.headers.isEmpty then 1 else 0), r.2 = true) :
    genReadCsv po cfg hintBig records finalErr = some none := by
  have hall := gen_csvglue_all po cfg hintBig records finalErr
  have hc : (finalErr || (records.drop (if cfg.headers.isEmpty then 1 else 0)).any (·.2)) = true := by
    rcases h with h | ⟨r, hr, hf⟩
    · simp [h]
    · simp only [Bool.or_eq_true, List.any_eq_true]; exact .inr ⟨r, hr, hf⟩
  rw [hc] at hall
  cases hg : genReadCsv po cfg hintBig records finalErr with
  | none => rw [hg] at hall; simp at hall
  | some x => cases x with
    | none => rfl
    | some y => rw [hg] at hall; simp at hall

/-! ## `ReadCSV` of the root package -/

/-- **`ReadCSV` of today's source**: the configuration is made of the options, `QFrame{Err: err}` is returned iff
`io.ReadCSV` fails, else `New(data, newqf.ColumnOrder(columns...))`. -/
theorem gen_readcsv_entry {α ρ : Type} (read : Option α) (new : α → ρ) (errFrame : ρ) :
    Gen.readCsvEntryAst.run read new errFrame false none =
      some (match read with
        | none => errFrame
        | some x => new x) := by
  rw [gen_csvglue_canon.2.2.2.2.2.2]
  cases read <;> rfl

/-- `fmt.Sprint` of a one-digit number -/
theorem decSprint_digit (n : Nat) (h : n < 10) : decSprint n = [UInt8.ofNat (48 + n)] := by
  unfold decSprint strBytes
  rw [Nat.toString_eq_repr, Nat.repr_eq_ofList_toDigits, ListFacts.toUTF8_toList_ofList, Nat.toDigits_of_lt_base h]
  simp [ListFacts.utf8EncodeChar_digitChar n h]

/-! ## Witnesses: the statements tell wrong glue apart -/

section Witnesses

private def na : Bytes := [97]
private def nb : Bytes := [98]
private def a0 : Bytes := [97, 48]
private def a1 : Bytes := [97, 49]

/-- the decimal digit: `fmt.Sprint(n)` for `n < 10` (`decSprint_digit`) -/
def dig (n : Nat) : Bytes := [UInt8.ofNat (48 + n)]

/-- `renameDuplicateColumns` made of the given term (counters below 10) -/
def renameW (t : CGR) (hs : List Bytes) : Option (List Bytes) :=
  match t.run dig (hs.length + 2) none { headers := hs } with
  | .ret hs' => some hs'
  | _ => none

/-- the canonical term on three equal names, and on a name that collides with a candidate -/
example : renameW canonRename [na, na, na] = some [na, a0, a1] ∧ renameW canonRename [na, na, a0] = some [na, a1, a0] := by
  decide

/-- **the counter starting at 1**: the first duplicate becomes `a1`; the canonical term (and the spec, `gen_rename_semantics`)
says `a0` -/
example : renameW (.newMap (.rangeHeaders firstsBody (.rangeHeaders
      (.lookupH (.ifOtherIndex (.zeroCounter (.incCounter (.forever pickBody .done))) .done)) .retHeaders))) [na, na] =
      some [na, a1] ∧
    renameW canonRename [na, na] = some [na, a0] := by decide

/-- a renamed name not entered in the map (`headersMap[headers[i]] = i` missing): the third `a` gets `a0` again -/
example : renameW (.newMap (.rangeHeaders firstsBody (.rangeHeaders
      (.lookupH (.ifOtherIndex (.zeroCounter (.forever (.bindCandidate (.lookupCandidate (.ifOk (.incCounter .done)
        (.setHeaderCandidate .brk) .done))) .done)) .done)) .retHeaders))) [na, na, na] = some [na, a0, a0] ∧
    renameW canonRename [na, na, na] = some [na, a0, a1] := by decide

/-- **the empty-line test on the wrong field** (`len(fields[1]) == 0`): a panic on a line of one field; and the test
without the field (`len(fields) == 1`): every line of one field counts as empty -/
example : (CGB.and (.lenIs 1) (.lenAtIs 1 0)).eval [[]] = none ∧ (CGB.lenIs 1).eval [na] = some true ∧
    Gen.isEmptyLineAst.eval [[]] = some true ∧ Gen.isEmptyLineAst.eval [na] = some false ∧ isEmptyLine [na] = false := by
  decide

/-- the alias written over every name (no `if name == ""`) -/
example : (match (CGA.rangeHeaders (.setAlias .done) .retHeaders).run nb none [na, []] with
      | .ret hs => some hs | _ => none) = some [nb, nb] ∧
    genAlias [na, []] nb = some [na, nb] := by decide

/-- what is observed of a result: the names, and type and cells of every column -/
inductive Obs where
  | noMeaning
  | error
  | ok (names : List Bytes) (cols : List (CType × List Cell))
  deriving DecidableEq, Repr

/-- `ReadCSV` made of the given term, over today's helpers and `columnToData`, on records without reader errors -/
def readW (t : CG) (cfg : CsvCfg) (recs : List (List Bytes)) : Obs :=
  match runReadCsv { env toy cfg false (recs.map (fun r => (r, false))) false with renameDup := renameW canonRename } t with
  | none => .noMeaning
  | some none => .error
  | some (some r) => .ok r.2 ((viewMap r.1).map (fun e => (e.2.ty, e.2.cells.toList)))

def specW (cfg : CsvCfg) (recs : List (List Bytes)) : Obs :=
  match csvGlueS toy cfg recs with
  | none => .error
  | some (hs, cols, _) => .ok hs (cols.map (fun c => (c.ty, c.cells.toList)))

/-- today's term and the spec on a small document with an empty line -/
example : readW canonReadCsv { ignoreEmpty := true } [[na, nb], [b1, bx], [[]], [b0, bx]] =
      .ok [na, nb] [(.int, [.int 1, .int 0]), (.string, [.str (some bx), .str (some bx)])] ∧
    specW { ignoreEmpty := true } [[na, nb], [b1, bx], [[]], [b0, bx]] =
      .ok [na, nb] [(.int, [.int 1, .int 0]), (.string, [.str (some bx), .str (some bx)])] := by decide

/-- **the row-length check dropped**: a short row is taken (the columns get different lengths); the spec says error -/
example : readW (.newReader (.headersFromConf (.ifNoHeaders headerBlock (.makePointers (.rangeHeaders (.setEmptyPointers .done)
      (.makeBytes (.initRow (.initNonEmpty (.forNext (.ifReaderErr .retErr (.incRow (.bindFields acceptRow))) afterLoop))))))))) {}
      [[na, nb], [b1]] = .ok [na, nb] [(.int, [.int 1]), (.undef, [])] ∧
    specW {} [[na, nb], [b1]] = .error ∧ readW canonReadCsv {} [[na, nb], [b1]] = .error := by decide

/-- the renaming before the alias: two missing names become `b` and `0` instead of `b` and `b0` -/
example : readW (.newReader (.headersFromConf (.ifNoHeaders headerBlock (.makePointers (.rangeHeaders (.setEmptyPointers .done)
      (.makeBytes (.initRow (.initNonEmpty (.forNext rowBody (.ifReaderErr .retErr (.ifRename (.applyRename .done)
        (.ifAlias (.applyAlias .done) dataBlock)))))))))))) { «rename» := true, «alias» := nb } [[[], []], [b1, b0]] =
      .ok [nb, [48]] [(.int, [.int 1]), (.int, [.int 0])] ∧
    readW canonReadCsv { «rename» := true, «alias» := nb } [[[], []], [b1, b0]] =
      .ok [nb, [98, 48]] [(.int, [.int 1]), (.int, [.int 0])] := by
  decide

/-- the check of the leftover enum declarations dropped: a declaration for a column that is no enum is accepted -/
example : readW (.newReader (.headersFromConf (.ifNoHeaders headerBlock (.makePointers (.rangeHeaders (.setEmptyPointers .done)
      (.makeBytes (.initRow (.initNonEmpty (.forNext rowBody (.ifReaderErr .retErr (.ifAlias (.applyAlias .done)
        (.ifRename (.applyRename .done) (.makeDataMap (.rangeHeadersData (.toData .retErr (.setData .done))
          (.ifFewerKeys (.buildDupMessage .retErr) .retOk))))))))))))))) { enums := [(na, [bx])] } [[na], [b1]] =
      .ok [na] [(.int, [.int 1])] ∧
    specW { enums := [(na, [bx])] } [[na], [b1]] = .error := by decide

end Witnesses

#print axioms decSprint_digit
#print axioms gen_csvglue_canon
#print axioms gen_csvglue_no_opaque
#print axioms gen_isEmptyLine_semantics
#print axioms gen_alias_semantics
#print axioms gen_rename_semantics
#print axioms gen_resize_identity
#print axioms canon_run
#print axioms gen_csvglue_all
#print axioms gen_csvglue_semantics
#print axioms gen_csvglue_refines_spec
#print axioms gen_csvglue_faults
#print axioms gen_readcsv_entry
#print axioms readCsvS_eq

end QF.Props.C12GlueGen
