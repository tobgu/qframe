import QF.Props.C19Sql
import QF.Props.C09ViewsGen
import QF.Gen.SqlWrite
/-!
# C19 (C15) — the write side of SQL of today's source does what `toSqlS` / `insertText` say (tie T1, by semantics)

`QF.Gen.escapeAst`, `QF.Gen.insertAst`, `QF.Gen.argBuilderClauses` / `argBuilderDefault`, `QF.Gen.columnNamesAst`,
`QF.Gen.toSqlAst` (regenerated on every run by go/cmd/extract/sqlwast.go) are `escape`, `Insert`, `NewArgBuilder` of
internal/io/sql and `QFrame.ColumnNames`, `QFrame.ToSQL` of qframe.go as programs of `QF.SqB`, `QF.SqAB`, `QF.SqCN`, `QF.SqT`
(QF/Core/SqExpr.lean). Their `run` functions are their Go meaning. This file proves, for the terms generated TODAY:

* `gen_sqlwrite_no_opaque`       — the five functions were found and translated completely
* `gen_sqlwrite_canon`           — the terms are the canonical ones (finite check, redone on every run)
* `gen_insert_semantics`         — for EVERY table name, column list, escape rune (0 included) and marker flag the
                                   regenerated `Insert` returns `insertTextGo`: the spec's `insertText` with Go's rune writer
                                   (`(*bytes.Buffer).WriteRune`: U+FFFD for surrogates and values above U+10FFFF)
* `gen_insert_semantics_partial` — … and that is the spec's `insertText` for every escape rune that is a Unicode scalar
                                   value (EXCLUDED: surrogates U+D800..U+DFFF and values above U+10FFFF, where the spec writes
                                   the generalized UTF-8 encoding and Go writes U+FFFD: `insert_spec_differs_on_surrogate`)
* `gen_columnnames_semantics`    — `ColumnNames()` is the list of the columns' names in order
* `gen_argbuilder_semantics`     — `NewArgBuilder` returns, for a column of each of the five types, the builder
                                   `(ix, i) ↦ c.View(ix).ItemAt(i)` of the column's package; for anything else `(nil, error)`
* `gen_tosql_of_views`           — `ToSQL` for ANY views that hand out the stored cell at `ix[i]` (`ItemAtOK`)
* `gen_tosql_semantics`          — with TODAY's views (`C09ViewsGen.gen_view_semantics`), for EVERY stored frame,
                                   configuration and scripted driver (`efail k`: `Exec` number `k` returns an error): a frame
                                   with an error makes no call and returns an error; otherwise the `Exec` calls are exactly the
                                   statements of `toSqlS` (text `insertTextGo`, arguments = the logical cells of the row: the
                                   cells the index selects) in order, cut after the first failing call, and an error is
                                   returned iff a call failed
* `gen_tosql_semantics_partial`  — … with the spec's statement text `insertText`, for escape runes that are Unicode scalar values
* `gen_tosql_fault` (C15)        — a failing `Exec` number `k`: exactly `k + 1` statements reached the driver, error returned
* `gen_tosql_unsupported`        — a column of no known type: the error of `NewArgBuilder` is returned before any `Exec`
-/
namespace QF.Props.C19SqlWriteGen
open QF QF.Props.C19Sql
open QF.Props.C03Compare (pkgOf tys)
attribute [local simp] SqB.run SqT.run SqCN.run

/-! ## The canonical programs -/

/-- `if char == 0 { buf.WriteString(s); return }; buf.WriteRune(char); buf.WriteString(s); buf.WriteRune(char)` -/
def canonEscape : SqB :=
  .ifRuneZero .charParam (.writeStr .strParam .ret)
    (.writeRune .charParam (.writeStr .strParam (.writeRune .charParam .done)))

/-- `if i+1 < len(colNames) { buf.WriteString(",") }` -/
def canonSep : SqB := .ifBefore 1 (.writeStr (.lit [44]) .done) .done

def canonNameBody : SqB := .callEscape .name .confEscape canonSep

def canonMarkBody : SqB := .ifIncr (.writeStr (.dollar 1) .done) (.writeStr (.lit [63]) .done) canonSep

def canonInsert : SqB :=
  .newBuf (.writeStr (.lit [73, 78, 83, 69, 82, 84, 32, 73, 78, 84, 79, 32]) (.callEscape .table .confEscape
    (.writeStr (.lit [32, 40]) (.forNames canonNameBody
      (.writeStr (.lit [41, 32, 86, 65, 76, 85, 69, 83, 32, 40]) (.forNames canonMarkBody
        (.writeStr (.lit [41, 59]) .retString)))))))

def canonSetName : SqCN := .setName .done

def canonColumnNames : SqCN := .alloc (.forCols canonSetName .ret)

def canonNewB : SqT := .newBuilder .done

def canonSetArg : SqT := .setArg .done

def canonExec : SqT := .exec .insertOfNames .done

def canonRowBody : SqT := .allocArgs (.forBuilders canonSetArg canonExec)

def canonToSQL : SqT :=
  .guardErr (.allocBuilders (.forCols canonNewB (.forRows canonRowBody .retNil)))

/-! ## Today's terms are the canonical ones (finite checks over `QF.Gen`, redone on every run) -/

theorem gen_sqlwrite_no_opaque :
    Gen.escapeAst.hasOpaque = false ∧ Gen.insertAst.hasOpaque = false ∧
    (∀ p ∈ Gen.argBuilderClauses, p.2.hasOpaque = false) ∧ Gen.argBuilderDefault.hasOpaque = false ∧
    Gen.columnNamesAst.hasOpaque = false ∧ Gen.toSqlAst.hasOpaque = false := by decide

/-- the clauses of the type switch are looked at through `lookup`: their order in the source does not matter -/
theorem gen_sqlwrite_canon :
    Gen.escapeAst = canonEscape ∧ Gen.insertAst = canonInsert ∧
    (∀ ty ∈ tys, Gen.argBuilderClauses.lookup (pkgOf ty) = some (.retBuilder .viewItemAt)) ∧
    (Gen.argBuilderClauses.map (·.1)).Nodup ∧ Gen.argBuilderClauses.length = 5 ∧
    Gen.argBuilderDefault = .retErr ∧
    Gen.columnNamesAst = canonColumnNames ∧ Gen.toSqlAst = canonToSQL := by decide

/-! ## `escape` -/

/-- the runes `WriteRune` writes as themselves: the Unicode scalar values -/
def validRune (r : Nat) : Bool := r < 0xD800 || (0xE000 ≤ r && r < 0x110000)

/-- `escapeIdent` with Go's rune writer: the identifier as it is for the rune 0, else wrapped in what `WriteRune` writes -/
def escapeGo (ch : Nat) (s : Bytes) : Bytes := if ch = 0 then s else goRuneBytes ch ++ s ++ goRuneBytes ch

theorem goRuneBytes_valid (r : Nat) (h : validRune r = true) : goRuneBytes r = Json.encodeRune r := by
  unfold goRuneBytes
  unfold validRune at h
  rw [if_pos h]

theorem escapeGo_eq (cfg : SqlCfg) (h : validRune cfg.escape = true) (s : Bytes) :
    escapeGo cfg.escape s = escapeIdent cfg s := by
  unfold escapeGo escapeIdent
  by_cases h0 : cfg.escape = 0
  · simp [h0]
  · have : (cfg.escape == 0) = false := by simpa using h0
    simp [h0, this, goRuneBytes_valid _ h]

/-- the canonical helper, on every string, rune and buffer -/
theorem canon_escape (s : Bytes) (ch : Nat) (buf : Bytes) :
    canonEscape.asEscape s ch buf = some (buf ++ escapeGo ch s) := by
  by_cases h : ch = 0
  · subst h
    simp [SqB.asEscape, canonEscape, SqRune.eval, SqSrc.eval, escapeGo]
  · simp [SqB.asEscape, canonEscape, SqRune.eval, SqSrc.eval, escapeGo, h]

/-! ## `Insert` -/

/-- the spec's `insertText` with Go's rune writer -/
def insertTextGo (cfg : SqlCfg) (names : List Bytes) : Bytes :=
  strBytes "INSERT INTO " ++ escapeGo cfg.escape cfg.table ++ strBytes " (" ++
  intercalateB [44] (names.map (escapeGo cfg.escape)) ++ strBytes ") VALUES (" ++
  intercalateB [44] (placeholders cfg names.length) ++ strBytes ");"

theorem insertTextGo_eq (cfg : SqlCfg) (h : validRune cfg.escape = true) (names : List Bytes) :
    insertTextGo cfg names = insertText cfg names := by
  rw [insertText_shape]
  unfold insertTextGo
  have : (fun s => escapeGo cfg.escape s) = escapeIdent cfg := by funext s; exact escapeGo_eq cfg h s
  rw [escapeGo_eq cfg h]
  show _ ++ intercalateB [44] (names.map (fun s => escapeGo cfg.escape s)) ++ _ ++ _ ++ _ = _
  rw [this]

def st (b : Bytes) : SqBSt := { buf := some b, ret := false, out := none }

/-- A loop over the names whose body appends `g (name, i)` and, in front of every further name, a comma: the buffer receives
the items joined by commas. -/
theorem sep_loop (E : SqBEnv) (body : SqB) (g : Bytes × Nat → Bytes)
    (hbody : ∀ i n b, body.run E (some (i, n)) (st b) =
      some (st (b ++ g (n, i) ++ if i + 1 < E.names.length then [44] else []))) :
    ∀ (rest pre : List Bytes) (b : Bytes), E.names = pre ++ rest →
      loopIdx (fun i n σ => body.run E (some (i, n)) σ) (fun σ => σ.ret) pre.length rest (st b) =
        some (st (b ++ intercalateB [44] ((rest.zipIdx pre.length).map g))) := by
  intro rest
  induction rest with
  | nil => intro pre b _; simp [loopIdx, intercalateB]
  | cons n ns ih =>
    intro pre b hsplit
    have hlen : E.names.length = pre.length + 1 + ns.length := by rw [hsplit]; simp; omega
    have := ih (pre ++ [n]) (b ++ g (n, pre.length) ++ if pre.length + 1 < E.names.length then [44] else [])
      (by simp [hsplit])
    rw [List.length_append, List.length_singleton] at this
    rw [loopIdx_cons _ _ _ _ _ _ rfl, hbody, Option.bind_some, this]
    cases ns with
    | nil =>
      have : ¬ (pre.length + 1 < E.names.length) := by rw [hlen]; simp
      simp [intercalateB, this]
    | cons m ms =>
      have : pre.length + 1 < E.names.length := by rw [hlen]; simp
      simp [intercalateB, this]

/-- the environment of `Insert(names, cfg)` with the helper `esc` -/
def insEnv (esc : SqB) (cfg : SqlCfg) (names : List Bytes) : SqBEnv :=
  { cfg := some cfg, names := names, esc := esc.asEscape }

/-- **The canonical `Insert`, all inputs**, for any helper that appends `escapeGo`. -/
theorem canon_insert (esc : SqB) (hesc : ∀ s ch b, esc.asEscape s ch b = some (b ++ escapeGo ch s))
    (cfg : SqlCfg) (names : List Bytes) :
    canonInsert.asInsert esc cfg names = some (insertTextGo cfg names) := by
  have hE : canonInsert.asInsert esc cfg names = (canonInsert.run (insEnv esc cfg names) none {}).bind (·.out) := rfl
  have hbody1 : ∀ i n b, canonNameBody.run (insEnv esc cfg names) (some (i, n)) (st b) =
      some (st (b ++ (escapeGo cfg.escape ∘ Prod.fst) (n, i) ++
        if i + 1 < (insEnv esc cfg names).names.length then [44] else [])) := by
    intro i n b
    by_cases h : i + 1 < names.length <;>
      simp [canonNameBody, canonSep, SqSrc.eval, SqRune.eval, insEnv, st, hesc, h]
  have hbody2 : ∀ i n b, canonMarkBody.run (insEnv esc cfg names) (some (i, n)) (st b) =
      some (st (b ++ ((fun i => if cfg.incrementing then strBytes ("$" ++ toString (i + 1)) else [63]) ∘ Prod.snd) (n, i) ++
        if i + 1 < (insEnv esc cfg names).names.length then [44] else [])) := by
    intro i n b
    by_cases h : i + 1 < names.length <;> cases hi : cfg.incrementing <;>
      simp [canonMarkBody, canonSep, SqSrc.eval, insEnv, st, strBytes_append, strBytes_dollar, h, hi]
  have l1 := fun b => sep_loop (insEnv esc cfg names) canonNameBody _ hbody1 names [] b rfl
  have l2 := fun b => sep_loop (insEnv esc cfg names) canonMarkBody _ hbody2 names [] b rfl
  simp only [List.length_nil, ← List.map_map, List.zipIdx_map_fst, List.zipIdx_map_snd, ← List.range_eq_range'] at l1 l2
  have t1 : strBytes "INSERT INTO " = [73, 78, 83, 69, 82, 84, 32, 73, 78, 84, 79, 32] := by decide +kernel
  have t2 : strBytes " (" = [32, 40] := by decide +kernel
  have t3 : strBytes ") VALUES (" = [41, 32, 86, 65, 76, 85, 69, 83, 32, 40] := by decide +kernel
  have t4 : strBytes ");" = [41, 59] := by decide +kernel
  rw [hE]
  unfold canonInsert
  simp only [SqB.run, SqSrc.eval, SqRune.eval]
  simp only [insEnv, Option.map_some, hesc]
  have l1' := l1 ([] ++ [73, 78, 83, 69, 82, 84, 32, 73, 78, 84, 79, 32] ++ escapeGo cfg.escape cfg.table ++ [32, 40])
  simp only [insEnv, st] at l1' l2
  rw [l1']
  simp only [Bool.false_eq_true, if_false]
  rw [l2]
  simp [insertTextGo, placeholders, t1, t2, t3, t4]

/-! ## Today's `escape` and `Insert` -/

/-- `escape(s, char, buf)` of today's source: the buffer afterwards -/
def genEscape (s : Bytes) (ch : Nat) (buf : Bytes) : Option Bytes := Gen.escapeAst.asEscape s ch buf

/-- `Insert(names, cfg)` of today's source -/
def genInsert (cfg : SqlCfg) (names : List Bytes) : Option Bytes := Gen.insertAst.asInsert Gen.escapeAst cfg names

/-- today's helper appends the identifier as it is for the rune 0, else wrapped in the rune -/
theorem gen_escape_semantics (s : Bytes) (ch : Nat) (buf : Bytes) : genEscape s ch buf = some (buf ++ escapeGo ch s) := by
  rw [genEscape, gen_sqlwrite_canon.1]
  exact canon_escape s ch buf

/-- **Today's `Insert` on ALL inputs**: every table name, every column list (the empty one included), every escape rune
(0: no escaping), both marker styles — `INSERT INTO <table> (<names>) VALUES (<markers>);` with table and names escaped,
names and markers separated by single commas, `?` or `$1 … $n` as markers. -/
theorem gen_insert_semantics (cfg : SqlCfg) (names : List Bytes) : genInsert cfg names = some (insertTextGo cfg names) := by
  rw [genInsert, gen_sqlwrite_canon.1, gen_sqlwrite_canon.2.1]
  exact canon_insert canonEscape canon_escape cfg names

/-- **Today's `Insert` is the spec's `insertText`** for every table name, column list, marker flag and every escape rune
that is a Unicode scalar value (0 included). EXCLUDED: the surrogates and values above U+10FFFF, where `WriteRune` writes
U+FFFD (`insert_spec_differs_on_surrogate`). -/
theorem gen_insert_semantics_partial (cfg : SqlCfg) (h : validRune cfg.escape = true) (names : List Bytes) :
    genInsert cfg names = some (insertText cfg names) := by
  rw [gen_insert_semantics, insertTextGo_eq cfg h]

/-- FINDING (spec): for the escape rune U+D800 the spec's text wraps the table name `t` in `ED A0 80`, Go's `WriteRune` in
`EF BF BD`. -/
theorem insert_spec_differs_on_surrogate :
    insertTextGo { escape := 0xD800, incrementing := false, table := [116] } [] =
      [73, 78, 83, 69, 82, 84, 32, 73, 78, 84, 79, 32, 0xEF, 0xBF, 0xBD, 116, 0xEF, 0xBF, 0xBD, 32, 40, 41, 32, 86, 65, 76, 85, 69, 83, 32, 40, 41, 59] ∧
    insertText { escape := 0xD800, incrementing := false, table := [116] } [] =
      [73, 78, 83, 69, 82, 84, 32, 73, 78, 84, 79, 32, 0xED, 0xA0, 0x80, 116, 0xED, 0xA0, 0x80, 32, 40, 41, 32, 86, 65, 76, 85, 69, 83, 32, 40, 41, 59] := by
  constructor <;> decide +kernel

/-! ## `ColumnNames` -/

/-- the canonical `ColumnNames`: the names in order -/
theorem canon_columnnames (names : List Bytes) : canonColumnNames.result names = some names := by
  have := loopIdx_fill (fun i n σ => canonSetName.run names (some (i, n)) σ) (fun σ => σ.ret)
    (fun _ l => ({ res := some l, ret := false } : SqCNSt)) id id (fun _ _ => rfl) names
    (fun _ _ _ _ A d R _ => by simp [canonSetName]) names [] (List.replicate names.length []) rfl (by simp)
  simp only [List.map_id, List.map_nil, List.nil_append, List.length_nil] at this
  simp [SqCN.result, canonColumnNames, this]

/-- `qf.ColumnNames()` of today's source on a frame whose columns are called `names` -/
def genColumnNames (names : List Bytes) : Option (List Bytes) := Gen.columnNamesAst.result names

/-- **`ColumnNames()` of today's source is the list of the columns' names in order.** -/
theorem gen_columnnames_semantics (names : List Bytes) : genColumnNames names = some names := by
  rw [genColumnNames, gen_sqlwrite_canon.2.2.2.2.2.2.1]
  exact canon_columnnames names

/-! ## `NewArgBuilder` -/

/-- `NewArgBuilder(c)` of today's source for a column of type `c.ty`; `itemAt pkg` is the meaning of
`c.View(ix).ItemAt(i)` in the package `pkg` -/
def genBuilder (itemAt : String → VCol → SqBuilder) (c : VCol) : Option (Option SqBuilder) :=
  SqAB.build Gen.argBuilderClauses Gen.argBuilderDefault (itemAt (pkgOf c.ty)) (pkgOf c.ty) c

/-- **`NewArgBuilder` of today's source**: for a column of each of the five types the builder is
`(ix, i) ↦ c.View(ix).ItemAt(i)` of the column's own package and no error; a column of no known type gets `(nil, error)`. -/
theorem gen_argbuilder_semantics (itemAt : String → VCol → SqBuilder) (c : VCol) :
    (c.ty ∈ tys → genBuilder itemAt c = some (some (itemAt (pkgOf c.ty) c))) ∧
    (c.ty = .undef → genBuilder itemAt c = some none) := by
  have hd : Gen.argBuilderClauses.lookup (pkgOf .undef) = none := by decide
  constructor
  · intro h
    simp [genBuilder, SqAB.build, gen_sqlwrite_canon.2.2.1 c.ty h]
  · intro h
    simp [genBuilder, SqAB.build, h, hd, gen_sqlwrite_canon.2.2.2.2.2.1]

/-! ## `ToSQL`: the meaning of the canonical program, once and for all -/

/-- the logical cell `i` of the stored column `c` under the index `ix` -/
def cellAt (c : VCol) (ix : List Nat) (i : Nat) : Cell := (c.logical ix).cells[i]!

/-- the environment does what the spec assumes -/
structure EnvOK (E : SqTEnv) (text : Bytes) (bld : VCol → SqBuilder) : Prop where
  names : E.colNames = some (E.P.cols.map (·.name))
  insert : E.insert E.cfg (E.P.cols.map (·.name)) = some text
  builder : ∀ c ∈ E.P.cols, E.builder c = some (some (bld c))
  item : ∀ c ∈ E.P.cols, ∀ i, i < E.P.index.length → bld c E.P.index i = some (cellAt c E.P.index i)

/-- the first loop: one builder per column -/
theorem canon_builders (E : SqTEnv) (text : Bytes) (bld : VCol → SqBuilder) (hE : EnvOK E text bld) (c : SqTCtx)
    (a : Option (List (Option Cell))) (e : List (Bytes × List Cell)) :
    loopIdx (fun i col σ => canonNewB.run E { c with col := some (i, col) } σ) (fun σ => σ.ret.isSome) 0 E.P.cols
        { builders := some (List.replicate E.P.cols.length none), args := a, execs := e, ret := none } =
      some { builders := some (E.P.cols.map (fun c => some (bld c))), args := a, execs := e, ret := none } := by
  have := loopIdx_fill (fun i col σ => canonNewB.run E { c with col := some (i, col) } σ) (fun σ => σ.ret.isSome)
    (fun _ l => ({ builders := some l, args := a, execs := e, ret := none } : SqTSt)) id (fun c => some (bld c))
    (fun _ _ => rfl) E.P.cols (fun _ x _ h A d R _ => by simp [canonNewB, hE.builder x (by rw [h]; simp)])
    E.P.cols [] (List.replicate E.P.cols.length none) rfl (by simp)
  simpa using this

/-- the loop over the builders in one round of the row loop: the arguments are the row's cells -/
theorem canon_args (E : SqTEnv) (text : Bytes) (bld : VCol → SqBuilder) (hE : EnvOK E text bld) (c : SqTCtx) (i : Nat)
    (hrow : c.row = some i) (hi : i < E.P.index.length) (B : Option (List (Option SqBuilder)))
    (e : List (Bytes × List Cell)) :
    loopIdx (fun j b σ => canonSetArg.run E { c with bld := some (j, b) } σ) (fun σ => σ.ret.isSome) 0
        (E.P.cols.map (fun c => some (bld c)))
        { builders := B, args := some (List.replicate E.P.cols.length none), execs := e, ret := none } =
      some { builders := B, args := some (E.P.cols.map (fun c => some (cellAt c E.P.index i))), execs := e, ret := none } := by
  have := loopIdx_fill (fun j b σ => canonSetArg.run E { c with bld := some (j, b) } σ) (fun σ => σ.ret.isSome)
    (fun _ l => ({ builders := B, args := some l, execs := e, ret := none } : SqTSt)) (fun c => some (bld c))
    (fun c => some (cellAt c E.P.index i)) (fun _ _ => rfl) E.P.cols
    (fun _ x _ h A d R _ => by simp [canonSetArg, hrow, hE.item x (by rw [h]; simp) i hi])
    E.P.cols [] (List.replicate E.P.cols.length none) rfl (by simp)
  simpa using this

theorem optMap_id_some {α β : Type} (f : α → β) (l : List α) : optMap id (l.map (fun a => some (f a))) = some (l.map f) := by
  rw [optMap_eq_mapM, ListFacts.mapM_map_comp]; exact ListFacts.mapM_eq_some_map f fun _ _ => rfl

/-- the statement of row `i`: text and arguments -/
def stmtOf (E : SqTEnv) (text : Bytes) (i : Nat) : Bytes × List Cell :=
  (text, E.P.cols.map (fun c => cellAt c E.P.index i))

/-- one round of the row loop: the arguments are built and handed to `Exec` -/
theorem canon_row (E : SqTEnv) (text : Bytes) (bld : VCol → SqBuilder) (hE : EnvOK E text bld) (i : Nat)
    (hi : i < E.P.index.length) (a : Option (List (Option Cell))) (w : List (Bytes × List Cell)) :
    canonRowBody.run E { row := some i }
        { builders := some (E.P.cols.map (fun c => some (bld c))), args := a, execs := w, ret := none } =
      some { builders := some (E.P.cols.map (fun c => some (bld c))),
             args := some (E.P.cols.map (fun c => some (cellAt c E.P.index i))),
             execs := w ++ [stmtOf E text i], ret := if E.efail w.length then some .execErr else none } := by
  have hargs := canon_args E text bld hE { row := some i } i rfl hi (some (E.P.cols.map (fun c => some (bld c)))) w
  unfold canonRowBody
  simp only [SqT.run]
  rw [hargs]
  simp only [Option.isSome_none, Bool.false_eq_true, if_false, canonExec, SqT.run, SqStmt.eval, hE.names,
    Option.bind_some, hE.insert, optMap_id_some]
  by_cases hf : E.efail w.length = true
  · simp [hf, stmtOf]
  · simp [hf, stmtOf]

/-- what `ToSQL` is to do: nothing but an error for a frame that carries one; else the statements in order, cut after the
first failing `Exec`, and an error iff one failed -/
def expected (hasErr : Bool) (efail : Nat → Bool) (stmts : List (Bytes × List Cell)) : List (Bytes × List Cell) × SqRet :=
  if hasErr then ([], .frameErr)
  else ((cutWrites efail 0 stmts).1, if (cutWrites efail 0 stmts).2 then .execErr else .nil)

/-- **The canonical program, all frames, all drivers.** -/
theorem canon_output (E : SqTEnv) (text : Bytes) (bld : VCol → SqBuilder) (hE : EnvOK E text bld) :
    canonToSQL.output E =
      some (expected E.hasErr E.efail ((List.range E.P.index.length).map (stmtOf E text))) := by
  unfold SqT.output canonToSQL expected
  by_cases herr : E.hasErr = true
  · simp [herr]
  · have hb := canon_builders E text bld hE {} none []
    simp only [SqT.run, herr, Bool.false_eq_true, if_false]
    rw [hb]
    simp only [Option.isSome_none, Bool.false_eq_true, if_false]
    -- the row loop: one `Exec` per row, until one of them fails
    obtain ⟨a', h1⟩ := loopIdx_writes _ SqTSt.ret E.efail
      (fun a w r => { builders := some (E.P.cols.map (fun c => some (bld c))), args := a, execs := w, ret := r })
      .execErr (stmtOf E text) (fun _ _ _ => rfl) (List.range E.P.index.length)
      (fun i hi _ a w => ⟨_, canon_row E text bld hE i (List.mem_range.1 hi) a w⟩) 0 none []
    rw [h1]
    simp only [List.length_nil, List.nil_append]
    by_cases hc : (cutWrites E.efail 0 ((List.range E.P.index.length).map (stmtOf E text))).2 = true
    · simp [hc]
    · simp [hc]

/-! ## Today's `ToSQL` -/

/-- the environment of today's source: `ColumnNames`, `Insert` (with its helper) and `NewArgBuilder` are the regenerated
ones; `itemAt pkg` is the meaning of `c.View(ix).ItemAt(i)` in the package `pkg` -/
def genEnv (itemAt : String → VCol → SqBuilder) (P : VFrame) (hasErr : Bool) (cfg : SqlCfg) (efail : Nat → Bool) : SqTEnv where
  P := P
  hasErr := hasErr
  cfg := cfg
  colNames := genColumnNames (P.cols.map (·.name))
  insert := genInsert
  builder := genBuilder itemAt
  efail := efail

/-- what a caller of today's `ToSQL` and the driver see: the `Exec` calls (text, arguments) and how the call returned -/
def genToSQL (itemAt : String → VCol → SqBuilder) (P : VFrame) (hasErr : Bool) (cfg : SqlCfg) (efail : Nat → Bool) :
    Option (List (Bytes × List Cell) × SqRet) :=
  Gen.toSqlAst.output (genEnv itemAt P hasErr cfg efail)

/-- the views hand out the stored cell at `ix[i]` (C09ViewsGen: `gen_view_semantics` proves it of today's views) -/
def ItemAtOK (itemAt : String → VCol → SqBuilder) (P : VFrame) : Prop :=
  ∀ c ∈ P.cols, ∀ i, i < P.index.length → itemAt (pkgOf c.ty) c P.index i = some (cellAt c P.index i)

theorem logical_names (P : VFrame) : P.logical.names = P.cols.map (·.name) := by
  simp [VFrame.logical, LFrame.names, VCol.logical, Function.comp_def]

theorem logical_row (P : VFrame) (i : Nat) : P.logical.row i = P.cols.map (fun c => cellAt c P.index i) := by
  simp [VFrame.logical, LFrame.row, cellAt, Function.comp_def]

/-- the statements of the spec with the statement text of `insertTextGo` -/
def toSqlGo (cfg : SqlCfg) (f : LFrame) : List (Bytes × List Cell) :=
  (List.range f.n).map (fun r => (insertTextGo cfg f.names, f.row r))

theorem toSqlGo_eq (cfg : SqlCfg) (h : validRune cfg.escape = true) (f : LFrame) : toSqlGo cfg f = toSqlS cfg f := by
  unfold toSqlGo toSqlS
  rw [insertTextGo_eq cfg h]

/-- **Today's `ToSQL`** on EVERY stored frame whose columns are of the five types, for every configuration and every scripted
driver (`efail k`: `Exec` number `k` returns an error), given views that hand out the stored cell at `ix[i]`:

* a frame that carries an error: no `Exec`, an error is returned;
* otherwise one `Exec` per row of the index, in order: the text is `Insert(names, cfg)` (`insertTextGo`), the arguments are
  the LOGICAL cells of the row — `data[index[i]]` of every column in column order: bool / int / float by value, string / enum
  as `*string` with nil for null (`Cell.str`) — exactly `toSqlS` of the logical frame;
* the first failing `Exec` ends the call: the calls up to and including it were made, and an error is returned; without a
  failing call nil is returned. -/
theorem gen_tosql_of_views (itemAt : String → VCol → SqBuilder) (P : VFrame) (hty : ∀ c ∈ P.cols, c.ty ∈ tys)
    (hitem : ItemAtOK itemAt P) (hasErr : Bool) (cfg : SqlCfg) (efail : Nat → Bool) :
    genToSQL itemAt P hasErr cfg efail = some (expected hasErr efail (toSqlGo cfg P.logical)) := by
  have hE : EnvOK (genEnv itemAt P hasErr cfg efail) (insertTextGo cfg (P.cols.map (·.name)))
      (fun c => itemAt (pkgOf c.ty) c) := by
    refine ⟨gen_columnnames_semantics _, gen_insert_semantics _ _, ?_, ?_⟩
    · intro c hc
      exact (gen_argbuilder_semantics itemAt c).1 (hty c hc)
    · intro c hc i hi
      exact hitem c hc i hi
  rw [genToSQL, gen_sqlwrite_canon.2.2.2.2.2.2.2, canon_output _ _ _ hE]
  have hs : (List.range (genEnv itemAt P hasErr cfg efail).P.index.length).map
        (stmtOf (genEnv itemAt P hasErr cfg efail) (insertTextGo cfg (P.cols.map (·.name)))) = toSqlGo cfg P.logical := by
    unfold toSqlGo stmtOf
    rw [logical_names]
    show (List.range P.index.length).map _ = (List.range P.index.length).map _
    apply List.map_congr_left
    intro i _
    rw [logical_row]
    rfl
  rw [hs]
  rfl

/-! ## Today's `ToSQL` with today's views -/

/-- `c.View(ix).ItemAt(i)` of today's source in the package `pkg` (C09ViewsGen) -/
def viewItemAt : String → VCol → SqBuilder :=
  fun pkg c ix i => C09ViewsGen.itemAtIn C09ViewsGen.genVwEnv (C09ViewsGen.genFns pkg) c ix i

/-- every column of the stored frame has cells of its type (one of the five), and the index stays inside the columns -/
def FrameOK (P : VFrame) : Prop := ∀ c ∈ P.cols, C09ViewsGen.ColOK c P.index

/-- today's views hand the builders the logical cells (`C09ViewsGen.gen_view_semantics`) -/
theorem viewItemAt_ok (P : VFrame) (h : FrameOK P) : ItemAtOK viewItemAt P := by
  intro c hc i hi
  have h1 := (C09ViewsGen.gen_view_semantics c P.index (h c hc)).1 i
  have hl : i < (c.pick P.index).length := by simpa [VCol.pick] using hi
  show C09ViewsGen.genItemAt c P.index i = _
  rw [h1, List.getElem?_eq_getElem hl]
  simp [cellAt, VCol.logical, hl]

/-- what a caller of today's `ToSQL` and the driver see, everything regenerated: `ToSQL`, `ColumnNames`, `Insert`, `escape`,
`NewArgBuilder`, and the views `View` / `ItemAt` with their helpers -/
def genToSQLToday (P : VFrame) (hasErr : Bool) (cfg : SqlCfg) (efail : Nat → Bool) :
    Option (List (Bytes × List Cell) × SqRet) :=
  genToSQL viewItemAt P hasErr cfg efail

/-- **Today's `ToSQL`, everything regenerated**, on EVERY stored frame (columns of the five types, cells of their column's
type, any index into the columns), every configuration and every scripted driver (`efail k`: `Exec` number `k` returns an
error):

* a frame that carries an error: no `Exec`, an error is returned;
* otherwise exactly the statements of `toSqlS` of the logical frame, in order — one `Exec` per row of the index; the text
  is `INSERT INTO <table> (<names>) VALUES (<markers>);` (`insertTextGo`: the spec's `insertText` with Go's rune writer); the
  arguments are the cells `data[index[i]]` of every column in column order: bool / int / float by value, string / enum as
  `*string` with nil for null (`Cell.str`);
* the first failing `Exec` ends the call: the calls up to and including it were made, and an error is returned; without a
  failing call nil is returned. -/
theorem gen_tosql_semantics (P : VFrame) (h : FrameOK P) (hasErr : Bool) (cfg : SqlCfg) (efail : Nat → Bool) :
    genToSQLToday P hasErr cfg efail = some (expected hasErr efail (toSqlGo cfg P.logical)) := by
  -- today's terms, checked here again so that a changed source is reported at this statement
  have _canon : Gen.toSqlAst = canonToSQL ∧ Gen.insertAst = canonInsert ∧ Gen.escapeAst = canonEscape ∧
      Gen.columnNamesAst = canonColumnNames ∧ Gen.argBuilderDefault = .retErr ∧
      (∀ ty ∈ tys, Gen.argBuilderClauses.lookup (pkgOf ty) = some (.retBuilder .viewItemAt)) := by decide
  have _views : C09ViewsGen.GenCanon := by unfold C09ViewsGen.GenCanon; decide
  exact gen_tosql_of_views viewItemAt P (fun c hc => (h c hc).ty) (viewItemAt_ok P h) hasErr cfg efail

/-- **Today's `ToSQL` against the spec's `toSqlS`**, for escape runes that are Unicode scalar values (0 included).
EXCLUDED: surrogates and values above U+10FFFF (`insert_spec_differs_on_surrogate`). -/
theorem gen_tosql_semantics_partial (P : VFrame) (h : FrameOK P) (hasErr : Bool) (cfg : SqlCfg)
    (hr : validRune cfg.escape = true) (efail : Nat → Bool) :
    genToSQLToday P hasErr cfg efail = some (expected hasErr efail (toSqlS cfg P.logical)) := by
  rw [gen_tosql_semantics P h, toSqlGo_eq cfg hr]

/-- with a driver that does not fail: exactly the statements of the spec, nil returned -/
theorem gen_tosql_all (P : VFrame) (h : FrameOK P) (cfg : SqlCfg) (hr : validRune cfg.escape = true) :
    genToSQLToday P false cfg (fun _ => false) = some (toSqlS cfg P.logical, .nil) := by
  rw [gen_tosql_semantics_partial P h false cfg hr]
  simp [expected, cutWrites_nofail _ (fun _ => rfl)]

/-- **The failing statement rule (C15).** `Exec` number `k` failing (of the `n` of a frame with `n` rows) ends `ToSQL` at
once: exactly the first `k + 1` statements were handed to the driver, and an error is returned. -/
theorem gen_tosql_fault (P : VFrame) (h : FrameOK P) (cfg : SqlCfg) (k : Nat) (hk : k < P.index.length) :
    genToSQLToday P false cfg (fun j => j == k) = some ((toSqlGo cfg P.logical).take (k + 1), .execErr) := by
  rw [gen_tosql_semantics P h]
  have hl : (toSqlGo cfg P.logical).length = P.index.length := by simp [toSqlGo, VFrame.logical]
  simp [expected, cutWrites_at (toSqlGo cfg P.logical) 0 k (Nat.zero_le _) (by rw [hl]; omega)]

/-- a frame that carries an error: `ToSQL` returns an error and the driver sees nothing -/
theorem gen_tosql_frame_error (P : VFrame) (h : FrameOK P) (cfg : SqlCfg) (efail : Nat → Bool) :
    genToSQLToday P true cfg efail = some ([], .frameErr) := by
  rw [gen_tosql_semantics P h]; rfl

/-- A column of no known type: `NewArgBuilder` returns an error, and `ToSQL` returns it without any `Exec`. -/
theorem gen_tosql_unsupported (itemAt : String → VCol → SqBuilder) (c : VCol) (hc : c.ty = .undef) (ix : List Nat)
    (cfg : SqlCfg) (efail : Nat → Bool) :
    genToSQL itemAt { cols := [c], index := ix } false cfg efail = some ([], .builderErr) := by
  have hb := (gen_argbuilder_semantics itemAt c).2 hc
  rw [genToSQL, gen_sqlwrite_canon.2.2.2.2.2.2.2]
  simp [SqT.output, canonToSQL, canonNewB, genEnv, loopIdx, hb]

/-! ## Witnesses: the statements tell wrong programs apart -/

def wCfg : SqlCfg := { escape := 34, incrementing := true, table := [116] }

/-- the canonical `Insert` term (today's, by `gen_sqlwrite_canon`) on table `t`, columns `a`, `b`, escape `"`, incrementing: `INSERT INTO "t" ("a","b") VALUES ($1,$2);` -/
example : canonInsert.asInsert canonEscape wCfg [[97], [98]] =
    some [73, 78, 83, 69, 82, 84, 32, 73, 78, 84, 79, 32, 34, 116, 34, 32, 40, 34, 97, 34, 44, 34, 98, 34, 41, 32, 86, 65, 76, 85, 69,
      83, 32, 40, 36, 49, 44, 36, 50, 41, 59] := by decide +kernel

/-- the separator test `i < len(colNames)` instead of `i+1 < len(colNames)` … -/
def sepAlways : SqB := .ifBefore 0 (.writeStr (.lit [44]) .done) .done

def insertSepAlways : SqB :=
  .newBuf (.writeStr (.lit [73, 78, 83, 69, 82, 84, 32, 73, 78, 84, 79, 32]) (.callEscape .table .confEscape
    (.writeStr (.lit [32, 40]) (.forNames (.callEscape .name .confEscape sepAlways)
      (.writeStr (.lit [41, 32, 86, 65, 76, 85, 69, 83, 32, 40]) (.forNames (.ifIncr (.writeStr (.dollar 1) .done) (.writeStr (.lit [63]) .done) sepAlways)
        (.writeStr (.lit [41, 59]) .retString)))))))

/-- … leaves a comma after the last name and the last marker: `INSERT INTO t (a,) VALUES (?,);` is not `insertText`. -/
example : insertSepAlways.asInsert canonEscape { escape := 0, incrementing := false, table := [116] } [[97]] =
      some [73, 78, 83, 69, 82, 84, 32, 73, 78, 84, 79, 32, 116, 32, 40, 97, 44, 41, 32, 86, 65, 76, 85, 69, 83, 32, 40, 63, 44, 41, 59] ∧
    insertText { escape := 0, incrementing := false, table := [116] } [[97]] =
      [73, 78, 83, 69, 82, 84, 32, 73, 78, 84, 79, 32, 116, 32, 40, 97, 41, 32, 86, 65, 76, 85, 69, 83, 32, 40, 63, 41, 59] := by
  constructor <;> decide +kernel

/-- `$%d` with `i` instead of `i+1` numbers the markers from 0: `VALUES ($0)`. -/
def insertDollarZero : SqB :=
  .newBuf (.writeStr (.lit [73, 78, 83, 69, 82, 84, 32, 73, 78, 84, 79, 32]) (.callEscape .table .confEscape
    (.writeStr (.lit [32, 40]) (.forNames canonNameBody
      (.writeStr (.lit [41, 32, 86, 65, 76, 85, 69, 83, 32, 40]) (.forNames (.ifIncr (.writeStr (.dollar 0) .done) (.writeStr (.lit [63]) .done) canonSep)
        (.writeStr (.lit [41, 59]) .retString)))))))

example : insertDollarZero.asInsert canonEscape { escape := 0, incrementing := true, table := [116] } [[97]] =
      some [73, 78, 83, 69, 82, 84, 32, 73, 78, 84, 79, 32, 116, 32, 40, 97, 41, 32, 86, 65, 76, 85, 69, 83, 32, 40, 36, 48, 41, 59] ∧
    insertText { escape := 0, incrementing := true, table := [116] } [[97]] =
      [73, 78, 83, 69, 82, 84, 32, 73, 78, 84, 79, 32, 116, 32, 40, 97, 41, 32, 86, 65, 76, 85, 69, 83, 32, 40, 36, 49, 41, 59] := by
  constructor <;> decide +kernel

/-- the escape applied to the table but not to the columns: `INSERT INTO "t" (a) …`. -/
def insertRawNames : SqB :=
  .newBuf (.writeStr (.lit [73, 78, 83, 69, 82, 84, 32, 73, 78, 84, 79, 32]) (.callEscape .table .confEscape
    (.writeStr (.lit [32, 40]) (.forNames (.writeStr .name canonSep)
      (.writeStr (.lit [41, 32, 86, 65, 76, 85, 69, 83, 32, 40]) (.forNames canonMarkBody
        (.writeStr (.lit [41, 59]) .retString)))))))

example : insertRawNames.asInsert canonEscape { escape := 34, incrementing := false, table := [116] } [[97]] =
      some [73, 78, 83, 69, 82, 84, 32, 73, 78, 84, 79, 32, 34, 116, 34, 32, 40, 97, 41, 32, 86, 65, 76, 85, 69, 83, 32, 40, 63, 41, 59] ∧
    insertText { escape := 34, incrementing := false, table := [116] } [[97]] =
      [73, 78, 83, 69, 82, 84, 32, 73, 78, 84, 79, 32, 34, 116, 34, 32, 40, 34, 97, 34, 41, 32, 86, 65, 76, 85, 69, 83, 32, 40, 63, 41, 59] := by
  constructor <;> decide +kernel

/-- the frame of the witnesses: three physical rows, the index picks rows 2 and 0 -/
def wFrame : VFrame :=
  { cols := [{ name := [97], ty := .int, data := #[.int 10, .int 11, .int 12] },
             { name := [98], ty := .string, data := #[.str (some [120]), .str none, .str none] }],
    index := [2, 0] }

/-- the view of the witnesses: the stored cell at `ix[i]` -/
def wItemAt : VCol → SqBuilder := fun c ix i => (ix[i]?).bind (fun j => c.data[j]?)

def wEnv (itemAt : VCol → SqBuilder) (efail : Nat → Bool) : SqTEnv :=
  { P := wFrame, hasErr := false, cfg := { escape := 0, incrementing := false, table := [116] },
    colNames := some [[97], [98]], insert := fun _ _ => some [83], builder := fun c => some (some (itemAt c)), efail := efail }

/-- the canonical program on the witness frame: rows 2 and 0, a null string as nil; with a failing first `Exec` only that
call is made -/
example : canonToSQL.output (wEnv wItemAt (fun _ => false)) =
      some ([([83], [.int 12, .str none]), ([83], [.int 10, .str (some [120])])], .nil) ∧
    canonToSQL.output (wEnv wItemAt (fun k => k == 0)) = some ([([83], [.int 12, .str none])], .execErr) := by
  constructor <;> decide +kernel

/-- `ToSQL` going on after a failed `Exec` (the error is not looked at): all statements reach the driver and nil is
returned, where today's code makes one call and returns the error. -/
def toSqlIgnoreErr : SqT :=
  .guardErr (.allocBuilders (.forCols canonNewB
    (.forRows (.allocArgs (.forBuilders canonSetArg (.execIgnore .insertOfNames .done))) .retNil)))

example : toSqlIgnoreErr.output (wEnv wItemAt (fun k => k == 0)) =
      some ([([83], [.int 12, .str none]), ([83], [.int 10, .str (some [120])])], .nil) ∧
    canonToSQL.output (wEnv wItemAt (fun k => k == 0)) = some ([([83], [.int 12, .str none])], .execErr) := by
  constructor <;> decide +kernel

/-- a view that reads `data[i]` instead of `data[index[i]]` hands rows 0 and 1 to the driver instead of rows 2 and 0 -/
def wItemAtRaw : VCol → SqBuilder := fun c ix i => if i < ix.length then c.data[i]? else none

example : canonToSQL.output (wEnv wItemAtRaw (fun _ => false)) =
      some ([([83], [.int 10, .str (some [120])]), ([83], [.int 11, .str none])], .nil) ∧
    toSqlS { escape := 0, incrementing := false, table := [116] } wFrame.logical =
      [(insertText { escape := 0, incrementing := false, table := [116] } [[97], [98]], [.int 12, .str none]),
       (insertText { escape := 0, incrementing := false, table := [116] } [[97], [98]], [.int 10, .str (some [120])])] := by
  constructor <;> decide +kernel

#print axioms gen_sqlwrite_no_opaque
#print axioms gen_sqlwrite_canon
#print axioms gen_escape_semantics
#print axioms gen_insert_semantics
#print axioms gen_insert_semantics_partial
#print axioms insert_spec_differs_on_surrogate
#print axioms gen_columnnames_semantics
#print axioms gen_argbuilder_semantics
#print axioms canon_output
#print axioms gen_tosql_of_views
#print axioms gen_tosql_semantics_partial
#print axioms gen_tosql_all
#print axioms gen_tosql_fault
#print axioms gen_tosql_unsupported
#print axioms gen_tosql_semantics
#print axioms gen_tosql_frame_error
#print axioms viewItemAt_ok

end QF.Props.C19SqlWriteGen
