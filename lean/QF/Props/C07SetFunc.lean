import QF.Gen.SetFunc
/-!
# C07 — the gate keeper of user functions files every function under its operand type (regenerated)

`Gen.setFuncTable` is read off the type switch of `Context.SetFunc` in today's source (go/cmd/extract/sfast.go), with the
wiring of `setFunc` and the fields `GetFunc` reads. Eval looks a function up under the *column's* type and the number of
operands (`getFunc` in expression.go → `ctx.GetFunc(typ, ac, name)`, regenerated in `C07EvalGen`); so a user function is
found for the columns it can be applied to exactly when the table files it under the kind of its own parameters and their
number, `setFunc` stores it there, and `GetFunc` reads the same place. These are finite statements about today's table.
-/
namespace QF.Props.C07SetFunc
open QF

def typeOf : String → Option String
  | "int" => some "FunctionTypeInt"
  | "float" => some "FunctionTypeFloat"
  | "bool" => some "FunctionTypeBool"
  | "string" => some "FunctionTypeString"
  | _ => none

def countOf : Nat → Option String
  | 1 => some "ArgCountOne"
  | 2 => some "ArgCountTwo"
  | _ => none

/-- an entry is filed correctly: all parameters of one kind, that kind's function type, the parameter count -/
def entryOk (e : List String × String × String × String) : Bool :=
  match e with
  | (ps, r, ac, ty) =>
    match ps.head? with
    | none => false
    | some k => ps.all (· == k) && typeOf k == some ty && countOf ps.length == some ac && (typeOf r).isSome

/-- no text the translator did not understand: every word of the generated data is one of the words it emits for
understood code (anything else is printed as `opaque:<source text>`) -/
def vocabulary : List String :=
  ["int", "float", "bool", "string", "ArgCountOne", "ArgCountTwo", "FunctionTypeInt", "FunctionTypeFloat", "FunctionTypeBool",
   "FunctionTypeString", "typ<-typVar", "typ<-acVar", "ac<-acVar", "ac<-typVar", "name<-nameParam", "name<-fnParam", "fn<-fnParam",
   "fn<-nameParam", "ArgCountOne:field0", "ArgCountOne:field1", "ArgCountTwo:field0", "ArgCountTwo:field1", "else:field0", "else:field1"]

theorem gen_setfunc_no_opaque :
    (Gen.setFuncTable.all (fun e => e.1.all vocabulary.contains && vocabulary.contains e.2.1 && vocabulary.contains e.2.2.1 && vocabulary.contains e.2.2.2)
      && Gen.setFuncWiring.all vocabulary.contains && Gen.setFuncStore.all vocabulary.contains
      && Gen.getFuncLoad.all vocabulary.contains) = true := by decide +kernel

/-- **every accepted signature is filed under the kind and number of its own parameters** -/
theorem gen_setfunc_files_by_operand : Gen.setFuncTable.all entryOk = true := by decide +kernel

/-- the signatures Eval can apply (Apply1/Apply2 of the column packages accept exactly these: one operand to any of the four
result kinds, two operands to the same kind) are all accepted: 4 kinds × (4 one-operand + 1 two-operand) -/
def wanted : List (List String × String) :=
  ["int", "float", "bool", "string"].flatMap fun k =>
    ([k, k], k) :: ["int", "float", "bool", "string"].map fun r => ([k], r)

theorem gen_setfunc_complete : wanted.all (fun w => Gen.setFuncTable.any (fun e => e.1 == w.1 && e.2.1 == w.2)) = true := by decide +kernel

/-- … and nothing else is (no signature is listed twice, none outside `wanted`) -/
theorem gen_setfunc_exact :
    (Gen.setFuncTable.all (fun e => wanted.any (fun w => e.1 == w.1 && e.2.1 == w.2)) && Gen.setFuncTable.length == wanted.length) = true := by decide +kernel

/-- whatever is not in the table is refused with an error -/
theorem gen_setfunc_default_is_error : Gen.setFuncDefaultIsError = true := by decide +kernel

/-- `SetFunc` hands type, count, name and function to the parameters of `setFunc` that play these roles -/
theorem gen_setfunc_wiring : Gen.setFuncWiring = ["typ<-typVar", "ac<-acVar", "name<-nameParam", "fn<-fnParam"] := by decide +kernel

/-- `GetFunc` reads, per argument count, the field `setFunc` writes, and the two counts use different fields -/
theorem gen_setfunc_store_load :
    Gen.setFuncStore = Gen.getFuncLoad ∧ Gen.setFuncStore = ["ArgCountOne:field0", "else:field1"] := by decide +kernel

/-- the `(typ, ac)` under which `setFunc` files a function of signature `ps → r` -/
def filedUnder (ps : List String) (r : String) : Option (String × String) :=
  (Gen.setFuncTable.find? (fun e => e.1 == ps && e.2.1 == r)).map (fun e => (e.2.2.2, e.2.2.1))

/-- A function registered with signature `ps → r` is found by a look-up under `(typ, ac)` iff `typ` is the kind of its
operands and `ac` their number. -/
theorem gen_setfunc_lookup (k r : String) (hk : k ∈ ["int", "float", "bool", "string"]) (hr : r ∈ ["int", "float", "bool", "string"]) :
    filedUnder [k] r = (typeOf k).map (fun t => (t, "ArgCountOne")) ∧
    filedUnder [k, k] k = (typeOf k).map (fun t => (t, "ArgCountTwo")) := by
  simp only [List.mem_cons, List.not_mem_nil, or_false] at hk hr
  rcases hk with rfl | rfl | rfl | rfl <;> rcases hr with rfl | rfl | rfl | rfl <;> decide

/-! Witnesses: the transposition of seed C07-8 (`func(int) bool` filed under Bool, `func(bool) int` under Int) and a
count slip violate `entryOk`. -/
example : entryOk (["int"], "bool", "ArgCountOne", "FunctionTypeBool") = false := by decide
example : entryOk (["bool"], "int", "ArgCountOne", "FunctionTypeInt") = false := by decide
example : entryOk (["int", "int"], "int", "ArgCountOne", "FunctionTypeInt") = false := by decide
example : entryOk (["int"], "bool", "ArgCountOne", "FunctionTypeInt") = true := by decide

end QF.Props.C07SetFunc
