import QF.Props.C01Ops
import QF.Props.C08ProjectGen
import QF.Props.C06FApplyGen
import QF.Props.C17EnumRestGen
import QF.Props.C04LoopsGen
import QF.Props.C04GlueGen
import QF.Props.C01FreshCL
import QF.Props.C01FreshGL
/-!
# C01 — persistence from the REGENERATED operations

`QF.Props.C01Ops` proves the ownership discipline (`H.Prog.OwnWrites`: a program writes only arrays it allocated) for nine
HAND-WRITTEN operation models. This file derives the same statement, on the same store type (`H.Store`, `H.Prog`), for the
runs of the terms the translator regenerates from today's Go source, from the write accounting those runs already carry:

| family (term, interpreter)                                                       | accounting used                                   |
|----------------------------------------------------------------------------------|---------------------------------------------------|
| `Slice` `Select` `Drop` `Copy` `setColumn` `Sort` `Distinct` — whole operations, guard chain included (`genFull`), and the functions of internal/index (`Int.Copy`, `Int.Filter`, `NewAscending`, `NewBool`, the two `Len`, `grouper.Distinct`) — `QF.PF`, `PF.run` | the log of writes `List Wr` and the heap before / after: `C08ProjectGen.run_persistent` (from the static check `PF.ownOnly`) |
| the built-in `ToUpper` of string columns — `SUFn.run`                            | `SUOut.writes`, `shared`, `ptrsFresh`, `dataFresh`: `C06FApplyGen.gen_supper_semantics` |
| the built-in `ToUpper` of enum columns — `EUFn.run`                              | `EUOut.writes`, `dataShared`: `C06FApplyGen.gen_eupper_semantics` |
| `ecolumn.Subset` — `SS.run`                                                      | `SubOut.freshCells`: `C17EnumRestGen.gen_enum_subset_semantics` |
| the loops of `Apply1` / `Apply2` (five column packages) and `apply0` — `LFn.run`  | static check `writesOnlyFresh` (no part of the term is opaque: the only storing statement of the language is `result[slot] = rhs` into the `make` of the same loop; the interpreter cannot change its inputs): `C06LoopsGen.gen_loops_no_opaque` |

| `Filter` (clause evaluation, `QF.CL`), `GroupBy` and the table of `Distinct` (`QF.GL`, glue `QF.GG`) — value-semantics interpreters | static check `C01FreshCL.writesOnlyFresh` / `C01FreshGL.writesOnlyFresh` (provenance: every store targets an array / table made in the same run, or the table owned by the call); today's terms pass by `decide`. The program of such a run is DEFINED from the verdict (`freshEff`); `tagExec_sound` (a term that passes has a ghost run that counts no store on an untagged target) is a separate theorem about the check, used by no proof here |
| `Aggregate` (`QF.LGFn`, `QF.LGTail`, `QF.GG.AT`), `FilteredApply` / `WithRowNums` (`QF.FAStm`) — languages of shapes | "no opaque part" (+ `alloc` in front of the loops): every storing construct makes its own target |

## The simulation

A run of a regenerated term is turned into an `H.Prog` by `Eff.prog`: an EFFECT SUMMARY (`Eff`) lists, in order, the arrays
that existed and are read, the arrays the run allocated, and every write — `Act.writeNew k` into the `k`-th array the run
allocated itself, `Act.writeOld id` into an array that existed when it started. The summary of a run is computed FROM THE
RUN'S OWN OUTCOME (heap before, heap after, write log / write counter), not from a second reading of the source; where an
existing array lives in the store is a parameter (`Dir`), what a typed array looks like as a list of numbers is a parameter
(`Enc`) — as in C01Ops, values are abstract, the statement is about which arrays are read, allocated and written.

* `Eff.own`            : a summary without `writeOld` gives a program with `OwnWrites base` for every `base`;
* `Eff.not_own`        : a summary with a `writeOld id`, `id < base`, gives a program that is NOT `OwnWrites base`;
* `gen_project_own_writes`, `gen_index_own_writes`, `gen_supper_own_writes`, `gen_eupper_own_writes`,
  `gen_subset_own_writes`, `gen_apply_loops_own_writes`, `gen_run_own_writes` : the regenerated runs obey the discipline;
* `gen_any_history_persistent` : `H.history_persistent` instantiated — any history of regenerated runs (each started from any
  heap, with any arguments) leaves every array of the initial store as it was;
* `gen_history_observation_kept` : the same on the typed heap of `QF.PF` — after any history of regenerated whole operations
  every array that existed is unchanged and every well-formed earlier frame observes (`PFrame.abs`, column list, index,
  look-ups) exactly what it observed; `gen_history_observation_kept_from` for frames made in the middle of the history;
* `gen_filter_own_writes`, `gen_groupBy_own_writes`, `gen_distinct_table_own_writes`, `gen_aggregate_own_writes`,
  `gen_fapply_own_writes` : the same for the families with value-semantics interpreters (section "The families whose
  interpreters compute on VALUES"); with them `GRun` covers EVERY public operation and `gen_any_history_persistent` is the
  full statement. The programs of these families are `freshEff … ok …` with `ok` the verdict of the static check: each of
  these theorems says that today's terms pass it.
* `any_history_persistent_partial` : histories that MIX regenerated runs with the hand models of C01Ops (`AnyOp`).
* witnesses: `append` onto the shared column list in `setColumn`, sorting the receiver's index in place, `newData :=
  s.data[:0]` in the enum `toUpper`, `newPtrs := s.pointers` in the string one, an in-place `Apply1` — each fails the static
  check / the counter AND its program is not `OwnWrites`.
-/
namespace QF.Props.C01GenOps
open H QF QF.Props.C01 QF.Props.C08ProjectGen

/-! ## Effect summaries and their programs -/

/-- one storage action of a run -/
inductive Act where
  /-- an array is read -/
  | read (id : Id)
  /-- an array is allocated -/
  | alloc (init : Arr)
  /-- a write into the `k`-th array this run allocated -/
  | writeNew (k : Nat) (v : Arr)
  /-- a write into an array that existed when the run started (absolute id) -/
  | writeOld (id : Id) (v : Arr)
  deriving Repr, DecidableEq

def Act.fresh : Act → Bool
  | .writeOld _ _ => false
  | _ => true

/-- the program of a list of actions; `ids`: the arrays allocated so far -/
def actsProg : List Act → List Id → Prog Unit
  | [], _ => .ret ()
  | .read id :: as, ids => .read id fun _ => actsProg as ids
  | .alloc init :: as, ids => .alloc init fun id => actsProg as (ids ++ [id])
  | .writeNew k v :: as, ids =>
    match ids[k]? with
    | some id => .write id v (actsProg as ids)
    | none => actsProg as ids
  | .writeOld id v :: as, ids => .write id v (actsProg as ids)

/-- What `actsProg` owns, exactly: its writes into arrays that existed lie at or above `base`. `Eff.own` and `Eff.not_own`
below are the two directions read on a summary. -/
theorem actsProg_own_iff (base : Nat) (as : List Act) (ids : List Id) (hi : ∀ id ∈ ids, base ≤ id) :
    (actsProg as ids).OwnWrites base ↔ ∀ id v, Act.writeOld id v ∈ as → base ≤ id := by
  induction as generalizing ids with
  | nil => exact ⟨fun _ _ _ h => (nomatch h), fun _ => trivial⟩
  | cons a as ih =>
    have hi' : ∀ id, base ≤ id → ∀ x ∈ ids ++ [id], base ≤ x := fun id hid x hx => by
      rcases List.mem_append.1 hx with h | h
      · exact hi x h
      · rw [List.mem_singleton.1 h]; exact hid
    cases a with
    | read r =>
      simp only [actsProg, Prog.OwnWrites, ih ids hi, List.mem_cons, reduceCtorEq, false_or, forall_const]
    | alloc init =>
      simp only [actsProg, Prog.OwnWrites, List.mem_cons, reduceCtorEq, false_or]
      -- `→`: the allocation may return `base` itself
      exact ⟨fun h => (ih _ (hi' base (Nat.le_refl _))).1 (h base (Nat.le_refl _)), fun h id hid => (ih _ (hi' id hid)).2 h⟩
    | writeNew k v =>
      simp only [actsProg, List.mem_cons, reduceCtorEq, false_or]
      split
      · rename_i id hk
        simp only [Prog.OwnWrites, ih ids hi, hi id (List.mem_of_getElem? hk), true_and]
      · exact ih ids hi
    | writeOld r w =>
      simp only [actsProg, Prog.OwnWrites, ih ids hi, List.mem_cons, Act.writeOld.injEq]
      exact ⟨fun h id v hm => hm.elim (fun e => e.1 ▸ h.1) (h.2 id v),
        fun h => ⟨h r w (.inl ⟨rfl, rfl⟩), fun id v hm => h id v (.inr hm)⟩⟩

/-- What a run does to storage: the existing arrays it reads, then — given what it read — its allocations and writes. -/
structure Eff where
  reads : List Id
  acts : List Arr → List Act

def Eff.prog (e : Eff) : Prog Unit := readAll e.reads fun ds => actsProg (e.acts ds) []

/-- no write into an array that existed -/
def Eff.Fresh (e : Eff) : Prop := ∀ ds, ∀ a ∈ e.acts ds, a.fresh = true

/-- **Soundness of the summary.** A run whose summary has no write into an existing array writes only arrays it allocated. -/
theorem Eff.own (e : Eff) (h : e.Fresh) : ∀ base, e.prog.OwnWrites base := fun base =>
  readAll_own base _ _ fun ds => (actsProg_own_iff base _ [] (by simp)).2 fun id v hm => nomatch h ds _ hm

/-- `Fresh` as a Boolean: for a summary given by its elements this computes -/
theorem Eff.fresh_of_all (e : Eff) (h : ∀ ds, (e.acts ds).all Act.fresh = true) : e.Fresh :=
  fun ds => List.all_eq_true.1 (h ds)

/- `Eff.own` and the theorems `gen_*_own_writes` below are applied as `@thm …`: about a concrete program, `p.OwnWrites base` computes
to a chain of `∀`, and the application elaborator, which in implicit mode looks for optional parameters behind the last argument,
would reduce all of it — the static checks inside the program included. -/

theorem readAll_own_inv {α : Type} (base : Nat) (cs : List Id) (k : List Arr → Prog α)
    (h : (readAll cs k).OwnWrites base) : ∃ ds, (k ds).OwnWrites base := by
  induction cs generalizing k with
  | nil => exact ⟨[], h⟩
  | cons c cs ih =>
    obtain ⟨ds, hd⟩ := ih (fun ds => k ([] :: ds)) (h [])
    exact ⟨[] :: ds, hd⟩

/-- a summary that always contains a write into an array below `base` gives a program outside the discipline -/
theorem Eff.not_own_of_mem (e : Eff) (base : Nat)
    (h : ∀ ds, ∃ id v, Act.writeOld id v ∈ e.acts ds ∧ id < base) : ¬ e.prog.OwnWrites base := by
  intro ho
  obtain ⟨ds, hd⟩ := readAll_own_inv base _ _ ho
  obtain ⟨id, v, hm, hlt⟩ := h ds
  exact Nat.lt_irrefl _ (Nat.lt_of_lt_of_le hlt ((actsProg_own_iff base _ [] (by simp)).1 hd id v hm))

/-- **Completeness of the summary**: a summary that always contains a write into an array below `base` gives a program
outside the discipline. -/
theorem Eff.not_own (e : Eff) (base : Nat)
    (h : ∀ ds, ∃ pre post id v, e.acts ds = pre ++ .writeOld id v :: post ∧ id < base) : ¬ e.prog.OwnWrites base :=
  Eff.not_own_of_mem e base fun ds =>
    let ⟨_, _, id, v, he, hlt⟩ := h ds
    ⟨id, v, he ▸ List.mem_append_right _ List.mem_cons_self, hlt⟩

/-! ## Where typed arrays live in the store, and what they look like there -/

/-- what an array of each type looks like as a list of numbers (values are abstract: any functions) -/
structure Enc where
  cols : List NCol → Arr
  map : List (Bytes × NCol) → Arr
  ptrs : List BPtr → Arr
  bytes : Bytes → Arr
  strs : List Bytes → Arr
  cells : List Cell → Arr

/-- where the arrays that exist when a run starts live in the store -/
abbrev Dir := Kind → Nat → Id

def oldLen (h : Heap) : Kind → Nat
  | .ix => h.ixs.length
  | .cols => h.colss.length
  | .map => h.maps.length

/-- the array of a kind, as numbers -/
def encArr (C : Enc) (h : Heap) : Kind → Nat → Arr
  | .ix, id => h.ixArr id
  | .cols, id => C.cols (h.colArr id)
  | .map, id => C.map (h.mapArr id)

/-- the arrays of `h'` that `h` did not have: index arrays, then column lists, then name maps -/
def newArrs (C : Enc) (h h' : Heap) : List Arr :=
  (h'.ixs.drop h.ixs.length) ++ (h'.colss.drop h.colss.length).map C.cols ++ (h'.maps.drop h.maps.length).map C.map

/-- the number of a new array among the allocations of the run -/
def newNo (h h' : Heap) : Kind → Nat → Nat
  | .ix, id => id - h.ixs.length
  | .cols, id => (h'.ixs.length - h.ixs.length) + (id - h.colss.length)
  | .map, id => (h'.ixs.length - h.ixs.length) + (h'.colss.length - h.colss.length) + (id - h.maps.length)

/-- a logged write as an action: into an array that existed, or into one of the run's own -/
def wrAct (C : Enc) (D : Dir) (h h' : Heap) (w : Wr) : Act :=
  if w.id < oldLen h w.kind then .writeOld (D w.kind w.id) (encArr C h' w.kind w.id)
  else .writeNew (newNo h h' w.kind w.id) (encArr C h' w.kind w.id)

/-- the arrays a frame's headers point to -/
def frameReads (D : Dir) (f : PFrame) : List Id :=
  [D .ix f.index.id, D .cols f.cols.id] ++ (match f.map with | some m => [D .map m] | none => [])

/-- **The summary of a run of the `PF` interpreter**, from its own outcome: the arrays of the receiver and of the index
argument are read, the arrays the heap gained are allocated, every entry of the write log is a write. A run without value
(Go: a panic, or a term that is not understood) does nothing. -/
def pfEff (C : Enc) (D : Dir) (E : PIn) (h : Heap) (o : Option POut) : Eff where
  reads := frameReads D E.f ++ [D .ix E.ixParam.id]
  acts := fun _ =>
    match o with
    | some out => (newArrs C h out.2.1).map Act.alloc ++ out.2.2.map (wrAct C D h out.2.1)
    | none => []

/-- `wrOwn` says that the target did not exist when the run started -/
theorem wrOwn_iff (h : Heap) (w : Wr) : wrOwn h w ↔ oldLen h w.kind ≤ w.id := by
  unfold wrOwn oldLen
  cases w.kind <;> exact Iff.rfl

theorem wrAct_fresh (C : Enc) (D : Dir) (h h' : Heap) (w : Wr) (hw : wrOwn h w) : (wrAct C D h h' w).fresh = true := by
  unfold wrAct
  rw [if_neg (Nat.not_lt.2 ((wrOwn_iff h w).1 hw))]
  rfl

theorem pfEff_fresh (C : Enc) (D : Dir) (E : PIn) (h : Heap) (o : Option POut)
    (hp : ∀ out, o = some out → OwnWrites h out.2.2) : (pfEff C D E h o).Fresh := by
  intro ds a ha
  cases o with
  | none => simp [pfEff] at ha
  | some out =>
    simp only [pfEff, List.mem_append, List.mem_map] at ha
    rcases ha with ⟨x, _, rfl⟩ | ⟨w, hw, rfl⟩
    · rfl
    · exact wrAct_fresh C D h _ w (hp out rfl w hw)

/-- a logged write into an array that existed shows in the program -/
theorem pfEff_not_own (C : Enc) (D : Dir) (E : PIn) (h : Heap) (out : POut) (w : Wr) (hw : w ∈ out.2.2)
    (hold : w.id < oldLen h w.kind) (base : Nat) (hb : D w.kind w.id < base) :
    ¬ (pfEff C D E h (some out)).prog.OwnWrites base :=
  Eff.not_own_of_mem _ base fun ds => ⟨D w.kind w.id, encArr C out.2.1 w.kind w.id,
    List.mem_append_right _ (List.mem_map.2 ⟨w, hw, by simp [wrAct, hold]⟩), hb⟩

/-! ## The regenerated whole operations (guards + work) and index functions keep the discipline -/

/-- a regenerated whole operation: name, the request as the guards see it, environment (receiver, arguments, today's
library), and what lies outside the model (`Ext`: the sorter's permutation, the table) -/
structure GOp where
  op : String
  /-- `true`: guard chain and work (`genFull`; `Slice`, `Select`, `Drop`, `Copy`, whose guard chains are `QF.Gen.guardAst`);
  `false`: the work after the guards (`Sort`, `Distinct`, `setColumn`, whose guards are `QF.Gen.guardAst2`, C10Guards) -/
  whole : Bool
  X : Ext
  q : GReq
  E : PIn
  hc : E.callIx = genCallIx X
  hs : E.callSelect = genSelect X E.f

def GOp.run (g : GOp) (h : Heap) : Option POut :=
  if g.whole then genFull g.op g.q g.E h else (genOp g.op).run g.E h

theorem GOp.run_persistent (g : GOp) (h : Heap) (out : POut) (e : g.run h = some out) : Persistent h out := by
  have lib := genEnv_ok g.X g.E.f g.E g.hc g.hs
  unfold GOp.run at e
  split at e
  · exact genFull_ok g.op g.q g.E lib h out e
  · exact QF.Props.C08ProjectGen.run_persistent _ lib _ (genOp_own _).1 (genOp_own _).2 h out e

/-- **The regenerated run as a program on the store of C01 / C11.** -/
def GOp.prog (g : GOp) (C : Enc) (D : Dir) (h : Heap) : Prog Unit := (pfEff C D g.E h (g.run h)).prog

/-- **`Slice`, `Select`, `Drop`, `Copy`, `setColumn`, `Sort`, `Distinct` of today's source write only arrays they
allocate** — for every request (valid or not), receiver, heap, directory and encoding. -/
theorem gen_project_own_writes (g : GOp) (C : Enc) (D : Dir) (h : Heap) : ∀ base, (g.prog C D h).OwnWrites base :=
  @Eff.own _ (pfEff_fresh C D g.E h _ fun out e => (g.run_persistent h out e).own)

/-- ANY term that passes the static check, under any library that keeps the discipline -/
theorem pf_own_writes (t : PF) (ho : t.ownOnly = true) (hn : PFretsNew t = true) (C : Enc) (D : Dir) (E : PIn)
    (lib : LibOK E) (h : Heap) : ∀ base, (pfEff C D E h (t.run E h)).prog.OwnWrites base :=
  @Eff.own _ (pfEff_fresh C D E h _ fun out e => (run_persistent E lib t ho hn h out e).own)

/-- a function of internal/index (or `grouper.Distinct`) of today's source, called on its own -/
def ixProg (name : String) (C : Enc) (D : Dir) (E : PIn) (h : Heap) : Prog Unit :=
  (pfEff C D E h ((genIx name).run E h)).prog

/-- **`Int.Copy`, `Int.Filter`, `NewAscending`, `NewBool`, `Len`, `grouper.Distinct` write only arrays they allocate.** -/
theorem gen_index_own_writes (name : String) (C : Enc) (D : Dir) (E : PIn) (lib : LibOK E) (h : Heap) :
    ∀ base, (ixProg name C D E h).OwnWrites base :=
  @pf_own_writes _ (genIx_own name).1 (genIx_own name).2 C D E lib h

/-! ## The built-in `ToUpper` of string and enum columns, `ecolumn.Subset` -/

open QF.Props.C06FApplyGen QF.Props.C17EnumRestGen
open QF.Props.C04LoopsGen (BValid)

/-- **The summary of a run of the string `toUpper`** (`SUFn.run`), from its accounting: the index and the source's two
arrays are read; a pointer / data array the function allocated (`ptrsFresh` / `dataFresh`) is an allocation and written;
stores into the source's arrays are counted by `writes` — the counter does not say into which of the two, so a non-zero
counter is a write into both. -/
def supperEff (C : Enc) (ixId ptrsId dataId : Id) (o : LR SUOut) : Eff where
  reads := [ixId, ptrsId, dataId]
  acts := fun _ =>
    match o with
    | .ok R =>
      (if R.ptrsFresh then [Act.alloc (C.ptrs R.res.ptrs), .writeNew 0 (C.ptrs R.res.ptrs)] else []) ++
      (if R.dataFresh then [Act.alloc (C.bytes R.res.data), .writeNew (if R.ptrsFresh then 1 else 0) (C.bytes R.res.data)]
        else []) ++
      (if R.writes = 0 then [] else [Act.writeOld ptrsId (C.ptrs R.src.ptrs), .writeOld dataId (C.bytes R.src.data)])
    | _ => []

theorem supperEff_fresh (C : Enc) (ixId ptrsId dataId : Id) (o : LR SUOut) (hw : ∀ R, o = .ok R → R.writes = 0) :
    (supperEff C ixId ptrsId dataId o).Fresh := by
  refine Eff.fresh_of_all _ fun _ => ?_
  cases o with
  | ok R =>
    simp only [supperEff, hw R rfl, ↓reduceIte]
    cases R.ptrsFresh <;> cases R.dataFresh <;> rfl
  | _ => rfl

/-- the string `toUpper` of today's source as a program on the store -/
def supperProg (C : Enc) (up : Bytes → Bytes) (B : BCol) (ix : List Nat) (ixId ptrsId dataId : Id) : Prog Unit :=
  (supperEff C ixId ptrsId dataId ((supperOf (strBytes "ToUpper")).run up B ix)).prog

/-- **The string `toUpper` of today's source writes only arrays it allocates** (`gen_supper_semantics`: `writes = 0`). -/
theorem gen_supper_own_writes (C : Enc) (up : Bytes → Bytes) (B : BCol) (ix : List Nat) (hv : BValid B.ptrs B.data)
    (hix : ∀ r ∈ ix, r < B.ptrs.length) (ixId ptrsId dataId : Id) :
    ∀ base, (supperProg C up B ix ixId ptrsId dataId).OwnWrites base := by
  refine @Eff.own _ (supperEff_fresh C _ _ _ _ fun R hR => ?_)
  obtain ⟨R', h1, _, h3, _⟩ := gen_supper_semantics up B ix hv hix
  rw [h1] at hR; cases hR; exact h3

/-- **The summary of a run of the enum `toUpper`** (`EUFn.run`): the source's `data` and `values` are read, the new value
table is allocated, the new `data` is allocated unless it IS the source's (`dataShared`), `writes` counts the stores into
the source's `data`. -/
def eupperEff (C : Enc) (dataId valsId : Id) (o : LR EUOut) : Eff where
  reads := [dataId, valsId]
  acts := fun _ =>
    match o with
    | .ok R =>
      [Act.alloc (C.strs R.values), .writeNew 0 (C.strs R.values)] ++
      (if R.dataShared then [] else [Act.alloc R.data, .writeNew 1 R.data]) ++
      (if R.writes = 0 then [] else [Act.writeOld dataId R.src.data])
    | _ => []

theorem eupperEff_fresh (C : Enc) (dataId valsId : Id) (o : LR EUOut) (hw : ∀ R, o = .ok R → R.writes = 0) :
    (eupperEff C dataId valsId o).Fresh := by
  refine Eff.fresh_of_all _ fun _ => ?_
  cases o with
  | ok R =>
    simp only [eupperEff, hw R rfl, ↓reduceIte]
    cases R.dataShared <;> rfl
  | _ => rfl

def eupperProg (C : Enc) (up : Bytes → Bytes) (E : ECol) (dataId valsId : Id) : Prog Unit :=
  (eupperEff C dataId valsId ((eupperOf (strBytes "ToUpper")).run up E)).prog

/-- **The enum `toUpper` of today's source writes only arrays it allocates** (`gen_eupper_semantics`: `writes = 0`). -/
theorem gen_eupper_own_writes (C : Enc) (up : Bytes → Bytes) (E : ECol)
    (hc : ∀ c ∈ E.data, c = euNull ∨ c < E.values.length) (dataId valsId : Id) :
    ∀ base, (eupperProg C up E dataId valsId).OwnWrites base := by
  refine @Eff.own _ (eupperEff_fresh C _ _ _ fun R hR => ?_)
  obtain ⟨_, R', h1, _, h3, _⟩ := gen_eupper_semantics up E hc
  rw [h1] at hR; cases hR; exact h3

/-- **The summary of a run of `ecolumn.Subset`** (`SS.run`): the index and the receiver's cells are read; the cells of the
result are an array made inside the function (`freshCells`) — or else the receiver's, written. -/
def subsetEff (ixId cellsId : Id) (o : Option ER.SubOut) : Eff where
  reads := [ixId, cellsId]
  acts := fun _ =>
    match o with
    | some out =>
      if out.freshCells then [Act.alloc out.col.cells, .writeNew 0 out.col.cells] else [Act.writeOld cellsId out.col.cells]
    | none => []

def subsetProg (c : ER.Col) (index : List Nat) (ixId cellsId : Id) : Prog Unit :=
  (subsetEff ixId cellsId (genSubsetExported c index)).prog

/-- **`ecolumn.Subset` of today's source writes only the array it allocates** (`gen_enum_subset_semantics`). -/
theorem gen_subset_own_writes (c : ER.Col) (index : List Nat) (ixId cellsId : Id) :
    ∀ base, (subsetProg c index ixId cellsId).OwnWrites base := by
  refine @Eff.own _ (Eff.fresh_of_all _ fun _ => ?_)
  obtain ⟨h1, _, h3⟩ := gen_enum_subset_semantics c index
  cases ho : genSubsetExported c index with
  | none => rfl
  | some out => simp only [subsetEff, (h3 out (h1 ▸ ho)).1]; rfl


/-! ## The loops of `Apply1` / `Apply2` / `apply0` -/

open QF.Props.C06LoopsGen in
/-- **The summary of a run of an apply function** (`LFn.run`, QF/Core/LExpr.lean). The only statement of the term language
that stores anything is `LStmt.store`: `result[slot] = rhs`, into the array `result := make([]R, len)` of the same
`LBody.loop`; the receiver, the second column and the index are inputs the interpreter cannot change. A statement the
translator could not express is `.opaque` — it might write anything the function can reach, so the static check
`writesOnlyFresh` is "no opaque part", and a term that fails it counts as a write into the receiver's cells. -/
def applyEff {σ : Type} (C : Enc) (F : LFn) (E : LEnv σ) (ixId recvId otherId : Id) : Eff where
  reads := [ixId, recvId, otherId]
  acts := fun _ =>
    if F.hasOpaque then [Act.writeOld recvId []]
    else
      match F.run E with
      | .arr _ _ r _ => [Act.alloc (C.cells r), .writeNew 0 (C.cells r)]
      | _ => []

/-- the static check on an apply function: every store goes to the array the function made -/
def writesOnlyFresh (F : LFn) : Bool := !F.hasOpaque

theorem applyEff_fresh {σ : Type} (C : Enc) (F : LFn) (E : LEnv σ) (ixId recvId otherId : Id)
    (h : writesOnlyFresh F = true) : (applyEff C F E ixId recvId otherId).Fresh := by
  refine Eff.fresh_of_all _ fun _ => ?_
  have hf : F.hasOpaque = false := by simpa [writesOnlyFresh] using h
  simp only [applyEff, hf, Bool.false_eq_true, ↓reduceIte]
  split <;> rfl

/-- today's apply functions pass the check (`C06LoopsGen.gen_loops_no_opaque`, a finite check redone on every run) -/
theorem writesOnlyFresh_today :
    (∀ e ∈ Gen.apply1Ast, writesOnlyFresh e.2 = true) ∧ (∀ e ∈ Gen.apply2Ast, writesOnlyFresh e.2 = true) ∧
    writesOnlyFresh Gen.apply0Ast = true := by
  obtain ⟨h1, h2, h3, _⟩ := QF.Props.C06LoopsGen.gen_loops_no_opaque
  exact ⟨fun e he => by simp [writesOnlyFresh, h1 e he], fun e he => by simp [writesOnlyFresh, h2 e he],
    by simp [writesOnlyFresh, h3]⟩

/-- the apply functions of today's source: `Apply1` / `Apply2` of one of the five column packages, `apply0` -/
inductive ApplyFn where
  | apply1 (ty : CType) (h : ty ∈ QF.Props.C02Kernels.tys)
  | apply2 (ty : CType) (h : ty ∈ QF.Props.C02Kernels.tys)
  | apply0

open QF.Props.C06LoopsGen in
def ApplyFn.term : ApplyFn → LFn
  | .apply1 ty _ => apply1Of ty
  | .apply2 ty _ => apply2Of ty
  | .apply0 => Gen.apply0Ast

theorem applyOf_fresh : ∀ ty ∈ QF.Props.C02Kernels.tys,
    writesOnlyFresh (QF.Props.C06LoopsGen.apply1Of ty) = true ∧ writesOnlyFresh (QF.Props.C06LoopsGen.apply2Of ty) = true := by
  decide +kernel

theorem ApplyFn.fresh (f : ApplyFn) : writesOnlyFresh f.term = true := by
  cases f with
  | apply1 ty h => exact (applyOf_fresh ty h).1
  | apply2 ty h => exact (applyOf_fresh ty h).2
  | apply0 => exact writesOnlyFresh_today.2.2

def applyProg {σ : Type} (C : Enc) (f : ApplyFn) (E : LEnv σ) (ixId recvId otherId : Id) : Prog Unit :=
  (applyEff C f.term E ixId recvId otherId).prog

/-- **The loops of `Apply1` / `Apply2` (all five column packages) and `apply0` of today's source write only the array they
make** — for every receiver, second column, index and function value. -/
theorem gen_apply_loops_own_writes {σ : Type} (C : Enc) (f : ApplyFn) (E : LEnv σ) (ixId recvId otherId : Id) :
    ∀ base, (applyProg C f E ixId recvId otherId).OwnWrites base :=
  @Eff.own _ (applyEff_fresh C _ E _ _ _ f.fresh)

/-- a term with a statement the language cannot express (e.g. `c.data[i] = t(c.data[i])`, an in-place apply) fails the
check, and its program is not `OwnWrites` -/
theorem witness_apply_in_place {σ : Type} (C : Enc) (E : LEnv σ) (ixId recvId otherId base : Nat) (hb : recvId < base) :
    let F : LFn := { cases := [(.fn [.int] .int, .loop .int .recvLen [.opaque "c.data[i] = t(c.data[i])"] .ownCol)], dflt := .err }
    writesOnlyFresh F = false ∧ ¬ (applyEff C F E ixId recvId otherId).prog.OwnWrites base := by
  intro F
  refine ⟨by decide, Eff.not_own _ base fun ds => ⟨[], [], recvId, [], ?_, hb⟩⟩
  have : F.hasOpaque = true := by decide
  simp [applyEff, this]

/-! ## The families whose interpreters compute on VALUES: Filter, GroupBy, the table of Distinct, Aggregate, FilteredApply

The interpreters of `QF.CL` (clause evaluation of Filter), `QF.GL` (the grouper's hash table), `QF.LGFn` / `QF.LGTail` (the
loops of `Column.Aggregate` and the first-row index), `QF.GG` (the glue of GroupBy / Distinct / Aggregate) and `QF.FAStm`
(FilteredApply, WithRowNums) hold lists in variables; they carry no array identities. What makes their runs programs on the
store is the static check `writesOnlyFresh` on the regenerated TERMS: the program is defined from its verdict (`freshEff`).

* `QF.CL`, `QF.GL` are generic imperative languages (`m[i] = e`, `append`, field updates, pointer receivers): the check is a
  provenance analysis (`QF.Props.C01FreshCL`, `QF.Props.C01FreshGL`: every storing statement targets a variable only ever
  bound to arrays / tables made in the same run — or the table owned by the call); today's terms pass by `decide`. That a
  term which passes has a ghost run counting no store on an untagged target is `tagExec_sound` there; no proof of this file
  applies it.
* `QF.LGFn`, `QF.LGTail`, `QF.GG.AT`, `QF.GG.GB`, `QF.GG.DK`, `QF.FAStm` are languages of SHAPES: every storing construct names
  its target by construction and the target is made by the construct itself or by one in front of it in the same term —
  `LGCase.agg … init write`: `out := make(…)` then `out = append(out, …)` / `out[i] = …`; `LGSlice`: the slice handed to the
  aggregation function, `make` or the function's own buffer re-sliced (`buf[:0]`, `buf` a local of `Column.Aggregate` — the
  translator accepts nothing else as a buffer, last.go); `LGTail.firstInit/firstWrite`: `first := make(…)`, `first[i] = …`;
  `AT.alloc` then `AS.putGrouped` / `putNamed` / `appendCol` into the map and the slice `alloc` made, `AS.setPosI` /
  `setPosLen` / `setName` on the local copy `col` of a map entry, `AS.compute`: `counts := make(…)`; `GB.setOneGroup` /
  `setIndices` / `setStats` and `FAStm.setIndex` assign a FIELD OF A LOCAL STRUCT (`g := Grouper{…}`, `newQf := qf` — Go copies
  the struct). Their interpreters cannot change an input. A statement outside these shapes is `.opaque` (seeded C01-7:
  `inStorageOrder(ix)` in front of `col.Aggregate`), so the check is "no opaque part" (+ `alloc` in front of the loops), as
  for the apply loops.

What the RESULTS share with the inputs (read off the terms, `C01FreshCL.gen_clauses_result_provenance`,
`C01FreshGL.gen_grouper_result_provenance`): Filter returns the receiver itself for a failed frame and for `NullClause`, the
receiver's index UNCHANGED under a new error for an unknown column / a kernel error / a clause error, else a NEW index;
GroupBy without columns puts the receiver's index header into a new one-element group list (`g.indices =
[]index.Int{qf.index}`, shared and never written), else the groups are arrays the table built; the table of Distinct
returns a NEW row array; FilteredApply returns a frame with THE RECEIVER'S index header (`newQf.index = qf.index`) and the
column list `Apply` made; Aggregate a new ascending index and new columns. Shared arrays are read, never written.

A run is summarised by `freshEff`: the arrays read, then — when the term passes its check — one allocation and one write per
array the run's OUTCOME says was made; when it does not, a write into the receiver's array (a term that fails may store
anywhere it can reach). -/

def newActs : List Arr → Nat → List Act
  | [], _ => []
  | a :: as, k => .alloc (List.replicate a.length 0) :: .writeNew k a :: newActs as (k + 1)

theorem newActs_fresh (l : List Arr) (k : Nat) : (newActs l k).all Act.fresh = true := by
  induction l generalizing k with
  | nil => rfl
  | cons x xs ih => exact ih (k + 1)

/-- the summary of a run of a value-semantics interpreter: `ok` the static check of the term(s), `blame` the receiver's
array, `news` the arrays the outcome of the run says were made -/
def freshEff (reads : List Id) (ok : Bool) (blame : Id) (news : List Arr) : Eff where
  reads := reads
  acts := fun _ => if ok then newActs news 0 else [Act.writeOld blame []]

theorem freshEff_fresh (reads : List Id) (ok : Bool) (blame : Id) (news : List Arr) (h : ok = true) :
    (freshEff reads ok blame news).Fresh := by
  refine Eff.fresh_of_all _ fun _ => ?_
  simp only [freshEff, h, ↓reduceIte]
  exact newActs_fresh news 0

theorem freshEff_not_own (reads : List Id) (ok : Bool) (blame : Id) (news : List Arr) (h : ok = false) (base : Nat)
    (hb : blame < base) : ¬ (freshEff reads ok blame news).prog.OwnWrites base := by
  refine Eff.not_own _ base fun ds => ⟨[], [], blame, [], ?_, hb⟩
  simp [freshEff, h]

/-! ### Filter -/

/-- every function of a clause-evaluation unit passes `C01FreshCL.writesOnlyFresh` -/
def clausesOK (P : List (CL.FnId × CL.Fn)) : Bool :=
  P.all fun p => C01FreshCL.writesOnlyFresh (C01FreshCL.newFns P) p.2

/-- the arrays a run of `qf.Filter(c)` made, from its outcome: nothing on a failed receiver or for `NullClause` (the receiver
is returned); else the mask, and — unless the result carries an error (`withErr`: the receiver's index unchanged) — the
result index -/
def filterNews (c : F.Clause) (f : F.Frame) : Option F.Frame → List Arr
  | some g =>
    if f.err then []
    else match c with
      | .null => []
      | _ => [f.index.map fun p => if g.index.contains p then 1 else 0] ++ (if g.err then [] else [g.index])
  | none => []

def filterEff (P : List (CL.FnId × CL.Fn)) (O : F.Leaf → CL.LeafCalls) (c : F.Clause) (f : F.Frame) (ixId colsId : Id) : Eff :=
  freshEff [ixId, colsId] (clausesOK P) ixId (filterNews c f (CL.interp P O c f))

theorem clausesOK_today : clausesOK Gen.clauseFns = true :=
  List.all_eq_true.2 fun p hp => C01FreshCL.gen_clauses_writes_only_fresh p hp

/-- `qf.Filter(c)` of today's source as a program on the store: DEFINED from the verdict of the check (`freshEff … (clausesOK
Gen.clauseFns) …`: allocations and own writes if the unit passes, a write into the receiver's index if not) -/
def filterProg (O : F.Leaf → CL.LeafCalls) (c : F.Clause) (f : F.Frame) (ixId colsId : Id) : Prog Unit :=
  (filterEff Gen.clauseFns O c f ixId colsId).prog

/-- **Filter of today's source writes only arrays it allocates** — every clause tree, receiver, leaf oracle. Since
`filterProg` is defined from the verdict, this is `clausesOK_today` read on the store. -/
theorem gen_filter_own_writes (O : F.Leaf → CL.LeafCalls) (c : F.Clause) (f : F.Frame) (ixId colsId : Id) :
    ∀ base, (filterProg O c f ixId colsId).OwnWrites base :=
  @Eff.own _ (freshEff_fresh _ _ _ _ clausesOK_today)

/-! ### GroupBy and the table of Distinct -/

/-- every function of a grouper unit passes `C01FreshGL.writesOnlyFresh` (mutating methods with their owned receiver); the
callees that return new objects are two rounds of `newFns`, as in `C01FreshGL.todayNew` -/
def grouperOK (P : List (GL.FnId × GL.Fn)) : Bool :=
  P.all fun p => C01FreshGL.writesOnlyFresh (C01FreshGL.mutFns P)
    (C01FreshGL.newFns P (C01FreshGL.mutFns P) (C01FreshGL.newFns P (C01FreshGL.mutFns P) (fun _ => false)))
    (C01FreshGL.mutFns P p.1) p.2

theorem grouperOK_today : grouperOK Gen.grouperFns = true :=
  List.all_eq_true.2 fun p hp => C01FreshGL.gen_grouper_writes_only_fresh p hp

/-- `qf.GroupBy(…)`: the glue (`QF.GG.GB`) and `grouper.GroupBy`; made: every group and the group list -/
def groupByEff (P : List (GL.FnId × GL.Fn)) (glue : GG.GB) (fuel : Nat) (cs : List GL.Cmp) (ix : List Nat) (ixId colsId : Id) : Eff :=
  freshEff [ixId, colsId] (grouperOK P && !glue.hasOpaque) ixId
    (match GL.interpGroupBy P fuel cs ix with
     | some (gs, _) => gs ++ [gs.map List.length]
     | none => [])

/-- defined from the verdict of `grouperOK` and "the glue has no opaque part", as `filterProg` -/
def groupByProg (fuel : Nat) (cs : List GL.Cmp) (ix : List Nat) (ixId colsId : Id) : Prog Unit :=
  (groupByEff Gen.grouperFns Gen.groupByAst fuel cs ix ixId colsId).prog

/-- `grouperOK_today` and `gen_glue_no_opaque` read on the store -/
theorem gen_groupBy_own_writes (fuel : Nat) (cs : List GL.Cmp) (ix : List Nat) (ixId colsId : Id) :
    ∀ base, (groupByProg fuel cs ix ixId colsId).OwnWrites base :=
  @Eff.own _ (freshEff_fresh _ _ _ _ (by rw [grouperOK_today, QF.Props.C04GlueGen.gen_glue_no_opaque.1]; rfl))

/-- the table of `qf.Distinct(…)`: what `QFrame.Distinct` hands over (`QF.GG.DK`) and `grouper.Distinct`; made: the rows -/
def distinctTableEff (P : List (GL.FnId × GL.Fn)) (dk : GG.DK) (fuel : Nat) (cs : List GL.Cmp) (ix : List Nat) (ixId colsId : Id) : Eff :=
  freshEff [ixId, colsId] (grouperOK P && !dk.hasOpaque) ixId
    (match GL.interpDistinct P fuel cs ix with
     | some l => [l]
     | none => [])

/-- defined from the verdict of `grouperOK` and "what `QFrame.Distinct` hands over has no opaque part" -/
def distinctTableProg (fuel : Nat) (cs : List GL.Cmp) (ix : List Nat) (ixId colsId : Id) : Prog Unit :=
  (distinctTableEff Gen.grouperFns Gen.distinctCmpsAst fuel cs ix ixId colsId).prog

/-- `grouperOK_today` and `gen_glue_no_opaque` read on the store -/
theorem gen_distinct_table_own_writes (fuel : Nat) (cs : List GL.Cmp) (ix : List Nat) (ixId colsId : Id) :
    ∀ base, (distinctTableProg fuel cs ix ixId colsId).OwnWrites base :=
  @Eff.own _ (freshEff_fresh _ _ _ _ (by rw [grouperOK_today, QF.Props.C04GlueGen.gen_glue_no_opaque.2.2.2.2]; rfl))

/-! ### Aggregate -/

/-- the static check on the terms of Aggregate: the loop of `Column.Aggregate`, the first-row index, the glue — no part
outside the shapes, and the map / slice of the result allocated in front of the loops that fill them -/
def aggregateOK (F : LGFn) (tail : LGTail) (glue : List GG.AT) : Bool :=
  !F.hasOpaque && !tail.hasOpaque && glue.all (fun t => !t.hasOpaque) &&
    ((glue.takeWhile fun t => match t with | .keyLoop _ | .aggLoop _ => false | _ => true).any fun t => t == .alloc)

/-- made: the first-row index, the cells of the aggregated column -/
def aggregateEff (C : Enc) (F : LGFn) (tail : LGTail) (glue : List GG.AT) (E : LGEnv) (z : Cell) (groupsId recvId : Id) : Eff :=
  freshEff [groupsId, recvId] (aggregateOK F tail glue) recvId
    ((match tail.first E.groups with | some l => [l] | none => []) ++
     (match F.run E z with | .col _ cells => [C.cells cells] | _ => []))

theorem aggregateOK_today : ∀ ty ∈ QF.Props.C02Kernels.tys,
    aggregateOK (QF.Props.C04LoopsGen.aggregateOf ty) Gen.grouperTailAst Gen.aggregateGlueAst = true := by decide +kernel

/-- defined from the verdict of `aggregateOK` on today's three terms -/
def aggregateProg (C : Enc) (ty : CType) (E : LGEnv) (z : Cell) (groupsId recvId : Id) : Prog Unit :=
  (aggregateEff C (QF.Props.C04LoopsGen.aggregateOf ty) Gen.grouperTailAst Gen.aggregateGlueAst E z groupsId recvId).prog

/-- `aggregateOK_today` read on the store -/
theorem gen_aggregate_own_writes (C : Enc) (ty : CType) (hty : ty ∈ QF.Props.C02Kernels.tys) (E : LGEnv) (z : Cell)
    (groupsId recvId : Id) : ∀ base, (aggregateProg C ty E z groupsId recvId).OwnWrites base :=
  @Eff.own _ (freshEff_fresh _ _ _ _ (aggregateOK_today ty hty))

/-! ### FilteredApply, WithRowNums -/

def fapplyOK (stms : List FAStm) : Bool := stms.all fun s => !s.hasOpaque

/-- the plumbing of `FilteredApply` / `WithRowNums` makes no array: it copies frame VALUES and assigns the index field of a
local copy; `Filter` and `Apply` inside it are runs of their own -/
def fapplyEff (stms : List FAStm) (ixId colsId : Id) : Eff := freshEff [ixId, colsId] (fapplyOK stms) ixId []

theorem fapplyOK_today : fapplyOK Gen.fapplyAst = true ∧ fapplyOK Gen.rowNumsFnAst = true := by decide

/-- `rowNums = false`: `FilteredApply`; `true`: `WithRowNums`; defined from the verdict of `fapplyOK` -/
def fapplyProg (rowNums : Bool) (ixId colsId : Id) : Prog Unit :=
  (fapplyEff (if rowNums then Gen.rowNumsFnAst else Gen.fapplyAst) ixId colsId).prog

/-- `fapplyOK_today` read on the store -/
theorem gen_fapply_own_writes (rowNums : Bool) (ixId colsId : Id) : ∀ base, (fapplyProg rowNums ixId colsId).OwnWrites base := by
  cases rowNums
  · exact @Eff.own _ (freshEff_fresh _ _ _ _ fapplyOK_today.1)
  · exact @Eff.own _ (freshEff_fresh _ _ _ _ fapplyOK_today.2)

/-! ### Witnesses for these families -/

/-- **Witness: a Filter that compacts the surviving rows into the receiver's index** (`C01FreshCL.leavesInPlace` in the
place of `QFrame.filter`): the unit fails the check and the program of ANY run of it writes the receiver's index. -/
theorem witness_filter_in_place (O : F.Leaf → CL.LeafCalls) (c : F.Clause) (f : F.Frame) (ixId colsId base : Nat) (hb : ixId < base) :
    clausesOK ((CL.FnId.leaves, C01FreshCL.leavesInPlace) :: Gen.clauseFns) = false ∧
    ¬ (filterEff ((CL.FnId.leaves, C01FreshCL.leavesInPlace) :: Gen.clauseFns) O c f ixId colsId).prog.OwnWrites base := by
  have h : clausesOK ((CL.FnId.leaves, C01FreshCL.leavesInPlace) :: Gen.clauseFns) = false := by decide +kernel
  exact ⟨h, freshEff_not_own _ _ _ _ h base hb⟩

/-- **Witness: a Distinct that collects its rows in the caller's index / a grouper that appends to the caller's index
slice** (`C01FreshGL.distinctInPlace`, `groupByIntoCallerIx`). -/
theorem witness_grouper_in_place (fuel : Nat) (cs : List GL.Cmp) (ix : List Nat) (ixId colsId base : Nat) (hb : ixId < base) :
    ¬ (distinctTableEff ((GL.FnId.distinct, C01FreshGL.distinctInPlace) :: Gen.grouperFns) Gen.distinctCmpsAst fuel cs ix ixId colsId).prog.OwnWrites base ∧
    ¬ (groupByEff ((GL.FnId.groupBy, C01FreshGL.groupByIntoCallerIx) :: Gen.grouperFns) Gen.groupByAst fuel cs ix ixId colsId).prog.OwnWrites base := by
  have h1 : grouperOK ((GL.FnId.distinct, C01FreshGL.distinctInPlace) :: Gen.grouperFns) = false := by decide +kernel
  have h2 : grouperOK ((GL.FnId.groupBy, C01FreshGL.groupByIntoCallerIx) :: Gen.grouperFns) = false := by decide +kernel
  exact ⟨freshEff_not_own _ _ _ _ (by rw [h1]; rfl) base hb, freshEff_not_own _ _ _ _ (by rw [h2]; rfl) base hb⟩

/-- **Witness (seeded C01-7): `inStorageOrder(ix)` — an in-place sort of every group's index — in front of
`col.Aggregate(g.indices, agg.Fn)`.** The statement is outside the shapes of the glue, the term fails the check, and the
program of any run writes the grouper's array. -/
theorem witness_aggregate_sorts_groups (C : Enc) (ty : CType) (E : LGEnv) (z : Cell) (groupsId recvId base : Nat) (hb : recvId < base) :
    let glue : List GG.AT := [.ifGrouperErr, .firstRows 0, .alloc,
      .keyLoop [.lookupGrouped, .setPosI, .subsetFirst, .putGrouped, .appendCol], .declErr,
      .aggLoop [.lookupAggOrErr, .nameFromColumn, .nameFromAsIfSet, .setName, .setPosLen, .rejectIfPresent,
        .opaque "for _, ix := range g.indices { inStorageOrder(ix) }", .compute "count", .putNamed, .appendCol], .retFrame]
    aggregateOK (QF.Props.C04LoopsGen.aggregateOf ty) Gen.grouperTailAst glue = false ∧
    ¬ (aggregateEff C (QF.Props.C04LoopsGen.aggregateOf ty) Gen.grouperTailAst glue E z groupsId recvId).prog.OwnWrites base := by
  intro glue
  have h : aggregateOK (QF.Props.C04LoopsGen.aggregateOf ty) Gen.grouperTailAst glue = false := by
    have : (glue.all fun t => !t.hasOpaque) = false := by decide
    simp [aggregateOK, this]
  exact ⟨h, freshEff_not_own _ _ _ _ h base hb⟩

/-! ## Any regenerated run; histories -/

/-- A run of regenerated code, with everything it starts from. -/
inductive GRun : Type 1 where
  /-- a whole operation `Slice` / `Select` / `Drop` / `Copy` / `setColumn` / `Sort` / `Distinct` (guards + work) -/
  | op (g : GOp) (h : Heap) (D : Dir)
  /-- a function of internal/index or `grouper.Distinct` -/
  | ixfn (name : String) (E : PIn) (lib : LibOK E) (h : Heap) (D : Dir)
  /-- the built-in `ToUpper` of a string column -/
  | supper (up : Bytes → Bytes) (B : BCol) (ix : List Nat) (hv : BValid B.ptrs B.data)
      (hix : ∀ r ∈ ix, r < B.ptrs.length) (ixId ptrsId dataId : Id)
  /-- the built-in `ToUpper` of an enum column -/
  | eupper (up : Bytes → Bytes) (E : ECol) (hc : ∀ c ∈ E.data, c = euNull ∨ c < E.values.length) (dataId valsId : Id)
  /-- `ecolumn.Subset` -/
  | subset (c : ER.Col) (index : List Nat) (ixId cellsId : Id)
  /-- the loop of `Apply1` / `Apply2` of a column package, or of `apply0` -/
  | applyLoop (σ : Type) (f : ApplyFn) (E : LEnv σ) (ixId recvId otherId : Id)
  /-- `Filter`: the clause evaluation (`QF.CL`), any clause tree -/
  | filter (O : F.Leaf → CL.LeafCalls) (c : F.Clause) (f : F.Frame) (ixId colsId : Id)
  /-- `GroupBy`: the glue and the hash table of internal/grouper (`QF.GG.GB`, `QF.GL`) -/
  | groupBy (fuel : Nat) (cs : List GL.Cmp) (ix : List Nat) (ixId colsId : Id)
  /-- the table of `Distinct` (`QF.GG.DK`, `QF.GL`); its result index goes through `GRun.op` -/
  | distinctTable (fuel : Nat) (cs : List GL.Cmp) (ix : List Nat) (ixId colsId : Id)
  /-- `Grouper.Aggregate`: the glue, the first-row index, the loop of `Column.Aggregate` of a column package -/
  | aggregate (ty : CType) (hty : ty ∈ QF.Props.C02Kernels.tys) (E : LGEnv) (z : Cell) (groupsId recvId : Id)
  /-- the plumbing of `FilteredApply` (`false`) / `WithRowNums` (`true`) -/
  | fapply (rowNums : Bool) (ixId colsId : Id)

def GRun.prog (C : Enc) : GRun → Prog Unit
  | .op g h D => g.prog C D h
  | .ixfn name E _ h D => ixProg name C D E h
  | .supper up B ix _ _ a b c => supperProg C up B ix a b c
  | .eupper up E _ a b => eupperProg C up E a b
  | .subset c index a b => subsetProg c index a b
  | .applyLoop _ f E a b c => applyProg C f E a b c
  | .filter O c f a b => filterProg O c f a b
  | .groupBy fuel cs ix a b => groupByProg fuel cs ix a b
  | .distinctTable fuel cs ix a b => distinctTableProg fuel cs ix a b
  | .aggregate ty _ E z a b => aggregateProg C ty E z a b
  | .fapply r a b => fapplyProg r a b

/-- **Every regenerated run writes only arrays it allocates.** -/
theorem gen_run_own_writes (C : Enc) (r : GRun) : ∀ base, (r.prog C).OwnWrites base := by
  cases r with
  | op g h D => exact @gen_project_own_writes g C D h
  | ixfn name E lib h D => exact @gen_index_own_writes name C D E lib h
  | supper up B ix hv hix a b c => exact @gen_supper_own_writes C up B ix hv hix a b c
  | eupper up E hc a b => exact @gen_eupper_own_writes C up E hc a b
  | subset c index a b => exact @gen_subset_own_writes c index a b
  | applyLoop σ f E a b c => exact @gen_apply_loops_own_writes σ C f E a b c
  | filter O c f a b => exact @gen_filter_own_writes O c f a b
  | groupBy fuel cs ix a b => exact @gen_groupBy_own_writes fuel cs ix a b
  | distinctTable fuel cs ix a b => exact @gen_distinct_table_own_writes fuel cs ix a b
  | aggregate ty hty E z a b => exact @gen_aggregate_own_writes C ty hty E z a b
  | fapply r a b => exact @gen_fapply_own_writes r a b

/-- **C01 for histories of regenerated runs** (`H.history_persistent` instantiated): whatever regenerated operations are
run one after the other — each started from any heap, directory and arguments —, every array of the initial store keeps
its contents. FULL: `GRun` has a constructor for every public frame-deriving operation — `Slice`, `Select`, `Drop`, `Copy`,
`setColumn` (the tail of every `Apply` / `Eval` / `WithRowNums`), `Sort`, `Distinct` (result index `.op`, table
`.distinctTable`), `Filter`, `GroupBy`, `Aggregate`, `Apply1` / `Apply2` / `apply0`, the built-in `ToUpper`s, `Subset`,
`FilteredApply` — each entering as a RUN OF ITS REGENERATED CODE. -/
theorem gen_any_history_persistent (C : Enc) (runs : List GRun) (s : Store) :
    ∀ id, id < s.length → (runAll (runs.map (GRun.prog C)) s).getD id [] = s.getD id [] := by
  exact history_persistent _ s (own_map (gen_run_own_writes C) runs)

/-- … and at every later point: an array that exists after the first part of the history is never changed by the rest -/
theorem gen_any_history_persistent_from (C : Enc) (before after : List GRun) (s : Store) :
    ∀ id, id < (runAll (before.map (GRun.prog C)) s).length →
      (runAll ((before ++ after).map (GRun.prog C)) s).getD id [] = (runAll (before.map (GRun.prog C)) s).getD id [] := by
  rw [List.map_append]
  exact history_persistent_from _ _ s (own_map (gen_run_own_writes C) after)

/-- a regenerated run, or one of the hand models of C01Ops -/
inductive AnyOp where
  | gen (r : GRun)
  | hand (op : Op)

def AnyOp.prog (C : Enc) : AnyOp → Prog Unit
  | .gen r => r.prog C
  | .hand op => op.prog

theorem any_op_own_writes (C : Enc) (o : AnyOp) : ∀ base, (o.prog C).OwnWrites base := by
  cases o with
  | gen r => exact gen_run_own_writes C r
  | hand op => exact fun base => op_own_writes op base

/-- Histories that mix regenerated runs (`AnyOp.gen`) with the hand models of C01Ops (`AnyOp.hand`). The statement about the
code alone — every public operation enters as a run of its regenerated term — is `gen_any_history_persistent` above. -/
theorem any_history_persistent_partial (C : Enc) (ops : List AnyOp) (s : Store) :
    ∀ id, id < s.length → (runAll (ops.map (AnyOp.prog C)) s).getD id [] = s.getD id [] := by
  exact history_persistent _ s (own_map (any_op_own_writes C) ops)

/-! ## The same on the typed heap: every earlier frame observes what it observed -/

/-- the heap after a whole operation (a run without value — a Go panic — leaves it as it is) -/
def GOp.next (g : GOp) (h : Heap) : Heap :=
  match g.run h with
  | some out => out.2.1
  | none => h

def runHist : List GOp → Heap → Heap
  | [], h => h
  | g :: gs, h => runHist gs (g.next h)

theorem GOp.next_unchanged (g : GOp) (h : Heap) : Unchanged h (g.next h) := by
  unfold GOp.next
  cases e : g.run h with
  | none => exact Unchanged.refl h
  | some out => exact (g.run_persistent h out e).keep

theorem runHist_unchanged (gs : List GOp) (h : Heap) : Unchanged h (runHist gs h) := by
  induction gs generalizing h with
  | nil => exact Unchanged.refl h
  | cons g gs ih => exact (g.next_unchanged h).trans (ih _)

theorem runHist_append (as bs : List GOp) (h : Heap) : runHist (as ++ bs) h = runHist bs (runHist as h) := by
  induction as generalizing h with
  | nil => rfl
  | cons a as ih => exact ih _

/-- **Persistence (C01) over histories, from the regenerated code.** After ANY history of whole operations of today's
source (any requests, any receivers — earlier frames, results of earlier steps, anything), every array that existed has
the contents it had, and every well-formed frame of the initial heap observes exactly what it observed: its logical frame,
its column list, its index, its look-ups. -/
theorem gen_history_observation_kept (gs : List GOp) (h : Heap) :
    Unchanged h (runHist gs h) ∧
    ∀ (f : PFrame) (L : Nat), PWF h f L →
      f.abs (runHist gs h) = f.abs h ∧ f.colList (runHist gs h) = f.colList h ∧ f.ixList (runHist gs h) = f.ixList h ∧
        ∀ k, f.lookup (runHist gs h) k = f.lookup h k :=
  ⟨runHist_unchanged gs h, fun _ _ wf => observation_kept (runHist_unchanged gs h) wf⟩

/-- … and for a frame made in the middle of the history: the rest of the history does not change what it observes -/
theorem gen_history_observation_kept_from (before after : List GOp) (h : Heap) (f : PFrame) (L : Nat)
    (wf : PWF (runHist before h) f L) :
    f.abs (runHist (before ++ after) h) = f.abs (runHist before h) := by
  rw [runHist_append]
  exact ((gen_history_observation_kept after _).2 f L wf).1

/-! ## Witnesses: the mutations the property is about are NOT `OwnWrites` -/

/-- a run whose log has a write into an array that existed (found by evaluation: `ownB … = some false`) gives a program outside
the discipline, wherever the existing arrays live below `base` -/
theorem pfEff_not_own_of_log (C : Enc) (D : Dir) (E : PIn) (h : Heap) (o : Option POut) (e : ownB h o = some false)
    (base : Nat) (hb : ∀ k id, id < oldLen h k → D k id < base) : ¬ (pfEff C D E h o).prog.OwnWrites base := by
  cases o with
  | none => cases e
  | some out =>
    have hn : ¬ OwnWrites h out.2.2 := by simpa [ownB] using e
    obtain ⟨w, hw⟩ := Classical.not_forall.mp hn
    obtain ⟨hmem, hno⟩ := Classical.not_imp.mp hw
    have hold : w.id < oldLen h w.kind := Nat.lt_of_not_le (mt (wrOwn_iff h w).2 hno)
    exact pfEff_not_own C D E h out w hmem hold base (hb _ _ hold)

/-- the environment of the `setColumn` witness: a new column "c" onto a column list with spare capacity -/
def capEnv : PIn := { genEnv exX exFcap with dst := [99], colParam := exA.col }

/-- **Witness (seeded C01-1): `newF.columns = append(qf.columns, newS)` in `setColumn`.** The static check rejects the term,
and the program of its run on a column list with spare capacity is not `OwnWrites`: it writes the receiver's array. -/
theorem witness_setColumn_append (C : Enc) (D : Dir) (base : Nat) (hb : ∀ k id, id < oldLen exHcap k → D k id < base) :
    setColumnAppendShared.ownOnly = false ∧
    ¬ (pfEff C D capEnv exHcap (setColumnAppendShared.run capEnv exHcap)).prog.OwnWrites base :=
  ⟨by decide, pfEff_not_own_of_log C D capEnv exHcap _ (by decide +kernel) base hb⟩

/-- **Witness: sorting the receiver's index in place** (`qfsort.New(qf.index, …).Sort()` without the copy). -/
theorem witness_sort_in_place (C : Enc) (D : Dir) (base : Nat) (hb : ∀ k id, id < oldLen exH k → D k id < base) :
    sortInPlace.ownOnly = false ∧
    ¬ (pfEff C D (genEnv exX exF) exH (sortInPlace.run (genEnv exX exF) exH)).prog.OwnWrites base :=
  ⟨by decide, pfEff_not_own_of_log C D _ exH _ (by decide +kernel) base hb⟩

def wroteE : LR EUOut → Bool
  | .ok R => R.writes != 0
  | _ => false
def wroteS : LR SUOut → Bool
  | .ok R => R.writes != 0
  | _ => false

/-- a run of the enum `toUpper` that stored into the source's `data` gives a program outside the discipline -/
theorem eupperEff_not_own (C : Enc) (dataId valsId : Id) (o : LR EUOut) (hw : wroteE o = true) (base : Nat) (hb : dataId < base) :
    ¬ (eupperEff C dataId valsId o).prog.OwnWrites base := by
  cases o with
  | ok R =>
    have hw : R.writes ≠ 0 := by simpa [wroteE] using hw
    exact Eff.not_own_of_mem _ base fun ds => ⟨dataId, R.src.data, by simp [eupperEff, hw], hb⟩
  | _ => cases hw

/-- a run of the string `toUpper` that stored into the source's arrays gives a program outside the discipline -/
theorem supperEff_not_own (C : Enc) (ixId ptrsId dataId : Id) (o : LR SUOut) (hw : wroteS o = true) (base : Nat)
    (hb : ptrsId < base) : ¬ (supperEff C ixId ptrsId dataId o).prog.OwnWrites base := by
  cases o with
  | ok R =>
    have hw : R.writes ≠ 0 := by simpa [wroteS] using hw
    exact Eff.not_own_of_mem _ base fun ds => ⟨ptrsId, C.ptrs R.src.ptrs, by simp [supperEff, hw], hb⟩
  | _ => cases hw

def upW : Bytes → Bytes := fun b => b.map (fun c => if c = 97 then 65 else if c = 98 then 66 else if c = 99 then 67 else c)
/-- codes a, A, null, b over the table ["a", "A", "b"] -/
def enumW : ECol := { data := [0, 1, 255, 2], values := [[97], [65], [98]], strict := true }
/-- "a", null, "bc" in the blob "abc" -/
def blobW : BCol := { ptrs := [⟨0, 1, false⟩, ⟨1, 0, true⟩, ⟨1, 2, false⟩], data := [97, 98, 99] }

/-- **Witness (seeded C06-8): `newData := s.data[:0]` in the enum `toUpper`.** The run stores four codes into the source's
`data`; its program is not `OwnWrites` for any `base` above that array. Today's term on the same column: no store. -/
theorem witness_eupper_reuse_data (C : Enc) (dataId valsId base : Nat) (hb : dataId < base) :
    ¬ (eupperEff C dataId valsId (eupperReuseData.run upW enumW)).prog.OwnWrites base :=
  eupperEff_not_own C dataId valsId _ (by decide +kernel) base hb

/-- **Witness: `pointers := source.pointers` / `data := source.data[:0]` in the string `toUpper`.** -/
theorem witness_supper_reuse (C : Enc) (ixId ptrsId dataId base : Nat) (hb : ptrsId < base) :
    ¬ (supperEff C ixId ptrsId dataId (supperReusePtrs.run upW blobW [2, 0])).prog.OwnWrites base ∧
    ¬ (supperEff C ixId ptrsId dataId (supperReuseData.run upW blobW [2, 0])).prog.OwnWrites base :=
  ⟨supperEff_not_own C _ _ _ _ (by decide +kernel) base hb, supperEff_not_own C _ _ _ _ (by decide +kernel) base hb⟩

/-! ## Concrete instances: the hypotheses are satisfiable, the programs allocate and write -/

/-- today's `Sort`, `Copy("c", "a")`, `Select("b", "a")`, `Slice(1, 3)` and `Drop("a")` on the example frame -/
def exSort : GOp := ⟨"Sort", false, exX, physReq exH exF, genEnv exX exF, rfl, rfl⟩
def exCopy : GOp :=
  ⟨"Copy", true, exX, { physReq exH exF with dst := [99], src := [97] }, { genEnv exX exF with dst := [99], src := [97] }, rfl, rfl⟩
def exSelect : GOp :=
  ⟨"Select", true, exX, { physReq exH exF with columns := [[98], [97]] }, { genEnv exX exF with names := [[98], [97]] }, rfl, rfl⟩
def exSlice : GOp :=
  ⟨"Slice", true, exX, { physReq exH exF with start := 1, stop := 3 }, { genEnv exX exF with start := 1, stop := 3 }, rfl, rfl⟩

/-- a simple encoding and directory: a column list as its `pos` fields, a map as its size; index arrays first, then the
column lists, then the maps -/
def exEnc : Enc :=
  { cols := fun l => l.map (·.pos), map := fun l => [l.length], ptrs := fun l => l.map (·.off),
    bytes := fun b => b.map (·.toNat), strs := fun l => l.map (·.length), cells := fun l => [l.length] }
def exDir : Dir := fun k id => match k with | .ix => id | .cols => 1 + id | .map => 2 + id
/-- the store of `exH` under them: the index, the column list, the name map -/
def exStore : Store := [[2, 0, 1], [0, 1], [2]]

/-- today's `Sort` on the example: reads the receiver's three arrays (and the index argument), allocates ONE array — the
copy of the index — and writes it twice (the copy, the in-place sort of the copy); the three arrays that existed are as
they were -/
example : ((exSort.prog exEnc exDir exH).run exStore).2 =
    ([[2, 0, 1], [0, 1], [2], [1, 0, 2]],
     [.read 0, .read 1, .read 2, .read 0, .alloc 3, .write 3, .write 3]) := by decide +kernel

/-- today's `Copy("c", "a")`: a new column list and a new name map -/
example : (((exCopy.prog exEnc exDir exH).run exStore).2.1.length, (((exCopy.prog exEnc exDir exH).run exStore).2.1.take 3)) =
    (5, exStore) := by decide +kernel

/-- instances of the theorems -/
example : ∀ base, (exSort.prog exEnc exDir exH).OwnWrites base := @gen_project_own_writes exSort exEnc exDir exH
example : ∀ id, id < 3 →
    (runAll ([GRun.op exSort exH exDir, .op exCopy exH exDir, .op exSelect exH exDir, .op exSlice exH exDir,
        .eupper upW enumW (by decide) 1 2, .subset ⟨[0, 1, 255, 2], [[97]], false⟩ [3, 0] 0 1].map (GRun.prog exEnc))
      exStore).getD id [] = exStore.getD id [] :=
  gen_any_history_persistent exEnc _ exStore
example : exF.abs (runHist [exSort, exCopy, exSelect, exSlice] exH) = exF.abs exH :=
  ((gen_history_observation_kept [exSort, exCopy, exSelect, exSlice] exH).2 exF 3 exF_wf).1
/-- the history really allocates: two new index arrays (`Sort`: the copy), two column lists and two maps (`Copy`, `Select`) -/
example : ((runHist [exSort, exCopy, exSelect, exSlice] exH).ixs.length, (runHist [exSort, exCopy, exSelect, exSlice] exH).colss.length,
    (runHist [exSort, exCopy, exSelect, exSlice] exH).maps.length) = (2, 3, 3) := by decide +kernel

/-- `Apply1(func(int) int)` of the int column package on rows 1, 0 of the cells 5, 6, 7: one array allocated and written -/
def exApplyEnv : LEnv Unit :=
  { recv := { ty := .int, cells := [.int 5, .int 6, .int 7] }, other := { ty := .int, cells := [] }, ix := [1, 0],
    fn := .fn1 .int .int (fun c => match c with | .int v => .int (v + 1) | c => c), s0 := () }
example : ∀ base, (applyProg exEnc (.apply1 .int (by decide)) exApplyEnv 0 1 1).OwnWrites base :=
  @gen_apply_loops_own_writes _ exEnc _ exApplyEnv 0 1 1
example : ((applyProg exEnc (.apply1 .int (by decide)) exApplyEnv 0 1 1).run [[1, 0], [5, 6, 7]]).2 =
    ([[1, 0], [5, 6, 7], [3]], [.read 0, .read 1, .read 1, .alloc 2, .write 2]) := by decide +kernel

/-- `Filter(a-leaf)` of today's source on the frame with index [2, 0, 1] (the leaf holds at position 1): the mask and the
result index are allocated and written, the receiver's arrays only read -/
def exLeafClause : F.Clause := .leaf C01FreshCL.exLeaf
example : ∀ base, (filterProg CL.LeafCalls.ofLeaf exLeafClause { index := [2, 0, 1] } 0 1).OwnWrites base :=
  @gen_filter_own_writes _ _ _ 0 1
example : ((filterProg CL.LeafCalls.ofLeaf exLeafClause { index := [2, 0, 1] } 0 1).run [[2, 0, 1], [0, 1]]).2 =
    ([[2, 0, 1], [0, 1], [0, 0, 1], [1]], [.read 0, .read 1, .alloc 2, .write 2, .alloc 3, .write 3]) := by
  -- that the unit passes its check is `clausesOK_today`; what is left to evaluate is the run
  simp only [filterProg, filterEff, freshEff, clausesOK_today]
  decide +kernel
/-- `NullClause`: the receiver is returned, nothing is allocated -/
example : ((filterProg CL.LeafCalls.ofLeaf .null { index := [2, 0, 1] } 0 1).run [[2, 0, 1], [0, 1]]).2 =
    ([[2, 0, 1], [0, 1]], [.read 0, .read 1]) := by
  simp only [filterProg, filterEff, freshEff, clausesOK_today]
  decide +kernel
/-- `GroupBy` on the parity of the row number, rows 2, 0, 1: the groups [2, 0] and [1], and the group list -/
example : ((groupByProg 64 [C01FreshGL.exCmp] [2, 0, 1] 0 1).run [[2, 0, 1], [0, 1]]).2.1 =
    [[2, 0, 1], [0, 1], [2, 0], [1], [2, 1]] := by
  simp only [groupByProg, groupByEff, freshEff, grouperOK_today]
  decide +kernel
/-- `Aggregate` with a user function `func([]int) int` (the number of cells) on the int cells 5, 6, 7 and the groups
[2, 0], [1]: the first-row index [2, 1] and the cells of the aggregated column are allocated and written -/
def exAggEnv : LGEnv :=
  { recv := { ty := .int, cells := [.int 5, .int 6, .int 7] }, groups := [[2, 0], [1]],
    fn := .aggFn .int .int (fun l => .int l.length), builtin := fun _ => none }
example : ∀ base, (aggregateProg exEnc .int exAggEnv (.int 0) 0 1).OwnWrites base :=
  @gen_aggregate_own_writes exEnc .int (by decide) exAggEnv (.int 0) 0 1
example : ((aggregateProg exEnc .int exAggEnv (.int 0) 0 1).run [[2, 0, 1], [5, 6, 7]]).2 =
    ([[2, 0, 1], [5, 6, 7], [2, 1], [2]], [.read 0, .read 1, .alloc 2, .write 2, .alloc 3, .write 3]) := by decide +kernel
/-- a history with `Sort` on the heap and a run of every value-semantics family -/
example : ∀ id, id < 3 →
    (runAll ([GRun.op exSort exH exDir, .filter CL.LeafCalls.ofLeaf exLeafClause { index := [2, 0, 1] } 0 1,
        .groupBy 64 [C01FreshGL.exCmp] [2, 0, 1] 0 1, .distinctTable 64 [C01FreshGL.exCmp] [2, 0, 1] 0 1,
        .aggregate .int (by decide) exAggEnv (.int 0) 0 1, .fapply false 0 1, .fapply true 0 1].map (GRun.prog exEnc))
      exStore).getD id [] = exStore.getD id [] :=
  gen_any_history_persistent exEnc _ exStore

#print axioms gen_filter_own_writes
#print axioms gen_groupBy_own_writes
#print axioms gen_distinct_table_own_writes
#print axioms gen_aggregate_own_writes
#print axioms gen_fapply_own_writes
#print axioms witness_filter_in_place
#print axioms witness_grouper_in_place
#print axioms witness_aggregate_sorts_groups
#print axioms Eff.own
#print axioms Eff.not_own
#print axioms gen_project_own_writes
#print axioms gen_index_own_writes
#print axioms pf_own_writes
#print axioms gen_supper_own_writes
#print axioms gen_eupper_own_writes
#print axioms gen_subset_own_writes
#print axioms gen_apply_loops_own_writes
#print axioms witness_apply_in_place
#print axioms gen_run_own_writes
#print axioms gen_any_history_persistent
#print axioms gen_any_history_persistent_from
#print axioms any_history_persistent_partial
#print axioms gen_history_observation_kept
#print axioms gen_history_observation_kept_from
#print axioms witness_setColumn_append
#print axioms witness_sort_in_place
#print axioms witness_eupper_reuse_data
#print axioms witness_supper_reuse

end QF.Props.C01GenOps
