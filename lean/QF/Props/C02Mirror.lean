import QF.Core.ListFacts
import QF.Drv.FilterMirror
import QF.Props.C02Spec
/-!
# C02 — the executable Filter mirror agrees with the spec

`QF.Drv.mirrorFilter lo f c` runs the mirror of the Go implementation (`F.Clause.filter`: shared boolean mask, kernels
of shape guarded / setAll, inverse shortcut with fallback, And sequential, Or in batches merged by `orFrames`, Not by
leaf flip or complement merge) on the translation `mirrorClause lo f c` of a spec clause, with kernel shapes and the
inverse table taken from the facts extracted from the source (`QF.Gen`). This file proves

    mirrorFilter lo f c = if c.wellFormed lo f then some (keptRows lo f c) else none

* `mirror_sem`        : `(mirrorClause lo f c).sem = c.sem lo f` (every clause, every row)
* `mirror_wellTyped`  : `(mirrorClause lo f c).wellTyped = c.wellFormed lo f`
* `mirror_sound`      : every leaf of the mirror clause is `LeafOk`: its kernel is the guarded accumulate of the spec
                        predicate, or sets every entry to `true` for a constantly-true predicate; inverse shortcuts
                        are pointwise negations. Needs `ShapesOK` (facts about `QF.Gen`) and `IntColsNonNull f`.
* `filter_refines'`   : `F.filter_refines` generalised from `F.Leaf.sound` to `LeafOk`: `ClauseOk` is `F.Refinable` too, a harmless
                        `setAll true` kernel acts on every mask as the guarded one (`runKernel_ok`)
* `filter_err`        : a clause that is not `wellTyped` makes `F.Clause.filter` fail, on every frame (`F.filter_err_eq`)
* `shapesOK_today`    : `ShapesOK` for today's tables, by `decide`
* `filter_eq_spec_of`  : the last step once, for any `F.Clause` that stands for a spec clause on the rows of a frame (`ClauseOk`,
                        well typed exactly when the spec clause is well formed, the same `sem` then): the mirror returns `keptRows`
* `mirrorFilter_eq_spec_partial`, `mirrorFilter_eq_spec_today` : the agreement (`filter_eq_spec_of` for `mirrorClause`).

The statement carries one hypothesis beyond `ShapesOK`, hence the name `_partial`: `IntColsNonNull f`, "an int column
holds no null cell". It is a well-typedness condition on the logical frame (Go `int` has no null, every frame built by
the driver satisfies it) and it cannot be dropped: the int `isnotnull` kernel of the source sets every mask entry
without looking at the data, whereas the spec looks at the cell; see `fBad` at the end of the file for the
counterexample on an ill-typed `LFrame`.
-/
namespace QF.Props.C02Mirror
open QF QF.Drv

/-! ## F-level: kernels that overwrite with `true` a constantly-true predicate -/

/-- A kernel is harmless when it is the guarded accumulate, or when it sets every entry to `true` and the predicate it
stands for is constantly true. -/
def KOk (sh : F.KShape) (p : F.Pos → Bool) : Prop :=
  sh = .guarded ∨ (sh = .setAll true ∧ ∀ x, p x = true)

theorem runKernel_ok (sh : F.KShape) (p : F.Pos → Bool) (h : KOk sh p) (ix : List F.Pos) (m : List Bool) :
    F.runKernel sh p ix m = F.runKernel .guarded p ix m := by
  rcases h with rfl | ⟨rfl, hp⟩
  · rfl
  · induction ix generalizing m with
    | nil => simp [F.runKernel]
    | cons i ix ih =>
      cases m with
      | nil => simp [F.runKernel]
      | cons b bs => cases b <;> simp [F.runKernel, ih, hp]

def LeafOk (l : F.Leaf) : Prop :=
  KOk l.shape l.pred ∧ ∀ sh p, l.inv = some (sh, p) → KOk sh p ∧ ∀ x, p x = !l.pred x

def ClauseOk : F.Clause → Prop
  | .leaf l => LeafOk l
  | .and cs => ∀ c ∈ cs, ClauseOk c
  | .or cs => ∀ c ∈ cs, ClauseOk c
  | .not c => ClauseOk c
  | .null => True

@[simp] theorem ok_leaf (l : F.Leaf) : ClauseOk (.leaf l) = LeafOk l := by simp [ClauseOk]
@[simp] theorem ok_and (cs : List F.Clause) : ClauseOk (.and cs) = ∀ c ∈ cs, ClauseOk c := by simp [ClauseOk]
@[simp] theorem ok_or (cs : List F.Clause) : ClauseOk (.or cs) = ∀ c ∈ cs, ClauseOk c := by simp [ClauseOk]
@[simp] theorem ok_not (c : F.Clause) : ClauseOk (.not c) = ClauseOk c := by simp [ClauseOk]

theorem clauseOk_refinable : F.Refinable ClauseOk where
  leaf l h he b :=
    have h' : LeafOk l := by simpa using h
    F.leafStep_adds _ he (runKernel_ok _ _ h'.1) (fun sh p hv => ⟨runKernel_ok _ _ (h'.2 sh p hv).1, (h'.2 sh p hv).2⟩)
  and cs h := by simpa using h
  or cs h := by simpa using h
  not c h := by simpa using h

/-- Generalisation of `F.filter_refines`: kernels of shape `setAll true` are allowed for constantly-true predicates. -/
theorem filter_refines' (c : F.Clause) (hok : ClauseOk c) (hw : c.wellTyped = true) : F.Ref c :=
  F.refines_of clauseOk_refinable c hok hw

/-- A clause that is not well typed (an erroring leaf, or an empty `And`/`Or`, anywhere) makes `filter` fail. -/
theorem filter_err (c : F.Clause) (hw : c.wellTyped = false) (f : F.Frame) : (c.filter f).err = true := by
  rw [F.filter_err_eq, hw]; simp


/-! ## The extracted tables -/
/-- what `kernelShape` does once the comparator table has produced the kernel name `fn` -/
def entryShape (ty : CType) (tbl fn : String) : Option F.KShape :=
  let pkg := pkgOf ty
  if ty == .enum && (tbl == "multiFilterFuncs" || tbl == "multiInputFilterFuncs") then
    match Gen.kernels.find? (fun k => k.1 == pkg && k.2.1 == "Column.filterWithBitset") with
    | some k => if k.2.2.1 == "guarded" then some .guarded else none
    | none => none
  else
  match Gen.kernels.find? (fun k => k.1 == pkg && k.2.1 == fn) with
  | none => none
  | some k =>
    let sh := k.2.2.1
    if sh == "guarded" || sh == "guarded+pre" || sh == "delegates" then some .guarded
    else if sh == "noop" then some .guarded
    else if sh == "unguarded" && k.2.2.2 == "true" then some (.setAll true)
    else if sh == "unguarded" && k.2.2.2 == "false" then some (.setAll false)
    else none

theorem kernelShape_eq (ty : CType) (arg : Arg) (op : String) :
    kernelShape ty arg op =
      match (Gen.tables.find? (fun t => t.1 == pkgOf ty && t.2.1 == tableOf ty arg op)).bind (fun t => t.2.2.lookup op) with
      | none => none
      | some fn => entryShape ty (tableOf ty arg op) fn := rfl

def allTypes : List CType := [.int, .float, .bool, .string, .enum, .undef]

def checkShapes : Bool :=
  Gen.tables.all fun t => t.2.2.all fun e => allTypes.all fun ty =>
    !(t.1 == pkgOf ty) ||
      match entryShape ty t.2.1 e.2 with
      | none => true
      | some .guarded => true
      | some (.setAll true) => t.1 == "icolumn" && t.2.1 == "filterFuncs0" && e.1 == "isnotnull"
      | some (.setAll false) => false

theorem checkShapes_true : checkShapes = true := by decide +kernel


/-- The facts about the extracted tables (`QF.Gen`) on which the agreement of mirror and spec rests. -/
structure ShapesOK : Prop where
  /-- every kernel reachable through a comparator table accumulates under the guard `!bIndex[i]`, except the int
  `isnotnull` kernel, which sets every entry to `true` -/
  shape : ∀ ty arg op sh, kernelShape ty arg op = some sh →
    sh = .guarded ∨ (sh = .setAll true ∧ ty = .int ∧ arg = .nil ∧ op = "isnotnull")
  /-- `filter.Inverse` only holds pairs that are semantic complements in the spec, or involve `not in`, which no
  column accepts -/
  inverse : ∀ op iop, Gen.inverse.lookup op = some iop →
    (op, iop) ∈ C02Spec.inversePairs ∨ op = "not in" ∨ iop = "not in"

theorem shape_today (ty : CType) (arg : Arg) (op : String) (sh : F.KShape) (h : kernelShape ty arg op = some sh) :
    sh = .guarded ∨ (sh = .setAll true ∧ ty = .int ∧ arg = .nil ∧ op = "isnotnull") := by
  rw [kernelShape_eq] at h
  cases hfind : Gen.tables.find? (fun t => t.1 == pkgOf ty && t.2.1 == tableOf ty arg op) with
  | none => simp [hfind] at h
  | some t =>
    simp only [hfind, Option.bind_some] at h
    cases hl : t.2.2.lookup op with
    | none => simp [hl] at h
    | some fn =>
      simp only [hl] at h
      have hmem := List.mem_of_find?_eq_some hfind
      have hpred := List.find?_some hfind
      simp only [Bool.and_eq_true, beq_iff_eq] at hpred
      have he := ListFacts.mem_of_lookup_eq_some hl
      have hc := checkShapes_true
      simp only [checkShapes, List.all_eq_true] at hc
      have := hc t hmem (op, fn) he ty (by cases ty <;> simp [allTypes])
      simp only [hpred.1, beq_self_eq_true, Bool.not_true, Bool.false_or] at this
      rw [hpred.2, h] at this
      cases sh with
      | guarded => exact Or.inl rfl
      | setAll b =>
        cases b with
        | false => simp at this
        | true =>
          simp only [Bool.and_eq_true, beq_iff_eq] at this
          obtain ⟨⟨h1, h2⟩, h3⟩ := this
          have hty : ty = .int := by
            cases ty <;> first | rfl | (exact absurd h1 (by decide))
          subst hty
          refine Or.inr ⟨rfl, rfl, ?_, h3⟩
          cases arg <;> first | rfl | (exact absurd h2 (by simp [tableOf]))

theorem inverse_today (op iop : String) (h : Gen.inverse.lookup op = some iop) :
    (op, iop) ∈ C02Spec.inversePairs ∨ op = "not in" ∨ iop = "not in" := by
  have hm := ListFacts.mem_of_lookup_eq_some h
  have : ∀ p ∈ Gen.inverse, p ∈ C02Spec.inversePairs ∨ p.1 = "not in" ∨ p.2 = "not in" := by decide
  exact this _ hm

theorem shapesOK_today : ShapesOK := ⟨shape_today, inverse_today⟩


/-! ## The mirror of a spec clause -/
section mirror
variable (lo : LikeOracle) (f : LFrame)

theorem mirrorLeaf_err (l : Leaf) : (mirrorLeaf lo f l).err = !(leafPred lo f l).isSome := by
  unfold mirrorLeaf
  cases leafPred lo f l with
  | none => rfl
  | some p => cases l.cmp <;> rfl

theorem mirrorLeaf_sem (l : Leaf) (r : Nat) :
    (mirrorLeaf lo f l).sem r = (Clause.leaf l).sem lo f r := by
  unfold mirrorLeaf
  simp only [Clause.sem]
  cases leafPred lo f l with
  | none => rfl
  | some p => cases l.cmp <;> rfl

theorem mirrorClauses_isEmpty (cs : List Clause) : (mirrorClauses lo f cs).isEmpty = cs.isEmpty := by
  cases cs <;> simp [mirrorClauses]

mutual
theorem mirror_wt (c : Clause) : (mirrorClause lo f c).wellTyped = (c.constructOk && c.typed lo f) := by
  match c with
  | .leaf l => simp [mirrorClause, Clause.constructOk, Clause.typed, mirrorLeaf_err]
  | .null => simp [mirrorClause, Clause.constructOk, Clause.typed, F.Clause.wellTyped]
  | .not c => simpa [mirrorClause, Clause.constructOk, Clause.typed] using mirror_wt c
  | .and cs | .or cs =>
    simp only [mirrorClause, Clause.constructOk, Clause.typed, F.wt_and, F.wt_or, mirror_wts cs, mirrorClauses_isEmpty lo f]
    cases cs.isEmpty <;> cases constructOkAll cs <;> simp
theorem mirror_wts (cs : List Clause) :
    (mirrorClauses lo f cs).all (·.wellTyped) = (constructOkAll cs && typedAll lo f cs) := by
  match cs with
  | [] => simp [mirrorClauses, constructOkAll, typedAll]
  | c :: cs =>
    simp only [mirrorClauses, constructOkAll, typedAll, List.all_cons, mirror_wt c, mirror_wts cs]
    cases c.constructOk <;> cases c.typed lo f <;> cases constructOkAll cs <;> simp
end


theorem mirror_wellTyped (c : Clause) : (mirrorClause lo f c).wellTyped = c.wellFormed lo f := mirror_wt lo f c

mutual
theorem mirror_sem' (c : Clause) (r : Nat) : (mirrorClause lo f c).sem r = c.sem lo f r := by
  match c with
  | .leaf l => simp only [mirrorClause, F.sem_leaf]; exact mirrorLeaf_sem lo f l r
  | .null => simp [mirrorClause, Clause.sem]
  | .not c => simp [mirrorClause, Clause.sem, mirror_sem' c r]
  | .and cs => simp only [mirrorClause, F.sem_and, Clause.sem]; exact mirror_semAll cs r
  | .or cs => simp only [mirrorClause, F.sem_or, Clause.sem]; exact mirror_semAny cs r
theorem mirror_semAll (cs : List Clause) (r : Nat) : (mirrorClauses lo f cs).all (·.sem r) = semAll lo f cs r := by
  match cs with
  | [] => simp [mirrorClauses, semAll]
  | c :: cs => simp only [mirrorClauses, semAll, List.all_cons, mirror_sem' c r, mirror_semAll cs r]
theorem mirror_semAny (cs : List Clause) (r : Nat) : (mirrorClauses lo f cs).any (·.sem r) = semAny lo f cs r := by
  match cs with
  | [] => simp [mirrorClauses, semAny]
  | c :: cs => simp only [mirrorClauses, semAny, List.any_cons, mirror_sem' c r, mirror_semAny cs r]
end

/-- The mirror clause means what the spec clause means, on every row (well typed or not). -/
theorem mirror_sem (c : Clause) : (mirrorClause lo f c).sem = c.sem lo f := funext (mirror_sem' lo f c)


/-! ### soundness of the mirror leaves -/

/-- no column accepts the comparator `not in` -/
theorem leafPred_notin (l : Leaf) (h : l.cmp = .builtin "not in") : leafPred lo f l = none := by
  refine C02Spec.leafPred_opMisfit h ?_
  generalize l.arg = a
  rcases a with (_ | _ | _ | _ | _) | _ | _ | _ | _ | _ <;> rfl

/-- a constant outside the value table of a non-strict enum column: the six comparators are constant -/
theorem leafPred_enum_unknown (l : Leaf) (c : LCol) (v : Bytes) (op : String) (p : Nat → Bool)
    (hc : f.find? l.col = some c) (harg : l.arg = .cell (.str (some v))) (hcmp : l.cmp = .builtin op)
    (hcond : (c.ty == .enum && isOrd6 op && (enumRank c.vals v).isNone) = true)
    (hp : leafPred lo f l = some p) : p = fun _ => op == "!=" := by
  simp only [Bool.and_eq_true, beq_iff_eq, Option.isNone_iff_eq_none] at hcond
  obtain ⟨⟨hty, hord⟩, hrank⟩ := hcond
  rw [C02Spec.leafPred_builtin hc hcmp, harg] at hp
  simp only [C02Spec.resolve, Option.bind_some, C02Spec.route, hty, hord, hrank, Option.isSome_none, Bool.false_eq_true, ↓reduceIte] at hp
  split at hp
  · cases hp
  · injection hp with hp; exact hp.symm


/-- int columns hold no null cell (Go `int` has no null) — needed because the int `isnotnull` kernel keeps every row
without looking at the cells -/
def IntColsNonNull (f : LFrame) : Prop :=
  ∀ c : LCol, c ∈ f.cols → c.ty = .int → ∀ r : Nat, (c.cells[r]!).isNull = false

/-- the column type that selects the kernel package (an int column compared with a float column is promoted) -/
def colTyOf (f : LFrame) (l : Leaf) : CType :=
  match f.find? l.col with
  | some c =>
    (match l.arg with
     | .col an => (match f.find? an with | some ac => if c.ty == .int && ac.ty == .float then .float else c.ty | none => c.ty)
     | _ => c.ty)
  | none => .undef

theorem kshape_ok (hs : ShapesOK) (hf : IntColsNonNull f) (l : Leaf) (op : String) (hcmp : l.cmp = .builtin op)
    (p : Nat → Bool) (hp : leafPred lo f l = some p) (sh : F.KShape)
    (hk : kernelShape (colTyOf f l) l.arg op = some sh) : KOk sh p := by
  rcases hs.shape _ _ _ _ hk with h | ⟨h1, h2, h3, h4⟩
  · exact Or.inl h
  · refine Or.inr ⟨h1, ?_⟩
    obtain ⟨i, col, cmp, arg⟩ := l
    simp only at hcmp h3; subst hcmp h3 h4
    obtain ⟨c, hc, -, -, rfl⟩ := C02Spec.leafPred_nullop lo f i col .nil "isnotnull" p (Or.inr rfl) hp
    have hty : c.ty = .int := by simpa [colTyOf, hc] using h2
    have hmem : c ∈ f.cols := List.mem_of_find?_eq_some hc
    intro r
    simp [hf c hmem hty r]

theorem kshape_getD_ok (hs : ShapesOK) (hf : IntColsNonNull f) (l : Leaf) (op : String) (hcmp : l.cmp = .builtin op)
    (p : Nat → Bool) (hp : leafPred lo f l = some p) :
    KOk ((kernelShape (colTyOf f l) l.arg op).getD .guarded) p := by
  cases hk : kernelShape (colTyOf f l) l.arg op with
  | none => exact Or.inl rfl
  | some sh => exact kshape_ok lo f hs hf l op hcmp p hp sh hk

theorem mirrorLeaf_ok (hs : ShapesOK) (hf : IntColsNonNull f) (l : Leaf) : LeafOk (mirrorLeaf lo f l) := by
  unfold mirrorLeaf
  cases hp : leafPred lo f l with
  | none => exact ⟨Or.inl rfl, by intro sh p h; cases h⟩
  | some p =>
    simp only
    cases hcmp : l.cmp with
    | p1 id => exact ⟨Or.inl rfl, by intro sh p h; cases h⟩
    | p2 => exact ⟨Or.inl rfl, by intro sh p h; cases h⟩
    | bad => exact ⟨Or.inl rfl, by intro sh p h; cases h⟩
    | builtin op =>
      simp only
      refine ⟨?_, ?_⟩
      · simp only
        split
        · rename_i c v hc harg
          split
          · rename_i hcond
            have := leafPred_enum_unknown lo f l c v op p hc harg hcmp hcond hp
            subst this
            split
            · rename_i hne
              exact Or.inr ⟨rfl, fun _ => hne⟩
            · exact Or.inl rfl
          · exact kshape_getD_ok lo f hs hf l op hcmp p hp
        · exact kshape_getD_ok lo f hs hf l op hcmp p hp
      · intro sh q hI
        simp only at hI
        split at hI
        · cases hI
        · rename_i iop hlk
          split at hI
          · rename_i q' sh' hq hk
            injection hI with hI
            injection hI with h1 h2
            subst h1 h2
            have hcmp' : ({ l with cmp := Cmp.builtin iop } : Leaf).cmp = .builtin iop := rfl
            refine ⟨kshape_ok lo f hs hf { l with cmp := Cmp.builtin iop } iop hcmp' q' hq sh' hk, ?_⟩
            rcases hs.inverse op iop hlk with hpair | hnot | hnot
            · obtain ⟨q2, hq2, hneg⟩ := C02Spec.leafPred_inverse lo f l op iop p hcmp hpair hp
              rw [hq] at hq2
              injection hq2 with hq2
              subst hq2
              exact hneg
            · subst hnot
              rw [leafPred_notin lo f l hcmp] at hp; cases hp
            · subst hnot
              rw [leafPred_notin lo f _ hcmp'] at hq; cases hq
          · cases hI


mutual
theorem mirror_ok (hs : ShapesOK) (hf : IntColsNonNull f) (c : Clause) : ClauseOk (mirrorClause lo f c) := by
  match c with
  | .leaf l => simp only [mirrorClause, ok_leaf]; exact mirrorLeaf_ok lo f hs hf l
  | .null => simp [mirrorClause, ClauseOk]
  | .not c => simp only [mirrorClause, ok_not]; exact mirror_ok hs hf c
  | .and cs | .or cs => simp only [mirrorClause, ok_and, ok_or]; exact mirror_oks hs hf cs
theorem mirror_oks (hs : ShapesOK) (hf : IntColsNonNull f) (cs : List Clause) :
    ∀ c' ∈ mirrorClauses lo f cs, ClauseOk c' := by
  match cs with
  | [] => simp [mirrorClauses]
  | c :: cs =>
    intro c' hc'
    simp only [mirrorClauses, List.mem_cons] at hc'
    rcases hc' with rfl | hc'
    · exact mirror_ok hs hf c
    · exact mirror_oks hs hf cs c' hc'
end

/-- Every kernel of the mirror clause is the guarded accumulate of the spec predicate
or behaves like it, and the inverse shortcuts are pointwise negations. -/
theorem mirror_sound (hs : ShapesOK) (hf : IntColsNonNull f) (c : Clause) : ClauseOk (mirrorClause lo f c) :=
  mirror_ok lo f hs hf c

/-- The refinement theorem of the Filter mirror, for the mirror of a spec clause. -/
theorem mirror_refines (hs : ShapesOK) (hf : IntColsNonNull f) (c : Clause) (hw : c.wellFormed lo f = true) :
    F.Ref (mirrorClause lo f c) :=
  filter_refines' _ (mirror_ok lo f hs hf c) (by rw [mirror_wellTyped, hw])

/-- The mirror run on ANY `F.Clause` `C` that stands for the spec clause `c` on the rows of `f` — well typed exactly when `c`
is well formed, harmless kernels, the same meaning on every row when `c` is well formed — returns what the spec says
(`mirrorClause` here, `C02EndToEnd.genClause` for the regenerated leaves). -/
theorem filter_eq_spec_of (c : Clause) (C : F.Clause) (hok : ClauseOk C) (hwt : C.wellTyped = c.wellFormed lo f)
    (hsem : c.wellFormed lo f = true → ∀ r, r < f.n → C.sem r = c.sem lo f r) :
    (let r := C.filter { index := List.range f.n }; if r.err then none else some r.index) =
      if c.wellFormed lo f then some (keptRows lo f c) else none := by
  cases hw : c.wellFormed lo f with
  | false => simp [filter_err C (hwt.trans hw)]
  | true =>
    obtain ⟨e, i⟩ := filter_refines' C hok (hwt.trans hw) { index := List.range f.n } List.nodup_range rfl
    simp only [e, i, keptRows, Bool.false_eq_true, if_false, if_true, Option.some.injEq]
    exact List.filter_congr fun r hr => hsem hw r (List.mem_range.1 hr)

/-- The executable Filter mirror agrees with the spec: it fails exactly on the clauses that are not well formed, and
otherwise keeps exactly `keptRows`. -/
theorem mirrorFilter_eq_spec_partial (c : Clause) (hshape : ShapesOK) (hf : IntColsNonNull f) :
    mirrorFilter lo f c = if c.wellFormed lo f then some (keptRows lo f c) else none :=
  filter_eq_spec_of lo f c _ (mirror_ok lo f hshape hf c) (mirror_wellTyped lo f c) fun _ r _ => mirror_sem' lo f c r

/-- … with the table facts discharged for today's source. -/
theorem mirrorFilter_eq_spec_today (c : Clause) (hf : IntColsNonNull f) :
    mirrorFilter lo f c = if c.wellFormed lo f then some (keptRows lo f c) else none :=
  mirrorFilter_eq_spec_partial lo f c shapesOK_today hf

end mirror

/-! ## Concrete instances -/

/-- a decidable form of `IntColsNonNull` -/
def intColsNonNullB (f : LFrame) : Bool :=
  f.cols.all (fun c => c.ty != .int || c.cells.toList.all (fun x => !x.isNull))

theorem intColsNonNull_of_check (f : LFrame) (h : intColsNonNullB f = true) : IntColsNonNull f := by
  intro c hc hty r
  simp only [intColsNonNullB, List.all_eq_true] at h
  have := h c hc
  simp only [hty, bne_self_eq_false, Bool.false_or, List.all_eq_true] at this
  by_cases hr : r < c.cells.size
  · have := this c.cells[r] (by simp)
    simpa [hr] using this
  · simp [hr]; rfl

open C02Spec in
example : IntColsNonNull f0 := intColsNonNull_of_check _ (by decide)
open C02Spec in
example : mirrorFilter lo0 f0 c0 = some [1, 2] := by
  rw [mirrorFilter_eq_spec_today lo0 f0 c0 (intColsNonNull_of_check _ (by decide))]
  decide

/-- The hypothesis `IntColsNonNull` cannot be dropped: on an ill-typed logical frame whose int column holds a null cell
the int `isnotnull` kernel of the source (which sets every entry) and the spec (which looks at the cell) differ. -/
def fBad : LFrame := { cols := [ { name := [97], ty := .int, cells := #[.str none] } ], n := 1 }
def cBad : Clause := .leaf ⟨false, [97], .builtin "isnotnull", .nil⟩
example : cBad.wellFormed C02Spec.lo0 fBad = true ∧ keptRows C02Spec.lo0 fBad cBad = [] := by decide
example : mirrorFilter C02Spec.lo0 fBad cBad = some [0] := by decide


/-- `filter_refines'` is a genuine generalisation: a `setAll true` leaf is `LeafOk` but not `F.Leaf.sound`. -/
example : ClauseOk (.or [.leaf { shape := .setAll true, pred := fun _ => true }, .leaf F.eq1]) ∧
    (F.Clause.or [.leaf { shape := .setAll true, pred := fun _ => true }, .leaf F.eq1]).wellTyped = true ∧
    ¬ (F.Clause.or [.leaf { shape := .setAll true, pred := fun _ => true }, .leaf F.eq1]).sound := by
  refine ⟨?_, by simp [F.eq1], ?_⟩
  · simp only [ok_or, List.mem_cons, List.mem_nil_iff, or_false]
    rintro c (rfl | rfl)
    · rw [ok_leaf]; exact ⟨Or.inr ⟨rfl, fun _ => rfl⟩, by intro sh p h; cases h⟩
    · rw [ok_leaf]; exact ⟨Or.inl rfl, by intro sh p h; cases h⟩
  · intro h
    rw [F.sound_or] at h
    have := h (.leaf { shape := .setAll true, pred := fun _ => true }) (by simp)
    simp [F.Leaf.sound] at this
/-- a clause that meets the hypothesis of `filter_err` -/
example : (F.Clause.not (.and [])).wellTyped = false := by simp

/-- Consequently the spec result is the mirror's row list applied to the frame. -/
theorem filterS_eq_mirror (lo : LikeOracle) (f : LFrame) (c : Clause) (hshape : ShapesOK) (hf : IntColsNonNull f) :
    filterS lo f c = match mirrorFilter lo f c with | some rs => .ok (f.pick rs) | none => .err := by
  rw [mirrorFilter_eq_spec_partial lo f c hshape hf]
  unfold filterS
  cases c.wellFormed lo f <;> rfl

theorem hf0 : IntColsNonNull C02Spec.f0 := intColsNonNull_of_check _ (by decide)
/-- the guards of `F.Clause.filter` on And/Or/Not call `F.Clause.hasErr`, defined by well-founded recursion, so `decide` cannot
run it; the theorem can. Errors: an empty `And` below a `Not`, and an ill-typed leaf inside an `Or`. -/
example : mirrorFilter C02Spec.lo0 C02Spec.f0 (.not (.and [])) = none := by
  rw [mirrorFilter_eq_spec_today _ _ _ hf0]; decide
example : mirrorFilter C02Spec.lo0 C02Spec.f0 (.or [.leaf C02Spec.aGt1, .leaf ⟨false, [97], .builtin "like", .nil⟩]) = none := by
  rw [mirrorFilter_eq_spec_today _ _ _ hf0]; decide
/-- today's int `isnull` kernel leaves the mask alone: `Or(a > 1, isnull a)` keeps the rows of `a > 1` -/
example : mirrorFilter C02Spec.lo0 C02Spec.f0 (.or [.leaf C02Spec.aGt1, .leaf ⟨false, [97], .builtin "isnull", .nil⟩]) = some [1, 2] := by
  rw [mirrorFilter_eq_spec_today _ _ _ hf0]; decide

end QF.Props.C02Mirror

#print axioms QF.Props.C02Mirror.filter_refines'
#print axioms QF.Props.C02Mirror.filter_err
#print axioms QF.Props.C02Mirror.shapesOK_today
#print axioms QF.Props.C02Mirror.mirror_sem
#print axioms QF.Props.C02Mirror.mirror_wellTyped
#print axioms QF.Props.C02Mirror.mirror_sound
#print axioms QF.Props.C02Mirror.mirror_refines
#print axioms QF.Props.C02Mirror.mirrorFilter_eq_spec_partial
#print axioms QF.Props.C02Mirror.mirrorFilter_eq_spec_today
#print axioms QF.Props.C02Mirror.filterS_eq_mirror
