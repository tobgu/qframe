import QF.Spec.Ops
import QF.Core.OrderFacts
/-
C04 (GroupBy) — the specification `groupsS` really is the partition the property describes.

`groupsS gbNull keys n` is a `foldl` over `List.range n` with an `Array` accumulator. We
 * move the fold to lists (`stepL`, `groupsS_eq_foldl_stepL`),
 * characterise one step by a decomposition of the accumulator (`stepL_spec`),
 * prove an invariant of the fold (`Inv`, `Inv.fold`) for an arbitrary row relation `E`,
 * derive the user-facing theorems `groupsS_*` for `E = rowKeyEq gbNull keys`,
 * show that `keyEq` (hence `rowKeyEq`) is symmetric and transitive *unconditionally*
   (it is a partial equivalence relation; reflexivity fails exactly on null keys when
   `gbNull = false`), which makes the "any two rows of a group" version hypothesis-free.
-/
namespace QF.Props.C04Spec
open QF List

def hit (E : Nat → Nat → Bool) (r : Nat) : List Nat → Bool
  | h :: _ => E h r
  | [] => false

def stepL (E : Nat → Nat → Bool) (gs : List (List Nat)) (r : Nat) : List (List Nat) :=
  match gs.findIdx? (hit E r) with
  | some i => gs.modify i (fun g => g ++ [r])
  | none => gs ++ [[r]]

theorem stepL_spec (E : Nat → Nat → Bool) (gs : List (List Nat)) (r : Nat) :
    (∃ A g B, gs = A ++ g :: B ∧ hit E r g = true ∧ (∀ a ∈ A, hit E r a = false) ∧
        stepL E gs r = A ++ (g ++ [r]) :: B) ∨
    ((∀ g ∈ gs, hit E r g = false) ∧ stepL E gs r = gs ++ [[r]]) := by
  unfold stepL
  cases h : gs.findIdx? (hit E r) with
  | none =>
    right
    exact ⟨List.findIdx?_eq_none_iff.mp h, rfl⟩
  | some i =>
    left
    obtain ⟨hi, hp, hlt⟩ := List.findIdx?_eq_some_iff_getElem.mp h
    refine ⟨gs.take i, gs[i], gs.drop (i+1), ?_, hp, ?_, ?_⟩
    · simp
    · intro a ha
      obtain ⟨j, hj, rfl⟩ := List.mem_take_iff_getElem.mp ha
      have := hlt j (by omega)
      simpa using this
    · exact List.modify_eq_take_cons_drop hi

/-- What the fold `stepL` maintains after the rows `0 … k-1` (`Inv.step`, `Inv.fold`); the `groupsS_*` theorems read the partition
off it at `k = n`. The two `heads*` fields speak of `head?` so that they do not depend on `ne`. -/
structure Inv (E : Nat → Nat → Bool) (k : Nat) (gs : List (List Nat)) : Prop where
  ne : ∀ g ∈ gs, g ≠ []
  sorted : ∀ g ∈ gs, g.Pairwise (· < ·)
  perm : gs.flatten.Perm (List.range k)
  headsInc : (gs.map List.head?).Pairwise (fun a b => ∀ h1 ∈ a, ∀ h2 ∈ b, h1 < h2)
  tailEq : ∀ h t, (h :: t) ∈ gs → ∀ x ∈ t, E h x = true
  headsNe : (gs.map List.head?).Pairwise (fun a b => ∀ h1 ∈ a, ∀ h2 ∈ b, E h1 h2 = false)

theorem Inv.bound {E k gs} (inv : Inv E k gs) {g : List Nat} (hg : g ∈ gs) {x : Nat} (hx : x ∈ g) :
    x < k := by
  have : x ∈ gs.flatten := List.mem_flatten.mpr ⟨g, hg, hx⟩
  exact List.mem_range.mp (inv.perm.mem_iff.mp this)

theorem Inv.zero (E : Nat → Nat → Bool) : Inv E 0 [] :=
  ⟨nofun, nofun, .refl _, .nil, nofun, .nil⟩

theorem forall_mem_replace {α : Type} {P : α → Prop} {A B : List α} {x x' : α} (h : ∀ g ∈ A ++ x :: B, P g) (hx' : P x') :
    ∀ g ∈ A ++ x' :: B, P g := by
  rw [List.forall_mem_append, List.forall_mem_cons] at h ⊢
  exact ⟨h.1, hx', h.2.2⟩

theorem Inv.push {E k gs} (inv : Inv E k gs) (hno : ∀ g ∈ gs, hit E k g = false) : Inv E (k+1) (gs ++ [[k]]) where
  ne := List.forall_mem_append.mpr ⟨inv.ne, by simp⟩
  sorted := List.forall_mem_append.mpr ⟨inv.sorted, by simp⟩
  perm := by
    rw [List.flatten_append, List.range_succ]
    simpa using inv.perm.append_right [k]
  headsInc := by
    rw [List.map_append, List.pairwise_append]
    refine ⟨inv.headsInc, by simp, ?_⟩
    intro a ha b hb h1 hh1 h2 hh2
    obtain ⟨g, hg, rfl⟩ := List.mem_map.mp ha
    cases List.mem_singleton.mp hb
    cases hh2
    exact inv.bound hg (List.mem_of_mem_head? hh1)
  tailEq := by
    intro h t hg x hx
    rcases List.mem_append.mp hg with hg | hg
    · exact inv.tailEq h t hg x hx
    · cases List.mem_singleton.mp hg; cases hx
  headsNe := by
    rw [List.map_append, List.pairwise_append]
    refine ⟨inv.headsNe, by simp, ?_⟩
    intro a ha b hb h1 hh1 h2 hh2
    obtain ⟨g, hg, rfl⟩ := List.mem_map.mp ha
    cases List.mem_singleton.mp hb
    cases hh2
    have := hno g hg
    cases g with
    | nil => cases hh1
    | cons h t => cases hh1; exact this

theorem Inv.extend {E k A h t B} (inv : Inv E k (A ++ (h :: t) :: B)) (hh : E h k = true) :
    Inv E (k+1) (A ++ (h :: (t ++ [k])) :: B) := by
  have hmap : (A ++ (h :: (t ++ [k])) :: B).map List.head? = (A ++ (h :: t) :: B).map List.head? := by
    simp
  have hmem : h :: t ∈ A ++ (h :: t) :: B := List.mem_append_right _ List.mem_cons_self
  refine ⟨forall_mem_replace inv.ne nofun, forall_mem_replace inv.sorted ?_, ?_, hmap ▸ inv.headsInc, ?_, hmap ▸ inv.headsNe⟩
  · rw [← List.cons_append, List.pairwise_append]
    refine ⟨inv.sorted _ hmem, by simp, fun a ha b hb => ?_⟩
    cases List.mem_singleton.mp hb
    exact inv.bound hmem ha
  · rw [List.range_succ]
    refine .trans ?_ (inv.perm.append_right [k])
    simp only [List.flatten_append, List.flatten_cons, List.append_assoc, List.cons_append]
    exact (((List.perm_append_comm (l₁ := [k]) (l₂ := B.flatten)).append_left t).cons h).append_left A.flatten
  · intro h' t' hg
    refine forall_mem_replace (P := fun g => ∀ h' t', g = h' :: t' → ∀ x ∈ t', E h' x = true)
      (fun g hg h' t' e => inv.tailEq h' t' (e ▸ hg)) ?_ _ hg h' t' rfl
    intro h' t' e x hx
    cases e
    rcases List.mem_append.mp hx with hx | hx
    · exact inv.tailEq _ t hmem x hx
    · cases List.mem_singleton.mp hx; exact hh
theorem Inv.step {E k gs} (inv : Inv E k gs) : Inv E (k+1) (stepL E gs k) := by
  rcases stepL_spec E gs k with ⟨A, g, B, rfl, hp, _, he⟩ | ⟨hno, he⟩
  · rw [he]
    cases g with
    | nil => simp [hit] at hp
    | cons h t => exact inv.extend (by simpa [hit] using hp)
  · rw [he]; exact inv.push hno

theorem Inv.fold (E : Nat → Nat → Bool) (k : Nat) : Inv E k ((List.range k).foldl (stepL E) []) := by
  induction k with
  | zero => exact Inv.zero E
  | succ k ih =>
    rw [List.range_succ, List.foldl_append]
    exact ih.step

/-- `cellCmp … = some .eq` is a partial equivalence: characterise it by a "key" function. -/
def ckey (c : LCol) : Cell → Option (Nat × (Int ⊕ Bytes))
  | .int x => some (0, .inl x)
  | .float x => if F64.isNaN x then none else some (1, .inl (F64.key x))
  | .bool x => some (2, .inl x.toNat)
  | .str (some x) =>
      if c.ty == .enum then (match enumRank c.vals x with | some i => some (3, .inl (i : Int)) | none => none)
      else some (3, .inr x)
  | .str none => none

/-- the shape of every pair of cells that can be compared: the order says "equal" iff the keys are the same `some` -/
theorem key_iff {α : Type} (t : Nat) (p : α → Int ⊕ Bytes) (hp : ∀ u v, p u = p v → u = v) (u v : α) (o : Ordering)
    (ho : o = .eq ↔ u = v) : some o = some Ordering.eq ↔ ∃ k, some (t, p u) = some k ∧ some (t, p v) = some k := by
  constructor
  · intro h
    exact ⟨_, rfl, by rw [ho.mp (Option.some.inj h)]⟩
  · rintro ⟨k, h1, h2⟩
    rw [ho.mpr (hp u v (Prod.mk.inj (Option.some.inj (h1.trans h2.symm))).2)]

theorem natInl_inj (u v : Nat) (h : (Sum.inl (u : Int) : Int ⊕ Bytes) = Sum.inl (v : Int)) : u = v :=
  Int.ofNat.inj (Sum.inl.inj h)

theorem ckey_tag {c : LCol} {a : Cell} {k : Nat × (Int ⊕ Bytes)} (h : ckey c a = some k) : k.1 = a.tag := by
  rcases a with x|x|x|(_|x) <;> simp only [ckey] at h <;> (repeat' split at h) <;> cases h <;> rfl

theorem cellCmp_eq_iff (c : LCol) (a b : Cell) :
    cellCmp c a b = some .eq ↔ (∃ k, ckey c a = some k ∧ ckey c b = some k) := by
  rcases a with x|x|x|(_|x) <;> rcases b with y|y|y|(_|y)
  case int.int => exact key_iff 0 .inl (fun _ _ => Sum.inl.inj) x y _ Int.compare_eq_eq
  case bool.bool => exact key_iff 2 _ natInl_inj _ _ _ Nat.compare_eq_eq
  case float.float =>
    simp only [cellCmp, ckey]
    cases hx : F64.isNaN x
    · cases hy : F64.isNaN y
      · exact key_iff 1 .inl (fun _ _ => Sum.inl.inj) _ _ _ Int.compare_eq_eq
      · exact ⟨nofun, fun ⟨_, _, h⟩ => nomatch h⟩
    · exact ⟨nofun, fun ⟨_, h, _⟩ => nomatch h⟩
  case str.some.str.some =>
    simp only [cellCmp, ckey]
    cases c.ty == .enum
    · exact key_iff 3 .inr (fun _ _ => Sum.inr.inj) x y _ (bytesCmp_eq_iff x y)
    · cases enumRank c.vals x with
      | none => exact ⟨nofun, fun ⟨_, h, _⟩ => nomatch h⟩
      | some i =>
        cases enumRank c.vals y with
        | none => exact ⟨nofun, fun ⟨_, _, h⟩ => nomatch h⟩
        | some j => exact key_iff 3 _ natInl_inj i j _ Nat.compare_eq_eq
  -- every other pair has no order, and no common key: a null, or different constructors
  case str.none.str.none | str.none.str.some => exact ⟨nofun, fun ⟨_, h, _⟩ => nomatch h⟩
  case str.some.str.none => exact ⟨nofun, fun ⟨_, _, h⟩ => nomatch h⟩
  all_goals exact ⟨nofun, fun ⟨_, h1, h2⟩ => nomatch (ckey_tag h1).symm.trans (ckey_tag h2)⟩

/-! ## `keyEq` / `rowKeyEq` are partial equivalence relations -/

theorem cellCmp_symm {c : LCol} {a b : Cell} (h : cellCmp c a b = some .eq) : cellCmp c b a = some .eq := by
  obtain ⟨k, h1, h2⟩ := (cellCmp_eq_iff c a b).mp h
  exact (cellCmp_eq_iff c b a).mpr ⟨k, h2, h1⟩

theorem cellCmp_trans {c : LCol} {a b d : Cell} (h1 : cellCmp c a b = some .eq)
    (h2 : cellCmp c b d = some .eq) : cellCmp c a d = some .eq := by
  obtain ⟨k, ha, hb⟩ := (cellCmp_eq_iff c a b).mp h1
  obtain ⟨k', hb', hd⟩ := (cellCmp_eq_iff c b d).mp h2
  have : k = k' := by rw [hb] at hb'; exact Option.some.inj hb'
  subst this
  exact (cellCmp_eq_iff c a d).mpr ⟨k, ha, hd⟩

theorem keyEq_true_iff (gbNull : Bool) (c : LCol) (a b : Cell) :
    keyEq gbNull c a b = true ↔
      (a.isNull = true ∧ b.isNull = true ∧ gbNull = true) ∨
      (a.isNull = false ∧ b.isNull = false ∧ cellCmp c a b = some .eq) := by
  unfold keyEq
  cases a.isNull <;> cases b.isNull <;> simp

/-- `keyEq` is symmetric (for all cells, all column types, both null modes). -/
theorem keyEq_symm' {gbNull : Bool} {c : LCol} {a b : Cell} (h : keyEq gbNull c a b = true) :
    keyEq gbNull c b a = true := by
  rw [keyEq_true_iff] at h ⊢
  rcases h with ⟨h1, h2, h3⟩ | ⟨h1, h2, h3⟩
  · exact .inl ⟨h2, h1, h3⟩
  · exact .inr ⟨h2, h1, cellCmp_symm h3⟩

theorem keyEq_symm (gbNull : Bool) (c : LCol) (a b : Cell) : keyEq gbNull c a b = keyEq gbNull c b a := by
  apply Bool.eq_iff_iff.mpr
  exact ⟨keyEq_symm', keyEq_symm'⟩

/-- `keyEq` is transitive (for all cells; in particular for non-null cells of one constructor). -/
theorem keyEq_trans {gbNull : Bool} {c : LCol} {a b d : Cell} (h1 : keyEq gbNull c a b = true)
    (h2 : keyEq gbNull c b d = true) : keyEq gbNull c a d = true := by
  rw [keyEq_true_iff] at h1 h2 ⊢
  rcases h1 with ⟨a1, b1, g1⟩ | ⟨a1, b1, e1⟩ <;> rcases h2 with ⟨b2, d2, g2⟩ | ⟨b2, d2, e2⟩
  · exact .inl ⟨a1, d2, g1⟩
  · rw [b1] at b2; cases b2
  · rw [b1] at b2; cases b2
  · exact .inr ⟨a1, d2, cellCmp_trans e1 e2⟩

/-- A null key is equal to nothing when `gbNull = false`. -/
theorem keyEq_null_left {c : LCol} {a b : Cell} (ha : a.isNull = true) : keyEq false c a b = false := by
  unfold keyEq; rw [ha]; cases b.isNull <;> rfl

theorem keyEq_null_right {c : LCol} {a b : Cell} (hb : b.isNull = true) : keyEq false c a b = false := by
  rw [keyEq_symm]; exact keyEq_null_left hb

theorem rowKeyEq_symm' {gbNull : Bool} {keys : List LCol} {r1 r2 : Nat}
    (h : rowKeyEq gbNull keys r1 r2 = true) : rowKeyEq gbNull keys r2 r1 = true := by
  unfold rowKeyEq at h ⊢
  rw [List.all_eq_true] at h ⊢
  intro c hc
  exact keyEq_symm' (h c hc)

theorem rowKeyEq_symm (gbNull : Bool) (keys : List LCol) (r1 r2 : Nat) :
    rowKeyEq gbNull keys r1 r2 = rowKeyEq gbNull keys r2 r1 := by
  apply Bool.eq_iff_iff.mpr
  exact ⟨rowKeyEq_symm', rowKeyEq_symm'⟩

theorem rowKeyEq_trans {gbNull : Bool} {keys : List LCol} {r1 r2 r3 : Nat}
    (h1 : rowKeyEq gbNull keys r1 r2 = true) (h2 : rowKeyEq gbNull keys r2 r3 = true) :
    rowKeyEq gbNull keys r1 r3 = true := by
  unfold rowKeyEq at h1 h2 ⊢
  rw [List.all_eq_true] at h1 h2 ⊢
  intro c hc
  exact keyEq_trans (h1 c hc) (h2 c hc)

theorem rowKeyEq_nil (gbNull : Bool) (r1 r2 : Nat) : rowKeyEq gbNull [] r1 r2 = true := rfl

theorem rowKeyEq_null_right {keys : List LCol} {r : Nat}
    (hnull : ∃ c ∈ keys, (c.cells[r]!).isNull = true) (x : Nat) : rowKeyEq false keys x r = false := by
  obtain ⟨c, hc, hn⟩ := hnull
  unfold rowKeyEq
  rw [List.all_eq_false]
  exact ⟨c, hc, by rw [keyEq_null_right hn]; simp⟩

theorem rowKeyEq_null_left {keys : List LCol} {r : Nat}
    (hnull : ∃ c ∈ keys, (c.cells[r]!).isNull = true) (x : Nat) : rowKeyEq false keys r x = false := by
  rw [rowKeyEq_symm]; exact rowKeyEq_null_right hnull x

/-! ## Consequences of the invariant (generic in `E`) -/

theorem Inv.cover {E k gs} (inv : Inv E k gs) {r : Nat} (hr : r < k) : ∃ g ∈ gs, r ∈ g := by
  have : r ∈ gs.flatten := inv.perm.mem_iff.mpr (List.mem_range.mpr hr)
  exact List.mem_flatten.mp this

theorem Inv.nodup {E k gs} (inv : Inv E k gs) : gs.flatten.Nodup :=
  inv.perm.nodup_iff.mpr List.nodup_range

theorem pairwise_disjoint_of_nodup_flatten {L : List (List Nat)} (h : L.flatten.Nodup) :
    L.Pairwise (fun a b => ∀ x ∈ a, x ∉ b) :=
  (List.pairwise_flatten.mp h).2.imp fun hab x hx hxb => hab x hx x hxb rfl

theorem unique_idx_of_nodup_flatten {L : List (List Nat)} (h : L.flatten.Nodup) {i j : Nat}
    (hi : i < L.length) (hj : j < L.length) {x : Nat} (hxi : x ∈ L[i]) (hxj : x ∈ L[j]) : i = j := by
  have hp := List.pairwise_iff_getElem.mp (pairwise_disjoint_of_nodup_flatten h)
  rcases Nat.lt_trichotomy i j with hlt | heq | hgt
  · exact absurd hxj (hp i j hi hj hlt x hxi)
  · exact heq
  · exact absurd hxi (hp j i hj hi hgt x hxj)

theorem Inv.same_key {E k gs} (inv : Inv E k gs) {g : List Nat} (hg : g ∈ gs) {r1 r2 : Nat}
    (hhead : g.head? = some r1) (hr2 : r2 ∈ g) : E r1 r2 = true ∨ r1 = r2 := by
  cases g with
  | nil => simp at hhead
  | cons h t =>
    simp at hhead; subst hhead
    rcases List.mem_cons.mp hr2 with rfl | hr2
    · exact .inr rfl
    · exact .inl (inv.tailEq h t hg r2 hr2)

theorem Inv.same_key_any {E k gs} (inv : Inv E k gs)
    (hsymm : ∀ a b, a < k → b < k → E a b = true → E b a = true)
    (htrans : ∀ a b c, a < k → b < k → c < k → E a b = true → E b c = true → E a c = true)
    {g : List Nat} (hg : g ∈ gs) {r1 r2 : Nat} (hr1 : r1 ∈ g) (hr2 : r2 ∈ g) :
    E r1 r2 = true ∨ r1 = r2 := by
  have b1 := inv.bound hg hr1
  have b2 := inv.bound hg hr2
  cases g with
  | nil => simp at hr1
  | cons h t =>
    have bh : h < k := inv.bound hg (List.mem_cons_self)
    rcases List.mem_cons.mp hr1 with rfl | hr1
    · exact inv.same_key hg rfl hr2
    · have e1 : E h r1 = true := inv.tailEq h t hg r1 hr1
      have e1' : E r1 h = true := hsymm h r1 bh b1 e1
      rcases List.mem_cons.mp hr2 with rfl | hr2
      · exact .inl e1'
      · have e2 : E h r2 = true := inv.tailEq h t hg r2 hr2
        exact .inl (htrans r1 h r2 b1 bh b2 e1' e2)

theorem Inv.singleton {E k gs} (inv : Inv E k gs) {r : Nat} (hr : r < k)
    (hl : ∀ x, E x r = false) (hrr : ∀ x, E r x = false) : [r] ∈ gs := by
  obtain ⟨g, hg, hrg⟩ := inv.cover hr
  cases g with
  | nil => simp at hrg
  | cons h t =>
    rcases List.mem_cons.mp hrg with rfl | hrt
    · cases t with
      | nil => exact hg
      | cons x t' =>
        have := inv.tailEq r (x :: t') hg x (List.mem_cons_self)
        rw [hrr x] at this; cases this
    · have := inv.tailEq h t hg r hrt
      rw [hl h] at this; cases this

/-! ## Main theorems -/

section Main
variable (gbNull : Bool) (keys : List LCol) (n : Nat)

theorem groupsS_eq_foldl_stepL :
    groupsS gbNull keys n = (List.range n).foldl (stepL (rowKeyEq gbNull keys)) [] := by
  -- the array of groups and the list of groups take the same step
  refine (List.foldl_hom Array.toList (g₂ := stepL (rowKeyEq gbNull keys)) fun gs r => ?_).symm
  cases gs with
  | mk l =>
    show stepL _ l r = Array.toList (match l.toArray.findIdx? (hit (rowKeyEq gbNull keys) r) with
      | some i => l.toArray.modify i (· ++ [r])
      | none => l.toArray.push [r])
    simp only [stepL, List.findIdx?_toArray]
    cases l.findIdx? (hit (rowKeyEq gbNull keys) r) <;> simp

theorem groupsS_inv : Inv (rowKeyEq gbNull keys) n (groupsS gbNull keys n) := by
  rw [groupsS_eq_foldl_stepL]; exact Inv.fold _ n

theorem groupsS_cover : ∀ r < n, ∃ g ∈ groupsS gbNull keys n, r ∈ g :=
  fun _ hr => (groupsS_inv gbNull keys n).cover hr

/-- Every row is in exactly one group: the groups, concatenated, are a permutation of the rows. -/
theorem groupsS_disjoint : ((groupsS gbNull keys n).flatten).Perm (List.range n) :=
  (groupsS_inv gbNull keys n).perm

theorem groupsS_nodup : ((groupsS gbNull keys n).flatten).Nodup :=
  (groupsS_inv gbNull keys n).nodup

theorem groupsS_bound : ∀ g ∈ groupsS gbNull keys n, ∀ r ∈ g, r < n :=
  fun _ hg _ hr => (groupsS_inv gbNull keys n).bound hg hr

/-- A row occurs in a group at one position of the list of groups only … -/
theorem groupsS_unique_idx {i j : Nat} (hi : i < (groupsS gbNull keys n).length)
    (hj : j < (groupsS gbNull keys n).length) {r : Nat}
    (hri : r ∈ (groupsS gbNull keys n)[i]) (hrj : r ∈ (groupsS gbNull keys n)[j]) : i = j :=
  unique_idx_of_nodup_flatten (groupsS_nodup gbNull keys n) hi hj hri hrj

/-- … so two groups sharing a row are the same group, … -/
theorem groupsS_unique {g1 g2 : List Nat} (h1 : g1 ∈ groupsS gbNull keys n)
    (h2 : g2 ∈ groupsS gbNull keys n) {r : Nat} (hr1 : r ∈ g1) (hr2 : r ∈ g2) : g1 = g2 := by
  obtain ⟨i, hi, rfl⟩ := List.mem_iff_getElem.mp h1
  obtain ⟨j, hj, rfl⟩ := List.mem_iff_getElem.mp h2
  have := groupsS_unique_idx gbNull keys n hi hj hr1 hr2
  subst this; rfl

/-- … and a row occurs once inside its group (groups are strictly increasing, see `groupsS_sorted`). -/
theorem groupsS_exactly_one : ∀ r < n, ∃ g ∈ groupsS gbNull keys n, r ∈ g ∧
    ∀ g' ∈ groupsS gbNull keys n, r ∈ g' → g' = g := by
  intro r hr
  obtain ⟨g, hg, hrg⟩ := groupsS_cover gbNull keys n r hr
  exact ⟨g, hg, hrg, fun g' hg' hrg' => groupsS_unique gbNull keys n hg' hg hrg' hrg⟩

/-- Every group is non-empty and strictly increasing (rows in frame order). -/
theorem groupsS_sorted : ∀ g ∈ groupsS gbNull keys n, g ≠ [] ∧ g.Pairwise (· < ·) :=
  fun g hg => ⟨(groupsS_inv gbNull keys n).ne g hg, (groupsS_inv gbNull keys n).sorted g hg⟩

/-- The head of a group is its least row. -/
theorem groupsS_head_le {g : List Nat} (hg : g ∈ groupsS gbNull keys n) {h : Nat}
    (hh : g.head? = some h) : ∀ x ∈ g, h ≤ x := by
  intro x hx
  have hs := (groupsS_sorted gbNull keys n g hg).2
  cases g with
  | nil => simp at hx
  | cons a t =>
    simp at hh; subst hh
    rcases List.mem_cons.mp hx with rfl | hx
    · exact Nat.le_refl _
    · exact Nat.le_of_lt ((List.pairwise_cons.mp hs).1 x hx)

/-- Every row of a group has the key of the group's head. -/
theorem groupsS_same_key {g : List Nat} (hg : g ∈ groupsS gbNull keys n) {r1 r2 : Nat}
    (hhead : g.head? = some r1) (hr2 : r2 ∈ g) : rowKeyEq gbNull keys r1 r2 = true ∨ r1 = r2 :=
  (groupsS_inv gbNull keys n).same_key hg hhead hr2

/-- Any two rows of a group have the same key, provided `rowKeyEq` is symmetric and transitive on rows `< n`. -/
theorem groupsS_same_key_any
    (hsymm : ∀ a b, a < n → b < n → rowKeyEq gbNull keys a b = true → rowKeyEq gbNull keys b a = true)
    (htrans : ∀ a b c, a < n → b < n → c < n → rowKeyEq gbNull keys a b = true →
      rowKeyEq gbNull keys b c = true → rowKeyEq gbNull keys a c = true)
    {g : List Nat} (hg : g ∈ groupsS gbNull keys n) {r1 r2 : Nat} (hr1 : r1 ∈ g) (hr2 : r2 ∈ g) :
    rowKeyEq gbNull keys r1 r2 = true ∨ r1 = r2 :=
  (groupsS_inv gbNull keys n).same_key_any hsymm htrans hg hr1 hr2

/-- The hypotheses of `groupsS_same_key_any` always hold (`rowKeyEq_symm'`, `rowKeyEq_trans`). -/
theorem groupsS_same_key_all {g : List Nat} (hg : g ∈ groupsS gbNull keys n) {r1 r2 : Nat}
    (hr1 : r1 ∈ g) (hr2 : r2 ∈ g) : rowKeyEq gbNull keys r1 r2 = true ∨ r1 = r2 :=
  groupsS_same_key_any gbNull keys n (fun _ _ _ _ h => rowKeyEq_symm' h)
    (fun _ _ _ _ _ _ h1 h2 => rowKeyEq_trans h1 h2) hg hr1 hr2

/-- Heads of different groups have different keys: (earlier head, later head) as tested by the fold. -/
theorem groupsS_heads_differ_pairwise :
    ((groupsS gbNull keys n).map List.head?).Pairwise
      (fun a b => ∀ h1 ∈ a, ∀ h2 ∈ b, rowKeyEq gbNull keys h1 h2 = false) :=
  (groupsS_inv gbNull keys n).headsNe

/-- Heads of two different groups are not `rowKeyEq`, in either order. -/
theorem groupsS_heads_differ {i j : Nat} (hi : i < (groupsS gbNull keys n).length)
    (hj : j < (groupsS gbNull keys n).length) (hij : i ≠ j) {h1 h2 : Nat}
    (hh1 : (groupsS gbNull keys n)[i].head? = some h1)
    (hh2 : (groupsS gbNull keys n)[j].head? = some h2) :
    rowKeyEq gbNull keys h1 h2 = false := by
  have hp := List.pairwise_iff_getElem.mp (groupsS_heads_differ_pairwise gbNull keys n)
  rcases Nat.lt_or_gt_of_ne hij with hlt | hgt
  · have := hp i j (by simpa using hi) (by simpa using hj) hlt h1 (by simpa using hh1) h2 (by simpa using hh2)
    exact this
  · have := hp j i (by simpa using hj) (by simpa using hi) hgt h2 (by simpa using hh2) h1 (by simpa using hh1)
    rw [rowKeyEq_symm]; exact this

/-- Groups appear in order of first occurrence: their heads are increasing. -/
theorem groupsS_first_occurrence_pairwise :
    ((groupsS gbNull keys n).map List.head?).Pairwise (fun a b => ∀ h1 ∈ a, ∀ h2 ∈ b, h1 < h2) :=
  (groupsS_inv gbNull keys n).headsInc

theorem groupsS_first_occurrence {i j : Nat} (hij : i < j) (hj : j < (groupsS gbNull keys n).length)
    {h1 h2 : Nat} (hh1 : (groupsS gbNull keys n)[i].head? = some h1)
    (hh2 : (groupsS gbNull keys n)[j].head? = some h2) : h1 < h2 := by
  have hp := List.pairwise_iff_getElem.mp (groupsS_first_occurrence_pairwise gbNull keys n)
  exact hp i j (by simp; omega) (by simpa using hj) hij h1 (by simpa using hh1) h2 (by simpa using hh2)

theorem foldl_stepL_all (E : Nat → Nat → Bool) (hE : ∀ a b, E a b = true) (k : Nat) :
    (List.range (k+1)).foldl (stepL E) [] = [List.range (k+1)] := by
  induction k with
  | zero => rfl
  | succ k ih =>
    rw [List.range_succ, List.foldl_append, ih]
    have : List.range (k+1) = 0 :: (List.range k).map Nat.succ := List.range_succ_eq_map
    simp [stepL, this, hit, hE, List.findIdx?_cons]

/-- No key columns: one group of all rows (`rowKeyEq _ [] _ _ = true`). -/
theorem groupsS_no_keys (hk : keys = []) (hn : n > 0) : groupsS gbNull keys n = [List.range n] := by
  subst hk
  obtain ⟨k, rfl⟩ : ∃ k, n = k + 1 := ⟨n - 1, by omega⟩
  rw [groupsS_eq_foldl_stepL]
  exact foldl_stepL_all _ (rowKeyEq_nil gbNull) k

/-- With `gbNull = false`, a row with a null cell in some key column forms a group of its own. -/
theorem groupsS_null_singletons (hgb : gbNull = false) {r : Nat} (hr : r < n)
    (hnull : ∃ c ∈ keys, (c.cells[r]!).isNull = true) : [r] ∈ groupsS gbNull keys n := by
  subst hgb
  exact (groupsS_inv false keys n).singleton hr (rowKeyEq_null_right hnull) (rowKeyEq_null_left hnull)

end Main

/-! ## Concrete instances: the hypotheses of the main theorems are satisfiable -/

section Examples

/-- int key column `1 2 1 3 2` -/
def exCol : LCol := { name := [107], ty := .int, cells := #[.int 1, .int 2, .int 1, .int 3, .int 2] }
/-- string key column `"a" null "a" null` -/
def exStr : LCol :=
  { name := [115], ty := .string, cells := #[.str (some [97]), .str none, .str (some [97]), .str none] }

theorem exCol_groups : groupsS false [exCol] 5 = [[0, 2], [1, 4], [3]] := by
  rw [groupsS_eq_foldl_stepL]; decide
theorem exStr_groups : groupsS false [exStr] 4 = [[0, 2], [1], [3]] := by
  rw [groupsS_eq_foldl_stepL]; decide
/-- with `gbNull = true` the null rows share a group: `gbNull = false` is needed in `groupsS_null_singletons` -/
theorem exStr_groups_gbNull : groupsS true [exStr] 4 = [[0, 2], [1, 3]] := by
  rw [groupsS_eq_foldl_stepL]; decide

example : ∃ g ∈ groupsS false [exCol] 5, 4 ∈ g := groupsS_cover false [exCol] 5 4 (by decide)
example : ((groupsS false [exCol] 5).flatten).Perm (List.range 5) := groupsS_disjoint false [exCol] 5
example : ((groupsS false [exCol] 5).flatten).Nodup := groupsS_nodup false [exCol] 5
example : [1, 4] ≠ [] ∧ [1, 4].Pairwise (· < ·) :=
  groupsS_sorted false [exCol] 5 [1, 4] (by rw [exCol_groups]; decide)
example : rowKeyEq false [exCol] 1 4 = true ∨ 1 = 4 :=
  groupsS_same_key false [exCol] 5 (g := [1, 4]) (by rw [exCol_groups]; decide) rfl (by decide)
example : rowKeyEq false [exStr] 2 0 = true ∨ 2 = 0 :=
  groupsS_same_key_any false [exStr] 4 (fun _ _ _ _ h => rowKeyEq_symm' h)
    (fun _ _ _ _ _ _ h1 h2 => rowKeyEq_trans h1 h2) (g := [0, 2]) (by rw [exStr_groups]; decide)
    (by decide) (by decide)
example : rowKeyEq false [exCol] 3 0 = false :=
  groupsS_heads_differ false [exCol] 5 (i := 2) (j := 0) (by simp [exCol_groups]) (by simp [exCol_groups])
    (by decide) (by simp [exCol_groups]) (by simp [exCol_groups])
example : (1 : Nat) < 3 :=
  groupsS_first_occurrence false [exCol] 5 (i := 1) (j := 2) (by decide) (by simp [exCol_groups])
    (by simp [exCol_groups]) (by simp [exCol_groups])
example : groupsS true [] 3 = [[0, 1, 2]] := groupsS_no_keys true [] 3 rfl (by decide)
example : [1] ∈ groupsS false [exStr] 4 :=
  groupsS_null_singletons false [exStr] 4 rfl (by decide) ⟨exStr, List.mem_singleton.mpr rfl, by decide⟩
/-- reflexivity of `rowKeyEq` does fail on a null key with `gbNull = false` -/
example : rowKeyEq false [exStr] 1 1 = false := by decide

end Examples

end QF.Props.C04Spec

#print axioms QF.Props.C04Spec.groupsS_inv
#print axioms QF.Props.C04Spec.groupsS_cover
#print axioms QF.Props.C04Spec.groupsS_disjoint
#print axioms QF.Props.C04Spec.groupsS_nodup
#print axioms QF.Props.C04Spec.groupsS_exactly_one
#print axioms QF.Props.C04Spec.groupsS_sorted
#print axioms QF.Props.C04Spec.groupsS_same_key
#print axioms QF.Props.C04Spec.groupsS_same_key_any
#print axioms QF.Props.C04Spec.groupsS_same_key_all
#print axioms QF.Props.C04Spec.groupsS_heads_differ
#print axioms QF.Props.C04Spec.groupsS_first_occurrence
#print axioms QF.Props.C04Spec.groupsS_no_keys
#print axioms QF.Props.C04Spec.groupsS_null_singletons
#print axioms QF.Props.C04Spec.keyEq_symm
#print axioms QF.Props.C04Spec.keyEq_trans
#print axioms QF.Props.C04Spec.rowKeyEq_symm
#print axioms QF.Props.C04Spec.rowKeyEq_trans
