import QF.Props.C09Equals
import QF.Props.C09ViewsGen
import QF.Props.C09StringGen
import QF.Props.C09TypesGen
import QF.Props.C13WriterGen
import QF.Props.C14WriterGen
import QF.Props.C19SqlWriteGen
import QF.Props.C08Guards
/-!
# C09 end to end — every regenerated observer reports the logical frame (composition of the T1 pieces)

A frame AS STORED (`VFrame`, QF/Core/VwExpr.lean: per column the cells of all physical rows, and one index) has ONE logical
frame `P.logical` (logical cell `i` of a column is `data[index[i]]`). This file composes the per-function theorems about the
code regenerated from today's source into one statement per stored frame:

* `gen_observations_agree`  — `WF P → Observed P`: a field per observer, every one of them reporting `P.logical`:
    - `len`     `QFrame.Len`            (C08Guards.gen_len_semantics)        = `L.n` (−1 on a frame with an error)
    - `names`   `QFrame.ColumnNames`    (C19SqlWriteGen.gen_columnnames_semantics) = `L.names`
    - `types`   `QFrame.ColumnTypes` (C09TypesGen.gen_columntypes_semantics: the loop regenerated from qframe.go, run with
                `Column.DataType()` of today's column packages, `Gen.dataTypeNames`) = the names of `L`'s column types in order
    - `views`   `c.View(index).ItemAt(i)` / `Len()` / `Slice()` of every column (C09ViewsGen.gen_view_semantics)
                = cell `i` / `L.n` / all cells of the column of `L` at the same position
    - `tocsv`   the records `ToCSV` hands to the csv writer (C13WriterGen.gen_tocsv_semantics, with
                C09Observe.gen_stringAt_semantics) = header `L.names`, then per row of `L` the cell strings
    - `tojson`  the text `ToJSON` writes (C14WriterGen.gen_tojson_semantics, with C09Observe.gen_append_semantics) is
                `toJSON fmt L`, which parses to the array of `L`'s records, every value denoting its cell
                (C14ToJson.tojson_denotes)
    - `string`  `String()` (C09StringGen.gen_string_semantics) = the rendering of `stringPieces L`
    - `tosql`   the `Exec` calls of `ToSQL` (C19SqlWriteGen.gen_tosql_semantics with gen_argbuilder_semantics and today's
                views): one per row of `L`, the argument rows are exactly `L.rows`
    - `equals`  `P.Equals(Q)` (C09ViewsGen.gen_frame_equals_semantics) = `equalsS P.logical Q.logical`
* `gen_equal_frames_observe_cellEq`          — two stored frames with `Equals = true`: same `Len`, names, types; the views
    hand out pairwise `cellEq` items; `Equals` against any third frame answers the same (NO further hypothesis)
* `gen_equal_frames_observe_equal_partial`   — … and IDENTICAL results under every observer (`SameObs`), for frames that
    are `BitExact`: no position where one frame holds +0.0 and the other −0.0, or two NaNs of different payloads.
    EXCLUDED exactly these: `Equals` is IEEE equality on floats (−0.0 = +0.0, NaN = NaN), the texts are not
    (`zero_frames_equal_but_print_differently`: Equals = true, ToCSV writes `0` and `-0`).

The full-strength statement asked for,

    theorem gen_equal_frames_observe_equal (P Q) (hP : WF P) (hQ : WF Q)
        (h : genFrameEquals P.logical Q.logical = some true) : SameObs P Q

is FALSE as it stands (the witness above); what is proved is the statement with `BitExact` added, and the `cellEq` form
without it.

Well-formedness `WF` is `C19SqlWriteGen.FrameOK` (every column: one of the five types, all stored cells of the column's
type, the index inside the column — `C09ViewsGen.ColOK`) plus distinct column names (`columnsByName`); the bridge
`WF.typed` turns it into `C09Observe.FrameTyped P.logical`, the hypothesis of the writers' theorems.
-/
namespace QF.Props.C09EndToEnd
open QF
open QF.Props.C03Compare (pkgOf tys)
open QF.Props.C09ViewsGen (ColOK genItemAt genLen genSlice genFrameEquals)
open QF.Props.C13Write (tocsvRows cellString)
open QF.Props.C13WriterGen (genToCSV noFault)
open QF.Props.C14WriterGen (genToJSON)
open QF.Props.C14ToJson (toJSON rowBytes)
open QF.Props.C09StringGen (genString render)
open QF.Props.C19SqlWriteGen (genToSQLToday genColumnNames toSqlGo expected)

/-! ## Well-formed stored frames, and the bridge to `FrameTyped` -/

/-- a well-formed stored frame: every column is of one of the five types, holds cells of its type only, the index stays
inside the columns (`C19SqlWriteGen.FrameOK`), and the column names are distinct -/
structure WF (P : VFrame) : Prop where
  cols : C19SqlWriteGen.FrameOK P
  names : (P.cols.map (·.name)).Nodup

theorem logical_cell (c : VCol) (ix : List Nat) (r : Nat) (hr : r < ix.length) :
    (c.logical ix).cells[r]! = c.data[ix[r]]! := by
  simp [VCol.logical, VCol.pick, hr]

/-- **Bridge**: the logical frame of a well-formed stored frame has cells of its columns' types (`C09Observe.FrameTyped`) -/
theorem WF.typed {P : VFrame} (h : WF P) : C09Observe.FrameTyped P.logical := by
  intro l hl
  simp only [VFrame.logical, List.mem_map] at hl
  obtain ⟨c, hc, rfl⟩ := hl
  have ok := h.cols c hc
  refine ⟨ok.ty, fun r hr => ?_⟩
  have hr' : r < P.index.length := hr
  have hj := ok.index (P.index[r]) (List.getElem_mem hr')
  have hw := ok.cells _ hj
  rw [logical_cell c P.index r hr']
  exact hw

theorem WF.nodup {P : VFrame} (h : WF P) : P.logical.names.Nodup := by
  rw [C19SqlWriteGen.logical_names]; exact h.names

/-! ## The observers -/

/-- the string `DataType()` returns for a column of the type -/
def typeNameS : CType → Bytes
  | .int => [105, 110, 116]
  | .float => [102, 108, 111, 97, 116]
  | .bool => [98, 111, 111, 108]
  | .string => [115, 116, 114, 105, 110, 103]
  | .enum => [101, 110, 117, 109]
  | .undef => []

/-- `c.DataType()` of today's source, per stored column in order -/
def genDataTypes (P : VFrame) : List (Option Bytes) := P.cols.map (fun c => Gen.dataTypeNames.lookup (pkgOf c.ty))

/-- `qf.ColumnTypes()` of today's source (`Gen.columnTypesAst`, the loop of qframe.go) on the stored frame, every column
answering `DataType()` as today's column package does -/
def genTypes (P : VFrame) : Option (List Bytes) := C09TypesGen.genColumnTypes (genDataTypes P)

/-- the column selection the harness passes to `ToCSV` (nil for an empty list) -/
def sel (cols : List Bytes) : Option (List Bytes) := if cols.isEmpty then none else some cols

/-- what the spec says `ToCSV` hands to the csv writer: the selected columns of the frame rendered, or a rejection -/
def csvOut (fmt : UInt64 → Bytes) (f : LFrame) (cols : List Bytes) (hdr ferr : Bool) :
    Option (List (List Bytes) × Bool × CWRet) :=
  match csvColumns f cols with
  | some cs => some (tocsvRows fmt hdr { f with cols := cs }, true, if ferr then .writerErr else .nil)
  | none => some ([], false, .reject)

/-- the `Write` calls of `ToJSON` on the frame, cut at the first failing one -/
def jsonOut (fmt : UInt64 → Bytes) (f : LFrame) (fail : Nat → Bool) : Option (List Bytes × Bool) :=
  some (cutWrites fail 0 ([[91]] ++ (List.range f.n).map (rowBytes fmt f) ++ [[93]]))

/-- **What every regenerated observer reports of the stored frame `P`**: the logical frame `P.logical`. -/
structure Observed (P : VFrame) : Prop where
  /-- `Len()`: the number of rows of the logical frame; −1 on a frame that carries an error -/
  len : ∀ hasErr : Bool, C08Guards.genLen { hasErr := hasErr, rows := P.index.length } =
    some (if hasErr then -1 else (P.logical.n : Int))
  /-- `ColumnNames()`: the names of the logical frame in order -/
  names : genColumnNames (P.cols.map (·.name)) = some P.logical.names
  /-- `ColumnTypes()`: the names of the types of the logical frame's columns in order -/
  types : genTypes P = some (P.logical.cols.map (fun l => typeNameS l.ty))
  /-- the typed view of the column at every position: `ItemAt(r)` is cell `r` of the logical column at that position (no
  value — Go panics — for `r ≥ n`), `Len()` is `n`, `Slice()` all its cells in order -/
  views : ∀ (i : Nat) (c : VCol), P.cols[i]? = some c →
    ∃ l, P.logical.cols[i]? = some l ∧ l.name = c.name ∧ l.ty = c.ty ∧ l.cells.size = P.logical.n ∧
      (∀ r, genItemAt c P.index r = l.cells[r]?) ∧
      genLen c P.index = some P.logical.n ∧
      genSlice c P.index = some l.cells.toList
  /-- `ToCSV`: the records handed to the csv writer are the spec's rendering of the selected columns of the logical frame
  (`tocsvRows`: the names if `hdr`, then `L.rows` with every cell as `cellString`); a selection the spec rejects is rejected
  before any record is written -/
  tocsv : ∀ (fmt : UInt64 → Bytes) (cols : List Bytes) (hdr ferr : Bool),
    genToCSV fmt P.logical (sel cols) hdr noFault ferr = csvOut fmt P.logical cols hdr ferr
  /-- `ToJSON`: `n + 2` `Write` calls whose concatenation is `toJSON fmt L` … -/
  tojson : ∀ fmt : UInt64 → Bytes, ∃ ws, genToJSON fmt P.logical (fun _ => false) = some (ws, false) ∧
    ws.length = P.logical.n + 2 ∧ ws.flatten = toJSON fmt P.logical
  /-- … and that text denotes the logical frame (`C14ToJson.tojson_denotes`): it parses to the array of the records of
  `L`, keys = the (sanitized) names in order, every value denoting its cell — for every float formatter that writes JSON
  number tokens which round back to the float (C16 proves it of the Ryu pipeline) -/
  tojsonDenotes : ∀ fmt : UInt64 → Bytes,
    (∀ b, F64.isNaN b = false → ∀ tl, C14ToJson.numEnd tl = true → Json.parseNum (fmt b ++ tl) = some (fmt b, tl)) →
    (∀ b, F64.isNaN b = false → ∃ neg m d, Num.parseNumber (fmt b) = some (neg, m, d) ∧ Num.ofDecimal neg m d = b) →
    ∃ ws, genToJSON fmt P.logical (fun _ => false) = some (ws, false) ∧
      Json.parse ws.flatten = some (.arr ((List.range P.logical.n).map (fun r =>
        .obj (P.logical.cols.map (fun c => (Json.sanitize c.name, C14ToJson.cellVal fmt c.cells[r]!)))))) ∧
      ∀ c ∈ P.logical.cols, ∀ r, r < P.logical.n → Json.denotes (C14ToJson.cellVal fmt c.cells[r]!) c.cells[r]! = true
  /-- `String()`: the rendering of the spec's `stringPieces L` -/
  string : ∀ fmt : UInt64 → Bytes, genString fmt P.logical = some (render fmt (stringPieces P.logical))
  /-- `ToSQL`: a frame with an error makes no call; otherwise one `Exec` per row of `L`, cut after the first failing one -/
  tosql : ∀ (hasErr : Bool) (cfg : SqlCfg) (efail : Nat → Bool),
    genToSQLToday P hasErr cfg efail = some (expected hasErr efail (toSqlGo cfg P.logical))
  /-- … and the argument rows of these calls are exactly the rows of `L` -/
  tosqlArgs : ∀ cfg : SqlCfg, (toSqlGo cfg P.logical).map (·.2) = P.logical.rows
  /-- `P.Equals(Q)` is `equalsS` of the two logical frames -/
  equals : ∀ Q : VFrame, WF Q → genFrameEquals P.logical Q.logical = some (equalsS P.logical Q.logical)

theorem typeNameS_eq : typeNameS = C09TypesGen.typeName := rfl

theorem view_fields (P : VFrame) (h : WF P) (i : Nat) (c : VCol) (hc : P.cols[i]? = some c) :
    ∃ l, P.logical.cols[i]? = some l ∧ l.name = c.name ∧ l.ty = c.ty ∧ l.cells.size = P.logical.n ∧
      (∀ r, genItemAt c P.index r = l.cells[r]?) ∧
      genLen c P.index = some P.logical.n ∧
      genSlice c P.index = some l.cells.toList := by
  have hmem : c ∈ P.cols := List.mem_of_getElem? hc
  obtain ⟨h1, h2, h3⟩ := C09ViewsGen.gen_view_semantics c P.index (h.cols c hmem)
  refine ⟨c.logical P.index, ?_, rfl, rfl, ?_, ?_, h2, ?_⟩
  · simp [VFrame.logical, hc]
  · simp [VCol.logical, VCol.pick, VFrame.logical]
  · intro r; rw [h1 r]; simp [VCol.logical]
  · rw [h3]; simp [VCol.logical]

/-- **All observations agree, end to end.** For EVERY well-formed stored frame `P` — columns of the five types, cells of
their column's type, ANY index into the columns (rows filtered, permuted, repeated), distinct names — each regenerated
observer reports the ONE logical frame `P.logical`: see the fields of `Observed`. -/
theorem gen_observations_agree (P : VFrame) (h : WF P) : Observed P where
  len := fun hasErr => C09ViewsGen.gen_frame_len_semantics P hasErr
  names := by
    rw [C19SqlWriteGen.gen_columnnames_semantics, C19SqlWriteGen.logical_names]
  types := by
    have := C09TypesGen.gen_columntypes_today (P.cols.map (·.ty)) (by simpa using fun c hc => (h.cols c hc).ty)
    simpa only [genTypes, genDataTypes, VFrame.logical, VCol.logical, typeNameS_eq, List.map_map, Function.comp_def] using this
  views := view_fields P h
  tocsv := fun fmt cols hdr ferr => C13WriterGen.gen_tocsv_semantics fmt P.logical h.typed h.nodup cols hdr ferr
  tojson := fun fmt => by
    obtain ⟨ws, h1, h2, h3, _⟩ := C14WriterGen.gen_tojson_semantics fmt P.logical h.typed
    exact ⟨ws, h1, h2, h3⟩
  tojsonDenotes := fun fmt hfmt hround => by
    obtain ⟨ws, h1, _, h3, _⟩ := C14WriterGen.gen_tojson_semantics fmt P.logical h.typed
    refine ⟨ws, h1, ?_⟩
    rw [h3]
    exact C14ToJson.tojson_denotes fmt hfmt hround P.logical
  string := fun fmt => C09StringGen.gen_string_semantics fmt P.logical h.typed
  tosql := fun hasErr cfg efail => C19SqlWriteGen.gen_tosql_semantics P h.cols hasErr cfg efail
  tosqlArgs := fun cfg => by
    simp [toSqlGo, LFrame.rows, List.map_map, Function.comp_def]
  equals := fun Q hQ => C09ViewsGen.gen_frame_equals_semantics P.logical Q.logical h.typed hQ.typed

/-! ## Example: a derived frame (index [2, 0, 2] into three physical rows) meets the hypotheses -/

def exP : VFrame :=
  { cols := [{ name := [97], ty := .int, data := #[.int 10, .int 11, .int 12] },
             { name := [98], ty := .float, data := #[.float 0, .float F64.canonNaN, .float 0x3ff8000000000000] },
             { name := [115], ty := .string, data := #[.str (some [120]), .str none, .str (some [])] },
             { name := [101], ty := .enum, vals := [[120], [121]],
               data := #[.str (some [121]), .str none, .str (some [120])] }],
    index := [2, 0, 2] }

theorem colOK_of_check (c : VCol) (ix : List Nat)
    (h : (decide (c.ty ∈ tys) && (List.range c.data.size).all (fun j => wtCell c.ty c.vals c.data[j]!) &&
      ix.all (fun j => decide (j < c.data.size))) = true) : ColOK c ix := by
  simp only [Bool.and_eq_true, decide_eq_true_eq, List.all_eq_true, List.mem_range] at h
  exact ⟨h.1.1, fun j hj => h.1.2 j hj, fun j hj => h.2 j hj⟩

theorem exP_wf : WF exP := by
  refine ⟨?_, by decide⟩
  intro c hc
  simp only [exP, List.mem_cons, List.not_mem_nil, or_false] at hc
  rcases hc with rfl | rfl | rfl | rfl <;> exact colOK_of_check _ _ (by decide)

/-- the logical frame of the example: rows 2, 0, 2 -/
example : exP.logical.rows =
    [[.int 12, .float 0x3ff8000000000000, .str (some []), .str (some [120])],
     [.int 10, .float 0, .str (some [120]), .str (some [121])],
     [.int 12, .float 0x3ff8000000000000, .str (some []), .str (some [120])]] := by decide +kernel

example : Observed exP := gen_observations_agree exP exP_wf

/-! ## Congruence: frames that are `Equal` are observed alike -/

/-- no position where the two frames hold floats that are IEEE-equal (or both NaN) with different bits -/
def BitExact (a b : LFrame) : Prop :=
  ∀ (i r : Nat) (x y : UInt64), (a.cols[i]!).cells[r]! = Cell.float x → (b.cols[i]!).cells[r]! = Cell.float y →
    cellEq (Cell.float x) (Cell.float y) = true → x = y

theorem cellEq_eq (x y : Cell) (h : cellEq x y = true)
    (hf : ∀ u v, x = .float u → y = .float v → u = v) : x = y := by
  cases x <;> cases y <;> simp [cellEq] at h
  case int.int => rw [h]
  case float.float u v => rw [hf u v rfl rfl]
  case bool.bool => rw [h]
  case str.str => rw [h]

/-- the two results of an observer are the same: every field an equation between what `P` and what `Q` is seen as -/
structure SameObs (P Q : VFrame) : Prop where
  len : ∀ hasErr : Bool, C08Guards.genLen { hasErr := hasErr, rows := P.index.length } =
    C08Guards.genLen { hasErr := hasErr, rows := Q.index.length }
  names : genColumnNames (P.cols.map (·.name)) = genColumnNames (Q.cols.map (·.name))
  types : genTypes P = genTypes Q
  views : ∀ (i : Nat) (c d : VCol), P.cols[i]? = some c → Q.cols[i]? = some d →
    (∀ r, genItemAt c P.index r = genItemAt d Q.index r) ∧ genLen c P.index = genLen d Q.index ∧
      genSlice c P.index = genSlice d Q.index
  tocsv : ∀ (fmt : UInt64 → Bytes) (cols : List Bytes) (hdr ferr : Bool),
    genToCSV fmt P.logical (sel cols) hdr noFault ferr = genToCSV fmt Q.logical (sel cols) hdr noFault ferr
  tojson : ∀ (fmt : UInt64 → Bytes) (fail : Nat → Bool), genToJSON fmt P.logical fail = genToJSON fmt Q.logical fail
  string : ∀ fmt : UInt64 → Bytes, genString fmt P.logical = genString fmt Q.logical
  tosql : ∀ (hasErr : Bool) (cfg : SqlCfg) (efail : Nat → Bool),
    genToSQLToday P hasErr cfg efail = genToSQLToday Q hasErr cfg efail
  equals : ∀ R : VFrame, WF R → genFrameEquals P.logical R.logical = genFrameEquals Q.logical R.logical

/-! ### the spec-side results do not look at the enum tables (`C09.LFrame.setEnum`): names, types and cells only -/

section setEnum
open QF.Props.C09 (LFrame.setEnum LCol.setEnum names_setEnum)
variable (t : LCol → List Bytes × Bool)

theorem row_setEnum (f : LFrame) (r : Nat) : (LFrame.setEnum f t).row r = f.row r := by
  simp [LFrame.setEnum, LFrame.row, LCol.setEnum, Function.comp_def]

theorem rows_setEnum (f : LFrame) : (LFrame.setEnum f t).rows = f.rows := by
  show List.map (LFrame.setEnum f t).row (List.range f.n) = List.map f.row (List.range f.n)
  congr 1
  funext r
  exact row_setEnum t f r

theorem tocsvRows_setEnum (fmt : UInt64 → Bytes) (hdr : Bool) (cs : List LCol) (n : Nat) :
    tocsvRows fmt hdr { cols := cs.map (fun c => LCol.setEnum c (t c)), n := n } = tocsvRows fmt hdr { cols := cs, n := n } := by
  have h1 := names_setEnum { cols := cs, n := n } t
  have h2 := rows_setEnum t { cols := cs, n := n }
  simp only [LFrame.setEnum] at h1 h2
  simp only [tocsvRows, h1, h2]

theorem find_setEnum (f : LFrame) (nm : Bytes) :
    (LFrame.setEnum f t).find? nm = (f.find? nm).map (fun c => LCol.setEnum c (t c)) := by
  simp only [LFrame.find?, LFrame.setEnum, List.find?_map]
  rfl

theorem csvColumns_setEnum (f : LFrame) (cols : List Bytes) :
    csvColumns (LFrame.setEnum f t) cols = (csvColumns f cols).map (List.map (fun c => LCol.setEnum c (t c))) := by
  unfold csvColumns
  have hl : (LFrame.setEnum f t).cols.length = f.cols.length := by simp [LFrame.setEnum]
  rw [hl]
  split
  · rfl
  · split
    · rfl
    · have : (LFrame.setEnum f t).find? = fun nm => (f.find? nm).map (fun c => LCol.setEnum c (t c)) := funext (find_setEnum t f)
      rw [this, ListFacts.mapM_map_opt]

theorem csvOut_setEnum (fmt : UInt64 → Bytes) (f : LFrame) (cols : List Bytes) (hdr ferr : Bool) :
    csvOut fmt (LFrame.setEnum f t) cols hdr ferr = csvOut fmt f cols hdr ferr := by
  unfold csvOut
  rw [csvColumns_setEnum]
  cases csvColumns f cols with
  | none => rfl
  | some cs =>
    simp only [Option.map_some]
    have := tocsvRows_setEnum t fmt hdr cs f.n
    simp only [LFrame.setEnum]
    rw [this]

theorem rowBytes_setEnum (fmt : UInt64 → Bytes) (f : LFrame) (i : Nat) :
    rowBytes fmt (LFrame.setEnum f t) i = rowBytes fmt f i := by
  simp only [rowBytes, LFrame.setEnum, List.foldl_map]
  rfl

theorem jsonOut_setEnum (fmt : UInt64 → Bytes) (f : LFrame) (fail : Nat → Bool) :
    jsonOut fmt (LFrame.setEnum f t) fail = jsonOut fmt f fail := by
  simp only [jsonOut]
  rw [show rowBytes fmt (LFrame.setEnum f t) = rowBytes fmt f from funext (rowBytes_setEnum t fmt f)]
  rfl

theorem stringPieces_setEnum (f : LFrame) : stringPieces (LFrame.setEnum f t) = stringPieces f := by
  simp only [stringPieces, LFrame.setEnum, List.map_map, List.zip_map_left, List.length_map]
  rfl

theorem toSqlGo_setEnum (cfg : SqlCfg) (f : LFrame) : toSqlGo cfg (LFrame.setEnum f t) = toSqlGo cfg f := by
  simp only [toSqlGo, names_setEnum, row_setEnum]
  rfl

end setEnum

/-! ### `Equals = true` and `BitExact` make the visible parts of the logical frames the same -/

theorem logical_size (P : VFrame) (l : LCol) (hl : l ∈ P.logical.cols) : l.cells.size = P.index.length := by
  simp only [VFrame.logical, List.mem_map] at hl
  obtain ⟨c, _, rfl⟩ := hl
  simp [VCol.logical, VCol.pick]

/-- frames that are `Equal` and `BitExact` differ in their enum tables only -/
theorem setEnum_eq_of_equals (P Q : VFrame) (heq : equalsS P.logical Q.logical = true)
    (hbits : BitExact P.logical Q.logical) (t0 : List Bytes × Bool) :
    C09.LFrame.setEnum P.logical (fun _ => t0) = C09.LFrame.setEnum Q.logical (fun _ => t0) := by
  obtain ⟨hn, hnames, _⟩ := (C09.equalsS_iff _ _).1 heq
  have hl := C09.names_length hnames
  have hcolsEq : P.logical.cols.map (fun c => C09.LCol.setEnum c t0) = Q.logical.cols.map (fun c => C09.LCol.setEnum c t0) := by
    apply List.ext_getElem (by simp [hl])
    intro i h1 h2
    have hi : i < P.logical.cols.length := by simpa using h1
    have hi' : i < Q.logical.cols.length := hl ▸ hi
    obtain ⟨hname, hty, hc⟩ := C09.equalsS_getElem heq i hi hi'
    have hsa := logical_size P _ (List.getElem_mem hi)
    have hsb := logical_size Q _ (List.getElem_mem hi')
    have hcells : (P.logical.cols[i]).cells = (Q.logical.cols[i]).cells := by
      apply Array.ext (by rw [hsa, hsb]; exact hn)
      intro r hr1 hr2
      have hr : r < P.logical.n := by rw [hsa] at hr1; exact hr1
      have hx := cellEq_eq _ _ (hc r hr) (fun u v hu hv => hbits i r u v
        (by rw [getElem!_pos _ i hi]; exact hu) (by rw [getElem!_pos _ i hi']; exact hv)
        (by rw [← hu, ← hv]; exact hc r hr))
      rwa [getElem!_pos _ r hr1, getElem!_pos _ r hr2] at hx
    simp only [List.getElem_map, C09.LCol.setEnum, hname, hty, hcells]
  simp only [C09.LFrame.setEnum, hcolsEq, hn]

theorem setEnum_col {a b : LFrame} {t0 : List Bytes × Bool}
    (h : C09.LFrame.setEnum a (fun _ => t0) = C09.LFrame.setEnum b (fun _ => t0)) (i : Nat) (x y : LCol)
    (hx : a.cols[i]? = some x) (hy : b.cols[i]? = some y) : x.name = y.name ∧ x.ty = y.ty ∧ x.cells = y.cells := by
  have hc : (C09.LFrame.setEnum a (fun _ => t0)).cols[i]? = (C09.LFrame.setEnum b (fun _ => t0)).cols[i]? := by rw [h]
  simp only [C09.LFrame.setEnum, List.getElem?_map, hx, hy, Option.map_some, Option.some.injEq, C09.LCol.setEnum,
    LCol.mk.injEq] at hc
  exact ⟨hc.1, hc.2.1, hc.2.2.2.2⟩

theorem equalsS_of_equals {P Q : VFrame} (hP : WF P) (hQ : WF Q)
    (heq : genFrameEquals P.logical Q.logical = some true) : equalsS P.logical Q.logical = true := by
  have := (gen_observations_agree P hP).equals Q hQ
  rw [heq] at this
  exact (Option.some.inj this).symm

/-- **Congruence without any further hypothesis**: `Equals = true` gives the same `Len`, names and types, views that hand
out pairwise `cellEq` items (equal ints / bools / strings, null with null, NaN with NaN, floats equal as IEEE values), and
the same answer of `Equals` against every third frame. -/
theorem gen_equal_frames_observe_cellEq (P Q : VFrame) (hP : WF P) (hQ : WF Q)
    (heq : genFrameEquals P.logical Q.logical = some true) :
    (∀ hasErr : Bool, C08Guards.genLen { hasErr := hasErr, rows := P.index.length } =
      C08Guards.genLen { hasErr := hasErr, rows := Q.index.length }) ∧
    genColumnNames (P.cols.map (·.name)) = genColumnNames (Q.cols.map (·.name)) ∧
    genTypes P = genTypes Q ∧
    (∀ (i : Nat) (c d : VCol), P.cols[i]? = some c → Q.cols[i]? = some d → ∀ r, r < P.index.length →
      ∃ x y, genItemAt c P.index r = some x ∧ genItemAt d Q.index r = some y ∧ cellEq x y = true) ∧
    (∀ R : VFrame, WF R → genFrameEquals P.logical R.logical = genFrameEquals Q.logical R.logical) := by
  have oP := gen_observations_agree P hP
  have oQ := gen_observations_agree Q hQ
  have he := equalsS_of_equals hP hQ heq
  obtain ⟨hn, hnames, _⟩ := (C09.equalsS_iff _ _).1 he
  have hlen : P.index.length = Q.index.length := hn
  have hl := C09.names_length hnames
  refine ⟨fun _ => by rw [hlen], by rw [oP.names, oQ.names, hnames], ?_, ?_, ?_⟩
  · rw [oP.types, oQ.types]
    congr 1
    apply List.ext_getElem (by simp [hl])
    intro i h1 h2
    have hi : i < P.logical.cols.length := by simpa using h1
    simp only [List.getElem_map, (C09.equalsS_getElem he i hi (hl ▸ hi)).2.1]
  · intro i c d hc hd r hr
    obtain ⟨l, hl1, _, _, hsz, h1, _, _⟩ := oP.views i c hc
    obtain ⟨m, hm1, _, _, hsz', g1, _, _⟩ := oQ.views i d hd
    obtain ⟨hi, rfl⟩ := List.getElem?_eq_some_iff.1 hl1
    obtain ⟨hi', rfl⟩ := List.getElem?_eq_some_iff.1 hm1
    have hr1 : r < (P.logical.cols[i]).cells.size := by rw [hsz]; exact hr
    have hr2 : r < (Q.logical.cols[i]).cells.size := by rw [hsz', ← hn]; exact hr
    refine ⟨_, _, ?_, ?_, (C09.equalsS_getElem he i hi hi').2.2 r hr⟩
    · rw [h1 r]; simp [hr1]
    · rw [g1 r]; simp [hr2]
  · intro R hR
    rw [oP.equals R hR, oQ.equals R hR, C09.equalsS_congr_left _ _ _ he]

/-- **Congruence (partial: `BitExact` frames).** Two well-formed stored frames — derived in any way, with different
physical rows and different indexes — for which today's `Equals` answers `true`, and which hold no pair of IEEE-equal floats
of different bits, give IDENTICAL results under every regenerated observer: `Len`, `ColumnNames`, `ColumnTypes`, every
view's `ItemAt` / `Len` / `Slice`, the records of `ToCSV` for every column selection, the `Write` calls of `ToJSON` under every
fault pattern, `String()`, the `Exec` calls of `ToSQL` under every configuration and fault pattern, and `Equals` against
every third frame. EXCLUDED: pairs of frames holding +0.0 against −0.0 or NaNs of different payloads at some position. -/
theorem gen_equal_frames_observe_equal_partial (P Q : VFrame) (hP : WF P) (hQ : WF Q)
    (heq : genFrameEquals P.logical Q.logical = some true) (hbits : BitExact P.logical Q.logical) : SameObs P Q := by
  have oP := gen_observations_agree P hP
  have oQ := gen_observations_agree Q hQ
  have he := equalsS_of_equals hP hQ heq
  have hnorm := setEnum_eq_of_equals P Q he hbits ([], false)
  have hn : P.logical.n = Q.logical.n := congrArg (·.n) hnorm
  obtain ⟨hlen', hnames', htypes', _, hequals'⟩ := gen_equal_frames_observe_cellEq P Q hP hQ heq
  refine ⟨hlen', hnames', htypes', ?_, ?_, ?_, ?_, ?_, hequals'⟩
  · intro i c d hc hd
    obtain ⟨l, hl, _, _, _, h1, h2, h3⟩ := oP.views i c hc
    obtain ⟨m, hm, _, _, _, g1, g2, g3⟩ := oQ.views i d hd
    obtain ⟨_, _, hcells⟩ := setEnum_col hnorm i l m hl hm
    refine ⟨fun r => ?_, ?_, ?_⟩
    · rw [h1, g1, hcells]
    · rw [h2, g2, hn]
    · rw [h3, g3, hcells]
  · intro fmt cols hdr ferr
    rw [oP.tocsv, oQ.tocsv, ← csvOut_setEnum (fun _ => ([], false)), hnorm, csvOut_setEnum]
  · intro fmt fail
    rw [C14WriterGen.gen_tojson_writes fmt _ hP.typed, C14WriterGen.gen_tojson_writes fmt _ hQ.typed]
    show jsonOut fmt P.logical fail = jsonOut fmt Q.logical fail
    rw [← jsonOut_setEnum (fun _ => ([], false)), hnorm, jsonOut_setEnum]
  · intro fmt
    rw [oP.string, oQ.string, ← stringPieces_setEnum (fun _ => ([], false)), hnorm, stringPieces_setEnum]
  · intro hasErr cfg efail
    rw [oP.tosql, oQ.tosql, ← toSqlGo_setEnum (fun _ => ([], false)), hnorm, toSqlGo_setEnum]

/-! ## Examples -/

/-- the same logical frame stored differently: rows in another physical order behind another index -/
def exQ : VFrame :=
  { cols := [{ name := [97], ty := .int, data := #[.int 12, .int 10] },
             { name := [98], ty := .float, data := #[.float 0x3ff8000000000000, .float 0] },
             { name := [115], ty := .string, data := #[.str (some []), .str (some [120])] },
             { name := [101], ty := .enum, vals := [[121], [120]], data := #[.str (some [120]), .str (some [121])] }],
    index := [0, 1, 0] }

theorem exQ_wf : WF exQ := by
  refine ⟨?_, by decide⟩
  intro c hc
  simp only [exQ, List.mem_cons, List.not_mem_nil, or_false] at hc
  rcases hc with rfl | rfl | rfl | rfl <;> exact colOK_of_check _ _ (by decide)

theorem ex_equal : equalsS exP.logical exQ.logical = true := by decide +kernel

theorem ex_bits : BitExact exP.logical exQ.logical := by
  have hall : ∀ i, i < 4 → ∀ r, r < 3 → (exP.logical.cols[i]!).cells[r]! = (exQ.logical.cols[i]!).cells[r]! := by decide +kernel
  intro i r x y hx hy _
  by_cases hi : i < 4
  · by_cases hr : r < 3
    · have := hall i hi r hr
      rw [hx, hy] at this
      exact Cell.float.inj this
    · have hs : (exP.logical.cols[i]!).cells.size = 3 := by
        have : ∀ i, i < 4 → (exP.logical.cols[i]!).cells.size = 3 := by decide
        exact this i hi
      have : (exP.logical.cols[i]!).cells[r]! = default := getElem!_neg _ _ (by rw [hs]; exact hr)
      rw [this] at hx
      cases hx
  · have hl : exP.logical.cols.length = 4 := by decide
    have : exP.logical.cols[i]! = default := getElem!_neg _ _ (by rw [hl]; exact hi)
    rw [this] at hx
    cases hx

/-- the hypotheses of the congruence theorem are met by two differently stored frames (different physical rows, different
indexes, different enum value tables) -/
example : SameObs exP exQ :=
  gen_equal_frames_observe_equal_partial exP exQ exP_wf exQ_wf
    (by rw [(gen_observations_agree exP exP_wf).equals exQ exQ_wf, ex_equal]) ex_bits

/-- **Why `BitExact` cannot be dropped.** The one-cell frames [+0.0] and [−0.0] are `Equal` (IEEE equality, as the
property's text and today's `fcolumn.Equals` have it), and `ToCSV` writes different records for them with any formatter that
tells the two zeros apart (Go's `strconv.FormatFloat` writes `0` and `-0`). -/
theorem zero_frames_equal_but_print_differently :
    let a : VFrame := { cols := [{ name := [97], ty := .float, data := #[.float 0] }], index := [0] }
    let b : VFrame := { cols := [{ name := [97], ty := .float, data := #[.float 0x8000000000000000] }], index := [0] }
    let fmt : UInt64 → Bytes := fun x => if x = 0x8000000000000000 then [45, 48] else [48]
    equalsS a.logical b.logical = true ∧
    tocsvRows fmt false a.logical = [[[48]]] ∧ tocsvRows fmt false b.logical = [[[45, 48]]] := by
  decide +kernel

#print axioms gen_observations_agree
#print axioms gen_equal_frames_observe_equal_partial
#print axioms gen_equal_frames_observe_cellEq
#print axioms zero_frames_equal_but_print_differently
#print axioms exP_wf

end QF.Props.C09EndToEnd
