import QF.Props.Tie
import QF.Core.Heap
/-!
# C01 — frames are persistent

Model: `H.Prog` (alloc / read / write programs over a store of arrays addressed by
allocation id). Every qframe operation allocates its result arrays and writes only
to those (`OwnWrites`); reading shared arrays is unrestricted.

* `frame_condition`: a program that only writes to arrays it allocated leaves every
  array that existed before untouched, and the store only grows.
* `history_persistent`: for every initial store and every finite history of such
  programs, each run on the store left by its predecessor, every array that existed
  initially keeps its contents forever — hence every observation of every earlier
  frame (which is a function of those arrays) is unchanged.

The tie to the code is the re-observation digest of every earlier family member
after every step of every generated history (harness section `hist`, `D` lines).
-/
namespace QF.Props.C01

theorem frame_condition {α : Type} (p : H.Prog α) (base : Nat) (h : p.OwnWrites base)
    (s : H.Store) (hb : base ≤ List.length s) :
    (∀ id, id < base → List.getD (p.run s).snd.fst id [] = List.getD s id []) ∧
      List.length s ≤ List.length (p.run s).snd.fst :=
  H.frame_condition p base h s hb

theorem history_persistent {α : Type} (ps : List (H.Prog α)) (s : H.Store)
    (h : ∀ p, p ∈ ps → ∀ base, p.OwnWrites base) :
    ∀ id, id < List.length s → List.getD (H.runAll ps s) id [] = List.getD s id [] :=
  H.history_persistent ps s h

/-- No function of this property is compared as source text: the list is empty (the functions are regenerated as terms, see below). -/
-- Tie audit (bin/selftest-ties): the following functions are regenerated as terms; every behaviour-changing edit of
-- them makes a `gen_*_canon` theorem of this property's modules fail, renaming their locals or reformatting them changes nothing:
-- `index.Copy`, `QFrame.Slice`, `QFrame.Select`, `QFrame.setColumn`: regenerated as `Gen.indexAst` / `Gen.projectAst` (pxast.go) and `Gen.guardAst` / `Gen.guardAst2` (gast.go),
-- `C08ProjectGen.gen_project_canon` + `gen_project_semantics` / `gen_project_persistent`, `C08Guards.gen_guards_canon` + `gen_guards_semantics`.
-- FilteredApply and the two built-in toUpper functions are regenerated (C06FApplyGen.gen_supper_semantics / gen_eupper_semantics: no element of the source's arrays is written).
-- Aggregate is regenerated: loops in `Gen.aggregateAst` (C04LoopsGen), glue in `Gen.aggregateGlueAst` (C04GlueGen), guards in C10Guards.
-- `QFrame.Sort` is regenerated statement by statement in `Gen.sortAst` (sortgast.go; `withErr` / `withIndex` inlined, `qfsort.New` in `Gen.sorterNewAst`):
-- `C03SortGlueGen.gen_sortglue_canon` + `gen_sort_glue_semantics` (`Sorter.Sort()` runs on a COPY of the index; the receiver's index array holds what it held), next to
-- its guards (`Gen.guardAst2`, C10Guards) and its copy-then-sort tail on the heap (`Gen.projectAst`, C08ProjectGen.gen_sort_semantics / gen_project_persistent).
theorem tie : Tie.sameAll [] = true := by decide

end QF.Props.C01
