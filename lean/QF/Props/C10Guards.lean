import QF.Spec.Ops
import QF.Spec.Render
import QF.Props.C10Sticky
import QF.Props.C08Guards
import QF.Gen.Guards
/-!
# C10 (C03, C04, C05, C06, C07, C09, C13) — invalid use yields Err, errors are sticky: the remaining operations (tie T1)

`QF.Gen.guardAst2` (regenerated on every run by go/cmd/extract/gast.go) holds the guard prefix — the validation before the
real work — of the public operations of /repo/qframe.go and /repo/grouper.go that QF/Props/C08Guards.lean does not cover:

    Sort · Distinct · GroupBy · Grouper.Aggregate · Grouper.QFrames · apply0 / apply1 / apply2 (the frame methods `Apply`
    dispatches to, named by their number of source columns) · FilteredApply · WithRowNums · Eval · Filter · filterLeaf (the
    frame method clauses hand their leaf filters to) · Equals · ToCSV · ToJSON · ToSQL · ReadCSV · ReadJSON · ReadSQL ·
    ReadSQLWithArgs

as lists of `QF.GStep`; `QF.Gen.applyAst` is `QFrame.Apply` (a loop without guards: the per-instruction dispatch),
`QF.Gen.rowNumsAst` the instruction `WithRowNums` hands to `Apply`; `lateErrors2`, `openTails2`, `laterCalls` pin what lies
beyond each prefix. This file proves, for the terms generated TODAY:

* `gen_guards2_no_opaque`  — every operation was found and translated without `.opaque`
* `gen_guards2_complete`   — the error returns after each prefix, the tail calls and the frame methods called later are
                             exactly the listed ones (which rejections are decided LATER, outside the chains)
* `gen_sticky_all`         — errors are sticky, for ALL requests: a receiver that carries an error makes every chain end at
                             its FIRST step — `return qf` for the operations that return a frame, a result carrying the
                             receiver's error for `GroupBy` / `Aggregate` / `QFrames`, an error for `ToCSV` / `ToJSON` /
                             `ToSQL`; `FilteredApply` returns what `qf.Filter(clause)` returns, which is `qf`;
                             `Apply` / `WithRowNums` have no test of their own: every instruction goes to a helper that has
* `gen_reject_semantics`   — Sort, Distinct, GroupBy + Aggregate, Equals, ToCSV: the chain rejects iff the spec does
                             (`sortKeys` / `distinctKeys` / `csvColumns` = none, `groupAggS` = .err as far as columns are
                             concerned, `equalsS` = false as far as the shape is concerned), on ALL requests
* `gen_equals_vs_spec`     — IF the column code compares two columns as the spec does (same type, equal cells), today's
                             `Equals` answers exactly `equalsS`, on all pairs of frames
* `gen_apply_dispatch`     — the dispatch of `Apply` on the number of source columns is the spec's reading of an `Instr`;
                             the helpers reject unknown source columns as `applyInstr` does; the loop hands the
                             accumulator from helper to helper, so with the helpers' sticky first guard nothing happens
                             after the first failing instruction (`apply_loop_stops`, `gen_apply_loop`, tied to
                             `C10Sticky.applyS_stops_at_first_failing`)

Method as in C08Guards: `decide` shows that today's terms ARE the canonical ones (`gen_guards2_canon`, `gen_apply_canon`);
the meaning of the canonical terms on every request is proved once and for all.

What the chains do NOT decide (`gen_guards2_complete`): `Aggregate` has two later error returns inside its loop (result
name already taken; the column's aggregation code rejects the function) — `C10Sticky.groupAggS_err_iff` names them on the
spec side (`aggsLate`); `filterLeaf` two (unknown argument column, the column's filter code); `apply0`/`apply1`/`apply2`
two/two/one (unknown function type, column creation, the column's apply code) and all three end in `setColumn`, where the
name check of the destination happens (C08Guards: `Copy`); `Eval` works through `Copy` and `Drop`; `ToCSV`/`ToJSON`/`ToSQL`
return the writer's errors; `Equals` compares column TYPES and cells inside the per-type column code
(`pairContentDiffers`).

Observation (not a disagreement on any request the harness can express): `ToCSV` distinguishes a nil column list from an
empty one — `csv.Columns([]string{})` on a frame with columns is rejected ("wrong number of columns") while the spec's
`csvColumns f []` means "all columns"; the harness passes nil for the empty list. See `csv_empty_nonnil`.
-/
namespace QF.Props.C10Guards
open QF
open QF.Props.C08Guards (envIn specEnv genEnv_eq frameReq fire_some fireIf_some runGuards_nil runGuards_guard runGuards_forEach
  runGuards_forEachWork runGuards_guardIf runGuards_forEachIf runGuards_forEachPair some_ite length_beq_zero
  anyFires_total)

/-! ## Today's chains -/

def guards2In (n : List NStep) (l : List IStep) (g : List (String × List GStep)) (op : String) (q : GReq) : Option GOut :=
  (g.lookup op).bind (fun ch => runGuards (envIn n l) ch q)

/-- the outcome of operation `op` of today's source on request `q` -/
def genGuards2 (op : String) (q : GReq) : Option GOut := guards2In Gen.checkNameAst Gen.lenAst Gen.guardAst2 op q

/-- `FilteredApply` first calls `qf.Filter(clause)`: the request as seen after that call. What `Filter` does is read off
ITS chain; where the chain lets the request through, the real work (the clause) decides (`subWorkFails`). -/
def withSub (q : GReq) : GReq :=
  { q with subOut := match genGuards2 "Filter" q with
      | some .ok => some (if q.subWorkFails then .err else .ok)
      | o => o }

/-! ## Canonical terms -/

/-- `len(xs) == 0` -/
abbrev noneOf (c : GColl) : GCond := .eqI (.count c) (.lit 0)

def canonSort : List GStep := [
  .guard .qfHasErr .returnSelf,
  .guard (noneOf .orderCols) .returnSelf,
  .forEach .orderCols (.unknownColumn .each) .err]

def canonDistinct : List GStep := [
  .guard .qfHasErr .returnSelf,
  .forEach .groupCols (.unknownColumn .each) .err,
  .guard (.eqI .len (.lit 0)) .returnSelf]

def canonGroupBy : List GStep := [
  .guard .qfHasErr .carryErr,
  .forEach .groupCols (.unknownColumn .each) .err,
  .guard (.eqI .len (.lit 0)) .ok]

def canonAggregate : List GStep := [
  .guard .grouperHasErr .carryErr,
  .forEachWork .aggCols (.unknownColumn .each) .err]

def canonQFrames : List GStep := [.guard .grouperHasErr .carryErr]

def canonApply0 : List GStep := [.guard .qfHasErr .returnSelf]

def canonApply1 : List GStep := [.guard .qfHasErr .returnSelf, .guard (.unknownColumn .src) .err]

def canonApply2 : List GStep := [
  .guard .qfHasErr .returnSelf,
  .guard (.unknownColumn .src) .err,
  .guard (.unknownColumn .src2) .err]

def canonFilteredApply : List GStep := [.subFails "Filter"]

def canonSticky1 : List GStep := [.guard .qfHasErr .returnSelf]

def canonFilterLeaf : List GStep := [
  .guard .qfHasErr .returnSelf,
  .forEachWork .filterCols (.unknownColumn .each) .err]

def canonEquals : List GStep := [
  .guard (.not (.eqI .indexLen .otherIndexLen)) .retFalse,
  .guard (.not (.eqI .colCount .otherColCount)) .retFalse,
  .forEachPair .pairNameDiffers .retFalse,
  .forEachPair .pairContentDiffers .retFalse,
  .done .retTrue]

def canonToCSV : List GStep := [
  .guard .qfHasErr .err,
  .guardIf (.given .csvCols) (.not (.eqI (.count .csvCols) .colCount)) .err,
  .forEachIf (.given .csvCols) .csvCols (.unknownColumn .each) .err]

def canonErr1 : List GStep := [.guard .qfHasErr .err]

def canonRead1 : List GStep := [.guard (.extFails 0) .err]

def canonRead3 : List GStep := [.guard (.extFails 0) .err, .guard (.extFails 1) .err, .guard (.extFails 2) .err]

def canonGuards2 : List (String × List GStep) := [
  ("Sort", canonSort), ("Distinct", canonDistinct), ("GroupBy", canonGroupBy), ("Aggregate", canonAggregate),
  ("QFrames", canonQFrames), ("apply0", canonApply0), ("apply1", canonApply1), ("apply2", canonApply2),
  ("FilteredApply", canonFilteredApply), ("WithRowNums", []), ("Eval", canonSticky1), ("Filter", canonSticky1),
  ("filterLeaf", canonFilterLeaf), ("Equals", canonEquals), ("ToCSV", canonToCSV), ("ToJSON", canonErr1),
  ("ToSQL", canonErr1), ("ReadCSV", canonRead1), ("ReadJSON", canonRead1), ("ReadSQL", []),
  ("ReadSQLWithArgs", canonRead3)]

/-- `Apply`: no source column → the helper without source parameters; one → the helper with one; else the helper with two -/
def canonApply : ApplyAst :=
  { accFromRecv := true
    disp := .ifEmpty .src1 (.call 0 [.fn, .dst])
      (.ifEmpty .src2 (.call 1 [.fn, .dst, .src1]) (.call 2 [.fn, .dst, .src1, .src2]))
    returnsAcc := true }

/-! ## Today's terms are the canonical ones (finite checks over `QF.Gen`, redone on every run) -/

theorem gen_guards2_canon : Gen.guardAst2 = canonGuards2 := by decide +kernel

theorem gen_apply_canon : Gen.applyAst = canonApply := by decide +kernel

/-- `WithRowNums(name)` is `Apply` of ONE instruction whose destination is the name parameter, whose function is a
function literal and which names no source column. -/
theorem gen_rownums_canon :
    Gen.rowNumsAst = some [{ dst := some .dst, src1Set := false, src2Set := false, fnIsFuncLit := true }] := by
  decide +kernel

/-- All operations, `Apply` and the instruction of `WithRowNums` were found, and no part of them translates to `.opaque`. -/
theorem gen_guards2_no_opaque :
    Gen.guardAst2.map (·.1) = ["Sort", "Distinct", "GroupBy", "Aggregate", "QFrames", "apply0", "apply1", "apply2",
      "FilteredApply", "WithRowNums", "Eval", "Filter", "filterLeaf", "Equals", "ToCSV", "ToJSON", "ToSQL", "ReadCSV",
      "ReadJSON", "ReadSQL", "ReadSQLWithArgs"] ∧
    (∀ p ∈ Gen.guardAst2, ∀ s ∈ p.2, s.hasOpaque = false) ∧
    Gen.applyAst.disp.hasOpaque = false ∧ Gen.applyAst.accFromRecv = true ∧ Gen.applyAst.returnsAcc = true ∧
    Gen.rowNumsAst.isSome = true := by
  decide +kernel

/-- What lies beyond the prefixes. Error returns after the prefix (for `Aggregate` and `filterLeaf`: in the rest of the
loop body): none for Sort, Distinct, GroupBy, QFrames, FilteredApply, WithRowNums, Filter, Equals and the readers — their
own rejection logic is entirely in the chain; two for `Aggregate`, `apply0`, `apply1`, `filterLeaf`, `ToSQL`, one for
`apply2`, one for `Eval` (a column reference of the expression that is not a column of the frame: `missingCol`, regenerated and
proved in QF/Props/C07EvalGen.lean `gen_missingcol_semantics`, with the spec in C07EndToEnd), three (writer errors) for
`ToCSV` / `ToJSON`. Tail calls: the three helpers end in the method `Copy` ends in
(`set`: the name check of the destination), `apply0` also in `Copy` (a `ColumnName` function); `WithRowNums` in `Apply`;
`Filter` in a method of its clause parameter; the readers in `New`. Frame methods called later: `FilteredApply` → `Apply`,
`Eval` → `Copy`, `Drop`. `GroupBy` hands the frame's name map to the `Grouper`. -/
theorem gen_guards2_complete :
    Gen.lateErrors2 = [("Sort", 0), ("Distinct", 0), ("GroupBy", 0), ("Aggregate", 2), ("QFrames", 0), ("apply0", 2),
      ("apply1", 2), ("apply2", 1), ("FilteredApply", 0), ("WithRowNums", 0), ("Eval", 1), ("Filter", 0), ("filterLeaf", 2),
      ("Equals", 0), ("ToCSV", 3), ("ToJSON", 3), ("ToSQL", 2), ("ReadCSV", 0), ("ReadJSON", 0), ("ReadSQL", 0),
      ("ReadSQLWithArgs", 0)] ∧
    Gen.openTails2 = [("apply0", "Copy"), ("apply0", "set"), ("apply1", "set"), ("apply2", "set"), ("WithRowNums", "Apply"),
      ("Filter", "parameter"), ("ReadCSV", "New"), ("ReadJSON", "New"), ("ReadSQL", "ReadSQLWithArgs"),
      ("ReadSQLWithArgs", "New")] ∧
    Gen.laterCalls = [("apply0", ["Copy", "set"]), ("apply1", ["set"]), ("apply2", ["set"]), ("FilteredApply", ["Apply"]),
      ("WithRowNums", ["Apply"]), ("Eval", ["Copy", "Drop"])] ∧
    Gen.grouperSharesNames = true := by
  decide +kernel

theorem genGuards2_eq (op : String) (q : GReq) :
    genGuards2 op q = (canonGuards2.lookup op).bind (fun ch => runGuards specEnv ch q) := by
  unfold genGuards2 guards2In
  rw [genEnv_eq, gen_guards2_canon]

/-- The names of the table are distinct: every chain is found under its name. -/
theorem canon_lookup : ∀ p ∈ canonGuards2, canonGuards2.lookup p.1 = some p.2 := by decide +kernel

/-- The operation at position `i` of the table runs its chain. (The theorems below name an operation by its position:
finding it by name compares strings, once per entry before it, in every theorem.) -/
theorem genGuards2_at (i : Nat) (q : GReq) (p : String × List GStep) (h : canonGuards2[i]? = some p) :
    genGuards2 p.1 q = runGuards specEnv p.2 q := by
  rw [genGuards2_eq, canon_lookup p (List.mem_of_getElem? h)]
  rfl

/-! ## The meaning of the canonical chains -/

def anyUnknown (q : GReq) (l : List Bytes) : Bool := l.any (fun n => !q.known n)

def sortOutcome (q : GReq) : GOut :=
  if q.hasErr then .returnSelf
  else if q.orderCols.isEmpty then .returnSelf
  else if anyUnknown q q.orderCols then .err else .ok

def distinctOutcome (q : GReq) : GOut :=
  if q.hasErr then .returnSelf
  else if anyUnknown q q.groupCols then .err
  else if q.rows == 0 then .returnSelf else .ok

def groupByOutcome (q : GReq) : GOut :=
  if q.hasErr then .carryErr
  else if anyUnknown q q.groupCols then .err else .ok

def aggregateOutcome (q : GReq) : GOut :=
  if q.grouperErr then .carryErr
  else if anyUnknown q q.aggCols then .err else .ok

def apply1Outcome (q : GReq) : GOut :=
  if q.hasErr then .returnSelf else if !q.known q.src then .err else .ok

def apply2Outcome (q : GReq) : GOut :=
  if q.hasErr then .returnSelf else if !q.known q.src then .err else if !q.known q.src2 then .err else .ok

def filterLeafOutcome (q : GReq) : GOut :=
  if q.hasErr then .returnSelf else if anyUnknown q q.filterCols then .err else .ok

def csvOutcome (q : GReq) : GOut :=
  if q.hasErr then .err
  else if q.csvGiven && (q.csvCols.length != q.colNames.length) then .err
  else if q.csvGiven && anyUnknown q q.csvCols then .err else .ok

theorem canon_sort_sem (q : GReq) : runGuards specEnv canonSort q = some (sortOutcome q) := by
  unfold canonSort sortOutcome anyUnknown
  simp only [runGuards_guard, runGuards_forEach, runGuards_nil, GCond.eval, GInt.eval, GReq.name, GReq.coll, Option.map_some,
    anyFires_total, fire_some, some_ite, length_beq_zero]

theorem canon_distinct_sem (q : GReq) : runGuards specEnv canonDistinct q = some (distinctOutcome q) := by
  unfold canonDistinct distinctOutcome anyUnknown
  simp only [runGuards_guard, runGuards_forEach, runGuards_nil, GCond.eval, GInt.eval, GReq.name, GReq.coll, Option.map_some,
    specEnv, anyFires_total, fire_some, some_ite]
  -- `qf.Len()` of a frame without error is its number of rows
  have : ((q.rows : Int) == 0) = (q.rows == 0) := ListFacts.natCast_beq _ 0
  cases q.hasErr <;> simp only [Bool.false_eq_true, if_false, if_true, this]

theorem canon_groupBy_sem (q : GReq) : runGuards specEnv canonGroupBy q = some (groupByOutcome q) := by
  unfold canonGroupBy groupByOutcome anyUnknown
  simp only [runGuards_guard, runGuards_forEach, runGuards_nil, GCond.eval, GInt.eval, GReq.name, GReq.coll, Option.map_some,
    specEnv, anyFires_total, fire_some, some_ite, ite_self]

theorem canon_aggregate_sem (q : GReq) : runGuards specEnv canonAggregate q = some (aggregateOutcome q) := by
  unfold canonAggregate aggregateOutcome anyUnknown
  simp only [runGuards_guard, runGuards_forEachWork, runGuards_nil, GCond.eval, GReq.name, GReq.coll, Option.map_some,
    anyFires_total, fire_some, some_ite]

/-- the chain of `apply0`, `Eval`, `Filter`: nothing but the test of the receiver's error -/
theorem canon_sticky1_sem (q : GReq) :
    runGuards specEnv canonSticky1 q = some (if q.hasErr then .returnSelf else .ok) := by
  unfold canonSticky1
  simp only [runGuards_guard, runGuards_nil, GCond.eval, fire_some, some_ite]

theorem canon_apply1_sem (q : GReq) : runGuards specEnv canonApply1 q = some (apply1Outcome q) := by
  unfold canonApply1 apply1Outcome
  simp only [runGuards_guard, runGuards_nil, GCond.eval, GReq.name, Option.map_some, fire_some, some_ite]

theorem canon_apply2_sem (q : GReq) : runGuards specEnv canonApply2 q = some (apply2Outcome q) := by
  unfold canonApply2 apply2Outcome
  simp only [runGuards_guard, runGuards_nil, GCond.eval, GReq.name, Option.map_some, fire_some, some_ite]

theorem canon_filterLeaf_sem (q : GReq) : runGuards specEnv canonFilterLeaf q = some (filterLeafOutcome q) := by
  unfold canonFilterLeaf filterLeafOutcome anyUnknown
  simp only [runGuards_guard, runGuards_forEachWork, runGuards_nil, GCond.eval, GReq.name, GReq.coll, Option.map_some,
    anyFires_total, fire_some, some_ite]

theorem canon_csv_sem (q : GReq) : runGuards specEnv canonToCSV q = some (csvOutcome q) := by
  unfold canonToCSV csvOutcome anyUnknown
  simp only [runGuards_guard, runGuards_guardIf, runGuards_forEachIf, runGuards_nil, GCond.eval, GInt.eval, GReq.name, GReq.coll,
    GReq.isGiven, Option.map_some, anyFires_total, fire_some, fireIf_some, some_ite, ListFacts.natCast_beq]
  rfl

/-- the chains of the readers: an error iff one of the calls into the reader packages returns one -/
theorem canon_read_sem (q : GReq) :
    runGuards specEnv canonRead1 q = some (if q.extFails 0 then .err else .ok) ∧
    runGuards specEnv canonRead3 q = some (if q.extFails 0 || q.extFails 1 || q.extFails 2 then .err else .ok) := by
  unfold canonRead1 canonRead3
  simp only [runGuards_guard, runGuards_nil, GCond.eval, fire_some, some_ite, true_and]
  cases q.extFails 0 <;> cases q.extFails 1 <;> cases q.extFails 2 <;> rfl

/-! ## Today's chains, on ALL requests -/

theorem gen_sort_outcome (q : GReq) : genGuards2 "Sort" q = some (sortOutcome q) :=
  (genGuards2_at 0 q _ rfl).trans (canon_sort_sem q)

theorem gen_distinct_outcome (q : GReq) : genGuards2 "Distinct" q = some (distinctOutcome q) :=
  (genGuards2_at 1 q _ rfl).trans (canon_distinct_sem q)

theorem gen_groupBy_outcome (q : GReq) : genGuards2 "GroupBy" q = some (groupByOutcome q) :=
  (genGuards2_at 2 q _ rfl).trans (canon_groupBy_sem q)

theorem gen_aggregate_outcome (q : GReq) : genGuards2 "Aggregate" q = some (aggregateOutcome q) :=
  (genGuards2_at 3 q _ rfl).trans (canon_aggregate_sem q)

theorem gen_apply0_outcome (q : GReq) : genGuards2 "apply0" q = some (if q.hasErr then .returnSelf else .ok) :=
  (genGuards2_at 5 q _ rfl).trans (canon_sticky1_sem q)

theorem gen_apply1_outcome (q : GReq) : genGuards2 "apply1" q = some (apply1Outcome q) :=
  (genGuards2_at 6 q _ rfl).trans (canon_apply1_sem q)

theorem gen_apply2_outcome (q : GReq) : genGuards2 "apply2" q = some (apply2Outcome q) :=
  (genGuards2_at 7 q _ rfl).trans (canon_apply2_sem q)

theorem gen_filter_outcome (q : GReq) : genGuards2 "Filter" q = some (if q.hasErr then .returnSelf else .ok) :=
  (genGuards2_at 11 q _ rfl).trans (canon_sticky1_sem q)

theorem gen_eval_outcome (q : GReq) : genGuards2 "Eval" q = some (if q.hasErr then .returnSelf else .ok) :=
  (genGuards2_at 10 q _ rfl).trans (canon_sticky1_sem q)

theorem gen_filterLeaf_outcome (q : GReq) : genGuards2 "filterLeaf" q = some (filterLeafOutcome q) :=
  (genGuards2_at 12 q _ rfl).trans (canon_filterLeaf_sem q)

theorem gen_csv_outcome (q : GReq) : genGuards2 "ToCSV" q = some (csvOutcome q) :=
  (genGuards2_at 14 q _ rfl).trans (canon_csv_sem q)

/-- `FilteredApply`: the frame itself if it has an error; an error if the clause fails on it; else the work starts. -/
theorem gen_filteredApply_outcome (q : GReq) :
    genGuards2 "FilteredApply" (withSub q) =
      some (if q.hasErr then .returnSelf else if q.subWorkFails then .err else .ok) := by
  rw [genGuards2_at 8 _ _ rfl]
  unfold canonFilteredApply withSub
  rw [gen_filter_outcome]
  cases q.hasErr <;> cases q.subWorkFails <;> rfl

/-- The readers: an error iff one of the calls into the reader packages returns one; otherwise they end in `New`. -/
theorem gen_read_outcome (q : GReq) :
    genGuards2 "ReadCSV" q = some (if q.extFails 0 then .err else .ok) ∧
    genGuards2 "ReadJSON" q = some (if q.extFails 0 then .err else .ok) ∧
    genGuards2 "ReadSQL" q = some .ok ∧
    genGuards2 "ReadSQLWithArgs" q = some (if q.extFails 0 || q.extFails 1 || q.extFails 2 then .err else .ok) :=
  ⟨(genGuards2_at 17 q _ rfl).trans (canon_read_sem q).1, (genGuards2_at 18 q _ rfl).trans (canon_read_sem q).1,
   genGuards2_at 19 q ("ReadSQL", []) rfl, (genGuards2_at 20 q _ rfl).trans (canon_read_sem q).2⟩

/-! ## Errors are sticky -/

/-- a chain whose first step is a guard that fires ends there -/
theorem first_guard_fires (E : GEnv) (c : GCond) (o : GOut) (ss : List GStep) (q : GReq) (h : c.eval E q none = some true) :
    runGuards E (.guard c o :: ss) q = some o := by
  rw [runGuards_guard, h]
  rfl

/-- the first step of the chain of `op` -/
def firstStep (op : String) : Option GStep := (canonGuards2.lookup op).bind List.head?

theorem sticky_of_firstStep {op : String} {c : GCond} {o : GOut} (h : firstStep op = some (.guard c o)) (q : GReq)
    (hc : c.eval specEnv q none = some true) : genGuards2 op q = some o := by
  rw [genGuards2_eq]
  unfold firstStep at h
  cases hl : canonGuards2.lookup op with
  | none => rw [hl] at h; cases h
  | some ch =>
    rw [hl] at h
    cases ch with
    | nil => cases h
    | cons s ss =>
      cases (Option.some.inj h : s = _)
      exact first_guard_fires _ _ _ _ _ hc

/-- **Errors are sticky — every operation, ALL requests.** If the receiver already carries an error, the chain of today's
source ends at its first step, whatever the arguments are:

* `Sort`, `Distinct`, `Eval`, `Filter`, `filterLeaf` and the three helpers of `Apply` return the receiver itself
  (`return qf`: same columns, same index, same error);
* `FilteredApply` returns what `qf.Filter(clause)` returns, and that is the receiver itself;
* `GroupBy` returns a `Grouper` carrying the frame's error; `Aggregate` a frame, `QFrames` an error result carrying the
  grouper's;
* `ToCSV`, `ToJSON`, `ToSQL` return an error.

`Apply` and `WithRowNums` have no test of their own: `gen_apply_dispatch` shows that every instruction goes to one of the
three helpers, `apply_loop_sticky` that the receiver then comes back unchanged. `Equals` returns a verdict, not a frame:
it has no such test (`gen_equals_outcome`). -/
theorem gen_sticky_all (q : GReq) :
    (q.hasErr = true → ∀ op ∈ ["Sort", "Distinct", "apply0", "apply1", "apply2", "Eval", "Filter", "filterLeaf"],
      genGuards2 op q = some .returnSelf) ∧
    (q.hasErr = true → genGuards2 "FilteredApply" (withSub q) = some .returnSelf) ∧
    (q.hasErr = true → genGuards2 "GroupBy" q = some .carryErr) ∧
    (q.grouperErr = true → ∀ op ∈ ["Aggregate", "QFrames"], genGuards2 op q = some .carryErr) ∧
    (q.hasErr = true → ∀ op ∈ ["ToCSV", "ToJSON", "ToSQL"], genGuards2 op q = some .err) := by
  -- the one fact about the table: each of these chains begins with the test of the receiver's error
  have first :
      (∀ op ∈ ["Sort", "Distinct", "apply0", "apply1", "apply2", "Eval", "Filter", "filterLeaf"],
        firstStep op = some (.guard .qfHasErr .returnSelf)) ∧
      firstStep "GroupBy" = some (.guard .qfHasErr .carryErr) ∧
      (∀ op ∈ ["Aggregate", "QFrames"], firstStep op = some (.guard .grouperHasErr .carryErr)) ∧
      (∀ op ∈ ["ToCSV", "ToJSON", "ToSQL"], firstStep op = some (.guard .qfHasErr .err)) := by decide +kernel
  refine ⟨fun h op hop => sticky_of_firstStep (first.1 op hop) q (congrArg some h), fun h => ?_,
    fun h => sticky_of_firstStep first.2.1 q (congrArg some h),
    fun h op hop => sticky_of_firstStep (first.2.2.1 op hop) q (congrArg some h),
    fun h op hop => sticky_of_firstStep (first.2.2.2 op hop) q (congrArg some h)⟩
  rw [gen_filteredApply_outcome, h]
  rfl

/-! ## Against the spec: which requests are rejected -/

/-- what `Sort(os…)` sees: the frame (no error) and the `Column` of each order -/
def sortReq (f : LFrame) (os : List Order) : GReq := { frameReq f with orderCols := os.map (·.col) }

/-- `Distinct(groupby.Columns(keys…))` / `GroupBy(groupby.Columns(keys…))` -/
def keysReq (f : LFrame) (keys : List Bytes) : GReq := { frameReq f with groupCols := keys }

/-- `Aggregate(aggs…)` on the grouper `GroupBy` built from `f`: its name map is the frame's (`grouperSharesNames`) -/
def aggReq (f : LFrame) (aggs : List Agg) : GReq := { frameReq f with aggCols := aggs.map (·.col) }

/-- `ToCSV(csv.Columns(cols))`; the harness (and the spec) do not tell an empty list from none: nil is passed for it -/
def csvReq (f : LFrame) (cols : List Bytes) : GReq :=
  { frameReq f with colNames := f.names, csvCols := cols, csvGiven := !cols.isEmpty }

/-- a loop over the `Column` fields `g x` of a list of requests finds an unknown column iff one of them names one -/
theorem anyUnknown_map {α : Type} (f : LFrame) (g : α → Bytes) (l : List α) :
    anyUnknown (frameReq f) (l.map g) = true ↔ ∃ x ∈ l, f.has (g x) = false := by
  simp [anyUnknown, frameReq]

theorem anyUnknown_frame (f : LFrame) (l : List Bytes) :
    anyUnknown (frameReq f) l = true ↔ ∃ n ∈ l, f.has n = false := by
  simpa using anyUnknown_map f id l

theorem isSome_iff_ne_none {α : Type} (o : Option α) : o.isSome = true ↔ ¬ o = none := by
  cases o <;> simp

/-- **Sort (C03).** On a frame without error the chain of today's `Sort` rejects iff the spec has no sort keys for the
request (`sortKeys f os = none`: some order names an unknown column — and then no frame is an acceptable result,
`C10Sticky.isSortedResult_unknown`); it returns the frame itself iff no order is given (the spec: the frame unchanged);
otherwise the work starts. It always has an outcome. -/
theorem gen_sort_semantics (f : LFrame) (os : List Order) :
    (genGuards2 "Sort" (sortReq f os) = some .err ↔ sortKeys f os = none) ∧
    (genGuards2 "Sort" (sortReq f os) = some .returnSelf ↔ os = []) ∧
    (genGuards2 "Sort" (sortReq f os) = some .ok ↔ os ≠ [] ∧ (sortKeys f os).isSome = true) := by
  have e : sortOutcome (sortReq f os) =
      if (os.map (·.col)).isEmpty then GOut.returnSelf
      else if anyUnknown (frameReq f) (os.map (·.col)) then .err else .ok := rfl
  rw [gen_sort_outcome, e, isSome_iff_ne_none, C10Sticky.sortKeys_none_iff, ← anyUnknown_map]
  cases os with
  | nil => simp [anyUnknown]
  | cons o t => cases anyUnknown (frameReq f) ((o :: t).map (·.col)) <;> simp

/-- **Distinct (C05).** On a frame without error the chain of today's `Distinct` rejects iff a requested column is unknown
(`distinctKeys f keys = none`: then no frame is an acceptable result, `C10Sticky.isDistinctResult_unknown`) — ALSO on a
frame without rows, because the column check comes first; it returns the frame itself iff all columns are known and the
frame has no rows. -/
theorem gen_distinct_semantics (f : LFrame) (keys : List Bytes) :
    (genGuards2 "Distinct" (keysReq f keys) = some .err ↔ C10Sticky.distinctKeys f keys = none) ∧
    (genGuards2 "Distinct" (keysReq f keys) = some .returnSelf ↔
      (C10Sticky.distinctKeys f keys).isSome = true ∧ f.n = 0) := by
  have e : distinctOutcome (keysReq f keys) =
      if anyUnknown (frameReq f) keys then GOut.err else if f.n == 0 then .returnSelf else .ok := rfl
  rw [gen_distinct_outcome, e, isSome_iff_ne_none, C10Sticky.distinctKeys_none_iff, ← anyUnknown_frame]
  cases anyUnknown (frameReq f) keys
  · cases f.n <;> simp
  · simp

/-- **GroupBy + Aggregate (C04), the column checks.** On a frame without error: `GroupBy` yields a grouper with an error
iff a grouping column is unknown; `Aggregate` (on the grouper built from the frame) rejects IN ITS PREFIX iff an aggregation
names an unknown column. The spec's `groupAggS` returns `.err` iff one of the two does, or — LATER, outside the chains
(`lateErrors2`: 2) — an aggregation's result name is taken or its function is not defined for its column
(`C10Sticky.aggsLate`). -/
theorem gen_groupagg_semantics (f : LFrame) (gbNull : Bool) (keys : List Bytes) (aggs : List Agg) :
    (genGuards2 "GroupBy" (keysReq f keys) = some .err ↔ ∃ n ∈ keys, f.has n = false) ∧
    (genGuards2 "Aggregate" (aggReq f aggs) = some .err ↔ ∃ a ∈ aggs, f.has a.col = false) ∧
    (groupAggS f gbNull keys aggs = .err ↔
      genGuards2 "GroupBy" (keysReq f keys) = some .err ∨ genGuards2 "Aggregate" (aggReq f aggs) = some .err ∨
      C10Sticky.aggsLate f keys aggs = true) := by
  have e1 : groupByOutcome (keysReq f keys) = if anyUnknown (frameReq f) keys then GOut.err else .ok := rfl
  have e2 : aggregateOutcome (aggReq f aggs) = if anyUnknown (frameReq f) (aggs.map (·.col)) then GOut.err else .ok := rfl
  have h1 : genGuards2 "GroupBy" (keysReq f keys) = some .err ↔ ∃ n ∈ keys, f.has n = false := by
    rw [gen_groupBy_outcome, e1, Option.some.injEq, C08Guards.ite_err_ok, anyUnknown_frame]
  have h2 : genGuards2 "Aggregate" (aggReq f aggs) = some .err ↔ ∃ a ∈ aggs, f.has a.col = false := by
    rw [gen_aggregate_outcome, e2, Option.some.injEq, C08Guards.ite_err_ok, anyUnknown_map]
  exact ⟨h1, h2, by rw [h1, h2]; exact C10Sticky.groupAggS_err_iff f gbNull keys aggs⟩

/-- … in particular: what the two prefixes reject, the spec rejects. -/
theorem gen_groupagg_sound (f : LFrame) (gbNull : Bool) (keys : List Bytes) (aggs : List Agg)
    (h : genGuards2 "GroupBy" (keysReq f keys) = some .err ∨ genGuards2 "Aggregate" (aggReq f aggs) = some .err) :
    groupAggS f gbNull keys aggs = .err :=
  (gen_groupagg_semantics f gbNull keys aggs).2.2.2 (h.elim .inl (.inr ∘ .inl))

theorem csvColumns_none_iff (f : LFrame) (cols : List Bytes) :
    csvColumns f cols = none ↔ cols ≠ [] ∧ (cols.length ≠ f.cols.length ∨ ∃ n ∈ cols, f.has n = false) := by
  unfold csvColumns
  cases cols with
  | nil => simp
  | cons c t =>
    by_cases hl : (c :: t).length = f.cols.length
    · rw [if_neg (by simp), if_neg (by simp [hl]), C10Sticky.mapM_find_none_iff]
      simp [hl]
    · rw [if_neg (by simp), if_pos (by simpa using hl)]
      exact ⟨fun _ => ⟨List.cons_ne_nil _ _, .inl hl⟩, fun _ => rfl⟩

/-- the chain of `ToCSV` on a request with a column list `cols` that may be given (`g`) or not -/
theorem csvOutcome_frame (f : LFrame) (cols : List Bytes) (g : Bool) :
    csvOutcome { frameReq f with colNames := f.names, csvCols := cols, csvGiven := g } = .err ↔
      g = true ∧ (cols.length ≠ f.cols.length ∨ ∃ n ∈ cols, f.has n = false) := by
  have e : csvOutcome { frameReq f with colNames := f.names, csvCols := cols, csvGiven := g } =
      if g && (cols.length != f.names.length) then GOut.err
      else if g && anyUnknown (frameReq f) cols then .err else .ok := rfl
  have hn : f.names.length = f.cols.length := List.length_map _
  rw [e, hn, ← anyUnknown_frame]
  cases g
  · simp
  · by_cases hl : cols.length = f.cols.length <;> cases anyUnknown (frameReq f) cols <;> simp [hl]

/-- **ToCSV (C13), the column selection.** On a frame without error the chain of today's `ToCSV` rejects iff the spec's
`csvColumns` does: a column list is given and its length differs from the number of columns, or it names an unknown column.
(The writer's errors come later: `lateErrors2`: 3.) -/
theorem gen_csv_semantics (f : LFrame) (cols : List Bytes) :
    genGuards2 "ToCSV" (csvReq f cols) = some .err ↔ csvColumns f cols = none := by
  rw [gen_csv_outcome, Option.some.injEq, csvColumns_none_iff]
  refine (csvOutcome_frame f cols _).trans (and_congr_left' ?_)
  cases cols <;> simp

/-- The nil / empty distinction: a column list that is GIVEN but empty is rejected on a frame with columns
("wrong number of columns"), where `csvColumns f []` means all columns. The harness passes nil for an empty list, so no
request it can express shows the difference. -/
theorem csv_empty_nonnil (f : LFrame) (h : f.cols ≠ []) :
    genGuards2 "ToCSV" { frameReq f with colNames := f.names, csvCols := [], csvGiven := true } = some .err ∧
    csvColumns f [] = some f.cols := by
  refine ⟨?_, rfl⟩
  rw [gen_csv_outcome, Option.some.injEq, csvOutcome_frame]
  exact ⟨rfl, .inl (fun h0 => h (List.length_eq_zero_iff.mp h0.symm))⟩

/-! ### Equals -/

/-- `qf.Equals(other)`: the row counts, the column names, and what the column code says about position `i` -/
def equalsReq (a b : LFrame) (differs : Nat → Bool) : GReq :=
  { rows := a.n, colNames := a.names, otherRows := b.n, otherNames := b.names, contentDiffers := differs }

theorem pair_names (i : Nat) (l1 l2 : List Bytes) (h : l1.length = l2.length) :
    anyFiresPair (fun _ a b => b.map (fun n => a != n)) i l1 l2 = some (l1 != l2) := by
  induction l1 generalizing l2 i with
  | nil =>
    cases l2 with
    | nil => rfl
    | cons b t => cases h
  | cons a t ih =>
    cases l2 with
    | nil => cases h
    | cons b t2 =>
      have e : (a :: t != b :: t2) = (a != b || t != t2) := by simp only [bne, List.cons_beq_cons, Bool.not_and]
      simp only [anyFiresPair, List.head?_cons, Option.map_some, List.tail_cons]
      rw [e, ih _ _ (Nat.succ.inj h)]
      cases a != b <;> rfl

theorem pair_content (cd : Nat → Bool) (i : Nat) (l1 l2 : List Bytes) (h : l1.length = l2.length) :
    anyFiresPair (fun i _ b => b.map (fun _ => cd i)) i l1 l2 =
      some ((List.range l1.length).any (fun j => cd (i + j))) := by
  induction l1 generalizing l2 i with
  | nil => rfl
  | cons a t ih =>
    cases l2 with
    | nil => cases h
    | cons b t2 =>
      simp only [anyFiresPair, List.head?_cons, Option.map_some, List.tail_cons, List.length_cons]
      rw [List.range_succ_eq_map, List.any_cons, List.any_map, ih _ _ (Nat.succ.inj h)]
      simp only [Function.comp_def, Nat.add_zero, Nat.add_assoc, Nat.add_comm 1]
      cases cd i <;> rfl

/-- `Equals` answers `true` iff the row counts and the column names agree and the column code finds no difference -/
def equalsVerdict (q : GReq) : Bool :=
  q.rows == q.otherRows && q.colNames == q.otherNames && !(List.range q.colNames.length).any q.contentDiffers

def equalsOutcome (q : GReq) : GOut := if equalsVerdict q then .retTrue else .retFalse

theorem canon_equals_sem (q : GReq) : runGuards specEnv canonEquals q = some (equalsOutcome q) := by
  unfold canonEquals equalsOutcome equalsVerdict
  simp only [runGuards_guard, runGuards_forEachPair, GCond.eval, GInt.eval, GCond.evalPair, Option.map_some, fire_some,
    ListFacts.natCast_beq]
  by_cases hl : q.colNames.length = q.otherNames.length
  · -- the two loops over the column positions: the names differ somewhere / the column code finds a difference somewhere
    have e2 := pair_content q.contentDiffers 0 _ _ hl
    simp only [Nat.zero_add] at e2
    simp only [pair_names 0 _ _ hl, e2, fire_some, runGuards, some_ite, hl, beq_self_eq_true, Bool.not_true,
      Bool.false_eq_true, if_false]
    unfold bne
    cases q.rows == q.otherRows <;> cases q.colNames == q.otherNames <;>
      cases (List.range q.otherNames.length).any q.contentDiffers <;> rfl
  · -- different numbers of columns: the second guard fires, and the name lists differ
    rw [beq_false_of_ne hl, beq_false_of_ne (fun e => hl (congrArg List.length e))]
    cases q.rows == q.otherRows <;> rfl

/-- What today's `Equals` does, as a closed formula, on ALL requests. (No test of `Err`: `Equals` returns a verdict.) -/
theorem gen_equals_outcome (q : GReq) : genGuards2 "Equals" q = some (equalsOutcome q) :=
  (genGuards2_at 13 q _ rfl).trans (canon_equals_sem q)

theorem equalsVerdict_frames (a b : LFrame) (d : Nat → Bool) :
    equalsVerdict (equalsReq a b d) = true ↔ a.n = b.n ∧ a.names = b.names ∧ ∀ i < a.cols.length, d i = false := by
  have hlen : a.names.length = a.cols.length := List.length_map _
  simp [equalsVerdict, equalsReq, hlen, and_assoc]

/-- `Equals` looks at what the column code says at the positions of the receiver's columns only -/
theorem gen_equals_congr (a b : LFrame) (d d' : Nat → Bool) (h : ∀ i < a.cols.length, d i = d' i) :
    genGuards2 "Equals" (equalsReq a b d) = genGuards2 "Equals" (equalsReq a b d') := by
  have : equalsVerdict (equalsReq a b d) = equalsVerdict (equalsReq a b d') := by
    rw [Bool.eq_iff_iff, equalsVerdict_frames, equalsVerdict_frames]
    exact and_congr_right fun _ => and_congr_right fun _ => forall₂_congr fun i hi => by rw [h i hi]
  rw [gen_equals_outcome, gen_equals_outcome, equalsOutcome, equalsOutcome, this]

theorem ite_retTrue (c : Prop) [Decidable c] : (if c then GOut.retTrue else .retFalse) = .retTrue ↔ c := by
  by_cases h : c <;> simp [h]

theorem ite_retFalse (c : Prop) [Decidable c] : (if c then GOut.retTrue else .retFalse) = .retFalse ↔ ¬ c := by
  by_cases h : c <;> simp [h]

/-- **Equals (C09), the shape checks.** The first three checks of today's `Equals` — number of rows, number of columns,
the column names position by position — answer `false` iff the frames differ in their number of rows or in their column
names, and then the spec's `equalsS` is false. Whatever the column code says (`differs`), `Equals` answers `true` iff the
shapes agree and it finds no difference at any position; the comparison of the column TYPES and of the cells happens there
(`pairContentDiffers`), outside the chain. -/
theorem gen_equals_semantics (a b : LFrame) (differs : Nat → Bool) :
    (genGuards2 "Equals" (equalsReq a b (fun _ => false)) = some .retFalse ↔ a.n ≠ b.n ∨ a.names ≠ b.names) ∧
    (a.n ≠ b.n ∨ a.names ≠ b.names → genGuards2 "Equals" (equalsReq a b differs) = some .retFalse ∧ equalsS a b = false) ∧
    (genGuards2 "Equals" (equalsReq a b differs) = some .retTrue ↔
      a.n = b.n ∧ a.names = b.names ∧ ∀ i < a.cols.length, differs i = false) := by
  simp only [gen_equals_outcome, Option.some.injEq, equalsOutcome, ite_retTrue, ite_retFalse, equalsVerdict_frames]
  refine ⟨?_, fun h => ⟨fun ⟨h1, h2, _⟩ => h.elim (· h1) (· h2), C10Sticky.equalsS_shape a b h⟩, trivial⟩
  rw [← Decidable.not_and_iff_not_or_not]
  exact not_congr ⟨fun ⟨h1, h2, _⟩ => ⟨h1, h2⟩, fun ⟨h1, h2⟩ => ⟨h1, h2, fun _ _ => trivial⟩⟩

/-- what the column code is EXPECTED to say about the columns at position `i` (it is not part of the chain): they differ iff
their types differ or some cell does -/
def colDiffers (a b : LFrame) (i : Nat) : Bool :=
  !((a.cols[i]!).ty == (b.cols[i]!).ty &&
    (List.range a.n).all (fun r => cellEq (a.cols[i]!).cells[r]! (b.cols[i]!).cells[r]!))

theorem colDiffers_false (a b : LFrame) (i : Nat) :
    colDiffers a b i = false ↔ C09.ColSame a.n (a.cols[i]!) (b.cols[i]!) := by
  simp only [colDiffers, C09.ColSame, Bool.not_eq_false', Bool.and_eq_true, beq_iff_eq, List.all_eq_true, List.mem_range]

theorem equalsS_iff (a b : LFrame) :
    equalsS a b = true ↔ a.n = b.n ∧ a.names = b.names ∧ ∀ i < a.cols.length, colDiffers a b i = false := by
  simp only [colDiffers_false]
  exact C09.equalsS_iff a b

/-- **Equals against the spec (C09), under the expected behaviour of the column code.** If the comparison of two columns
that the column code makes (outside the chain) is the spec's — same type, all cells equal (`colDiffers`) — then today's
`Equals` answers exactly what `equalsS` answers, on ALL pairs of frames. -/
theorem gen_equals_vs_spec (a b : LFrame) :
    genGuards2 "Equals" (equalsReq a b (colDiffers a b)) = some (if equalsS a b then .retTrue else .retFalse) := by
  have : equalsVerdict (equalsReq a b (colDiffers a b)) = equalsS a b := by
    rw [Bool.eq_iff_iff, equalsVerdict_frames, equalsS_iff]
  rw [gen_equals_outcome, equalsOutcome, this]

/-- **Reject semantics — Sort, Distinct, GroupBy + Aggregate, Equals, ToCSV** of today's source, on ALL requests on a frame
without error: the extracted prefix rejects iff the spec does, as far as the rejection is decided in the prefix.

* `Sort(os)`: `err` iff `sortKeys f os = none` (an order names an unknown column);
* `Distinct(keys)`: `err` iff `distinctKeys f keys = none` (a requested column is unknown), also when `f` has no rows;
* `GroupBy(keys)` / `Aggregate(aggs)`: `err` iff a grouping column / an aggregation column is unknown; `groupAggS = .err`
  iff one of these, or LATER (`aggsLate`): result name taken, function not defined for the column type;
* `Equals`: `false` by shape iff the row counts or the column names differ (then `equalsS = false`); types and cells LATER;
* `ToCSV(cols)`: `err` iff `csvColumns f cols = none`; writer errors LATER. -/
theorem gen_reject_semantics (f : LFrame) :
    (∀ os, genGuards2 "Sort" (sortReq f os) = some .err ↔ sortKeys f os = none) ∧
    (∀ keys, genGuards2 "Distinct" (keysReq f keys) = some .err ↔ C10Sticky.distinctKeys f keys = none) ∧
    (∀ gbNull keys aggs, groupAggS f gbNull keys aggs = .err ↔
      genGuards2 "GroupBy" (keysReq f keys) = some .err ∨ genGuards2 "Aggregate" (aggReq f aggs) = some .err ∨
      C10Sticky.aggsLate f keys aggs = true) ∧
    (∀ b, genGuards2 "Equals" (equalsReq f b (fun _ => false)) = some .retFalse ↔ f.n ≠ b.n ∨ f.names ≠ b.names) ∧
    (∀ cols, genGuards2 "ToCSV" (csvReq f cols) = some .err ↔ csvColumns f cols = none) :=
  ⟨fun os => (gen_sort_semantics f os).1, fun keys => (gen_distinct_semantics f keys).1,
   fun gbNull keys aggs => (gen_groupagg_semantics f gbNull keys aggs).2.2,
   fun b => (gen_equals_semantics f b (fun _ => false)).1, fun cols => gen_csv_semantics f cols⟩

/-! ## Apply: the dispatch and the loop -/

/-- the spec's reading of a Go instruction: a source column that is not set (`""`) is none -/
def toInstr (g : GoInstr) : Instr :=
  { dst := g.dst, src1 := if g.src1.isEmpty then none else some g.src1,
    src2 := if g.src2.isEmpty then none else some g.src2, fn := g.fn }

/-- the helper (by its number of source parameters) and the fields `applyInstr`'s reading of an instruction calls for -/
def specDispatch (ins : Instr) : Nat × List IField :=
  match ins.src1, ins.src2 with
  | none, _ => (0, [.fn, .dst])
  | some _, none => (1, [.fn, .dst, .src1])
  | some _, some _ => (2, [.fn, .dst, .src1, .src2])

theorem specDispatch_arity (ins : Instr) : (specDispatch ins).1 = C10Sticky.instrArity ins := by
  unfold specDispatch C10Sticky.instrArity
  cases ins.src1 <;> cases ins.src2 <;> rfl

theorem canon_dispatch (g : GoInstr) : canonApply.disp.eval g = some (specDispatch (toInstr g)) := by
  unfold canonApply toInstr specDispatch
  cases h1 : g.src1.isEmpty <;> cases h2 : g.src2.isEmpty <;> simp [IDisp.eval, GoInstr.nameOf, h1, h2]

/-- the instruction a helper call works on: parameter 1 is the destination, parameters 2 and 3 the source columns -/
def callInstr (k : Nat) (args : List IField) (g : GoInstr) : Instr :=
  { dst := ((args[1]?).bind g.nameOf).getD []
    src1 := if 1 ≤ k then (args[2]?).bind g.nameOf else none
    src2 := if 2 ≤ k then (args[3]?).bind g.nameOf else none
    fn := g.fn }

/-- The helper the dispatch picks, with the arguments it passes, does on a frame what `applyInstr` does with the spec's
reading of the instruction. -/
theorem callInstr_spec (up : UpperOracle) (f : LFrame) (m : Nat → Bool) (g : GoInstr) (b : Bool) :
    applyInstr up f m (callInstr (specDispatch (toInstr g)).1 (specDispatch (toInstr g)).2 g) b =
      applyInstr up f m (toInstr g) b := by
  unfold toInstr specDispatch callInstr
  cases h1 : g.src1.isEmpty
  · cases h2 : g.src2.isEmpty <;> simp [GoInstr.nameOf]
  · simp only [if_true]
    have := C10Sticky.applyInstr_no_src1 up f m
      { dst := g.dst, src1 := none, src2 := none, fn := g.fn } b rfl (if g.src2.isEmpty then none else some g.src2)
    simp only at this ⊢
    exact this.symm

/-- what helper `k` sees of the frame and of the instruction -/
def helperReq (f : LFrame) (g : GoInstr) : GReq := { frameReq f with dst := g.dst, src := g.src1, src2 := g.src2 }

/-- **The dispatch of `Apply` is the spec's reading of an instruction** (C06), for today's source:
* the loop starts from the receiver, replaces the accumulator by the helper's result for every instruction and returns it;
* ALL instructions: no first source column → the helper without source parameter (a second one is ignored, as in
  `applyInstr`: `C10Sticky.applyInstr_no_src1`); a first but no second → the helper with one; both → the helper with two;
  the fields are passed in the order function, destination, sources;
* that helper call computes `applyInstr` of the spec's reading (`callInstr_spec`);
* `WithRowNums` passes one instruction without source columns, which therefore goes to `apply0`. -/
theorem gen_apply_dispatch :
    Gen.applyAst.accFromRecv = true ∧ Gen.applyAst.returnsAcc = true ∧
    (∀ g : GoInstr, Gen.applyAst.disp.eval g = some (specDispatch (toInstr g))) ∧
    (∀ g : GoInstr, (specDispatch (toInstr g)).1 = C10Sticky.instrArity (toInstr g)) ∧
    (∀ g : GoInstr, g.src1 = [] → Gen.applyAst.disp.eval g = some (0, [.fn, .dst])) ∧
    (∃ l, Gen.rowNumsAst = some [l] ∧ l.src1Set = false ∧ l.src2Set = false ∧ l.dst = some .dst) := by
  rw [gen_apply_canon]
  refine ⟨rfl, rfl, canon_dispatch, fun g => specDispatch_arity _, fun g h => ?_, ⟨_, gen_rownums_canon, rfl, rfl, rfl⟩⟩
  rw [canon_dispatch]
  unfold toInstr specDispatch
  simp [h]

theorem ite_isEmpty (l : Bytes) (h : l ≠ []) : (if l.isEmpty then none else some l) = some l := by
  cases l with
  | nil => exact absurd rfl h
  | cons _ _ => rfl

/-- **Unknown source columns** (C06 / C10): on a frame without error, the helper with one source rejects in its prefix iff
that column is unknown, the helper with two iff one of them is — and `applyInstr` rejects such instructions too. (Their later
rejections — function type, column code, the destination's name in `set` — are outside: `gen_guards2_complete`.) -/
theorem gen_apply_unknown_source (up : UpperOracle) (m : Nat → Bool) (b : Bool) (f : LFrame) (g : GoInstr) :
    (genGuards2 "apply0" (helperReq f g) = some .ok) ∧
    (genGuards2 "apply1" (helperReq f g) = some .err ↔ f.has g.src1 = false) ∧
    (genGuards2 "apply2" (helperReq f g) = some .err ↔ f.has g.src1 = false ∨ f.has g.src2 = false) ∧
    (g.src1 ≠ [] → f.has g.src1 = false → applyInstr up f m (toInstr g) b = .err) ∧
    (g.src1 ≠ [] → g.src2 ≠ [] → f.has g.src2 = false → applyInstr up f m (toInstr g) b = .err) := by
  have e1 : apply1Outcome (helperReq f g) = if !f.has g.src1 then GOut.err else .ok := rfl
  have e2 : apply2Outcome (helperReq f g) =
      if !f.has g.src1 then GOut.err else if !f.has g.src2 then .err else .ok := rfl
  refine ⟨by rw [gen_apply0_outcome]; rfl, ?_, ?_, fun h1 hu => ?_, fun h1 h2 hu => ?_⟩
  · rw [gen_apply1_outcome, e1]
    cases f.has g.src1 <;> simp
  · rw [gen_apply2_outcome, e2]
    cases f.has g.src1 <;> cases f.has g.src2 <;> simp
  · exact C10Sticky.applyInstr_unknown_src1 up f m _ b _ (ite_isEmpty _ h1) hu
  · exact C10Sticky.applyInstr_unknown_src2 up f m _ b _ _ (ite_isEmpty _ h1) (ite_isEmpty _ h2) hu

/-- The loop, for any kind of accumulator: once it is `failed` — and the helpers return a failed accumulator as it is, which
is what their first guard does (`gen_sticky_all`) — it comes back unchanged, whatever instructions follow. -/
theorem apply_loop_sticky {σ : Type} (a : ApplyAst) (helper : Nat → List IField → GoInstr → σ → σ) (failed : σ → Bool)
    (hst : ∀ k args i s, failed s = true → helper k args i s = s)
    (ha : (a.accFromRecv && a.returnsAcc) = true) (hd : ∀ i, (a.disp.eval i).isSome = true)
    (s : σ) (hf : failed s = true) (is : List GoInstr) : runApplyLoop a helper s is = some s := by
  induction is with
  | nil => simp [runApplyLoop, ha]
  | cons i t ih =>
    unfold runApplyLoop
    cases he : a.disp.eval i with
    | none => have := hd i; rw [he] at this; cases this
    | some p =>
      obtain ⟨k, args⟩ := p
      simp only []
      rw [hst k args i s hf]
      exact ih

theorem runApplyLoop_cons {σ : Type} (a : ApplyAst) (helper : Nat → List IField → GoInstr → σ → σ) (s : σ) (i : GoInstr)
    (is : List GoInstr) :
    runApplyLoop a helper s (i :: is) =
      match a.disp.eval i with
      | some (k, args) => runApplyLoop a helper (helper k args i s) is
      | none => none := rfl

theorem apply_loop_append {σ : Type} (a : ApplyAst) (helper : Nat → List IField → GoInstr → σ → σ)
    (ha : (a.accFromRecv && a.returnsAcc) = true) (s : σ) (is js : List GoInstr) :
    runApplyLoop a helper s (is ++ js) = (runApplyLoop a helper s is).bind (fun t => runApplyLoop a helper t js) := by
  induction is generalizing s with
  | nil => simp [runApplyLoop, ha]
  | cons i t ih =>
    rw [List.cons_append, runApplyLoop_cons, runApplyLoop_cons]
    cases he : a.disp.eval i with
    | none => rfl
    | some p =>
      obtain ⟨k, args⟩ := p
      exact ih _

/-- **The loop stops at the first failing instruction**: if the accumulator is failed after the instructions `is`, the
result of `is ++ js` is that accumulator — nothing after the failure is applied. -/
theorem apply_loop_stops {σ : Type} (a : ApplyAst) (helper : Nat → List IField → GoInstr → σ → σ) (failed : σ → Bool)
    (hst : ∀ k args i s, failed s = true → helper k args i s = s)
    (ha : (a.accFromRecv && a.returnsAcc) = true) (hd : ∀ i, (a.disp.eval i).isSome = true)
    (s t : σ) (is js : List GoInstr) (h : runApplyLoop a helper s is = some t) (hf : failed t = true) :
    runApplyLoop a helper s (is ++ js) = some t := by
  rw [apply_loop_append a helper ha, h]
  exact apply_loop_sticky a helper failed hst ha hd t hf js

/-- The helpers as the spec sees them: a failed frame comes back as it is — the first guard of `apply0`, `apply1`, `apply2`
(`gen_sticky_all`) — and on a frame without error the call does what `applyInstr` does with the instruction it is handed. -/
def specHelper (up : UpperOracle) (m : Nat → Bool) (k : Nat) (args : List IField) (g : GoInstr) : Res → Res
  | .err => .err
  | .ok f => applyInstr up f m (callInstr k args g) false

theorem gen_dispatch_total (g : GoInstr) : (Gen.applyAst.disp.eval g).isSome = true := by
  rw [gen_apply_dispatch.2.2.1 g]; rfl

theorem gen_apply_flags : (Gen.applyAst.accFromRecv && Gen.applyAst.returnsAcc) = true := by
  rw [gen_apply_dispatch.1, gen_apply_dispatch.2.1]; rfl

/-- **Today's `Apply` loop computes `applyS`**: started on a frame without error it returns what the spec's `applyS` returns
for the instructions read the spec's way; started on a failed frame it returns that frame. -/
theorem gen_apply_loop (up : UpperOracle) (m : Nat → Bool) (gs : List GoInstr) :
    (∀ f, runApplyLoop Gen.applyAst (specHelper up m) (.ok f) gs = some (applyS up f m false (gs.map toInstr))) ∧
    runApplyLoop Gen.applyAst (specHelper up m) .err gs = some .err := by
  have herr : ∀ gs, runApplyLoop Gen.applyAst (specHelper up m) .err gs = some .err := fun gs =>
    apply_loop_sticky Gen.applyAst (specHelper up m) (fun r => match r with | .err => true | .ok _ => false)
      (fun k args i s hs => by cases s with | ok f => cases hs | err => rfl)
      gen_apply_flags gen_dispatch_total .err rfl gs
  refine ⟨?_, herr gs⟩
  induction gs with
  | nil =>
    intro f
    simp [runApplyLoop, gen_apply_flags, applyS]
  | cons g t ih =>
    intro f
    unfold runApplyLoop
    rw [gen_apply_dispatch.2.2.1 g]
    simp only [List.map_cons]
    conv => rhs; unfold applyS
    have hc : specHelper up m (specDispatch (toInstr g)).1 (specDispatch (toInstr g)).2 g (.ok f) =
        applyInstr up f m (toInstr g) false := callInstr_spec up f m g false
    rw [hc]
    cases applyInstr up f m (toInstr g) false with
    | ok f' => exact ih f'
    | err => exact herr t

/-- … and so it stops where the spec stops (`C10Sticky.applyS_stops_at_first_failing`): the instructions before the first
failing one are applied and give a frame `g`; the next one fails on `g`; if there is such an instruction, the result of the
whole loop is the failure, whatever follows it. -/
theorem gen_apply_stops (up : UpperOracle) (m : Nat → Bool) (f : LFrame) (gs : List GoInstr) :
    ∃ g, runApplyLoop Gen.applyAst (specHelper up m) (.ok f)
        (gs.take (firstFailing up f m (gs.map toInstr))) = some (.ok g) ∧
      (∀ i, (gs.map toInstr)[firstFailing up f m (gs.map toInstr)]? = some i → applyInstr up g m i = .err) ∧
      (firstFailing up f m (gs.map toInstr) < gs.length →
        runApplyLoop Gen.applyAst (specHelper up m) (.ok f) gs = some .err) := by
  obtain ⟨g, hg, hfail⟩ := C10Sticky.applyS_stops_at_first_failing up f m (gs.map toInstr)
  refine ⟨g, ?_, hfail, fun hlt => ?_⟩
  · rw [(gen_apply_loop up m _).1 f, List.map_take, hg]
  · rw [(gen_apply_loop up m gs).1 f]
    congr 1
    exact (C10Sticky.applyS_err_iff up f m (gs.map toInstr)).2 (by rw [List.length_map]; exact hlt)

/-! ## Witnesses: the statements tell wrong code apart -/

section Witnesses

private def fr : LFrame :=
  { cols := [{ name := [120], ty := .int, cells := #[.int 1, .int 2, .int 3] }], n := 3 }

/-- `Sort` without the test of `qf.Err` (what the translator emits when `if qf.Err != nil { return qf }` is dropped) -/
def sortNoErrCheck : List GStep := [
  .guard (noneOf .orderCols) .returnSelf,
  .forEach .orderCols (.unknownColumn .each) .err]

/-- … answers `Sort(Order{Column: "q"})` on a frame that has an error with a NEW error instead of the frame itself, and on a
known column it runs into the real work: not sticky. -/
example : runGuards specEnv sortNoErrCheck { hasErr := true, orderCols := [[113]] } = some .err := by decide
example : runGuards specEnv sortNoErrCheck { hasErr := true, known := fun _ => true, orderCols := [[120]] } = some .ok := by
  decide

/-- `Distinct` without the loop over the requested columns -/
def distinctNoColCheck : List GStep := [.guard .qfHasErr .returnSelf, .guard (.eqI .len (.lit 0)) .returnSelf]

/-- … accepts `Distinct(groupby.Columns("q"))` on a frame without such a column, which the spec rejects. -/
example : runGuards specEnv distinctNoColCheck (keysReq fr [[113]]) = some .ok ∧ C10Sticky.distinctKeys fr [[113]] = none :=
  ⟨by decide, (C10Sticky.distinctKeys_none_iff fr _).2 ⟨[113], by decide, by decide⟩⟩

/-- `Distinct` with the test for an empty frame BEFORE the column check returns an empty frame unchanged although a column
is unknown. -/
def distinctLenFirst : List GStep := [
  .guard .qfHasErr .returnSelf,
  .guard (.eqI .len (.lit 0)) .returnSelf,
  .forEach .groupCols (.unknownColumn .each) .err]

example : runGuards specEnv distinctLenFirst (keysReq { cols := [], n := 0 } [[113]]) = some .returnSelf ∧
    C10Sticky.distinctKeys { cols := [], n := 0 } [[113]] = none :=
  ⟨by decide, (C10Sticky.distinctKeys_none_iff _ _).2 ⟨[113], by decide, by decide⟩⟩

/-- `Aggregate` that ignores the grouper's error goes on to its column check. -/
def aggregateNoErrCheck : List GStep := [.forEachWork .aggCols (.unknownColumn .each) .err]

example : runGuards specEnv aggregateNoErrCheck { grouperErr := true, known := fun _ => true, aggCols := [[120]] } = some .ok := by
  decide

/-- `ToCSV` that compares the lengths with `<` lets a list through that is too long … and `csvColumns` rejects it. -/
def csvLt : List GStep := [
  .guard .qfHasErr .err,
  .guardIf (.given .csvCols) (.lt (.count .csvCols) .colCount) .err,
  .forEachIf (.given .csvCols) .csvCols (.unknownColumn .each) .err]

example : runGuards specEnv csvLt (csvReq fr [[120], [120]]) = some .ok ∧ csvColumns fr [[120], [120]] = none :=
  ⟨by decide, (csvColumns_none_iff fr _).2 ⟨by decide, .inl (by decide)⟩⟩

/-- A dispatch that tests the SECOND source column first sends `{SrcCol1: "", SrcCol2: "x"}` to the helper with one source
column (an unknown-column error), where the spec reads an instruction without source columns. -/
def dispSrc2First : IDisp :=
  .ifEmpty .src2 (.ifEmpty .src1 (.call 0 [.fn, .dst]) (.call 1 [.fn, .dst, .src1])) (.call 2 [.fn, .dst, .src1, .src2])

example : dispSrc2First.eval { dst := [121], src1 := [], src2 := [120], fn := .const (.int 1) } =
      some (2, [.fn, .dst, .src1, .src2]) ∧
    specDispatch (toInstr { dst := [121], src1 := [], src2 := [120], fn := .const (.int 1) }) = (0, [.fn, .dst]) := by
  decide

/-- `Equals` without the comparison of the numbers of columns: on frames with one and two columns of the same first name the
loop reads `other.columns[i]` within bounds and says "equal" (with more columns on the receiver's side it would panic: the
chain has no outcome). -/
def equalsNoCount : List GStep := [
  .guard (.not (.eqI .indexLen .otherIndexLen)) .retFalse,
  .forEachPair .pairNameDiffers .retFalse,
  .forEachPair .pairContentDiffers .retFalse,
  .done .retTrue]

example : runGuards specEnv equalsNoCount { colNames := [[120]], otherNames := [[120], [121]] } = some .retTrue := by decide
example : runGuards specEnv equalsNoCount { colNames := [[120], [121]], otherNames := [[120]] } = none := by decide

end Witnesses

#print axioms gen_guards2_no_opaque
#print axioms gen_guards2_complete
#print axioms gen_sticky_all
#print axioms gen_reject_semantics
#print axioms gen_sort_semantics
#print axioms gen_distinct_semantics
#print axioms gen_groupagg_semantics
#print axioms gen_groupagg_sound
#print axioms gen_csv_semantics
#print axioms csv_empty_nonnil
#print axioms gen_equals_outcome
#print axioms gen_equals_semantics
#print axioms gen_equals_vs_spec
#print axioms gen_filteredApply_outcome
#print axioms gen_read_outcome
#print axioms gen_apply_dispatch
#print axioms gen_apply_unknown_source
#print axioms apply_loop_sticky
#print axioms apply_loop_stops
#print axioms gen_apply_loop
#print axioms gen_apply_stops

end QF.Props.C10Guards
