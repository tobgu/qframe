import QF.Props.C08Guards
import QF.Core.ListFacts
import QF.Core.NameIndex
import QF.Gen.Project
/-!
# C08 (also listed under C01, C03, C05, C06, C09, C10, C11) — the index and column-list work of today's `Slice`, `Select`,
`Drop`, `Copy`, `Sort`, `Distinct` (tie T1, by semantics)

`QF.Gen.projectAst`, `QF.Gen.indexAst`, `QF.Gen.frameHelperAst` (regenerated on every run by go/cmd/extract/pxast.go) hold
what the projection and ordering operations of /repo/qframe.go do AFTER their rejecting guards — `qf.index[start:end]`,
the new column list and name map of `Select`, the names `Drop` hands to `Select`, `setColumn` (which `Copy` ends in,
inlined), the copy-then-sort of `Sort`, the fresh index of `Distinct` — and the functions of internal/index (`Int.Copy`,
`Int.Filter`, `NewAscending`, `NewBool`, the two `Len`) and `grouper.Distinct`, as terms of `QF.PF` / `QF.PStm` / `QF.PA`
(QF/Core/PExpr.lean: their Go meaning on a heap of backing arrays with allocation ids, slice headers with offset, length
and capacity, and a log of every write into an array that exists). The guards themselves are `QF.Gen.guardAst`
(QF/Props/C08Guards.lean). This file proves, for the terms generated TODAY:

* `gen_project_no_opaque`   — everything was found and translated completely
* `gen_project_canon`       — the terms are the canonical ones (finite `decide`, redone on every run)
* `gen_project_semantics`   — on a well-formed physical frame (`PWF`) with pairwise different column names and a request the
                              guards let through, the frame the term returns is well-formed and its LOGICAL frame
                              (`PFrame.abs`) is `sliceS` / `selectS` / `dropS` / `copyS` of the receiver's. `Drop`'s final
                              `qf.Select(<remaining names>...)` is today's WHOLE `Select` (`genSelect`: guards, then work).
* `gen_project_total`       — guard chain and work together, on ALL arguments of a frame without error;
                              `gen_project_sticky`: a frame with an error comes back as it is. (`gen_project_requests`:
                              what the guards see of a physical frame — known names, `Len()` — is what the logical frame has.)
* `gen_sort_semantics`, `gen_distinct_semantics`
                            — `Sort` copies the index (today's `Int.Copy`) and sorts the COPY: the result reads the rows in
                              the order the sorter left them (`Ext.sortFn`, a parameter: that it is a sorted permutation is
                              C03), columns and name map shared; `Distinct` returns a fresh index holding the first row of
                              every occupied entry of the table in TABLE order (`Ext.table`, a parameter: that the table has
                              one entry per key class is C04/C05), whatever capacity `stats.GroupCount` asks for.
* `gen_index_semantics`     — `Int.Copy` returns a NEW array with the receiver's rows, `Int.Filter` a new array with the
                              flagged rows in order (the receiver untouched), `NewAscending(n)` = `0 … n-1`, `NewBool`,
                              the two `Len`.
* `run_persistent`, `gen_project_persistent`
                            — PERSISTENCE (C01) read off the regenerated code: a static check of the term (`PF.ownOnly`,
                              `PFretsNew`: every write targets a slice / map the function made itself, a returned index is
                              the one it made) gives, for ANY term, heap and arguments, that no array that existed changes
                              (`Persistent`), provided the functions it calls behave so (`LibOK`), which today's do. Hence
                              every earlier frame observes exactly what it observed before (`observation_kept`).
* witnesses                 — `append(qf.columns, …)` onto the shared column list, sorting `qf.index` in place, `Int.Copy`
                              returning its receiver: rejected by the static check AND shown to change an existing array
                              / what the receiver reads on a concrete heap; storing the element in the new map BEFORE
                              `s.pos = i`, keeping the receiver's map in `Select`: the result is not well-formed;
                              `qf.index[start:]`: other rows than `sliceS`; `setColumn` always storing last: no value
                              (Go panics); a `Drop` with another test in its loop: not the canonical term.

OBSERVATION (not reachable by the generated histories: the generator never repeats a name in a `Select`): on a frame in
which two columns carry the same name the name map knows only the LAST of them, and code and spec part ways (last section;
`dup_names_witness` shows the `Copy` case). `UniqueNames` is therefore a hypothesis of `gen_project_semantics`, and it is
preserved by every operation.

Method: the terms are shown canonical by `decide`, the semantics is proved of the canonical terms. Ints are unbounded here;
Go's are 64 bit, which only restricts the requests.
-/
namespace QF.Props.C08ProjectGen
open QF

/- The interpreter is run by `simp` throughout. Its equations are made simp lemmas here, once for the file: for a proof
that names `PA.exec` & co. in its own simp set the equation lemmas of these imported functions are derived again, for
that proof alone, which is slow to check. -/
attribute [local simp] PA.exec PI.eval PIx.eval PEl.eval PN.eval PC.eval PU.eval PCond.eval PRet.eval PNs.eval PStm.step
  PL.exec execAs execLs loopOver runSs stepSs PF.run

/-! ## Canonical terms -/

def canonHelpers : List (String × PRet) := [
  ("(error) → frame", .frame .recv .recv .recv .param),
  ("(index) → frame", .frame .recv .recv .param .recv)]

def canonSlice : PF := .seq [.ret (.frame .recv .recv (.slice .recv .start .stop) .recv)]

/-- the body of the loop of `Select`: `s := qf.columnsByName[col]; s.pos = i; newColumnsByName[col] = s; newColumns[i] = s` -/
def selectBody : List PL :=
  [.do (.lookup .a .recv .each), .do (.setPos .a .i), .do (.mapPut .new .each (.reg .a)), .do (.colStore .new .i (.reg .a))]

def canonSelect : PF := .seq [
  .retIf (.noNames .requested) .emptyFrame,
  .do .allocMap,
  .do (.allocCols (.countNames .requested)),
  .forEachName .requested selectBody,
  .ret (.frame .new .new .recv .none)]

def dropBody : List PL := [.when (.notRequested (.nameOf .eachCol)) [.pushName (.nameOf .eachCol)]]

def canonDrop : PF := .seq [
  .do .initNames,
  .forEachCol .recv dropBody,
  .ret (.callSelect .kept)]

/-- `setColumn` after the look-up of the destination: new column list of `n` elements and new map, both filled from the
receiver's, the new element (`name`, column `c`, position `pos`) stored in both -/
def setTail (n : PI) (c : PC) (pos : PI) : List PStm := [
  .do (.allocCols n),
  .do .allocMap,
  .do (.copyCols .new .recv),
  .do (.copyMap .new .recv),
  .do (.mapPut .new .dst (.mk .dst c pos)),
  .do (.colStore .new pos (.mk .dst c pos)),
  .ret (.frame .new .new .recv .recv)]

def canonCopy : PF :=
  .fork [.do (.lookup .a .recv .src), .do (.lookup .b .recv .dst)] (.present .b)
    (setTail (.lenCols .recv) (.colOf (.reg .a)) (.posOf (.reg .b)))
    (setTail (.add (.lenCols .recv) (.lit 1)) (.colOf (.reg .a)) (.lenCols .recv))

def canonSetColumn : PF :=
  .fork [.do (.lookup .a .recv .dst)] (.present .a)
    (setTail (.lenCols .recv) .param (.posOf (.reg .a)))
    (setTail (.add (.lenCols .recv) (.lit 1)) .param (.lenCols .recv))

def canonSort : PF := .seq [
  .do (.callIx .copy .recv),
  .do (.sortIx .new),
  .ret (.frame .recv .recv .new .recv)]

def canonDistinct : PF := .seq [
  .do (.callIx .distinct .recv),
  .ret (.frame .recv .recv .new .recv)]

def canonProject : List (String × PF) := [
  ("Slice", canonSlice), ("Select", canonSelect), ("Drop", canonDrop), ("Copy", canonCopy),
  ("setColumn", canonSetColumn), ("Sort", canonSort), ("Distinct", canonDistinct)]

def canonIxCopy : PF := .seq [
  .do (.allocIx (.lenIx .param) (.lenIx .param)),
  .do (.copyIx .new .param),
  .ret (.ix .new)]

def countBody : List PL := [.when .eachBool [.incCount]]
def filterBody : List PL := [.when .eachBool [.appendIx .new (.ixAt .param .i)]]

def canonIxFilter : PF := .seq [
  .do (.setCount 0),
  .forEachBool countBody,
  .do (.allocIx (.lit 0) .count),
  .forEachBool filterBody,
  .ret (.ix .new)]

def ascBody : List PL := [.do (.ixStore .new .i .ofI)]

def canonAscending : PF := .seq [
  .do (.allocIx .size .size),
  .forRangeIx .new ascBody,
  .ret (.ix .new)]

def entryBody : List PL := [.when .occupied [.appendIx .new .firstPos]]

def canonGrouperDistinct : PF := .seq [
  .do (.allocIx (.lit 0) .groupCount),
  .forEachEntry entryBody,
  .ret (.ix .new)]

def canonIndex : List (String × PF) := [
  ("Int.Copy", canonIxCopy), ("Int.Filter", canonIxFilter), ("Int.Len", .seq [.ret (.int (.lenIx .param))]),
  ("NewAscending", canonAscending), ("NewBool", .seq [.ret (.bools .size)]), ("Bool.Len", .seq [.ret (.int .lenBools)]),
  ("grouper.Distinct", canonGrouperDistinct)]

/-! ## Today's terms are the canonical ones (finite checks over `QF.Gen`, redone on every run) -/

theorem gen_project_canon :
    Gen.frameHelperAst = canonHelpers ∧ Gen.projectAst = canonProject ∧ Gen.indexAst = canonIndex := by decide

/-- Everything was found, and no part of it translates to `.opaque`. -/
theorem gen_project_no_opaque :
    Gen.frameHelperAst.map (·.1) = ["(error) → frame", "(index) → frame"] ∧
    Gen.projectAst.map (·.1) = ["Slice", "Select", "Drop", "Copy", "setColumn", "Sort", "Distinct"] ∧
    Gen.indexAst.map (·.1) = ["Int.Copy", "Int.Filter", "Int.Len", "NewAscending", "NewBool", "Bool.Len", "grouper.Distinct"] ∧
    (∀ p ∈ Gen.frameHelperAst, p.2.hasOpaque = false) ∧
    (∀ p ∈ Gen.projectAst, p.2.hasOpaque = false) ∧ (∀ p ∈ Gen.indexAst, p.2.hasOpaque = false) := by
  decide

/-! ## Persistence, read off the term -/

/-! The static check is `PF.ownOnly` (QF/Core/PExpr.lean: every write targets a `new` register) together with `PFretsNew`. -/

/-- an index that is returned is the `new` one -/
def retNew : PRet → Bool
  | .ix x => x == .new
  | _ => true

def retsNew (ss : List PStm) : Bool := ss.all fun s => match s with
  | .ret r | .retIf _ r => retNew r
  | _ => true

def PFretsNew : PF → Bool
  | .seq ss => retsNew ss
  | .fork _ _ t e => retsNew t && retsNew e
  | .opaque _ => true

/-- a write goes to an array allocated after the heap `h0` was taken -/
def wrOwn (h0 : Heap) (w : Wr) : Prop :=
  match w.kind with
  | .ix => h0.ixs.length ≤ w.id
  | .cols => h0.colss.length ≤ w.id
  | .map => h0.maps.length ≤ w.id

instance (h0 : Heap) (w : Wr) : Decidable (wrOwn h0 w) := by
  unfold wrOwn; cases w.kind <;> exact inferInstance

def OwnWrites (h0 : Heap) (w : List Wr) : Prop := ∀ x ∈ w, wrOwn h0 x

structure Unchanged (h0 h : Heap) : Prop where
  ix : ∀ id, id < h0.ixs.length → h.ixs[id]? = h0.ixs[id]?
  cols : ∀ id, id < h0.colss.length → h.colss[id]? = h0.colss[id]?
  maps : ∀ id, id < h0.maps.length → h.maps[id]? = h0.maps[id]?

theorem Unchanged.refl (h : Heap) : Unchanged h h := ⟨ListFacts.Keeps.refl _, ListFacts.Keeps.refl _, ListFacts.Keeps.refl _⟩

theorem Unchanged.trans {h0 h1 h2 : Heap} (a : Unchanged h0 h1) (b : Unchanged h1 h2) : Unchanged h0 h2 :=
  ⟨ListFacts.Keeps.trans a.ix b.ix, ListFacts.Keeps.trans a.cols b.cols, ListFacts.Keeps.trans a.maps b.maps⟩

theorem OwnWrites.mono {h0 h1 : Heap} (u : Unchanged h0 h1) {w : List Wr} (o : OwnWrites h1 w) : OwnWrites h0 w := by
  intro x hx
  have := o x hx
  revert this
  unfold wrOwn
  cases x.kind
  · exact Nat.le_trans (ListFacts.Keeps.len u.ix)
  · exact Nat.le_trans (ListFacts.Keeps.len u.cols)
  · exact Nat.le_trans (ListFacts.Keeps.len u.maps)

/-- what `run_persistent` concludes of a run started on `h0` -/
structure Persistent (h0 : Heap) (out : POut) : Prop where
  own : OwnWrites h0 out.2.2
  keep : Unchanged h0 out.2.1
  fresh : ∀ s, out.1 = .ix s → h0.ixs.length ≤ s.id

/-- What is assumed of the functions a body calls: they write only to what they allocate, leave every existing array
alone, and an index they return is freshly allocated. -/
structure LibOK (E : PIn) : Prop where
  ix : ∀ fn s h r h' w, E.callIx fn s h = some (r, h', w) → Persistent h (.ix r, h', w)
  sel : ∀ ns h out, E.callSelect ns h = some out → Persistent h out

/-- the three `new` registers point to arrays made after `h0`; log and heap as in `Persistent` -/
structure Inv (h0 : Heap) (σ : PMem) : Prop where
  nIx : ∀ s, σ.nIx = some s → h0.ixs.length ≤ s.id
  nCols : ∀ s, σ.nCols = some s → h0.colss.length ≤ s.id
  nMap : ∀ id, σ.nMap = some id → h0.maps.length ≤ id
  log : OwnWrites h0 σ.log
  keep : Unchanged h0 σ.h

theorem Inv.init (h : Heap) : Inv h { h := h } :=
  ⟨fun _ h => (by cases h), fun _ h => (by cases h), fun _ h => (by cases h), fun _ h => (by cases h), Unchanged.refl h⟩

theorem own_append {h0 : Heap} {a b : List Wr} (ha : OwnWrites h0 a) (hb : OwnWrites h0 b) : OwnWrites h0 (a ++ b) := by
  intro x hx
  rcases List.mem_append.mp hx with h | h
  · exact ha x h
  · exact hb x h

/-! A logged store into the array a `new` register points to, and an allocation into a `new` register: the two ways a
statement of a term that passes `PA.ownOnly` changes the heap. -/

theorem Inv.wrIx {h0 : Heap} {σ : PMem} (inv : Inv h0 σ) {s : ISlice} (hs : σ.nIx = some s) (a : List Nat) :
    Inv h0 { σ with h := σ.h.setIx s.id a, log := σ.log ++ [⟨.ix, s.id⟩] } := by
  refine ⟨inv.nIx, inv.nCols, inv.nMap, own_append inv.log fun x hx => ?_,
    ⟨ListFacts.Keeps.set inv.keep.ix (inv.nIx s hs) a, inv.keep.cols, inv.keep.maps⟩⟩
  cases List.mem_singleton.mp hx
  exact inv.nIx s hs

theorem Inv.wrCols {h0 : Heap} {σ : PMem} (inv : Inv h0 σ) {s : CSlice} (hs : σ.nCols = some s) (a : List NCol) :
    Inv h0 { σ with h := σ.h.setCols s.id a, log := σ.log ++ [⟨.cols, s.id⟩] } := by
  refine ⟨inv.nIx, inv.nCols, inv.nMap, own_append inv.log fun x hx => ?_,
    ⟨inv.keep.ix, ListFacts.Keeps.set inv.keep.cols (inv.nCols s hs) a, inv.keep.maps⟩⟩
  cases List.mem_singleton.mp hx
  exact inv.nCols s hs

theorem Inv.wrMap {h0 : Heap} {σ : PMem} (inv : Inv h0 σ) {id : Nat} (hs : σ.nMap = some id) (a : List (Bytes × NCol)) :
    Inv h0 { σ with h := σ.h.setMap id a, log := σ.log ++ [⟨.map, id⟩] } := by
  refine ⟨inv.nIx, inv.nCols, inv.nMap, own_append inv.log fun x hx => ?_,
    ⟨inv.keep.ix, inv.keep.cols, ListFacts.Keeps.set inv.keep.maps (inv.nMap id hs) a⟩⟩
  cases List.mem_singleton.mp hx
  exact inv.nMap id hs

theorem Inv.newIx {h0 : Heap} {σ : PMem} (inv : Inv h0 σ) (a : List Nat) (off n k : Nat) :
    Inv h0 { σ with h := { σ.h with ixs := σ.h.ixs ++ [a] }, nIx := some ⟨σ.h.ixs.length, off, n, k⟩ } := by
  refine ⟨fun t ht => ?_, inv.nCols, inv.nMap, inv.log,
    ⟨ListFacts.Keeps.append inv.keep.ix _, inv.keep.cols, inv.keep.maps⟩⟩
  cases ht
  exact ListFacts.Keeps.len inv.keep.ix

theorem Inv.newCols {h0 : Heap} {σ : PMem} (inv : Inv h0 σ) (a : List NCol) (n k : Nat) :
    Inv h0 { σ with h := { σ.h with colss := σ.h.colss ++ [a] }, nCols := some ⟨σ.h.colss.length, n, k⟩ } := by
  refine ⟨inv.nIx, fun t ht => ?_, inv.nMap, inv.log,
    ⟨inv.keep.ix, ListFacts.Keeps.append inv.keep.cols _, inv.keep.maps⟩⟩
  cases ht
  exact ListFacts.Keeps.len inv.keep.cols

theorem Inv.newMap {h0 : Heap} {σ : PMem} (inv : Inv h0 σ) (a : List (Bytes × NCol)) :
    Inv h0 { σ with h := { σ.h with maps := σ.h.maps ++ [a] }, nMap := some σ.h.maps.length } := by
  refine ⟨inv.nIx, inv.nCols, fun t ht => ?_, inv.log,
    ⟨inv.keep.ix, inv.keep.cols, ListFacts.Keeps.append inv.keep.maps _⟩⟩
  cases ht
  exact ListFacts.Keeps.len inv.keep.maps

theorem eval_new_ix (E : PIn) (σ : PMem) : PIx.eval E σ .new = σ.nIx := by simp
theorem eval_new_cols (E : PIn) (σ : PMem) : PCs.eval E σ .new = σ.nCols := rfl
theorem eval_new_map (E : PIn) (σ : PMem) : PMp.eval E σ .new = σ.nMap := rfl

/-- `append` within the capacity stores into the register's array, beyond it allocates -/
theorem appendIxTo_inv {h0 : Heap} {σ : PMem} (inv : Inv h0 σ) {s : ISlice} (hs : σ.nIx = some s) (v : Nat) :
    Inv h0 (appendIxTo σ s v) := by
  unfold appendIxTo
  split
  · have i := inv.wrIx hs ((σ.h.ixArr s.id).set (s.off + s.len) v)
    exact ⟨fun t ht => by cases ht; exact inv.nIx s hs, i.nCols, i.nMap, i.log, i.keep⟩
  · exact inv.newIx _ 0 _ _

theorem appendColTo_inv {h0 : Heap} {σ : PMem} (inv : Inv h0 σ) {s : CSlice} (hs : σ.nCols = some s) (v : NCol) :
    Inv h0 (appendColTo σ s v) := by
  unfold appendColTo
  split
  · have i := inv.wrCols hs ((σ.h.colArr s.id).set s.len v)
    exact ⟨i.nIx, fun t ht => by cases ht; exact inv.nCols s hs, i.nMap, i.log, i.keep⟩
  · exact inv.newCols _ _ _

theorem setReg_inv (h0 : Heap) (σ : PMem) (inv : Inv h0 σ) (r : ERg) (v : NCol) : Inv h0 (σ.setReg r v) := by
  cases r <;> exact ⟨inv.nIx, inv.nCols, inv.nMap, inv.log, inv.keep⟩

theorem bind_inv (h0 : Heap) (σ : PMem) (inv : Inv h0 σ) (r : ERg) (v : Option NCol) : Inv h0 (σ.bind r v) := by
  cases r <;> exact ⟨inv.nIx, inv.nCols, inv.nMap, inv.log, inv.keep⟩

theorem exec_inv (E : PIn) (lib : LibOK E) (h0 : Heap) (a : PA) (ho : a.ownOnly = true) (σ σ' : PMem) (inv : Inv h0 σ)
    (he : a.exec E σ = some σ') : Inv h0 σ' := by
  cases a with
  | allocIx l c =>
    simp only [PA.exec] at he
    split at he
    · split at he
      · cases he; exact inv.newIx _ 0 _ _
      · cases he
    · cases he
  | callIx fn x =>
    simp only [PA.exec] at he
    split at he
    · split at he
      · rename_i s _ r h' w hc
        cases he
        obtain ⟨o, u, fr⟩ := lib.ix _ _ _ _ _ _ hc
        exact ⟨fun t ht => by cases ht; exact Nat.le_trans (ListFacts.Keeps.len inv.keep.ix) (fr r rfl),
          inv.nCols, inv.nMap, own_append inv.log (o.mono inv.keep), inv.keep.trans u⟩
      · cases he
    · cases he
  | copyIx d s =>
    obtain rfl : d = .new := by simpa [PA.ownOnly] using ho
    simp only [PA.exec, eval_new_ix] at he
    split at he
    · rename_i ds ss h1 h2; cases he; exact inv.wrIx h1 _
    · cases he
  | ixStore d k v =>
    obtain rfl : d = .new := by simpa [PA.ownOnly] using ho
    simp only [PA.exec, eval_new_ix] at he
    split at he
    · rename_i ds kk x h1 h2 h3
      split at he
      · cases he; exact inv.wrIx h1 _
      · cases he
    · cases he
  | appendIx d v =>
    obtain rfl : d = .new := by simpa [PA.ownOnly] using ho
    simp only [PA.exec, eval_new_ix] at he
    split at he
    · rename_i ss x h1 h2; cases he; exact appendIxTo_inv inv h1 x
    · cases he
  | sortIx d =>
    obtain rfl : d = .new := by simpa [PA.ownOnly] using ho
    simp only [PA.exec, eval_new_ix] at he
    split at he
    · rename_i s h1; cases he; exact inv.wrIx h1 _
    · cases he
  | allocCols n =>
    simp only [PA.exec] at he
    split at he
    · cases he; exact inv.newCols _ _ _
    · cases he
  | copyCols d s =>
    obtain rfl : d = .new := by simpa [PA.ownOnly] using ho
    simp only [PA.exec, eval_new_cols] at he
    split at he
    · rename_i ds ss h1 h2; cases he; exact inv.wrCols h1 _
    · cases he
  | colStore d k e =>
    obtain rfl : d = .new := by simpa [PA.ownOnly] using ho
    simp only [PA.exec, eval_new_cols] at he
    split at he
    · rename_i ds kk h1 h2
      split at he
      · cases he; exact inv.wrCols h1 _
      · cases he
    · cases he
  | appendCol d e =>
    obtain rfl : d = .new := by simpa [PA.ownOnly] using ho
    simp only [PA.exec, eval_new_cols] at he
    split at he
    · rename_i ss h1; cases he; exact appendColTo_inv inv h1 _
    · cases he
  | allocMap => cases he; exact inv.newMap _
  | copyMap d s =>
    obtain rfl : d = .new := by simpa [PA.ownOnly] using ho
    simp only [PA.exec, eval_new_map] at he
    split at he
    · rename_i did h1; cases he; exact inv.wrMap h1 _
    · cases he
  | mapPut d k e =>
    obtain rfl : d = .new := by simpa [PA.ownOnly] using ho
    simp only [PA.exec, eval_new_map] at he
    split at he
    · rename_i did h1; cases he; exact inv.wrMap h1 _
    · cases he
  | lookup r m k => cases he; exact bind_inv h0 σ inv r _
  | setPos r e =>
    simp only [PA.exec] at he
    split at he
    · cases he; exact setReg_inv h0 σ inv r _
    · cases he
  | «opaque» t => cases he
  | _ => cases he; exact ⟨inv.nIx, inv.nCols, inv.nMap, inv.log, inv.keep⟩


theorem execAs_inv (E : PIn) (lib : LibOK E) (h0 : Heap) (as : List PA) (ho : as.all PA.ownOnly = true) (σ σ' : PMem)
    (inv : Inv h0 σ) (he : execAs E as σ = some σ') : Inv h0 σ' := by
  induction as generalizing σ with
  | nil => cases he; exact inv
  | cons a as ih =>
    simp only [List.all_cons, Bool.and_eq_true] at ho
    simp only [execAs] at he
    split at he
    · rename_i σ1 h1
      exact ih ho.2 σ1 (exec_inv E lib h0 a ho.1 σ σ1 inv h1) he
    · cases he

theorem execL_inv (E : PIn) (lib : LibOK E) (h0 : Heap) (l : PL) (ho : l.ownOnly = true) (σ σ' : PMem)
    (inv : Inv h0 σ) (he : l.exec E σ = some σ') : Inv h0 σ' := by
  cases l with
  | «do» a => exact exec_inv E lib h0 a ho σ σ' inv he
  | when c as =>
    simp only [PL.exec] at he
    split at he
    · exact execAs_inv E lib h0 as ho σ σ' inv he
    · cases he; exact inv
    · cases he

theorem execLs_inv (E : PIn) (lib : LibOK E) (h0 : Heap) (ls : List PL) (ho : ls.all PL.ownOnly = true) (σ σ' : PMem)
    (inv : Inv h0 σ) (he : execLs E ls σ = some σ') : Inv h0 σ' := by
  induction ls generalizing σ with
  | nil => cases he; exact inv
  | cons a as ih =>
    simp only [List.all_cons, Bool.and_eq_true] at ho
    simp only [execLs] at he
    split at he
    · rename_i σ1 h1
      exact ih ho.2 σ1 (execL_inv E lib h0 a ho.1 σ σ1 inv h1) he
    · cases he

theorem loop_inv {α : Type} (body : List PL) (hb : body.all PL.ownOnly = true) (E : PIn)
    (bindv : PIn → Nat → α → PIn) (hlib : ∀ k x, LibOK (bindv E k x)) (h0 : Heap) (xs : List α) (k : Nat)
    (σ σ' : PMem) (inv : Inv h0 σ) (he : loopOver body E bindv xs k σ = some σ') : Inv h0 σ' := by
  induction xs generalizing σ k with
  | nil => cases he; exact inv
  | cons x xs ih =>
    simp only [loopOver] at he
    split at he
    · rename_i σ1 h1
      exact ih (k + 1) σ1 (execLs_inv _ (hlib k x) h0 body hb σ σ1 inv h1) he
    · cases he

/-- binding the loop variables leaves the library functions as they are, so `LibOK` passes to the loop body -/
theorem step_inv (E : PIn) (lib : LibOK E) (h0 : Heap) (s : PStm) (ho : s.ownOnly = true) (σ σ' : PMem)
    (inv : Inv h0 σ) (he : s.step E σ = some σ') : Inv h0 σ' := by
  cases s with
  | «do» a => exact exec_inv E lib h0 a ho σ σ' inv he
  | forEachName l body => exact loop_inv body ho E bindName (fun _ _ => ⟨lib.ix, lib.sel⟩) h0 _ 0 σ σ' inv he
  | forEachCol c body =>
    simp only [PStm.step] at he
    split at he
    · exact loop_inv body ho E bindCol (fun _ _ => ⟨lib.ix, lib.sel⟩) h0 _ 0 σ σ' inv he
    · cases he
  | forEachBool body => exact loop_inv body ho E bindBool (fun _ _ => ⟨lib.ix, lib.sel⟩) h0 _ 0 σ σ' inv he
  | forRangeIx x body =>
    simp only [PStm.step] at he
    split at he
    · exact loop_inv body ho E bindUnit (fun _ _ => ⟨lib.ix, lib.sel⟩) h0 _ 0 σ σ' inv he
    · cases he
  | forEachEntry body => exact loop_inv body ho E bindEntry (fun _ _ => ⟨lib.ix, lib.sel⟩) h0 _ 0 σ σ' inv he
  | _ => cases he

theorem stepSs_inv (E : PIn) (lib : LibOK E) (h0 : Heap) (ss : List PStm) (ho : ss.all PStm.ownOnly = true) (σ σ' : PMem)
    (inv : Inv h0 σ) (he : stepSs E ss σ = some σ') : Inv h0 σ' := by
  induction ss generalizing σ with
  | nil => cases he; exact inv
  | cons a as ih =>
    simp only [List.all_cons, Bool.and_eq_true] at ho
    simp only [stepSs] at he
    split at he
    · rename_i σ1 h1
      exact ih ho.2 σ1 (step_inv E lib h0 a ho.1 σ σ1 inv h1) he
    · cases he

theorem ret_inv (E : PIn) (lib : LibOK E) (h0 : Heap) (r : PRet) (hn : retNew r = true) (σ : PMem) (inv : Inv h0 σ)
    (out : POut) (he : r.eval E σ = some out) : Persistent h0 out := by
  cases r with
  | frame c m x e =>
    simp only [PRet.eval] at he
    split at he
    · cases he; exact ⟨inv.log, inv.keep, fun s hs => by cases hs⟩
    · cases he
  | emptyFrame => cases he; exact ⟨inv.log, inv.keep, fun s hs => by cases hs⟩
  | ix x =>
    obtain rfl : x = .new := by simpa [retNew] using hn
    simp only [PRet.eval, eval_new_ix] at he
    obtain ⟨s0, hi, rfl⟩ := Option.map_eq_some_iff.mp he
    exact ⟨inv.log, inv.keep, fun s hs => by cases hs; exact inv.nIx _ hi⟩
  | int e =>
    obtain ⟨n, _, rfl⟩ := Option.map_eq_some_iff.mp he
    exact ⟨inv.log, inv.keep, fun s hs => by cases hs⟩
  | bools e =>
    obtain ⟨n, _, rfl⟩ := Option.map_eq_some_iff.mp he
    exact ⟨inv.log, inv.keep, fun s hs => by cases hs⟩
  | callSelect l =>
    simp only [PRet.eval] at he
    split at he
    · rename_i r h' w hc
      cases he
      obtain ⟨o, u, fr⟩ := lib.sel _ _ _ hc
      exact ⟨own_append inv.log (o.mono inv.keep), inv.keep.trans u,
        fun s hs => Nat.le_trans (ListFacts.Keeps.len inv.keep.ix) (fr s hs)⟩
    · cases he
  | «opaque» t => cases he

theorem runSs_inv (E : PIn) (lib : LibOK E) (h0 : Heap) (ss : List PStm) (ho : ss.all PStm.ownOnly = true)
    (hn : retsNew ss = true) (σ : PMem) (inv : Inv h0 σ) (out : POut) (he : runSs E ss σ = some out) :
    Persistent h0 out := by
  induction ss generalizing σ with
  | nil => cases he
  | cons s ss ih =>
    simp only [List.all_cons, Bool.and_eq_true] at ho
    simp only [retsNew, List.all_cons, Bool.and_eq_true] at hn
    cases s with
    | ret r => exact ret_inv E lib h0 r hn.1 σ inv out he
    | retIf c r =>
      simp only [runSs] at he
      split at he
      · exact ret_inv E lib h0 r hn.1 σ inv out he
      · exact ih ho.2 hn.2 σ inv he
      · cases he
    | «opaque» t => cases he
    | _ =>
      simp only [runSs] at he
      split at he
      · rename_i σ1 h1; exact ih ho.2 hn.2 σ1 (step_inv E lib h0 _ ho.1 σ σ1 inv h1) he
      · cases he

/-- STATIC PERSISTENCE: a term whose writes all target the `new` registers, run from any heap with any arguments, writes
only to arrays it allocated, leaves every array that existed untouched, and an index it returns is freshly allocated. -/
theorem run_persistent (E : PIn) (lib : LibOK E) (t : PF) (ho : t.ownOnly = true) (hn : PFretsNew t = true)
    (h : Heap) (out : POut) (he : t.run E h = some out) : Persistent h out := by
  cases t with
  | seq ss => exact runSs_inv E lib h ss ho hn _ (Inv.init h) out he
  | fork pre c t e =>
    simp only [PF.ownOnly, Bool.and_eq_true] at ho
    simp only [PFretsNew, Bool.and_eq_true] at hn
    simp only [PF.run] at he
    split at he
    · rename_i σ1 h1
      have inv1 := stepSs_inv E lib h pre ho.1.1 _ σ1 (Inv.init h) h1
      split at he
      · exact runSs_inv E lib h t ho.1.2 hn.1 σ1 inv1 out he
      · exact runSs_inv E lib h e ho.2 hn.2 σ1 inv1 out he
      · cases he
    · cases he
  | «opaque» t => cases he


/-! ## Well-formed physical frames -/

/-- a slice header lies inside its backing array -/
structure IValid (h : Heap) (s : ISlice) : Prop where
  lenCap : s.len ≤ s.cap
  inArr : s.off + s.cap ≤ (h.ixArr s.id).length

/-- Well-formedness of a physical frame over columns of physical length `L`: the headers lie inside their arrays, the
`pos` of every column is its place, the name map holds exactly the columns of the list under their names, every column
is there (no zero values) with `L` cells, and every row number of the index is below `L`. -/
structure PWF (h : Heap) (f : PFrame) (L : Nat) : Prop where
  ixValid : IValid h f.index
  colsIn : f.cols.len ≤ (h.colArr f.cols.id).length
  mapIn : ∀ id, f.map = some id → id < h.maps.length
  pos : ∀ (i : Nat) (c : NCol), (f.colList h)[i]? = some c → c.pos = i
  mapOk : ∀ (n : Bytes) (c : NCol), f.lookup h n = some c → (f.colList h)[c.pos]? = some c ∧ c.name = n
  mapTotal : ∀ c : NCol, c ∈ f.colList h → (f.lookup h c.name).isSome = true
  hasCol : ∀ c : NCol, c ∈ f.colList h → ∃ p, c.col = some p ∧ p.data.size = L
  ixLt : ∀ p, p ∈ f.ixList h → p < L

def UniqueNames (h : Heap) (f : PFrame) : Prop := ((f.colList h).map (·.name)).Nodup

theorem PWF.indexed {h : Heap} {f : PFrame} {L : Nat} (wf : PWF h f L) :
    NameIndex.Indexed NCol.name NCol.pos (f.colList h) (f.lookup h) := ⟨wf.pos, wf.mapOk, wf.mapTotal⟩

theorem ixWin_length {h : Heap} {s : ISlice} (v : IValid h s) : (h.ixWin s).length = s.len := by
  have := v.lenCap; have := v.inArr
  simp only [Heap.ixWin, List.length_take, List.length_drop]; omega

theorem colList_length {h : Heap} {f : PFrame} {L : Nat} (wf : PWF h f L) : (f.colList h).length = f.cols.len := by
  have := wf.colsIn
  simp only [PFrame.colList, Heap.colWin, List.length_take]; omega

theorem abs_n {h : Heap} {f : PFrame} {L : Nat} (wf : PWF h f L) : (f.abs h).n = f.index.len := by
  simp only [PFrame.abs, PFrame.ixList]; exact ixWin_length wf.ixValid

/-! A header that is valid on `h` reads the same on every heap that keeps the arrays of `h` (an id `h` does not have
denotes the empty array, and a valid header over it is empty). -/

theorem ixWin_keeps {h h' : Heap} (u : ListFacts.Keeps h.ixs h'.ixs) {s : ISlice} (v : IValid h s) : h'.ixWin s = h.ixWin s := by
  rcases Nat.lt_or_ge s.id h.ixs.length with h1 | h1
  · simp only [Heap.ixWin, Heap.ixArr, ListFacts.getD_keeps u h1]
  · have h2 := v.inArr; have h3 := v.lenCap
    rw [Heap.ixArr, ListFacts.getD_of_length_le h1] at h2
    have : s.len = 0 := by simp at h2; omega
    simp [Heap.ixWin, this]

theorem colWin_keeps {h h' : Heap} (u : ListFacts.Keeps h.colss h'.colss) {s : CSlice} (hs : s.len ≤ (h.colArr s.id).length) :
    h'.colWin s = h.colWin s := by
  rcases Nat.lt_or_ge s.id h.colss.length with h1 | h1
  · simp only [Heap.colWin, Heap.colArr, ListFacts.getD_keeps u h1]
  · rw [Heap.colArr, ListFacts.getD_of_length_le h1] at hs
    have : s.len = 0 := by simpa using hs
    simp [Heap.colWin, this]

theorem mapOf_keeps {h h' : Heap} (u : ListFacts.Keeps h.maps h'.maps) {m : Option Nat} (hm : ∀ id, m = some id → id < h.maps.length) :
    h'.mapOf m = h.mapOf m := by
  cases m with
  | none => rfl
  | some id => simp only [Heap.mapOf, Heap.mapArr, ListFacts.getD_keeps u (hm id rfl)]

/-- an earlier frame observes the same after any operation that leaves the arrays of its heap unchanged -/
theorem observation_kept {h h' : Heap} (uc : Unchanged h h') {f : PFrame} {L : Nat} (wf : PWF h f L) :
    f.abs h' = f.abs h ∧ f.colList h' = f.colList h ∧ f.ixList h' = f.ixList h ∧ (∀ k, f.lookup h' k = f.lookup h k) :=
  have hix : f.ixList h' = f.ixList h := ixWin_keeps uc.ix wf.ixValid
  have hcl : f.colList h' = f.colList h := colWin_keeps uc.cols wf.colsIn
  ⟨by simp only [PFrame.abs, hix, hcl], hcl, hix, fun k => congrArg (·.lookup k) (mapOf_keeps uc.maps wf.mapIn)⟩

/-! ## `setWin` (QF/Core/PExpr.lean): a window overwritten element by element, wholly, at the front of fresh slots -/

theorem setWin_cons_set {α : Type} (arr : List α) (i : Nat) (c : α) (rest : List α) (hi : i < arr.length) :
    setWin (arr.set i c) (i + 1) rest = setWin arr i (c :: rest) := by
  simp only [setWin, List.length_cons]
  have e1 : (arr.set i c).take (i + 1) = arr.take i ++ [c] := ListFacts.take_succ_set arr i c hi
  have e2 : (arr.set i c).drop (i + 1 + rest.length) = arr.drop (i + (rest.length + 1)) := by
    rw [List.drop_set_of_lt (by omega)]
    congr 1; omega
  rw [e1, e2]; simp

theorem setWin_all {α : Type} (arr vals : List α) (hl : arr.length = vals.length) : setWin arr 0 vals = vals := by
  simp [setWin, ← hl]

theorem setWin_prefix {α : Type} (n : Nat) (z : α) (vals : List α) :
    setWin (List.replicate n z) 0 vals = vals ++ List.replicate (n - vals.length) z := by
  simp [setWin]


/-! ## Slice -/

/-- the frame `Slice` returns: the same arrays, the header of the index moved. Go: `cap(s[a:b]) = cap(s) - a`; hence
`slice_run` asks `b ≤ cap`, not `b ≤ len`. -/
def sliceFrame (f : PFrame) (a b : Nat) : PFrame :=
  { f with index := ⟨f.index.id, f.index.off + a, b - a, f.index.cap - a⟩ }

/-- the request in natural numbers (`gen_slice_semantics` goes from `Int` to `Nat` once, for all that follows) -/
theorem slice_run (E : PIn) (h : Heap) (a b : Nat) (hs : E.start = a) (ht : E.stop = b) (hab : a ≤ b)
    (hb : b ≤ E.f.index.cap) : canonSlice.run E h = some (.frame (sliceFrame E.f a b), h, []) := by
  simp [canonSlice, PCs.eval, PMp.eval, hs, ht, hab, hb, sliceFrame]

theorem ixList_slice (h : Heap) (f : PFrame) (a b : Nat) (hab : a ≤ b) (hb : b ≤ f.index.len) :
    (sliceFrame f a b).ixList h = ((f.ixList h).drop a).take (b - a) := by
  simp only [PFrame.ixList, Heap.ixWin, sliceFrame]
  exact ListFacts.take_drop_window _ _ _ _ _ hab hb

/-- `Slice(a, b)` on the logical frame: rows `a … b-1` -/
theorem slice_abs (h : Heap) (f : PFrame) (L : Nat) (wf : PWF h f L) (a b : Nat) (hab : a ≤ b) (hb : b ≤ f.index.len) :
    sliceS (f.abs h) a b = .ok ((sliceFrame f a b).abs h) := by
  have hlen : (f.ixList h).length = f.index.len := ixWin_length wf.ixValid
  rw [sliceS, if_neg (by rw [abs_n wf]; simp only [Bool.or_eq_true, decide_eq_true_eq]; omega), Int.toNat_sub,
    Int.toNat_natCast]
  congr 1
  simp only [LFrame.pick, PFrame.abs, ixList_slice h f a b hab hb, List.map_map]
  congr 1
  · apply List.map_congr_left
    intro c _
    simp only [Function.comp, lcol]
    congr 1
    rw [← List.map_map, ListFacts.pick_window _ _ _ (by rw [List.length_map]; omega), List.map_take, List.map_drop]
  · simp; omega

theorem slice_wf (h : Heap) (f : PFrame) (L : Nat) (wf : PWF h f L) (a b : Nat) (hab : a ≤ b) (hb : b ≤ f.index.len) :
    PWF h (sliceFrame f a b) L := by
  have hlc := wf.ixValid.lenCap
  have hin := wf.ixValid.inArr
  have hsub : ((sliceFrame f a b).ixList h).Sublist (f.ixList h) := by
    rw [ixList_slice h f a b hab hb]
    exact (List.take_sublist _ _).trans (List.drop_sublist _ _)
  refine ⟨⟨?_, ?_⟩, wf.colsIn, wf.mapIn, wf.pos, wf.mapOk, wf.mapTotal, wf.hasCol, fun p hp => wf.ixLt p (hsub.subset hp)⟩
  · simp only [sliceFrame]
    omega
  · simp only [sliceFrame]
    omega


/-! ## Select -/

/-- `s := qf.columnsByName[x]; s.pos = i` -/
def selCol (h : Heap) (f : PFrame) (i : Nat) (x : Bytes) : NCol := { (f.lookup h x).getD NCol.zero with pos := i }

def selCols (h : Heap) (f : PFrame) : List Bytes → Nat → List NCol
  | [], _ => []
  | x :: xs, i => selCol h f i x :: selCols h f xs (i + 1)

/-- the new name map of `Select`: one assignment per name, in loop order (a later one shadows an earlier one) -/
def selMap (h : Heap) (f : PFrame) : List Bytes → Nat → List (Bytes × NCol) → List (Bytes × NCol)
  | [], _, m => m
  | x :: xs, i, m => selMap h f xs (i + 1) ((x, selCol h f i x) :: m)

theorem selCols_length (h : Heap) (f : PFrame) (xs : List Bytes) (i : Nat) : (selCols h f xs i).length = xs.length := by
  induction xs generalizing i with
  | nil => rfl
  | cons x xs ih => simp [selCols, ih]

theorem select_iter (E : PIn) (h : Heap) (hm : ∀ id, E.f.map = some id → id < h.maps.length) (n i : Nat) (x : Bytes)
    (m : List (Bytes × NCol)) (arr : List NCol) (σ : PMem) (hi : i < n)
    (hσ : σ.h = { ixs := h.ixs, colss := h.colss ++ [arr], maps := h.maps ++ [m] })
    (hnm : σ.nMap = some h.maps.length) (hnc : σ.nCols = some ⟨h.colss.length, n, n⟩) :
    ∃ σ', execLs (bindName E i x) selectBody σ = some σ' ∧
      σ'.h = { ixs := h.ixs, colss := h.colss ++ [arr.set i (selCol h E.f i x)], maps := h.maps ++ [(x, selCol h E.f i x) :: m] } ∧
      σ'.nMap = σ.nMap ∧ σ'.nCols = σ.nCols := by
  have hl : ({ ixs := h.ixs, colss := h.colss ++ [arr], maps := h.maps ++ [m] } : Heap).mapGet E.f.map x =
      h.mapGet E.f.map x := congrArg (·.lookup x) (mapOf_keeps ((ListFacts.Keeps.refl _).append _) hm)
  simp [selectBody, PMp.eval, PCs.eval, bindName, PMem.bind, PMem.setReg, PMem.reg, hl, hnm, hnc, hi, Heap.setMap,
    Heap.setCols, Heap.mapArr, Heap.colArr, hσ, selCol, PFrame.lookup]


theorem select_loop (E : PIn) (h : Heap) (hm : ∀ id, E.f.map = some id → id < h.maps.length) (n : Nat) (xs : List Bytes) :
    ∀ (i : Nat) (m : List (Bytes × NCol)) (arr : List NCol) (σ : PMem), arr.length = n → i + xs.length ≤ n →
      σ.h = { ixs := h.ixs, colss := h.colss ++ [arr], maps := h.maps ++ [m] } →
      σ.nMap = some h.maps.length → σ.nCols = some ⟨h.colss.length, n, n⟩ →
      ∃ σ', loopOver selectBody E bindName xs i σ = some σ' ∧
        σ'.h = { ixs := h.ixs, colss := h.colss ++ [setWin arr i (selCols h E.f xs i)],
                 maps := h.maps ++ [selMap h E.f xs i m] } ∧
        σ'.nMap = σ.nMap ∧ σ'.nCols = σ.nCols := by
  induction xs with
  | nil =>
    intro i m arr σ harr hi hσ hnm hnc
    refine ⟨σ, rfl, ?_, rfl, rfl⟩
    simp [hσ, selCols, selMap, setWin]
  | cons x xs ih =>
    intro i m arr σ harr hi hσ hnm hnc
    simp only [List.length_cons] at hi
    obtain ⟨σ1, e1, h1, m1, c1⟩ := select_iter E h hm n i x m arr σ (by omega) hσ hnm hnc
    obtain ⟨σ2, e2, h2, m2, c2⟩ := ih (i + 1) _ (arr.set i (selCol h E.f i x)) σ1 (by simp [harr]) (by omega) h1
      (m1.trans hnm) (c1.trans hnc)
    refine ⟨σ2, ?_, ?_, m2.trans m1, c2.trans c1⟩
    · simp only [loopOver, e1, e2]
    · rw [h2, setWin_cons_set _ _ _ _ (by omega)]; rfl

/-- the heap after `Select`: one new column list, one new map -/
def selectHeap (h : Heap) (f : PFrame) (names : List Bytes) : Heap :=
  { ixs := h.ixs, colss := h.colss ++ [selCols h f names 0], maps := h.maps ++ [selMap h f names 0 []] }

/-- the frame `Select` returns: the new list and map, the receiver's index, no error -/
def selectFrame (h : Heap) (f : PFrame) (names : List Bytes) : PFrame :=
  ⟨⟨h.colss.length, names.length, names.length⟩, some h.maps.length, f.index, false⟩

theorem select_run (E : PIn) (h : Heap) (hm : ∀ id, E.f.map = some id → id < h.maps.length) (hne : E.names ≠ []) :
    ∃ w, canonSelect.run E h = some (.frame (selectFrame h E.f E.names), selectHeap h E.f E.names, w) := by
  have hemp : E.names.isEmpty = false := by cases hn : E.names with
    | nil => exact absurd hn hne
    | cons => rfl
  obtain ⟨σ', e, hh, hm', hc'⟩ := select_loop E h hm E.names.length E.names 0 [] (List.replicate E.names.length NCol.zero)
    { h := { ixs := h.ixs, colss := h.colss ++ [List.replicate E.names.length NCol.zero], maps := h.maps ++ [[]] },
      nMap := some h.maps.length, nCols := some ⟨h.colss.length, E.names.length, E.names.length⟩ }
    (by simp) (by simp) rfl rfl rfl
  refine ⟨σ'.log, ?_⟩
  simp only [canonSelect, PF.run, runSs, PCond.eval, PNs.eval, hemp, PStm.step, PA.exec, PI.eval, e, PRet.eval, PCs.eval, PMp.eval,
    PIx.eval, hm', hc', hh]
  rw [setWin_all _ _ (by simp [selCols_length])]
  rfl


theorem known_col {h : Heap} {f : PFrame} {L : Nat} (wf : PWF h f L) {x : Bytes} (hx : (f.lookup h x).isSome = true) :
    ∃ c0, f.lookup h x = some c0 ∧ c0.name = x ∧ c0 ∈ f.colList h := by
  obtain ⟨c0, hl⟩ := Option.isSome_iff_exists.mp hx
  exact ⟨c0, hl, (wf.mapOk x c0 hl).2, List.mem_of_getElem? (wf.mapOk x c0 hl).1⟩

/-- whatever ignores `pos` sees in the new column list the columns the name map returns, in the order requested: the
names, the cells and the stored columns of the result are all read off this -/
theorem selCols_map {β : Type} {h : Heap} {f : PFrame} (g : NCol → β) (hg : ∀ (c : NCol) (i : Nat), g { c with pos := i } = g c)
    (xs : List Bytes) (i : Nat) :
    (selCols h f xs i).map g = xs.map fun x => g ((f.lookup h x).getD NCol.zero) := by
  induction xs generalizing i with
  | nil => rfl
  | cons x xs ih => simp only [selCols, List.map_cons, ih, selCol, hg]

theorem select_colList (h : Heap) (f : PFrame) (names : List Bytes) :
    (selectFrame h f names).colList (selectHeap h f names) = selCols h f names 0 := by
  simp [PFrame.colList, Heap.colWin, Heap.colArr, selectFrame, selectHeap,
    List.take_of_length_le, selCols_length]

theorem select_ixList (h : Heap) (f : PFrame) (names : List Bytes) :
    (selectFrame h f names).ixList (selectHeap h f names) = f.ixList h := rfl

/-- the loop of `Select` on known names: every name pushes its column, moved to the next place -/
theorem selCols_indexed {h : Heap} {f : PFrame} {L : Nat} (wf : PWF h f L) (xs : List Bytes)
    (hk : ∀ x, x ∈ xs → (f.lookup h x).isSome = true) :
    ∀ (pre : List NCol) (m : List (Bytes × NCol)), NameIndex.Indexed NCol.name NCol.pos pre (fun k => m.lookup k) →
      NameIndex.Indexed NCol.name NCol.pos (pre ++ selCols h f xs pre.length) (fun k => (selMap h f xs pre.length m).lookup k) := by
  induction xs with
  | nil => intro pre m w; simpa [selCols, selMap] using w
  | cons x xs ih =>
    intro pre m w
    obtain ⟨c0, hl, hn0, _⟩ := known_col wf (hk x List.mem_cons_self)
    have hn : (selCol h f pre.length x).name = x := by rw [selCol, hl]; exact hn0
    have := ih (fun y hy => hk y (List.mem_cons_of_mem _ hy)) (pre ++ [selCol h f pre.length x]) _
      (w.push (selCol h f pre.length x) rfl fun k => by rw [hn]; exact ListFacts.lookup_cons_ite x _ m k)
    simpa [selCols, selMap] using this

/-- a frame on a column list and a name map allocated last, with the receiver's index (what `Select` and `setColumn`
return): well-formed if list and map describe the same columns and every column is there -/
theorem fresh_wf {h : Heap} {f : PFrame} {L : Nat} (wf : PWF h f L) {a : List NCol} {m : List (Bytes × NCol)} {n : Nat}
    (e : Bool) (hn : a.length = n) (w : NameIndex.Indexed NCol.name NCol.pos a fun k => m.lookup k)
    (hc : ∀ c : NCol, c ∈ a → ∃ p, c.col = some p ∧ p.data.size = L) :
    PWF { ixs := h.ixs, colss := h.colss ++ [a], maps := h.maps ++ [m] }
      ⟨⟨h.colss.length, n, n⟩, some h.maps.length, f.index, e⟩ L := by
  subst hn
  refine ⟨⟨wf.ixValid.lenCap, wf.ixValid.inArr⟩, by simp [Heap.colArr], fun id hid => ?_, ?_, ?_, ?_, ?_, wf.ixLt⟩
  · cases hid; simp
  all_goals simp only [PFrame.colList, PFrame.lookup, Heap.colWin, Heap.colArr, Heap.mapGet, Heap.mapOf, Heap.mapArr,
    ListFacts.getD_append_last, List.take_length]
  · exact w.pos
  · exact w.mapOk
  · exact w.mapTotal
  · exact hc

theorem select_wf (h : Heap) (f : PFrame) (L : Nat) (wf : PWF h f L) (names : List Bytes)
    (hk : ∀ x, x ∈ names → (f.lookup h x).isSome = true) :
    PWF (selectHeap h f names) (selectFrame h f names) L := by
  refine fresh_wf wf false (selCols_length h f names 0)
    (by simpa using selCols_indexed wf names hk [] [] (NameIndex.Indexed.nil fun _ => rfl)) fun c hc => ?_
  have : c.col ∈ (selCols h f names 0).map (·.col) := List.mem_map.mpr ⟨c, hc, rfl⟩
  rw [selCols_map _ (fun _ _ => rfl)] at this
  obtain ⟨x, hx, e⟩ := List.mem_map.mp this
  obtain ⟨c0, hl, _, hm⟩ := known_col wf (hk x hx)
  rw [← e, hl]; exact wf.hasCol c0 hm


theorem lcol_name (ix : List Nat) (c : NCol) : (lcol ix c).name = c.name := rfl

theorem lcol_setPos (ix : List Nat) (c : NCol) (i : Nat) : lcol ix { c with pos := i } = lcol ix c := rfl

theorem abs_find (h : Heap) (f : PFrame) (x : Bytes) :
    (f.abs h).find? x = ((f.colList h).find? (fun o => o.name == x)).map (lcol (f.ixList h)) := by
  simp only [LFrame.find?, PFrame.abs, List.find?_map]
  rfl

/-- with unique names the logical frame finds under a name the column the name map holds -/
theorem abs_find_known {h : Heap} {f : PFrame} {L : Nat} (wf : PWF h f L) (u : UniqueNames h f) {x : Bytes} {c0 : NCol}
    (hx : f.lookup h x = some c0) : (f.abs h).find? x = some (lcol (f.ixList h) c0) := by
  rw [abs_find, ← wf.indexed.look_eq_find u, hx]; rfl

/-- with unique names the logical frame finds every listed column under its own name -/
theorem abs_find_mem {h : Heap} {f : PFrame} (u : UniqueNames h f) {c : NCol}
    (hc : c ∈ f.colList h) : (f.abs h).find? c.name = some (lcol (f.ixList h) c) := by
  rw [abs_find, ListFacts.find?_key_of_mem NCol.name _ u c hc]; rfl

/-- the logical frame has a name iff the name map does (no uniqueness needed) -/
theorem abs_has {h : Heap} {f : PFrame} {L : Nat} (wf : PWF h f L) (x : Bytes) :
    (f.abs h).has x = (f.lookup h x).isSome := by
  simp only [LFrame.has, abs_find, Option.isSome_map]
  exact wf.indexed.isSome_find x

theorem all_has {h : Heap} {f : PFrame} {L : Nat} (wf : PWF h f L) {names : List Bytes}
    (hk : ∀ x, x ∈ names → (f.lookup h x).isSome = true) : names.all (f.abs h).has = true := by
  rw [List.all_eq_true]; intro x hx; rw [abs_has wf]; exact hk x hx

/-- `Select(names…)` with all names known and at least one name: the spec's frame is the logical frame of the result -/
theorem select_abs (h : Heap) (f : PFrame) (L : Nat) (wf : PWF h f L) (u : UniqueNames h f) (names : List Bytes)
    (hne : names ≠ []) (hk : ∀ x, x ∈ names → (f.lookup h x).isSome = true) :
    selectS (f.abs h) names = .ok ((selectFrame h f names).abs (selectHeap h f names)) := by
  have hall := all_has wf hk
  have hemp : names.isEmpty = false := by cases names with
    | nil => exact absurd rfl hne
    | cons => rfl
  simp only [selectS, hall, hemp, ↓reduceIte, Bool.false_eq_true]
  congr 1
  simp only [PFrame.abs, select_colList, select_ixList]
  rw [selCols_map _ (lcol_setPos _)]
  congr 1
  refine ListFacts.filterMap_of_some fun x hx => ?_
  obtain ⟨c0, hl, _, _⟩ := known_col wf (hk x hx)
  rw [hl]; exact abs_find_known wf u hl

theorem selCols_names (h : Heap) (f : PFrame) (L : Nat) (wf : PWF h f L) (xs : List Bytes) (i : Nat)
    (hk : ∀ x, x ∈ xs → (f.lookup h x).isSome = true) : (selCols h f xs i).map (·.name) = xs := by
  rw [selCols_map _ (fun _ _ => rfl)]
  conv => rhs; rw [← List.map_id xs]
  refine List.map_congr_left fun x hx => ?_
  obtain ⟨c0, hl, hn, _⟩ := known_col wf (hk x hx)
  rw [hl]; exact hn

theorem select_unique (h : Heap) (f : PFrame) (L : Nat) (wf : PWF h f L) (names : List Bytes) (hd : names.Nodup)
    (hk : ∀ x, x ∈ names → (f.lookup h x).isSome = true) :
    UniqueNames (selectHeap h f names) (selectFrame h f names) := by
  simp only [UniqueNames, select_colList, selCols_names h f L wf names 0 hk]
  exact hd

/-! `Select()`: Go's `QFrame{}`. -/

theorem select_run_empty (E : PIn) (h : Heap) (he : E.names = []) :
    canonSelect.run E h = some (.frame PFrame.empty, h, []) := by
  simp [canonSelect, he]

theorem empty_wf (h : Heap) (L : Nat) : PWF h PFrame.empty L := by
  constructor
  · exact ⟨Nat.le_refl _, Nat.zero_le _⟩
  · exact Nat.zero_le _
  · intro id hid; cases hid
  · intro i c hc; simp [PFrame.colList, Heap.colWin, PFrame.empty, CSlice.nil] at hc
  · intro n c hc; simp [PFrame.lookup, Heap.mapGet, Heap.mapOf, PFrame.empty] at hc
  · intro c hc; simp [PFrame.colList, Heap.colWin, PFrame.empty, CSlice.nil] at hc
  · intro c hc; simp [PFrame.colList, Heap.colWin, PFrame.empty, CSlice.nil] at hc
  · intro p hp; simp [PFrame.ixList, Heap.ixWin, PFrame.empty, ISlice.nil] at hp

theorem empty_abs (h : Heap) : PFrame.empty.abs h = LFrame.empty := by
  simp [PFrame.abs, PFrame.colList, PFrame.ixList, Heap.colWin, Heap.ixWin, PFrame.empty, CSlice.nil, ISlice.nil, LFrame.empty]

theorem empty_unique (h : Heap) : UniqueNames h PFrame.empty := by
  simp [UniqueNames, PFrame.colList, Heap.colWin, PFrame.empty, CSlice.nil]


/-! ## setColumn / Copy -/

def recvMap (h : Heap) (f : PFrame) : List (Bytes × NCol) := h.mapOf f.map

theorem lookup_recvMap (h : Heap) (f : PFrame) (k : Bytes) : (recvMap h f).lookup k = f.lookup h k := rfl

/-- the new column list of `setColumn`: `n` slots, the receiver's columns copied in, element `e` stored at `pos` -/
def setCols' (h : Heap) (f : PFrame) (n pos : Nat) (e : NCol) : List NCol :=
  ((f.colList h) ++ List.replicate (n - f.cols.len) NCol.zero).set pos e

def setHeap (h : Heap) (f : PFrame) (n pos : Nat) (e : NCol) : Heap :=
  { ixs := h.ixs, colss := h.colss ++ [setCols' h f n pos e], maps := h.maps ++ [(e.name, e) :: recvMap h f] }

def setFrame (h : Heap) (f : PFrame) (n : Nat) : PFrame :=
  ⟨⟨h.colss.length, n, n⟩, some h.maps.length, f.index, f.err⟩

/-- the writes of `setColumn`: all into the two arrays it has just allocated -/
def setLog (h : Heap) : List Wr :=
  [⟨.cols, h.colss.length⟩, ⟨.map, h.maps.length⟩, ⟨.map, h.maps.length⟩, ⟨.cols, h.colss.length⟩]

theorem setTail_run (E : PIn) (h : Heap) (L : Nat) (wf : PWF h E.f L) (n pos : PI) (c : PC) (σ : PMem) (nn pp : Nat)
    (col : Option PXCol) (hσ : σ.h = h)
    (hn : ∀ σ' : PMem, σ'.ea = σ.ea → σ'.eb = σ.eb → n.eval E σ' = some nn)
    (hp : ∀ σ' : PMem, σ'.ea = σ.ea → σ'.eb = σ.eb → pos.eval E σ' = some pp)
    (hc : ∀ σ' : PMem, σ'.ea = σ.ea → σ'.eb = σ.eb → c.eval E σ' = col)
    (hle : E.f.cols.len ≤ nn) (hlt : pp < nn) :
    runSs E (setTail n c pos) σ =
      some (.frame (setFrame h E.f nn), setHeap h E.f nn pp ⟨E.dst, pp, col⟩,
        σ.log ++ setLog h) := by
  have hlen := colList_length wf
  have hw : ∀ a ms, ({ ixs := h.ixs, colss := h.colss ++ [a], maps := ms } : Heap).colWin E.f.cols = h.colWin E.f.cols :=
    fun a ms => colWin_keeps ((ListFacts.Keeps.refl _).append _) wf.colsIn
  have hm : ∀ cs a, ({ ixs := h.ixs, colss := cs, maps := h.maps ++ [a] } : Heap).mapOf E.f.map = h.mapOf E.f.map :=
    fun cs a => mapOf_keeps ((ListFacts.Keeps.refl _).append _) wf.mapIn
  simp only [setTail, runSs, PStm.step, PA.exec, hσ, hn, hp, hc, PCs.eval, PMp.eval, PEl.eval, PN.eval,
    PRet.eval, PIx.eval, hlt, ↓reduceIte, Heap.setCols, Heap.setMap, Heap.colArr, Heap.mapArr, ListFacts.getD_append_last,
    ListFacts.set_append_last, hw, hm, List.append_nil, Option.getD_some]
  have e1 : (h.colWin E.f.cols).take (min nn E.f.cols.len) = h.colWin E.f.cols := by
    apply List.take_of_length_le
    have : (h.colWin E.f.cols).length = E.f.cols.len := hlen
    omega
  have e2 : (h.colWin E.f.cols).length = E.f.cols.len := hlen
  rw [e1, setWin_prefix, e2]
  simp [setFrame, setHeap, setCols', setLog, recvMap, PFrame.colList]

theorem pos_lt {h : Heap} {f : PFrame} {L : Nat} (wf : PWF h f L) {n : Bytes} {c : NCol} (hc : f.lookup h n = some c) :
    c.pos < f.cols.len := by
  have h1 := (wf.mapOk n c hc).1
  rcases Nat.lt_or_ge c.pos (f.colList h).length with h2 | h2
  · rw [colList_length wf] at h2; exact h2
  · rw [List.getElem?_eq_none h2] at h1; cases h1

/-- `n`, `pos`: the length of the new column list of `setColumn` and the place of the element named `dst` — the place of
the receiver's column of that name (found by the name map: replaced), or one more slot at the end (appended). Both
branches of `setColumn` are read through this. -/
inductive SetAt (h : Heap) (f : PFrame) (dst : Bytes) : Nat → Nat → Prop
  | found (ex : NCol) (hd : f.lookup h dst = some ex) : SetAt h f dst f.cols.len ex.pos
  | missing (hd : f.lookup h dst = none) : SetAt h f dst (f.cols.len + 1) f.cols.len

theorem setAt_exists (h : Heap) (f : PFrame) (dst : Bytes) : ∃ n pos, SetAt h f dst n pos := by
  cases hd : f.lookup h dst with
  | none => exact ⟨_, _, .missing hd⟩
  | some ex => exact ⟨_, _, .found ex hd⟩

theorem SetAt.le {h : Heap} {f : PFrame} {dst : Bytes} {n pos : Nat} (a : SetAt h f dst n pos) : f.cols.len ≤ n := by
  cases a with
  | found ex hd => exact Nat.le_refl _
  | missing hd => exact Nat.le_succ _

/-- `Copy(dst, src)` after its guards: the source's column under the name `dst`, replaced in position or appended last -/
theorem copy_run (E : PIn) (h : Heap) (L : Nat) (wf : PWF h E.f L) (cs : NCol) (hs : E.f.lookup h E.src = some cs)
    {n pos : Nat} (a : SetAt h E.f E.dst n pos) :
    canonCopy.run E h = some (.frame (setFrame h E.f n), setHeap h E.f n pos ⟨E.dst, pos, cs.col⟩, setLog h) := by
  have hs' : h.mapGet E.f.map E.src = some cs := hs
  cases a with
  | found ex hd =>
    have hd' : h.mapGet E.f.map E.dst = some ex := hd
    simp only [canonCopy, PF.run, stepSs, PStm.step, PA.exec, PMp.eval, PN.eval, hs', hd', PMem.bind, PCond.eval, PMem.ok,
      Option.isSome_some, Option.getD_some]
    refine (setTail_run E h L wf _ _ _ _ E.f.cols.len ex.pos cs.col rfl
      (fun σ' h1 h2 => by simp [PCs.eval])
      (fun σ' h1 h2 => by simp [PMem.reg, h2])
      (fun σ' h1 h2 => by simp [PMem.reg, h1])
      (Nat.le_refl _) (pos_lt wf hd)).trans (by simp)
  | missing hd =>
    have hd' : h.mapGet E.f.map E.dst = none := hd
    simp only [canonCopy, PF.run, stepSs, PStm.step, PA.exec, PMp.eval, PN.eval, hs', hd', PMem.bind, PCond.eval, PMem.ok,
      Option.isSome_some, Option.isSome_none, Option.getD_some, Option.getD_none]
    refine (setTail_run E h L wf _ _ _ _ (E.f.cols.len + 1) E.f.cols.len cs.col rfl
      (fun σ' h1 h2 => by simp [PCs.eval])
      (fun σ' h1 h2 => by simp [PCs.eval])
      (fun σ' h1 h2 => by simp [PMem.reg, h1])
      (Nat.le_succ _) (Nat.lt_succ_self _)).trans (by simp)

/-- `setColumn(name, c)` on its own: the run only. `set_wf`, `set_unique` hold of its result (they take any column); the
semantics of `setColumn` is stated through `Copy`, which ends in it. -/
theorem setColumn_run_found (E : PIn) (h : Heap) (L : Nat) (wf : PWF h E.f L) (ex : NCol)
    (hd : E.f.lookup h E.dst = some ex) :
    canonSetColumn.run E h = some (.frame (setFrame h E.f E.f.cols.len),
      setHeap h E.f E.f.cols.len ex.pos ⟨E.dst, ex.pos, E.colParam⟩, setLog h) := by
  have hd' : h.mapGet E.f.map E.dst = some ex := hd
  simp only [canonSetColumn, PF.run, stepSs, PStm.step, PA.exec, PMp.eval, PN.eval, hd', PMem.bind, PCond.eval, PMem.ok,
    Option.isSome_some, Option.getD_some]
  refine (setTail_run E h L wf _ _ _ _ E.f.cols.len ex.pos E.colParam rfl
    (fun σ' h1 h2 => by simp [PCs.eval])
    (fun σ' h1 h2 => by simp [PMem.reg, h1])
    (fun σ' h1 h2 => by simp)
    (Nat.le_refl _) (pos_lt wf hd)).trans (by simp)

theorem setColumn_run_missing (E : PIn) (h : Heap) (L : Nat) (wf : PWF h E.f L)
    (hd : E.f.lookup h E.dst = none) :
    canonSetColumn.run E h = some (.frame (setFrame h E.f (E.f.cols.len + 1)),
      setHeap h E.f (E.f.cols.len + 1) E.f.cols.len ⟨E.dst, E.f.cols.len, E.colParam⟩, setLog h) := by
  have hd' : h.mapGet E.f.map E.dst = none := hd
  simp only [canonSetColumn, PF.run, stepSs, PStm.step, PA.exec, PMp.eval, PN.eval, hd', PMem.bind, PCond.eval, PMem.ok,
    Option.isSome_none, Option.getD_none]
  refine (setTail_run E h L wf _ _ _ _ (E.f.cols.len + 1) E.f.cols.len E.colParam rfl
    (fun σ' h1 h2 => by simp [PCs.eval])
    (fun σ' h1 h2 => by simp [PCs.eval])
    (fun σ' h1 h2 => by simp)
    (Nat.le_succ _) (Nat.lt_succ_self _)).trans (by simp)


theorem setCols'_length {h : Heap} {f : PFrame} {L : Nat} (wf : PWF h f L) (n pos : Nat) (e : NCol) (hn : f.cols.len ≤ n) :
    (setCols' h f n pos e).length = n := by
  simp only [setCols', List.length_set, List.length_append, List.length_replicate, colList_length wf]; omega

theorem set_colList {h : Heap} {f : PFrame} {L : Nat} (wf : PWF h f L) (n pos : Nat) (e : NCol) (hn : f.cols.len ≤ n) :
    (setFrame h f n).colList (setHeap h f n pos e) = setCols' h f n pos e := by
  simp only [PFrame.colList, Heap.colWin, Heap.colArr, setFrame, setHeap, ListFacts.getD_append_last]
  exact List.take_of_length_le (by rw [setCols'_length wf n pos e hn]; exact Nat.le_refl _)

theorem set_ixList (h : Heap) (f : PFrame) (n pos : Nat) (e : NCol) :
    (setFrame h f n).ixList (setHeap h f n pos e) = f.ixList h := rfl

theorem setCols'_found {h : Heap} {f : PFrame} (pos : Nat) (e : NCol) :
    setCols' h f f.cols.len pos e = (f.colList h).set pos e := by
  simp [setCols']

theorem setCols'_missing {h : Heap} {f : PFrame} {L : Nat} (wf : PWF h f L) (e : NCol) :
    setCols' h f (f.cols.len + 1) f.cols.len e = f.colList h ++ [e] := by
  have hl := colList_length wf
  simp only [setCols', Nat.add_sub_cancel_left, List.replicate_one]
  rw [← hl, ListFacts.set_append_last]

/-- well-formedness is kept (`Fr.setColumn_wf`) -/
theorem set_wf {h : Heap} {f : PFrame} {L : Nat} (wf : PWF h f L) {dst : Bytes} {n pos : Nat} (a : SetAt h f dst n pos)
    (col : Option PXCol) (hcol : ∃ p, col = some p ∧ p.data.size = L) :
    PWF (setHeap h f n pos ⟨dst, pos, col⟩) (setFrame h f n) L := by
  obtain ⟨w, hc⟩ : NameIndex.Indexed NCol.name NCol.pos (setCols' h f n pos ⟨dst, pos, col⟩)
        (fun k => ((dst, (⟨dst, pos, col⟩ : NCol)) :: recvMap h f).lookup k) ∧
      ∀ x : NCol, x ∈ setCols' h f n pos ⟨dst, pos, col⟩ → ∃ p, x.col = some p ∧ p.data.size = L := by
    cases a with
    | found ex hd =>
      obtain ⟨ea, eb⟩ := wf.mapOk dst ex hd
      rw [setCols'_found]
      exact ⟨wf.indexed.replace (⟨dst, ex.pos, col⟩ : NCol) ex ea eb (ListFacts.lookup_cons_ite dst _ _),
        fun x hx => (List.mem_or_eq_of_mem_set hx).elim (wf.hasCol x) fun e => e ▸ hcol⟩
    | missing hd =>
      rw [setCols'_missing wf]
      exact ⟨wf.indexed.push (⟨dst, f.cols.len, col⟩ : NCol) (colList_length wf).symm (ListFacts.lookup_cons_ite dst _ _),
        fun x hx => (List.mem_append.mp hx).elim (wf.hasCol x) fun e => List.mem_singleton.mp e ▸ hcol⟩
  exact fresh_wf wf f.err (setCols'_length wf n pos _ a.le) w hc

/-- with unique names the spec's `setCol` (replace EVERY column of that name) is `List.set` at the one place that carries it -/
theorem replace_unique (ix : List Nat) (l : List NCol) (hd : (l.map (·.name)).Nodup) (p : Nat) (ex e : NCol)
    (hl : l[p]? = some ex) :
    (l.map (lcol ix)).map (fun o => if o.name == ex.name then lcol ix e else o) = (l.set p e).map (lcol ix) := by
  induction l generalizing p with
  | nil => simp at hl
  | cons a l ih =>
    simp only [List.map_cons, List.nodup_cons] at hd
    cases p with
    | zero =>
      simp only [List.getElem?_cons_zero, Option.some.injEq] at hl
      subst hl
      simp only [List.map_cons, lcol_name, beq_self_eq_true, ↓reduceIte, List.set_cons_zero, List.cons.injEq, true_and]
      -- no other column carries the name
      rw [List.map_map]
      apply List.map_congr_left
      intro c hc
      have hne : c.name ≠ a.name := fun he => hd.1 (by rw [← he]; exact List.mem_map.mpr ⟨c, hc, rfl⟩)
      simp [lcol_name, hne]
    | succ p =>
      simp only [List.getElem?_cons_succ] at hl
      have hm : ex ∈ l := List.mem_of_getElem? hl
      have hne : a.name ≠ ex.name := fun he => hd.1 (by rw [he]; exact List.mem_map.mpr ⟨ex, hm, rfl⟩)
      have hb : (a.name == ex.name) = false := by simpa using hne
      simp only [List.map_cons, lcol_name, hb, Bool.false_eq_true, ↓reduceIte, List.set_cons_succ, List.cons.injEq, true_and]
      exact ih hd.2 p hl

/-- `Copy(dst, src)` with `src` present, `dst ≠ src`, `dst` a legal name, on a frame with unique names: the spec's frame
is the logical frame of the result (replaced in position, or appended last) -/
theorem copy_abs {h : Heap} {f : PFrame} {L : Nat} (wf : PWF h f L) (u : UniqueNames h f) (dst src : Bytes)
    (cs : NCol) (hs : f.lookup h src = some cs) (hne : dst ≠ src) (hleg : legalName dst = true) {n pos : Nat}
    (a : SetAt h f dst n pos) :
    copyS (f.abs h) dst src = .ok ((setFrame h f n).abs (setHeap h f n pos ⟨dst, pos, cs.col⟩)) := by
  have hbeq : (dst == src) = false := by simpa using hne
  cases a with
  | found ex hd =>
    have hhas : (f.abs h).has dst = true := by rw [abs_has wf, hd]; rfl
    obtain ⟨ea, eb⟩ := wf.mapOk dst ex hd
    simp only [copyS, abs_find_known wf u hs, hbeq, Bool.false_eq_true, ↓reduceIte, hleg, setCol, hhas]
    congr 1
    simp only [PFrame.abs, set_colList wf _ _ _ (Nat.le_refl _), setCols'_found, set_ixList]
    congr 1
    have := replace_unique (f.ixList h) (f.colList h) u ex.pos ex ⟨dst, ex.pos, cs.col⟩ ea
    rw [eb] at this
    exact this
  | missing hd =>
    have hhas : (f.abs h).has dst = false := by rw [abs_has wf, hd]; rfl
    simp only [copyS, abs_find_known wf u hs, hbeq, Bool.false_eq_true, ↓reduceIte, hleg, setCol, hhas]
    congr 1
    simp only [PFrame.abs, set_colList wf _ _ _ (Nat.le_succ _), setCols'_missing wf, set_ixList, List.map_append,
      List.map_cons, List.map_nil]
    rfl

theorem set_unique {h : Heap} {f : PFrame} {L : Nat} (wf : PWF h f L) (u : UniqueNames h f) {dst : Bytes} {n pos : Nat}
    (a : SetAt h f dst n pos) (col : Option PXCol) :
    UniqueNames (setHeap h f n pos ⟨dst, pos, col⟩) (setFrame h f n) := by
  cases a with
  | found ex hd =>
    obtain ⟨ea, eb⟩ := wf.mapOk dst ex hd
    simp only [UniqueNames, set_colList wf _ _ _ (Nat.le_refl _), setCols'_found]
    rw [NameIndex.Indexed.replace_names ex.pos (⟨dst, ex.pos, col⟩ : NCol) ex ea eb]
    exact u
  | missing hd =>
    simp only [UniqueNames, set_colList wf _ _ _ (Nat.le_succ _), setCols'_missing wf]
    exact wf.indexed.push_nodup u (⟨dst, f.cols.len, col⟩ : NCol) hd


/-! ## The functions of internal/index -/

/-- `Int.Copy`: a new array with the elements the receiver denotes -/
theorem ixCopy_run (E : PIn) (h : Heap) (v : IValid h E.ixParam) :
    canonIxCopy.run E h = some (.ix ⟨h.ixs.length, 0, E.ixParam.len, E.ixParam.len⟩,
      { h with ixs := h.ixs ++ [h.ixWin E.ixParam] }, [⟨.ix, h.ixs.length⟩]) := by
  have hw : ({ h with ixs := h.ixs ++ [List.replicate E.ixParam.len 0] } : Heap).ixWin E.ixParam = h.ixWin E.ixParam :=
    ixWin_keeps ((ListFacts.Keeps.refl _).append _) v
  have hl := ixWin_length v
  simp only [canonIxCopy, PF.run, runSs, PStm.step, PA.exec, PI.eval, PIx.eval, Option.map_some, Nat.le_refl, ↓reduceIte,
    PRet.eval, Heap.setIx, Heap.ixArr, ListFacts.getD_append_last, ListFacts.set_append_last, hw, Nat.min_self,
    List.nil_append]
  rw [List.take_of_length_le (by omega), setWin_all _ _ (by simp [hl])]

theorem ixArr_setIx_eq (h : Heap) (id : Nat) (a : List Nat) (hid : id < h.ixs.length) : (h.setIx id a).ixArr id = a := by
  simp [Heap.setIx, Heap.ixArr, List.getD_eq_getElem?_getD, hid]

theorem valid_id_lt {h : Heap} {s : ISlice} (v : IValid h s) (hc : 0 < s.cap) : s.id < h.ixs.length := by
  rcases Nat.lt_or_ge s.id h.ixs.length with h3 | h3
  · exact h3
  · have := v.inArr
    rw [Heap.ixArr, ListFacts.getD_of_length_le h3] at this; simp at this; omega

theorem ixWin_new (h : Heap) (a : List Nat) (cs : List (List NCol)) (ms : List (List (Bytes × NCol))) :
    ({ ixs := h.ixs ++ [a], colss := cs, maps := ms } : Heap).ixWin ⟨h.ixs.length, 0, a.length, a.length⟩ = a := by
  simp [Heap.ixWin, Heap.ixArr]

/-- The state of a loop that appends to its `new` index: the register holds a valid slice of an array made after `pre`,
and the arrays of `pre` are all still there. -/
structure Appending (pre : List (List Nat)) (σ : PMem) (s : ISlice) : Prop where
  reg : σ.nIx = some s
  valid : IValid σ.h s
  own : pre.length ≤ s.id
  keep : ListFacts.Keeps pre σ.h.ixs

/-- `append` on a valid slice — in place within the capacity, else into a new array: a valid slice holding one element more -/
theorem appendIxTo_spec {pre : List (List Nat)} {σ : PMem} {s : ISlice} (a : Appending pre σ s) (x : Nat) :
    ∃ s', Appending pre (appendIxTo σ s x) s' ∧ (appendIxTo σ s x).h.ixWin s' = σ.h.ixWin s ++ [x] ∧
      (appendIxTo σ s x).h.colss = σ.h.colss ∧ (appendIxTo σ s x).h.maps = σ.h.maps := by
  have hlc := a.valid.lenCap; have hin := a.valid.inArr
  unfold appendIxTo
  split
  · have hid := valid_id_lt a.valid (by omega)
    refine ⟨{ s with len := s.len + 1 }, ⟨rfl, ⟨by simp; omega, ?_⟩, a.own, a.keep.set a.own _⟩, ?_, rfl, rfl⟩
    · simp only [ixArr_setIx_eq _ _ _ hid, List.length_set]; exact hin
    · simp only [Heap.ixWin, ixArr_setIx_eq _ _ _ hid]
      exact ListFacts.window_set_next _ _ _ _ (by omega)
  · have hwl := ixWin_length a.valid
    refine ⟨⟨σ.h.ixs.length, 0, s.len + 1, s.len + 1⟩, ⟨rfl, ⟨Nat.le_refl _, ?_⟩, a.keep.len, a.keep.append _⟩, ?_, rfl, rfl⟩
    · simp [Heap.ixArr, hwl]
    · have := ixWin_new σ.h (σ.h.ixWin s ++ [x]) σ.h.colss σ.h.maps
      rw [List.length_append, hwl] at this
      exact this

/-- the first rows of the occupied entries, in table order -/
def firsts (es : List (Bool × Nat)) : List Nat := (es.filter (·.1)).map (·.2)

theorem entry_loop (E : PIn) (pre : List (List Nat)) (es : List (Bool × Nat)) :
    ∀ (k : Nat) (σ : PMem) (s : ISlice), Appending pre σ s →
      ∃ σ' s', loopOver entryBody E bindEntry es k σ = some σ' ∧ Appending pre σ' s' ∧
        σ'.h.ixWin s' = σ.h.ixWin s ++ firsts es ∧ σ'.h.colss = σ.h.colss ∧ σ'.h.maps = σ.h.maps := by
  induction es with
  | nil => intro k σ s a; exact ⟨σ, s, rfl, a, by simp [firsts], rfl, rfl⟩
  | cons e es ih =>
    intro k σ s a
    cases he : e.1 with
    | false =>
      have e1 : execLs (bindEntry E k e) entryBody σ = some σ := by simp [entryBody, bindEntry, he]
      obtain ⟨σ', s', r1, r2, r3, r4, r5⟩ := ih (k + 1) σ s a
      refine ⟨σ', s', by simp only [loopOver, e1, r1], r2, ?_, r4, r5⟩
      rw [r3]; simp [firsts, he]
    | true =>
      obtain ⟨s1, a1, a2, a3, a4⟩ := appendIxTo_spec a e.2
      have e1 : execLs (bindEntry E k e) entryBody σ = some (appendIxTo σ s e.2) := by
        simp [entryBody, bindEntry, he, a.reg]
      obtain ⟨σ', s', r1, r2, r3, r4, r5⟩ := ih (k + 1) _ s1 a1
      refine ⟨σ', s', by simp only [loopOver, e1, r1], r2, ?_, r4.trans a3, r5.trans a4⟩
      rw [r3, a2]; simp [firsts, he]

/-- `grouper.Distinct` after the table is built: a fresh index holding the first rows of the occupied entries in table
order (whatever capacity `stats.GroupCount` asks for) -/
theorem grouperDistinct_run (E : PIn) (h : Heap) :
    ∃ r h' w, canonGrouperDistinct.run E h = some (.ix r, h', w) ∧ IValid h' r ∧ h'.ixWin r = firsts E.entries ∧
      h'.colss = h.colss ∧ h'.maps = h.maps ∧ h.ixs.length ≤ r.id := by
  let σ1 : PMem := { h := { h with ixs := h.ixs ++ [List.replicate E.groupCount 0] }, nIx := some ⟨h.ixs.length, 0, 0, E.groupCount⟩ }
  have a1 : Appending h.ixs σ1 ⟨h.ixs.length, 0, 0, E.groupCount⟩ :=
    ⟨rfl, ⟨Nat.zero_le _, by simp [σ1, Heap.ixArr]⟩, Nat.le_refl _, (ListFacts.Keeps.refl _).append _⟩
  obtain ⟨σ', s', r1, r2, r3, r4, r5⟩ := entry_loop E h.ixs E.entries 0 σ1 _ a1
  refine ⟨s', σ'.h, σ'.log, ?_, r2.valid, ?_, r4, r5, r2.own⟩
  · simp only [canonGrouperDistinct, PF.run, runSs, PStm.step, PA.exec, PI.eval, Nat.zero_le, ↓reduceIte]
    -- `simp only` stops at the match on the loop's result; `show` spells it out so that `rw [r1]` finds it
    -- (the same in `ixFilter_run`, `ascending_run`)
    show (match loopOver entryBody E bindEntry E.entries 0 σ1 with
      | some σ' => runSs E [PStm.ret (PRet.ix PIx.new)] σ'
      | none => none) = _
    rw [r1]
    simp [r2.reg]
  · rw [r3]; simp [σ1, Heap.ixWin]


/-- the rows an `index.Bool` keeps -/
def filt : List Bool → List Nat → List Nat
  | b :: bs, x :: xs => if b then x :: filt bs xs else filt bs xs
  | _, _ => []

theorem count_loop (E : PIn) (bs : List Bool) : ∀ (k : Nat) (σ : PMem),
    loopOver countBody E bindBool bs k σ = some { σ with count := σ.count + bs.count true } := by
  induction bs with
  | nil => intro k σ; simp
  | cons b bs ih =>
    intro k σ
    cases b with
    | false =>
      have e1 : execLs (bindBool E k false) countBody σ = some σ := by simp [countBody, bindBool]
      simp only [loopOver, e1, ih]; simp
    | true =>
      have e1 : execLs (bindBool E k true) countBody σ = some { σ with count := σ.count + 1 } := by
        simp [countBody, bindBool]
      simp only [loopOver, e1, ih]; simp [Nat.add_assoc, Nat.add_comm 1]

/-- the second loop of `Int.Filter` on receiver `E.ixParam`, a valid slice of the heap `h` the function started on: the
rows whose flag is set are appended in order -/
theorem filter_loop (E : PIn) (h : Heap) (v : IValid h E.ixParam) (bs : List Bool) :
    ∀ (k : Nat) (σ : PMem) (s : ISlice), Appending h.ixs σ s → k + bs.length ≤ E.ixParam.len →
      ∃ σ' s', loopOver filterBody E bindBool bs k σ = some σ' ∧ Appending h.ixs σ' s' ∧
        σ'.h.ixWin s' = σ.h.ixWin s ++ filt bs ((h.ixWin E.ixParam).drop k) := by
  have hwl := ixWin_length v
  induction bs with
  | nil => intro k σ s a hk; exact ⟨σ, s, rfl, a, by simp [filt]⟩
  | cons x bs ih =>
    intro k σ s a hk
    simp only [List.length_cons] at hk
    have hkl : k < (h.ixWin E.ixParam).length := by omega
    have hd := List.drop_eq_getElem_cons hkl
    cases x with
    | false =>
      have e1 : execLs (bindBool E k false) filterBody σ = some σ := by simp [filterBody, bindBool]
      obtain ⟨σ', s', r1, r2, r3⟩ := ih (k + 1) σ s a (by omega)
      refine ⟨σ', s', by simp only [loopOver, e1, r1], r2, ?_⟩
      rw [r3, hd]; simp [filt]
    | true =>
      -- the receiver's rows are read from the heap of the moment: they are still those of `h`
      have hw : σ.h.ixWin E.ixParam = h.ixWin E.ixParam := ixWin_keeps a.keep v
      obtain ⟨s1, a1, a2, _, _⟩ := appendIxTo_spec a (h.ixWin E.ixParam)[k]
      have e1 : execLs (bindBool E k true) filterBody σ = some (appendIxTo σ s (h.ixWin E.ixParam)[k]) := by
        simp [filterBody, bindBool, a.reg, hw, show k < E.ixParam.len by omega, List.getElem?_eq_getElem hkl]
      obtain ⟨σ', s', r1, r2, r3⟩ := ih (k + 1) _ s1 a1 (by omega)
      refine ⟨σ', s', by simp only [loopOver, e1, r1], r2, ?_⟩
      rw [r3, a2, hd]; simp [filt]

/-- `Int.Filter(bIx)`: a fresh index with the rows whose flag is set, in order; the arrays that existed are still there.
(`hlen` is more than Go needs: `ix[i]` is evaluated only under `if b`, so only a SET flag beyond the rows panics.) -/
theorem ixFilter_run (E : PIn) (h : Heap) (v : IValid h E.ixParam) (hlen : E.bools.length ≤ E.ixParam.len) :
    ∃ r h' w, canonIxFilter.run E h = some (.ix r, h', w) ∧ IValid h' r ∧
      h'.ixWin r = filt E.bools (h.ixWin E.ixParam) ∧ h.ixs.length ≤ r.id ∧ ListFacts.Keeps h.ixs h'.ixs := by
  let n := E.bools.count true
  let σ1 : PMem := { h := { h with ixs := h.ixs ++ [List.replicate n 0] }, nIx := some ⟨h.ixs.length, 0, 0, n⟩, count := n }
  have a1 : Appending h.ixs σ1 ⟨h.ixs.length, 0, 0, n⟩ :=
    ⟨rfl, ⟨Nat.zero_le _, by simp [σ1, Heap.ixArr]⟩, Nat.le_refl _, (ListFacts.Keeps.refl _).append _⟩
  obtain ⟨σ', s', r1, r2, r3⟩ := filter_loop E h v E.bools 0 σ1 _ a1 (by simpa using hlen)
  refine ⟨s', σ'.h, σ'.log, ?_, r2.valid, ?_, r2.own, r2.keep⟩
  · simp only [canonIxFilter, PF.run, runSs, PStm.step, PA.exec, count_loop, PI.eval, Nat.zero_le, ↓reduceIte, Nat.zero_add]
    show (match loopOver filterBody E bindBool E.bools 0 σ1 with
      | some σ' => runSs E [PStm.ret (PRet.ix PIx.new)] σ'
      | none => none) = _
    rw [r1]
    simp [r2.reg]
  · rw [r3]; simp [σ1, Heap.ixWin]


theorem asc_loop (E : PIn) (pre : List (List Nat)) (n : Nat) (m : Nat) :
    ∀ (k : Nat) (arr : List Nat) (σ : PMem), arr.length = n → k + m ≤ n → σ.h.ixs = pre ++ [arr] →
      σ.nIx = some ⟨pre.length, 0, n, n⟩ →
      ∃ σ', loopOver ascBody E bindUnit (List.replicate m ()) k σ = some σ' ∧
        σ'.h = { σ.h with ixs := pre ++ [setWin arr k (List.range' k m)] } ∧ σ'.nIx = σ.nIx := by
  induction m with
  | zero =>
    intro k arr σ ha hk hσ hn
    exact ⟨σ, rfl, by simp [← hσ, setWin], rfl⟩
  | succ m ih =>
    intro k arr σ ha hk hσ hn
    have hkn : k < n := by omega
    let σ1 : PMem :=
      { σ with h := σ.h.setIx pre.length ((σ.h.ixArr pre.length).set (0 + k) k), log := σ.log ++ [⟨.ix, pre.length⟩] }
    have e1 : execLs (bindUnit E k ()) ascBody σ = some σ1 := by
      simp [ascBody, bindUnit, hn, hkn, σ1]
    have h1 : σ1.h.ixs = pre ++ [arr.set k k] := by
      simp [σ1, Heap.setIx, Heap.ixArr, hσ]
    obtain ⟨σ', r1, r2, r3⟩ := ih (k + 1) (arr.set k k) σ1 (by simp [ha]) (by omega) h1 hn
    refine ⟨σ', ?_, ?_, r3⟩
    · simp only [List.replicate_succ, loopOver, e1, r1]
    · rw [r2, setWin_cons_set _ _ _ _ (by omega)]; rfl

theorem ascending_run (E : PIn) (h : Heap) :
    ∃ w, canonAscending.run E h = some (.ix ⟨h.ixs.length, 0, E.size, E.size⟩,
      { h with ixs := h.ixs ++ [List.range E.size] }, w) := by
  let σ1 : PMem := { h := { h with ixs := h.ixs ++ [List.replicate E.size 0] }, nIx := some ⟨h.ixs.length, 0, E.size, E.size⟩ }
  obtain ⟨σ', r1, r2, r3⟩ := asc_loop E h.ixs E.size E.size 0 (List.replicate E.size 0) σ1 (by simp) (by omega) rfl rfl
  refine ⟨σ'.log, ?_⟩
  simp only [canonAscending, PF.run, runSs, PStm.step, PA.exec, PI.eval, Nat.le_refl, ↓reduceIte, PIx.eval]
  show (match loopOver ascBody E bindUnit (List.replicate E.size ()) 0 σ1 with
    | some σ' => runSs E [PStm.ret (PRet.ix PIx.new)] σ'
    | none => none) = _
  rw [r1]
  simp only [runSs, PRet.eval, PIx.eval, r2, r3, Option.map_some, σ1]
  rw [setWin_all _ _ (by simp), List.range_eq_range']


/-! ## Today's terms as a library -/

def genIx (name : String) : PF := (Gen.indexAst.lookup name).getD (.opaque name)
def genOp (name : String) : PF := (Gen.projectAst.lookup name).getD (.opaque name)
def genHelper (name : String) : PRet := (Gen.frameHelperAst.lookup name).getD (.opaque name)

theorem genIx_eq (name : String) : genIx name = (canonIndex.lookup name).getD (.opaque name) := by
  rw [genIx, gen_project_canon.2.2]
theorem genOp_eq (name : String) : genOp name = (canonProject.lookup name).getD (.opaque name) := by
  rw [genOp, gen_project_canon.2.1]
theorem genHelper_eq (name : String) : genHelper name = (canonHelpers.lookup name).getD (.opaque name) := by
  rw [genHelper, gen_project_canon.1]

theorem genOp_slice : genOp "Slice" = canonSlice := by rw [genOp_eq]; rfl
theorem genOp_select : genOp "Select" = canonSelect := by rw [genOp_eq]; rfl
theorem genOp_drop : genOp "Drop" = canonDrop := by rw [genOp_eq]; rfl
theorem genOp_copy : genOp "Copy" = canonCopy := by rw [genOp_eq]; rfl
theorem genOp_setColumn : genOp "setColumn" = canonSetColumn := by rw [genOp_eq]; rfl
theorem genOp_sort : genOp "Sort" = canonSort := by rw [genOp_eq]; rfl
theorem genOp_distinct : genOp "Distinct" = canonDistinct := by rw [genOp_eq]; rfl
theorem genIx_copy : genIx "Int.Copy" = canonIxCopy := by rw [genIx_eq]; rfl
theorem genIx_filter : genIx "Int.Filter" = canonIxFilter := by rw [genIx_eq]; rfl
theorem genIx_ascending : genIx "NewAscending" = canonAscending := by rw [genIx_eq]; rfl
theorem genIx_newBool : genIx "NewBool" = .seq [.ret (.bools .size)] := by rw [genIx_eq]; rfl
theorem genIx_intLen : genIx "Int.Len" = .seq [.ret (.int (.lenIx .param))] := by rw [genIx_eq]; rfl
theorem genIx_boolLen : genIx "Bool.Len" = .seq [.ret (.int .lenBools)] := by rw [genIx_eq]; rfl
theorem genIx_distinct : genIx "grouper.Distinct" = canonGrouperDistinct := by rw [genIx_eq]; rfl

/-- What lies outside the model: what the sorter makes of the rows it is given, and the table `groupIndex` builds for the
rows of an index — its entries in table order (occupied, first row) and the group count it reports. `table` is a function
of the rows only: key columns and comparables are fixed with `X`. -/
structure Ext where
  sortFn : List Nat → List Nat
  table : List Nat → List (Bool × Nat) × Nat

def ixResult : Option POut → Option (ISlice × Heap × List Wr)
  | some (.ix r, h, w) => some (r, h, w)
  | _ => none

theorem ixResult_some {o : Option POut} {r : ISlice} {h : Heap} {w : List Wr} (e : ixResult o = some (r, h, w)) :
    o = some (.ix r, h, w) := by
  unfold ixResult at e
  split at e
  · cases e; rfl
  · cases e

/-- today's `Int.Copy` and `grouper.Distinct` (after `groupIndex`) as the functions a body may call -/
def genCallIx (X : Ext) (fn : IxFn) (s : ISlice) (h : Heap) : Option (ISlice × Heap × List Wr) :=
  match fn with
  | .copy => ixResult ((genIx "Int.Copy").run { ixParam := s } h)
  | .distinct =>
    ixResult ((genIx "grouper.Distinct").run
      { ixParam := s, entries := (X.table (h.ixWin s)).1, groupCount := (X.table (h.ixWin s)).2 } h)

/-- what the guards see of a physical frame -/
def physReq (h : Heap) (f : PFrame) : GReq :=
  { hasErr := f.err, rows := f.index.len, known := fun n => (f.lookup h n).isSome }

/-- A whole operation of today's source: its guard chain (`QF.Gen.guardAst`), then — if the request passes — its work. -/
def genFull (op : String) (q : GReq) (E : PIn) (h : Heap) : Option POut :=
  match C08Guards.genGuards op q with
  | some .returnSelf => some (.frame E.f, h, [])
  | some .err => (genHelper "(error) → frame").eval { E with errParam := true } { h := h }
  | some .ok => (genOp op).run E h
  | _ => none

def baseEnv (X : Ext) (f : PFrame) : PIn := { f := f, sortFn := X.sortFn, callIx := genCallIx X }

/-- today's `qf.Select(names...)` -/
def genSelect (X : Ext) (f : PFrame) (names : List Bytes) (h : Heap) : Option POut :=
  genFull "Select" { physReq h f with columns := names } { baseEnv X f with names := names } h

/-- the environment of an operation on receiver `f`: today's library -/
def genEnv (X : Ext) (f : PFrame) : PIn := { baseEnv X f with callSelect := genSelect X f }

/-- an environment without library functions. This and `baseEnv_ok`, `genEnv_ok` are stated by the two fields, so that they
apply to every `{ genEnv X f with … }`. -/
theorem lib_none (E : PIn) (h1 : E.callIx = fun _ _ _ => none) (h2 : E.callSelect = fun _ _ => none) : LibOK E :=
  ⟨fun fn s h r h' w e => (by rw [h1] at e; cases e), fun ns h out e => (by rw [h2] at e; cases e)⟩

/-- every term generated today writes only to what it made itself, and returns no index but the one it made -/
theorem gen_own_only :
    (∀ p ∈ Gen.projectAst, p.2.ownOnly = true ∧ PFretsNew p.2 = true) ∧
    (∀ p ∈ Gen.indexAst, p.2.ownOnly = true ∧ PFretsNew p.2 = true) ∧
    (∀ p ∈ Gen.frameHelperAst, retNew p.2 = true) := by decide

theorem genIx_own (name : String) : (genIx name).ownOnly = true ∧ PFretsNew (genIx name) = true := by
  unfold genIx
  cases hl : Gen.indexAst.lookup name with
  | none => exact ⟨rfl, rfl⟩
  | some t => exact gen_own_only.2.1 _ (ListFacts.mem_of_lookup_eq_some hl)

theorem genOp_own (name : String) : (genOp name).ownOnly = true ∧ PFretsNew (genOp name) = true := by
  unfold genOp
  cases hl : Gen.projectAst.lookup name with
  | none => exact ⟨rfl, rfl⟩
  | some t => exact gen_own_only.1 _ (ListFacts.mem_of_lookup_eq_some hl)

theorem genHelper_new (name : String) : retNew (genHelper name) = true := by
  unfold genHelper
  cases hl : Gen.frameHelperAst.lookup name with
  | none => rfl
  | some t => exact gen_own_only.2.2 _ (ListFacts.mem_of_lookup_eq_some hl)

theorem genCallIx_ok (X : Ext) (fn : IxFn) (s : ISlice) (h : Heap) (r : ISlice) (h' : Heap) (w : List Wr)
    (e : genCallIx X fn s h = some (r, h', w)) : Persistent h (.ix r, h', w) := by
  cases fn <;>
    exact run_persistent _ (lib_none _ rfl rfl) _ (genIx_own _).1 (genIx_own _).2 h _ (ixResult_some e)

theorem baseEnv_ok (X : Ext) (E : PIn) (h1 : E.callIx = genCallIx X) (h2 : E.callSelect = fun _ _ => none) :
    LibOK E :=
  ⟨fun fn s h r h' w e => (by rw [h1] at e; exact genCallIx_ok X fn s h r h' w e),
   fun ns h out e => (by rw [h2] at e; cases e)⟩

/-- a whole operation of today's source (guard chain, then work) keeps the discipline if the functions it calls do -/
theorem genFull_ok (op : String) (q : GReq) (E : PIn) (lib : LibOK E) (h : Heap) (out : POut)
    (e : genFull op q E h = some out) : Persistent h out := by
  unfold genFull at e
  split at e
  · cases e; exact ⟨fun _ hx => (by cases hx), Unchanged.refl h, fun s hs => (by cases hs)⟩
  · exact ret_inv { E with errParam := true } ⟨lib.ix, lib.sel⟩ h _ (genHelper_new _) _ (Inv.init h) out e
  · exact run_persistent _ lib _ (genOp_own _).1 (genOp_own _).2 h out e
  · cases e

/-- today's library keeps the discipline it is assumed to keep -/
theorem genEnv_ok (X : Ext) (f : PFrame) (E : PIn) (h1 : E.callIx = genCallIx X) (h2 : E.callSelect = genSelect X f) :
    LibOK E :=
  ⟨fun fn s h r h' w e => (by rw [h1] at e; exact genCallIx_ok X fn s h r h' w e),
   fun ns h out e => (by rw [h2] at e; exact genFull_ok _ _ _ (baseEnv_ok X _ rfl rfl) h out e)⟩


/-! ## Sort and Distinct -/

theorem genCallIx_copy (X : Ext) (s : ISlice) (h : Heap) (v : IValid h s) :
    genCallIx X .copy s h =
      some (⟨h.ixs.length, 0, s.len, s.len⟩, { h with ixs := h.ixs ++ [h.ixWin s] }, [⟨.ix, h.ixs.length⟩]) := by
  simp only [genCallIx, genIx_copy]
  rw [ixCopy_run _ h v]; rfl

/-- the heap and frame `Sort` returns: the index copied into a new array and sorted there -/
def sortHeap (X : Ext) (h : Heap) (f : PFrame) : Heap := { h with ixs := h.ixs ++ [X.sortFn (h.ixWin f.index)] }
def sortFrame (h : Heap) (f : PFrame) : PFrame := { f with index := ⟨h.ixs.length, 0, f.index.len, f.index.len⟩ }

/-- `hlen`: the sorter keeps the number of rows, so it overwrites exactly the copy -/
theorem sort_run (X : Ext) (E : PIn) (h : Heap) (v : IValid h E.f.index) (hc : E.callIx = genCallIx X)
    (hs : E.sortFn = X.sortFn) (hlen : (X.sortFn (h.ixWin E.f.index)).length = (h.ixWin E.f.index).length) :
    canonSort.run E h = some (.frame (sortFrame h E.f), sortHeap X h E.f, [⟨.ix, h.ixs.length⟩, ⟨.ix, h.ixs.length⟩]) := by
  have hw : ({ ixs := h.ixs ++ [h.ixWin E.f.index], colss := h.colss, maps := h.maps } : Heap).ixWin
      ⟨h.ixs.length, 0, E.f.index.len, E.f.index.len⟩ = h.ixWin E.f.index := by
    have := ixWin_new h (h.ixWin E.f.index) h.colss h.maps
    rw [ixWin_length v] at this; exact this
  simp only [canonSort, PF.run, runSs, PStm.step, PA.exec, PIx.eval, hc, genCallIx_copy X _ h v, hs, PRet.eval, PCs.eval,
    PMp.eval, Heap.setIx, Heap.ixArr, ListFacts.getD_append_last, ListFacts.set_append_last, hw, List.nil_append,
    setWin_all _ _ hlen.symm]
  rfl

theorem sort_ixList (X : Ext) (h : Heap) (f : PFrame) (v : IValid h f.index)
    (hlen : (X.sortFn (f.ixList h)).length = (f.ixList h).length) :
    (sortFrame h f).ixList (sortHeap X h f) = X.sortFn (f.ixList h) := by
  have := ixWin_new h (X.sortFn (h.ixWin f.index)) h.colss h.maps
  rw [show (X.sortFn (h.ixWin f.index)).length = f.index.len from hlen.trans (ixWin_length v)] at this
  exact this

/-- a frame that shares column list and name map with a well-formed one and has a valid index of known rows -/
theorem wf_reindex {h h' : Heap} {f : PFrame} {L : Nat} (wf : PWF h f L) (s : ISlice) (hc : h'.colss = h.colss)
    (hm : h'.maps = h.maps) (v : IValid h' s) (hlt : ∀ p, p ∈ h'.ixWin s → p < L) :
    PWF h' { f with index := s } L := by
  have e1 : ({ f with index := s } : PFrame).colList h' = f.colList h := by
    simp only [PFrame.colList, Heap.colWin, Heap.colArr, hc]
  have e2 : ∀ k, ({ f with index := s } : PFrame).lookup h' k = f.lookup h k := by
    intro k; simp only [PFrame.lookup, Heap.mapGet, Heap.mapOf, Heap.mapArr, hm]
  constructor
  · exact v
  · have := wf.colsIn; simp only [Heap.colArr, hc] at this ⊢; exact this
  · intro id hid; rw [hm]; exact wf.mapIn id hid
  · intro i c hi; rw [e1] at hi; exact wf.pos i c hi
  · intro n c hn; rw [e2] at hn; rw [e1]; exact wf.mapOk n c hn
  · intro c hcm; rw [e1] at hcm; rw [e2]; exact wf.mapTotal c hcm
  · intro c hcm; rw [e1] at hcm; exact wf.hasCol c hcm
  · exact hlt

theorem sort_wf (X : Ext) (h : Heap) (f : PFrame) (L : Nat) (wf : PWF h f L)
    (hperm : (X.sortFn (f.ixList h)).Perm (f.ixList h)) : PWF (sortHeap X h f) (sortFrame h f) L := by
  have hlen : (X.sortFn (h.ixWin f.index)).length = f.index.len := hperm.length_eq.trans (ixWin_length wf.ixValid)
  refine wf_reindex wf _ rfl rfl ⟨Nat.le_refl _, by simp [sortHeap, Heap.ixArr, hlen]⟩ fun p hp => ?_
  have : p ∈ (sortFrame h f).ixList (sortHeap X h f) := hp
  rw [sort_ixList X h f wf.ixValid hperm.length_eq] at this
  exact wf.ixLt p (hperm.subset this)

/-- the heap and frame `Distinct` returns: whatever `grouper.Distinct` makes of the table, columns and map shared -/
theorem distinct_run (X : Ext) (E : PIn) (h : Heap) (hc : E.callIx = genCallIx X) :
    ∃ r h' w, canonDistinct.run E h = some (.frame { E.f with index := r }, h', w) ∧ IValid h' r ∧
      h'.ixWin r = firsts (X.table (h.ixWin E.f.index)).1 ∧ h'.colss = h.colss ∧ h'.maps = h.maps ∧
      h.ixs.length ≤ r.id := by
  obtain ⟨r, h', w, e1, e2, e3, e4, e5, e6⟩ := grouperDistinct_run
    { ixParam := E.f.index, entries := (X.table (h.ixWin E.f.index)).1, groupCount := (X.table (h.ixWin E.f.index)).2 } h
  have hcall : genCallIx X .distinct E.f.index h = some (r, h', w) := by
    simp only [genCallIx, genIx_distinct, e1, ixResult]
  refine ⟨r, h', [] ++ w, ?_, e2, e3, e4, e5, e6⟩
  simp only [canonDistinct, PF.run, runSs, PStm.step, PA.exec, PIx.eval, hc, hcall, PRet.eval, PCs.eval, PMp.eval]


/-! ## Drop -/

/-- the names `Drop` hands to `Select`: those of the columns that are not dropped, in column order -/
def keptOf (h : Heap) (f : PFrame) (names : List Bytes) : List Bytes :=
  ((f.colList h).filter (fun c => !names.contains c.name)).map (·.name)

theorem drop_loop (E : PIn) (cs : List NCol) : ∀ (k : Nat) (σ : PMem),
    loopOver dropBody E bindCol cs k σ =
      some { σ with kept := σ.kept ++ (cs.filter (fun c => !E.names.contains c.name)).map (·.name) } := by
  induction cs with
  | nil => intro k σ; simp
  | cons c cs ih =>
    intro k σ
    cases hc : E.names.contains c.name with
    | true =>
      have hm : c.name ∈ E.names := by simpa using hc
      have e1 : execLs (bindCol E k c) dropBody σ = some σ := by
        simp [dropBody, bindCol, hm]
      simp only [loopOver, e1, ih, List.filter_cons, hc]; simp
    | false =>
      have hm : ¬ c.name ∈ E.names := by simpa using hc
      have e1 : execLs (bindCol E k c) dropBody σ = some { σ with kept := σ.kept ++ [c.name] } := by
        simp [dropBody, bindCol, hm]
      simp only [loopOver, e1, ih, List.filter_cons, hc]; simp

/-- `Drop` after its guards: `Select` of the names that are left -/
theorem drop_run (E : PIn) (h : Heap) :
    canonDrop.run E h = (E.callSelect (keptOf h E.f E.names) h).map (fun o => (o.1, o.2.1, [] ++ o.2.2)) := by
  simp only [canonDrop, PF.run, runSs, PStm.step, PA.exec, PCs.eval, drop_loop, PRet.eval, PNs.eval, List.nil_append, keptOf,
    PFrame.colList]
  cases E.callSelect _ h with
  | none => rfl
  | some o => obtain ⟨a, b, c⟩ := o; rfl

/-- today's whole `Select` on a frame without error and known names is its work -/
theorem genSelect_known (X : Ext) (f : PFrame) (h : Heap) (hne : f.err = false) (ns : List Bytes)
    (hk : ∀ x, x ∈ ns → (f.lookup h x).isSome = true) :
    genSelect X f ns h = canonSelect.run { baseEnv X f with names := ns } h := by
  have hany : ns.any (fun n => !(f.lookup h n).isSome) = false := by
    rw [List.any_eq_false]; intro x hx; simp [hk x hx]
  simp only [genSelect, genFull, C08Guards.gen_select_outcome, C08Guards.selectOutcome, physReq, hne, Bool.false_eq_true,
    ↓reduceIte, hany, genOp_select]

theorem kept_known {h : Heap} {f : PFrame} {L : Nat} (wf : PWF h f L) (names : List Bytes) :
    ∀ x, x ∈ keptOf h f names → (f.lookup h x).isSome = true := by
  intro x hx
  obtain ⟨c, hc, rfl⟩ := List.mem_map.mp hx
  exact wf.mapTotal c (List.mem_filter.mp hc).1

/-- at the level of the spec `Drop(names…)` (at least one name, all known) is `Select` of the names that are left -/
theorem drop_abs {h : Heap} {f : PFrame} {L : Nat} (wf : PWF h f L) (u : UniqueNames h f) (names : List Bytes)
    (hne : names ≠ []) (hk : ∀ x, x ∈ names → (f.lookup h x).isSome = true) :
    dropS (f.abs h) names = selectS (f.abs h) (keptOf h f names) := by
  have hemp : names.isEmpty = false := by cases names with
    | nil => exact absurd rfl hne
    | cons => rfl
  have hall := all_has wf hk
  have hall2 := all_has wf (kept_known wf names)
  have hkeep : (f.abs h).cols.filter (fun c => !names.contains c.name) =
      ((f.colList h).filter (fun c => !names.contains c.name)).map (lcol (f.ixList h)) := by
    simp only [PFrame.abs, List.filter_map]; rfl
  -- every remaining name finds its own column
  have hfm : (keptOf h f names).filterMap (f.abs h).find? =
      ((f.colList h).filter (fun c => !names.contains c.name)).map (lcol (f.ixList h)) := by
    rw [keptOf, List.filterMap_map]
    exact ListFacts.filterMap_of_some fun c hc => abs_find_mem u (List.mem_filter.mp hc).1
  simp only [dropS, selectS, hemp, hall, hall2, hkeep, hfm, Bool.false_eq_true, ↓reduceIte, Bool.not_true]
  simp only [keptOf, List.isEmpty_map]


/-! ## Main theorems -/

/-! The work of each operation on a request its guards let through. The last conjunct (the error flag of the result) is
what `gen_project_total` adds to the logical frame. -/

/-- `Slice(a, b)` of today's source, `0 ≤ a ≤ b ≤ Len()` -/
theorem gen_slice_semantics (X : Ext) (h : Heap) (f : PFrame) (L : Nat) (wf : PWF h f L) (a b : Int)
    (h0 : 0 ≤ a) (hab : a ≤ b) (hb : b ≤ (f.index.len : Int)) :
    ∃ f', (genOp "Slice").run { genEnv X f with start := a, stop := b } h = some (.frame f', h, []) ∧
      sliceS (f.abs h) a b = .ok (f'.abs h) ∧ PWF h f' L ∧ (UniqueNames h f → UniqueNames h f') ∧ f'.err = f.err := by
  obtain ⟨a, rfl⟩ := Int.eq_ofNat_of_zero_le h0
  obtain ⟨b, rfl⟩ := Int.eq_ofNat_of_zero_le (Int.le_trans h0 hab)
  have hab : a ≤ b := Int.ofNat_le.mp hab
  have hb : b ≤ f.index.len := Int.ofNat_le.mp hb
  refine ⟨sliceFrame f a b, ?_, slice_abs h f L wf a b hab hb, slice_wf h f L wf a b hab hb, fun u => u, rfl⟩
  rw [genOp_slice]
  exact slice_run _ h a b rfl rfl hab (Nat.le_trans hb wf.ixValid.lenCap)

/-- the work of `Select` on known names, whatever functions the environment offers -/
theorem select_semantics (E : PIn) (h : Heap) (L : Nat) (wf : PWF h E.f L) (u : UniqueNames h E.f)
    (hk : ∀ x, x ∈ E.names → (E.f.lookup h x).isSome = true) :
    ∃ f' h' w, canonSelect.run E h = some (.frame f', h', w) ∧
      selectS (E.f.abs h) E.names = .ok (f'.abs h') ∧ PWF h' f' L ∧ (E.names.Nodup → UniqueNames h' f') ∧ f'.err = false := by
  by_cases hne : E.names = []
  · refine ⟨PFrame.empty, h, [], select_run_empty _ h hne, ?_, empty_wf h L, fun _ => empty_unique h, rfl⟩
    rw [empty_abs, hne]; rfl
  · obtain ⟨w, e⟩ := select_run E h wf.mapIn hne
    exact ⟨_, _, w, e, select_abs h E.f L wf u E.names hne hk, select_wf h E.f L wf E.names hk,
      fun hd => select_unique h E.f L wf E.names hd hk, rfl⟩

/-- `Select(names…)` of today's source, all names known -/
theorem gen_select_semantics (X : Ext) (h : Heap) (f : PFrame) (L : Nat) (wf : PWF h f L) (u : UniqueNames h f)
    (names : List Bytes) (hk : ∀ x, x ∈ names → (f.lookup h x).isSome = true) :
    ∃ f' h' w, (genOp "Select").run { genEnv X f with names := names } h = some (.frame f', h', w) ∧
      selectS (f.abs h) names = .ok (f'.abs h') ∧ PWF h' f' L ∧ (names.Nodup → UniqueNames h' f') ∧ f'.err = false := by
  rw [genOp_select]
  exact select_semantics { genEnv X f with names := names } h L wf u hk

/-- `Drop(names…)` of today's source, at least one name, all known, no error on the frame (the final `qf.Select(…)` is
today's whole `Select`, guards included) -/
theorem gen_drop_semantics (X : Ext) (h : Heap) (f : PFrame) (L : Nat) (wf : PWF h f L) (u : UniqueNames h f)
    (he : f.err = false) (names : List Bytes) (hne : names ≠ []) (hk : ∀ x, x ∈ names → (f.lookup h x).isSome = true) :
    ∃ f' h' w, (genOp "Drop").run { genEnv X f with names := names } h = some (.frame f', h', w) ∧
      dropS (f.abs h) names = .ok (f'.abs h') ∧ PWF h' f' L ∧ UniqueNames h' f' ∧ f'.err = false := by
  have hkk := kept_known wf names
  obtain ⟨f', h', w, e1, e2, e3, e4, e5⟩ :=
    select_semantics { baseEnv X f with names := keptOf h f names } h L wf u hkk
  refine ⟨f', h', [] ++ w, ?_, (drop_abs wf u names hne hk).trans e2, e3,
    e4 (((List.filter_sublist).map _).nodup u), e5⟩
  rw [genOp_drop, drop_run]
  show Option.map _ (genSelect X f (keptOf h f names) h) = _
  rw [genSelect_known X f h he _ hkk, e1]
  rfl

/-- `Copy(dst, src)` of today's source (`setColumn` inlined): `src` known, `dst ≠ src`, `dst` a legal name -/
theorem gen_copy_semantics (X : Ext) (h : Heap) (f : PFrame) (L : Nat) (wf : PWF h f L) (u : UniqueNames h f)
    (dst src : Bytes) (hs : (f.lookup h src).isSome = true) (hne : dst ≠ src) (hleg : legalName dst = true) :
    ∃ f' h' w, (genOp "Copy").run { genEnv X f with dst := dst, src := src } h = some (.frame f', h', w) ∧
      copyS (f.abs h) dst src = .ok (f'.abs h') ∧ PWF h' f' L ∧ UniqueNames h' f' ∧ f'.err = f.err := by
  rw [genOp_copy]
  cases hsrc : f.lookup h src with
  | none => rw [hsrc] at hs; cases hs
  | some cs =>
    obtain ⟨n, pos, a⟩ := setAt_exists h f dst
    exact ⟨_, _, _, copy_run { genEnv X f with dst := dst, src := src } h L wf cs hsrc a,
      copy_abs wf u dst src cs hsrc hne hleg a,
      set_wf wf a cs.col (wf.hasCol cs (List.mem_of_getElem? (wf.mapOk src cs hsrc).1)), set_unique wf u a cs.col, rfl⟩

/-- `Sort(orders…)` of today's source after its guards: the index is COPIED and the copy sorted; the result reads the rows
in the order the sorter left them, columns and name map are the receiver's. (That the sorter's order is a sorted
permutation is C03.) -/
theorem gen_sort_semantics (X : Ext) (h : Heap) (f : PFrame) (L : Nat) (wf : PWF h f L)
    (hperm : (X.sortFn (f.ixList h)).Perm (f.ixList h)) :
    ∃ f' h' w, (genOp "Sort").run (genEnv X f) h = some (.frame f', h', w) ∧
      f'.ixList h' = X.sortFn (f.ixList h) ∧ f'.colList h' = f.colList h ∧ (∀ k, f'.lookup h' k = f.lookup h k) ∧
      f'.abs h' = { cols := (f.colList h).map (lcol (X.sortFn (f.ixList h))), n := (f.abs h).n } ∧
      PWF h' f' L ∧ (UniqueNames h f → UniqueNames h' f') := by
  rw [genOp_sort]
  have hix := sort_ixList X h f wf.ixValid hperm.length_eq
  refine ⟨_, _, _, sort_run X (genEnv X f) h wf.ixValid rfl rfl hperm.length_eq, hix, rfl, fun _ => rfl, ?_, sort_wf X h f L wf hperm,
    fun u => u⟩
  show ({ cols := ((sortFrame h f).colList (sortHeap X h f)).map (lcol ((sortFrame h f).ixList (sortHeap X h f))),
          n := ((sortFrame h f).ixList (sortHeap X h f)).length } : LFrame) = _
  rw [hix, hperm.length_eq]; rfl

/-- `Distinct(…)` of today's source after its guards: a fresh index holding the first row of every occupied entry of the
table in table order; columns and name map are the receiver's. (That the table has one entry per key class is C04/C05.) -/
theorem gen_distinct_semantics (X : Ext) (h : Heap) (f : PFrame) (L : Nat) (wf : PWF h f L)
    (hrows : ∀ p, p ∈ firsts (X.table (f.ixList h)).1 → p ∈ f.ixList h) :
    ∃ f' h' w, (genOp "Distinct").run (genEnv X f) h = some (.frame f', h', w) ∧
      f'.ixList h' = firsts (X.table (f.ixList h)).1 ∧ f'.colList h' = f.colList h ∧
      (∀ k, f'.lookup h' k = f.lookup h k) ∧ PWF h' f' L ∧ (UniqueNames h f → UniqueNames h' f') := by
  rw [genOp_distinct]
  obtain ⟨r, h', w, e1, e2, e3, e4, e5, e6⟩ := distinct_run X (genEnv X f) h rfl
  have hf : (genEnv X f).f = f := rfl
  rw [hf] at e1 e3
  have ec : ({ f with index := r } : PFrame).colList h' = f.colList h := by
    simp only [PFrame.colList, Heap.colWin, Heap.colArr, e4]
  refine ⟨_, h', w, e1, e3, ec, fun k => ?_, wf_reindex wf r e4 e5 e2 fun p hp => ?_, fun u => ?_⟩
  · simp only [PFrame.lookup, Heap.mapGet, Heap.mapOf, Heap.mapArr, e5]
  · rw [e3] at hp; exact wf.ixLt p (hrows p hp)
  · simp only [UniqueNames, ec]; exact u


/-- **The index and column-list work of today's `Slice` / `Select` / `Drop` / `Copy` is the spec's.** For every heap, every
physical frame on it that is well-formed (`PWF`: headers inside their arrays, `pos` = place, the name map holds exactly the
listed columns, row numbers in range) with pairwise different column names, and every request the guards let through: the
term extracted from today's source has a value, the logical frame of the frame it returns is what `sliceS` / `selectS` /
`dropS` / `copyS` compute on the logical frame of the receiver, and the result is again well-formed with pairwise
different names (`Select`: if the requested names are). -/
theorem gen_project_semantics (X : Ext) (h : Heap) (f : PFrame) (L : Nat) (wf : PWF h f L) (u : UniqueNames h f) :
    (∀ a b : Int, 0 ≤ a → a ≤ b → b ≤ (f.index.len : Int) →
      ∃ f' h' w, (genOp "Slice").run { genEnv X f with start := a, stop := b } h = some (.frame f', h', w) ∧
        sliceS (f.abs h) a b = .ok (f'.abs h') ∧ PWF h' f' L ∧ UniqueNames h' f') ∧
    (∀ names : List Bytes, (∀ x, x ∈ names → (f.lookup h x).isSome = true) →
      ∃ f' h' w, (genOp "Select").run { genEnv X f with names := names } h = some (.frame f', h', w) ∧
        selectS (f.abs h) names = .ok (f'.abs h') ∧ PWF h' f' L ∧ (names.Nodup → UniqueNames h' f')) ∧
    (f.err = false → ∀ names : List Bytes, names ≠ [] → (∀ x, x ∈ names → (f.lookup h x).isSome = true) →
      ∃ f' h' w, (genOp "Drop").run { genEnv X f with names := names } h = some (.frame f', h', w) ∧
        dropS (f.abs h) names = .ok (f'.abs h') ∧ PWF h' f' L ∧ UniqueNames h' f') ∧
    (∀ dst src : Bytes, (f.lookup h src).isSome = true → dst ≠ src → legalName dst = true →
      ∃ f' h' w, (genOp "Copy").run { genEnv X f with dst := dst, src := src } h = some (.frame f', h', w) ∧
        copyS (f.abs h) dst src = .ok (f'.abs h') ∧ PWF h' f' L ∧ UniqueNames h' f') := by
  refine ⟨fun a b h0 hab hb => ?_, fun names hk => ?_, fun he names hne hk => ?_, fun dst src hs hne hl => ?_⟩
  · obtain ⟨f', e1, e2, e3, e4, _⟩ := gen_slice_semantics X h f L wf a b h0 hab hb
    exact ⟨f', h, [], e1, e2, e3, e4 u⟩
  · obtain ⟨f', h', w, e1, e2, e3, e4, _⟩ := gen_select_semantics X h f L wf u names hk
    exact ⟨f', h', w, e1, e2, e3, e4⟩
  · obtain ⟨f', h', w, e1, e2, e3, e4, _⟩ := gen_drop_semantics X h f L wf u he names hne hk
    exact ⟨f', h', w, e1, e2, e3, e4⟩
  · obtain ⟨f', h', w, e1, e2, e3, e4, _⟩ := gen_copy_semantics X h f L wf u dst src hs hne hl
    exact ⟨f', h', w, e1, e2, e3, e4⟩

/-- the guards' view and the logical frame agree: a name is known to the name map iff the logical frame has it, and
`Len()` is the number of logical rows -/
theorem gen_project_requests (h : Heap) (f : PFrame) (L : Nat) (wf : PWF h f L) :
    (∀ x, (f.abs h).has x = (f.lookup h x).isSome) ∧ (f.abs h).n = f.index.len :=
  ⟨abs_has wf, abs_n wf⟩

/-- **The functions of internal/index.** `Int.Copy` returns a NEW array holding the receiver's rows; `Int.Filter` a new
array with the rows whose flag is set, in order; `NewAscending(n)` a new array `0 … n-1`; `NewBool(n)` `n` times `false`;
the two `Len` the lengths. -/
theorem gen_index_semantics (h : Heap) (s : ISlice) (v : IValid h s) :
    ((genIx "Int.Copy").run { ixParam := s } h =
      some (.ix ⟨h.ixs.length, 0, s.len, s.len⟩, { h with ixs := h.ixs ++ [h.ixWin s] }, [⟨.ix, h.ixs.length⟩])) ∧
    (∀ bools : List Bool, s.id < h.ixs.length → bools.length ≤ s.len →
      ∃ r h' w, (genIx "Int.Filter").run { ixParam := s, bools := bools } h = some (.ix r, h', w) ∧ IValid h' r ∧
        h'.ixWin r = filt bools (h.ixWin s) ∧ h.ixs.length ≤ r.id ∧ h'.ixWin s = h.ixWin s) ∧
    (∀ n : Nat, ∃ w, (genIx "NewAscending").run { size := n } h =
      some (.ix ⟨h.ixs.length, 0, n, n⟩, { h with ixs := h.ixs ++ [List.range n] }, w)) ∧
    (∀ n : Nat, (genIx "NewBool").run { size := n } h = some (.bools (List.replicate n false), h, [])) ∧
    ((genIx "Int.Len").run { ixParam := s } h = some (.int s.len, h, [])) ∧
    (∀ bools : List Bool, (genIx "Bool.Len").run { bools := bools } h = some (.int bools.length, h, [])) := by
  refine ⟨?_, ?_, ?_, ?_, ?_, ?_⟩
  · rw [genIx_copy]; exact ixCopy_run _ h v
  · intro bools _ hlen
    rw [genIx_filter]
    obtain ⟨r, h', w, r1, r2, r3, r6, r7⟩ := ixFilter_run { ixParam := s, bools := bools } h v hlen
    exact ⟨r, h', w, r1, r2, r3, r6, ixWin_keeps r7 v⟩
  · intro n; rw [genIx_ascending]; exact ascending_run { size := n } h
  · intro n; rw [genIx_newBool]; rfl
  · rw [genIx_intLen]; rfl
  · intro bools; rw [genIx_boolLen]; rfl

/-- **Persistence (C01), read off the regenerated code.** Every term extracted today writes — statically: the target of
every `copy`, store, `append`, in-place sort and map assignment — only into slices and maps the function made itself, and
an index it returns is the one it made (`Sort` sorts the COPY of the index, `setColumn` fills a NEW column list and a NEW
map, `Select` builds new ones, the functions of internal/index write only their result). Hence, for every heap, every
receiver and all arguments for which it has a value: every logged write goes to an array allocated during the run, every
array that existed before has the same contents afterwards, and a returned index is fresh — provided the functions it
calls do the same, which today's do (`LibOK (genEnv X f)`). So every earlier frame observes what it observed before. -/
theorem gen_project_persistent :
    (∀ p ∈ Gen.projectAst ++ Gen.indexAst, p.2.ownOnly = true ∧ PFretsNew p.2 = true) ∧
    (∀ p ∈ Gen.projectAst ++ Gen.indexAst, ∀ (E : PIn) (h : Heap) (out : POut), LibOK E → p.2.run E h = some out →
      Persistent h out ∧ ∀ (g : PFrame) (L : Nat), PWF h g L → g.abs out.2.1 = g.abs h) ∧
    (∀ (X : Ext) (f : PFrame) (E : PIn), E.callIx = genCallIx X → E.callSelect = genSelect X f → LibOK E) := by
  have hs : ∀ p ∈ Gen.projectAst ++ Gen.indexAst, p.2.ownOnly = true ∧ PFretsNew p.2 = true := by
    intro p hp
    rcases List.mem_append.mp hp with h1 | h1
    · exact gen_own_only.1 p h1
    · exact gen_own_only.2.1 p h1
  refine ⟨hs, fun p hp E h out lib e => ?_, fun X f E h1 h2 => genEnv_ok X f E h1 h2⟩
  have pr := run_persistent E lib p.2 (hs p hp).1 (hs p hp).2 h out e
  exact ⟨pr, fun g L wf => (observation_kept pr.keep wf).1⟩


/-! ## Guards and work together: the whole operations on ALL requests -/

/-- the result of a whole operation against the spec's: the spec's frame without error, or — where the spec rejects — the
receiver's content with an error -/
def Agrees (h : Heap) (f : PFrame) (spec : Res) (o : Option POut) : Prop :=
  ∃ f' h' w, o = some (.frame f', h', w) ∧
    match spec with
    | .ok l => f'.err = false ∧ f'.abs h' = l
    | .err => f'.err = true ∧ f'.abs h' = f.abs h ∧ h' = h

theorem helper_err (E : PIn) (h : Heap) :
    (genHelper "(error) → frame").eval { E with errParam := true } { h := h } =
      some (.frame { E.f with err := true }, h, []) := by
  have e : genHelper "(error) → frame" = .frame .recv .recv .recv .param := by rw [genHelper_eq]; rfl
  rw [e]; rfl

/-- what the guard of `Select` / `Drop` tests on the name map is what the spec tests on the logical frame -/
theorem known_or_unknown {h : Heap} {f : PFrame} {L : Nat} (wf : PWF h f L) (names : List Bytes) :
    (names.any (fun n => !(f.lookup h n).isSome) = true ∧ ∃ n ∈ names, (f.abs h).has n = false) ∨
    (names.any (fun n => !(f.lookup h n).isSome) = false ∧ ∀ x, x ∈ names → (f.lookup h x).isSome = true) := by
  cases hbad : names.any (fun n => !(f.lookup h n).isSome) with
  | true =>
    obtain ⟨x, hx, hxn⟩ := List.any_eq_true.mp hbad
    exact Or.inl ⟨rfl, x, hx, by rw [abs_has wf]; simpa using hxn⟩
  | false =>
    refine Or.inr ⟨rfl, fun x hx => ?_⟩
    have := List.any_eq_false.mp hbad x hx
    cases hv : (f.lookup h x).isSome with
    | true => rfl
    | false => rw [hv] at this; exact absurd rfl this

/-- What a whole operation (guard chain, then work) does with a request, against the spec's answer `spec`: it is REJECTED —
the spec says `.err`, the receiver comes back with the error set, same heap, nothing written — or DONE — the result is
well-formed (pairwise different names if `uniq`), carries no error and its logical frame is the spec's. `rejected` carries
`wf`, `u` of the RECEIVER: the result is the receiver with `err` set, so they hold of it too (`C08ProjectIff.Whole.endToEnd`). -/
inductive Whole (h : Heap) (f : PFrame) (L : Nat) (uniq : Prop) : Res → Option POut → Prop
  | rejected {o : Option POut} (wf : PWF h f L) (u : UniqueNames h f)
      (ho : o = some (.frame { f with err := true }, h, [])) : Whole h f L uniq .err o
  | done {o : Option POut} {spec : Res} {f' : PFrame} {h' : Heap} {w : List Wr} (ho : o = some (.frame f', h', w))
      (hs : spec = .ok (f'.abs h')) (wf' : PWF h' f' L) (hu : uniq → UniqueNames h' f') (he : f'.err = false) :
      Whole h f L uniq spec o

theorem Whole.agrees {h : Heap} {f : PFrame} {L : Nat} {uniq : Prop} {spec : Res} {o : Option POut}
    (e : Whole h f L uniq spec o) : Agrees h f spec o := by
  cases e with
  | rejected wf u ho => exact ⟨_, h, [], ho, rfl, rfl, rfl⟩
  | done ho hs wf' hu he => subst hs; exact ⟨_, _, _, ho, he, rfl⟩

theorem slice_whole (X : Ext) (h : Heap) (f : PFrame) (L : Nat) (wf : PWF h f L) (u : UniqueNames h f)
    (he : f.err = false) (a b : Int) :
    Whole h f L True (sliceS (f.abs h) a b)
      (genFull "Slice" { physReq h f with start := a, stop := b } { genEnv X f with start := a, stop := b } h) := by
  simp only [genFull, C08Guards.gen_slice_outcome, C08Guards.sliceOutcome, physReq, he, Bool.false_eq_true, ↓reduceIte]
  by_cases hbad : a < 0 ∨ b < a ∨ (f.index.len : Int) < b
  · rw [if_pos hbad, (C10Sticky.sliceS_err_iff _ a b).2 (by rw [abs_n wf]; omega)]
    exact .rejected wf u (helper_err _ h)
  · rw [if_neg hbad]
    obtain ⟨f', e1, e2, e3, e4, e5⟩ := gen_slice_semantics X h f L wf a b (by omega) (by omega) (by omega)
    exact .done e1 e2 e3 (fun _ => e4 u) (e5.trans he)

theorem select_whole (X : Ext) (h : Heap) (f : PFrame) (L : Nat) (wf : PWF h f L) (u : UniqueNames h f)
    (he : f.err = false) (names : List Bytes) :
    Whole h f L names.Nodup (selectS (f.abs h) names)
      (genFull "Select" { physReq h f with columns := names } { genEnv X f with names := names } h) := by
  simp only [genFull, C08Guards.gen_select_outcome, C08Guards.selectOutcome, physReq, he, Bool.false_eq_true, ↓reduceIte]
  rcases known_or_unknown wf names with ⟨hbad, hx⟩ | ⟨hbad, hk⟩
  · rw [hbad, (C10Sticky.selectS_err_iff _ names).2 hx]
    exact .rejected wf u (helper_err _ h)
  · obtain ⟨f', h', w, e1, e2, e3, e4, e5⟩ := gen_select_semantics X h f L wf u names hk
    rw [hbad]
    exact .done e1 e2 e3 e4 e5

theorem drop_whole (X : Ext) (h : Heap) (f : PFrame) (L : Nat) (wf : PWF h f L) (u : UniqueNames h f)
    (he : f.err = false) (names : List Bytes) :
    Whole h f L True (dropS (f.abs h) names)
      (genFull "Drop" { physReq h f with columns := names } { genEnv X f with names := names } h) := by
  simp only [genFull, C08Guards.gen_drop_outcome, C08Guards.dropOutcome, physReq, he, Bool.false_or]
  cases names with
  | nil =>
    exact .done (f' := f) rfl (by simp [dropS]) wf (fun _ => u) he
  | cons n ns =>
    rw [if_neg (by simp)]
    rcases known_or_unknown wf (n :: ns) with ⟨hbad, hx⟩ | ⟨hbad, hk⟩
    · rw [hbad, (C10Sticky.dropS_err_iff _ _).2 hx]
      exact .rejected wf u (helper_err _ h)
    · obtain ⟨f', h', w, e1, e2, e3, e4, e5⟩ := gen_drop_semantics X h f L wf u he (n :: ns) (List.cons_ne_nil _ _) hk
      rw [hbad]
      exact .done e1 e2 e3 (fun _ => e4) e5

theorem copy_whole (X : Ext) (h : Heap) (f : PFrame) (L : Nat) (wf : PWF h f L) (u : UniqueNames h f)
    (he : f.err = false) (dst src : Bytes) :
    Whole h f L True (copyS (f.abs h) dst src)
      (genFull "Copy" { physReq h f with dst := dst, src := src } { genEnv X f with dst := dst, src := src } h) := by
  simp only [genFull, C08Guards.gen_copy_outcome, C08Guards.copyOutcome, physReq, he, Bool.false_eq_true, ↓reduceIte]
  cases hsrc : (f.lookup h src).isSome with
  | false =>
    rw [(C10Sticky.copyS_err_iff _ dst src).2 (Or.inl (by rw [abs_has wf, hsrc]))]
    exact .rejected wf u (helper_err _ h)
  | true =>
    simp only [Bool.not_true, Bool.false_eq_true, ↓reduceIte]
    by_cases hsame : dst = src
    · subst hsame
      obtain ⟨cs, hcs⟩ := Option.isSome_iff_exists.mp hsrc
      simp only [beq_self_eq_true, ↓reduceIte]
      exact .done (f' := f) rfl (by simp [copyS, abs_find_known wf u hcs]) wf (fun _ => u) he
    · have hb : (dst == src) = false := by simpa using hsame
      simp only [hb, Bool.false_eq_true, ↓reduceIte]
      cases hleg : legalName dst with
      | false =>
        rw [(C10Sticky.copyS_err_iff _ dst src).2 (Or.inr ⟨hsame, hleg⟩)]
        exact .rejected wf u (helper_err _ h)
      | true =>
        obtain ⟨f', h', w, e1, e2, e3, e4, e5⟩ := gen_copy_semantics X h f L wf u dst src hsrc hsame hleg
        exact .done e1 e2 e3 (fun _ => e4) (e5.trans he)

/-- **`Slice`, `Select`, `Drop`, `Copy` of today's source as a whole** — the guard chain `QF.Gen.guardAst` followed by the
work `QF.Gen.projectAst` — on a well-formed frame without error and with pairwise different column names, for ALL
arguments: where the spec says `.err` the frame comes back with an error and unchanged content, otherwise the logical
frame of the result is exactly the spec's. -/
theorem gen_project_total (X : Ext) (h : Heap) (f : PFrame) (L : Nat) (wf : PWF h f L) (u : UniqueNames h f)
    (he : f.err = false) :
    (∀ a b : Int, Agrees h f (sliceS (f.abs h) a b)
      (genFull "Slice" { physReq h f with start := a, stop := b } { genEnv X f with start := a, stop := b } h)) ∧
    (∀ names : List Bytes, Agrees h f (selectS (f.abs h) names)
      (genFull "Select" { physReq h f with columns := names } { genEnv X f with names := names } h)) ∧
    (∀ names : List Bytes, Agrees h f (dropS (f.abs h) names)
      (genFull "Drop" { physReq h f with columns := names } { genEnv X f with names := names } h)) ∧
    (∀ dst src : Bytes, Agrees h f (copyS (f.abs h) dst src)
      (genFull "Copy" { physReq h f with dst := dst, src := src } { genEnv X f with dst := dst, src := src } h)) :=
  ⟨fun a b => (slice_whole X h f L wf u he a b).agrees, fun ns => (select_whole X h f L wf u he ns).agrees,
   fun ns => (drop_whole X h f L wf u he ns).agrees, fun d s => (copy_whole X h f L wf u he d s).agrees⟩


set_option linter.unusedVariables false in
/-- a frame that carries an error comes back as it is, whatever the arguments (of `q` only `hasErr` is looked at: that `q` is
`physReq h f` for the rest is the caller's to supply; `X` plays no part) -/
theorem gen_project_sticky (X : Ext) (h : Heap) (f : PFrame) (he : f.err = true) (q : GReq) (E : PIn) (hE : E.f = f)
    (hq : q.hasErr = f.err) :
    genFull "Slice" q E h = some (.frame f, h, []) ∧ genFull "Select" q E h = some (.frame f, h, []) ∧
    genFull "Drop" q E h = some (.frame f, h, []) ∧ genFull "Copy" q E h = some (.frame f, h, []) := by
  rw [he] at hq
  simp [genFull, C08Guards.gen_slice_outcome, C08Guards.sliceOutcome, C08Guards.gen_select_outcome,
    C08Guards.selectOutcome, C08Guards.gen_drop_outcome, C08Guards.dropOutcome, C08Guards.gen_copy_outcome,
    C08Guards.copyOutcome, hq, hE]


/-! ## A concrete instance: the hypotheses are satisfiable, the terms compute -/

def exA : NCol := ⟨[97], 0, some ⟨.int, [], false, #[.int 10, .int 11, .int 12]⟩⟩
def exB : NCol := ⟨[98], 1, some ⟨.bool, [], false, #[.bool true, .bool false, .bool true]⟩⟩
/-- two columns `a`, `b` of physical length 3, rows in the order 2, 0, 1 -/
def exH : Heap := { ixs := [[2, 0, 1]], colss := [[exA, exB]], maps := [[([97], exA), ([98], exB)]] }
def exF : PFrame := ⟨⟨0, 2, 2⟩, some 0, ⟨0, 0, 3, 3⟩, false⟩
def exX : Ext := { sortFn := fun l => l.reverse, table := fun l => (l.map (fun p => (p != 0, p)), 2) }

theorem exF_wf : PWF exH exF 3 := by
  constructor
  · exact ⟨by decide, by decide⟩
  · decide
  · intro id hid; cases hid; decide
  · intro i c hc
    match i with
    | 0 => simp [PFrame.colList, Heap.colWin, Heap.colArr, exF, exH] at hc; subst hc; rfl
    | 1 => simp [PFrame.colList, Heap.colWin, Heap.colArr, exF, exH] at hc; subst hc; rfl
    | i + 2 => simp [PFrame.colList, Heap.colWin, Heap.colArr, exF, exH] at hc
  · intro n c hc
    simp only [PFrame.lookup, Heap.mapGet, Heap.mapOf, Heap.mapArr, exF, exH, List.getD_cons_zero, List.lookup] at hc
    split at hc
    · rename_i hn
      cases hc
      have : n = [97] := by simpa using hn
      subst this
      exact ⟨rfl, rfl⟩
    · split at hc
      · rename_i hn
        cases hc
        have : n = [98] := by simpa using hn
        subst this
        exact ⟨rfl, rfl⟩
      · cases hc
  · intro c hc
    simp only [PFrame.colList, Heap.colWin, Heap.colArr, exF, exH, List.getD_cons_zero, List.take, List.mem_cons,
      List.not_mem_nil, or_false] at hc
    rcases hc with h | h <;> subst h <;> rfl
  · intro c hc
    simp only [PFrame.colList, Heap.colWin, Heap.colArr, exF, exH, List.getD_cons_zero, List.take, List.mem_cons,
      List.not_mem_nil, or_false] at hc
    rcases hc with h | h <;> subst h
    · exact ⟨_, rfl, rfl⟩
    · exact ⟨_, rfl, rfl⟩
  · intro p hp
    simp only [PFrame.ixList, Heap.ixWin, Heap.ixArr, exF, exH, List.getD_cons_zero, List.drop, List.take, List.mem_cons,
      List.not_mem_nil, or_false] at hp
    omega

theorem exF_unique : UniqueNames exH exF := by
  show ((exF.colList exH).map (·.name)).Nodup
  decide +kernel


/-- the names of the columns of a result and the cells it shows, row by row -/
def shown (o : Option POut) : Option (List (Bytes × List Cell)) :=
  match o with
  | some (.frame f, h, _) => some ((f.abs h).cols.map fun c => (c.name, c.cells.toList))
  | _ => none

def writes (o : Option POut) : Option (List Wr) := o.map (·.2.2)

/-- hypotheses of `gen_project_semantics` -/
example : PWF exH exF 3 ∧ UniqueNames exH exF := ⟨exF_wf, exF_unique⟩
example : shown ((genOp "Slice").run { genEnv exX exF with start := 1, stop := 3 } exH) =
    some [([97], [.int 10, .int 11]), ([98], [.bool true, .bool false])] := by decide +kernel
example : shown ((genOp "Select").run { genEnv exX exF with names := [[98], [97]] } exH) =
    some [([98], [.bool true, .bool true, .bool false]), ([97], [.int 12, .int 10, .int 11])] := by decide +kernel
example : shown ((genOp "Drop").run { genEnv exX exF with names := [[97]] } exH) =
    some [([98], [.bool true, .bool true, .bool false])] := by decide +kernel
example : shown ((genOp "Copy").run { genEnv exX exF with dst := [99], src := [97] } exH) =
    some [([97], [.int 12, .int 10, .int 11]), ([98], [.bool true, .bool true, .bool false]),
          ([99], [.int 12, .int 10, .int 11])] := by decide +kernel
example : shown ((genOp "Copy").run { genEnv exX exF with dst := [97], src := [98] } exH) =
    some [([97], [.bool true, .bool true, .bool false]), ([98], [.bool true, .bool true, .bool false])] := by
  decide +kernel
example : shown ((genOp "Sort").run (genEnv exX exF) exH) =
    some [([97], [.int 11, .int 10, .int 12]), ([98], [.bool false, .bool true, .bool true])] := by decide +kernel
example : shown ((genOp "Distinct").run (genEnv exX exF) exH) =
    some [([97], [.int 12, .int 11]), ([98], [.bool true, .bool false])] := by decide +kernel

/-! Every write of these runs goes to an array with an id the heap did not have (`exH` has one array of each kind). -/

example : writes ((genOp "Sort").run (genEnv exX exF) exH) = some [⟨.ix, 1⟩, ⟨.ix, 1⟩] := by decide +kernel
example : writes ((genOp "Copy").run { genEnv exX exF with dst := [99], src := [97] } exH) =
    some [⟨.cols, 1⟩, ⟨.map, 1⟩, ⟨.map, 1⟩, ⟨.cols, 1⟩] := by decide +kernel


/-! ## Witnesses: plausible mutations violate the statements -/

instance (h0 : Heap) (w : List Wr) : Decidable (OwnWrites h0 w) := by unfold OwnWrites; exact inferInstance

/-- do all writes of a run go to arrays the heap did not have? -/
def ownB (h0 : Heap) (o : Option POut) : Option Bool := o.map fun out => decide (OwnWrites h0 out.2.2)
/-- the rows frame `g` reads after a run -/
def rowsAfter (g : PFrame) (o : Option POut) : Option (List Nat) := o.map fun out => g.ixList out.2.1
/-- the column list frame `g` reads after a run -/
def colsAfter (g : PFrame) (o : Option POut) : Option (List Bytes) := o.map fun out => (g.colList out.2.1).map (·.name)

/-- `newF.columns = append(qf.columns, newS)` instead of `make` + `copy` (the "new column" branch of `setColumn`) -/
def setColumnAppendShared : PF :=
  .fork [.do (.lookup .a .recv .dst)] (.present .a)
    (setTail (.lenCols .recv) .param (.posOf (.reg .a)))
    [.do (.appendCol .recv (.mk .dst .param (.lenCols .recv))), .do .allocMap, .do (.copyMap .new .recv),
     .do (.mapPut .new .dst (.mk .dst .param (.lenCols .recv))), .ret (.frame .new .new .recv .recv)]

/-- a column list with spare capacity (what `append` leaves behind): two columns in an array of three -/
def exHcap : Heap := { exH with colss := [[exA, exB, NCol.zero]] }
def exFcap : PFrame := { exF with cols := ⟨0, 2, 3⟩ }

/-- the static check rejects it -/
example : setColumnAppendShared.ownOnly = false := by decide
def exGcap : PFrame := { exF with cols := ⟨0, 3, 3⟩ }
/-- on a list with spare capacity it writes into the receiver's array: the array that existed before has changed (the sibling
frame `exGcap`, which had appended its own third column onto the same array, now sees this one) -/
example : ownB exHcap (setColumnAppendShared.run { genEnv exX exFcap with dst := [99], colParam := exA.col } exHcap) =
      some false ∧
    (exGcap.colList exHcap).map (·.name) = [[97], [98], []] ∧
    colsAfter exGcap (setColumnAppendShared.run { genEnv exX exFcap with dst := [99], colParam := exA.col } exHcap) =
      some [[97], [98], [99]] := by decide +kernel

/-- `sorter := qfsort.New(qf.index, comparables)` — sorting the receiver's index in place, no copy -/
def sortInPlace : PF := .seq [.do (.sortIx .recv), .ret (.frame .recv .recv .recv .recv)]

example : sortInPlace.ownOnly = false := by decide
/-- … the receiver itself (and every frame sharing its index) shows other rows afterwards -/
example : ownB exH (sortInPlace.run (genEnv exX exF) exH) = some false ∧ exF.ixList exH = [2, 0, 1] ∧
    rowsAfter exF (sortInPlace.run (genEnv exX exF) exH) = some [1, 0, 2] := by decide +kernel
/-- today's term: the receiver reads the same rows afterwards -/
example : ownB exH ((genOp "Sort").run (genEnv exX exF) exH) = some true ∧
    rowsAfter exF ((genOp "Sort").run (genEnv exX exF) exH) = some [2, 0, 1] := by decide +kernel

/-- `Int.Copy` returning its receiver (`return ix`): the term does not return the slice it made, and with it as library
function today's `Sort` sorts the shared index -/
def ixCopyAlias : PF := .seq [.ret (.ix .param)]

example : PFretsNew ixCopyAlias = false := by decide
example : ownB exH (canonSort.run { genEnv exX exF with
      callIx := fun _ s h => ixResult (ixCopyAlias.run { ixParam := s } h) } exH) = some false ∧
    rowsAfter exF (canonSort.run { genEnv exX exF with
      callIx := fun _ s h => ixResult (ixCopyAlias.run { ixParam := s } h) } exH) = some [1, 0, 2] := by decide +kernel

/-- `newColumnsByName[col] = s` BEFORE `s.pos = i`: the new map holds the old positions -/
def selectOldPos : PF := .seq [
  .retIf (.noNames .requested) .emptyFrame,
  .do .allocMap,
  .do (.allocCols (.countNames .requested)),
  .forEachName .requested [.do (.lookup .a .recv .each), .do (.mapPut .new .each (.reg .a)), .do (.setPos .a .i),
    .do (.colStore .new .i (.reg .a))],
  .ret (.frame .new .new .recv .none)]

/-- persistence is not affected -/
example : selectOldPos.ownOnly = true := by decide
/-- the result of `Select("b", "a")` is not well-formed: the map says `b` is at place 1, where `a` is (the next `Copy` onto
`b` would overwrite `a`) -/
example : ∃ f' h' w, selectOldPos.run { genEnv exX exF with names := [[98], [97]] } exH = some (.frame f', h', w) ∧
    ¬ PWF h' f' 3 := by
  refine ⟨_, _, _, rfl, fun wf => ?_⟩
  have := (wf.mapOk [98] { exB with pos := 1 } (by decide +kernel)).1
  revert this
  decide +kernel

/-- `Select` that keeps the receiver's map (`columnsByName: qf.columnsByName`) -/
def selectSharedMap : PF := .seq [
  .retIf (.noNames .requested) .emptyFrame,
  .do (.allocCols (.countNames .requested)),
  .forEachName .requested [.do (.lookup .a .recv .each), .do (.setPos .a .i), .do (.colStore .new .i (.reg .a))],
  .ret (.frame .new .recv .recv .none)]

example : ∃ f' h' w, selectSharedMap.run { genEnv exX exF with names := [[98]] } exH = some (.frame f', h', w) ∧
    ¬ PWF h' f' 3 := by
  refine ⟨_, _, _, rfl, fun wf => ?_⟩
  have := (wf.mapOk [98] exB (by decide +kernel)).1
  revert this
  decide +kernel

/-- `qf.index[start:]` — the end of the slice ignored -/
def sliceNoEnd : PF := .seq [.ret (.frame .recv .recv (.slice .recv .start (.lenIx .recv)) .recv)]

example : shown (sliceNoEnd.run { genEnv exX exF with start := 0, stop := 1 } exH) =
      some [([97], [.int 12, .int 10, .int 11]), ([98], [.bool true, .bool true, .bool false])] ∧
    shown ((genOp "Slice").run { genEnv exX exF with start := 0, stop := 1 } exH) =
      some [([97], [.int 12]), ([98], [.bool true])] := by decide +kernel

/-- `Drop` with another test in its loop (`.present .a`, a register no statement of it binds): not today's term -/
def dropKeepsRequested : PF := .seq [
  .do .initNames,
  .forEachCol .recv [.when (.present .a) [.pushName (.nameOf .eachCol)]],
  .ret (.callSelect .kept)]

example : dropKeepsRequested ≠ canonDrop := by decide

/-- `setColumn` that always stores at `len(qf.columns)`, also when it overwrites: Go panics (index out of range), the term
has no value -/
def setColumnAlwaysLast : PF :=
  .fork [.do (.lookup .a .recv .dst)] (.present .a)
    (setTail (.lenCols .recv) .param (.lenCols .recv))
    (setTail (.add (.lenCols .recv) (.lit 1)) .param (.lenCols .recv))

example : setColumnAlwaysLast.run { genEnv exX exF with dst := [97], colParam := exB.col } exH = none := by decide +kernel

/-! ## Observation: frames with a repeated column name

`Select("a", "a", "b")` builds a frame in which two columns carry the name `a` (the spec does the same). On such a frame
the name map knows only the LAST of them, so code and spec part ways — `UniqueNames` in `gen_project_semantics` is needed:
`Copy("a", "b")` replaces only the second `a` (the spec's `setCol` replaces every column of that name); likewise `Select` /
`Drop` fetch the last `a` where the spec finds the first (not shown here). The real code behaves like the model:
`New({a:[1,2], b:[3,4]}).Select("a","a","b").Copy("a","b")` → `a=[1,2], a=[3,4], b=[3,4]`. -/

def dupA2 : NCol := { exA with pos := 1 }
def dupB : NCol := { exB with pos := 2 }
/-- the frame `New({a, b}).Select("a", "a", "b")` leaves -/
def dupH : Heap := { ixs := [[0, 1, 2]], colss := [[exA, dupA2, dupB]], maps := [[([98], dupB), ([97], dupA2), ([97], exA)]] }
def dupF : PFrame := ⟨⟨0, 3, 3⟩, some 0, ⟨0, 0, 3, 3⟩, false⟩

/-- the code: `[a = 10 11 12, a = t f t, b = t f t]`; the spec: both `a` replaced -/
theorem dup_names_witness :
    shown ((genOp "Copy").run { genEnv exX dupF with dst := [97], src := [98] } dupH) =
      some [([97], [.int 10, .int 11, .int 12]), ([97], [.bool true, .bool false, .bool true]),
            ([98], [.bool true, .bool false, .bool true])] ∧
    (match copyS (dupF.abs dupH) [97] [98] with
      | .ok l => some (l.cols.map fun c => (c.name, c.cells.toList))
      | .err => none) =
      some [([97], [.bool true, .bool false, .bool true]), ([97], [.bool true, .bool false, .bool true]),
            ([98], [.bool true, .bool false, .bool true])] := by
  decide +kernel


#print axioms gen_project_canon
#print axioms gen_project_no_opaque
#print axioms run_persistent
#print axioms gen_project_persistent
#print axioms gen_project_semantics
#print axioms gen_project_requests
#print axioms gen_project_total
#print axioms gen_project_sticky
#print axioms gen_slice_semantics
#print axioms gen_select_semantics
#print axioms gen_drop_semantics
#print axioms gen_copy_semantics
#print axioms gen_sort_semantics
#print axioms gen_distinct_semantics
#print axioms gen_index_semantics
#print axioms observation_kept
#print axioms dup_names_witness
#print axioms exF_wf

end QF.Props.C08ProjectGen
