import QF.Props.C04Aggregations
import QF.Props.C06LoopsGen
import QF.Core.ListFacts
/-!
# C04 — the group loops of Aggregate in today's source hand each group's cells, in order, to the function (tie T1)

`QF.Gen.aggregateAst`, `QF.Gen.subsetAst` and `QF.Gen.grouperTailAst` (QF/Gen/Loops.lean, regenerated on every run by
go/cmd/extract/last.go) hold, as terms of QF/Core/LExpr.lean (part B), `Column.Aggregate` and what `Column.Subset` returns
for each of the five column packages, and `Grouper.Aggregate` of /repo/grouper.go after its guards. The helpers between the
column and the aggregation function (`subsetWithBuf`, `stringSlice`, `stringAt`, `subset`) are executed symbolically by
the translator, with the callee's body inlined, whatever they are called; what is left is how the slice handed to the
function is made: how it starts (empty / of the group's length), how an element gets into it (appended / stored at the
position), which cell it is made of (the receiver's cell at the ROW, converted to the function's argument type).

Proved here, over the data generated TODAY:

* `gen_aggregate_no_opaque`        — everything was translated completely
* `gen_aggregate_canon`, `gen_subset_canon`, `gen_grouper_tail_canon` — today's terms ARE the canonical ones (finite `decide`)
* `canonAgg_run`                   — on PHYSICAL data, for every column type, every list of groups of rows and every function
                                     value: a `func([]T) T` on the element type (or a name of the package's `aggregations` map)
                                     is handed exactly the cells of the group's rows in the group's order, one result per
                                     group in group order; everything else is an error (`expectAgg`)
* `expectAgg_spec`                 — `expectAgg` with a function value of the catalogue is `aggApply` on every group's cells
* `gen_aggregate_loops_semantics`  — for the frame whose index is `ix0`, ALL well-typed column contents, all lists of
                                     non-empty groups and every aggregation of the catalogue but `"count"`: today's
                                     `Column.Aggregate` returns the column `groupAggS` builds with `aggApply` — with the
                                     built-ins regenerated as `Gen.aggAst` (C04Aggregations.builtin_entry) —, and an
                                     error exactly where `aggApply` is undefined
* `gen_first_rows`, `gen_subset_semantics`, `gen_subset_string` — the index of first rows; `Subset(index)` = the cells at the
                                     rows of the index, in order (int, float, bool, enum: an array of values, the enum
                                     keeping its value table and strictness; string: new pointers into a new byte blob,
                                     for every blob whose pointers stay inside it)
* `gen_key_columns_semantics`, `gen_key_columns_semantics_string` — the key column of the result holds, for every group, the
                                     key cell of the group's first row — the column `groupAggS` builds —, is stored at the
                                     position of its name among the grouped columns; the aggregations get the grouper's
                                     groups; the result's index is ascending over the number of groups

Witnesses at the end: a buffer of the group's length with the values appended (2n elements), the values taken at the
positions instead of the rows, the second row as key, an offset that is not advanced — each gives a different result.

Method as in C04Aggregations / C06LoopsGen. `"count"` is answered by `Grouper.Aggregate` itself
(`C04Aggregations.gen_agg_count`, `AE.len`). The packing of `qfstrings.Pointer` is not modelled here (a pointer IS the
triple offset / length / null flag; `pointer_roundtrip` of C08).
-/
namespace QF.Props.C04LoopsGen
open QF QF.Props.C02Kernels QF.Props.C06LoopsGen
open QF.Props.C04Aggregations (specNames entriesOf)

/-! ## Today's terms -/

def missingG : LGFn := { cases := [], dflt := .opaque "missing" }
def aggregateOf (ty : CType) : LGFn := (Gen.aggregateAst.lookup (pkgOf ty)).getD missingG
def subsetOf (ty : CType) : LGSub := (Gen.subsetAst.lookup (pkgOf ty)).getD (.opaque "missing")

theorem gen_aggregate_no_opaque :
    (∀ e ∈ Gen.aggregateAst, e.2.hasOpaque = false) ∧ (∀ e ∈ Gen.subsetAst, e.2.hasOpaque = false) ∧
    Gen.grouperTailAst.hasOpaque = false ∧
    Gen.aggregateAst.map (·.1) = tys.map pkgOf ∧ Gen.subsetAst.map (·.1) = tys.map pkgOf := by decide

/-! ## Canonical terms -/

/-- the slice handed to the aggregation function: the cells of the group's rows, in order. The string package fills an
array of the group's length by position (`stringSlice`), the others append to an empty one (`subsetWithBuf`,
`stringSlice` of ecolumn). -/
def sliceOf : CType → LGSlice
  | .string => { init := .full, write := .setAt .pos, i := .row, acc := accOf .string }
  | ty => { init := .empty, write := .append, i := .row, acc := accOf ty }

/-- the column types with built-in aggregations -/
def numeric : CType → Bool
  | .int | .float | .bool => true
  | _ => false

def canonAgg (ty : CType) : LGFn :=
  { cases := [(LSig.str, if numeric ty then LGCase.agg (.builtin (specNames ty)) .empty .append (sliceOf ty) .ownCol else .err),
              (LSig.aggFn (fkind ty) (fkind ty), LGCase.agg .user .empty .append (sliceOf ty) (ret2 ty))]
    dflt := .err }

/-- the string column: `pointers[i] = NewPointer(offset, p.Len(), p.IsNull())` for every row, and for the non-null ones
`data = append(data, c.data[p.Offset():p.Offset()+p.Len()]...); offset += p.Len()` -/
def canonBlob : LBlob :=
  { ptrInit := .full, dataInit := .empty, offInit := 0, cellAt := .row
    body := [(.always, .setPtr .pos .running .cellLen .cellNull), (.notNull, .appendBytes .cellOff .cellLen),
             (.notNull, .advance .cellLen)] }

def canonSub : CType → LGSub
  | .string => .blob canonBlob
  | .enum => .cells { init := .empty, write := .append, i := .row, acc := .entry } ["strict", "values"]
  | _ => .cells { init := .full, write := .setAt .pos, i := .row, acc := .entry } []

def canonTail : LGTail :=
  { firstInit := .full, firstWrite := .setAt .pos, firstRow := some 0, key := .subsetOfFirst,
    aggPassesGroups := true, indexAscending := true }

theorem gen_aggregate_canon : ∀ ty ∈ tys, aggregateOf ty = canonAgg ty := by decide
theorem gen_subset_canon : ∀ ty ∈ tys, subsetOf ty = canonSub ty := by decide
theorem gen_grouper_tail_canon : Gen.grouperTailAst = canonTail := by decide

/-! ## Arrays built in one loop -/

/-- `items` hold the values `vs`, in order, at the positions `k, k+1, …` (whatever the rows) -/
inductive Items {α : Type} : Nat → List α → List (Nat × Nat × α) → Prop
  | nil (k : Nat) : Items k [] []
  | cons {k : Nat} {vs : List α} {rest : List (Nat × Nat × α)} (r : Nat) (v : α) (h : Items (k + 1) vs rest) :
      Items k (v :: vs) ((k, r, v) :: rest)

theorem writeAll_append {α : Type} {k : Nat} {vs : List α} {items : List (Nat × Nat × α)} (h : Items k vs items) (l : List α) :
    lgWriteAll .append items l = .ok (l ++ vs) := by
  induction h generalizing l with
  | nil => simp [lgWriteAll]
  | cons r v _ ih => simp [lgWriteAll, ih]

theorem writeAll_setPos {α : Type} (z : α) {k : Nat} {vs : List α} {items : List (Nat × Nat × α)} (h : Items k vs items)
    (done : List α) (hk : done.length = k) :
    lgWriteAll (.setAt .pos) items (done ++ List.replicate items.length z) = .ok (done ++ vs) := by
  induction h generalizing done with
  | nil => simp [lgWriteAll]
  | @cons k vs rest r v _ ih =>
    subst hk
    have hlt : done.length < (done ++ List.replicate (rest.length + 1) z).length := by simp
    simp only [lgWriteAll, LIdx.of, List.length_cons, hlt, ↓reduceIte, ListFacts.set_append_replicate]
    rw [ih (done ++ [v]) (by simp)]
    simp

/-- the two ways today's source fills an array: appended to an empty one, or stored by position in one of full length -/
def Fills (init : LGInit) (write : LGWrite) : Prop := (init = .empty ∧ write = .append) ∨ (init = .full ∧ write = .setAt .pos)

/-- … and both give the values in loop order -/
theorem buildArr_vals {α : Type} (z : α) {init : LGInit} {write : LGWrite} {vs : List α} {items : List (Nat × Nat × α)}
    (hsh : Fills init write) (h : Items 0 vs items) : buildArr z init write items = .ok vs := by
  rcases hsh with ⟨rfl, rfl⟩ | ⟨rfl, rfl⟩
  · simp [buildArr, writeAll_append h]
  · simpa [buildArr] using writeAll_setPos z h [] rfl

/-! ## The slice of one group -/

/-- the slice term reads the receiver's cells at the rows, as they are, and fills the array in loop order -/
structure Reads (s : LGSlice) (P : PCol) : Prop where
  row : s.i = .row
  acc : ∀ x ∈ P.cells, s.acc.eval P.ty P.vals x = some x
  fills : Fills s.init s.write

theorem sliceItems_rows {P : PCol} {s : LGSlice} (hs : Reads s P) (k : Nat) (rows : List Nat)
    (hrows : ∀ r ∈ rows, r < P.cells.length) :
    ∃ items, sliceItems P s k rows = some items ∧ Items k (rows.map fun r => P.cells[r]!) items := by
  induction rows generalizing k with
  | nil => exact ⟨[], rfl, .nil k⟩
  | cons r rs ih =>
    have hr : r < P.cells.length := hrows r List.mem_cons_self
    have hx : P.cells[r]? = some (P.cells[r]!) := by simp [hr]
    have hm : P.cells[r]! ∈ P.cells := ListFacts.getElem!_mem hr
    obtain ⟨items, h1, h2⟩ := ih (k + 1) (fun r' h' => hrows r' (List.mem_cons_of_mem _ h'))
    exact ⟨_, by simp only [sliceItems, hs.row, LIdx.of, hx, hs.acc _ hm, h1, Option.map_some], .cons r _ h2⟩

/-- **the slice handed to the function holds the cells of the group's rows, in the group's order** -/
theorem slice_run {P : PCol} {s : LGSlice} (hs : Reads s P) (z : Cell) (grp : List Nat) (hrows : ∀ r ∈ grp, r < P.cells.length) :
    s.run P z grp = .ok (grp.map (fun r => P.cells[r]!)) := by
  obtain ⟨items, h1, h2⟩ := sliceItems_rows hs 0 grp hrows
  simp only [LGSlice.run, h1, buildArr_vals z hs.fills h2]

theorem sliceOf_ok (P : PCol) (hok : ColOk P) : Reads (sliceOf P.ty) P where
  row := by cases P.ty <;> rfl
  acc x hx := by
    rw [show (sliceOf P.ty).acc = accOf P.ty by cases P.ty <;> rfl]
    exact accOf_eval _ hok.1 _ _ (hok.2 x hx)
  fills := by cases P.ty <;> simp [sliceOf, Fills]

/-! ## One value per group -/

/-- the cells of a group, in the group's order -/
def cellsOf (P : PCol) (grp : List Nat) : List Cell := grp.map (fun r => P.cells[r]!)

/-- the loop over the groups: the function on every group, in group order (`none`: it panics on one of them), at the
positions `k, k+1, …` -/
theorem aggVals_items (F : List Cell → Option Cell) (s : LGSlice) (P : PCol) (z : Cell) (k : Nat) (groups : List (List Nat))
    (hs : ∀ g ∈ groups, s.run P z g = .ok (cellsOf P g)) :
    match groups.mapM fun g => F (cellsOf P g) with
    | some vs => ∃ items, aggVals F s P z k groups = .ok items ∧ Items k vs items
    | none => aggVals F s P z k groups = .panic := by
  induction groups generalizing k with
  | nil => exact ⟨[], rfl, .nil k⟩
  | cons g gs ih =>
    have := ih (k + 1) (fun g' h' => hs g' (List.mem_cons_of_mem _ h'))
    simp only [aggVals, hs g List.mem_cons_self, ListFacts.mapM_cons_opt]
    cases F (cellsOf P g) with
    | none => rfl
    | some v =>
      cases hm : gs.mapM fun g => F (cellsOf P g) with
      | none => rw [hm] at this; simp only [Option.bind_some, Option.map_none] at this ⊢; rw [this]
      | some vs =>
        rw [hm] at this
        obtain ⟨items, h1, h2⟩ := this
        exact ⟨_, by simp only [h1], .cons k v h2⟩

/-- a canonical case: the values of all groups in group order, or a panic of the function -/
theorem agg_run (E : LGEnv) (z : Cell) (src : LGSrc) (s : LGSlice) (ret : LRet) (F : List Cell → Option Cell)
    (hF : src.pick E = some (some F)) (hs : ∀ g ∈ E.groups, s.run E.recv z g = .ok (cellsOf E.recv g)) :
    (LGCase.agg src .empty .append s ret).run E z =
      match E.groups.mapM fun g => F (cellsOf E.recv g) with
      | some vs => .col ret vs
      | none => .panic := by
  have h := aggVals_items F s E.recv z 0 E.groups hs
  simp only [LGCase.run, hF]
  cases hm : E.groups.mapM fun g => F (cellsOf E.recv g) with
  | none => rw [hm] at h; simp only [h]
  | some vs =>
    rw [hm] at h
    obtain ⟨items, h1, h2⟩ := h
    simp only [h1, buildArr_vals z (.inl ⟨rfl, rfl⟩) h2]

/-! ## `Column.Aggregate` -/

/-- What `Column.Aggregate` of a column of type `ty` must do: a `func([]T) T` on the column's element type is handed the
cells of every group, in the group's order, one result per group in group order; a name of the package's `aggregations`
map (int, float, bool columns) likewise with the map's function — `none` from it: Go panics —; every other name and every
other function value is an error. -/
def expectAgg (ty : CType) (E : LGEnv) : LGOut :=
  match E.fn with
  | .aggFn a r g =>
    if a = fkind ty ∧ r = fkind ty then .col (ret2 ty) (E.groups.map (fun grp => g (cellsOf E.recv grp))) else .err
  | .name s =>
    if numeric ty = true ∧ s ∈ specNames ty then
      match E.builtin s with
      | some F =>
        match E.groups.mapM fun g => F (cellsOf E.recv g) with
        | some vs => .col .ownCol vs
        | none => .panic
      | none => .stuck
    else .err
  | .other _ => .err

/-- a value of another dynamic type is not one of the two the switch knows -/
def LGVal.Wf : LGVal → Prop
  | .other sig => (∀ a r, sig ≠ .aggFn a r) ∧ sig ≠ .str
  | _ => True

theorem canonAgg_run (E : LGEnv) (hwf : LGVal.Wf E.fn) (hok : ColOk E.recv)
    (hrows : ∀ g ∈ E.groups, ∀ r ∈ g, r < E.recv.cells.length) :
    (canonAgg E.recv.ty).run E (zeroCell (fkind E.recv.ty)) = expectAgg E.recv.ty E := by
  have hs : ∀ g ∈ E.groups, (sliceOf E.recv.ty).run E.recv (zeroCell (fkind E.recv.ty)) g = .ok (cellsOf E.recv g) :=
    fun g hg => slice_run (sliceOf_ok E.recv hok) _ g (hrows g hg)
  unfold LGFn.run expectAgg
  cases hfn : E.fn with
  | aggFn a r g =>
    by_cases h : a = fkind E.recv.ty ∧ r = fkind E.recv.ty
    · obtain ⟨rfl, rfl⟩ := h
      simp only [canonAgg, LGVal.sig, List.find?_cons]
      have e1 : (LSig.str == LSig.aggFn (fkind E.recv.ty) (fkind E.recv.ty)) = false := by simp
      rw [e1]
      simp only [beq_self_eq_true, and_self, ↓reduceIte]
      rw [agg_run E _ .user _ _ (fun l => some (g l)) (by simp [LGSrc.pick, hfn]) hs,
        ListFacts.mapM_eq_some_map (fun grp => g (cellsOf E.recv grp)) fun _ _ => rfl]
    · have e1 : (LSig.str == LSig.aggFn a r) = false := by simp
      have e2 : (LSig.aggFn (fkind E.recv.ty) (fkind E.recv.ty) == LSig.aggFn a r) = false := by
        simpa using fun x y => h ⟨x.symm, y.symm⟩
      simp only [canonAgg, LGVal.sig, List.find?_cons, e1, e2, List.find?_nil, if_neg h]
      rfl
  | name s =>
    simp only [canonAgg, LGVal.sig, List.find?_cons, beq_self_eq_true]
    cases hnum : numeric E.recv.ty with
    | false => simp [LGCase.run]
    | true =>
      simp only [↓reduceIte, true_and]
      by_cases hmem : s ∈ specNames E.recv.ty
      · simp only [hmem, ↓reduceIte]
        cases hb : E.builtin s with
        | none => simp [LGCase.run, LGSrc.pick, hfn, hmem, hb]
        | some F =>
          rw [agg_run E _ (.builtin (specNames E.recv.ty)) _ _ F (by simp [LGSrc.pick, hfn, hmem, hb]) hs]
      · simp [LGCase.run, LGSrc.pick, hfn, hmem]
  | other sig =>
    rw [hfn] at hwf
    obtain ⟨h1, h2⟩ := hwf
    have e1 : (LSig.str == sig) = false := by simpa using fun e => h2 e.symm
    have e2 : (LSig.aggFn (fkind E.recv.ty) (fkind E.recv.ty) == sig) = false := by simpa using fun e => h1 _ _ e.symm
    simp only [canonAgg, LGVal.sig, List.find?_cons, e1, e2, List.find?_nil]
    rfl

/-! ## The spec: `aggApply` on the groups of the frame whose index is `ix0` -/

/-- the map of built-in aggregations of a column package, with today's terms as functions -/
def pkgBuiltin (ty : CType) (name : String) : Option (List Cell → Option Cell) :=
  ((entriesOf Gen.aggAst (pkgOf ty)).lookup name).map (fun t vs => t.eval ty vs)

/-- the Go value of the function field of an aggregation on a column of type `ty` (the catalogue of QF/Spec/Ops.lean is
defined identically in the harness): a built-in by its name; a user function of the catalogue is a `func([]T) R` -/
def goAggVal (afn : AggFn) (ty : CType) : LGVal :=
  match afn with
  | .builtin name => .name name
  | .user id =>
    match aggApply (.user id) ty with
    | some (rt, g) => .aggFn (fkind ty) rt g
    | none => .other (.other "")

theorem pkgOf_eq : C03Compare.pkgOf = pkgOf := by funext t; cases t <;> rfl
theorem aggApply_user_rt {id : String} {ty rt : CType} {g : List Cell → Cell} (h : aggApply (.user id) ty = some (rt, g)) :
    rt = fkind ty :=
  ((C04Aggregations.aggApply_some h).resolve_left nofun).1

theorem mem_specNames_fkind {ty : CType} {n : String} (h : n ∈ specNames (fkind ty)) :
    numeric ty = true ∧ n ∈ specNames ty := by
  cases ty <;> first | exact ⟨rfl, h⟩ | cases h

theorem cellType_of_ok {ty : CType} (hn : numeric ty = true) {vals : List Bytes} {x : Cell} (h : cellOk ty vals x = true) :
    cellType x = ty := by
  unfold cellOk at h
  cases ty <;> cases x <;> simp_all [numeric, cellVal, cellType]

theorem goAggVal_wf (afn : AggFn) (ty : CType) : LGVal.Wf (goAggVal afn ty) := by
  cases afn with
  | builtin n => trivial
  | user id =>
    simp only [goAggVal]
    cases aggApply (.user id) ty with
    | none => exact ⟨nofun, nofun⟩
    | some t => trivial

/-- `expectAgg` with the function value of an aggregation of the catalogue other than `"count"` is the spec's `aggApply`
on the cells of every group: the user's function as it is, a built-in through `builtin_entry` (a group is not empty
and holds cells of the column's type), and an error exactly where `aggApply` is undefined. -/
theorem expectAgg_spec (P : PCol) (hok : ColOk P) (groups : List (List Nat)) (hne : ∀ g ∈ groups, g ≠ [])
    (hrows : ∀ g ∈ groups, ∀ r ∈ g, r < P.cells.length) (afn : AggFn) (hcount : afn ≠ .builtin "count") :
    expectAgg P.ty { recv := P, groups := groups, fn := goAggVal afn P.ty, builtin := pkgBuiltin P.ty } =
      match aggApply afn P.ty with
      | some (_, g) => .col (ret2 P.ty) (groups.map (fun grp => g (cellsOf P grp)))
      | none => .err := by
  cases afn with
  | user id =>
    cases h : aggApply (.user id) P.ty with
    | none => simp only [expectAgg, goAggVal, h]
    | some t =>
      obtain ⟨rt, g⟩ := t
      simp only [expectAgg, goAggVal, h, aggApply_user_rt h, and_self, if_true]
  | builtin name =>
    have hnc : name ≠ "count" := fun e => hcount (e ▸ rfl)
    simp only [expectAgg, goAggVal]
    by_cases hmem : numeric P.ty = true ∧ name ∈ specNames P.ty
    · rw [if_pos hmem]
      have hret : ret2 P.ty = .ownCol := by
        have := hmem.1
        cases hp : P.ty <;> simp_all [numeric, ret2]
      -- the name is in the package's map, and its term computes the spec's function on every group
      obtain ⟨t, rt, g, ht, hag, hev⟩ := C04Aggregations.builtin_entry P.ty hok.1 name hmem.2
      rw [pkgOf_eq] at ht
      have hval : ∀ grp ∈ groups, t.eval P.ty (cellsOf P grp) = some (g (cellsOf P grp)) := fun grp hg =>
        hev _ (fun e => hne grp hg (List.map_eq_nil_iff.mp e)) fun v hv => by
          obtain ⟨r, hr, rfl⟩ := List.mem_map.mp hv
          exact cellType_of_ok hmem.1 (hok.get (hrows grp hg r hr)).2
      simp only [pkgBuiltin, ht, Option.map_some, hag, ListFacts.mapM_eq_some_map (fun grp => g (cellsOf P grp)) hval, hret]
    · rw [if_neg hmem]
      cases hag : aggApply (.builtin name) P.ty with
      | none => rfl
      | some t =>
        rcases C04Aggregations.aggApply_some hag with e | ⟨_, hn⟩
        · exact absurd (AggFn.builtin.inj e) hnc
        · exact absurd (mem_specNames_fkind (hn name rfl)) hmem

/-! ## Groups of rows of the frame as groups of physical rows -/

/-- the physical groups of logical groups: row `r` of the frame is physical row `ix0[r]` -/
def physGroups (ix0 : List Nat) (gs : List (List Nat)) : List (List Nat) := gs.map (fun g => g.map (fun r => ix0[r]!))

theorem get!_lt {ix0 : List Nat} {L r : Nat} (h0 : ∀ p ∈ ix0, p < L) (hr : r < ix0.length) : ix0[r]! < L :=
  h0 _ (ListFacts.getElem!_mem hr)

theorem head_phys (ix0 : List Nat) (g : List Nat) (hne : g ≠ []) : (g.map (fun r => ix0[r]!)).head! = ix0[g.head!]! := by
  cases g with
  | nil => exact absurd rfl hne
  | cons r rs => rfl

section Phys
variable {ix0 : List Nat} {gs : List (List Nat)} (hgs : ∀ g ∈ gs, g ≠ [] ∧ ∀ r ∈ g, r < ix0.length)
include hgs

theorem phys_nonempty : ∀ g ∈ physGroups ix0 gs, g ≠ [] := by
  intro g hg
  obtain ⟨g', hg', rfl⟩ := List.mem_map.mp hg
  exact fun e => (hgs g' hg').1 (List.map_eq_nil_iff.mp e)

theorem phys_rows {L : Nat} (h0 : ∀ p ∈ ix0, p < L) : ∀ g ∈ physGroups ix0 gs, ∀ r ∈ g, r < L := by
  intro g hg r hr
  obtain ⟨g', hg', rfl⟩ := List.mem_map.mp hg
  obtain ⟨r', hr', rfl⟩ := List.mem_map.mp hr
  exact get!_lt h0 ((hgs g' hg').2 r' hr')

theorem head_lt : ∀ g ∈ gs, g.head! < ix0.length := by
  intro g hg
  obtain ⟨hn, hr⟩ := hgs g hg
  cases g with
  | nil => exact absurd rfl hn
  | cons a as => exact hr a List.mem_cons_self

theorem phys_heads : (physGroups ix0 gs).map (·.head!) = gs.map (fun g => ix0[g.head!]!) := by
  simp only [physGroups, List.map_map]
  exact List.map_congr_left fun g hg => head_phys ix0 g (hgs g hg).1

/-- the cells at the first rows of the groups, physically, are the cells the frame shows at the groups' first rows -/
theorem heads_cells (cells : List Cell) :
    ((physGroups ix0 gs).map (·.head!)).map (fun r => cells[r]!) = gs.map (fun g => (observe ix0 cells)[g.head!]!) := by
  rw [phys_heads hgs, List.map_map]
  exact List.map_congr_left fun g hg => by simp only [Function.comp, observe_get _ _ _ (head_lt hgs g hg)]

theorem heads_lt {L : Nat} (h0 : ∀ p ∈ ix0, p < L) : ∀ r ∈ (physGroups ix0 gs).map (·.head!), r < L := by
  rw [phys_heads hgs]
  intro r hr
  obtain ⟨g, hg, rfl⟩ := List.mem_map.mp hr
  exact get!_lt h0 (head_lt hgs g hg)

end Phys

theorem cellsOf_phys (ix0 : List Nat) (P : PCol) (c : LCol) (hs : Sees ix0 P c) (g : List Nat) (hg : ∀ r ∈ g, r < ix0.length) :
    cellsOf P (g.map (fun r => ix0[r]!)) = g.map (fun r => c.cells[r]!) := by
  simp only [cellsOf, List.map_map]
  apply List.map_congr_left
  intro r hr
  simp only [Function.comp, hs.cells, observe_get _ _ _ (hg r hr)]

/-- **The group loop of `Column.Aggregate` in today's source computes the spec's aggregate column** (C04). For the frame
whose index is `ix0`, a column `c` of any type seen through it with ALL well-typed contents, every list `gs` of non-empty
groups of rows of the frame (as physical rows: `physGroups`) and every aggregation function of the catalogue other than
`"count"` (which `Grouper.Aggregate` answers itself: `C04Aggregations.gen_agg_count`): today's loop hands exactly the
group's cells, in the group's order, to the function — the user's, or the built-in regenerated as `Gen.aggAst` — and
returns one result per group, in group order: the column `groupAggS` builds with `aggApply`; and it returns an error
exactly when `aggApply` is undefined for the column type. -/
theorem gen_aggregate_loops_semantics (ix0 : List Nat) (P : PCol) (c : LCol) (gs : List (List Nat)) (afn : AggFn)
    (hs : Sees ix0 P c) (hok : ColOk P) (h0 : ∀ p ∈ ix0, p < P.cells.length)
    (hgs : ∀ g ∈ gs, g ≠ [] ∧ ∀ r ∈ g, r < ix0.length) (hcount : ∀ n, afn = .builtin n → n ≠ "count") :
    (aggregateOf P.ty).run { recv := P, groups := physGroups ix0 gs, fn := goAggVal afn c.ty, builtin := pkgBuiltin P.ty }
        (zeroCell (fkind P.ty)) =
      match aggApply afn c.ty with
      | some (_, g) => .col (ret2 P.ty) (gs.map (fun grp => g (grp.map (fun r => c.cells[r]!))))
      | none => .err := by
  have hrows := phys_rows hgs h0
  rw [gen_aggregate_canon P.ty hok.1, hs.ty]
  refine (canonAgg_run { recv := P, groups := physGroups ix0 gs, fn := goAggVal afn P.ty, builtin := pkgBuiltin P.ty }
    (goAggVal_wf afn P.ty) hok hrows).trans ?_
  rw [expectAgg_spec P hok _ (phys_nonempty hgs) hrows afn fun e => hcount _ e rfl]
  cases aggApply afn P.ty with
  | none => rfl
  | some t =>
    simp only [physGroups, List.map_map]
    congr 1
    exact List.map_congr_left fun g hg => congrArg t.2 (cellsOf_phys ix0 P c hs g (hgs g hg).2)

/-! ## The key columns: `Subset` of the groups' first rows -/

theorem firstItems_head (groups : List (List Nat)) (hne : ∀ g ∈ groups, g ≠ []) (n : Nat) :
    ∃ items, firstItems 0 n groups = some items ∧ Items n (groups.map (·.head!)) items := by
  induction groups generalizing n with
  | nil => exact ⟨[], rfl, .nil n⟩
  | cons g gs ih =>
    obtain ⟨items, h1, h2⟩ := ih (fun g' h' => hne g' (List.mem_cons_of_mem _ h')) (n + 1)
    cases g with
    | nil => exact absurd rfl (hne [] List.mem_cons_self)
    | cons r rs => exact ⟨(n, n, r) :: items, by simp [firstItems, h1], .cons n r h2⟩

/-- **the first-row index**: today's `Grouper.Aggregate` collects, in group order, the first row of every group -/
theorem gen_first_rows (groups : List (List Nat)) (hne : ∀ g ∈ groups, g ≠ []) :
    Gen.grouperTailAst.first groups = some (groups.map (·.head!)) := by
  rw [gen_grouper_tail_canon]
  obtain ⟨items, h1, h2⟩ := firstItems_head groups hne 0
  simp only [LGTail.first, canonTail, h1]
  rw [buildArr_vals 0 (.inr ⟨rfl, rfl⟩) h2]

/-- the column types whose cells are an array of values (the string column: `gen_subset_string`) -/
def subsetTranslated : CType → Bool
  | .int | .float | .bool | .enum => true
  | _ => false

/-- **`Subset(index)`**: the new column holds, at position `i`, the cell of row `index[i]`; an enum column keeps its value
table and its strictness. -/
theorem gen_subset_semantics (P : PCol) (hty : P.ty ∈ tys) (htr : subsetTranslated P.ty = true) (z : Cell) (ix : List Nat)
    (hrows : ∀ r ∈ ix, r < P.cells.length) :
    (subsetOf P.ty).run P z ix = .ok (ix.map (fun r => P.cells[r]!)) ∧
    (∃ s, subsetOf P.ty = .cells s (if P.ty = .enum then ["strict", "values"] else [])) := by
  rw [gen_subset_canon P.ty hty]
  cases hp : P.ty <;> simp only [hp, subsetTranslated] at htr ⊢ <;> first | cases htr | skip
  all_goals
    refine ⟨?_, ⟨_, rfl⟩⟩
    simp only [canonSub, LGSub.run]
    exact slice_run ⟨rfl, fun x _ => rfl, by simp [Fills]⟩ z ix hrows

/-! ### The string column: a new byte blob -/

/-- the pointers of a blob column stay inside the blob -/
def BValid (ptrs : List BPtr) (data : Bytes) : Prop := ∀ p ∈ ptrs, p.null = false → p.off + p.len ≤ data.length

theorem ptrCell_append (data more : Bytes) (p : BPtr) (h : p.null = false → p.off + p.len ≤ data.length) :
    ptrCell (data ++ more) p = ptrCell data p := by
  unfold ptrCell
  cases hn : p.null with
  | true => rfl
  | false =>
    have hl := h hn
    simp only [Bool.false_eq_true, ↓reduceIte, Option.some.injEq]
    rw [List.drop_append_of_le_length (by omega), List.take_append_of_le_length (by simp; omega)]

theorem blob_step (src : BCol) (pos row : Nat) (rows : List Nat) (p : BPtr) (hp : src.ptrs[row]? = some p) (st : BSt)
    (hslot : pos < st.ptrs.length) (hle : p.null = false → p.off + p.len ≤ src.data.length) :
    runBlobLoop src canonBlob pos (row :: rows) st =
      runBlobLoop src canonBlob (pos + 1) rows
        { ptrs := st.ptrs.set pos ⟨st.off, p.len, p.null⟩
          data := if p.null then st.data else st.data ++ (src.data.drop p.off).take p.len
          off := if p.null then st.off else st.off + p.len } := by
  cases hn : p.null with
  | true =>
    simp [runBlobLoop, canonBlob, LIdx.of, hp, runBlobBody, BCond.holds, BAct.run, BInt.eval, BFlag.eval, hn, hslot]
  | false =>
    have := hle hn
    simp [runBlobLoop, canonBlob, LIdx.of, hp, runBlobBody, BCond.holds, BAct.run, BInt.eval, BFlag.eval, hn, hslot, this]

/-- the cells of a string column as stored -/
def blobCells (src : BCol) : List Cell := (List.range src.ptrs.length).map (fun i => Cell.str ((src.cell i).getD none))

theorem blobCells_get (src : BCol) (i : Nat) (hi : i < src.ptrs.length) : (blobCells src)[i]! = .str ((src.cell i).getD none) := by
  simp [blobCells, hi]

theorem blobCells_append (ps : List BPtr) (q : BPtr) (d more : Bytes) (hv : BValid ps d) :
    blobCells ⟨ps ++ [q], d ++ more⟩ = blobCells ⟨ps, d⟩ ++ [.str (ptrCell (d ++ more) q)] := by
  simp only [blobCells, List.length_append, List.length_singleton, List.range_succ, List.map_append, List.map_cons, List.map_nil]
  congr 1
  · apply List.map_congr_left
    intro i hi
    have hi := List.mem_range.mp hi
    simp only [BCol.cell, List.getElem?_append_left hi, List.getElem?_eq_getElem hi, Option.map_some,
      ptrCell_append _ _ _ (hv _ (List.getElem_mem hi))]
  · simp [BCol.cell]

/-- one more cell at the end of a blob: the pointers stay inside, the old cells are read as before -/
theorem blob_push (B : BCol) (hv : BValid B.ptrs B.data) (q : BPtr) (more : Bytes)
    (hq : q.null = false → q.off = B.data.length ∧ q.len = more.length) :
    BValid (B.ptrs ++ [q]) (B.data ++ more) ∧
    blobCells ⟨B.ptrs ++ [q], B.data ++ more⟩ = blobCells B ++ [.str (if q.null then none else some more)] := by
  refine ⟨?_, ?_⟩
  · intro p hp hn
    rcases List.mem_append.mp hp with hp | hp
    · have := hv p hp hn
      simp only [List.length_append]; omega
    · cases List.mem_singleton.mp hp
      obtain ⟨h1, h2⟩ := hq hn
      simp only [List.length_append]; omega
  · rw [blobCells_append _ _ _ _ hv]
    congr 3
    unfold ptrCell
    cases hn : q.null with
    | true => rfl
    | false =>
      obtain ⟨h1, h2⟩ := hq hn
      simp [h1, h2]

theorem blobCells_src (src : BCol) (r : Nat) (p : BPtr) (hp : src.ptrs[r]? = some p) :
    (blobCells src)[r]! = .str (ptrCell src.data p) := by
  have hr : r < src.ptrs.length := by
    rcases Nat.lt_or_ge r src.ptrs.length with h | h
    · exact h
    · rw [List.getElem?_eq_none h] at hp; cases hp
  rw [blobCells_get src r hr]
  simp [BCol.cell, hp]

/-- the loop appends, to the blob built so far, the cells at the rows -/
theorem blob_loop (src : BCol) (hv : BValid src.ptrs src.data) :
    ∀ (rows : List Nat) (B : BCol), (∀ r ∈ rows, r < src.ptrs.length) → BValid B.ptrs B.data →
      ∃ B', runBlobLoop src canonBlob B.ptrs.length rows
            ⟨B.ptrs ++ List.replicate rows.length ⟨0, 0, false⟩, B.data, B.data.length⟩ = .ok ⟨B'.ptrs, B'.data, B'.data.length⟩ ∧
        BValid B'.ptrs B'.data ∧ blobCells B' = blobCells B ++ rows.map (fun r => (blobCells src)[r]!) := by
  intro rows
  induction rows with
  | nil => intro B _ hB; exact ⟨B, by simp [runBlobLoop], hB, by simp⟩
  | cons r rs ih =>
    intro B hr hB
    have hrl : r < src.ptrs.length := hr r List.mem_cons_self
    have hp : src.ptrs[r]? = some src.ptrs[r] := List.getElem?_eq_getElem hrl
    generalize src.ptrs[r] = p at hp
    have hle : p.null = false → p.off + p.len ≤ src.data.length := hv p (List.mem_of_getElem? hp)
    -- the blob with the cell of row `r` at its end
    let more : Bytes := if p.null then [] else (src.data.drop p.off).take p.len
    have hpush := blob_push B hB ⟨B.data.length, p.len, p.null⟩ more (fun hn => by
      have := hle hn
      simp only [more, show p.null = false from hn, Bool.false_eq_true, if_false, List.length_take, List.length_drop]
      exact ⟨trivial, by omega⟩)
    obtain ⟨B', h1, h2, h3⟩ := ih ⟨B.ptrs ++ [⟨B.data.length, p.len, p.null⟩], B.data ++ more⟩
      (fun r' h' => hr r' (List.mem_cons_of_mem _ h')) hpush.1
    refine ⟨B', ?_, h2, ?_⟩
    · rw [blob_step src B.ptrs.length r rs p hp _ (by simp) hle, ← h1]
      simp only [List.length_cons, ListFacts.set_append_replicate, List.length_append]
      cases hn : p.null with
      | true => simp [more, hn]
      | false =>
        have := hle hn
        simp only [more, hn, Bool.false_eq_true, if_false, List.length_take, List.length_drop]
        congr 2; omega
    · rw [h3, hpush.2, List.map_cons, blobCells_src src r p hp, List.append_assoc]
      congr 3
      unfold ptrCell
      cases hn : p.null <;> simp [more, hn]

/-- **`subset` of the string column**: whatever the blob, the new column is a blob whose pointers stay inside it and which
shows, at position `i`, the cell the source shows at row `index[i]` — null for a null cell, the same bytes otherwise. -/
theorem gen_subset_string (src : BCol) (hv : BValid src.ptrs src.data) (ix : List Nat) (hrows : ∀ r ∈ ix, r < src.ptrs.length) :
    ∃ b B, subsetOf .string = .blob b ∧ b.run src ix = .ok B ∧ BValid B.ptrs B.data ∧
      blobCells B = ix.map (fun r => (blobCells src)[r]!) := by
  obtain ⟨B, h1, h2, h3⟩ := blob_loop src hv ix ⟨[], []⟩ hrows (by intro p hp; cases hp)
  refine ⟨canonBlob, B, by rw [gen_subset_canon .string (by decide)]; rfl, ?_, h2, by simpa [blobCells] using h3⟩
  simp only [List.nil_append, List.length_nil] at h1
  simp only [LBlob.run, canonBlob] at h1 ⊢
  rw [h1]

theorem subset_heads (ix0 : List Nat) (P : PCol) (c : LCol) (gs : List (List Nat)) (hs : Sees ix0 P c)
    (hty : P.ty ∈ tys) (htr : subsetTranslated P.ty = true) (h0 : ∀ p ∈ ix0, p < P.cells.length)
    (hgs : ∀ g ∈ gs, g ≠ [] ∧ ∀ r ∈ g, r < ix0.length) (z : Cell) :
    (subsetOf P.ty).run P z ((physGroups ix0 gs).map (·.head!)) = .ok (gs.map (fun g => c.cells[g.head!]!)) := by
  rw [(gen_subset_semantics P hty htr z _ (heads_lt hgs h0)).1, heads_cells hgs, hs.cells]

/-- **The key column holds each group's first row's key** (C04), int / float / bool / enum columns: for the frame whose
index is `ix0`, a key column `c` seen through it and the groups `gs` (non-empty lists of rows of the frame): today's
`Grouper.Aggregate` makes the key column as `Subset` of the index of first rows, and that column holds, for group `k`, the
cell `c.cells[gs[k].head]` — the column `groupAggS` builds; the loop stores it at the position of its name in the list of
grouped columns; the aggregations are called with the grouper's groups; the result's index is `0 … len(groups) - 1`.
String key columns, whose cells are a byte blob behind packed pointers: `gen_key_columns_semantics_string`. -/
theorem gen_key_columns_semantics (ix0 : List Nat) (P : PCol) (c : LCol) (gs : List (List Nat)) (hs : Sees ix0 P c)
    (hty : P.ty ∈ tys) (htr : subsetTranslated P.ty = true) (h0 : ∀ p ∈ ix0, p < P.cells.length)
    (hgs : ∀ g ∈ gs, g ≠ [] ∧ ∀ r ∈ g, r < ix0.length) (z : Cell) :
    Gen.grouperTailAst.key = .subsetOfFirst ∧ Gen.grouperTailAst.aggPassesGroups = true ∧
    Gen.grouperTailAst.indexAscending = true ∧
    ∃ first, Gen.grouperTailAst.first (physGroups ix0 gs) = some first ∧
      (subsetOf P.ty).run P z first = .ok (gs.map (fun g => c.cells[g.head!]!)) :=
  ⟨by rw [gen_grouper_tail_canon]; rfl, by rw [gen_grouper_tail_canon]; rfl, by rw [gen_grouper_tail_canon]; rfl,
    _, gen_first_rows _ (phys_nonempty hgs), subset_heads ix0 P c gs hs hty htr h0 hgs z⟩

theorem subset_heads_string (ix0 : List Nat) (src : BCol) (c : LCol) (gs : List (List Nat))
    (hv : BValid src.ptrs src.data) (hc : c.cells = observe ix0 (blobCells src)) (h0 : ∀ p ∈ ix0, p < src.ptrs.length)
    (hgs : ∀ g ∈ gs, g ≠ [] ∧ ∀ r ∈ g, r < ix0.length) :
    ∃ b B, subsetOf .string = .blob b ∧ b.run src ((physGroups ix0 gs).map (·.head!)) = .ok B ∧ BValid B.ptrs B.data ∧
      blobCells B = gs.map (fun g => c.cells[g.head!]!) := by
  obtain ⟨b, B, hb, hrun, hval, hcells⟩ := gen_subset_string src hv _ (heads_lt hgs h0)
  exact ⟨b, B, hb, hrun, hval, by rw [hcells, heads_cells hgs, hc]⟩

/-- **… and so does a string key column**: for every blob whose pointers stay inside it, the key column today's
`Grouper.Aggregate` makes — `subset` of the index of first rows: new pointers into a new blob — shows, at group `k`, the
cell `c.cells[gs[k].head]` of the frame (null for null, the same bytes otherwise), and is a well-formed blob again. -/
theorem gen_key_columns_semantics_string (ix0 : List Nat) (src : BCol) (c : LCol) (gs : List (List Nat))
    (hv : BValid src.ptrs src.data) (hc : c.cells = observe ix0 (blobCells src)) (h0 : ∀ p ∈ ix0, p < src.ptrs.length)
    (hgs : ∀ g ∈ gs, g ≠ [] ∧ ∀ r ∈ g, r < ix0.length) :
    ∃ first b B, Gen.grouperTailAst.first (physGroups ix0 gs) = some first ∧ subsetOf .string = .blob b ∧
      b.run src first = .ok B ∧ B.ptrs.length = gs.length ∧ BValid B.ptrs B.data ∧
      ∀ k, k < gs.length → Cell.str ((B.cell k).getD none) = c.cells[(gs[k]!).head!]! := by
  obtain ⟨b, B, hb, hrun, hval, hcells⟩ := subset_heads_string ix0 src c gs hv hc h0 hgs
  have hlen : B.ptrs.length = gs.length := by simpa [blobCells] using congrArg List.length hcells
  refine ⟨_, b, B, gen_first_rows _ (phys_nonempty hgs), hb, hrun, hlen, hval, fun k hk => ?_⟩
  rw [← blobCells_get B k (hlen ▸ hk), hcells]
  simp [hk]

/-! ## Witnesses: the statements tell wrong loops apart -/

section Witnesses

private def colI : PCol := { ty := .int, cells := [.int 10, .int 20, .int 30, .int 40] }

private def sumI : List Cell → Cell := fun l => .int (l.foldl (fun a c => match c with | .int x => a + x | _ => a) 0)
private def lenI : List Cell → Cell := fun l => .int l.length

/-- two groups: rows 3, 1 and row 2 -/
private def envSum : LGEnv := { recv := colI, groups := [[3, 1], [2]], fn := .aggFn .int .int sumI, builtin := fun _ => none }
private def envLen : LGEnv := { envSum with fn := .aggFn .int .int lenI }

def outCol : LGOut → Option (List Cell)
  | .col _ cells => some cells
  | _ => none

private def oneG (s : LGSlice) : LGFn := { cases := [(.aggFn .int .int, .agg .user .empty .append s .ownCol)], dflt := .err }

-- today's loop: the cells of the rows, in the group's order
example : outCol ((aggregateOf .int).run envSum (.int 0)) = some [.int 60, .int 30] := by decide
example : outCol (expectAgg .int envSum) = some [.int 60, .int 30] := by decide
example : outCol ((aggregateOf .int).run envLen (.int 0)) = some [.int 2, .int 1] := by decide
-- a buffer of the group's length with the values APPENDED: twice as many elements
example : outCol ((oneG { init := .full, write := .append, i := .row, acc := .raw }).run envLen (.int 0)) = some [.int 4, .int 2] := by
  decide
example : (oneG { init := .full, write := .append, i := .row, acc := .raw }).run envLen (.int 0) ≠ expectAgg .int envLen := by
  intro h; have := congrArg outCol h; revert this; decide
-- the values taken at the positions 0, 1, … instead of the rows
example : outCol ((oneG { init := .empty, write := .append, i := .pos, acc := .raw }).run envSum (.int 0)) = some [.int 30, .int 10] := by
  decide
example : (oneG { init := .empty, write := .append, i := .pos, acc := .raw }).run envSum (.int 0) ≠ expectAgg .int envSum := by
  intro h; have := congrArg outCol h; revert this; decide
-- the values stored at the ROW in an array of the group's length: out of range
example : outCol ((oneG { init := .full, write := .setAt .row, i := .row, acc := .raw }).run envSum (.int 0)) = none := by decide
-- the second row of every group as its key: panics on a group of one row; today's term takes row 0
example : ({ canonTail with firstRow := some 1 } : LGTail).first [[3, 1], [2]] = none := by decide
example : Gen.grouperTailAst.first [[3, 1], [2]] = some [3, 2] := by decide
-- the first-row index appended to an array that already has the full length
example : ({ canonTail with firstWrite := .append } : LGTail).first [[3, 1], [2]] = some [0, 0, 3, 2] := by decide

-- the string column's `subset`: today's term on the blob "a" | null | "bc", rows 2 and 0
private def blobS : BCol := { ptrs := [⟨0, 1, false⟩, ⟨1, 0, true⟩, ⟨1, 2, false⟩], data := [97, 98, 99] }
private def cellsOfBlob : LR BCol → List (Option (Option Bytes))
  | .ok B => (List.range B.ptrs.length).map B.cell
  | _ => []
example : cellsOfBlob (canonBlob.run blobS [2, 1, 0]) = [some (some [98, 99]), some none, some (some [97])] := by decide
-- the offset is not advanced: every new pointer starts at 0
example : cellsOfBlob (({ canonBlob with body := canonBlob.body.take 2 } : LBlob).run blobS [2, 1, 0]) =
    [some (some [98, 99]), some none, some (some [98])] := by decide
-- the old offsets copied into the new blob
example : cellsOfBlob (({ canonBlob with body := [(.always, .setPtr .pos .cellOff .cellLen .cellNull),
      (.notNull, .appendBytes .cellOff .cellLen), (.notNull, .advance .cellLen)] } : LBlob).run blobS [2, 1, 0]) =
    [some (some [99, 97]), some none, some (some [98])] := by decide
-- the bytes of null cells appended too, the offset advanced only for the others
example : cellsOfBlob (({ canonBlob with body := [(.always, .setPtr .pos .running .cellLen .cellNull),
      (.always, .appendBytes .cellOff (.lit 1)), (.notNull, .advance .cellLen)] } : LBlob).run blobS [1, 0]) =
    [some none, some (some [98])] := by decide

end Witnesses

#print axioms gen_aggregate_no_opaque
#print axioms gen_aggregate_canon
#print axioms gen_subset_canon
#print axioms gen_grouper_tail_canon
#print axioms canonAgg_run
#print axioms gen_aggregate_loops_semantics
#print axioms gen_first_rows
#print axioms gen_subset_semantics
#print axioms gen_subset_string
#print axioms gen_key_columns_semantics
#print axioms gen_key_columns_semantics_string

end QF.Props.C04LoopsGen
