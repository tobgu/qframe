import QF.Props.C04LoopsGen
import QF.Gen.FApply
/-!
# C06 / C01 — the two built-in `toUpper` of today's source, on the stored representation (tie T1, by semantics)

Part of `QF.Props.C06FApplyGen` (which states the results): the canonical terms of the functions `Column.Apply1` of the
string and enum column packages hand the string `"ToUpper"` to (`QF.Gen.supperTable`, `QF.Gen.eupperTable`, regenerated on
every run by go/cmd/extract/faast.go), and the once-and-for-all meaning of those canonical terms.
-/
namespace QF.Props.C06FApplyGen
open QF QF.Props.C04LoopsGen

/-! ## Canonical terms -/

/-- `upper := ToUpper(&strBuf, str)` with a scratch buffer of the function's own -/
def upperOfCell : SUStr := .upper .fresh .cell

/-- scolumn: `if len(source.pointers) == 0 { return source }; pointers := make([]Pointer, len(source.pointers));
data := make([]byte, 0, _); for _, i := range ix { str, isNull := source.stringAt(i); upper := ToUpper(&buf, str);
pointers[i] = NewPointer(len(data), len(upper), isNull); data = append(data, upper...) }; return NewBytes(pointers, data)` -/
def canonSUpper : SUFn :=
  { emptyReturnsSource := true, ptrInit := .fresh .srcPtrs, dataInit := .empty, cellAt := .row,
    body := [.setPtr .row .dataLen (.strLen upperOfCell) .cellNull, .appendStr upperOfCell],
    ret := .col .new .new }

/-- ecolumn, first loop: `upper := strings.ToUpper(v); e, ok := valToEnum[upper]; if !ok { e = enumVal(len(newValues));
valToEnum[upper] = e; newValues = append(newValues, upper) }; mapping[i] = e` -/
def canonELoop1 : List EUStm := [
  .do (.bindStr (.upper .elem)),
  .do (.lookup .loc),
  .when .notFound [.setReg .valsLen, .mapPut .loc .reg, .pushVal .loc],
  .do (.storeMapping .reg)]

/-- second loop: `if !e.isNull() { e = mapping[e] }; newData[i] = e` -/
def canonELoop2 : List EUStm := [
  .when .regNotNull [.setReg (.mappingAt .reg)],
  .do (.storeData .reg)]

def canonEUpper : EUFn :=
  { ixUsed := false, valsInit := .empty, mapFresh := true, mappingLen := .srcVals, loop1 := canonELoop1,
    fast := .ifSameLen (.col .source .new .unset), dataInit := .fresh .srcData, loop2 := canonELoop2,
    ret := .col .new .new .unset }

/-! ## The string column -/

/-- what `source.stringAt(r)` returns -/
def cellStr (B : BCol) (r : Nat) : Bytes × Bool :=
  match B.ptrs[r]? with
  | some p => if p.null then ([], true) else ((B.data.drop p.off).take p.len, false)
  | none => ([], true)

theorem stringAt_ok (B : BCol) (hv : BValid B.ptrs B.data) (r : Nat) (hr : r < B.ptrs.length) :
    B.stringAt r = .ok (cellStr B r) := by
  unfold BCol.stringAt cellStr
  rw [List.getElem?_eq_getElem hr]
  simp only
  cases hn : (B.ptrs[r]).null with
  | true => simp
  | false =>
    have := hv _ (List.getElem_mem hr) hn
    simp [this]

/-- `d' = d ++ more`: the data only grows, so the cells of pointers set earlier stay what they were (`ptrCell_append`);
`∀ j ∉ rows, ps'[j]? = ps[j]?` gives the zero pointer outside the index. -/
theorem su_loop_spec (up : Bytes → Bytes) (B : BCol) (hv : BValid B.ptrs B.data) :
    ∀ (rows : List Nat) (pos : Nat) (ps : List BPtr) (d : Bytes), (∀ r ∈ rows, r < B.ptrs.length) → ps.length = B.ptrs.length →
      BValid ps d →
      ∃ ps' d', suRunLoop up canonSUpper pos rows { src := B, ptrs := some ps, data := .own d, writes := 0 } =
          .ok { src := B, ptrs := some ps', data := .own d', writes := 0 } ∧
        ps'.length = B.ptrs.length ∧ BValid ps' d' ∧ (∃ more, d' = d ++ more) ∧
        (∀ r ∈ rows, (ps'[r]?).map (ptrCell d') = (B.cell r).map (Option.map up)) ∧
        (∀ j, j ∉ rows → ps'[j]? = ps[j]?) := by
  intro rows
  induction rows with
  | nil =>
    intro pos ps d _ hl hb
    exact ⟨ps, d, rfl, hl, hb, ⟨[], by simp⟩, fun r hr => absurd hr List.not_mem_nil, fun j _ => rfl⟩
  | cons r rs ih =>
    intro pos ps d hr hl hb
    have hrl : r < B.ptrs.length := hr r List.mem_cons_self
    have hps : r < ps.length := by omega
    let q : BPtr := ⟨d.length, (up (cellStr B r).1).length, (cellStr B r).2⟩
    have hq : BValid (ps.set r q) (d ++ up (cellStr B r).1) := by
      intro p hp hn
      rcases List.mem_or_eq_of_mem_set hp with hp | rfl
      · have := hb p hp hn
        simp only [List.length_append]; omega
      · simp [q]
    obtain ⟨ps', d', hrun, i1, i2, ⟨more, i3⟩, i4, i5⟩ := ih (pos + 1) (ps.set r q) (d ++ up (cellStr B r).1)
      (fun x hx => hr x (List.mem_cons_of_mem _ hx)) (by simpa using hl) hq
    refine ⟨ps', d', ?_, i1, i2, ⟨up (cellStr B r).1 ++ more, by rw [i3]; simp⟩, ?_, ?_⟩
    · unfold suRunLoop
      have e : canonSUpper.cellAt.of pos r = r := rfl
      rw [e, stringAt_ok B hv r hrl]
      simp only [canonSUpper, upperOfCell, suRunBody, SUAct.run, SUInt.eval, SUStr.eval, SUFlag.eval, SUData.len, LIdx.of,
        Option.map_some, hps, ↓reduceIte]
      exact hrun
    · intro x hx
      by_cases hxr : x ∈ rs
      · exact i4 x hxr
      · have hxe : x = r := by
          rcases List.mem_cons.mp hx with h | h
          · exact h
          · exact absurd h hxr
        subst hxe
        rw [i5 x hxr, i3, List.getElem?_set_self hps, Option.map_some]
        have hv' : q.null = false → q.off + q.len ≤ (d ++ up (cellStr B x).1).length := by
          intro _; simp [q]
        rw [ptrCell_append _ more q hv']
        simp only [BCol.cell, List.getElem?_eq_getElem hrl, Option.map_some, Option.some.injEq]
        have hcs : cellStr B x = if (B.ptrs[x]).null then ([], true) else ((B.data.drop (B.ptrs[x]).off).take (B.ptrs[x]).len, false) := by
          simp [cellStr, List.getElem?_eq_getElem hrl]
        unfold ptrCell
        simp only [q, hcs]
        cases hn : (B.ptrs[x]).null with
        | true => simp
        | false => simp
    · intro j hj
      have hjr : j ≠ r := fun e => hj (e ▸ List.mem_cons_self)
      have hjs : j ∉ rs := fun h => hj (List.mem_cons_of_mem _ h)
      rw [i5 j hjs, List.getElem?_set_ne (fun e => hjr e.symm)]

theorem bvalid_replicate (n : Nat) : BValid (List.replicate n (⟨0, 0, false⟩ : BPtr)) [] := by
  intro p hp _
  rw [(List.mem_replicate.mp hp).2]
  simp

/-- **The string `toUpper`, canonical term, on every stored column and every index** -/
theorem canonSUpper_run (up : Bytes → Bytes) (B : BCol) (ix : List Nat) (hv : BValid B.ptrs B.data)
    (hix : ∀ r ∈ ix, r < B.ptrs.length) :
    ∃ R, canonSUpper.run up B ix = .ok R ∧ R.src = B ∧ R.writes = 0 ∧
      (B.ptrs = [] → R.shared = true ∧ R.res = B) ∧
      (B.ptrs ≠ [] → R.shared = false ∧ R.ptrsFresh = true ∧ R.dataFresh = true) ∧
      R.res.ptrs.length = B.ptrs.length ∧ BValid R.res.ptrs R.res.data ∧
      (∀ r ∈ ix, R.res.cell r = (B.cell r).map (Option.map up)) ∧
      (∀ r, r < B.ptrs.length → r ∉ ix → R.res.ptrs[r]? = some ⟨0, 0, false⟩) := by
  by_cases he : B.ptrs = []
  · refine ⟨{ res := B, shared := true, ptrsFresh := false, dataFresh := false, src := B, writes := 0 }, ?_, rfl, rfl,
      fun _ => ⟨rfl, rfl⟩, fun h => absurd he h, rfl, hv, ?_, ?_⟩
    · simp [SUFn.run, canonSUpper, he]
    · intro r hr; have := hix r hr; simp [he] at this
    · intro r hr; simp [he] at hr
  · have hne : B.ptrs.isEmpty = false := by simpa using he
    obtain ⟨ps', d', hrun, i1, i2, _, i4, i5⟩ := su_loop_spec up B hv ix 0 (List.replicate B.ptrs.length ⟨0, 0, false⟩) [] hix
      (by simp) (bvalid_replicate _)
    refine ⟨{ res := ⟨ps', d'⟩, shared := false, ptrsFresh := true, dataFresh := true, src := B, writes := 0 },
      ?_, rfl, rfl, fun h => absurd h he, fun _ => ⟨rfl, rfl, rfl⟩, i1, i2, i4, ?_⟩
    · simp only [SUFn.run, hne, Bool.and_false, Bool.false_eq_true, ↓reduceIte]
      have e1 : canonSUpper.ptrInit = .fresh .srcPtrs := rfl
      have e2 : canonSUpper.dataInit = .empty := rfl
      have e3 : canonSUpper.ret = .col .new .new := rfl
      simp only [e1, e2, e3, SULen.eval, Option.map_some, hrun]
    · intro r hr hn
      rw [i5 r hn]
      simp [hr]

/-! ## The enum column -/

/-- position of a string in a list (first occurrence): `enumRank` of QF/Spec/Basic.lean, `List.idxOf?` -/
def posOf (l : List Bytes) (s : Bytes) : Option Nat := l.findIdx? (· == s)

/-- the value table after the first loop: the upper-cased values without repetition, in order of first appearance -/
def upVals (up : Bytes → Bytes) (vals : List Bytes) : List Bytes := dedup (vals.map up)

/-- the three variables of the first loop: (new values, map, mapping) -/
structure E1 where
  vals : List Bytes
  map : List (Bytes × Nat)
  mapping : List Nat

/-- The invariant of the first loop: the map holds exactly the positions of the values; the values have no repetition;
the first `key` entries of the mapping are the positions of the upper-cased source values. -/
structure E1Inv (up : Bytes → Bytes) (src : List Bytes) (key : Nat) (s : E1) : Prop where
  vals : s.vals = upVals up (src.take key)
  map : ∀ b, s.map.lookup b = posOf s.vals b
  mapping : ∀ i, i < key → s.mapping[i]? = (src[i]?).bind (fun v => posOf s.vals (up v))
  len : s.vals.length ≤ key
  /-- as long as no two values merged, the mapping is the identity -/
  ident : s.vals.length = key → ∀ i, i < key → s.mapping[i]? = some i

theorem dedup_snoc (l : List Bytes) (x : Bytes) :
    dedup (l ++ [x]) = if (dedup l).contains x then dedup l else dedup l ++ [x] := by
  unfold dedup
  rw [List.foldl_append]
  rfl

/-- the fold of `dedup` never loses an element of the accumulator -/
theorem dd_mono (l : List Bytes) : ∀ (acc : List Bytes) (x : Bytes), acc.contains x = true →
    (l.foldl (fun acc x => if acc.contains x then acc else acc ++ [x]) acc).contains x = true := by
  induction l with
  | nil => intro acc x h; exact h
  | cons y ys ih =>
    intro acc x h
    rw [List.foldl_cons]
    apply ih
    split
    · exact h
    · simp only [List.contains_iff_mem] at h ⊢
      exact List.mem_append_left _ h

theorem dedup_contains (l : List Bytes) (x : Bytes) (h : x ∈ l) : (dedup l).contains x = true := by
  unfold dedup
  suffices ∀ acc : List Bytes, (l.foldl (fun acc x => if acc.contains x then acc else acc ++ [x]) acc).contains x = true from this []
  induction l with
  | nil => cases h
  | cons y ys ih =>
    intro acc
    rw [List.foldl_cons]
    rcases List.mem_cons.mp h with rfl | h
    · apply dd_mono
      split
      · assumption
      · simp
    · exact ih h _

theorem posOf_append_of_some {l : List Bytes} {b : Bytes} {i : Nat} (h : posOf l b = some i) (m : List Bytes) :
    posOf (l ++ m) b = some i := by
  unfold posOf at *
  rw [List.findIdx?_append, h]
  rfl

theorem posOf_none_iff (l : List Bytes) (b : Bytes) : posOf l b = none ↔ l.contains b = false := by
  rw [show posOf l b = l.idxOf? b from rfl, List.idxOf?_eq_none_iff, ← List.contains_iff_mem, Bool.not_eq_true]

theorem posOf_snoc_self (l : List Bytes) (b : Bytes) (h : l.contains b = false) : posOf (l ++ [b]) b = some l.length := by
  unfold posOf
  have e : List.findIdx? (fun x => x == b) l = none := (posOf_none_iff l b).2 h
  rw [List.findIdx?_append, e]
  simp

theorem posOf_some_of_mem {l : List Bytes} {b : Bytes} (h : b ∈ l) : ∃ j, posOf l b = some j ∧ j < l.length ∧ l[j]? = some b := by
  obtain ⟨j, hj⟩ := Option.isSome_iff_exists.mp (List.isSome_idxOf?.mpr h)
  obtain ⟨hl, hb, _⟩ := List.idxOf?_eq_some_iff.mp hj
  exact ⟨j, hj, hl, by rw [List.getElem?_eq_getElem hl, hb]⟩

theorem dedup_length_le (l : List Bytes) : (dedup l).length ≤ l.length := by
  unfold dedup
  suffices ∀ acc : List Bytes, (l.foldl (fun acc x => if acc.contains x then acc else acc ++ [x]) acc).length ≤ acc.length + l.length by
    simpa using this []
  induction l with
  | nil => intro acc; simp
  | cons y ys ih =>
    intro acc
    rw [List.foldl_cons]
    refine Nat.le_trans (ih _) ?_
    split <;> simp <;> omega

theorem eu_body1_inv (up : Bytes → Bytes) (src : List Bytes) (key : Nat) (hk : key < src.length) (st : EUSt)
    (hm : key < st.mapping.length) (inv : E1Inv up src key ⟨st.vals, st.map, st.mapping⟩) :
    ∃ st', euRunBody up key src[key] canonELoop1 st = .ok st' ∧ st'.src = st.src ∧ st'.nd = st.nd ∧ st'.writes = st.writes ∧
      st'.mapping.length = st.mapping.length ∧ E1Inv up src (key + 1) ⟨st'.vals, st'.map, st'.mapping⟩ := by
  have ivals : st.vals = upVals up (src.take key) := inv.vals
  have imap : ∀ b, st.map.lookup b = posOf st.vals b := inv.map
  have imapping : ∀ i, i < key → st.mapping[i]? = (src[i]?).bind (fun v => posOf st.vals (up v)) := inv.mapping
  have ilen : st.vals.length ≤ key := inv.len
  have htake : src.take (key + 1) = src.take key ++ [src[key]] := by
    rw [List.take_add_one, List.getElem?_eq_getElem hk]; rfl
  -- the new value table is the deduplicated table of one more value, found or not
  have hvals : ∀ c, st.vals.contains (up src[key]) = c →
      (if c then st.vals else st.vals ++ [up src[key]]) = upVals up (src.take (key + 1)) := by
    intro c hc
    unfold upVals
    rw [htake, List.map_append, List.map_singleton, dedup_snoc]
    have : dedup (List.map up (List.take key src)) = st.vals := ivals.symm
    rw [this, hc]
  cases hl : st.map.lookup (up src[key]) with
  | some c =>
    have hp : posOf st.vals (up src[key]) = some c := by rw [← imap]; exact hl
    have hc : st.vals.contains (up src[key]) = true := by
      cases h : st.vals.contains (up src[key]) with
      | true => rfl
      | false => rw [(posOf_none_iff _ _).2 h] at hp; cases hp
    refine ⟨{ st with str := up src[key], reg := c, ok := true, mapping := st.mapping.set key c }, ?_, rfl, rfl, rfl, by simp,
      hvals true hc, imap, ?_, Nat.le_succ_of_le ilen, fun h => absurd (show st.vals.length = key + 1 from h) (by omega)⟩
    · simp [canonELoop1, euRunBody, EUAct.run, EUStr.eval, EUCond.eval, EUCode.eval, hl, hm]
    · intro i hi
      show (st.mapping.set key c)[i]? = _
      by_cases e : i = key
      · subst e
        rw [List.getElem?_set_self hm, List.getElem?_eq_getElem hk]
        exact hp.symm
      · rw [List.getElem?_set_ne (fun h => e h.symm)]
        exact imapping i (by omega)
  | none =>
    have hp : posOf st.vals (up src[key]) = none := by rw [← imap]; exact hl
    have hc : st.vals.contains (up src[key]) = false := (posOf_none_iff _ _).1 hp
    refine ⟨{ st with str := up src[key], reg := st.vals.length, ok := false, vals := st.vals ++ [up src[key]], map := (up src[key], st.vals.length) :: st.map, mapping := st.mapping.set key st.vals.length },
      ?_, rfl, rfl, rfl, by simp, hvals false hc, ?_, ?_,
      ?_, ?_⟩
    · simp [canonELoop1, euRunBody, euRunActs, EUAct.run, EUStr.eval, EUCond.eval, EUCode.eval, hl, hm]
    · intro b
      show ((up src[key], st.vals.length) :: st.map).lookup b = posOf (st.vals ++ [up src[key]]) b
      rw [List.lookup_cons]
      by_cases e : b = up src[key]
      · subst e
        simp only [BEq.rfl]
        exact (posOf_snoc_self _ _ hc).symm
      · have : (b == up src[key]) = false := by simpa using e
        rw [this, imap b]
        unfold posOf
        rw [List.findIdx?_append]
        cases h : List.findIdx? (fun x => x == b) st.vals with
        | some i => rfl
        | none =>
          have : (up src[key] == b) = false := by simpa using fun h => e h.symm
          simp [List.findIdx?_cons, this]
    · intro i hi
      show (st.mapping.set key st.vals.length)[i]? = _
      by_cases e : i = key
      · subst e
        rw [List.getElem?_set_self hm, List.getElem?_eq_getElem hk]
        exact (posOf_snoc_self _ _ hc).symm
      · rw [List.getElem?_set_ne (fun h => e h.symm), imapping i (by omega)]
        have hil : i < src.length := by omega
        rw [List.getElem?_eq_getElem hil]
        simp only [Option.bind_some]
        have hmem : (src[i]) ∈ src.take key := by
          rw [List.mem_take_iff_getElem]
          exact ⟨i, by omega, rfl⟩
        -- the value is already in the table
        have hin : (upVals up (src.take key)).contains (up src[i]) = true := by
          unfold upVals
          exact dedup_contains _ _ (List.mem_map_of_mem hmem)
        rw [← ivals] at hin
        cases hq : posOf st.vals (up src[i]) with
        | none => rw [(posOf_none_iff _ _).1 hq] at hin; cases hin
        | some j => exact (posOf_append_of_some hq _).symm
    · show (st.vals ++ [up src[key]]).length ≤ key + 1
      rw [List.length_append, List.length_singleton]
      omega
    · intro h i hi
      have hlen : st.vals.length = key := by
        have : (st.vals ++ [up src[key]]).length = key + 1 := h
        simpa using this
      show (st.mapping.set key st.vals.length)[i]? = some i
      by_cases e : i = key
      · subst e; rw [List.getElem?_set_self hm, hlen]
      · rw [List.getElem?_set_ne (fun h => e h.symm)]; exact inv.ident hlen i (by omega)

theorem eu_loop1_inv (up : Bytes → Bytes) (src : List Bytes) :
    ∀ (n key : Nat) (st : EUSt), key + n = src.length → src.length ≤ st.mapping.length →
      E1Inv up src key ⟨st.vals, st.map, st.mapping⟩ →
      ∃ st', euLoop1 up canonELoop1 key (src.drop key) st = .ok st' ∧ st'.src = st.src ∧ st'.nd = st.nd ∧
        st'.writes = st.writes ∧ st'.mapping.length = st.mapping.length ∧
        E1Inv up src src.length ⟨st'.vals, st'.map, st'.mapping⟩ := by
  intro n
  induction n with
  | zero =>
    intro key st hk _ inv
    have : key = src.length := by omega
    subst this
    rw [List.drop_length]
    exact ⟨st, rfl, rfl, rfl, rfl, rfl, inv⟩
  | succ n ih =>
    intro key st hk hm inv
    have hkl : key < src.length := by omega
    obtain ⟨s1, r1, a1, b1, c1, m1, i1⟩ := eu_body1_inv up src key hkl st (by omega) inv
    obtain ⟨s2, r2, a2, b2, c2, m2, i2⟩ := ih (key + 1) s1 (by omega) (by rw [m1]; exact hm) i1
    refine ⟨s2, ?_, a2.trans a1, b2.trans b1, c2.trans c1, m2.trans m1, i2⟩
    rw [List.drop_eq_getElem_cons hkl]
    unfold euLoop1
    rw [r1]
    exact r2

theorem e1Inv_init (up : Bytes → Bytes) (src : List Bytes) (m : List Nat) : E1Inv up src 0 ⟨[], [], m⟩ :=
  ⟨rfl, fun _ => rfl, fun _ hi => absurd hi (Nat.not_lt_zero _), Nat.le_refl _, fun _ _ hi => absurd hi (Nat.not_lt_zero _)⟩

/-- the code a stored code becomes: null stays null; else the position of its upper-cased value in the new table -/
def remapCode (up : Bytes → Bytes) (vals : List Bytes) (c : Nat) : Nat :=
  if c = euNull then euNull else ((vals[c]?).bind (fun v => posOf (upVals up vals) (up v))).getD 0

theorem eu_body2 (up : Bytes → Bytes) (key c : Nat) (st : EUSt) (d : List Nat) (hnd : st.nd = .own d) (hk : key < d.length)
    (hc : c = euNull ∨ c < st.mapping.length) :
    ∃ st', euRunBody up key [] canonELoop2 { st with reg := c } = .ok st' ∧ st'.src = st.src ∧ st'.writes = st.writes ∧
      st'.vals = st.vals ∧ st'.mapping = st.mapping ∧
      st'.nd = .own (d.set key (if c = euNull then euNull else st.mapping[c]!)) := by
  by_cases hn : c = euNull
  · subst hn
    refine ⟨{ st with reg := euNull, nd := .own (d.set key euNull) }, ?_, rfl, rfl, rfl, rfl, by simp⟩
    simp [canonELoop2, euRunBody, EUAct.run, EUCond.eval, EUCode.eval, hnd, hk]
  · have hlt : c < st.mapping.length := hc.resolve_left hn
    refine ⟨{ st with reg := st.mapping[c], nd := .own (d.set key st.mapping[c]) }, ?_, rfl, rfl, rfl, rfl, by simp [hn, hlt]⟩
    have hb : (c != euNull) = true := by simpa using hn
    simp [canonELoop2, euRunBody, euRunActs, EUAct.run, EUCond.eval, EUCode.eval, hnd, hk, hb, hlt]

theorem eu_loop2 (up : Bytes → Bytes) (E : ECol) (f : Nat → Nat) :
    ∀ (n key : Nat) (st : EUSt) (d : List Nat), st.nd = .own d → d.length = E.data.length → st.src = E →
      key + n = E.data.length → d.take key = (E.data.take key).map f →
      (∀ c ∈ E.data, c = euNull ∨ c < st.mapping.length) →
      (∀ c ∈ E.data, f c = if c = euNull then euNull else st.mapping[c]!) →
      ∃ st', euLoop2 up canonELoop2 key n st = .ok st' ∧ st'.src = E ∧ st'.writes = st.writes ∧ st'.vals = st.vals ∧
        st'.nd = .own (E.data.map f) := by
  intro n
  induction n with
  | zero =>
    intro key st d hnd hl hs hk ht _ _
    have hke : key = E.data.length := by omega
    refine ⟨st, rfl, hs, rfl, rfl, ?_⟩
    rw [hnd]
    congr 1
    have h1 : d.take key = d := by rw [hke, ← hl]; exact List.take_length
    have h2 : E.data.take key = E.data := by rw [hke]; exact List.take_length
    rw [← h1, ht, h2]
  | succ n ih =>
    intro key st d hnd hl hs hk ht hc hf
    have hkl : key < E.data.length := by omega
    obtain ⟨s1, r1, a1, b1, c1, m1, d1⟩ := eu_body2 up key E.data[key] st d hnd (by omega) (hc _ (List.getElem_mem hkl))
    have hd' : (d.set key (if E.data[key] = euNull then euNull else st.mapping[E.data[key]]!)).take (key + 1) =
        (E.data.take (key + 1)).map f := by
      rw [List.take_add_one, List.take_add_one, List.getElem?_eq_getElem hkl, List.map_append]
      rw [List.take_set_of_le (Nat.le_refl _), ht, List.getElem?_set_self (by omega)]
      simp only [Option.toList_some, List.map_cons, List.map_nil]
      rw [hf _ (List.getElem_mem hkl)]
    obtain ⟨s2, r2, a2, b2, c2, d2⟩ := ih (key + 1) s1 _ d1 (by simpa using hl) (a1.trans hs) (by omega) hd'
      (by rw [m1]; exact hc) (by rw [m1]; exact hf)
    refine ⟨s2, ?_, a2, b2.trans b1, c2.trans c1, d2⟩
    unfold euLoop2
    rw [hs, List.getElem?_eq_getElem hkl]
    rw [hs] at r1
    simp only
    rw [r1]
    exact r2

/-- the codes are null or point into the value table -/
theorem canonEUpper_run (up : Bytes → Bytes) (E : ECol) (hc : ∀ c ∈ E.data, c = euNull ∨ c < E.values.length) :
    ∃ R, canonEUpper.run up E = .ok R ∧ R.src = E ∧ R.writes = 0 ∧ R.values = upVals up E.values ∧ R.strict = false ∧
      R.data = E.data.map (remapCode up E.values) ∧
      (R.dataShared = true ↔ (upVals up E.values).length = E.values.length) ∧
      (R.dataShared = true → R.data = E.data) := by
  obtain ⟨s1, r1, a1, _, c1, hml, inv⟩ := eu_loop1_inv up E.values E.values.length 0
    { src := E, mapping := List.replicate E.values.length 0 } (by simp) (by simp) (e1Inv_init up E.values _)
  rw [List.drop_zero] at r1
  have hvals : s1.vals = upVals up E.values := by have := inv.vals; rwa [List.take_length] at this
  have hmlen : s1.mapping.length = E.values.length := by simpa using hml
  have hmap : ∀ c, c < E.values.length → s1.mapping[c]! = ((E.values[c]?).bind (fun v => posOf (upVals up E.values) (up v))).getD 0 := by
    intro c hcl
    have := inv.mapping c hcl
    simp only at this
    rw [hvals] at this
    rw [getElem!_pos s1.mapping c (by omega)]
    have h2 : s1.mapping[c]? = some s1.mapping[c] := List.getElem?_eq_getElem (by omega)
    rw [h2] at this
    rw [← this]; rfl
  have hf : ∀ c ∈ E.data, remapCode up E.values c = if c = euNull then euNull else s1.mapping[c]! := by
    intro c hcm
    unfold remapCode
    split
    · rfl
    · rename_i hn
      rcases hc c hcm with h | h
      · exact absurd h hn
      · rw [hmap c h]
  by_cases hsame : s1.vals.length = E.values.length
  · -- the fast path: the source's data is shared
    have hb : (s1.vals.length == E.values.length) = true := by simpa using hsame
    refine ⟨{ data := E.data, values := s1.vals, strict := false, dataShared := true, src := E, writes := 0 },
      ?_, rfl, rfl, hvals, rfl, ?_, ?_, fun _ => rfl⟩
    · simp [EUFn.run, canonEUpper, EULen.eval, r1, hb, EURet.eval, a1, c1]
    · show E.data = _
      have hid : ∀ c ∈ E.data, remapCode up E.values c = c := by
        intro c hcm
        rw [hf c hcm]
        split
        · rename_i h; exact h.symm
        · rename_i hn
          rcases hc c hcm with h | h
          · exact absurd h hn
          · have := inv.ident hsame c h
            rw [getElem!_pos s1.mapping c (by omega)]
            have h2 : s1.mapping[c]? = some s1.mapping[c] := List.getElem?_eq_getElem (by omega)
            rw [h2] at this
            exact Option.some.inj this
      conv => lhs; rw [← List.map_id E.data]
      exact List.map_congr_left (fun c hcm => (hid c hcm).symm)
    · rw [← hvals]; simp [hsame]
  · have hb : (s1.vals.length == E.values.length) = false := by simpa using hsame
    obtain ⟨s2, r2, a2, b2, c2, d2⟩ := eu_loop2 up E (remapCode up E.values) E.data.length 0
      { s1 with nd := .own (List.replicate E.data.length 0) } (List.replicate E.data.length 0) rfl (by simp) a1 (by simp) (by simp)
      (fun c hcm => (hc c hcm).imp_right fun h => by show c < s1.mapping.length; omega) hf
    refine ⟨{ data := E.data.map (remapCode up E.values), values := s1.vals, strict := false, dataShared := false, src := E, writes := 0 },
      ?_, rfl, rfl, hvals, rfl, rfl, ?_, fun h => by cases h⟩
    · simp only [EUFn.run, canonEUpper, EULen.eval, r1, hb, Option.map_some, Bool.false_eq_true, ↓reduceIte]
      rw [r2]
      simp [EURet.eval, d2, a2, b2, c2, c1]
    · rw [← hvals]
      constructor
      · intro h; cases h
      · intro h; exact absurd h hsame

end QF.Props.C06FApplyGen
