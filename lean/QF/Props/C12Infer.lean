import QF.Spec.Csv
import QF.Core.ListFacts
/-!
# C12 (second half): column typing of ReadCSV — `columnToData` mirror, equality with the spec, type inference

Go: `/repo/internal/io/csv.go`, `columnToData` (with `internal/strings.ParseInt/ParseFloat/ParseBool` and the enum
factory of `internal/ecolumn`).  Spec: `QF.csvColumn` in `QF/Spec/Csv.lean`.

* §1 `columnToDataG` mirrors the Go function over the list of cell byte strings of one column (the `bytePointer`s
  into the column's byte blob are abstracted to the slices they denote): the zero-row test, then the blocks
  `if dataType == T || dataType == None { loop with break at the first cell that fails; return / error / fall
  through }` for int, float (empty cell = `math.NaN()`, whose bits are `F64.canonNaN`), bool, the string block
  (null pointer iff empty and `EmptyNull`), the enum block (`conf.EnumVals[colName]`, `delete`, `NewFactory`,
  `AppendNil` / `AppendByteString` with `appendString` and `newEnumVal`, `ToColumn`; the Go map `valToEnum` is an
  association list) and the final "unknown data type" error.  `Data` is the Go `interface{}` result, `Data.toLCol`
  the logical column it denotes, `columnToDataM` the composition.
  The parsers are the parameters `ParseOracle`: `strings.ParseInt` IS `strconv.Atoi` (there is no hand-written
  integer parser in /repo), `strings.ParseFloat` is `strconv.ParseFloat(s, 64)`,
  `strings.ParseBool` is `strconv.ParseBool`.  `enumVal` is a `uint8`; the factory never holds more than 255 values
  (`Factory.Inv.len`), so `Nat` indices are exact.
* §2–§3 the loops against `List.mapM`; the factory against `mkEnum` (invariant `Factory.Inv`).
* §4 `colV`: what the Go function returns for a declared type, in the function's own shape (a cascade of `attempt`s);
  `columnToDataM_eq` (the mirror is `colV`: no case is distinguished), `csvColumn_eq` (the spec's `csvColumn` unfolded
  once, against `colV`);
  `columnToData_eq_spec : columnToDataM po cfg name cells = specView (csvColumn po cfg name cells)` for all
  oracles, configurations, names and cell lists.  The mirror returns `none` for an error and `some (column,
  deleted)` otherwise, where `deleted` says whether `delete(conf.EnumVals, colName)` removed an entry; `specView`
  forgets the spec's flag when the spec's column is `none` (ReadCSV fails then, the flag is not observable).
  `columnToData_eq_spec_pair` is the same equation read from the spec's side.
* §5 `infer_spec` (`Inferred`): the declarative characterisation of the inference for untyped columns, its
  completeness (`Inferred.unique`, `infer_spec_complete`).
* §6 examples by evaluation of the mirror.  NOTE `["1","true"]` is a BOOL column in the Go code (ParseBool accepts
  "1"), not a string column; `["1","0"]` is int.
-/
namespace QF.Props.C12Infer
open QF

/-! ## §0 the pointwise relation -/

inductive Forall₂ {α β} (R : α → β → Prop) : List α → List β → Prop
  | nil : Forall₂ R [] []
  | cons {a b l₁ l₂} : R a b → Forall₂ R l₁ l₂ → Forall₂ R (a :: l₁) (b :: l₂)

/-! ## §1 the mirror -/

/-- What `columnToData` returns in its `interface{}` result. -/
inductive Data where
  | empty                                              -- `ncolumn.Column{}` (zero rows, no declared type)
  | ints (a : Array Int)                               -- `[]int`
  | floats (a : Array UInt64)                          -- `[]float64` (bits)
  | bools (a : Array Bool)                             -- `[]bool`
  | blob (ptrs : Array (Option Bytes))                 -- `strings.StringBlob`: null pointer or the cell's bytes
  | enum (values : List Bytes) (strict : Bool) (data : Array Nat)   -- `ecolumn.Column`
  deriving Repr

/-- `conf.Types[colName]`; a missing key yields the zero value `types.None = ""`. -/
def dataTypeOf (cfg : CsvCfg) (name : Bytes) : String :=
  match cfg.types.find? (·.1 == name) with
  | some e => e.2
  | none => ""

/-- The `[]int` loop: `(intData, err != nil)`; leaves at the first cell that does not parse. -/
def intLoop (po : ParseOracle) : List Bytes → Array Int → Array Int × Bool
  | [], acc => (acc, false)
  | p :: ps, acc =>
    match po.atoi p with
    | none => (acc, true)
    | some x => intLoop po ps (acc.push x)

def floatLoop (po : ParseOracle) : List Bytes → Array UInt64 → Array UInt64 × Bool
  | [], acc => (acc, false)
  | p :: ps, acc =>
    if p.isEmpty then floatLoop po ps (acc.push F64.canonNaN)      -- `continue`
    else match po.pfloat p with
      | none => (acc, true)
      | some x => floatLoop po ps (acc.push x)

def boolLoop (po : ParseOracle) : List Bytes → Array Bool → Array Bool × Bool
  | [], acc => (acc, false)
  | p :: ps, acc =>
    match po.pbool p with
    | none => (acc, true)
    | some x => boolLoop po ps (acc.push x)

def strLoop (emptyNull : Bool) : List Bytes → Array (Option Bytes) → Array (Option Bytes)
  | [], acc => acc
  | p :: ps, acc =>
    if p.isEmpty && emptyNull then strLoop emptyNull ps (acc.push none)
    else strLoop emptyNull ps (acc.push (some p))

/-! ### the enum factory (`internal/ecolumn`) -/

def maxCardinality : Nat := 255
def nullValue : Nat := maxCardinality

/-- `ecolumn.Factory`; the Go map `valToEnum` as an association list, newest binding first. -/
structure Factory where
  values : List Bytes
  strict : Bool
  data : Array Nat
  valToEnum : List (Bytes × Nat)
  deriving Repr

def mapGet (m : List (Bytes × Nat)) (s : Bytes) : Option Nat :=
  match m.find? (·.1 == s) with
  | some e => some e.2
  | none => none

/-- `for i, v := range values { valToEnum[v] = enumVal(i) }` -/
def buildMap : List Bytes → Nat → List (Bytes × Nat) → List (Bytes × Nat)
  | [], _, m => m
  | v :: vs, i, m => buildMap vs (i + 1) ((v, i) :: m)

def newFactory (values : List Bytes) : Option Factory :=
  if values.length > maxCardinality then none
  else some { values := values, strict := values.length > 0, data := #[], valToEnum := buildMap values 0 [] }

def Factory.appendNil (f : Factory) : Factory := { f with data := f.data.push nullValue }

/-- `AppendByteString` (with `appendString` and `newEnumVal` inlined); `none` = error. -/
def Factory.appendByteString (f : Factory) (s : Bytes) : Option Factory :=
  match mapGet f.valToEnum s with
  | some e => some { f with data := f.data.push e }
  | none =>
    if f.strict then none
    else if f.values.length ≥ maxCardinality then none
    else
      let ev := f.values.length
      some { values := f.values ++ [s], strict := f.strict, valToEnum := (s, ev) :: f.valToEnum, data := f.data.push ev }

def enumLoop (emptyNull : Bool) : List Bytes → Factory → Option Factory
  | [], f => some f
  | p :: ps, f =>
    if p.isEmpty && emptyNull then enumLoop emptyNull ps f.appendNil
    else match f.appendByteString p with
      | none => none
      | some f' => enumLoop emptyNull ps f'

/-- `some r`: the block returns `r` (`none` = error); `none`: control falls through to the next block. -/
abbrev Block := Option (Option (Data × Bool))

/-- `if dataType == types.Int || dataType == types.None { … }` -/
def intBlock (po : ParseOracle) (dataType : String) (cells : List Bytes) : Block :=
  if dataType == "int" || dataType == "" then
    let r := intLoop po cells #[]
    if !r.2 then some (some (.ints r.1, false))
    else if dataType == "int" then some none
    else none
  else none

def floatBlock (po : ParseOracle) (dataType : String) (cells : List Bytes) : Block :=
  if dataType == "float" || dataType == "" then
    let r := floatLoop po cells #[]
    if !r.2 then some (some (.floats r.1, false))
    else if dataType == "float" then some none
    else none
  else none

def boolBlock (po : ParseOracle) (dataType : String) (cells : List Bytes) : Block :=
  if dataType == "bool" || dataType == "" then
    let r := boolLoop po cells #[]
    if !r.2 then some (some (.bools r.1, false))
    else if dataType == "bool" then some none
    else none
  else none

def stringBlock (cfg : CsvCfg) (dataType : String) (cells : List Bytes) : Block :=
  if dataType == "string" || dataType == "" then
    some (some (.blob (strLoop cfg.emptyNull cells #[]), false))
  else none

/-- The enum part of the Go function (factory creation, loop, `ToColumn`). -/
def enumG (en : Bool) (decl : List Bytes) (cs : List Bytes) : Option Data :=
  match newFactory decl with
  | none => none
  | some factory =>
    match enumLoop en cs factory with
    | none => none
    | some f => some (.enum f.values f.strict f.data)

def enumBlock (cfg : CsvCfg) (dataType : String) (name : Bytes) (cells : List Bytes) : Block :=
  if dataType == "enum" then
    -- `values := conf.EnumVals[colName]` (nil when absent); `delete(conf.EnumVals, colName)`
    let values := match cfg.enums.find? (·.1 == name) with
      | some e => e.2
      | none => []
    let deleted := cfg.enums.any (·.1 == name)
    match enumG cfg.emptyNull values cells with
    | none => some none
    | some d => some (some (d, deleted))
  else none

/-- The Go function. Result: `none` = an error is returned; `some (data, deleted)` = `data` is returned and
`deleted` tells whether `delete(conf.EnumVals, colName)` removed an entry. -/
def columnToDataG (po : ParseOracle) (cfg : CsvCfg) (name : Bytes) (cells : List Bytes) : Option (Data × Bool) :=
  let dataType := dataTypeOf cfg name
  if cells.length == 0 && dataType == "" then some (.empty, false) else
  match intBlock po dataType cells with
  | some r => r
  | none =>
  match floatBlock po dataType cells with
  | some r => r
  | none =>
  match boolBlock po dataType cells with
  | some r => r
  | none =>
  match stringBlock cfg dataType cells with
  | some r => r
  | none =>
  match enumBlock cfg dataType name cells with
  | some r => r
  | none => none          -- "unknown data type"

/-- Enum cell as the user observes it (`ecolumn.Column.StringAt`-like decoding). -/
def decodeEnum (values : List Bytes) (e : Nat) : Cell :=
  if e == nullValue then .str none else .str values[e]?

/-- The logical column denoted by returned data. -/
def Data.toLCol (name : Bytes) : Data → LCol
  | .empty => { name := name, ty := .undef, cells := #[] }
  | .ints a => { name := name, ty := .int, cells := (a.toList.map Cell.int).toArray }
  | .floats a => { name := name, ty := .float, cells := (a.toList.map Cell.float).toArray }
  | .bools a => { name := name, ty := .bool, cells := (a.toList.map Cell.bool).toArray }
  | .blob a => { name := name, ty := .string, cells := (a.toList.map Cell.str).toArray }
  | .enum values strict data =>
    { name := name, ty := .enum, vals := values, strict := strict, cells := (data.toList.map (decodeEnum values)).toArray }

def columnToDataM (po : ParseOracle) (cfg : CsvCfg) (name : Bytes) (cells : List Bytes) : Option (LCol × Bool) :=
  (columnToDataG po cfg name cells).map (fun r => (r.1.toLCol name, r.2))

/-- The observable part of the spec's result: on an error the flag is not observable. -/
def specView (r : Option LCol × Bool) : Option (LCol × Bool) := r.1.map (fun c => (c, r.2))


/-! ## §2 the loops -/

/-- The float parser of a cell with the `p.start == p.end` test in front. -/
def gFloat (po : ParseOracle) (c : Bytes) : Option UInt64 :=
  if c.isEmpty then some F64.canonNaN else po.pfloat c

/-- `loop` appends the values `g` makes of the cells and leaves, with the flag set, at the first cell `g` rejects:
the shape of the int, float and bool loops. -/
structure ParseLoop {α : Type} (g : Bytes → Option α) (loop : List Bytes → Array α → Array α × Bool) : Prop where
  nil : ∀ acc, loop [] acc = (acc, false)
  fail : ∀ {p} ps acc, g p = none → loop (p :: ps) acc = (acc, true)
  ok : ∀ {p x} ps acc, g p = some x → loop (p :: ps) acc = loop ps (acc.push x)

/-- Such a loop computes `mapM g`: the flag says whether it failed, and if not the values are appended. -/
theorem ParseLoop.eq_mapM {α : Type} {g : Bytes → Option α} {loop} (h : ParseLoop g loop) (cs : List Bytes) (acc : Array α) :
    (loop cs acc).2 = (cs.mapM g).isNone ∧ ∀ xs, cs.mapM g = some xs → (loop cs acc).1 = acc ++ xs.toArray := by
  induction cs generalizing acc with
  | nil => simp [h.nil]
  | cons c cs ih =>
    rw [ListFacts.mapM_cons_opt]
    cases hc : g c with
    | none => simp [h.fail cs acc hc]
    | some x =>
      rw [h.ok cs acc hc]
      cases hl : cs.mapM g with
      | none => simpa [hl] using (ih (acc.push x)).1
      | some ys => simpa [hl] using ih (acc.push x)

theorem intLoop_parse (po : ParseOracle) : ParseLoop po.atoi (intLoop po) :=
  ⟨fun _ => rfl, fun _ _ h => by simp [intLoop, h], fun _ _ h => by simp [intLoop, h]⟩

theorem boolLoop_parse (po : ParseOracle) : ParseLoop po.pbool (boolLoop po) :=
  ⟨fun _ => rfl, fun _ _ h => by simp [boolLoop, h], fun _ _ h => by simp [boolLoop, h]⟩

theorem floatLoop_parse (po : ParseOracle) : ParseLoop (gFloat po) (floatLoop po) := by
  refine ⟨fun _ => rfl, fun {p} _ _ h => ?_, fun {p x} _ _ h => ?_⟩ <;>
    by_cases he : p.isEmpty <;> simp [gFloat, he] at h <;> simp [floatLoop, he, h]

/-- The pointer written for one cell by the string loop. -/
def strPtr (emptyNull : Bool) (c : Bytes) : Option Bytes := if c.isEmpty && emptyNull then none else some c

theorem strLoop_eq (en : Bool) (cs : List Bytes) (acc : Array (Option Bytes)) :
    strLoop en cs acc = acc ++ (cs.map (strPtr en)).toArray := by
  induction cs generalizing acc with
  | nil => simp [strLoop]
  | cons c cs ih =>
    by_cases he : (c.isEmpty && en) = true
    · simp [strLoop, strPtr, he, ih]
    · simp [strLoop, strPtr, he, ih]


/-! ## §3 the enum factory -/

/-- The cell the specification makes of a cell text in a string or enum column. -/
def strCell (emptyNull : Bool) (c : Bytes) : Cell := if c.isEmpty && emptyNull then Cell.str none else Cell.str (some c)

theorem strCell_eq (en : Bool) (c : Bytes) : strCell en c = Cell.str (strPtr en c) := by
  unfold strCell strPtr; split <;> rfl

/-- The step of the fold in `mkEnum` (values in order of first appearance). -/
def enumStep (acc : List Bytes) (c : Cell) : List Bytes :=
  match c with
  | .str (some s) => if acc.contains s then acc else acc ++ [s]
  | _ => acc

theorem enumStep_length_le (acc : List Bytes) (c : Cell) : acc.length ≤ (enumStep acc c).length := by
  unfold enumStep
  split
  · split <;> simp
  · exact Nat.le_refl _

theorem foldl_enumStep_length_le (cs : List Cell) (acc : List Bytes) :
    acc.length ≤ (cs.foldl enumStep acc).length := by
  induction cs generalizing acc with
  | nil => exact Nat.le_refl _
  | cons c cs ih => exact Nat.le_trans (enumStep_length_le acc c) (ih _)

theorem mapGet_cons (k : Bytes) (v : Nat) (m : List (Bytes × Nat)) (s : Bytes) :
    mapGet ((k, v) :: m) s = if k = s then some v else mapGet m s := by
  unfold mapGet
  by_cases h : k = s
  · simp [h]
  · simp [h]

theorem buildMap_get_some (P : Bytes → Nat → Prop) (vs : List Bytes) (i : Nat) (m : List (Bytes × Nat))
    (hm : ∀ s e, mapGet m s = some e → P s e)
    (hv : ∀ j (h : j < vs.length), P vs[j] (i + j)) :
    ∀ s e, mapGet (buildMap vs i m) s = some e → P s e := by
  induction vs generalizing i m with
  | nil => simpa [buildMap] using hm
  | cons v vs ih =>
    unfold buildMap
    apply ih
    · intro s e
      rw [mapGet_cons]
      split
      · rename_i hvs
        intro he
        simp only [Option.some.injEq] at he
        subst he; subst hvs
        exact hv 0 (by simp)
      · exact hm s e
    · intro j h
      have := hv (j + 1) (by simpa using h)
      simpa [Nat.add_assoc, Nat.add_comm 1 j] using this

theorem buildMap_get_none (vs : List Bytes) (i : Nat) (m : List (Bytes × Nat)) (s : Bytes) :
    mapGet (buildMap vs i m) s = none ↔ mapGet m s = none ∧ s ∉ vs := by
  induction vs generalizing i m with
  | nil => simp [buildMap]
  | cons v vs ih =>
    unfold buildMap
    rw [ih, mapGet_cons]
    by_cases h : v = s
    · simp [h]
    · have h' : ¬ s = v := fun e => h e.symm
      simp [h, h']

/-- Decoded data of a factory. -/
def Factory.dec (f : Factory) : List Cell := f.data.toList.map (decodeEnum f.values)

structure Factory.Inv (f : Factory) : Prop where
  len : f.values.length ≤ 255
  get_some : ∀ s e, mapGet f.valToEnum s = some e → f.values[e]? = some s
  get_none : ∀ s, mapGet f.valToEnum s = none ↔ s ∉ f.values
  data : ∀ e ∈ f.data.toList, e = 255 ∨ e < f.values.length

theorem newFactory_none (values : List Bytes) (h : values.length > 255) : newFactory values = none := by
  simp [newFactory, maxCardinality, h]

theorem newFactory_some (values : List Bytes) (h : ¬ values.length > 255) :
    ∃ f, newFactory values = some f ∧ f.Inv ∧ f.values = values ∧ f.strict = decide (values.length > 0) ∧ f.dec = [] := by
  refine ⟨_, by simp only [newFactory, maxCardinality, h, ↓reduceIte]; rfl, ?_, rfl, rfl, by simp [Factory.dec]⟩
  constructor
  · simp only; omega
  · apply buildMap_get_some (fun s e => values[e]? = some s)
    · intro s e h; simp [mapGet] at h
    · intro j h; simp [h]
  · intro s
    simp only
    rw [buildMap_get_none]
    simp [mapGet]
  · simp

theorem Factory.Inv.appendNil {f : Factory} (hi : f.Inv) : f.appendNil.Inv := by
  constructor
  · exact hi.len
  · exact hi.get_some
  · exact hi.get_none
  · intro e he
    simp only [Factory.appendNil, Array.toList_push, List.mem_append, List.mem_singleton] at he
    rcases he with he | he
    · exact hi.data e he
    · left; simpa [nullValue, maxCardinality] using he

theorem Factory.dec_appendNil (f : Factory) : f.appendNil.dec = f.dec ++ [Cell.str none] := by
  simp [Factory.dec, Factory.appendNil, decodeEnum]

theorem decodeEnum_lt {values : List Bytes} {e : Nat} {s : Bytes} (hl : values.length ≤ 255)
    (h : values[e]? = some s) : decodeEnum values e = Cell.str (some s) := by
  have hlt : e < values.length := by
    rcases Nat.lt_or_ge e values.length with h' | h'
    · exact h'
    · rw [List.getElem?_eq_none h'] at h; simp at h
  have : e ≠ 255 := by omega
  simp [decodeEnum, nullValue, maxCardinality, this, h]

theorem decodeEnum_append {values : List Bytes} {e : Nat} (s : Bytes)
    (h : e = 255 ∨ e < values.length) : decodeEnum (values ++ [s]) e = decodeEnum values e := by
  unfold decodeEnum
  rcases h with h | h
  · simp [h, nullValue, maxCardinality]
  · rw [List.getElem?_append_left h]

/-- `AppendByteString` when the value is already in the table. -/
theorem append_known {f : Factory} (hi : f.Inv) {s : Bytes} (hs : s ∈ f.values) :
    ∃ f', f.appendByteString s = some f' ∧ f'.Inv ∧ f'.values = f.values ∧ f'.strict = f.strict ∧
      f'.dec = f.dec ++ [Cell.str (some s)] := by
  cases hg : mapGet f.valToEnum s with
  | none => exact absurd hs ((hi.get_none s).1 hg)
  | some e =>
    have hv := hi.get_some s e hg
    have hlt : e < f.values.length := by
      rcases Nat.lt_or_ge e f.values.length with h' | h'
      · exact h'
      · rw [List.getElem?_eq_none h'] at hv; simp at hv
    refine ⟨{ f with data := f.data.push e }, by simp [Factory.appendByteString, hg], ?_, rfl, rfl, ?_⟩
    · constructor
      · exact hi.len
      · exact hi.get_some
      · exact hi.get_none
      · intro e' he
        simp only [Array.toList_push, List.mem_append, List.mem_singleton] at he
        rcases he with he | he
        · exact hi.data e' he
        · right; subst he; exact hlt
    · simp [Factory.dec, decodeEnum_lt hi.len hv]

/-- `AppendByteString` of an unknown value to a strict factory. -/
theorem append_strict {f : Factory} (hi : f.Inv) {s : Bytes} (hs : s ∉ f.values) (hst : f.strict = true) :
    f.appendByteString s = none := by
  have hg := (hi.get_none s).2 hs
  simp [Factory.appendByteString, hg, hst]

theorem append_full {f : Factory} (hi : f.Inv) {s : Bytes} (hs : s ∉ f.values) (hl : f.values.length ≥ 255) :
    f.appendByteString s = none := by
  have hg := (hi.get_none s).2 hs
  simp only [Factory.appendByteString, hg, maxCardinality]
  split
  · rfl
  · simp [hl]

theorem append_new {f : Factory} (hi : f.Inv) {s : Bytes} (hs : s ∉ f.values) (hst : f.strict = false)
    (hl : f.values.length < 255) :
    ∃ f', f.appendByteString s = some f' ∧ f'.Inv ∧ f'.values = f.values ++ [s] ∧ f'.strict = false ∧
      f'.dec = f.dec ++ [Cell.str (some s)] := by
  have hg := (hi.get_none s).2 hs
  have hnl : ¬ f.values.length ≥ 255 := by omega
  refine ⟨{ values := f.values ++ [s], strict := f.strict, valToEnum := (s, f.values.length) :: f.valToEnum,
            data := f.data.push f.values.length },
          by simp [Factory.appendByteString, hg, hst, maxCardinality, hnl], ?_, rfl, hst, ?_⟩
  · constructor
    · simp only [List.length_append, List.length_singleton]; omega
    · intro s' e'
      simp only
      rw [mapGet_cons]
      split
      · rename_i h; subst h
        intro he; simp only [Option.some.injEq] at he; subst he
        simp
      · intro he
        have := hi.get_some s' e' he
        have hlt : e' < f.values.length := by
          rcases Nat.lt_or_ge e' f.values.length with h' | h'
          · exact h'
          · rw [List.getElem?_eq_none h'] at this; simp at this
        rw [List.getElem?_append_left hlt]; exact this
    · intro s'
      simp only
      rw [mapGet_cons]
      by_cases h : s = s'
      · simp [h]
      · have h' : ¬ s' = s := fun e => h e.symm
        simp [h, h', hi.get_none s']
    · intro e' he
      simp only [Array.toList_push, List.mem_append, List.mem_singleton, List.length_append,
        List.length_singleton] at he ⊢
      rcases he with he | he
      · rcases hi.data e' he with h | h
        · left; exact h
        · right; omega
      · right; omega
  · simp only [Factory.dec, Array.toList_push, List.map_append, List.map_cons, List.map_nil]
    congr 1
    · apply List.map_congr_left
      intro e he
      exact decodeEnum_append s (hi.data e he)
    · have : (f.values ++ [s])[f.values.length]? = some s := by simp
      rw [decodeEnum_lt (by simp only [List.length_append, List.length_singleton]; omega) this]


/-- The test of `mkEnum` for declared values. -/
def declOk (declared : List Bytes) (c : Cell) : Bool :=
  match c with
  | .str (some s) => declared.contains s
  | _ => true

/-- What `mkEnum` makes of a value table and the cells that are left: with declared values (`strict`) every cell text
must be among them and the table stays; without, the texts are collected and there may be at most 255. -/
def enumVals (strict : Bool) (vals : List Bytes) (src : List Cell) : Option (List Bytes) :=
  if strict then (if src.all (declOk vals) then some vals else none)
  else if 255 < (src.foldl enumStep vals).length then none else some (src.foldl enumStep vals)

theorem enumVals_cons_same {strict : Bool} {vals : List Bytes} {c : Cell} (src : List Cell)
    (h : enumStep vals c = vals) (hd : declOk vals c = true) :
    enumVals strict vals (c :: src) = enumVals strict vals src := by
  simp [enumVals, h, hd]

/-- The factory loop computes `enumVals` and appends the cells. -/
theorem enumLoop_eq (en : Bool) (cs : List Bytes) (f : Factory) (hi : f.Inv) :
    match enumVals f.strict f.values (cs.map (strCell en)) with
    | none => enumLoop en cs f = none
    | some vs => ∃ f', enumLoop en cs f = some f' ∧ f'.values = vs ∧ f'.strict = f.strict ∧
        f'.dec = f.dec ++ cs.map (strCell en) := by
  induction cs generalizing f with
  | nil =>
    have := hi.len
    cases hst : f.strict
    · have h : ¬ 255 < f.values.length := by omega
      simp [enumVals, hst, h, enumLoop]
    · simp [enumVals, hst, enumLoop]
  | cons c cs ih =>
    by_cases hn : (c.isEmpty && en) = true
    · -- a null cell
      have hc : strCell en c = Cell.str none := by simp [strCell, hn]
      have ih' := ih f.appendNil hi.appendNil
      rw [Factory.dec_appendNil] at ih'
      simp only [List.map_cons, hc, enumVals_cons_same _ (rfl : enumStep f.values (.str none) = _) rfl, enumLoop, hn,
        ↓reduceIte]
      simpa [List.append_assoc, Factory.appendNil] using ih'
    · have hc : strCell en c = Cell.str (some c) := by simp [strCell, hn]
      simp only [List.map_cons, hc, enumLoop, hn]
      by_cases hm : c ∈ f.values
      · obtain ⟨f₁, ha, hi₁, hv₁, hs₁, hd₁⟩ := append_known hi hm
        have ih' := ih f₁ hi₁
        rw [hv₁, hd₁, hs₁] at ih'
        simp only [enumVals_cons_same _ (by simp [enumStep, hm] : enumStep f.values (.str (some c)) = _)
          (by simp [declOk, hm]), ha, Bool.false_eq_true, ↓reduceIte]
        simpa [List.append_assoc] using ih'
      · cases hst : f.strict
        · by_cases hl : f.values.length < 255
          · obtain ⟨f₁, ha, hi₁, hv₁, hs₁, hd₁⟩ := append_new hi hm hst hl
            have ih' := ih f₁ hi₁
            rw [hv₁, hd₁, hs₁] at ih'
            simp only [ha, Bool.false_eq_true, ↓reduceIte]
            simpa [enumVals, enumStep, hm, List.append_assoc] using ih'
          · have hge := foldl_enumStep_length_le (cs.map (strCell en)) (f.values ++ [c])
            simp only [List.length_append, List.length_singleton] at hge
            have : 255 < ((cs.map (strCell en)).foldl enumStep (f.values ++ [c])).length := by omega
            simp [enumVals, enumStep, hm, this, append_full hi hm (by omega)]
        · simp [enumVals, declOk, hm, append_strict hi hm hst]

theorem mkEnum_eq (decl : List Bytes) (src : List Cell) :
    mkEnum decl src =
      if decl.length > 255 then none
      else if !decl.isEmpty then (if src.all (declOk decl) then some (decl, true) else none)
      else if (src.foldl enumStep []).length > 255 then none else some (src.foldl enumStep [], false) := rfl

theorem enumG_eq (en : Bool) (decl : List Bytes) (cs : List Bytes) (name : Bytes) (b : Bool) :
    (enumG en decl cs).map (fun d => (d.toLCol name, b)) =
      (mkEnum decl (cs.map (strCell en))).map (fun r =>
        (({ name := name, ty := .enum, vals := r.1, strict := r.2, cells := (cs.map (strCell en)).toArray } : LCol), b)) := by
  rw [mkEnum_eq]
  unfold enumG
  by_cases hl : decl.length > 255
  · simp [newFactory_none decl hl, hl]
  · obtain ⟨fac, hf, hi, hv, hs, hd⟩ := newFactory_some decl hl
    have hL := enumLoop_eq en cs fac hi
    have hstr : decide (decl.length > 0) = !decl.isEmpty := by cases decl <;> rfl
    rw [hv, hs, hd, hstr, List.nil_append] at hL
    simp only [hf, hl, ↓reduceIte]
    -- `mkEnum` after the length test is `enumVals`, the flag being "values were declared"
    have hmk : (if (!decl.isEmpty) = true then
          (if (cs.map (strCell en)).all (declOk decl) = true then some (decl, true) else none)
        else if ((cs.map (strCell en)).foldl enumStep []).length > 255 then none
          else some ((cs.map (strCell en)).foldl enumStep [], false)) =
        (enumVals (!decl.isEmpty) decl (cs.map (strCell en))).map (fun vs => (vs, !decl.isEmpty)) := by
      cases decl with
      | nil =>
        simp only [enumVals, List.isEmpty_nil, Bool.not_true, Bool.false_eq_true, if_false]
        split <;> rfl
      | cons a b =>
        simp only [enumVals, List.isEmpty_cons, Bool.not_false, if_true]
        split <;> rfl
    rw [hmk]
    cases hv : enumVals (!decl.isEmpty) decl (cs.map (strCell en)) with
    | none => rw [hv] at hL; simp [hL]
    | some vs =>
      rw [hv] at hL
      obtain ⟨f', hr, hv', hs', hd'⟩ := hL
      have hcl : (f'.data.toList.map (decodeEnum f'.values)).toArray = (cs.map (strCell en)).toArray :=
        congrArg List.toArray hd'
      rw [hv'] at hcl
      simp only [hr, Option.map_some, Data.toLCol, hv', hs', hcl]


/-! ## §4 the mirror is the specification -/

theorem dataTypeOf_some {cfg : CsvCfg} {name : Bytes} {s : String}
    (h : (cfg.types.find? (·.1 == name)).map (·.2) = some s) : dataTypeOf cfg name = s := by
  unfold dataTypeOf
  cases hf : cfg.types.find? (·.1 == name) with
  | none => simp [hf] at h
  | some e => simpa [hf] using h

theorem dataTypeOf_none {cfg : CsvCfg} {name : Bytes}
    (h : (cfg.types.find? (·.1 == name)).map (·.2) = none) : dataTypeOf cfg name = "" := by
  unfold dataTypeOf
  cases hf : cfg.types.find? (·.1 == name) with
  | none => rfl
  | some e => simp [hf] at h

/-- The column is untyped: `conf.Types` has no entry for it, or the entry is `types.None`. -/
theorem dataTypeOf_eq_empty_iff (cfg : CsvCfg) (name : Bytes) :
    dataTypeOf cfg name = "" ↔
      (cfg.types.find? (·.1 == name)).map (·.2) = none ∨ (cfg.types.find? (·.1 == name)).map (·.2) = some "" := by
  unfold dataTypeOf
  cases cfg.types.find? (·.1 == name) with
  | none => simp
  | some e => simp

theorem spec_int_fun (po : ParseOracle) :
    (fun c => Option.map Cell.int (po.atoi c)) = fun c => (po.atoi c).map Cell.int := rfl

theorem spec_float_fun (po : ParseOracle) :
    (fun c : Bytes => if c.isEmpty = true then some (Cell.float F64.canonNaN) else Option.map Cell.float (po.pfloat c))
      = fun c => (gFloat po c).map Cell.float := by
  funext c
  unfold gFloat
  split <;> rfl

theorem spec_str_fun (en : Bool) :
    (fun c : Bytes => if (c.isEmpty && en) = true then Cell.str none else Cell.str (some c)) = strCell en := rfl

/-- One attempt of the cascade, `if dataType == ty || dataType == None { parse all cells; return them if all parsed; return
an error if dataType == ty }` followed by `k`, on the result `r` of parsing all cells. -/
def attempt {α β : Type} (dt ty : String) (r : Option α) (mk : α → β) (k : Option β) : Option β :=
  if dt == ty || dt == "" then r.elim (if dt == ty then none else k) (fun xs => some (mk xs)) else k

theorem attempt_map {α β γ : Type} (f : β → γ) (dt ty : String) (r : Option α) (mk : α → β) (k : Option β) :
    (attempt dt ty r mk k).map f = attempt dt ty r (fun x => f (mk x)) (k.map f) := by
  unfold attempt
  by_cases h : (dt == ty || dt == "") = true
  · rw [if_pos h, if_pos h]
    cases r with
    | some x => rfl
    | none => by_cases h' : (dt == ty) = true <;> simp [h']
  · rw [if_neg h, if_neg h]

theorem attempt_some {α β : Type} {dt ty : String} {r : Option α} {mk : α → β} {k : Option β} {y : β}
    (h : attempt dt ty r mk k = some y) : (∃ x, r = some x ∧ y = mk x) ∨ k = some y := by
  unfold attempt at h
  split at h
  · cases r with
    | some x => exact .inl ⟨x, rfl, by cases h; rfl⟩
    | none =>
      simp only [Option.elim_none] at h
      split at h
      · cases h
      · exact .inr h
  · exact .inr h

/-- The string block, the enum block and the final error, on logical columns (`mkEnum` for the factory). -/
def strEnumV (cfg : CsvCfg) (name : Bytes) (cells : List Bytes) (dt : String) : Option (LCol × Bool) :=
  if dt == "string" || dt == "" then
    some ({ name := name, ty := .string, cells := (cells.map (strCell cfg.emptyNull)).toArray }, false)
  else if dt == "enum" then
    (mkEnum (((cfg.enums.find? (·.1 == name)).map (·.2)).getD []) (cells.map (strCell cfg.emptyNull))).map fun r =>
      ({ name := name, ty := .enum, vals := r.1, strict := r.2, cells := (cells.map (strCell cfg.emptyNull)).toArray },
        cfg.enums.any (·.1 == name))
  else none

/-- What `columnToData` returns for the declared type `dt` (`""`: none declared), as a logical column: the Go function's
cascade, with `List.mapM` for the loops. -/
def colV (po : ParseOracle) (cfg : CsvCfg) (name : Bytes) (cells : List Bytes) (dt : String) : Option (LCol × Bool) :=
  if cells.length == 0 && dt == "" then some ({ name := name, ty := .undef, cells := #[] }, false) else
  attempt dt "int" (cells.mapM po.atoi) (fun xs => ({ name := name, ty := .int, cells := (xs.map Cell.int).toArray }, false)) <|
  attempt dt "float" (cells.mapM (gFloat po))
    (fun xs => ({ name := name, ty := .float, cells := (xs.map Cell.float).toArray }, false)) <|
  attempt dt "bool" (cells.mapM po.pbool) (fun xs => ({ name := name, ty := .bool, cells := (xs.map Cell.bool).toArray }, false)) <|
  strEnumV cfg name cells dt

/-- The mirror as a chain: every block returns or hands on to the next. -/
theorem columnToDataG_eq (po : ParseOracle) (cfg : CsvCfg) (name : Bytes) (cells : List Bytes) :
    columnToDataG po cfg name cells =
      if cells.length == 0 && dataTypeOf cfg name == "" then some (.empty, false) else
      (intBlock po (dataTypeOf cfg name) cells).getD <| (floatBlock po (dataTypeOf cfg name) cells).getD <|
      (boolBlock po (dataTypeOf cfg name) cells).getD <| (stringBlock cfg (dataTypeOf cfg name) cells).getD <|
      (enumBlock cfg (dataTypeOf cfg name) name cells).getD none := by
  have hm : ∀ (b : Block) (K : Option (Data × Bool)), (match b with | some r => r | none => K) = b.getD K := by
    intro b K; cases b <;> rfl
  unfold columnToDataG
  simp only [hm]

/-- A block `if dataType == ty || dataType == None { loop; return / error / fall through }` of the mirror, followed by `K`,
is an attempt on `mapM g`. -/
theorem parseBlock_attempt {α : Type} {g : Bytes → Option α} {loop} (h : ParseLoop g loop) (mk : Array α → Data) (ty dt : String)
    (cells : List Bytes) (K : Option (Data × Bool)) :
    (if dt == ty || dt == "" then
        (if !(loop cells #[]).2 then some (some (mk (loop cells #[]).1, false)) else if dt == ty then some none else none)
      else none : Block).getD K =
    attempt dt ty (cells.mapM g) (fun xs => (mk xs.toArray, false)) K := by
  obtain ⟨h2, h1⟩ := h.eq_mapM cells #[]
  unfold attempt
  cases hm : cells.mapM g with
  | none => cases hd : dt == ty <;> cases hn : dt == "" <;> simp [h2, hm]
  | some xs => cases hd : dt == ty <;> cases hn : dt == "" <;> simp [h2, hm, h1 xs hm]

theorem stringBlock_eq (cfg : CsvCfg) (dt : String) (cells : List Bytes) :
    stringBlock cfg dt cells = if dt == "string" || dt == "" then
      some (some (.blob (cells.map (strPtr cfg.emptyNull)).toArray, false)) else none := by
  simp [stringBlock, strLoop_eq]

theorem strEnum_eq (cfg : CsvCfg) (name : Bytes) (cells : List Bytes) (dt : String) :
    ((stringBlock cfg dt cells).getD ((enumBlock cfg dt name cells).getD none)).map (fun r => (r.1.toLCol name, r.2)) =
      strEnumV cfg name cells dt := by
  have hdecl : (match cfg.enums.find? (·.1 == name) with | some e => e.2 | none => []) =
      ((cfg.enums.find? (·.1 == name)).map (·.2)).getD [] := by
    cases cfg.enums.find? (·.1 == name) <;> rfl
  unfold strEnumV
  simp only [stringBlock_eq, enumBlock, hdecl]
  by_cases hs : (dt == "string" || dt == "") = true
  · simp [hs, Data.toLCol, strCell_eq]
  rw [if_neg hs, if_neg hs]
  by_cases he : (dt == "enum") = true
  · -- enum: `enumG` is `mkEnum` (`enumG_eq`)
    rw [if_pos he, if_pos he, ← enumG_eq]
    cases enumG cfg.emptyNull (((cfg.enums.find? (·.1 == name)).map (·.2)).getD []) cells <;> rfl
  · rw [if_neg he, if_neg he]; rfl

/-- **The mirror in closed form**: same shape, so no case is distinguished. -/
theorem columnToDataM_eq (po : ParseOracle) (cfg : CsvCfg) (name : Bytes) (cells : List Bytes) :
    columnToDataM po cfg name cells = colV po cfg name cells (dataTypeOf cfg name) := by
  unfold columnToDataM colV
  rw [columnToDataG_eq]
  simp only [intBlock, floatBlock, boolBlock, parseBlock_attempt (intLoop_parse po), parseBlock_attempt (floatLoop_parse po),
    parseBlock_attempt (boolLoop_parse po)]
  rw [apply_ite (Option.map _), attempt_map, attempt_map, attempt_map, strEnum_eq]
  rfl

/-- **`csvColumn` unfolded once**: it is what the cascade returns; when that is an error, the flag says whether the declared
type is `enum`. -/
theorem csvColumn_eq (po : ParseOracle) (cfg : CsvCfg) (name : Bytes) (cells : List Bytes) :
    csvColumn po cfg name cells =
      ((colV po cfg name cells (dataTypeOf cfg name)).map (·.1),
        (colV po cfg name cells (dataTypeOf cfg name)).elim (dataTypeOf cfg name == "enum") (·.2)) := by
  unfold csvColumn
  simp only [spec_float_fun, spec_str_fun, ListFacts.mapM_map_opt]
  split
  case h_1 | h_2 =>
    -- untyped: no entry, or the entry `""`
    rename_i heq
    rw [(dataTypeOf_eq_empty_iff cfg name).2 (by simp [heq])]
    unfold colV attempt strEnumV
    cases cells with
    | nil => rfl
    | cons c cs =>
      cases (c :: cs).mapM po.atoi with
      | some xs => rfl
      | none =>
        cases (c :: cs).mapM (gFloat po) with
        | some xs => rfl
        | none =>
          cases (c :: cs).mapM po.pbool with
          | some xs => rfl
          | none => rfl
  · rename_i heq; rw [dataTypeOf_some heq]; cases hi : cells.mapM po.atoi <;> simp [colV, attempt, hi]
  · rename_i heq; rw [dataTypeOf_some heq]; cases hi : cells.mapM (gFloat po) <;> simp [colV, attempt, hi]
  · rename_i heq; rw [dataTypeOf_some heq]; cases hi : cells.mapM po.pbool <;> simp [colV, attempt, hi]
  · rename_i heq; rw [dataTypeOf_some heq]; simp [colV, attempt, strEnumV]
  · rename_i heq
    rw [dataTypeOf_some heq]
    simp [colV, attempt, strEnumV]
    split <;> rename_i hm <;> rw [hm] <;> rfl
  · rename_i h0 h1 h2 h3 h4 h5 heq
    rw [dataTypeOf_some heq]
    simp only [imp_false] at h0 h1 h2 h3 h4 h5
    simp [colV, attempt, strEnumV, h0, h1, h2, h3, h4, h5]

theorem columnToData_eq_spec (po : ParseOracle) (cfg : CsvCfg) (name : Bytes) (cells : List Bytes) :
    columnToDataM po cfg name cells = specView (csvColumn po cfg name cells) := by
  rw [csvColumn_eq, columnToDataM_eq]
  cases colV po cfg name cells (dataTypeOf cfg name) <;> rfl

/-- The same with the spec's pair: on an error the specification's flag is `true` exactly for a declared enum. -/
theorem columnToData_eq_spec_pair (po : ParseOracle) (cfg : CsvCfg) (name : Bytes) (cells : List Bytes) :
    csvColumn po cfg name cells =
      match columnToDataM po cfg name cells with
      | some (c, consumed) => (some c, consumed)
      | none => (none, dataTypeOf cfg name == "enum") := by
  rw [csvColumn_eq, columnToDataM_eq]
  cases colV po cfg name cells (dataTypeOf cfg name) <;> rfl

/-- Every column the cascade returns has a cell for every cell text. -/
theorem colV_size {po : ParseOracle} {cfg : CsvCfg} {name : Bytes} {cells : List Bytes} {dt : String} {r : LCol × Bool}
    (h : colV po cfg name cells dt = some r) : r.1.cells.size = cells.length := by
  have hm : ∀ {α : Type} {g : Bytes → Option α} {C : α → Cell} {ty : CType} {xs : List α}, cells.mapM g = some xs →
      (({ name := name, ty := ty, cells := (xs.map C).toArray } : LCol), false).1.cells.size = cells.length := by
    intro α g C ty xs hx; simpa using ListFacts.mapM_length hx
  unfold colV at h
  split at h
  · rename_i h0
    cases h
    simp at h0
    simp [h0.1]
  · rcases attempt_some h with ⟨xs, hx, rfl⟩ | h
    · exact hm hx
    rcases attempt_some h with ⟨xs, hx, rfl⟩ | h
    · exact hm hx
    rcases attempt_some h with ⟨xs, hx, rfl⟩ | h
    · exact hm hx
    unfold strEnumV at h
    split at h
    · cases h; simp
    · split at h
      · cases hme : mkEnum (((cfg.enums.find? (·.1 == name)).map (·.2)).getD []) (cells.map (strCell cfg.emptyNull)) with
        | none => simp [hme] at h
        | some v => simp [hme] at h; subst h; simp
      · cases h

/-! ## §5 the declarative characterisation of type inference -/

/-- The cells of a column of parsed values. -/
theorem forall₂_mapM {α : Type} {g : Bytes → Option α} {mk : α → Cell} {R : Bytes → Cell → Prop}
    (hR : ∀ c x, g c = some x → R c (mk x)) {cs : List Bytes} {xs : List α} (h : cs.mapM g = some xs) :
    Forall₂ R cs (xs.map mk) := by
  induction cs generalizing xs with
  | nil => cases h; exact .nil
  | cons c cs ih =>
    rw [ListFacts.mapM_cons_opt] at h
    cases hc : g c with
    | none => simp [hc] at h
    | some x =>
      cases hl : cs.mapM g with
      | none => simp [hc, hl] at h
      | some ys =>
        simp only [hc, hl, Option.bind_some, Option.map_some, Option.some.injEq] at h
        subst h
        exact .cons (hR c x hc) (ih hl)

theorem forall₂_map_self {α β} {R : α → β → Prop} (h : α → β) (hr : ∀ a, R a (h a)) (l : List α) :
    Forall₂ R l (l.map h) := by
  induction l with
  | nil => exact .nil
  | cons a l ih => exact .cons (hr a) ih

/-- Every cell parses as an int (strconv.Atoi). -/
def AllInt (po : ParseOracle) (cs : List Bytes) : Prop := ∀ c ∈ cs, (po.atoi c).isSome
/-- Every cell is empty or parses as a float (strconv.ParseFloat). -/
def AllFloat (po : ParseOracle) (cs : List Bytes) : Prop := ∀ c ∈ cs, c = [] ∨ (po.pfloat c).isSome
/-- Every cell parses as a bool (strconv.ParseBool). -/
def AllBool (po : ParseOracle) (cs : List Bytes) : Prop := ∀ c ∈ cs, (po.pbool c).isSome

def IntCell (po : ParseOracle) (c : Bytes) (x : Cell) : Prop := ∃ v, po.atoi c = some v ∧ x = Cell.int v
def FloatCell (po : ParseOracle) (c : Bytes) (x : Cell) : Prop :=
  (c = [] ∧ x = Cell.float F64.canonNaN) ∨ (c ≠ [] ∧ ∃ v, po.pfloat c = some v ∧ x = Cell.float v)
def BoolCell (po : ParseOracle) (c : Bytes) (x : Cell) : Prop := ∃ v, po.pbool c = some v ∧ x = Cell.bool v
def StrCell (emptyNull : Bool) (c : Bytes) (x : Cell) : Prop :=
  (c = [] ∧ emptyNull = true ∧ x = Cell.str none) ∨ (¬ (c = [] ∧ emptyNull = true) ∧ x = Cell.str (some c))

instance (po : ParseOracle) (cs : List Bytes) : Decidable (AllInt po cs) := by unfold AllInt; infer_instance
instance (po : ParseOracle) (cs : List Bytes) : Decidable (AllFloat po cs) := by unfold AllFloat; infer_instance
instance (po : ParseOracle) (cs : List Bytes) : Decidable (AllBool po cs) := by unfold AllBool; infer_instance

theorem allInt_iff (po : ParseOracle) (cs : List Bytes) : AllInt po cs ↔ (cs.mapM po.atoi).isSome := by
  rw [ListFacts.mapM_isSome, List.all_eq_true]; rfl

theorem allBool_iff (po : ParseOracle) (cs : List Bytes) : AllBool po cs ↔ (cs.mapM po.pbool).isSome := by
  rw [ListFacts.mapM_isSome, List.all_eq_true]; rfl

theorem gFloat_isSome (po : ParseOracle) (c : Bytes) : (gFloat po c).isSome ↔ c = [] ∨ (po.pfloat c).isSome := by
  unfold gFloat
  cases c with
  | nil => simp
  | cons b c => simp

theorem allFloat_iff (po : ParseOracle) (cs : List Bytes) : AllFloat po cs ↔ (cs.mapM (gFloat po)).isSome := by
  rw [ListFacts.mapM_isSome, List.all_eq_true]
  unfold AllFloat
  constructor
  · intro h c hc; exact (gFloat_isSome po c).2 (h c hc)
  · intro h c hc; exact (gFloat_isSome po c).1 (h c hc)

theorem gFloat_cell (po : ParseOracle) (c : Bytes) (x : UInt64) (h : gFloat po c = some x) :
    FloatCell po c (Cell.float x) := by
  unfold gFloat at h
  cases c with
  | nil => simp at h; left; exact ⟨rfl, by rw [h]⟩
  | cons b c => simp at h; right; exact ⟨by simp, x, h, rfl⟩

theorem strCell_cell (en : Bool) (c : Bytes) : StrCell en c (strCell en c) := by
  unfold StrCell strCell
  cases c with
  | nil => cases en <;> simp
  | cons b c => simp

/-- Characterisation of the column inferred for an untyped column. -/
structure Inferred (po : ParseOracle) (emptyNull : Bool) (name : Bytes) (cs : List Bytes) (col : LCol) : Prop where
  name_eq : col.name = name
  vals_eq : col.vals = []
  strict_eq : col.strict = false
  size_eq : col.cells.size = cs.length
  undef_iff : col.ty = .undef ↔ cs = []
  int_iff : col.ty = .int ↔ cs ≠ [] ∧ AllInt po cs
  float_iff : col.ty = .float ↔ cs ≠ [] ∧ ¬ AllInt po cs ∧ AllFloat po cs
  bool_iff : col.ty = .bool ↔ cs ≠ [] ∧ ¬ AllInt po cs ∧ ¬ AllFloat po cs ∧ AllBool po cs
  string_iff : col.ty = .string ↔ cs ≠ [] ∧ ¬ AllInt po cs ∧ ¬ AllFloat po cs ∧ ¬ AllBool po cs
  not_enum : col.ty ≠ .enum
  int_cells : col.ty = .int → Forall₂ (IntCell po) cs col.cells.toList
  float_cells : col.ty = .float → Forall₂ (FloatCell po) cs col.cells.toList
  bool_cells : col.ty = .bool → Forall₂ (BoolCell po) cs col.cells.toList
  string_cells : col.ty = .string → Forall₂ (StrCell emptyNull) cs col.cells.toList

/-- The untyped row of the cascade: it never fails, consumes no declaration, and its column is the inferred one. -/
theorem colV_untyped (po : ParseOracle) (cfg : CsvCfg) (name : Bytes) (cs : List Bytes) :
    ∃ col, colV po cfg name cs "" = some (col, false) ∧ Inferred po cfg.emptyNull name cs col := by
  cases cs with
  | nil => exact ⟨_, rfl, by constructor <;> simp⟩
  | cons c0 cs0 =>
    generalize hcs : c0 :: cs0 = cs
    have hne : cs ≠ [] := by rw [← hcs]; simp
    have hl0 : (cs.length == 0) = false := by rw [← hcs]; rfl
    have hI := allInt_iff po cs
    have hF := allFloat_iff po cs
    have hB := allBool_iff po cs
    simp only [colV, attempt, strEnumV, hl0, Bool.false_and, Bool.false_eq_true, if_false, String.reduceBEq, Bool.or_true,
      if_true]
    cases hi : cs.mapM po.atoi with
    | some xs =>
      rw [hi] at hI
      have hall : AllInt po cs := hI.2 rfl
      have hlen := (ListFacts.mapM_length hi).symm
      refine ⟨_, rfl, ?_⟩
      constructor <;> simp [hne, hall, hlen]
      exact forall₂_mapM (fun c x h => ⟨x, h, rfl⟩) hi
    | none =>
      rw [hi] at hI
      have hnall : ¬ AllInt po cs := fun h => by simpa using hI.1 h
      simp only [Option.elim_none]
      cases hf : cs.mapM (gFloat po) with
      | some xs =>
        rw [hf] at hF
        have hall : AllFloat po cs := hF.2 rfl
        have hlen := (ListFacts.mapM_length hf).symm
        refine ⟨_, rfl, ?_⟩
        constructor <;> simp [hne, hall, hnall, hlen]
        exact forall₂_mapM (gFloat_cell po) hf
      | none =>
        rw [hf] at hF
        have hnallf : ¬ AllFloat po cs := fun h => by simpa using hF.1 h
        simp only [Option.elim_none]
        cases hb : cs.mapM po.pbool with
        | some xs =>
          rw [hb] at hB
          have hall : AllBool po cs := hB.2 rfl
          have hlen := (ListFacts.mapM_length hb).symm
          refine ⟨_, rfl, ?_⟩
          constructor <;> simp [hne, hall, hnall, hnallf, hlen]
          exact forall₂_mapM (fun c x h => ⟨x, h, rfl⟩) hb
        | none =>
          rw [hb] at hB
          have hnallb : ¬ AllBool po cs := fun h => by simpa using hB.1 h
          refine ⟨_, rfl, ?_⟩
          constructor <;> simp [hne, hnall, hnallf, hnallb]
          exact forall₂_map_self _ (strCell_cell cfg.emptyNull) cs

/-- **Type inference, declaratively.** For an untyped column the Go function never fails and consumes no enum
declaration; the column it returns is `int` iff there is a row and all cells parse as int, else `float` iff all cells
are empty or parse as float, else `bool` iff all parse as bool, else `string`; zero rows give the typeless empty
column; the cells are the parsed values (empty ↦ NaN in a float column, empty ↦ null in a string column iff
`EmptyNull`). -/
theorem infer_spec (po : ParseOracle) (cfg : CsvCfg) (name : Bytes) (cs : List Bytes)
    (hun : dataTypeOf cfg name = "") :
    ∃ col, columnToDataM po cfg name cs = some (col, false) ∧ Inferred po cfg.emptyNull name cs col := by
  rw [columnToDataM_eq, hun]
  exact colV_untyped po cfg name cs

/-- The same for the specification's column function. -/
theorem infer_spec_csvColumn (po : ParseOracle) (cfg : CsvCfg) (name : Bytes) (cs : List Bytes)
    (hun : dataTypeOf cfg name = "") :
    ∃ col, csvColumn po cfg name cs = (some col, false) ∧ Inferred po cfg.emptyNull name cs col := by
  obtain ⟨col, h, hi⟩ := colV_untyped po cfg name cs
  exact ⟨col, by rw [csvColumn_eq, hun, h]; rfl, hi⟩

/-- `infer_spec` written out, without the structure. -/
theorem infer_spec_explicit (po : ParseOracle) (cfg : CsvCfg) (name : Bytes) (cs : List Bytes)
    (hun : dataTypeOf cfg name = "") :
    ∃ col, columnToDataM po cfg name cs = some (col, false) ∧
      col.name = name ∧ col.vals = [] ∧ col.strict = false ∧ col.cells.size = cs.length ∧
      (col.ty = .undef ↔ cs = []) ∧
      (col.ty = .int ↔ cs ≠ [] ∧ AllInt po cs) ∧
      (col.ty = .float ↔ cs ≠ [] ∧ ¬ AllInt po cs ∧ AllFloat po cs) ∧
      (col.ty = .bool ↔ cs ≠ [] ∧ ¬ AllInt po cs ∧ ¬ AllFloat po cs ∧ AllBool po cs) ∧
      (col.ty = .string ↔ cs ≠ [] ∧ ¬ AllInt po cs ∧ ¬ AllFloat po cs ∧ ¬ AllBool po cs) ∧
      col.ty ≠ .enum ∧
      (col.ty = .int → Forall₂ (fun c x => ∃ v, po.atoi c = some v ∧ x = Cell.int v) cs col.cells.toList) ∧
      (col.ty = .float → Forall₂ (fun c x => (c = [] ∧ x = Cell.float F64.canonNaN) ∨
          (c ≠ [] ∧ ∃ v, po.pfloat c = some v ∧ x = Cell.float v)) cs col.cells.toList) ∧
      (col.ty = .bool → Forall₂ (fun c x => ∃ v, po.pbool c = some v ∧ x = Cell.bool v) cs col.cells.toList) ∧
      (col.ty = .string → Forall₂ (fun c x => (c = [] ∧ cfg.emptyNull = true ∧ x = Cell.str none) ∨
          (¬ (c = [] ∧ cfg.emptyNull = true) ∧ x = Cell.str (some c))) cs col.cells.toList) := by
  obtain ⟨col, h, hi⟩ := infer_spec po cfg name cs hun
  exact ⟨col, h, hi.name_eq, hi.vals_eq, hi.strict_eq, hi.size_eq, hi.undef_iff, hi.int_iff, hi.float_iff,
    hi.bool_iff, hi.string_iff, hi.not_enum, hi.int_cells, hi.float_cells, hi.bool_cells, hi.string_cells⟩

/-! ### the characterisation is complete: it determines the column -/

theorem forall₂_functional {α β} {R : α → β → Prop} (hR : ∀ a b b', R a b → R a b' → b = b')
    {l : List α} {l₁ l₂ : List β} (h₁ : Forall₂ R l l₁) (h₂ : Forall₂ R l l₂) : l₁ = l₂ := by
  induction h₁ generalizing l₂ with
  | nil => cases h₂; rfl
  | cons hab _ ih =>
    cases h₂ with
    | cons hab' h' => rw [hR _ _ _ hab hab', ih h']

theorem intCell_functional (po : ParseOracle) (c : Bytes) (x y : Cell) (hx : IntCell po c x) (hy : IntCell po c y) :
    x = y := by
  obtain ⟨v, hv, rfl⟩ := hx
  obtain ⟨w, hw, rfl⟩ := hy
  rw [hv] at hw; cases hw; rfl

theorem boolCell_functional (po : ParseOracle) (c : Bytes) (x y : Cell) (hx : BoolCell po c x) (hy : BoolCell po c y) :
    x = y := by
  obtain ⟨v, hv, rfl⟩ := hx
  obtain ⟨w, hw, rfl⟩ := hy
  rw [hv] at hw; cases hw; rfl

theorem floatCell_functional (po : ParseOracle) (c : Bytes) (x y : Cell) (hx : FloatCell po c x)
    (hy : FloatCell po c y) : x = y := by
  rcases hx with ⟨hc, rfl⟩ | ⟨hc, v, hv, rfl⟩ <;> rcases hy with ⟨hc', rfl⟩ | ⟨hc', w, hw, rfl⟩
  · rfl
  · exact absurd hc hc'
  · exact absurd hc' hc
  · rw [hv] at hw; cases hw; rfl

theorem strCell_functional (en : Bool) (c : Bytes) (x y : Cell) (hx : StrCell en c x) (hy : StrCell en c y) :
    x = y := by
  rcases hx with ⟨hc, he, rfl⟩ | ⟨hc, rfl⟩ <;> rcases hy with ⟨hc', he', rfl⟩ | ⟨hc', rfl⟩
  · rfl
  · exact absurd ⟨hc, he⟩ hc'
  · exact absurd ⟨hc', he'⟩ hc
  · rfl

theorem Inferred.ty_cases {po : ParseOracle} {en : Bool} {name : Bytes} {cs : List Bytes} {col : LCol}
    (h : Inferred po en name cs col) :
    col.ty = .undef ∨ col.ty = .int ∨ col.ty = .float ∨ col.ty = .bool ∨ col.ty = .string := by
  have := h.not_enum
  cases hty : col.ty <;> simp_all

theorem Inferred.unique {po : ParseOracle} {en : Bool} {name : Bytes} {cs : List Bytes} {c₁ c₂ : LCol}
    (h₁ : Inferred po en name cs c₁) (h₂ : Inferred po en name cs c₂) : c₁ = c₂ := by
  have hty : c₁.ty = c₂.ty := by
    rcases h₁.ty_cases with h | h | h | h | h
    · rw [h, h₂.undef_iff.2 (h₁.undef_iff.1 h)]
    · rw [h, h₂.int_iff.2 (h₁.int_iff.1 h)]
    · rw [h, h₂.float_iff.2 (h₁.float_iff.1 h)]
    · rw [h, h₂.bool_iff.2 (h₁.bool_iff.1 h)]
    · rw [h, h₂.string_iff.2 (h₁.string_iff.1 h)]
  have hcells : c₁.cells.toList = c₂.cells.toList := by
    rcases h₁.ty_cases with h | h | h | h | h
    · have hcs := h₁.undef_iff.1 h
      have s₁ := h₁.size_eq
      have s₂ := h₂.size_eq
      rw [hcs] at s₁ s₂
      have e₁ : c₁.cells.toList = [] := List.eq_nil_of_length_eq_zero (by simpa using s₁)
      have e₂ : c₂.cells.toList = [] := List.eq_nil_of_length_eq_zero (by simpa using s₂)
      rw [e₁, e₂]
    · exact forall₂_functional (intCell_functional po) (h₁.int_cells h) (h₂.int_cells (hty ▸ h))
    · exact forall₂_functional (floatCell_functional po) (h₁.float_cells h) (h₂.float_cells (hty ▸ h))
    · exact forall₂_functional (boolCell_functional po) (h₁.bool_cells h) (h₂.bool_cells (hty ▸ h))
    · exact forall₂_functional (strCell_functional en) (h₁.string_cells h) (h₂.string_cells (hty ▸ h))
  cases c₁ with
  | mk n₁ t₁ v₁ s₁ cl₁ =>
    cases c₂ with
    | mk n₂ t₂ v₂ s₂ cl₂ =>
      have hn : n₁ = n₂ := h₁.name_eq.trans h₂.name_eq.symm
      have hv : v₁ = v₂ := h₁.vals_eq.trans h₂.vals_eq.symm
      have hs : s₁ = s₂ := h₁.strict_eq.trans h₂.strict_eq.symm
      have hc : cl₁ = cl₂ := Array.toList_inj.1 hcells
      simp only at hty
      rw [hn, hv, hs, hc, hty]

/-- Converse of `infer_spec`: whatever satisfies the characterisation is what the Go function returns. -/
theorem infer_spec_complete (po : ParseOracle) (cfg : CsvCfg) (name : Bytes) (cs : List Bytes)
    (hun : dataTypeOf cfg name = "") (col : LCol) (h : Inferred po cfg.emptyNull name cs col) :
    columnToDataM po cfg name cs = some (col, false) := by
  obtain ⟨col', h', hi'⟩ := infer_spec po cfg name cs hun
  rw [h', hi'.unique h]

/-! ## §6 examples -/

def tbl {α} (t : List (Bytes × α)) (c : Bytes) : Option α :=
  match t.find? (·.1 == c) with
  | some e => some e.2
  | none => none

def b1 : Bytes := [49]
def b2 : Bytes := [50]
def b0 : Bytes := [48]
def bx : Bytes := [120]
def bTrue : Bytes := [116, 114, 117, 101]
def bFalse : Bytes := [102, 97, 108, 115, 101]

/-- A fragment of strconv, as a table. -/
def toy : ParseOracle where
  atoi := tbl [(b0, 0), (b1, 1), (b2, 2)]
  pfloat := tbl [(b0, 0), (b1, 0x3ff0000000000000), (b2, 0x4000000000000000)]
  pbool := tbl [(b0, false), (b1, true), (bTrue, true), (bFalse, false)]

def view (r : Option (LCol × Bool)) : Option (CType × List Cell) := r.map (fun r => (r.1.ty, r.1.cells.toList))

example : view (columnToDataM toy {} [97] [b1, b2]) = some (.int, [.int 1, .int 2]) := by decide

/-- ["1","2"] ↦ int -/
example : view (columnToDataM toy {} [97] [b1, b2]) = some (.int, [.int 1, .int 2]) := by decide
/-- ["1",""] ↦ float with NaN -/
example : view (columnToDataM toy {} [97] [b1, []]) =
    some (.float, [.float 0x3ff0000000000000, .float F64.canonNaN]) := by decide
/-- ["1","x"] ↦ string -/
example : view (columnToDataM toy {} [97] [b1, bx]) = some (.string, [.str (some b1), .str (some bx)]) := by decide
/-- ["true","false"] ↦ bool -/
example : view (columnToDataM toy {} [97] [bTrue, bFalse]) = some (.bool, [.bool true, .bool false]) := by decide
/-- ["1","true"] ↦ BOOL, not string: the int attempt stops at "true", so does the float attempt, and the bool attempt
succeeds because strconv.ParseBool accepts both "1" and "true". (A string column needs a cell that is no bool.) -/
example : view (columnToDataM toy {} [97] [b1, bTrue]) = some (.bool, [.bool true, .bool true]) := by decide
/-- ["1","0"] ↦ int: ints win over bools. -/
example : view (columnToDataM toy {} [97] [b1, b0]) = some (.int, [.int 1, .int 0]) := by decide
/-- ["1","true","x"] ↦ string -/
example : view (columnToDataM toy {} [97] [b1, bTrue, bx]) =
    some (.string, [.str (some b1), .str (some bTrue), .str (some bx)]) := by decide
/-- ["x",""] ↦ string; the empty cell is null iff EmptyNull. -/
example : view (columnToDataM toy {} [97] [bx, []]) = some (.string, [.str (some bx), .str (some [])]) := by decide
example : view (columnToDataM toy { emptyNull := true } [97] [bx, []]) =
    some (.string, [.str (some bx), .str none]) := by decide
/-- no rows ↦ the typeless empty column -/
example : view (columnToDataM toy {} [97] []) = some (.undef, []) := by decide
/-- all cells empty ↦ float column of NaNs -/
example : view (columnToDataM toy {} [97] [[], []]) =
    some (.float, [.float F64.canonNaN, .float F64.canonNaN]) := by decide
/-- declared types -/
example : view (columnToDataM toy { types := [([97], "int")] } [97] [b1, bx]) = none := by decide
example : view (columnToDataM toy { types := [([97], "int")] } [97] []) = some (.int, []) := by decide
example : view (columnToDataM toy { types := [([97], "float")] } [97] [b1, b2]) =
    some (.float, [.float 0x3ff0000000000000, .float 0x4000000000000000]) := by decide
example : view (columnToDataM toy { types := [([97], "bool")] } [97] [b1, b0]) =
    some (.bool, [.bool true, .bool false]) := by decide
example : view (columnToDataM toy { types := [([97], "bool")] } [97] [b1, b2]) = none := by decide
example : view (columnToDataM toy { types := [([97], "string")] } [97] [b1, b2]) =
    some (.string, [.str (some b1), .str (some b2)]) := by decide
example : view (columnToDataM toy { types := [([97], "enum")], emptyNull := true } [97] [bx, b1, [], bx]) =
    some (.enum, [.str (some bx), .str (some b1), .str none, .str (some bx)]) := by decide
example : (columnToDataM toy { types := [([97], "enum")], enums := [([97], [b1, bx])] } [97] [bx, b1, bx]).map
    (fun r => (r.1.vals, r.1.strict, r.2)) = some ([b1, bx], true, true) := by decide
example : view (columnToDataM toy { types := [([97], "enum")], enums := [([97], [b1, bx])] } [97] [bx, b2]) = none := by
  decide
example : view (columnToDataM toy { types := [([97], "date")] } [97] [bx]) = none := by decide

/-- The hypothesis of `infer_spec` holds for every column of the default configuration … -/
example (name : Bytes) : dataTypeOf {} name = "" := rfl
/-- … and for columns not mentioned in `Types`. -/
example : dataTypeOf { types := [([98], "int")] } [97] = "" := by decide
/-- A non-trivial instance of `Inferred`. -/
example : ∃ col, columnToDataM toy {} [97] [b1, []] = some (col, false) ∧ Inferred toy false [97] [b1, []] col ∧
    col.ty = .float :=
  let ⟨col, h, hi⟩ := infer_spec toy {} [97] [b1, []] rfl
  ⟨col, h, hi, hi.float_iff.2 (by decide)⟩

#print axioms columnToData_eq_spec
#print axioms columnToData_eq_spec_pair
#print axioms infer_spec
#print axioms infer_spec_csvColumn
#print axioms infer_spec_explicit
#print axioms infer_spec_complete
#print axioms Inferred.unique
end QF.Props.C12Infer
