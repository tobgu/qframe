import QF.Props.C04GrouperInsert
import QF.Props.C04
/-!
# C04 / C05 — the grouper hash table as extracted today IS the mirror `G` (tie T1, regenerated semantics)

`QF.Gen.grouperFns` is regenerated on every run from /repo/internal/grouper/grouper.go (go/cmd/extract/grpast.go); by
`gen_grouper_canon` (C04GrouperCanon) it is `canonFns`. This file finishes the function-by-function proof

    hash, equals, newTable, calculateInitialSizeExp   C04GrouperFns
    grow (probe loop of the relocation, fold)          C04GrouperGrow
    the mirror never fails (no KeyRel needed)          C04GrouperTotal
    insertEntry (growth check, probe loop, update)     C04GrouperInsert
    groupIndex, GroupBy, Distinct                      here

and states the result:

* `gen_grouper_semantics` — for every list `cs` of comparables (any `Compare` / `Hash` functions), every index `ix` of at
  most 2^30 rows and every loop fuel ≥ 2^32: interpreting TODAY'S EXTRACTED PROGRAMS gives exactly the mirror's table
  (`G.groupIndex`, slot by slot), its statistics (all five, `RelocationCollisions` included), the groups of `G.groupBy`
  in slot order and the result of `G.distinct`, with `hash := hashOf cs`, `eqv := eqvOf cs`.
* `gen_grouper_semantics_abs` — the same for an arbitrary `hash : Nat → Nat` and `eqv : Nat → Nat → Bool` (the abstraction
  of QF/Core/Grouper.lean), through the comparable `cmpOf hash eqv`.
* `gen_groupBy_partition` — hence the regenerated `GroupBy` partitions the rows by key equality (`C04.groupBy_partition`).

Bounds: 2^30 rows keep `uint32(growthFactor * len(t.entries))` from wrapping (a table of 2^31 slots would "grow" to 0
slots and the next probe would index out of range; with more than 2^30 distinct keys the real code does that — not a
property violation in any reachable frame, and outside the theorem). The float load factor is the exact fraction (see
QF/Core/GLExpr.lean): the growth test is `2 * groupCount > len(entries)`.
-/
namespace QF.Props.C04GrouperGen
open QF QF.GL
set_option linter.unusedSimpArgs false

/-! ## `groupIndex` -/

theorem insert_loop (F n : Nat) (hF : M32 ≤ F) (cs : List Cmp) (collect : Bool) :
    ∀ (rest : List Nat) (j m : Nat) (t t' : G.Tbl) (σ : Store), TInv t m → m + rest.length ≤ 2 ^ 30 →
      σ 4 = some (.tbl (encTbl cs collect t)) →
      rest.foldlM (fun t i => G.insertEntry {} (hashOf cs) (eqvOf cs) t i collect) t = some t' →
      ∃ σ', loop (stepOf (env F (n+2)) none (some 5) insertBody) (rest.map Val.u32) j σ = .next σ' ∧
        σ' 4 = some (.tbl (encTbl cs collect t')) ∧ σ' 0 = σ 0 := by
  intro rest
  induction rest with
  | nil =>
    intro j m t t' σ _ _ h4 hf
    simp at hf
    exact ⟨σ, rfl, by rw [h4, hf], rfl⟩
  | cons i rest ih =>
    intro j m t t' σ inv hm h4 hf
    simp only [List.length_cons] at hm
    obtain ⟨t1, h1, inv1, hcall⟩ := call_insertEntry F n cs collect t m i inv (by omega) hF
    simp only [List.foldlM_cons, h1, Option.bind_eq_bind, Option.bind_some] at hf
    obtain ⟨σ', g1, g2, g3⟩ := ih (j + 1) (m + 1) t1 t' ((σ.set 5 (.u32 i)).set 4 (.tbl (encTbl cs collect t1))) inv1 (by omega)
      (by simp [set_apply]) hf
    refine ⟨σ', ?_, g2, by simp [g3, set_apply]⟩
    simp only [List.map_cons, loop, stepOf]
    exec_simp [h4, hcall]
    exact g1

/-- `groupIndex(ix, comparables, collectIx)` returns the slots and the statistics of the mirror's `G.groupIndex` -/
theorem call_groupIndex (F n : Nat) (hF : M32 ≤ F) (cs : List Cmp) (collect : Bool) (ix : List Nat) (hlen : ix.length ≤ 2 ^ 30) (t : G.Tbl)
    (hg : G.groupIndex {} (hashOf cs) (eqvOf cs) ix collect = some t) :
    callAt canonFns F (n+3) .groupIndex [.rows (some ix), .cmps cs, .bool collect] =
      some (.pair (.entries (encSlots t.slots)) (.stats (finalStats t)), some (.rows (some ix))) := by
  rw [callAt_succ F (n+2) _ _ look_groupIndex]
  have hc1 := call_initialSizeExp F n ix.length (by rw [M64_eq]; omega)
  have hc2 := call_newTable F n (G.initialSizeExp ix.length) (by have := initialSizeExp_le ix.length hlen; omega) cs collect
  unfold G.groupIndex at hg
  let σ4 : Store := ((((Store.empty.set 0 (.rows (some ix))).set 1 (.cmps cs)).set 2 (.bool collect)).set 3 (.int (G.initialSizeExp ix.length))).set 4
    (.tbl (encTbl cs collect { slots := Array.replicate (2 ^ G.initialSizeExp ix.length) none }))
  obtain ⟨σ', g1, g2, g3⟩ := insert_loop F n hF cs collect ix 0 0 _ t σ4 (init_TInv ix.length hlen) (by omega) (by simp [σ4, set_apply]) hg
  simp only [σ4] at g1
  simp [σ4, set_apply] at g3
  exec_simp [runFn, fnGroupIndex, hc1, hc2, g1, g2, g3, finalStats, encStats]

/-! ## `GroupBy`, `Distinct` -/

/-- the groups in slot order; a group of one row has no slice of its own -/
def groupsOf (l : List (Option G.Entry)) : List (List Nat) :=
  l.filterMap fun s => s.map fun e => if e.ix.isEmpty then [e.firstPos] else e.ix

/-- the first rows in slot order -/
def firstsOf (l : List (Option G.Entry)) : List Nat := l.filterMap fun s => s.map (·.firstPos)

/-- `for _, e := range entries { if e.occupied { result = append(result, <f e>) } }`: a body that passes a free slot and appends
`f e` to the result (variable 4) for an entry `e` collects `f` over the entries, in slot order -/
theorem collect_loop {α : Type} (Γ : Env) (body : S) (mk : List α → Val) (f : G.Entry → α)
    (hnone : ∀ σ : Store, body.exec Γ (σ.set 5 (.entry (encEntry none))) = .next (σ.set 5 (.entry (encEntry none))))
    (hsome : ∀ (σ : Store) e acc, σ 4 = some (mk acc) →
      body.exec Γ (σ.set 5 (.entry (encEntry (some e)))) = .next ((σ.set 5 (.entry (encEntry (some e)))).set 4 (mk (acc ++ [f e])))) :
    ∀ (l : List (Option G.Entry)) (j : Nat) (σ : Store) (acc : List α), σ 4 = some (mk acc) →
      ∃ σ', loop (stepOf Γ none (some 5) body) (l.map fun x => Val.entry (encEntry x)) j σ = .next σ' ∧
        σ' 4 = some (mk (acc ++ l.filterMap fun s => s.map f)) ∧ σ' 3 = σ 3 ∧ σ' 0 = σ 0 := by
  intro l
  induction l with
  | nil => intro j σ acc h4; exact ⟨σ, rfl, by simp [h4], rfl, rfl⟩
  | cons x l ih =>
    intro j σ acc h4
    cases x with
    | none =>
      obtain ⟨σ', g1, g2, g3, g0⟩ := ih (j + 1) (σ.set 5 (.entry (encEntry none))) acc (by simp [set_apply, h4])
      refine ⟨σ', ?_, by simpa using g2, by simp [g3, set_apply], by simp [g0, set_apply]⟩
      simp only [List.map_cons, loop, stepOf, bindKV, Store.setOpt, hnone]
      exact g1
    | some e =>
      obtain ⟨σ', g1, g2, g3, g0⟩ := ih (j + 1) ((σ.set 5 (.entry (encEntry (some e)))).set 4 (mk (acc ++ [f e])))
        (acc ++ [f e]) (by simp [set_apply])
      refine ⟨σ', ?_, by simpa using g2, by simp [g3, set_apply], by simp [g0, set_apply]⟩
      simp only [List.map_cons, loop, stepOf, bindKV, Store.setOpt, hsome σ e acc h4]
      exact g1

theorem finalStats_groupCount (t : G.Tbl) : (finalStats t).groupCount = (t.groupCount : Int) := rfl

theorem encSlots_elems (a : Array (Option G.Entry)) :
    (encSlots a).map Val.entry = a.toList.map (fun x => Val.entry (encEntry x)) := by simp [encSlots]

/-- `GroupBy(ix, comparables)`: the groups of the mirror table in slot order, and its statistics -/
theorem call_groupBy (F n : Nat) (hF : M32 ≤ F) (cs : List Cmp) (ix : List Nat) (hlen : ix.length ≤ 2 ^ 30) (t : G.Tbl)
    (hg : G.groupIndex {} (hashOf cs) (eqvOf cs) ix true = some t) :
    callAt canonFns F (n+4) .groupBy [.rows (some ix), .cmps cs] =
      some (.pair (.groups (groupsOf t.slots.toList)) (.stats (finalStats t)), some (.rows (some ix))) := by
  rw [callAt_succ F (n+3) _ _ look_groupBy]
  have hc := call_groupIndex F n hF cs true ix hlen t hg
  let σ4 : Store := ((((Store.empty.set 0 (.rows (some ix))).set 1 (.cmps cs)).set 2 (.entries (encSlots t.slots))).set 3 (.stats (finalStats t))).set 4
    (.groups [])
  obtain ⟨σ', g1, g2, g3, g0⟩ := collect_loop (env F (n+3)) collectGroupsBody Val.groups (fun e => if e.ix.isEmpty then [e.firstPos] else e.ix)
    (fun σ => by exec_simp [encEntry]) (fun σ e acc h4 => by cases he : e.ix.isEmpty <;> exec_simp [encEntry, he, h4])
    t.slots.toList 0 σ4 [] (by simp [σ4, set_apply])
  simp only [σ4] at g1
  simp [σ4, set_apply] at g3 g0
  change σ' 4 = some (.groups (groupsOf t.slots.toList)) at g2
  have hnn : ¬ ((t.groupCount : Int) < 0) := by omega
  exec_simp [runFn, fnGroupBy, hc, finalStats_groupCount, hnn, encSlots_elems, g1, g2, g3, g0]

/-- `Distinct(ix, comparables)`: the first rows of the mirror table's entries in slot order -/
theorem call_distinct (F n : Nat) (hF : M32 ≤ F) (cs : List Cmp) (ix : List Nat) (hlen : ix.length ≤ 2 ^ 30) (t : G.Tbl)
    (hg : G.groupIndex {} (hashOf cs) (eqvOf cs) ix false = some t) :
    callAt canonFns F (n+4) .distinct [.rows (some ix), .cmps cs] =
      some (.rows (some (firstsOf t.slots.toList)), some (.rows (some ix))) := by
  rw [callAt_succ F (n+3) _ _ look_distinct]
  have hc := call_groupIndex F n hF cs false ix hlen t hg
  let σ4 : Store := ((((Store.empty.set 0 (.rows (some ix))).set 1 (.cmps cs)).set 2 (.entries (encSlots t.slots))).set 3 (.stats (finalStats t))).set 4
    (.rows (some []))
  obtain ⟨σ', g1, g2, _, g0⟩ := collect_loop (env F (n+3)) collectFirstBody (fun l => Val.rows (some l)) (·.firstPos)
    (fun σ => by exec_simp [encEntry]) (fun σ e acc h4 => by exec_simp [encEntry, h4]) t.slots.toList 0 σ4 [] (by simp [σ4, set_apply])
  simp only [σ4] at g1
  simp [σ4, set_apply] at g0
  change σ' 4 = some (.rows (some (firstsOf t.slots.toList))) at g2
  have hnn : ¬ ((t.groupCount : Int) < 0) := by omega
  exec_simp [runFn, fnDistinct, hc, finalStats_groupCount, hnn, encSlots_elems, g1, g2, g0]

/-! ## The theorems -/

theorem M32_le_of (F : Nat) (hF : 2 ^ 32 ≤ F) : M32 ≤ F := by rw [M32_pow]; exact hF

/-- **The grouper as extracted today is the mirror.** For every list of comparables, every index of at most 2^30 rows and
every loop fuel ≥ 2^32, interpreting the programs extracted from today's /repo/internal/grouper/grouper.go yields exactly:
the mirror's table and statistics (`groupIndex`, for both values of `collectIx`), the mirror's groups in slot order with
the statistics (`GroupBy`), and the mirror's Distinct result. -/
theorem gen_grouper_semantics (cs : List Cmp) (ix : List Nat) (hlen : ix.length ≤ 2 ^ 30) (F : Nat) (hF : 2 ^ 32 ≤ F) :
    (∀ collect, interpGroupIndex Gen.grouperFns F cs ix collect =
      (G.groupIndex {} (hashOf cs) (eqvOf cs) ix collect).map fun t => (encSlots t.slots, finalStats t)) ∧
    interpGroupBy Gen.grouperFns F cs ix =
      (G.groupIndex {} (hashOf cs) (eqvOf cs) ix true).map (fun t => (groupsOf t.slots.toList, finalStats t)) ∧
    (interpGroupBy Gen.grouperFns F cs ix).map (·.1) = G.groupBy {} (hashOf cs) (eqvOf cs) ix ∧
    interpDistinct Gen.grouperFns F cs ix = G.distinct {} (hashOf cs) (eqvOf cs) ix := by
  rw [gen_grouper_canon]
  have hF' := M32_le_of F hF
  have hgb : interpGroupBy canonFns F cs ix =
      (G.groupIndex {} (hashOf cs) (eqvOf cs) ix true).map (fun t => (groupsOf t.slots.toList, finalStats t)) := by
    obtain ⟨t, ht, _⟩ := groupIndex_total (hashOf cs) (eqvOf cs) ix hlen true
    have := call_groupBy F 1 hF' cs ix hlen t ht
    simp only [interpGroupBy, depth, this, ht, Option.map_some]
  refine ⟨fun collect => ?_, hgb, ?_, ?_⟩
  · obtain ⟨t, ht, _⟩ := groupIndex_total (hashOf cs) (eqvOf cs) ix hlen collect
    have := call_groupIndex F 2 hF' cs collect ix hlen t ht
    simp only [interpGroupIndex, depth, this, ht, Option.map_some]
  · rw [hgb]; unfold G.groupBy groupsOf
    cases G.groupIndex {} (hashOf cs) (eqvOf cs) ix true <;> rfl
  · obtain ⟨t, ht, _⟩ := groupIndex_total (hashOf cs) (eqvOf cs) ix hlen false
    have := call_distinct F 1 hF' cs ix hlen t ht
    simp only [interpDistinct, depth, this, G.distinct, ht, Option.map_some, firstsOf]

/-! ## For an abstract hash function and key equality -/

theorem hashOf_cmpOf (hash : Nat → Nat) (eqv : Nat → Nat → Bool) (i : Nat) : hashOf [cmpOf hash eqv] i = hash i % M64 := by
  simp [hashOf, cmpOf]

theorem eqvOf_cmpOf (hash : Nat → Nat) (eqv : Nat → Nat → Bool) : eqvOf [cmpOf hash eqv] = eqv := by
  funext i j
  cases h : eqv i j <;> simp [eqvOf, cmpOf, h]

/-- the mirror reads the hash function only through `hash i % 2^32` -/
theorem groupIndex_congr (hash hash' : Nat → Nat) (eqv : Nat → Nat → Bool) (h : ∀ i, hash i % 2 ^ 32 = hash' i % 2 ^ 32)
    (ix : List Nat) (collect : Bool) : G.groupIndex {} hash eqv ix collect = G.groupIndex {} hash' eqv ix collect := by
  have h1 : ∀ t i, G.insertNoGrow hash eqv t i collect = G.insertNoGrow hash' eqv t i collect := by
    intro t i; unfold G.insertNoGrow; simp only [h i]
  have h2 : (fun t i => G.insertEntry {} hash eqv t i collect) = (fun t i => G.insertEntry {} hash' eqv t i collect) := by
    funext t i; unfold G.insertEntry; simp only [h1]
  unfold G.groupIndex; rw [h2]

theorem groupIndex_cmpOf (hash : Nat → Nat) (eqv : Nat → Nat → Bool) (ix : List Nat) (collect : Bool) :
    G.groupIndex {} (hashOf [cmpOf hash eqv]) (eqvOf [cmpOf hash eqv]) ix collect = G.groupIndex {} hash eqv ix collect := by
  rw [eqvOf_cmpOf]
  apply groupIndex_congr
  intro i
  rw [hashOf_cmpOf, M64_eq]
  omega

/-- **The same for the abstraction of QF/Core/Grouper.lean**: every `hash : Nat → Nat` and `eqv : Nat → Nat → Bool`. -/
theorem gen_grouper_semantics_abs (hash : Nat → Nat) (eqv : Nat → Nat → Bool) (ix : List Nat) (hlen : ix.length ≤ 2 ^ 30)
    (F : Nat) (hF : 2 ^ 32 ≤ F) :
    (∀ collect, interpGroupIndex Gen.grouperFns F [cmpOf hash eqv] ix collect =
      (G.groupIndex {} hash eqv ix collect).map fun t => (encSlots t.slots, finalStats t)) ∧
    interpGroupBy Gen.grouperFns F [cmpOf hash eqv] ix =
      (G.groupIndex {} hash eqv ix true).map (fun t => (groupsOf t.slots.toList, finalStats t)) ∧
    (interpGroupBy Gen.grouperFns F [cmpOf hash eqv] ix).map (·.1) = G.groupBy {} hash eqv ix ∧
    interpDistinct Gen.grouperFns F [cmpOf hash eqv] ix = G.distinct {} hash eqv ix := by
  obtain ⟨a, b, c, d⟩ := gen_grouper_semantics [cmpOf hash eqv] ix hlen F hF
  refine ⟨fun collect => ?_, ?_, ?_, ?_⟩
  · rw [a collect, groupIndex_cmpOf]
  · rw [b, groupIndex_cmpOf]
  · rw [c]; unfold G.groupBy; rw [groupIndex_cmpOf]
  · rw [d]; unfold G.distinct; rw [groupIndex_cmpOf]

/-- **C04 for the regenerated code**: for a key relation that is an equivalence respected by the hash and a duplicate-free
index, the `GroupBy` extracted from today's source returns groups that are exactly the key classes in frame order, cover
every row, and are pairwise disjoint and key-different. -/
theorem gen_groupBy_partition (hash : Nat → Nat) (eqv : Nat → Nat → Bool) (kr : G.KeyRel hash eqv) (ix : List Nat) (hnd : ix.Nodup)
    (hlen : ix.length ≤ 2 ^ 30) (F : Nat) (hF : 2 ^ 32 ≤ F) :
    ∃ gs st, interpGroupBy Gen.grouperFns F [cmpOf hash eqv] ix = some (gs, st) ∧
      (∀ g, g ∈ gs → ∃ f, f ∈ ix ∧ g = List.filter (G.cls eqv f) ix) ∧
      (∀ j, j ∈ ix → ∃ g, g ∈ gs ∧ j ∈ g) ∧
      ∀ g1 g2, g1 ∈ gs → g2 ∈ gs → g1 ≠ g2 → ∀ a, a ∈ g1 → ∀ b, b ∈ g2 → a ≠ b ∧ eqv a b = false := by
  obtain ⟨gs, h1, h2, h3, h4⟩ := C04.groupBy_partition hash eqv kr ix hnd
  have hc := (gen_grouper_semantics_abs hash eqv ix hlen F hF).2.2.1
  rw [h1] at hc
  cases hi : interpGroupBy Gen.grouperFns F [cmpOf hash eqv] ix with
  | none => rw [hi] at hc; cases hc
  | some r =>
    obtain ⟨gs', st⟩ := r
    rw [hi] at hc
    simp at hc
    subst hc
    exact ⟨gs', st, rfl, h2, h3, h4⟩

end QF.Props.C04GrouperGen
