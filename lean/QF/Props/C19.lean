import QF.Props.Tie
import QF.Core.Small
/-!
# C19 — ReadSQL: the `Column.Scan` state machine

`scan_text`: for every sequence of text values and NULLs containing at least one text value,
scanning yields a string column that reproduces the sequence, leading NULLs back-filled.
-/
namespace QF.Props.C19

theorem scan_text (vs : List Small.Sql.V) (h : ∀ v, v ∈ vs → Small.Sql.isStrOrNull v = true)
    (hne : ∃ v, v ∈ vs ∧ v ≠ Small.Sql.V.null) :
    ∃ c, Small.Sql.scanAll vs = some c ∧ c.kind = Small.Sql.Kind.str ∧ c.strs = List.map Small.Sql.toStrCell vs :=
  Small.Sql.scan_text vs h hne

/-- T1: no function of this property is compared as text (the list is empty); each is regenerated as a term and proved, so
that a behaviour-changing edit makes a `gen_*_canon` theorem fail while renaming locals or reformatting changes nothing.
`Column.Scan`, `Null`, `String`, `Float`, `Int`, `Bool`, `Data`, `StringToFloat`, `Int64ToBool`: `Gen.scanAst` /
`Gen.scanMethods` / `Gen.dataAst` / `Gen.coerceAsts` (sast.go), `C19ScanGen.gen_scan_canon`, `gen_scan_semantics`,
`gen_data_semantics`. `Insert`, `escape`, `NewArgBuilder`, `ToSQL`: `Gen.insertAst` / `escapeAst` / `argBuilderClauses` /
`toSqlAst` (C19SqlWriteGen). `ReadSQL`: `Gen.readSqlAst` (C19ReadSqlGen). -/
theorem tie : Tie.sameAll [] = true := by decide

end QF.Props.C19
