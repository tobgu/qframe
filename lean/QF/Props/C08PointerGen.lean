import QF.Gen.StringsFns
import QF.Core.STExec
import QF.Core.Small
/-!
# C08 — the packed string pointer of today's source (tie T1)

`QF.Gen.stringsFns` (regenerated on every run by go/cmd/extract/strast.go) holds the bodies of `NewPointer`,
`Pointer.Offset`, `Pointer.Len` and `Pointer.IsNull` of /repo/internal/strings/pointer.go as terms of the language `QF.ST`
(QF/Core/STExpr.lean), the constant `nullBit` replaced by its value.

* `gen_pointer_no_opaque`, `gen_pointer_canon` — today's extraction is complete and equal to the canonical terms (`decide`).
* `gen_pointer_semantics` — interpreted with Go's arithmetic (`<<`, `|`, `&` and the conversions `Pointer(int)`, `int(Pointer)`
  on 64-bit two's complement patterns), the canonical terms compute the hand mirror `Small.newPointer` / `pOffset` / `pLen`
  / `pIsNull` (QF/Core/Small.lean): `NewPointer` for every offset below 2^35 and length below 2^28 (the widths the masks
  `0x7FFFFFFFF`, `0xFFFFFFF` and the shift 28 of the code give), the accessors for every 64-bit pointer.
* `gen_pointer_roundtrip` — hence the regenerated accessors return what the regenerated `NewPointer` packed.
* witnesses: a mask shifted by one bit, a shift of 27, a null bit at 62 are different terms (`gen_pointer_canon` fails) and
  violate the round trip on concrete inputs.
-/
namespace QF.Props.C08PointerGen
open QF QF.ST

/-- `result := Pointer(offset<<28 | length); if isNull { result |= nullBit }; return result` -/
def fnNewPointer : Fn := { params := 3, body := S.block [
  S.assign (L.var 3) (E.conv NK.u64 (E.bor (E.shl (E.var 0) (E.int 28)) (E.var 1))),
  S.ite (E.var 2) (S.block [S.assign (L.var 3) (E.bor (E.var 3) (E.u64 0x8000000000000000))]) (S.block []),
  S.ret [E.var 3]] }

/-- `return int(p>>28) & 0x7FFFFFFFF` -/
def fnOffset : Fn := { params := 1, body := S.block [
  S.ret [E.band (E.conv NK.int (E.shr (E.var 0) (E.int 28))) (E.int 0x7FFFFFFFF)]] }

/-- `return int(p) & 0xFFFFFFF` -/
def fnLen : Fn := { params := 1, body := S.block [
  S.ret [E.band (E.conv NK.int (E.var 0)) (E.int 0xFFFFFFF)]] }

/-- `return p&nullBit > 0` -/
def fnIsNull : Fn := { params := 1, body := S.block [
  S.ret [E.cmp COp.gt (E.band (E.var 0) (E.u64 0x8000000000000000)) (E.u64 0)]] }

def pointerIds : List FnId := [.newPointer, .pOffset, .pLen, .pIsNull]

theorem gen_pointer_no_opaque :
    ∀ f ∈ pointerIds, ∃ fn, Gen.stringsFns.lookup f = some fn ∧ fn.body.hasOpaque = false := by decide

theorem gen_pointer_canon :
    Gen.stringsFns.lookup .newPointer = some fnNewPointer ∧ Gen.stringsFns.lookup .pOffset = some fnOffset ∧
    Gen.stringsFns.lookup .pLen = some fnLen ∧ Gen.stringsFns.lookup .pIsNull = some fnIsNull := by decide

/-! ## Arithmetic on 64-bit patterns -/

theorem tc64_nat (n : Nat) (h : n < 2 ^ 64) : tc64 (n : Int) = n := by
  unfold tc64; omega

theorem sx64_small (n : Nat) (h : n < 2 ^ 63) : sx64 n = (n : Int) := by
  unfold sx64; split <;> omega

theorem tc64_sx64 (p : Nat) (h : p < 2 ^ 64) : tc64 (sx64 p) = p := by
  unfold tc64 sx64; split <;> omega

theorem shl28_lt (offset : Nat) (ho : offset < 2 ^ 35) : offset <<< 28 < 2 ^ 63 := by
  rw [Nat.shiftLeft_eq]; omega

/-! ## The meaning of the canonical terms -/

/-- `int(x) & m` for a mask below 2^63, on the 64-bit patterns -/
theorem band_mask (x m : Nat) (hx : x < 2 ^ 64) (hm : m < 2 ^ 63) : sx64 (tc64 (sx64 x) &&& tc64 m) = ((x &&& m : Nat) : Int) := by
  rw [tc64_sx64 _ hx, tc64_nat _ (by omega), sx64_small _ (Nat.lt_of_le_of_lt Nat.and_le_right hm)]

/-- today's `NewPointer`, `Offset`, `Len`, `IsNull` by the regenerated terms -/
def genRun (Γ : Env) (f : FnId) (args : List Val) : Option (List Val) := (run Γ Gen.stringsFns f args).vals

/-- The pointer functions of today's source, interpreted with Go's arithmetic, are the hand mirror of QF/Core/Small.lean. -/
theorem gen_pointer_semantics (Γ : Env) :
    (∀ offset length : Nat, ∀ isNull : Bool, offset < 2 ^ 35 → length < 2 ^ 28 →
      genRun Γ .newPointer [.int offset, .int length, .bool isNull] = some [.u64 (Small.newPointer offset length isNull)]) ∧
    (∀ p : Nat, p < 2 ^ 64 → genRun Γ .pOffset [.u64 p] = some [.int (Small.pOffset p)]) ∧
    (∀ p : Nat, p < 2 ^ 64 → genRun Γ .pLen [.u64 p] = some [.int (Small.pLen p)]) ∧
    (∀ p : Nat, genRun Γ .pIsNull [.u64 p] = some [.bool (Small.pIsNull p)]) := by
  obtain ⟨c1, c2, c3, c4⟩ := gen_pointer_canon
  refine ⟨?_, ?_, ?_, ?_⟩
  · intro offset length isNull ho hl
    have h1 := shl28_lt offset ho
    have h2 : offset <<< 28 ||| length < 2 ^ 63 :=
      Nat.or_lt_two_pow h1 (Nat.lt_of_lt_of_le hl (Nat.pow_le_pow_right (by omega) (by omega)))
    have key : tc64 (sx64 (tc64 (sx64 (tc64 (offset : Int) <<< 28)) ||| tc64 (length : Int))) = offset <<< 28 ||| length := by
      rw [tc64_nat _ (by omega), sx64_small _ h1, tc64_nat _ (by omega), tc64_nat _ (by omega), sx64_small _ h2, tc64_nat _ (by omega)]
    -- `result := Pointer(offset<<28 | length)`: the value operand by operand, then `key`
    have hp : (E.conv NK.u64 (E.bor (E.shl (E.var 0) (E.int 28)) (E.var 1))).eval Γ
        (bindArgs [.int offset, .int length, .bool isNull] 0 Store.empty) = .ok (.u64 (offset <<< 28 ||| length)) :=
      bind1 (bind2 (bind2 (eval_var rfl) rfl rfl) (eval_var rfl) rfl) (congrArg (fun x => Res.ok (Val.u64 x)) key)
    suffices h : ∃ σ', fnNewPointer.body.exec Γ (bindArgs [.int offset, .int length, .bool isNull] 0 Store.empty) =
        .ret σ' [.u64 (Small.newPointer offset length isNull)] from h.elim fun _ h => run_vals c1 rfl h
    cases isNull
    · exact ⟨_, exec_cons_next (exec_assign_ok hp) <| exec_cons_next (exec_ite_neg (eval_var rfl) rfl) <|
        exec_cons_ret (exec_ret_ok (evalList_cons ((eval_var rfl).trans (by simp [Small.newPointer])) rfl))⟩
    · exact ⟨_, exec_cons_next (exec_assign_ok hp) <|
        exec_cons_next ((exec_ite_pos (eval_var rfl) rfl).trans (exec_cons_next (exec_assign_ok (bind2 (eval_var rfl) rfl rfl)) rfl)) <|
        exec_cons_ret (exec_ret_ok (evalList_cons (eval_var rfl) rfl))⟩
  · intro p hp
    have h1 : p >>> 28 < 2 ^ 64 := by rw [Nat.shiftRight_eq_div_pow]; omega
    exact run_vals c2 rfl (exec_cons_ret (exec_ret_ok (evalList_cons
      (bind2 (bind1 (bind2 (eval_var rfl) rfl rfl) rfl) rfl
        (congrArg (fun x => Res.ok (Val.int x)) (band_mask _ 34359738367 h1 (by omega)))) rfl)))
  · intro p hp
    exact run_vals c3 rfl (exec_cons_ret (exec_ret_ok (evalList_cons
      (bind2 (bind1 (eval_var rfl) rfl) rfl (congrArg (fun x => Res.ok (Val.int x)) (band_mask _ 268435455 hp (by omega)))) rfl)))
  · intro p
    refine run_vals c4 rfl (exec_cons_ret (exec_ret_ok (evalList_cons
      (bind2 (bind2 (eval_var rfl) rfl rfl) rfl (congrArg (fun b => Res.ok (Val.bool b)) ?_)) rfl)))
    show decide (p &&& 2 ^ 63 > 0) = p.testBit 63
    rw [Small.and_two_pow]
    cases p.testBit 63 <;> rfl

theorem newPointer_lt (offset length : Nat) (isNull : Bool) (ho : offset < 2 ^ 35) (hl : length < 2 ^ 28) :
    Small.newPointer offset length isNull < 2 ^ 64 := by
  rw [Small.newPointer_eq isNull ho hl]; split <;> omega

/-- C08 for today's code: for every offset below 2^35, every length below 2^28 and either null flag, the regenerated
`NewPointer` returns a pointer from which the regenerated `Offset`, `Len` and `IsNull` return exactly what was packed. -/
theorem gen_pointer_roundtrip (Γ : Env) (offset length : Nat) (isNull : Bool) (ho : offset < 2 ^ 35) (hl : length < 2 ^ 28) :
    ∃ p, genRun Γ .newPointer [.int offset, .int length, .bool isNull] = some [.u64 p] ∧
      genRun Γ .pOffset [.u64 p] = some [.int offset] ∧
      genRun Γ .pLen [.u64 p] = some [.int length] ∧
      genRun Γ .pIsNull [.u64 p] = some [.bool isNull] := by
  obtain ⟨s1, s2, s3, s4⟩ := gen_pointer_semantics Γ
  obtain ⟨r1, r2, r3⟩ := Small.pointer_roundtrip offset length isNull ho hl
  have hp := newPointer_lt offset length isNull ho hl
  refine ⟨_, s1 offset length isNull ho hl, ?_, ?_, ?_⟩
  · rw [s2 _ hp, r1]
  · rw [s3 _ hp, r2]
  · rw [s4, r3]

/-! ## Witnesses: plausible mutations are different terms and break the round trip -/

def anyEnv : Env := { fuel := 0, decode := fun _ => (0, 0), encode := fun _ => [], runeLen := fun _ => 0, toUpper := id,
                      newMatcher := fun _ _ => .error .badPattern }

/-- what the accessors return for the pointer a `NewPointer` term builds -/
def roundtrip (np off len nul : Fn) (offset length : Int) (isNull : Bool) : Option (List Val) :=
  match (runFn anyEnv np [.int offset, .int length, .bool isNull]).vals with
  | some [p] =>
    (match (runFn anyEnv off [p]).vals, (runFn anyEnv len [p]).vals, (runFn anyEnv nul [p]).vals with
     | some [a], some [b], some [c] => some [a, b, c]
     | _, _, _ => none)
  | _ => none

def showVals : Option (List Val) → List Int
  | some vs => vs.map fun v => match v with | .int n => n | .bool b => if b then 1 else 0 | _ => -1
  | none => []

-- today's terms on a sample
example : showVals (roundtrip fnNewPointer fnOffset fnLen fnIsNull 5 3 true) = [5, 3, 1] := by decide
example : showVals (roundtrip fnNewPointer fnOffset fnLen fnIsNull (2 ^ 35 - 1) (2 ^ 28 - 1) false) = [2 ^ 35 - 1, 2 ^ 28 - 1, 0] := by decide

/-- the offset mask shifted by one bit: `int(p>>28) & 0xFFFFFFFFE` -/
def fnOffsetShiftedMask : Fn := { params := 1, body := S.block [
  S.ret [E.band (E.conv NK.int (E.shr (E.var 0) (E.int 28))) (E.int 0xFFFFFFFFE)]] }
example : fnOffsetShiftedMask ≠ fnOffset := by decide
example : showVals (roundtrip fnNewPointer fnOffsetShiftedMask fnLen fnIsNull 5 3 false) = [4, 3, 0] := by decide

/-- the length mask one bit short: `int(p) & 0x7FFFFFF` -/
def fnLenShortMask : Fn := { params := 1, body := S.block [
  S.ret [E.band (E.conv NK.int (E.var 0)) (E.int 0x7FFFFFF)]] }
example : fnLenShortMask ≠ fnLen := by decide
example : showVals (roundtrip fnNewPointer fnOffset fnLenShortMask fnIsNull 5 (2 ^ 27) false) = [5, 0, 0] := by decide

/-- a shift of 27 in `NewPointer` only: offset and length overlap -/
def fnNewPointer27 : Fn := { params := 3, body := S.block [
  S.assign (L.var 3) (E.conv NK.u64 (E.bor (E.shl (E.var 0) (E.int 27)) (E.var 1))),
  S.ite (E.var 2) (S.block [S.assign (L.var 3) (E.bor (E.var 3) (E.u64 0x8000000000000000))]) (S.block []),
  S.ret [E.var 3]] }
example : fnNewPointer27 ≠ fnNewPointer := by decide
example : showVals (roundtrip fnNewPointer27 fnOffset fnLen fnIsNull 1 0 false) = [0, 2 ^ 27, 0] := by decide

/-- the null bit at position 62: it is the top bit of the offset -/
def fnNewPointerNull62 : Fn := { params := 3, body := S.block [
  S.assign (L.var 3) (E.conv NK.u64 (E.bor (E.shl (E.var 0) (E.int 28)) (E.var 1))),
  S.ite (E.var 2) (S.block [S.assign (L.var 3) (E.bor (E.var 3) (E.u64 0x4000000000000000))]) (S.block []),
  S.ret [E.var 3]] }
example : fnNewPointerNull62 ≠ fnNewPointer := by decide
example : showVals (roundtrip fnNewPointerNull62 fnOffset fnLen fnIsNull 0 0 true) = [2 ^ 34, 0, 0] := by decide

/-- `>= 0` for `> 0` in `IsNull`: every pointer is null -/
def fnIsNullGe : Fn := { params := 1, body := S.block [
  S.ret [E.cmp COp.ge (E.band (E.var 0) (E.u64 0x8000000000000000)) (E.u64 0)]] }
example : fnIsNullGe ≠ fnIsNull := by decide
example : showVals (roundtrip fnNewPointer fnOffset fnLen fnIsNullGe 5 3 false) = [5, 3, 1] := by decide

/-- the bounds of the theorem are the widths of the code: one more bit of offset is lost -/
example : showVals (roundtrip fnNewPointer fnOffset fnLen fnIsNull (2 ^ 35) 0 false) = [0, 0, 1] := by decide
/-- … and one more bit of length spills into the offset -/
example : showVals (roundtrip fnNewPointer fnOffset fnLen fnIsNull 0 (2 ^ 28) false) = [1, 0, 0] := by decide

end QF.Props.C08PointerGen

#print axioms QF.Props.C08PointerGen.gen_pointer_no_opaque
#print axioms QF.Props.C08PointerGen.gen_pointer_canon
#print axioms QF.Props.C08PointerGen.gen_pointer_semantics
#print axioms QF.Props.C08PointerGen.gen_pointer_roundtrip
