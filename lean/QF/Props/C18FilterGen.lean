import QF.Gen.StringsFns
import QF.Core.STExec
import QF.Core.Small
/-!
# C18 / C17 — how a like / ilike filter applies the matcher, in today's source (tie T1)

`QF.Gen.stringsFns` (regenerated on every run by go/cmd/extract/strast.go) holds, as terms of the language `QF.ST`
(QF/Core/STExpr.lean), the bodies of

* the function `(index.Int, Column, string, index.Bool, bool) error` of /repo/internal/scolumn (today `regexFilter`; `like` and
  `ilike` of the string column forward to it): `NewMatcher`, the error wrapped by `qerrors.Propagate`, the loop over `bIndex`
  with the guard `if !x`, the cell access `s.stringAt(index[i])`, `if !isNull { bIndex[i] = matcher.Matches(s) }`;
* the function `(string, []string, bool) (*bitset, error)` of /repo/internal/ecolumn (today `filterLike`): `NewMatcher`, the
  loop over the enum's value table with `if matcher.Matches(v) { bset.set(enumVal(i)) }`.

`NewMatcher` itself is regenerated and proved in C18Matcher; here it is the environment's `newMatcher` (any function). The cell
access `stringAt` is recognised by its body (pointer, null bit, slice of the data) and means "the cell"; `bitset.set` is the
hand mirror `Small.bsSet`.

* `gen_likefilter_no_opaque`, `gen_likefilter_canon` — today's extraction is complete and equal to the canonical terms.
* `gen_likefilter_semantics` — string column: the call returns nil and leaves in `bIndex`, at every position `i`,
  `bIndex[i] || (cell index[i] is not null and the matcher accepts its string)`: a row that was already kept stays kept
  (the accumulate-only-if-false rule), a row that was not is kept iff it is non-null and matches (`gen_like_row_kept`); a
  pattern `NewMatcher` rejects gives the wrapped error and leaves `bIndex` alone. Enum column: the call returns a bitset in
  which code `w < 256` is set iff `w` is the position of a value of the table that the matcher accepts, for tables of at most
  256 values — the function `bsetOf` that C02Kernels' `gen_kernel_semantics_like_enum` assumes of the bitset.
* witnesses: `!x` dropped, `!isNull` dropped, `enumVal(i+1)` are different terms and give other results on concrete inputs.
-/
namespace QF.Props.C18FilterGen
open QF QF.ST

/-! ## The canonical terms -/

/-- string column, variables 0 `index`, 1 `s`, 2 `comparatee`, 3 `bIndex`, 4 `caseSensitive`, 5 `matcher`, 6 `err`, 7 `i`, 8 `x`,
9 `s` (the cell), 10 `isNull`: `if !x { s, isNull := s.stringAt(index[i]); if !isNull { bIndex[i] = matcher.Matches(s) } }` -/
abbrev sBody : S := S.block [
  S.ite (E.not (E.var 8))
    (S.block [
      S.stringAt (L.var 9) (L.var 10) (E.var 1) (E.at (E.var 0) (E.var 7)),
      S.ite (E.not (E.var 10)) (S.block [S.setAt 3 (E.var 7) (E.matches (E.var 5) (E.var 9))]) (S.block [])])
    (S.block [])]

def fnLikeS : ST.Fn := { params := 5, body := S.block [
  S.newMatcher (L.var 5) (L.var 6) (E.var 2) (E.var 4),
  S.ite (E.not (E.isNil (E.var 6))) (S.block [S.ret [E.propagate "Regex filter" (E.var 6)]]) (S.block []),
  S.rangeVar (L.var 7) (L.var 8) 3 sBody,
  S.ret [E.nilErr]] }

/-- enum column, variables 0 `comp`, 1 `values`, 2 `caseSensitive`, 3 `matcher`, 4 `err`, 5 `bset`, 6 `i`, 7 `v`:
`if matcher.Matches(v) { bset.set(enumVal(i)) }` -/
abbrev eBody : S := S.block [
  S.ite (E.matches (E.var 3) (E.var 7)) (S.block [S.bsSet 5 (E.conv NK.byte (E.var 6))]) (S.block [])]

def fnLikeE : ST.Fn := { params := 3, body := S.block [
  S.newMatcher (L.var 3) (L.var 4) (E.var 0) (E.var 2),
  S.ite (E.not (E.isNil (E.var 4))) (S.block [S.ret [E.nilBitset, E.propagate "enum like" (E.var 4)]]) (S.block []),
  S.assign (L.var 5) E.newBitset,
  S.rangeVar (L.var 6) (L.var 7) 1 eBody,
  S.ret [E.var 5, E.nilErr]] }

theorem gen_likefilter_no_opaque :
    ∀ f ∈ [FnId.likeStrings, FnId.likeEnum], ∃ fn, Gen.stringsFns.lookup f = some fn ∧ fn.body.hasOpaque = false := by decide

theorem gen_likefilter_canon :
    Gen.stringsFns.lookup .likeStrings = some fnLikeS ∧ Gen.stringsFns.lookup .likeEnum = some fnLikeE := by decide

/-! ## The string column -/

/-- the cell is not null and the matcher accepts its string -/
def keep (f : Bytes → Bool) (col : Col) (r : Nat) : Bool :=
  match col[r]! with
  | some t => f t
  | none => false

/-- what the filter leaves in `bIndex` -/
def likeRows (f : Bytes → Bool) (col : Col) (index : List Nat) (bIndex : List Bool) : List Bool :=
  bIndex.mapIdx fun i x => x || keep f col index[i]!

/-- the variables of the loop -/
structure LS (σ : Store) (index : List Nat) (col : Col) (f : Bytes → Bool) (l : List Bool) : Prop where
  h0 : σ 0 = some (.rows index)
  h1 : σ 1 = some (.col col)
  h5 : σ 5 = some (.matcher f)
  h3 : σ 3 = some (.bools l)

section cell
variable {Γ : Env} {σ : Store}

/-- `s, isNull := s.stringAt(index[i])` -/
theorem cell_exec {index : List Nat} {col : Col} {k : Nat} (h0 : σ 0 = some (.rows index)) (h1 : σ 1 = some (.col col))
    (h7 : σ 7 = some (.int k)) (hk : k < index.length) (hc : index[k]! < col.length) :
    (S.stringAt (L.var 9) (L.var 10) (E.var 1) (E.at (E.var 0) (E.var 7))).exec Γ σ =
      .next ((σ.set 9 (.str (col[index[k]!]!.getD []))).set 10 (.bool col[index[k]!]!.isNone)) := by
  rw [exec_stringAt, eval_var h1, eval_at (eval_var h0) (eval_var h7) rfl]
  simp only [Val.index, Out.ofRes_ok, asIndex]
  rw [if_pos (by omega), Int.toNat_natCast]
  simp only [Out.ofRes_ok]
  rw [if_pos (by omega), Int.toNat_natCast]
  cases col[index[k]!]! <;> rfl

/-- `bIndex[i] = matcher.Matches(s)` -/
theorem match_exec {f : Bytes → Bool} {l : List Bool} {k : Nat} {t : Bytes} (h3 : σ 3 = some (.bools l)) (h5 : σ 5 = some (.matcher f))
    (h7 : σ 7 = some (.int k)) (h9 : σ 9 = some (.str t)) (hk : k < l.length) :
    (S.setAt 3 (E.var 7) (E.matches (E.var 5) (E.var 9))).exec Γ σ = .next (σ.set 3 (.bools (l.set k (f t)))) := by
  rw [exec_setAt, eval_var h7, E.eval, eval_var h5, eval_var h9, h3]
  simp only [Out.ofRes_ok, asIndex, Res.bind_ok]
  rw [if_pos (by omega), Int.toNat_natCast]

end cell

/-- One round of the loop at the entry `x` (after `A`, before `B`): it becomes `x || keep …`, nothing else changes. -/
theorem s_step (Γ : Env) (σ : Store) (index : List Nat) (col : Col) (f : Bytes → Bool) (A B : List Bool) (x : Bool)
    (hs : LS σ index col f (A ++ x :: B)) (hki : A.length < index.length) (hc : index[A.length]! < col.length) :
    ∃ σ', stepOf Γ sBody ((σ.set 7 (.int A.length)).set 8 (.bool x)) = .next σ' ∧
      LS σ' index col f (A ++ (x || keep f col index[A.length]!) :: B) := by
  obtain ⟨h0, h1, h5, h3⟩ := hs
  rw [stepOf, keep]
  have hg : (E.not (E.var 8)).eval Γ ((σ.set 7 (.int A.length)).set 8 (.bool x)) = .ok (.bool (!x)) := eval_not (eval_var rfl)
  cases x
  · -- not yet kept: look at the cell
    have hcell := cell_exec (Γ := Γ) (σ := (σ.set 7 (.int A.length)).set 8 (.bool false)) h0 h1 rfl hki hc
    generalize col[index[A.length]!]! = cell at hcell ⊢
    have hn : (E.not (E.var 10)).eval Γ ((((σ.set 7 (.int A.length)).set 8 (.bool false)).set 9 (.str (cell.getD []))).set 10 (.bool cell.isNone)) =
        .ok (.bool (!cell.isNone)) := eval_not (eval_var rfl)
    rw [Bool.false_or]
    cases cell with
    | none =>
      exact ⟨_, exec_cons_next ((exec_ite_pos hg rfl).trans (exec_cons_next hcell (exec_cons_next (exec_ite_neg hn rfl) rfl))) rfl, h0, h1, h5, h3⟩
    | some t =>
      refine ⟨_, exec_cons_next ((exec_ite_pos hg rfl).trans (exec_cons_next hcell (exec_cons_next
        ((exec_ite_pos hn rfl).trans (exec_cons_next (match_exec h3 h5 rfl rfl (by simp)) rfl)) rfl))) rfl, h0, h1, h5, ?_⟩
      rw [List.set_append_right _ _ (Nat.le_refl _), Nat.sub_self, List.set_cons_zero]; rfl
  · -- already kept: nothing happens
    exact ⟨_, exec_cons_next (exec_ite_neg hg rfl) rfl, h0, h1, h5, h3⟩

theorem likeRows_snoc (f : Bytes → Bool) (col : Col) (index : List Nat) (l : List Bool) (x : Bool) :
    likeRows f col index (l ++ [x]) = likeRows f col index l ++ [x || keep f col index[l.length]!] := List.mapIdx_concat

/-- the loop from position `k` on: the first `k` entries are done -/
theorem s_loop (Γ : Env) (index : List Nat) (col : Col) (f : Bytes → Bool) (len : Nat) (l0 : List Bool) (hli : l0.length ≤ index.length)
    (hcol : ∀ j, j < l0.length → index[j]! < col.length) : ∀ (n k : Nat) (σ : Store), k + n = l0.length →
    LS σ index col f (likeRows f col index (l0.take k) ++ l0.drop k) →
    ∃ σ', iterVar (.var 7) (.var 8) 3 (stepOf Γ sBody) len n k σ = .next σ' ∧ LS σ' index col f (likeRows f col index l0) := by
  intro n
  induction n with
  | zero =>
    intro k σ hk hs
    rw [show k = l0.length by omega, List.take_length, List.drop_length, List.append_nil] at hs
    exact ⟨σ, rfl, hs⟩
  | succ n ih =>
    intro k σ hk hs
    have hkl : k < l0.length := by omega
    have hA : (likeRows f col index (l0.take k)).length = k := by rw [likeRows, List.length_mapIdx, List.length_take_of_le (Nat.le_of_lt hkl)]
    rw [List.drop_eq_getElem_cons hkl] at hs
    obtain ⟨σ1, hstep, hs1⟩ := s_step Γ σ index col f _ _ _ hs (by omega) (by rw [hA]; exact hcol k hkl)
    rw [hA] at hstep hs1
    obtain ⟨σ', hit, hs'⟩ := ih (k + 1) σ1 (by omega) (by
      rw [List.take_succ_eq_append_getElem hkl, likeRows_snoc, List.length_take_of_le (Nat.le_of_lt hkl), List.append_assoc]
      exact hs1)
    refine ⟨σ', ?_, hs'⟩
    rw [iterVar, hs.h3]
    simp only [Val.index]
    rw [if_pos (by simp; omega)]
    simp only [Int.toNat_natCast, assignL]
    rw [getElem!_pos _ k (by simp; omega), List.getElem_append_right (Nat.le_of_eq hA)]
    simp only [hA, Nat.sub_self, List.getElem_cons_zero]
    rw [hstep]
    exact hit

/-! ## The enum column -/

/-- the variables of the loop -/
structure LE (σ : Store) (values : List Bytes) (f : Bytes → Bool) (b : Small.BitSet) : Prop where
  h1 : σ 1 = some (.strs values)
  h3 : σ 3 = some (.matcher f)
  h5 : σ 5 = some (.bitset (some b))

theorem word_zero (k : Nat) : Small.word (0, 0, 0, 0) k = 0 := by
  unfold Small.word; split <;> rfl

/-- the bitset of an enum-column like filter: code `w` is set iff value `w` of the table is accepted -/
def LikeBits (values : List Bytes) (f : Bytes → Bool) (b : Small.BitSet) : Prop :=
  ∀ w, w < 256 → Small.bsIsSet b w = (match values[w]? with | some v => f v | none => false)

theorem bits_empty (f : Bytes → Bool) : LikeBits [] f (0, 0, 0, 0) := by
  intro w _
  simp [Small.bsIsSet, word_zero]

/-- one more value in the table: its bit is set iff the matcher accepts it -/
theorem LikeBits.snoc {vs : List Bytes} {f : Bytes → Bool} {b : Small.BitSet} (hb : LikeBits vs f b) (v : Bytes) (hl : vs.length < 256) :
    LikeBits (vs ++ [v]) f (if f v then Small.bsSet b vs.length else b) := by
  intro w hw
  rw [apply_ite (Small.bsIsSet · w), Small.bitset_spec b _ w hl hw, hb w hw, List.getElem?_append]
  by_cases h : w < vs.length
  · simp [h, Nat.ne_of_lt h]
  · rw [if_neg h, List.getElem?_eq_none (Nat.le_of_not_lt h)]
    by_cases e : w = vs.length
    · simp [e]
    · rw [List.getElem?_eq_none (by simp; omega)]; simp [e]

theorem e_step (Γ : Env) (σ : Store) (values : List Bytes) (f : Bytes → Bool) (b : Small.BitSet) (k : Nat)
    (hs : LE σ values f b) (hk : k < values.length) (h256 : k < 256) (hb : LikeBits (values.take k) f b) :
    ∃ σ' b', stepOf Γ eBody ((σ.set 6 (.int k)).set 7 (.str values[k]!)) = .next σ' ∧ LE σ' values f b' ∧
      LikeBits (values.take (k + 1)) f b' := by
  obtain ⟨h1, h3, h5⟩ := hs
  have hget : values[k]? = some values[k]! := by rw [getElem!_pos values k hk]; exact List.getElem?_eq_getElem hk
  have hbyte : convV .byte (.int k) = .ok (.byte (UInt8.ofNat k)) := by
    have : ((k : Int) % 256).toNat = k := by omega
    rw [convV, this]
  have hkk : (UInt8.ofNat k).toNat = k := by simp; omega
  unfold stepOf
  generalize values[k]! = v at hget
  have hm : (E.matches (E.var 3) (E.var 7)).eval Γ ((σ.set 6 (.int k)).set 7 (.str v)) = .ok (.bool (f v)) :=
    bind2 (eval_var h3) (eval_var rfl) rfl
  -- the first `k + 1` values are the first `k` and `v`
  have hlen : (values.take k).length = k := List.length_take_of_le (Nat.le_of_lt hk)
  have hb' := hb.snoc v (hlen.symm ▸ h256)
  rw [hlen] at hb'
  rw [List.take_add_one, hget]
  cases hfv : f v <;> rw [hfv] at hb'
  · exact ⟨_, b, exec_cons_next (exec_ite_neg hm hfv) rfl, ⟨h1, h3, h5⟩, hb'⟩
  · have hset := exec_bsSet_ok (Γ := Γ) (σ := (σ.set 6 (.int k)).set 7 (.str v)) (v := 5) (e := E.conv NK.byte (E.var 6)) (bind1 (eval_var rfl) hbyte) h5
    rw [hkk] at hset
    exact ⟨_, Small.bsSet b k, exec_cons_next ((exec_ite_pos hm hfv).trans (exec_cons_next hset rfl)) rfl, ⟨h1, h3, rfl⟩, hb'⟩

theorem e_loop (Γ : Env) (values : List Bytes) (f : Bytes → Bool) (len : Nat) (h256 : values.length ≤ 256) : ∀ (n k : Nat) (σ : Store) (b : Small.BitSet),
    LE σ values f b → k + n = values.length → LikeBits (values.take k) f b →
    ∃ σ' b', iterVar (.var 6) (.var 7) 1 (stepOf Γ eBody) len n k σ = .next σ' ∧ LE σ' values f b' ∧ LikeBits values f b' := by
  intro n
  induction n with
  | zero =>
    intro k σ b hs hk hb
    rw [show k = values.length by omega, List.take_length] at hb
    exact ⟨σ, b, rfl, hs, hb⟩
  | succ n ih =>
    intro k σ b hs hk hb
    have hkl : k < values.length := by omega
    obtain ⟨σ1, b1, hstep, hs1, hb1⟩ := e_step Γ σ values f b k hs hkl (by omega) hb
    obtain ⟨σ', b', hit, hs', hb'⟩ := ih (k + 1) σ1 b1 hs1 (by omega) hb1
    refine ⟨σ', b', ?_, hs', hb'⟩
    rw [iterVar, hs.h1]
    simp only [Val.index]
    rw [if_pos (by omega)]
    simp only [Int.toNat_natCast, assignL]
    rw [hstep]
    exact hit

/-! ## Today's code -/

/-- today's like / ilike filter functions by the regenerated terms -/
def genLike (Γ : Env) (f : FnId) (args : List ST.Val) : Run := run Γ Gen.stringsFns f args

/-- C18 (and C17 for the enum side) for today's code. For every pattern, case flag and matcher function `NewMatcher` returns:
(1) on a string column with `len(bIndex) ≤ len(index)` and every `index[j]` a row of the column, the filter returns nil and
`bIndex` holds `bIndex[i] || (row index[i] is not null and the matcher accepts its string)` at every `i`;
(2) a pattern `NewMatcher` rejects gives the error wrapped with "Regex filter" / "enum like", `bIndex` untouched / a nil bitset;
(3) on an enum column with a value table of at most 256 strings the filter returns a bitset in which code `w` is set iff
value `w` of the table is accepted by the matcher. -/
theorem gen_likefilter_semantics (Γ : Env) (pat : Bytes) (cs : Bool) :
    (∀ f, Γ.newMatcher pat cs = .ok f →
      (∀ (index : List Nat) (col : Col) (bIndex : List Bool), bIndex.length ≤ index.length →
        (∀ j, j < bIndex.length → index[j]! < col.length) →
        ∃ σ', genLike Γ .likeStrings [.rows index, .col col, .str pat, .bools bIndex, .bool cs] = .ret σ' [.err none] ∧
          σ' 3 = some (.bools (likeRows f col index bIndex))) ∧
      (∀ values : List Bytes, values.length ≤ 256 →
        ∃ σ' b, genLike Γ .likeEnum [.str pat, .strs values, .bool cs] = .ret σ' [.bitset (some b), .err none] ∧
          LikeBits values f b)) ∧
    (∀ e, Γ.newMatcher pat cs = .error e →
      (∀ (index : List Nat) (col : Col) (bIndex : List Bool),
        ∃ σ', genLike Γ .likeStrings [.rows index, .col col, .str pat, .bools bIndex, .bool cs] =
            .ret σ' [.err (some (.propagated "Regex filter" e))] ∧ σ' 3 = some (.bools bIndex)) ∧
      (∀ values : List Bytes,
        ∃ σ', genLike Γ .likeEnum [.str pat, .strs values, .bool cs] =
            .ret σ' [.bitset none, .err (some (.propagated "enum like" e))])) := by
  obtain ⟨c1, c2⟩ := gen_likefilter_canon
  refine ⟨fun f hm => ⟨?_, ?_⟩, fun e hm => ⟨?_, ?_⟩⟩
  · intro index col bIndex hlen hcol
    obtain ⟨σ', hit, hs'⟩ := s_loop Γ index col f bIndex.length bIndex hlen hcol bIndex.length 0
      (((((((Store.empty.set 0 (.rows index)).set 1 (.col col)).set 2 (.str pat)).set 3 (.bools bIndex)).set 4 (.bool cs)).set 5 (.matcher f)).set 6 (.err none))
      (by omega) ⟨rfl, rfl, rfl, rfl⟩
    exact ⟨σ', run_ret c1 rfl (exec_cons_next (exec_newMatcher_ok (eval_var rfl) (eval_var rfl) hm) <|
      exec_cons_next (exec_ite_neg (eval_not (bind1 (eval_var rfl) rfl)) rfl) <|
      exec_cons_next ((exec_rangeVar_ok rfl rfl).trans hit) <| exec_cons_ret (exec_ret_ok rfl)), hs'.h3⟩
  · intro values h256
    obtain ⟨σ', b', hit, hs', hb'⟩ := e_loop Γ values f values.length h256 values.length 0
      ((((((Store.empty.set 0 (.str pat)).set 1 (.strs values)).set 2 (.bool cs)).set 3 (.matcher f)).set 4 (.err none)).set 5 (.bitset (some (0, 0, 0, 0))))
      (0, 0, 0, 0) ⟨rfl, rfl, rfl⟩ (by omega) (bits_empty f)
    exact ⟨σ', b', run_ret c2 rfl (exec_cons_next (exec_newMatcher_ok (eval_var rfl) (eval_var rfl) hm) <|
      exec_cons_next (exec_ite_neg (eval_not (bind1 (eval_var rfl) rfl)) rfl) <| exec_cons_next (exec_assign_ok rfl) <|
      exec_cons_next ((exec_rangeVar_ok rfl rfl).trans hit) <| exec_cons_ret (exec_ret_ok (evalList_cons (eval_var hs'.h5) rfl))), hb'⟩
  · intro index col bIndex
    exact ⟨_, run_ret c1 rfl (exec_cons_next (exec_newMatcher_error (eval_var rfl) (eval_var rfl) hm) <| exec_cons_ret <|
      Eq.trans (exec_ite_pos (eval_not (bind1 (eval_var rfl) rfl)) rfl) <|
      exec_cons_ret (exec_ret_ok (evalList_cons (bind1 (eval_var rfl) rfl) rfl))), rfl⟩
  · intro values
    exact ⟨_, run_ret c2 rfl (exec_cons_next (exec_newMatcher_error (eval_var rfl) (eval_var rfl) hm) <| exec_cons_ret <|
      Eq.trans (exec_ite_pos (eval_not (bind1 (eval_var rfl) rfl)) rfl) <|
      exec_cons_ret (exec_ret_ok (evalList_cons rfl (evalList_cons (bind1 (eval_var rfl) rfl) rfl))))⟩

/-- the rows of the result, one by one: a row that was kept stays kept; a row that was not is kept iff its cell is not null
and the matcher accepts its string -/
theorem gen_like_row_kept (f : Bytes → Bool) (col : Col) (index : List Nat) (bIndex : List Bool) (i : Nat) (hi : i < bIndex.length) :
    (likeRows f col index bIndex)[i]! = (bIndex[i]! || keep f col index[i]!) ∧
    (bIndex[i]! = false → ((likeRows f col index bIndex)[i]! = true ↔ ∃ t, col[index[i]!]! = some t ∧ f t = true)) := by
  have hl : i < (likeRows f col index bIndex).length := by simpa [likeRows] using hi
  have h1 : (likeRows f col index bIndex)[i]! = (bIndex[i]! || keep f col index[i]!) := by
    rw [getElem!_pos _ i hl, getElem!_pos bIndex i hi]
    simp [likeRows]
  refine ⟨h1, fun hb => ?_⟩
  rw [h1, hb, Bool.false_or, keep]
  cases col[index[i]!]! with
  | none => simp
  | some t => simp

/-! ## Witnesses: plausible mutations are different terms and give other results -/

/-- an environment for evaluation: the matcher accepts exactly the strings that start with `a` (97) -/
def wEnv : Env :=
  { fuel := 0, decode := fun _ => (0, 0), encode := fun _ => [], runeLen := fun _ => 0, toUpper := id,
    newMatcher := fun _ _ => .ok fun t => t.head? == some 97 }

def mkLikeS (body : S) : ST.Fn := { params := 5, body := S.block [
  S.newMatcher (L.var 5) (L.var 6) (E.var 2) (E.var 4),
  S.ite (E.not (E.isNil (E.var 6))) (S.block [S.ret [E.propagate "Regex filter" (E.var 6)]]) (S.block []),
  S.rangeVar (L.var 7) (L.var 8) 3 body,
  S.ret [E.nilErr]] }

example : mkLikeS sBody = fnLikeS := rfl

/-- `bIndex` after the call -/
def rowsOf (fn : ST.Fn) (index : List Nat) (col : Col) (bIndex : List Bool) : Option (List Bool) :=
  match runFn wEnv fn [.rows index, .col col, .str [], .bools bIndex, .bool true] with
  | .ret σ _ => (match σ 3 with | some (.bools l) => some l | _ => none)
  | _ => none

-- today's term: rows "ab", null, "b", "a" through the index [3, 2, 1, 0]; the second position was already kept
example : rowsOf fnLikeS [3, 2, 1, 0] [some [97, 98], none, some [98], some [97]] [false, true, false, false]
    = some [true, true, false, true] := by decide

/-- `if !x` dropped: a row that an earlier clause of an Or kept and that does not match is lost -/
def sBodyNoGuard : S := S.block [
  S.stringAt (L.var 9) (L.var 10) (E.var 1) (E.at (E.var 0) (E.var 7)),
  S.ite (E.not (E.var 10)) (S.block [S.setAt 3 (E.var 7) (E.matches (E.var 5) (E.var 9))]) (S.block [])]
example : mkLikeS sBodyNoGuard ≠ fnLikeS := by decide
example : rowsOf (mkLikeS sBodyNoGuard) [3, 2, 1, 0] [some [97, 98], none, some [98], some [97]] [false, true, false, false]
    = some [true, false, false, true] := by decide

/-- `if !isNull` dropped: a null cell is matched as the empty string -/
def sBodyNoNull : S := S.block [
  S.ite (E.not (E.var 8))
    (S.block [
      S.stringAt (L.var 9) (L.var 10) (E.var 1) (E.at (E.var 0) (E.var 7)),
      S.setAt 3 (E.var 7) (E.matches (E.var 5) (E.var 9))])
    (S.block [])]
def wEnvAll : Env := { wEnv with newMatcher := fun _ _ => .ok fun _ => true }
example : mkLikeS sBodyNoNull ≠ fnLikeS := by decide
example : (match runFn wEnvAll (mkLikeS sBodyNoNull) [.rows [0, 1], .col [none, some [98]], .str [], .bools [false, false], .bool true] with
    | .ret σ _ => (match σ 3 with | some (.bools l) => some l | _ => none) | _ => none) = some [true, true] := by decide
example : (match runFn wEnvAll fnLikeS [.rows [0, 1], .col [none, some [98]], .str [], .bools [false, false], .bool true] with
    | .ret σ _ => (match σ 3 with | some (.bools l) => some l | _ => none) | _ => none) = some [false, true] := by decide

/-- the row itself instead of `index[i]`: the wrong cells are looked at when the frame has been reordered -/
def sBodyNoIndex : S := S.block [
  S.ite (E.not (E.var 8))
    (S.block [
      S.stringAt (L.var 9) (L.var 10) (E.var 1) (E.var 7),
      S.ite (E.not (E.var 10)) (S.block [S.setAt 3 (E.var 7) (E.matches (E.var 5) (E.var 9))]) (S.block [])])
    (S.block [])]
example : rowsOf (mkLikeS sBodyNoIndex) [1, 0] [some [97], some [98]] [false, false] = some [true, false] := by decide
example : rowsOf fnLikeS [1, 0] [some [97], some [98]] [false, false] = some [false, true] := by decide

def mkLikeE (body : S) : ST.Fn := { params := 3, body := S.block [
  S.newMatcher (L.var 3) (L.var 4) (E.var 0) (E.var 2),
  S.ite (E.not (E.isNil (E.var 4))) (S.block [S.ret [E.nilBitset, E.propagate "enum like" (E.var 4)]]) (S.block []),
  S.assign (L.var 5) E.newBitset,
  S.rangeVar (L.var 6) (L.var 7) 1 body,
  S.ret [E.var 5, E.nilErr]] }

example : mkLikeE eBody = fnLikeE := rfl

/-- which of the codes 0..3 are set in the bitset returned for a value table -/
def bitsOf (fn : ST.Fn) (values : List Bytes) : Option (List Bool) :=
  match runFn wEnv fn [.str [], .strs values, .bool true] with
  | .ret _ [.bitset (some b), _] => some ([0, 1, 2, 3].map (Small.bsIsSet b))
  | _ => none

example : bitsOf fnLikeE [[97], [98], [97, 99]] = some [true, false, true, false] := by decide

/-- `enumVal(i+1)`: the bits are those of the neighbours -/
def eBodyOff : S := S.block [
  S.ite (E.matches (E.var 3) (E.var 7)) (S.block [S.bsSet 5 (E.conv NK.byte (E.add (E.var 6) (E.int 1)))]) (S.block [])]
example : mkLikeE eBodyOff ≠ fnLikeE := by decide
example : bitsOf (mkLikeE eBodyOff) [[97], [98], [97, 99]] = some [false, true, false, true] := by decide

/-- the condition negated: the complement within the table -/
def eBodyNeg : S := S.block [
  S.ite (E.not (E.matches (E.var 3) (E.var 7))) (S.block [S.bsSet 5 (E.conv NK.byte (E.var 6))]) (S.block [])]
example : bitsOf (mkLikeE eBodyNeg) [[97], [98], [97, 99]] = some [false, true, false, false] := by decide

end QF.Props.C18FilterGen

#print axioms QF.Props.C18FilterGen.gen_likefilter_no_opaque
#print axioms QF.Props.C18FilterGen.gen_likefilter_canon
#print axioms QF.Props.C18FilterGen.gen_likefilter_semantics
#print axioms QF.Props.C18FilterGen.gen_like_row_kept
