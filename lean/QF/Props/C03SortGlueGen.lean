import QF.Gen.SortGlue
import QF.Core.ListFacts
/-!
# C03 / C04 / C05 / C06 / C08 / C15 — glue of /repo/qframe.go around the sorter, the comparables, `apply1` / `apply2` (tie T1, by semantics)

`QF.Gen.sortAst`, `sorterNewAst`, `comparablesAst`, `ordersAst`, `apply1GlueAst`, `apply2GlueAst`, `createColumnErrs`,
`readSqlArgsAst` (regenerated on every run by go/cmd/extract/sortgast.go) hold `QFrame.Sort` (with `withErr` / `withIndex`
inlined), `qfsort.New`, the helpers `comparables` and `orders` of `GroupBy` / `Distinct`, `apply1`, `apply2`, the error
returns of `createColumn` and `ReadSQLWithArgs` as terms of `QF.SG` (QF/Core/SortGlue.lean). What the glue calls — the
columns' `Comparable`, `Sorter.Sort`, `Column.Apply1` / `Apply2`, `setColumn`, `ecolumn.New`, `qfsqlio.ReadSQL`, `New` — is
regenerated elsewhere and is a parameter here; `QF.Props.C03EndToEnd` instantiates `Sort` with the regenerated sorter and
comparators and arrives at the spec's `isSortedResult`.

* `gen_sortglue_no_opaque`, `gen_sortglue_canon` — today's extraction is complete and equal to the canonical terms (kernel evaluation).
* `gen_sort_glue_semantics`  — for every frame, every list of orders and every meaning of the callees, `Sort` is `specSort`:
    a failed receiver and an empty order list come back as they are; an order naming a column the frame does not have gives
    the receiver with an error (nothing is sorted); otherwise `Sorter.Sort()` runs ONCE, on a COPY of the index, with the
    comparables below, the result has the receiver's columns and error and the sorted copy as its index, and the receiver's
    own index array holds what it held.
* `gen_sort_cmps_semantics`  — the comparables: one per order, in the order given (an order that names the same column
    again gives another comparable), each `<the column named by THAT order>.Comparable(<its Reverse>, false, <its NullLast>)`
    (`keysOf_spec`: the keys are the orders, each paired with the column found under its name).
* `gen_comparables_semantics`, `gen_orders_semantics`, `gen_comparables_of_names` — the helper `comparables(columns, orders, b)`
    returns, for the first `len(columns)` orders (a panic when there are fewer), in order, `<column named by the order>.
    Comparable(false, b, false)` — the SAME `b` for every column —; with `orders(columns)` that is one comparable per name of
    `columns`, in order.
* `gen_apply12_semantics`    — `apply1(fn, dst, src)`: the column found under `src` receives `Apply1(fn, <the receiver's index>)`;
    a slice becomes a column of its element type, a column stays, anything else is an error; the result goes to
    `setColumn(dst, ·)`. `apply2(fn, dst, src1, src2)`: the column under `src1` receives `Apply2(fn, <the column under src2>,
    <the receiver's index>)`, the result goes to `setColumn(dst, ·)`. A failed receiver comes back as it is, an unknown source
    column or an error of the callee gives the receiver with an error.
* `gen_createcolumn_errors`  — (C08) the four error returns of `createColumn`: a failure of `ecolumn.New` / `ecolumn.NewConst`
    comes back as `qerrors.Propagate("New columns <name>", err)` — the cause is kept as the source —, the two others are
    `qerrors.New("createColumn", …)` naming the count / the type and the column.
* `gen_readsqlargs_semantics` — (C15) `ReadSQLWithArgs`: `Prepare(conf.Query)`; its failure, the failure of
    `stmt.Query(queryArgs...)` (ALL the arguments) and of `qfsqlio.ReadSQL` each give `QFrame{Err: err}`; after a successful
    `Prepare` the statement is closed on every path; otherwise `New(data, ColumnOrder(columns...))` with the columns in the
    order `ReadSQL` reported.
* witnesses: mutants of `comparables` (the Null flag lost after an int column; flags taken from the orders), a
  dropped Reverse flag, `equalNull = true`, the receiver's index sorted in place, the sort of a second copy, `Apply2` with
  receiver and argument swapped, the index `[:0]`, the source column overwritten, the error of `ecolumn.New` passed on bare,
  the query arguments dropped. Each is a different term; each but `equalNull = true` (`sortEqualNull`) and the flags taken
  from the orders (`comparablesOrderFlags`) is also run on a concrete input.
-/
set_option linter.unusedSimpArgs false
namespace QF.Props.C03SortGlueGen
open QF QF.SG
open QF.GG (Frame)

theorem frame_eta (F : Frame) (b : Bool) (h : F.err = b) : ({ cols := F.cols, index := F.index, err := b } : Frame) = F := by
  cases F; simp_all

/-! ## Canonical terms -/

/-- `s, ok := qf.columnsByName[o.Column]; if !ok { return qf.withErr(…) }; comparables = append(comparables, s.Comparable(o.Reverse, false, o.NullLast))` -/
def canonSortBody : List SB := [.lookup .ordCol, .ifMissing .recvWithErr, .appendCmp .ordReverse (.lit false) .ordNullLast]

def canonSort : SO :=
  .ifRecvErr .recv
    (.ifNoOrders .recv
      (.makeCmps
        (.forOrders canonSortBody
          (.withIndex .recvIndexCopy
            (.newSorter .newIndex
              (.sort (.ret .newFrame)))))))

def canonSorterNew : SN := .lit .ixParam .colsParam

/-- `result = append(result, qf.columnsByName[orders[i].Column].Comparable(false, groupByNull, false))` -/
def canonCBody : List CB := [.append (some .ordCol) (.lit false) .param (.lit false)]
def canonComparables : CH := .forLen .columns canonCBody
def canonOrders : OH := .perColumn false false

def canonWrap : List (STy × WRes) :=
  [(.ints, .newOf .int), (.floats, .newOf .float), (.bools, .newOf .bool), (.strs, .newOf .string), (.column, .itself)]

def canonApply1 : AP :=
  .ifRecvErr .recv
    (.lookup .a .src1
      (.ifMissing .a .recvWithErr
        (.apply1 .a .recvIndex
          (.ifErr .recvWithErr
            (.wrap canonWrap .recvWithErr
              (.retSet .dst .wrapped))))))

def canonApply2 : AP :=
  .ifRecvErr .recv
    (.lookup .a .src1
      (.ifMissing .a .recvWithErr
        (.lookup .b .src2
          (.ifMissing .b .recvWithErr
            (.apply2 .a .b .recvIndex
              (.ifErr .recvWithErr
                (.retSet .dst .result)))))))

def newColumnsMsg : EMsg := [.lit "New columns ", .arg "%s" .name]

def canonCreateColumnErrs : List (ESite × EV) := [
  (.negativeCount, .new "createColumn" [.lit "negative count ", .arg "%d" .count, .lit " for constant column \"", .arg "%s" .name, .lit "\""]),
  (.enumCells, .propagate newColumnsMsg),
  (.enumConst, .propagate newColumnsMsg),
  (.unknownType, .new "createColumn" [.lit "unknown column data type \"", .arg "%s" .typeOfData, .lit "\" for column \"", .arg "%s" .name, .lit "\""])]

def canonReadSqlArgs : RS :=
  .newConfig (.prepare (.ifErr .callErr (.deferClose (.query true (.ifErr .callErr (.readSql (.ifErr .callErr (.retNew true))))))))

theorem gen_sortglue_canon :
    Gen.sortAst = canonSort ∧ Gen.sorterNewAst = canonSorterNew ∧ Gen.comparablesAst = canonComparables ∧
    Gen.ordersAst = canonOrders ∧ Gen.apply1GlueAst = canonApply1 ∧ Gen.apply2GlueAst = canonApply2 ∧
    Gen.createColumnErrs = canonCreateColumnErrs ∧ Gen.readSqlArgsAst = canonReadSqlArgs :=
  ⟨rfl, rfl, rfl, rfl, rfl, rfl, rfl, rfl⟩

theorem gen_sortglue_no_opaque :
    Gen.sortAst.hasOpaque = false ∧ Gen.sorterNewAst.hasOpaque = false ∧ Gen.comparablesAst.hasOpaque = false ∧
    Gen.ordersAst.hasOpaque = false ∧ Gen.apply1GlueAst.hasOpaque = false ∧ Gen.apply2GlueAst.hasOpaque = false ∧
    (∀ e ∈ Gen.createColumnErrs, e.1.isOther = false ∧ e.2.hasOpaque = false) ∧ Gen.readSqlArgsAst.hasOpaque = false := by decide

/-! ## Today's functions, run -/

def genSort {κ : Type} (P : Prims κ) (F : Frame) (os : List Order) : Option (SRes κ) :=
  Gen.sortAst.run P F os { recvIx := F.index }

def genComparables {κ : Type} (comparable : LCol → Bool → Bool → Bool → κ) (F : Frame) (columns : List Bytes)
    (orders : List Order) (flag : Bool) : Option (List κ) :=
  Gen.comparablesAst.run comparable F columns orders flag

def genOrders (columns : List Bytes) : Option (List Order) := Gen.ordersAst.run columns

def genApply1 {φ : Type} (P : APrims φ) (F : Frame) (fn : φ) (dst src : Bytes) : Option Frame :=
  Gen.apply1GlueAst.run P F fn { dst := dst, src1 := src } {}

def genApply2 {φ : Type} (P : APrims φ) (F : Frame) (fn : φ) (dst src1 src2 : Bytes) : Option Frame :=
  Gen.apply2GlueAst.run P F fn { dst := dst, src1 := src1, src2 := src2 } {}

/-- the error value `createColumn` returns at the place `site` (`cause`: the error the callee returned there) -/
def genCreateColumnErr (site : ESite) (E : EEnv) (cause : Option ErrV) : Option (Option ErrV) :=
  (Gen.createColumnErrs.lookup site).bind (EV.eval E cause)

def genReadSqlArgs {α ρ δ χ : Type} (E : REnv α ρ δ χ) (args : List α) : Option RRes := Gen.readSqlArgsAst.run E args {}

/-! ## `Sort` -/

/-- the sort keys: every order with the column found under its name, in the order given; `none`: an order names a column
the frame does not have -/
def keysOf (F : Frame) : List Order → Option (List (LCol × Order))
  | [] => some []
  | o :: os =>
    match F.find? o.col, keysOf F os with
    | some c, some rest => some ((c, o) :: rest)
    | _, _ => none

/-- the comparables `Sort` builds of the keys: `<column>.Comparable(<Reverse of the order>, false, <NullLast of the order>)` -/
def cmpsOfKeys {κ : Type} (comparable : LCol → Bool → Bool → Bool → κ) (keys : List (LCol × Order)) : List κ :=
  keys.map fun k => comparable k.1 k.2.reverse false k.2.nullLast

/-- `keysOf` is the `mapM` the spec's `sortKeys` is, on the physical frame -/
theorem keysOf_eq_mapM (F : Frame) : ∀ os, keysOf F os = os.mapM (fun o => (F.find? o.col).map (·, o))
  | [] => rfl
  | o :: os => by
    rw [ListFacts.mapM_cons_opt, ← keysOf_eq_mapM F os, keysOf]
    cases F.find? o.col <;> cases keysOf F os <;> rfl

/-- The keys are the orders — one key per order, in order, duplicates kept — each paired with the column the frame has
under the order's name. -/
theorem keysOf_spec (F : Frame) : ∀ (os : List Order) (keys : List (LCol × Order)),
    keysOf F os = some keys ↔ (keys.map (·.2) = os ∧ ∀ k ∈ keys, F.find? k.2.col = some k.1) := by
  intro os keys
  rw [keysOf_eq_mapM, ListFacts.mapM_eq_some_iff]
  induction os generalizing keys with
  | nil => cases keys <;> simp
  | cons o os ih =>
    cases keys with
    | nil => simp
    | cons k ks =>
      obtain ⟨c, o'⟩ := k
      simp only [List.map_cons, List.cons.injEq, ih ks, Option.map_eq_some_iff, Prod.mk.injEq, List.mem_cons, forall_eq_or_imp]
      constructor
      · rintro ⟨⟨c', hc, rfl, rfl⟩, h1, h2⟩
        exact ⟨⟨rfl, h1⟩, hc, h2⟩
      · rintro ⟨⟨rfl, h1⟩, hc, h2⟩
        exact ⟨⟨c, hc, rfl, rfl⟩, h1, h2⟩

theorem keysOf_length {F : Frame} {os : List Order} {keys : List (LCol × Order)} (h : keysOf F os = some keys) :
    keys.length = os.length :=
  ListFacts.mapM_length (keysOf_eq_mapM F os ▸ h)

/-- there are keys exactly when every order names a column of the frame -/
theorem keysOf_eq_none_iff (F : Frame) (os : List Order) : keysOf F os = none ↔ ∃ o ∈ os, F.find? o.col = none := by
  rw [keysOf_eq_mapM, ListFacts.mapM_eq_none_iff]
  simp only [Option.map_eq_none_iff]

/-- what `Sort` returns, in closed form -/
def specSort {κ : Type} (P : Prims κ) (F : Frame) (os : List Order) : Option (SRes κ) :=
  if F.err then some { frame := F, recvIndex := F.index, call := none }
  else if os.isEmpty then some { frame := F, recvIndex := F.index, call := none }
  else
    match keysOf F os with
    | none => some { frame := { F with err := true }, recvIndex := F.index, call := none }
    | some keys =>
      match P.sort F.index (cmpsOfKeys P.comparable keys) with
      | some sorted => some { frame := { F with index := sorted }, recvIndex := F.index, call := some (F.index, cmpsOfKeys P.comparable keys) }
      | none => none

theorem canon_orders {κ : Type} (P : Prims κ) (F : Frame) : ∀ (os : List Order) (cs : List κ),
    runOrders P F canonSortBody os cs =
      match keysOf F os with
      | some keys => .next none (cs ++ cmpsOfKeys P.comparable keys)
      | none => .ret .recvWithErr
  | [], cs => by simp [runOrders, keysOf, cmpsOfKeys]
  | o :: os, cs => by
    simp only [runOrders, keysOf]
    cases hf : F.find? o.col with
    | none => simp [canonSortBody, runSBody, SB.run, NSrc.eval, hf]
    | some c =>
      have ih := canon_orders P F os (cs ++ [P.comparable c o.reverse false o.nullLast])
      simp only [canonSortBody, runSBody, SB.run, NSrc.eval, BSrc.eval, Option.map_some, hf]
      rw [show ([SB.lookup NSrc.ordCol, SB.ifMissing Out.recvWithErr, SB.appendCmp BSrc.ordReverse (BSrc.lit false) BSrc.ordNullLast] : List SB) = canonSortBody from rfl, ih]
      cases keysOf F os with
      | none => rfl
      | some rest => simp [cmpsOfKeys]

theorem canon_sort_run {κ : Type} (P : Prims κ) (F : Frame) (os : List Order) :
    canonSort.run P F os { recvIx := F.index } = specSort P F os := by
  unfold specSort
  cases he : F.err
  · cases hemp : os.isEmpty
    · simp only [canonSort, SO.run, he, hemp, Bool.false_eq_true, if_false, canon_orders, List.nil_append]
      cases keysOf F os with
      | none => simp [Out.eval]
      | some keys =>
        simp only [ISrc.eval, Option.map_some, IxRef.get]
        cases P.sort F.index (cmpsOfKeys P.comparable keys) with
        | none => rfl
        | some sorted => simp [Out.eval, IxRef.get, he]
    · simp [canonSort, SO.run, he, hemp, Out.eval, frame_eta F false he]
  · simp [canonSort, SO.run, he, Out.eval, frame_eta F true he]

/-- **`QFrame.Sort` of today's source**, for every frame `F` (columns, index, error), every list of orders and every
meaning `P` of `Comparable` and `Sorter.Sort()`: the result is `specSort P F os` —
* a failed frame, or no orders: the receiver, nothing called;
* an order that names a column the frame does not have: the receiver with an error, nothing sorted;
* otherwise `Sorter.Sort()` is called once, on a COPY of the receiver's index (`Int.Copy`) and the comparables of the keys
  (`keysOf`, `cmpsOfKeys`); the result has the receiver's columns, name map and error and the sorted copy as its index; the
  receiver's own index array holds what it held (`recvIndex`).
`none` (no value) only where `Sorter.Sort()` has none. -/
theorem gen_sort_glue_semantics {κ : Type} (P : Prims κ) (F : Frame) (os : List Order) :
    genSort P F os = specSort P F os := by
  unfold genSort
  rw [gen_sortglue_canon.1]
  exact canon_sort_run P F os

/-- **The comparables of today's `Sort`.** For a frame without error and at least one order:
* every order names a known column (`keysOf F os = some keys`, where by `keysOf_spec` the keys ARE the orders, one per
  order, in order, duplicates kept, each with the column of that name): `Sorter.Sort()` is called on the rows of the index
  and exactly the comparables `<column of the i-th order>.Comparable(<Reverse of the i-th order>, false, <NullLast of the i-th
  order>)`, and what it leaves is the index of the result;
* otherwise the receiver comes back with an error and the sorter is not called. -/
theorem gen_sort_cmps_semantics {κ : Type} (P : Prims κ) (F : Frame) (os : List Order) (he : F.err = false) (hne : os ≠ []) :
    (∀ keys, keysOf F os = some keys →
      genSort P F os = (P.sort F.index (cmpsOfKeys P.comparable keys)).map fun sorted =>
        { frame := { F with index := sorted }, recvIndex := F.index, call := some (F.index, cmpsOfKeys P.comparable keys) }) ∧
    (keysOf F os = none → genSort P F os = some { frame := { F with err := true }, recvIndex := F.index, call := none }) := by
  have hemp : os.isEmpty = false := by cases os with | nil => exact absurd rfl hne | cons _ _ => rfl
  rw [gen_sort_glue_semantics]
  unfold specSort
  simp only [he, hemp, Bool.false_eq_true, if_false]
  constructor
  · intro keys hk
    rw [hk]
    simp only
    cases P.sort F.index (cmpsOfKeys P.comparable keys) <;> rfl
  · intro hk
    rw [hk]

/-- `Sort` fails exactly for an order naming an unknown column (on a frame without error), whatever the callees do. -/
theorem gen_sort_err_iff {κ : Type} (P : Prims κ) (F : Frame) (os : List Order) (he : F.err = false) :
    (∃ o ∈ os, F.find? o.col = none) ↔ ∃ r, genSort P F os = some r ∧ r.frame.err = true := by
  rw [gen_sort_glue_semantics, ← keysOf_eq_none_iff]
  unfold specSort
  cases os with
  | nil => simp [keysOf, he]
  | cons o os =>
    simp only [he, List.isEmpty_cons, Bool.false_eq_true, if_false]
    cases keysOf F (o :: os) with
    | none => simp
    | some keys => cases hs : P.sort F.index (cmpsOfKeys P.comparable keys) <;> simp [hs, he]

/-! ## The helpers `comparables` and `orders` -/

/-- the comparables of a list of orders, as the helper builds them: `Comparable(false, flag, false)` of the column found
under the order's name; `none`: a name the frame does not have (a method call on a nil `Column`) -/
def cmpsList {κ : Type} (comparable : LCol → Bool → Bool → Bool → κ) (F : Frame) (flag : Bool) : List Order → Option (List κ)
  | [] => some []
  | o :: os =>
    match F.find? o.col, cmpsList comparable F flag os with
    | some c, some rest => some (comparable c false flag false :: rest)
    | _, _ => none

section Comparables
variable {κ : Type} (comparable : LCol → Bool → Bool → Bool → κ) (F : Frame) (columns : List Bytes) (orders : List Order)

/-- one round of the loop of `comparables`: the column named by the order of the round gives one more comparable -/
theorem canon_round (s : CSt κ) (o : Option Order) (cn : Option Bytes) :
    runCBody comparable F o cn canonCBody { s with col := none } =
      (o.bind fun o => F.find? o.col).map fun c => { s with col := none, res := s.res ++ [comparable c false s.flag false] } := by
  cases o with
  | none => rfl
  | some o => cases hf : F.find? o.col <;> simp [runCBody, canonCBody, CB.run, NSrc.eval, BSrc.eval, hf]

theorem canon_rounds : ∀ (n i : Nat) (s : CSt κ), i ≤ orders.length →
    (runRounds comparable F columns orders canonCBody n i s).map (fun s' => (s'.flag, s'.res)) =
      (if i + n ≤ orders.length then cmpsList comparable F s.flag ((orders.drop i).take n) else none).map
        fun more => (s.flag, s.res ++ more)
  | 0, i, s, h => by simp [runRounds, cmpsList, h]
  | n + 1, i, s, _ => by
    simp only [runRounds, canon_round]
    by_cases hi : i < orders.length
    · have hdrop : (orders.drop i).take (n + 1) = orders[i] :: (orders.drop (i + 1)).take n := by
        rw [List.drop_eq_getElem_cons hi, List.take_succ_cons]
      have hle : (i + (n + 1) ≤ orders.length) = (i + 1 + n ≤ orders.length) := by rw [Nat.add_right_comm, Nat.add_assoc]
      simp only [List.getElem?_eq_getElem hi, hdrop, hle, Option.bind_some, cmpsList]
      cases hf : F.find? orders[i].col with
      | none => by_cases h : i + 1 + n ≤ orders.length <;> simp [h]
      | some c =>
        simp only [Option.map_some, canon_rounds n (i + 1) _ hi]
        by_cases h : i + 1 + n ≤ orders.length
        · simp only [h, if_true]
          cases cmpsList comparable F s.flag ((orders.drop (i + 1)).take n) <;> simp
        · simp [h]
    · have h : ¬ i + (n + 1) ≤ orders.length := by omega
      simp [List.getElem?_eq_none (Nat.le_of_not_lt hi), h]

/-- **The helper `comparables` of today's source** (`GroupBy` and `Distinct` build their key comparables with it), for every
frame, column list, order list, flag and meaning of `Comparable`: one comparable per element of `columns`, made of the
first `len(columns)` ORDERS in order — `<the column named by the order>.Comparable(false, flag, false)`, the SAME flag for
every column, whatever the types of the columns in front —; a run-time panic (`none`) when there are fewer orders than
columns or an order names a column the frame does not have. -/
theorem gen_comparables_semantics (flag : Bool) :
    genComparables comparable F columns orders flag =
      if columns.length ≤ orders.length then cmpsList comparable F flag (orders.take columns.length) else none := by
  unfold genComparables
  obtain ⟨-, -, hcanon, -⟩ := gen_sortglue_canon
  rw [hcanon]
  have h := congrArg (Option.map Prod.snd) (canon_rounds comparable F columns orders columns.length 0 { flag := flag } (Nat.zero_le _))
  simpa [canonComparables, CH.run, Function.comp_def] using h

end Comparables

/-- **The helper `orders` of today's source**: one order per name, in order, Reverse and NullLast off. -/
theorem gen_orders_semantics (columns : List Bytes) :
    genOrders columns = some (columns.map fun c => { col := c, reverse := false, nullLast := false }) := by
  unfold genOrders
  obtain ⟨-, -, -, hcanon, -⟩ := gen_sortglue_canon
  rw [hcanon]
  rfl

theorem cmpsList_of_names {κ : Type} (comparable : LCol → Bool → Bool → Bool → κ) (F : Frame) (flag : Bool) (r n : Bool) :
    ∀ columns : List Bytes, cmpsList comparable F flag (columns.map fun c => { col := c, reverse := r, nullLast := n }) =
      (columns.mapM F.find?).map (List.map fun c => comparable c false flag false)
  | [] => rfl
  | c :: cs => by
    simp only [List.map_cons, cmpsList, List.mapM_cons, cmpsList_of_names comparable F flag r n cs]
    cases F.find? c with
    | none => rfl
    | some col =>
      cases cs.mapM F.find? with
      | none => rfl
      | some rest => rfl

/-- **`comparables(columns, orders(columns), flag)` as `GroupBy` / `Distinct` call it**: exactly one comparable per name of
`columns`, in the order of `columns` (a name that occurs twice gives two), each `<the column of that name>.Comparable(false,
flag, false)`; a panic for a name the frame does not have (the callers check the names first). -/
theorem gen_comparables_of_names {κ : Type} (comparable : LCol → Bool → Bool → Bool → κ) (F : Frame) (columns : List Bytes)
    (flag : Bool) :
    ∃ os, genOrders columns = some os ∧
      genComparables comparable F columns os flag =
        (columns.mapM F.find?).map (List.map fun c => comparable c false flag false) := by
  refine ⟨_, gen_orders_semantics columns, ?_⟩
  rw [gen_comparables_semantics]
  simp only [List.length_map, Nat.le_refl, if_true]
  rw [List.take_of_length_le (by simp)]
  exact cmpsList_of_names comparable F flag false false columns

/-- … and these are the comparables `C04GlueGen.gen_groupby_semantics` / `gen_distinct_cmps_semantics` say `GroupBy` and
`Distinct` hand to the grouper (there the two helpers are inlined into the callers' terms): for a configuration whose
columns the frame has (`keys` the columns found), the helper of today's source returns `Comparable(false, <Null flag>, false)`
of every key, in order. -/
theorem gen_comparables_groupby {κ : Type} (comparable : LCol → Bool → Bool → Bool → κ) (F : Frame) (C : GG.Cfg) (keys : List LCol)
    (hk : C.columns.mapM F.find? = some keys) :
    ∃ os, genOrders C.columns = some os ∧
      genComparables comparable F C.columns os C.gbNull = some (keys.map fun c => comparable c false C.gbNull false) := by
  obtain ⟨os, h1, h2⟩ := gen_comparables_of_names comparable F C.columns C.gbNull
  exact ⟨os, h1, by rw [h2, hk]; rfl⟩

/-! ## `apply1` / `apply2` -/

section Apply
variable {φ : Type} (P : APrims φ) (F : Frame) (fn : φ)

/-- the column `apply1` makes of what `Apply1` returned; `none`: a value of an unexpected type (an error) -/
def wrapSpec (v : AVal) : Option LCol :=
  match v with
  | .ints _ => some (P.newCol .int v)
  | .floats _ => some (P.newCol .float v)
  | .bools _ => some (P.newCol .bool v)
  | .strs _ => some (P.newCol .string v)
  | .col c => some c
  | .other => none

/-- what `apply1` returns, in closed form -/
def specApply1 (dst src : Bytes) : Frame :=
  if F.err then F
  else
    match F.find? src with
    | none => { F with err := true }
    | some c =>
      match P.apply1 c fn F.index with
      | none => { F with err := true }
      | some v =>
        match wrapSpec P v with
        | none => { F with err := true }
        | some r => P.setColumn F dst r

/-- what `apply2` returns, in closed form -/
def specApply2 (dst src1 src2 : Bytes) : Frame :=
  if F.err then F
  else
    match F.find? src1 with
    | none => { F with err := true }
    | some c1 =>
      match F.find? src2 with
      | none => { F with err := true }
      | some c2 =>
        match P.apply2 c1 fn c2 F.index with
        | none => { F with err := true }
        | some r => P.setColumn F dst r

omit P F fn in
theorem canonWrap_lookup :
    List.lookup STy.ints canonWrap = some (.newOf .int) ∧ List.lookup STy.floats canonWrap = some (.newOf .float) ∧
    List.lookup STy.bools canonWrap = some (.newOf .bool) ∧ List.lookup STy.strs canonWrap = some (.newOf .string) ∧
    List.lookup STy.column canonWrap = some .itself := ⟨rfl, rfl, rfl, rfl, rfl⟩

theorem canon_apply1_run (dst src : Bytes) :
    canonApply1.run P F fn { dst := dst, src1 := src } {} = some (specApply1 P F fn dst src) := by
  unfold specApply1
  cases he : F.err
  · simp only [canonApply1, AP.run, he, Bool.false_eq_true, if_false, AName.eval, ASt.slot, if_true]
    cases hf : F.find? src with
    | none => simp [AOut.eval]
    | some c =>
      simp only [AIx.eval]
      cases ha : P.apply1 c fn F.index with
      | none => simp [AP.run, AOut.eval]
      | some v =>
        obtain ⟨l1, l2, l3, l4, l5⟩ := canonWrap_lookup
        cases v <;> simp [AP.run, AVal.sty, l1, l2, l3, l4, l5, WRes.eval, wrapSpec, AOut.eval, AName.eval]
  · simp [canonApply1, AP.run, he, AOut.eval]

theorem canon_apply2_run (dst src1 src2 : Bytes) :
    canonApply2.run P F fn { dst := dst, src1 := src1, src2 := src2 } {} = some (specApply2 P F fn dst src1 src2) := by
  unfold specApply2
  cases he : F.err
  · simp only [canonApply2, AP.run, he, Bool.false_eq_true, if_false, AName.eval, ASt.slot, if_true]
    cases hf : F.find? src1 with
    | none => simp [AOut.eval]
    | some c1 =>
      simp only [AP.run, ASt.slot, if_true]
      cases hf2 : F.find? src2 with
      | none => simp [AOut.eval]
      | some c2 =>
        simp only [AIx.eval, AP.run, ASt.slot]
        cases ha : P.apply2 c1 fn c2 F.index with
        | none => simp [AP.run, AOut.eval]
        | some r => simp [AP.run, AName.eval]
  · simp [canonApply2, AP.run, he, AOut.eval]

/-- **`apply1` and `apply2` of today's source**, for every frame, function argument, names and every meaning of
`Column.Apply1` / `Apply2`, the column constructors and `setColumn`:
* `apply1(fn, dst, src)` is `specApply1`: a failed receiver comes back as it is; an unknown `src` gives the receiver with an
  error; otherwise the column found under `src` — that one, not another — receives `Apply1(fn, <the receiver's index>)` (the
  whole index); an error of it gives the receiver with an error; a `[]int`, `[]float64`, `[]bool`, `[]*string` becomes the
  column of that type, a `column.Column` stays what it is, any other value gives the receiver with an error; and the
  result is `setColumn(dst, <that column>)` — the DESTINATION name;
* `apply2(fn, dst, src1, src2)` is `specApply2`: unknown `src1` or `src2` gives the receiver with an error; otherwise the
  column under `src1` receives `Apply2(fn, <the column under src2>, <the receiver's index>)` — receiver and argument in
  that order —, an error of it gives the receiver with an error, and the result is `setColumn(dst, <the column returned>)`. -/
theorem gen_apply12_semantics (dst src1 src2 : Bytes) :
    genApply1 P F fn dst src1 = some (specApply1 P F fn dst src1) ∧
    genApply2 P F fn dst src1 src2 = some (specApply2 P F fn dst src1 src2) := by
  unfold genApply1 genApply2
  obtain ⟨-, -, -, -, hcanon1, hcanon2, -⟩ := gen_sortglue_canon
  rw [hcanon1, hcanon2]
  exact ⟨canon_apply1_run P F fn dst src1, canon_apply2_run P F fn dst src1 src2⟩

end Apply

/-! ## The error returns of `createColumn` (C08) -/

theorem canonErrs_lookup :
    List.lookup ESite.enumCells canonCreateColumnErrs = some (.propagate newColumnsMsg) ∧
    List.lookup ESite.enumConst canonCreateColumnErrs = some (.propagate newColumnsMsg) ∧
    List.lookup ESite.negativeCount canonCreateColumnErrs =
      some (.new "createColumn" [.lit "negative count ", .arg "%d" .count, .lit " for constant column \"", .arg "%s" .name, .lit "\""]) ∧
    List.lookup ESite.unknownType canonCreateColumnErrs =
      some (.new "createColumn" [.lit "unknown column data type \"", .arg "%s" .typeOfData, .lit "\" for column \"", .arg "%s" .name, .lit "\""]) :=
  ⟨rfl, rfl, rfl, rfl⟩

/-- **The errors of today's `createColumn`**, for every column name `name`, count `count`, type text `ty` and every error
`cause` the enum constructor returned:
* `ecolumn.New` / `ecolumn.NewConst` failed: `qerrors.Propagate("New columns " + name, cause)` — an `Error` whose operation
  names the column and whose source IS the constructor's error (its text: `New columns <name> (<text of the cause>)`);
* a constant column with a negative count: `qerrors.New("createColumn", "negative count <count> for constant column "<name>"")`;
* data of a type that is not supported: `qerrors.New("createColumn", "unknown column data type "<ty>" for column "<name>"")`.
None of the four is `nil`. -/
theorem gen_createcolumn_errors (name ty : String) (count : Int) (cause : ErrV) :
    let E : EEnv := { name := name, count := count, typeName := ty }
    genCreateColumnErr .enumCells E (some cause) = some (some (.qerr ("New columns " ++ name) "" (some cause))) ∧
    genCreateColumnErr .enumConst E (some cause) = some (some (.qerr ("New columns " ++ name) "" (some cause))) ∧
    genCreateColumnErr .negativeCount E none =
      some (some (.qerr "createColumn" ("negative count " ++ (toString count ++ (" for constant column \"" ++ (name ++ "\"")))) none)) ∧
    genCreateColumnErr .unknownType E none =
      some (some (.qerr "createColumn" ("unknown column data type \"" ++ (ty ++ ("\" for column \"" ++ (name ++ "\"")))) none)) ∧
    (ErrV.qerr ("New columns " ++ name) "" (some cause)).text = "New columns " ++ name ++ " (" ++ cause.text ++ ")" := by
  intro E
  unfold genCreateColumnErr
  obtain ⟨-, -, -, -, -, -, hcanon, -⟩ := gen_sortglue_canon
  rw [hcanon]
  obtain ⟨l1, l2, l3, l4⟩ := canonErrs_lookup
  refine ⟨?_, ?_, ?_, ?_, ?_⟩
  · simp [l1, EV.eval, newColumnsMsg, EMsg.eval, EPiece.eval, EArg.eval, E]
  · simp [l2, EV.eval, newColumnsMsg, EMsg.eval, EPiece.eval, EArg.eval, E]
  · simp [l3, EV.eval, EMsg.eval, EPiece.eval, EArg.eval, E]
  · simp [l4, EV.eval, EMsg.eval, EPiece.eval, EArg.eval, E]
  · simp [ErrV.text]

/-! ## `ReadSQLWithArgs` (C15) -/

section ReadSql
variable {α ρ δ χ : Type} (E : REnv α ρ δ χ) (args : List α)

/-- the frame literal `QFrame{Err: err}` -/
def errFrame : Frame := { cols := [], index := [], err := true }

/-- what `ReadSQLWithArgs` does, in closed form -/
def specReadSqlArgs : RRes :=
  let t := E.queryText E.cfg
  if E.prepare t then
    match E.query t args with
    | none => { frame := errFrame, prepared := some t, closed := true }
    | some rows =>
      match E.readSql rows E.cfg with
      | none => { frame := errFrame, prepared := some t, closed := true }
      | some (d, cols) => { frame := E.new d (some cols), prepared := some t, closed := true }
  else { frame := errFrame, prepared := some t, closed := false }

theorem canon_readsqlargs_run : canonReadSqlArgs.run E args {} = some (specReadSqlArgs E args) := by
  unfold specReadSqlArgs
  simp only [canonReadSqlArgs, RS.run, if_true]
  cases hp : E.prepare (E.queryText E.cfg)
  · simp [RS.run, RSt.res, errFrame]
  · simp only [if_true, RS.run]
    cases hq : E.query (E.queryText E.cfg) args with
    | none => simp [RS.run, RSt.res, errFrame]
    | some rows =>
      simp only [RS.run, if_true]
      cases hr : E.readSql rows E.cfg with
      | none => simp [RS.run, RSt.res, errFrame]
      | some d => obtain ⟨d, cols⟩ := d; simp [RS.run, RSt.res]

/-- **`ReadSQLWithArgs` of today's source**, for every configuration, every behaviour of the database (`Prepare`, `Query`),
of `qfsqlio.ReadSQL` and of `New`: the text prepared is `conf.Query`; a failing `Prepare` gives `QFrame{Err: err}` and no
statement to close; otherwise the statement is closed when the function returns, `stmt.Query` gets ALL of `queryArgs`, its
failure and the failure of `ReadSQL(rows, SQLConfig(conf))` each give `QFrame{Err: err}`, and else the result is
`New(data, ColumnOrder(columns...))` — the data with the column order `ReadSQL` reported. -/
theorem gen_readsqlargs_semantics : genReadSqlArgs E args = some (specReadSqlArgs E args) := by
  unfold genReadSqlArgs
  obtain ⟨-, -, -, -, -, -, -, hcanon⟩ := gen_sortglue_canon
  rw [hcanon]
  exact canon_readsqlargs_run E args

/-- (C15) every failure is reported: the frame carries an error whenever `Prepare`, `Query` or `ReadSQL` failed -/
theorem gen_readsqlargs_faults (h : E.prepare (E.queryText E.cfg) = false ∨ E.query (E.queryText E.cfg) args = none ∨
      ∃ rows, E.query (E.queryText E.cfg) args = some rows ∧ E.readSql rows E.cfg = none) :
    ∃ r, genReadSqlArgs E args = some r ∧ r.frame.err = true := by
  refine ⟨_, gen_readsqlargs_semantics E args, ?_⟩
  unfold specReadSqlArgs
  cases hp : E.prepare (E.queryText E.cfg)
  · simp [errFrame, hp]
  · rcases h with h | h | ⟨rows, h1, h2⟩
    · rw [hp] at h; cases h
    · simp [h, errFrame, hp]
    · simp [h1, h2, errFrame, hp]

end ReadSql

/-! ## Witnesses: concrete inputs meet the hypotheses, plausible mutations are different terms and (where run) violate the statements -/

section Witnesses

/-- callees for the samples: a comparable remembers its column and flags, the sorter reverses the rows -/
def wP : Prims (Bytes × Bool × Bool × Bool) :=
  { comparable := fun c r e n => (c.name, r, e, n), sort := fun ix _ => some ix.reverse }

/-- a frame of an int column `a` and a string column `b` whose index is `[5, 2, 7]` -/
def wF : Frame :=
  { cols := [{ name := [97], ty := .int, cells := #[] }, { name := [98], ty := .string, cells := #[] }], index := [5, 2, 7] }

/-- orders `a` reversed, `b` nulls last, `a` again -/
def wOs : List Order := [⟨[97], true, false⟩, ⟨[98], false, true⟩, ⟨[97], false, false⟩]

/-- the hypotheses of `gen_sort_cmps_semantics` on the sample: no error, three orders, all columns known -/
example : wF.err = false ∧ wOs ≠ [] ∧ (keysOf wF wOs).map (fun ks => ks.map fun k => (k.1.name, k.2.reverse, k.2.nullLast)) =
    some [([97], true, false), ([98], false, true), ([97], false, false)] := by decide

/-- today's term on the sample: three comparables (the repeated column kept), the flags of each order, `equalNull = false`;
the copy is sorted, the receiver's index untouched -/
example : (canonSort.run wP wF wOs { recvIx := wF.index }).map (fun r => (r.frame.index, r.recvIndex)) = some ([7, 2, 5], [5, 2, 7]) ∧
    (canonSort.run wP wF wOs { recvIx := wF.index }).map (fun r => r.call.map (·.1)) = some (some [5, 2, 7]) ∧
    (canonSort.run wP wF wOs { recvIx := wF.index }).map (fun r => r.call.map (·.2)) =
      some (some [([97], true, false, false), ([98], false, false, true), ([97], false, false, false)]) := ⟨rfl, rfl, rfl⟩

/-- an unknown column: the receiver with an error, nothing sorted -/
example : (canonSort.run wP wF [⟨[97], false, false⟩, ⟨[120], false, false⟩] { recvIx := wF.index }).map
    (fun r => (r.frame.index, r.frame.err, r.call.isSome)) = some ([5, 2, 7], true, false) := rfl

def sortWith (body : List SB) (ixCopy sorterIx : ISrc) : SO :=
  .ifRecvErr .recv (.ifNoOrders .recv (.makeCmps (.forOrders body (.withIndex ixCopy (.newSorter sorterIx (.sort (.ret .newFrame)))))))

/-- `s.Comparable(false, false, o.NullLast)`: the Reverse flag dropped -/
def sortNoReverse : SO := sortWith [.lookup .ordCol, .ifMissing .recvWithErr, .appendCmp (.lit false) (.lit false) .ordNullLast] .recvIndexCopy .newIndex
example : sortNoReverse ≠ canonSort := by decide
example : (sortNoReverse.run wP wF wOs { recvIx := wF.index }).map (fun r => r.call.map (·.2)) =
    some (some [([97], false, false, false), ([98], false, false, true), ([97], false, false, false)]) := rfl

/-- `s.Comparable(o.Reverse, true, o.NullLast)` -/
def sortEqualNull : SO := sortWith [.lookup .ordCol, .ifMissing .recvWithErr, .appendCmp .ordReverse (.lit true) .ordNullLast] .recvIndexCopy .newIndex
example : sortEqualNull ≠ canonSort := by decide

/-- `qf.withIndex(qf.index)`: no copy — the RECEIVER's index array is sorted -/
def sortInPlace : SO := sortWith canonSortBody .recvIndex .newIndex
example : sortInPlace ≠ canonSort := by decide
example : (sortInPlace.run wP wF wOs { recvIx := wF.index }).map (fun r => (r.frame.index, r.recvIndex)) = some ([7, 2, 5], [7, 2, 5]) := rfl

/-- `qfsort.New(qf.index, comparables)`: the receiver's array is sorted, the new frame keeps the unsorted copy -/
def sortWrongArray : SO := sortWith canonSortBody .recvIndexCopy .recvIndex
example : sortWrongArray ≠ canonSort := by decide
example : (sortWrongArray.run wP wF wOs { recvIx := wF.index }).map (fun r => (r.frame.index, r.recvIndex)) = some ([5, 2, 7], [7, 2, 5]) := rfl

/-- the comparable not appended: the sorter gets no comparables -/
def sortNoAppend : SO := sortWith [.lookup .ordCol, .ifMissing .recvWithErr] .recvIndexCopy .newIndex
example : sortNoAppend ≠ canonSort := by decide
example : (sortNoAppend.run wP wF wOs { recvIx := wF.index }).map (fun r => r.call.map (·.2)) = some (some []) := rfl

/-! ### `comparables` -/

def wCmp : LCol → Bool → Bool → Bool → Bytes × Bool × Bool × Bool := fun c r e n => (c.name, r, e, n)

/-- today's helper, `Null(true)`: both key columns tell nulls apart -/
example : canonComparables.run wCmp wF [[97], [98]] [⟨[97], false, false⟩, ⟨[98], false, false⟩] true =
    some [([97], false, true, false), ([98], false, true, false)] := rfl

/-- the mutant "the Null flag is lost after a column that cannot hold null":
`col := …; if dt := col.DataType(); dt == types.Int || dt == types.Bool { groupByNull = false }; result = append(result, col.Comparable(false, groupByNull, false))` -/
def comparablesFlagLost : CH :=
  .forLen .columns [.bindCol .ordCol, .setParamIfType [.int, .bool] false, .append none (.lit false) .param (.lit false)]
example : comparablesFlagLost ≠ canonComparables := by decide
/-- … the string column `b` after the int column `a` is compared with `equalNull = false` although `Null(true)` was asked for -/
example : comparablesFlagLost.run wCmp wF [[97], [98]] [⟨[97], false, false⟩, ⟨[98], false, false⟩] true =
    some [([97], false, false, false), ([98], false, false, false)] := rfl

/-- the mutant "flags of the orders": `Comparable(o.Reverse, groupByNull, o.NullLast)` for `o := orders[i]` -/
def comparablesOrderFlags : CH := .forLen .columns [.append (some .ordCol) .ordReverse .param .ordNullLast]
example : comparablesOrderFlags ≠ canonComparables := by decide

/-- the other half of that mutant — keys read POSITIONALLY after de-duplication — is a misuse of the helper that the
statement makes visible: the helper reads the first `len(columns)` ORDERS, so with `columns = [a, b]` (duplicates removed)
and the orders `[a, a, b]` it compares `a` twice and `b` not at all. -/
example : canonComparables.run wCmp wF [[97], [98]] [⟨[97], true, false⟩, ⟨[97], false, false⟩, ⟨[98], false, true⟩] false =
    some [([97], false, false, false), ([97], false, false, false)] := rfl

/-- fewer orders than columns: `orders[i]` is out of range (a panic) -/
example : canonComparables.run wCmp wF [[97], [98]] [⟨[97], false, false⟩] false = none := rfl

/-! ### `apply1` / `apply2` -/

/-- callees that record what they are called with in the name of the column they return -/
def wA : APrims Unit :=
  { apply1 := fun c _ ix => some (.col { c with name := c.name ++ [49] ++ ix.map (fun n => UInt8.ofNat n) }),
    apply2 := fun c _ c2 ix => some { c with name := c.name ++ [50] ++ c2.name ++ ix.map (fun n => UInt8.ofNat n) },
    newCol := fun t _ => { name := [], ty := t, cells := #[] },
    setColumn := fun F dst c => { F with cols := F.cols ++ [{ c with name := dst ++ [61] ++ c.name }] } }

def lastName (f : Option Frame) : Option Bytes := f.bind fun f => f.cols.getLast?.map (·.name)

/-- today's `apply2("d", "a", "b")`: `d = a.Apply2(fn, b, [5, 2, 7])` -/
example : lastName (canonApply2.run wA wF () { dst := [100], src1 := [97], src2 := [98] } {}) = some [100, 61, 97, 50, 98, 5, 2, 7] := rfl
/-- today's `apply1("d", "b")`: `d = b.Apply1(fn, [5, 2, 7])` -/
example : lastName (canonApply1.run wA wF () { dst := [100], src1 := [98] } {}) = some [100, 61, 98, 49, 5, 2, 7] := rfl

/-- `srcColumn2.Apply2(fn, srcColumn1, qf.index)`: receiver and argument swapped -/
def apply2Swapped : AP :=
  .ifRecvErr .recv (.lookup .a .src1 (.ifMissing .a .recvWithErr (.lookup .b .src2 (.ifMissing .b .recvWithErr
    (.apply2 .b .a .recvIndex (.ifErr .recvWithErr (.retSet .dst .result)))))))
example : apply2Swapped ≠ canonApply2 := by decide
example : lastName (apply2Swapped.run wA wF () { dst := [100], src1 := [97], src2 := [98] } {}) = some [100, 61, 98, 50, 97, 5, 2, 7] := rfl

/-- `srcColumn.Apply1(fn, qf.index[:0])`: no row is computed -/
def apply1EmptyIndex : AP :=
  .ifRecvErr .recv (.lookup .a .src1 (.ifMissing .a .recvWithErr (.apply1 .a .empty (.ifErr .recvWithErr
    (.wrap canonWrap .recvWithErr (.retSet .dst .wrapped))))))
example : apply1EmptyIndex ≠ canonApply1 := by decide
example : lastName (apply1EmptyIndex.run wA wF () { dst := [100], src1 := [98] } {}) = some [100, 61, 98, 49] := rfl

/-- `qf.setColumn(srcCol1, resultColumn)`: the source column is overwritten -/
def apply2SetsSource : AP :=
  .ifRecvErr .recv (.lookup .a .src1 (.ifMissing .a .recvWithErr (.lookup .b .src2 (.ifMissing .b .recvWithErr
    (.apply2 .a .b .recvIndex (.ifErr .recvWithErr (.retSet .src1 .result)))))))
example : apply2SetsSource ≠ canonApply2 := by decide
example : lastName (apply2SetsSource.run wA wF () { dst := [100], src1 := [97], src2 := [98] } {}) = some [97, 61, 97, 50, 98, 5, 2, 7] := rfl

/-- an unknown source column: the receiver with an error, nothing set -/
example : (canonApply1.run wA wF () { dst := [100], src1 := [120] } {}).map (fun f => (f.err, f.cols.length)) = some (true, 2) := rfl

/-! ### `createColumn`, `ReadSQLWithArgs` -/

/-- `return nil, err`: the error of `ecolumn.New` passed on without the column's name -/
def errsBare : List (ESite × EV) := canonCreateColumnErrs.map fun e => if e.1 = .enumCells then (e.1, .bare) else e
example : errsBare ≠ canonCreateColumnErrs := by decide
example : ((errsBare.lookup .enumCells).bind (EV.eval { name := "kind" } (some (.ext "too many values")))).map (·.map ErrV.text) =
    some (some "too many values") := rfl
example : ((canonCreateColumnErrs.lookup .enumCells).bind (EV.eval { name := "kind" } (some (.ext "too many values")))).map (·.map ErrV.text) =
    some (some "New columns kind (too many values)") := rfl

/-- a scripted database: the statement `"q"` with the arguments `[1, 2]` has rows, `ReadSQL` reports the columns `b`, `a` -/
def wE : REnv Nat Nat Nat Unit :=
  { cfg := (), queryText := fun _ => [113], prepare := fun t => t == [113],
    query := fun _ as => if as = [1, 2] then some 7 else none,
    readSql := fun r _ => if r = 7 then some (3, [[98], [97]]) else none,
    new := fun _ order => { cols := (order.getD []).map fun n => { name := n, ty := .int, cells := #[] }, index := [] } }

/-- today's term: the arguments reach `Query`, the column order reaches `New`, the statement is closed -/
example : (canonReadSqlArgs.run wE [1, 2] {}).map (fun r => (r.frame.cols.map (·.name), r.frame.err, r.closed)) =
    some ([[98], [97]], false, true) := rfl

/-- `stmt.Query(queryArgs[:0]...)`: the arguments dropped — the query fails -/
def readSqlNoArgs : RS :=
  .newConfig (.prepare (.ifErr .callErr (.deferClose (.query false (.ifErr .callErr (.readSql (.ifErr .callErr (.retNew true))))))))
example : readSqlNoArgs ≠ canonReadSqlArgs := by decide
example : (readSqlNoArgs.run wE [1, 2] {}).map (fun r => r.frame.err) = some true := rfl

/-- `return QFrame{}` for a failing `Query`: the error swallowed -/
def readSqlSwallow : RS :=
  .newConfig (.prepare (.ifErr .callErr (.deferClose (.query true (.ifErr .none (.readSql (.ifErr .callErr (.retNew true))))))))
example : readSqlSwallow ≠ canonReadSqlArgs := by decide
example : (readSqlSwallow.run wE [9] {}).map (fun r => r.frame.err) = some false ∧
    (canonReadSqlArgs.run wE [9] {}).map (fun r => r.frame.err) = some true := ⟨rfl, rfl⟩

/-- `New(data)`: the column order dropped -/
def readSqlNoOrder : RS :=
  .newConfig (.prepare (.ifErr .callErr (.deferClose (.query true (.ifErr .callErr (.readSql (.ifErr .callErr (.retNew false))))))))
example : readSqlNoOrder ≠ canonReadSqlArgs := by decide
example : (readSqlNoOrder.run wE [1, 2] {}).map (fun r => r.frame.cols.map (·.name)) = some [] := rfl

/-- the statement not closed -/
def readSqlNoClose : RS :=
  .newConfig (.prepare (.ifErr .callErr (.query true (.ifErr .callErr (.readSql (.ifErr .callErr (.retNew true)))))))
example : readSqlNoClose ≠ canonReadSqlArgs := by decide
example : (readSqlNoClose.run wE [1, 2] {}).map (·.closed) = some false := rfl

end Witnesses

end QF.Props.C03SortGlueGen

#print axioms QF.Props.C03SortGlueGen.gen_sortglue_canon
#print axioms QF.Props.C03SortGlueGen.gen_sortglue_no_opaque
#print axioms QF.Props.C03SortGlueGen.keysOf_spec
#print axioms QF.Props.C03SortGlueGen.gen_sort_glue_semantics
#print axioms QF.Props.C03SortGlueGen.gen_sort_cmps_semantics
#print axioms QF.Props.C03SortGlueGen.gen_sort_err_iff
#print axioms QF.Props.C03SortGlueGen.gen_comparables_semantics
#print axioms QF.Props.C03SortGlueGen.gen_orders_semantics
#print axioms QF.Props.C03SortGlueGen.gen_comparables_of_names
#print axioms QF.Props.C03SortGlueGen.gen_comparables_groupby
#print axioms QF.Props.C03SortGlueGen.gen_apply12_semantics
#print axioms QF.Props.C03SortGlueGen.gen_createcolumn_errors
#print axioms QF.Props.C03SortGlueGen.gen_readsqlargs_semantics
#print axioms QF.Props.C03SortGlueGen.gen_readsqlargs_faults
