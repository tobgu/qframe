import QF.Props.C16Round
import QF.Props.C16CoreFlags
/-!
# C16 — link (first part): "in the rounding interval" ⇔ "parses back to the float"

`InInterval b m e`: the decimal `m·10^e` lies between the two midpoints `mm·2^e2`, `mp·2^e2` that Ryu's step 2 computes for
the float with bits `b` (`C16Core.interval_lower`, `interval_upper`: these are the midpoints to `Num.decode`'s neighbours
`b − 1`, `b + 1`), the ends included iff the significand is even (`acceptBoundsOf`).

`interval_iff_roundtrip`: for a finite, non-zero, positive float this is the same as `Num.ofDecimal false m e = b`, i.e. (by
`C16Round.ofDecimal_eq_iff`) the same as "`b` is the IEEE nearest-even rounding of `m·10^e`"; `inInterval_iff_ofDecimal` for either sign.
-/
namespace QF.Props.C16Link
open QF.Num QF.Ryu64 QF.Props.C16Round QF.Props.C16Core

/-- `m·10^e` lies in the rounding interval `[mm·2^e2, mp·2^e2]` of the float with bits `b` (magnitude), closed iff the
significand is even. Fractions are compared by cross multiplication: `10^e = decNum · / decDen e`, `2^e2 = P e2 / Q e2`. -/
def InInterval (b : UInt64) (m : Nat) (e : Int) : Prop :=
  if acceptBoundsOf (mantOf b) (expOf b) = true then
    mmOf (decodeM2 (mantOf b) (expOf b)) (mmShiftOf (mantOf b) (expOf b)) * (decDen e * P (decodeE2 (expOf b)))
        ≤ decNum m e * Q (decodeE2 (expOf b)) ∧
    decNum m e * Q (decodeE2 (expOf b))
        ≤ mpOf (decodeM2 (mantOf b) (expOf b)) * (decDen e * P (decodeE2 (expOf b)))
  else
    mmOf (decodeM2 (mantOf b) (expOf b)) (mmShiftOf (mantOf b) (expOf b)) * (decDen e * P (decodeE2 (expOf b)))
        < decNum m e * Q (decodeE2 (expOf b)) ∧
    decNum m e * Q (decodeE2 (expOf b))
        < mpOf (decodeM2 (mantOf b) (expOf b)) * (decDen e * P (decodeE2 (expOf b)))

/-- everything `Num.decode` and step 1/2 of `float64ToDecimal` say about a finite non-zero float, in one place -/
structure Fields (b : UInt64) (dy : Num.Dyadic) : Prop where
  mant_lt : mantOf b < 2 ^ 52
  exp_lt : expOf b < 2047
  nz : mantOf b ≠ 0 ∨ expOf b ≠ 0
  m2 : decodeM2 (mantOf b) (expOf b) = dy.m
  e2 : decodeE2 (expOf b) = dy.e - 2
  m_pos : 1 ≤ dy.m
  m_lt : dy.m < 2 ^ 53
  e_ge : -1074 ≤ dy.e
  e_le : dy.e ≤ 971
  normal : 2 ^ 52 ≤ dy.m ∨ dy.e = -1074
  mv : mvOf (decodeM2 (mantOf b) (expOf b)) = 4 * dy.m
  mp : mpOf (decodeM2 (mantOf b) (expOf b)) = 4 * dy.m + 2
  mm : mmOf (decodeM2 (mantOf b) (expOf b)) (mmShiftOf (mantOf b) (expOf b)) = 4 * dy.m - 1 - mmShiftOf (mantOf b) (expOf b)
  s_le : mmShiftOf (mantOf b) (expOf b) ≤ 1
  s_zero : mmShiftOf (mantOf b) (expOf b) = 0 ↔ (dy.m = 2 ^ 52 ∧ dy.e ≠ -1074)
  acc : acceptBoundsOf (mantOf b) (expOf b) = true ↔ dy.m % 2 = 0

theorem mmShiftOf_eq_zero_iff (mant exp : Nat) : mmShiftOf mant exp = 0 ↔ (mant = 0 ∧ 1 < exp) := by
  rw [mmShiftOf_eq]
  split <;> simp_all

/-- the arithmetic of `Fields`, for the two shapes of a finite non-zero float: subnormal (`ex = 0`: significand `mt`,
exponent `−1074`) and normal (significand `mt + 2^52`, exponent `ex − 1075`); `s` is `mmShiftOf`, `e2` is `decodeE2` -/
theorem shape_facts {mt ex M s : Nat} {E e2 : Int} (hm : mt < 2 ^ 52) (h0 : M ≠ 0)
    (shape : (ex = 0 ∧ M = mt ∧ E = -1074) ∨ (ex ≠ 0 ∧ ex < 2047 ∧ M = mt + 2 ^ 52 ∧ E = ex - 1075))
    (hsz : s = 0 ↔ (mt = 0 ∧ 1 < ex)) (d1 : 0 ≤ e2 + 1076) (d2 : (e2 + 1076).toNat = if ex = 0 then 0 else ex - 1) :
    ex < 2047 ∧ (mt ≠ 0 ∨ ex ≠ 0) ∧ (if ex = 0 then mt else mt + 2 ^ 52) = M ∧ e2 = E - 2 ∧ M < 2 ^ 53 ∧
      -1074 ≤ E ∧ E ≤ 971 ∧ (2 ^ 52 ≤ M ∨ E = -1074) ∧ (s = 0 ↔ (M = 2 ^ 52 ∧ E ≠ -1074)) := by
  rcases shape with ⟨hx, rfl, rfl⟩ | ⟨hx, hx', rfl, rfl⟩
  · rw [if_pos hx] at d2 ⊢; omega
  · rw [if_neg hx] at d2 ⊢; omega

theorem fields_of_decode (b : UInt64) (dy : Num.Dyadic) (h : decode b = some dy) (h0 : dy.m ≠ 0) : Fields b dy := by
  have hm : mantOf b < 2 ^ 52 := Nat.mod_lt _ (Nat.two_pow_pos 52)
  have hs := mmShiftOf_le (mantOf b) (expOf b)
  have shape : (expOf b = 0 ∧ dy.m = mantOf b ∧ dy.e = -1074) ∨
      (expOf b ≠ 0 ∧ expOf b < 2047 ∧ dy.m = mantOf b + 2 ^ 52 ∧ dy.e = expOf b - 1075) := by
    have he : expOf b < 2048 := Nat.mod_lt _ (by decide)
    rcases decode_some h with ⟨hx, rfl⟩ | ⟨hx, hx', rfl⟩
    · exact Or.inl ⟨hx, rfl, rfl⟩
    · exact Or.inr ⟨hx, Nat.lt_of_le_of_ne (Nat.le_of_lt_succ he) hx', rfl, rfl⟩
  obtain ⟨f1, f2, f3, f4, f5, f6, f7, f8, f9⟩ := shape_facts hm h0 shape (mmShiftOf_eq_zero_iff _ _)
    (decodeE2_eq (expOf b)).1 (decodeE2_eq (expOf b)).2
  have hM2 : decodeM2 (mantOf b) (expOf b) = dy.m := (decodeM2_eq _ _ hm).trans f3
  exact
    { mant_lt := hm, exp_lt := f1, nz := f2, m2 := hM2, e2 := f4, m_pos := Nat.pos_of_ne_zero h0, m_lt := f5
      e_ge := f6, e_le := f7, normal := f8
      mv := by rw [hM2]; exact (mv_mp_eq _ f5).1
      mp := by rw [hM2]; exact (mv_mp_eq _ f5).2
      mm := by rw [hM2]; exact mm_eq _ _ h0 f5 hs
      s_le := hs, s_zero := f9
      acc := by rw [acceptBoundsOf_iff, hM2] }

theorem mul_sub_one_sub (M s u : Nat) (hM : 1 ≤ M) (hs : s ≤ 1) :
    (4 * M - 1 - s) * u + (1 + s) * u = 4 * (M * u) := by
  rw [← Nat.add_mul, show 4 * M - 1 - s + (1 + s) = 4 * M by omega, Nat.mul_assoc]

/-- Ryu's interval test in quarter units `w` (`mm = 4M − 1 − s`, `mp = 4M + 2`, `s` the `mmShift`) is `NearK` in the unit `u = 4w`.
With `s = 1` the interval is `M·u ± u/2`; with `s = 0` (bottom of a binade, `M` even) its lower end is `M·u − u/4`, which is the
`lower_binade` clause and implies `lower`. -/
theorem interval_nearK (a w M s : Nat) (sub : Prop) (hM : 1 ≤ M) (h53 : M < 2 ^ 53) (hn : 2 ^ 52 ≤ M ∨ sub) (hs : s ≤ 1)
    (hsz : s = 0 ↔ (M = 2 ^ 52 ∧ ¬ sub)) :
    (if M % 2 = 0 then (4 * M - 1 - s) * w ≤ a ∧ a ≤ (4 * M + 2) * w
      else (4 * M - 1 - s) * w < a ∧ a < (4 * M + 2) * w) ↔ NearK a (4 * w) M sub := by
  have e1 := mul_sub_one_sub M s w hM hs
  have hw : w ≤ M * w := Nat.le_mul_of_pos_left _ hM
  have e2 : (4 * M + 2) * w = 4 * (M * w) + 2 * w := by rw [Nat.add_mul, Nat.mul_assoc]
  have e3 : (2 * M + 1) * (4 * w) = 8 * (M * w) + 4 * w := by grind
  have e4 : 2 * M * (4 * w) = 8 * (M * w) := by grind
  have e5 : 4 * M * (4 * w) = 16 * (M * w) := by grind
  have hse : s = 0 → M % 2 = 0 := fun h => by rw [(hsz.mp h).1]
  have eta : NearK a (4 * w) M sub ↔ (2 * a ≤ 8 * (M * w) + 4 * w ∧ (2 * a = 8 * (M * w) + 4 * w → M % 2 = 0) ∧
      8 * (M * w) ≤ 2 * a + 4 * w ∧ (8 * (M * w) = 2 * a + 4 * w → M % 2 = 0) ∧
      (M = 2 ^ 52 → ¬ sub → 16 * (M * w) ≤ 4 * a + 4 * w)) := by
    rw [← e3, ← e4, ← e5]
    exact ⟨fun k => ⟨k.upper, k.upper_tie, k.lower, k.lower_tie, k.lower_binade⟩,
      fun ⟨k1, k2, k3, k4, k5⟩ => ⟨h53, hn, k1, k2, k3, k4, k5⟩⟩
  have hb : (M = 2 ^ 52 → ¬ sub → 16 * (M * w) ≤ 4 * a + 4 * w) ↔ (s = 0 → 16 * (M * w) ≤ 4 * a + 4 * w) :=
    ⟨fun h hs => h (hsz.mp hs).1 (hsz.mp hs).2, fun h h1 h2 => h (hsz.mpr ⟨h1, h2⟩)⟩
  rw [eta, e2, hb]
  -- what is left is linear in `a`, `w`, `M·w` and the lower end
  clear hb eta e3 e4 e5 hsz hn h53 e2
  generalize (4 * M - 1 - s) * w = X at *
  generalize M * w = x at *
  rcases (by omega : s = 0 ∨ s = 1) with rfl | rfl
  · rw [if_pos (hse rfl)]; omega
  · split <;> omega

/-- the interval of Ryu's step 2 is the set of values that round (nearest, ties to even) to the float: `NearK` in four times the
unit of `e2`, which is the unit of `e = e2 + 2` -/
theorem inInterval_iff_isNearest (b : UInt64) (dy : Num.Dyadic) (F : Fields b dy) (m : Nat) (e : Int) :
    InInterval b m e ↔ IsNearest (decNum m e) (decDen e) dy.m dy.e := by
  have hu2 : 0 < decDen e * P (decodeE2 (expOf b)) := Nat.mul_pos (decDen_pos e) (P_pos _)
  have hu : 0 < decDen e * P dy.e := Nat.mul_pos (decDen_pos e) (P_pos _)
  have r := ratio_shift (decNum m e) (decDen e) (decodeE2 (expOf b)) dy.e 2 (by rw [F.e2]; omega)
  have hI : InInterval b m e ↔ NearK (decNum m e * Q (decodeE2 (expOf b))) (4 * (decDen e * P (decodeE2 (expOf b)))) dy.m
      (dy.e = -1074) := by
    rw [← interval_nearK _ _ dy.m _ _ F.m_pos F.m_lt F.normal F.s_le F.s_zero, ← F.mp, ← F.mm]
    unfold InInterval
    by_cases hev : dy.m % 2 = 0
    · rw [if_pos (F.acc.mpr hev), if_pos hev]
    · rw [if_neg (fun h => hev (F.acc.mp h)), if_neg hev]
  rw [hI, isNearest_iff_nearK]
  exact ⟨fun k => ⟨F.e_ge, F.e_le, k.congr (Nat.mul_pos (by decide) hu2) hu r id⟩,
    fun ⟨_, _, k⟩ => k.congr hu (Nat.mul_pos (by decide) hu2) r.symm id⟩

/-- in the rounding interval of the finite non-zero float `b` ⇔ `Num.ofDecimal`, with the sign of `b`, returns exactly `b`: either sign,
every `m` -/
theorem inInterval_iff_ofDecimal (b : UInt64) (dy : Num.Dyadic) (hd : decode b = some dy) (h0 : dy.m ≠ 0) (m : Nat) (e : Int) :
    InInterval b m e ↔ ofDecimal dy.neg m e = b := by
  rw [inInterval_iff_isNearest b dy (fields_of_decode b dy hd h0) m e, ofDecimal_eq_iff hd]
  exact ⟨fun h => ⟨rfl, h⟩, fun h => h.2⟩

set_option linter.unusedVariables false in
/-- **`interval_iff_roundtrip`.** For a finite non-zero float `b` of positive sign (`decode b = some dy`, `dy.neg = false`,
`dy.m ≠ 0`) and a decimal `m·10^e` with `m > 0`: the decimal lies in the rounding interval of `b` — between the midpoints
`mm·2^e2` and `mp·2^e2` to the neighbouring floats (`interval_lower`, `interval_upper`), ends included iff the significand is
even (`acceptBoundsOf`) — if and only if the correctly rounding parser `Num.ofDecimal` returns exactly `b` for it. Neither the sign
nor `m > 0` matters: `inInterval_iff_ofDecimal`. -/
theorem interval_iff_roundtrip (b : UInt64) (dy : Num.Dyadic) (hd : decode b = some dy) (hneg : dy.neg = false)
    (h0 : dy.m ≠ 0) (m : Nat) (e : Int) (hm : 0 < m) :
    InInterval b m e ↔ ofDecimal false m e = b := by
  rw [← hneg]
  exact inInterval_iff_ofDecimal b dy hd h0 m e

/-- the interval ends of `InInterval` are the midpoints to the neighbouring floats (restating `interval_lower`,
`interval_upper`, `interval_value` of `C16Core` for the record: everything scaled by `2^1076`) -/
theorem interval_ends (b : UInt64) (dy : Num.Dyadic) (h : decode b = some dy) :
    scaled (mvOf (decodeM2 (mantOf b) (expOf b))) (decodeE2 (expOf b)) = scaled dy.m dy.e ∧
    (∀ dy', decode (b + 1) = some dy' →
      2 * scaled (mpOf (decodeM2 (mantOf b) (expOf b))) (decodeE2 (expOf b)) = scaled dy.m dy.e + scaled dy'.m dy'.e) ∧
    (∀ dy', decode (b - 1) = some dy' → dy.m ≠ 0 →
      2 * scaled (mmOf (decodeM2 (mantOf b) (expOf b)) (mmShiftOf (mantOf b) (expOf b))) (decodeE2 (expOf b)) =
        scaled dy.m dy.e + scaled dy'.m dy'.e) :=
  ⟨interval_value b dy h, fun dy' h' => interval_upper b dy dy' h h', fun dy' h' h0 => interval_lower b dy dy' h h' h0⟩

#print axioms interval_iff_roundtrip
#print axioms inInterval_iff_isNearest

end QF.Props.C16Link
