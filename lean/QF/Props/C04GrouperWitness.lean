import QF.Props.C04GrouperGen
/-!
# C04 / C05 — the grouper terms: concrete runs, and mutations that the theorems reject

`interpGroupBy` / `interpDistinct` on concrete inputs (keys and hash values per row) by kernel evaluation, for today's
canonical terms and for hand-made variants of them. Every variant differs from `canonFns` (so `gen_grouper_canon` fails
for a source that translates to it) AND has a concrete run that differs from the mirror — where the grouping itself
breaks, the run violates `groupBy_partition`.
-/
namespace QF.Props.C04GrouperGen
open QF QF.GL

/-- a comparable over explicit keys and hash values (row `i` has key `keys[i]` and hash `hs[i]`) -/
def cmpKH (keys hs : List Nat) : Cmp :=
  { compare := fun i j => if keys.getD i 0 == keys.getD j 0 then .equal else .notEqual, hash := fun i _ => hs.getD i 0 }

/-- `canonFns` with one function replaced -/
def withFn (f : FnId) (fn : Fn) : List (FnId × Fn) := canonFns.map fun p => if p.1 = f then (f, fn) else p

/-- (groups, RelocationCount, RelocationCollisions, InsertCollisions, GroupCount, LoadFactor) -/
def summary (r : Option (List (List Nat) × Stats)) : Option (List (List Nat) × List Int) :=
  r.map fun (g, s) => (g, [s.relocationCount, s.relocationCollisions, s.insertCollisions, s.groupCount, s.lfNum, s.lfDen])

/-! ## today's code -/

/-- a run of the Go code (probe program): keys 3,1,3,2,1 with hashes 8,8,8,16,8 -/
example : summary (interpGroupBy canonFns 64 [cmpKH [3, 1, 3, 2, 1] [8, 8, 8, 16, 8]] [0, 1, 2, 3, 4]) =
    some ([[0, 2], [1, 4], [3]], [0, 0, 4, 3, 3, 8]) := by decide +kernel

/-- six different keys, hashes 16,1,2,3,4,5: the sixth insertion doubles the table of 8 slots; the three EMPTY old slots are
"relocated" too and each passes the five entries already placed — `RelocationCollisions = 15` (real grouper: `{1 15 0 6 0.375}`) -/
example : summary (interpGroupBy canonFns 64 [cmpKH [0, 1, 2, 3, 4, 5] [16, 1, 2, 3, 4, 5]] [0, 1, 2, 3, 4, 5]) =
    some ([[0], [1], [2], [3], [4], [5]], [1, 15, 0, 6, 6, 16]) := by decide +kernel

example : (G.groupIndex {} (fun i => [16, 1, 2, 3, 4, 5].getD i 0) (fun i j => i == j) [0, 1, 2, 3, 4, 5] true).map
    (fun t => (t.relocCount, t.relocCollisions, t.insertCollisions, t.groupCount, t.lfNum, t.lfDen)) = some (1, 15, 0, 6, 6, 16) := by
  decide +kernel

/-- a key that arrives at the moment of growth and again later: one group -/
example : (interpGroupBy canonFns 64 [cmpKH [0, 1, 2, 3, 4, 5, 5] [1, 2, 3, 4, 5, 8, 8]] [0, 1, 2, 3, 4, 5, 6]).map (·.1) =
    some [[0], [1], [2], [3], [4], [5, 6]] := by decide +kernel

/-- hashes above 2^16 -/
example : (interpGroupBy canonFns 64 [cmpKH [7, 7] [65537, 65537]] [0, 1]).map (·.1) = some [[0, 1]] := by decide +kernel

/-- a group of two rows that is relocated -/
example : (interpGroupBy canonFns 64 [cmpKH [0, 0, 1, 2, 3, 4, 5] [1, 1, 2, 3, 4, 5, 6]] [0, 1, 2, 3, 4, 5, 6]).map (·.1) =
    some [[0, 1], [2], [3], [4], [5], [6]] := by decide +kernel

example : interpDistinct canonFns 64 [cmpKH [3, 1, 3, 2, 1] [8, 8, 8, 16, 8]] [0, 1, 2, 3, 4] = some [0, 1, 3] := by decide +kernel

/-! ## 1. the probe mask computed BEFORE `grow()` -/

/-- `insertEntry` with `bitMask := uint64(len(t.entries) - 1)` in front of the growth check -/
def mutMaskBeforeGrow : Fn := { params := 2, body := S.block [
  S.define 3 (E.toU64 (E.bin AOp.sub (E.len (E.field (E.var 0) Fld.entries)) (E.int 1))),
  growCheckPart,
  S.define 2 (E.call2 FnId.hash (E.var 0) (E.var 1)),
  S.define 4 (E.bin AOp.band (E.toU64 (E.var 2)) (E.var 3)),
  S.define 5 E.nilPtr,
  probeLoop,
  updatePart] }

example : withFn .insertEntry mutMaskBeforeGrow ≠ canonFns := by decide +kernel

/-- the row that triggers the growth is stored under the OLD mask (slot `8 & 7 = 0` of 16); the next row with the same key
starts at slot `8 & 15 = 8`, finds it free and opens a second group for the key: not a partition by key. -/
example : (interpGroupBy (withFn .insertEntry mutMaskBeforeGrow) 64 [cmpKH [0, 1, 2, 3, 4, 5, 5] [1, 2, 3, 4, 5, 8, 8]] [0, 1, 2, 3, 4, 5, 6]).map (·.1) =
    some [[5], [0], [1], [2], [3], [4], [6]] := by decide +kernel

/-! ## 2. the stored hash truncated to 16 bits -/

/-- the new entry with `dstEntry.hash = hashSum & 0xFFFF` -/
def mutEden16 : S := S.block [
  S.setPtrField 5 Fld.hash (E.bin AOp.band (E.var 2) (E.u32 65535)),
  S.setPtrField 5 Fld.firstPos (E.var 1),
  S.setPtrField 5 Fld.occupied (E.bool true),
  S.incrField 0 [Fld.groupCount],
  S.setField 0 [Fld.loadFactor] (E.bin AOp.div (E.toFloat (E.field (E.var 0) Fld.groupCount)) (E.toFloat (E.len (E.field (E.var 0) Fld.entries))))]

def mutHash16 : Fn := { params := 2, body := S.block [
  growCheckPart,
  S.define 2 (E.call2 FnId.hash (E.var 0) (E.var 1)),
  S.define 3 (E.toU64 (E.bin AOp.sub (E.len (E.field (E.var 0) Fld.entries)) (E.int 1))),
  S.define 4 (E.bin AOp.band (E.toU64 (E.var 2)) (E.var 3)),
  S.define 5 E.nilPtr,
  probeLoop,
  S.ite (E.not (E.field (E.deref (E.var 5)) Fld.occupied)) mutEden16 existingPart] }

example : withFn .insertEntry mutHash16 ≠ canonFns := by decide +kernel

/-- a second row with the same key and hash 65537 does not recognise the entry (stored hash 1): the key gets two groups. -/
example : (interpGroupBy (withFn .insertEntry mutHash16) 64 [cmpKH [7, 7] [65537, 65537]] [0, 1]).map (·.1) = some [[0], [1]] := by
  decide +kernel

/-! ## 3. `ix` not carried over on relocation -/

/-- `grow` that drops the rows collected so far: `e.ix = nil; newEntries[pos] = e` -/
def mutGrowNoIx : Fn := { params := 1, body := S.block [
  S.define 1 (E.toU32 (E.bin AOp.mul (E.int 2) (E.len (E.field (E.var 0) Fld.entries)))),
  S.define 2 (E.makeEntries (E.var 1)),
  S.define 3 (E.bin AOp.sub (E.var 1) (E.u32 1)),
  S.range (E.field (E.var 0) Fld.entries) none (some 4) (S.block [S.for relocInit (E.bool true) relocPost (S.block [
    S.ite (E.not (E.field (E.at (E.var 2) (E.var 5)) Fld.occupied))
      (S.block [S.setField 4 [Fld.ix] E.nilRows, S.setAt 2 (E.var 5) (E.var 4), S.brk]) (S.block []),
    S.incrField 0 [Fld.stats, Fld.sRelocationCollisions]])]),
  S.incrField 0 [Fld.stats, Fld.sRelocationCount],
  S.setField 0 [Fld.entries] (E.var 2),
  S.setField 0 [Fld.loadFactor] (E.bin AOp.div (E.field (E.var 0) Fld.loadFactor) (E.flt 2 1))] }

example : withFn .grow mutGrowNoIx ≠ canonFns := by decide +kernel

/-- row 1 (second row of key 0) is in no group after the growth: the groups do not cover the rows. -/
example : (interpGroupBy (withFn .grow mutGrowNoIx) 64 [cmpKH [0, 0, 1, 2, 3, 4, 5] [1, 1, 2, 3, 4, 5, 6]] [0, 1, 2, 3, 4, 5, 6]).map (·.1) =
    some [[0], [2], [3], [4], [5], [6]] := by decide +kernel

/-! ## 4. growth that skips the empty slots -/

/-- `for _, e := range t.entries { if e.occupied { <probe loop> } }`: same table, other `RelocationCollisions` -/
def mutGrowSkipEmpty : Fn := { params := 1, body := S.block [
  S.define 1 (E.toU32 (E.bin AOp.mul (E.int 2) (E.len (E.field (E.var 0) Fld.entries)))),
  S.define 2 (E.makeEntries (E.var 1)),
  S.define 3 (E.bin AOp.sub (E.var 1) (E.u32 1)),
  S.range (E.field (E.var 0) Fld.entries) none (some 4) (S.block [S.ite (E.field (E.var 4) Fld.occupied) growBody (S.block [])]),
  S.incrField 0 [Fld.stats, Fld.sRelocationCount],
  S.setField 0 [Fld.entries] (E.var 2),
  S.setField 0 [Fld.loadFactor] (E.bin AOp.div (E.field (E.var 0) Fld.loadFactor) (E.flt 2 1))] }

example : withFn .grow mutGrowSkipEmpty ≠ canonFns := by decide +kernel

example : summary (interpGroupBy (withFn .grow mutGrowSkipEmpty) 64 [cmpKH [0, 1, 2, 3, 4, 5] [16, 1, 2, 3, 4, 5]] [0, 1, 2, 3, 4, 5]) =
    some ([[0], [1], [2], [3], [4], [5]], [1, 0, 0, 6, 6, 16]) := by decide +kernel

/-! ## 5. the load factor test with `>=` -/

def mutGrowAtHalf : Fn := { params := 2, body := S.block [
  S.ite (E.cmp COp.ge (E.field (E.var 0) Fld.loadFactor) (E.flt 1 2)) (S.block [S.callMut FnId.grow 0 []]) (S.block []),
  S.define 2 (E.call2 FnId.hash (E.var 0) (E.var 1)),
  S.define 3 (E.toU64 (E.bin AOp.sub (E.len (E.field (E.var 0) Fld.entries)) (E.int 1))),
  S.define 4 (E.bin AOp.band (E.toU64 (E.var 2)) (E.var 3)),
  S.define 5 E.nilPtr,
  probeLoop,
  updatePart] }

example : withFn .insertEntry mutGrowAtHalf ≠ canonFns := by decide +kernel

/-- five keys: today's code does not grow (5/8 is reached only after the fifth insertion), the variant grows at 4/8 -/
example : summary (interpGroupBy canonFns 64 [cmpKH [0, 1, 2, 3, 4] [1, 2, 3, 4, 5]] [0, 1, 2, 3, 4]) =
    some ([[0], [1], [2], [3], [4]], [0, 0, 0, 5, 5, 8]) := by decide +kernel
example : summary (interpGroupBy (withFn .insertEntry mutGrowAtHalf) 64 [cmpKH [0, 1, 2, 3, 4] [1, 2, 3, 4, 5]] [0, 1, 2, 3, 4]) =
    some ([[0], [1], [2], [3], [4]], [1, 0, 0, 5, 5, 16]) := by decide +kernel

end QF.Props.C04GrouperGen
