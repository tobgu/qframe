import QF.Props.C15Faults
/-!
# C12 / C15 — the array-level mirror `Csv` alone: what every function does to the buffer, and what error it reports

The facts about the hand mirror (QF/Core/Csv.lean) that the run lemmas of C12CsvFns / C12CsvQuoted / C12CsvGen and the no-fuel
theorem rest on. Nothing here speaks of the language `QF.CR` or of the regenerated terms.

`Later b b'` — `b'` is a later state of the buffer `b`: well-formed (`WF`: `cursor ≤ len(data) ≤ cap(data)`), every scheduled
read still ≥ 1 byte if it was (`SchedOK`), and the measure `mu` = 2 · (bytes not yet delivered) + (loaded bytes not yet consumed)
not grown. A refill is a later state (`more_later`; strictly smaller when it reports no error and the reads are ≥ 1 byte, the
io.Reader contract the replay driver's schedules obey), a consumed byte is a strictly smaller one (`Later.adv`, `mu_adv`), `reset` keeps
the measure (`reset_later`).

`Post k pre buf Q o` — the ONE statement proved of every function of the mirror (`nextUnquoted_post`, `quotedLoop_post`,
`nextGo_post`, `Fields_next_post`, `rowLoop_post`, `Reader_next_post`, `readAllLoop'_post`), each by one walk along its case tree: a
result `x` satisfies `Q x` and leaves a later buffer `buf x`; and with reads ≥ 1 byte and `mu pre < k` the outcome is not
`panic "fuel"`. Rounds of a loop are chained by `Post.step`. `Q` also holds the fault bookkeeping: if source and error tracked a
fault position before the call (`C15Faults.Tracks`; the error not yet the failure), source and error of the result track it.
This is an implication inside `Q`, not a hypothesis of the walks, because the no-fuel theorem runs the same walks for an
arbitrary fault position; where the source changes and the walk goes on (a refill that reports nothing) `Post.imp` carries it across.

`readAll_no_fuel` — the mirror never gives up: `Csv.readAll … ≠ .panic "fuel"` for every document, delimiter, capacity, fault
position and both flags of the underlying reader, provided every scheduled read size is ≥ 1 (a reader that forever returns
`0, nil` makes the real `nextQuotedField` spin as well). `readAll` starts with `mu = 2·|doc| < 8·|doc| + 64`. (`panic "fuel"` is the
outcome of the two scanning loops, `quotedLoop` and `nextUnquoted`, at budget 0; the row loop and the read-all loop end with
`panic "fuel(row)"` / `"fuel(all)"`, which are other outcomes.)

`C15Faults.fail_iff_reached` (`fail_reported`, `clean_end_not_reached`) — a run that returns ends with the failure exactly when the
failing `Read` call was made. Both are read off `readAllLoop'_post`: the no-fuel theorem is its `nf`, this one its `post`.
-/
namespace QF.Props.C12CsvGen
open Csv

theorem size_writeAll : ∀ (bs : List Byte) (a : Array Byte) (off : Nat), (writeAll a off bs).size = a.size
  | [], _, _ => rfl
  | b :: bs, a, off => by simp [writeAll, size_writeAll bs]

/-- the invariant of the buffer: `cursor ≤ len(data) ≤ cap(data)` -/
def WF (b : Buf) : Prop := b.cursor ≤ b.len ∧ b.len ≤ b.data.size

/-- the invariant of `fields`: `fieldStart ≤ cursor ≤ len(data) ≤ cap(data)` -/
def FWF (fs : Fields) : Prop := fs.fieldStart ≤ fs.buf.cursor ∧ fs.buf.cursor ≤ fs.buf.len ∧ fs.buf.len ≤ fs.buf.data.size

/-! ## The underlying reader, the measure, later states -/

def SchedOK (s : Src) : Prop := ∀ k ∈ s.sched, 1 ≤ k

theorem read_gen (s : Src) (hs : SchedOK s) (room : Nat) (hroom : 1 ≤ room) :
    SchedOK (s.read room).2.2 ∧ ((s.read room).2.1 = none → 1 ≤ (s.read room).1.length) := by
  refine C15Faults.read_elim (motive := fun r => SchedOK r.2.2 ∧ (r.2.1 = none → 1 ≤ r.1.length)) s room ⟨hs, nofun⟩
    (fun _ _ => ⟨hs, nofun⟩) (fun _ => ⟨hs, nofun⟩)
    fun want w e hw hr _ _ => ⟨fun k hk => hs k (List.mem_of_mem_drop hk), fun _ => ?_⟩
  have hpos := List.length_pos_iff.2 hr
  have : 1 ≤ want := hw.elim (fun h => h ▸ hpos) (hs want)
  show 1 ≤ (s.rest.take _).length
  rw [List.length_take]
  omega

/-- twice the bytes not yet delivered plus the loaded bytes not yet consumed -/
def mu (b : Buf) : Nat := 2 * b.src.rest.length + (b.len - b.cursor)

/-- `b'` is a later state of the buffer `b` -/
structure Later (b b' : Buf) : Prop where
  wf : WF b'
  sched : SchedOK b.src → SchedOK b'.src
  mu : mu b' ≤ mu b

theorem Later.refl {b : Buf} (h : WF b) : Later b b := ⟨h, id, Nat.le_refl _⟩

theorem Later.trans {a b c : Buf} (h1 : Later a b) (h2 : Later b c) : Later a c :=
  ⟨h2.wf, fun h => h2.sched (h1.sched h), Nat.le_trans h2.mu h1.mu⟩

/-- a byte consumed -/
theorem Later.adv {b : Buf} (h : WF b) (hc : b.cursor < b.len) : Later b { b with cursor := b.cursor + 1 } :=
  ⟨⟨hc, h.2⟩, id, by show 2 * b.src.rest.length + (b.len - (b.cursor + 1)) ≤ 2 * b.src.rest.length + (b.len - b.cursor); omega⟩

theorem mu_adv {b : Buf} (hc : b.cursor < b.len) : mu { b with cursor := b.cursor + 1 } < mu b := by
  show 2 * b.src.rest.length + (b.len - (b.cursor + 1)) < 2 * b.src.rest.length + (b.len - b.cursor); omega

/-- a refill: a later state with the same cursor and no less loaded; strictly smaller when it reports no error and the reads are ≥ 1 -/
theorem more_later (b : Buf) (hb : WF b) :
    Later b b.more.1 ∧ b.more.1.cursor = b.cursor ∧ b.len ≤ b.more.1.len ∧
      (b.more.2 = none → SchedOK b.src → mu b.more.1 < mu b) := by
  obtain ⟨h1, h2⟩ := hb
  have hroom : 1 ≤ C15Faults.roomOf b ∧ b.len + C15Faults.roomOf b ≤ (C15Faults.growBuf b).data.size ∧
      (C15Faults.growBuf b).cursor = b.cursor := by
    unfold C15Faults.roomOf C15Faults.growBuf
    split
    · rename_i he
      have : b.len = b.data.size := by simpa using he
      refine ⟨?_, ?_, rfl⟩ <;> simp only [Array.size_append, Array.size_replicate] <;> omega
    · rename_i he
      have : b.len ≠ b.data.size := by simpa using he
      refine ⟨?_, ?_, rfl⟩ <;> omega
  have rb := C15Faults.read_bytes b.src (C15Faults.roomOf b)
  have rg := fun hS => read_gen b.src hS (C15Faults.roomOf b) hroom.1
  rw [C15Faults.more_eq]
  generalize b.src.read (C15Faults.roomOf b) = rd at rb rg
  obtain ⟨bytes, e, s'⟩ := rd
  simp only at rb rg ⊢
  have hlen := congrArg List.length rb.1
  simp only [List.length_append] at hlen
  refine ⟨⟨⟨?_, ?_⟩, fun hS => (rg hS).1, ?_⟩, hroom.2.2, Nat.le_add_right _ _, fun he hS => ?_⟩
  · show (C15Faults.growBuf b).cursor ≤ b.len + bytes.length; omega
  · show b.len + bytes.length ≤ (writeAll _ _ _).size; rw [size_writeAll]; omega
  · show 2 * s'.rest.length + (b.len + bytes.length - (C15Faults.growBuf b).cursor) ≤ 2 * b.src.rest.length + (b.len - b.cursor)
    omega
  · have := (rg hS).2 he
    show 2 * s'.rest.length + (b.len + bytes.length - (C15Faults.growBuf b).cursor) < 2 * b.src.rest.length + (b.len - b.cursor)
    omega

theorem reset_later (b : Buf) (hb : WF b) : Later b b.reset := by
  obtain ⟨h1, h2⟩ := hb
  refine ⟨⟨Nat.zero_le _, ?_⟩, id, ?_⟩
  · show b.len - b.cursor ≤ (writeAll _ _ _).size
    rw [size_writeAll]; omega
  · show 2 * b.src.rest.length + (b.len - b.cursor - 0) ≤ 2 * b.src.rest.length + (b.len - b.cursor)
    omega

/-! ## What is shown of every function of the mirror -/

theorem panic_cast {α β : Type} {w : String} (h : (Out.panic w : Out α) ≠ .panic "fuel") : (Out.panic w : Out β) ≠ .panic "fuel" := by
  intro hh; injection hh with hh; subst hh; exact h rfl

theorem panic_ne {α : Type} (w : String) (h : w ≠ "fuel") : (Out.panic w : Out α) ≠ .panic "fuel" := by
  intro hh; injection hh with hh; exact h hh

/-- A result `x` of `o` satisfies `Q` and leaves a later buffer than `pre`; and `o` does not give up when the reads are ≥ 1 byte
and the budget `k` exceeds the measure. -/
structure Post {α : Type} (k : Nat) (pre : Buf) (buf : α → Buf) (Q : α → Prop) (o : Out α) : Prop where
  post : ∀ x, o = .ok x → Q x ∧ Later pre (buf x)
  nf : SchedOK pre.src → mu pre < k → o ≠ .panic "fuel"

section Post
variable {α β : Type} {k : Nat} {pre b b1 : Buf} {buf : α → Buf} {Q : α → Prop} {o : Out α}

theorem Post.ok {x : α} (hq : Q x) (hl : Later pre (buf x)) : Post k pre buf Q (.ok x) :=
  ⟨fun y hy => (by cases hy; exact ⟨hq, hl⟩), fun _ _ => nofun⟩

theorem Post.panic (w : String) (hw : w ≠ "fuel") : Post k pre buf Q (.panic w) :=
  ⟨fun _ hy => (nomatch hy), fun _ _ => panic_ne w hw⟩

theorem Post.zero : Post 0 pre buf Q (.panic "fuel") :=
  ⟨fun _ hy => (nomatch hy), fun _ h => absurd h (Nat.not_lt_zero _)⟩

/-- a round of a loop: the rest of the run starts from a later buffer with a smaller measure -/
theorem Post.step (hs : Post k b1 buf Q o) (hl : Later b b1) (hlt : SchedOK b.src → mu b1 < mu b) : Post (k + 1) b buf Q o :=
  ⟨fun x hx => ⟨(hs.post x hx).1, hl.trans (hs.post x hx).2⟩, fun hS hm => hs.nf (hl.sched hS) (by have := hlt hS; omega)⟩

theorem Post.mono (hs : Post k b1 buf Q o) (hl : Later b b1) : Post k b buf Q o :=
  ⟨fun x hx => ⟨(hs.post x hx).1, hl.trans (hs.post x hx).2⟩, fun hS hm => hs.nf (hl.sched hS) (Nat.lt_of_le_of_lt hl.mu hm)⟩

/-- a panic handed on from a callee with another result type -/
theorem Post.panic_of {buf' : β → Buf} {Q' : β → Prop} {w : String} (hs : Post k pre buf Q (.panic w)) :
    Post k pre buf' Q' (.panic w) :=
  ⟨fun _ hy => (nomatch hy), fun hS hm => panic_cast (hs.nf hS hm)⟩

theorem Post.imp {Q' : α → Prop} (hs : Post k pre buf Q o) (h : ∀ x, Q x → Q' x) : Post k pre buf Q' o :=
  ⟨fun x hx => ⟨h x (hs.post x hx).1, (hs.post x hx).2⟩, hs.nf⟩
end Post

/-- The walks follow the `if` tree of a definition as one term built from this where they can (`split` on goals of that size
is slow). -/
theorem ite_elim {α : Type} {motive : α → Prop} {c : Prop} [Decidable c] {a b : α}
    (ha : motive a) (hb : motive b) : motive (if c then a else b) :=
  iteInduction (fun _ => ha) (fun _ => hb)

/-! ## The quoted field -/

open C15Faults

/-- `quotedLoop`: the field returned is a slice of the final buffer from `start`; the error returned tracks the fault -/
abbrev QPost (k : Nat) (b : Buf) (start : Nat) : Out (List Byte × Bool × Option RErr × Buf) → Prop :=
  Post k b (·.2.2.2) fun x => (∃ w', x.1 = x.2.2.2.slice start w') ∧ ∀ kf, Tracks kf b.src none → Tracks kf x.2.2.2.src x.2.2.1

theorem quotedLoop_post : ∀ (k : Nat) (b : Buf) (delim : Byte) (start w q : Nat), WF b →
    QPost k b start (quotedLoop k b delim start w q) := by
  intro k
  induction k with
  | zero => intro b delim start w q _; exact Post.zero
  | succ k ih =>
    intro b delim start w q hb
    rw [quotedLoop_succ]
    obtain ⟨ml, mc, _, ms⟩ := more_later b hb
    split
    · split
      · rename_i err he
        split
        · -- only `.eof` is swallowed
          rename_i hc
          simp only [Bool.and_eq_true, decide_eq_true_eq] at hc
          exact Post.ok ⟨⟨w, rfl⟩, fun _ ht => (more_tracks ht nofun).of_ne (by rw [he, eq_of_beq hc.1.1.1]; nofun) nofun⟩
            (ml.trans (Later.adv ml.wf hc.1.2))
        · exact Post.ok ⟨⟨w, rfl⟩, fun _ ht => he ▸ more_tracks ht nofun⟩ ml
      · rename_i he
        exact ((ih b.more.1 delim start w q ml.wf).imp fun _ hx => ⟨hx.1, fun kf ht => hx.2 kf (he ▸ more_tracks ht nofun)⟩).step ml (ms he)
    · rename_i hlt
      have hc : b.cursor < b.len := by omega
      have adv := Later.adv hb hc
      have keep : QPost k { b with cursor := b.cursor + 1 } start (qKeep k delim start w { b with cursor := b.cursor + 1 }) := by
        unfold qKeep
        refine ite_elim (ite_elim ?_ (Post.panic _ (by decide))) (ih _ delim start (w + 1) 0 adv.wf)
        have hw : WF { b with cursor := b.cursor + 1, data := b.data.setIfInBounds (w + 1) b.data[b.cursor + 1]! } :=
          ⟨hc, by show b.len ≤ (b.data.setIfInBounds _ _).size; simpa using hb.2⟩
        exact (ih _ delim start (w + 1) 0 hw).mono ⟨hw, id, Nat.le_refl _⟩
      have ret : ∀ e, QPost (k + 1) b start (.ok (({ b with cursor := b.cursor + 1 } : Buf).slice start w, e, none, { b with cursor := b.cursor + 1 })) :=
        fun e => Post.ok ⟨⟨w, rfl⟩, fun _ ht => ht⟩ adv
      have keep := keep.step adv fun _ => mu_adv hc
      have recur : ∀ q', QPost (k + 1) b start (quotedLoop k { b with cursor := b.cursor + 1 } delim start w q') :=
        fun q' => (ih _ delim start w q' adv.wf).step adv fun _ => mu_adv hc
      unfold qBody qSw
      rw [if_pos hc]
      exact ite_elim (ite_elim (ret _) keep) (ite_elim (ite_elim (ret _) keep)
        (ite_elim (ite_elim (recur _) keep) (ite_elim (ite_elim (recur _) keep) keep)))

/-! ## The unquoted field, `fields.next` -/

/-- a function of `fields`: the field does not start behind the cursor; the error tracks the fault, and no field is announced
together with the failure -/
abbrev FPost (k : Nat) (fs : Fields) : Out (Fields × Bool) → Prop :=
  Post k fs.buf (·.1.buf) fun x => x.1.fieldStart ≤ x.1.buf.cursor ∧
    ∀ kf, Tracks kf fs.buf.src fs.err → fs.err ≠ some .fail → Tracks kf x.1.buf.src x.1.err ∧ (x.2 = true → x.1.err ≠ some .fail)

theorem FWF.of_post {fs' : Fields} {b : Buf} {R : Prop} (h : (fs'.fieldStart ≤ fs'.buf.cursor ∧ R) ∧ Later b fs'.buf) : FWF fs' :=
  ⟨h.1.1, h.2.wf⟩

/-- after a refill that reports nothing -/
theorem FPost.refill {k : Nat} {fs : Fields} {o : Out (Fields × Bool)} (hwf : WF fs.buf) (he : fs.buf.more.2 = none)
    (h : FPost k { fs with buf := fs.buf.more.1 } o) : FPost k fs o :=
  (h.imp fun _ hx => ⟨hx.1, fun kf ht hne => hx.2 kf ((he ▸ more_tracks ht hne).of_ne nofun hne) hne⟩).mono (more_later fs.buf hwf).1

theorem nextUnquoted_post : ∀ (k : Nat) (fs : Fields), FWF fs → FPost k fs (nextUnquoted k fs fs.buf.cursor) := by
  intro k
  induction k with
  | zero => intro fs _; exact Post.zero
  | succ k ih =>
    intro fs ⟨w1, w2, w3⟩
    rw [nextUnquoted_succ]
    obtain ⟨ml, mc, _, _⟩ := more_later fs.buf ⟨w2, w3⟩
    have step : ∀ (fs0 : Fields), FWF fs0 → FPost (k + 1) fs0 (unqStep k fs0.buf.cursor fs0) := by
      intro fs0 ⟨v1, v2, v3⟩
      unfold unqStep
      split
      · split
        · rename_i hlt
          have adv := Later.adv ⟨v2, v3⟩ hlt
          dsimp only
          split
          · exact Post.ok ⟨Nat.le_refl _, fun _ ht hne => ⟨ht, fun _ => hne⟩⟩ adv
          · split
            · exact Post.ok ⟨Nat.le_succ_of_le v1, fun _ ht hne => ⟨ht, fun _ => hne⟩⟩ adv
            · exact (ih { fs0 with buf := { fs0.buf with cursor := fs0.buf.cursor + 1 } } ⟨Nat.le_succ_of_le v1, hlt, v3⟩).step adv
                fun _ => mu_adv hlt
        · exact Post.panic _ (by decide)
      · exact Post.panic _ (by decide)
    have hq : fs.fieldStart ≤ fs.buf.more.1.cursor := mc ▸ w1
    split
    · split
      · rename_i he
        exact Post.ok ⟨hq, fun _ ht hne => ⟨he ▸ more_tracks ht hne, fun _ => nofun⟩⟩ ml
      · rename_i he
        exact Post.ok ⟨hq, fun _ ht hne => ⟨he ▸ more_tracks ht hne, nofun⟩⟩ ml
      · rename_i he
        have := step { fs with buf := fs.buf.more.1 } ⟨hq, ml.wf⟩
        simp only [mc] at this
        exact this.refill ⟨w2, w3⟩ he
    · exact step fs ⟨w1, w2, w3⟩

theorem nextGo_post (k : Nat) (fs : Fields) (hwf : FWF fs) : FPost k fs (nextGo k fs) := by
  unfold nextGo
  split
  · rename_i hlt
    split
    · have hq := (quotedLoop_post k { fs.buf with cursor := fs.buf.cursor + 1 } fs.delim (fs.buf.cursor + 1) (fs.buf.cursor + 1) 0
        ⟨hlt, hwf.2.2⟩).mono (Later.adv hwf.2 hlt)
      unfold nextQuoted
      dsimp only
      generalize quotedLoop k { fs.buf with cursor := fs.buf.cursor + 1 } fs.delim (fs.buf.cursor + 1) (fs.buf.cursor + 1) 0 = o at hq
      cases o with
      | panic w => exact hq.panic_of
      | ok x =>
        exact Post.ok ⟨Nat.le_refl _, fun kf ht hne => ⟨(hq.post _ rfl).1.2 kf (ht.of_ne hne nofun), fun hfl hf => by
          rw [show x.2.2.1 = some .fail from hf] at hfl; cases hfl⟩⟩ (hq.post _ rfl).2
    · exact nextUnquoted_post k fs hwf
  · exact Post.panic _ (by decide)

theorem Fields_next_post (k : Nat) (fs : Fields) (hwf : FWF fs) : FPost k fs (fs.next k) := by
  rw [Fields_next_eq]
  obtain ⟨ml, mc, _, _⟩ := more_later fs.buf hwf.2
  have hq : fs.fieldStart ≤ fs.buf.more.1.cursor := mc ▸ hwf.1
  split
  · exact Post.ok ⟨hwf.1, fun _ ht _ => ⟨ht, nofun⟩⟩ (Later.refl hwf.2)
  · split
    · split
      · rename_i err he
        split
        · rename_i hc
          exact Post.ok ⟨hq, fun _ ht hne => ⟨he ▸ more_tracks ht hne, fun _ hf => by cases hf; simp at hc⟩⟩ ml
        · exact Post.ok ⟨hq, fun _ ht hne => ⟨he ▸ more_tracks ht hne, nofun⟩⟩ ml
      · rename_i he
        exact (nextGo_post k { fs with buf := fs.buf.more.1 } ⟨hq, ml.wf⟩).refill hwf.2 he
    · exact nextGo_post k fs hwf

/-! ## Rows, `Reader.Next`, the whole document -/

theorem rowLoop_post (k : Nat) : ∀ (n : Nat) (fs : Fields) (acc : List (List Byte)), FWF fs →
    Post k fs.buf (·.1.buf) (fun x => x.1.fieldStart ≤ x.1.buf.cursor ∧
      ∀ kf, Tracks kf fs.buf.src fs.err → fs.err ≠ some .fail → Tracks kf x.1.buf.src x.1.err) (rowLoop k n fs acc) := by
  intro n
  induction n with
  | zero => intro fs acc _; exact Post.panic _ (by decide)
  | succ n ih =>
    intro fs acc hwf
    have hf := Fields_next_post k fs hwf
    unfold rowLoop
    cases hn : fs.next k with
    | panic w => rw [hn] at hf; exact hf.panic_of
    | ok p =>
      obtain ⟨fs1, flag⟩ := p
      have h1 := hf.post _ hn
      cases flag with
      | true =>
        exact ((ih fs1 (acc ++ [fs1.field]) (FWF.of_post h1)).imp fun _ hx =>
          ⟨hx.1, fun kf ht hne => hx.2 kf (h1.1.2 kf ht hne).1 ((h1.1.2 kf ht hne).2 rfl)⟩).mono h1.2
      | false => exact Post.ok ⟨h1.1.1, fun kf ht hne => (h1.1.2 kf ht hne).1⟩ h1.2

/-- the mirror's CRLF rule -/
def trimRow (row : List (List Byte)) : List (List Byte) :=
  match row.getLast? with
  | some last => if last.getLast? == some Csv.CR then row.dropLast ++ [last.dropLast] else row
  | none => row

theorem Reader_next_eq (fuel : Nat) (r : Reader) :
    r.next fuel =
      if r.fs.err != none then .ok (r, false) else
      match rowLoop fuel fuel { r.fs with buf := r.fs.buf.reset, field := [], fieldStart := 0, hitEOL := false } [] with
      | .panic w => .panic w
      | .ok (fs, row) =>
        if (trimRow row).isEmpty then
          .ok ({ fs := if fs.err == none then { fs with err := some .eof } else fs, row := [] }, false)
        else .ok ({ fs := fs, row := trimRow row }, true) := rfl

theorem reset_wf (fs : Fields) (hwf : FWF fs) :
    FWF { fs with buf := fs.buf.reset, field := [], fieldStart := 0, hitEOL := false } :=
  ⟨Nat.zero_le _, (reset_later fs.buf hwf.2).wf⟩

/-- `Reader.next`; third clause: when it says "no row" the sticky error is set (the caller's loop ends on it) -/
theorem Reader_next_post (k : Nat) (r : Reader) (hwf : FWF r.fs) :
    Post k r.fs.buf (fun x : Reader × Bool => x.1.fs.buf) (fun x => x.1.fs.fieldStart ≤ x.1.fs.buf.cursor ∧
      (∀ kf, Tracks kf r.fs.buf.src r.fs.err → Tracks kf x.1.fs.buf.src x.1.fs.err) ∧ (x.2 = false → x.1.fs.err ≠ none)) (r.next k) := by
  have hl := (rowLoop_post k k _ [] (reset_wf r.fs hwf)).mono (reset_later r.fs.buf hwf.2)
  rw [Reader_next_eq]
  split
  · rename_i he
    exact Post.ok ⟨hwf.1, fun _ ht => ht, fun _ hn => by simp [show r.fs.err = none from hn] at he⟩ (Later.refl hwf.2)
  · rename_i he
    cases hr : rowLoop k k { r.fs with buf := r.fs.buf.reset, field := [], fieldStart := 0, hitEOL := false } [] with
    | panic w => rw [hr] at hl; exact hl.panic_of
    | ok p =>
      obtain ⟨fs1, row⟩ := p
      have h1 := hl.post _ hr
      have ht1 : ∀ kf, Tracks kf r.fs.buf.src r.fs.err → Tracks kf fs1.buf.src fs1.err :=
        fun kf ht => h1.1.2 kf ht fun hf => he (by rw [hf]; rfl)
      dsimp only
      split
      · split
        · rename_i hn
          exact Post.ok ⟨h1.1.1, fun kf ht => (ht1 kf ht).of_ne (by rw [eq_of_beq hn]; nofun) nofun, fun _ => nofun⟩ h1.2
        · rename_i hn
          exact Post.ok ⟨h1.1.1, ht1, fun _ he1 => hn (by rw [he1]; rfl)⟩ h1.2
      · exact Post.ok ⟨h1.1.1, ht1, nofun⟩ h1.2

/-- the whole document, with the final reader threaded out (`C15Faults.readAllLoop'`): no-fuel and the fault bookkeeping at once -/
theorem readAllLoop'_post (fuel : Nat) : ∀ (n : Nat) (r : Reader) (acc : List (List (List Byte))), FWF r.fs →
    Post fuel r.fs.buf (·.2.2.fs.buf) (fun x => ∀ kf, Tracks kf r.fs.buf.src r.fs.err → Tracks kf x.2.2.fs.buf.src x.2.1)
      (readAllLoop' fuel n r acc) := by
  intro n
  induction n with
  | zero => intro r acc _; exact Post.panic _ (by decide)
  | succ n ih =>
    intro r acc hwf
    have hf := Reader_next_post fuel r hwf
    unfold readAllLoop'
    cases hn : r.next fuel with
    | panic w => rw [hn] at hf; exact hf.panic_of
    | ok p =>
      obtain ⟨r1, flag⟩ := p
      have h1 := hf.post _ hn
      cases flag with
      | true => exact ((ih r1 _ (FWF.of_post h1)).imp fun _ hx kf ht => hx kf (h1.1.2.1 kf ht)).mono h1.2
      | false => exact Post.ok h1.1.2.1 h1.2

end QF.Props.C12CsvGen

namespace QF.Props.C12NoFuel
open Csv QF.Props.C12CsvGen

/-- **The mirror never gives up.** For every document, delimiter, initial capacity, fault position and both flags of the
underlying reader: if every scheduled read size is ≥ 1, `Csv.readAll` does not end with `panic "fuel"`. -/
theorem readAll_no_fuel (doc : List Byte) (sched : List Nat) (delim : Byte) (cap : Nat) (failAt : Option Nat) (eofWD fwd : Bool)
    (hs : ∀ k ∈ sched, 1 ≤ k) :
    Csv.readAll doc sched delim cap failAt eofWD fwd ≠ .panic "fuel" := by
  have : C15Faults.readAll' doc sched delim cap failAt eofWD fwd ≠ .panic "fuel" :=
    (readAllLoop'_post _ _ _ [] ⟨Nat.le_refl _, Nat.le_refl _, Nat.zero_le _⟩).nf hs
      (by show 2 * doc.length + (0 - 0) < 8 * doc.length + 64; omega)
  rw [← C15Faults.readAll'_agree]
  cases hr : C15Faults.readAll' doc sched delim cap failAt eofWD fwd with
  | ok x => nofun
  | panic w => exact panic_cast (hr ▸ this)

end QF.Props.C12NoFuel

namespace QF.Props.C15Faults
open Csv

/-- C15 for ReadCSV on the mirror: a run that returns (`h`; that none gives up for lack of fuel is
`C12NoFuel.readAll_no_fuel`) ends with the error `.fail` exactly when the failing `Read` call number `k` was made. -/
theorem fail_iff_reached (doc : List Byte) (sched : List Nat) (delim : Byte) (cap k : Nat) (eofWD fwd : Bool)
    (rows : List (List (List Byte))) (e : Option RErr)
    (h : readAll doc sched delim cap (some k) eofWD fwd = .ok (rows, e)) :
    e = some .fail ↔ reached doc sched delim cap k eofWD fwd := by
  obtain ⟨r, h'⟩ := readAll'_of_readAll h
  have ht : Tracks k r.fs.buf.src e :=
    ((C12CsvGen.readAllLoop'_post _ _ _ [] ⟨Nat.le_refl _, Nat.le_refl _, Nat.zero_le _⟩).post _ h').1 k
      ⟨rfl, fun hlt => absurd hlt (Nat.not_lt_zero k), nofun⟩
  constructor
  · intro he
    exact ⟨rows, e, r, h', ht.2.2 he⟩
  · rintro ⟨rows', e', r', h'', hlt⟩
    rw [h'] at h''
    cases h''
    exact ht.2.1 hlt

theorem fail_reported (doc : List Byte) (sched : List Nat) (delim : Byte) (cap k : Nat) (eofWD fwd : Bool)
    (rows : List (List (List Byte))) (e : Option RErr)
    (h : readAll doc sched delim cap (some k) eofWD fwd = .ok (rows, e))
    (hr : reached doc sched delim cap k eofWD fwd) : e = some .fail :=
  (fail_iff_reached doc sched delim cap k eofWD fwd rows e h).2 hr

theorem clean_end_not_reached (doc : List Byte) (sched : List Nat) (delim : Byte) (cap k : Nat) (eofWD fwd : Bool)
    (rows : List (List (List Byte))) (e : Option RErr)
    (h : readAll doc sched delim cap (some k) eofWD fwd = .ok (rows, e))
    (he : e = some .eof ∨ e = none) : ¬ reached doc sched delim cap k eofWD fwd := by
  intro hr
  have := fail_reported doc sched delim cap k eofWD fwd rows e h hr
  subst this
  rcases he with he | he <;> cases he

/-- Both hypotheses of `fail_reported` hold on this instance. -/
example : (some RErr.fail : Option RErr) = some .fail :=
  fail_reported _ _ _ _ _ _ _ _ _ ex_fail_run ex_fail_reached

example : ¬ reached exDoc [2, 2, 2, 2] 44 4 9 false true :=
  clean_end_not_reached _ _ _ _ _ _ _ _ _ ex_clean_run (Or.inl rfl)

#print axioms QF.Props.C12CsvGen.nextUnquoted_post
#print axioms QF.Props.C12CsvGen.quotedLoop_post
#print axioms QF.Props.C12CsvGen.Fields_next_post
#print axioms fail_reported
#print axioms clean_end_not_reached
#print axioms fail_iff_reached
end QF.Props.C15Faults
