import QF.Props.C19ReadSqlGen
import QF.Props.C19SqlWriteGen
import QF.Props.C03SortGlueGen
/-!
# C19 — ToSQL ∘ ReadSQL end to end: what today's `ToSQL` hands to a recording driver, read back by today's `ReadSQL`, is the frame

Pieces (proved elsewhere, each for the terms regenerated from today's source):

    stored frame ──(`QFrame.ToSQL`, `ColumnNames`, `Insert`, `escape`, `NewArgBuilder`, the views: `Gen.toSqlAst` …,
    C19SqlWriteGen.gen_tosql_semantics)──▶ `Exec` calls (text, arguments) ──(the recording driver: THE MODEL OF THIS FILE)──▶
    result set ──(`ReadSQL`: `Gen.readSqlAst` over `Column.Scan` / `Data`: `Gen.scanAst` …,
    C19ReadSqlGen.gen_readsql_semantics / gen_readsql_refines_spec)──▶ data map + names ──(`New(data, ColumnOrder(names...))`:
    the spec's `newS`, as in `C19ReadSqlGen.frameOf`)──▶ frame

and, at the level of the spec, `C19Sql.readback_frame` (reading back what `toSqlS` wrote is the frame, enums as strings).
This file proves the chain:

* `stored_inScope`     — every column of what `ToSQL` stores is in the scope in which `Column.Scan` refines the spec
                         (`C19Sql.inScope`: typed; NULLs only where the column's first value is text or float)
* `readSqlM_delivered` — `ReadSQL` of today's source looks at a driver value only through what it denotes
                         (`DVal.toSql`): text may arrive as `string` or as `[]uint8`, chosen cell by cell
* `gen_readsql_refines_spec_delivered` — `gen_readsql_refines_spec` for ANY table of driver values that denotes the rows
* `gen_sql_roundtrip_end_to_end` — THE STATEMENT: for every stored frame in C19's quantifier and every dialect
                         configuration, regenerated `ToSQL` against the recording driver returns nil after one `Exec` per row
                         whose text is the configured INSERT; and regenerated `ReadSQL` over the store, followed by `New`,
                         returns the frame (enum columns as strings)
* `gen_sql_roundtrip_spec_text_partial` — the text of each `Exec` is the spec's `insertText` for every escape rune that is a Unicode scalar
                         value (`gen_insert_semantics_partial`; for surrogates the spec's text is not Go's:
                         `insert_spec_differs_on_surrogate`)
* `gen_sql_roundtrip_withargs` — the same through the regenerated `ReadSQLWithArgs` glue (Prepare / Query / ReadSQL / New)

## The recording driver (stated model — `database/sql` and the driver are not regenerated)

The store is the list of the argument lists of the `Exec` calls the driver received, in order (`storeOf`). A query over it
delivers one row per stored row, in insertion order, under the column names of the INSERT, each value with the driver's
kind of what was written (`C19Sql.cellToVal`: `int` → int64, `float64` → float64 — a NaN stays the float64 NaN —, `bool` →
bool, a non-nil `*string` → text, a nil `*string` → NULL); text arrives as `string` or as `[]uint8`, as the driver likes,
cell by cell (`Delivered`). `rows.Columns()`, `rows.Err()` do not fail (the failing cases are `gen_readsql_faults`).
-/
namespace QF.Props.C19EndToEnd
open QF QF.Props.C19Sql QF.Props.C19ScanGen QF.Props.C19ReadSqlGen QF.Props.C19SqlWriteGen
set_option linter.unusedSimpArgs false
set_option linter.unusedVariables false

/-! ## What `ToSQL` stores is in the scope of `Column.Scan` -/

/-- A column of cells of one of the five types, not empty, a string / enum column not entirely null, as the driver values
the store holds: typed (`homogeneous`), and a NULL in front of the first value only in a text column. -/
theorem stored_inScope (ty : CType) (cells : List Cell) (hty : ∀ c ∈ cells, cellHasTy ty c = true) (hne : cells ≠ [])
    (hu : ty ≠ .undef) (hnn : isStrTy ty = true → ∃ c ∈ cells, c ≠ Cell.str none) :
    inScope .none (argsToVals cells) = true :=
  argsToVals_inScope (tyKind ty) cells (fun c hc => cellKind_of_hasTy (hty c hc)) hne (fun hs => hnn (tyKind_string hs))

/-! ## `ReadSQL` sees a driver value only through what it denotes -/

/-- the table `D` of driver values denotes the rows `rows`: every value is an `int64`, a `float64`, a `bool`, a `string` or a
`[]uint8` (both: text), or nil, and stands for the `SqlVal` at its place — text as `string` or as `[]uint8` CELL BY CELL -/
def Delivered (D : List (List DVal)) (rows : List (List SqlVal)) : Prop :=
  D.map (List.map DVal.toSql) = rows.map (List.map some)

/-- **`ReadSQL` does not tell `string` from `[]uint8`**: two scripted result sets whose values denote the same `SqlVal`s
(same names, same failures of `rows.Columns()` / `rows.Err()`) have the same closed form. -/
theorem readSqlM_delivered (P : RParams) (cmap : Option (List (Bytes × CoFn))) (names : List Bytes) (cf fe : Bool)
    (D D' : List (List DVal)) (h : D.map (List.map DVal.toSql) = D'.map (List.map DVal.toSql)) :
    readSqlM P cmap { names := names, columnsFail := cf, rows := D, finalErr := fe } =
      readSqlM P cmap { names := names, columnsFail := cf, rows := D', finalErr := fe } := by
  have hall := ListFacts.all_length_of_map _ _ D D' h names.length
  have hfun : (fun (j : Nat) (c : MCol) => colM P c (D.map (fun r => r[j]!))) =
      (fun (j : Nat) (c : MCol) => colM P c (D'.map (fun r => r[j]!))) := by
    funext j c
    unfold colM
    rw [foldlM_stepV, foldlM_stepV P c.2 (D'.map _), ListFacts.column_map, ListFacts.column_map _ D', h]
  cases D with
  | nil =>
    cases D' with
    | nil => rfl
    | cons _ _ => simp at h
  | cons r rs =>
    cases D' with
    | nil => simp at h
    | cons r' rs' =>
      simp only [readSqlM]
      rw [hall, hfun]

/-- a delivery of `SqlVal`s with text as `[]uint8` -/
def asBytes : SqlVal → DVal
  | .int v => .int v | .float b => .float b | .bool b => .bool b | .text s => .bytes s | .null => .null

theorem asBytes_denotes (v : SqlVal) : DVal.toSql (asBytes v) = some v := by cases v <;> rfl

/-- **`gen_readsql_refines_spec` for any delivery**: regenerated `ReadSQL` followed by `New(data, ColumnOrder(columns...))`
is the spec's `readSqlNamedS`, for every table `D` of driver values that denotes the rows (text as `string` or `[]uint8`
cell by cell), under the hypotheses of `C19ReadSqlGen.gen_readsql_refines_spec`. -/
theorem gen_readsql_refines_spec_delivered (P : RParams) (cmap : Option (List (Bytes × CoFn))) (names : List Bytes)
    (rows : List (List SqlVal)) (D : List (List DVal)) (hD : Delivered D rows) (hn : names ≠ [])
    (harity : ∀ r ∈ rows, r.length = names.length)
    (hscope : ∀ j, j < names.length → inScope (coerceOf cmap names[j]!) (rows.map (fun r => r[j]!)) = true) :
    ∃ r, genReadSql P cmap { names := names, rows := D } = some r ∧
      frameOf (r.map viewRes) = readSqlNamedS names (specCmap cmap) (P.cfg .none).fixed P.pfloat rows :=
  refines_spec_denoted P cmap names rows D hD hn harity hscope

/-! ## The recording driver -/

/-- the recording driver's store after a run of `ToSQL`: the argument lists of the `Exec` calls it received, in order -/
def storeOf (execs : List (Bytes × List Cell)) : List (List Cell) := execs.map (·.2)

/-- the rows a query over the store denotes: one per stored row, in insertion order, every value with the driver's kind of
what was written (`cellToVal`: int64, float64 — NaN included —, bool, text, NULL for a nil `*string`) -/
def storeRows (st : List (List Cell)) : List (List SqlVal) := st.map argsToVals

theorem storeRows_toSqlGo (cfg : SqlCfg) (f : LFrame) : storeRows (storeOf (toSqlGo cfg f)) = storedRows cfg f := by
  simp [storeRows, storeOf, toSqlGo, storedRows, toSqlS, Function.comp_def]

/-! ## C19's quantifier on stored frames -/

/-- **The frames of C19**: a stored frame (physical columns and an index, however derived) whose columns are of the five
types with cells of their type and whose index stays inside them (`FrameOK`: what every `QFrame` satisfies), with at least
one row, at least one column (a `QFrame` without columns has no rows), no string / enum column entirely null among the
selected rows, and legal, distinct column names (as `New` guarantees). NULLs can occur in string / enum columns only (cells
of an int / bool column are never null; a float NaN is handed to the driver as the float64 NaN, not as NULL). -/
structure InC19 (P : VFrame) : Prop where
  ok : FrameOK P
  rows : 1 ≤ P.index.length
  cols : P.cols ≠ []
  notAllNull : ∀ c ∈ P.cols, isStrTy c.ty = true → ∃ x ∈ c.pick P.index, x ≠ Cell.str none
  legal : (P.cols.map (·.name)).all legalName = true
  distinct : (P.cols.map (·.name)).eraseDups.length = P.cols.length

theorem wtCell_hasTy (ty : CType) (vals : List Bytes) (x : Cell) (h : wtCell ty vals x = true) : cellHasTy ty x = true := by
  cases ty <;> cases x <;> simp_all [wtCell, cellVal, cellHasTy]

/-- the logical frame of a frame of C19 is in the scope of `C19Sql.readback_frame` -/
theorem InC19.wf {P : VFrame} (h : InC19 P) : FrameWF P.logical := by
  refine ⟨h.rows, ?_⟩
  intro lc hlc
  obtain ⟨c, hc, rfl⟩ := List.mem_map.1 hlc
  have hok := h.ok c hc
  refine ⟨?_, ?_, ?_, ?_⟩
  · intro hu
    have := hok.ty
    simp only [VCol.logical] at hu
    rw [hu] at this
    simp [C03Compare.tys] at this
  · simp [VCol.logical, VCol.pick, VFrame.logical]
  · intro x hx
    simp only [VCol.logical, VCol.pick, List.mem_map] at hx
    obtain ⟨j, hj, rfl⟩ := hx
    exact wtCell_hasTy _ _ _ (hok.cells j (hok.index j hj))
  · intro hs
    obtain ⟨x, hx, hn⟩ := h.notAllNull c hc hs
    exact ⟨x, by simpa [VCol.logical] using hx, hn⟩

/-! ## The round trip -/

/-- what `ReadSQL` ∘ `New` makes of the frame: the same cells, enum columns as string columns -/
def readBack (P : VFrame) : LFrame := { cols := P.logical.cols.map readCol, n := P.index.length }

theorem fixed_id (R : RParams) (h : R.precision = 0) : (R.cfg .none).fixed = id := by
  funext b
  simp [Cfg.fixed, RParams.cfg, h]

/-- **ToSQL ∘ ReadSQL, everything regenerated, end to end.** For EVERY stored frame of C19's quantifier (`InC19`: ≥ 1 row,
≥ 1 column, columns of the five types, any index, string / enum columns not entirely null, however the frame was derived)
and EVERY dialect configuration (escape rune — 0, `"`, a backtick, anything —, `?` or `$1 … $n`, table name):

1. today's `ToSQL` (with today's `ColumnNames`, `Insert`, `escape`, `NewArgBuilder` and views) against a recording driver
   that does not fail returns nil after exactly one `Exec` per row of the frame;
2. the text of every statement is the configured INSERT: `INSERT INTO <table> (<names>) VALUES (<markers>);`
   (`insertTextGo`: identifiers wrapped in the escape rune as Go's `WriteRune` writes it);
3. for every delivery `D` of the store by a query — the rows in insertion order, under the names of the INSERT, int64 /
   float64 / bool by value, text as `string` or `[]uint8` cell by cell, NULL for a nil `*string` — today's `ReadSQL` (no
   coercion, no precision; over today's `Column.Scan` and `Data`) returns data and names of which
   `New(data, ColumnOrder(names...))` is THE FRAME: the same names in the same order, the same number of rows, every cell
   identical (floats bit for bit, NaN payloads included; null strings null), enum columns as string columns. -/
theorem gen_sql_roundtrip_end_to_end (P : VFrame) (hP : InC19 P) (cfg : SqlCfg) (R : RParams) (hprec : R.precision = 0)
    (D : List (List DVal)) :
    ∃ execs, genToSQLToday P false cfg (fun _ => false) = some (execs, .nil) ∧
      execs.length = P.index.length ∧
      (∀ e ∈ execs, e.1 = insertTextGo cfg (P.cols.map (·.name))) ∧
      (Delivered D (storeRows (storeOf execs)) →
        ∃ r, genReadSql R none { names := P.cols.map (·.name), rows := D } = some r ∧
          frameOf (r.map viewRes) = .ok (readBack P)) := by
  have hwf := hP.wf
  have hnames := logical_names P
  refine ⟨toSqlGo cfg P.logical, ?_, ?_, ?_, ?_⟩
  · rw [gen_tosql_semantics P hP.ok]
    simp [expected, cutWrites_nofail _ (fun _ => rfl)]
  · simp [toSqlGo, VFrame.logical]
  · intro e he
    simp only [toSqlGo, List.mem_map] at he
    obtain ⟨i, _, rfl⟩ := he
    rw [hnames]
  · intro hD
    rw [storeRows_toSqlGo] at hD
    have hlen : P.logical.cols.length = P.cols.length := by simp [VFrame.logical]
    have hn : P.cols.map (·.name) ≠ [] := by
      intro h0
      exact hP.cols (List.map_eq_nil_iff.1 h0)
    have harity : ∀ r ∈ storedRows cfg P.logical, r.length = (P.cols.map (·.name)).length := by
      intro r hr
      simp only [storedRows, toSqlS, List.map_map, List.mem_map, Function.comp_def] at hr
      obtain ⟨i, _, rfl⟩ := hr
      simp [argsToVals, LFrame.row, VFrame.logical]
    have hscope : ∀ j, j < (P.cols.map (·.name)).length →
        inScope (coerceOf none (P.cols.map (·.name))[j]!) ((storedRows cfg P.logical).map (fun r => r[j]!)) = true := by
      intro j hj
      have hj' : j < P.logical.cols.length := by rw [hlen]; simpa using hj
      obtain ⟨hu, hsz, hty, hnn⟩ := hwf.2 P.logical.cols[j] (List.getElem_mem hj')
      have hcol := resultColumn_stored cfg P.logical j hj' hsz
      unfold resultColumn at hcol
      rw [hcol]
      exact stored_inScope _ _ hty (cells_ne_nil hsz hwf.1) hu hnn
    obtain ⟨r, hr, hf⟩ := gen_readsql_refines_spec_delivered R none (P.cols.map (·.name)) (storedRows cfg P.logical) D hD hn
      harity hscope
    refine ⟨r, hr, ?_⟩
    rw [hf, fixed_id R hprec]
    have hrb := readback_frame cfg P.logical hwf R.pfloat (by rw [hnames]; exact hP.legal)
      (by rw [hnames]; simpa using hP.distinct)
    unfold readSqlNamedS
    rw [storedRows_isEmpty cfg hwf]
    simp only [Bool.false_eq_true, if_false, specCmap, Option.getD_none, List.map_nil, List.any_nil, List.find?_nil,
      Option.map_none, Option.getD_none]
    rw [← hnames]
    have hrep : P.logical.names.map (fun _ => (0 : Nat)) = List.replicate P.logical.cols.length 0 := by
      simp only [LFrame.names, List.map_map]
      exact List.map_const'
    rw [hrep, hrb]
    rfl

/-- FULL STATEMENT (not provable: `insert_spec_differs_on_surrogate`): the same with the SPEC's statement text `insertText`
for every escape rune.
PROVED: … **with the spec's `toSqlS` / `insertText`** for every escape rune that is a Unicode scalar value (0 = no escaping
included). EXCLUDED: the surrogates U+D800..U+DFFF and values above U+10FFFF, where the spec writes the generalized UTF-8
encoding of the rune and Go's `WriteRune` writes U+FFFD. -/
theorem gen_sql_roundtrip_spec_text_partial (P : VFrame) (hP : InC19 P) (cfg : SqlCfg) (hr : validRune cfg.escape = true) :
    genToSQLToday P false cfg (fun _ => false) = some (toSqlS cfg P.logical, .nil) ∧
    (∀ e ∈ toSqlS cfg P.logical, e.1 = insertText cfg (P.cols.map (·.name))) ∧
    storeRows (storeOf (toSqlS cfg P.logical)) = storedRows cfg P.logical := by
  refine ⟨gen_tosql_all P hP.ok cfg hr, ?_, ?_⟩
  · intro e he
    simp only [toSqlS, List.mem_map] at he
    obtain ⟨i, _, rfl⟩ := he
    rw [logical_names]
  · rw [← toSqlGo_eq cfg hr, storeRows_toSqlGo]

/-! ## … through `ReadSQLWithArgs` -/

section WithArgs
open QF.SG QF.Props.C03SortGlueGen
variable {α χ : Type}

/-- **The round trip through the regenerated `ReadSQLWithArgs`** (`Gen.readSqlArgsAst`: configuration → `Prepare(conf.Query)`
→ `defer Close` → `Query(queryArgs...)` → `qfsqlio.ReadSQL` → `New(data, ColumnOrder(columns...))`): with a database whose
`Prepare` succeeds and whose `Query` delivers the store `ToSQL` filled (`D`), and `qfsqlio.ReadSQL` = today's `ReadSQL`, the
statement is closed and the frame returned is `New(d, ColumnOrder(cols...))` of data and names that ARE the frame
(`frameOf` = `New` as the spec has it). -/
theorem gen_sql_roundtrip_withargs (P : VFrame) (hP : InC19 P) (cfg : SqlCfg) (R : RParams) (hprec : R.precision = 0)
    (D : List (List DVal)) (hD : Delivered D (storeRows (storeOf (toSqlGo cfg P.logical))))
    (E : REnv α (List (List DVal)) (List (Bytes × SRData)) χ) (args : List α)
    (hprep : E.prepare (E.queryText E.cfg) = true) (hquery : E.query (E.queryText E.cfg) args = some D)
    (hread : ∀ rows c, E.readSql rows c = (genReadSql R none { names := P.cols.map (·.name), rows := rows }).bind id) :
    ∃ d cols, genReadSqlArgs E args =
        some { frame := E.new d (some cols), prepared := some (E.queryText E.cfg), closed := true } ∧
      frameOf (some (viewRes (d, cols))) = .ok (readBack P) := by
  obtain ⟨execs, h1, _, _, h4⟩ := gen_sql_roundtrip_end_to_end P hP cfg R hprec D
  have he : execs = toSqlGo cfg P.logical := by
    rw [gen_tosql_semantics P hP.ok] at h1
    simp [expected, cutWrites_nofail _ (fun _ => rfl)] at h1
    exact h1.symm
  subst he
  obtain ⟨r, hr, hf⟩ := h4 hD
  cases r with
  | none => simp [frameOf] at hf
  | some x =>
    obtain ⟨d, cols⟩ := x
    refine ⟨d, cols, ?_, hf⟩
    rw [gen_readsqlargs_semantics]
    simp [specReadSqlArgs, hprep, hquery, hread, hr]

end WithArgs

/-! ## Examples: concrete inputs meet the hypotheses -/

/-- a derived frame: four physical rows, the index picks rows 3, 0, 2 (in that order); an int, a float (with a NaN), a
string (with a null in front of the first value), an enum (with a null) and a bool column -/
def exP : VFrame :=
  { cols := [{ name := [105], ty := .int, data := #[.int 10, .int 11, .int (-12), .int 13] },
             { name := [102], ty := .float, data := #[.float 0x3ff0000000000000, .float 0, .float F64.canonNaN, .float 0x7ff8000000000002] },
             { name := [115], ty := .string, data := #[.str (some [120]), .str (some []), .str (some [121, 34]), .str none] },
             { name := [101], ty := .enum, vals := [[97], [98]], data := #[.str (some [98]), .str none, .str none, .str (some [97])] },
             { name := [98], ty := .bool, data := #[.bool true, .bool false, .bool false, .bool true] }],
    index := [3, 0, 2] }

theorem exP_ok : FrameOK exP := by
  intro c hc
  have hcells : ∀ j, j < 4 → j = 0 ∨ j = 1 ∨ j = 2 ∨ j = 3 := by omega
  simp only [exP, List.mem_cons, List.not_mem_nil, or_false] at hc
  rcases hc with rfl | rfl | rfl | rfl | rfl <;>
    exact ⟨by decide, fun j hj => by rcases hcells j hj with rfl | rfl | rfl | rfl <;> decide, by decide⟩

theorem exP_inC19 : InC19 exP := by
  refine ⟨exP_ok, by decide, by decide, ?_, by decide, by decide⟩
  intro c hc hs
  simp only [exP, List.mem_cons, List.not_mem_nil, or_false] at hc
  rcases hc with rfl | rfl | rfl | rfl | rfl
  · simp [isStrTy] at hs
  · simp [isStrTy] at hs
  · exact ⟨.str (some [120]), by decide, by decide⟩
  · exact ⟨.str (some [97]), by decide, by decide⟩
  · simp [isStrTy] at hs

/-- PostgreSQL style: `"` around identifiers, `$1 … $n` -/
def exCfg : SqlCfg := { escape := 34, incrementing := true, table := [116] }

def exR : RParams := { precision := 0, fixedFn := fun _ b => b, pfloat := fun _ => none }

/-- what the driver delivers for the store of `exP`: the string column as `[]uint8` in one row and `string` in another, the
enum column the other way round -/
def exD : List (List DVal) :=
  [[.int 13, .float 0x7ff8000000000002, .null, .bytes [97], .bool true],
   [.int 10, .float 0x3ff0000000000000, .str [120], .str [98], .bool true],
   [.int (-12), .float F64.canonNaN, .bytes [121, 34], .null, .bool false]]

/-- `exD` is a delivery of what `ToSQL` stores for `exP` -/
theorem exD_delivered : Delivered exD (storeRows (storeOf (toSqlGo exCfg exP.logical))) := by unfold Delivered; decide

/-- the theorem on the example: three `Exec`s `INSERT INTO "t" ("i","f","s","e","b") VALUES ($1,$2,$3,$4,$5);`, and reading
the store back gives the three logical rows, `e` as a string column -/
example : ∃ execs, genToSQLToday exP false exCfg (fun _ => false) = some (execs, .nil) ∧ execs.length = 3 ∧
    (∀ e ∈ execs, e.1 = insertTextGo exCfg [[105], [102], [115], [101], [98]]) ∧
    (Delivered exD (storeRows (storeOf execs)) →
      ∃ r, genReadSql exR none { names := [[105], [102], [115], [101], [98]], rows := exD } = some r ∧
        frameOf (r.map viewRes) = .ok (readBack exP)) :=
  gen_sql_roundtrip_end_to_end exP exP_inC19 exCfg exR rfl exD

example : insertTextGo exCfg [[105], [102], [115], [101], [98]] = strBytes "INSERT INTO \"t\" (\"i\",\"f\",\"s\",\"e\",\"b\") VALUES ($1,$2,$3,$4,$5);" ∧
    validRune exCfg.escape = true := by
  constructor <;> decide +kernel

example : (readBack exP).n = 3 ∧ (readBack exP).cols.map (fun c => (c.name, c.ty, c.vals, c.cells.toList)) =
    [([105], .int, [], [.int 13, .int 10, .int (-12)]),
     ([102], .float, [], [.float 0x7ff8000000000002, .float 0x3ff0000000000000, .float F64.canonNaN]),
     ([115], .string, [], [.str none, .str (some [120]), .str (some [121, 34])]),
     ([101], .string, [], [.str (some [97]), .str (some [98]), .str none]),
     ([98], .bool, [], [.bool true, .bool true, .bool false])] := by decide

/-- the scope lemma on the stored string column (a NULL in front of the first value) -/
example : inScope .none (argsToVals [.str none, .str (some [120]), .str (some [121, 34])]) = true :=
  stored_inScope .string _ (by decide) (by decide) (by decide) (fun _ => ⟨.str (some [120]), by decide, by decide⟩)

/-- outside C19's quantifier the round trip fails, and the spec says so: a string column that is entirely null among the
selected rows comes back as an error (a column of NULLs only has no type) -/
example : (match readSqlS [[115]] [0] id (fun _ => none)
      (storedRows exCfg { cols := [{ name := [115], ty := .string, cells := #[.str none] }], n := 1 }) with
    | .err => true | .ok _ => false) = true := by decide

#print axioms stored_inScope
#print axioms readSqlM_delivered
#print axioms gen_readsql_refines_spec_delivered
#print axioms gen_sql_roundtrip_end_to_end
#print axioms gen_sql_roundtrip_spec_text_partial
#print axioms gen_sql_roundtrip_withargs
#print axioms exP_inC19
#print axioms exD_delivered

end QF.Props.C19EndToEnd
