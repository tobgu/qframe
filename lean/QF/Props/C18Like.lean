import QF.Drv.Like
import QF.Core.ListFacts
import QF.Core.Utf8Facts
/-!
# C18 — like / ilike with % wildcards (patterns without regular-expression metacharacters)

Go: `internal/strings/match.go` (`NewMatcher`, `trimPercent`, Exact/Prefix/Suffix/Contains matchers and their CI
variants). Executable rule replayed by the driver: `QF.Drv.likeRule` (`QF/Drv/Like.lean`).

* `Matches pat s` — declarative meaning: `s = pre ++ core pat ++ suf`, `pre`/`suf` empty unless the pattern has a
  leading / trailing `%` (byte 37); `core = trimPercent`.
* `matcherKind`, `matchString`, `runMatcher` — mirror of NewMatcher's choice and of the four `Matches` methods.
* `like_correct` — `runMatcher (matcherKind pat) (trimPercent pat) s = true ↔ Matches pat s`, every `pat`, `s`;
  it rests on `isInfix_iff` about the driver's own fuel-based `isInfix`.
* `likeRule_like`, `likeRule_ilike` — the driver's rule IS the mirror (kind string and match function), cs and CI.
* `matcherKind_upper`, `ilike_correct`, `likeRule_ilike_correct` — the CI matcher (kind from the original pattern,
  `trimPercent` of the upper-cased pattern, cell upper-cased by the custom ToUpper with any buffer size) answers
  `Matches (upper pat) (upper s)`; this needs `PctStable up` (the case mapping fixes '%' and maps nothing else to
  '%'), because Go takes the flags from the original pattern and trims the upper-cased one; `notStable_counterexample`
  shows the statement is false without it.
* `decodeRune_cons` — what moves the % flags across `decodeAll` for ARBITRARY bytes (cells need not be valid UTF-8): a byte
  below 0x80 is a rune by itself, any other rune (U+FFFD included) is at least 0x80 and consumes only bytes that are; from
  `Utf8.decodeRune_high` (QF/Core/Utf8Facts.lean): what `Json.decodeRune` reads without error is the encoding of a scalar value.
-/
namespace QF.Props.C18Like
open QF QF.Drv QF.Utf8

/-! ## declarative meaning and the mirror of NewMatcher -/

/-- the pattern without its leading and trailing % (Go: TrimPrefix then TrimSuffix) -/
def core (pat : Bytes) : Bytes :=
  let p1 := if pat.head? = some 37 then pat.tail else pat
  if p1.getLast? = some 37 then p1.dropLast else p1

theorem core_eq_trimPercent (pat : Bytes) : core pat = trimPercent pat := by
  unfold trimPercent
  split
  · simp [core]
  · rename_i r h
    have : ¬ pat.head? = some 37 := by
      intro e
      cases pat with
      | nil => simp at e
      | cons b t => simp at e; subst e; exact h t rfl
    simp [core, this]

def Matches (pat s : Bytes) : Prop :=
  let fs := pat.head? = some 37
  let fe := pat.getLast? = some 37
  ∃ pre suf, s = pre ++ core pat ++ suf ∧ (¬fs → pre = []) ∧ (¬fe → suf = [])

inductive Kind | exact | «prefix» | suffix | contains
  deriving DecidableEq, Repr

def matcherKind (pat : Bytes) : Kind :=
  let fuzzyStart := pat.head? == some 37
  let fuzzyEnd := pat.getLast? == some 37
  if fuzzyStart && fuzzyEnd then .contains
  else if fuzzyStart then .suffix
  else if fuzzyEnd then .prefix
  else .exact

def runMatcher : Kind → Bytes → Bytes → Bool
  | .exact, m, s => s == m
  | .prefix, m, s => m.isPrefixOf s
  | .suffix, m, s => m.isSuffixOf s
  | .contains, m, s => isInfix m s

/-! ## the matchers decide the declarative meaning -/

theorem isInfix_go_iff (p : Bytes) : ∀ (fuel : Nat) (s : Bytes), s.length < fuel →
    (isInfix.go p fuel s = true ↔ ∃ pre suf, s = pre ++ p ++ suf) := by
  intro fuel
  induction fuel with
  | zero => intro s h; omega
  | succ n ih =>
    intro s h
    unfold isInfix.go
    rw [Bool.or_eq_true, List.isPrefixOf_iff_prefix]
    constructor
    · rintro (⟨t, ht⟩ | h2)
      · exact ⟨[], t, by simp [ht]⟩
      · cases s with
        | nil => simp at h2
        | cons a t =>
          simp only at h2
          obtain ⟨pre, suf, e⟩ := (ih t (by simp at h; omega)).mp h2
          exact ⟨a :: pre, suf, by simp [e]⟩
    · rintro ⟨pre, suf, e⟩
      cases pre with
      | nil => left; exact ⟨suf, by simp [e]⟩
      | cons a pre =>
        right
        subst e
        simp only [List.cons_append]
        exact (ih _ (by simp at h ⊢; omega)).mpr ⟨pre, suf, by simp⟩

theorem isInfix_iff (p s : Bytes) : isInfix p s = true ↔ ∃ pre suf, s = pre ++ p ++ suf :=
  isInfix_go_iff p _ s (Nat.lt_succ_self _)

theorem isPrefixOf_iff (p s : Bytes) : p.isPrefixOf s = true ↔ ∃ suf, s = p ++ suf := by
  rw [List.isPrefixOf_iff_prefix]; constructor <;> rintro ⟨t, h⟩ <;> exact ⟨t, h.symm⟩

theorem isSuffixOf_iff (p s : Bytes) : p.isSuffixOf s = true ↔ ∃ pre, s = pre ++ p := by
  rw [List.isSuffixOf_iff_suffix]; constructor <;> rintro ⟨t, h⟩ <;> exact ⟨t, h.symm⟩

theorem isSuffixOf_eq_rev (p s : Bytes) : p.isSuffixOf s = p.reverse.isPrefixOf s.reverse := rfl

theorem matcherKind_tt {pat : Bytes} (hs : pat.head? = some 37) (he : pat.getLast? = some 37) :
    matcherKind pat = .contains := by simp [matcherKind, hs, he]
theorem matcherKind_tf {pat : Bytes} (hs : pat.head? = some 37) (he : ¬ pat.getLast? = some 37) :
    matcherKind pat = .suffix := by simp [matcherKind, hs, he]
theorem matcherKind_ft {pat : Bytes} (hs : ¬ pat.head? = some 37) (he : pat.getLast? = some 37) :
    matcherKind pat = .prefix := by simp [matcherKind, hs, he]
theorem matcherKind_ff {pat : Bytes} (hs : ¬ pat.head? = some 37) (he : ¬ pat.getLast? = some 37) :
    matcherKind pat = .exact := by simp [matcherKind, hs, he]

theorem like_correct (pat s : Bytes) :
    runMatcher (matcherKind pat) (trimPercent pat) s = true ↔ Matches pat s := by
  rw [← core_eq_trimPercent]
  unfold Matches
  by_cases hs : pat.head? = some 37 <;> by_cases he : pat.getLast? = some 37
  · rw [matcherKind_tt hs he]
    simp only [hs, he, runMatcher, not_true, false_implies, and_true]
    exact isInfix_iff _ _
  · rw [matcherKind_tf hs he]
    simp only [hs, he, runMatcher, not_true, not_false_eq_true, false_implies, true_implies, true_and]
    rw [isSuffixOf_iff]; constructor
    · rintro ⟨pre, h⟩; exact ⟨pre, [], by simp [h], rfl⟩
    · rintro ⟨pre, suf, h, rfl⟩; exact ⟨pre, by simpa using h⟩
  · rw [matcherKind_ft hs he]
    simp only [hs, he, runMatcher, not_true, not_false_eq_true, false_implies, true_implies, and_true]
    rw [isPrefixOf_iff]; constructor
    · rintro ⟨suf, h⟩; exact ⟨[], suf, by simp [h], rfl⟩
    · rintro ⟨pre, suf, h, rfl⟩; exact ⟨suf, by simpa using h⟩
  · rw [matcherKind_ff hs he]
    simp only [hs, he, runMatcher, not_false_eq_true, true_implies, beq_iff_eq]
    constructor
    · rintro h; exact ⟨[], [], by simp [h], rfl, rfl⟩
    · rintro ⟨pre, suf, h, rfl, rfl⟩; simpa using h

/-! ## the driver's rule is this mirror -/

def upOf (st : LState) : Char → Char := fun c =>
  match st.upper.find? (·.1 == c.toNat) with
  | some (_, u) => Char.ofNat u
  | none => c

def upperSpec (st : LState) (s : Bytes) : Bytes := U.spec (upOf st) (decodeAll s)

def hasMeta (pat : Bytes) : Bool := pat.any (fun c => metaChars.contains c)

def kindName : Kind → String
  | .exact => "Exact" | .prefix => "Prefix" | .suffix => "Suffix" | .contains => "Contains"

/-- Go: `matchString` is `trimPercent(comparatee)` for the three fuzzy matchers and `comparatee` itself for Exact. -/
def matchString (k : Kind) (p : Bytes) : Bytes := match k with | .exact => p | _ => trimPercent p

theorem trimPercent_of_exact {pat : Bytes} (h : matcherKind pat = .exact) : trimPercent pat = pat := by
  by_cases hs : pat.head? = some 37 <;> by_cases he : pat.getLast? = some 37
  · rw [matcherKind_tt hs he] at h; cases h
  · rw [matcherKind_tf hs he] at h; cases h
  · rw [matcherKind_ft hs he] at h; cases h
  · rw [← core_eq_trimPercent]; simp [core, hs, he]

theorem matchString_eq (pat : Bytes) : matchString (matcherKind pat) pat = trimPercent pat := by
  unfold matchString
  split
  · rename_i h; exact (trimPercent_of_exact h).symm
  · rfl


/-- both case settings at once: `pre`, `core0` and `norm` of `likeRule` left as they are written there -/
theorem likeRule_noMeta (st : LState) (pat : Bytes) (cs : Bool) (hm : hasMeta pat = false) :
    likeRule st pat cs =
      ((if cs then "" else "CI") ++ kindName (matcherKind pat), fun c => some (runMatcher (matcherKind pat)
          (matchString (matcherKind pat) (if cs then pat else upperSpec st pat)) ((if cs then id else upperSpec st) c))) := by
  unfold hasMeta at hm
  unfold likeRule
  simp only [hm]
  by_cases hs : pat.head? = some 37 <;> by_cases he : pat.getLast? = some 37
  · rw [matcherKind_tt hs he]
    simp [hs, he, runMatcher, matchString, kindName]
    rfl
  · rw [matcherKind_tf hs he]
    simp [hs, he, runMatcher, matchString, kindName]
    rfl
  · rw [matcherKind_ft hs he]
    simp [hs, he, runMatcher, matchString, kindName]
    rfl
  · rw [matcherKind_ff hs he]
    simp [hs, he, runMatcher, matchString, kindName]
    rfl

theorem likeRule_cs (st : LState) (pat : Bytes) (hm : hasMeta pat = false) :
    likeRule st pat true =
      (kindName (matcherKind pat), fun c => some (runMatcher (matcherKind pat) (matchString (matcherKind pat) pat) c)) := by
  rw [likeRule_noMeta st pat true hm, if_pos rfl, String.empty_append]
  rfl

theorem likeRule_ci (st : LState) (pat : Bytes) (hm : hasMeta pat = false) :
    likeRule st pat false =
      ("CI" ++ kindName (matcherKind pat), fun c => some (runMatcher (matcherKind pat)
          (matchString (matcherKind pat) (upperSpec st pat)) (upperSpec st c))) :=
  likeRule_noMeta st pat false hm

/-! ## UTF-8 and byte 37 ('%') -/

theorem char_eq_pct (c : Char) : c = '%' ↔ c.toNat = 37 := Char.toNat_inj.symm

theorem toNat_ofNat_of_valid (n : Nat) (h : n.isValidChar) : (Char.ofNat n).toNat = n := by
  unfold Char.ofNat
  simp only [h, dite_true]
  simp [Char.ofNatAux, Char.toNat]

theorem ofNat_eq_pct (n : Nat) : Char.ofNat n = '%' ↔ n = 37 := by
  constructor
  · intro h
    by_cases hv : n.isValidChar
    · have := toNat_ofNat_of_valid n hv
      rw [h] at this; exact this.symm
    · unfold Char.ofNat at h
      simp only [hv, dite_false] at h
      exact absurd h (by decide)
  · rintro rfl; rfl

theorem u8_eq37 (x : UInt8) : x = 37 ↔ x.toNat = 37 := UInt8.toNat_inj.symm

/-! ## the decoder on arbitrary bytes -/

/-- One step of the decoder on any input: a byte below 0x80 is a rune by itself; otherwise the rune (U+FFFD for an
ill-formed sequence) is at least 0x80 — overlong forms are rejected — and every byte consumed is at least 0x80. -/
theorem decodeRune_cons (b : UInt8) (rest : Bytes) :
    ∃ r mid tl, rest = mid ++ tl ∧ Json.decodeRune (b :: rest) = (r, mid.length + 1) ∧
      (b.toNat < 0x80 ∧ r = b.toNat ∧ mid = [] ∨ 0x80 ≤ r ∧ ∀ x ∈ b :: mid, 0x80 ≤ x.toNat) := by
  by_cases h1 : b.toNat < 0x80
  · exact ⟨_, [], rest, rfl, decodeRune_ascii b rest h1, .inl ⟨h1, rfl, rfl⟩⟩
  rcases decodeRune_high b rest h1 with h | ⟨v, mid, tl, e, -, -, hv, -, hx, hd⟩
  · exact ⟨_, [], rest, rfl, h, .inr ⟨by decide, by simp only [List.mem_singleton, forall_eq]; omega⟩⟩
  · exact ⟨v, mid, tl, e, e ▸ hd tl, .inr ⟨hv, hx⟩⟩

theorem go_succ (fuel : Nat) (b : UInt8) (rest : Bytes) (acc : List Char) :
    decodeAll.go (fuel + 1) (b :: rest) acc =
      decodeAll.go fuel ((b :: rest).drop (max (Json.decodeRune (b :: rest)).2 1))
        (Char.ofNat (Json.decodeRune (b :: rest)).1 :: acc) := rfl

theorem go_acc : ∀ (fuel : Nat) (s : Bytes) (acc : List Char),
    decodeAll.go fuel s acc = acc.reverse ++ decodeAll.go fuel s [] := by
  intro fuel
  induction fuel with
  | zero => intro s acc; simp [decodeAll.go]
  | succ n ih =>
    intro s acc
    cases s with
    | nil => simp [decodeAll.go]
    | cons b rest =>
      rw [go_succ, go_succ, ih _ (_ :: acc), ih _ [_]]
      simp

/-- the step in terms of code points: the first rune is '%' iff the first byte is 37, and so is the last byte consumed -/
theorem go_cons (b : UInt8) (rest : Bytes) :
    ∃ c mid tl, rest = mid ++ tl ∧
      (∀ fuel, decodeAll.go (fuel + 1) (b :: rest) [] = c :: decodeAll.go fuel tl []) ∧
      (c = '%' ↔ b = 37) ∧ ((b :: mid).getLast? = some 37 ↔ b = 37) := by
  obtain ⟨r, mid, tl, e, hd, h⟩ := decodeRune_cons b rest
  refine ⟨Char.ofNat r, mid, tl, e, fun fuel => ?_, ?_, ?_⟩
  · rw [go_succ, go_acc, hd, e, Nat.max_eq_left (Nat.succ_pos _), List.drop_succ_cons, List.drop_left]; rfl
  · rw [ofNat_eq_pct, u8_eq37]
    rcases h with ⟨-, rfl, -⟩ | ⟨hr, hb⟩
    · rfl
    · have := hb b (List.mem_cons_self ..); omega
  · rw [u8_eq37]
    rcases h with ⟨-, -, rfl⟩ | ⟨-, hb⟩
    · rw [List.getLast?_singleton, Option.some.injEq, u8_eq37]
    · have h0 := hb b (List.mem_cons_self ..)
      refine ⟨fun hl => ?_, fun hl => by omega⟩
      have := hb 37 (List.mem_of_mem_getLast? hl)
      exact absurd this (by decide)

theorem getLast?_append_ne {α} (l : List α) {l' : List α} (h : l' ≠ []) : (l ++ l').getLast? = l'.getLast? := by
  rw [List.getLast?_append, List.getLast?_eq_some_getLast h]; rfl

theorem go_props : ∀ (fuel : Nat) (s : Bytes), s.length < fuel →
    ((decodeAll.go fuel s [] = [] ↔ s = []) ∧
     ((decodeAll.go fuel s []).head? = some '%' ↔ s.head? = some 37) ∧
     ((decodeAll.go fuel s []).getLast? = some '%' ↔ s.getLast? = some 37)) := by
  intro fuel
  induction fuel with
  | zero => intro s h; omega
  | succ n ih =>
    intro s hlen
    cases s with
    | nil => simp [decodeAll.go]
    | cons b rest =>
      obtain ⟨c, mid, tl, e, hs, hc, hl⟩ := go_cons b rest
      rw [hs]
      subst e
      obtain ⟨i1, -, i3⟩ := ih tl (by simp at hlen; omega)
      refine ⟨by simp, by simp [hc], ?_⟩
      rw [← List.cons_append]
      by_cases htl : tl = []
      · subst htl
        rw [i1.mpr rfl, List.append_nil, hl, List.getLast?_singleton, Option.some.injEq, hc]
      · rw [List.getLast?_cons_of_ne_nil (fun h => htl (i1.mp h)), getLast?_append_ne _ htl]
        exact i3

/-! ## upper-casing and the % flags -/

theorem decodeAll_nil_iff (s : Bytes) : decodeAll s = [] ↔ s = [] :=
  (go_props _ s (Nat.lt_succ_self _)).1

theorem decodeAll_head (s : Bytes) : (decodeAll s).head? = some '%' ↔ s.head? = some 37 :=
  (go_props _ s (Nat.lt_succ_self _)).2.1

theorem decodeAll_last (s : Bytes) : (decodeAll s).getLast? = some '%' ↔ s.getLast? = some 37 :=
  (go_props _ s (Nat.lt_succ_self _)).2.2

/-- The case mapping fixes '%' and maps nothing else to '%'. Needed to move the test "pattern starts / ends with %"
    across upper-casing: Go computes `fuzzyStart/fuzzyEnd` on the ORIGINAL pattern but trims the UPPER-CASED one.
    (Unicode's ToUpper satisfies it; the driver's table `st.upper` is an arbitrary oracle, hence the hypothesis.) -/
def PctStable (up : Char → Char) : Prop := ∀ c, up c = '%' ↔ c = '%'

def upper (up : Char → Char) (s : Bytes) : Bytes := U.spec up (decodeAll s)

theorem upperSpec_eq (st : LState) (s : Bytes) : upperSpec st s = upper (upOf st) s := rfl

theorem upper_head {up : Char → Char} (hup : PctStable up) (s : Bytes) :
    (upper up s).head? = some 37 ↔ s.head? = some 37 := by
  show (((decodeAll s).map up).flatMap String.utf8EncodeChar).head? = _ ↔ _
  rw [ListFacts.utf8_head_iff _ '%' 37 rfl (by decide), List.head?_map, ← decodeAll_head s]
  cases (decodeAll s).head? with
  | none => simp
  | some c => simp [hup c]

theorem upper_last {up : Char → Char} (hup : PctStable up) (s : Bytes) :
    (upper up s).getLast? = some 37 ↔ s.getLast? = some 37 := by
  show (((decodeAll s).map up).flatMap String.utf8EncodeChar).getLast? = _ ↔ _
  rw [ListFacts.utf8_last_iff _ '%' 37 rfl (by decide), List.getLast?_map, ← decodeAll_last s]
  cases (decodeAll s).getLast? with
  | none => simp
  | some c => simp [hup c]

theorem matcherKind_congr {p q : Bytes} (h1 : p.head? = some 37 ↔ q.head? = some 37)
    (h2 : p.getLast? = some 37 ↔ q.getLast? = some 37) : matcherKind p = matcherKind q := by
  simp only [matcherKind, ListFacts.beq_congr h1, ListFacts.beq_congr h2]

theorem matcherKind_upper {up : Char → Char} (hup : PctStable up) (pat : Bytes) :
    matcherKind (upper up pat) = matcherKind pat :=
  matcherKind_congr (upper_head hup pat) (upper_last hup pat)

/-- Mirror of the case-insensitive Go matcher: kind chosen on the original pattern, `matchString` computed from the
    upper-cased pattern (strings.ToUpper = the specification), the cell upper-cased by the custom `ToUpper`
    (`U.toUpper`, buffer of `bufLen` bytes). -/
def ciMatch (up : Char → Char) (bufLen : Nat) (pat c : Bytes) : Bool :=
  runMatcher (matcherKind pat) (matchString (matcherKind pat) (upper up pat)) (U.toUpper up bufLen (decodeAll c))

theorem ciMatch_eq {up : Char → Char} (hup : PctStable up) (bufLen : Nat) (pat c : Bytes) :
    ciMatch up bufLen pat c = runMatcher (matcherKind (upper up pat)) (trimPercent (upper up pat)) (upper up c) := by
  unfold ciMatch
  rw [U.toUpper_spec', ← matcherKind_upper hup pat, matchString_eq]
  rfl

theorem ilike_correct {up : Char → Char} (hup : PctStable up) (bufLen : Nat) (pat s : Bytes) :
    ciMatch up bufLen pat s = true ↔ Matches (upper up pat) (upper up s) := by
  rw [ciMatch_eq hup, like_correct]

theorem likeRule_like (st : LState) (pat c : Bytes) (hm : hasMeta pat = false) :
    (likeRule st pat true).1 = kindName (matcherKind pat) ∧
    (likeRule st pat true).2 c = some (runMatcher (matcherKind pat) (trimPercent pat) c) := by
  rw [likeRule_cs st pat hm, matchString_eq]
  exact ⟨rfl, rfl⟩

theorem likeRule_like_correct (st : LState) (pat c : Bytes) (hm : hasMeta pat = false) :
    (likeRule st pat true).2 c = some true ↔ Matches pat c := by
  rw [(likeRule_like st pat c hm).2, ← like_correct]
  simp

theorem likeRule_ilike (st : LState) (bufLen : Nat) (pat c : Bytes) (hm : hasMeta pat = false) :
    (likeRule st pat false).1 = "CI" ++ kindName (matcherKind pat) ∧
    (likeRule st pat false).2 c = some (ciMatch (upOf st) bufLen pat c) := by
  rw [likeRule_ci st pat hm]
  refine ⟨rfl, ?_⟩
  unfold ciMatch
  rw [U.toUpper_spec']
  rfl

theorem likeRule_ilike_trim (st : LState) (pat c : Bytes) (hm : hasMeta pat = false) (hup : PctStable (upOf st)) :
    (likeRule st pat false).2 c =
      some (runMatcher (matcherKind (upperSpec st pat)) (trimPercent (upperSpec st pat)) (upperSpec st c)) := by
  rw [(likeRule_ilike st 10 pat c hm).2, ciMatch_eq hup]
  rfl

theorem likeRule_ilike_correct (st : LState) (pat c : Bytes) (hm : hasMeta pat = false) (hup : PctStable (upOf st)) :
    (likeRule st pat false).2 c = some true ↔ Matches (upperSpec st pat) (upperSpec st c) := by
  rw [likeRule_ilike_trim st pat c hm hup, ← like_correct]
  simp

/-! ## examples -/

/-- "%" matches everything -/
example (s : Bytes) : Matches [37] s := ⟨s, [], by simp [core], by simp, by simp⟩
example (s : Bytes) : runMatcher (matcherKind [37]) (trimPercent [37]) s = true := (like_correct _ _).mpr ⟨s, [], by simp [core], by simp, by simp⟩
/-- "%%" also matches everything (core "") -/
example (s : Bytes) : Matches [37, 37] s := ⟨s, [], by simp [core], by simp, by simp⟩
/-- "" matches only "" -/
example (s : Bytes) : Matches [] s ↔ s = [] := by simp [Matches, core]
/-- "a%b": the inner % is literal, the match is equality with the three bytes -/
example (s : Bytes) : Matches [97, 37, 98] s ↔ s = [97, 37, 98] := by simp [Matches, core]
example : matcherKind [97, 37, 98] = .exact ∧ trimPercent [97, 37, 98] = [97, 37, 98] := by decide

-- "%ab" (suffix), "ab%" (prefix), "%ab%" (contains) on a few strings; x = 120
example : matcherKind [37, 97, 98] = .suffix ∧ trimPercent [37, 97, 98] = [97, 98] := by decide
example : runMatcher (matcherKind [37, 97, 98]) (trimPercent [37, 97, 98]) [120, 97, 98] = true := by decide
example : runMatcher (matcherKind [37, 97, 98]) (trimPercent [37, 97, 98]) [97, 98] = true := by decide
example : runMatcher (matcherKind [37, 97, 98]) (trimPercent [37, 97, 98]) [97, 98, 120] = false := by decide
example : runMatcher (matcherKind [37, 97, 98]) (trimPercent [37, 97, 98]) [120, 65, 98] = false := by decide
example : matcherKind [97, 98, 37] = .prefix ∧ trimPercent [97, 98, 37] = [97, 98] := by decide
example : runMatcher (matcherKind [97, 98, 37]) (trimPercent [97, 98, 37]) [97, 98, 120] = true := by decide
example : runMatcher (matcherKind [97, 98, 37]) (trimPercent [97, 98, 37]) [120, 97, 98] = false := by decide
example : runMatcher (matcherKind [97, 98, 37]) (trimPercent [97, 98, 37]) [97] = false := by decide
example : matcherKind [37, 97, 98, 37] = .contains ∧ trimPercent [37, 97, 98, 37] = [97, 98] := by decide
example : runMatcher (matcherKind [37, 97, 98, 37]) (trimPercent [37, 97, 98, 37]) [120, 97, 98, 120] = true := by decide
example : runMatcher (matcherKind [37, 97, 98, 37]) (trimPercent [37, 97, 98, 37]) [97, 98] = true := by decide
example : runMatcher (matcherKind [37, 97, 98, 37]) (trimPercent [37, 97, 98, 37]) [97, 120, 98] = false := by decide
example : runMatcher (matcherKind [37, 97, 98, 37]) (trimPercent [37, 97, 98, 37]) [] = false := by decide
/-- hence, by `like_correct`, the declarative statement -/
example : Matches [37, 97, 98, 37] [120, 97, 98, 120] := (like_correct _ _).mp (by decide)
example : ¬ Matches [37, 97, 98] [97, 98, 120] := fun h => absurd ((like_correct _ _).mpr h) (by decide)

/-- The hypotheses are satisfiable: an ASCII upper-casing table a→A, b→B is `PctStable`, the pattern "%ab" has no
    metacharacters, and the driver's rule for ilike accepts the cell "xAb". -/
def stAB : LState := { upper := [(97, 65), (98, 66)] }

example : hasMeta [37, 97, 98] = false := by decide +kernel

theorem stAB_stable : PctStable (upOf stAB) := by
  intro c
  rw [char_eq_pct, char_eq_pct]
  unfold upOf stAB
  simp only [List.find?]
  by_cases h1 : c.toNat = 97
  · simp [h1]
  · by_cases h2 : c.toNat = 98
    · simp [h2]
    · have e1 : (97 == c.toNat) = false := by simp; omega
      have e2 : (98 == c.toNat) = false := by simp; omega
      simp [e1, e2]

example : (likeRule stAB [37, 97, 98] false).2 [120, 65, 98] = some true := by decide +kernel
example : Matches (upperSpec stAB [37, 97, 98]) (upperSpec stAB [120, 65, 98]) :=
  (likeRule_ilike_correct stAB _ _ (by decide +kernel) stAB_stable).mp (by decide +kernel)


/-- Without `PctStable` the CI statement is false: if the case mapping sends 'x' to '%', the pattern "xab" gets the
    Exact matcher with matchString "%ab" and rejects "zab", whereas `Matches "%ab" "zab"` holds. -/
def upBad : Char → Char := fun c => if c = 'x' then '%' else c

theorem notStable_counterexample :
    ¬ (ciMatch upBad 10 [120, 97, 98] [122, 97, 98] = true ↔
        Matches (upper upBad [120, 97, 98]) (upper upBad [122, 97, 98])) := by
  rw [← like_correct]
  decide +kernel

#print axioms like_correct
#print axioms isInfix_iff
#print axioms likeRule_like
#print axioms likeRule_like_correct
#print axioms likeRule_ilike
#print axioms likeRule_ilike_trim
#print axioms likeRule_ilike_correct
#print axioms ilike_correct
#print axioms matcherKind_upper
#print axioms notStable_counterexample
#print axioms stAB_stable

end QF.Props.C18Like
