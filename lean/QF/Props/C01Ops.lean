import QF.Core.Heap
/-!
# C01 (operations) — every frame-deriving operation writes only to storage it allocated

`QF.Core.Heap` gives the store model (`H.Store`, `H.Prog`, `H.Prog.OwnWrites`) and the two
theorems `H.frame_condition` / `H.history_persistent`.  It only shows `sortProg`.  This file
writes the storage behaviour of the remaining qframe operations as `H.Prog`s, following the Go
code, and proves that each one obeys the discipline for **every** `base`:

| program            | Go code followed                                                          |
|--------------------|---------------------------------------------------------------------------|
| `filterProg`       | `QFrame.filter` (qframe.go), column `Filter` kernels, `index.Int.Filter`  |
| `sliceProg`        | `QFrame.Slice`                                                            |
| `setColumnProg`    | `QFrame.setColumn`                                                        |
| `copyProg`         | `QFrame.Copy`                                                             |
| `apply1Prog`       | `QFrame.apply1`, `Column.Apply1` (internal/*column/column_gen.go)          |
| `distinctProg`     | `QFrame.Distinct`, `grouper.Distinct`, `groupIndex`, `insertEntry`, `grow`|
| `groupByProg`      | `QFrame.GroupBy`, `grouper.GroupBy`, `groupIndex`, `insertEntry`, `grow`  |
| `aggregateProg`    | `Grouper.Aggregate` (grouper.go), `Column.Aggregate`, `subsetWithBuf`     |

Values are abstract: every array is a `List Nat`; what the kernels / hash functions / user
functions compute is an arbitrary parameter.  Slice *headers* (pointer, offset, length) are values
(`View`), slice *backing arrays* are store arrays.  The columns array of a frame is a store array
holding the ids of the column data arrays.

What is proved is a statement about the *shape* of each program (what it reads, allocates and
writes), for all values of the abstract parameters.

The programs are written by hand from the Go code; no theorem relates them to the source text.
The statement of C01 about the code regenerated from the source is
`QF.Props.C01GenOps.gen_any_history_persistent`, on the same store type; it takes `Op` / `op_own_writes`
from this file for `C01GenOps.AnyOp.hand`.

Main results: `filter_own_writes`, `slice_own_writes`, `setColumn_own_writes`, `copy_own_writes`,
`apply1_own_writes`, `distinct_own_writes`, `groupBy_own_writes`, `aggregate_own_writes`,
`op_own_writes`, `any_history_persistent`, and the negative example `filterProgBug_not_own_writes`
/ `filterProgBug_changes_earlier_array`.
-/
namespace QF.Props.C01
open H

/-! ## Descriptors (values, not storage) -/

/-- a Go slice header of an index: backing array, offset, length -/
structure View where
  ix : Id
  off : Nat
  len : Nat
deriving Repr, DecidableEq

/-- the part of the backing array a view denotes -/
def View.window (v : View) (a : Arr) : Arr := (a.drop v.off).take v.len

/-- a frame: index view + id of the columns array (an array of column-data ids) -/
structure Frame where
  view : View
  cols : Id
deriving Repr, DecidableEq

/-- a `Grouper`: the `[]index.Int` slice (`indices`) and the group headers it holds -/
structure Grouper where
  indices : Id
  groups : List View
deriving Repr, DecidableEq

/-! ## Program combinators and their `OwnWrites` rules -/

/-- sequencing -/
def bind {α β : Type} : Prog α → (α → Prog β) → Prog β
  | .ret a, f => f a
  | .alloc i k, f => .alloc i fun id => bind (k id) f
  | .read id k, f => .read id fun v => bind (k v) f
  | .write id v k, f => .write id v (bind k f)

theorem bind_own_writes {α β : Type} (p : Prog α) (f : α → Prog β) (base : Nat)
    (hp : p.OwnWrites base) (hf : ∀ a, (f a).OwnWrites base) : (bind p f).OwnWrites base := by
  induction p with
  | ret a => exact hf a
  | alloc i k ih => intro id hid; exact ih id (hp id hid)
  | read id k ih => intro v; exact ih v (hp v)
  | write id v k ih => exact ⟨hp.1, ih hp.2⟩

/-- the converse: sequencing cannot hide a foreign write of the first program -/
theorem bind_own_writes_left {α β : Type} (p : Prog α) (f : α → Prog β) (base : Nat)
    (h : (bind p f).OwnWrites base) : p.OwnWrites base := by
  induction p with
  | ret a => trivial
  | alloc i k ih => intro id hid; exact ih id (h id hid)
  | read id k ih => intro v; exact ih v (h v)
  | write id v k ih => exact ⟨h.1, ih h.2⟩

theorem bind_run {α β : Type} (p : Prog α) (f : α → Prog β) (s : Store) :
    (bind p f).run s =
      (((f (p.run s).1).run (p.run s).2.1).1, ((f (p.run s).1).run (p.run s).2.1).2.1,
        (p.run s).2.2 ++ ((f (p.run s).1).run (p.run s).2.1).2.2) := by
  induction p generalizing s with
  | ret a => simp [bind, Prog.run]
  | alloc i k ih => simp [bind, Prog.run, ih]
  | read id k ih => simp [bind, Prog.run, ih]
  | write id v k ih => simp [bind, Prog.run, ih]

/-- forget the result (so that programs of different result type fit in one history) -/
def void {α : Type} (p : Prog α) : Prog Unit := bind p fun _ => .ret ()

theorem void_own_writes {α : Type} (p : Prog α) (base : Nat) :
    (void p).OwnWrites base ↔ p.OwnWrites base :=
  ⟨bind_own_writes_left p _ base, fun h => bind_own_writes p _ base h fun _ => trivial⟩

/-- `void` changes neither the final store nor the trace -/
theorem void_run {α : Type} (p : Prog α) (s : Store) :
    ((void p).run s).2 = (p.run s).2 := by
  simp [void, bind_run, Prog.run]

/-- read a list of arrays -/
def readAll {α : Type} : List Id → (List Arr → Prog α) → Prog α
  | [], k => k []
  | c :: cs, k => .read c fun d => readAll cs fun ds => k (d :: ds)

theorem readAll_own {α : Type} (base : Nat) (cs : List Id) (k : List Arr → Prog α)
    (hk : ∀ ds, (k ds).OwnWrites base) : (readAll cs k).OwnWrites base := by
  induction cs generalizing k with
  | nil => exact hk []
  | cons c cs ih => intro d; exact ih _ fun ds => hk (d :: ds)

/-- read the windows of a list of views -/
def readViews {α : Type} (vs : List View) (k : List Arr → Prog α) : Prog α :=
  readAll (vs.map (·.ix)) fun as => k (List.zipWith View.window vs as)

theorem readViews_own {α : Type} (base : Nat) (vs : List View) (k : List Arr → Prog α)
    (hk : ∀ ds, (k ds).OwnWrites base) : (readViews vs k).OwnWrites base :=
  readAll_own base _ _ fun _ => hk _

/-- a `for` loop without loop-carried storage -/
def forEach {ε α : Type} (body : ε → Prog α → Prog α) : List ε → Prog α → Prog α
  | [], k => k
  | e :: es, k => body e (forEach body es k)

theorem forEach_own {ε α : Type} (base : Nat) (body : ε → Prog α → Prog α)
    (hb : ∀ e k, k.OwnWrites base → (body e k).OwnWrites base)
    (es : List ε) (k : Prog α) (hk : k.OwnWrites base) : (forEach body es k).OwnWrites base := by
  induction es with
  | nil => exact hk
  | cons e es ih => exact hb e _ ih

/-- a `for` loop carrying a state (ids of arrays that may be replaced by bigger ones) -/
def loopSt {ε σ α : Type} (step : ε → σ → (σ → Prog α) → Prog α) :
    List ε → σ → (σ → Prog α) → Prog α
  | [], st, k => k st
  | e :: es, st, k => step e st fun st' => loopSt step es st' k

theorem loopSt_own {ε σ α : Type} (base : Nat) (Inv : σ → Prop)
    (step : ε → σ → (σ → Prog α) → Prog α)
    (hstep : ∀ e st k, Inv st → (∀ st', Inv st' → (k st').OwnWrites base) →
      (step e st k).OwnWrites base)
    (es : List ε) (st : σ) (k : σ → Prog α) (hi : Inv st)
    (hk : ∀ st', Inv st' → (k st').OwnWrites base) : (loopSt step es st k).OwnWrites base := by
  induction es generalizing st with
  | nil => exact hk st hi
  | cons e es ih => exact hstep e st _ hi fun st' hi' => ih st' hi'

/-- a `for` loop that produces one fresh array per element and collects their ids -/
def collect {ε α : Type} (body : ε → (Id → Prog α) → Prog α) :
    List ε → (List Id → Prog α) → Prog α
  | [], k => k []
  | e :: es, k => body e fun r => collect body es fun rs => k (r :: rs)

theorem collect_own {ε α : Type} (base : Nat) (body : ε → (Id → Prog α) → Prog α)
    (hb : ∀ e k, (∀ id, base ≤ id → (k id).OwnWrites base) → (body e k).OwnWrites base)
    (es : List ε) (k : List Id → Prog α)
    (hk : ∀ ids, (∀ id ∈ ids, base ≤ id) → (k ids).OwnWrites base) :
    (collect body es k).OwnWrites base := by
  induction es generalizing k with
  | nil => exact hk [] (by simp)
  | cons e es ih =>
    refine hb e _ fun r hr => ih _ fun rs hrs => hk _ ?_
    intro id hid
    rcases List.mem_cons.1 hid with h | h
    · exact h ▸ hr
    · exact hrs id h

/-! ## Filter — `QFrame.filter`

`bIndex := index.NewBool(len)` is allocated; every filter clause reads its column (and its
argument column, if the argument is a column) and lets the kernel write into `bIndex`; the
"inverse not built in" branch allocates a second mask `invBIndex`, lets the kernel write that, and
merges it into `bIndex`; finally `index.Filter` allocates the result index and fills it. -/

structure FilterSpec where
  col : Id
  arg : Option Id
  /-- the `!done` branch: go through a second, freshly allocated mask -/
  viaInv : Bool
  /-- the column kernel: index, column data, argument data, current mask ↦ new mask -/
  kern : Arr → Arr → Arr → Arr → Arr
  /-- `if !x { bIndex[i] = !invBIndex[i] }` -/
  merge : Arr → Arr → Arr

def readArg {α : Type} : Option Id → (Arr → Prog α) → Prog α
  | none, k => k []
  | some a, k => .read a k

theorem readArg_own {α : Type} (base : Nat) (a : Option Id) (k : Arr → Prog α) (hk : ∀ ad, (k ad).OwnWrites base) :
    (readArg a k).OwnWrites base := by
  cases a with
  | none => exact hk []
  | some a => exact hk

def filterStep {α : Type} (ix : Arr) (m : Id) (f : FilterSpec) (k : Prog α) : Prog α :=
  .read f.col fun cd => readArg f.arg fun ad =>
    if f.viaInv then
      .alloc (List.replicate ix.length 0) fun m2 =>
        .read m2 fun cur2 => .write m2 (f.kern ix cd ad cur2) <|
        .read m fun cur => .read m2 fun inv => .write m (f.merge cur inv) k
    else
      .read m fun cur => .write m (f.kern ix cd ad cur) k

/-- `index.Int.Filter` -/
def indexFilter (ix mask : Arr) : Arr :=
  (ix.zip mask).filterMap fun p => if p.2 ≠ 0 then some p.1 else none

def filterProg (v : View) (fs : List FilterSpec) : Prog View :=
  .read v.ix fun a =>
    .alloc (List.replicate (v.window a).length 0) fun m =>
      forEach (filterStep (v.window a) m) fs <|
        .read m fun mask => .alloc [] fun r =>
          .write r (indexFilter (v.window a) mask) <|
            .ret ⟨r, 0, (indexFilter (v.window a) mask).length⟩

theorem filterStep_own {α : Type} (base : Nat) (ix : Arr) (m : Id) (hm : base ≤ m)
    (f : FilterSpec) (k : Prog α) (hk : k.OwnWrites base) :
    (filterStep ix m f k).OwnWrites base := by
  intro cd
  refine readArg_own base _ _ fun ad => ?_
  split
  · intro m2 hm2 cur2; exact ⟨hm2, fun cur inv => ⟨hm, hk⟩⟩
  · intro cur; exact ⟨hm, hk⟩

theorem filter_own_writes (v : View) (fs : List FilterSpec) :
    ∀ base, (filterProg v fs).OwnWrites base := by
  intro base a m hm
  refine forEach_own base _ (fun f k hk => filterStep_own base _ m hm f k hk) fs _ ?_
  intro mask r hr
  exact ⟨hr, trivial⟩

/-! ### the negative example: the mask is written into an existing, shared array -/

/-- like `filterProg`, but instead of allocating `bIndex` it reuses the existing array `shared`
    as the mask (clears it, lets the kernels write it) -/
def filterProgBug (v : View) (shared : Id) (fs : List FilterSpec) : Prog View :=
  .read v.ix fun a =>
    .write shared (List.replicate (v.window a).length 0) <|
      forEach (filterStep (v.window a) shared) fs <|
        .read shared fun mask => .alloc [] fun r =>
          .write r (indexFilter (v.window a) mask) <|
            .ret ⟨r, 0, (indexFilter (v.window a) mask).length⟩

/-- for every store in which `shared` already exists (`base = shared + 1 ≤ size`), the buggy
    filter is outside the discipline -/
theorem filterProgBug_not_own_writes (v : View) (shared : Id) (fs : List FilterSpec) :
    ¬ (filterProgBug v shared fs).OwnWrites (shared + 1) := by
  intro h
  have := (h []).1
  omega

/-- a clause `col > n`: the kernel sets `mask[i]` where `col[ix[i]] > n` (clauses are or-ed) -/
def gtSpec (col : Id) (n : Nat) (viaInv : Bool) : FilterSpec where
  col := col
  arg := none
  viaInv := viaInv
  kern := fun ix cd _ cur =>
    List.zipWith (fun i b => if b ≠ 0 ∨ cd.getD i 0 > n then 1 else 0) ix cur
  merge := fun cur inv => List.zipWith (fun x y => if x ≠ 0 then x else 1 - y) cur inv

def gt3 : FilterSpec := gtSpec 1 3 false

/-- store: array 0 is the index, array 1 the data of a column -/
def store0 : Store := [[0, 1, 2], [5, 2, 9]]

/-- the correct filter leaves arrays 0 and 1 alone and produces the new index `[0, 2]` -/
example : ((filterProg ⟨0, 0, 3⟩ [gt3]).run store0).2.1 = [[0, 1, 2], [5, 2, 9], [1, 0, 1], [0, 2]] := by
  decide +kernel

/-- the buggy filter, using the column's own data array as its mask, destroys the column:
    an array that existed before the operation has changed -/
theorem filterProgBug_changes_earlier_array :
    (((filterProgBug ⟨0, 0, 3⟩ 1 [gt3]).run store0).2.1).getD 1 [] ≠ store0.getD 1 [] := by
  decide +kernel

example : ((filterProgBug ⟨0, 0, 3⟩ 1 [gt3]).run store0).2.1 = [[0, 1, 2], [0, 0, 0], []] := by
  decide +kernel

/-! ## Slice — `QFrame.Slice`: `qf.withIndex(qf.index[start:end])`, no storage touched -/

def sliceProg (v : View) (start stop : Nat) : Prog View :=
  .ret ⟨v.ix, v.off + start, stop - start⟩

theorem slice_own_writes (v : View) (start stop : Nat) :
    ∀ base, (sliceProg v start stop).OwnWrites base := fun _ => trivial

/-- nothing read, allocated or written; the store is literally unchanged -/
theorem slice_run (v : View) (start stop : Nat) (s : Store) :
    (sliceProg v start stop).run s = (⟨v.ix, v.off + start, stop - start⟩, s, []) := rfl

/-! ## setColumn / Copy — new columns array, shared column data -/

/-- `newF.columns = make(..., newColCount); copy(newF.columns, qf.columns); newF.columns[pos] = newS` -/
def setColumnProg (cols : Id) (pos : Nat) (data : Id) : Prog Id :=
  .read cols fun cs =>
    .alloc (List.replicate (max cs.length (pos + 1)) 0) fun c =>
      .write c (cs ++ List.replicate (max cs.length (pos + 1) - cs.length) 0) <|
        .read c fun cur => .write c (cur.set pos data) (.ret c)

theorem setColumn_own_writes (cols : Id) (pos : Nat) (data : Id) :
    ∀ base, (setColumnProg cols pos data).OwnWrites base := by
  intro base cs c hc
  exact ⟨hc, fun cur => ⟨hc, trivial⟩⟩

/-- `Copy(dst, src)`: NOP when equal, else `setColumn(dst, <the same column data>)` -/
def copyProg (cols : Id) (src dst : Nat) : Prog Id :=
  if src = dst then .ret cols
  else .read cols fun cs => setColumnProg cols dst (cs.getD src 0)

theorem copy_own_writes (cols : Id) (src dst : Nat) :
    ∀ base, (copyProg cols src dst).OwnWrites base := by
  intro base
  unfold copyProg
  split
  · trivial
  · intro cs; exact setColumn_own_writes _ _ _ base

/-! ## apply1 — `Column.Apply1`: `result := make([]T, len(c.data)); for _, i := range ix { result[i] = fn(c.data[i]) }` -/

def scatterStep {α : Type} (fn : Nat → Nat) (d : Arr) (r : Id) (i : Nat) (k : Prog α) : Prog α :=
  .read r fun cur => .write r (cur.set i (fn (d.getD i 0))) k

def apply1Prog (v : View) (cols : Id) (src dst : Nat) (fn : Nat → Nat) : Prog Id :=
  .read v.ix fun a => .read cols fun cs => .read (cs.getD src 0) fun d =>
    .alloc (List.replicate d.length 0) fun r =>
      forEach (scatterStep fn d r) (v.window a) <| setColumnProg cols dst r

theorem apply1_own_writes (v : View) (cols : Id) (src dst : Nat) (fn : Nat → Nat) :
    ∀ base, (apply1Prog v cols src dst fn).OwnWrites base := by
  intro base a cs d r hr
  refine forEach_own base _ (fun i k hk => ?_) _ _ (setColumn_own_writes _ _ _ base)
  intro cur
  exact ⟨hr, hk⟩

/-! ## Distinct / GroupBy — `groupIndex`, `insertEntry`, `grow`

The hash table `entries` is one array.  `grow` allocates a table of twice the size and fills it;
afterwards the *new* table is the one written.  With `collectIx` an entry that receives its second
row allocates `index.Int{firstPos, i}`; later rows are `append`ed: either written into the spare
capacity of the group array the program allocated itself, or (no capacity) into a freshly allocated
bigger one.  The ids of the table and of the group arrays are loop state.  What the hash / compare
/ probe functions compute is abstract (`TableFns`). -/

inductive Probe
  | eden
  | first
  | more (gi : Nat)

structure TableFns where
  initSize : Nat → Nat
  needsGrow : Arr → Bool
  rehash : Arr → Arr
  /-- comparables' data, table, row -/
  probe : List Arr → Arr → Nat → Probe
  firstPos : List Arr → Arr → Nat → Nat
  insert : List Arr → Arr → Nat → Arr
  /-- table after recording that the entry hit by row `i` now uses group array number `gi` -/
  link : List Arr → Arr → Nat → Nat → Arr
  full : Arr → Bool
  /-- `grouper.Distinct`: the `firstPos` of the occupied entries -/
  firsts : Arr → Arr
  /-- `grouper.GroupBy`: `index.Int{e.firstPos}` for occupied entries without group array -/
  singles : Arr → List Arr
  /-- `grouper.GroupBy`: the result slice, given the collected and the singleton group arrays -/
  order : Arr → List Id → List Id → List Id

def growTable {α : Type} (fns : TableFns) (t : Id) (cur : Arr) (k : Id → Prog α) : Prog α :=
  if fns.needsGrow cur then
    .alloc (List.replicate (2 * cur.length) 0) fun t' => .write t' (fns.rehash cur) (k t')
  else k t

theorem growTable_own {α : Type} (base : Nat) (fns : TableFns) (t : Id) (cur : Arr)
    (k : Id → Prog α) (ht : base ≤ t) (hk : ∀ t', base ≤ t' → (k t').OwnWrites base) :
    (growTable fns t cur k).OwnWrites base := by
  unfold growTable
  split
  · intro t' ht'; exact ⟨ht', hk t' ht'⟩
  · exact hk t ht

/-- `e.ix = append(e.ix, i)` for the group array number `gi` -/
def appendGroup {α : Type} (fns : TableFns) (cmp : List Arr) (t : Id) (cur : Arr) (i gi : Nat)
    (gs : List Id) (k : Id × List Id → Prog α) : Prog α :=
  match gs[gi]? with
  | none => k (t, gs)
  | some g =>
    .read g fun old =>
      if fns.full old then
        .alloc (old ++ [i]) fun g' => .write t (fns.link cmp cur i gi) (k (t, gs.set gi g'))
      else
        .write g (old ++ [i]) <| .write t (fns.link cmp cur i gi) (k (t, gs))

/-- `insertEntry(i)`; state = (table id, ids of the group arrays allocated so far) -/
def groupStep {α : Type} (fns : TableFns) (cmp : List Arr) (collectIx : Bool) (i : Nat)
    (st : Id × List Id) (k : Id × List Id → Prog α) : Prog α :=
  .read st.1 fun cur0 => growTable fns st.1 cur0 fun t => .read t fun cur =>
    match fns.probe cmp cur i with
    | .eden => .write t (fns.insert cmp cur i) (k (t, st.2))
    | .first =>
      if collectIx then
        .alloc [fns.firstPos cmp cur i, i] fun g =>
          .write t (fns.link cmp cur i st.2.length) (k (t, st.2 ++ [g]))
      else k (t, st.2)
    | .more gi => if collectIx then appendGroup fns cmp t cur i gi st.2 k else k (t, st.2)

/-- loop invariant: the table and all group arrays were allocated by this program -/
def GInv (base : Nat) (st : Id × List Id) : Prop := base ≤ st.1 ∧ ∀ g ∈ st.2, base ≤ g

theorem appendGroup_own {α : Type} (base : Nat) (fns : TableFns) (cmp : List Arr) (t : Id)
    (cur : Arr) (i gi : Nat) (gs : List Id) (k : Id × List Id → Prog α)
    (hi : GInv base (t, gs)) (hk : ∀ st', GInv base st' → (k st').OwnWrites base) :
    (appendGroup fns cmp t cur i gi gs k).OwnWrites base := by
  unfold appendGroup
  split
  · exact hk _ hi
  · rename_i g hg
    have hgm : g ∈ gs := List.mem_of_getElem? hg
    intro old
    dsimp only
    split
    · intro g' hg'
      refine ⟨hi.1, hk _ ⟨hi.1, fun x hx => ?_⟩⟩
      rcases List.mem_or_eq_of_mem_set hx with h | h
      · exact hi.2 x h
      · exact h ▸ hg'
    · exact ⟨hi.2 g hgm, hi.1, hk _ hi⟩

theorem groupStep_own {α : Type} (base : Nat) (fns : TableFns) (cmp : List Arr)
    (collectIx : Bool) (i : Nat) (st : Id × List Id) (k : Id × List Id → Prog α)
    (hi : GInv base st) (hk : ∀ st', GInv base st' → (k st').OwnWrites base) :
    (groupStep fns cmp collectIx i st k).OwnWrites base := by
  intro cur0
  refine growTable_own base fns _ _ _ hi.1 fun t ht cur => ?_
  have hi' : GInv base (t, st.2) := ⟨ht, hi.2⟩
  dsimp only
  cases fns.probe cmp cur i with
  | eden => exact ⟨ht, hk _ hi'⟩
  | first =>
    cases collectIx with
    | false => exact hk _ hi'
    | true =>
      intro g hg
      refine ⟨ht, hk _ ⟨ht, fun x hx => ?_⟩⟩
      rcases List.mem_append.1 hx with h | h
      · exact hi.2 x h
      · rw [List.mem_singleton.1 h]; exact hg
  | more gi =>
    cases collectIx with
    | false => exact hk _ hi'
    | true => exact appendGroup_own base fns cmp t cur i _ _ k hi' hk

/-- `QFrame.Distinct` → `grouper.Distinct`: table, then `result := make(index.Int, 0, groupCount)` -/
def distinctProg (v : View) (cmpCols : List Id) (fns : TableFns) : Prog View :=
  .read v.ix fun a => readAll cmpCols fun cmp =>
    .alloc (List.replicate (fns.initSize (v.window a).length) 0) fun t =>
      loopSt (groupStep fns cmp false) (v.window a) (t, []) fun st =>
        .read st.1 fun tab => .alloc [] fun r =>
          .write r (fns.firsts tab) (.ret ⟨r, 0, (fns.firsts tab).length⟩)

theorem distinct_own_writes (v : View) (cmpCols : List Id) (fns : TableFns) :
    ∀ base, (distinctProg v cmpCols fns).OwnWrites base := by
  intro base a
  refine readAll_own base _ _ fun cmp t ht => ?_
  refine loopSt_own base (GInv base) _ (groupStep_own base fns cmp false) _ _ _
    ⟨ht, by simp⟩ fun st _ => ?_
  intro tab r hr
  exact ⟨hr, trivial⟩

/-- `QFrame.GroupBy` → `grouper.GroupBy`.  Without columns: `g.indices = []index.Int{qf.index}`
    (a one-element slice sharing the index).  Otherwise: table with `collectIx`, the singleton
    groups `index.Int{e.firstPos}` are allocated, the result slice is allocated and filled. -/
def groupByProg (v : View) (cmpCols : List Id) (fns : TableFns) : Prog Grouper :=
  if cmpCols = [] then .alloc [v.ix] fun res => .ret ⟨res, [v]⟩
  else
    .read v.ix fun a => readAll cmpCols fun cmp =>
      .alloc (List.replicate (fns.initSize (v.window a).length) 0) fun t =>
        loopSt (groupStep fns cmp true) (v.window a) (t, []) fun st =>
          .read st.1 fun tab =>
            collect (fun (init : Arr) k => Prog.alloc init k) (fns.singles tab) fun ss =>
              .alloc [] fun res => .write res (fns.order tab st.2 ss) <|
                readAll (fns.order tab st.2 ss) fun arrs =>
                  .ret ⟨res, List.zipWith (fun g (ga : Arr) => ⟨g, 0, ga.length⟩)
                    (fns.order tab st.2 ss) arrs⟩

theorem groupBy_own_writes (v : View) (cmpCols : List Id) (fns : TableFns) :
    ∀ base, (groupByProg v cmpCols fns).OwnWrites base := by
  intro base
  unfold groupByProg
  split
  · intro res _; trivial
  · intro a
    refine readAll_own base _ _ fun cmp t ht => ?_
    refine loopSt_own base (GInv base) _ (groupStep_own base fns cmp true) _ _ _
      ⟨ht, by simp⟩ fun st _ => ?_
    intro tab
    refine collect_own base (fun (init : Arr) k => Prog.alloc init k)
      (fun init k hk id hid => hk id hid) _ _ fun ss _ => ?_
    intro res hres
    exact ⟨hres, readAll_own base _ _ fun _ => trivial⟩

/-! ## Aggregate — `Grouper.Aggregate`

`firstElementIx` is allocated and filled; every grouped column is `Subset` into a fresh array;
every aggregation produces a fresh data array (`count`: `make([]int, len)`; otherwise
`Column.Aggregate`: `data := make(..., 0, len)`, the scratch buffer `buf` of `subsetWithBuf` is
(re)allocated when too small and overwritten for every group); a new columns array and a new
ascending index are allocated. -/

inductive AggSpec
  | count
  | fn (col : Id) (f : Arr → Nat)

/-- `col.Subset(firstElementIx)` -/
def subsetBody {α : Type} (firsts : Arr) (c : Id) (k : Id → Prog α) : Prog α :=
  .read c fun d => .alloc (List.replicate firsts.length 0) fun r =>
    .write r (firsts.map fun i => d.getD i 0) (k r)

/-- fill the buffer (if there is one) with the group's values, aggregate, append to `data` -/
def aggFin {α : Type} (d : Arr) (f : Arr → Nat) (r : Id) (g : Arr) (b : Option Id) (cap : Nat)
    (k : Option Id × Nat → Prog α) : Prog α :=
  match b with
  | none => .read r fun cur => .write r (cur ++ [f []]) (k (none, cap))
  | some b =>
    .write b (g.map fun i => d.getD i 0) <| .read b fun sub =>
      .read r fun cur => .write r (cur ++ [f sub]) (k (some b, cap))

/-- one round of the loop in `Column.Aggregate`; state = (`buf`, `cap(buf)`) -/
def aggStep {α : Type} (d : Arr) (f : Arr → Nat) (r : Id) (g : Arr) (st : Option Id × Nat)
    (k : Option Id × Nat → Prog α) : Prog α :=
  if st.2 < g.length then .alloc [] fun b => aggFin d f r g (some b) g.length k
  else aggFin d f r g st.1 st.2 k

def aggOne {α : Type} (gs : List Arr) : AggSpec → (Id → Prog α) → Prog α
  | .count, k =>
    .alloc (List.replicate gs.length 0) fun r => .write r (gs.map List.length) (k r)
  | .fn c f, k =>
    .read c fun d => .alloc [] fun r => loopSt (aggStep d f r) gs (none, 0) fun _ => k r

def aggregateProg (groups : List View) (grouped : List Id) (aggs : List AggSpec) : Prog Frame :=
  readViews groups fun gs =>
    .alloc (List.replicate gs.length 0) fun fe => .write fe (gs.map (·.headD 0)) <|
      .read fe fun firsts =>
        collect (subsetBody firsts) grouped fun newG =>
          collect (aggOne gs) aggs fun newA =>
            .alloc [] fun cols => .write cols (newG ++ newA) <|
              .alloc (List.replicate gs.length 0) fun ix => .write ix (List.range gs.length) <|
                .ret ⟨⟨ix, 0, gs.length⟩, cols⟩

/-- loop invariant: the scratch buffer, if any, was allocated by this program -/
def BInv (base : Nat) (st : Option Id × Nat) : Prop := ∀ b, st.1 = some b → base ≤ b

theorem aggFin_own {α : Type} (base : Nat) (d : Arr) (f : Arr → Nat) (r : Id) (hr : base ≤ r)
    (g : Arr) (b : Option Id) (cap : Nat) (k : Option Id × Nat → Prog α)
    (hi : BInv base (b, cap)) (hk : ∀ st', BInv base st' → (k st').OwnWrites base) :
    (aggFin d f r g b cap k).OwnWrites base := by
  unfold aggFin
  split
  · intro cur; exact ⟨hr, hk _ hi⟩
  · rename_i b
    exact ⟨hi b rfl, fun sub cur => ⟨hr, hk _ hi⟩⟩

theorem aggStep_own {α : Type} (base : Nat) (d : Arr) (f : Arr → Nat) (r : Id) (hr : base ≤ r)
    (g : Arr) (st : Option Id × Nat) (k : Option Id × Nat → Prog α)
    (hi : BInv base st) (hk : ∀ st', BInv base st' → (k st').OwnWrites base) :
    (aggStep d f r g st k).OwnWrites base := by
  unfold aggStep
  split
  · intro b hb
    refine aggFin_own base d f r hr g _ _ k (fun b' h => ?_) hk
    cases h; exact hb
  · exact aggFin_own base d f r hr g _ _ k hi hk

theorem aggOne_own {α : Type} (base : Nat) (gs : List Arr) (a : AggSpec) (k : Id → Prog α)
    (hk : ∀ id, base ≤ id → (k id).OwnWrites base) : (aggOne gs a k).OwnWrites base := by
  cases a with
  | count => intro r hr; exact ⟨hr, hk r hr⟩
  | fn c f =>
    intro d r hr
    refine loopSt_own base (BInv base) _ (fun g st k' => aggStep_own base d f r hr g st k') _ _ _
      (fun b h => by cases h) fun _ _ => hk r hr

theorem aggregate_own_writes (groups : List View) (grouped : List Id) (aggs : List AggSpec) :
    ∀ base, (aggregateProg groups grouped aggs).OwnWrites base := by
  intro base
  refine readViews_own base _ _ fun gs fe hfe => ⟨hfe, fun firsts => ?_⟩
  refine collect_own base (subsetBody firsts) (fun c k hk d r hr => ⟨hr, hk r hr⟩) _ _
    fun newG _ => ?_
  refine collect_own base (aggOne gs) (fun a k hk => aggOne_own base gs a k hk) _ _
    fun newA _ => ?_
  intro cols hcols
  exact ⟨hcols, fun ix hix => ⟨hix, trivial⟩⟩

/-! ## Sort (from `QF.Core.Heap`) -/

theorem sort_own_writes (ixId : Id) : ∀ base, (sortProg ixId).OwnWrites base := by
  intro base ix c hc v; exact ⟨hc, trivial⟩

/-! ## Histories of arbitrary operations -/

/-- descriptions of the operations -/
inductive Op
  | sort (ixId : Id)
  | filter (v : View) (fs : List FilterSpec)
  | slice (v : View) (start stop : Nat)
  | setColumn (cols : Id) (pos : Nat) (data : Id)
  | copy (cols : Id) (src dst : Nat)
  | apply1 (v : View) (cols : Id) (src dst : Nat) (fn : Nat → Nat)
  | distinct (v : View) (cmpCols : List Id) (fns : TableFns)
  | groupBy (v : View) (cmpCols : List Id) (fns : TableFns)
  | aggregate (groups : List View) (grouped : List Id) (aggs : List AggSpec)

def Op.prog : Op → Prog Unit
  | .sort ixId => void (sortProg ixId)
  | .filter v fs => void (filterProg v fs)
  | .slice v a b => void (sliceProg v a b)
  | .setColumn c p d => void (setColumnProg c p d)
  | .copy c s d => void (copyProg c s d)
  | .apply1 v c s d fn => void (apply1Prog v c s d fn)
  | .distinct v cs fns => void (distinctProg v cs fns)
  | .groupBy v cs fns => void (groupByProg v cs fns)
  | .aggregate gs gc as => void (aggregateProg gs gc as)

theorem op_own_writes : ∀ (op : Op) (base : Nat), (op.prog).OwnWrites base := by
  intro op base
  cases op with
  | sort ixId => exact (void_own_writes _ _).2 (sort_own_writes _ base)
  | filter v fs => exact (void_own_writes _ _).2 (filter_own_writes _ _ base)
  | slice v a b => exact (void_own_writes _ _).2 (slice_own_writes _ _ _ base)
  | setColumn c p d => exact (void_own_writes _ _).2 (setColumn_own_writes _ _ _ base)
  | copy c s d => exact (void_own_writes _ _).2 (copy_own_writes _ _ _ base)
  | apply1 v c s d fn => exact (void_own_writes _ _).2 (apply1_own_writes _ _ _ _ _ base)
  | distinct v cs fns => exact (void_own_writes _ _).2 (distinct_own_writes _ _ _ base)
  | groupBy v cs fns => exact (void_own_writes _ _).2 (groupBy_own_writes _ _ _ base)
  | aggregate gs gc as => exact (void_own_writes _ _).2 (aggregate_own_writes _ _ _ base)

/-- C01 for histories made of any of the operations, with any parameters, from any store:
    every array that exists at the start keeps its contents forever. -/
theorem any_history_persistent (ops : List Op) (s : Store) :
    ∀ id, id < s.length → (runAll (ops.map Op.prog) s).getD id [] = s.getD id [] :=
  history_persistent _ s (own_map op_own_writes ops)

/-- the same at every later point of the history: once an array exists (after the operations of
    `before`) it is never changed by the remaining ones -/
theorem any_history_persistent_from (before after : List Op) (s : Store) :
    ∀ id, id < (runAll (before.map Op.prog) s).length →
      (runAll ((before ++ after).map Op.prog) s).getD id [] =
        (runAll (before.map Op.prog) s).getD id [] := by
  rw [List.map_append]
  exact history_persistent_from _ _ s (own_map op_own_writes after)

/-! ## A concrete history -/

/-- a toy table: pairs `(firstPos+1, groupNo+1)`, linear scan, grows when the last pair is used -/
def toyScan (cmp : List Arr) (i : Nat) : Arr → Nat → Nat × Nat × Nat
  | fp :: gi :: rest, s =>
    if fp = 0 then (s, 0, 0)
    else if cmp.map (·.getD (fp - 1) 0) = cmp.map (·.getD i 0) then (s, fp, gi)
    else toyScan cmp i rest (s + 1)
  | _, s => (s, 0, 0)

def toyPairs : Arr → List (Nat × Nat)
  | fp :: gi :: rest => (fp, gi) :: toyPairs rest
  | _ => []

def toyOrder : List (Nat × Nat) → List Id → List Id → List Id
  | [], _, _ => []
  | (fp, gi) :: rest, gs, ss =>
    if fp = 0 then toyOrder rest gs ss
    else if gi = 0 then ss.headD 0 :: toyOrder rest gs ss.tail
    else gs.getD (gi - 1) 0 :: toyOrder rest gs ss

def toyFns : TableFns where
  initSize := fun _ => 2
  needsGrow := fun t => t.getD (t.length - 2) 0 ≠ 0
  rehash := fun t => t ++ List.replicate t.length 0
  probe := fun cmp t i =>
    match toyScan cmp i t 0 with
    | (_, 0, _) => .eden
    | (_, _, 0) => .first
    | (_, _, gi + 1) => .more gi
  firstPos := fun cmp t i => (toyScan cmp i t 0).2.1 - 1
  insert := fun cmp t i => t.set (2 * (toyScan cmp i t 0).1) (i + 1)
  link := fun cmp t i gi => t.set (2 * (toyScan cmp i t 0).1 + 1) (gi + 1)
  full := fun g => g.length % 2 = 0
  firsts := fun t => (toyPairs t).filterMap fun p => if p.1 = 0 then none else some (p.1 - 1)
  singles := fun t =>
    (toyPairs t).filterMap fun p => if p.1 ≠ 0 ∧ p.2 = 0 then some [p.1 - 1] else none
  order := fun t gs ss => toyOrder (toyPairs t) gs ss

/-- index (0), columns array (1) = [2, 3], column data (2) and (3) -/
def store1 : Store := [[0, 1, 2, 3, 4], [2, 3], [7, 8, 7, 7, 8], [10, 20, 30, 40, 50]]

def frame1 : View := ⟨0, 0, 5⟩

def history1 : List Op :=
  [ .filter frame1 [gtSpec 2 7 false, gtSpec 3 25 true],
    .slice frame1 1 4,
    .apply1 ⟨0, 1, 3⟩ 1 1 2 (· + 1),
    .copy 1 0 2,
    .distinct frame1 [2] toyFns,
    .groupBy frame1 [2] toyFns,
    .sort 0,
    .aggregate [⟨18, 0, 3⟩, ⟨19, 0, 2⟩] [2] [.count, .fn 3 List.sum] ]

#eval ((groupByProg frame1 [2] toyFns).run store1).1
#eval runAll (history1.map Op.prog) store1

/-- the history really allocates and writes (25 new arrays) … -/
example : (runAll (history1.map Op.prog) store1).length = 29 := by decide +kernel

/-- … the group-by in it grows the table twice, reallocates a group array once and computes the
    groups `{0,2,3}` and `{1,4}` of column 2 … -/
example : ((groupByProg frame1 [2] toyFns).run store1).2.1.drop 4 =
    [[1, 0], [1, 0, 2, 0], [1, 1, 2, 2, 0, 0, 0, 0], [0, 2], [0, 2, 3], [1, 4], [8, 9]] := by decide +kernel

/-- … and the four original arrays are as they were (instance of the theorem, and by evaluation) -/
example : ∀ id, id < 4 →
    (runAll (history1.map Op.prog) store1).getD id [] = store1.getD id [] :=
  any_history_persistent history1 store1

example : (runAll (history1.map Op.prog) store1).take 4 = store1 := by decide +kernel

/-- replacing the filter by the buggy one breaks persistence of array 2 (a column) on the same store -/
example : ((filterProgBug frame1 2 [gtSpec 2 7 false]).run store1).2.1.getD 2 [] ≠ store1.getD 2 [] := by
  decide +kernel

#print axioms bind_own_writes
#print axioms filter_own_writes
#print axioms slice_own_writes
#print axioms setColumn_own_writes
#print axioms copy_own_writes
#print axioms apply1_own_writes
#print axioms distinct_own_writes
#print axioms groupBy_own_writes
#print axioms aggregate_own_writes
#print axioms op_own_writes
#print axioms any_history_persistent
#print axioms any_history_persistent_from
#print axioms filterProgBug_not_own_writes
#print axioms filterProgBug_changes_earlier_array

end QF.Props.C01
