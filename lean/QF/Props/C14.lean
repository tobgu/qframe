import QF.Props.Tie
namespace QF.Props.C14

/-- No function of this property is compared as source text: the list is empty (the functions are regenerated as terms, see below). -/
-- Tie audit (bin/selftest-ties): the following functions are regenerated as terms; every behaviour-changing edit of
-- them makes a `gen_*_canon` theorem of this property's modules fail, renaming their locals or reformatting them changes nothing:
-- `QFrame.ToJSON`: `Gen.toJsonAst` (wast.go) + `Gen.guardAst2`, `C14WriterGen.gen_tojson_canon` + `gen_tojson_semantics`, `C10Guards.gen_guards2_canon`.
-- `Column.AppendByteStringAt` of fcolumn / icolumn: `Gen.appendAst` (oast.go), `C09Observe.gen_append_canon` + `gen_append_semantics`.
-- AppendQuotedString is regenerated in `Gen.stringsFns` (C14QuoteGen.gen_quote_semantics), the JSON reading glue in `Gen.recordsToDataAst` / `fillAsts` / `unmarshalJsonAst` (C14ReadJsonGen).
theorem tie : Tie.sameAll [] = true := by decide

end QF.Props.C14
