import QF.Props.Tie
import QF.Core.Frame
/-!
# C06 — Apply computes each destination cell from the same row and changes nothing else

Mirror: `Fr.Frame` (columns with `pos`, name map, index, err), `Fr.setColumn`,
`Fr.applyFn1` (result allocated at physical length, written at the index positions).

* `setColumn_wf`: overwrite and append both preserve well-formedness (needs `pos = i`).
* `setColumn_abs`: logical effect = replace in place or append last; index, Err untouched.
* `applyFn1_rowwise`: read back through the index, the result is `fn` applied row by row.
-/
namespace QF.Props.C06

theorem setColumn_wf (f : Fr.Frame) (L : Nat) (h : Fr.WF f L) (name : String) (c : Fr.Col)
    (hl : c.data.length = L) (hn : Fr.checkName name = true) : Fr.WF (Fr.setColumn f name c) L :=
  Fr.setColumn_wf f L h name c hl hn

theorem setColumn_abs (f : Fr.Frame) (L : Nat) (h : Fr.WF f L) (name : String) (c : Fr.Col)
    (hn : Fr.checkName name = true) :
    (Fr.setColumn f name c).abs =
        Fr.absSet f.abs (Option.map (fun x => x.pos) (f.byName name)) (name, c.ty, List.map (fun p => c.data[p]?) f.index) ∧
      (Fr.setColumn f name c).index = f.index ∧ (Fr.setColumn f name c).err = f.err :=
  Fr.setColumn_abs f L h name c hn

theorem applyFn1_rowwise (f : Fr.Frame) (L : Nat) (h : Fr.WF f L) (fn : Fr.Val → Fr.Val) (rty : Fr.Ty)
    (src : Fr.Col) (hl : src.data.length = L) :
    List.map (fun p => (Fr.applyFn1 f L fn rty src).data[p]?) f.index =
      List.map (fun p => Option.map fn src.data[p]?) f.index :=
  Fr.applyFn1_rowwise f L h fn rty src hl

-- No function of this property is tied by its source text (the list below is empty). Each is regenerated on every run and a
-- behaviour-changing edit makes a `gen_*_canon` theorem fail (checked by bin/selftest-ties); renaming locals or reformatting changes nothing.
-- `QFrame.Apply`, `QFrame.apply0`, `icolumn.Column.Apply1`, `icolumn.Column.Apply2`: `Gen.applyAst` / `Gen.guardAst2` (gast.go) and `Gen.apply0Ast` / `Gen.apply1Ast` / `Gen.apply2Ast` (last.go),
-- `C10Guards.gen_apply_canon` + `gen_apply_dispatch` / `gen_apply_loop`, `C10Guards.gen_guards2_canon`, `C06LoopsGen.gen_apply0_canon` / `gen_apply1_canon` / `gen_apply2_canon` + `gen_apply_loops_semantics`.
-- `QFrame.setColumn`: `Gen.projectAst` (`C08ProjectGen.gen_project_semantics`, `gen_project_persistent`).
-- `FilteredApply`, `WithRowNums` and the two built-in toUpper functions: `Gen.fapplyAst` / `rowNumsFnAst` / `supperTable` / `eupperTable` (C06FApplyGen).
-- `QFrame.apply1`, `QFrame.apply2`: `Gen.apply1GlueAst` / `Gen.apply2GlueAst` (sortgast.go), statement by statement: which column receives `Apply1` / `Apply2`,
-- the index argument, the type switch, the destination of `setColumn` — `C03SortGlueGen.gen_sortglue_canon` + `gen_apply12_semantics`.
theorem tie : Tie.sameAll [] = true := by decide

end QF.Props.C06
