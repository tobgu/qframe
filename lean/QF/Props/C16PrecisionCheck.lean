import QF.Props.C16CoreCheck
import QF.Props.C16Farey
import QF.Props.C16Tables
/-!
# C16 — Ryu's precision lemma for the 121/122-bit tables: the kernel-checked part

A certificate `(m1, k1, m2, k2)` — neighbours of `N/D` in the Stern–Brocot tree with `m1 + m2 ≥ 2^55`, found by an untrusted
Euclid-like walk (`fareyWalk`) — is checked by `certOk` (`C16Farey`: `certOk_sound`) and proves the floor identity `Prec exp m` for
one exponent field and all factors. About 620 certificates serve the 2048 fields: consecutive fields of one branch that read the
same table entry differ only by a power of two in the scale and by as many bits in the shift, so the identity at the upper field
hands down to the lower one by halving both floors (`SameEntry`, `prec_lift`, `Prec.down`); only the largest field of each run
needs a certificate (325 + 291 runs), and so does the field below an exceptional one (618 certificates in all). `prec_check_neg` and `prec_check_pos` run
these checks in the kernel, one pass over each table (`cert_or_same`); `precision` is the resulting lemma, downwards from field
2047 (two exceptions, `isExc`, `precision_exceptions`). The two floats that hit an exception are treated by evaluating the mirror
(`ryu_shortest_exc472`, `ryu_shortest_exc1797`). `shape_of_prec`: the identity at `m = 1` and the bit length of the table entries
(`entries_ok`) fix the range of the shift. See `C16Precision` for the summary and the final theorem.
-/
namespace QF.Props.C16Core
open QF.Ryu64 QF.Num

/-! ## the certificate search (untrusted) and the per-exponent check -/

/-- Euclid-like walk down the Stern–Brocot tree towards `a/b`: state `k1/m1 ≤ a/b < k2/m2` with the residues `d1 = m1·a − k1·b`,
`d2 = k2·b − m2·a`; the two denominators advance in turn by the full quotient of the residues, and the step that would make
`m1 + m2` exceed `M` is shortened so that both stay `≤ M`. Only the denominators are returned (`k1 = ⌊m1·a/b⌋`,
`k2 = ⌊m2·a/b⌋ + 1`). Nothing is proved about it — its output is checked by `certOk`. The tests are the `Bool`-valued ones
on literals, one step each for the kernel. -/
def fareyWalk : Nat → Nat → Nat → Nat → Nat → Nat → Nat × Nat
  | 0, _, m1, _, m2, _ => (m1, m2)
  | fuel + 1, M, m1, d1, m2, d2 =>
    let m1' := m1 + d1 / d2 * m2
    bif Nat.blt M (m1' + m2) then (m1 + (M - m1) / m2 * m2, m2) else
    let d1' := d1 % d2
    bif Nat.beq d1' 0 then (m1', m2 + ((M - m2) / m1' + 1) * m1') else
    let j := (d2 - 1) / d1'
    let m2' := m2 + j * m1'
    bif Nat.blt M (m1' + m2') then (m1', m2 + (M - m2) / m1' * m1') else
    fareyWalk fuel M m1' d1' m2' (d2 - j * d1')

/-- the two pairs (exponent field, factor) at which the floors differ -/
def isExc (exp m : Nat) : Bool :=
  (exp == 472 && m == 28933731341339864) || (exp == 1797 && m == 33542060588139028)

theorem isExc_false {exp m : Nat} (h1 : ¬ (exp = 472 ∧ m = 28933731341339864)) (h2 : ¬ (exp = 1797 ∧ m = 33542060588139028)) :
    isExc exp m = false := by
  unfold isExc
  rw [Bool.or_eq_false_iff, Bool.and_eq_false_imp, Bool.and_eq_false_imp]
  simp only [beq_iff_eq, beq_eq_false_iff_ne]
  exact ⟨fun a b => h1 ⟨a, b⟩, fun a b => h2 ⟨a, b⟩⟩

/-- the precision check for one exponent field and the multiplier `mul` read for it: find a certificate, check it -/
def precOf (exp : Nat) (mul : Nat × Nat) : Bool :=
  let w := fareyWalk 64 (2 ^ 55 - 1) 1 (scaleNum exp) 0 (scaleDen exp)
  certOk (scaleNum exp) (scaleDen exp) (mul.2 * 2 ^ 64 + mul.1) (2 ^ (shiftOf exp).toNat) (isExc exp)
    w.1 (w.1 * scaleNum exp / scaleDen exp) w.2 (w.2 * scaleNum exp / scaleDen exp + 1)

def precOk (exp : Nat) : Bool := precOf exp (mulOf exp)

/-- the floor identity of the precision lemma for one exponent field and one factor -/
def Prec (exp m : Nat) : Prop := m * mulVal exp / 2 ^ (shiftOf exp).toNat = m * scaleNum exp / scaleDen exp

theorem all_getD {α : Type} {P : α → Bool} {t : Array α} (h : t.toList.all P = true) (d : α) (hd : P d = true) (i : Nat) :
    P (t.getD i d) = true := by
  rw [Array.getD_eq_getD_getElem?]
  cases hi : t[i]? with
  | none => exact hd
  | some a => exact List.all_eq_true.mp h a (Array.mem_toList_iff.mpr (Array.mem_of_getElem? hi))

/-- a table entry: low half 64-bit, the whole a number of 121 to 123 bits (0 stands for a look-up outside the table) -/
def entryOk (a : Nat × Nat) : Bool :=
  Nat.blt a.1 (2 ^ 64) && Nat.blt (a.2 * 2 ^ 64 + a.1) (2 ^ 123) &&
    (Nat.beq (a.2 * 2 ^ 64 + a.1) 0 || Nat.ble (2 ^ 120) (a.2 * 2 ^ 64 + a.1))

theorem entries_ok : QF.Gen.pow5Split64.toList.all entryOk = true ∧ QF.Gen.pow5InvSplit64.toList.all entryOk = true := by
  decide +kernel

theorem mulOf_ok (exp : Nat) : entryOk (mulOf exp) = true := by
  unfold mulOf
  split
  · exact all_getD entries_ok.2 (0, 0) rfl _
  · exact all_getD entries_ok.1 (0, 0) rfl _

/-- Shape of the multiplier and the shift where the floor identity holds at `m = 1`: the shift is in the range `shiftRight128`
supports, the two halves are 64-bit, and the multiplier is below `2^(shift+8)` (so that products with a 56-bit factor fit into
64 bits after the shift). `⌊μ/2^s⌋ = ⌊N/D⌋ ∈ [1, 100)` (`scale_bounds`) pins `2^s ≤ μ < 100·2^s`, and `μ` has 121 to 123 bits
(`entries_ok`), so `114 ≤ s ≤ 122`. -/
theorem shape_of_prec (exp : Nat) (he : exp < 2048) (h1 : Prec exp 1) : ∃ s : Nat, shiftOf exp = (s : Int) ∧ 64 ≤ s ∧ s < 128 ∧
    (mulOf exp).1 < 2 ^ 64 ∧ (mulOf exp).2 < 2 ^ 64 ∧ mulVal exp < 2 ^ (s + 8) := by
  have hok := mulOf_ok exp
  obtain ⟨hD, hDN, hN, -⟩ := scale_bounds exp he
  unfold entryOk at hok
  simp only [Bool.and_eq_true, Bool.or_eq_true, Nat.blt_eq, Nat.ble_eq] at hok
  obtain ⟨⟨hlo, h123⟩, h120⟩ := hok
  change mulVal exp < 2 ^ 123 at h123
  change Nat.beq (mulVal exp) 0 = true ∨ 2 ^ 120 ≤ mulVal exp at h120
  unfold Prec at h1
  rw [Nat.one_mul, Nat.one_mul] at h1
  have hc1 : 1 ≤ scaleNum exp / scaleDen exp := Nat.div_pos hDN hD
  have hc2 : scaleNum exp / scaleDen exp < 100 := by rw [Nat.div_lt_iff_lt_mul hD]; exact hN
  rw [← h1] at hc1 hc2
  have hP := Nat.two_pow_pos (shiftOf exp).toNat
  have hlo' : 2 ^ (shiftOf exp).toNat ≤ mulVal exp := by
    have := (Nat.le_div_iff_mul_le hP).mp hc1; omega
  have hhi' : mulVal exp < 100 * 2 ^ (shiftOf exp).toNat := by
    have := (Nat.div_lt_iff_lt_mul hP).mp hc2; omega
  have hs1 : (shiftOf exp).toNat < 123 := (Nat.pow_lt_pow_iff_right (by decide : 1 < 2)).mp (Nat.lt_of_le_of_lt hlo' h123)
  have h120' : 2 ^ 120 ≤ mulVal exp := h120.resolve_left fun h => by have := Nat.eq_of_beq_eq_true h; omega
  have hs2 : 113 < (shiftOf exp).toNat := by
    apply Nat.lt_of_not_le; intro hle
    have := Nat.pow_le_pow_right (by decide : 0 < 2) hle
    omega
  refine ⟨(shiftOf exp).toNat, by omega, by omega, by omega, hlo, ?_, ?_⟩
  · unfold mulVal at h123; omega
  · rw [Nat.pow_add]; omega

/-! ## one certificate per table entry

Exponent fields `exp`, `exp + 1` of one branch that read the same table entry have the same multiplier `μ`, shifts `s = s' + d`
and scales with `N/D = N'/(D'·2^d)` (`SameEntry`: for `e2 < 0` the same `5^i` over `2^q = 2^q'·2^d`, for `e2 ≥ 0` the same `10^q`
under `2^e2`, `d = 1`). Shifting `d` bits further halves both floors `d` times (`prec_lift`), so the identity at `exp + 1` hands
down to `exp` for the same factor (`Prec.down`), and a certificate is needed only at the largest field of each run that reads one
entry — 325 + 291 of the 2048 fields — and at the field below an exceptional one, to which the exceptional factor cannot be
handed down. (A failure at `exp` would be one at `exp + 1` too: the two exceptions sit at the top of their runs.) -/

/-- equal fractions have equal floors -/
theorem div_eq_of_cross {a b c d : Nat} (hb : 0 < b) (hd : 0 < d) (h : a * d = c * b) : a / b = c / d := by
  rw [← Nat.mul_div_mul_right a b hd, h, Nat.mul_comm b d, Nat.mul_div_mul_right c d hb]

theorem prec_lift {m μ s d N D N' D' : Nat} (hD : 0 < D) (hD' : 0 < D') (hfrac : N * (D' * 2 ^ d) = N' * D)
    (h : m * μ / 2 ^ s = m * N' / D') : m * μ / 2 ^ (s + d) = m * N / D := by
  rw [Nat.pow_add, ← Nat.div_div_eq_div_mul, h, Nat.div_div_eq_div_mul]
  refine (div_eq_of_cross hD (Nat.mul_pos hD' (Nat.two_pow_pos d)) ?_).symm
  rw [Nat.mul_assoc, hfrac, Nat.mul_assoc]

def SameEntry (exp : Nat) : Prop :=
  mulOf exp = mulOf (exp + 1) ∧ ∃ d : Nat, shiftOf exp = shiftOf (exp + 1) + (d : Int) ∧
    scaleNum exp * (scaleDen (exp + 1) * 2 ^ d) = scaleNum (exp + 1) * scaleDen exp

theorem Prec.down {exp m : Nat} (he : exp + 1 < 2048) (hs : SameEntry exp) (h1 : Prec (exp + 1) 1) (h : Prec (exp + 1) m) :
    Prec exp m := by
  obtain ⟨e1, d, e2, e3⟩ := hs
  obtain ⟨s, hs, -⟩ := shape_of_prec (exp + 1) he h1
  unfold Prec mulVal at h ⊢
  rw [e1, show (shiftOf exp).toNat = (shiftOf (exp + 1)).toNat + d by omega]
  exact prec_lift (scale_bounds exp (by omega)).1 (scale_bounds (exp + 1) he).1 e3 h

theorem sameEntry_pos (exp : Nat) (h : 1077 ≤ exp) (he : exp + 1 < 2048) (hq : qOf (exp + 1) = qOf exp) : SameEntry exp := by
  obtain ⟨-, -, hN, hD, hm, hs, -⟩ := scale_pos exp h (by omega)
  obtain ⟨-, -, hN', hD', hm', hs', -⟩ := scale_pos (exp + 1) (by omega) he
  rw [hq] at hm' hs' hD'
  refine ⟨by simp only [hm, hm'], 1, by omega, ?_⟩
  rw [hN, hN', hD, hD', show exp + 1 - 1077 = exp - 1077 + 1 by omega, Nat.pow_one, Nat.pow_succ,
    Nat.mul_comm (10 ^ qOf exp) 2, ← Nat.mul_assoc]

theorem sameEntry_neg (exp : Nat) (h : exp + 1 < 1077)
    (hi : (-decodeE2 (exp + 1) - (qOf (exp + 1) : Int)).toNat = (-decodeE2 exp - (qOf exp : Int)).toNat) : SameEntry exp := by
  obtain ⟨i, -, -, he2, -, hN, hD, hm, hs, -⟩ := scale_neg exp (by omega)
  obtain ⟨i', -, -, he2', -, hN', hD', hm', hs', -⟩ := scale_neg (exp + 1) h
  have hmono := decodeE2_le_succ exp
  rw [he2, he2'] at hi hmono
  obtain rfl : i' = i := by omega
  refine ⟨by simp only [hm, hm'], qOf exp - qOf (exp + 1), by omega, ?_⟩
  rw [hN, hN', hD, hD', ← Nat.pow_add, show qOf (exp + 1) + (qOf exp - qOf (exp + 1)) = qOf exp by omega]

/-- table index of step `j` of the pass for `e2 < 0` -/
def negIdx (j : Nat) : Nat := (-decodeE2 (1076 - j) - (qOf (1076 - j) : Int)).toNat

/-- The pass for `e2 < 0` runs downwards from field 1076 and reads `pow5Split64` front to back: no certificate where the step
before read the same entry, except at step 605 (field 471, below the exceptional 472). The pass for `e2 ≥ 0` runs upwards from
field 1077 and reads `pow5InvSplit64` front to back: no certificate where the step after (there is one: `j < 970`) will read the
same entry, except at step 719 (field 1796, below the exceptional 1797). -/
theorem prec_check_neg : QF.Props.C16.sweep (fun j same _ a => (same && !Nat.beq j 605) || precOf (1076 - j) a) negIdx
    QF.Gen.pow5Split64.toList 0 0 1077 = true := by decide +kernel
theorem prec_check_pos : QF.Props.C16.sweep (fun j _ same a => (same && Nat.blt j 970 && !Nat.beq j 719) || precOf (1077 + j) a)
    (fun j => qOf (1077 + j)) QF.Gen.pow5InvSplit64.toList 0 0 971 = true := by decide +kernel

/-- what the two passes say about one exponent field: it has a certificate of its own, or it reads the table entry of the
field above it, which has no exception -/
theorem cert_or_same (exp : Nat) (he : exp < 2048) :
    precOk exp = true ∨ (exp + 1 < 2048 ∧ SameEntry exp ∧ exp ≠ 471 ∧ exp ≠ 1796) := by
  by_cases h : exp < 1077
  · have hc := QF.Props.C16.sweep_sound (0, 0) prec_check_neg (1076 - exp) (by omega)
    unfold negIdx at hc
    rw [show 1076 - (1076 - exp) = exp by omega, Bool.or_eq_true] at hc
    rcases hc with hc | hc
    · simp only [Bool.and_eq_true, Bool.not_eq_true', Nat.blt_eq] at hc
      obtain ⟨⟨h0, hidx⟩, h605⟩ := hc
      have h605 : 1076 - exp ≠ 605 := fun h => by rw [h] at h605; cases h605
      rw [show 1076 - (1076 - exp - 1) = exp + 1 by omega] at hidx
      exact Or.inr ⟨by omega, sameEntry_neg exp (by omega) (Nat.eq_of_beq_eq_true hidx).symm, by omega, by omega⟩
    · left; unfold precOk mulOf; rwa [if_neg (by rw [decodeE2_nonneg_iff]; omega)]
  · have hc := QF.Props.C16.sweep_sound (0, 0) prec_check_pos (exp - 1077) (by omega)
    rw [show 1077 + (exp - 1077) = exp by omega, show 1077 + (exp - 1077 + 1) = exp + 1 by omega, Bool.or_eq_true] at hc
    rcases hc with hc | hc
    · simp only [Bool.and_eq_true, Bool.not_eq_true', Nat.blt_eq] at hc
      obtain ⟨⟨hidx, h0⟩, h719⟩ := hc
      have h719 : exp - 1077 ≠ 719 := fun h => by rw [h] at h719; cases h719
      exact Or.inr ⟨by omega, sameEntry_pos exp (by omega) (by omega) (Nat.eq_of_beq_eq_true hidx), by omega, by omega⟩
    · left; unfold precOk mulOf; rwa [if_pos (by rw [decodeE2_nonneg_iff]; omega)]

/-! ## the precision lemma -/

/-- **Ryu's precision lemma for the tables of this port.** For every exponent field and every factor `m < 2^55` (all `mv`, `mp`,
`mm` are of this size), multiplying by the 121/122-bit table entry and shifting gives the exact floor of the scaled quantity
`m·N/D = m·2^e2/10^e10` — except at the two pairs of `isExc`. -/
theorem precision (exp m : Nat) (he : exp < 2048) (hm : m < 2 ^ 55) (hx : isExc exp m = false) :
    m * mulVal exp / 2 ^ (shiftOf exp).toNat = m * scaleNum exp / scaleDen exp := by
  rcases cert_or_same exp he with hc | ⟨h1, hs, n1, n2⟩
  · exact certOk_sound _ _ _ _ _ _ _ _ _ hc m hm hx
  · -- from the field above, which has no exception
    have up := fun m hm => precision (exp + 1) m h1 hm (isExc_false (by omega) (by omega))
    exact Prec.down h1 hs (up 1 (by decide)) (up m hm)
termination_by 2048 - exp

/-- the exceptions are real: at the two pairs the table product is one less (472, multiplier rounded down) resp. one more
(1797, reciprocal rounded up) than the exact floor -/
theorem precision_exceptions :
    28933731341339864 * mulVal 472 / 2 ^ (shiftOf 472).toNat + 1 = 28933731341339864 * scaleNum 472 / scaleDen 472 ∧
    33542060588139028 * mulVal 1797 / 2 ^ (shiftOf 1797).toNat = 33542060588139028 * scaleNum 1797 / scaleDen 1797 + 1 := by
  decide +kernel

/-- `e2 ≥ 0` (exponent fields `1077 … 2046`): `⌊m · pow5InvSplit64[q] / 2^shift⌋ = ⌊m · 2^e2 / 10^q⌋` -/
theorem precision_pos (exp m : Nat) (he : exp < 2047) (h : decodeE2 exp ≥ 0) (hm : m < 2 ^ 55)
    (hx : ¬ (exp = 1797 ∧ m = 33542060588139028)) :
    m * mulVal exp / 2 ^ (shiftOf exp).toNat = m * 2 ^ (decodeE2 exp).toNat / 10 ^ qOf exp := by
  have hexp := (decodeE2_nonneg_iff exp).1 h
  have hN : scaleNum exp = 2 ^ (decodeE2 exp).toNat := by unfold scaleNum; rw [if_pos h]
  have hD : scaleDen exp = 10 ^ qOf exp := by unfold scaleDen; rw [if_pos h]
  rw [← hN, ← hD]
  exact precision exp m (by omega) hm (isExc_false (by omega) hx)

/-- `e2 < 0` (exponent fields `0 … 1076`): `⌊m · pow5Split64[i] / 2^shift⌋ = ⌊m · 5^i / 2^q⌋`, `i = −e2 − q` -/
theorem precision_neg (exp m : Nat) (h : ¬ decodeE2 exp ≥ 0) (hm : m < 2 ^ 55)
    (hx : ¬ (exp = 472 ∧ m = 28933731341339864)) :
    m * mulVal exp / 2 ^ (shiftOf exp).toNat = m * 5 ^ (-decodeE2 exp - (qOf exp : Int)).toNat / 2 ^ qOf exp := by
  have hexp := mt (decodeE2_nonneg_iff exp).2 h
  have hN : scaleNum exp = 5 ^ (-decodeE2 exp - (qOf exp : Int)).toNat := by unfold scaleNum; rw [if_neg h]
  have hD : scaleDen exp = 2 ^ qOf exp := by unfold scaleDen; rw [if_neg h]
  rw [← hN, ← hD]
  exact precision exp m (by omega) hm (isExc_false hx (by omega))

/-! ## the two exceptional floats -/

/-- mantissa fields of the two floats whose `mv = 4·(2^52 + mant)` is an exception -/
def excMant472 : Nat := 2729833207964470
def excMant1797 : Nat := 3881915519664261

theorem excMant_spec :
    excMant472 < 2 ^ 52 ∧ 4 * (excMant472 + 2 ^ 52) = 28933731341339864 ∧
    excMant1797 < 2 ^ 52 ∧ 4 * (excMant1797 + 2 ^ 52) = 33542060588139028 := by decide

/-- for these two floats the hypothesis of `ryu_shortest_partial` does not hold: the `mulShift64` result for `mv` is not the
exact floor (`vr` is one too small resp. one too large), so `floorsHold` answers `false` -/
theorem hypothesis_fails :
    mulShift64 (mvOf (decodeM2 excMant472 472)) (mulOf 472) (shiftOf 472) + 1
      = mvOf (decodeM2 excMant472 472) * scaleNum 472 / scaleDen 472 ∧
    mulShift64 (mvOf (decodeM2 excMant1797 1797)) (mulOf 1797) (shiftOf 1797)
      = mvOf (decodeM2 excMant1797 1797) * scaleNum 1797 / scaleDen 1797 + 1 ∧
    floorsHold excMant472 472 = false ∧ floorsHold excMant1797 1797 = false := by
  decide +kernel

/-- Everything `finish_correct` and `none_shorter` need, on the exact quantities — decidable for a concrete float: the interval
`A < B < C` in units of `1/D`, `k` digits removed, flags `fm`, `fr` as the loops would report them, and `out` is the
rounding decision on the exact floors. -/
def SpecCert (A B C D : Nat) (incl : Bool) (out k : Nat) (fm fr : Bool) : Prop :=
  0 < D ∧ A + D ≤ B ∧ B + D ≤ C ∧ B - A ≤ C - B ∧ hiEnd C incl / D < 2 ^ 64 ∧
  hiEnd C incl / (D * 10 ^ (k + 1)) ≤ A / (D * 10 ^ (k + 1)) ∧
  ¬ (incl = true ∧ D * 10 ^ (k + 1) ∣ A) ∧
  (1 ≤ k → A / (D * 10 ^ k) < hiEnd C incl / (D * 10 ^ k) ∨ (incl = true ∧ D * 10 ^ k ∣ A)) ∧
  ((fm = true → (incl = true ∧ D * 10 ^ k ∣ A)) ∧
    ((incl = true ∧ D * 10 ^ k ∣ A) → fm = false → B / (D * 10 ^ k) ≠ A / (D * 10 ^ k))) ∧
  (fr = true → ((D ∣ B ∨ (D ∣ 2 * B ∧ 5 ∣ 2 * B / D)) ∧ (k = 0 ∨ 10 ^ (k - 1) ∣ B / D))) ∧
  (k = 0 → D ∣ B) ∧
  out = finish (B / (D * 10 ^ k)) (A / (D * 10 ^ k)) incl fm fr (digitAt (B / D) k)

instance (A B C D : Nat) (incl : Bool) (out k : Nat) (fm fr : Bool) : Decidable (SpecCert A B C D incl out k fm fr) := by
  unfold SpecCert; infer_instance

theorem spec_of_cert {A B C D : Nat} {incl : Bool} {out k : Nat} (fm fr : Bool)
    (h : SpecCert A B C D incl out k fm fr) : Spec A B C D incl out k := by
  obtain ⟨hD, hAB, hBC, hgap, hp64, K1, K2, K3, K4, K5, K6, hout⟩ := h
  obtain ⟨h1, h2⟩ := finish_correct A B C D k incl fm fr hD hAB hBC hgap hp64 K3 K4 K5 K6
  rw [hout]
  exact ⟨h1, none_shorter A C D k incl hD K1 K2, h2⟩

/-- the conclusion of `ryu_shortest_partial` for the float `exp = 472`, `mant = excMant472` (`vr` is one too small, two digits
are removed): by evaluation of the mirror -/
theorem ryu_shortest_exc472 :
    ∃ k : Nat, (float64ToDecimal excMant472 472).e = e10Of 472 + (k : Int) ∧
      Spec (mmOf (decodeM2 excMant472 472) (mmShiftOf excMant472 472) * scaleNum 472)
        (mvOf (decodeM2 excMant472 472) * scaleNum 472) (mpOf (decodeM2 excMant472 472) * scaleNum 472) (scaleDen 472)
        (acceptBoundsOf excMant472 472) (float64ToDecimal excMant472 472).m k :=
  ⟨2, by decide +kernel, spec_of_cert false false (by decide +kernel)⟩

/-- the same for `exp = 1797`, `mant = excMant1797` (`vr` is one too large, four digits are removed) -/
theorem ryu_shortest_exc1797 :
    ∃ k : Nat, (float64ToDecimal excMant1797 1797).e = e10Of 1797 + (k : Int) ∧
      Spec (mmOf (decodeM2 excMant1797 1797) (mmShiftOf excMant1797 1797) * scaleNum 1797)
        (mvOf (decodeM2 excMant1797 1797) * scaleNum 1797) (mpOf (decodeM2 excMant1797 1797) * scaleNum 1797) (scaleDen 1797)
        (acceptBoundsOf excMant1797 1797) (float64ToDecimal excMant1797 1797).m k :=
  ⟨4, by decide +kernel, spec_of_cert false false (by decide +kernel)⟩

end QF.Props.C16Core
