import QF.Gen.StringsFns
import QF.Core.STExec
import QF.Core.Upper
import QF.Spec.Json
import QF.Core.ListFacts
/-!
# C18 — the custom `ToUpper` of today's source (tie T1)

`QF.Gen.stringsFns` (regenerated on every run by go/cmd/extract/strast.go) holds the body of `ToUpper` of
/repo/internal/strings/convert.go as a term of the language `QF.ST` (QF/Core/STExpr.lean): the first `range` loop up to the
first rune that changes (buffer choice `len(*bP) >= len(s)+utf8.UTFMax`, `copy` of the unchanged prefix, the one-byte
shortcut `r < utf8.RuneSelf`, `utf8.EncodeRune`, the advance by `utf8.DecodeRuneInString` / `utf8.RuneLen`), the early
return, the second `range` loop with the ASCII fast path, the growth `nbytes+utf8.UTFMax >= len(b)` by doubling, and
`*bP = b; return UnsafeBytesToString(b[:nbytes])`.

* `gen_toUpper_no_opaque`, `gen_toUpper_canon` — today's extraction is complete and equal to the canonical term (`decide`).
* `gen_toUpper_spec`, `gen_toUpper_semantics` — interpreted with Go's semantics, for every case mapping `up`, every valid UTF-8
  string (the encoding of a list of code points) and every initial buffer (nil included), the canonical term returns
  `encode (map up s)` and never indexes outside the buffer — hence (`U.toUpper_spec'`) exactly the bytes of the hand mirror
  `U.toUpper up len(*bP) s` (QF/Core/Upper.lean): which branch writes a rune depends on the room in the buffer, which bytes are
  written does not, so the loops are proved against the encoding and the mirror's capacity never enters. The UTF-8 primitives are what the mirror assumes of them (`UpperEnv`: decoding the
  encoding of a code point gives it back with its width, `EncodeRune` writes `U.enc`, `RuneLen` is its length,
  `unicode.ToUpper` is `up`); `coreEnv` is an environment that has these properties (Lean's own UTF-8 decoder).
* witnesses: the ASCII fast path also for U+0080 (`r <= utf8.RuneSelf`, the defect that was repaired), no growth check, a
  prefix copy one byte short are different terms (`gen_toUpper_canon` fails) and return other bytes / panic.

Strings that are not valid UTF-8 are outside C18 (and outside the mirror, which works on code points): there the code
copies an unchanged prefix byte for byte but re-encodes invalid bytes after the first change as U+FFFD.
-/
namespace QF.Props.C18UpperGen
open QF QF.ST
open U (enc)

/-! ## The canonical term: variables 0 `*bP`, 1 `s`, 2 `nbytes`, 3 `b`, 4 `i`, 5 `c`, 6 `r`, 7 (count), 8 `w`; 9 `c`, 10 `r`, 11 `nb`, 12 (count) -/

/-- `if len(*bP) >= len(s)+utf8.UTFMax { b = *bP } else { b = make([]byte, len(s)+utf8.UTFMax) }` -/
def chooseBuf : S :=
  S.ite (E.cmp COp.ge (E.len (E.var 0)) (E.add (E.len (E.var 1)) (E.int 4)))
    (S.block [S.assign (L.var 3) (E.var 0)]) (S.block [S.assign (L.var 3) (E.make (E.add (E.len (E.var 1)) (E.int 4)))])

/-- `b[nbytes] = byte(r); nbytes++` for the rune in variable `v`, and what follows it in the block -/
def putByte (v : Var) (rest : List S) : List S :=
  S.setAt 3 (E.var 2) (E.conv NK.byte (E.var v)) :: S.assign (L.var 2) (E.add (E.var 2) (E.int 1)) :: rest

/-- `nbytes += utf8.EncodeRune(b[nbytes:], r)` for the rune in variable `v`; the count goes through variable `n` -/
def putRune (n v : Var) : List S :=
  [S.encodeRune (L.var n) 3 (E.var 2) (E.var v), S.assign (L.var 2) (E.add (E.var 2) (E.var n))]

/-- `if r >= 0 { if r < utf8.RuneSelf { b[nbytes] = byte(r); nbytes++ } else { nbytes += utf8.EncodeRune(b[nbytes:], r) } }` -/
def writeFirst : S :=
  S.ite (E.cmp COp.ge (E.var 6) (E.rune 0))
    (S.block [S.ite (E.cmp COp.lt (E.var 6) (E.rune 128)) (S.block (putByte 6 [])) (S.block (putRune 7 6))])
    (S.block [])

/-- `if c == utf8.RuneError { _, w := utf8.DecodeRuneInString(s[i:]); i += w } else { i += utf8.RuneLen(c) }` -/
def advance : S :=
  S.ite (E.cmp COp.eq (E.var 5) (E.rune 65533))
    (S.block [S.decodeRune L.blank (L.var 8) (E.sliceFrom (E.var 1) (E.var 4)), S.assign (L.var 4) (E.add (E.var 4) (E.var 8))])
    (S.block [S.assign (L.var 4) (E.add (E.var 4) (E.runeLen (E.var 5)))])

/-- what the first loop does at the first rune that changes -/
def firstChange : List S := [
  chooseBuf,
  S.copy (L.var 2) 3 (E.sliceTo (E.var 1) (E.var 4)),
  writeFirst,
  advance,
  S.assign (L.var 1) (E.sliceFrom (E.var 1) (E.var 4)),
  S.brk]

/-- `r := unicode.ToUpper(c)` -/
def upperOf (r c : Var) : S := S.assign (L.var r) (E.upper (E.var c))

/-- `if r == c { continue }` -/
def sameTest : S := S.ite (E.cmp COp.eq (E.var 6) (E.var 5)) (S.block [S.cont]) (S.block [])

/-- the body of the first loop -/
def firstBody : S := S.block (upperOf 6 5 :: sameTest :: firstChange)

/-- `(0 <= r && r < utf8.RuneSelf) && nbytes < len(b)` -/
def fastCond : E :=
  E.and (E.and (E.cmp COp.le (E.rune 0) (E.var 10)) (E.cmp COp.lt (E.var 10) (E.rune 128))) (E.cmp COp.lt (E.var 2) (E.len (E.var 3)))

/-- `if nbytes+utf8.UTFMax >= len(b) { nb := make([]byte, 2*len(b)); copy(nb, b[:nbytes]); b = nb }` -/
def grow : S :=
  S.ite (E.cmp COp.ge (E.add (E.var 2) (E.int 4)) (E.len (E.var 3)))
    (S.block [S.assign (L.var 11) (E.make (E.mul (E.int 2) (E.len (E.var 3)))), S.copy L.blank 11 (E.sliceTo (E.var 3) (E.var 2)),
      S.assign (L.var 3) (E.var 11)]) (S.block [])

/-- the body of the second loop -/
def secondBody : S := S.block [
  upperOf 10 9,
  S.ite fastCond (S.block (putByte 10 [S.cont])) (S.block []),
  S.ite (E.cmp COp.ge (E.var 10) (E.rune 0)) (S.block (grow :: putRune 12 10)) (S.block [])]

/-- what follows the first loop -/
def afterFirst : List S := [
  S.ite (E.isNil (E.var 3)) (S.block [S.ret [E.var 1]]) (S.block []),
  S.rangeStr L.blank (L.var 9) (E.var 1) secondBody,
  S.assign (L.var 0) (E.var 3),
  S.ret [E.toStr (E.sliceTo (E.var 3) (E.var 2))]]

def fnToUpper : ST.Fn := { params := 2, body := S.block (
  S.assign (L.var 2) (E.int 0) ::
  S.assign (L.var 3) E.nilBytes ::
  S.rangeStr (L.var 4) (L.var 5) (E.var 1) firstBody ::
  afterFirst) }

theorem gen_toUpper_no_opaque :
    ∃ fn, Gen.stringsFns.lookup .toUpper = some fn ∧ fn.body.hasOpaque = false := by decide

theorem gen_toUpper_canon : Gen.stringsFns.lookup .toUpper = some fnToUpper := by decide

/-! ## What the code takes from outside -/

/-- the UTF-8 primitives and `unicode.ToUpper` as the mirror assumes them: decoding the encoding of a code point gives the code
point and its width; `EncodeRune` writes `U.enc`; `RuneLen` is the length of the encoding; `unicode.ToUpper` is `up` -/
structure UpperEnv (Γ : Env) (up : Char → Char) : Prop where
  decode : ∀ (c : Char) (rest : Bytes), Γ.decode (enc c ++ rest) = ((c.toNat : Int), c.utf8Size)
  encode : ∀ c : Char, Γ.encode (c.toNat : Int) = enc c
  runeLen : ∀ c : Char, Γ.runeLen (c.toNat : Int) = (c.utf8Size : Int)
  toUpper : ∀ c : Char, Γ.toUpper (c.toNat : Int) = ((up c).toNat : Int)

/-- the encoding of a list of code points -/
def encs (cs : List Char) : Bytes := cs.flatMap enc

theorem encs_nil : encs [] = [] := rfl
theorem encs_cons (c : Char) (cs : List Char) : encs (c :: cs) = enc c ++ encs cs := rfl
theorem encs_append (a b : List Char) : encs (a ++ b) = encs a ++ encs b := List.flatMap_append
theorem length_enc (c : Char) : (enc c).length = c.utf8Size := String.length_utf8EncodeChar c
theorem enc_pos (c : Char) : 1 ≤ (enc c).length := by rw [length_enc]; exact c.utf8Size_pos
theorem enc_le (c : Char) : (enc c).length ≤ 4 := by rw [length_enc]; exact c.utf8Size_le_four
theorem encs_snoc (pre : List Char) (c : Char) : encs (pre ++ [c]) = encs pre ++ enc c := by
  rw [encs_append, encs_cons, encs_nil, List.append_nil]

/-! ## Lists -/

theorem length_overwrite (l : Bytes) (off : Nat) (bs : Bytes) (h : off + bs.length ≤ l.length) :
    (overwrite l off bs).length = l.length := by
  simp only [overwrite, List.length_append, List.length_take, List.length_drop]; omega

theorem take_overwrite (l : Bytes) (off : Nat) (bs : Bytes) (h : off + bs.length ≤ l.length) :
    (overwrite l off bs).take (off + bs.length) = l.take off ++ bs := by
  have : (l.take off ++ bs).length = off + bs.length := by simp; omega
  rw [overwrite, List.take_append_of_le_length (by omega), ← this, List.take_length]

theorem take_overwrite_zero (l bs : Bytes) (h : bs.length ≤ l.length) : (overwrite l 0 bs).take bs.length = bs := by
  simpa using take_overwrite l 0 bs (by omega)

theorem byte_of_small (n : Nat) (h : n < 256) : UInt8.ofNat (((n : Int) % 256).toNat) = UInt8.ofNat n := by
  congr 1; omega

/-! ## `range` over a valid string -/

theorem iterStr_nil (decode : Bytes → Int × Nat) (i c : L) (step : Store → Out) (pre : List Char) (n : Nat) (σ : Store) :
    iterStr decode i c step (encs pre) (n + 1) (encs pre).length σ = .next σ := by
  rw [iterStr, if_neg (by omega)]

theorem iterStr_cons (Γ : Env) (up : Char → Char) (hΓ : UpperEnv Γ up) (i c : L) (step : Store → Out) (pre : List Char)
    (ch : Char) (rest : List Char) (n : Nat) (σ : Store) :
    iterStr Γ.decode i c step (encs (pre ++ ch :: rest)) (n + 1) (encs pre).length σ =
      (match step (assignL (assignL σ i (.int (encs pre).length)) c (.rune ch.toNat)) with
       | .next σ' => iterStr Γ.decode i c step (encs (pre ++ ch :: rest)) n (encs (pre ++ [ch])).length σ'
       | .cont σ' => iterStr Γ.decode i c step (encs (pre ++ ch :: rest)) n (encs (pre ++ [ch])).length σ'
       | .brk σ' => .next σ'
       | r => r) := by
  have hlt : (encs pre).length < (encs (pre ++ ch :: rest)).length := by
    have := enc_pos ch
    rw [encs_append, encs_cons]; simp only [List.length_append]; omega
  have hdrop : (encs (pre ++ ch :: rest)).drop (encs pre).length = enc ch ++ encs rest := by
    rw [encs_append, encs_cons, List.drop_left]
  have hoff : (encs pre).length + ch.utf8Size = (encs (pre ++ [ch])).length := by
    rw [encs_snoc, List.length_append, length_enc]
  rw [iterStr, if_pos hlt]
  simp only [hdrop, hΓ.decode, hoff]
  generalize step (assignL (assignL σ i (.int (encs pre).length)) c (.rune ch.toNat)) = o
  cases o <;> rfl

/-! ## The statements the two loops share -/

/-- `out` is at the front of the buffer `b`, which has at least 4 bytes -/
structure Holds (b out : Bytes) : Prop where
  ht : b.take out.length = out
  hle : out.length ≤ b.length
  h4 : 4 ≤ b.length

theorem Holds.putByte {b out : Bytes} (h : Holds b out) (x : UInt8) (hn : out.length < b.length) :
    Holds (b.set out.length x) (out ++ [x]) :=
  ⟨by rw [List.length_append, List.length_singleton, ListFacts.take_succ_set _ _ _ hn, h.ht], by simp; omega, by simpa using h.h4⟩

theorem Holds.putRune {b out : Bytes} (h : Holds b out) (e : Bytes) (hr : out.length + e.length ≤ b.length) :
    Holds (overwrite b out.length e) (out ++ e) :=
  ⟨by rw [List.length_append, take_overwrite _ _ _ hr, h.ht], by rw [List.length_append, length_overwrite _ _ _ hr]; exact hr,
   by rw [length_overwrite _ _ _ hr]; exact h.h4⟩

/-- the state of the second loop: `nbytes = len(out)` and `b[:nbytes] = out`; the buffer has room for `out` and at least 4 bytes -/
structure Inv2 (σ : Store) (b out : Bytes) : Prop where
  h2 : σ 2 = some (.int out.length)
  h3 : σ 3 = some (.bytes (some b))
  holds : Holds b out

section steps
variable {Γ : Env} {σ : Store} {up : Char → Char} {b out : Bytes}

theorem upperOf_exec (hΓ : UpperEnv Γ up) {r c : Var} {ch : Char} (hc : σ c = some (.rune ch.toNat)) :
    (upperOf r c).exec Γ σ = .next (σ.set r (.rune (up ch).toNat)) := by
  rw [upperOf, exec_assign, E.eval, eval_var hc]
  exact congrArg (fun x => Out.next (σ.set r (.rune x))) (hΓ.toUpper ch)

theorem putByte_exec {v : Var} {u : Nat} {rest : List S} (hinv : Inv2 σ b out) (hv : σ v = some (.rune u)) (hu : u < 256)
    (hn : out.length < b.length) :
    ∃ σ', (S.block (putByte v rest)).exec Γ σ = (S.block rest).exec Γ σ' ∧ Inv2 σ' (b.set out.length (UInt8.ofNat u)) (out ++ [UInt8.ofNat u]) ∧
      ∀ w : Nat, w ≠ 2 → w ≠ 3 → σ' w = σ w := by
  have hs : (S.setAt 3 (E.var 2) (E.conv NK.byte (E.var v))).exec Γ σ = .next (σ.set 3 (.bytes (some (b.set out.length (UInt8.ofNat u))))) := by
    rw [exec_setAt, eval_var hinv.h2, E.eval, eval_var hv, hinv.h3]
    simp only [Out.ofRes_ok, asIndex, Res.bind_ok, convV]
    rw [if_pos (by omega), Int.toNat_natCast, byte_of_small u hu]
  refine ⟨_, exec_cons_next hs (exec_cons_next (exec_assign_ok (eval_add (eval_var hinv.h2) rfl rfl)) rfl), ?_, fun w h2 h3 => ?_⟩
  · exact ⟨by rw [List.length_append]; rfl, rfl, hinv.holds.putByte _ hn⟩
  · rw [assignL, set_of_ne h2, set_of_ne h3]

/-- `EncodeRune` of the rune in variable `v` at `nbytes`, where it fits -/
theorem putRune_exec {n v : Nat} {u : Char} (hΓ : UpperEnv Γ up) (hinv : Inv2 σ b out) (hv : σ v = some (.rune u.toNat)) (hn : 4 ≤ n)
    (hr : out.length + (enc u).length ≤ b.length) :
    ∃ σ', (S.block (putRune n v)).exec Γ σ = .next σ' ∧ Inv2 σ' (overwrite b out.length (enc u)) (out ++ enc u) ∧
      ∀ w : Nat, w ≠ 2 → w ≠ 3 → w ≠ n → σ' w = σ w := by
  have he : (S.encodeRune (L.var n) 3 (E.var 2) (E.var v)).exec Γ σ =
      .next ((σ.set 3 (.bytes (some (overwrite b out.length (enc u))))).set n (.int (enc u).length)) := by
    rw [exec_encodeRune, eval_var hinv.h2, eval_var hv, hinv.h3]
    simp only [Out.ofRes_ok, asInt, hΓ.encode]
    rw [if_pos (by omega), Int.toNat_natCast, if_pos hr]
    rfl
  refine ⟨_, exec_cons_next he (exec_cons_next (exec_assign_ok
    (eval_add (eval_var ((set_of_ne (by omega)).trans hinv.h2)) (eval_var (Store.set_same _ n _)) rfl)) rfl), ⟨by rw [List.length_append]; rfl, ?_, hinv.holds.putRune _ hr⟩, fun w hw2 hw3 hwn => ?_⟩
  · rw [assignL, set_of_ne (by omega), set_of_ne (by omega)]; rfl
  · rw [assignL, set_of_ne hw2, set_of_ne hwn, set_of_ne hw3]

theorem Inv2.of_eq {σ' : Store} (hinv : Inv2 σ b out) (e2 : σ' 2 = σ 2) (e3 : σ' 3 = σ 3) : Inv2 σ' b out :=
  ⟨e2.trans hinv.h2, e3.trans hinv.h3, hinv.holds⟩

/-- the write at the first change: one byte below 0x80, else `EncodeRune`; either way the encoding -/
theorem writeFirst_exec {u : Char} (hΓ : UpperEnv Γ up) (hinv : Inv2 σ b out) (h6 : σ 6 = some (.rune u.toNat)) (hr : out.length + 4 ≤ b.length) :
    ∃ σ' b', writeFirst.exec Γ σ = .next σ' ∧ Inv2 σ' b' (out ++ enc u) ∧ ∀ w : Nat, w ≠ 2 → w ≠ 3 → w ≠ 7 → σ' w = σ w := by
  have hge : (E.cmp COp.ge (E.var 6) (E.rune 0)).eval Γ σ = .ok (.bool (decide ((u.toNat : Int) ≥ 0))) := eval_cmp (eval_var h6) rfl rfl
  have h0 : decide ((u.toNat : Int) ≥ 0) = true := decide_eq_true (Int.natCast_nonneg _)
  have hlt : (E.cmp COp.lt (E.var 6) (E.rune 128)).eval Γ σ = .ok (.bool (decide ((u.toNat : Int) < 128))) := eval_cmp (eval_var h6) rfl rfl
  have hel := enc_le u
  by_cases hu : u.toNat < 128
  · obtain ⟨σ', he, hinv', hfr⟩ := putByte_exec (Γ := Γ) (rest := []) hinv h6 (by omega) (by omega)
    rw [U.enc_ascii _ (UInt32.lt_iff_toNat_lt.mpr hu)]
    exact ⟨σ', _, (exec_ite_pos hge h0).trans (exec_cons_next ((exec_ite_pos hlt (decide_eq_true (by omega))).trans he) rfl), hinv',
      fun w h2 h3 _ => hfr w h2 h3⟩
  · obtain ⟨σ', he, hinv', hfr⟩ := putRune_exec (n := 7) hΓ hinv h6 (by omega) (by omega)
    exact ⟨σ', _, (exec_ite_pos hge h0).trans (exec_cons_next ((exec_ite_neg hlt (decide_eq_false (by omega))).trans he) rfl), hinv', hfr⟩

theorem fastCond_eval {n : Nat} (hinv : Inv2 σ b out) (h10 : σ 10 = some (.rune n)) :
    fastCond.eval Γ σ = .ok (.bool (decide (n < 128) && decide (out.length < b.length))) := by
  have h : fastCond.eval Γ σ = .ok (.bool ((decide ((0 : Int) ≤ n) && decide ((n : Int) < 128)) && decide ((out.length : Int) < b.length))) :=
    eval_and (eval_and (eval_cmp rfl (eval_var h10) rfl) (eval_cmp (eval_var h10) rfl rfl))
      (eval_cmp (eval_var hinv.h2) (eval_len (eval_var hinv.h3) rfl) rfl)
  have e1 : decide ((n : Int) < 128) = decide (n < 128) := decide_eq_decide.mpr (by omega)
  rw [h, decide_eq_true (Int.natCast_nonneg n), Bool.true_and, e1, decide_eq_decide.mpr Int.ofNat_lt]

/-- the buffer after growth: twice as long, `out` copied to its front -/
def grown (b out : Bytes) : Bytes := overwrite (List.replicate (2 * b.length) 0) 0 out

theorem grown_length (b out : Bytes) (h : out.length ≤ 2 * b.length) : (grown b out).length = 2 * b.length := by
  rw [grown, length_overwrite _ _ _ (by simp; omega)]; simp

theorem grown_take (b out : Bytes) (h : out.length ≤ 2 * b.length) : (grown b out).take out.length = out :=
  take_overwrite_zero _ out (by simp; omega)

/-- the growth check: afterwards `EncodeRune` has room -/
theorem grow_exec (hinv : Inv2 σ b out) :
    ∃ σ' b', grow.exec Γ σ = .next σ' ∧ Inv2 σ' b' out ∧ out.length + 4 ≤ b'.length ∧ σ' 10 = σ 10 := by
  obtain ⟨h2, h3, ht, hle, h4⟩ := hinv
  have hn : (E.add (E.var 2) (E.int 4)).eval Γ σ = .ok (.int (out.length + 4 : Nat)) := eval_add (eval_var h2) rfl rfl
  have hc := eval_cmp (Γ := Γ) (op := .ge) hn (eval_len (eval_var h3) rfl) rfl
  by_cases hg : out.length + 4 ≥ b.length
  · have hl := grown_length b out (by omega)
    have hmk : (E.make (E.mul (E.int 2) (E.len (E.var 3)))).eval Γ σ = .ok (.bytes (some (List.replicate (2 * b.length) 0))) :=
      eval_make (n := 2 * b.length) (bind2 rfl (eval_len (eval_var h3) rfl) rfl)
    have hsl : (E.sliceTo (E.var 3) (E.var 2)).eval Γ σ = .ok (.bytes (some (b.take out.length))) :=
      bind2 (eval_var h3) (eval_var h2) (slice_bytes (Nat.zero_le _) hle)
    refine ⟨(σ.set 11 (.bytes (some (grown b out)))).set 3 (.bytes (some (grown b out))), _,
      (exec_ite_pos hc (decide_eq_true (by omega))).trans <| exec_cons_next (exec_assign_ok hmk) <|
      exec_cons_next (exec_copy_ok (n := .blank) hsl rfl rfl) <|
      exec_cons_next (exec_assign_ok (eval_var rfl)) ?_,
      ⟨h2, rfl, grown_take b out (by omega), by omega, by omega⟩, by omega, rfl⟩
    rw [exec_block_nil, ht, List.length_replicate, Nat.min_eq_right (by omega), List.take_length, assignL, assignL, set_set]; rfl
  · exact ⟨σ, b, exec_ite_neg hc (decide_eq_false (by omega)), ⟨h2, h3, ht, hle, h4⟩, by omega, rfl⟩

/-- One round of the second loop on the rune `ch`: it goes on, and the encoding of `up ch` has been written. -/
theorem second_step (hΓ : UpperEnv Γ up) (ch : Char) (hinv : Inv2 σ b out) :
    ∃ σ' b', GoesOn (stepOf Γ secondBody (σ.set 9 (.rune ch.toNat))) σ' ∧ Inv2 σ' b' (out ++ enc (up ch)) := by
  have h10 : ((σ.set 9 (.rune ch.toNat)).set 10 (.rune (up ch).toNat)) 10 = some (.rune (up ch).toNat) := rfl
  have hinv1 : Inv2 ((σ.set 9 (.rune ch.toNat)).set 10 (.rune (up ch).toNat)) b out := hinv.of_eq rfl rfl
  have hup := upperOf_exec (σ := σ.set 9 (.rune ch.toNat)) (r := 10) hΓ (Store.set_same _ 9 _)
  generalize (σ.set 9 (.rune ch.toNat)).set 10 (.rune (up ch).toNat) = τ at h10 hinv1 hup
  have hfc := fastCond_eval (Γ := Γ) hinv1 h10
  rw [stepOf, secondBody, exec_cons_next hup rfl]
  by_cases hfast : (up ch).toNat < 128 ∧ out.length < b.length
  · -- the one-byte shortcut: the byte is the encoding
    obtain ⟨σ', he, hinv', -⟩ := putByte_exec (Γ := Γ) (rest := [S.cont]) hinv1 h10 (by omega) hfast.2
    rw [U.enc_ascii _ (UInt32.lt_iff_toNat_lt.mpr hfast.1)]
    exact ⟨σ', _, Or.inl (exec_cons_cont ((exec_ite_pos hfc (by simp [hfast])).trans he)), hinv'⟩
  · -- `EncodeRune`, after the growth check
    obtain ⟨σ1, b1, hg, hinv2, hroom, e10⟩ := grow_exec (Γ := Γ) hinv1
    have hel := enc_le (up ch)
    obtain ⟨σ', he, hinv', -⟩ := putRune_exec (n := 12) hΓ hinv2 (e10.trans h10) (by omega) (by omega)
    have hge : (E.cmp COp.ge (E.var 10) (E.rune 0)).eval Γ τ = .ok (.bool (decide (((up ch).toNat : Int) ≥ 0))) := eval_cmp (eval_var h10) rfl rfl
    exact ⟨σ', _, Or.inr (exec_cons_next (exec_ite_neg hfc (by simpa using fun a => Nat.not_lt.mp fun c => hfast ⟨a, c⟩))
      (exec_cons_next ((exec_ite_pos hge (decide_eq_true (Int.natCast_nonneg _))).trans (exec_cons_next hg he)) rfl)), hinv'⟩

end steps
/-- The second loop over the remaining runes `rest` writes the encoding of their upper case. -/
theorem second_loop (Γ : Env) (up : Char → Char) (hΓ : UpperEnv Γ up) : ∀ (rest pre : List Char) (n : Nat) (σ : Store) (b out : Bytes),
    rest.length < n → Inv2 σ b out →
    ∃ σ' b', iterStr Γ.decode .blank (.var 9) (stepOf Γ secondBody) (encs (pre ++ rest)) n (encs pre).length σ = .next σ' ∧
      Inv2 σ' b' (out ++ encs (rest.map up)) := by
  intro rest
  induction rest with
  | nil =>
    intro pre n σ b out hn hinv
    obtain ⟨m, rfl⟩ : ∃ m, n = m + 1 := ⟨n - 1, by simp at hn; omega⟩
    rw [List.append_nil, iterStr_nil]
    exact ⟨σ, b, rfl, by simpa [encs] using hinv⟩
  | cons ch rest ih =>
    intro pre n σ b out hn hinv
    obtain ⟨m, rfl⟩ : ∃ m, n = m + 1 := ⟨n - 1, by simp at hn; omega⟩
    obtain ⟨σ1, b1, hgo, hinv1⟩ := second_step hΓ ch hinv
    have hrec := ih (pre ++ [ch]) m σ1 b1 _ (by simp at hn; omega) hinv1
    rw [List.append_assoc, List.singleton_append] at hrec
    rw [iterStr_cons Γ up hΓ, List.map_cons, encs_cons, ← List.append_assoc]
    simp only [assignL]
    rcases hgo with h | h <;> rw [h] <;> exact hrec

/-! ## The first loop -/

/-- the state of the first loop: `*bP`, `s`, `nbytes = 0`, `b = nil` -/
structure St1 (σ : Store) (buf : Option Bytes) (s : Bytes) : Prop where
  h0 : σ 0 = some (.bytes buf)
  h1 : σ 1 = some (.str s)
  h2 : σ 2 = some (.int 0)
  h3 : σ 3 = some (.bytes none)

/-- the buffer the code works in: `*bP` when it has `len(s)+4` bytes, else a new one of that length -/
def chosen (buf : Option Bytes) (n : Nat) : Bytes :=
  if (buf.getD []).length ≥ n + 4 then buf.getD [] else List.replicate (n + 4) 0

theorem chosen_room (buf : Option Bytes) (n : Nat) : n + 4 ≤ (chosen buf n).length := by
  unfold chosen; split
  · assumption
  · simp

section first
variable {Γ : Env} {σ : Store} {up : Char → Char}

theorem chooseBuf_exec {buf : Option Bytes} {s : Bytes} (h0 : σ 0 = some (.bytes buf)) (h1 : σ 1 = some (.str s)) :
    chooseBuf.exec Γ σ = .next (σ.set 3 (.bytes (some (chosen buf s.length)))) := by
  have hl : (ST.Val.bytes buf).len = some (buf.getD []).length := by cases buf <;> rfl
  have hn : (E.add (E.len (E.var 1)) (E.int 4)).eval Γ σ = .ok (.int (s.length + 4 : Nat)) := eval_add (eval_len (eval_var h1) rfl) rfl rfl
  have hc := eval_cmp (Γ := Γ) (op := .ge) (eval_len (eval_var h0) hl) hn rfl
  rw [chosen]
  by_cases h : (buf.getD []).length ≥ s.length + 4
  · -- `*bP` is long enough, so it is not nil
    rw [if_pos h]
    cases buf with
    | none => exact absurd h (by simp)
    | some b0 => exact (exec_ite_pos hc (decide_eq_true (by omega))).trans (exec_cons_next (exec_assign_ok (eval_var h0)) rfl)
  · rw [if_neg h]
    exact (exec_ite_neg hc (decide_eq_false (by omega))).trans (exec_cons_next (exec_assign_ok (eval_make hn)) rfl)

/-- `nbytes = copy(b, s[:i])` into a buffer that has room -/
theorem copy_exec {s b : Bytes} {n : Nat} (h1 : σ 1 = some (.str s)) (h3 : σ 3 = some (.bytes (some b))) (h4 : σ 4 = some (.int n))
    (hn : n ≤ s.length) (hb : n ≤ b.length) :
    (S.copy (L.var 2) 3 (E.sliceTo (E.var 1) (E.var 4))).exec Γ σ =
      .next ((σ.set 3 (.bytes (some (overwrite b 0 (s.take n))))).set 2 (.int n)) := by
  have h := exec_copy_ok (Γ := Γ) (n := L.var 2) (v := 3) (src := E.sliceTo (E.var 1) (E.var 4))
    (bind2 (eval_var h1) (eval_var h4) (slice_str (Nat.zero_le _) hn)) rfl h3
  rwa [List.drop_zero, List.length_take, Nat.min_eq_left hn, Nat.min_eq_right hb, List.take_take, Nat.min_self] at h

/-- `i` moves past the rune `ch` at `s[i:]`; `s`, `nbytes` and `b` stay -/
theorem advance_exec {s tl : Bytes} {n : Nat} {ch : Char} (hΓ : UpperEnv Γ up) (h1 : σ 1 = some (.str s)) (h4 : σ 4 = some (.int n))
    (h5 : σ 5 = some (.rune ch.toNat)) (hn : n ≤ s.length) (hd : s.drop n = enc ch ++ tl) :
    ∃ σ', advance.exec Γ σ = .next σ' ∧ σ' 4 = some (.int (n + ch.utf8Size : Nat)) ∧ σ' 1 = σ 1 ∧ σ' 2 = σ 2 ∧ σ' 3 = σ 3 := by
  have hc : (E.cmp COp.eq (E.var 5) (E.rune 65533)).eval Γ σ = .ok (.bool (decide ((ch.toNat : Int) = 65533))) := eval_cmp (eval_var h5) rfl rfl
  cases hb : decide ((ch.toNat : Int) = 65533)
  · have hl : (E.runeLen (E.var 5)).eval Γ σ = .ok (.int (ch.utf8Size : Nat)) := by
      rw [E.eval, eval_var h5]; exact congrArg (fun x => ST.Res.ok (ST.Val.int x)) (hΓ.runeLen ch)
    exact ⟨_, (exec_ite_neg hc hb).trans (exec_cons_next (exec_assign_ok (eval_add (eval_var h4) hl rfl)) rfl), rfl, rfl, rfl, rfl⟩
  · have hdr : (S.decodeRune L.blank (L.var 8) (E.sliceFrom (E.var 1) (E.var 4))).exec Γ σ = .next (σ.set 8 (.int (ch.utf8Size : Nat))) := by
      rw [exec_decodeRune, eval_sliceFrom_str (eval_var h1) (eval_var h4) hn, hd, Out.ofRes_ok]
      simp only [hΓ.decode]; rfl
    exact ⟨_, (exec_ite_pos hc hb).trans (exec_cons_next hdr (exec_cons_next (exec_assign_ok (eval_add (eval_var h4) (eval_var rfl) rfl)) rfl)),
      rfl, rfl, rfl, rfl⟩

theorem char_toNat_ne (a b : Char) (h : a ≠ b) : ¬ ((a.toNat : Int) = (b.toNat : Int)) := by
  intro e
  apply h
  apply Char.ext
  apply UInt32.toNat_inj.mp
  have : a.toNat = b.toNat := by omega
  exact this

/-- The round of the first loop at the first rune that changes, `ch` at `s[i:]`, up to the copy of the prefix `s[:i]`. -/
theorem change_exec {buf : Option Bytes} {P R : Bytes} {ch : Char} {rest : List S} (hΓ : UpperEnv Γ up) (h0 : σ 0 = some (.bytes buf))
    (h1 : σ 1 = some (.str (P ++ (enc ch ++ R)))) (h4 : σ 4 = some (.int P.length)) (h5 : σ 5 = some (.rune ch.toNat)) (hne : up ch ≠ ch) :
    ∃ τ W, (S.block (upperOf 6 5 :: sameTest :: chooseBuf :: S.copy (L.var 2) 3 (E.sliceTo (E.var 1) (E.var 4)) :: rest)).exec Γ σ =
        (S.block rest).exec Γ τ ∧ Inv2 τ W P ∧ (P ++ (enc ch ++ R)).length + 4 ≤ W.length ∧
      τ 1 = some (.str (P ++ (enc ch ++ R))) ∧ τ 4 = some (.int P.length) ∧ τ 5 = some (.rune ch.toNat) ∧ τ 6 = some (.rune (up ch).toNat) := by
  have hB4 := chosen_room buf (P ++ (enc ch ++ R)).length
  have hPl : P.length ≤ (P ++ (enc ch ++ R)).length := by simp
  refine ⟨_, overwrite (chosen buf (P ++ (enc ch ++ R)).length) 0 P, exec_cons_next (upperOf_exec hΓ h5) <|
    exec_cons_next (exec_ite_neg (eval_cmp (eval_var rfl) (eval_var h5) rfl) (decide_eq_false (char_toNat_ne _ _ hne))) <|
    exec_cons_next (chooseBuf_exec h0 h1) <| exec_cons_next (copy_exec h1 rfl h4 hPl (by omega)) rfl, ?_, ?_, h1, h4, h5, rfl⟩
  · rw [List.take_left]
    exact ⟨rfl, rfl, take_overwrite_zero _ P (by omega), by rw [length_overwrite _ _ _ (by omega)]; omega,
      by rw [length_overwrite _ _ _ (by omega)]; omega⟩
  · rw [length_overwrite _ _ _ (by omega)]; exact hB4

/-- The round of the first loop at the first rune `ch` that changes: the loop is left with `s` = the rest of the string and, in the
buffer, the prefix and the encoding of `up ch`. -/
theorem first_change (hΓ : UpperEnv Γ up) (buf : Option Bytes) (pre : List Char) (ch : Char)
    (rest : List Char) (hst : St1 σ buf (encs (pre ++ ch :: rest))) (hne : up ch ≠ ch) :
    ∃ σ' b1, stepOf Γ firstBody ((σ.set 4 (.int (encs pre).length)).set 5 (.rune ch.toNat)) = .brk σ' ∧
      σ' 1 = some (.str (encs rest)) ∧ Inv2 σ' b1 (encs pre ++ enc (up ch)) := by
  obtain ⟨h0, h1, -, -⟩ := hst
  rw [encs_append, encs_cons] at h1
  generalize encs pre = P at h1 ⊢
  generalize encs rest = R at h1 ⊢
  obtain ⟨τ, W, e1, hinv, hB4, f1, f4, f5, h6⟩ := change_exec (Γ := Γ) (rest := [writeFirst, advance, S.assign (L.var 1) (E.sliceFrom (E.var 1) (E.var 4)), S.brk])
    (σ := (σ.set 4 (.int P.length)).set 5 (.rune ch.toNat)) hΓ h0 h1 rfl rfl hne
  have hcl := length_enc ch
  have hsl : (P ++ (enc ch ++ R)).length = P.length + (enc ch).length + R.length := by simp; omega
  obtain ⟨τ', b1, e2, hinv', g⟩ := writeFirst_exec (Γ := Γ) hΓ hinv h6 (by omega)
  have g1 := (g 1 (by decide) (by decide) (by decide)).trans f1
  obtain ⟨τ'', e3, k4, k1, k2, k3⟩ := advance_exec (Γ := Γ) (tl := R) hΓ g1 ((g 4 (by decide) (by decide) (by decide)).trans f4)
    ((g 5 (by decide) (by decide) (by decide)).trans f5) (by omega) List.drop_left
  have e4 := exec_assign_ok (Γ := Γ) (l := L.var 1) (eval_sliceFrom_str (eval_var (k1.trans g1)) (eval_var k4) (by omega))
  refine ⟨_, b1, e1.trans (exec_cons_next e2 (exec_cons_next e3 (exec_cons_next e4 rfl))), ?_, (hinv'.of_eq k2 k3).of_eq rfl rfl⟩
  rw [assignL, Store.set_same, ← hcl, ← List.append_assoc, ← List.length_append, List.drop_left]

theorem length_le_encs : ∀ cs : List Char, cs.length ≤ (encs cs).length
  | [] => Nat.le_refl _
  | c :: cs => by
    have := length_le_encs cs
    have := enc_pos c
    rw [encs_cons]; simp only [List.length_append, List.length_cons]; omega

/-- what follows the first loop when a rune has changed: the second loop over the rest of the string, `*bP = b`, and the
string `b[:nbytes]` -/
theorem after_change (hΓ : UpperEnv Γ up) (b out : Bytes) (rest : List Char)
    (h1 : σ 1 = some (.str (encs rest))) (hinv : Inv2 σ b out) :
    ∃ σ'', (S.block afterFirst).exec Γ σ = .ret σ'' [.str (out ++ encs (rest.map up))] := by
  obtain ⟨σ2, b2, hit, h2', h3', ht', hle', -⟩ := second_loop Γ up hΓ rest [] ((encs rest).length + 1) σ b out
    (by have := length_le_encs rest; omega) hinv
  simp only [List.nil_append, encs_nil, List.length_nil] at hit
  exact ⟨_, exec_cons_next (exec_ite_neg (bind1 (eval_var hinv.h3) rfl) rfl) <|
    exec_cons_next (Eq.trans (exec_rangeStr_ok (eval_var h1)) hit) <| exec_cons_next (exec_assign_ok (eval_var h3')) <|
    exec_cons_ret (exec_ret_ok (evalList_cons (bind1 (bind2 (eval_var h3') (eval_var h2') (slice_bytes (Nat.zero_le _) hle'))
      (congrArg (fun l => ST.Res.ok (ST.Val.str l)) ht')) rfl))⟩

/-- a round of the first loop on a rune that does not change -/
theorem first_same (hΓ : UpperEnv Γ up) (ch : Char) (he : up ch = ch) :
    stepOf Γ firstBody (σ.set 5 (.rune ch.toNat)) = .cont ((σ.set 5 (.rune ch.toNat)).set 6 (.rune ch.toNat)) := by
  have hup := upperOf_exec (σ := σ.set 5 (.rune ch.toNat)) (r := 6) hΓ (Store.set_same _ 5 _)
  rw [he] at hup
  exact exec_cons_next hup (exec_cons_cont ((exec_ite_pos (eval_cmp (eval_var rfl) (eval_var rfl) rfl) (decide_eq_true rfl)).trans rfl))

end first

/-- The first loop from the prefix `pre` (whose runes did not change) and what follows it return `pre` and the upper case of `rest`. -/
theorem first_loop (Γ : Env) (up : Char → Char) (hΓ : UpperEnv Γ up) (buf : Option Bytes) : ∀ (rest pre : List Char) (n : Nat) (σ : Store),
    rest.length < n → St1 σ buf (encs (pre ++ rest)) →
    ∃ σ' σ'', iterStr Γ.decode (.var 4) (.var 5) (stepOf Γ firstBody) (encs (pre ++ rest)) n (encs pre).length σ = .next σ' ∧
      (S.block afterFirst).exec Γ σ' = .ret σ'' [.str (encs pre ++ encs (rest.map up))] := by
  intro rest
  induction rest with
  | nil =>
    intro pre n σ hn hst
    obtain ⟨m, rfl⟩ : ∃ m, n = m + 1 := ⟨n - 1, by simp at hn; omega⟩
    obtain ⟨h0, h1, h2, h3⟩ := hst
    rw [List.append_nil] at h1 ⊢
    rw [iterStr_nil]
    rw [List.map_nil, encs_nil, List.append_nil]
    exact ⟨σ, σ, rfl, exec_cons_ret (Eq.trans (exec_ite_pos (bind1 (eval_var h3) rfl) rfl)
      (exec_cons_ret (exec_ret_ok (evalList_cons (eval_var h1) rfl))))⟩
  | cons ch rest ih =>
    intro pre n σ hn hst
    obtain ⟨m, rfl⟩ : ∃ m, n = m + 1 := ⟨n - 1, by simp at hn; omega⟩
    rw [iterStr_cons Γ up hΓ, List.map_cons, encs_cons, ← List.append_assoc]
    simp only [assignL]
    by_cases he : up ch = ch
    · -- the rune does not change: on to the next
      rw [first_same hΓ ch he, he, ← encs_snoc]
      have hst' : St1 (((σ.set 4 (.int (encs pre).length)).set 5 (.rune ch.toNat)).set 6 (.rune ch.toNat)) buf (encs ((pre ++ [ch]) ++ rest)) := by
        obtain ⟨h0, h1, h2, h3⟩ := hst
        rw [List.append_assoc, List.singleton_append]
        exact ⟨h0, h1, h2, h3⟩
      have := ih (pre ++ [ch]) m _ (by simp at hn; omega) hst'
      rwa [List.append_assoc, List.singleton_append] at this
    · -- the first rune that changes: the buffer is set up, the second loop does the rest
      obtain ⟨σ', b1, hbrk, k1, hinv⟩ := first_change hΓ buf pre ch rest hst he
      rw [hbrk]
      obtain ⟨σ'', haf⟩ := after_change hΓ b1 _ rest k1 hinv
      exact ⟨σ', σ'', rfl, haf⟩

/-- today's `ToUpper` by the regenerated term -/
def genToUpper (Γ : Env) (buf : Option Bytes) (s : Bytes) : Option (List ST.Val) :=
  (run Γ Gen.stringsFns .toUpper [.bytes buf, .str s]).vals

/-- C18 for today's code: `ToUpper` of today's source, interpreted with Go's semantics, returns `encode (map up s)` — for every case
mapping `up`, every valid UTF-8 string (the encoding of the code points `cs`) and every initial buffer `*bP` (nil included); in
particular it never writes outside the buffer it works in. -/
theorem gen_toUpper_spec (Γ : Env) (up : Char → Char) (hΓ : UpperEnv Γ up) (buf : Option Bytes) (cs : List Char) :
    genToUpper Γ buf (encs cs) = some [.str (encs (cs.map up))] := by
  obtain ⟨σ', σ'', hit, haf⟩ := first_loop Γ up hΓ buf cs [] ((encs cs).length + 1)
    ((((Store.empty.set 0 (.bytes buf)).set 1 (.str (encs cs))).set 2 (.int 0)).set 3 (.bytes none))
    (by have := length_le_encs cs; omega) ⟨rfl, rfl, rfl, rfl⟩
  simp only [List.nil_append, encs_nil, List.length_nil] at hit
  exact run_vals gen_toUpper_canon rfl (exec_cons_next (exec_assign_ok rfl) <| exec_cons_next (exec_assign_ok rfl) <|
    exec_cons_next (Eq.trans (exec_rangeStr_ok (eval_var rfl)) hit) haf)

/-- … hence (`U.toUpper_spec'`: the mirror computes the same bytes whatever its buffer length) today's `ToUpper` returns exactly the
bytes of the hand mirror `U.toUpper`. -/
theorem gen_toUpper_semantics (Γ : Env) (up : Char → Char) (hΓ : UpperEnv Γ up) (buf : Option Bytes) (cs : List Char) :
    genToUpper Γ buf (encs cs) = some [.str (U.toUpper up (buf.getD []).length cs)] := by
  rw [gen_toUpper_spec Γ up hΓ, U.toUpper_spec']; rfl

/-- an environment with the properties `UpperEnv`: Lean's own UTF-8 decoder and encoder -/
def coreEnv (up : Char → Char) (fuel : Nat) : Env :=
  { fuel := fuel,
    decode := fun t => match t.toByteArray.utf8DecodeChar? 0 with
      | some c => ((c.toNat : Int), c.utf8Size)
      | none => (65533, 1),
    encode := fun r => enc (Char.ofNat r.toNat),
    runeLen := fun r => ((Char.ofNat r.toNat).utf8Size : Int),
    toUpper := fun r => ((up (Char.ofNat r.toNat)).toNat : Int),
    newMatcher := fun _ _ => .error .badPattern }

theorem coreEnv_ok (up : Char → Char) (fuel : Nat) : UpperEnv (coreEnv up fuel) up where
  decode c rest := by
    simp only [coreEnv, enc, List.toByteArray_append, ByteArray.utf8DecodeChar?_utf8EncodeChar_append]
  encode c := by simp only [coreEnv, Int.toNat_natCast, Char.ofNat_toNat]
  runeLen c := by simp only [coreEnv, Int.toNat_natCast, Char.ofNat_toNat]
  toUpper c := by simp only [coreEnv, Int.toNat_natCast, Char.ofNat_toNat]

/-! ## Witnesses: plausible mutations are different terms and return other bytes (or panic) -/

/-- `ToUpper` with other statements for the write at the first change, the fast-path test and the growth of the buffer -/
def mkUpper (writeFirstV : S) (fastCondV : E) (growV : S) : ST.Fn := { params := 2, body := S.block [
  S.assign (L.var 2) (E.int 0),
  S.assign (L.var 3) E.nilBytes,
  S.rangeStr (L.var 4) (L.var 5) (E.var 1) (S.block [
    S.assign (L.var 6) (E.upper (E.var 5)),
    S.ite (E.cmp COp.eq (E.var 6) (E.var 5)) (S.block [S.cont]) (S.block []),
    chooseBuf,
    S.copy (L.var 2) 3 (E.sliceTo (E.var 1) (E.var 4)),
    writeFirstV,
    advance,
    S.assign (L.var 1) (E.sliceFrom (E.var 1) (E.var 4)),
    S.brk]),
  S.ite (E.isNil (E.var 3)) (S.block [S.ret [E.var 1]]) (S.block []),
  S.rangeStr L.blank (L.var 9) (E.var 1) (S.block [
    S.assign (L.var 10) (E.upper (E.var 9)),
    S.ite fastCondV (S.block [S.setAt 3 (E.var 2) (E.conv NK.byte (E.var 10)), S.assign (L.var 2) (E.add (E.var 2) (E.int 1)), S.cont]) (S.block []),
    S.ite (E.cmp COp.ge (E.var 10) (E.rune 0))
      (S.block [growV, S.encodeRune (L.var 12) 3 (E.var 2) (E.var 10), S.assign (L.var 2) (E.add (E.var 2) (E.var 12))]) (S.block [])]),
  S.assign (L.var 0) (E.var 3),
  S.ret [E.toStr (E.sliceTo (E.var 3) (E.var 2))]] }

example : mkUpper writeFirst fastCond grow = fnToUpper := rfl

/-- an environment for evaluation: the spec's UTF-8 decoder and encoder (QF/Spec/Json.lean) and a case mapping with
`a ↦ A`, `b ↦ U+0080` (two bytes C2 80), `c ↦ U+2C6F` (three bytes E2 B1 AF), everything else unchanged -/
def wEnv : Env :=
  { fuel := 0,
    decode := fun t => (((Json.decodeRune t).1 : Nat), (Json.decodeRune t).2),
    encode := fun r => Json.encodeRune r.toNat,
    runeLen := fun r => ((Json.encodeRune r.toNat).length : Nat),
    toUpper := fun r => if r = 97 then 65 else if r = 98 then 128 else if r = 99 then 0x2C6F else r,
    newMatcher := fun _ _ => .error .badPattern }

/-- the bytes a variant returns -/
def outU (fn : ST.Fn) (buf : Option Bytes) (s : Bytes) : Option Bytes :=
  match runFn wEnv fn [.bytes buf, .str s] with
  | .ret _ [.str b] => some b
  | _ => none

def panics (fn : ST.Fn) (buf : Option Bytes) (s : Bytes) : Bool :=
  match runFn wEnv fn [.bytes buf, .str s] with
  | .panic _ => true
  | _ => false

-- today's term on samples: "xab" ↦ x A C2 80; nothing changes ↦ the string itself; "accc" grows the buffer (4+4 < 1+9)
example : outU fnToUpper none [120, 97, 98] = some [120, 65, 0xC2, 0x80] := by decide
example : outU fnToUpper (some [1, 2, 3]) [120, 121] = some [120, 121] := by decide
example : outU fnToUpper none [97, 99, 99, 99] = some [65, 0xE2, 0xB1, 0xAF, 0xE2, 0xB1, 0xAF, 0xE2, 0xB1, 0xAF] := by decide
example : outU fnToUpper (some (List.replicate 20 7)) [97, 99, 99, 99] = some [65, 0xE2, 0xB1, 0xAF, 0xE2, 0xB1, 0xAF, 0xE2, 0xB1, 0xAF] := by decide

/-- `r <= utf8.RuneSelf` in the fast path of the second loop (the defect that was repaired): U+0080 is written as the one byte 80 -/
def fastCondLe : E :=
  E.and (E.and (E.cmp COp.le (E.rune 0) (E.var 10)) (E.cmp COp.le (E.var 10) (E.rune 128))) (E.cmp COp.lt (E.var 2) (E.len (E.var 3)))
example : mkUpper writeFirst fastCondLe grow ≠ fnToUpper := by decide
example : outU (mkUpper writeFirst fastCondLe grow) none [97, 98] = some [65, 0x80] := by decide
example : outU fnToUpper none [97, 98] = some [65, 0xC2, 0x80] := by decide

/-- the same `<=` in the one-byte shortcut at the first change -/
def writeFirstLe : S :=
  S.ite (E.cmp COp.ge (E.var 6) (E.rune 0))
    (S.block [S.ite (E.cmp COp.le (E.var 6) (E.rune 128))
      (S.block [S.setAt 3 (E.var 2) (E.conv NK.byte (E.var 6)), S.assign (L.var 2) (E.add (E.var 2) (E.int 1))])
      (S.block [S.encodeRune (L.var 7) 3 (E.var 2) (E.var 6), S.assign (L.var 2) (E.add (E.var 2) (E.var 7))])])
    (S.block [])
example : mkUpper writeFirstLe fastCond grow ≠ fnToUpper := by decide
example : outU (mkUpper writeFirstLe fastCond grow) none [120, 98] = some [120, 0x80] := by decide
example : outU fnToUpper none [120, 98] = some [120, 0xC2, 0x80] := by decide

/-- the fast path without `nbytes < len(b)`: a write beyond the buffer (index out of range) when the output outgrows it -/
def fastCondNoRoom : E := E.and (E.cmp COp.le (E.rune 0) (E.var 10)) (E.cmp COp.lt (E.var 10) (E.rune 128))
example : panics (mkUpper writeFirst fastCondNoRoom grow) none [97, 99, 99, 99, 120, 120, 120, 120] = true := by decide
example : outU fnToUpper none [97, 99, 99, 99, 120, 120, 120, 120] =
    some [65, 0xE2, 0xB1, 0xAF, 0xE2, 0xB1, 0xAF, 0xE2, 0xB1, 0xAF, 120, 120, 120, 120] := by decide

/-- no growth of the buffer: `EncodeRune` panics when the upper case is longer than the string plus 4 bytes -/
example : mkUpper writeFirst fastCond S.skip ≠ fnToUpper := by decide
example : panics (mkUpper writeFirst fastCond S.skip) none [97, 99, 99, 99] = true := by decide
example : panics fnToUpper none [97, 99, 99, 99] = false := by decide

/-- growth only when `nbytes+utf8.UTFMax > 2*len(b)` (never in time): the same panic -/
def growLate : S :=
  S.ite (E.cmp COp.ge (E.add (E.var 2) (E.int 4)) (E.mul (E.int 2) (E.len (E.var 3))))
    (S.block [S.assign (L.var 11) (E.make (E.mul (E.int 2) (E.len (E.var 3)))), S.copy L.blank 11 (E.sliceTo (E.var 3) (E.var 2)),
      S.assign (L.var 3) (E.var 11)]) (S.block [])
example : panics (mkUpper writeFirst fastCond growLate) none [97, 99, 99, 99] = true := by decide

/-! ## Outside C18: strings that are not valid UTF-8

The theorems above speak about the encodings of lists of code points. On other byte strings the interpreted code (with Go's
decoder, `Json.decodeRune`: an invalid byte is U+FFFD of width 1) copies an unchanged PREFIX byte for byte — `s[:i]` — and
re-encodes invalid bytes AFTER the first change as EF BF BD, while the mirror applied to the decoded string (the driver's
`decodeAll`) re-encodes every invalid byte. C18 quantifies over valid UTF-8 only. -/

/-- the case mapping of `wEnv` on code points -/
def wUp (c : Char) : Char := if c = 'a' then 'A' else if c = 'b' then Char.ofNat 0x80 else if c = 'c' then Char.ofNat 0x2C6F else c

-- the invalid byte FF before the first change is kept; after it, it becomes U+FFFD
example : outU fnToUpper none [0xFF, 97] = some [0xFF, 65] := by decide
example : outU fnToUpper none [97, 0xFF] = some [65, 0xEF, 0xBF, 0xBD] := by decide
-- the mirror on the decoded string [U+FFFD, 'a']
example : U.toUpper wUp 0 [Char.ofNat 0xFFFD, 'a'] = [0xEF, 0xBF, 0xBD, 65] := by decide

end QF.Props.C18UpperGen

#print axioms QF.Props.C18UpperGen.gen_toUpper_no_opaque
#print axioms QF.Props.C18UpperGen.gen_toUpper_canon
#print axioms QF.Props.C18UpperGen.gen_toUpper_semantics
#print axioms QF.Props.C18UpperGen.gen_toUpper_spec
#print axioms QF.Props.C18UpperGen.coreEnv_ok
