import QF.Core.Frame
import QF.Core.SpecFacts
import QF.Spec.Ops
/-!
# C07 — names: the mirror's `String`s against the spec's byte strings

`strBytes` (UTF-8) is injective, and the mirror's name check `Fr.checkName` (stated on characters) is the spec's `legalName`
(stated on bytes) under it: `checkName_eq_legalName`.  Used by QF/Props/C07EndToEnd.lean.
-/
namespace QF.Props.C07EndToEnd
open QF

/-- the UTF-8 bytes of the mirror's names: distinct names, distinct byte strings -/
theorem strBytes_inj (a b : String) (h : strBytes a = strBytes b) : a = b :=
  ListFacts.toUTF8_toList_inj h

/-! ### one character -/

abbrev enc (c : Char) : List UInt8 := String.utf8EncodeChar c

theorem enc_ne_nil (c : Char) : enc c ≠ [] := String.utf8EncodeChar_ne_nil

theorem enc_ascii (c : Char) (h : c.val.toNat < 128) : (enc c).length = 1 := by
  rw [enc, ListFacts.utf8EncodeChar_of_ascii c h]; rfl


/-! ### lists of characters -/

theorem flat_nil (l : List Char) : l.flatMap enc = [] ↔ l = [] := ListFacts.flatMap_eq_nil_of_ne_nil enc_ne_nil l

theorem flat_len (l : List Char) : l.length ≤ (l.flatMap enc).length := by
  induction l with
  | nil => simp
  | cons c r ih =>
    have : 1 ≤ (enc c).length := by
      cases h : enc c with
      | nil => exact absurd h (enc_ne_nil c)
      | cons _ _ => simp
    simp only [List.flatMap_cons, List.length_append, List.length_cons]
    omega

/-- a string that begins and ends with the ASCII character `q` is longer than two characters exactly when it is longer
than two bytes -/
theorem quoted_len (l : List Char) (q : Char) (hq : q.val.toNat < 128) (h1 : l.head? = some q) (h2 : l.getLast? = some q) :
    (l.flatMap enc).length > 2 ↔ l.length > 2 := by
  constructor
  · intro h
    match l, h1, h2 with
    | [c], h1, _ =>
      simp only [List.head?_cons, Option.some.injEq] at h1
      subst h1
      simp [List.flatMap_cons, enc_ascii c hq] at h
    | [c, d], h1, h2 =>
      simp only [List.head?_cons, Option.some.injEq] at h1
      simp only [List.getLast?_cons_cons, List.getLast?_singleton, Option.some.injEq] at h2
      subst h1; rw [h2] at h
      have e1 : c.utf8Size = 1 := by rw [← String.length_utf8EncodeChar]; exact enc_ascii c hq
      simp [List.flatMap_cons, e1] at h
    | _ :: _ :: _ :: _, _, _ => simp
  · intro h
    have := flat_len l
    omega


/-! ### the two name checks -/

theorem sw (n p : String) (q : Char) (hp : p.toList = [q]) : n.startsWith p = (n.toList.head? == some q) := by
  rw [Bool.eq_iff_iff]
  simp only [String.startsWith_string_iff, hp, beq_iff_eq]
  cases n.toList with
  | nil => simp
  | cons c r => simp [List.cons_prefix_cons, eq_comm]

theorem ew (n p : String) (q : Char) (hp : p.toList = [q]) : n.endsWith p = (n.toList.getLast? == some q) := by
  rw [Bool.eq_iff_iff]
  have : (n.endsWith p = true) ↔ p.toList <:+ n.toList := by simp [← String.endsWith_toSlice]
  rw [this, hp, beq_iff_eq, List.getLast?_eq_some_iff]
  constructor
  · rintro ⟨t, ht⟩; exact ⟨t, ht.symm⟩
  · rintro ⟨t, ht⟩; exact ⟨t, ht.symm⟩

theorem isEmpty_toList (n : String) : n.isEmpty = n.toList.isEmpty := by
  rw [Bool.eq_iff_iff, String.isEmpty_iff, List.isEmpty_iff, String.toList_eq_nil_iff]

/-- **The mirror's name check is the spec's**, under the UTF-8 encoding of names. -/
theorem checkName_eq_legalName (n : String) : Fr.checkName n = legalName (strBytes n) := by
  unfold Fr.checkName legalName isQuotedName
  rw [strBytes_eq, isEmpty_toList, sw n "$" '$' rfl, sw n "'" '\'' rfl, ew n "'" '\'' rfl, sw n "\"" '"' rfl, ew n "\"" '"' rfl,
    ← String.length_toList]
  -- from here on the statement is about the characters `l` of the name and their bytes `l.flatMap enc`
  generalize n.toList = l
  have hE : (l.flatMap enc).isEmpty = l.isEmpty := by
    rw [Bool.eq_iff_iff, List.isEmpty_iff, List.isEmpty_iff]; exact flat_nil l
  have hD : ((l.flatMap enc).head? == some 36) = (l.head? == some '$') :=
    ListFacts.beq_congr (ListFacts.utf8_head_iff l '$' 36 (by decide) (by decide))
  have hQ1 : ((l.flatMap enc).head? == some 39) = (l.head? == some '\'') :=
    ListFacts.beq_congr (ListFacts.utf8_head_iff l '\'' 39 (by decide) (by decide))
  have hQ2 : ((l.flatMap enc).getLast? == some 39) = (l.getLast? == some '\'') :=
    ListFacts.beq_congr (ListFacts.utf8_last_iff l '\'' 39 (by decide) (by decide))
  have hR1 : ((l.flatMap enc).head? == some 34) = (l.head? == some '"') :=
    ListFacts.beq_congr (ListFacts.utf8_head_iff l '"' 34 (by decide) (by decide))
  have hR2 : ((l.flatMap enc).getLast? == some 34) = (l.getLast? == some '"') :=
    ListFacts.beq_congr (ListFacts.utf8_last_iff l '"' 34 (by decide) (by decide))
  rw [hE, hQ1, hQ2, hR1, hR2]
  have hD' : ((l.flatMap enc).head? != some 36) = !(l.head? == some '$') := by rw [bne, hD]
  rw [hD']
  -- the length test, needed only under the quotes
  have hlen : ∀ q : Char, q.val.toNat < 128 → (l.head? == some q && l.getLast? == some q) = true →
      decide ((l.flatMap enc).length > 2) = decide (l.length > 2) := by
    intro q hq h
    simp only [Bool.and_eq_true, beq_iff_eq] at h
    exact decide_eq_decide.mpr (quoted_len l q hq h.1 h.2)
  cases h1 : (l.head? == some '\'' && l.getLast? == some '\'') with
  | true =>
    rw [hlen '\'' (by decide) h1]
    cases l.isEmpty <;> cases (l.head? == some '$') <;> cases decide (l.length > 2) <;> rfl
  | false =>
    cases h2 : (l.head? == some '"' && l.getLast? == some '"') with
    | true =>
      rw [hlen '"' (by decide) h2]
      cases l.isEmpty <;> cases (l.head? == some '$') <;> cases decide (l.length > 2) <;> rfl
    | false =>
      simp only [Bool.or_false, Bool.and_false, Bool.not_false, Bool.and_true]

example : Fr.checkName "'é'" = false ∧ Fr.checkName "'é" = true ∧ Fr.checkName "$x" = false ∧ Fr.checkName "" = false := by
  decide +kernel

#print axioms strBytes_inj
#print axioms checkName_eq_legalName

end QF.Props.C07EndToEnd
