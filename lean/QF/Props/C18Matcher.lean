import QF.Props.C18Like
import QF.Gen.Matcher
/-!
# C18 — `NewMatcher` and the `Matches` methods of today's source are the mirror of C18Like (tie T1, by semantics)

`QF.Gen.newMatcher` (regenerated on every run by go/cmd/extract/mast.go) is the body of
`func NewMatcher(comparatee string, caseSensitive bool) (Matcher, error)` of /repo/internal/strings/match.go as a decision
tree `QF.MT` (QF/Core/MExpr.lean) whose leaves carry the translated `Matches` method of the matcher type they return.
`MT.run` / `MB.eval` are the Go meaning of such terms. Proved here, over the term generated TODAY:

* `gen_newmatcher_canon`       — finite `decide`: for each of the 16 answers of the four tests `NewMatcher` can make on
                                 its parameters (starts with %, ends with %, has metacharacters, caseSensitive) the tree
                                 reaches the canonical leaf `canonLeaf` (matcher body + match-string term, or the
                                 regular-expression source term). Insensitive to names and to a harmless re-ordering of
                                 the tests; sensitive to the order where it matters (e.g. `fuzzyEnd` tested before
                                 `fuzzyStart && fuzzyEnd`), to the operands and functions of the `Matches` bodies, to
                                 the order of upper-casing and trimming (see the note below).
* `gen_newmatcher_semantics`   — every pattern, every cell, every case mapping and buffer size:
                                 no metacharacters, case-sensitive: `Matches` of the matcher returned =
                                 `runMatcher (matcherKind pat) (trimPercent pat) cell`; case-insensitive: `= ciMatch …`
                                 (both the hand mirror of C18Like); metacharacters: the matcher returned is the one of the
                                 regular expression `regexSource pat cs` (or `regexp.Compile`'s error for it), the source
                                 `Drv.likeRule` looks up (`likeRule_regex`): `^`/`$` unless %, % dropped, `(?i)` for ilike.
* `gen_like_correct`, `gen_ilike_correct` — hence (with `like_correct` / `ilike_correct`) the declarative `Matches`.
* `gen_newmatcher_likeRule`    — the rule the replay driver executes (`Drv.likeRule`) gives the same answers.
* `gen_matcher_upper`          — the function the CI `Matches` bodies call on (&buffer, cell) is the package's own
                                 `ToUpper` of /repo/internal/strings: its text hash is the one `Gen.hashes` records under
                                 "strings.ToUpper" (both regenerated today); that function's meaning is C18UpperGen's.

Note on "trimming before upper-casing": `strings.ToUpper(trimPercent(p))` instead of `trimPercent(strings.ToUpper(p))`
gives the same bytes whenever the case mapping is `PctStable` (Unicode's is), so it would NOT be a behaviour change; the
canonical leaf nevertheless fixes the order of today's source (`trimSuffix (trimPrefix (upper param))`), i.e. such an
edit makes `gen_newmatcher_canon` fail although no cell would be matched differently: a conservative alarm, not a
violation of `Matches`. Testing `fuzzyEnd` before `fuzzyStart && fuzzyEnd` IS a behaviour change ("%a%" would become a
prefix matcher) and `gen_newmatcher_canon` fails on it for the flags `fs = fe = true`.
-/
namespace QF.Props.C18Matcher
open QF QF.Drv QF.Props.C18Like

/-- the library functions of a call today: `strings.ToUpper` = the specification `upper up`, the package's `ToUpper` =
its mirror `U.toUpper` with a buffer of `bufLen` bytes, `regexp.QuoteMeta(s) != s` = `s` has one of `\.+*?()|[]{}^$`. -/
def today (up : Char → Char) (bufLen : Nat) : MEnv :=
  { toUpperStd := upper up, toUpperBuf := fun c => U.toUpper up bufLen (decodeAll c), quoteMetaNe := hasMeta }

/-! ## 1. the canonical leaves -/

def trimS (x : SE) : SE := .trimSuffix (.trimPrefix x pct) pct

def kindOf (fs fe : Bool) : Kind :=
  if fs && fe then .contains else if fs then .suffix else if fe then .prefix else .exact

def bodyOf (x : MO) : Kind → MB
  | .exact => .eq x .matchString
  | .prefix => .hasPrefix x .matchString
  | .suffix => .hasSuffix x .matchString
  | .contains => .contains x .matchString

/-- `(?i)` -/
def ciFlag : Bytes := [40, 63, 105, 41]

def reSrc (F : MFlags) : SE :=
  let a : SE := if F.fs then .dropFirst .param else .cat (.lit [94]) .param
  let b : SE := if F.fe then .dropLast a else .cat a (.lit [36])
  if F.cs then b else .cat (.lit ciFlag) b

def msTerm (F : MFlags) : SE :=
  let p : SE := if F.cs then .param else .upper .param
  if kindOf F.fs F.fe = .exact then p else trimS p

def canonLeaf (F : MFlags) : MT :=
  if F.hasMeta then .regexp (reSrc F) (.regexpMatch .cell)
  else .mk (bodyOf (if F.cs then .cell else .upperCell) (kindOf F.fs F.fe)) (msTerm F)

theorem gen_newmatcher_canon : ∀ F ∈ MFlags.all, Gen.newMatcher.flatten F = some (canonLeaf F) := by decide +kernel

/-- the CI bodies call the package's own `ToUpper` (the function regenerated in `Gen.stringsFns`, C18UpperGen) -/
theorem gen_matcher_upper : ∀ h ∈ Gen.matcherUpper, some h = Gen.hashes.lookup "strings.ToUpper" := by decide +kernel

/-! ## 2. the primitives -/

theorem pct_isPrefixOf (p : Bytes) : pct.isPrefixOf p = (p.head? == some 37) := by
  cases p with
  | nil => rfl
  | cons a t =>
    simp only [pct, List.isPrefixOf, List.head?_cons, Bool.and_true]
    rw [Bool.eq_iff_iff, beq_iff_eq, beq_iff_eq, Option.some.injEq]; exact eq_comm

theorem pct_isSuffixOf (p : Bytes) : pct.isSuffixOf p = (p.getLast? == some 37) := by
  unfold List.isSuffixOf
  rw [List.getLast?_eq_head?_reverse]
  cases p.reverse with
  | nil => rfl
  | cons a t =>
    simp only [pct, List.reverse_cons, List.reverse_nil, List.nil_append, List.isPrefixOf, List.head?_cons, Bool.and_true]
    rw [Bool.eq_iff_iff, beq_iff_eq, beq_iff_eq, Option.some.injEq]; exact eq_comm

theorem trimPrefix_pct (p : Bytes) : trimPrefixB p pct = (match p with | 37 :: r => r | r => r) := by
  unfold trimPrefixB
  rw [pct_isPrefixOf]
  cases p with
  | nil => rfl
  | cons a t =>
    by_cases h : a = 37
    · subst h; simp [pct]
    · simp only [List.head?_cons, beq_iff_eq, Option.some.injEq, h, if_false]
      split
      · rename_i r e; simp only [List.cons.injEq] at e; exact absurd e.1 h
      · rfl

theorem trimSuffix_pct (p : Bytes) : trimSuffixB p pct = (if p.getLast? == some 37 then p.dropLast else p) := by
  unfold trimSuffixB
  rw [pct_isSuffixOf]
  split
  · simp [pct, List.dropLast_eq_take]
  · rfl

theorem trim_eq (p : Bytes) : trimSuffixB (trimPrefixB p pct) pct = trimPercent p := by
  rw [trimSuffix_pct, trimPrefix_pct]; rfl

theorem infixB_eq (p s : Bytes) : infixB p s = isInfix p s := by
  unfold isInfix
  suffices H : ∀ (s : Bytes) (fuel : Nat), s.length < fuel → infixB p s = isInfix.go p fuel s from H s _ (Nat.lt_succ_self _)
  intro s
  induction s with
  | nil =>
    intro fuel h
    cases fuel with
    | zero => omega
    | succ n => simp [infixB, isInfix.go]
  | cons a t ih =>
    intro fuel h
    cases fuel with
    | zero => omega
    | succ n =>
      simp only [infixB, isInfix.go]
      rw [ih n (by simp at h; omega)]

theorem kindOf_eq (pat : Bytes) : kindOf (pct.isPrefixOf pat) (pct.isSuffixOf pat) = matcherKind pat := by
  rw [pct_isPrefixOf, pct_isSuffixOf]; rfl

/-! ## 3. the string matchers -/

theorem bodyOf_eval (E : MEnv) (x : MO) (k : Kind) (ms cell : Bytes) :
    (bodyOf x k).eval E ms cell = (x.eval E ms cell).map (runMatcher k ms) := by
  cases k <;> cases x <;> simp [bodyOf, MB.eval, MO.eval, runMatcher, infixB_eq]

theorem msTerm_eval (up : Char → Char) (bufLen : Nat) (pat : Bytes) (cs : Bool) :
    (msTerm (MFlags.of (today up bufLen) pat cs)).eval (today up bufLen) pat =
      some (matchString (matcherKind pat) (if cs then pat else upper up pat)) := by
  unfold msTerm
  simp only [MFlags.of, kindOf_eq]
  cases cs <;> cases h : matcherKind pat <;>
    simp [SE.eval, matchString, trimS, trim_eq, today]

theorem flags_hasMeta (up : Char → Char) (bufLen : Nat) (pat : Bytes) (cs : Bool) :
    (MFlags.of (today up bufLen) pat cs).hasMeta = hasMeta pat := rfl

/-- the tree runs to its canonical leaf -/
theorem run_canon (up : Char → Char) (bufLen : Nat) (pat : Bytes) (cs : Bool) :
    Gen.newMatcher.run (today up bufLen) pat cs =
      (canonLeaf (MFlags.of (today up bufLen) pat cs)).run (today up bufLen) pat cs :=
  MT.run_flatten _ pat cs _ _ (gen_newmatcher_canon _ (MFlags.mem_all _))

theorem run_noMeta (up : Char → Char) (bufLen : Nat) (pat : Bytes) (cs : Bool) (hm : hasMeta pat = false) :
    Gen.newMatcher.run (today up bufLen) pat cs =
      .mk (bodyOf (if cs then .cell else .upperCell) (matcherKind pat))
        (matchString (matcherKind pat) (if cs then pat else upper up pat)) := by
  rw [run_canon]
  unfold canonLeaf
  rw [flags_hasMeta, hm]
  simp only [Bool.false_eq_true, if_false, MT.run, msTerm_eval]
  simp only [MFlags.of, kindOf_eq]
  rfl

/-! ## 4. the regular-expression source -/

/-- the source `Drv.likeRule` looks up for a pattern with metacharacters -/
def regexSource (pat : Bytes) (cs : Bool) : Bytes :=
  let fuzzyStart := pat.head? == some 37
  let fuzzyEnd := pat.getLast? == some 37
  let re := if fuzzyStart then pat.drop 1 else 94 :: pat
  let re := if fuzzyEnd then re.dropLast else re ++ [36]
  if cs then re else strBytes "(?i)" ++ re

theorem ciFlag_eq : strBytes "(?i)" = ciFlag := by decide +kernel

theorem likeRule_regex (st : LState) (pat : Bytes) (cs : Bool) (hm : hasMeta pat = true) :
    likeRule st pat cs =
      (match st.regex.find? (·.1 == regexSource pat cs) with
       | some (_, none) => ("ERR", fun _ => none)
       | some (_, some tbl) => ("Regexp", fun c => (tbl.find? (·.1 == c)).map (·.2))
       | none => ("?missing-regexp-oracle", fun _ => none)) := by
  unfold hasMeta at hm
  unfold likeRule regexSource
  simp only [hm, if_true]
  rfl

/-- "%" is not a metacharacter: a pattern with metacharacters that starts and ends with % has at least two bytes -/
theorem hasMeta_two (pat : Bytes) (hm : hasMeta pat = true) (hs : pat.head? = some 37) : pat.drop 1 ≠ [] := by
  cases pat with
  | nil => simp at hs
  | cons a t =>
    cases t with
    | nil =>
      simp only [List.head?_cons, Option.some.injEq] at hs
      subst hs
      exact absurd hm (by decide +kernel)
    | cons b u => simp

theorem eval_dropLast {E : MEnv} {pat x : Bytes} {a : SE} (h : a.eval E pat = some x) (hx : x ≠ []) :
    (SE.dropLast a).eval E pat = some x.dropLast := by
  cases x with
  | nil => exact absurd rfl hx
  | cons b u => simp only [SE.eval, h]

theorem eval_cat {E : MEnv} {pat x y : Bytes} {a b : SE} (ha : a.eval E pat = some x) (hb : b.eval E pat = some y) :
    (SE.cat a b).eval E pat = some (x ++ y) := by
  simp only [SE.eval, ha, hb]

theorem reSrc_eval (up : Char → Char) (bufLen : Nat) (pat : Bytes) (cs : Bool) (hm : hasMeta pat = true) :
    (reSrc (MFlags.of (today up bufLen) pat cs)).eval (today up bufLen) pat = some (regexSource pat cs) := by
  unfold reSrc regexSource
  simp only [MFlags.of, pct_isPrefixOf, pct_isSuffixOf, ciFlag_eq]
  -- `^` or the leading % dropped: the result is not empty, so that dropping a trailing % does not panic
  have h1 : ∀ fs : Bool, (fs = true → pat.head? = some 37) →
      (if fs then SE.dropFirst .param else .cat (.lit [94]) .param).eval (today up bufLen) pat =
        some (if fs then pat.drop 1 else 94 :: pat) ∧ (if fs then pat.drop 1 else 94 :: pat) ≠ [] := by
    intro fs h
    cases fs
    · exact ⟨rfl, List.cons_ne_nil _ _⟩
    · refine ⟨?_, hasMeta_two pat hm (h rfl)⟩
      cases pat with
      | nil => exact absurd (h rfl) (by simp)
      | cons a t => rfl
  obtain ⟨ha, hx⟩ := h1 (pat.head? == some 37) beq_iff_eq.1
  generalize (if (pat.head? == some 37) = true then SE.dropFirst SE.param else _) = a at ha ⊢
  generalize (if (pat.head? == some 37) = true then List.drop 1 pat else _) = x at ha hx ⊢
  -- `$` or the trailing % dropped, `(?i)` in front
  cases pat.getLast? == some 37 <;> cases cs
  · exact eval_cat rfl (eval_cat ha rfl)
  · exact eval_cat ha rfl
  · exact eval_cat rfl (eval_dropLast ha hx)
  · exact eval_dropLast ha hx

theorem run_hasMeta (up : Char → Char) (bufLen : Nat) (pat : Bytes) (cs : Bool) (hm : hasMeta pat = true) :
    Gen.newMatcher.run (today up bufLen) pat cs = .regexp (regexSource pat cs) (.regexpMatch .cell) := by
  rw [run_canon]
  unfold canonLeaf
  rw [flags_hasMeta, hm]
  simp only [if_true, MT.run, reSrc_eval up bufLen pat cs hm]

/-! ## 5. the statement -/

/-- Today's `NewMatcher` + `Matches` methods are the mirror of C18Like, for every pattern, cell, case mapping and size
of the scratch buffer; for patterns with metacharacters they build the regular expression `Drv.likeRule` expects. -/
theorem gen_newmatcher_semantics (up : Char → Char) (bufLen : Nat) (pat : Bytes) :
    (hasMeta pat = false →
      (∀ s, Gen.newMatcher.matches (today up bufLen) pat true s = some (runMatcher (matcherKind pat) (trimPercent pat) s)) ∧
      (∀ s, Gen.newMatcher.matches (today up bufLen) pat false s = some (ciMatch up bufLen pat s))) ∧
    (hasMeta pat = true → ∀ cs,
      Gen.newMatcher.run (today up bufLen) pat cs = .regexp (regexSource pat cs) (.regexpMatch .cell)) := by
  refine ⟨fun hm => ⟨fun s => ?_, fun s => ?_⟩, fun hm cs => run_hasMeta up bufLen pat cs hm⟩
  · unfold MT.matches
    rw [run_noMeta up bufLen pat true hm]
    simp only [if_true, bodyOf_eval, MO.eval, Option.map_some, matchString_eq]
  · unfold MT.matches
    rw [run_noMeta up bufLen pat false hm]
    simp only [Bool.false_eq_true, if_false, bodyOf_eval, MO.eval, Option.map_some]
    rfl

/-- like: today's code decides the declarative `Matches pat s` -/
theorem gen_like_correct (up : Char → Char) (bufLen : Nat) (pat s : Bytes) (hm : hasMeta pat = false) :
    Gen.newMatcher.matches (today up bufLen) pat true s = some true ↔ Matches pat s := by
  rw [((gen_newmatcher_semantics up bufLen pat).1 hm).1 s, ← like_correct]
  simp

/-- ilike: today's code decides `Matches (upper pat) (upper s)` (for a case mapping that fixes % and maps nothing else
to it, as Unicode's does; `C18Like.notStable_counterexample` shows the hypothesis is needed) -/
theorem gen_ilike_correct {up : Char → Char} (hup : PctStable up) (bufLen : Nat) (pat s : Bytes) (hm : hasMeta pat = false) :
    Gen.newMatcher.matches (today up bufLen) pat false s = some true ↔ Matches (upper up pat) (upper up s) := by
  rw [((gen_newmatcher_semantics up bufLen pat).1 hm).2 s, ← ilike_correct hup bufLen]
  simp

/-- the rule the replay driver executes answers what today's code answers -/
theorem gen_newmatcher_likeRule (st : LState) (bufLen : Nat) (pat c : Bytes) (cs : Bool) (hm : hasMeta pat = false) :
    (likeRule st pat cs).2 c = Gen.newMatcher.matches (today (upOf st) bufLen) pat cs c := by
  cases cs
  · rw [((gen_newmatcher_semantics (upOf st) bufLen pat).1 hm).2 c, (likeRule_ilike st bufLen pat c hm).2]
  · rw [((gen_newmatcher_semantics (upOf st) bufLen pat).1 hm).1 c, (likeRule_like st pat c hm).2]

/-! ## examples -/

example : Gen.newMatcher.matches (today id 10) [37, 97, 98] true [120, 97, 98] = some true := by decide +kernel
example : Gen.newMatcher.matches (today id 10) [97, 98, 37] true [120, 97, 98] = some false := by decide +kernel
example : Gen.newMatcher.run (today id 10) [37, 97, 46, 98] false = .regexp (strBytes "(?i)a.b$") (.regexpMatch .cell) := by
  decide +kernel
example : regexSource (strBytes "a.b%") true = strBytes "^a.b" := by decide +kernel

#print axioms gen_newmatcher_canon
#print axioms gen_matcher_upper
#print axioms gen_newmatcher_semantics
#print axioms gen_like_correct
#print axioms gen_ilike_correct
#print axioms gen_newmatcher_likeRule
#print axioms likeRule_regex

end QF.Props.C18Matcher
