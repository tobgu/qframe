import QF.Props.C18Matcher
import QF.Props.C18FilterGen
import QF.Props.C18UpperGen
import QF.Props.C18Utf8
import QF.Props.C02Dispatch
import QF.Props.C02ClausesLink
/-!
# C18 — like / ilike END TO END: from the regenerated pieces to the declarative `Matches` (tie T1)

The pieces (each proved over the terms regenerated TODAY from /repo):

* `C18Matcher`   — `Gen.newMatcher` (the decision tree of `NewMatcher`, leaves = the `Matches` bodies) = the mirror
                   `runMatcher (matcherKind pat) (trimPercent pat)` / `ciMatch`, or the regular expression `regexSource pat cs`;
* `C18Like`      — the mirror decides the declarative `Matches pat s` (`like_correct`, `ilike_correct`);
* `C18UpperGen` / `U.toUpper_spec'` — the package's `ToUpper` = `encode (map up s)` (inside `ciMatch`);
* `C18Utf8`      — the project's decoder reads back the encoding of every code point (`decodeAll (encs chars) = chars`), so the
                   regenerated `ToUpper` IS the `toUpperBuf` of `today` on every valid UTF-8 cell (`gen_like_upper_cell`, in every environment
                   whose UTF-8 primitives are right: `C18UpperGen.UpperEnv`);
* `C18FilterGen` — `regexFilter` / `filterLike` statement by statement (`Gen.stringsFns`), for ANY meaning of `NewMatcher`;
* `C02Kernels`   — `Column.filterWithBitset` (`Gen.kernelAst`): the mask entry of a row is `b || bset.isSet(code of the row)`;
* `C02Dispatch`  — `filterBuiltIn` of scolumn / ecolumn (`Gen.dispatchAst` + tables + kernels) for ANY like oracle;
* `C02ClausesLink.gen_filter_eq_spec_today` — the clause evaluation of `QFrame.Filter` for ANY like oracle.

Here `NewMatcher` IS the regenerated one: `genNewMatcher` runs `Gen.newMatcher` (with `strings.ToUpper` = `upper up`, the
package's `ToUpper` = its mirror with a buffer of `bufLen` bytes, `QuoteMeta(s) != s` = `hasMeta`), evaluates the `Matches`
body at the leaf; the regular-expression engine is a parameter: `rx src s` = `regexp.MustCompile(src).MatchString(s)`,
`rxErr src` = `regexp.Compile(src)` fails. `genOracle` is the same thing as the `LikeOracle` of the spec / dispatcher.

* `gen_like_end_to_end` — for every pattern WITHOUT metacharacters (all the `%` forms: exact, prefix, suffix, contains,
  including "", "%", "%%"), both case settings, every case mapping `up` (ilike: `PctStable up`), buffer size and engine:
  `LikeE2E … pat cs accept` with `accept = Matches pat` (like) resp. `fun s => Matches (upper up pat) (upper up s)` (ilike);
  for every pattern WITH metacharacters and both case settings: the source handed to the engine is `regexSource pat cs`
  (`^` unless the pattern starts with `%`, `$` unless it ends with `%`, the `%` dropped, `(?i)` in front for ilike); if it
  compiles, `LikeE2E … pat cs (rx (regexSource pat cs) · = true)`, if not `LikeErr … pat cs`: an error everywhere, no mask
  touched.
* `LikeE2E` (structure): `NewMatcher` as regenerated returns a matcher `f` that decides `accept`; the string-column filter
  (`regexFilter`) returns nil and leaves `bIndex[i] || (cell index[i] non-null ∧ accept)` at every `i`; the enum-column
  builder (`filterLike`) returns a bitset whose bit `w` is set iff value `w` of the table is accepted, and
  `filterWithBitset` leaves `b || (cell non-null ∧ accept)` in the entry of every cell of the column; the string column and
  the enum column with the same cells leave the SAME mask (`gen_like_string_enum_agree`); the dispatchers
  (`filterBuiltIn` of both packages) reach exactly these kernels: `.upd u` with `u cell _ b = b || (non-null ∧ accept)`;
  and the spec (`leafPred` / `keptRows` with `genOracle`) keeps exactly the rows whose cell is non-null and accepted, which
  by `gen_filter_eq_spec_today` is what the regenerated clause evaluation of `QFrame.Filter` returns.
-/
namespace QF.Props.C18EndToEnd
open QF QF.Drv QF.Props.C18Like QF.Props.C18Matcher
open QF.Props.C18FilterGen (genLike likeRows LikeBits)
open QF.Props.C02Kernels (cellOk kernelOf Computes)

/-! ## `NewMatcher` as regenerated, with the regular-expression engine as a parameter -/

/-- the `Matches` body at a leaf; `regexpMatch x` asks the engine (compiled from `src`) -/
def evalBody (E : MEnv) (rx : Bytes → Bytes → Bool) (src ms cell : Bytes) (b : MB) : Option Bool :=
  match b with
  | .regexpMatch x => (x.eval E ms cell).map (rx src)
  | _ => b.eval E ms cell

/-- `NewMatcher(pat, cs)` of today's source (`Gen.newMatcher`): the error of `regexp.Compile`, or what `Matches` of the
matcher returned answers. (`stuck` — a panic or an untranslated part — does not occur: `genNewMatcher_like`, `_ilike`, `_regex`.) -/
def genNewMatcher (up : Char → Char) (bufLen : Nat) (rx : Bytes → Bytes → Bool) (rxErr : Bytes → Bool) (pat : Bytes) (cs : Bool) :
    Except ST.Err (Bytes → Bool) :=
  match Gen.newMatcher.run (today up bufLen) pat cs with
  | .mk body ms => .ok fun s => (evalBody (today up bufLen) rx [] ms s body).getD false
  | .regexp src body => if rxErr src then .error .badPattern else .ok fun s => (evalBody (today up bufLen) rx src [] s body).getD false
  | .stuck => .error .badPattern

/-- the like oracle of the spec and of the dispatcher: today's `NewMatcher` -/
def genOracle (up : Char → Char) (bufLen : Nat) (rx : Bytes → Bytes → Bool) (rxErr : Bytes → Bool) : LikeOracle :=
  { valid := fun pat ci => match genNewMatcher up bufLen rx rxErr pat (!ci) with | .ok _ => true | .error _ => false,
    isMatch := fun pat ci s => match genNewMatcher up bufLen rx rxErr pat (!ci) with | .ok f => f s | .error _ => false }

variable (up : Char → Char) (bufLen : Nat) (rx : Bytes → Bytes → Bool) (rxErr : Bytes → Bool)

theorem evalBody_bodyOf (E : MEnv) (src ms cell : Bytes) (x : MO) (k : Kind) :
    evalBody E rx src ms cell (bodyOf x k) = (bodyOf x k).eval E ms cell := by
  cases k <;> rfl

theorem genNewMatcher_like (pat : Bytes) (hm : hasMeta pat = false) :
    genNewMatcher up bufLen rx rxErr pat true = .ok (runMatcher (matcherKind pat) (trimPercent pat)) := by
  unfold genNewMatcher
  rw [run_noMeta up bufLen pat true hm]
  simp only [if_true, matchString_eq, evalBody_bodyOf, bodyOf_eval, MO.eval, Option.map_some, Option.getD_some]

theorem genNewMatcher_ilike (pat : Bytes) (hm : hasMeta pat = false) :
    genNewMatcher up bufLen rx rxErr pat false = .ok (ciMatch up bufLen pat) := by
  unfold genNewMatcher
  rw [run_noMeta up bufLen pat false hm]
  simp only [Bool.false_eq_true, if_false, evalBody_bodyOf, bodyOf_eval, MO.eval, Option.map_some, Option.getD_some]
  rfl

theorem genNewMatcher_regex (pat : Bytes) (cs : Bool) (hm : hasMeta pat = true) :
    genNewMatcher up bufLen rx rxErr pat cs =
      if rxErr (regexSource pat cs) then .error .badPattern else .ok (rx (regexSource pat cs)) := by
  unfold genNewMatcher
  rw [run_hasMeta up bufLen pat cs hm]
  simp only [evalBody, MO.eval, Option.map_some, Option.getD_some]

/-- today's `NewMatcher` never panics and has no untranslated part: it returns a matcher or the compile error -/
theorem genNewMatcher_total (pat : Bytes) (cs : Bool) : Gen.newMatcher.run (today up bufLen) pat cs ≠ .stuck := by
  cases hm : hasMeta pat
  · rw [run_noMeta up bufLen pat cs hm]; simp
  · rw [run_hasMeta up bufLen pat cs hm]; simp

/-! ## The pieces, for any like oracle -/

/-- the cell is not null and the matcher accepts its string -/
def keepCell (f : Bytes → Bool) (x : Cell) : Bool :=
  match x with
  | .str (some t) => f t
  | _ => false

/-- the comparator string of the filter tables -/
def likeOp (cs : Bool) : String := if cs then "like" else "ilike"

theorem keepCell_true (f : Bytes → Bool) (x : Cell) : keepCell f x = true ↔ ∃ t, x = .str (some t) ∧ f t = true := by
  unfold keepCell
  split
  · rename_i t; simp
  · rename_i h
    constructor
    · intro e; cases e
    · rintro ⟨t, rfl, _⟩; exact absurd rfl (h t)

/-- `filterWithBitset` of today's source reading the bitset `filterLike` built: the entry of a cell becomes
`b || (the cell is not null and the matcher accepts its string)` -/
theorem bitset_read (vals : List Bytes) (hlen : vals.length ≤ 255) (f : Bytes → Bool) (b : Small.BitSet) (hb : LikeBits vals f b)
    (s : Option Bytes) (hx : cellOk .enum vals (.str s) = true) (P : KParams) (y k : Cell) :
    Computes (kernelOf "ecolumn" "Column.filterWithBitset") .enum vals { P with bset := Small.bsIsSet b } (.str s) y k
      (keepCell f (.str s)) := by
  refine C02Kernels.computes_guarded C02Kernels.gen_in_canon.2.2.2 ?_
  cases s with
  | none =>
    have h1 : vals[255]? = none := by simp; omega
    have h2 : Small.bsIsSet b 255 = false := by rw [hb 255 (by omega), h1]
    simp [KE.eval, KE.evalV, cellVal, enumNull, keepCell, h2]
  | some u =>
    obtain ⟨i, hi, hil⟩ := enum_ok hx
    obtain ⟨hlt, hget, _⟩ := enumRank_eq_some_iff.1 hi
    have h1 : vals[i]? = some u := by simp [hlt, hget]
    have h2 : Small.bsIsSet b i = f u := by rw [hb i (by omega), h1]
    simp [KE.eval, KE.evalV, cellVal, enumNull, hi, hil, keepCell, h2]

/-- the spec's `route` for like / ilike on a string or enum column, for any oracle: its verdict on the pattern, then its answer on
every non-null cell -/
theorem route_like (lo : LikeOracle) (c ac : LCol) (cs : Bool) (pat : Bytes) (hty : c.ty = .string ∨ c.ty = .enum) :
    C02Spec.route lo c (likeOp cs) ac (.cell (.str (some pat))) =
      if lo.valid pat (!cs) then some fun x _ => keepCell (lo.isMatch pat (!cs)) x else none := by
  rcases hty with h | h <;> cases cs <;> simp [C02Spec.route, h, likeOp, isOrd6] <;> rfl

/-- the spec's row predicate of a like / ilike leaf on a string or enum column, for any oracle -/
theorem leafPred_like (lo : LikeOracle) (f : LFrame) (l : Leaf) (c : LCol) (cs : Bool) (pat : Bytes)
    (hc : f.find? l.col = some c) (hcmp : l.cmp = .builtin (likeOp cs)) (harg : l.arg = .cell (.str (some pat)))
    (hty : c.ty = .string ∨ c.ty = .enum) :
    leafPred lo f l = if lo.valid pat (!cs) then some fun r => keepCell (lo.isMatch pat (!cs)) c.cells[r]! else none := by
  rw [C02Spec.leafPred_builtin hc hcmp, harg]
  show (C02Spec.route lo c (likeOp cs) c _).map (C02Spec.onRows c c) = _
  rw [route_like lo c c cs pat hty]
  split <;> rfl

/-- `filterBuiltIn` of scolumn / ecolumn as regenerated (dispatcher, tables, kernels) agrees, cell by cell, with the spec's
function of the like / ilike leaf on the column, for any oracle -/
theorem dispatch_agrees (lo : LikeOracle) (pat : Bytes) (cs : Bool) (f2i : UInt64 → Int) (i2f : Int → UInt64) (P : KParams)
    (c : LCol) (hty : c.ty = .string ∨ (c.ty = .enum ∧ c.vals.length ≤ 255)) (Y : Cell → Prop) :
    C02Dispatch.AgreesC ((C02Dispatch.today lo f2i i2f P c (.str (likeOp cs)) (.str pat)).runBuiltIn (C02Dispatch.dispatchOf c.ty)) c Y
      (if lo.valid pat (!cs) then some fun x _ => keepCell (lo.isMatch pat (!cs)) x else none) := by
  have hty' : c.ty = .string ∨ c.ty = .enum := hty.imp id (·.1)
  have hdef : c.ty ∈ C02Kernels.tys := by rcases hty' with h | h <;> rw [h] <;> decide
  rw [C02Dispatch.run_dispatchOf _ hdef, ← route_like lo c c cs pat hty']
  rcases hty with h | ⟨h, hl⟩
  · exact C02Dispatch.dispatch_const lo f2i i2f P c (likeOp cs) hdef (by rw [h]; decide) (.str (some pat)) (by rw [h]; rfl)
      (fun _ e => nomatch e) Y
  · exact C02Dispatch.dispatch_enum_str lo f2i i2f P c (likeOp cs) h hl pat Y

/-- the clause evaluation of `QFrame.Filter` as regenerated (`Gen.clauseFns`), on a single leaf: the rows the leaf's predicate
keeps (the complement for an inverted leaf), or the error -/
theorem filter_leaf (O : F.Leaf → CL.LeafCalls) (hO : ∀ l, (O l).Abstracts l) (lo : LikeOracle) (f : LFrame)
    (hf : C02Mirror.IntColsNonNull f) (l : Leaf) :
    C02ClausesGen.genFilter O lo f (.leaf l) =
      match leafPred lo f l with
      | some p => some ((List.range f.n).filter fun r => if l.inv then !p r else p r)
      | none => none := by
  rw [C02ClausesGen.gen_filter_eq_spec_today O hO lo f _ hf]
  cases hp : leafPred lo f l with
  | none => simp [Clause.wellFormed, Clause.constructOk, Clause.typed, hp]
  | some p =>
    simp only [Clause.wellFormed, Clause.constructOk, Clause.typed, hp, Option.isSome_some, Bool.and_self, if_true, keptRows]
    congr 2
    funext r
    simp only [Clause.sem, hp]

/-! ## The end-to-end statements, and the composition for a matcher function `f` -/

/-- **like / ilike with the pattern `pat` end to end**, for a predicate `accept` on strings: everything is today's regenerated
code, from `NewMatcher` to `QFrame.Filter`. -/
structure LikeE2E (pat : Bytes) (cs : Bool) (accept : Bytes → Prop) : Prop where
  /-- `NewMatcher` returns a matcher, and its `Matches` decides `accept` -/
  matcher : ∃ f, genNewMatcher up bufLen rx rxErr pat cs = .ok f ∧ ∀ s, f s = true ↔ accept s
  /-- string column (`regexFilter`, statement by statement): nil, and `bIndex[i]` ends true iff it was true or the cell of row
  `index[i]` is not null and accepted -/
  string : ∀ (Γ : ST.Env), Γ.newMatcher = genNewMatcher up bufLen rx rxErr →
    ∀ (index : List Nat) (col : ST.Col) (bIndex : List Bool), bIndex.length ≤ index.length →
      (∀ j, j < bIndex.length → index[j]! < col.length) →
      ∃ σ' out, genLike Γ .likeStrings [.rows index, .col col, .str pat, .bools bIndex, .bool cs] = .ret σ' [.err none] ∧
        σ' 3 = some (.bools out) ∧ out.length = bIndex.length ∧
        ∀ i, i < bIndex.length → (out[i]! = true ↔ bIndex[i]! = true ∨ ∃ t, col[index[i]!]! = some t ∧ accept t)
  /-- enum column (`filterLike`, statement by statement, then `filterWithBitset`): a bitset whose bit `w` is set iff value `w`
  of the table is accepted; the entry of a cell ends true iff it was true or the cell is not null and accepted -/
  enum : ∀ (Γ : ST.Env), Γ.newMatcher = genNewMatcher up bufLen rx rxErr →
    ∀ vals : List Bytes, vals.length ≤ 255 →
      ∃ σ' b, genLike Γ .likeEnum [.str pat, .strs vals, .bool cs] = .ret σ' [.bitset (some b), .err none] ∧
        (∀ w, w < 256 → (Small.bsIsSet b w = true ↔ ∃ v, vals[w]? = some v ∧ accept v)) ∧
        ∀ (s : Option Bytes), cellOk .enum vals (.str s) = true → ∀ (P : KParams) (y k : Cell) (b0 : Bool),
          ∃ sh ke q, kernelOf "ecolumn" "Column.filterWithBitset" = some (sh, ke) ∧
            kstep sh (ke.eval .enum vals { P with bset := Small.bsIsSet b } (.str s) y k) b0 = some q ∧
            (q = true ↔ b0 = true ∨ ∃ t, s = some t ∧ accept t)
  /-- the string column and the enum column holding the same cells leave the same mask, entry by entry -/
  agree : ∀ (Γ : ST.Env), Γ.newMatcher = genNewMatcher up bufLen rx rxErr →
    ∀ (index : List Nat) (col : ST.Col) (bIndex : List Bool) (vals : List Bytes), bIndex.length ≤ index.length →
      (∀ j, j < bIndex.length → index[j]! < col.length) → vals.length ≤ 255 →
      (∀ j, j < bIndex.length → cellOk .enum vals (.str col[index[j]!]!) = true) →
      ∃ σ₁ out σ₂ b sh ke,
        genLike Γ .likeStrings [.rows index, .col col, .str pat, .bools bIndex, .bool cs] = .ret σ₁ [.err none] ∧
        σ₁ 3 = some (.bools out) ∧
        genLike Γ .likeEnum [.str pat, .strs vals, .bool cs] = .ret σ₂ [.bitset (some b), .err none] ∧
        kernelOf "ecolumn" "Column.filterWithBitset" = some (sh, ke) ∧
        ∀ i, i < bIndex.length → ∀ (P : KParams) (y k : Cell),
          kstep sh (ke.eval .enum vals { P with bset := Small.bsIsSet b } (.str col[index[i]!]!) y k) bIndex[i]! = some out[i]!
  /-- `filterBuiltIn` of scolumn and ecolumn (dispatcher + tables + kernels), with today's `NewMatcher` as the oracle -/
  dispatch : ∀ (f2i : UInt64 → Int) (i2f : Int → UInt64) (P : KParams) (c : LCol),
    (c.ty = .string ∨ (c.ty = .enum ∧ c.vals.length ≤ 255)) →
    ∃ u, (C02Dispatch.today (genOracle up bufLen rx rxErr) f2i i2f P c (.str (likeOp cs)) (.str pat)).runBuiltIn
          (C02Dispatch.dispatchOf c.ty) = .upd u ∧
      ∀ (r : Nat) (b : Bool), cellOk c.ty c.vals c.cells[r]! = true →
        ∃ q, u c.cells[r]! c.cells[r]! b = some q ∧ (q = true ↔ b = true ∨ ∃ t, c.cells[r]! = .str (some t) ∧ accept t)
  /-- the spec: the leaf is well typed and its row predicate is "not null and accepted" -/
  spec : ∀ (f : LFrame) (l : Leaf) (c : LCol), f.find? l.col = some c → l.cmp = .builtin (likeOp cs) →
    l.arg = .cell (.str (some pat)) → (c.ty = .string ∨ c.ty = .enum) →
    ∃ p, leafPred (genOracle up bufLen rx rxErr) f l = some p ∧ ∀ r, (p r = true ↔ ∃ t, c.cells[r]! = .str (some t) ∧ accept t)
  /-- `QFrame.Filter` (the regenerated clause evaluation; the leaf calls abstract the mirror leaf as in
  `gen_filter_eq_spec_today`): exactly the rows whose cell is not null and accepted, in frame order -/
  filter : ∀ (O : F.Leaf → CL.LeafCalls), (∀ l, (O l).Abstracts l) → ∀ (f : LFrame), C02Mirror.IntColsNonNull f →
    ∀ (l : Leaf) (c : LCol), f.find? l.col = some c → l.cmp = .builtin (likeOp cs) → l.arg = .cell (.str (some pat)) →
    (c.ty = .string ∨ c.ty = .enum) → l.inv = false →
    ∃ rows, C02ClausesGen.genFilter O (genOracle up bufLen rx rxErr) f (.leaf l) = some rows ∧
      rows.Pairwise (· < ·) ∧ ∀ r, (r ∈ rows ↔ r < f.n ∧ ∃ t, c.cells[r]! = .str (some t) ∧ accept t)

/-- **a pattern whose regular expression does not compile**: an error everywhere, nothing is touched -/
structure LikeErr (pat : Bytes) (cs : Bool) : Prop where
  matcher : genNewMatcher up bufLen rx rxErr pat cs = .error .badPattern
  string : ∀ (Γ : ST.Env), Γ.newMatcher = genNewMatcher up bufLen rx rxErr →
    ∀ (index : List Nat) (col : ST.Col) (bIndex : List Bool),
      ∃ σ', genLike Γ .likeStrings [.rows index, .col col, .str pat, .bools bIndex, .bool cs] =
          .ret σ' [.err (some (.propagated "Regex filter" .badPattern))] ∧ σ' 3 = some (.bools bIndex)
  enum : ∀ (Γ : ST.Env), Γ.newMatcher = genNewMatcher up bufLen rx rxErr → ∀ vals : List Bytes,
      ∃ σ', genLike Γ .likeEnum [.str pat, .strs vals, .bool cs] =
          .ret σ' [.bitset none, .err (some (.propagated "enum like" .badPattern))]
  dispatch : ∀ (f2i : UInt64 → Int) (i2f : Int → UInt64) (P : KParams) (c : LCol),
    (c.ty = .string ∨ (c.ty = .enum ∧ c.vals.length ≤ 255)) →
    (C02Dispatch.today (genOracle up bufLen rx rxErr) f2i i2f P c (.str (likeOp cs)) (.str pat)).runBuiltIn
          (C02Dispatch.dispatchOf c.ty) = .err
  spec : ∀ (f : LFrame) (l : Leaf) (c : LCol), f.find? l.col = some c → l.cmp = .builtin (likeOp cs) →
    l.arg = .cell (.str (some pat)) → (c.ty = .string ∨ c.ty = .enum) →
    leafPred (genOracle up bufLen rx rxErr) f l = none
  filter : ∀ (O : F.Leaf → CL.LeafCalls), (∀ l, (O l).Abstracts l) → ∀ (f : LFrame), C02Mirror.IntColsNonNull f →
    ∀ (l : Leaf) (c : LCol), f.find? l.col = some c → l.cmp = .builtin (likeOp cs) → l.arg = .cell (.str (some pat)) →
    (c.ty = .string ∨ c.ty = .enum) →
    C02ClausesGen.genFilter O (genOracle up bufLen rx rxErr) f (.leaf l) = none

theorem oracle_ok {pat : Bytes} {cs : Bool} {f : Bytes → Bool} (hm : genNewMatcher up bufLen rx rxErr pat cs = .ok f) :
    (genOracle up bufLen rx rxErr).valid pat (!cs) = true ∧ (genOracle up bufLen rx rxErr).isMatch pat (!cs) = f := by
  refine ⟨by simp [genOracle, hm], ?_⟩
  funext s
  simp [genOracle, hm]

theorem oracle_err {pat : Bytes} {cs : Bool} {e : ST.Err} (hm : genNewMatcher up bufLen rx rxErr pat cs = .error e) :
    (genOracle up bufLen rx rxErr).valid pat (!cs) = false := by
  simp [genOracle, hm]

/-- the composition: a matcher `f` that decides `accept` gives `LikeE2E` -/
theorem e2e_of_ok {pat : Bytes} {cs : Bool} {f : Bytes → Bool} {accept : Bytes → Prop}
    (hm : genNewMatcher up bufLen rx rxErr pat cs = .ok f) (hf : ∀ s, f s = true ↔ accept s) :
    LikeE2E up bufLen rx rxErr pat cs accept := by
  obtain ⟨hv, hi⟩ := oracle_ok up bufLen rx rxErr hm
  have hkeep : ∀ x : Cell, keepCell f x = true ↔ ∃ t, x = .str (some t) ∧ accept t := fun x => by
    rw [keepCell_true]; simp only [hf]
  have hkeepS : ∀ (col : ST.Col) (r : Nat), C18FilterGen.keep f col r = true ↔ ∃ t, col[r]! = some t ∧ accept t := by
    intro col r
    unfold C18FilterGen.keep
    cases col[r]! with
    | none => simp
    | some t => simp [hf t]
  have hgen := fun (Γ : ST.Env) (hΓ : Γ.newMatcher = genNewMatcher up bufLen rx rxErr) =>
    (C18FilterGen.gen_likefilter_semantics Γ pat cs).1 f (by rw [hΓ]; exact hm)
  have hleaf := fun fr l c => leafPred_like (genOracle up bufLen rx rxErr) fr l c cs pat
  simp only [hv, hi, if_true] at hleaf
  refine ⟨⟨f, hm, hf⟩, ?_, ?_, ?_, ?_, ?_, ?_⟩
  · intro Γ hΓ index col bIndex hlen hcol
    obtain ⟨σ', h1, h2⟩ := (hgen Γ hΓ).1 index col bIndex hlen hcol
    refine ⟨σ', _, h1, h2, by simp [likeRows], fun i hi => ?_⟩
    rw [(C18FilterGen.gen_like_row_kept f col index bIndex i hi).1, Bool.or_eq_true, hkeepS]
  · intro Γ hΓ vals hl
    obtain ⟨σ', b, h1, h2⟩ := (hgen Γ hΓ).2 vals (by omega)
    refine ⟨σ', b, h1, fun w hw => ?_, fun s hx P y k b0 => ?_⟩
    · rw [h2 w hw]
      cases vals[w]? with
      | none => simp
      | some v => simp [hf v]
    · obtain ⟨sh, ke, hk, hc⟩ := bitset_read vals hl f b h2 s hx P y k
      refine ⟨sh, ke, _, hk, hc b0, ?_⟩
      rw [Bool.or_eq_true, hkeep]
      simp
  · intro Γ hΓ index col bIndex vals hlen hcol hl hcells
    obtain ⟨σ₁, h1, h2⟩ := (hgen Γ hΓ).1 index col bIndex hlen hcol
    obtain ⟨σ₂, b, h3, h4⟩ := (hgen Γ hΓ).2 vals (by omega)
    refine ⟨σ₁, _, σ₂, b, _, _, h1, h2, h3, C02Kernels.gen_in_canon.2.2.2, fun i hi P y k => ?_⟩
    obtain ⟨sh', ke', hk', hc⟩ := bitset_read vals hl f b h4 col[index[i]!]! (hcells i hi) P y k
    cases C02Kernels.gen_in_canon.2.2.2.symm.trans hk'
    rw [hc, (C18FilterGen.gen_like_row_kept f col index bIndex i hi).1]
    unfold C18FilterGen.keep keepCell
    cases col[index[i]!]! <;> rfl
  · intro f2i i2f P c hty
    have h := dispatch_agrees (genOracle up bufLen rx rxErr) pat cs f2i i2f P c hty (fun _ => True)
    rw [hv, hi, if_pos rfl] at h
    obtain ⟨u, hu, hur⟩ := h
    exact ⟨u, hu, fun r b hx => ⟨_, hur _ _ b hx trivial, by rw [Bool.or_eq_true, hkeep]⟩⟩
  · intro fr l c hc hcmp harg hty
    exact ⟨_, hleaf fr l c hc hcmp harg hty, fun r => hkeep _⟩
  · intro O hO fr hfr l c hc hcmp harg hty hinv
    refine ⟨_, by rw [filter_leaf O hO _ fr hfr l, hleaf fr l c hc hcmp harg hty],
      List.Pairwise.filter _ List.pairwise_lt_range, fun r => ?_⟩
    simp only [hinv, Bool.false_eq_true, if_false, List.mem_filter, List.mem_range, hkeep]

theorem err_of_error {pat : Bytes} {cs : Bool} (hm : genNewMatcher up bufLen rx rxErr pat cs = .error .badPattern) :
    LikeErr up bufLen rx rxErr pat cs := by
  have hv := oracle_err up bufLen rx rxErr hm
  have hgen := fun (Γ : ST.Env) (hΓ : Γ.newMatcher = genNewMatcher up bufLen rx rxErr) =>
    (C18FilterGen.gen_likefilter_semantics Γ pat cs).2 _ (by rw [hΓ]; exact hm)
  have hleaf := fun fr l c => leafPred_like (genOracle up bufLen rx rxErr) fr l c cs pat
  simp only [hv, Bool.false_eq_true, if_false] at hleaf
  refine ⟨hm, fun Γ hΓ => (hgen Γ hΓ).1, fun Γ hΓ => (hgen Γ hΓ).2, ?_, hleaf, ?_⟩
  · intro f2i i2f P c hty
    have h := dispatch_agrees (genOracle up bufLen rx rxErr) pat cs f2i i2f P c hty (fun _ => True)
    rw [hv, if_neg Bool.false_ne_true] at h
    exact h
  · intro O hO fr hfr l c hc hcmp harg hty
    rw [filter_leaf O hO _ fr hfr l, hleaf fr l c hc hcmp harg hty]

/-! ## The upper-casing inside the ilike leaves is the regenerated `ToUpper` (valid UTF-8 cells) -/

/-- the upper-casing inside the case-insensitive leaves: `today up bufLen` takes the package's `ToUpper(&buf, cell)` to be the
mirror `U.toUpper up bufLen (decodeAll cell)`. The regenerated `ToUpper` (`Gen.stringsFns`, C18UpperGen) returns exactly that on
EVERY cell that is valid UTF-8 (the encoding `encs chars` of a list of code points), for every initial buffer and every
environment whose UTF-8 primitives are right (`UpperEnv`; `C18UpperGen.coreEnv_ok`, `C18Utf8.jsonEnv_ok`): the project's decoder
reads the code points back (`C18Utf8.decodeAll_encs`). -/
theorem gen_like_upper_cell (Γ : ST.Env) (hΓ : C18UpperGen.UpperEnv Γ up) (buf : Option Bytes) (chars : List Char) :
    C18UpperGen.genToUpper Γ buf (C18UpperGen.encs chars) =
      some [.str ((today up (buf.getD []).length).toUpperBuf (C18UpperGen.encs chars))] := by
  rw [C18UpperGen.gen_toUpper_semantics Γ up hΓ]
  simp only [today, C18Utf8.decodeAll_encs]

/-- **the ilike matcher on valid UTF-8 cells, from regenerated terms only**: `NewMatcher` as regenerated returns a matcher `f`;
on the cell `encs chars` the regenerated `ToUpper` (any right environment, any buffer of `bufLen` bytes, nil if `bufLen = 0`)
returns `u` = the encoding of the mapped code points; `f` answers what the `Matches` body of the leaf answers on `u` with the
upper-cased pattern; and (case mapping `PctStable`) that is the declarative `Matches (upper pat) (encode (map up chars))`. -/
def IlikeCells (pat : Bytes) : Prop :=
  ∀ (Γ : ST.Env), C18UpperGen.UpperEnv Γ up → ∀ (buf : Option Bytes), (buf.getD []).length = bufLen → ∀ chars : List Char,
    ∃ f u, genNewMatcher up bufLen rx rxErr pat false = .ok f ∧
      C18UpperGen.genToUpper Γ buf (C18UpperGen.encs chars) = some [.str u] ∧
      u = C18UpperGen.encs (chars.map up) ∧ upper up (C18UpperGen.encs chars) = u ∧
      f (C18UpperGen.encs chars) = runMatcher (matcherKind pat) (matchString (matcherKind pat) (upper up pat)) u ∧
      (PctStable up → (f (C18UpperGen.encs chars) = true ↔ Matches (upper up pat) (C18UpperGen.encs (chars.map up))))

theorem gen_ilike_cells (pat : Bytes) (hm : hasMeta pat = false) : IlikeCells up bufLen rx rxErr pat := by
  intro Γ hΓ buf hbuf chars
  have hu : C18UpperGen.genToUpper Γ buf (C18UpperGen.encs chars) = some [.str (C18UpperGen.encs (chars.map up))] :=
    C18UpperGen.gen_toUpper_spec Γ up hΓ buf chars
  refine ⟨_, _, genNewMatcher_ilike up bufLen rx rxErr pat hm, hu, rfl, C18Utf8.upper_encs up chars, ?_, fun hup => ?_⟩
  · unfold ciMatch
    rw [C18Utf8.decodeAll_encs, U.toUpper_spec']; rfl
  · rw [ilike_correct hup, C18Utf8.upper_encs]

/-- **`gen_like_end_to_end`.** For every pattern, both case settings, every case mapping, scratch-buffer size and
regular-expression engine:
1. no metacharacters, like: `LikeE2E` with `accept = Matches pat` — today's code keeps exactly the rows whose cell is not null
   and satisfies the declarative wildcard semantics;
2. no metacharacters, ilike, `PctStable up`: `LikeE2E` with `accept s = Matches (upper up pat) (upper up s)`; and (`IlikeCells`)
   on every cell that is valid UTF-8 the upper-casing inside the matcher is the regenerated `ToUpper`, which returns the encoding
   of the mapped code points (= `upper up cell`);
3. metacharacters: the engine is asked for `regexSource pat cs`; if that compiles, `LikeE2E` with `accept s = (rx src s = true)`,
   if not, `LikeErr`. -/
theorem gen_like_end_to_end (pat : Bytes) :
    (hasMeta pat = false →
      LikeE2E up bufLen rx rxErr pat true (Matches pat) ∧
      (PctStable up → LikeE2E up bufLen rx rxErr pat false (fun s => Matches (upper up pat) (upper up s))) ∧
      IlikeCells up bufLen rx rxErr pat) ∧
    (hasMeta pat = true → ∀ cs,
      (rxErr (regexSource pat cs) = false → LikeE2E up bufLen rx rxErr pat cs (fun s => rx (regexSource pat cs) s = true)) ∧
      (rxErr (regexSource pat cs) = true → LikeErr up bufLen rx rxErr pat cs)) := by
  refine ⟨fun hm => ⟨?_, fun hup => ?_, gen_ilike_cells up bufLen rx rxErr pat hm⟩, fun hm cs => ⟨fun he => ?_, fun he => ?_⟩⟩
  · exact e2e_of_ok up bufLen rx rxErr (genNewMatcher_like up bufLen rx rxErr pat hm) (fun s => like_correct pat s)
  · exact e2e_of_ok up bufLen rx rxErr (genNewMatcher_ilike up bufLen rx rxErr pat hm) (fun s => ilike_correct hup bufLen pat s)
  · exact e2e_of_ok up bufLen rx rxErr (by rw [genNewMatcher_regex up bufLen rx rxErr pat cs hm, he]; rfl) (fun s => Iff.rfl)
  · exact err_of_error up bufLen rx rxErr (by rw [genNewMatcher_regex up bufLen rx rxErr pat cs hm, he]; rfl)

/-- **`gen_like_string_enum_agree`**: for every pattern `NewMatcher` accepts (with or without metacharacters, either case
setting), a string column and an enum column holding the same cells (every cell null or a value of the table, at most 255
values) come out of the regenerated filters with the same mask, entry by entry — whatever the mask held before. -/
theorem gen_like_string_enum_agree (pat : Bytes) (cs : Bool) (f : Bytes → Bool)
    (hm : genNewMatcher up bufLen rx rxErr pat cs = .ok f) (Γ : ST.Env) (hΓ : Γ.newMatcher = genNewMatcher up bufLen rx rxErr)
    (index : List Nat) (col : ST.Col) (bIndex : List Bool) (vals : List Bytes) (hlen : bIndex.length ≤ index.length)
    (hcol : ∀ j, j < bIndex.length → index[j]! < col.length) (hvals : vals.length ≤ 255)
    (hcells : ∀ j, j < bIndex.length → cellOk .enum vals (.str col[index[j]!]!) = true) :
    ∃ σ₁ out σ₂ b sh ke,
      genLike Γ .likeStrings [.rows index, .col col, .str pat, .bools bIndex, .bool cs] = .ret σ₁ [.err none] ∧
      σ₁ 3 = some (.bools out) ∧
      genLike Γ .likeEnum [.str pat, .strs vals, .bool cs] = .ret σ₂ [.bitset (some b), .err none] ∧
      kernelOf "ecolumn" "Column.filterWithBitset" = some (sh, ke) ∧
      ∀ i, i < bIndex.length → ∀ (P : KParams) (y k : Cell),
        kstep sh (ke.eval .enum vals { P with bset := Small.bsIsSet b } (.str col[index[i]!]!) y k) bIndex[i]! = some out[i]! :=
  (e2e_of_ok up bufLen rx rxErr hm (accept := fun s => f s = true) (fun _ => Iff.rfl)).agree Γ hΓ index col bIndex vals hlen hcol hvals hcells

/-- every pattern is either accepted or rejected with the compile error of its regular expression: nothing else happens -/
theorem genNewMatcher_cases (pat : Bytes) (cs : Bool) :
    (∃ f, genNewMatcher up bufLen rx rxErr pat cs = .ok f) ∨
    (hasMeta pat = true ∧ rxErr (regexSource pat cs) = true ∧ genNewMatcher up bufLen rx rxErr pat cs = .error .badPattern) := by
  cases hm : hasMeta pat
  · cases cs
    · exact Or.inl ⟨_, genNewMatcher_ilike up bufLen rx rxErr pat hm⟩
    · exact Or.inl ⟨_, genNewMatcher_like up bufLen rx rxErr pat hm⟩
  · rw [genNewMatcher_regex up bufLen rx rxErr pat cs hm]
    cases he : rxErr (regexSource pat cs)
    · exact Or.inl ⟨_, rfl⟩
    · exact Or.inr ⟨rfl, rfl, rfl⟩

/-! ## Concrete instances -/

section Examples

/-- a toy engine (the theorems hold for every engine): "matches" iff the source is not longer than the string; a source with `[`
does not compile -/
def rx0 : Bytes → Bytes → Bool := fun src s => decide (src.length ≤ s.length)
def rxErr0 : Bytes → Bool := fun src => src.contains 91
/-- an environment whose `NewMatcher` is today's regenerated one -/
def Γ0 : ST.Env := { C18FilterGen.wEnv with newMatcher := genNewMatcher id 10 rx0 rxErr0 }

/-- `bIndex` after a call of the string-column filter -/
def maskOf (r : ST.Run) : Option (List Bool) :=
  match r with
  | .ret σ _ => (match σ 3 with | some (.bools l) => some l | _ => none)
  | _ => none

/-- the hypotheses of `gen_like_end_to_end` are met: "%ab" has no metacharacters, the identity (and the table a→A, b→B of
C18Like) is `PctStable` -/
example : hasMeta [37, 97, 98] = false := by decide +kernel
example : PctStable id := fun _ => Iff.rfl
example : PctStable (upOf stAB) := stAB_stable
example : LikeE2E id 10 rx0 rxErr0 [37, 97, 98] true (Matches [37, 97, 98]) :=
  ((gen_like_end_to_end id 10 rx0 rxErr0 _).1 (by decide +kernel)).1
example : LikeE2E (upOf stAB) 10 rx0 rxErr0 [37, 97, 98] false (fun s => Matches (upper (upOf stAB) [37, 97, 98]) (upper (upOf stAB) s)) :=
  ((gen_like_end_to_end (upOf stAB) 10 rx0 rxErr0 _).1 (by decide +kernel)).2.1 stAB_stable
/-- `IlikeCells` for the pattern "%ab" and the table a→A, b→B -/
example : IlikeCells (upOf stAB) 10 rx0 rxErr0 [37, 97, 98] :=
  ((gen_like_end_to_end (upOf stAB) 10 rx0 rxErr0 _).1 (by decide +kernel)).2.2
/-- its hypotheses on a concrete cell: the environment of the project's own decoder / encoder and a buffer of 10 bytes -/
example : C18UpperGen.UpperEnv (C18Utf8.jsonEnv (upOf stAB) 100) (upOf stAB) := C18Utf8.jsonEnv_ok _ _
example : ((some (List.replicate 10 0) : Option Bytes).getD []).length = 10 := rfl
/-- the regenerated `ToUpper` run by the kernel on the cell "xéb" (é is two bytes) with that table returns "xéB" -/
example : (match C18UpperGen.genToUpper (C18Utf8.jsonEnv (upOf stAB) 100) (some (List.replicate 10 0)) (C18UpperGen.encs ['x', 'é', 'b']) with
    | some [.str u] => some u | _ => none) = some (C18UpperGen.encs ['x', 'é', 'B']) := by decide +kernel
/-- "", "%" and "%%" are patterns without metacharacters (so `gen_like_end_to_end` covers them) -/
example : hasMeta [] = false ∧ hasMeta [37] = false ∧ hasMeta [37, 37] = false := by decide +kernel
/-- "a.b%" has a metacharacter: the engine is asked for `^a.b`, and for `(?i)^a.b` by ilike; "a[%" does not compile in `rxErr0` -/
example : hasMeta (strBytes "a.b%") = true ∧ regexSource (strBytes "a.b%") true = strBytes "^a.b" ∧
    regexSource (strBytes "a.b%") false = strBytes "(?i)^a.b" := by decide +kernel
example : LikeErr id 10 rx0 rxErr0 (strBytes "a[%") true :=
  ((gen_like_end_to_end id 10 rx0 rxErr0 _).2 (by decide +kernel) true).2 (by decide +kernel)

/-- today's code run by the kernel: "%ab" on the rows "abx", null, "xab" read through the index [2, 1, 0] keeps "xab" … -/
example : maskOf (genLike Γ0 .likeStrings [.rows [2, 1, 0], .col [some [97, 98, 120], none, some [120, 97, 98]], .str [37, 97, 98],
    .bools [false, false, false], .bool true]) = some [true, false, false] := by decide +kernel
/-- … and the enum column with the table ["abx", "xab"] gets the bitset {1} -/
example : (match genLike Γ0 .likeEnum [.str [37, 97, 98], .strs [[97, 98, 120], [120, 97, 98]], .bool true] with
    | .ret _ [.bitset (some b), .err none] => some ([0, 1, 2, 255].map (Small.bsIsSet b))
    | _ => none) = some [false, true, false, false] := by decide +kernel
/-- the hypotheses of `gen_like_string_enum_agree` for this instance: every cell is null or a value of the table -/
example : ∀ j, j < 3 → cellOk .enum [[97, 98, 120], [120, 97, 98]]
    (.str ([some [97, 98, 120], none, some [120, 97, 98]] : ST.Col)[([2, 1, 0] : List Nat)[j]!]!) = true := by decide

end Examples

end QF.Props.C18EndToEnd

#print axioms QF.Props.C18EndToEnd.genNewMatcher_like
#print axioms QF.Props.C18EndToEnd.genNewMatcher_ilike
#print axioms QF.Props.C18EndToEnd.genNewMatcher_regex
#print axioms QF.Props.C18EndToEnd.genNewMatcher_cases
#print axioms QF.Props.C18EndToEnd.gen_like_end_to_end
#print axioms QF.Props.C18EndToEnd.gen_like_string_enum_agree
#print axioms QF.Props.C18EndToEnd.gen_like_upper_cell
#print axioms QF.Props.C18EndToEnd.gen_ilike_cells
