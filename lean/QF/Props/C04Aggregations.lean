import QF.Props.C03Compare
import QF.Core.F64Lemmas
import QF.Gen.Aggregations
/-!
# C04 — the built-in aggregations of today's source compute what the spec says (tie T1, by semantics)

`QF.Gen.aggAst` (regenerated on every run by go/cmd/extract/aast.go) holds, as terms of `QF.AE`, the functions in the
`aggregations` maps of the int, float and bool column packages (the maps `Column.Aggregate` looks a name up in) and the
aggregation `Grouper.Aggregate` answers itself (`"count"`); `AE.eval` (QF/Core/AExpr.lean) is their Go meaning on the
cells of one group. The spec's counterpart is `aggApply (.builtin name) ty` (QF/Spec/Ops.lean), which `groupAggS` applies
to the cells of every group. This file proves, for the terms generated TODAY:

* `gen_agg_no_opaque` — every map entry and the special case were translated completely
* `gen_agg_names`     — per column type the maps offer exactly the names the spec defines (`spec_names`: `aggApply
                        (.builtin n) ty` is defined iff `n` is `"count"` or one of them); string and enum columns have none
* `gen_agg_semantics` — for every column type, every built-in name of the type and ALL non-empty lists of cells of the
                        type: the extracted term evaluates to the value the spec's function returns — int `sum` with
                        wrap-around at 64 bits, `max` / `min` through `integer.Max` / `integer.Min`; float `sum` and `avg`
                        adding left to right from 0, `max` / `min` with `math.Max` / `math.Min` (`goMathMax_eq_fMax`: Go's
                        case analysis of ±Inf, NaN, ±0 is the spec's `fMax`); bool `majority` = more true than false;
                        `count` = the group size, for every type

Method (as in C03Compare): `decide` shows that the generated entries ARE the canonical ones (`gen_agg_canon`,
`gen_agg_count`); `eval_fold` says what a loop term computes on every list once its step is known, the `canon_*` lemmas
are its instances for the canonical terms; `builtin_entry` puts them together per entry of a package's map (what
`Column.Aggregate` looks up: C04LoopsGen). `aggApply_some` reads the spec's table backwards.
-/
namespace QF.Props.C04Aggregations
open QF QF.Props.C03Compare

/-! ## Today's aggregation of a column type -/

def entriesOf (asts : List (String × String × AE)) (pkg : String) : List (String × AE) :=
  (asts.filter (·.1 == pkg)).map (·.2)

/-- The term behind `Aggregate(Aggregation{Fn: name, …})` on a column of type `ty`: grouper.go first tests for the names it
answers itself, then `Column.Aggregate` looks the name up in the package's map. -/
def aggTerm (asts : List (String × String × AE)) (ty : CType) (name : String) : Option AE :=
  match (entriesOf asts "qframe").lookup name with
  | some t => some t
  | none => (entriesOf asts (pkgOf ty)).lookup name

/-- … evaluated on the cells of one group, for today's source -/
def genAgg (ty : CType) (name : String) (vs : List Cell) : Option Cell :=
  (aggTerm Gen.aggAst ty name).bind (·.eval ty vs)

/-! ## Canonical terms -/

def foldZero (fin : AFin) : AE := .fold .zero 0 (.add .acc .v) fin
def foldFirst (step : AX) : AE := .fold .first 1 step .id

def canonAggs : CType → List (String × AE)
  | .int => [("max", foldFirst (.sel ">" .acc .v .acc .v)), ("min", foldFirst (.sel "<" .acc .v .acc .v)),
             ("sum", foldZero .id)]
  | .float => [("avg", foldZero .divByLen), ("max", foldFirst (.mathMax .acc .v)), ("min", foldFirst (.mathMin .acc .v)),
               ("sum", foldZero .id)]
  | .bool => [("majority", .count2 .c0 .c1 ">" .c0 .c1)]
  | _ => []

/-- the built-in aggregations of a column type according to the spec, besides `"count"` -/
def specNames : CType → List String
  | .int => ["max", "min", "sum"]
  | .float => ["avg", "max", "min", "sum"]
  | .bool => ["majority"]
  | _ => []

/-! ## Today's terms are the canonical ones (finite checks over `QF.Gen`, redone on every run) -/

theorem gen_agg_canon : ∀ ty ∈ tys, entriesOf Gen.aggAst (pkgOf ty) = canonAggs ty := by
  decide

theorem gen_agg_count : entriesOf Gen.aggAst "qframe" = [("count", .len)] := by
  decide

/-- No entry translates to (a term containing) `.opaque`, and every entry belongs to one of the five column packages or
to grouper.go. -/
theorem gen_agg_no_opaque :
    (∀ e ∈ Gen.aggAst, e.2.2.hasOpaque = false) ∧ (∀ e ∈ Gen.aggAst, e.1 = "qframe" ∨ e.1 ∈ tys.map pkgOf) := by
  decide

/-- `aggApply`'s table read backwards: an aggregation the spec defines is `"count"`, or it returns the element type of
the column and, if built in, is one of `specNames`. -/
theorem aggApply_some {fn : AggFn} {ty rt : CType} {g : List Cell → Cell} (h : aggApply fn ty = some (rt, g)) :
    fn = .builtin "count" ∨ (rt = fkind ty ∧ ∀ n, fn = .builtin n → n ∈ specNames (fkind ty)) := by
  unfold aggApply at h
  split at h
  · exact .inl rfl
  -- a row of the table: `hk : fkind ty = <the row's type>`; the last case is `none = some _`
  all_goals first
    | (rename_i hk; cases h; exact .inr ⟨hk.symm, fun n e => by cases e <;> (rw [hk]; decide)⟩)
    | cases h

/-- What the spec defines: `aggApply (.builtin n) ty` exists exactly for `"count"` and the names of `specNames`. -/
theorem spec_names (ty : CType) (n : String) :
    (aggApply (.builtin n) ty).isSome = true ↔ (n = "count" ∨ n ∈ specNames (fkind ty)) := by
  constructor
  · intro h
    cases hp : aggApply (.builtin n) ty with
    | none => rw [hp] at h; cases h
    | some p =>
      rcases aggApply_some hp with e | ⟨_, hn⟩
      · exact .inl (AggFn.builtin.inj e)
      · exact .inr (hn n rfl)
  · rintro (rfl | h)
    · cases ty <;> rfl
    · cases ty <;> simp only [fkind, specNames, List.mem_cons, List.not_mem_nil, or_false] at h
      all_goals rcases h with rfl | rfl | rfl | rfl <;> rfl

/-- **The maps offer exactly the names the spec knows**, per column type (string and enum columns: none), and
`Grouper.Aggregate` answers exactly `"count"` itself. -/
theorem gen_agg_names :
    (∀ ty ∈ tys, (entriesOf Gen.aggAst (pkgOf ty)).map (·.1) = specNames ty) ∧
    (entriesOf Gen.aggAst "qframe").map (·.1) = ["count"] := by
  decide

/-- grouper.go answers `"count"`; every other name is looked up in the package's map -/
theorem aggTerm_eq (ty : CType) (name : String) :
    aggTerm Gen.aggAst ty name = if name = "count" then some .len else (entriesOf Gen.aggAst (pkgOf ty)).lookup name := by
  unfold aggTerm
  rw [gen_agg_count]
  by_cases h : name = "count"
  · subst h; rfl
  · rw [if_neg h, List.lookup, (beq_eq_false_iff_ne.mpr h : (name == "count") = false)]; rfl

/-! ## `math.Max` / `math.Min` as Go computes them are the spec's `fMax` / `fMin` -/

theorem nan_zero : F64.isNaN 0 = false := by decide

theorem not_nan_of_or {a b : UInt64} (h : ¬ (F64.isNaN a || F64.isNaN b) = true) :
    F64.isNaN a = false ∧ F64.isNaN b = false := by
  cases ha : F64.isNaN a <;> cases hb : F64.isNaN b <;> simp_all

/-- `x == 0 && x == y` on non-NaN floats: both are zeros -/
theorem both_zero {a b : UInt64} (ha : F64.isNaN a = false) (hb : F64.isNaN b = false) :
    (F64.eq a 0 && F64.eq a b) = (F64.key a == 0 && F64.key b == 0) := by
  rw [Bool.eq_iff_iff]
  simp only [F64.eq, ha, hb, nan_zero, F64.key_zero, Bool.not_false, Bool.true_and, Bool.and_eq_true, beq_iff_eq]
  omega

theorem lt_key {a b : UInt64} (ha : F64.isNaN a = false) (hb : F64.isNaN b = false) :
    F64.lt a b = decide (F64.key a < F64.key b) := by
  rw [F64.lt, ha, hb]; rfl

/-- Go selects with `<`, the spec with `≤`: the same where a tie cannot tell the two values apart. -/
theorem ite_lt_eq_ite_le {α : Type} (x y : Int) (a b : α) (h : x = y → a = b) :
    (if x < y then a else b) = if x ≤ y then a else b := by
  by_cases h1 : x < y
  · rw [if_pos h1, if_pos (Int.le_of_lt h1)]
  · by_cases h2 : x = y
    · rw [if_neg h1, if_pos (Int.le_of_eq h2), h h2]
    · rw [if_neg h1, if_neg (by omega)]

/- The two definitions test ±Inf and NaN alike; then both values are no NaN, the zero tests agree (`both_zero`), and a
tie of the keys of two floats that are not both zeros is a tie of the floats (`F64.key_inj`). -/
theorem goMathMax_eq_fMax (a b : UInt64) : goMathMax a b = fMax a b :=
  ite_congr rfl (fun _ => rfl) fun _ => ite_congr rfl (fun _ => rfl) fun h2 => by
    obtain ⟨ha, hb⟩ := not_nan_of_or h2
    rw [both_zero ha hb, lt_key hb ha]
    refine ite_congr rfl (fun _ => rfl) fun h3 => ?_
    simp only [decide_eq_true_eq]
    exact ite_lt_eq_ite_le _ _ _ _ fun e => (F64.key_inj e fun h0 => h3 (by simp [← e, h0])).symm

theorem goMathMin_eq_fMin (a b : UInt64) : goMathMin a b = fMin a b :=
  ite_congr rfl (fun _ => rfl) fun _ => ite_congr rfl (fun _ => rfl) fun h2 => by
    obtain ⟨ha, hb⟩ := not_nan_of_or h2
    rw [both_zero ha hb, lt_key ha hb]
    refine ite_congr rfl (fun _ => rfl) fun h3 => ?_
    simp only [decide_eq_true_eq]
    exact ite_lt_eq_ite_le _ _ _ _ fun e => F64.key_inj e fun h0 => h3 (by simp [← e, h0])

/-! ## The meaning of the canonical terms, once and for all -/

section Elem
/- `k` makes a cell, `k'` the Go value, of an element of type `α` (`Int`, `UInt64`, `Bool`) -/
variable {α : Type} {ty : CType} {k : α → Cell} {k' : α → AV}

theorem avsOf_map (hof : ∀ x, AV.ofCell ty (k x) = some (k' x)) (xs : List α) :
    avsOf ty (xs.map k) = some (xs.map k') := by
  induction xs with
  | nil => rfl
  | cons x xs ih => simp only [List.map_cons, avsOf, hof, ih]

theorem foldStep_map (step : AX) (f : α → α → α) (hs : ∀ a v, step.eval (k' a) (k' v) = some (k' (f a v))) (a : α)
    (xs : List α) : foldStep step (k' a) (xs.map k') = some (k' (xs.foldl f a)) := by
  induction xs generalizing a with
  | nil => rfl
  | cons x xs ih => simp only [List.map_cons, foldStep, hs, ih, List.foldl_cons]

theorem eval_fold (hof : ∀ x, AV.ofCell ty (k x) = some (k' x)) (step : AX) (f : α → α → α)
    (hs : ∀ a v, step.eval (k' a) (k' v) = some (k' (f a v))) (init : AInit) (skip : Nat) (fin : AFin) (xs : List α) (a0 : α)
    (h0 : init.eval ty (xs.map k') = some (k' a0)) (hskip : skip ≤ xs.length) :
    (AE.fold init skip step fin).eval ty (xs.map k) =
      (fin.eval (k' ((xs.drop skip).foldl f a0)) xs.length).map AV.toCell := by
  simp only [AE.eval, avsOf_map hof, h0, List.length_map, hskip, if_true, ← List.map_drop, foldStep_map step f hs]

theorem filterMap_map_some {β : Type} {p : β → Option α} {k : α → β} (h : ∀ x, p (k x) = some x) (xs : List α) :
    (xs.map k).filterMap p = xs := by
  rw [List.filterMap_map, show p ∘ k = some from funext h, List.filterMap_some]

theorem cells_of (hk : ∀ v, cellType v = ty → ∃ x, v = k x) {vs : List Cell} (h : ∀ v ∈ vs, cellType v = ty) :
    ∃ xs : List α, vs = xs.map k := by
  induction vs with
  | nil => exact ⟨[], rfl⟩
  | cons v vs ih =>
    obtain ⟨xs, rfl⟩ := ih fun w hw => h w (List.mem_cons_of_mem _ hw)
    obtain ⟨x, rfl⟩ := hk v (h v List.mem_cons_self)
    exact ⟨x :: xs, rfl⟩

end Elem

theorem ints_map (xs : List Int) : ints (xs.map Cell.int) = xs := by
  unfold ints; apply filterMap_map_some; intro; rfl
theorem floats_map (xs : List UInt64) : floats (xs.map Cell.float) = xs := by
  unfold floats; apply filterMap_map_some; intro; rfl
theorem bools_map (xs : List Bool) : bools (xs.map Cell.bool) = xs := by
  unfold bools; apply filterMap_map_some; intro; rfl

theorem cells_int {vs : List Cell} (h : ∀ v ∈ vs, cellType v = .int) : ∃ xs : List Int, vs = xs.map Cell.int :=
  cells_of (fun v hv => by cases v <;> first | exact ⟨_, rfl⟩ | cases hv) h

theorem cells_float {vs : List Cell} (h : ∀ v ∈ vs, cellType v = .float) : ∃ xs : List UInt64, vs = xs.map Cell.float :=
  cells_of (fun v hv => by cases v <;> first | exact ⟨_, rfl⟩ | cases hv) h

theorem cells_bool {vs : List Cell} (h : ∀ v ∈ vs, cellType v = .bool) : ∃ xs : List Bool, vs = xs.map Cell.bool :=
  cells_of (fun v hv => by cases v <;> first | exact ⟨_, rfl⟩ | cases hv) h

theorem canon_int_sum (xs : List Int) :
    (foldZero .id).eval .int (xs.map Cell.int) = some (.int (xs.foldl (fun a x => wrap64 (a + x)) 0)) :=
  eval_fold (k' := AV.int) (fun _ => rfl) _ _ (fun _ _ => rfl) _ _ _ xs 0 rfl (Nat.zero_le _)

theorem sel_int (op : String) (a v : Int) (c : Bool) (h : cmpInt op a v = some c) :
    (AX.sel op .acc .v .acc .v).eval (.int a) (.int v) = some (.int (if c then a else v)) := by
  simp only [AX.eval, cmpAV, h]
  cases c <;> rfl

theorem sel_gt_int (a v : Int) : (AX.sel ">" .acc .v .acc .v).eval (.int a) (.int v) = some (.int (max a v)) := by
  rw [sel_int ">" a v _ rfl]
  congr 2
  by_cases h : v < a
  · rw [decide_eq_true h, if_pos rfl]; omega
  · rw [decide_eq_false h, if_neg Bool.false_ne_true]; omega

theorem sel_lt_int (a v : Int) : (AX.sel "<" .acc .v .acc .v).eval (.int a) (.int v) = some (.int (min a v)) := by
  rw [sel_int "<" a v _ rfl]
  congr 2
  by_cases h : a < v
  · rw [decide_eq_true h, if_pos rfl]; omega
  · rw [decide_eq_false h, if_neg Bool.false_ne_true]; omega

theorem canon_int_max (x : Int) (xs : List Int) :
    (foldFirst (.sel ">" .acc .v .acc .v)).eval .int ((x :: xs).map Cell.int) = some (.int (xs.foldl max x)) :=
  eval_fold (k' := AV.int) (fun _ => rfl) _ max sel_gt_int _ _ _ (x :: xs) x rfl (Nat.le_add_left 1 _)

theorem canon_int_min (x : Int) (xs : List Int) :
    (foldFirst (.sel "<" .acc .v .acc .v)).eval .int ((x :: xs).map Cell.int) = some (.int (xs.foldl min x)) :=
  eval_fold (k' := AV.int) (fun _ => rfl) _ min sel_lt_int _ _ _ (x :: xs) x rfl (Nat.le_add_left 1 _)

theorem canon_float_sum (xs : List UInt64) :
    (foldZero .id).eval .float (xs.map Cell.float) = some (.float (xs.foldl fAdd 0)) :=
  eval_fold (k' := AV.flt) (fun _ => rfl) _ fAdd (fun _ _ => rfl) _ _ _ xs 0 rfl (Nat.zero_le _)

theorem canon_float_avg (xs : List UInt64) :
    (foldZero .divByLen).eval .float (xs.map Cell.float) = some (.float (fDiv (xs.foldl fAdd 0) (fOfInt xs.length))) :=
  eval_fold (k' := AV.flt) (fun _ => rfl) _ fAdd (fun _ _ => rfl) _ _ _ xs 0 rfl (Nat.zero_le _)

theorem canon_float_max (x : UInt64) (xs : List UInt64) :
    (foldFirst (.mathMax .acc .v)).eval .float ((x :: xs).map Cell.float) = some (.float (xs.foldl fMax x)) :=
  eval_fold (k' := AV.flt) (fun _ => rfl) _ fMax (fun a v => by rw [← goMathMax_eq_fMax]; rfl) _ _ _
    (x :: xs) x rfl (Nat.le_add_left 1 _)

theorem canon_float_min (x : UInt64) (xs : List UInt64) :
    (foldFirst (.mathMin .acc .v)).eval .float ((x :: xs).map Cell.float) = some (.float (xs.foldl fMin x)) :=
  eval_fold (k' := AV.flt) (fun _ => rfl) _ fMin (fun a v => by rw [← goMathMin_eq_fMin]; rfl) _ _ _
    (x :: xs) x rfl (Nat.le_add_left 1 _)

theorem countStep_counts (t f : Int) (bs : List Bool) :
    countStep .c0 .c1 (t, f) (bs.map AV.bool) = some (t + (bs.count true : Nat), f + (bs.count false : Nat)) := by
  induction bs generalizing t f with
  | nil => simp [countStep]
  | cons b bs ih =>
    cases b
    · simp only [List.map_cons, countStep, Bool.false_eq_true, if_false, ih, List.count_cons, beq_self_eq_true,
        if_true, Option.some.injEq, Prod.mk.injEq]
      constructor
      · simp
      · simp only [Int.natCast_add]; omega
    · simp only [List.map_cons, countStep, if_true, ih, List.count_cons, beq_self_eq_true, Option.some.injEq,
        Prod.mk.injEq]
      constructor
      · simp only [Int.natCast_add]; omega
      · simp

theorem canon_bool_majority (bs : List Bool) :
    (AE.count2 .c0 .c1 ">" .c0 .c1).eval .bool (bs.map Cell.bool) = some (.bool (bs.count true > bs.count false)) := by
  have h := avsOf_map (ty := .bool) (k := Cell.bool) (k' := AV.bool) (fun _ => rfl) bs
  simp only [AE.eval, h, countStep_counts, ACtr.get, cmpInt, Option.map_some, Int.zero_add]
  congr 2
  simp

/-! ## Today's aggregations compute what the spec says -/

theorem ne_cons {α β : Type} {k : α → β} {vs : List β} (hne : vs ≠ []) (h : ∃ xs : List α, vs = xs.map k) :
    ∃ x xs, vs = (x :: xs).map k := by
  obtain ⟨_ | ⟨x, xs⟩, rfl⟩ := h
  · exact absurd rfl hne
  · exact ⟨x, xs, rfl⟩

/-- **Every entry of a package's map computes the spec's function of its name**: for a name of `specNames ty` the map of
the type's package has a term, the spec defines the aggregation — result type `rt`, function `g` —, and the term evaluates
to `g vs` on ALL non-empty lists `vs` of cells of the type. -/
theorem builtin_entry (ty : CType) (hty : ty ∈ tys) (name : String) (hn : name ∈ specNames ty) :
    ∃ t rt g, (entriesOf Gen.aggAst (pkgOf ty)).lookup name = some t ∧ aggApply (.builtin name) ty = some (rt, g) ∧
      ∀ vs, vs ≠ [] → (∀ v ∈ vs, cellType v = ty) → t.eval ty vs = some (g vs) := by
  rw [gen_agg_canon ty hty]
  -- for each name of the type: the entry of `canonAggs` and the row of `aggApply`, both found by evaluation
  cases ty
  · simp only [specNames, List.mem_cons, List.not_mem_nil, or_false] at hn
    rcases hn with rfl | rfl | rfl <;> refine ⟨_, _, _, rfl, rfl, fun vs hne hwt => ?_⟩ <;>
      obtain ⟨x, xs, rfl⟩ := ne_cons hne (cells_int hwt)
    · exact (canon_int_max x xs).trans (by rw [ints_map])
    · exact (canon_int_min x xs).trans (by rw [ints_map])
    · exact (canon_int_sum _).trans (by rw [ints_map])
  · simp only [specNames, List.mem_cons, List.not_mem_nil, or_false] at hn
    rcases hn with rfl | rfl | rfl | rfl <;> refine ⟨_, _, _, rfl, rfl, fun vs hne hwt => ?_⟩ <;>
      obtain ⟨x, xs, rfl⟩ := ne_cons hne (cells_float hwt)
    · exact (canon_float_avg _).trans (by rw [floats_map, List.length_map])
    · exact (canon_float_max x xs).trans (by rw [floats_map])
    · exact (canon_float_min x xs).trans (by rw [floats_map])
    · exact (canon_float_sum _).trans (by rw [floats_map])
  · cases List.mem_singleton.mp hn
    refine ⟨_, _, _, rfl, rfl, fun vs _ hwt => ?_⟩
    obtain ⟨xs, rfl⟩ := cells_bool hwt
    exact (canon_bool_majority xs).trans (by rw [bools_map])
  · cases hn
  · cases hn
  · cases hn

/-- **The built-in aggregations of today's source are the spec's.** For every column type, every built-in name of the type
(`"count"` or a name of `specNames`: by `spec_names` these are all the spec defines) and ALL non-empty lists `vs` of cells
of the type (a group is never empty), the spec defines the aggregation — result type `rt`, function `g` — and the term
extracted from today's source evaluates to `g vs`. -/
theorem gen_agg_semantics (ty : CType) (hty : ty ∈ tys) (name : String) (hn : name = "count" ∨ name ∈ specNames ty)
    (vs : List Cell) (hne : vs ≠ []) (hwt : name = "count" ∨ ∀ v ∈ vs, cellType v = ty) :
    ∃ rt g, aggApply (.builtin name) ty = some (rt, g) ∧ genAgg ty name vs = some (g vs) := by
  unfold genAgg
  rw [aggTerm_eq]
  by_cases hc : name = "count"
  · subst hc
    exact ⟨.int, fun vs => .int vs.length, by cases ty <;> rfl, rfl⟩
  obtain ⟨t, rt, g, ht, hag, hev⟩ := builtin_entry ty hty name (hn.resolve_left hc)
  exact ⟨rt, g, hag, by rw [if_neg hc, ht]; exact hev vs hne (hwt.resolve_left hc)⟩

/-! ## Witnesses: the statement tells wrong aggregations apart -/

/-- icolumn's `max` calling `integer.Min`: the translator inlines the callee, the term is `min`'s … -/
def maxByMin : AE := foldFirst (.sel "<" .acc .v .acc .v)

/-- … and on the group [1, 2] it returns 1 where the spec's `max` says 2. -/
example : maxByMin.eval .int [.int 1, .int 2] = some (.int 1) ∧
    (aggApply (.builtin "max") .int).map (fun p => p.2 [.int 1, .int 2]) = some (.int 2) := by
  decide

/-- `sum` that starts from `values[0]` and then loops over ALL values counts the first one twice. -/
example : (AE.fold .first 0 (.add .acc .v) .id).eval .int [.int 5, .int 1] = some (.int 11) ∧
    (aggApply (.builtin "sum") .int).map (fun p => p.2 [.int 5, .int 1]) = some (.int 6) := by
  decide

/-- `max` / `min` index `values[0]`: on an empty group they panic (no value); `Grouper` never builds an empty group. -/
example : (foldFirst (.mathMax .acc .v)).eval .float [] = none := by
  decide

end QF.Props.C04Aggregations
