import QF.Spec.Csv
/-!
# C13 (render side): `rfcParse ∘ render = id`

Rendering any table with ANY admissible quoting choice and parsing it back with the RFC 4180
scanner `rfcParse` of `QF.Spec.Csv` reproduces the table.

The grammar of the documents lives here: `Doc` (rows of rendered fields, each ended by LF or CR LF — `LineBreak` —, the last one
possibly by the end of the input) with `Doc.parse`: `rfcParse` reads the table off every document of the grammar. The
`parse_render*` theorems are its instances for rows ended by LF (`Doc.ofRows`); the reader model is proved against the same
grammar in C12Read (`Doc.read`), documents with CR LF row ends are built in C12CrLf (`Doc.ofRowsT`).
-/
namespace QF.Props.C13

/-- A field that cannot be written bare: it contains the delimiter, a quote, LF or CR. -/
def mustQuote (delim : UInt8) (f : Bytes) : Bool :=
  f.any (fun c => c == delim || c == 34 || c == 10 || c == 13)

/-- `q`: write the field quoted (inner quotes doubled). -/
def renderField (q : Bool) (f : Bytes) : Bytes :=
  if q then [34] ++ f.flatMap (fun c => if c == 34 then [34, 34] else [c]) ++ [34] else f

/-- The fields of one record separated by `delim`, without a line terminator. -/
def renderFields (delim : UInt8) : List (Bool × Bytes) → Bytes
  | [] => []
  | [p] => renderField p.1 p.2
  | p :: q :: rest => renderField p.1 p.2 ++ [delim] ++ renderFields delim (q :: rest)

/-- Fields separated by `delim`, terminated by LF. -/
def renderRow (delim : UInt8) (r : List (Bool × Bytes)) : Bytes := renderFields delim r ++ [10]

def renderDoc (delim : UInt8) (rows : List (List (Bool × Bytes))) : Bytes :=
  rows.flatMap (renderRow delim)

/-- What the proof actually needs of a row: it has a field, and every field that must be quoted is. -/
structure RowOkCore (delim : UInt8) (r : List (Bool × Bytes)) : Prop where
  nonempty : r ≠ []
  quoted : ∀ p ∈ r, mustQuote delim p.2 = true → p.1 = true

/-- Admissible row, as the property states it. -/
structure RowOk (delim : UInt8) (r : List (Bool × Bytes)) : Prop where
  /-- at least one field -/
  nonempty : r ≠ []
  /-- every field that `mustQuote` is quoted -/
  quoted : ∀ p ∈ r, mustQuote delim p.2 = true → p.1 = true
  /-- an unquoted field is not empty when it is the only field of its row -/
  single : ∀ f, r = [(false, f)] → f ≠ []
  /-- an unquoted field does not start with a quote character -/
  noLeadQuote : ∀ p ∈ r, p.1 = false → p.2.head? ≠ some 34
  /-- no field contains CR -/
  noCR : ∀ p ∈ r, (13 : UInt8) ∉ p.2

theorem RowOk.core {delim : UInt8} {r : List (Bool × Bytes)} (h : RowOk delim r) : RowOkCore delim r :=
  ⟨h.nonempty, h.quoted⟩

/-! ## The scanner's accumulator along a rendered document -/

/-- At the start of a field: `R` = reversed fields so far of the current record,
`RS` = reversed completed records. -/
def start (R : List Bytes) (RS : List (List Bytes)) (p : Bool) : CsvAcc :=
  { st := .fieldStart, field := [], row := R, rows := RS, pending := p }

/-- The end-of-input flush of `rfcParse`. -/
def flush (a : CsvAcc) : List (List Bytes) :=
  let a := match a.st with
    | .fieldStart => if a.pending then (a.emitField false).endRecord else if a.row.isEmpty then a else a.endRecord
    | .unquoted => (a.emitField true).endRecord
    | .quoted | .quoteSeen => (a.emitField false).endRecord
  a.rows.reverse

theorem rfcParse_eq (delim : UInt8) (doc : Bytes) :
    rfcParse delim doc = flush (doc.foldl (csvStep delim) {}) := rfl

theorem start_default : ({} : CsvAcc) = start [] [] false := rfl

/-- Inside quotes: the escaped bytes of `f` push `f` onto the field. -/
theorem foldl_quoted (delim : UInt8) (f : Bytes) (acc : List UInt8) (R : List Bytes)
    (RS : List (List Bytes)) (p : Bool) :
    (f.flatMap (fun c => if c == 34 then [34, 34] else [c])).foldl (csvStep delim)
        { st := .quoted, field := acc, row := R, rows := RS, pending := p }
      = { st := .quoted, field := f.reverse ++ acc, row := R, rows := RS, pending := p } := by
  induction f generalizing acc with
  | nil => rfl
  | cons c cs ih =>
    simp only [List.flatMap_cons, List.foldl_append]
    by_cases hc : c = 34
    · subst hc
      simpa [csvStep] using ih (34 :: acc)
    · simpa [csvStep, hc] using ih (c :: acc)

/-- In an unquoted field: bytes other than delimiter and LF are pushed onto the field. -/
theorem foldl_unquoted (delim : UInt8) (f : Bytes) (acc : List UInt8) (R : List Bytes)
    (RS : List (List Bytes)) (p : Bool) (hf : ∀ c ∈ f, c ≠ delim ∧ c ≠ 10) :
    f.foldl (csvStep delim) { st := .unquoted, field := acc, row := R, rows := RS, pending := p }
      = { st := .unquoted, field := f.reverse ++ acc, row := R, rows := RS, pending := p } := by
  induction f generalizing acc with
  | nil => rfl
  | cons c cs ih =>
    have h1 := hf c (by simp)
    have h2 : ∀ c ∈ cs, c ≠ delim ∧ c ≠ 10 := fun c hc => hf c (by simp [hc])
    simp [csvStep, h1.1, h1.2, ih _ h2]

theorem not_mustQuote {delim : UInt8} {f : Bytes} (h : mustQuote delim f = false) :
    ∀ c ∈ f, c ≠ delim ∧ c ≠ 34 ∧ c ≠ 10 ∧ c ≠ 13 := by
  intro c hc
  simp only [mustQuote, List.any_eq_false] at h
  have := h c hc
  simpa [and_assoc] using this

/-- a field that is written bare did not have to be quoted -/
theorem bare_ok {delim : UInt8} {f : Bytes} (hq : mustQuote delim f = true → false = true) :
    mustQuote delim f = false := by
  cases h : mustQuote delim f
  · rfl
  · exact nomatch hq h

/-- What follows a field, read in the state `a` the scanner is in after the field's bytes: the delimiter closes the field, a line
break closes field and record, and so does the end of the input (`ok`: unless nothing has been read since the last record end). -/
structure Closes (delim : UInt8) (a : CsvAcc) (f : Bytes) (R : List Bytes) (RS : List (List Bytes)) (ok : Prop) : Prop where
  sep : csvStep delim a delim = start (f :: R) RS true
  lf : csvStep delim a 10 = start [] ((f :: R).reverse :: RS) false
  crlf : csvStep delim (csvStep delim a 13) 10 = start [] ((f :: R).reverse :: RS) false
  eof : ok → flush a = ((f :: R).reverse :: RS).reverse

/-- The bytes of one rendered field leave the scanner in one of three states (`e` below): after the closing quote, in the unquoted
field, or — the bare empty field — where it was; in each, what follows closes the field. After a closing quote the CR of CR LF is
skipped, after an unquoted field it is stripped (the field itself holds none). -/
theorem field_closes (delim : UInt8) (hd : delim ≠ 34 ∧ delim ≠ 10 ∧ delim ≠ 13) (q : Bool) (f : Bytes) (R : List Bytes)
    (RS : List (List Bytes)) (p : Bool) (hq : mustQuote delim f = true → q = true) :
    Closes delim ((renderField q f).foldl (csvStep delim) (start R RS p)) f R RS (¬ (q = false ∧ f = [] ∧ p = false)) := by
  have h10 : ¬ (10 : UInt8) = delim := fun h => hd.2.1 h.symm
  have h13 : ¬ (13 : UInt8) = delim := fun h => hd.2.2 h.symm
  cases q with
  | true =>
    have e : (renderField true f).foldl (csvStep delim) (start R RS p)
        = { st := .quoteSeen, field := f.reverse, row := R, rows := RS, pending := false } := by
      have : csvStep delim (start R RS p) 34 = { st := .quoted, field := [], row := R, rows := RS, pending := false } := by
        simp [csvStep, start]
      simp only [renderField, if_true, List.foldl_append, List.foldl_cons, List.foldl_nil]
      rw [this, foldl_quoted]
      simp [csvStep]
    rw [e]
    constructor <;> simp [csvStep, flush, hd.1, h10, h13, CsvAcc.emitField, CsvAcc.endRecord, start]
  | false =>
    have hall := not_mustQuote (bare_ok hq)
    by_cases hf : f = []
    · subst hf
      show Closes delim (start R RS p) _ _ _ _
      cases p <;> constructor <;> simp [csvStep, flush, hd.1, h10, h13, CsvAcc.emitField, CsvAcc.endRecord, start]
    · have hcr : f.getLast? ≠ some 13 := fun hl => (hall 13 (List.mem_of_getLast? hl)).2.2.2 rfl
      have e : (renderField false f).foldl (csvStep delim) (start R RS p)
          = { st := .unquoted, field := f.reverse, row := R, rows := RS, pending := false } := by
        obtain ⟨c, cs, rfl⟩ := List.exists_cons_of_ne_nil hf
        have h1 := hall c (by simp)
        have h2 : ∀ c ∈ cs, c ≠ delim ∧ c ≠ 10 := fun c hc => ⟨(hall c (by simp [hc])).1, (hall c (by simp [hc])).2.2.1⟩
        have : csvStep delim (start R RS p) c = { st := .unquoted, field := [c], row := R, rows := RS, pending := false } := by
          simp [csvStep, start, h1.1, h1.2.1, h1.2.2.1]
        simp [renderField, this, foldl_unquoted _ _ _ _ _ _ h2]
      rw [e]
      constructor <;> simp [hf, csvStep, flush, h10, h13, CsvAcc.emitField, CsvAcc.endRecord, start, hcr]

/-- a line break: LF, or CR LF -/
def LineBreak (delim : UInt8) (t : Bytes) : Prop := t = [10] ∨ (delim ≠ 13 ∧ t = [13, 10])

theorem Closes.break {delim : UInt8} {a : CsvAcc} {f : Bytes} {R : List Bytes} {RS : List (List Bytes)} {ok : Prop}
    (c : Closes delim a f R RS ok) {t : Bytes} (ht : LineBreak delim t) :
    t.foldl (csvStep delim) a = start [] ((f :: R).reverse :: RS) false := by
  rcases ht with rfl | ⟨_, rfl⟩
  · exact c.lf
  · exact c.crlf

/-- The fields of one record, without what ends it: the state after them closes the record `R.reverse ++ r.map (·.2)`
(`f` its last field, `R'` the ones before it, reversed). -/
theorem foldl_fields (delim : UInt8) (hd : delim ≠ 34 ∧ delim ≠ 10 ∧ delim ≠ 13)
    (r : List (Bool × Bytes)) (h : RowOkCore delim r) (R : List Bytes) (RS : List (List Bytes)) (p : Bool) :
    ∃ f R', (f :: R').reverse = R.reverse ++ r.map (·.2) ∧
      Closes delim ((renderFields delim r).foldl (csvStep delim) (start R RS p)) f R' RS (¬ (r = [(false, [])] ∧ p = false)) := by
  obtain ⟨hne, hq⟩ := h
  induction r generalizing R p with
  | nil => exact absurd rfl hne
  | cons x xs ih =>
    have c := field_closes delim hd x.1 x.2 R RS p (hq x (by simp))
    cases xs with
    | nil =>
      refine ⟨x.2, R, by simp, c.sep, c.lf, c.crlf, fun hl => c.eof fun hh => hl ⟨?_, hh.2.2⟩⟩
      cases x with
      | mk a b => simp at hh; simp [hh.1, hh.2.1]
    | cons y ys =>
      obtain ⟨f, R', e, c'⟩ := ih (x.2 :: R) true (by simp) fun p hp => hq p (List.mem_cons_of_mem _ hp)
      refine ⟨f, R', by simpa using e, ?_⟩
      simp only [renderFields, List.foldl_append, List.foldl_cons, List.foldl_nil, c.sep]
      exact ⟨c'.sep, c'.lf, c'.crlf, fun _ => c'.eof (by simp)⟩

theorem flush_start (RS : List (List Bytes)) : flush (start [] RS false) = RS.reverse := by
  simp [flush, start]


/-! ## The documents of the grammar -/

/-- `Doc delim ok k doc table`: `doc` is an RFC 4180 document denoting `table` — rows of rendered fields, each admissible
(`ok`: `RowOkCore` for the specification, `C12Read.RowOk'` for the reader) and ended by a line break (LF or CR LF); the last
one may end with the input instead (`k = 1`; then it is not the bare empty field, which renders to nothing). `k = 0`: the
document is empty or ends with a line break. -/
inductive Doc (delim : UInt8) (ok : List (Bool × Bytes) → Prop) : Nat → Bytes → List (List Bytes) → Prop
  | nil : Doc delim ok 0 [] []
  | last (r : List (Bool × Bytes)) (h : ok r) (hl : r ≠ [(false, [])]) :
      Doc delim ok 1 (renderFields delim r) [r.map (·.2)]
  | row {k : Nat} {rest : Bytes} {table : List (List Bytes)} (r : List (Bool × Bytes)) {t : Bytes}
      (h : ok r) (ht : LineBreak delim t) (d : Doc delim ok k rest table) :
      Doc delim ok k (renderFields delim r ++ (t ++ rest)) (r.map (·.2) :: table)

theorem renderDoc_cons (delim : UInt8) (r : List (Bool × Bytes)) (rs : List (List (Bool × Bytes))) :
    renderDoc delim (r :: rs) = renderRow delim r ++ renderDoc delim rs := by
  simp [renderDoc]

/-- rows ended by LF in front of a document -/
theorem Doc.ofRows {delim : UInt8} {ok : List (Bool × Bytes) → Prop} {k : Nat} {tl : Bytes}
    {tb : List (List Bytes)} (d : Doc delim ok k tl tb) : ∀ rows : List (List (Bool × Bytes)), (∀ r ∈ rows, ok r) →
    Doc delim ok k (renderDoc delim rows ++ tl) (rows.map (·.map (·.2)) ++ tb)
  | [], _ => d
  | r :: rs, h => by
    rw [renderDoc_cons, renderRow, List.append_assoc, List.append_assoc]
    exact .row r (h r (List.mem_cons_self ..)) (Or.inl rfl) (d.ofRows rs fun x hx => h x (List.mem_cons_of_mem _ hx))

/-- The scanner along a document of the grammar: it completes the records of the table. -/
theorem Doc.flush_foldl {delim : UInt8} (hd : delim ≠ 34 ∧ delim ≠ 10 ∧ delim ≠ 13) {k : Nat}
    {doc : Bytes} {table : List (List Bytes)} (d : Doc delim (RowOkCore delim) k doc table) :
    ∀ RS : List (List Bytes), flush (doc.foldl (csvStep delim) (start [] RS false)) = RS.reverse ++ table := by
  induction d with
  | nil => exact fun RS => by rw [List.append_nil]; exact flush_start RS
  | last r h hl =>
    intro RS
    obtain ⟨f, R', e, c⟩ := foldl_fields delim hd r h [] RS false
    rw [c.eof fun hh => hl hh.1, e]
    simp
  | @row k rest table r t h ht d ih =>
    intro RS
    obtain ⟨f, R', e, c⟩ := foldl_fields delim hd r h [] RS false
    rw [List.foldl_append, List.foldl_append, c.break ht, e, ih]
    simp

/-- **`rfcParse` reads the table off every document of the grammar.** -/
theorem Doc.parse {delim : UInt8} (hd : delim ≠ 34 ∧ delim ≠ 10 ∧ delim ≠ 13) {k : Nat}
    {doc : Bytes} {table : List (List Bytes)} (d : Doc delim (RowOkCore delim) k doc table) : rfcParse delim doc = table := by
  rw [rfcParse_eq, start_default, d.flush_foldl hd]
  rfl

/-! ## Main theorems -/

/-- Round trip with the minimal hypotheses: every row has a field and every field that must be
quoted is quoted. (CR inside a quoted field, a bare empty line for `[[]]`: all fine for `rfcParse`.) -/
theorem parse_render_core (delim : UInt8) (hd : delim ≠ 34 ∧ delim ≠ 10 ∧ delim ≠ 13)
    (rows : List (List (Bool × Bytes))) (h : ∀ r ∈ rows, RowOkCore delim r) :
    rfcParse delim (renderDoc delim rows) = rows.map (·.map (·.2)) := by
  have d := Doc.nil.ofRows (delim := delim) rows h
  rw [List.append_nil, List.append_nil] at d
  exact d.parse hd

/-- ToCSV then ReadCSV: rendering any table with any admissible quoting choice and parsing it back
gives the table. -/
theorem parse_render (delim : UInt8) (hd : delim ≠ 34 ∧ delim ≠ 10 ∧ delim ≠ 13)
    (rows : List (List (Bool × Bytes))) (h : ∀ r ∈ rows, RowOk delim r) :
    rfcParse delim (renderDoc delim rows) = rows.map (·.map (·.2)) :=
  parse_render_core delim hd rows (fun r hr => (h r hr).core)

/-- The variant where the last row has no terminating LF, minimal hypotheses: the last row must not
be the single bare empty field (it renders to nothing). -/
theorem parse_render_no_final_newline_core (delim : UInt8) (hd : delim ≠ 34 ∧ delim ≠ 10 ∧ delim ≠ 13)
    (rows : List (List (Bool × Bytes))) (last : List (Bool × Bytes))
    (h : ∀ r ∈ rows ++ [last], RowOkCore delim r) (hl : last ≠ [(false, [])]) :
    rfcParse delim (renderDoc delim rows ++ renderFields delim last)
      = (rows ++ [last]).map (·.map (·.2)) := by
  rw [List.map_append]
  exact ((Doc.last (delim := delim) last (h last (by simp)) hl).ofRows rows fun r hr => h r (by simp [hr])).parse hd

/-- No terminating LF after the last row, with `RowOk`: no extra condition is needed, because
`RowOk.single` already excludes the single bare empty field. -/
theorem parse_render_no_final_newline' (delim : UInt8) (hd : delim ≠ 34 ∧ delim ≠ 10 ∧ delim ≠ 13)
    (rows : List (List (Bool × Bytes))) (last : List (Bool × Bytes))
    (h : ∀ r ∈ rows ++ [last], RowOk delim r) :
    rfcParse delim (renderDoc delim rows ++ renderFields delim last)
      = (rows ++ [last]).map (·.map (·.2)) :=
  parse_render_no_final_newline_core delim hd rows last (fun r hr => (h r hr).core)
    (fun hh => (h last (by simp)).single [] hh rfl)

/-- No terminating LF after the last row, as specified: the last field of the last row is quoted or
non-empty. -/
theorem parse_render_no_final_newline (delim : UInt8) (hd : delim ≠ 34 ∧ delim ≠ 10 ∧ delim ≠ 13)
    (rows : List (List (Bool × Bytes))) (last : List (Bool × Bytes))
    (h : ∀ r ∈ rows ++ [last], RowOk delim r)
    (_hl : ∀ p, last.getLast? = some p → p.1 = true ∨ p.2 ≠ []) :
    rfcParse delim (renderDoc delim rows ++ renderFields delim last)
      = (rows ++ [last]).map (·.map (·.2)) :=
  parse_render_no_final_newline' delim hd rows last h


/-! ## The hypotheses are satisfiable, and needed -/

/-- A table with bare, quoted-by-choice, quoted-by-need (delimiter, quote, LF inside) and empty fields. -/
def demo : List (List (Bool × Bytes)) :=
  [ [(false, [97, 98]), (true, [99, 44, 34, 100, 10]), (false, [])],
    [(true, [])],
    [(false, []), (true, [120]), (false, [121, 33])] ]

theorem demo_ok : ∀ r ∈ demo, RowOk 44 r := by
  intro r hr
  simp only [demo, List.mem_cons, List.not_mem_nil, or_false] at hr
  rcases hr with rfl | rfl | rfl
  · exact ⟨by decide, by decide, (by intro f h; cases h), by decide, by decide⟩
  · exact ⟨by decide, by decide, (by intro f h; cases h), by decide, by decide⟩
  · exact ⟨by decide, by decide, (by intro f h; cases h), by decide, by decide⟩

/-- What is written: `ab,"c,""d⏎",⏎""⏎,"x",y!⏎`. -/
example : renderDoc 44 demo =
    [97, 98, 44, 34, 99, 44, 34, 34, 100, 10, 34, 44, 10, 34, 34, 10, 44, 34, 120, 34, 44, 121, 33, 10] := by
  decide +kernel

example : rfcParse 44 (renderDoc 44 demo) = demo.map (·.map (·.2)) :=
  parse_render 44 (by decide) demo demo_ok

/-- The same table with the last line break left out. -/
example : rfcParse 44 (renderDoc 44 (demo.take 2) ++ renderFields 44 (demo.getLast (by decide)))
    = demo.map (·.map (·.2)) :=
  parse_render_no_final_newline 44 (by decide) (demo.take 2) (demo.getLast (by decide))
    (fun r hr => demo_ok r (by
      simp only [demo, List.take, List.getLast, List.mem_append, List.mem_cons, List.not_mem_nil, or_false] at hr ⊢
      rcases hr with (h | h) | h <;> simp [h]))
    (by decide)

/-- Needed: a field with a delimiter written bare does not come back. -/
example : rfcParse 44 (renderDoc 44 [[(false, [97, 44, 98])]]) ≠ [[[97, 44, 98]]] := by decide

/-- Needed for the variant without final line break: a last row that is one bare empty field is lost. -/
example : rfcParse 44 (renderDoc 44 [[(false, [97])]] ++ renderFields 44 [(false, [])]) = [[[97]]] := by
  decide +kernel

/-- Not needed with the final line break: the bare empty line denotes the row of one empty field,
and a CR inside a quoted field is kept. -/
example : rfcParse 44 (renderDoc 44 [[(false, [])], [(true, [97, 13, 10, 98])]]) = [[[]], [[97, 13, 10, 98]]] :=
  parse_render_core 44 (by decide) _ (by
    intro r hr
    simp only [List.mem_cons, List.not_mem_nil, or_false] at hr
    rcases hr with rfl | rfl <;> exact ⟨by decide, by decide⟩)

#print axioms parse_render_core
#print axioms parse_render
#print axioms parse_render_no_final_newline_core
#print axioms parse_render_no_final_newline'
#print axioms parse_render_no_final_newline

end QF.Props.C13
