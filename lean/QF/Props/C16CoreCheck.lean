import QF.Props.C16CoreFlags
/-!
# C16 — the hypothesis of `ryu_shortest_partial` as a decidable check

`floorsHold mant exp` evaluates the three hypotheses of `ryu_shortest_partial` — the `mulShift64` results for `mv`, `mp`, `mm`
are the exact floors of the scaled quantities — with exact natural-number arithmetic. `ryu_shortest_of_check`: where it
answers `true`, the mirror's decimal is proved to be in the rounding interval, shortest and closest. It answers `true` for
every finite non-zero float but two (`floorsHold_all` in C16Precision.lean, `hypothesis_fails` in C16PrecisionCheck.lean);
the unconditional statement is `ryu_shortest` (C16Precision.lean).
-/
namespace QF.Props.C16Core
open QF.Ryu64

/-- decides the three hypotheses of `ryu_shortest_partial` for one float -/
def floorsHold (mant exp : Nat) : Bool :=
  let m2 := decodeM2 mant exp
  let s := mmShiftOf mant exp
  let N := scaleNum exp
  let D := scaleDen exp
  mulShift64 (mvOf m2) (mulOf exp) (shiftOf exp) == mvOf m2 * N / D &&
  mulShift64 (mpOf m2) (mulOf exp) (shiftOf exp) == mpOf m2 * N / D &&
  mulShift64 (mmOf m2 s) (mulOf exp) (shiftOf exp) == mmOf m2 s * N / D

/-- For a float on which the check succeeds, `ryu_shortest_partial` applies without hypotheses: the decimal computed by the
mirror of `float64ToDecimal` is in the rounding interval, shortest, and closest. -/
theorem ryu_shortest_of_check (mant exp : Nat) (hm : mant < 2 ^ 52) (he : exp < 2047) (hnz : mant ≠ 0 ∨ exp ≠ 0)
    (hc : floorsHold mant exp = true) :
    ∃ k : Nat, (float64ToDecimal mant exp).e = e10Of exp + (k : Int) ∧
      Spec (mmOf (decodeM2 mant exp) (mmShiftOf mant exp) * scaleNum exp) (mvOf (decodeM2 mant exp) * scaleNum exp)
        (mpOf (decodeM2 mant exp) * scaleNum exp) (scaleDen exp) (acceptBoundsOf mant exp)
        (float64ToDecimal mant exp).m k := by
  unfold floorsHold at hc
  dsimp only at hc
  simp only [Bool.and_eq_true, beq_iff_eq] at hc
  exact ryu_shortest_partial mant exp hm he hnz hc.1.1 hc.1.2 hc.2

end QF.Props.C16Core
