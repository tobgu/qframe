import QF.Props.C16RyuLayout
import QF.Props.C16LinkFinal
/-!
# C16 — the Ryu core as extracted today IS the mirror `QF.Ryu64` (tie T1, regenerated semantics)

`QF.Gen.ryuFns` is regenerated on every run from /repo/internal/ryu/ryu64.go and ryu.go (go/cmd/extract/ryuast.go); by
`gen_ryu_canon` (C16RyuCanon) it is `canonFns`. The function-by-function proof is in

    boolTo…, log10Pow2, log10Pow5, pow5Bits, shiftRight128, mulShift64, pow5Factor64,
    multipleOfPowerOfFive64, multipleOfPowerOfTwo64, decimalLen64                       C16RyuFns
    float64ToDecimalExactInt, steps 1–3 of float64ToDecimal                              C16RyuMain
    the four digit-removal loops, step 4, float64ToDecimal                               C16RyuStep4
    sizeSlice, the loops and the three layouts of dec64.appendF, AppendFloat64f           C16RyuLayout

and this file states the result:

* `gen_ryu_semantics` — for the fields of every finite non-zero float64 and every loop fuel ≥ 28, today's extracted
  `float64ToDecimalExactInt`, `float64ToDecimal` and their composition return what the mirror computes. The arithmetic of the
  interpretation is exact (modulo 2^w, two's complement), and an overflow of `int32` that the mirror does not have, a failing
  assertion or a table index out of range would show: the theorem includes that there is none for these inputs. The loops end
  because their Go conditions fail, not because fuel runs out; for the second loop of the general case this is
  `step3_vm_ne_zero` (from the precision lemma `C16Core.precision`, the two exceptional floats by evaluation).
* `gen_decimalLen64` — `decimalLen64` for every `u < 2^59` (beyond, Go indexes `powersOf10` out of range).
* `gen_appendf_semantics` — `AppendFloat64f` returns the buffer of the mirror `C16Link.appendF` applied to `Ryu64.decimal`
  (content and spare capacity), for a buffer and freshly allocated arrays `fr 5`, `fr 6` below 2^59 bytes and loop fuel above
  3100; `gen_ryu_text_is_shortest` — hence `C16Link.ryu_text_is_shortest` for the regenerated pipeline.
* `gen_ryu_shortest`, `gen_ryu_decimal_shortest` — hence `C16Core.ryu_shortest` and `C16Link.decimal_shortest` for the
  regenerated core.
-/
namespace QF.Props.C16RyuGen
open QF QF.RY

/-! ## the loops end for their own reason -/

theorem mulShift64_lt (m : Nat) (mul : Nat × Nat) (s : Int) : Ryu64.mulShift64 m mul s < 2 ^ 64 := by
  unfold Ryu64.mulShift64 Ryu64.shiftRight128
  apply Nat.or_lt_two_pow
  · unfold Ryu64.shl64; split
    · exact Nat.mod_lt _ (Nat.two_pow_pos 64)
    · exact Nat.two_pow_pos 64
  · unfold Ryu64.shr64; split
    · rw [Nat.shiftRight_eq_div_pow]
      exact Nat.lt_of_le_of_lt (Nat.div_le_self _ _) (Nat.mod_lt _ (Nat.two_pow_pos 64))
    · exact Nat.two_pow_pos 64

theorem step3_lt (mant exp : Nat) : (Ryu64.step3 mant exp).vm < 10 ^ 20 ∧ (Ryu64.step3 mant exp).vp < 10 ^ 20 := by
  obtain ⟨_, f2, f3, _⟩ := C16Core.step3_fields mant exp
  have h : (2 : Nat) ^ 64 < 10 ^ 20 := by decide
  constructor
  · rw [f2]; exact Nat.lt_trans (mulShift64_lt _ _ _) h
  · rcases f3 with f3 | f3
    · rw [f3]; exact Nat.lt_trans (mulShift64_lt _ _ _) h
    · rw [f3]; unfold Ryu64.subU64; exact Nat.lt_trans (Nat.mod_lt _ (Nat.two_pow_pos 64)) h

/-- the scaled lower end of the rounding interval is never 0 (for the two floats where one multiplier product is off by one: by
evaluation; otherwise the product is the exact floor of a quantity ≥ 1) -/
theorem step3_vm_ne_zero (mant exp : Nat) (hm : mant < 2 ^ 52) (he : exp < 2047) (hnz : mant ≠ 0 ∨ exp ≠ 0) :
    (Ryu64.step3 mant exp).vm ≠ 0 := by
  by_cases h1 : exp = 472 ∧ mant = C16Core.excMant472
  · obtain ⟨rfl, rfl⟩ := h1; decide +kernel
  by_cases h2 : exp = 1797 ∧ mant = C16Core.excMant1797
  · obtain ⟨rfl, rfl⟩ := h2; decide +kernel
  have hfl := C16Core.floorsHold_all mant exp hm he hnz h1 h2
  unfold C16Core.floorsHold at hfl
  simp only [Bool.and_eq_true, beq_iff_eq] at hfl
  rw [(C16Core.step3_fields mant exp).2.1, hfl.2]
  obtain ⟨hm1, hm2⟩ := C16Core.decodeM2_range mant exp hm hnz
  obtain ⟨hD, hDN, hN, hq⟩ := C16Core.scale_facts exp he
  have hs := C16Core.mmShiftOf_le mant exp
  obtain ⟨a1, _⟩ := C16Core.sem_arith (Ryu64.decodeM2 mant exp) (Ryu64.mmShiftOf mant exp) (C16Core.scaleNum exp)
    (C16Core.scaleDen exp) (Ryu64.acceptBoundsOf mant exp) hm1 hm2 hs hD hDN hN hq
  rw [C16Core.mm_eq _ _ (by omega) hm2 hs]
  exact Nat.ne_of_gt (Nat.div_pos a1 hD)

/-! ## step 3 stays in range -/

/-- from the mathematics (C16Core): the table indices by `table_index_in_range` and `negScale`, the shifts by `shape_of_exp`,
the decimal exponent by `step3_fields` and the two branches of the scale, `scale_pos` / `scale_neg` -/
theorem step3Ok (exp : Nat) (he : exp < 2047) : Step3Ok exp := by
  obtain ⟨s, e1, e2, e3, -⟩ := C16Core.shape_of_exp exp (by omega)
  refine ⟨?_, ?_, fun mant => ?_⟩
  · intro h
    have he2 := C16Core.decodeE2_pos exp h
    have hge : Ryu64.decodeE2 exp ≥ 0 := by rw [he2]; omega
    have hpq : posQ ((exp - 1077 : Nat) : Int) = C16Core.qOf exp := by unfold C16Core.qOf posQ; rw [if_pos hge, he2]
    have hps : posShift ((exp - 1077 : Nat) : Int) = C16Core.shiftOf exp := by
      unfold C16Core.shiftOf posShift; rw [if_pos hge, hpq, he2]; rfl
    rw [hpq, hps, e1]
    exact ⟨(C16Core.table_index_in_range exp he).1 hge, by omega, by omega⟩
  · intro n h hn
    have he2 := C16Core.decodeE2_neg exp h
    rw [← hn] at he2
    have hn1 : 1 ≤ n := by rw [hn]; split <;> omega
    have hlt : ¬ Ryu64.decodeE2 exp ≥ 0 := by rw [he2]; omega
    have hpq : negQ (n : Int) = C16Core.qOf exp := by unfold C16Core.qOf negQ; rw [if_neg hlt, he2, Int.neg_neg]
    have hps : negShift (n : Int) = C16Core.shiftOf exp := by
      unfold C16Core.shiftOf negShift; rw [if_neg hlt, hpq, he2, Int.neg_neg]; rfl
    have hq := (C16Core.negScale n hn1 (by rw [hn]; split <;> omega)).1
    have hix := (C16Core.table_index_in_range exp he).2 hlt
    rw [he2, Int.neg_neg, ← hpq] at hix
    change negQ (n : Int) < n at hq
    rw [hps, e1]
    exact ⟨hq, by omega, by omega, by omega⟩
  · rw [(C16Core.step3_fields mant exp).2.2.2]
    by_cases h : 1077 ≤ exp
    · obtain ⟨-, h10, -⟩ := C16Core.scale_pos exp h (by omega)
      have := (C16Core.table_index_in_range exp he).1 ((C16Core.decodeE2_nonneg_iff exp).mpr h)
      omega
    · obtain ⟨i, -, hi, -, h10, -⟩ := C16Core.scale_neg exp (by omega)
      have : (if exp = 0 then 1076 else 1077 - exp) ≤ 1076 := by split <;> omega
      omega

/-! ## The theorems -/

/-- the tables the interpretation reads: today's `pow5Split64`, `pow5InvSplit64` (`QF.Gen.Ryu`) and `powersOf10` -/
abbrev genTables : Tbl → Nat → Option Val := tables Gen.pow5Split64 Gen.pow5InvSplit64 Gen.ryuPow10

theorem genTables_eq : genTables = T := by
  unfold genTables T; rw [gen_ryu_canon.2]

/-- **The Ryu core as extracted today is the mirror.** For the fields of every finite non-zero float64 (`mant < 2^52`,
`exp < 2047`, not both 0 — what `AppendFloat64f` hands over after its early exits) and every loop fuel ≥ 28, interpreting
the programs extracted from today's /repo/internal/ryu yields exactly the mirror's results: `float64ToDecimalExactInt`
(mantissa, exponent, flag), `float64ToDecimal` (mantissa, exponent) and `Ryu64.decimal` (what is formatted). -/
theorem gen_ryu_semantics (mant exp : Nat) (hm : mant < 2 ^ 52) (he : exp < 2047) (hnz : mant ≠ 0 ∨ exp ≠ 0)
    (F : Nat) (hF : 28 ≤ F) :
    interpExactInt Gen.ryuFns genTables F mant exp =
      some ((Ryu64.float64ToDecimalExactInt mant exp).1.m, (Ryu64.float64ToDecimalExactInt mant exp).1.e,
        (Ryu64.float64ToDecimalExactInt mant exp).2) ∧
    interpToDecimal Gen.ryuFns genTables F mant exp =
      some ((Ryu64.float64ToDecimal mant exp).m, (Ryu64.float64ToDecimal mant exp).e) ∧
    interpDecimal Gen.ryuFns genTables F mant exp = some (Ryu64.decimal mant exp) := by
  rw [gen_ryu_canon.1, genTables_eq]
  have h1 : interpExactInt canonFns T F mant exp =
      some ((Ryu64.float64ToDecimalExactInt mant exp).1.m, (Ryu64.float64ToDecimalExactInt mant exp).1.e,
        (Ryu64.float64ToDecimalExactInt mant exp).2) := by
    -- the call lemma, restated with the depth as `depth` and the function as its number so that `rw` finds it
    have h : callAt canonFns T F (fun _ => []) depth 0 [.u 64 mant, .u 64 exp] = _ :=
      call_exactInt F (fun _ => []) 3 (by omega) mant exp hm
    rw [interpExactInt, h]
    simp only [Val.nat?, Val.int?, Val.bool?]
  have h2 : interpToDecimal canonFns T F mant exp =
      some ((Ryu64.float64ToDecimal mant exp).m, (Ryu64.float64ToDecimal mant exp).e) := by
    have h : callAt canonFns T F (fun _ => []) depth 1 [.u 64 mant, .u 64 exp] = _ :=
      call_toDecimal F (fun _ => []) 1 hF mant exp hm he hnz (step3_vm_ne_zero mant exp hm he hnz) (step3_lt mant exp).1
        (step3_lt mant exp).2 (step3Ok exp he)
    rw [interpToDecimal, h]
    simp only [Val.nat?, Val.int?]
  refine ⟨h1, h2, ?_⟩
  rewrite [interpDecimal, h1, h2]
  simp only [Ryu64.decimal]
  generalize Ryu64.float64ToDecimalExactInt mant exp = r
  generalize Ryu64.float64ToDecimal mant exp = d
  obtain ⟨x, ok⟩ := r
  cases ok
  · simp only [Bool.false_eq_true, if_false, Option.map_some]
  · simp only [if_true]

/-- `decimalLen64` as extracted today is the mirror's, for every `u < 2^59` -/
theorem gen_decimalLen64 (u : Nat) (h : u < 2 ^ 59) (F : Nat) :
    interpDecimalLen Gen.ryuFns genTables F u = some ((Ryu64.decimalLen64 u : Nat) : Int) := by
  rw [gen_ryu_canon.1, genTables_eq]
  have hc : callAt canonFns T F (fun _ => []) depth 2 [.u 64 u] = _ := call_decimalLen64 F (fun _ => []) 2 u h
  rw [interpDecimalLen, hc]
  simp only [Val.int?]

/-- **`ryu_shortest` for the regenerated core.** For every finite non-zero float64 the `float64ToDecimal` extracted from
today's source returns `(m, e)` with `e = e10 + k` such that `m · 10^k` (in units of `10^e10`) lies in the rounding interval
of the float, no decimal with fewer digits does, and no decimal of that length in the interval is closer to the exact value
(`C16Core.Spec`, the conclusion of `C16Core.ryu_shortest`). -/
theorem gen_ryu_shortest (mant exp : Nat) (hm : mant < 2 ^ 52) (he : exp < 2047) (hnz : mant ≠ 0 ∨ exp ≠ 0)
    (F : Nat) (hF : 28 ≤ F) :
    ∃ (m : Nat) (e : Int) (k : Nat), interpToDecimal Gen.ryuFns genTables F mant exp = some (m, e) ∧
      e = C16Core.e10Of exp + (k : Int) ∧
      C16Core.Spec (Ryu64.mmOf (Ryu64.decodeM2 mant exp) (Ryu64.mmShiftOf mant exp) * C16Core.scaleNum exp)
        (Ryu64.mvOf (Ryu64.decodeM2 mant exp) * C16Core.scaleNum exp)
        (Ryu64.mpOf (Ryu64.decodeM2 mant exp) * C16Core.scaleNum exp) (C16Core.scaleDen exp)
        (Ryu64.acceptBoundsOf mant exp) m k := by
  obtain ⟨k, hk, hS⟩ := C16Core.ryu_shortest mant exp hm he hnz
  exact ⟨_, _, k, (gen_ryu_semantics mant exp hm he hnz F hF).2.1, hk, hS⟩

/-- **The decimal the regenerated pipeline formats is `Shortest`.** For every finite non-zero float64 `b` (either sign) what
the extracted `float64ToDecimalExactInt` / `float64ToDecimal` return for its fields (fast path, else the general algorithm) is
the mirror's `decimal`, which is in the rounding interval of `b`, has the fewest digits and is closest
(`C16Link.decimal_shortest`). -/
theorem gen_ryu_decimal_shortest (b : UInt64) (dy : Num.Dyadic) (hd : Num.decode b = some dy) (h0 : dy.m ≠ 0)
    (F : Nat) (hF : 28 ≤ F) :
    ∃ r : Nat × Int × Bool,
      interpDecimal Gen.ryuFns genTables F (C16Core.mantOf b) (C16Core.expOf b) = some r ∧
      C16Link.Shortest (C16Link.magBits b) ⟨false, dy.m, dy.e⟩ r.1 r.2.1 := by
  have Fl := C16Link.fields_of_decode b dy hd h0
  have hml := Fl.mant_lt
  have hel := Fl.exp_lt
  have hnz := Fl.nz
  exact ⟨Ryu64.decimal (C16Core.mantOf b) (C16Core.expOf b), (gen_ryu_semantics _ _ hml hel hnz F hF).2.2,
    C16Link.decimal_shortest b dy hd h0⟩

/-! ## The digit layout and the whole pipeline -/

theorem neg_of_decode (b : UInt64) (dy : Num.Dyadic) (h : Num.decode b = some dy) : (b.toNat >>> 63 != 0) = dy.neg := by
  have hb : b.toNat < 2 ^ 64 := b.toNat_lt
  have hn : dy.neg = (b.toNat / 2 ^ 63 == 1) := by
    rcases C16Round.decode_some h with ⟨-, rfl⟩ | ⟨-, -, rfl⟩ <;> rfl
  rw [hn, Nat.shiftRight_eq_div_pow]
  have : b.toNat / 2 ^ 63 = 0 ∨ b.toNat / 2 ^ 63 = 1 := by omega
  rcases this with h | h <;> simp [h]

/-- **`AppendFloat64f` as extracted today is the mirror pipeline.** For every finite non-zero float64 `b` (either sign), every
buffer (content and stale spare capacity, together below 2^59 bytes), whatever the `append`s that allocate leave behind (`fr`;
`fr 5` and `fr 6` below 2^59 bytes) and every loop fuel above 3100, interpreting the program extracted from today's `AppendFloat64f` — the field extraction from the bit pattern, the early exits,
the fast path / general algorithm, `dec64.appendF` with `decimalLen64`, `sizeSlice` and the three layouts — returns exactly the
buffer of the mirror `C16Link.appendF` for the mirror's `Ryu64.decimal`: content and spare capacity, byte for byte. -/
theorem gen_appendf_semantics (b : UInt64) (dy : Num.Dyadic) (hd : Num.decode b = some dy) (h0 : dy.m ≠ 0)
    (buf : AF.Buf) (fr : Nat → List UInt8) (F : Nat) (hF : 3100 < F)
    (hbuf : buf.content.length + buf.spare.length < 2 ^ 59) (h5 : (fr 5).length < 2 ^ 59) (h6 : (fr 6).length < 2 ^ 59) :
    interpAppendFloat Gen.ryuFns genTables F fr buf.content buf.spare b.toNat =
      some ((C16Link.appendF buf dy.neg (Ryu64.decimal (C16Core.mantOf b) (C16Core.expOf b)).1
              (Ryu64.decimal (C16Core.mantOf b) (C16Core.expOf b)).2.1 (fr 5) (fr 6) (fr 7)).content,
            (C16Link.appendF buf dy.neg (Ryu64.decimal (C16Core.mantOf b) (C16Core.expOf b)).1
              (Ryu64.decimal (C16Core.mantOf b) (C16Core.expOf b)).2.1 (fr 5) (fr 6) (fr 7)).spare) := by
  rw [gen_ryu_canon.1, genTables_eq]
  have Fl := C16Link.fields_of_decode b dy hd h0
  have hml := Fl.mant_lt
  have hel := Fl.exp_lt
  have hnz := Fl.nz
  have hfin : C16Core.expOf b ≠ 2047 := by omega
  have S := C16Link.decimal_shortest b dy hd h0
  have hlt := S.lt
  have hneg := neg_of_decode b dy hd
  have hei := call_exactInt F fr 4 (by omega) (C16Core.mantOf b) (C16Core.expOf b) hml
  have htd := call_toDecimal F fr 2 (by omega) (C16Core.mantOf b) (C16Core.expOf b) hml hel hnz
    (step3_vm_ne_zero _ _ hml hel hnz) (step3_lt _ _).1 (step3_lt _ _).2 (step3Ok _ hel)
  have hX := exactInt_e_bound (C16Core.mantOf b) (C16Core.expOf b)
  have hD := toDecimal_e_bound (C16Core.mantOf b) (C16Core.expOf b) (step3Ok _ hel)
  have hdec : Ryu64.decimal (C16Core.mantOf b) (C16Core.expOf b) =
      ((if (Ryu64.float64ToDecimalExactInt (C16Core.mantOf b) (C16Core.expOf b)).2 = true then (Ryu64.float64ToDecimalExactInt (C16Core.mantOf b) (C16Core.expOf b)).1
          else Ryu64.float64ToDecimal (C16Core.mantOf b) (C16Core.expOf b)).m,
       (if (Ryu64.float64ToDecimalExactInt (C16Core.mantOf b) (C16Core.expOf b)).2 = true then (Ryu64.float64ToDecimalExactInt (C16Core.mantOf b) (C16Core.expOf b)).1
          else Ryu64.float64ToDecimal (C16Core.mantOf b) (C16Core.expOf b)).e,
       (Ryu64.float64ToDecimalExactInt (C16Core.mantOf b) (C16Core.expOf b)).2) := rfl
  rw [hdec] at hlt ⊢
  generalize Ryu64.float64ToDecimal (C16Core.mantOf b) (C16Core.expOf b) = D at htd hD hlt ⊢
  generalize hr : Ryu64.float64ToDecimalExactInt (C16Core.mantOf b) (C16Core.expOf b) = r at hei hX hlt ⊢
  obtain ⟨X, ok⟩ := r
  have hXb := hX X ok rfl
  simp only at hei hlt ⊢
  have hcall : callAt canonFns T F fr 6 3 [.bytes buf.content buf.spare, .f64 b.toNat] =
      some (bufVal (C16Link.appendF buf dy.neg (if ok = true then X else D).m (if ok = true then X else D).e (fr 5) (fr 6) (fr 7))) := by
    have haf : ∀ neg : Bool, (env F fr 5).call fAppendF [.pair (.u 64 (if ok then X.m else D.m)) (.i 32 (if ok then X.e else D.e)),
        .bytes buf.content buf.spare, .bool neg] =
        some (bufVal (C16Link.appendF ⟨buf.content, buf.spare⟩ neg (if ok then X.m else D.m) (if ok then X.e else D.e) (fr 5) (fr 6) (fr 7))) := by
      intro neg
      refine call_appendF F fr 1 hF neg buf.content buf.spare _ _ ?hm ?he0 ?he1 hbuf h5 (by omega)
      case hm => cases ok <;> simp at hlt ⊢ <;> omega
      case he0 => cases ok <;> simp <;> omega
      case he1 => cases ok <;> simp <;> omega
    have hei' : (env F fr 5).call fExactInt [.u 64 (C16Core.mantOf b), .u 64 (C16Core.expOf b)] =
        some (.pair (.pair (.u 64 X.m) (.i 32 X.e)) (.bool ok)) := by rw [env_call]; exact hei
    have htd' : (env F fr 5).call fToDecimal [.u 64 (C16Core.mantOf b), .u 64 (C16Core.expOf b)] =
        some (.pair (.u 64 D.m) (.i 32 D.e)) := by rw [env_call]; exact htd
    have := exec_appendFloat (env F fr 5) (fr 5) (fr 6) (fr 7) buf.content buf.spare b.toNat (C16Core.mantOf b) (C16Core.expOf b)
      X.m D.m X.e D.e ok (by unfold C16Core.mantOf; rfl) (by unfold C16Core.expOf; rfl) hfin hnz hei' htd' haf
    rw [call_of look_appendFloat rfl this, hneg]
    cases ok <;> rfl
  rw [interpAppendFloat, hcall]
  rfl

/-- **`ryu_text_is_shortest` for the regenerated pipeline.** For every finite non-zero float64 `b` (either sign) and every
state of the output buffer (under the bounds of `gen_appendf_semantics`: buffer, `fr 5`, `fr 6` below 2^59 bytes, loop fuel
above 3100), the program extracted from today's `AppendFloat64f` returns the old content followed by a text that
passes `Num.isShortestRoundTrip b` (canonical positional form, parses back to exactly `b` under IEEE nearest-even rounding, no
decimal with fewer digits does, none of that length is closer) and `Num.parsesTo b`, and every correct parser returns `b`
for it. -/
theorem gen_ryu_text_is_shortest (b : UInt64) (dy : Num.Dyadic) (hd : Num.decode b = some dy) (h0 : dy.m ≠ 0)
    (buf : AF.Buf) (fr : Nat → List UInt8) (F : Nat) (hF : 3100 < F)
    (hbuf : buf.content.length + buf.spare.length < 2 ^ 59) (h5 : (fr 5).length < 2 ^ 59) (h6 : (fr 6).length < 2 ^ 59) :
    ∃ text content spare,
      interpAppendFloat Gen.ryuFns genTables F fr buf.content buf.spare b.toNat = some (content, spare) ∧
      content = buf.content ++ text ∧
      Num.isShortestRoundTrip b text = true ∧ Num.parsesTo b text = true ∧
      ∀ (bits' : UInt64) (dy' : Num.Dyadic) (neg : Bool) (m : Nat) (d : Int),
        Num.parsePositional text = some (neg, m, d) → Num.decode bits' = some dy' → dy'.neg = neg →
        C16Round.IsNearest (C16Round.decNum m d) (C16Round.decDen d) dy'.m dy'.e → bits' = b := by
  obtain ⟨text, h1, h2, h3, h4⟩ := C16Link.ryu_text_is_shortest b dy hd h0 buf (fr 5) (fr 6) (fr 7)
  exact ⟨text, _, _, gen_appendf_semantics b dy hd h0 buf fr F hF hbuf h5 h6, h1, h2, h3, h4⟩

#print axioms gen_ryu_semantics
#print axioms gen_decimalLen64
#print axioms gen_ryu_shortest
#print axioms gen_ryu_decimal_shortest
#print axioms gen_appendf_semantics
#print axioms gen_ryu_text_is_shortest

end QF.Props.C16RyuGen
