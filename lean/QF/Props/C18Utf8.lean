import QF.Props.C18Like
import QF.Props.C18UpperGen
/-!
# C18 — the project's UTF-8 decoder reads back what the encoder wrote (tie T1, seam of `gen_like_upper_cell`)

`Json.decodeRune` (QF/Spec/Json.lean: Go's `utf8.DecodeRune`; used by `decodeAll` of the like mirror, by the C14 spec and by the
evaluation environments) applied to the UTF-8 encoding `U.enc c` (= Lean's `String.utf8EncodeChar c`) of ANY `Char`, followed by
any bytes, gives the code point and its width: `decodeRune_enc`. The project's encoder `Json.encodeRune` writes `U.enc`
(`encodeRune_enc`), and the decoder inverts the encoder on every scalar value (`Utf8.decodeRune_encodeRune`,
QF/Core/Utf8Facts.lean). Hence

* `decodeAll_encs`  — `decodeAll (encs chars) = chars` for every list of code points;
* `upper_encs`      — the specification's upper-casing of a valid UTF-8 string is the encoding of the mapped code points;
* `jsonEnv_ok`      — the environment built from the project's own decoder and encoder has the properties `UpperEnv` that
                      `C18UpperGen.gen_toUpper_semantics` asks of the UTF-8 primitives (beside `coreEnv_ok` for Lean core's).
-/
namespace QF.Props.C18Utf8
open QF QF.Drv
open U (enc)
open QF.Props.C18UpperGen (encs encs_cons encs_nil)

theorem encodeRune_enc (c : Char) : Json.encodeRune c.toNat = enc c := Utf8.encodeRune_enc c

/-- **the project's decoder reads back the encoding of every code point** (followed by anything) -/
theorem decodeRune_enc (c : Char) (rest : Bytes) : Json.decodeRune (enc c ++ rest) = (c.toNat, c.utf8Size) := by
  rw [← C18UpperGen.length_enc, ← encodeRune_enc]
  exact Utf8.decodeRune_encodeRune c.valid rest

theorem go_encs : ∀ (cs : List Char) (fuel : Nat) (acc : List Char), (encs cs).length < fuel →
    decodeAll.go fuel (encs cs) acc = acc.reverse ++ cs := by
  intro cs
  induction cs with
  | nil => intro fuel acc h; cases fuel <;> simp [decodeAll.go, encs_nil]
  | cons c cs ih =>
    intro fuel acc h
    have hl : (enc c).length = c.utf8Size := C18UpperGen.length_enc c
    have hp := Char.utf8Size_pos c
    rw [encs_cons, List.length_append] at h
    cases fuel with
    | zero => omega
    | succ n =>
      have hne : enc c ++ encs cs ≠ [] := by
        intro e; have := congrArg List.length e; rw [List.length_append, hl, List.length_nil] at this; omega
      rw [encs_cons, decodeAll.go]
      · simp only [decodeRune_enc, Char.ofNat_toNat]
        have hm : max c.utf8Size 1 = (enc c).length := by omega
        rw [hm, List.drop_left, ih n (c :: acc) (by omega)]
        simp
      · intro e; exact hne e

/-- **decoding the UTF-8 encoding of a list of code points gives the list back** (the project's decoder, every list) -/
theorem decodeAll_encs (chars : List Char) : decodeAll (encs chars) = chars := by
  unfold decodeAll
  rw [go_encs chars _ [] (Nat.lt_succ_self _)]
  rfl

/-- the specification's upper-casing on a valid UTF-8 string: the encoding of the mapped code points -/
theorem upper_encs (up : Char → Char) (chars : List Char) : C18Like.upper up (encs chars) = encs (chars.map up) := by
  unfold C18Like.upper
  rw [decodeAll_encs]; rfl

/-- the environment of the project's own UTF-8 decoder and encoder (QF/Spec/Json.lean) -/
def jsonEnv (up : Char → Char) (fuel : Nat) : ST.Env :=
  { fuel := fuel,
    decode := fun t => (((Json.decodeRune t).1 : Nat), (Json.decodeRune t).2),
    encode := fun r => Json.encodeRune r.toNat,
    runeLen := fun r => ((Json.encodeRune r.toNat).length : Nat),
    toUpper := fun r => ((up (Char.ofNat r.toNat)).toNat : Int),
    newMatcher := fun _ _ => .error .badPattern }

theorem jsonEnv_ok (up : Char → Char) (fuel : Nat) : C18UpperGen.UpperEnv (jsonEnv up fuel) up where
  decode c rest := by simp only [jsonEnv, decodeRune_enc]
  encode c := by simp only [jsonEnv, Int.toNat_natCast, encodeRune_enc]
  runeLen c := by simp only [jsonEnv, Int.toNat_natCast, encodeRune_enc, C18UpperGen.length_enc]
  toUpper c := by simp only [jsonEnv, Int.toNat_natCast, Char.ofNat_toNat]

/-- concrete: one code point of each length (`x`, `é`, `€`, U+1F600), followed by a stray continuation byte -/
example : Json.decodeRune (enc 'x' ++ [0x80]) = (0x78, 1) ∧ Json.decodeRune (enc 'é' ++ [0x80]) = (0xE9, 2) ∧
    Json.decodeRune (enc '€' ++ [0x80]) = (0x20AC, 3) ∧ Json.decodeRune (enc (Char.ofNat 0x1F600) ++ [0x80]) = (0x1F600, 4) := by
  decide +kernel

end QF.Props.C18Utf8

#print axioms QF.Props.C18Utf8.decodeRune_enc
#print axioms QF.Props.C18Utf8.decodeAll_encs
#print axioms QF.Props.C18Utf8.upper_encs
#print axioms QF.Props.C18Utf8.encodeRune_enc
#print axioms QF.Props.C18Utf8.jsonEnv_ok
