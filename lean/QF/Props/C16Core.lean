import QF.Core.Ryu64
import QF.Spec.Num
import QF.Props.C16Tables
/-!
# C16 — the Ryu core (`QF.Ryu64`, the mirror of internal/ryu/ryu64.go): what is proved about it

Bottom-up, every statement about the mirror functions that the replay driver ties to the implementation:

* `mulShift64_exact` — the 64×128-bit multiply-and-shift is the exact floor;
* `log10Pow2_exact`, `log10Pow5_exact`, `pow5Bits_exact` — the multiply-and-shift logarithms on the asserted ranges;
* `factorCount_spec` (the exponent of `p` in `v`, which all the divide-while-divisible loops compute), `pow5Factor64_spec`,
  `multipleOfPowerOfFive64_iff`, `multipleOfPowerOfTwo64_iff`, `decimalLen64_spec`;
* `exactInt_spec` — the exact-integer fast path;
* `interval_value`, `interval_upper`, `interval_lower` — the rounding interval set up by `float64ToDecimal`
  (`succ_float`: the floats with bits `b`, `b + 1` are neighbours; `neighbours_mid`: the midpoint of two neighbours).
-/
namespace QF.Props.C16Core
open QF.Ryu64 QF.Num

theorem all_range_lift {p : Nat → Bool} {n : Nat} (h : (List.range n).all p = true) (e : Nat) (he : e < n) : p e = true :=
  List.all_eq_true.mp h e (List.mem_range.mpr he)

/-! ## mulShift64 -/

theorem toU64_ofNat (n : Nat) (h : n < 2 ^ 64) : toU64 (n : Int) = n := by
  unfold toU64
  omega

theorem split128 (hi lo s : Nat) (hs : s ≤ 64) :
    (hi * 2 ^ 64 + lo) / 2 ^ s = hi * 2 ^ (64 - s) + lo / 2 ^ s := by
  have h64 : (2:Nat) ^ 64 = 2 ^ s * 2 ^ (64 - s) := by rw [← Nat.pow_add]; congr 1; omega
  rw [h64, show hi * (2 ^ s * 2 ^ (64 - s)) = 2 ^ s * (hi * 2 ^ (64 - s)) by
    rw [Nat.mul_left_comm]]
  rw [Nat.mul_add_div (Nat.two_pow_pos s)]

theorem shiftRight128_exact (lo hi s : Nat) (hlo : lo < 2 ^ 64) (hs : s < 64)
    (hfit : (hi * 2 ^ 64 + lo) / 2 ^ s < 2 ^ 64) :
    shiftRight128 (lo, hi) (s : Int) = (hi * 2 ^ 64 + lo) / 2 ^ s := by
  have e1 : toU64 (64 - (s : Int)) = 64 - s := by
    have : (64 - (s : Int)) = ((64 - s : Nat) : Int) := by omega
    rw [this, toU64_ofNat _ (by omega)]
  have e2 : toU64 (s : Int) = s := toU64_ofNat _ (by omega)
  have hsp := split128 hi lo s (by omega)
  rw [hsp] at hfit ⊢
  simp only [shiftRight128, e1, e2, shl64, shr64, hs, if_true]
  by_cases h0 : s = 0
  · subst h0
    simp at hfit ⊢
    have : hi = 0 := by omega
    subst this; simp
  · have : 64 - s < 64 := by omega
    simp only [this, if_true]
    have hlt : lo / 2 ^ s < 2 ^ (64 - s) := by
      rw [Nat.div_lt_iff_lt_mul (Nat.two_pow_pos s), ← Nat.pow_add]
      rw [show 64 - s + s = 64 by omega]; exact hlo
    rw [Nat.shiftLeft_eq, Nat.shiftRight_eq_div_pow]
    rw [Nat.mod_eq_of_lt (Nat.lt_of_le_of_lt (Nat.le_add_right _ _) hfit)]
    rw [← Nat.shiftLeft_eq, Nat.shiftLeft_add_eq_or_of_lt hlt]


/-- 128-bit addition `hi:x + y` with the carry detected by `sum.lo < x`, as `mulShift64` does it -/
theorem add_carry64 (hi x y : Nat) (hx : x < 2 ^ 64) (hy : y < 2 ^ 64) (hhi : hi + 1 < 2 ^ 64) :
    (if u64 (x + y) < x then u64 (hi + 1) else hi) * 2 ^ 64 + u64 (x + y) = hi * 2 ^ 64 + (x + y) := by
  unfold u64
  split <;> omega

/-- `bits.Mul64` of two 64-bit values: the high word is the quotient (and is not `2^64 − 1`), `hi:lo` is the product -/
theorem mul64_eq (x y : Nat) (hx : x < 2 ^ 64) (hy : y < 2 ^ 64) :
    (mul64 x y).1 = x * y / 2 ^ 64 ∧ (mul64 x y).1 + 1 < 2 ^ 64 ∧ (mul64 x y).1 * 2 ^ 64 + (mul64 x y).2 = x * y := by
  have h : x * y / 2 ^ 64 + 1 < 2 ^ 64 := by
    have : x * y < (2 ^ 64 - 1) * 2 ^ 64 := Nat.mul_lt_mul_of_le_of_lt (by omega) hy (by decide)
    omega
  have e : (mul64 x y).1 = x * y / 2 ^ 64 := Nat.mod_eq_of_lt (by omega)
  rw [e]
  exact ⟨rfl, h, Nat.div_add_mod' _ _⟩

/-- the 128-bit sum built by `mulShift64` from the two partial products is `⌊m·(hi·2^64+lo) / 2^64⌋`, without overflow -/
theorem mulShift64_sum (m lo hi : Nat) (hm : m < 2 ^ 64) (hlo : lo < 2 ^ 64) (hhi : hi < 2 ^ 64) :
    let hihi := (mul64 m hi).1
    let hilo := (mul64 m hi).2
    let lohi := (mul64 m lo).1
    let sumlo := u64 (lohi + hilo)
    let sumhi := if sumlo < lohi then u64 (hihi + 1) else hihi
    sumlo < 2 ^ 64 ∧ sumhi * 2 ^ 64 + sumlo = m * (hi * 2 ^ 64 + lo) / 2 ^ 64 := by
  intro hihi hilo lohi sumlo sumhi
  obtain ⟨-, h1, h2⟩ := mul64_eq m hi hm hhi
  obtain ⟨h3, h4, -⟩ := mul64_eq m lo hm hlo
  refine ⟨Nat.mod_lt _ (Nat.two_pow_pos 64), ?_⟩
  have hval : m * (hi * 2 ^ 64 + lo) / 2 ^ 64 = m * hi + m * lo / 2 ^ 64 := by
    rw [Nat.mul_add, ← Nat.mul_assoc, Nat.mul_comm (m * hi) (2 ^ 64), Nat.mul_add_div (Nat.two_pow_pos 64)]
  -- `m·hi = hihi:hilo`, so the value is `hihi:(lohi + hilo)`
  rw [hval, ← h3, ← h2, Nat.add_assoc, Nat.add_comm _ lohi]
  exact add_carry64 hihi lohi hilo (by omega) (Nat.mod_lt _ (Nat.two_pow_pos 64)) h1

/-- `mulShift64` computes the exact floor `⌊m · (hi·2^64 + lo) / 2^shift⌋` — the two 64×64→128 partial products,
the carry and `shiftRight128` lose nothing — whenever that quotient fits into 64 bits.
The code asserts `shift - 64 < 64`; a shift count below 64 would make the implementation return 0. -/
theorem mulShift64_exact (m lo hi shift : Nat) (hm : m < 2 ^ 64) (hlo : lo < 2 ^ 64) (hhi : hi < 2 ^ 64)
    (hs1 : 64 ≤ shift) (hs2 : shift < 128) (hfit : m * (hi * 2 ^ 64 + lo) / 2 ^ shift < 2 ^ 64) :
    mulShift64 m (lo, hi) (shift : Int) = m * (hi * 2 ^ 64 + lo) / 2 ^ shift := by
  obtain ⟨hsl, hsum⟩ := mulShift64_sum m lo hi hm hlo hhi
  have hsh : (2:Nat) ^ shift = 2 ^ 64 * 2 ^ (shift - 64) := by rw [← Nat.pow_add]; congr 1; omega
  have hq : m * (hi * 2 ^ 64 + lo) / 2 ^ shift = m * (hi * 2 ^ 64 + lo) / 2 ^ 64 / 2 ^ (shift - 64) := by
    rw [hsh, Nat.div_div_eq_div_mul]
  rw [hq] at hfit ⊢
  rw [← hsum] at hfit ⊢
  have hc : ((shift : Int) - 64) = ((shift - 64 : Nat) : Int) := by omega
  unfold mulShift64
  simp only [hc]
  exact shiftRight128_exact _ _ _ hsl (by omega) hfit

/-! ## the logarithm approximations -/

theorem toU32_ofNat (e : Nat) (h : e < 2 ^ 32) : toU32 (e : Int) = e := by
  unfold toU32
  omega

/-- `(e·c mod 2^32) >> s`: the three logarithms of ryu.go on a natural argument -/
def mulShr (c s e : Nat) : Nat := (e * c % 2 ^ 32) >>> s

theorem log10Pow2_ofNat (e : Nat) (h : e < 2 ^ 32) : log10Pow2 (e : Int) = mulShr 78913 18 e := by
  unfold log10Pow2 u32 mulShr
  rw [toU32_ofNat e h]

theorem log10Pow5_ofNat (e : Nat) (h : e < 2 ^ 32) : log10Pow5 (e : Int) = mulShr 732923 20 e := by
  unfold log10Pow5 u32 mulShr
  rw [toU32_ofNat e h]

theorem pow5Bits_ofNat (e : Nat) (h : e < 2 ^ 32) : pow5Bits (e : Int) = ((mulShr 1217359 19 e + 1 : Nat) : Int) := by
  unfold pow5Bits u32 mulShr
  rw [toU32_ofNat e h]

/-- `f e = ⌊log_B b^e⌋` -/
def floorLogOk (B b : Nat) (f : Nat → Nat) (e : Nat) : Bool :=
  Nat.ble (B ^ f e) (b ^ e) && Nat.blt (b ^ e) (B ^ (f e + 1))

theorem floorLog_of_check {B b n : Nat} {f : Nat → Nat} (h : (List.range n).all (floorLogOk B b f) = true) (e : Nat)
    (he : e < n) : B ^ f e ≤ b ^ e ∧ b ^ e < B ^ (f e + 1) := by
  have := all_range_lift h e he
  simpa only [floorLogOk, Bool.and_eq_true, Nat.ble_eq, Nat.blt_eq] using this

theorem log10Pow2_check : (List.range 1651).all (floorLogOk 10 2 (mulShr 78913 18)) = true := by decide +kernel
theorem log10Pow5_check : (List.range 2621).all (floorLogOk 10 5 (mulShr 732923 20)) = true := by decide +kernel
theorem pow5Bits_check : (List.range 3529).all (floorLogOk 2 5 (mulShr 1217359 19)) = true := by decide +kernel

/-- on the asserted range `0 ≤ e ≤ 1650`, `log10Pow2 e = ⌊e · log10 2⌋`: `10^r ≤ 2^e < 10^(r+1)` -/
theorem log10Pow2_exact (e : Nat) (h : e ≤ 1650) :
    10 ^ log10Pow2 (e : Int) ≤ 2 ^ e ∧ 2 ^ e < 10 ^ (log10Pow2 (e : Int) + 1) := by
  rw [log10Pow2_ofNat e (by omega)]
  exact floorLog_of_check log10Pow2_check e (by omega)

/-- on the asserted range `0 ≤ e ≤ 2620`, `log10Pow5 e = ⌊e · log10 5⌋`: `10^r ≤ 5^e < 10^(r+1)` -/
theorem log10Pow5_exact (e : Nat) (h : e ≤ 2620) :
    10 ^ log10Pow5 (e : Int) ≤ 5 ^ e ∧ 5 ^ e < 10 ^ (log10Pow5 (e : Int) + 1) := by
  rw [log10Pow5_ofNat e (by omega)]
  exact floorLog_of_check log10Pow5_check e (by omega)

/-- on the asserted range `0 ≤ e ≤ 3528`, `pow5Bits e` is the bit length of `5^e`: `2^(b-1) ≤ 5^e < 2^b`,
i.e. `⌈log2 5^e⌉` for `e ≥ 1` and `1` for `e = 0` (the code's convention). -/
theorem pow5Bits_exact (e : Nat) (h : e ≤ 3528) :
    0 < pow5Bits (e : Int) ∧ 2 ^ ((pow5Bits (e : Int)).toNat - 1) ≤ 5 ^ e ∧ 5 ^ e < 2 ^ (pow5Bits (e : Int)).toNat := by
  rw [pow5Bits_ofNat e (by omega), Int.toNat_natCast, Nat.add_sub_cancel]
  exact ⟨by omega, floorLog_of_check pow5Bits_check e (by omega)⟩

/-- `pow5Bits e` is the `bitlen (5^e)` in which `C16Tables` states the correctness of the multiplier tables -/
theorem pow5Bits_eq_bitlen (e : Nat) (h : e ≤ 3528) : pow5Bits (e : Int) = (QF.Props.C16.bitlen (5 ^ e) : Nat) := by
  obtain ⟨h0, h1, h2⟩ := pow5Bits_exact e h
  have hp : 5 ^ e ≠ 0 := Nat.ne_of_gt (Nat.pow_pos (by decide))
  unfold QF.Props.C16.bitlen
  rw [if_neg hp]
  have a : Nat.log2 (5 ^ e) < (pow5Bits (e : Int)).toNat := (Nat.log2_lt hp).mpr h2
  have b : ¬ Nat.log2 (5 ^ e) < (pow5Bits (e : Int)).toNat - 1 := by
    rw [Nat.log2_lt hp]; omega
  omega


/-! ## divisibility tests and the digit count -/

theorem mul_dvd_iff (D P B : Nat) : D * P ∣ B ↔ D ∣ B ∧ P ∣ B / D :=
  ⟨fun h => ⟨Nat.dvd_trans (Nat.dvd_mul_right D P) h, Nat.dvd_div_of_mul_dvd h⟩, fun h => Nat.mul_dvd_of_dvd_div h.1 h.2⟩

/-- the number of factors `p` that at most `fuel` divisions find in `v`: what the loops of `pow5Factor64`, `TrailingZeros64`,
`float64ToDecimalExactInt` and the second loop of step 4 count -/
def factorCount (p : Nat) : Nat → Nat → Nat
  | 0, _ => 0
  | fuel + 1, v => if v % p = 0 then factorCount p fuel (v / p) + 1 else 0

theorem pow_succ_dvd_iff (p k v : Nat) : p ^ (k + 1) ∣ v ↔ v % p = 0 ∧ p ^ k ∣ v / p := by
  rw [Nat.pow_succ, Nat.mul_comm, mul_dvd_iff p _ v, Nat.dvd_iff_mod_eq_zero]

/-- fuel: for `0 < v < p^fuel` the count is the exponent of `p` in `v` (the loop stops at a non-zero remainder, not for lack of fuel) -/
theorem factorCount_spec (p : Nat) (hp : 1 < p) : ∀ (fuel v : Nat), v ≠ 0 → v < p ^ fuel →
    p ^ factorCount p fuel v ∣ v ∧ ¬ p ^ (factorCount p fuel v + 1) ∣ v := by
  intro fuel
  induction fuel with
  | zero => intro v h0 h; rw [Nat.pow_zero] at h; omega
  | succ fuel ih =>
    intro v h0 h
    unfold factorCount
    by_cases hr : v % p = 0
    · rw [if_pos hr]
      have hv : v = p * (v / p) := by have := Nat.div_add_mod v p; omega
      have hq0 : v / p ≠ 0 := fun hq => h0 (by rw [hv, hq, Nat.mul_zero])
      have hq : v / p < p ^ fuel := by
        rw [Nat.div_lt_iff_lt_mul (by omega), ← Nat.pow_succ]; exact h
      obtain ⟨h1, h2⟩ := ih (v / p) hq0 hq
      rw [pow_succ_dvd_iff p _ v, pow_succ_dvd_iff p _ v]
      exact ⟨⟨hr, h1⟩, fun hh => h2 hh.2⟩
    · rw [if_neg hr, Nat.pow_zero, Nat.zero_add, Nat.pow_one]
      exact ⟨Nat.one_dvd _, fun hd => hr (Nat.mod_eq_zero_of_dvd hd)⟩

theorem factorCount_le (p : Nat) : ∀ (fuel v : Nat), factorCount p fuel v ≤ fuel := by
  intro fuel
  induction fuel with
  | zero => intro v; exact Nat.le_refl 0
  | succ fuel ih =>
    intro v
    unfold factorCount
    split
    · exact Nat.succ_le_succ (ih _)
    · exact Nat.zero_le _

theorem le_iff_pow_dvd {p k v : Nat} (hd : p ^ k ∣ v) (hnd : ¬ p ^ (k + 1) ∣ v) (q : Nat) : q ≤ k ↔ p ^ q ∣ v :=
  ⟨fun h => Nat.dvd_trans (Nat.pow_dvd_pow p h) hd,
   fun h => Nat.le_of_not_lt fun hlt => hnd (Nat.dvd_trans (Nat.pow_dvd_pow p hlt) h)⟩

theorem pow5Factor64Loop_eq : ∀ (fuel v n : Nat), pow5Factor64Loop fuel v n = n + factorCount 5 fuel v := by
  intro fuel
  induction fuel with
  | zero => intro v n; rfl
  | succ fuel ih =>
    intro v n
    unfold pow5Factor64Loop factorCount
    by_cases hr : v % 5 = 0
    · rw [if_pos hr, if_neg (by simp [hr]), ih, Nat.add_assoc, Nat.add_comm 1]
    · rw [if_neg hr, if_pos (by simp [hr])]; rfl

theorem trailingZeros64Loop_eq : ∀ (fuel v n : Nat), trailingZeros64Loop fuel v n = n + factorCount 2 fuel v := by
  intro fuel
  induction fuel with
  | zero => intro v n; rfl
  | succ fuel ih =>
    intro v n
    unfold trailingZeros64Loop factorCount
    by_cases hr : v % 2 = 0
    · rw [if_pos hr, if_neg (by simp [hr]), ih, Nat.add_assoc, Nat.add_comm 1]
    · rw [if_neg hr, if_pos (by simp; omega)]; rfl

/-- for a non-zero 64-bit `v`, `pow5Factor64 v` is the exponent of 5 in `v` -/
theorem pow5Factor64_spec (v : Nat) (h0 : v ≠ 0) (h : v < 2 ^ 64) :
    5 ^ pow5Factor64 v ∣ v ∧ ¬ 5 ^ (pow5Factor64 v + 1) ∣ v := by
  unfold pow5Factor64
  rw [pow5Factor64Loop_eq, Nat.zero_add]
  exact factorCount_spec 5 (by decide) 28 v h0 (Nat.lt_trans h (by decide))

/-- `multipleOfPowerOfFive64 v p` decides `5^p ∣ v` (non-zero 64-bit `v`) -/
theorem multipleOfPowerOfFive64_iff (v p : Nat) (h0 : v ≠ 0) (h : v < 2 ^ 64) :
    multipleOfPowerOfFive64 v p = true ↔ 5 ^ p ∣ v := by
  obtain ⟨hd, hnd⟩ := pow5Factor64_spec v h0 h
  unfold multipleOfPowerOfFive64
  rw [decide_eq_true_iff]
  exact le_iff_pow_dvd hd hnd p

/-- `bits.TrailingZeros64` of a non-zero 64-bit value is the exponent of 2 in it -/
theorem trailingZeros64_spec (v : Nat) (h0 : v ≠ 0) (h : v < 2 ^ 64) :
    2 ^ trailingZeros64 v ∣ v ∧ ¬ 2 ^ (trailingZeros64 v + 1) ∣ v := by
  unfold trailingZeros64
  rw [trailingZeros64Loop_eq, Nat.zero_add]
  exact factorCount_spec 2 (by decide) 64 v h0 h

/-- `multipleOfPowerOfTwo64 v p` decides `2^p ∣ v` (non-zero 64-bit `v`) -/
theorem multipleOfPowerOfTwo64_iff (v p : Nat) (h0 : v ≠ 0) (h : v < 2 ^ 64) :
    multipleOfPowerOfTwo64 v p = true ↔ 2 ^ p ∣ v := by
  obtain ⟨hd, hnd⟩ := trailingZeros64_spec v h0 h
  unfold multipleOfPowerOfTwo64
  rw [decide_eq_true_iff]
  exact le_iff_pow_dvd hd hnd p

/-- for `v = 0` (`TrailingZeros64(0) = 64`) the test says "multiple" exactly for `p ≤ 64` -/
theorem multipleOfPowerOfTwo64_zero (p : Nat) : multipleOfPowerOfTwo64 0 p = true ↔ p ≤ 64 := by
  unfold multipleOfPowerOfTwo64 trailingZeros64
  rw [trailingZeros64Loop_eq, decide_eq_true_iff, show factorCount 2 64 0 = 64 by decide, Nat.zero_add]

def decimalLenOk (b : Nat) : Bool :=
  let t := (b * 1233) >>> 12
  powersOf10.getD t 0 == 10 ^ t && (t == 0 || decide (10 ^ (t - 1) ≤ 2 ^ (b - 1))) && decide (2 ^ b ≤ 10 ^ (t + 1))

theorem decimalLen_check : (List.range 58).all decimalLenOk = true := by decide +kernel

/-- `decimalLen64 v` is the number of decimal digits of `v` for `0 < v < 2^57`, the range `decimalLen_check` covers -/
theorem decimalLen64_spec_lt57 (v : Nat) (h0 : v ≠ 0) (h : v < 2 ^ 57) :
    10 ^ (decimalLen64 v - 1) ≤ v ∧ v < 10 ^ decimalLen64 v := by
  have hb1 : 2 ^ Nat.log2 v ≤ v := Nat.log2_self_le h0
  have hb2 : v < 2 ^ (Nat.log2 v + 1) := Nat.lt_log2_self
  have hb : Nat.log2 v + 1 < 58 := by
    have : Nat.log2 v < 57 := (Nat.log2_lt h0).mpr h
    omega
  have hc := all_range_lift decimalLen_check _ hb
  unfold decimalLen64 bitLen64
  rw [if_neg h0]
  dsimp only
  simp only [decimalLenOk, Bool.and_eq_true, Bool.or_eq_true, beq_iff_eq, decide_eq_true_iff, Nat.add_sub_cancel] at hc
  obtain ⟨⟨hp, hlo⟩, hhi⟩ := hc
  generalize ((Nat.log2 v + 1) * 1233) >>> 12 = t at *
  rw [hp]
  by_cases hlt : v < 10 ^ t
  · simp only [hlt, decide_true, boolToNat, if_true, Nat.add_sub_cancel]
    refine ⟨?_, trivial⟩
    rcases hlo with ht | hle
    · subst ht; simp at hlt; omega
    · exact Nat.le_trans hle hb1
  · simp only [hlt, decide_false, boolToNat, Bool.false_eq_true, if_false, Nat.sub_zero, Nat.add_sub_cancel]
    exact ⟨Nat.le_of_not_lt hlt, Nat.lt_of_lt_of_le hb2 hhi⟩

/-- `decimalLen64 v` is the number of decimal digits of `v` for `0 < v < 10^17` (all that the formatter passes) -/
theorem decimalLen64_spec (v : Nat) (h0 : v ≠ 0) (h : v < 10 ^ 17) :
    10 ^ (decimalLen64 v - 1) ≤ v ∧ v < 10 ^ decimalLen64 v :=
  decimalLen64_spec_lt57 v h0 (Nat.lt_trans h (by decide))

/-- `decimalLen64 0 = 0` (zero never reaches the formatter) -/
theorem decimalLen64_zero : decimalLen64 0 = 0 := by decide

/-! ## the exact-integer fast path -/

theorem exactIntLoop_eq : ∀ (fuel : Nat) (d : Dec64),
    exactIntLoop fuel d = { m := d.m / 10 ^ factorCount 10 fuel d.m, e := d.e + (factorCount 10 fuel d.m : Nat) } := by
  intro fuel
  induction fuel with
  | zero => intro d; simp [exactIntLoop, factorCount]
  | succ fuel ih =>
    intro d
    unfold exactIntLoop factorCount
    by_cases hr : d.m % 10 = 0
    · rw [if_pos hr, if_pos (by simp [hr]), ih]
      simp only [Nat.div_div_eq_div_mul, Nat.pow_succ, Nat.mul_comm, Int.natCast_add, Int.add_assoc, Int.add_comm 1]
      rfl
    · rw [if_neg hr, if_neg (by simp [hr])]; simp

theorem shr64_eq (x s : Nat) (hs : s < 64) : shr64 x s = x / 2 ^ s := by
  unfold shr64; rw [if_pos hs, Nat.shiftRight_eq_div_pow]

theorem shl64_eq (x s : Nat) (hs : s < 64) : shl64 x s = x * 2 ^ s % 2 ^ 64 := by
  unfold shl64; rw [if_pos hs, Nat.shiftLeft_eq]

theorem or_two_pow_52 (mant : Nat) (hm : mant < 2 ^ 52) : mant ||| shl64 1 mantBits64 = 2 ^ 52 + mant := by
  have h1 : shl64 1 mantBits64 = 2 ^ 52 * 1 := by decide
  rw [h1, Nat.or_comm, ← Nat.two_pow_add_eq_or_of_lt hm 1]

theorem pair_false_ne {α : Type} {a b : α} (h : (a, false) = (b, true)) : False :=
  Bool.noConfusion (Prod.mk.inj h).2

/-- The fast path is exactly right: when `float64ToDecimalExactInt mant exp` answers `(d, true)` for the fields of a
float64 (`mant < 2^52`, `exp < 2^11`), then `1023 ≤ exp ≤ 1075` and the float's value `(2^52 + mant) · 2^(exp − 1075)` is the
integer `d.m · 10^d.e` (`0 ≤ d.e`), with `d.m` not divisible by 10. -/
theorem exactInt_spec (mant exp : Nat) (d : Dec64) (hm : mant < 2 ^ 52) (he : exp < 2048)
    (h : float64ToDecimalExactInt mant exp = (d, true)) :
    1023 ≤ exp ∧ exp ≤ 1075 ∧ 0 ≤ d.e ∧ d.m % 10 ≠ 0 ∧
    2 ^ 52 + mant = d.m * 10 ^ d.e.toNat * 2 ^ (1075 - exp) := by
  unfold float64ToDecimalExactInt at h
  dsimp only at h
  split at h
  · exact (pair_false_ne h).elim
  rename_i hhi
  split at h
  · exact (pair_false_ne h).elim
  rename_i hne
  -- `e = exp − 1023 ≤ 52`: the shift is `s = 1075 − exp`
  obtain ⟨h1, h2, hsh⟩ : 1023 ≤ exp ∧ exp ≤ 1075 ∧ mantBits64 - subU64 exp bias64 = 1075 - exp := by
    unfold subU64 mantBits64 bias64 at *; omega
  have hM : 2 ^ 52 ≤ 2 ^ 52 + mant ∧ 2 ^ 52 + mant < 2 ^ 53 := by omega
  have hs : 1075 - exp ≤ 52 := by omega
  rw [hsh, or_two_pow_52 mant hm, shr64_eq _ _ (by omega)] at hne h
  generalize 2 ^ 52 + mant = M at h hne hM ⊢
  generalize 1075 - exp = s at h hne hs ⊢
  have hle : M / 2 ^ s * 2 ^ s ≤ M := Nat.div_mul_le_self _ _
  rw [shl64_eq _ _ (by omega), Nat.mod_eq_of_lt (by omega)] at hne
  have hne : M / 2 ^ s * 2 ^ s = M := by simpa using hne
  have hq0 : M / 2 ^ s ≠ 0 := fun h0 => by rw [h0] at hne; omega
  have hqlt : M / 2 ^ s < 10 ^ 20 := Nat.lt_of_le_of_lt (Nat.div_le_self _ _) (by omega)
  obtain ⟨f1, f2⟩ := factorCount_spec 10 (by decide) 20 _ hq0 hqlt
  have hd := (Prod.mk.inj h).1
  rw [exactIntLoop_eq] at hd
  subst hd
  generalize factorCount 10 20 (M / 2 ^ s) = k at f1 f2
  have hk : ((0 : Int) + (k : Nat)).toNat = k := by omega
  refine ⟨h1, h2, ?_, fun hm => f2 ?_, ?_⟩
  · show (0 : Int) ≤ 0 + (k : Nat)
    omega
  · rw [Nat.pow_succ, mul_dvd_iff]
    exact ⟨f1, Nat.dvd_of_mod_eq_zero hm⟩
  · show M = M / 2 ^ s / 10 ^ k * 10 ^ ((0 : Int) + (k : Nat)).toNat * 2 ^ s
    rw [hk, Nat.div_mul_cancel f1, hne]

/-! ## the rounding interval -/

/-- the fields of a finite float as `Num.decode` reads them; exponents are shifted by 1076 so that everything is a natural
number: `dy.e + 1076` is `2` for subnormals and `exp + 1` otherwise -/
theorem decode_fields (b : UInt64) (dy : Num.Dyadic) (h : decode b = some dy) :
    b.toNat / 2 ^ 52 % 2048 ≠ 2047 ∧
    dy.m = (if b.toNat / 2 ^ 52 % 2048 = 0 then b.toNat % 2 ^ 52 else b.toNat % 2 ^ 52 + 2 ^ 52) ∧
    dy.e + 1076 = ((if b.toNat / 2 ^ 52 % 2048 = 0 then 2 else b.toNat / 2 ^ 52 % 2048 + 1 : Nat) : Int) := by
  unfold decode at h
  dsimp only at h
  split at h
  · cases h
  rename_i h1
  have h1 : b.toNat / 2 ^ 52 % 2048 ≠ 2047 := by simpa using h1
  split at h
  · rename_i h2
    have h2 : b.toNat / 2 ^ 52 % 2048 = 0 := by simpa using h2
    have := Option.some.inj h; subst this
    refine ⟨h1, ?_, ?_⟩
    · rw [if_pos h2]
    · rw [if_pos h2]; rfl
  · rename_i h2
    have h2 : ¬ b.toNat / 2 ^ 52 % 2048 = 0 := by simpa using h2
    have := Option.some.inj h; subst this
    refine ⟨h1, ?_, ?_⟩
    · rw [if_neg h2]
    · rw [if_neg h2]
      simp only [Int.ofNat_eq_natCast]
      omega

/-- step 1 of `float64ToDecimal` in the same terms: `m2` is the significand -/
theorem decodeM2_eq (mant exp : Nat) (hm : mant < 2 ^ 52) :
    decodeM2 mant exp = if exp = 0 then mant else mant + 2 ^ 52 := by
  unfold decodeM2
  by_cases h : exp = 0
  · simp [h]
  · have : (exp == 0) = false := by simp [h]
    rw [this]; simp only [Bool.false_eq_true, if_false, h]
    have h1 : shl64 1 mantBits64 = 2 ^ 52 * 1 := by decide
    rw [h1, ← Nat.two_pow_add_eq_or_of_lt hm 1]; omega

/-- … and `e2 + 1076` is `0` for subnormals, `exp − 1` otherwise -/
theorem decodeE2_eq (exp : Nat) :
    0 ≤ decodeE2 exp + 1076 ∧ (decodeE2 exp + 1076).toNat = if exp = 0 then 0 else exp - 1 := by
  unfold decodeE2
  have h52 : (mantBits64 : Int) = 52 := rfl
  have hb : (bias64 : Int) = 1023 := rfl
  rw [h52, hb]
  by_cases h : exp = 0
  · simp [h]
  · have : (exp == 0) = false := by simp [h]
    rw [this]; simp only [Bool.false_eq_true, if_false, h]
    omega

/-- `mv`, `mp` do not wrap: for a significand `m2 < 2^53` they are `4·m2`, `4·m2 + 2` -/
theorem mv_mp_eq (m2 : Nat) (h : m2 < 2 ^ 53) : mvOf m2 = 4 * m2 ∧ mpOf m2 = 4 * m2 + 2 := by
  unfold mvOf mpOf u64
  omega

/-- `mm` does not wrap: for a significand `0 < m2 < 2^53` it is `4·m2 − 1 − mmShift` -/
theorem mm_eq (m2 s : Nat) (h0 : m2 ≠ 0) (h : m2 < 2 ^ 53) (hs : s ≤ 1) : mmOf m2 s = 4 * m2 - 1 - s := by
  unfold mmOf subU64 u64
  omega


/-- `m · 2^e` scaled by `2^1076` (a natural number for every float64 exponent `e ≥ −1076`) -/
def scaled (m : Nat) (e : Int) : Nat := m * 2 ^ (e + 1076).toNat

/-- significand and scaled exponents from the raw fields -/
def sigOf (mant exp : Nat) : Nat := if exp = 0 then mant else mant + 2 ^ 52
def e2Of (exp : Nat) : Nat := if exp = 0 then 0 else exp - 1
def eOf (exp : Nat) : Nat := if exp = 0 then 2 else exp + 1

theorem eOf_eq (exp : Nat) : eOf exp = e2Of exp + 2 := by
  unfold eOf e2Of; split <;> omega

theorem fields_value (M E : Nat) : 4 * M * 2 ^ E = M * 2 ^ (E + 2) := by
  rw [Nat.pow_add, Nat.mul_comm 4 M, Nat.mul_assoc, Nat.mul_comm 4]

/-- upper midpoint, same binade: `2·(4M+2)·2^E = M·2^(E+2) + (M+1)·2^(E+2)` -/
theorem fields_upper (M E : Nat) : 2 * ((4 * M + 2) * 2 ^ E) = M * 2 ^ (E + 2) + (M + 1) * 2 ^ (E + 2) := by
  rw [Nat.pow_add]
  generalize 2 ^ E = P
  show 2 * ((4 * M + 2) * P) = M * (P * 4) + (M + 1) * (P * 4)
  rw [Nat.add_mul, Nat.add_mul, Nat.mul_assoc 4 M P, ← Nat.mul_assoc M P 4]
  generalize M * P = X
  omega

/-- Two neighbouring floats `M·2^(E+2) < M'·2^(E'+2)` — in one binade, or `M'·2^(E'+2)` a power of two at the bottom of the
next one (`s'` is then its `mmShift`): the midpoint is `(4M + 2)·2^E` seen from below and `(4M' − 1 − s')·2^E'` from above. -/
theorem neighbours_mid (M E M' E' s' : Nat)
    (h : (M' = M + 1 ∧ E' = E ∧ s' = 1) ∨ (M = 2 ^ 53 - 1 ∧ M' = 2 ^ 52 ∧ E' = E + 1 ∧ s' = 0)) :
    2 * ((4 * M + 2) * 2 ^ E) = M * 2 ^ (E + 2) + M' * 2 ^ (E' + 2) ∧
    (4 * M' - 1 - s') * 2 ^ E' = (4 * M + 2) * 2 ^ E := by
  rcases h with ⟨rfl, rfl, rfl⟩ | ⟨rfl, rfl, rfl, rfl⟩
  · exact ⟨fields_upper M E', rfl⟩
  · rw [Nat.pow_add, Nat.pow_add, Nat.pow_add]
    generalize 2 ^ E = P
    omega


/-- the raw fields as `AppendFloat64f` extracts them: `mant := u & (1<<52 - 1)`, `exp := (u >> 52) & (1<<11 - 1)` -/
def mantOf (b : UInt64) : Nat := b.toNat % 2 ^ 52
def expOf (b : UInt64) : Nat := b.toNat / 2 ^ 52 % 2048

/-- `Num.decode` and step 1 of `float64ToDecimal` read the same float: same significand, `e2 = e − 2` -/
theorem bridge (b : UInt64) (dy : Num.Dyadic) (h : decode b = some dy) :
    expOf b ≠ 2047 ∧ dy.m = sigOf (mantOf b) (expOf b) ∧ (dy.e + 1076).toNat = eOf (expOf b) ∧
    decodeM2 (mantOf b) (expOf b) = sigOf (mantOf b) (expOf b) ∧
    (decodeE2 (expOf b) + 1076).toNat = e2Of (expOf b) ∧ sigOf (mantOf b) (expOf b) < 2 ^ 53 := by
  obtain ⟨h1, h2, h3⟩ := decode_fields b dy h
  have hm : mantOf b < 2 ^ 52 := Nat.mod_lt _ (Nat.two_pow_pos 52)
  refine ⟨h1, h2, by rw [h3]; rfl, decodeM2_eq _ _ hm, (decodeE2_eq _).2, ?_⟩
  unfold sigOf; split <;> omega

/-- `mv · 2^e2` is the float's value (`m2` its significand, `e2` its exponent minus 2) -/
theorem interval_value (b : UInt64) (dy : Num.Dyadic) (h : decode b = some dy) :
    scaled (mvOf (decodeM2 (mantOf b) (expOf b))) (decodeE2 (expOf b)) = scaled dy.m dy.e := by
  obtain ⟨_, h2, h3, h4, h5, h6⟩ := bridge b dy h
  unfold scaled
  rw [h2, h3, h4, h5, (mv_mp_eq _ h6).1, eOf_eq]
  exact fields_value _ _

theorem mmShiftOf_eq (mant exp : Nat) : mmShiftOf mant exp = if mant = 0 ∧ 1 < exp then 0 else 1 := by
  unfold mmShiftOf boolToNat
  by_cases h : mant = 0 ∧ 1 < exp
  · rw [if_pos h, if_neg]; simp; omega
  · rw [if_neg h, if_pos]; simp; omega

theorem mmShiftOf_le (mant exp : Nat) : mmShiftOf mant exp ≤ 1 := by
  rw [mmShiftOf_eq]; split <;> omega

/-- the bit fields of `n + 1`: the fraction grows by one, or it wraps to 0 and carries into the exponent -/
theorem succ_fields (n : Nat) (h : n / 2 ^ 52 % 2048 ≠ 2047) :
    (n % 2 ^ 52 + 1 < 2 ^ 52 ∧ (n + 1) % 2 ^ 52 = n % 2 ^ 52 + 1 ∧ (n + 1) / 2 ^ 52 % 2048 = n / 2 ^ 52 % 2048) ∨
    (n % 2 ^ 52 = 2 ^ 52 - 1 ∧ (n + 1) % 2 ^ 52 = 0 ∧ (n + 1) / 2 ^ 52 % 2048 = n / 2 ^ 52 % 2048 + 1) := by
  omega

/-- The floats with bits `b` and `b + 1` are neighbours in the sense of `neighbours_mid`: the significand grows by one in the
same binade (also from the largest subnormal to the smallest normal, both with `e2 + 1076 = 0`), or it falls from `2^53 − 1` to
`2^52` in the next binade; `mmShift` of `b + 1` tells which. -/
theorem succ_float (b : UInt64) (h : expOf b ≠ 2047) :
    (sigOf (mantOf (b + 1)) (expOf (b + 1)) = sigOf (mantOf b) (expOf b) + 1 ∧ e2Of (expOf (b + 1)) = e2Of (expOf b) ∧
      mmShiftOf (mantOf (b + 1)) (expOf (b + 1)) = 1) ∨
    (sigOf (mantOf b) (expOf b) = 2 ^ 53 - 1 ∧ sigOf (mantOf (b + 1)) (expOf (b + 1)) = 2 ^ 52 ∧
      e2Of (expOf (b + 1)) = e2Of (expOf b) + 1 ∧ mmShiftOf (mantOf (b + 1)) (expOf (b + 1)) = 0) := by
  unfold mantOf expOf at *
  have hn : (b + 1).toNat = b.toNat + 1 := by
    have := UInt64.toNat_lt b
    rw [UInt64.toNat_add]
    show (b.toNat + 1) % 2 ^ 64 = _
    omega
  rw [hn]
  rcases succ_fields b.toNat h with ⟨a, e1, e2⟩ | ⟨a, e1, e2⟩
  · rw [e1, e2]
    left
    refine ⟨?_, rfl, ?_⟩
    · unfold sigOf; split <;> omega
    · rw [mmShiftOf_eq, if_neg (by omega)]
  · rw [e1, e2, a]
    cases b.toNat / 2 ^ 52 % 2048 with
    | zero => left; decide
    | succ k => right; simp [sigOf, e2Of, mmShiftOf_eq]

/-- `mp · 2^e2` (`mp = 4·m2 + 2`) is exactly the midpoint between the float and its upper neighbour, the float with
bits + 1 — also across a binade boundary and from the largest subnormal to the smallest normal:
`2 · mp·2^e2 = value(b) + value(b + 1)` (everything scaled by `2^1076`). -/
theorem interval_upper (b : UInt64) (dy dy' : Num.Dyadic) (h : decode b = some dy) (h' : decode (b + 1) = some dy') :
    2 * scaled (mpOf (decodeM2 (mantOf b) (expOf b))) (decodeE2 (expOf b)) = scaled dy.m dy.e + scaled dy'.m dy'.e := by
  obtain ⟨g1, h2, h3, h4, h5, h6⟩ := bridge b dy h
  obtain ⟨-, h2', h3', -, -, -⟩ := bridge (b + 1) dy' h'
  unfold scaled
  rw [h2, h3, h4, h5, h2', h3', (mv_mp_eq _ h6).2, eOf_eq, eOf_eq]
  exact (neighbours_mid _ _ _ _ _ (succ_float b g1)).1

/-- `mm · 2^e2` (`mm = 4·m2 − 1 − mmShift`) is exactly the midpoint between the (non-zero) float and its lower neighbour, the
float with bits − 1 — in particular when the float is a power of two (`mant = 0`, `exp > 1`: `mmShift = 0`, the lower neighbour
is half as far away), and from the smallest normal to the largest subnormal (`mant = 0`, `exp = 1`: `mmShift = 1`):
`2 · mm·2^e2 = value(b) + value(b − 1)` (everything scaled by `2^1076`). -/
theorem interval_lower (b : UInt64) (dy dy' : Num.Dyadic) (h : decode b = some dy) (h' : decode (b - 1) = some dy')
    (h0 : dy.m ≠ 0) :
    2 * scaled (mmOf (decodeM2 (mantOf b) (expOf b)) (mmShiftOf (mantOf b) (expOf b))) (decodeE2 (expOf b)) =
      scaled dy.m dy.e + scaled dy'.m dy'.e := by
  obtain ⟨-, h2, h3, h4, h5, h6⟩ := bridge b dy h
  obtain ⟨g1', h2', h3', -, -, -⟩ := bridge (b - 1) dy' h'
  rw [h2] at h0
  -- `b` is the upper neighbour of `b - 1`, and `mm` of `b` is `mp` of `b - 1`
  have hs := succ_float (b - 1) g1'
  rw [UInt64.sub_add_cancel] at hs
  obtain ⟨e1, e2⟩ := neighbours_mid _ _ _ _ _ hs
  unfold scaled
  rw [h2, h3, h4, h5, h2', h3', mm_eq _ _ h0 h6 (mmShiftOf_le _ _), eOf_eq, eOf_eq, e2, e1, Nat.add_comm]


/-- `exactInt_spec` in terms of `Num.decode`: when the fast path answers for the fields of the float `b`, the float's value
`dy.m · 2^dy.e` (`dy.e ≤ 0`) is exactly the integer `d.m · 10^d.e`. -/
theorem exactInt_decode (b : UInt64) (dy : Num.Dyadic) (d : Dec64) (h : decode b = some dy)
    (hx : float64ToDecimalExactInt (mantOf b) (expOf b) = (d, true)) :
    dy.e ≤ 0 ∧ 0 ≤ d.e ∧ d.m % 10 ≠ 0 ∧ dy.m = d.m * 10 ^ d.e.toNat * 2 ^ (-dy.e).toNat := by
  have hm : mantOf b < 2 ^ 52 := Nat.mod_lt _ (Nat.two_pow_pos 52)
  have he : expOf b < 2048 := Nat.mod_lt _ (by decide)
  obtain ⟨x1, x2, x3, x4, x5⟩ := exactInt_spec _ _ d hm he hx
  obtain ⟨h1, h2, h3⟩ := decode_fields b dy h
  unfold mantOf expOf at *
  have hne : ¬ b.toNat / 2 ^ 52 % 2048 = 0 := by omega
  rw [if_neg hne] at h2 h3
  have : (-dy.e).toNat = 1075 - b.toNat / 2 ^ 52 % 2048 := by omega
  rw [this, h2, Nat.add_comm]
  exact ⟨by omega, x3, x4, x5⟩


/-! ## the two branches of step 3

What `decodeE2`, `decodeM2` are on the exponent fields of each branch, the code's `q`, `step3` as `step3PosQ` / `step3NegQ`
at that `q`, and the state step 4 starts from: the facts about the mirror alone that both the mathematics (C16CoreMain,
C16CoreStep4) and the proofs about the regenerated program (C16RyuMain, C16RyuStep4) start from. -/

theorem decodeE2_pos (exp : Nat) (h : 1077 ≤ exp) : decodeE2 exp = ((exp - 1077 : Nat) : Int) := by
  unfold decodeE2
  have h52 : (mantBits64 : Int) = 52 := rfl
  have hb : (bias64 : Int) = 1023 := rfl
  have : (exp == 0) = false := by simp; omega
  rw [this, h52, hb]; simp only [Bool.false_eq_true, if_false]; omega

theorem decodeE2_neg (exp : Nat) (h : exp < 1077) :
    decodeE2 exp = -((if exp = 0 then 1076 else 1077 - exp : Nat) : Int) := by
  unfold decodeE2
  have h52 : (mantBits64 : Int) = 52 := rfl
  have hb : (bias64 : Int) = 1023 := rfl
  rw [h52, hb]
  by_cases h0 : exp = 0
  · subst h0; rfl
  · have : (exp == 0) = false := by simp [h0]
    rw [this]; simp only [Bool.false_eq_true, if_false, h0]; omega

/-- the code's `q` -/
def qOf (exp : Nat) : Nat :=
  if decodeE2 exp ≥ 0 then subU32 (log10Pow2 (decodeE2 exp)) (boolToNat (decodeE2 exp > 3))
  else subU32 (log10Pow5 (-decodeE2 exp)) (boolToNat (-decodeE2 exp > 1))

theorem step3_pos_eq (mant exp : Nat) (h : decodeE2 exp ≥ 0) :
    step3 mant exp = step3PosQ (qOf exp) (decodeE2 exp) (decodeM2 mant exp) (mmShiftOf mant exp) (acceptBoundsOf mant exp) := by
  unfold step3 qOf
  dsimp only
  rw [if_pos h, if_pos h]
  rfl

theorem step3_neg_eq (mant exp : Nat) (h : ¬ decodeE2 exp ≥ 0) :
    step3 mant exp = step3NegQ (qOf exp) (decodeE2 exp) (decodeM2 mant exp) (mmShiftOf mant exp) (acceptBoundsOf mant exp) := by
  unfold step3 qOf
  dsimp only
  rw [if_neg h, if_neg h]
  rfl

theorem decodeM2_range (mant exp : Nat) (hm : mant < 2 ^ 52) (hnz : mant ≠ 0 ∨ exp ≠ 0) :
    1 ≤ decodeM2 mant exp ∧ decodeM2 mant exp < 2 ^ 53 := by
  rw [decodeM2_eq mant exp hm]
  split <;> omega

/-- the state at the beginning of step 4's general case -/
def gen0 (s3 : Step3) : Gen :=
  { vr := s3.vr, vp := s3.vp, vm := s3.vm,
    vmIsTrailingZeros := s3.vmIsTrailingZeros, vrIsTrailingZeros := s3.vrIsTrailingZeros }

end QF.Props.C16Core
