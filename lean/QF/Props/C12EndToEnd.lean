import QF.Props.C12Bridge
import QF.Props.C12CrLf
import QF.Props.C12NoFuel
import QF.Props.C12GlueGen
import QF.Props.C08Guards
/-!
# C12 — ReadCSV end to end: from the bytes to the frame (composition of the regenerated pieces)

Pieces (all proved elsewhere, each for the terms regenerated from today's source):

    bytes ──(fastcsv reader: `Gen.csvFns`, C12CsvGen)──▶ records ──(glue: `Gen.readCsvAst` + `columnToData`: `Gen.columnToDataAst`,
    C12GlueGen / C12InferGen)──▶ data map + names ──(root `ReadCSV`: `Gen.readCsvEntryAst`, `CheckName`: `Gen.checkNameAst`)──▶ frame

This file proves the chain:

* (a) the bridge between the array-level mirror `Csv.readAll` — what the regenerated reader is proved equal to — and the
  list-level proof model `Full.readAll` — what the theorems of C12Read are about — for EVERY document, read schedule with
  reads ≥ 1, initial capacity and EOF mode (`csv_eq_full_loaded`, `csv_eq_full`, `csv_eq_full_total`; the simulation is in
  C12Bridge); that the mirror never gives up (`C12NoFuel.readAll_no_fuel`, every fault position included), hence
  `C12NoFuel.gen_csv_semantics` — `gen_csv_semantics_partial` without its hypothesis — and here
  `gen_csv_eq_full` (regenerated reader = proof model) and `gen_csv_schedule_independent`;
* (b) `gen_readcsv_end_to_end`: for every RFC 4180 document (`RfcDoc`, below), every read schedule with reads ≥ 1, every
  buffer capacity, either EOF mode, every configuration and parse oracle: today's reader composed with today's glue, type inference, root entry and name check returns exactly
  `readCsvS po cfg doc` — an error or the frame; `gen_readcsv_schedule_independent`.

`read_eq_spec'` of C12Read knows only LF row ends; rows ended by CR LF are added by C12CrLf (reader model and `rfcParse`).
-/
namespace QF.Props.C12EndToEnd
open QF QF.CR QF.Props.C12CsvGen QF.Props.C12Bridge QF.Props.C12Read QF.Props.C12GlueGen QF.Props.C12CrLf
open QF.Props.C13 (renderField renderFields renderRow renderDoc)
set_option linter.unusedSimpArgs false

/-! ## (a) `Csv.readAll` = `Full.readAll`, for every document -/

/-- **Bridge, loaded form.** Whenever the proof model, started with the whole document in its buffer, returns within budgets
that `Csv.readAll` gives itself, the array-level mirror returns the same rows and the same final error: every read schedule
with reads ≥ 1, every initial capacity, EOF reported with or after the last data. -/
theorem csv_eq_full_loaded (doc : List Csv.Byte) (sched : List Nat) (delim : Csv.Byte) (cap : Nat) (eofWD fwd : Bool)
    (hs : ∀ k ∈ sched, 1 ≤ k) (F n : Nat) (res : List (List (List Csv.Byte)) × Option Full.RErr)
    (hF : F + doc.length ≤ 8 * doc.length + 64) (hn : n ≤ 8 * doc.length + 64)
    (h : Full.readAll delim F n (Full.loadedFS doc) [] = some res) :
    Csv.readAll doc sched delim cap none eofWD fwd = .ok (res.1, cv res.2) :=
  readAll_bridge doc sched delim cap eofWD fwd hs F n res hF hn h

/-- **Bridge.** … and the same for the proof model run on ANY schedule `sched'` of its own (`read_schedule_independent`):
the two machines need not even be given the same schedule. -/
theorem csv_eq_full (doc : List Csv.Byte) (sched sched' : List Nat) (delim : Csv.Byte) (cap : Nat) (eofWD fwd : Bool)
    (hs : ∀ k ∈ sched, 1 ≤ k) (F n : Nat) (res : List (List (List Csv.Byte)) × Option Full.RErr)
    (hF : F + doc.length ≤ 8 * doc.length + 64) (hn : n ≤ 8 * doc.length + 64)
    (h : Full.readAll delim F n (Full.initFS doc sched') [] = some res) :
    Csv.readAll doc sched delim cap none eofWD fwd = .ok (res.1, cv res.2) :=
  csv_eq_full_loaded doc sched delim cap eofWD fwd hs F n res hF hn (Full.read_schedule_independent delim F n doc sched' res h)

/-- **Bridge, total.** For every document the proof model returns with budgets `|doc| + 2`, `|doc| + 1` on every schedule
(`readAll_total`), and the mirror returns exactly that. In particular the mirror never panics — neither for lack of fuel nor
on an index — and never reports a failure of the (fault-free) underlying reader. -/
theorem csv_eq_full_total (doc : List Csv.Byte) (sched sched' : List Nat) (delim : Csv.Byte) (cap : Nat) (eofWD fwd : Bool)
    (hs : ∀ k ∈ sched, 1 ≤ k) :
    ∃ res, Full.readAll delim (doc.length + 2) (doc.length + 1) (Full.initFS doc sched') [] = some res ∧
      Csv.readAll doc sched delim cap none eofWD fwd = .ok (res.1, cv res.2) := by
  obtain ⟨res, hres⟩ := readAll_total delim (doc.length + 2) (doc.length + 1) (Full.initFS doc sched') []
    (Nat.zero_le _) (by simp [total, Full.initFS]) (by simp [total, Full.initFS])
  exact ⟨res, hres, csv_eq_full doc sched sched' delim cap eofWD fwd hs _ _ res (by omega) (by omega) hres⟩

/-- the rows and final error of a run of the interpretation -/
def rowsErrOf : QF.CR.Res (List (List (List Csv.Byte)) × Option Csv.RErr × Csv.Reader) → Option (List (List (List Csv.Byte)) × Option Csv.RErr)
  | .ok x => some (x.1, x.2.1)
  | _ => none

/-- **The regenerated reader = the proof model**, for every document: the functions of internal/fastcsv extracted from
today's source, interpreted over an underlying reader that delivers the document in the pieces `sched` (each ≥ 1), return the
rows and the final error the proof model returns on any schedule of its own. -/
theorem gen_csv_eq_full (doc : List Csv.Byte) (sched sched' : List Nat) (delim : Csv.Byte) (cap : Nat) (eofWD fwd : Bool)
    (hs : ∀ k ∈ sched, 1 ≤ k) :
    ∃ res, Full.readAll delim (doc.length + 2) (doc.length + 1) (Full.initFS doc sched') [] = some res ∧
      rowsErrOf (CR.readAll Gen.csvFns doc sched delim cap none eofWD fwd) = some (res.1, cv res.2) := by
  obtain ⟨res, h1, h2⟩ := csv_eq_full_total doc sched sched' delim cap eofWD fwd hs
  refine ⟨res, h1, ?_⟩
  obtain ⟨r, hr⟩ := C15Faults.readAll'_of_readAll h2
  rw [C12NoFuel.gen_csv_semantics doc sched delim cap none eofWD fwd hs, hr]
  rfl

/-- **The regenerated reader does not depend on the fragmentation** (nor on the initial capacity or the EOF mode): any two
runs on the same document return the same rows and the same final error. Every document, well-formed or not. -/
theorem gen_csv_schedule_independent (doc : List Csv.Byte) (s1 s2 : List Nat) (delim : Csv.Byte) (cap1 cap2 : Nat)
    (e1 f1 e2 f2 : Bool) (h1 : ∀ k ∈ s1, 1 ≤ k) (h2 : ∀ k ∈ s2, 1 ≤ k) :
    rowsErrOf (CR.readAll Gen.csvFns doc s1 delim cap1 none e1 f1) = rowsErrOf (CR.readAll Gen.csvFns doc s2 delim cap2 none e2 f2) ∧
    (rowsErrOf (CR.readAll Gen.csvFns doc s1 delim cap1 none e1 f1)).isSome = true := by
  obtain ⟨r1, a1, b1⟩ := gen_csv_eq_full doc s1 [] delim cap1 e1 f1 h1
  obtain ⟨r2, a2, b2⟩ := gen_csv_eq_full doc s2 [] delim cap2 e2 f2 h2
  rw [a1] at a2
  injection a2 with a2
  subst a2
  rw [b1, b2]
  exact ⟨rfl, rfl⟩

/-! ## RFC 4180 documents -/

/-- `RfcDoc delim doc table`: `doc` is an RFC 4180 document and denotes `table` — rendered from rows with ANY quoting
choice that quotes at least what must be quoted (`RowOk'`: a quoted field may contain anything: delimiters, quotes, LF, CR,
CR LF; the last field of a row must not END with CR), every row ended by LF or by CR LF, row by row as it likes
(`renderDocT`; `closed`), or the last row without its line break (`open`; it may end with a delimiter = a final empty field;
it must not be the single bare empty field, which renders to nothing). -/
inductive RfcDoc (delim : Csv.Byte) : List Csv.Byte → List (List (List Csv.Byte)) → Prop
  | closed (rows : List (List (Bool × List Csv.Byte) × Bool)) (h : ∀ r ∈ rows, RowOk' delim r.1) :
      RfcDoc delim (renderDocT delim rows) (rows.map (·.1.map (·.2)))
  | «open» (rows : List (List (Bool × List Csv.Byte) × Bool)) (last : List (Bool × List Csv.Byte))
      (h : ∀ r ∈ rows, RowOk' delim r.1) (hlast : RowOk' delim last) (hl : last ≠ [(false, [])]) :
      RfcDoc delim (renderDocT delim rows ++ renderFields delim last) (rows.map (·.1.map (·.2)) ++ [last.map (·.2)])

/-- the documents of `read_eq_spec'`: every row ended by LF -/
theorem RfcDoc.lf {delim : Csv.Byte} (rows : List (List (Bool × List Csv.Byte))) (h : ∀ r ∈ rows, RowOk' delim r) :
    RfcDoc delim (renderDoc delim rows) (rows.map (·.map (·.2))) := by
  have := RfcDoc.closed (delim := delim) (rows.map (fun r => (r, false))) (by
    intro r hr
    obtain ⟨r0, h0, rfl⟩ := List.mem_map.mp hr
    exact h r0 h0)
  rw [renderDocT_lf, List.map_map] at this
  exact this

/-- … and those of `read_render_no_final_newline` -/
theorem RfcDoc.lf_open {delim : Csv.Byte} (rows : List (List (Bool × List Csv.Byte))) (last : List (Bool × List Csv.Byte))
    (h : ∀ r ∈ rows ++ [last], RowOk' delim r) (hl : last ≠ [(false, [])]) :
    RfcDoc delim (renderDoc delim rows ++ renderFields delim last) ((rows ++ [last]).map (·.map (·.2))) := by
  have := RfcDoc.«open» (delim := delim) (rows.map (fun r => (r, false))) last (by
    intro r hr
    obtain ⟨r0, h0, rfl⟩ := List.mem_map.mp hr
    exact h r0 (by simp [h0])) (h last (by simp)) hl
  rw [renderDocT_lf, List.map_map] at this
  simpa [Function.comp_def] using this

/-- the specification's scanner reads the table off an RFC 4180 document -/
theorem RfcDoc.parse {delim : Csv.Byte} (hd : delim ≠ 34 ∧ delim ≠ 10 ∧ delim ≠ 13) {doc table} (h : RfcDoc delim doc table) :
    rfcParse delim doc = table := by
  cases h with
  | closed rows h => exact parse_renderT delim hd rows (fun r hr => (h r hr).core)
  | «open» rows last h hlast hl => exact parse_render_nfnT delim hd rows last (fun r hr => (h r hr).core) hlast.core hl

/-- every record of an RFC 4180 document has a field -/
theorem RfcDoc.nonempty {delim : Csv.Byte} {doc table} (h : RfcDoc delim doc table) : ∀ r ∈ table, r ≠ [] := by
  cases h with
  | closed rows h =>
    intro r hr
    obtain ⟨r0, h0, rfl⟩ := List.mem_map.mp hr
    simpa using (h r0 h0).nonempty
  | «open» rows last h hlast hl =>
    intro r hr
    rcases List.mem_append.mp hr with hr | hr
    · obtain ⟨r0, h0, rfl⟩ := List.mem_map.mp hr
      simpa using (h r0 h0).nonempty
    · simp only [List.mem_singleton] at hr
      subst hr
      simpa using hlast.nonempty

/-- the array-level mirror reads the table off an RFC 4180 document: every schedule with reads ≥ 1, every capacity,
either EOF mode -/
theorem RfcDoc.csv_read {delim : Csv.Byte} (hd : delim ≠ 34 ∧ delim ≠ 10 ∧ delim ≠ 13) {doc table} (h : RfcDoc delim doc table)
    (sched : List Nat) (cap : Nat) (eofWD fwd : Bool) (hs : ∀ k ∈ sched, 1 ≤ k) :
    Csv.readAll doc sched delim cap none eofWD fwd = .ok (table, some .eof) := by
  cases h with
  | closed rows h =>
    have hl := rowsT_length_le delim rows
    have := readAll_loadedT delim hd.1 hd.2.1 hd.2.2 rows h ((renderDocT delim rows).length + 1) (rows.length + 1) (by omega) (by omega)
    exact csv_eq_full_loaded _ sched delim cap eofWD fwd hs _ _ _ (by omega) (by omega) this
  | «open» rows last h hlast hl =>
    have hlen : rows.length ≤ (renderDocT delim rows ++ renderFields delim last).length := by
      rw [List.length_append]; have := rowsT_length_le delim rows; omega
    have := readAll_loaded_nfnT delim hd.1 hd.2.1 hd.2.2 rows last h hlast hl
      ((renderDocT delim rows ++ renderFields delim last).length + 2) (rows.length + 2) (by omega) (by omega)
    exact csv_eq_full_loaded _ sched delim cap eofWD fwd hs _ _ _ (by omega) (by omega) this

/-- … and so does the reader regenerated from today's source -/
theorem RfcDoc.gen_read {delim : Csv.Byte} (hd : delim ≠ 34 ∧ delim ≠ 10 ∧ delim ≠ 13) {doc table} (h : RfcDoc delim doc table)
    (sched : List Nat) (cap : Nat) (eofWD fwd : Bool) (hs : ∀ k ∈ sched, 1 ≤ k) :
    ∃ r, CR.readAll Gen.csvFns doc sched delim cap none eofWD fwd = .ok (table, some .eof, r) := by
  obtain ⟨r, hr⟩ := C15Faults.readAll'_of_readAll (h.csv_read hd sched cap eofWD fwd hs)
  exact ⟨r, by rw [C12NoFuel.gen_csv_semantics doc sched delim cap none eofWD fwd hs, hr]; rfl⟩

/-! ## (b) from the bytes to the frame -/

/-- **`ReadCSV` of internal/io of today's source, from the bytes.** Today's fastcsv reader (`Gen.csvFns`, interpreted by
`CR.readAll` over an underlying reader that delivers `doc` in the pieces `sched`, EOF reported with — `eofWD` — or after the
last data, buffer of capacity `cap`; `NewReader` makes it 1024: `gen_csv_newReader`) hands its records to today's glue
(`Gen.readCsvAst`, run with today's `isEmptyLine`, `addAliasToMissingColumnNames`, `renameDuplicateColumns` and
`columnToData`: `C12GlueGen.genReadCsv`). `r.Err()` is non-nil exactly when the sticky error is a failure of the underlying
reader; here the underlying reader is fault-free, and while the error is not a failure `r.Err()` is nil at every record
(with a failure the glue returns an error wherever it is noticed: `gen_csvglue_faults`). `none`: no meaning. -/
def genReadCsvBytes (po : ParseOracle) (cfg : CsvCfg) (hintBig : Bool) (cap : Nat) (eofWD : Bool) (doc : List Csv.Byte) (sched : List Nat) :
    Option (Option (List (Bytes × C12Infer.Data) × List Bytes)) :=
  match CR.readAll Gen.csvFns doc sched cfg.delim cap none eofWD false with
  | .ok (rows, e, _) => genReadCsv po cfg hintBig (rows.map (fun r => (r, false))) (e == some .fail)
  | _ => none

/-- the number of rows of a frame built from columns: the length of the first one -/
def rowCount : List LCol → Nat
  | c :: _ => c.cells.size
  | [] => 0

/-- what `New(data, ColumnOrder(columns...))` makes of the data `ReadCSV` built: today's `CheckName` on every column name
(`Gen.checkNameAst`, C08Guards); the columns are in the order of the names, of supported types and of one length by
construction (C12GlueGen / C12Infer), so nothing else of `New` can fail (C08Construct). -/
def newFrame (x : List Bytes × List LCol) : QF.Res :=
  if !(x.1.all (fun h => C08Guards.genNameFails h == some false)) then .err else .ok { cols := x.2, n := rowCount x.2 }

/-- **`ReadCSV` of the root package of today's source, from the bytes to the frame**: `Gen.readCsvEntryAst` around
`genReadCsvBytes` and `New`. `none`: no meaning. -/
def genReadCsvFrame (po : ParseOracle) (cfg : CsvCfg) (hintBig : Bool) (cap : Nat) (eofWD : Bool) (doc : List Csv.Byte) (sched : List Nat) :
    Option QF.Res :=
  (genReadCsvBytes po cfg hintBig cap eofWD doc sched).bind fun r =>
    Gen.readCsvEntryAst.run (r.map viewCsv) newFrame .err false none

theorem newFrame_eq (hs : List Bytes) (cols : List LCol) :
    newFrame (hs, cols) = if !(hs.all legalName) then .err else .ok { cols := cols, n := rowCount cols } := by
  unfold newFrame
  have : (hs.all fun h => C08Guards.genNameFails h == some false) = hs.all legalName := by
    congr 1; funext h
    rw [C08Guards.gen_checkname_semantics]
    cases legalName h <;> rfl
  rw [this]

/-! ### the row count of the spec is the length of the first column -/

theorem csvColumn_size (po : ParseOracle) (cfg : CsvCfg) (name : Bytes) (cells : List Bytes) (c : LCol)
    (h : (csvColumn po cfg name cells).1 = some c) : c.cells.size = cells.length := by
  rw [C12Infer.csvColumn_eq] at h
  cases hv : C12Infer.colV po cfg name cells (C12Infer.dataTypeOf cfg name) with
  | none => simp [hv] at h
  | some r =>
    simp only [hv, Option.map_some, Option.some.injEq] at h
    subst h
    exact C12Infer.colV_size hv

/-- a column among the spec's columns has a cell for every cell text of its column -/
theorem specCols_size (po : ParseOracle) (cfg : CsvCfg) (hs : List Bytes) (cells : List (List Bytes)) :
    ∀ x ∈ specCols po cfg hs cells, ∀ c, x.1 = some c → ∃ cs ∈ cells, c.cells.size = cs.length := by
  intro x hx c hc
  rw [specCols, ← List.map_uncurry_zip_eq_zipWith] at hx
  obtain ⟨⟨h, cs⟩, hm, rfl⟩ := List.mem_map.mp hx
  exact ⟨cs, (List.of_mem_zip hm).2, csvColumn_size po cfg h cs c hc⟩

/-- **in `csvGlueS` there is a column for every name, and every column has a cell for every row** -/
theorem csvGlueS_sizes (po : ParseOracle) (cfg : CsvCfg) (recs : List (List Bytes)) (hs : List Bytes) (cols : List LCol) (n : Nat)
    (h : csvGlueS po cfg recs = some (hs, cols, n)) : cols.length = hs.length ∧ ∀ c ∈ cols, c.cells.size = n := by
  obtain ⟨hs0, body, data, _, _, hl, rfl, hany, rfl⟩ := csvGlueS_some h
  refine ⟨by rw [filterMap_fst_length _ hany]; simp [specCols, colsOf, hl], ?_⟩
  intro c hc
  obtain ⟨x, hx, hxc⟩ := List.mem_filterMap.1 hc
  obtain ⟨cs, hcs, hsz⟩ := specCols_size po cfg _ _ x hx c hxc
  obtain ⟨i, _, rfl⟩ := List.mem_map.1 hcs
  simpa using hsz

/-- in `csvGlueS` the number of rows is the length of the first column, as soon as there is a column -/
theorem csvGlueS_rowCount (po : ParseOracle) (cfg : CsvCfg) (recs : List (List Bytes)) (hne : ∀ r ∈ recs, r ≠ [])
    (hs : List Bytes) (cols : List LCol) (n : Nat) (h : csvGlueS po cfg recs = some (hs, cols, n)) : rowCount cols = n := by
  obtain ⟨hlen, hsz⟩ := csvGlueS_sizes po cfg recs hs cols n h
  obtain ⟨hs0, body, data, hhdr, _, hl, _⟩ := csvGlueS_some h
  -- the header row, supplied or first record, is not empty
  have hh : hs0 ≠ [] := by
    split at hhdr
    · exact hne hs0 (hhdr ▸ List.mem_cons_self ..)
    · rename_i he
      exact fun e => he (by rw [← hhdr.1, e]; rfl)
  cases cols with
  | nil => exact absurd (List.length_eq_zero_iff.1 (hl.symm.trans hlen.symm)) hh
  | cons c cols => exact hsz c (List.mem_cons_self ..)

/-- **(b) ReadCSV, end to end.** For every RFC 4180 document (`RfcDoc`), every
delimiter other than `"`, LF, CR, every read schedule with reads ≥ 1, every buffer capacity, EOF reported with or after
the last data, every configuration (headers, types, enum values, EmptyNull, IgnoreEmptyLines, RenameDuplicateColumns,
MissingColumnNameAlias, RowCountHint) and every parse oracle: today's fastcsv reader composed with today's glue, type
inference, root entry and name check has a meaning and returns exactly what the specification says — `readCsvS po cfg doc`:
an error, or the frame. -/
theorem gen_readcsv_end_to_end (po : ParseOracle) (cfg : CsvCfg) (hintBig : Bool) (cap : Nat) (eofWD : Bool)
    (hd : cfg.delim ≠ 34 ∧ cfg.delim ≠ 10 ∧ cfg.delim ≠ 13)
    (doc : List Csv.Byte) (table : List (List (List Csv.Byte))) (hdoc : RfcDoc cfg.delim doc table)
    (sched : List Nat) (hs : ∀ k ∈ sched, 1 ≤ k) :
    genReadCsvFrame po cfg hintBig cap eofWD doc sched = some (readCsvS po cfg doc) := by
  obtain ⟨r, hr⟩ := hdoc.gen_read hd sched cap eofWD false hs
  have hparse := hdoc.parse hd
  have hglue := gen_csvglue_semantics po cfg hintBig table
  unfold genReadCsvFrame genReadCsvBytes
  rw [hr]
  simp only []
  have hfe : ((some Csv.RErr.eof : Option Csv.RErr) == some Csv.RErr.fail) = false := by decide
  rw [hfe]
  cases hg : genReadCsv po cfg hintBig (table.map fun r => (r, false)) false with
  | none => rw [hg] at hglue; simp at hglue
  | some x =>
    rw [hg] at hglue
    simp only [Option.map_some, Option.some.injEq] at hglue
    simp only [Option.bind_some]
    rw [hglue, gen_readcsv_entry, readCsvS_eq, hparse]
    congr 1
    cases hc : csvGlueS po cfg table with
    | none => rfl
    | some y =>
      obtain ⟨hs', cols, n⟩ := y
      simp only [Option.map_some]
      rw [newFrame_eq, csvGlueS_rowCount po cfg table hdoc.nonempty hs' cols n hc]

/-- **… independent of the fragmentation**, of the capacity of the buffer and of the EOF mode. -/
theorem gen_readcsv_schedule_independent (po : ParseOracle) (cfg : CsvCfg) (hintBig : Bool) (cap1 cap2 : Nat) (e1 e2 : Bool)
    (hd : cfg.delim ≠ 34 ∧ cfg.delim ≠ 10 ∧ cfg.delim ≠ 13)
    (doc : List Csv.Byte) (table : List (List (List Csv.Byte))) (hdoc : RfcDoc cfg.delim doc table)
    (s1 s2 : List Nat) (h1 : ∀ k ∈ s1, 1 ≤ k) (h2 : ∀ k ∈ s2, 1 ≤ k) :
    genReadCsvFrame po cfg hintBig cap1 e1 doc s1 = genReadCsvFrame po cfg hintBig cap2 e2 doc s2 := by
  rw [gen_readcsv_end_to_end po cfg hintBig cap1 e1 hd doc table hdoc s1 h1,
    gen_readcsv_end_to_end po cfg hintBig cap2 e2 hd doc table hdoc s2 h2]

/-! ## The hypotheses are satisfiable -/

/-- `"a␍⏎b",c⏎"␍x","␍⏎"⏎` (CR LF and a bare CR inside quoted fields) is an RFC 4180 document … -/
theorem demoCR_doc : RfcDoc 44 (renderDoc 44 demoCR) (demoCR.map (·.map (·.2))) := .lf demoCR demoCR_ok

/-- `a,"b␍⏎b"␍⏎"c",d␍⏎,⏎"x"␍⏎`: rows ended by CR LF (after unquoted and after quoted fields) and by LF -/
theorem demoT_doc : RfcDoc 44 (renderDocT 44 demoT) (demoT.map (·.1.map (·.2))) := .closed demoT demoT_ok

/-- … and so is `a,⏎"b",` — no final line break, a trailing delimiter -/
theorem demoOpen_doc : RfcDoc 44 (renderDoc 44 [[(false, [97]), (false, [])]] ++ renderFields 44 [(true, [98]), (false, [])])
    ([[[97], []]] ++ [[[98], []]]) :=
  .lf_open [[(false, [97]), (false, [])]] [(true, [98]), (false, [])]
    (by
      intro r hr
      simp only [List.cons_append, List.nil_append, List.mem_cons, List.not_mem_nil, or_false] at hr
      rcases hr with rfl | rfl <;> exact ⟨by decide, by decide, by decide⟩)
    (by decide)

/-- read three bytes, then one, two, one, … at a time, default configuration, any oracle: the composition is the spec -/
example (po : ParseOracle) : genReadCsvFrame po {} false 1024 false (renderDoc 44 demoCR) [3, 1, 2, 1] =
    some (readCsvS po {} (renderDoc 44 demoCR)) :=
  gen_readcsv_end_to_end po {} false 1024 false (by decide) _ _ demoCR_doc _ (by decide)

/-- one byte at a time into a 4-byte buffer, EOF together with the last byte, headers supplied, IgnoreEmptyLines -/
example (po : ParseOracle) :
    genReadCsvFrame po { headers := [[120], [121]], ignoreEmpty := true } true 4 true
      (renderDoc 44 [[(false, [97]), (false, [])]] ++ renderFields 44 [(true, [98]), (false, [])]) (List.replicate 40 1) =
    some (readCsvS po { headers := [[120], [121]], ignoreEmpty := true }
      (renderDoc 44 [[(false, [97]), (false, [])]] ++ renderFields 44 [(true, [98]), (false, [])])) :=
  gen_readcsv_end_to_end po _ true 4 true (by decide) _ _ demoOpen_doc _ (by decide)

/-- rows ended by CR LF, read two bytes at a time, with the types of both columns declared -/
example (po : ParseOracle) :
    genReadCsvFrame po { types := [([97], "string"), ([98, 13, 10, 98], "string")] } false 8 false (renderDocT 44 demoT)
      (List.replicate 30 2) =
    some (readCsvS po { types := [([97], "string"), ([98, 13, 10, 98], "string")] } (renderDocT 44 demoT)) :=
  gen_readcsv_end_to_end po _ false 8 false (by decide) _ _ demoT_doc _ (by decide)

example : ∃ res, Full.readAll 44 (C12CsvGen.docEscaped.length + 2) (C12CsvGen.docEscaped.length + 1) (Full.initFS C12CsvGen.docEscaped [2, 5]) [] = some res ∧
    rowsErrOf (CR.readAll Gen.csvFns C12CsvGen.docEscaped [1, 1, 1, 1, 1, 1, 1, 1] 44 4 none false false) = some (res.1, cv res.2) :=
  gen_csv_eq_full _ _ _ _ _ _ _ (by decide)

#print axioms csv_eq_full_loaded
#print axioms csv_eq_full
#print axioms csv_eq_full_total
#print axioms gen_csv_eq_full
#print axioms gen_csv_schedule_independent
#print axioms RfcDoc.csv_read
#print axioms RfcDoc.gen_read
#print axioms csvGlueS_sizes
#print axioms csvGlueS_rowCount
#print axioms gen_readcsv_end_to_end
#print axioms gen_readcsv_schedule_independent

end QF.Props.C12EndToEnd
