import QF.Props.C16RyuMain
/-!
# C16 — the meaning of the canonical Ryu terms (3): step 4 of `float64ToDecimal` and the function as a whole

* `g1_loop`, `g2_loop`, `c100_loop`, `c10_loop` — the four digit-removal loops of step 4 are the mirror's `loopGeneral1`, `loopGeneral2`, `loopCommon100`, `loopCommon10` (by `forLoop_sim` over the store layouts `genStore`, `comStore`),
  for every loop fuel of the interpretation that is larger, provided the value that shrinks is below `10^fuel` (so that the
  Go loop condition — not the fuel — ends the loop)
* `exec_general`, `exec_common` — the two cases of step 4 are `Ryu64.step4General`, `Ryu64.step4Common`
* `call_toDecimal` — function 1 returns `Ryu64.float64ToDecimal mant exp`
-/
namespace QF.Props.C16RyuGen
open QF QF.RY

/-! ## `float64ToDecimal`: step 4, the loops -/

theorem u8_mod10 (x : Nat) : ((x : Int) % 10 % 256).toNat = x % 10 := by omega

/-! The stores of step 4 as functions of the mirror's state: after the variables of steps 1 and 2 (`Pre`), 8, 9, 10, 12, 13, 14,
15 are the fields of `Ryu64.Gen`; `e10` (11) and `out` (16) are carried along; in the loops of the common case 12, 13, 15 are
carried along too and 17 is `roundUp`. -/
def genStore (p : Pre) (e10 out : Val) (s : Ryu64.Gen) : Store :=
  p.vals ++ [.u 64 s.vr, .u 64 s.vp, .u 64 s.vm, e10, .bool s.vmIsTrailingZeros, .bool s.vrIsTrailingZeros, .i 32 s.removed,
    .u 8 s.lastRemovedDigit, out]
def comStore (p : Pre) (e10 out f12 f13 last : Val) (s : Ryu64.Com) : Store :=
  p.vals ++ [.u 64 s.vr, .u 64 s.vp, .u 64 s.vm, e10, f12, f13, .i 32 s.removed, last, out, .bool s.roundUp]

section
variable (Γ : Env) (p : Pre) (e10 out e10' out' : Val) (s s' : Ryu64.Gen)
theorem genStore_length : (genStore p e10' out' s').length = (genStore p e10 out s).length := rfl
theorem genStore_take : (genStore p e10' out' s').take (genStore p e10 out s).length = genStore p e10' out' s' := rfl
theorem genStore_12 : (E.var 12).eval Γ (genStore p e10 out s) = some (.bool s.vmIsTrailingZeros) := rfl
end

theorem g1_body_brk (Γ : Env) (p : Pre) (e10 out : Val) (s : Ryu64.Gen) (hvp : s.vp / 10 ≤ s.vm / 10) :
    general1Body.exec Γ (genStore p e10 out s) = .brk (genStore p e10 out s) := by
  unfold genStore Pre.vals
  xlit
  apply scope_brk
  xstep
  xstep
  exact block_brk ((if_enter (decide_eq_true hvp) rfl).trans (scope_brk (block_brk rfl) rfl))
  rfl

theorem g1_body_next (Γ : Env) (p : Pre) (e10 out : Val) (s : Ryu64.Gen) (hvp : ¬ s.vp / 10 ≤ s.vm / 10)
    (hr0 : -2147483648 ≤ s.removed) (hr1 : s.removed + 1 < 2147483648) :
    general1Body.exec Γ (genStore p e10 out s) =
      .next (genStore p e10 out
        { vmIsTrailingZeros := s.vmIsTrailingZeros && s.vm % 10 == 0
          vrIsTrailingZeros := s.vrIsTrailingZeros && s.lastRemovedDigit == 0
          lastRemovedDigit := s.vr % 10, vr := s.vr / 10, vp := s.vp / 10, vm := s.vm / 10, removed := s.removed + 1 }) := by
  unfold genStore Pre.vals
  xlit
  rw [← wrapS32 _ (by omega : -2147483648 ≤ s.removed + 1) hr1, ← u8_mod10 s.vr]
  apply scope_next
  xstep
  xstep
  refine block_step (if_skip (decide_eq_false hvp) rfl) ?_
  xstep
  xstep
  xstep
  xstep (assign_of rfl (and_of rfl rfl))
  xstep (assign_of rfl (and_of rfl rfl))
  xstep
  xstep
  xstep
  xstep
  xstep
  rfl
  rfl

theorem g1_loop (Γ : Env) (p : Pre) (e10 out : Val) (fuel : Nat) (s : Ryu64.Gen) (F : Nat)
    (h : s.vp < 10 ^ fuel) (hF : fuel < F) (hr0 : -2147483648 ≤ s.removed) (hr1 : s.removed + fuel < 2147483648) :
    forLoop (condOf Γ (E.bool true)) (execOf Γ general1Body) (execOf Γ (S.block [])) F (genStore p e10 out s) =
      .next (genStore p e10 out (Ryu64.loopGeneral1 fuel s)) := by
  refine forLoop_sim _ _ _ (genStore p e10 out)
    (fun s => s.vp / 10 ≤ s.vm / 10) _
    (fun n s => s.vp < 10 ^ n ∧ -2147483648 ≤ s.removed ∧ s.removed + n < 2147483648)
    Ryu64.loopGeneral1 (fun _ => rfl) (fun _ _ => rfl) ?_ ?_ ?_ ?_ fuel s F ⟨h, hr0, hr1⟩ hF
  · intro s F hs
    exact forLoop_brk _ _ _ _ _ _ (condOf_true _ _) (g1_body_brk Γ _ _ _ s hs)
  · intro n s F hk hs
    exact forLoop_next _ _ _ _ _ _ (condOf_true _ _) (g1_body_next Γ _ _ _ s hs hk.2.1 (by omega)) rfl
  · intro n s hk hs
    have := hk.1
    rw [Nat.pow_succ] at this
    exact ⟨by dsimp only; omega, by dsimp only; omega, by dsimp only; omega⟩
  · intro s hk
    have := hk.1
    omega

theorem g2_body_brk (Γ : Env) (p : Pre) (e10 out : Val) (s : Ryu64.Gen) (hvm : (s.vm % 10 != 0) = true) :
    general2Body.exec Γ (genStore p e10 out s) = .brk (genStore p e10 out s) := by
  unfold genStore Pre.vals
  xlit
  apply scope_brk
  xstep
  xstep
  exact block_brk ((if_enter hvm rfl).trans (scope_brk (block_brk rfl) rfl))
  rfl

theorem g2_body_next (Γ : Env) (p : Pre) (e10 out : Val) (s : Ryu64.Gen) (hvm : (s.vm % 10 != 0) = false)
    (hr0 : -2147483648 ≤ s.removed) (hr1 : s.removed + 1 < 2147483648) :
    general2Body.exec Γ (genStore p e10 out s) =
      .next (genStore p e10 out
        { vmIsTrailingZeros := s.vmIsTrailingZeros
          vrIsTrailingZeros := s.vrIsTrailingZeros && s.lastRemovedDigit == 0
          lastRemovedDigit := s.vr % 10, vr := s.vr / 10, vp := s.vp / 10, vm := s.vm / 10, removed := s.removed + 1 }) := by
  unfold genStore Pre.vals
  xlit
  rw [← wrapS32 _ (by omega : -2147483648 ≤ s.removed + 1) hr1, ← u8_mod10 s.vr]
  apply scope_next
  xstep
  xstep
  refine block_step (if_skip hvm rfl) ?_
  xstep
  xstep
  xstep
  xstep (assign_of rfl (and_of rfl rfl))
  xstep
  xstep
  xstep
  xstep
  xstep
  rfl
  rfl

theorem g2_loop (Γ : Env) (p : Pre) (e10 out : Val) (fuel : Nat) (s : Ryu64.Gen) (F : Nat)
    (h0 : s.vm ≠ 0) (h : s.vm < 10 ^ fuel) (hF : fuel < F) (hr0 : -2147483648 ≤ s.removed) (hr1 : s.removed + fuel < 2147483648) :
    forLoop (condOf Γ (E.bool true)) (execOf Γ general2Body) (execOf Γ (S.block [])) F (genStore p e10 out s) =
      .next (genStore p e10 out (Ryu64.loopGeneral2 fuel s)) := by
  refine forLoop_sim _ _ _ (genStore p e10 out)
    (fun s => (s.vm % 10 != 0) = true) _
    (fun n s => s.vm ≠ 0 ∧ s.vm < 10 ^ n ∧ -2147483648 ≤ s.removed ∧ s.removed + n < 2147483648)
    Ryu64.loopGeneral2 (fun _ => rfl) (fun _ _ => rfl) ?_ ?_ ?_ ?_ fuel s F ⟨h0, h, hr0, hr1⟩ hF
  · intro s F hs
    exact forLoop_brk _ _ _ _ _ _ (condOf_true _ _) (g2_body_brk Γ _ _ _ s hs)
  · intro n s F hk hs
    exact forLoop_next _ _ _ _ _ _ (condOf_true _ _)
      (g2_body_next Γ _ _ _ s (Bool.eq_false_iff.mpr hs) hk.2.2.1 (by omega)) rfl
  · intro n s hk hs
    have hm : s.vm % 10 = 0 := bne_eq_false_iff_eq.mp (Bool.eq_false_iff.mpr hs)
    have := hk.2.1
    rw [Nat.pow_succ] at this
    exact ⟨by dsimp only; omega, by dsimp only; omega, by dsimp only; omega, by dsimp only; omega⟩
  · intro s hk
    have := hk.2.1
    omega

theorem c100_body (Γ : Env) (p : Pre) (e10 out f12 f13 last : Val) (s : Ryu64.Com)
    (hr0 : -2147483648 ≤ s.removed) (hr1 : s.removed + 2 < 2147483648) :
    common100Body.exec Γ (comStore p e10 out f12 f13 last s) =
      .next (comStore p e10 out f12 f13 last
        { roundUp := s.vr % 100 ≥ 50, vr := s.vr / 100, vp := s.vp / 100, vm := s.vm / 100, removed := s.removed + 2 }) := by
  unfold comStore Pre.vals
  xlit
  rw [← wrapS32 _ (by omega : -2147483648 ≤ s.removed + 2) hr1]
  apply scope_next
  xstep
  xstep
  xstep
  xstep
  xstep
  rfl
  rfl

theorem c100_loop (Γ : Env) (p : Pre) (e10 out f12 f13 last : Val) (fuel : Nat) (s : Ryu64.Com) (F : Nat)
    (h : s.vp < 100 ^ fuel) (hF : fuel < F) (hr0 : -2147483648 ≤ s.removed) (hr1 : s.removed + 2 * fuel < 2147483648) :
    forLoop (condOf Γ common100Cond) (execOf Γ common100Body) (execOf Γ (S.block [])) F
        (comStore p e10 out f12 f13 last s) =
      .next (comStore p e10 out f12 f13 last (Ryu64.loopCommon100 fuel s)) := by
  refine forLoop_sim _ _ _ (comStore p e10 out f12 f13 last)
    (fun s => ¬ s.vp / 100 > s.vm / 100) _
    (fun n s => s.vp < 100 ^ n ∧ -2147483648 ≤ s.removed ∧ s.removed + 2 * n < 2147483648)
    Ryu64.loopCommon100 (fun _ => rfl) (fun _ _ => by rw [Ryu64.loopCommon100, ite_not]) ?_ ?_ ?_ ?_ fuel s F ⟨h, hr0, hr1⟩ hF
  · intro s F hs
    exact forLoop_exit _ _ _ _ _ _ (cond_false (decide_eq_false hs) rfl)
  · intro n s F hk hs
    exact forLoop_next _ _ _ _ _ _ (cond_true (decide_eq_true (Decidable.not_not.mp hs)) rfl)
      (c100_body Γ _ _ _ _ _ _ s hk.2.1 (by omega)) rfl
  · intro n s hk hs
    have := hk.1
    rw [Nat.pow_succ] at this
    exact ⟨by dsimp only; omega, by dsimp only; omega, by dsimp only; omega⟩
  · intro s hk
    have := hk.1
    omega

theorem c10_body (Γ : Env) (p : Pre) (e10 out f12 f13 last : Val) (s : Ryu64.Com)
    (hr0 : -2147483648 ≤ s.removed) (hr1 : s.removed + 1 < 2147483648) :
    common10Body.exec Γ (comStore p e10 out f12 f13 last s) =
      .next (comStore p e10 out f12 f13 last
        { roundUp := s.vr % 10 ≥ 5, vr := s.vr / 10, vp := s.vp / 10, vm := s.vm / 10, removed := s.removed + 1 }) := by
  unfold comStore Pre.vals
  xlit
  rw [← wrapS32 _ (by omega : -2147483648 ≤ s.removed + 1) hr1]
  apply scope_next
  xstep
  xstep
  xstep
  xstep
  xstep
  rfl
  rfl

theorem c10_loop (Γ : Env) (p : Pre) (e10 out f12 f13 last : Val) (fuel : Nat) (s : Ryu64.Com) (F : Nat)
    (h : s.vp < 10 ^ fuel) (hF : fuel < F) (hr0 : -2147483648 ≤ s.removed) (hr1 : s.removed + fuel < 2147483648) :
    forLoop (condOf Γ common10Cond) (execOf Γ common10Body) (execOf Γ (S.block [])) F
        (comStore p e10 out f12 f13 last s) =
      .next (comStore p e10 out f12 f13 last (Ryu64.loopCommon10 fuel s)) := by
  refine forLoop_sim _ _ _ (comStore p e10 out f12 f13 last)
    (fun s => ¬ s.vp / 10 > s.vm / 10) _
    (fun n s => s.vp < 10 ^ n ∧ -2147483648 ≤ s.removed ∧ s.removed + n < 2147483648)
    Ryu64.loopCommon10 (fun _ => rfl) (fun _ _ => by rw [Ryu64.loopCommon10, ite_not]) ?_ ?_ ?_ ?_ fuel s F ⟨h, hr0, hr1⟩ hF
  · intro s F hs
    exact forLoop_exit _ _ _ _ _ _ (cond_false (decide_eq_false hs) rfl)
  · intro n s F hk hs
    exact forLoop_next _ _ _ _ _ _ (cond_true (decide_eq_true (Decidable.not_not.mp hs)) rfl)
      (c10_body Γ _ _ _ _ _ _ s hk.2.1 (by omega)) rfl
  · intro n s hk hs
    have := hk.1
    rw [Nat.pow_succ] at this
    exact ⟨by dsimp only; omega, by dsimp only; omega, by dsimp only; omega⟩
  · intro s hk
    have := hk.1
    omega

/-! ## facts about the mirror's loops -/

theorem lc100_facts : ∀ (fuel : Nat) (s : Ryu64.Com),
    (Ryu64.loopCommon100 fuel s).vp ≤ s.vp ∧ s.removed ≤ (Ryu64.loopCommon100 fuel s).removed ∧
      (Ryu64.loopCommon100 fuel s).removed ≤ s.removed + 2 * fuel := by
  intro fuel
  induction fuel with
  | zero => intro s; simp [Ryu64.loopCommon100]
  | succ fuel ih =>
    intro s
    unfold Ryu64.loopCommon100
    split
    · obtain ⟨a, b, c⟩ := ih { roundUp := decide (s.vr % 100 ≥ 50), vr := s.vr / 100, vp := s.vp / 100, vm := s.vm / 100, removed := s.removed + 2 }
      simp only at a b c
      refine ⟨?_, ?_, ?_⟩
      · exact Nat.le_trans a (Nat.div_le_self _ _)
      · omega
      · omega
    · simp; omega

theorem lc10_facts : ∀ (fuel : Nat) (s : Ryu64.Com),
    s.removed ≤ (Ryu64.loopCommon10 fuel s).removed ∧ (Ryu64.loopCommon10 fuel s).removed ≤ s.removed + fuel := by
  intro fuel
  induction fuel with
  | zero => intro s; simp [Ryu64.loopCommon10]
  | succ fuel ih =>
    intro s
    unfold Ryu64.loopCommon10
    split
    · obtain ⟨b, c⟩ := ih { roundUp := decide (s.vr % 10 ≥ 5), vr := s.vr / 10, vp := s.vp / 10, vm := s.vm / 10, removed := s.removed + 1 }
      simp only at b c
      constructor <;> omega
    · simp; omega

theorem lg1_facts : ∀ (fuel : Nat) (s : Ryu64.Gen),
    (Ryu64.loopGeneral1 fuel s).vm ≤ s.vm ∧ s.removed ≤ (Ryu64.loopGeneral1 fuel s).removed ∧
      (Ryu64.loopGeneral1 fuel s).removed ≤ s.removed + fuel ∧
      ((Ryu64.loopGeneral1 fuel s).vmIsTrailingZeros = true → s.vm ≠ 0 → (Ryu64.loopGeneral1 fuel s).vm ≠ 0) ∧
      (s.vmIsTrailingZeros = false → (Ryu64.loopGeneral1 fuel s).vmIsTrailingZeros = false) := by
  intro fuel
  induction fuel with
  | zero => intro s; simp [Ryu64.loopGeneral1]
  | succ fuel ih =>
    intro s
    unfold Ryu64.loopGeneral1
    dsimp only
    split
    · simp; omega
    · obtain ⟨a, b, c, d, e⟩ := ih ⟨s.vr / 10, s.vp / 10, s.vm / 10, s.removed + 1, s.vr % 10,
        s.vmIsTrailingZeros && s.vm % 10 == 0, s.vrIsTrailingZeros && s.lastRemovedDigit == 0⟩
      simp only at a b c d e
      refine ⟨?_, ?_, ?_, ?_, ?_⟩
      · exact Nat.le_trans a (Nat.div_le_self _ _)
      · omega
      · omega
      · intro h1 h2
        by_cases h3 : s.vm / 10 = 0
        · exfalso
          have h4 : (s.vmIsTrailingZeros && s.vm % 10 == 0) = false := by
            have : ¬ s.vm % 10 = 0 := by omega
            simp [this]
          rw [e h4] at h1
          cases h1
        · exact d h1 h3
      · intro h1
        apply e
        simp [h1]

theorem lg2_facts : ∀ (fuel : Nat) (s : Ryu64.Gen),
    s.removed ≤ (Ryu64.loopGeneral2 fuel s).removed ∧ (Ryu64.loopGeneral2 fuel s).removed ≤ s.removed + fuel := by
  intro fuel
  induction fuel with
  | zero => intro s; simp [Ryu64.loopGeneral2]
  | succ fuel ih =>
    intro s
    unfold Ryu64.loopGeneral2
    dsimp only
    split
    · simp; omega
    · obtain ⟨b, c⟩ := ih ⟨s.vr / 10, s.vp / 10, s.vm / 10, s.removed + 1, s.vr % 10,
        s.vmIsTrailingZeros, s.vrIsTrailingZeros && s.lastRemovedDigit == 0⟩
      simp only at b c
      constructor <;> omega

/-! ## `float64ToDecimal`: step 4, the two cases -/

/-- the states after the loops of the two cases (from `C16Core.gen0`, the state step 4 starts from), the last removed digit after
the tie rule and the output of the general case: the `let`s of `Ryu64.step4General` / `step4Common` -/
def genFinal (s3 : Ryu64.Step3) : Ryu64.Gen :=
  if (Ryu64.loopGeneral1 20 (C16Core.gen0 s3)).vmIsTrailingZeros then Ryu64.loopGeneral2 20 (Ryu64.loopGeneral1 20 (C16Core.gen0 s3))
  else Ryu64.loopGeneral1 20 (C16Core.gen0 s3)
def comFinal (s3 : Ryu64.Step3) : Ryu64.Com := Ryu64.loopCommon10 20 (Ryu64.loopCommon100 20 { vr := s3.vr, vp := s3.vp, vm := s3.vm })
def genLast (g : Ryu64.Gen) : Nat :=
  if g.vrIsTrailingZeros && g.lastRemovedDigit == 5 && g.vr % 2 == 0 then 4 else g.lastRemovedDigit
def genOut (g : Ryu64.Gen) (ab : Bool) : Nat :=
  if (g.vr == g.vm && (!ab || !g.vmIsTrailingZeros)) || genLast g ≥ 5 then Ryu64.u64 (g.vr + 1) else g.vr

theorem step4General_gen (s3 : Ryu64.Step3) (ab : Bool) :
    Ryu64.step4General s3 ab = (genOut (genFinal s3) ab, (genFinal s3).removed) := rfl
theorem step4Common_com (s3 : Ryu64.Step3) : Ryu64.step4Common s3 =
    (Ryu64.u64 ((comFinal s3).vr + Ryu64.boolToNat ((comFinal s3).vr == (comFinal s3).vm || (comFinal s3).roundUp)), (comFinal s3).removed) := rfl

theorem exec_common (Γ : Env) (hb64 : ∀ b, Γ.call fBoolToUint64 [.bool b] = some (.u 64 (Ryu64.boolToNat b))) (hfuel : 20 < Γ.fuel)
    (p : Pre) (e10 out : Val) (s3 : Ryu64.Step3) (hvp : s3.vp < 10 ^ 20) :
    commonPart.exec Γ (genStore p e10 out (C16Core.gen0 s3)) =
      .next (genStore p e10 (.u 64 (Ryu64.step4Common s3).1)
        { C16Core.gen0 s3 with vr := (comFinal s3).vr, vp := (comFinal s3).vp, vm := (comFinal s3).vm, removed := (comFinal s3).removed }) := by
  have f100 := lc100_facts 20 { vr := s3.vr, vp := s3.vp, vm := s3.vm }
  have l100 := c100_loop Γ p e10 out (.bool s3.vmIsTrailingZeros) (.bool s3.vrIsTrailingZeros) (.u 8 0) 20
    { vr := s3.vr, vp := s3.vp, vm := s3.vm } Γ.fuel (by simp; omega) hfuel (by simp) (by simp)
  rw [step4Common_com]
  unfold comFinal
  generalize Ryu64.loopCommon100 20 { vr := s3.vr, vp := s3.vp, vm := s3.vm } = c1 at f100 l100 ⊢
  simp only at f100
  have f10 := lc10_facts 20 c1
  have l10 := c10_loop Γ p e10 out (.bool s3.vmIsTrailingZeros) (.bool s3.vrIsTrailingZeros) (.u 8 0) 20 c1 Γ.fuel
    (by omega) hfuel (by omega) (by omega)
  generalize Ryu64.loopCommon10 20 c1 = c2 at f10 l10 ⊢
  unfold comStore Pre.vals at l100 l10
  simp only [commonPart, common100, common10, genStore, Pre.vals, C16Core.gen0]
  xlit
  apply scope_next
  xstep
  xstep (for_next rfl l100 rfl)
  xstep (for_next rfl l10 rfl)
  xstep (assign_of rfl (bin_of rfl (call1_of (or_of rfl rfl) (hb64 _)) rfl))
  rfl
  rfl

/-- the end of the general case after the tie rule: `out = vr`, then the final rounding -/
theorem exec_generalRound (Γ : Env) (p : Pre) (e10 out : Val) (g : Ryu64.Gen) :
    (S.block (generalFinish.drop 1)).exec Γ (genStore p e10 out g) =
      .next (genStore p e10 (.u 64 (if (g.vr == g.vm && (!p.ab || !g.vmIsTrailingZeros)) || g.lastRemovedDigit ≥ 5 then
        Ryu64.u64 (g.vr + 1) else g.vr)) g) := by
  simp only [generalFinish, List.drop_succ_cons, List.drop_zero, genStore, Pre.vals]
  xlit
  xstep
  by_cases hc : ((g.vr == g.vm && (!p.ab || !g.vmIsTrailingZeros)) || decide (g.lastRemovedDigit ≥ 5)) = true
  · rw [if_pos hc]
    exact block_step ((if_enter hc (or_of (and_of rfl (or_of rfl rfl)) rfl)).trans (scope_assign rfl rfl)) rfl
  · rw [if_neg hc]
    exact block_step (if_skip (Bool.eq_false_iff.mpr hc) (or_of (and_of rfl (or_of rfl rfl)) rfl)) rfl

theorem exec_generalFinish (Γ : Env) (p : Pre) (e10 out : Val) (g : Ryu64.Gen) :
    (S.block generalFinish).exec Γ (genStore p e10 out g) =
      .next (genStore p e10 (.u 64 (genOut g p.ab)) { g with lastRemovedDigit := genLast g }) := by
  unfold generalFinish
  by_cases ht : (g.vrIsTrailingZeros && g.lastRemovedDigit == 5 && g.vr % 2 == 0) = true
  · refine block_step (σ' := genStore p e10 out { g with lastRemovedDigit := 4 })
      ((if_enter ht (and_of (and_of rfl rfl) rfl)).trans (scope_assign rfl rfl)) ?_
    refine (exec_generalRound Γ p e10 out _).trans ?_
    simp [genLast, genOut, ht]
  · refine block_step (if_skip (Bool.eq_false_iff.mpr ht) (and_of (and_of rfl rfl) rfl)) ?_
    refine (exec_generalRound Γ p e10 out g).trans ?_
    simp [genLast, genOut, ht]

theorem exec_general (Γ : Env) (hfuel : 20 < Γ.fuel) (p : Pre) (e10 out : Val) (s3 : Ryu64.Step3)
    (hvp : s3.vp < 10 ^ 20) (hvm0 : s3.vm ≠ 0) (hvm : s3.vm < 10 ^ 20) :
    generalPart.exec Γ (genStore p e10 out (C16Core.gen0 s3)) =
      .next (genStore p e10 (.u 64 (genOut (genFinal s3) p.ab)) { genFinal s3 with lastRemovedDigit := genLast (genFinal s3) }) := by
  have f1 := lg1_facts 20 (C16Core.gen0 s3)
  have l1 := g1_loop Γ p e10 out 20 (C16Core.gen0 s3) Γ.fuel hvp hfuel (by simp [C16Core.gen0]) (by simp [C16Core.gen0])
  unfold genFinal
  generalize Ryu64.loopGeneral1 20 (C16Core.gen0 s3) = g1 at f1 l1 ⊢
  simp only [C16Core.gen0] at f1
  obtain ⟨f1a, f1b, f1c, f1d, f1e⟩ := f1
  simp only [generalPart, general1, general2, List.cons_append, List.nil_append]
  -- the loops and the finish are lemmas over the layout: the store is not looked into here, but for its length and `vmIsTrailingZeros`
  refine scope_same ?_ (genStore_length ..)
  refine block_step (for_next rfl l1 (genStore_take ..)) ?_
  by_cases hz : g1.vmIsTrailingZeros = true
  · have l2 := g2_loop Γ p e10 out 20 g1 Γ.fuel (f1d hz hvm0) (by omega) hfuel (by omega) (by omega)
    rewrite [if_pos hz]
    refine block_step ((if_enter hz (genStore_12 ..)).trans
      (scope_next (block_step (for_next rfl l2 rfl) rfl) (genStore_take ..))) ?_
    exact exec_generalFinish Γ p e10 out _
  · rewrite [if_neg hz]
    refine block_step (if_skip (Bool.eq_false_iff.mpr hz) (genStore_12 ..)) ?_
    exact exec_generalFinish Γ p e10 out g1

/-! ## `float64ToDecimal` as a whole -/

theorem genFinal_removed (s3 : Ryu64.Step3) : 0 ≤ (genFinal s3).removed ∧ (genFinal s3).removed ≤ 40 := by
  have f1 := lg1_facts 20 (C16Core.gen0 s3)
  have f2 := lg2_facts 20 (Ryu64.loopGeneral1 20 (C16Core.gen0 s3))
  have h0 : (C16Core.gen0 s3).removed = 0 := rfl
  unfold genFinal
  split <;> omega

theorem comFinal_removed (s3 : Ryu64.Step3) : 0 ≤ (comFinal s3).removed ∧ (comFinal s3).removed ≤ 60 := by
  have f1 := lc100_facts 20 { vr := s3.vr, vp := s3.vp, vm := s3.vm }
  have f2 := lc10_facts 20 (Ryu64.loopCommon100 20 { vr := s3.vr, vp := s3.vp, vm := s3.vm })
  unfold comFinal
  simp only at f1
  omega

theorem exec_toDecimal_tail (Γ : Env) (ok : EnvOk Γ) (hfuel : 20 < Γ.fuel) (p : Pre) (s3 : Ryu64.Step3)
    (hvm0 : s3.vm ≠ 0) (hvm : s3.vm < 10 ^ 20) (hvp : s3.vp < 10 ^ 20) (he0 : -2000 ≤ s3.e10) (he1 : s3.e10 ≤ 2000) :
    (S.block (step4Decls ++ [step4Stmt, retStmt])).exec Γ (s3Store p s3) =
      .ret (.pair (.u 64 (Ryu64.step4 s3 p.ab).1) (.i 32 (s3.e10 + (Ryu64.step4 s3 p.ab).2))) := by
  simp only [step4Decls, List.cons_append, List.nil_append, s3Store, Pre.vals]
  xstep
  xstep
  xstep
  simp only [step4Stmt, retStmt]
  by_cases hf : (s3.vmIsTrailingZeros || s3.vrIsTrailingZeros) = true
  · have hst : Ryu64.step4 s3 p.ab = Ryu64.step4General s3 p.ab := by unfold Ryu64.step4; rw [if_pos hf]
    have hr := genFinal_removed s3
    rewrite [hst, step4General_gen]
    refine block_step ((if_enter hf (or_of rfl rfl)).trans (exec_general Γ hfuel p (.i 32 s3.e10) (.u 64 0) s3 hvp hvm0 hvm)) ?_
    generalize genFinal s3 = g at hr ⊢
    unfold genStore Pre.vals
    xlit
    refine (block_ret rfl).trans ?_
    rw [wrapS32 _ (by omega) (by omega)]
  · have hst : Ryu64.step4 s3 p.ab = Ryu64.step4Common s3 := by unfold Ryu64.step4; rw [if_neg hf]
    have hr := comFinal_removed s3
    rewrite [hst]
    refine block_step ((if_else (Bool.eq_false_iff.mpr hf) (or_of rfl rfl)).trans
      (exec_common Γ ok.b64 hfuel p (.i 32 s3.e10) (.u 64 0) s3 hvp)) ?_
    rewrite [step4Common_com]
    generalize comFinal s3 = c at hr ⊢
    unfold genStore Pre.vals
    xlit
    refine (block_ret rfl).trans ?_
    rw [wrapS32 _ (by omega) (by omega)]

theorem exec_toDecimal (Γ : Env) (ok : EnvOk Γ) (hfuel : 20 < Γ.fuel) (mant exp : Nat) (hm : mant < 2 ^ 52) (he : exp < 2047)
    (hnz : mant ≠ 0 ∨ exp ≠ 0) (hvm0 : (Ryu64.step3 mant exp).vm ≠ 0) (hvm : (Ryu64.step3 mant exp).vm < 10 ^ 20)
    (hvp : (Ryu64.step3 mant exp).vp < 10 ^ 20) (ok3 : Step3Ok exp) :
    fnToDecimal.body.exec Γ [.u 64 mant, .u 64 exp] =
      .ret (.pair (.u 64 (Ryu64.float64ToDecimal mant exp).m) (.i 32 (Ryu64.float64ToDecimal mant exp).e)) := by
  have he10 := ok3.e10 mant
  simp only [fnToDecimal, List.append_assoc, List.cons_append, List.nil_append]
  exact block_append (exec_step12 Γ ok.b64 mant exp he) (block_step (exec_step3 Γ ok _ _ mant exp hm he hnz ok3)
    (exec_toDecimal_tail Γ ok hfuel _ (Ryu64.step3 mant exp) hvm0 hvm hvp he10.1 he10.2))

/-- function 1 (`float64ToDecimal`) returns what the mirror computes — for the fields of a finite non-zero float64 whose `vm`
of step 3 is not 0 (which `C16RyuGen` derives from the precision lemma: the second loop of the general case does not stop for 0) -/
theorem call_toDecimal (F : Nat) (fr : Nat → List UInt8) (n : Nat) (hF : 28 ≤ F) (mant exp : Nat) (hm : mant < 2 ^ 52) (he : exp < 2047)
    (hnz : mant ≠ 0 ∨ exp ≠ 0) (hvm0 : (Ryu64.step3 mant exp).vm ≠ 0) (hvm : (Ryu64.step3 mant exp).vm < 10 ^ 20)
    (hvp : (Ryu64.step3 mant exp).vp < 10 ^ 20) (ok3 : Step3Ok exp) :
    callAt canonFns T F fr (n+3) fToDecimal [.u 64 mant, .u 64 exp] =
      some (.pair (.u 64 (Ryu64.float64ToDecimal mant exp).m) (.i 32 (Ryu64.float64ToDecimal mant exp).e)) :=
  call_of look_toDecimal rfl
    (exec_toDecimal (env F fr (n+2)) (envOk F fr n hF) (by rw [env_fuel]; omega) mant exp hm he hnz hvm0 hvm hvp ok3)

end QF.Props.C16RyuGen
