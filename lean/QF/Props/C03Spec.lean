import QF.Core.Compare
/-!
# C03 — the sentence describing "Sort", stated over abstract keys

Everything here is over `Cmp.Key = Nat → Option Int` (a row number to an optional rank) and the hand mirror
`Sorter.sort`, with `equalNull = false` throughout (`Cmp.mkKeys`); nothing here relates these keys to the spec's
`keyCmp` / `rowLess` on cells. The statement about `QFrame.Sort` of today's source against the spec is
`QF.Props.C03EndToEnd.gen_sort_end_to_end`.

The property: *consecutive rows never decrease under the lexicographic comparison of the
order keys; per key the natural order with null smaller than every value (larger with NullLast),
Reverse inverting that key's complete order including the null placement; the result is a
permutation.*

* `keyOrd`   : the order of two rows under one key, exactly as the sentence says.
* `lexLess`  : lexicographic strict "less" over the list of keys (first key that is not `.eq` decides).
* `lessKeys_eq_lexLess` : the mirror's comparison (`Cmp.lessKeys (Cmp.mkKeys ks)`, built from the
  `Comparable(reverse, equalNull, nullLast)` tables) *is* the documented one.
* `sort_user_level_all_pairs` : the result of the mirror sorter is a permutation with no descent between any earlier/later
  pair (`Cmp.sort_by_orders`, whose `Sorter.Sorted` speaks of all pairs); `sort_user_level` : its case of consecutive rows.
* `no_descent_all_pairs_of_swo` / `no_descent_all_pairs` : for any strict weak order (`lexLess_swo`: `lexLess` is one), no
  consecutive descent implies no descent between any earlier/later pair.
-/
namespace QF.Props.C03

/-- Order of rows `i`, `j` under one key: nulls first (last with `nullLast`), two nulls are equal,
    otherwise the ranks are compared; `reverse` swaps the complete order, null placement included. -/
def keyOrd (reverse nullLast : Bool) (k : Cmp.Key) (i j : Nat) : Ordering :=
  let base : Ordering :=
    match k i, k j with
    | none, none => .eq
    | none, some _ => if nullLast then .gt else .lt
    | some _, none => if nullLast then .lt else .gt
    | some x, some y => compare x y
  if reverse then base.swap else base

/-- Lexicographic strict "less" of rows `i`, `j`: the first key whose `keyOrd` is not `.eq` decides. -/
def lexLess : List (Bool × Bool × Cmp.Key) → Nat → Nat → Bool
  | [], _, _ => false
  | (r, n, k) :: ks, i, j =>
    match keyOrd r n k i j with
    | .lt => true
    | .gt => false
    | .eq => lexLess ks i j

open QF.Props.C03RowOrder (sw lexCmp) in
/-- `keyOrd` compares the two ranks of an entry (null class, value), the whole reversed with `reverse` -/
theorem keyOrd_eq_lex (reverse nullLast : Bool) (k : Cmp.Key) (i j : Nat) :
    keyOrd reverse nullLast k i j = sw reverse (lexCmp (Cmp.entryComps nullLast) (k i) (k j)) := by
  unfold keyOrd sw
  cases k i <;> cases k j
  case some.some x y => rw [Cmp.entryComps_some]
  all_goals cases nullLast <;> rfl

/-- the comparison table built for an order `(reverse, nullLast)` with `equalNull = false` realises exactly `keyOrd` -/
theorem compare_eq_keyOrd (reverse nullLast : Bool) (k : Cmp.Key) (i j : Nat) :
    (Cmp.compare (Cmp.mkTbl reverse false nullLast) k i j).ord = keyOrd reverse nullLast k i j :=
  (Cmp.compare_ord_eq_lex reverse nullLast k i j).trans (keyOrd_eq_lex reverse nullLast k i j).symm

/-- the mirror's `Less` is the documented lexicographic comparison. -/
theorem lessKeys_eq_lexLess (ks : List (Bool × Bool × Cmp.Key)) (i j : Nat) :
    Cmp.lessKeys (Cmp.mkKeys ks) i j = lexLess ks i j := by
  induction ks with
  | nil => rfl
  | cons x ks ih =>
    obtain ⟨r, n, k⟩ := x
    have h := compare_eq_keyOrd r n k i j
    have ih' : Cmp.lessKeys (List.map (fun x : Bool × Bool × Cmp.Key =>
        (Cmp.mkTbl x.1 false x.2.1, x.2.2)) ks) i j = lexLess ks i j := ih
    simp only [Cmp.mkKeys, List.map_cons, Cmp.lessKeys, lexLess]
    rw [← h]
    cases hc : Cmp.compare (Cmp.mkTbl r false n) k i j <;> simp only [Cmp.Res.ord] <;> exact ih'

theorem lessKeys_eq_lexLess_fun (ks : List (Bool × Bool × Cmp.Key)) :
    Cmp.lessKeys (Cmp.mkKeys ks) = lexLess ks := by
  funext i j; exact lessKeys_eq_lexLess ks i j

theorem lexLess_swo (ks : List (Bool × Bool × Cmp.Key)) : Sorter.SWO (lexLess ks) := by
  rw [← lessKeys_eq_lexLess_fun]; exact Cmp.lessKeys_swo ks

theorem at'_eq_getElem! (a : Sorter.Ix) (p : Nat) : Sorter.at' a p = a[p]! := rfl

/-- `Sorter.Sorted` speaks of every earlier/later pair, so this is `Cmp.sort_by_orders` read through `lessKeys_eq_lexLess` -/
theorem sort_user_level_all_pairs (ks : List (Bool × Bool × Cmp.Key)) (ix : Sorter.Ix) :
    let out := Sorter.sort (Cmp.lessKeys (Cmp.mkKeys ks)) ix
    out.Perm ix ∧ ∀ p q, p < q → q < out.size → lexLess ks out[q]! out[p]! = false := by
  intro out
  obtain ⟨hs, hp⟩ := Cmp.sort_by_orders ks ix
  refine ⟨hp, fun p q hpq hq => ?_⟩
  rw [← lessKeys_eq_lexLess]
  exact hs p q (Nat.zero_le _) hpq (hp.size_eq ▸ hq)

theorem sort_user_level (ks : List (Bool × Bool × Cmp.Key)) (ix : Sorter.Ix) :
    let out := Sorter.sort (Cmp.lessKeys (Cmp.mkKeys ks)) ix
    out.Perm ix ∧ ∀ p, p + 1 < out.size → lexLess ks out[p+1]! out[p]! = false :=
  ⟨(sort_user_level_all_pairs ks ix).1, fun p hp => (sort_user_level_all_pairs ks ix).2 p (p + 1) (Nat.lt_succ_self p) hp⟩

/-- `SWO.le_trans` chained along the positions between `p` and `q`. -/
theorem no_descent_all_pairs_of_swo (less : Nat → Nat → Bool) (sw0 : Sorter.SWO less) (out : Sorter.Ix)
    (h : ∀ p, p + 1 < out.size → less out[p+1]! out[p]! = false) :
    ∀ p q, p < q → q < out.size → less out[q]! out[p]! = false := by
  intro p q hpq
  -- induction on the distance d = q - (p+1)
  obtain ⟨d, rfl⟩ : ∃ d, q = p + 1 + d := ⟨q - (p + 1), by omega⟩
  clear hpq
  induction d with
  | zero => intro hq; exact h p hq
  | succ d ih =>
    intro hq
    have h1 : less out[p + 1 + d]! out[p]! = false := ih (by omega)
    have h2 : less out[p + 1 + d + 1]! out[p + 1 + d]! = false := h (p + 1 + d) hq
    exact sw0.le_trans _ _ _ h1 h2

theorem no_descent_all_pairs (ks : List (Bool × Bool × Cmp.Key)) (out : Sorter.Ix)
    (h : ∀ p, p + 1 < out.size → lexLess ks out[p+1]! out[p]! = false) :
    ∀ p q, p < q → q < out.size → lexLess ks out[q]! out[p]! = false :=
  no_descent_all_pairs_of_swo (lexLess ks) (lexLess_swo ks) out h

/-! ## Concrete instance: two keys (first reversed, second nullLast), five rows -/

/-- first key: ranks 2,1,2,null,1 (sorted in reverse, so null — normally first — comes last) -/
def exK1 : Cmp.Key := fun i => match i with | 0 => some 2 | 1 => some 1 | 2 => some 2 | 3 => none | 4 => some 1 | _ => none
/-- second key: ranks 5,null,3,7,4 (nullLast) -/
def exK2 : Cmp.Key := fun i => match i with | 0 => some 5 | 1 => none | 2 => some 3 | 3 => some 7 | 4 => some 4 | _ => none
def exKs : List (Bool × Bool × Cmp.Key) := [(true, false, exK1), (false, true, exK2)]

/-- key 1 descending: rows {0,2} (rank 2), then {1,4} (rank 1), then 3 (null, placed last by Reverse);
    ties broken by key 2 ascending with null last: 2 (3) before 0 (5); 4 (4) before 1 (null). -/
example : Sorter.sort (Cmp.lessKeys (Cmp.mkKeys exKs)) #[0, 1, 2, 3, 4] = #[2, 0, 4, 1, 3] := by decide

example : (List.range 5).map (fun i => (List.range 5).map (fun j => keyOrd true false exK1 i j)) =
    [[.eq, .lt, .eq, .lt, .lt], [.gt, .eq, .gt, .lt, .eq], [.eq, .lt, .eq, .lt, .lt],
     [.gt, .gt, .gt, .eq, .gt], [.gt, .eq, .gt, .lt, .eq]] := by decide

/-- the hypotheses of `no_descent_all_pairs` are satisfiable on the non-trivial instance, and the
    conclusion of `sort_user_level` holds there by evaluation too -/
example : ∀ p, p + 1 < (#[2, 0, 4, 1, 3] : Sorter.Ix).size →
    lexLess exKs (#[2, 0, 4, 1, 3] : Sorter.Ix)[p+1]! (#[2, 0, 4, 1, 3] : Sorter.Ix)[p]! = false := by
  intro p hp
  have : p < 4 := by
    have h5 : (#[2, 0, 4, 1, 3] : Sorter.Ix).size = 5 := rfl
    omega
  match p, this with
  | 0, _ => decide
  | 1, _ => decide
  | 2, _ => decide
  | 3, _ => decide

/-- and the order is strict on this instance (not the trivial all-ties case) -/
example : lexLess exKs 2 0 = true ∧ lexLess exKs 0 4 = true ∧ lexLess exKs 4 1 = true ∧ lexLess exKs 1 3 = true := by
  decide

/-- instance of the main theorem -/
example :
    let out := Sorter.sort (Cmp.lessKeys (Cmp.mkKeys exKs)) #[0, 1, 2, 3, 4]
    out.Perm #[0, 1, 2, 3, 4] ∧ ∀ p q, p < q → q < out.size → lexLess exKs out[q]! out[p]! = false :=
  sort_user_level_all_pairs exKs #[0, 1, 2, 3, 4]

#print axioms compare_eq_keyOrd
#print axioms lessKeys_eq_lexLess
#print axioms lexLess_swo
#print axioms sort_user_level
#print axioms no_descent_all_pairs_of_swo
#print axioms no_descent_all_pairs
#print axioms sort_user_level_all_pairs

end QF.Props.C03
