import QF.Props.C06FApplyGen
import QF.Props.C03SortGlueGen
/-!
# C06 — `helperX` IS the regenerated glue `apply1` / `apply2` (tie T1, seam of `gen_apply_end_to_end`)

`C06FApplyGen.helperX` (one helper call of `Apply` on physical columns) reads the frame methods `apply1` / `apply2` by hand:
`findX cols src`, the column's `Apply1` / `Apply2`, the type switch, `setX cols dst`. `C03SortGlueGen.gen_apply12_semantics` has
these two methods regenerated statement by statement (`Gen.sortGlue…`), for ANY meaning of the callees (`SG.APrims`). Here the
callees are instantiated with what `helperX` uses —

* `Column.Apply1` / `Apply2` = today's loop terms of the column's package (`apply1Of` / `apply2Of`, C06LoopsGen) run on the stored
  column, the built-in of a string / enum column = `upperX`; an error of the loop = an error; a `[]T` = the slice value of that
  element type, a column = the column;
* `<pkg>.New(slice)` = the column of that type with those cells; `setColumn(dst, col)` = `setX` under the name `dst`, an error
  for an illegal name —

and **`helperX_eq_genApply12`** shows: whenever `helperX` has a meaning (`some r`: a frame or an error; `none` = a panic or an
untranslated part, which the glue term cannot express), the regenerated `apply1` / `apply2` on the frame `(cols, ix)` return
exactly that result. So which column receives `Apply1` / `Apply2`, the index passed, the order receiver / argument, the type
switch and the destination of `setColumn` in `helperX` are the ones of today's source.
-/
set_option linter.unusedVariables false
set_option linter.unusedSimpArgs false
namespace QF.Props.C06GlueLink
open QF QF.Props.C06FApplyGen QF.Props.C06LoopsGen QF.Props.C03SortGlueGen

/-- the function argument of a helper: the function value and the initial state of a closure -/
abbrev FnArg := LVal Int × Int

/-- a stored column as a column value of the glue's frame, and back -/
def toL (c : XCol) : LCol := { name := c.name, ty := c.col.ty, vals := c.col.vals, strict := c.strict, cells := c.col.cells.toArray }
def ofL (l : LCol) : XCol := { name := l.name, col := { ty := l.ty, vals := l.vals, cells := l.cells.toList }, strict := l.strict }

theorem ofL_toL (c : XCol) : ofL (toL c) = c := rfl
theorem toL_ofL (l : LCol) : toL (ofL l) = l := rfl

theorem map_ofL_toL (cols : List XCol) : (cols.map toL).map ofL = cols := by
  rw [List.map_map]; exact List.map_id'' (fun c => rfl) _

/-- the receiver of the helper: the stored columns, the index, no error -/
def frameOf (cols : List XCol) (ix : List Nat) : GG.Frame := { cols := cols.map toL, index := ix, err := false }

/-- the result of `helperX` as a frame value: the new columns, or the receiver with an error (`withErr`) -/
def frameRes (cols : List XCol) (ix : List Nat) : Option (List XCol) → GG.Frame
  | some c => { cols := c.map toL, index := ix, err := false }
  | none => { cols := cols.map toL, index := ix, err := true }

/-- the slice `Apply1` returns, by its element type -/
def sliceVal (ty : CType) (cells : List Cell) : SG.AVal :=
  match ty with
  | .int => .ints cells
  | .float => .floats cells
  | .bool => .bools cells
  | .string => .strs cells
  | _ => .other

def cellsOf : SG.AVal → List Cell
  | .ints l | .floats l | .bools l | .strs l => l
  | .col c => c.cells.toList
  | .other => []

/-- an unnamed column value -/
def colVal (ty : CType) (cells : List Cell) : LCol := toL { name := [], col := { ty := ty, cells := cells } }

/-- what `Apply1` hands back to `apply1`, by the outcome of the column's loop term -/
def a1Val (R : Reps) (up : UpperOracle) (P : PCol) (fn : LVal Int) (ix : List Nat) : LOutcome Int → Option SG.AVal
  | .err => none
  | .arr .slice ty cells _ => some (sliceVal ty cells)
  | .arr .ownCol _ cells _ => some (.col (colVal P.ty cells))
  | .arr .strCol _ cells _ => some (.col (colVal .string cells))
  | .arr .create ty cells _ => some (.col (colVal ty cells))
  | .builtin _ =>
    (match fn with
     | .str key =>
       (match upperX R up key P ix with
        | some p => some (.col (toL { name := [], col := p.1, strict := p.2 }))
        | none => some .other)
     | _ => some .other)
  | _ => some .other

/-- the column `Apply2` hands back to `apply2` -/
def a2Val (P : PCol) : LOutcome Int → Option LCol
  | .arr .slice ty cells _ => some (colVal ((Gen.apply1WrapAst.slices.lookup ty).getD ty) cells)
  | .arr .ownCol _ cells _ => some (colVal P.ty cells)
  | .arr .strCol _ cells _ => some (colVal .string cells)
  | .arr .create ty cells _ => some (colVal ty cells)
  | _ => none

def run1 (P : PCol) (ix : List Nat) (fn : LVal Int) (s0 : Int) : LOutcome Int :=
  (apply1Of P.ty).run { recv := P, other := P, ix := ix, firstColLen := P.cells.length, fn := fn, s0 := s0 }
def run2 (P Q : PCol) (ix : List Nat) (fn : LVal Int) (s0 : Int) : LOutcome Int :=
  (apply2Of P.ty).run { recv := P, other := Q, ix := ix, firstColLen := P.cells.length, fn := fn, s0 := s0 }

/-- the callees of `apply1` / `apply2` as `helperX` has them -/
def prims (R : Reps) (up : UpperOracle) : SG.APrims FnArg where
  apply1 c f ix := a1Val R up (ofL c).col f.1 ix (run1 (ofL c).col ix f.1 f.2)
  apply2 c f d ix := a2Val (ofL c).col (run2 (ofL c).col (ofL d).col ix f.1 f.2)
  newCol ty v := colVal ty (cellsOf v)
  setColumn F dst r :=
    if legalName dst then { F with cols := (setX (F.cols.map ofL) { ofL r with name := dst }).map toL } else { F with err := true }

/-- the part of `helperX 1` after the column was found and its `Apply1` ran -/
def tail1 (R : Reps) (up : UpperOracle) (cols : List XCol) (ix : List Nat) (dst : Bytes) (c : XCol) (fn : LVal Int) :
    LOutcome Int → Option (Option (List XCol))
  | .builtin _ =>
    match fn with
    | .str key =>
      (upperX R up key c.col ix).map (fun p =>
        if Gen.apply1WrapAst.passesColumn && Gen.apply1WrapAst.setsDst && legalName dst then
          some (setX cols { name := dst, col := p.1, strict := p.2 })
        else none)
    | _ => none
  | out => placeX cols dst c.col.ty out

theorem helperX_one (R : Reps) (up : UpperOracle) (cols : List XCol) (ix : List Nat) (dst s1 s2 : Bytes) (fn : LVal Int) (s0 : Int) :
    helperX R up cols ix 1 dst s1 s2 fn s0 =
      match findX cols s1 with
      | none => some none
      | some c => tail1 R up cols ix dst c fn (run1 c.col ix fn s0) := by
  simp only [helperX, run1]
  cases findX cols s1 with
  | none => rfl
  | some c =>
    simp only []
    cases (apply1Of c.col.ty).run { recv := c.col, other := c.col, ix := ix, firstColLen := c.col.cells.length, fn := fn, s0 := s0 } <;>
      first | rfl | (cases fn <;> rfl)

theorem helperX_two (R : Reps) (up : UpperOracle) (cols : List XCol) (ix : List Nat) (dst s1 s2 : Bytes) (fn : LVal Int) (s0 : Int) :
    helperX R up cols ix 2 dst s1 s2 fn s0 =
      match findX cols s1, findX cols s2 with
      | some c, some d => placeX cols dst c.col.ty (run2 c.col d.col ix fn s0)
      | _, _ => some none := by
  simp only [helperX, run2]
  cases findX cols s1 <;> cases findX cols s2 <;> rfl

theorem find_frameOf (cols : List XCol) (ix : List Nat) (n : Bytes) :
    (frameOf cols ix).find? n = (findX cols n).map toL := by
  unfold frameOf GG.Frame.find? findX
  simp only
  rw [List.find?_map]
  rfl

theorem wrap_flags : Gen.apply1WrapAst.passesColumn = true ∧ Gen.apply1WrapAst.setsDst = true ∧ apply2Sets = true ∧
    Gen.apply1WrapAst.slices = [(.int, .int), (.float, .float), (.bool, .bool), (.string, .string)] := by decide

theorem slices_lookup (ty : CType) : Gen.apply1WrapAst.slices.lookup ty =
    (match ty with | .int => some .int | .float => some .float | .bool => some .bool | .string => some .string | _ => none) := by
  cases ty <;> decide

theorem setColumn_frameOf (R : Reps) (up : UpperOracle) (cols : List XCol) (ix : List Nat) (dst : Bytes) (c : XCol) :
    (prims R up).setColumn (frameOf cols ix) dst (toL c) =
      frameRes cols ix (if legalName dst then some (setX cols { c with name := dst }) else none) := by
  simp only [prims, frameOf, map_ofL_toL, ofL_toL]
  split <;> rfl

/-- a result array that `placeX` stores is, as the column value `a2Val` makes of it, handed to `setColumn` under `dst` -/
theorem place_link (R : Reps) (up : UpperOracle) (cols : List XCol) (ix : List Nat) (dst : Bytes) (P : PCol)
    (out : LOutcome Int) (r : Option (List XCol)) (h : placeX cols dst P.ty out = some r) :
    (match a2Val P out with
     | none => { frameOf cols ix with err := true }
     | some w => (prims R up).setColumn (frameOf cols ix) dst w) = frameRes cols ix r := by
  obtain ⟨hpass, hsets, h2sets, hslices⟩ := wrap_flags
  cases out with
  | err => simp only [placeX] at h; cases h; rfl
  | arr ret ty cells s =>
    simp only [placeX, slices_lookup, hsets, h2sets, Bool.true_and] at h
    cases ret with
    | slice =>
      cases ty <;> simp at h <;> subst h <;>
        simp only [a2Val, slices_lookup, Option.getD_some] <;> exact setColumn_frameOf R up cols ix dst _
    | «opaque» t => simp at h
    | _ => simp at h; subst h; simp only [a2Val]; exact setColumn_frameOf R up cols ix dst _
  | _ => simp only [placeX] at h; cases h

/-- `apply1` after `Apply1`: the slice or column `Apply1` returned, wrapped by the type switch, is the column `a2Val` makes
of the result array; the built-in's column is stored as it is -/
theorem tail1_link (R : Reps) (up : UpperOracle) (cols : List XCol) (ix : List Nat) (dst : Bytes) (c : XCol) (fn : LVal Int)
    (out : LOutcome Int) (r : Option (List XCol)) (h : tail1 R up cols ix dst c fn out = some r) :
    (match a1Val R up c.col fn ix out with
     | none => { frameOf cols ix with err := true }
     | some v =>
       match wrapSpec (prims R up) v with
       | none => { frameOf cols ix with err := true }
       | some w => (prims R up).setColumn (frameOf cols ix) dst w) = frameRes cols ix r := by
  cases out with
  | builtin hash =>
    simp only [tail1, wrap_flags.1, wrap_flags.2.1, Bool.true_and] at h
    cases fn with
    | str key =>
      cases hu : upperX R up key c.col ix with
      | none => simp [hu] at h
      | some p =>
        simp only [hu, Option.map_some, Option.some.injEq] at h
        subst h
        simp only [a1Val, hu, wrapSpec]
        exact setColumn_frameOf R up cols ix dst _
    | _ => cases h
  | arr ret ty cells s =>
    rw [← place_link R up cols ix dst c.col (.arr ret ty cells s) r h]
    cases ret with
    | slice => cases ty <;> first | rfl | (simp [tail1, placeX, slices_lookup] at h)
    | _ => rfl
  | err => exact place_link R up cols ix dst c.col .err r h
  | _ => cases h

/-- **`helperX` is the regenerated glue.** For every stored frame `(cols, ix)`, names, function value and closure state:
whenever the helper `apply1` (resp. `apply2`) of `helperX` has a meaning `r` — new columns, or an error —, `apply1` (resp.
`apply2`) AS REGENERATED from today's qframe.go (`C03SortGlueGen.genApply1` / `genApply2`: `Gen.sortGlue…`, statement by
statement), run on that frame with the callees `prims` (today's `Column.Apply1` / `Apply2` loop terms, `upperX`, `setX`), returns
the frame `frameRes cols ix r`: the columns `r`, the SAME index, no error — or the receiver with an error. -/
theorem helperX_eq_genApply12 (R : Reps) (up : UpperOracle) (cols : List XCol) (ix : List Nat) (dst s1 s2 : Bytes)
    (fn : LVal Int) (s0 : Int) :
    (∀ r, helperX R up cols ix 1 dst s1 s2 fn s0 = some r →
      genApply1 (prims R up) (frameOf cols ix) (fn, s0) dst s1 = some (frameRes cols ix r)) ∧
    (∀ r, helperX R up cols ix 2 dst s1 s2 fn s0 = some r →
      genApply2 (prims R up) (frameOf cols ix) (fn, s0) dst s1 s2 = some (frameRes cols ix r)) := by
  obtain ⟨g1, g2⟩ := gen_apply12_semantics (prims R up) (frameOf cols ix) (fn, s0) dst s1 s2
  have herr : (frameOf cols ix).err = false := rfl
  have hix : (frameOf cols ix).index = ix := rfl
  refine ⟨fun r h => ?_, fun r h => ?_⟩
  · rw [g1]
    congr 1
    rw [helperX_one] at h
    unfold specApply1
    rw [find_frameOf]
    simp only [herr, Bool.false_eq_true, if_false, hix]
    cases hf : findX cols s1 with
    | none => rw [hf] at h; cases h; rfl
    | some c =>
      rw [hf] at h
      simp only [Option.map_some]
      exact tail1_link R up cols ix dst c fn _ r h
  · rw [g2]
    congr 1
    rw [helperX_two] at h
    unfold specApply2
    rw [find_frameOf, find_frameOf]
    simp only [herr, Bool.false_eq_true, if_false, hix]
    cases hf : findX cols s1 with
    | none => rw [hf] at h; cases h; rfl
    | some c =>
      cases hf2 : findX cols s2 with
      | none => rw [hf, hf2] at h; cases h; rfl
      | some d =>
        rw [hf, hf2] at h
        simp only [Option.map_some]
        exact place_link R up cols ix dst c.col _ r h

/-- the meaning of `helperX` is a frame the regenerated glue returns: packaged for a helper call on a frame value
(`helperFr` with `k = 1, 2` on a frame without error): columns and error flag of the result are those of the regenerated
`apply1` / `apply2`, the index is the receiver's -/
theorem helperFr_glue (R : Reps) (up : UpperOracle) (X : PFr) (hX : X.err = false) (dst s1 s2 : Bytes) (fn : LVal Int) (s0 : Int)
    (k : Nat) (hk : k = 1 ∨ k = 2) (r : Option (List XCol)) (h : helperX R up X.cols X.index k dst s1 s2 fn s0 = some r) :
    (if k = 1 then genApply1 (prims R up) (frameOf X.cols X.index) (fn, s0) dst s1
     else genApply2 (prims R up) (frameOf X.cols X.index) (fn, s0) dst s1 s2) = some (frameRes X.cols X.index r) := by
  obtain ⟨h1, h2⟩ := helperX_eq_genApply12 R up X.cols X.index dst s1 s2 fn s0
  rcases hk with rfl | rfl
  · simpa using h1 r h
  · simpa using h2 r h

/-! ## Example: the hypotheses are met — a helper call that has a meaning -/

/-- `b := f(a)` with `f = (· + 1)` on the stored column `a = [10, 20, 30, 40]` read through the index [3, 1] -/
def exCols : List XCol := [{ name := [97], col := { ty := .int, cells := [.int 10, .int 20, .int 30, .int 40] } }]
def exFn : LVal Int := .fn1 .int .int (fun c => match c with | .int i => .int (i + 1) | c => c)

/-- names and cells of a helper result -/
def shape (r : Option (Option (List XCol))) : Option (Option (List (Bytes × List Cell))) :=
  r.map (·.map (·.map (fun c => (c.name, c.col.cells))))

def R0 : Reps := { s := fun _ => default, e := fun _ => default }

example : shape (helperX R0 (fun b => b) exCols [3, 1] 1 [98] [97] [] exFn 0) =
    some (some [([97], [.int 10, .int 20, .int 30, .int 40]), ([98], [.int 0, .int 21, .int 0, .int 41])]) := by
  decide +kernel

/-- … so the regenerated `apply1` returns a frame on it (`helperX_eq_genApply12` applies) -/
example : ∃ r, helperX R0 (fun b => b) exCols [3, 1] 1 [98] [97] [] exFn 0 = some r ∧
    genApply1 (prims R0 (fun b => b)) (frameOf exCols [3, 1]) (exFn, 0) [98] [97] = some (frameRes exCols [3, 1] r) := by
  cases h : helperX R0 (fun b => b) exCols [3, 1] 1 [98] [97] [] exFn 0 with
  | none => exact absurd (congrArg shape h) (by decide +kernel)
  | some r => exact ⟨r, rfl, (helperX_eq_genApply12 R0 _ exCols [3, 1] [98] [97] [] exFn 0).1 r h⟩

end QF.Props.C06GlueLink

#print axioms QF.Props.C06GlueLink.helperX_eq_genApply12
#print axioms QF.Props.C06GlueLink.helperFr_glue
