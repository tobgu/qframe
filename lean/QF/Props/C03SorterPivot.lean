import QF.Props.C03SorterFns
import QF.Core.SorterPivot
/-!
# C03 — the meaning of the canonical sorter terms (part 2): `doPivot`

`doPivot` runs as the mirror's `doPivot` (QF/Core/Sorter.lean), for every comparison function, and stays within the array
(even for an inconsistent `Less`). Each piece says in ONE statement how it runs and where the mirror's cursors end; the
bounds a piece gives are the hypotheses of the next, so nothing is derived twice:

* `scan_up`, `scan_down` — the two empty-bodied loop forms, for any condition that evaluates as the mirror's, are
  `Sorter.scanUp` / `Sorter.scanDown`; `dp_scanA`, `dp_scanB`, `dp_scanC`, `dp_scanB2`, `dp_scanA2` are the five instances
* `dp_part`, `dp_prot` — the partition loop = `Sorter.pivotLoop`, the duplicate-protection loop = `Sorter.protectLoop`
  (for every fuel of the mirror that suffices: the mirror's own fuel `size + 1` does), with the bounds of their results
* `dp_choose` — Tukey's ninther and the median of three = `Sorter.choosePivot`
* `dp_dups1`, `dp_dups2`, `dp_dups3` — the three tests of "Lets test some points for equality to pivot", each with the bounds
  of its result
* the phases of the body, each with the statements around its loop, in the form `∀ rest, X (phase ++ rest) σ = X rest σ'`:
  `ph_scan` (first scan), `ph_part`, `ph_dups` (the state of the mirror after `Sorter.dupsBlock` or without it), `ph_prot`,
  `ph_final` (the last swap and the return)
* `call_doPivot` — `doPivot(data, lo, hi)` = `Sorter.doPivot`, and where its two results lie (what `quickSort` needs):
  the phases one after the other, put together by `Sorter.doPivot_eq`

Positions that only calls consume need no cast equation (`Int.toNat` goes through the mirror's truncated subtraction:
C03SorterExec, Casts); a decremented cursor that is stored has its bound at hand (`cast_pred`).
-/
namespace QF.Props.C03SorterGen
open QF QF.SL
set_option linter.unusedSimpArgs false

theorem median_size (less : Nat → Nat → Bool) (a : Ix) (m1 m0 m2 : Nat) : (Sorter.medianOfThree less a m1 m0 m2).size = a.size :=
  (Sorter.medianOfThree_perm less a m1 m0 m2).size_eq

/-- the variables of `doPivot` while its loops run: 0 data, 1 lo, 2 hi, 3 m, 4 s, 5 pivot (= lo), then the live ones 6 a, 7 c, 8 b,
9 protect, 10 dups -/
abbrev dpSt (lo hi m : Nat) (p4 a c b protect dups : Val) : Store :=
  [.sorter, .int lo, .int hi, .int m, p4, .int lo, a, c, b, protect, dups]

/-- `for ; cnd; v++ {}` where `cnd` is `i < c && p i` at the value `i` of `v` (`σ i`: the store with `v = i`) and leaves
the array alone: the loop is `Sorter.scanUp` -/
theorem scan_up (cols : Cols) (cnd : E) (v : Var) (σ : Nat → Store) (a : Ix) (p : Nat → Bool) (c : Nat)
    (hcnd : ∀ i, cnd.eval (C cols) cols (σ i) a = .ok (.bool (decide (i < c) && p i), a))
    (hinc : ∀ i, X cols (S.incr v) (σ i, a) = .ok (.next (σ (i + 1), a))) :
    ∀ fuel i, c < fuel + i →
      X cols (S.loop cnd (S.block [S.incr v]) nop) (σ i, a) = .ok (.next (σ (Sorter.scanUp fuel p i c), a)) := by
  intro fuel
  induction fuel with
  | zero =>
    intro i hf
    have : ¬ i < c := by omega
    rw [x_loop, hcnd]
    simp only [this, decide_false, Bool.false_and, bind_ok, loopK_false, Sorter.scanUp]
  | succ fuel ih =>
    intro i hf
    rw [x_loop, hcnd, Sorter.scanUp]
    cases decide (i < c) && p i
    · simp only [bind_ok, loopK_false, Bool.false_eq_true, ↓reduceIte]
    · simp only [bind_ok, loopK_true, x_block_nil, bodyK_next, x_block_cons, hinc, seqK_next, postK_next, ↓reduceIte]
      exact ih (i + 1) (by omega)

/-- `for ; cnd; v-- {}` where `cnd` is `b < c && p (c-1)` at the value `c ≤ n` of `v`: the loop is `Sorter.scanDown` -/
theorem scan_down (cols : Cols) (cnd : E) (v : Var) (σ : Nat → Store) (a : Ix) (p : Nat → Bool) (b n : Nat)
    (hcnd : ∀ c, c ≤ n → cnd.eval (C cols) cols (σ c) a = .ok (.bool (decide (b < c) && p (c - 1)), a))
    (hdec : ∀ c, 0 < c → X cols (S.decr v) (σ c, a) = .ok (.next (σ (c - 1), a))) :
    ∀ fuel c, c ≤ n → c < fuel + b →
      X cols (S.loop cnd (S.block [S.decr v]) nop) (σ c, a) = .ok (.next (σ (Sorter.scanDown fuel p b c), a)) := by
  intro fuel
  induction fuel with
  | zero =>
    intro c hn hf
    have : ¬ b < c := by omega
    rw [x_loop, hcnd c hn]
    simp only [this, decide_false, Bool.false_and, bind_ok, loopK_false, Sorter.scanDown]
  | succ fuel ih =>
    intro c hn hf
    rw [x_loop, hcnd c hn, Sorter.scanDown]
    cases e : decide (b < c) && p (c - 1)
    · simp only [bind_ok, loopK_false, Bool.false_eq_true, ↓reduceIte]
    · have hc : 0 < c := by
        simp only [Bool.and_eq_true, decide_eq_true_eq] at e
        omega
      simp only [bind_ok, loopK_true, x_block_nil, bodyK_next, x_block_cons, hdec c hc, seqK_next, postK_next, ↓reduceIte]
      exact ih (c - 1) (by omega) (by omega)

/-! the three tests of `dpDups`, one statement each -/
def dpDups1 : S :=
  S.ite (not' (less (v 5) (sub (v 2) (lit 1)))) (S.block [swap (v 7) (sub (v 2) (lit 1)), S.incr 7, S.incr 10]) nop
def dpDups2 : S := S.ite (not' (less (sub (v 8) (lit 1)) (v 5))) (S.block [S.decr 8, S.incr 10]) nop
def dpDups3 : S :=
  S.ite (not' (less (v 3) (v 5))) (S.block [swap (v 3) (sub (v 8) (lit 1)), S.decr 8, S.incr 10]) nop

theorem dpDups_eq : dpDups = S.ite (E.and (not' (v 9)) (lt (sub (v 2) (v 7)) (quo (sub (v 2) (v 1)) (lit 4))))
    (S.block [S.define 10 (lit 0), dpDups1, dpDups2, dpDups3, S.assign 9 (gt (v 10) (lit 1))]) nop := rfl



section withLess
variable {cols : Cols} {less : Nat → Nat → Bool} (hl : LessIs cols less)
include hl

/-- `for ; a < c && data.Less(a, pivot); a++ {}` -/
theorem dp_scanA (lo hi m : Nat) (p4 p8 p9 p10 : Val) (arr : Ix) (c : Nat) (hc : c ≤ arr.size) (hlo : lo < arr.size)
    (fuel i : Nat) (hf : c < fuel + i) :
    X cols dpScanA (dpSt lo hi m p4 (.int i) (.int c) p8 p9 p10, arr) =
      .ok (.next (dpSt lo hi m p4 (.int ↑(Sorter.scanUp fuel (fun i => Sorter.lt less arr i lo) i c)) (.int c) p8 p9 p10, arr)) :=
  scan_up cols _ 6 (fun i => dpSt lo hi m p4 (.int i) (.int c) p8 p9 p10) arr _ c
    (fun i => by
      by_cases h : i < c
      · sl_simp [h, decide_true, call_less' hl, Bool.true_and]
      · sl_simp [h, decide_false, Bool.false_and])
    (fun i => by sl_simp []) fuel i hf

/-- `for ; b < c && !data.Less(pivot, b); b++ {}` -/
theorem dp_scanB (lo hi m : Nat) (p4 p6 p9 p10 : Val) (arr : Ix) (c : Nat) (hc : c ≤ arr.size) (hlo : lo < arr.size)
    (fuel i : Nat) (hf : c < fuel + i) :
    X cols dpScanB (dpSt lo hi m p4 p6 (.int c) (.int i) p9 p10, arr) =
      .ok (.next (dpSt lo hi m p4 p6 (.int c) (.int ↑(Sorter.scanUp fuel (fun i => !Sorter.lt less arr lo i) i c)) p9 p10, arr)) :=
  scan_up cols _ 8 (fun i => dpSt lo hi m p4 p6 (.int c) (.int i) p9 p10) arr _ c
    (fun i => by
      by_cases h : i < c
      · sl_simp [h, decide_true, call_less' hl, Bool.true_and]
      · sl_simp [h, decide_false, Bool.false_and])
    (fun i => by sl_simp []) fuel i hf

/-- `for ; b < c && data.Less(pivot, c-1); c-- {}` -/
theorem dp_scanC (lo hi m : Nat) (p4 p6 p9 p10 : Val) (arr : Ix) (b : Nat) (hlo : lo < arr.size)
    (fuel c : Nat) (hf : c < fuel + b) (hsz : c ≤ arr.size) :
    X cols dpScanC (dpSt lo hi m p4 p6 (.int c) (.int b) p9 p10, arr) =
      .ok (.next (dpSt lo hi m p4 p6 (.int ↑(Sorter.scanDown fuel (fun i => Sorter.lt less arr lo i) b c)) (.int b) p9 p10, arr)) :=
  scan_down cols _ 7 (fun c => dpSt lo hi m p4 p6 (.int c) (.int b) p9 p10) arr _ b c
    (fun c hn => by
      by_cases h : b < c
      · sl_simp [h, decide_true, call_less' hl, Bool.true_and]
      · sl_simp [h, decide_false, Bool.false_and])
    (fun c hc => by sl_simp [cast_pred hc]) fuel c (Nat.le_refl _) hf

/-- `for ; a < b && !data.Less(b-1, pivot); b-- {}` -/
theorem dp_scanB2 (lo hi m : Nat) (p4 p7 p9 p10 : Val) (arr : Ix) (x : Nat) (hlo : lo < arr.size)
    (fuel b : Nat) (hf : b < fuel + x) (hsz : b ≤ arr.size) :
    X cols dpScanB2 (dpSt lo hi m p4 (.int x) p7 (.int b) p9 p10, arr) =
      .ok (.next (dpSt lo hi m p4 (.int x) p7 (.int ↑(Sorter.scanDown fuel (fun i => !Sorter.lt less arr i lo) x b)) p9 p10, arr)) :=
  scan_down cols _ 8 (fun b => dpSt lo hi m p4 (.int x) p7 (.int b) p9 p10) arr _ x b
    (fun b hn => by
      by_cases h : x < b
      · sl_simp [h, decide_true, call_less' hl, Bool.true_and]
      · sl_simp [h, decide_false, Bool.false_and])
    (fun b hb => by sl_simp [cast_pred hb]) fuel b (Nat.le_refl _) hf


/-- `for ; a < b && data.Less(a, pivot); a++ {}` -/
theorem dp_scanA2 (lo hi m : Nat) (p4 p7 p9 p10 : Val) (arr : Ix) (b : Nat) (hb : b ≤ arr.size) (hlo : lo < arr.size)
    (fuel i : Nat) (hf : b < fuel + i) :
    X cols dpScanA2 (dpSt lo hi m p4 (.int i) p7 (.int b) p9 p10, arr) =
      .ok (.next (dpSt lo hi m p4 (.int ↑(Sorter.scanUp fuel (fun i => Sorter.lt less arr i lo) i b)) p7 (.int b) p9 p10, arr)) :=
  scan_up cols _ 6 (fun i => dpSt lo hi m p4 (.int i) p7 (.int b) p9 p10) arr _ b
    (fun i => by
      by_cases h : i < b
      · sl_simp [h, decide_true, call_less' hl, Bool.true_and]
      · sl_simp [h, decide_false, Bool.false_and])
    (fun i => by sl_simp []) fuel i hf

theorem dp_dups1 (lo hi m : Nat) (p4 p6 p8 p9 : Val) (arr : Ix) (c : Nat) (hc : c < hi) (hsz : hi ≤ arr.size) (hlo : lo < arr.size) :
    ∀ r, Sorter.dups1 less arr lo hi c = r →
    X cols dpDups1 (dpSt lo hi m p4 p6 (.int c) p8 p9 (.int 0), arr) =
      .ok (.next (dpSt lo hi m p4 p6 (.int ↑r.2.1) p8 p9 (.int ↑r.2.2), r.1)) ∧
    r.1.size = arr.size ∧ c ≤ r.2.1 ∧ r.2.1 ≤ c + 1 := by
  intro r hr
  subst hr
  rw [dpDups1]
  sl_simp [call_less' hl]
  cases e : Sorter.lt less arr lo (hi - 1)
  · sl_simp [Bool.not_false, call_swap]
    simp [Sorter.dups1, e, Sorter.sw_size]
  · sl_simp [Bool.not_true, Bool.false_eq_true]
    simp [Sorter.dups1, e]

theorem dp_dups2 (lo hi m : Nat) (p4 p6 p7 p9 : Val) (arr : Ix) (b d : Nat) (hb : 1 ≤ b ∧ b ≤ arr.size) (hlo : lo < arr.size) :
    ∀ r, Sorter.dups2 less arr lo b d = r →
    X cols dpDups2 (dpSt lo hi m p4 p6 p7 (.int b) p9 (.int d), arr) =
      .ok (.next (dpSt lo hi m p4 p6 p7 (.int ↑r.1) p9 (.int ↑r.2), arr)) ∧ b - 1 ≤ r.1 ∧ r.1 ≤ b := by
  intro r hr
  subst hr
  rw [dpDups2]
  sl_simp [call_less' hl]
  cases e : Sorter.lt less arr (b - 1) lo
  · sl_simp [Bool.not_false]
    simp [Sorter.dups2, e, cast_pred hb.1]
  · sl_simp [Bool.not_true, Bool.false_eq_true]
    simp [Sorter.dups2, e]

theorem dp_dups3 (lo hi m : Nat) (p4 p6 p7 p9 : Val) (arr : Ix) (b d : Nat) (hb : 1 ≤ b ∧ b ≤ arr.size) (hlo : lo < arr.size)
    (hm : m < arr.size) :
    ∀ r, Sorter.dups3 less arr lo m b d = r →
    X cols dpDups3 (dpSt lo hi m p4 p6 p7 (.int b) p9 (.int d), arr) =
      .ok (.next (dpSt lo hi m p4 p6 p7 (.int ↑r.2.1) p9 (.int ↑r.2.2), r.1)) ∧
    r.1.size = arr.size ∧ b - 1 ≤ r.2.1 ∧ r.2.1 ≤ b := by
  intro r hr
  subst hr
  rw [dpDups3]
  sl_simp [call_less' hl]
  cases e : Sorter.lt less arr m lo
  · sl_simp [Bool.not_false, call_swap]
    simp [Sorter.dups3, e, cast_pred hb.1, Sorter.sw_size]
  · sl_simp [Bool.not_true, Bool.false_eq_true]
    simp [Sorter.dups3, e]

omit hl in
theorem choosePivot_size (less : Nat → Nat → Bool) (a : Ix) (lo hi : Nat) : (Sorter.choosePivot less a lo hi).size = a.size :=
  (Sorter.choosePivot_perm less a lo hi).size_eq

/-- the partition loop runs as `pivotLoop` of the mirror, and where its cursors end -/
theorem dp_part (lo hi m : Nat) (p4 p6 p9 p10 : Val) :
    ∀ (fuel : Nat) (arr : Ix) (b c : Nat), c < fuel + b → c ≤ arr.size → lo < arr.size →
    ∀ r, Sorter.pivotLoop less fuel arr lo b c = r →
    X cols dpPartLoop (dpSt lo hi m p4 p6 (.int c) (.int b) p9 p10, arr) =
      .ok (.next (dpSt lo hi m p4 p6 (.int ↑r.2.2) (.int ↑r.2.1) p9 p10, r.1)) ∧
    r.1.size = arr.size ∧ b ≤ r.2.1 ∧ r.2.2 ≤ c ∧ r.2.2 ≤ r.2.1 ∧ (b ≤ c + 1 → r.2.1 ≤ r.2.2 + 1) := by
  intro fuel
  induction fuel with
  | zero =>
    intro arr b c hf hsz hlo r hr
    subst hr
    rw [dpPartLoop, x_loop]
    sl_simp [dp_scanB hl lo hi m p4 p6 p9 p10 arr c hsz hlo 0 b (by omega), Sorter.scanUp,
      dp_scanC hl lo hi m p4 p6 p9 p10 arr b hlo 0 c (by omega) hsz, Sorter.scanDown]
    have : b ≥ c := by omega
    sl_simp [this, decide_true, Sorter.pivotLoop, true_and]
    omega
  | succ fuel ih =>
    intro arr b c hf hsz hlo r hr
    subst hr
    rw [dpPartLoop, x_loop]
    simp only [Sorter.pivotLoop]
    have s1 := Sorter.scanUp_spec (fun i => !Sorter.lt less arr lo i) (arr.size + 1) b c (by omega)
    have s3 := Sorter.scanUp_ge (fun i => !Sorter.lt less arr lo i) (arr.size + 1) b c
    generalize hb' : Sorter.scanUp (arr.size + 1) (fun i => !Sorter.lt less arr lo i) b c = b' at s1 s3 ⊢
    have s2 := Sorter.scanDown_spec (fun i => Sorter.lt less arr lo i) (arr.size + 1) b' c (by omega)
    have s4 := Sorter.scanDown_ge (fun i => Sorter.lt less arr lo i) (arr.size + 1) b' c
    generalize hc' : Sorter.scanDown (arr.size + 1) (fun i => Sorter.lt less arr lo i) b' c = c' at s2 s4 ⊢
    sl_simp [dp_scanB hl lo hi m p4 p6 p9 p10 arr c hsz hlo (arr.size + 1) b (by omega), hb',
      dp_scanC hl lo hi m p4 p6 p9 p10 arr b' hlo (arr.size + 1) c (by omega) hsz, hc']
    by_cases h : b' ≥ c'
    · sl_simp [h, decide_true, true_and]
      omega
    · sl_simp [h, decide_false, call_swap, cast_pred (Nat.zero_lt_of_lt (Nat.lt_of_not_ge h))]
      rw [← dpPartLoop]
      obtain ⟨e, f⟩ := ih (Sorter.sw arr b' (c' - 1)) (b' + 1) (c' - 1) (by omega) (by rw [Sorter.sw_size]; omega)
        (by rw [Sorter.sw_size]; omega) _ rfl
      rw [Sorter.sw_size] at f
      exact ⟨e, by omega⟩

/-- the duplicate-protection loop runs as `protectLoop` of the mirror, and where its cursors end (`k`: any lower bound) -/
theorem dp_prot (lo hi m k : Nat) (p4 p7 p9 p10 : Val) :
    ∀ (fuel : Nat) (arr : Ix) (x b : Nat), b < fuel + x → b ≤ arr.size → lo < arr.size → k ≤ x → k ≤ b →
    ∀ r, Sorter.protectLoop less fuel arr lo x b = r →
    X cols dpProtLoop (dpSt lo hi m p4 (.int x) p7 (.int b) p9 p10, arr) =
      .ok (.next (dpSt lo hi m p4 (.int ↑r.2.1) p7 (.int ↑r.2.2) p9 p10, r.1)) ∧
    r.1.size = arr.size ∧ k ≤ r.2.2 ∧ r.2.2 ≤ b := by
  intro fuel
  induction fuel with
  | zero =>
    intro arr x b hf hsz hlo hkx hkb r hr
    subst hr
    rw [dpProtLoop, x_loop]
    sl_simp [dp_scanB2 hl lo hi m p4 p7 p9 p10 arr x hlo 0 b (by omega) hsz, Sorter.scanDown,
      dp_scanA2 hl lo hi m p4 p7 p9 p10 arr b hsz hlo 0 x (by omega), Sorter.scanUp]
    have : x ≥ b := by omega
    sl_simp [this, decide_true, Sorter.protectLoop, true_and]
    omega
  | succ fuel ih =>
    intro arr x b hf hsz hlo hkx hkb r hr
    subst hr
    rw [dpProtLoop, x_loop]
    simp only [Sorter.protectLoop]
    have s1 := Sorter.scanDown_spec (fun i => !Sorter.lt less arr i lo) (arr.size + 1) x b (by omega)
    have s3 := Sorter.scanDown_ge (fun i => !Sorter.lt less arr i lo) (arr.size + 1) x b
    generalize hb' : Sorter.scanDown (arr.size + 1) (fun i => !Sorter.lt less arr i lo) x b = b' at s1 s3 ⊢
    have s2 := Sorter.scanUp_spec (fun i => Sorter.lt less arr i lo) (arr.size + 1) x b' (by omega)
    have s4 := Sorter.scanUp_ge (fun i => Sorter.lt less arr i lo) (arr.size + 1) x b'
    generalize hx' : Sorter.scanUp (arr.size + 1) (fun i => Sorter.lt less arr i lo) x b' = x' at s2 s4 ⊢
    sl_simp [dp_scanB2 hl lo hi m p4 p7 p9 p10 arr x hlo (arr.size + 1) b (by omega) hsz, hb',
      dp_scanA2 hl lo hi m p4 p7 p9 p10 arr b' (by omega) hlo (arr.size + 1) x (by omega), hx']
    by_cases h : x' ≥ b'
    · sl_simp [h, decide_true, true_and]
      omega
    · sl_simp [h, decide_false, call_swap, cast_pred (Nat.zero_lt_of_lt (Nat.lt_of_not_ge h))]
      rw [← dpProtLoop]
      obtain ⟨e, f⟩ := ih (Sorter.sw arr x' (b' - 1)) (x' + 1) (b' - 1) (by omega) (by rw [Sorter.sw_size]; omega)
        (by rw [Sorter.sw_size]; omega) (by omega) (by omega) _ rfl
      rw [Sorter.sw_size] at f
      exact ⟨e, by omega⟩

/-- Tukey's ninther and the median of three: `choosePivot` of the mirror. The positions are computed in `Int` and reach the
mirror through `Int.toNat`, which commutes with the mirror's truncated subtraction without a side condition. -/
theorem dp_choose (lo hi : Nat) (p4 p5 p6 p7 p8 p9 p10 : Val) (arr : Ix) (h12 : lo + 12 < hi) (hsz : hi ≤ arr.size) (rest : List S) :
    X cols (S.block (dpNinther :: median (v 1) (v 3) (sub (v 2) (lit 1)) :: rest))
        ([.sorter, .int lo, .int hi, .int ↑((lo + hi) / 2), p4, p5, p6, p7, p8, p9, p10], arr) =
      X cols (S.block rest) ([.sorter, .int lo, .int hi, .int ↑((lo + hi) / 2),
        if hi - lo > 40 then .int ↑((hi - lo) / 8) else p4, p5, p6, p7, p8, p9, p10], Sorter.choosePivot less arr lo hi) := by
  simp only [Sorter.choosePivot, dpNinther]
  have hm : lo < (lo + hi) / 2 ∧ (lo + hi) / 2 + 1 < hi := by omega
  have hs : hi - lo > 40 → lo + 2 * ((hi - lo) / 8) < hi ∧ (hi - lo) / 8 ≤ (lo + hi) / 2 ∧ (lo + hi) / 2 + (hi - lo) / 8 < hi := by
    omega
  generalize (lo + hi) / 2 = m at hm hs ⊢
  have hle : lo ≤ hi := by omega
  by_cases h40 : hi - lo > 40
  · replace hs := hs h40
    sl_simp [← Int.natCast_sub hle, h40, decide_true]
    generalize (hi - lo) / 8 = s at hs ⊢
    clear h40
    rw [call_median hl arr _ _ _ (by omega) (by omega) (by omega)]
    sl_simp []
    rw [call_median hl _ _ _ _ (by rw [median_size]; omega) (by rw [median_size]; omega) (by rw [median_size]; omega)]
    sl_simp []
    rw [call_median hl _ _ _ _ (by simp only [median_size]; omega) (by simp only [median_size]; omega)
      (by simp only [median_size]; omega)]
    sl_simp []
    rw [call_median hl _ _ _ _ (by simp only [median_size]; omega) (by simp only [median_size]; omega)
      (by simp only [median_size]; omega)]
    sl_simp []
  · sl_simp [← Int.natCast_sub hle, h40, decide_false]
    clear h40
    rw [call_median hl arr _ _ _ (by omega) (by omega) (by omega)]
    sl_simp []

/-- `pivot := lo; a, c := lo+1, hi-1; for ; a < c && data.Less(a, pivot); a++ {}` -/
theorem ph_scan (lo hi m : Nat) (p4 p5 p6 p7 p8 p9 p10 : Val) (arr : Ix) (h12 : lo + 12 < hi) (hsz : hi ≤ arr.size) :
    ∀ x, Sorter.scanUp (arr.size + 1) (fun i => Sorter.lt less arr i lo) (lo + 1) (hi - 1) = x →
    (∀ rest, X cols (S.block (S.define 5 (v 1) :: S.define 6 (add (v 1) (lit 1)) :: S.define 7 (sub (v 2) (lit 1)) :: dpScanA :: rest))
        ([.sorter, .int lo, .int hi, .int m, p4, p5, p6, p7, p8, p9, p10], arr) =
      X cols (S.block rest) (dpSt lo hi m p4 (.int x) (.int ↑(hi - 1)) p8 p9 p10, arr)) ∧ lo + 1 ≤ x ∧ x < hi := by
  intro x hx
  have sx := Sorter.scanUp_spec (fun i => Sorter.lt less arr i lo) (arr.size + 1) (lo + 1) (hi - 1) (by omega)
  rw [hx] at sx
  refine ⟨fun rest => ?_, by omega⟩
  sl_simp [cast_pred (Nat.zero_lt_of_lt h12)]
  rw [dp_scanA hl lo hi m p4 p8 p9 p10 arr (hi - 1) (by omega) (by omega) (arr.size + 1) (lo + 1) (by omega), hx]
  sl_simp []

/-- `b := a`, the partition loop -/
theorem ph_part (lo hi m : Nat) (p4 p8 p9 p10 : Val) (arr : Ix) (x : Nat) (h12 : lo + 12 < hi) (hsz : hi ≤ arr.size)
    (hx : lo + 1 ≤ x ∧ x < hi) :
    ∀ r, Sorter.pivotLoop less (arr.size + 1) arr lo x (hi - 1) = r →
    (∀ rest, X cols (S.block (S.define 8 (v 6) :: dpPartLoop :: rest)) (dpSt lo hi m p4 (.int x) (.int ↑(hi - 1)) p8 p9 p10, arr) =
      X cols (S.block rest) (dpSt lo hi m p4 (.int x) (.int ↑r.2.2) (.int ↑r.2.1) p9 p10, r.1)) ∧
    r.1.size = arr.size ∧ x ≤ r.2.1 ∧ r.2.2 < hi ∧ r.2.2 ≤ r.2.1 ∧ r.2.1 ≤ r.2.2 + 1 := by
  intro r hr
  obtain ⟨e, f⟩ := dp_part hl lo hi m p4 (.int x) p9 p10 (arr.size + 1) arr x (hi - 1) (by omega) (by omega) (by omega) r hr
  refine ⟨fun rest => ?_, by omega⟩
  sl_simp []
  rw [e]
  sl_simp []

/-- `protect := hi-c < 5`, "Lets test some points for equality to pivot": the state `st` of the mirror after it (`dupsBlock`
if the tests are made), and where its cursors lie -/
theorem ph_dups (lo hi : Nat) (p4 p6 p9 p10 : Val) (arr : Ix) (x b c : Nat) (h12 : lo + 12 < hi) (hsz : hi ≤ arr.size)
    (hx : lo + 1 ≤ x ∧ x < hi) (hb : x ≤ b ∧ c < hi ∧ c ≤ b ∧ b ≤ c + 1) :
    ∀ st : Sorter.PState, (if !(decide (hi - c < 5)) && decide (hi - c < (hi - lo) / 4) then
        Sorter.dupsBlock less arr lo hi ((lo + hi) / 2) b c else ⟨arr, b, c, decide (hi - c < 5)⟩) = st →
    (∃ p10', ∀ rest, X cols (S.block (S.define 9 (lt (sub (v 2) (v 7)) (lit 5)) :: dpDups :: rest))
        (dpSt lo hi ((lo + hi) / 2) p4 p6 (.int c) (.int b) p9 p10, arr) =
      X cols (S.block rest) (dpSt lo hi ((lo + hi) / 2) p4 p6 (.int ↑st.c) (.int ↑st.b) (.bool st.protect) p10', st.a)) ∧
    st.a.size = arr.size ∧ lo + 1 ≤ st.b ∧ st.b ≤ hi ∧ st.c ≤ hi := by
  intro st hst
  subst hst
  rw [dpDups_eq]
  have hch : c ≤ hi := by omega
  have hle : lo ≤ hi := by omega
  by_cases hp : hi - c < 5
  · refine ⟨⟨p10, fun rest => ?_⟩, ?_⟩
    · sl_simp [← Int.natCast_sub hch, hp, decide_true, Bool.not_true, Bool.false_and, Bool.false_eq_true]
    · simp only [hp, decide_true, Bool.not_true, Bool.false_and, Bool.false_eq_true, ↓reduceIte, true_and]
      omega
  · by_cases hq : hi - c < (hi - lo) / 4
    · simp only [hp, hq, decide_true, decide_false, Bool.not_false, Bool.and_self, ↓reduceIte, Sorter.dupsBlock]
      obtain ⟨e1, f1⟩ := dp_dups1 hl lo hi ((lo + hi) / 2) p4 p6 (.int b) (.bool false) arr c (by omega) hsz (by omega) _ rfl
      generalize Sorter.dups1 less arr lo hi c = r1 at f1 e1 ⊢
      obtain ⟨e2, f2⟩ := dp_dups2 hl lo hi ((lo + hi) / 2) p4 p6 (.int ↑r1.2.1) (.bool false) r1.1 b r1.2.2 (by omega) (by omega) _ rfl
      generalize Sorter.dups2 less r1.1 lo b r1.2.2 = r2 at f2 e2 ⊢
      obtain ⟨e3, f3⟩ := dp_dups3 hl lo hi ((lo + hi) / 2) p4 p6 (.int ↑r1.2.1) (.bool false) r1.1 r2.1 r2.2 (by omega) (by omega) (by omega) _ rfl
      generalize Sorter.dups3 less r1.1 lo ((lo + hi) / 2) r2.1 r2.2 = r3 at f3 e3 ⊢
      refine ⟨⟨.int ↑r3.2.2, fun rest => ?_⟩, by omega⟩
      sl_simp [← Int.natCast_sub hch, ← Int.natCast_sub hle, hp, hq, decide_true, decide_false, Bool.not_false, Bool.and_self, e1, e2, e3]
    · refine ⟨⟨p10, fun rest => ?_⟩, ?_⟩
      · sl_simp [← Int.natCast_sub hch, ← Int.natCast_sub hle, hp, hq, decide_false, Bool.not_false, Bool.and_false, Bool.false_eq_true]
      · simp only [hp, hq, decide_false, Bool.not_false, Bool.and_false, Bool.false_eq_true, ↓reduceIte, true_and]
        omega

/-- "Protect against a lot of duplicates" -/
theorem ph_prot (lo hi m : Nat) (p4 p7 p10 : Val) (arr : Ix) (x b : Nat) (pr : Bool) (hsz : hi ≤ arr.size)
    (hx : lo + 1 ≤ x ∧ x < hi) (hb : lo + 1 ≤ b ∧ b ≤ hi) :
    ∀ p : Ix × Nat, (if pr then ((Sorter.protectLoop less (arr.size + 1) arr lo x b).1,
        (Sorter.protectLoop less (arr.size + 1) arr lo x b).2.2) else (arr, b)) = p →
    (∃ p6, ∀ rest, X cols (S.block (S.ite (v 9) (S.block [dpProtLoop]) nop :: rest))
        (dpSt lo hi m p4 (.int x) p7 (.int b) (.bool pr) p10, arr) =
      X cols (S.block rest) (dpSt lo hi m p4 p6 p7 (.int ↑p.2) (.bool pr) p10, p.1)) ∧
    p.1.size = arr.size ∧ lo + 1 ≤ p.2 ∧ p.2 ≤ b := by
  intro p hp
  subst hp
  cases pr
  · refine ⟨⟨.int x, fun rest => ?_⟩, rfl, hb.1, Nat.le_refl _⟩
    sl_simp [Bool.false_eq_true]
  · obtain ⟨e, f⟩ := dp_prot hl lo hi m (lo + 1) p4 p7 (.bool true) p10 (arr.size + 1) arr x b (by omega) (by omega) (by omega)
      hx.1 hb.1 _ rfl
    refine ⟨⟨.int ↑(Sorter.protectLoop less (arr.size + 1) arr lo x b).2.1, fun rest => ?_⟩, f⟩
    sl_simp []
    rw [e]
    sl_simp []

omit hl in
/-- `data.Swap(pivot, b-1); return b-1, c` -/
theorem ph_final (lo hi m : Nat) (p4 p6 p9 p10 : Val) (arr : Ix) (b c : Nat) (hsz : hi ≤ arr.size) (hb : lo + 1 ≤ b ∧ b ≤ hi) :
    X cols (S.block [swap (v 5) (sub (v 8) (lit 1)), S.ret2 (sub (v 8) (lit 1)) (v 7)])
        (dpSt lo hi m p4 p6 (.int c) (.int b) p9 p10, arr) = .ok (.ret (.pair ↑(b - 1) ↑c) (Sorter.sw arr lo (b - 1))) := by
  sl_simp [call_swap, cast_pred (Nat.lt_of_lt_of_le (Nat.succ_pos lo) hb.1)]


/-- `doPivot(data, lo, hi)` is the mirror's `doPivot`, and where its two results lie -/
theorem call_doPivot (a : Ix) (lo hi : Nat) (h12 : lo + 12 < hi) (hsz : hi ≤ a.size) :
    C cols fDoPivot [.sorter, .int lo, .int hi] a =
      .ok (.pair ↑(Sorter.doPivot less a lo hi).2.1 ↑(Sorter.doPivot less a lo hi).2.2, (Sorter.doPivot less a lo hi).1) ∧
    (Sorter.doPivot less a lo hi).1.size = a.size ∧ lo ≤ (Sorter.doPivot less a lo hi).2.1 ∧
    (Sorter.doPivot less a lo hi).2.1 < hi ∧ (Sorter.doPivot less a lo hi).2.2 ≤ hi := by
  rw [callLim_eq canonFns cols _ fDoPivot fnDoPivot rfl _ rfl
    [.sorter, .int lo, .int hi, .unit, .unit, .unit, .unit, .unit, .unit, .unit, .unit] rfl]
  simp only [fnDoPivot]
  sl_simp [Int.natCast_nonneg]
  rw [← x_block_cons, dp_choose hl lo hi _ _ _ _ _ _ _ a h12 hsz]
  have sz1 := choosePivot_size less a lo hi
  generalize h1 : Sorter.choosePivot less a lo hi = a1 at sz1 ⊢
  generalize (if hi - lo > 40 then Val.int ↑((hi - lo) / 8) else Val.unit) = p4
  have hsz1 : hi ≤ a1.size := sz1 ▸ hsz
  generalize hx : Sorter.scanUp (a1.size + 1) (fun i => Sorter.lt less a1 i lo) (lo + 1) (hi - 1) = x
  obtain ⟨e2, f2⟩ := ph_scan hl lo hi ((lo + hi) / 2) p4 .unit .unit .unit .unit .unit .unit a1 h12 hsz1 x hx
  generalize hr : Sorter.pivotLoop less (a1.size + 1) a1 lo x (hi - 1) = r
  obtain ⟨e3, f3⟩ := ph_part hl lo hi ((lo + hi) / 2) p4 .unit .unit .unit a1 x h12 hsz1 f2 r hr
  obtain ⟨a2, b, c⟩ := r
  simp only at e3 f3
  have hsz2 : hi ≤ a2.size := f3.1 ▸ hsz1
  generalize hst : (if !(decide (hi - c < 5)) && decide (hi - c < (hi - lo) / 4) then
      Sorter.dupsBlock less a2 lo hi ((lo + hi) / 2) b c else ⟨a2, b, c, decide (hi - c < 5)⟩) = st
  obtain ⟨⟨p10, e4⟩, f4⟩ := ph_dups hl lo hi p4 (.int x) .unit .unit a2 x b c h12 hsz2 f2 f3.2 st hst
  have hsz3 : hi ≤ st.a.size := f4.1 ▸ hsz2
  generalize hp : (if st.protect then ((Sorter.protectLoop less (st.a.size + 1) st.a lo x st.b).1,
      (Sorter.protectLoop less (st.a.size + 1) st.a lo x st.b).2.2) else (st.a, st.b)) = p
  obtain ⟨⟨p6, e5⟩, f5⟩ := ph_prot hl lo hi ((lo + hi) / 2) p4 (.int ↑st.c) p10 st.a x st.b st.protect hsz3 f2 ⟨f4.2.1, f4.2.2.1⟩ p hp
  have hsz4 : hi ≤ p.1.size := f5.1 ▸ hsz3
  have hb4 : lo + 1 ≤ p.2 ∧ p.2 ≤ hi := ⟨f5.2.1, Nat.le_trans f5.2.2 f4.2.2.1⟩
  rw [Sorter.doPivot_eq less a lo hi h1 hx hr hst hp, e2, e3, e4, e5, ph_final lo hi _ _ _ _ _ p.1 p.2 st.c hsz4 hb4]
  refine ⟨rfl, by rw [Sorter.sw_size, f5.1, f4.1, f3.1, sz1], ?_⟩
  dsimp only
  omega



end withLess
end QF.Props.C03SorterGen
