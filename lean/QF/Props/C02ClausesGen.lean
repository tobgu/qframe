import QF.Props.C02ClausesFns
/-!
# C02 — the clause evaluation of Filter in today's source IS the hand mirror `F.Clause.filter` (tie T1, by semantics)

`QF.Gen.clauseFns` (regenerated on every run by go/cmd/extract/clast.go) holds the bodies of

    QFrame.Filter, QFrame.filter(filters ...filter.Filter), QFrame.withErr, QFrame.withIndex           /repo/qframe.go
    {Filter, AndClause, OrClause, NotClause, NullClause}.filter / .Err, And, Or, Not, Null,
    anyFilterErr, orFrames                                                                             /repo/filter.go
    index.NewBool, Int.Len, Bool.Len, Int.Filter                                                       /repo/internal/index
    integer.Max                                                                                        /repo/internal/math/integer

as terms of the imperative language `QF.CL` (QF/Core/CLExpr.lean), translated statement by statement, variables and
callees named by role. `CL.interp` is the Go meaning of such a table of functions: a clause tree is turned into Go
values by running the extracted constructors (`And` / `Or` store `anyFilterErr(clauses)` or the "zero subclauses" error),
each value carries the extracted `filter` / `Err` methods of its dynamic type, and `qf.Filter(clause)` is executed. What
is NOT in the terms are the cells: the calls made for one `filter.Filter` (column look-ups, the kernel call
`s.Filter(qf.index, comparator, f.Arg, mask)` for the comparator and for its entry in `filter.Inverse`) are parameters
`O : Leaf → LeafCalls`, constrained to what `F.Leaf` says about the leaf (`LeafCalls.Abstracts`) — exactly the abstraction of
the hand mirror QF/Core/Filter.lean. Proved here and in the two files imported, over the terms generated TODAY:

* `gen_clauses_no_opaque`        — every function was translated completely (C02ClausesCanon)
* `gen_clauses_canon`            — by `rfl` (finite): today's terms are the canonical ones `canonFns` (C02ClausesCanon);
                                   insensitive to the names of variables, private helpers and private fields, to
                                   comments and formatting; sensitive to every statement, operand and call
* `gen_clause_filter_semantics`  — for EVERY clause tree, EVERY frame (failed or not, any index) and every `O` with
                                   `∀ l, (O l).Abstracts l`: `interp Gen.clauseFns O c f = some (c.filter f)` — the
                                   extracted code has a meaning (no nil dereference, no index out of range, no negative
                                   capacity, nothing opaque) and returns the index and the error flag of `F.Clause.filter`
* `gen_filter_refines`           — hence `F.filter_refines` speaks about the regenerated code: sound kernels, well-typed
                                   clause, duplicate-free index ⟹ the extracted `Filter` returns `index.filter sem`, no error
* `gen_filter_eq_mirror`, `gen_filter_eq_spec_today` (C02ClausesLink) — hence `C02Mirror.mirrorFilter_eq_spec_today` does: the extracted code
                                   on the mirror clause of a spec clause = the spec's `keptRows` (or the error)
* `filter_length_le`             — the mirror never lengthens the index (used for the capacity of `NotClause.filter`)
* function by function (C02ClausesFns and below): `call_ixFilter` (`Int.Filter` = `F.idxFilter`), `call_orFrames`
  (`orFrames` = `F.orFrames`, the two-cursor loop = `F.orMerge`), `call_leaves` (`QFrame.filter` = `F.filterLeaves`: one
  `F.leafStep` per filter on the shared mask, shortcut through `filter.Inverse` iff `Leaf.inv`, else the fallback
  `bIndex[i] = !invBIndex[i]` where still false), `call_filterAnd` (= `F.andLoop`), `call_filterOr` (batches of
  consecutive plain filters, flushed in front of a nested clause and at the end = `F.orLoop`), `call_filterNot` (leaf: flip
  `Inverse`; else complement within the frame = `F.notMerge`), `call_ctorAnd/Or` + `call_anyErr` (= `Clause.hasErr`).
* witnesses at the end: mutations of single statements that change the result on a concrete input (`decide`), and one
  (`staleBatch`) that cannot be seen in the results of the examples (it only makes `gen_clauses_canon` fail).
-/
namespace QF.Props.C02ClausesGen
open QF QF.CL F
set_option linter.unusedSimpArgs false

variable (O : Leaf → LeafCalls)


/-! ## `Err()` and the constructors `Not`, `Null` -/

theorem call_errLeaf (n : Nat) (l : Leaf) : callAt canonFns O (n+1) (.errM .filter) [.leaf l] = some (.err false) := by
  rw [callAt_succ O n (.errM .filter) fnErrLeaf rfl]; exec_simp [runFn, fnErrLeaf]

theorem call_errNull (n : Nat) (s : List Obj) (e : Bool) : callAt canonFns O (n+1) (.errM .null) [.struct .null s e] = some (.err false) := by
  rw [callAt_succ O n (.errM .null) fnErrNull rfl]; exec_simp [runFn, fnErrNull]

theorem call_errAnd (n : Nat) (s : List Obj) (e : Bool) : callAt canonFns O (n+1) (.errM .and) [.struct .and s e] = some (.err e) := by
  rw [callAt_succ O n (.errM .and) fnErrCombo rfl]; exec_simp [runFn, fnErrCombo]

theorem call_errOr (n : Nat) (s : List Obj) (e : Bool) : callAt canonFns O (n+1) (.errM .or) [.struct .or s e] = some (.err e) := by
  rw [callAt_succ O n (.errM .or) fnErrCombo rfl]; exec_simp [runFn, fnErrCombo]

theorem call_errNot (n : Nat) (o : Obj) (e b : Bool) (h : o.errM = some b) :
    callAt canonFns O (n+1) (.errM .not) [.struct .not [o] e] = some (.err b) := by
  rw [callAt_succ O n (.errM .not) fnErrNot rfl]; exec_simp [runFn, fnErrNot, h]

theorem call_ctorNot (n : Nat) (o : Obj) : callAt canonFns O (n+1) (.ctor .not) [.obj o] = some (.struct .not [o] false) := by
  rw [callAt_succ O n (.ctor .not) fnCtorNot rfl]; exec_simp [runFn, fnCtorNot]

theorem call_ctorNull (n : Nat) : callAt canonFns O (n+1) (.ctor .null) [] = some (.struct .null [] false) := by
  rw [callAt_succ O n (.ctor .null) fnCtorNull rfl]; exec_simp [runFn, fnCtorNull]

/-! ## The interface values and the clause tree -/

def tyOf : Clause → DynTy
  | .leaf _ => .filter
  | .and _ => .and
  | .or _ => .or
  | .not _ => .not
  | .null => .null

theorem leaf_of_tyOf {c : Clause} (h : tyOf c = .filter) : ∃ l, c = .leaf l := by
  cases c <;> first | exact ⟨_, rfl⟩ | cases h

theorem nonleaf_of_tyOf {c : Clause} (h : tyOf c ≠ .filter) (l : Leaf) : c ≠ .leaf l := fun e => h (e ▸ rfl)

/-- the interface value `o` behaves as the hand mirror says the clause `c` does -/
structure Rep (o : Obj) (c : Clause) : Prop where
  ty : o.ty = tyOf c
  leaf : ∀ l, c = .leaf l → o.leaf = l
  run : ∀ f, o.filterM f = some (c.filter f)
  err : o.errM = some c.hasErr

inductive Reps : List Obj → List Clause → Prop where
  | nil : Reps [] []
  | cons {o : Obj} {c : Clause} {os : List Obj} {cs : List Clause} : Rep o c → Reps os cs → Reps (o :: os) (c :: cs)

/-! ## `anyFilterErr` and the constructors `And`, `Or` -/

theorem anyErr_loop (Γ : Env) {os : List Obj} {cs : List Clause} (hr : Reps os cs) : ∀ (j : Nat) (σ : Store),
    match cs.any (·.hasErr) with
    | true => loop (stepOf Γ none (some 1) anyErrBody) (os.map .obj) j σ = .ret (.err true)
    | false => ∃ σ', loop (stepOf Γ none (some 1) anyErrBody) (os.map .obj) j σ = .next σ' := by
  induction hr with
  | nil => intro j σ; exact ⟨σ, rfl⟩
  | @cons o c os cs h _ ih =>
    intro j σ
    have hb := h.err
    have ih' := ih (j+1) (σ.set 1 (.obj o))
    cases hc : c.hasErr <;> rw [hc] at hb <;> simp only [List.map_cons, loop, List.any_cons, hc, Bool.false_or, Bool.true_or]
    · exec_simp [stepOf, hb]
      exact ih'
    · exec_simp [stepOf, hb]

theorem call_anyErr (n : Nat) {os : List Obj} {cs : List Clause} (hr : Reps os cs) :
    callAt canonFns O (n+1) .anyErr [.objs os] = some (.err (cs.any (·.hasErr))) := by
  rw [callAt_succ O n .anyErr fnAnyErr rfl]
  have hl := anyErr_loop (env O n) hr 0 (Store.empty.set 0 (.objs os))
  cases h : cs.any (·.hasErr) <;> rw [h] at hl
  · obtain ⟨σ', h1⟩ := hl
    exec_simp [runFn, fnAnyErr, h1]
  · exec_simp [runFn, fnAnyErr, show loop _ _ _ _ = _ from hl]

theorem run_ctorCombo (n : Nat) (ty : DynTy) {os : List Obj} {cs : List Clause} (hr : Reps os cs) :
    runFn (env O (n+1)) (fnCtorCombo ty) [.objs os] = some (.struct ty os (cs.isEmpty || cs.any (·.hasErr))) := by
  have := call_anyErr O n hr
  cases hr with
  | nil => exec_simp [runFn, fnCtorCombo]
  | @cons o c os cs _ _ =>
    have hne : (((os.length : Int) + 1) == 0) = false := by rw [beq_eq_false_iff_ne]; omega
    exec_simp [runFn, fnCtorCombo, hne, this]

theorem call_ctorAnd (n : Nat) {os : List Obj} {cs : List Clause} (hr : Reps os cs) :
    callAt canonFns O (n+2) (.ctor .and) [.objs os] = some (.struct .and os (cs.isEmpty || cs.any (·.hasErr))) := by
  rw [callAt_succ O (n+1) (.ctor .and) (fnCtorCombo .and) rfl]; exact run_ctorCombo O n .and hr

theorem call_ctorOr (n : Nat) {os : List Obj} {cs : List Clause} (hr : Reps os cs) :
    callAt canonFns O (n+2) (.ctor .or) [.objs os] = some (.struct .or os (cs.isEmpty || cs.any (·.hasErr))) := by
  rw [callAt_succ O (n+1) (.ctor .or) (fnCtorCombo .or) rfl]; exact run_ctorCombo O n .or hr

/-! ## The `filter` methods -/

theorem call_filterLeaf (hO : ∀ l, (O l).Abstracts l) (n : Nat) (l : Leaf) (f : Frame) :
    callAt canonFns O (n+3) (.filter .filter) [.leaf l, .frame f] = some (.frame (filterLeaves f [l])) := by
  rw [callAt_succ O (n+2) (.filter .filter) fnFilterLeaf rfl]
  exec_simp [runFn, fnFilterLeaf, call_leaves O hO n]

theorem call_filterNull (n : Nat) (s : List Obj) (e : Bool) (f : Frame) :
    callAt canonFns O (n+1) (.filter .null) [.struct .null s e, .frame f] = some (.frame f) := by
  rw [callAt_succ O n (.filter .null) fnFilterNull rfl]
  exec_simp [runFn, fnFilterNull]

/-- the two guards at the head of the `filter` methods of `AndClause`, `OrClause`, `NotClause` — `if qf.Err != nil { return qf }`,
`if c.Err() != nil { return qf.withErr(c.Err()) }` — are the two guards of the mirror; `rest` runs on a sound frame and clause only -/
theorem run_guarded (n : Nat) (ty : DynTy) (rest : List S) (recv : Val) (f r : Frame) (b : Bool)
    (herr : callAt canonFns O (n+1) (.errM ty) [recv] = some (.err b))
    (hrest : f.err = false → b = false →
      (S.block rest).exec (env O (n+1)) ((Store.empty.set 0 recv).set 1 (.frame f)) = .ret (.frame r)) :
    runFn (env O (n+1)) { params := 2, body := S.block (retIfFailed 1 :: retIfClauseErr ty :: rest) } [recv, .frame f] =
      some (.frame (if f.err then f else if b then { f with err := true } else r)) := by
  cases hf : f.err
  · cases hb : b
    · have := hrest hf hb
      subst hb
      exec_simp [runFn, retIfFailed, retIfClauseErr, hf, herr, this]
    · subst hb
      exec_simp [runFn, retIfFailed, retIfClauseErr, hf, herr, call_withErr]
  · exec_simp [runFn, retIfFailed, hf]

theorem and_loop (Γ : Env) {os : List Obj} {cs : List Clause} (hr : Reps os cs) : ∀ (j : Nat) (σ : Store) (g : Frame),
    σ 2 = some (.ptr (some g)) →
    ∃ σ', loop (stepOf Γ none (some 3) andBody) (os.map .obj) j σ = .next σ' ∧ σ' 2 = some (.ptr (some (andLoop cs g))) := by
  induction hr with
  | nil => intro j σ g h; exact ⟨σ, rfl, by simpa [andLoop] using h⟩
  | @cons o c os cs h _ ih =>
    intro j σ g h2
    simp only [List.map_cons, loop, andLoop]
    exec_simp [stepOf, h2, h.run]
    exact ih _ _ _ (by simp [set_apply])

theorem call_filterAnd (n : Nat) {os : List Obj} {cs : List Clause} (hr : Reps os cs) (f : Frame) :
    callAt canonFns O (n+2) (.filter .and) [.struct .and os (cs.isEmpty || cs.any (·.hasErr)), .frame f] =
      some (.frame ((Clause.and cs).filter f)) := by
  rw [callAt_succ O (n+1) (.filter .and) fnFilterAnd rfl, Clause.filter, he_and]
  refine run_guarded O n .and _ _ f _ _ (call_errAnd O n os _) (fun _ _ => ?_)
  obtain ⟨σ', e, g2⟩ := and_loop (env O (n+1)) hr 0
    (((Store.empty.set 0 (.struct .and os (cs.isEmpty || cs.any (·.hasErr)))).set 1 (.frame f)).set 2 (.ptr (some f))) f (by simp [set_apply])
  exec_simp [e, g2]

/-! ### `OrClause.filter` -/

/-- the variables of the loop of `OrClause.filter`: the frame, the batch of plain filters, the accumulated result -/
def OrSt (σ : Store) (f : Frame) (pending : List Leaf) (acc : Option Frame) : Prop :=
  σ 1 = some (.frame f) ∧ σ 2 = some (.leaves pending) ∧ σ 3 = some (.ptr acc)

/-- a nested clause: the pending batch is flushed (one shared mask), then the clause is filtered on the whole frame -/
theorem or_step_other (hO : ∀ l, (O l).Abstracts l) (n : Nat) (f g : Frame) (o : Obj) (hty : o.ty ≠ .filter) (hrun : o.filterM f = some g)
    (j : Nat) (σ : Store) (pending : List Leaf) (acc : Option Frame) (hs : OrSt σ f pending acc) :
    ∃ σ', stepOf (env O (n+2)) none (some 4) orClauseBody (.obj o) j σ = .next σ' ∧
      OrSt σ' f [] (some (F.orFrames f (F.flush f pending acc) g)) := by
  obtain ⟨h1, h2, h3⟩ := hs
  unfold F.flush
  cases pending with
  | nil => exact ⟨_, by exec_simp [stepOf, hty, h1, h2, h3, hrun, call_orFrames]; rfl, by simp [OrSt, set_apply, h1, h2]⟩
  | cons p ps =>
    have hpos : (0 : Int) < (ps.length : Int) + 1 := by omega
    have hle : ¬ ((ps.length : Int) + 1 < 0) := by omega
    exact ⟨_, by exec_simp [stepOf, hty, flush, h1, h2, h3, hrun, hpos, hle, call_leaves O hO n, call_orFrames]; rfl,
      by simp [OrSt, set_apply, h1]⟩

/-- a plain filter joins the batch -/
theorem or_step_leaf (n : Nat) (f : Frame) (o : Obj) (l : Leaf) (hty : o.ty = .filter) (hl : o.leaf = l)
    (j : Nat) (σ : Store) (pending : List Leaf) (acc : Option Frame) (hs : OrSt σ f pending acc) :
    ∃ σ', stepOf (env O (n+2)) none (some 4) orClauseBody (.obj o) j σ = .next σ' ∧ OrSt σ' f (pending ++ [l]) acc :=
  ⟨_, by exec_simp [stepOf, hty, hl, hs.2.1]; rfl, by simp [OrSt, set_apply, hs.1, hs.2.2]⟩

/-- the loop of `OrClause.filter` against `F.orLoop`, whose value `T` stays what it is while batch and accumulator move; once a
clause has been seen, one of the two is not empty -/
theorem or_loop (hO : ∀ l, (O l).Abstracts l) (n : Nat) (f T : Frame) {os : List Obj} {cs : List Clause} (hr : Reps os cs) :
    ∀ (j : Nat) (σ : Store) (pending : List Leaf) (acc : Option Frame),
    OrSt σ f pending acc → orLoop cs f pending acc = T → (cs = [] → pending ≠ [] ∨ acc ≠ none) →
    ∃ σ' pending' acc', loop (stepOf (env O (n+2)) none (some 4) orClauseBody) (os.map .obj) j σ = .next σ' ∧
      OrSt σ' f pending' acc' ∧ orLoop [] f pending' acc' = T ∧ (pending' ≠ [] ∨ acc' ≠ none) := by
  induction hr with
  | nil => intro j σ pending acc hs hT hne; exact ⟨σ, pending, acc, rfl, hs, hT, hne rfl⟩
  | @cons o c os cs h _ ih =>
    intro j σ pending acc hs hT _
    simp only [List.map_cons, loop]
    by_cases hc : tyOf c = .filter
    · obtain ⟨l, rfl⟩ := leaf_of_tyOf hc
      obtain ⟨σ1, e1, k⟩ := or_step_leaf O n f o l h.ty (h.leaf l rfl) j σ pending acc hs
      rw [e1]
      exact ih (j+1) σ1 _ _ k (by simpa [orLoop] using hT) (fun _ => .inl (by simp))
    · obtain ⟨σ1, e1, k⟩ := or_step_other O hO n f (c.filter f) o (by rw [h.ty]; exact hc) (h.run f) j σ pending acc hs
      rw [F.orLoop_nonleaf (nonleaf_of_tyOf hc)] at hT
      rw [e1]
      exact ih (j+1) σ1 _ _ k hT (fun _ => .inr (by simp))

theorem call_filterOr (hO : ∀ l, (O l).Abstracts l) (n : Nat) {os : List Obj} {cs : List Clause} (hr : Reps os cs) (f : Frame) :
    callAt canonFns O (n+3) (.filter .or) [.struct .or os (cs.isEmpty || cs.any (·.hasErr)), .frame f] =
      some (.frame ((Clause.or cs).filter f)) := by
  rw [callAt_succ O (n+2) (.filter .or) fnFilterOr rfl, Clause.filter, he_or]
  refine run_guarded O (n+1) .or _ _ f _ _ (call_errOr O (n+1) os _) (fun _ he => ?_)
  obtain ⟨σ', p', a', e, ⟨g1, g2, g3⟩, g4, g5⟩ := or_loop O hO n f _ hr 0
    ((((Store.empty.set 0 (.struct .or os (cs.isEmpty || cs.any (·.hasErr)))).set 1 (.frame f)).set 2 (.leaves [])).set 3 (.ptr none)) [] none
    (by simp [OrSt, set_apply]) rfl (fun h => by simp [h] at he)
  rw [← g4]
  cases p' with
  | nil =>
    cases a' with
    | none => simp at g5
    | some a => exec_simp [e, g2, g3, orLoop]
  | cons p ps =>
    have hpos : (0 : Int) < (ps.length : Int) + 1 := by omega
    exec_simp [e, g1, g2, g3, orLoop, flush, hpos, call_leaves O hO n, call_orFrames]

/-! ### The mirror never lengthens the index (so the capacity `qf.index.Len()-newQf.index.Len()` of `NotClause.filter` is not negative) -/

theorem idxFilter_length_le : ∀ (ix : List Pos) (m : List Bool), (idxFilter ix m).length ≤ ix.length := by
  intro ix
  induction ix with
  | nil => intro m; simp [idxFilter]
  | cons i ix ih =>
    intro m
    cases m with
    | nil => simp [idxFilter]
    | cons b m =>
      have := ih m
      cases b <;> simp only [idxFilter, Bool.false_eq_true, if_false, if_true, List.length_cons] <;> omega

theorem filterLeaves_length_le (f : Frame) (ls : List Leaf) : (filterLeaves f ls).index.length ≤ f.index.length := by
  unfold filterLeaves
  cases f.err
  · simp only [Bool.false_eq_true, if_false]
    cases ls.foldlM (leafStep f.index) (List.replicate f.index.length false) with
    | none => simp
    | some m => exact idxFilter_length_le _ _
  · simp

theorem orMerge_length_le : ∀ (orig l r : List Pos), (orMerge orig l r).length ≤ orig.length := by
  intro orig
  induction orig with
  | nil => intro l r; simp [orMerge]
  | cons x orig ih =>
    intro l r
    have := ih (if (l.head? == some x) = true then l.tail else l) (if (r.head? == some x) = true then r.tail else r)
    simp only [orMerge]
    split <;> simp only [List.length_cons] <;> omega

theorem notMerge_length_le : ∀ (orig s : List Pos), (notMerge orig s).length ≤ orig.length := by
  intro orig
  induction orig with
  | nil => intro s; simp [notMerge]
  | cons x orig ih =>
    intro s
    have h1 := ih s.tail
    have h2 := ih s
    simp only [notMerge]
    split <;> simp only [List.length_cons] <;> omega

theorem orFrames_length_le (orig rhs : Frame) (lhs : Option Frame) (hl : ∀ g, lhs = some g → g.index.length ≤ orig.index.length)
    (hr : rhs.index.length ≤ orig.index.length) : (F.orFrames orig lhs rhs).index.length ≤ orig.index.length := by
  cases lhs with
  | none => exact hr
  | some g =>
    simp only [F.orFrames]
    split
    · exact hl g rfl
    · split
      · exact hr
      · exact orMerge_length_le _ _ _

/-- the guards in front of `And`, `Or`, `Not`: a failed frame and a clause with an error leave the index alone -/
theorem guarded_length_le (f g : Frame) (a b : Bool) (h : g.index.length ≤ f.index.length) :
    (if a then f else if b then { f with err := true } else g).index.length ≤ f.index.length := by
  cases a <;> cases b <;> first | exact h | exact Nat.le_refl _

/-- the pending batch flushed into the accumulator -/
theorem flush_length_le (f : Frame) (pending : List Leaf) (acc : Option Frame) (ha : ∀ g, acc = some g → g.index.length ≤ f.index.length) :
    ∀ g, F.flush f pending acc = some g → g.index.length ≤ f.index.length := by
  intro g hg
  unfold F.flush at hg
  split at hg
  · exact ha g hg
  · cases hg; exact orFrames_length_le _ _ _ ha (filterLeaves_length_le _ _)

mutual
/-- whatever the kernels do, the mirror's result never has more rows than the frame -/
theorem filter_length_le (c : Clause) (f : Frame) : (c.filter f).index.length ≤ f.index.length := by
  match c with
  | .leaf l => exact filterLeaves_length_le _ _
  | .null => exact Nat.le_refl _
  | .and cs => simp only [Clause.filter]; exact guarded_length_le _ _ _ _ (andLoop_length_le cs f)
  | .or cs => simp only [Clause.filter]; exact guarded_length_le _ _ _ _ (orLoop_length_le cs f [] none (fun g h => by cases h))
  | .not c =>
    by_cases hc : tyOf c = .filter
    · obtain ⟨l, rfl⟩ := leaf_of_tyOf hc
      simp only [Clause.filter]
      exact guarded_length_le _ _ _ _ (filterLeaves_length_le _ _)
    · rw [filter_not_nonleaf c (nonleaf_of_tyOf hc)]
      refine guarded_length_le _ _ _ _ ?_
      split
      · exact filter_length_le c f
      · exact notMerge_length_le _ _
theorem andLoop_length_le (cs : List Clause) (f : Frame) : (andLoop cs f).index.length ≤ f.index.length := by
  match cs with
  | [] => exact Nat.le_refl _
  | c :: cs => exact Nat.le_trans (andLoop_length_le cs (c.filter f)) (filter_length_le c f)
theorem orLoop_length_le (cs : List Clause) (f : Frame) (pending : List Leaf) (acc : Option Frame)
    (ha : ∀ g, acc = some g → g.index.length ≤ f.index.length) : (orLoop cs f pending acc).index.length ≤ f.index.length := by
  match cs with
  | [] =>
    rw [orLoop_nil]
    cases hx : F.flush f pending acc with
    | none => exact Nat.le_refl _
    | some g => exact flush_length_le f pending acc ha g hx
  | c :: cs =>
    by_cases hc : tyOf c = .filter
    · obtain ⟨l, rfl⟩ := leaf_of_tyOf hc
      simp only [orLoop]
      exact orLoop_length_le cs f _ acc ha
    · rw [F.orLoop_nonleaf (nonleaf_of_tyOf hc)]
      exact orLoop_length_le cs f [] _ (fun g hg => by
        cases hg; exact orFrames_length_le _ _ _ (flush_length_le f pending acc ha) (filter_length_le c f))
end

/-! ### `NotClause.filter` -/

theorem eval_notCond (n : Nat) (σ : Store) (G : Frame) (i : Nat) (y : Pos)
    (h4 : σ 4 = some (.frame G)) (h6 : σ 6 = some (.int i)) (h7 : σ 7 = some (.pos y)) :
    notCond.eval (env O (n+1)) σ = some (.bool ((G.index.drop i).head? == some y)) :=
  eval_cursor _ σ (E.call1 FnId.ixLen (E.frameIndex (E.var 4))) (E.frameIndex (E.var 4)) 6 7 G.index i y
    (by simp [E.eval, h4, call_ixLen]) (by simp [E.eval, h4]) h6 h7

theorem not_loop (n : Nat) (G : Frame) (v : Val) (T : List Pos) (xs : List Pos) : ∀ (c : Nat) (σ : Store) (acc : List Pos) (i : Nat),
    σ 1 = some v → σ 4 = some (.frame G) → σ 5 = some (.ix acc) → σ 6 = some (.int i) → acc ++ notMerge xs (G.index.drop i) = T →
    ∃ σ', loop (stepOf (env O (n+1)) none (some 7) notBody) (xs.map .pos) c σ = .next σ' ∧ σ' 1 = some v ∧ σ' 5 = some (.ix T) := by
  induction xs with
  | nil => intro c σ acc i h1 _ h5 _ hT; exact ⟨σ, rfl, h1, by simpa [notMerge, h5] using hT⟩
  | cons x xs ih =>
    intro c σ acc i h1 h4 h5 h6 hT
    have e1 := eval_notCond O n (σ.set 7 (.pos x)) G i x (by simp [set_apply, h4]) (by simp [set_apply, h6]) (by simp [set_apply])
    simp only [List.map_cons, loop, notMerge] at hT ⊢
    -- run the round in the goal, then the rest of the loop from whatever store it leaves
    cases hh : ((G.index.drop i).head? == some x) <;> rw [hh] at e1 hT
    · exec_simp [stepOf, e1, h5]
      exact ih _ _ (acc ++ [x]) i (by simp [set_apply, h1]) (by simp [set_apply, h4]) (by simp [set_apply]) (by simp [set_apply, h6]) (by simpa using hT)
    · exec_simp [stepOf, e1, h6]
      exact ih _ _ acc (i + 1) (by simp [set_apply, h1]) (by simp [set_apply, h4]) (by simp [set_apply, h5]) (by simp [set_apply])
        (by simpa [List.tail_drop] using hT)

/-- the guards of `NotClause.filter` in the mirror, whatever the sub-clause -/
theorem not_filter_guarded (c : Clause) (f : Frame) :
    (Clause.not c).filter f = if f.err then f else if c.hasErr then { f with err := true } else (Clause.not c).filter f := by
  cases hf : f.err
  · cases he : c.hasErr
    · simp
    · cases c <;> simp [Clause.filter, hf, he]
  · simp [filter_of_err _ _ hf]

theorem call_filterNot (hO : ∀ l, (O l).Abstracts l) (n : Nat) (o : Obj) (c : Clause) (h : Rep o c) (e : Bool) (f : Frame) :
    callAt canonFns O (n+3) (.filter .not) [.struct .not [o] e, .frame f] = some (.frame ((Clause.not c).filter f)) := by
  rw [callAt_succ O (n+2) (.filter .not) fnFilterNot rfl, not_filter_guarded c f]
  refine run_guarded O (n+1) .not _ _ f _ _ (call_errNot O (n+1) o e _ h.err) (fun hf he => ?_)
  by_cases hc : tyOf c = .filter
  · obtain ⟨l, rfl⟩ := leaf_of_tyOf hc
    have hl : o.leaf = l := h.leaf l rfl
    have hty : o.ty = .filter := h.ty
    exec_simp [hty, hl, call_leaves O hO n, Clause.filter, hf]
  · have hty : o.ty ≠ .filter := by rw [h.ty]; exact hc
    rw [filter_not_nonleaf c (nonleaf_of_tyOf hc)]
    simp only [hf, he, Bool.false_eq_true, if_false]
    cases hg : (c.filter f).err
    · have hlen := filter_length_le c f
      have hcap : ¬ ((f.index.length : Int) - ((c.filter f).index.length : Int) < 0) := by omega
      obtain ⟨σ', g1, g2, g3⟩ := not_loop O (n+1) (c.filter f) (.frame f) _ f.index 0
        (((((Store.empty.set 0 (.struct .not [o] e)).set 1 (.frame f)).set 4 (.frame (c.filter f))).set 5 (.ix [])).set 6 (.int 0)) [] 0
        (by simp [set_apply]) (by simp [set_apply]) (by simp [set_apply]) (by simp [set_apply]) rfl
      exec_simp [retIfFailed, hty, h.run, hf, hg, call_ixLen, hcap, g1, g2, g3, call_withIndex]
    · exec_simp [retIfFailed, hty, h.run, hg]

/-! ## The clause tree as Go values -/

section main
variable (hO : ∀ l, (O l).Abstracts l)
include hO

omit hO in
/-- `mkObj` gives a value that represents `c` when the constructor of the type returns the struct `(s, e)` and the two methods
of the type, called with it as the receiver, return what the mirror says of `c` -/
theorem mkObj_rep (call : FnId → List Val → Option Val) (ty : DynTy) (leaf : Leaf) (subs s : List Obj) (e : Bool) (c : Clause)
    (hc : construct call ty subs = some (s, e)) (hty : ty = tyOf c) (hleaf : ∀ l, c = .leaf l → leaf = l)
    (hrun : ∀ f, call (.filter ty) [recvOf ty leaf s e, .frame f] = some (.frame (c.filter f)))
    (herr : call (.errM ty) [recvOf ty leaf s e] = some (.err c.hasErr)) :
    ∃ o, mkObj call ty leaf subs = some o ∧ Rep o c := by
  rw [mkObj, hc]
  exact ⟨_, rfl, hty, hleaf, fun f => by simp [Obj.filterM, hrun, asFrame], by simp [Obj.errM, herr, asErr]⟩

theorem mkObj_leaf (l : Leaf) : ∃ o, mkObj (callAt canonFns O depth) .filter l [] = some o ∧ Rep o (.leaf l) :=
  mkObj_rep _ _ _ _ [] false _ rfl rfl (fun _ h => by cases h; rfl)
    (fun f => by simp [recvOf, depth, call_filterLeaf O hO 1, Clause.filter]) (by simp [recvOf, depth, call_errLeaf O 3])

theorem mkObj_null : ∃ o, mkObj (callAt canonFns O depth) .null default [] = some o ∧ Rep o .null :=
  mkObj_rep _ _ _ _ [] false _ (by simp [construct, depth, call_ctorNull O 3]) rfl (fun _ h => by cases h)
    (fun f => by simp [recvOf, depth, call_filterNull O 3, Clause.filter]) (by simp [recvOf, depth, call_errNull O 3])

theorem mkObj_not (o : Obj) (c : Clause) (h : Rep o c) :
    ∃ o', mkObj (callAt canonFns O depth) .not default [o] = some o' ∧ Rep o' (.not c) :=
  mkObj_rep _ _ _ _ [o] false _ (by simp [construct, depth, call_ctorNot O 3]) rfl (fun _ h => by cases h)
    (fun f => by simp [recvOf, depth, call_filterNot O hO 1 o c h]) (by simp [recvOf, depth, call_errNot O 3 o false _ h.err])

theorem mkObj_and (os : List Obj) (cs : List Clause) (hr : Reps os cs) :
    ∃ o, mkObj (callAt canonFns O depth) .and default os = some o ∧ Rep o (.and cs) :=
  mkObj_rep _ _ _ _ os (cs.isEmpty || cs.any (·.hasErr)) _ (by simp [construct, depth, call_ctorAnd O 2 hr]) rfl
    (fun _ h => by cases h) (fun f => by simp [recvOf, depth, call_filterAnd O 2 hr]) (by simp [recvOf, depth, call_errAnd O 3])

theorem mkObj_or (os : List Obj) (cs : List Clause) (hr : Reps os cs) :
    ∃ o, mkObj (callAt canonFns O depth) .or default os = some o ∧ Rep o (.or cs) :=
  mkObj_rep _ _ _ _ os (cs.isEmpty || cs.any (·.hasErr)) _ (by simp [construct, depth, call_ctorOr O 2 hr]) rfl
    (fun _ h => by cases h) (fun f => by simp [recvOf, depth, call_filterOr O hO 1 hr]) (by simp [recvOf, depth, call_errOr O 3])

mutual
theorem objOf_rep : ∀ c : Clause, ∃ o, objOf (callAt canonFns O depth) c = some o ∧ Rep o c
  | .leaf l => by simpa [objOf] using mkObj_leaf O hO l
  | .null => by simpa [objOf] using mkObj_null O hO
  | .not c => by
    obtain ⟨o, e, h⟩ := objOf_rep c
    simpa [objOf, e] using mkObj_not O hO o c h
  | .and cs => by
    obtain ⟨os, e, h⟩ := objsOf_rep cs
    simpa [objOf, e] using mkObj_and O hO os cs h
  | .or cs => by
    obtain ⟨os, e, h⟩ := objsOf_rep cs
    simpa [objOf, e] using mkObj_or O hO os cs h
theorem objsOf_rep : ∀ cs : List Clause, ∃ os, objsOf (callAt canonFns O depth) cs = some os ∧ Reps os cs
  | [] => ⟨[], rfl, .nil⟩
  | c :: cs => by
    obtain ⟨o, e, h⟩ := objOf_rep c
    obtain ⟨os, e', h'⟩ := objsOf_rep cs
    exact ⟨o :: os, by simp [objsOf, e, e'], .cons h h'⟩
end

theorem canon_clause_filter_semantics (c : Clause) (f : Frame) : interp canonFns O c f = some (c.filter f) := by
  obtain ⟨o, e, h⟩ := objOf_rep O hO c
  have hp : callAt canonFns O depth .publicFilter [.frame f, .obj o] = some (.frame (c.filter f)) := by
    show callAt canonFns O (3+1) .publicFilter _ = _
    rw [callAt_succ O 3 .publicFilter fnPublicFilter rfl]
    cases hf : f.err
    · exec_simp [runFn, fnPublicFilter, retIfFailed, hf, h.run]
    · rw [filter_of_err _ _ hf]
      exec_simp [runFn, fnPublicFilter, retIfFailed, hf]
  simp [interp, e, hp, asFrame]

/-- **The clause evaluation regenerated from today's source is the hand mirror.** For every clause tree, every frame
(failed or not, any index) and every behaviour of the calls made for the leaves that `F.Leaf` abstracts (`hO`), running
`qf.Filter(clause)` through the functions extracted today — `QFrame.Filter`, the `filter` / `Err` methods and the
constructors of the clause types, `anyFilterErr`, `QFrame.filter` with its shared mask and its handling of `Inverse`,
`orFrames`, `withErr` / `withIndex`, `index.NewBool` / `Int.Filter` / `Len`, `integer.Max` — has a meaning (no panic, nothing
opaque) and returns exactly the frame (index and error flag) `F.Clause.filter` returns. -/
theorem gen_clause_filter_semantics (c : Clause) (f : Frame) : interp Gen.clauseFns O c f = some (c.filter f) := by
  rw [gen_clauses_canon]; exact canon_clause_filter_semantics O hO c f

end main

/-- the hypothesis of `gen_clause_filter_semantics` is satisfiable: the simplest calls with the abstraction -/
theorem gen_clause_filter_semantics_ofLeaf (c : Clause) (f : Frame) :
    interp Gen.clauseFns LeafCalls.ofLeaf c f = some (c.filter f) :=
  gen_clause_filter_semantics _ LeafCalls.ofLeaf_abstracts c f

/-! ## `filter_refines` and `mirrorFilter_eq_spec_today` speak about the regenerated code -/

/-- `F.filter_refines` for the extracted code: sound kernels, a well-typed clause, a duplicate-free index and no error ⟹
`qf.Filter(clause)` as extracted today keeps exactly the rows that satisfy the clause, in order, without error. -/
theorem gen_filter_refines (hO : ∀ l, (O l).Abstracts l) (c : Clause) (hs : c.sound) (hw : c.wellTyped = true)
    (f : Frame) (hnd : f.index.Nodup) (he : f.err = false) :
    interp Gen.clauseFns O c f = some { index := f.index.filter c.sem, err := false } := by
  rw [gen_clause_filter_semantics O hO]
  obtain ⟨e, i⟩ := F.filter_refines c hs hw f hnd he
  cases hr : c.filter f with
  | mk ix er => rw [hr] at e i; simp only at e i; rw [e, i]

/-! ## Witnesses: what the statement rules out -/

/-- the table with one function replaced -/
def withFn (id : FnId) (fn : Fn) : List (FnId × Fn) := canonFns.map (fun p => if p.1 = id then (id, fn) else p)

/-- `some (c.filter f)` as the extracted code computes it. `Clause.filter`, `andLoop` and `orLoop` are structural and reduce
under `decide +kernel`; `Clause.hasErr` (well-founded, through `attach`), which the guards of `And`, `Or`, `Not` call, does not:
the theorem turns a mirror value into something `decide` can run whatever the clause -/
theorem mirror_eq_canon (c : Clause) (f : Frame) : some (c.filter f) = interp canonFns LeafCalls.ofLeaf c f :=
  (canon_clause_filter_semantics _ LeafCalls.ofLeaf_abstracts c f).symm

def fr3 : Frame := { index := [0, 1, 2] }
/-- `x = first`: a guarded kernel; `!=` is in `filter.Inverse` -/
def eq0 : Leaf := { shape := .guarded, pred := fun p => p == 0, inv := some (.guarded, fun p => p != 0) }
/-- `x > first`: a guarded kernel without an entry in `filter.Inverse` -/
def gt0 : Leaf := { shape := .guarded, pred := fun p => p > 0 }
def bad : Leaf := { shape := .guarded, pred := fun _ => false, err := true }
/-- a kernel that overwrites the mask (the int `isnull` kernel before its repair: `for i := range bIndex { bIndex[i] = false }`) -/
def wipe : Leaf := { shape := .setAll false, pred := fun _ => false }

/-- today's code on the inputs of the witnesses below (run once here, looked up there) -/
theorem today_not_gt0 : interp canonFns LeafCalls.ofLeaf (.not (.leaf gt0)) fr3 = some { index := [0] } := by decide +kernel
theorem today_not_eq0 : interp canonFns LeafCalls.ofLeaf (.not (.leaf eq0)) fr3 = some { index := [1, 2] } := by decide +kernel
theorem today_or_gt0 : interp canonFns LeafCalls.ofLeaf (.or [.leaf eq0, .not (.leaf eq0), .leaf gt0]) fr3 = some { index := [0, 1, 2] } := by
  decide +kernel
theorem today_or_wipe : interp canonFns LeafCalls.ofLeaf (.or [.leaf eq0, .not (.leaf eq0), .leaf wipe]) fr3 = some { index := [0, 1, 2] } := by
  decide +kernel
theorem today_and_bad : interp canonFns LeafCalls.ofLeaf (.and [.leaf bad, .leaf eq0]) fr3 = some { index := [0, 1, 2], err := true } := by
  decide +kernel
theorem today_and_nil : interp canonFns LeafCalls.ofLeaf (.and []) fr3 = some { index := [0, 1, 2], err := true } := by decide +kernel

example : interp canonFns LeafCalls.ofLeaf (.not (.leaf gt0)) fr3 = some { index := [0] } := today_not_gt0
example : interp canonFns LeafCalls.ofLeaf (.not (.leaf eq0)) fr3 = some { index := [1, 2] } := today_not_eq0
example : interp canonFns LeafCalls.ofLeaf (.or [.leaf eq0, .not (.leaf eq0), .leaf gt0]) fr3 = some { index := [0, 1, 2] } := today_or_gt0
example : interp canonFns LeafCalls.ofLeaf (.and [.leaf bad, .leaf eq0]) fr3 = some { index := [0, 1, 2], err := true } := today_and_bad
example : interp canonFns LeafCalls.ofLeaf (.and []) fr3 = some { index := [0, 1, 2], err := true } := today_and_nil
example : interp canonFns LeafCalls.ofLeaf (.not (.or [.and []])) fr3 = some { index := [0, 1, 2], err := true } := by decide +kernel

/-- 1. `Not(leaf)` that does not flip `Inverse` (`f.Inverse = !f.Inverse` dropped): the leaf's own rows come back. -/
def mutNotNoFlip : Fn := { fnFilterNot with body := S.block [
  retIfFailed 1, retIfClauseErr .not,
  S.ifIs (E.subClause (E.var 0)) DynTy.filter 2
    (S.block [S.define 3 (E.var 2), S.ret (E.call2 FnId.leaves (E.var 1) (E.single (E.var 3)))]) (S.block []),
  S.define 4 (E.callFilter (E.subClause (E.var 0)) (E.var 1)), retIfFailed 4,
  S.define 5 (E.makeIx (E.sub (E.call1 FnId.ixLen (E.frameIndex (E.var 1))) (E.call1 FnId.ixLen (E.frameIndex (E.var 4))))),
  S.define 6 (E.int 0), S.range (E.frameIndex (E.var 1)) none (some 7) notBody,
  S.ret (E.call2 FnId.withIndex (E.var 1) (E.var 5))] }
example : interp (withFn (.filter .not) mutNotNoFlip) LeafCalls.ofLeaf (.not (.leaf gt0)) fr3 ≠ some ((Clause.not (.leaf gt0)).filter fr3) := by
  rw [mirror_eq_canon, today_not_gt0]; decide +kernel


/-- `QFrame.filter` with its parts as parameters (the canonical ones give `fnLeaves` back) -/
def fnLeavesWith (guard : List S) (shortcutCmp : KCmp) (fallbackValue : E) : Fn := { params := 2, body := S.block (guard ++ [
  S.define 2 (E.call1 FnId.newBool (E.call1 FnId.ixLen (E.frameIndex (E.var 0)))),
  S.range (E.var 1) none (some 3) (S.block (leafPrefix ++ [
    S.define 9 E.nilErr,
    S.ite (E.inverseFlag (E.var 3))
      (S.block [
        S.define 10 (E.bool false),
        S.ifCmpIsString 3 11 (S.block [
          S.ifInverseEntry 11 12 (S.block [
            S.kernel 9 4 (E.frameIndex (E.var 0)) shortcutCmp 3 2,
            S.ite (E.isNil (E.var 9)) (S.block [S.assign 10 (E.bool true)]) (S.block [])])]),
        S.ite (E.not (E.var 10))
          (S.block [
            S.define 13 (E.call1 FnId.newBool (E.call1 FnId.maskLen (E.var 2))),
            S.kernel 9 4 (E.frameIndex (E.var 0)) KCmp.own 3 13,
            S.ite (E.isNil (E.var 9)) (S.block [S.rangeLive 2 (some 14) (some 15)
              (S.block [S.ite (E.not (E.var 15)) (S.block [S.setAt 2 (E.var 14) fallbackValue]) (S.block [])])]) (S.block [])])
          (S.block [])])
      (S.block [S.kernel 9 4 (E.frameIndex (E.var 0)) KCmp.own 3 2]),
    S.ite (E.notNil (E.var 9)) (S.block [retNewErr]) (S.block [])])),
  S.ret (E.call2 FnId.withIndex (E.var 0) (E.call2 FnId.ixFilter (E.frameIndex (E.var 0)) (E.var 2)))]) }

example : fnLeavesWith [retIfFailed 0] (KCmp.inverseVia 12) (E.not (E.at (E.var 13) (E.var 14))) = fnLeaves := rfl

/-- 2. the fallback that does not complement (`bIndex[i] = invBIndex[i]`): `Not(x > c)` — `>` is not in `filter.Inverse` —
returns the rows of `x > c`. -/
example : interp (withFn .leaves (fnLeavesWith [retIfFailed 0] (KCmp.inverseVia 12) (E.at (E.var 13) (E.var 14)))) LeafCalls.ofLeaf
    (.not (.leaf gt0)) fr3 ≠ some ((Clause.not (.leaf gt0)).filter fr3) := by
  rw [mirror_eq_canon, today_not_gt0]; decide +kernel

/-- 3. the shortcut that hands the comparator itself to the kernel instead of its entry in `filter.Inverse`: `Not(x = c)`
returns the rows of `x = c`. -/
example : interp (withFn .leaves (fnLeavesWith [retIfFailed 0] KCmp.own (E.not (E.at (E.var 13) (E.var 14))))) LeafCalls.ofLeaf
    (.not (.leaf eq0)) fr3 ≠ some ((Clause.not (.leaf eq0)).filter fr3) := by
  rw [mirror_eq_canon, today_not_eq0]; decide +kernel

/-- 4. an And that does not stop at an error: `QFrame.filter` without `if qf.Err != nil { return qf }` goes on narrowing the
index of a frame that has already failed. -/
example : interp (withFn .leaves (fnLeavesWith [] (KCmp.inverseVia 12) (E.not (E.at (E.var 13) (E.var 14))))) LeafCalls.ofLeaf
    (.and [.leaf bad, .leaf eq0]) fr3 ≠ some ((Clause.and [.leaf bad, .leaf eq0]).filter fr3) := by
  rw [mirror_eq_canon, today_and_bad]; decide +kernel

/-- 5. `AndClause.filter` without `if c.Err() != nil { … }`: the empty And selects every row instead of failing. -/
def mutAndNoErrCheck : Fn := { params := 2, body := S.block [
  retIfFailed 1, S.define 2 (E.addr (E.var 1)), S.range (E.subClauses (E.var 0)) none (some 3) andBody, S.ret (E.deref (E.var 2))] }
example : interp (withFn (.filter .and) mutAndNoErrCheck) LeafCalls.ofLeaf (.and []) fr3 ≠ some ((Clause.and []).filter fr3) := by
  rw [mirror_eq_canon, today_and_nil]; decide +kernel

/-- 6. `And` that does not record the errors of its sub-clauses (`err: nil` instead of `anyFilterErr(clauses)`): the failure
of a nested clause still surfaces, but only after the clauses in front of it have narrowed the index. -/
def mutCtorNoChildErr : Fn := { params := 1, body := S.block [
  S.ite (E.cmp COp.eq (E.len (E.var 0)) (E.int 0)) (S.block [S.ret (E.mkCombo .and E.noSubs E.newErr)]) (S.block []),
  S.ret (E.mkCombo .and (E.var 0) E.nilErr)] }
example : interp (withFn (.ctor .and) mutCtorNoChildErr) LeafCalls.ofLeaf (.and [.leaf eq0, .and []]) fr3 ≠
    some ((Clause.and [.leaf eq0, .and []]).filter fr3) := by
  rw [mirror_eq_canon]; decide +kernel

/-- `OrClause.filter` with the else-branch of the loop as a parameter -/
def fnFilterOrWith (nested : List S) : Fn := { params := 2, body := S.block [
  retIfFailed 1, retIfClauseErr .or, S.define 2 E.emptyLeaves, S.define 3 E.nilPtr,
  S.range (E.subClauses (E.var 0)) none (some 4) (S.block [S.ifIs (E.var 4) DynTy.filter 5
    (S.block [S.assign 2 (E.snoc (E.var 2) (E.var 5))]) (S.block nested)]),
  S.ite (E.cmp COp.gt (E.len (E.var 2)) (E.int 0)) (S.block (flush 8)) (S.block []),
  S.ret (E.deref (E.var 3))] }

def nestedCall : List S := [
  S.define 7 (E.callFilter (E.var 4) (E.var 1)),
  S.assign 3 (E.call3 FnId.orFrames (E.addr (E.var 1)) (E.var 3) (E.addr (E.var 7)))]

example : fnFilterOrWith (S.ite (E.cmp COp.gt (E.len (E.var 2)) (E.int 0)) (S.block (flush 6 ++ [S.assign 2 (E.truncate (E.var 2) (E.int 0))]))
    (S.block []) :: nestedCall) = fnFilterOr := rfl

/-- 7. an Or that keeps ONE batch across a nested clause (no flush in front of it): with kernels that only add to the mask
nothing changes, but a kernel that overwrites the mask (`wipe`) also wipes the rows of the filters in front of the
nested clause. -/
example : interp (withFn (.filter .or) (fnFilterOrWith nestedCall)) LeafCalls.ofLeaf (.or [.leaf eq0, .not (.leaf eq0), .leaf wipe]) fr3 ≠
    some ((Clause.or [.leaf eq0, .not (.leaf eq0), .leaf wipe]).filter fr3) := by
  rw [mirror_eq_canon, today_or_wipe]; decide +kernel
example : interp (withFn (.filter .or) (fnFilterOrWith nestedCall)) LeafCalls.ofLeaf (.or [.leaf eq0, .not (.leaf eq0), .leaf gt0]) fr3 =
    some ((Clause.or [.leaf eq0, .not (.leaf eq0), .leaf gt0]).filter fr3) := by
  rw [mirror_eq_canon, today_or_gt0]; decide +kernel

/-- 8. an Or that flushes but does not empty the batch (`filters = filters[:0]` dropped): the stale filters are evaluated
again in the next batch, on a mask whose result is united with theirs anyway — NOT a change of behaviour (here even with
the overwriting kernel); `gen_clauses_canon` fails on it all the same (a conservative alarm). -/
def staleBatch : List S :=
  S.ite (E.cmp COp.gt (E.len (E.var 2)) (E.int 0)) (S.block (flush 6)) (S.block []) :: nestedCall
example : interp (withFn (.filter .or) (fnFilterOrWith staleBatch)) LeafCalls.ofLeaf (.or [.leaf eq0, .not (.leaf eq0), .leaf wipe]) fr3 =
    some ((Clause.or [.leaf eq0, .not (.leaf eq0), .leaf wipe]).filter fr3) := by
  rw [mirror_eq_canon, today_or_wipe]; decide +kernel
example : interp (withFn (.filter .or) (fnFilterOrWith staleBatch)) LeafCalls.ofLeaf (.or [.leaf wipe, .null, .leaf gt0, .and [.leaf eq0], .leaf eq0]) fr3 =
    some ((Clause.or [.leaf wipe, .null, .leaf gt0, .and [.leaf eq0], .leaf eq0]).filter fr3) := by
  rw [mirror_eq_canon]; decide +kernel
example : withFn (.filter .or) (fnFilterOrWith staleBatch) ≠ canonFns := by decide +kernel

/-- 9. `orFrames` that forgets to advance the right cursor: a row both sides kept blocks the rest of the right side. -/
def mutOrFramesCursor : Fn := { fnOrFrames with body := S.block [
  S.ite (E.isNil (E.var 1)) (S.block [S.ret (E.var 2)]) (S.block []),
  S.ite (E.notNil (E.frameErr (E.deref (E.var 1)))) (S.block [S.ret (E.var 1)]) (S.block []),
  S.ite (E.notNil (E.frameErr (E.deref (E.var 2)))) (S.block [S.ret (E.var 2)]) (S.block []),
  S.define 3 (E.makeIx (E.call2 FnId.max (E.len (E.frameIndex (E.deref (E.var 1)))) (E.len (E.frameIndex (E.deref (E.var 2)))))),
  S.define 4 (E.int 0), S.define 5 (E.int 0),
  S.range (E.frameIndex (E.deref (E.var 0))) none (some 6) (S.block [
    S.define 7 (E.bool false),
    S.ite (hitCond 4 1 6) (S.block [S.assign 7 (E.bool true), S.incr 4]) (S.block []),
    S.ite (hitCond 5 2 6) (S.block [S.assign 7 (E.bool true)]) (S.block []),
    S.ite (E.var 7) (S.block [S.assign 3 (E.snoc (E.var 3) (E.var 6))]) (S.block [])]),
  S.define 8 (E.call2 FnId.withIndex (E.deref (E.var 0)) (E.var 3)), S.ret (E.addr (E.var 8))] }
example : interp (withFn .orFrames mutOrFramesCursor) LeafCalls.ofLeaf (.or [.leaf eq0, .null]) fr3 ≠ some ((Clause.or [.leaf eq0, .null]).filter fr3) := by
  rw [mirror_eq_canon]; decide +kernel

end QF.Props.C02ClausesGen
