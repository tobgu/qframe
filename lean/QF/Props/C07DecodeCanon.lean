import QF.Core.XExpr
import QF.Gen.ExprDecode
/-!
# C07 — the finite part of QF/Props/C07Decode.lean: today's decoder tree reaches the canonical leaf for every shape

Kept in a module of its own because the `decide`s walk the generated tree once per shape (a few thousand shapes) and
only need to be re-run when `QF/Gen/ExprDecode.lean` changes. The list shapes share the walk: the tree is first cut down to
what a list of that length, then one with that first element, … can reach (`prune`, `flatten_prune`). See C07Decode.lean for
what is proved from them.
-/
namespace QF.Props.C07Decode
open QF

/-! ## 1. the canonical leaves -/

def isConstKind : XKind → Bool
  | .int | .float | .bool | .str | .pstr | .nil => true
  | _ => false

/-- the constant a raw value of kind `k` stands for: nil is read as the null string -/
def kOf (k : XKind) (v : XV) : XK := if k = .nil then .null else .of v

/-- the hand-written decoder on shapes: which struct `newExpr` returns for an argument of this shape -/
def canonNode (s : XShape) : XN :=
  match s.kind with
  | .expr => .same .arg
  | .col => .col .arg
  | .nil => .const .null
  | .int | .float | .bool | .str | .pstr => .const (.of .arg)
  | .other => .error
  | .list =>
    match s.len, s.elems with
    | 2, [(k0, _), (k1, e1)] =>
      if k0 ≠ .str then .error
      else if k1 = .col then .unary (.elem 0) (.elem 1)
      else if e1 then .error
      else .ex1 (.elem 0) 1
    | 3, [(k0, _), (k1, e1), (k2, e2)] =>
      if k0 ≠ .str then .error
      else if k1 = .col ∧ isConstKind k2 then .colConst (.elem 0) (.elem 1) (kOf k2 (.elem 2)) false
      else if k2 = .col ∧ isConstKind k1 then .colConst (.elem 0) (.elem 2) (kOf k1 (.elem 1)) true
      else if k1 = .col ∧ k2 = .col then .colCol (.elem 0) (.elem 1) (.elem 2)
      else if e1 then .error
      else if e2 then .error
      else .ex2 (.elem 0) 1 2
    | _, _ => .error

def allKinds : List XKind := [.expr, .col, .str, .int, .float, .bool, .pstr, .nil, .list, .other]

def allPairs : List (XKind × Bool) := allKinds.flatMap fun k => [(k, false), (k, true)]

theorem mem_allKinds (k : XKind) : k ∈ allKinds := by cases k <;> decide

theorem mem_allPairs (p : XKind × Bool) : p ∈ allPairs := by
  obtain ⟨k, b⟩ := p
  cases k <;> cases b <;> decide

instance {P : XKind → Prop} [DecidablePred P] : Decidable (∀ p, P p) :=
  decidable_of_iff (∀ p ∈ allKinds, P p) ⟨fun h p => h p (mem_allKinds p), fun h p _ => h p⟩

/-! ## 2. the part of the tree a partly known shape can still reach -/

/-- the tests that the shape `s` decides are resolved, the others stay; evaluated for the first elements of a list shape, the
result is shared by all shapes that go on with the same elements -/
def prune (s : XShape) : XT → XT
  | .ite c t e =>
    match c.abs s with
    | some true => prune s t
    | some false => prune s e
    | none => .ite c (prune s t) (prune s e)
  | t => t

/-- a test decided for the first elements of a list shape is decided the same way when more elements are shown -/
theorem abs_mono (k : XKind) (n : Nat) (l r : List (XKind × Bool)) : ∀ (c : XC) (b : Bool),
    c.abs ⟨k, n, l⟩ = some b → c.abs ⟨k, n, l ++ r⟩ = some b := by
  have hget : ∀ i e, l[i]? = some e → (l ++ r)[i]? = some e := fun i e h => by
    rw [List.getElem?_append_left (List.getElem?_eq_some_iff.mp h).1]; exact h
  intro c
  induction c with
  | is v k' =>
    intro b h
    cases v with
    | arg => exact h
    | elem i =>
      simp only [XC.abs, Option.map_eq_some_iff] at h ⊢
      obtain ⟨e, he, hb⟩ := h
      exact ⟨e, hget i e he, hb⟩
  | subErr v =>
    intro b h
    cases v with
    | arg => exact h
    | elem i =>
      simp only [XC.abs, Option.map_eq_some_iff] at h ⊢
      obtain ⟨e, he, hb⟩ := h
      exact ⟨e, hget i e he, hb⟩
  | not c ih =>
    intro b h
    simp only [XC.abs, Option.map_eq_some_iff] at h ⊢
    obtain ⟨b', hb', hb⟩ := h
    exact ⟨b', ih b' hb', hb⟩
  | and a c iha ihc =>
    intro b h
    simp only [XC.abs] at h ⊢
    cases ha : XC.abs ⟨k, n, l⟩ a with
    | none => rw [ha] at h; cases h
    | some v =>
      rw [ha] at h; rw [iha v ha]
      cases v with
      | true => exact ihc b h
      | false => exact h
  | or a c iha ihc =>
    intro b h
    simp only [XC.abs] at h ⊢
    cases ha : XC.abs ⟨k, n, l⟩ a with
    | none => rw [ha] at h; cases h
    | some v =>
      rw [ha] at h; rw [iha v ha]
      cases v with
      | true => exact h
      | false => exact ihc b h
  | _ => intro b h; exact h

theorem flatten_prune (k : XKind) (n : Nat) (l r : List (XKind × Bool)) (t : XT) :
    (prune ⟨k, n, l⟩ t).flatten ⟨k, n, l ++ r⟩ = t.flatten ⟨k, n, l ++ r⟩ := by
  induction t with
  | ite c t e iht ihe =>
    cases h : XC.abs ⟨k, n, l⟩ c with
    | none => simp only [prune, h, XT.flatten, iht, ihe]
    | some b =>
      have h' := abs_mono k n l r c b h
      cases b <;> simp only [prune, h, XT.flatten, h', iht, ihe]
  | _ => rfl

/-! ## 3. today's tree against the canonical leaves -/

theorem gen_decoder_canon_atom : ∀ k : XKind, k ≠ .list →
    Gen.newExprAst.flatten { kind := k } = some (canonNode { kind := k }) := by decide +kernel

theorem gen_decoder_canon_len : ∀ n ∈ [0, 1, 4],
    Gen.newExprAst.flatten { kind := .list, len := n } = some .error := by decide +kernel

theorem gen_decoder_canon2 : ∀ p0 p1 : XKind × Bool,
    Gen.newExprAst.flatten { kind := .list, len := 2, elems := [p0, p1] } =
      some (canonNode { kind := .list, len := 2, elems := [p0, p1] }) := by
  have h : allPairs.all (fun p0 => allPairs.all fun p1 =>
      (prune ⟨.list, 2, [p0]⟩ (prune ⟨.list, 2, []⟩ Gen.newExprAst)).flatten ⟨.list, 2, [p0, p1]⟩
        == some (canonNode ⟨.list, 2, [p0, p1]⟩)) = true := by decide +kernel
  intro p0 p1
  have := List.all_eq_true.mp (List.all_eq_true.mp h p0 (mem_allPairs p0)) p1 (mem_allPairs p1)
  exact ((flatten_prune _ _ [] [p0, p1] _).symm.trans (flatten_prune _ _ [p0] [p1] _).symm).trans (beq_iff_eq.mp this)

/-- what the decoder can answer for an element of this kind: a column name or a constant is never an error, a value of
an unsupported type always is (both are instances of `gen_decoder_canon_atom`); an `Expression` or a list may or may not be -/
def consistent : XKind × Bool → Bool
  | (.expr, _) | (.list, _) => true
  | (.other, e) => e
  | (_, e) => !e

def goodPairs : List (XKind × Bool) := allPairs.filter consistent

theorem mem_goodPairs (p : XKind × Bool) (h : consistent p = true) : p ∈ goodPairs :=
  List.mem_filter.mpr ⟨mem_allPairs p, h⟩

theorem gen_decoder_canon3 : ∀ p0 ∈ goodPairs, ∀ p1 ∈ goodPairs, ∀ p2 ∈ goodPairs,
    Gen.newExprAst.flatten { kind := .list, len := 3, elems := [p0, p1, p2] } =
      some (canonNode { kind := .list, len := 3, elems := [p0, p1, p2] }) := by
  have h : goodPairs.all (fun p0 => goodPairs.all fun p1 => goodPairs.all fun p2 =>
      (prune ⟨.list, 3, [p0, p1]⟩ (prune ⟨.list, 3, [p0]⟩ (prune ⟨.list, 3, []⟩ Gen.newExprAst))).flatten ⟨.list, 3, [p0, p1, p2]⟩
        == some (canonNode ⟨.list, 3, [p0, p1, p2]⟩)) = true := by decide +kernel
  intro p0 h0 p1 h1 p2 h2
  have := List.all_eq_true.mp (List.all_eq_true.mp (List.all_eq_true.mp h p0 h0) p1 h1) p2 h2
  exact (((flatten_prune _ _ [] [p0, p1, p2] _).symm.trans (flatten_prune _ _ [p0] [p1, p2] _).symm).trans
    (flatten_prune _ _ [p0, p1] [p2] _).symm).trans (beq_iff_eq.mp this)

/-- `Expr`: no argument is an error, one or two are handed to the decoder as `[name, a]` / `[name, a, b]`, more: a fresh
slice `[decoded [name, a, b], c, …]` and a tail call -/
def canonFold : XF :=
  .ifLen 0 .error (.ifLen 1 (.decode [.name, .arg 0]) (.ifLen 2 (.decode [.name, .arg 0, .arg 1])
    (.foldFresh 1 2 (.decode [.name, .arg 0, .arg 1]))))

theorem gen_expr_fold_canon : Gen.exprFoldAst = canonFold := by decide

end QF.Props.C07Decode
