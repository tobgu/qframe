import QF.Core.Conc
import QF.Props.C01Ops
/-!
# C11 — concurrent use

`interleaving_deterministic`: for any number of threads whose programs write only to
arrays they allocate themselves (`OwnWrites base`, the discipline of C01) and for
**every** schedule `σ`: the shared region is never written, every write event targets a
thread-private array, and each thread is exactly where it would be after the same
number of its own steps run alone — so every operation returns what it returns alone.

Not exhibited by the model: the Go memory model, `unsafe` string views, the runtime's
map implementation. The executable tie is the race-detector run of section `conc`.
-/
namespace QF.Props.C11

theorem interleaving_deterministic {α : Type} (base : Nat) (σ : List Nat) (sh : H.Store)
    (ts : List (H.Thread α)) (h : ∀ t, t ∈ ts → t.prog.OwnWrites base) :
    (H.runSched base σ sh ts).fst = sh ∧
      (∀ (i : Nat) (t : H.Thread α), ts[i]? = some t →
          (H.runSched base σ sh ts).snd.fst[i]? = some (H.alone base sh (H.count i σ) t)) ∧
        ∀ (i : Nat) (id : H.Id), (i, H.Ev.write id) ∈ (H.runSched base σ sh ts).snd.snd → base ≤ id :=
  H.interleaving_deterministic base σ sh ts h

/-- The same for the operation models of C01 (`Op`: sort, filter, slice, setColumn, copy, apply, distinct, groupBy,
aggregate — each proved to write only arrays it allocates): any multiset of them started together on the same shared
store, under every schedule, leaves the shared store untouched, performs no write to a shared array (no write/write
or read/write conflict is possible, all conflicting accesses need a write to a shared array), and each of them is in
the state it reaches alone after the same number of its own steps. -/
theorem ops_interleaving_deterministic (base : Nat) (σ : List Nat) (sh : H.Store) (ops : List QF.Props.C01.Op) :
    let ts : List (H.Thread Unit) := ops.map (fun op => { prog := op.prog })
    (H.runSched base σ sh ts).fst = sh ∧
      (∀ (i : Nat) (t : H.Thread Unit), ts[i]? = some t →
          (H.runSched base σ sh ts).snd.fst[i]? = some (H.alone base sh (H.count i σ) t)) ∧
        ∀ (i : Nat) (id : H.Id), (i, H.Ev.write id) ∈ (H.runSched base σ sh ts).snd.snd → base ≤ id :=
  H.interleaving_deterministic base σ sh _ (H.own_threads QF.Props.C01.op_own_writes base ops)

/-- by evaluation: two operations of the C01 example history as threads under an alternating schedule leave the four shared
arrays as they were -/
example : (H.runSched 4 [0, 1, 0, 1, 1, 0, 0, 1] QF.Props.C01.store1
    ((QF.Props.C01.history1.take 2).map (fun op => ({ prog := op.prog } : H.Thread Unit)))).fst = QF.Props.C01.store1 := by
  decide +kernel

end QF.Props.C11
