import QF.Spec.Ops
import QF.Core.CellFacts
import QF.Core.Compare
import QF.Gen.Compare
/-!
# C03 (C04, C05) — the row comparators of today's source order and identify cells as the spec says (tie T1, by semantics)

`QF.Gen.compareAst` and `QF.Gen.comparableFields` (regenerated on every run by go/cmd/extract/cast.go) hold, for each of
the five column packages, `Comparable.Compare` as a decision tree `QF.CE` and `Column.Comparable(reverse, equalNull,
nullLast)` as a list of guarded assignments to the five result fields; `CE.eval` / `runFields` (QF/Core/CExpr.lean) are
their Go meaning. This file proves, for the terms generated TODAY:

* `gen_compare_no_opaque`  — both functions of every package were translated completely
* `gen_compare_semantics`  — for every column type, every (reverse, equalNull, nullLast) and ALL cells `x`, `y` of the type:
                             `Compare` with the fields `Comparable` assigns returns
                               `LessThan`    iff `keyCmp c {reverse, nullLast} x y = .lt`
                               `GreaterThan` iff `keyCmp … = .gt`
                               `Equal`       iff `keyCmp … = .eq` and not (both cells null and ¬equalNull)
                               `NotEqual`    iff both cells null and ¬equalNull
                             (`gen_compare_eq_spec`: it returns `specRes`, the function these four lines describe)
* `sorter_less_eq_rowLess` — `Sorter.Less` (first comparator that says LessThan / GreaterThan decides, Equal and NotEqual
                             fall through) over today's comparators of the sort keys is the spec's `rowLess`
* `gen_compare_keyEq`, `grouper_equals_eq_rowKeyEq` — `Compare … == Equal` with `Comparable(false, gbNull, false)` (what
                             GroupBy / Distinct use, qframe.go) is the spec's `keyEq`; grouper.go's `equals` over
                             today's comparators is the spec's `rowKeyEq`

Method (as in C02Kernels): `decide` shows that each generated tree IS the canonical tree of its type (`gen_compare_canon`)
and that the generated assignments produce the canonical fields for each of the 8 flag settings (`gen_fields_canon`).
The canonical tree of a type, run with ANY result fields, answers with the field that belongs to (is `x` null, is `y` null,
the order of the two values) (`pick`, `canon_eval`: types, no flags); `specRes` is that field of the canonical fields
(`specRes_eq_pick`: flags, no types).

"Cells of the type" (`wtCell`): an int / float / bool cell for such a column, a nullable string for a string column,
and for an enum column null or a member of the value table with rank < 255.
-/
namespace QF.Props.C03Compare
open QF

def pkgOf : CType → String
  | .int => "icolumn" | .float => "fcolumn" | .bool => "bcolumn" | .string => "scolumn" | .enum => "ecolumn" | .undef => ""

def tys : List CType := [.int, .float, .bool, .string, .enum]

/-! ## Today's comparator of a column type -/

/-- `Comparable(fl).Compare(i, j)` for the given translations, on the cells `x`, `y` at `i`, `j` -/
def compareIn (asts : List (String × CE)) (progs : List (String × List FStmt)) (ty : CType) (vals : List Bytes)
    (fl : CFlags) (x y : Cell) : Option CRes :=
  match asts.lookup (pkgOf ty), (progs.lookup (pkgOf ty)).bind (fun p => runFields p fl) with
  | some ast, some F => ast.eval ty vals F x y
  | _, _ => none

/-- … for today's source -/
def genCompare (ty : CType) (vals : List Bytes) (fl : CFlags) (x y : Cell) : Option CRes :=
  compareIn Gen.compareAst Gen.comparableFields ty vals fl x y

/-! ## Canonical terms -/

/-- one side is null: the non-null one decides -/
def nullChain (xN yN : CCond) : CE :=
  .ite (.not xN) (.ret (.field .nullGt)) (.ite (.not yN) (.ret (.field .nullLt)) (.ret (.field .equalNull)))

def ordChain (tail : CE) : CE :=
  .ite .xLtY (.ret (.field .lt)) (.ite .xGtY (.ret (.field .gt)) tail)

def canonCompare : CType → CE
  | .int => ordChain (.ret (.const .equal))
  | .float => ordChain (.ite (.or .xNaN .yNaN) (nullChain .xNaN .yNaN) (.ret (.const .equal)))
  | .bool => .ite .xEqY (.ret (.const .equal)) (.ite .xTrue (.ret (.field .gt)) (.ret (.field .lt)))
  | .string => .ite (.or .xNull .yNull) (nullChain .xNull .yNull) (ordChain (.ret (.const .equal)))
  | .enum => .ite (.or .xNull .yNull) (nullChain .xNull .yNull) (ordChain (.ret (.const .equal)))
  | .undef => .opaque ""

/-- the fields of `Comparable(reverse, equalNull, nullLast)` -/
def canonFields (fl : CFlags) : CFields where
  lt := if fl.reverse then .greaterThan else .lessThan
  gt := if fl.reverse then .lessThan else .greaterThan
  nullLt := if fl.reverse != fl.nullLast then .greaterThan else .lessThan
  nullGt := if fl.reverse != fl.nullLast then .lessThan else .greaterThan
  equalNull := if fl.equalNull then .equal else .notEqual

/-! ## Today's terms are the canonical ones (finite checks over `QF.Gen`, redone on every run) -/

theorem gen_compare_canon : ∀ ty ∈ tys, Gen.compareAst.lookup (pkgOf ty) = some (canonCompare ty) := by
  decide

theorem gen_fields_canon : ∀ ty ∈ tys, ∀ r ∈ [false, true], ∀ e ∈ [false, true], ∀ n ∈ [false, true],
    (Gen.comparableFields.lookup (pkgOf ty)).bind (fun p => runFields p ⟨r, e, n⟩) = some (canonFields ⟨r, e, n⟩) := by
  decide

/-- `Compare` and `Comparable` of each of the five packages were found and neither translates to (a term containing)
`.opaque`. -/
theorem gen_compare_no_opaque :
    Gen.compareAst.map (·.1) = tys.map pkgOf ∧ Gen.comparableFields.map (·.1) = tys.map pkgOf ∧
    (∀ p ∈ Gen.compareAst, p.2.hasOpaque = false) ∧ (∀ p ∈ Gen.comparableFields, ∀ s ∈ p.2, s.isOpaque = false) := by
  decide

/-- The constants of `column.CompareResult` are the four of `CRes`, `LessThan` first: the zero value of a result field
that `Comparable` does not set is `LessThan` (`CFields.zero`). -/
theorem gen_compare_consts : Gen.compareResultConsts = ["LessThan", "GreaterThan", "Equal", "NotEqual"] := rfl

theorem genCompare_eq_canon {ty : CType} (hty : ty ∈ tys) (vals : List Bytes) (fl : CFlags) (x y : Cell) :
    genCompare ty vals fl x y = (canonCompare ty).eval ty vals (canonFields fl) x y := by
  have hb : ∀ b : Bool, b ∈ [false, true] := by intro b; cases b <;> simp
  have h1 := gen_compare_canon ty hty
  have h2 := gen_fields_canon ty hty fl.reverse (hb _) fl.equalNull (hb _) fl.nullLast (hb _)
  unfold genCompare compareIn
  rw [h1, h2]

/-! ## What the spec says a comparator returns -/

/-- The result of `Compare` according to the spec: the order of `keyCmp`; two nulls are `Equal` only with `equalNull`. -/
def specRes (c : LCol) (o : Order) (equalNull : Bool) (x y : Cell) : CRes :=
  match keyCmp c o x y with
  | .lt => .lessThan
  | .gt => .greaterThan
  | .eq => if x.isNull && y.isNull && !equalNull then .notEqual else .equal

/-! ## The meaning of the canonical terms, once and for all -/

/-- Two cells of one column type. -/
inductive Cells (vals : List Bytes) : CType → Cell → Cell → Prop
  | int (a b : Int) : Cells vals .int (.int a) (.int b)
  | float (a b : UInt64) : Cells vals .float (.float a) (.float b)
  | bool (a b : Bool) : Cells vals .bool (.bool a) (.bool b)
  | string (s t : Option Bytes) : Cells vals .string (.str s) (.str t)
  | enum (s t : Option Bytes) (hs : wtCell .enum vals (.str s) = true) (ht : wtCell .enum vals (.str t) = true) :
      Cells vals .enum (.str s) (.str t)

theorem cells_of_wt {ty : CType} {vals : List Bytes} {x y : Cell} (hty : ty ∈ tys) (hx : wtCell ty vals x = true)
    (hy : wtCell ty vals y = true) : Cells vals ty x y := by
  have sx := wtCell_shape hx
  have sy := wtCell_shape hy
  cases ty
  case undef => exact sx.elim
  all_goals
    obtain ⟨a, rfl⟩ := sx
    obtain ⟨b, rfl⟩ := sy
  · exact .int a b
  · exact .float a b
  · exact .bool a b
  · exact .string a b
  · exact .enum a b hx hy

/-- The result field a comparator answers with, given which of the two cells are null and how two values compare. -/
def pick (F : CFields) (xNull yNull : Bool) (o : Ordering) : CRes :=
  match xNull, yNull with
  | true, true => F.equalNull
  | true, false => F.nullLt
  | false, true => F.nullGt
  | false, false => match o with | .lt => F.lt | .gt => F.gt | .eq => .equal

/-- The flags enter only here: `specRes` is `pick` with the fields `Comparable` assigns. -/
theorem specRes_eq_pick (c : LCol) (o : Order) (e : Bool) (x y : Cell) :
    specRes c o e x y = pick (canonFields ⟨o.reverse, e, o.nullLast⟩) x.isNull y.isNull ((cellCmp c x y).getD .eq) := by
  unfold specRes keyCmp
  generalize o.reverse = r, o.nullLast = n, x.isNull = xn, y.isNull = yn, (cellCmp c x y).getD .eq = ord
  cases xn <;> cases yn
  · cases r <;> cases ord <;> rfl
  · cases r <;> cases n <;> rfl
  · cases r <;> cases n <;> rfl
  · cases r <;> cases e <;> rfl

section Eval
variable {ty : CType} {vals : List Bytes} {F : CFields} {x y : Cell}

/-- `ordChain` when `<` and `>` on the two cells are the three-way comparison `o` -/
theorem ordChain_eval (tail : CE) (o : Ordering) (hl : cmpCells "<" ty vals x y = some (o == .lt))
    (hg : cmpCells ">" ty vals x y = some (o == .gt)) :
    (ordChain tail).eval ty vals F x y = if o = .eq then tail.eval ty vals F x y else some (pick F false false o) := by
  cases o <;> simp [ordChain, CE.eval, CCond.eval, hl, hg, CRet.val, CFields.get, pick]

/-- the test "one side is null" with `nullChain` under it -/
theorem nullGuard_eval {xN yN : CCond} (rest : CE) {a b : Bool} (hx : xN.eval ty vals x y = some a)
    (hy : yN.eval ty vals x y = some b) (o : Ordering) :
    (CE.ite (.or xN yN) (nullChain xN yN) rest).eval ty vals F x y =
      if a || b then some (pick F a b o) else rest.eval ty vals F x y := by
  cases a <;> cases b <;> simp [nullChain, CE.eval, CCond.eval, hx, hy, pick, CRet.val, CFields.get]

end Eval

theorem pick_vals (F : CFields) (o : Ordering) :
    (if o = .eq then some CRes.equal else some (pick F false false o)) = some (pick F false false o) := by
  cases o <;> rfl

theorem int_gt_cmp (a b : Int) : decide (b < a) = (compare a b == .gt) := by
  rw [Bool.eq_iff_iff]; simp [Int.compare_eq_gt]

theorem nat_lt_cmp (a b : Nat) : decide (a < b) = (compare a b == .lt) := by
  rw [Bool.eq_iff_iff]; simp [Nat.compare_eq_lt]

theorem nat_gt_cmp (a b : Nat) : decide (b < a) = (compare a b == .gt) := by
  rw [Bool.eq_iff_iff]; simp [Nat.compare_eq_gt]

/-- IEEE `<` is `.lt` of the three-way comparison `cellCmp` makes of two floats (no order as soon as one is NaN) -/
theorem f64_lt_cmp (a b : UInt64) :
    F64.lt a b = ((if F64.isNaN a || F64.isNaN b then none else some (compare (F64.key a) (F64.key b))).getD .eq == .lt) := by
  cases ha : F64.isNaN a <;> cases hb : F64.isNaN b <;> simp [F64.lt, ha, hb, Cmp.int_lt_cmp]

theorem f64_gt_cmp (a b : UInt64) :
    F64.lt b a = ((if F64.isNaN a || F64.isNaN b then none else some (compare (F64.key a) (F64.key b))).getD .eq == .gt) := by
  cases ha : F64.isNaN a <;> cases hb : F64.isNaN b <;> simp [F64.lt, ha, hb, int_gt_cmp]

/-- the raw code of an enum cell: 255 exactly for null, else the rank of the string -/
theorem enum_val {vals : List Bytes} {s : Option Bytes} (h : wtCell .enum vals (.str s) = true) :
    ∃ v, cellVal .enum vals (.str s) = some (.enum v) ∧ (v == enumNull) = (Cell.str s).isNull ∧
      ∀ u, s = some u → enumRank vals u = some v := by
  rcases s with _ | u
  · exact ⟨enumNull, rfl, rfl, fun _ h => nomatch h⟩
  · obtain ⟨i, hi, hil⟩ := enum_ok h
    have hne : (i == enumNull) = false := by simp [enumNull]; omega
    exact ⟨i, by simp [cellVal, hi, enumNull, hil], hne, fun u' hu => by cases hu; exact hi⟩

/-- **The canonical comparator of a type, with ANY result fields `F`**, answers on two cells of the type with the field
that belongs to (is `x` null, is `y` null, the order of the two values): the flags of `Comparable` play no part in
`Compare`. -/
theorem canon_eval (c : LCol) (F : CFields) {x y : Cell} (h : Cells c.vals c.ty x y) :
    (canonCompare c.ty).eval c.ty c.vals F x y = some (pick F x.isNull y.isNull ((cellCmp c x y).getD .eq)) := by
  generalize ht : c.ty = ty at h ⊢
  cases h with
  | int a b =>
    exact (ordChain_eval (ty := .int) (x := .int a) (y := .int b) _ _ (congrArg some (Cmp.int_lt_cmp a b))
      (congrArg some (int_gt_cmp a b))).trans (pick_vals F (compare a b))
  | float a b =>
    simp only [canonCompare, cellCmp, Cell.isNull]
    rw [ordChain_eval (ty := .float) (x := .float a) (y := .float b) _ _ (congrArg some (f64_lt_cmp a b))
        (congrArg some (f64_gt_cmp a b)),
      nullGuard_eval (ty := .float) (x := .float a) (y := .float b) (a := F64.isNaN a) (b := F64.isNaN b) _ rfl rfl .eq]
    cases F64.isNaN a <;> cases F64.isNaN b
    · exact pick_vals F _
    all_goals rfl
  | bool a b => cases a <;> cases b <;> rfl
  | string s t =>
    simp only [canonCompare]
    rw [nullGuard_eval (ty := .string) (x := .str s) (y := .str t) (a := (Cell.str s).isNull) (b := (Cell.str t).isNull) _
      (by cases s <;> rfl) (by cases t <;> rfl) ((cellCmp c (.str s) (.str t)).getD .eq)]
    rcases s with _ | u <;> rcases t with _ | v
    iterate 3 rfl
    have : (c.ty == .enum) = false := by rw [ht]; rfl
    simp only [Cell.isNull, Bool.or_self, Bool.false_eq_true, if_false, cellCmp, this, Option.getD_some]
    rw [← pick_vals]
    exact ordChain_eval (ty := .string) (x := .str (some u)) (y := .str (some v)) _ _ rfl rfl
  | enum s t hs ht' =>
    obtain ⟨v, hv, hvn, hvr⟩ := enum_val hs
    obtain ⟨w, hw, hwn, hwr⟩ := enum_val ht'
    simp only [canonCompare]
    rw [nullGuard_eval (a := (Cell.str s).isNull) (b := (Cell.str t).isNull) _ (by simp only [CCond.eval, nullOf, hv, hvn])
      (by simp only [CCond.eval, nullOf, hw, hwn]) ((cellCmp c (.str s) (.str t)).getD .eq)]
    rcases s with _ | u <;> rcases t with _ | z
    iterate 3 rfl
    have : (c.ty == .enum) = true := by rw [ht]; rfl
    simp only [Cell.isNull, Bool.or_self, Bool.false_eq_true, if_false, cellCmp, this, if_true, hvr u rfl, hwr z rfl,
      Option.getD_some]
    rw [← pick_vals]
    refine ordChain_eval _ _ ?_ ?_
    · unfold cmpCells; rw [hv, hw]; exact congrArg some (nat_lt_cmp v w)
    · unfold cmpCells; rw [hv, hw]; exact congrArg some (nat_gt_cmp v w)

/-! ## Today's comparators return what the spec says -/

/-- Today's `Compare` with the fields today's `Comparable(o.reverse, equalNull, o.nullLast)` assigns returns `specRes`:
every column type, every flag setting, ALL cells of the type. -/
theorem gen_compare_eq_spec (c : LCol) (hty : c.ty ∈ tys) (o : Order) (equalNull : Bool) (x y : Cell)
    (hx : wtCell c.ty c.vals x = true) (hy : wtCell c.ty c.vals y = true) :
    genCompare c.ty c.vals ⟨o.reverse, equalNull, o.nullLast⟩ x y = some (specRes c o equalNull x y) := by
  rw [genCompare_eq_canon hty, canon_eval c _ (cells_of_wt hty hx hy), specRes_eq_pick]

theorem specRes_lt (c : LCol) (o : Order) (e : Bool) (x y : Cell) : specRes c o e x y = .lessThan ↔ keyCmp c o x y = .lt := by
  unfold specRes
  cases keyCmp c o x y <;> simp <;> split <;> simp

theorem specRes_gt (c : LCol) (o : Order) (e : Bool) (x y : Cell) : specRes c o e x y = .greaterThan ↔ keyCmp c o x y = .gt := by
  unfold specRes
  cases keyCmp c o x y <;> simp <;> split <;> simp

theorem specRes_eq (c : LCol) (o : Order) (e : Bool) (x y : Cell) :
    specRes c o e x y = .equal ↔ (keyCmp c o x y = .eq ∧ ¬ (x.isNull = true ∧ y.isNull = true ∧ e = false)) := by
  unfold specRes
  cases keyCmp c o x y <;> cases x.isNull <;> cases y.isNull <;> cases e <;> simp

/-- two nulls never compare `.lt` / `.gt` -/
theorem keyCmp_null (c : LCol) (o : Order) (x y : Cell) (hx : x.isNull = true) (hy : y.isNull = true) : keyCmp c o x y = .eq := by
  unfold keyCmp; cases o.reverse <;> simp [hx, hy, Ordering.swap]

theorem specRes_ne (c : LCol) (o : Order) (e : Bool) (x y : Cell) :
    specRes c o e x y = .notEqual ↔ (x.isNull = true ∧ y.isNull = true ∧ e = false) := by
  constructor
  · unfold specRes; cases keyCmp c o x y <;> cases x.isNull <;> cases y.isNull <;> cases e <;> simp
  · rintro ⟨hx, hy, he⟩
    simp [specRes, keyCmp_null c o x y hx hy, hx, hy, he]

/-- what `Sorter.Less` sees of a result: `Equal` and `NotEqual` both mean "tie" -/
def resOrd : CRes → Ordering
  | .lessThan => .lt
  | .greaterThan => .gt
  | _ => .eq

theorem specRes_ord (c : LCol) (o : Order) (e : Bool) (x y : Cell) : resOrd (specRes c o e x y) = keyCmp c o x y := by
  unfold specRes
  cases keyCmp c o x y
  · rfl
  · cases (x.isNull && y.isNull && !e) <;> rfl
  · rfl

/-- **The comparators of today's source order and identify cells as the spec says.** For every column type, every setting
of (reverse, equalNull, nullLast) and all cells `x`, `y` of the type, `Comparable(reverse, equalNull, nullLast).Compare`
on (`x`, `y`) returns a result `r` with: `LessThan` iff `keyCmp = .lt`; `GreaterThan` iff `keyCmp = .gt`; `Equal` iff
`keyCmp = .eq` and not (both null and ¬equalNull); `NotEqual` iff both null and ¬equalNull. -/
theorem gen_compare_semantics (c : LCol) (hty : c.ty ∈ tys) (o : Order) (equalNull : Bool) (x y : Cell)
    (hx : wtCell c.ty c.vals x = true) (hy : wtCell c.ty c.vals y = true) :
    ∃ r, genCompare c.ty c.vals ⟨o.reverse, equalNull, o.nullLast⟩ x y = some r ∧
      (r = .lessThan ↔ keyCmp c o x y = .lt) ∧
      (r = .greaterThan ↔ keyCmp c o x y = .gt) ∧
      (r = .equal ↔ (keyCmp c o x y = .eq ∧ ¬ (x.isNull = true ∧ y.isNull = true ∧ equalNull = false))) ∧
      (r = .notEqual ↔ (x.isNull = true ∧ y.isNull = true ∧ equalNull = false)) :=
  ⟨_, gen_compare_eq_spec c hty o equalNull x y hx hy, specRes_lt .., specRes_gt .., specRes_eq .., specRes_ne ..⟩

/-! ## Sort: `Sorter.Less` over today's comparators is `rowLess` -/

/-- internal/sort/sorter.go, `Sorter.Less` (`di`, `dj` are the rows `s.index[i]`, `s.index[j]`):

    for _, s := range s.columns { r := s.Compare(di, dj)
      if r == column.LessThan { return true }; if r == column.GreaterThan { return false } }
    return false                                                                                   -/
def sorterLess : List (Nat → Nat → Option CRes) → Nat → Nat → Option Bool
  | [], _, _ => some false
  | s :: ss, di, dj =>
    match s di dj with
    | none => none
    | some r => if r = .lessThan then some true else if r = .greaterThan then some false else sorterLess ss di dj

/-- The comparator `QFrame.Sort` builds for a key (qframe.go: `s.Comparable(o.Reverse, false, o.NullLast)`; stated for
any `equalNull`, which `Less` cannot observe), on row numbers. -/
def sortComparator (equalNull : Bool) (k : LCol × Order) : Nat → Nat → Option CRes :=
  fun i j => genCompare k.1.ty k.1.vals ⟨k.2.reverse, equalNull, k.2.nullLast⟩ k.1.cells[i]! k.1.cells[j]!

/-- the two rows hold cells of the column's type -/
def rowsOk (c : LCol) (r1 r2 : Nat) : Prop :=
  c.ty ∈ tys ∧ wtCell c.ty c.vals c.cells[r1]! = true ∧ wtCell c.ty c.vals c.cells[r2]! = true

/-- `Sorter.Less` over today's comparators of the keys is the spec's `rowLess` on the keys. `rowLess` reads the cells from
the key columns and never looks at its frame argument, hence any `f`. -/
theorem sorter_less_eq_rowLess (f : LFrame) (keys : List (LCol × Order)) (equalNull : Bool) (r1 r2 : Nat)
    (hk : ∀ k ∈ keys, rowsOk k.1 r1 r2) :
    sorterLess (keys.map (sortComparator equalNull)) r1 r2 = some (rowLess f keys r1 r2) := by
  induction keys with
  | nil => simp [sorterLess, rowLess]
  | cons k ks ih =>
    obtain ⟨c, o⟩ := k
    have hc := hk (c, o) (by simp)
    have hs := gen_compare_eq_spec c hc.1 o equalNull _ _ hc.2.1 hc.2.2
    have ih' := ih (fun k hk' => hk k (by simp [hk']))
    simp only [List.map_cons, sorterLess, sortComparator, hs, rowLess]
    unfold specRes
    cases hkc : keyCmp c o c.cells[r1]! c.cells[r2]!
    · simp
    · simp only
      split <;> simpa using ih'
    · simp

/-! ## GroupBy / Distinct: `Compare == Equal` is the spec's key equality -/

theorem cellCmp_isSome (c : LCol) {x y : Cell} (h : Cells c.vals c.ty x y) (hxn : x.isNull = false) (hyn : y.isNull = false) :
    (cellCmp c x y).isSome = true := by
  generalize ht : c.ty = ty at h
  cases h with
  | int a b => rfl
  | float a b =>
    simp only [Cell.isNull] at hxn hyn
    simp [cellCmp, hxn, hyn]
  | bool a b => rfl
  | string s t =>
    rcases s with _ | u <;> rcases t with _ | v <;> simp [Cell.isNull] at hxn hyn
    simp [cellCmp, ht]
  | enum s t hs ht' =>
    rcases s with _ | u <;> rcases t with _ | v <;> simp [Cell.isNull] at hxn hyn
    obtain ⟨i, hi, _⟩ := enum_ok hs
    obtain ⟨j, hj, _⟩ := enum_ok ht'
    simp [cellCmp, ht, hi, hj]

/-- the `Order` of a grouping key: `Comparable(false, gbNull, false)` -/
def groupOrder : Order := ⟨[], false, false⟩

theorem specRes_keyEq (c : LCol) (gbNull : Bool) {x y : Cell} (h : Cells c.vals c.ty x y) :
    (specRes c groupOrder gbNull x y = .equal) ↔ keyEq gbNull c x y = true := by
  have hs := cellCmp_isSome c h
  unfold specRes keyCmp keyEq groupOrder
  cases hxn : x.isNull <;> cases hyn : y.isNull
  · have := hs hxn hyn
    cases hc : cellCmp c x y with
    | none => simp [hc] at this
    | some r => cases r <;> simp <;> decide
  · simp
  · simp
  · cases gbNull <;> simp

/-- `Compare(i, j) == column.Equal` with the comparator GroupBy and Distinct build (qframe.go:
`Comparable(false, groupByNull, false)`) is the spec's key equality `keyEq`: every column type, both settings of
`groupByNull`, ALL cells of the type. -/
theorem gen_compare_keyEq (c : LCol) (hty : c.ty ∈ tys) (gbNull : Bool) (x y : Cell)
    (hx : wtCell c.ty c.vals x = true) (hy : wtCell c.ty c.vals y = true) :
    ∃ r, genCompare c.ty c.vals ⟨false, gbNull, false⟩ x y = some r ∧ (r = .equal ↔ keyEq gbNull c x y = true) :=
  ⟨_, gen_compare_eq_spec c hty groupOrder gbNull x y hx hy, specRes_keyEq c gbNull (cells_of_wt hty hx hy)⟩

/-- internal/grouper/grouper.go, `equals`:

    for _, c := range comparables { if c.Compare(i, j) != column.Equal { return false } }
    return true                                                                            -/
def grouperEquals : List (Nat → Nat → Option CRes) → Nat → Nat → Option Bool
  | [], _, _ => some true
  | c :: cs, i, j =>
    match c i j with
    | none => none
    | some r => if r ≠ .equal then some false else grouperEquals cs i j

def groupComparator (gbNull : Bool) (c : LCol) : Nat → Nat → Option CRes :=
  fun i j => genCompare c.ty c.vals ⟨false, gbNull, false⟩ c.cells[i]! c.cells[j]!

/-- grouper.go's `equals` over today's comparators of the key columns is the spec's `rowKeyEq` (which `groupsS` and
`isDistinctResult` are built on). -/
theorem grouper_equals_eq_rowKeyEq (gbNull : Bool) (keys : List LCol) (r1 r2 : Nat) (hk : ∀ c ∈ keys, rowsOk c r1 r2) :
    grouperEquals (keys.map (groupComparator gbNull)) r1 r2 = some (rowKeyEq gbNull keys r1 r2) := by
  induction keys with
  | nil => simp [grouperEquals, rowKeyEq]
  | cons c cs ih =>
    have hc := hk c (by simp)
    have hs := gen_compare_eq_spec c hc.1 groupOrder gbNull _ _ hc.2.1 hc.2.2
    have he := specRes_keyEq c gbNull (cells_of_wt hc.1 hc.2.1 hc.2.2)
    have ih' := ih (fun k hk' => hk k (by simp [hk']))
    simp only [groupOrder] at hs
    simp only [List.map_cons, grouperEquals, groupComparator, hs]
    simp only [rowKeyEq, List.all_cons] at ih' ⊢
    by_cases h : specRes c groupOrder gbNull c.cells[r1]! c.cells[r2]! = .equal
    · have := he.1 h
      simp only [groupOrder] at h
      simp [h, this, ih']
    · have : keyEq gbNull c c.cells[r1]! c.cells[r2]! = false := by
        cases hq : keyEq gbNull c c.cells[r1]! c.cells[r2]!
        · rfl
        · exact absurd (he.2 hq) h
      simp only [groupOrder] at h
      simp [h, this]

/-! ## Witnesses: the statement tells wrong comparators apart -/

def inf : UInt64 := 0x7ff0000000000000

/-- What the translator emits for `fcolumn`'s `Compare` rewritten to order by the sign of `d := x - y` (+Inf − +Inf is
NaN, so such a comparator reports two equal infinities as unordered or null): arithmetic on the cells has no term in
`CE`, the tests on `d` become `.opaque`, … -/
def bySubtraction : CE :=
  .ite (.opaque "d < 0") (.ret (.field .lt)) (.ite (.opaque "d > 0") (.ret (.field .gt))
    (.ite (.or .xNaN .yNaN) (nullChain .xNaN .yNaN) (.ret (.const .equal))))

/-- … the term is reported by the `hasOpaque` check, has no value, and so does not satisfy `gen_compare_semantics`. -/
example : bySubtraction.hasOpaque = true ∧
    bySubtraction.eval .float [] (canonFields ⟨false, false, false⟩) (.float inf) (.float inf) = none := by
  decide

/-- `Comparable` with the `nullLast` swap made only when `reverse` is off (after the `reverse` exchange of the pairs): -/
def swappedFields : List FStmt := [
  .assign [] [.lt, .gt, .nullLt, .nullGt, .equalNull] [.const .lessThan, .const .greaterThan, .const .lessThan, .const .greaterThan, .const .notEqual],
  .assign [(.reverse, true)] [.lt, .nullLt, .gt, .nullGt] [.field .gt, .field .nullGt, .field .lt, .field .nullLt],
  .assign [(.nullLast, true), (.reverse, false)] [.nullLt, .nullGt] [.field .nullGt, .field .nullLt],
  .assign [(.equalNull, true)] [.equalNull] [.const .equal]]

/-- under Reverse + NullLast it leaves `nullLtValue` / `nullGtValue` exchanged: a null string against "a" compares
`GreaterThan` although the spec (`keyCmp`: NullLast puts null last, Reverse inverts that) orders it first. -/
example :
    let c : LCol := { name := [], ty := .string, cells := #[] }
    let o : Order := ⟨[], true, true⟩
    (runFields swappedFields ⟨true, false, true⟩).bind (fun F => (canonCompare .string).eval .string [] F (.str none) (.str (some [97])))
      = some .greaterThan ∧ keyCmp c o (.str none) (.str (some [97])) = .lt := by
  decide

end QF.Props.C03Compare
