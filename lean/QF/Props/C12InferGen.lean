import QF.Props.C12Infer
import QF.Gen.Infer
/-!
# C12 — `columnToData` of today's source IS the mirror `columnToDataM`, hence the spec's `csvColumn` (tie T1, by semantics)

`QF.Gen.columnToDataAst` (regenerated on every run by go/cmd/extract/iast.go) holds the body of `columnToData` of
/repo/internal/io/csv.go as one term of `QF.IS` (QF/Core/IExpr.lean: its Go meaning, with the cell parsers and the enum
factory as parameters). This file proves, for the term generated TODAY:

* `gen_infer_no_opaque`          — everything was found and translated completely
* `gen_infer_canon`              — the term is the canonical one (`canon`: the zero-row test, the int / float / bool blocks
                                   with their first-failure loops, the string block, the enum block, the final error)
* `gen_columnToData_mirror`      — for every parse oracle, configuration, column name and list of cells, today's term —
                                   run with the factory mirror of C12Infer (`newFactory`, `appendNil`,
                                   `appendByteString`) — has a meaning, and it is exactly what the statement-by-statement
                                   mirror `columnToDataG` returns: an error iff it returns an error, else the same data
                                   (`[]int`, `[]float64`, `[]bool`, blob, enum column with value table, strictness and
                                   codes) and the same "an enum declaration was deleted" flag
* `gen_columnToData_semantics`   — … `= columnToDataM` (the logical column)
* `gen_columnToData_spec`        — … `= specView (csvColumn …)`, by `columnToData_eq_spec`: the declared types, the
                                   inference order int → float → bool → string, empty cells (NaN in a float column, null in
                                   a string / enum column iff `EmptyNull`), the enum declarations, the unknown-type error

No hypotheses. Witnesses at the end: plausible mutations of the term violate the statement.
-/
namespace QF.Props.C12InferGen
open QF QF.Props.C12Infer

/-! ## The canonical term -/

/-- `x, e := <parser>(cell); if e != nil { err = e; break }; acc = append(acc, x)` -/
def parseStep (p : IParser) (kind : IKind) : IS := .parse p (.ifThen .callFailed (.setErr .brk) (.append kind .done))

/-- `if err == nil { return acc, nil }; if dataType == ty { return nil, error }` -/
def accTail (ty : String) (kind : IKind) : IS := .ifThen .errNil (.retAcc kind) (.ifThen (.typeIs ty) .retErr .done)

def declared (ty : String) : IC := .or (.typeIs ty) (.typeIs "")

def intBody : IS := parseStep .atoi .int
def floatBody : IS := .ifThen .cellEmpty (.appendNaN .cont) (parseStep .float64 .float)
def boolBody : IS := parseStep .bool .bool
def strBody : IS := .ifElse (.and .cellEmpty .emptyNull) (.setPtr true .done) (.setPtr false .done) .done
def enumBody : IS :=
  .ifElse (.and .cellEmpty .emptyNull) (.facAppendNil .done) (.facAppendBytes (.ifThen .callFailed .retErr .done)) .done

def enumTail : IS := .loop enumBody .retColumn

def intB (k : IS) : IS := .ifThen (declared "int") (.makeAcc .int (.loop intBody (accTail "int" .int))) k
def floatB (k : IS) : IS := .ifThen (declared "float") (.clearErr (.makeAcc .float (.loop floatBody (accTail "float" .float)))) k
def boolB (k : IS) : IS := .ifThen (declared "bool") (.clearErr (.makeAcc .bool (.loop boolBody (accTail "bool" .bool)))) k
def strB (k : IS) : IS := .ifThen (declared "string") (.makePtrs (.loop strBody .retBlob)) k
def enumB (k : IS) : IS :=
  .ifThen (.typeIs "enum")
    (.lookupValues (.deleteValues (.newFactory (.ifThen .callFailed .retCallErr enumTail)))) k

def canon : IS :=
  .declErr (.readType (.ifThen (.and .noRows (.typeIs "")) .retEmpty (intB (floatB (boolB (strB (enumB .retErr)))))))

theorem gen_infer_canon : Gen.columnToDataAst = canon := by decide

theorem gen_infer_no_opaque : Gen.columnToDataAst.hasOpaque = false := by decide

/-! ## The factory mirror as the parameter of the semantics -/

def mirrorFactory : IFactory Factory where
  new := fun values _ => newFactory values
  appendNil := Factory.appendNil
  appendBytes := Factory.appendByteString

/-- the returned value as `Data` of the mirror (`ToColumn` returns the factory's column) -/
def toData : IData Factory → Data
  | .empty => .empty
  | .ints a => .ints a
  | .floats a => .floats a
  | .bools a => .bools a
  | .blob p => .blob p
  | .column f => .enum f.values f.strict f.data

def env (po : ParseOracle) (cfg : CsvCfg) (name : Bytes) (cells : List Bytes) : IEnv Factory :=
  { po := po, fac := mirrorFactory, cfg := cfg, name := name, cells := cells }

/-- what a run returns, in the mirror's types -/
def retView : IOut Factory → Option (Option (Data × Bool))
  | .ret r => some (r.map (fun d => (toData d.1, d.2)))
  | _ => none

/-- `columnToData` of today's source -/
def genColumnToData (po : ParseOracle) (cfg : CsvCfg) (name : Bytes) (cells : List Bytes) : Option (Option (Data × Bool)) :=
  (runInfer (env po cfg name cells) Gen.columnToDataAst).map (fun r => r.map (fun d => (toData d.1, d.2)))

theorem runInfer_view (E : IEnv Factory) (t : IS) :
    (runInfer E t).map (fun r => r.map (fun d => (toData d.1, d.2))) = retView (t.run E none {}) := by
  unfold runInfer retView
  cases t.run E none {} <;> rfl

/-! ## The loops -/

-- The equation lemmas of the two interpreters are generated here, once (the attribute ends with the section); made
-- inside a proof they are made again in every proof that rewrites with them.
section
attribute [local simp] IS.run IC.eval iterCells IParser.apply IVal.isNone
end

section Iter
variable {φ : Type} {step : Nat → Bytes → ISt φ → IOut φ} {i : Nat} {c : Bytes} {cs : List Bytes} {σ σ' : ISt φ}

theorem iter_next (h : step i c σ = .next σ') : iterCells step i (c :: cs) σ = iterCells step (i + 1) cs σ' := by
  simp [iterCells, h]
theorem iter_ret {r} (h : step i c σ = .ret r) : iterCells step i (c :: cs) σ = .ret r := by
  simp [iterCells, h]

end Iter

section Loops
variable (E : IEnv Factory)

/-- A loop whose body pushes what `g` makes of the cell on the accumulator `acc` and goes on, or sets `err` and breaks
when `g` rejects the cell, leaves in `acc` and `err` what a `ParseLoop` of `g` returns. -/
theorem parse_loop {α} {g : Bytes → Option α} {loop} (hl : ParseLoop g loop) (acc : ISt Factory → Array α) (body : IS)
    (hok : ∀ i c (σ : ISt Factory) x, g c = some x →
      ∃ σ', (body.run E (some (i, c)) σ = .next σ' ∨ body.run E (some (i, c)) σ = .cont σ') ∧
        σ'.dataType = σ.dataType ∧ σ'.deleted = σ.deleted ∧ acc σ' = (acc σ).push x ∧ σ'.err = σ.err)
    (hfail : ∀ i c (σ : ISt Factory), g c = none →
      ∃ σ', body.run E (some (i, c)) σ = .brk σ' ∧
        σ'.dataType = σ.dataType ∧ σ'.deleted = σ.deleted ∧ acc σ' = acc σ ∧ σ'.err = true)
    (cs : List Bytes) : ∀ (i : Nat) (σ : ISt Factory),
    ∃ σ', iterCells (fun i c τ => body.run E (some (i, c)) τ) i cs σ = .next σ' ∧
      σ'.dataType = σ.dataType ∧ σ'.deleted = σ.deleted ∧ acc σ' = (loop cs (acc σ)).1 ∧
      σ'.err = (σ.err || (loop cs (acc σ)).2) := by
  induction cs with
  | nil => intro i σ; exact ⟨σ, rfl, rfl, rfl, by rw [hl.nil], by simp [hl.nil]⟩
  | cons c cs ih =>
    intro i σ
    cases h : g c with
    | none =>
      obtain ⟨σ', hrun, hdt, hdl, hacc, he⟩ := hfail i c σ h
      exact ⟨σ', by simp [iterCells, hrun], hdt, hdl, by rw [hl.fail cs _ h, hacc], by simp [hl.fail cs _ h, he]⟩
    | some x =>
      obtain ⟨σ1, hrun, hdt, hdl, hacc, he⟩ := hok i c σ x h
      obtain ⟨σ', h1, h2, h3, h4, h5⟩ := ih (i + 1) σ1
      refine ⟨σ', ?_, h2.trans hdt, h3.trans hdl, by rw [hl.ok cs _ h, h4, hacc], by rw [hl.ok cs _ h, h5, he, hacc]⟩
      rcases hrun with hrun | hrun <;> simpa [iterCells, hrun] using h1

/-- one round of `parseStep`: the cell does not parse -/
theorem parseStep_fail (p : IParser) (kind : IKind) (i : Nat) (c : Bytes) (σ : ISt Factory)
    (h : p.apply E.po c = some .none) :
    (parseStep p kind).run E (some (i, c)) σ = .brk { σ with parsed := .none, cerr := true, err := true } := by
  simp [parseStep, IS.run, IC.eval, IVal.isNone, h]

theorem int_loop (cs : List Bytes) (i : Nat) (σ : ISt Factory) :
    ∃ σ', iterCells (fun i c τ => intBody.run E (some (i, c)) τ) i cs σ = .next σ' ∧
      σ'.dataType = σ.dataType ∧ σ'.deleted = σ.deleted ∧ σ'.ints = (intLoop E.po cs σ.ints).1 ∧
      σ'.err = (σ.err || (intLoop E.po cs σ.ints).2) :=
  parse_loop E (intLoop_parse E.po) (·.ints) intBody
    (fun i c σ v h => ⟨{ σ with parsed := .int v, cerr := false, ints := σ.ints.push v },
      .inl (by simp [intBody, parseStep, IS.run, IC.eval, IParser.apply, IVal.isNone, h]), rfl, rfl, rfl, rfl⟩)
    (fun i c σ h => ⟨_, parseStep_fail E .atoi .int i c σ (by simp [IParser.apply, h]), rfl, rfl, rfl, rfl⟩) cs i σ

theorem bool_loop (cs : List Bytes) (i : Nat) (σ : ISt Factory) :
    ∃ σ', iterCells (fun i c τ => boolBody.run E (some (i, c)) τ) i cs σ = .next σ' ∧
      σ'.dataType = σ.dataType ∧ σ'.deleted = σ.deleted ∧ σ'.bools = (boolLoop E.po cs σ.bools).1 ∧
      σ'.err = (σ.err || (boolLoop E.po cs σ.bools).2) :=
  parse_loop E (boolLoop_parse E.po) (·.bools) boolBody
    (fun i c σ v h => ⟨{ σ with parsed := .bool v, cerr := false, bools := σ.bools.push v },
      .inl (by simp [boolBody, parseStep, IS.run, IC.eval, IParser.apply, IVal.isNone, h]), rfl, rfl, rfl, rfl⟩)
    (fun i c σ h => ⟨_, parseStep_fail E .bool .bool i c σ (by simp [IParser.apply, h]), rfl, rfl, rfl, rfl⟩) cs i σ

/-- the float loop: an empty cell is `math.NaN()` and `continue`, any other cell goes to the parser -/
theorem float_loop (cs : List Bytes) (i : Nat) (σ : ISt Factory) :
    ∃ σ', iterCells (fun i c τ => floatBody.run E (some (i, c)) τ) i cs σ = .next σ' ∧
      σ'.dataType = σ.dataType ∧ σ'.deleted = σ.deleted ∧ σ'.floats = (floatLoop E.po cs σ.floats).1 ∧
      σ'.err = (σ.err || (floatLoop E.po cs σ.floats).2) := by
  refine parse_loop E (floatLoop_parse E.po) (·.floats) floatBody (fun i c σ v h => ?_) (fun i c σ h => ?_) cs i σ
  · -- `gFloat` yields `v`: the NaN of an empty cell (`continue`), or the parser's value
    cases he : c.isEmpty with
    | true =>
      simp only [gFloat, he, if_true, Option.some.injEq] at h
      subst h
      exact ⟨{ σ with floats := σ.floats.push F64.canonNaN }, .inr (by simp [floatBody, IS.run, IC.eval, he]),
        rfl, rfl, rfl, rfl⟩
    | false =>
      simp only [gFloat, he, Bool.false_eq_true, if_false] at h
      exact ⟨{ σ with parsed := .float v, cerr := false, floats := σ.floats.push v },
        .inl (by simp [floatBody, parseStep, IS.run, IC.eval, IParser.apply, IVal.isNone, he, h]), rfl, rfl, rfl, rfl⟩
  · -- `gFloat` rejects the cell: it is not empty and the parser fails
    cases he : c.isEmpty with
    | true => simp [gFloat, he] at h
    | false =>
      simp only [gFloat, he, Bool.false_eq_true, if_false] at h
      refine ⟨{ σ with parsed := .none, cerr := true, err := true }, ?_, rfl, rfl, rfl, rfl⟩
      rw [← parseStep_fail E .float64 .float i c σ (by simp [IParser.apply, h])]
      simp [floatBody, IS.run, IC.eval, he]

/-- the null rule: `p.start == p.end && conf.EmptyNull` -/
theorem nullCond_eval (i : Nat) (c : Bytes) (σ : ISt Factory) :
    IC.eval E (some (i, c)) σ (.and .cellEmpty .emptyNull) = some (c.isEmpty && E.cfg.emptyNull) := by
  cases h : c.isEmpty <;> simp [IC.eval, h]

theorem str_step (i : Nat) (c : Bytes) (σ : ISt Factory) (hs : σ.ptrs.size = i) :
    strBody.run E (some (i, c)) σ = .next { σ with ptrs := σ.ptrs.push (strPtr E.cfg.emptyNull c) } := by
  cases h : (c.isEmpty && E.cfg.emptyNull) <;> simp [strBody, IS.run, nullCond_eval, h, hs, strPtr]

theorem str_loop (cs : List Bytes) : ∀ (i : Nat) (σ : ISt Factory), σ.ptrs.size = i →
    ∃ σ', iterCells (fun i c τ => strBody.run E (some (i, c)) τ) i cs σ = .next σ' ∧
      σ'.deleted = σ.deleted ∧ σ'.ptrs = strLoop E.cfg.emptyNull cs σ.ptrs := by
  induction cs with
  | nil => intro i σ _; exact ⟨σ, rfl, rfl, by simp [strLoop]⟩
  | cons c cs ih =>
    intro i σ hs
    obtain ⟨σ', h1, h2, h3⟩ := ih (i + 1) { σ with ptrs := σ.ptrs.push (strPtr E.cfg.emptyNull c) } (by simp [hs])
    refine ⟨σ', ?_, h2, ?_⟩
    · rw [iter_next (step := fun i c τ => strBody.run E (some (i, c)) τ) (str_step E i c σ hs)]
      exact h1
    · rw [h3]
      cases h : (c.isEmpty && E.cfg.emptyNull) <;> simp [strLoop, strPtr, h]

theorem enum_loop (hfac : E.fac = mirrorFactory) (cs : List Bytes) : ∀ (i : Nat) (σ : ISt Factory) (f : Factory),
    σ.factory = some f →
    match enumLoop E.cfg.emptyNull cs f with
    | none => iterCells (fun i c τ => enumBody.run E (some (i, c)) τ) i cs σ = .ret none
    | some f' => ∃ σ', iterCells (fun i c τ => enumBody.run E (some (i, c)) τ) i cs σ = .next σ' ∧
        σ'.deleted = σ.deleted ∧ σ'.factory = some f' := by
  induction cs with
  | nil => intro i σ f hf; exact ⟨σ, rfl, rfl, hf⟩
  | cons c cs ih =>
    intro i σ f hf
    cases he : (c.isEmpty && E.cfg.emptyNull) with
    | true =>
      have hs : enumBody.run E (some (i, c)) σ = .next { σ with factory := some f.appendNil } := by
        simp [enumBody, IS.run, nullCond_eval, he, hf, hfac, mirrorFactory]
      rw [iter_next (step := fun i c τ => enumBody.run E (some (i, c)) τ) hs]
      have := ih (i + 1) { σ with factory := some f.appendNil } f.appendNil rfl
      simpa [enumLoop, he] using this
    | false =>
      cases ha : f.appendByteString c with
      | none =>
        have hs : enumBody.run E (some (i, c)) σ = .ret none := by
          simp only [enumBody, IS.run, nullCond_eval, he]
          simp [IC.eval, hf, hfac, mirrorFactory, ha]
        rw [iter_ret (step := fun i c τ => enumBody.run E (some (i, c)) τ) hs]
        simp [enumLoop, he, ha]
      | some f' =>
        have hs : enumBody.run E (some (i, c)) σ = .next { σ with factory := some f', cerr := false } := by
          simp only [enumBody, IS.run, nullCond_eval, he]
          simp [IC.eval, hf, hfac, mirrorFactory, ha]
        rw [iter_next (step := fun i c τ => enumBody.run E (some (i, c)) τ) hs]
        have := ih (i + 1) { σ with factory := some f', cerr := false } f' rfl
        simpa [enumLoop, he, ha] using this

end Loops

/-! ## The blocks -/

section Blocks
variable (E : IEnv Factory)

theorem declared_eval (ty : String) (σ : ISt Factory) :
    (declared ty).eval E none σ = some (σ.dataType == ty || σ.dataType == "") := by
  cases h : σ.dataType == ty <;> simp [declared, IC.eval, h]

/-- `if dataType == Int || dataType == None { … }`: returns what `intBlock` says, or control goes on -/
theorem intB_run (k : IS) (σ : ISt Factory) (herr : σ.err = false) (hdel : σ.deleted = false) :
    ∃ σ', σ'.dataType = σ.dataType ∧ σ'.deleted = false ∧
      retView ((intB k).run E none σ) =
        (intBlock E.po σ.dataType E.cells).elim (retView (k.run E none σ')) some := by
  cases hd : (σ.dataType == "int" || σ.dataType == "")
  · refine ⟨σ, rfl, hdel, ?_⟩
    simp [intB, IS.run, declared_eval, hd, intBlock]
  · obtain ⟨σ', hrun, hdt, hdl, hacc, he⟩ := int_loop E E.cells 0 { σ with ints := #[] }
    refine ⟨σ', hdt, hdl.trans hdel, ?_⟩
    simp only [intB, IS.run, declared_eval, hd, hrun, accTail, IC.eval, intBlock, if_true]
    simp only [he, herr, Bool.false_or, hacc, hdl, hdt, hdel]
    cases (intLoop E.po E.cells #[]).2
    · simp [retView, toData]
    · cases σ.dataType == "int" <;> simp [retView]

theorem floatB_run (k : IS) (σ : ISt Factory) (hdel : σ.deleted = false) :
    ∃ σ', σ'.dataType = σ.dataType ∧ σ'.deleted = false ∧
      retView ((floatB k).run E none σ) =
        (floatBlock E.po σ.dataType E.cells).elim (retView (k.run E none σ')) some := by
  cases hd : (σ.dataType == "float" || σ.dataType == "")
  · refine ⟨σ, rfl, hdel, ?_⟩
    simp [floatB, IS.run, declared_eval, hd, floatBlock]
  · obtain ⟨σ', hrun, hdt, hdl, hacc, he⟩ := float_loop E E.cells 0 { σ with err := false, floats := #[] }
    refine ⟨σ', hdt, hdl.trans hdel, ?_⟩
    simp only [floatB, IS.run, declared_eval, hd, hrun, accTail, IC.eval, floatBlock, if_true]
    simp only [he, Bool.false_or, hacc, hdl, hdt, hdel]
    cases (floatLoop E.po E.cells #[]).2
    · simp [retView, toData]
    · cases σ.dataType == "float" <;> simp [retView]

theorem boolB_run (k : IS) (σ : ISt Factory) (hdel : σ.deleted = false) :
    ∃ σ', σ'.dataType = σ.dataType ∧ σ'.deleted = false ∧
      retView ((boolB k).run E none σ) =
        (boolBlock E.po σ.dataType E.cells).elim (retView (k.run E none σ')) some := by
  cases hd : (σ.dataType == "bool" || σ.dataType == "")
  · refine ⟨σ, rfl, hdel, ?_⟩
    simp [boolB, IS.run, declared_eval, hd, boolBlock]
  · obtain ⟨σ', hrun, hdt, hdl, hacc, he⟩ := bool_loop E E.cells 0 { σ with err := false, bools := #[] }
    refine ⟨σ', hdt, hdl.trans hdel, ?_⟩
    simp only [boolB, IS.run, declared_eval, hd, hrun, accTail, IC.eval, boolBlock, if_true]
    simp only [he, Bool.false_or, hacc, hdl, hdt, hdel]
    cases (boolLoop E.po E.cells #[]).2
    · simp [retView, toData]
    · cases σ.dataType == "bool" <;> simp [retView]

theorem strB_run (k : IS) (σ : ISt Factory) (hdel : σ.deleted = false) :
    retView ((strB k).run E none σ) =
      (stringBlock E.cfg σ.dataType E.cells).elim (retView (k.run E none σ)) some := by
  cases hd : (σ.dataType == "string" || σ.dataType == "")
  · simp [strB, IS.run, declared_eval, hd, stringBlock]
  · obtain ⟨σ', hrun, hdl, hacc⟩ := str_loop E E.cells 0 { σ with ptrs := #[] } rfl
    have hsize : σ'.ptrs.size = E.cells.length := by
      rw [hacc, strLoop_eq]; simp
    simp only [strB, IS.run, declared_eval, hd, hrun, stringBlock, if_true, hsize]
    simp [retView, toData, hacc, hdl, hdel]

theorem enumTail_run (hfac : E.fac = mirrorFactory) (σ : ISt Factory) (f : Factory) (hf : σ.factory = some f) :
    enumTail.run E none σ =
      match enumLoop E.cfg.emptyNull E.cells f with
      | none => .ret none
      | some f' => .ret (some (.column f', σ.deleted)) := by
  have hl := enum_loop E hfac E.cells 0 σ f hf
  simp only [enumTail, IS.run]
  cases hloop : enumLoop E.cfg.emptyNull E.cells f with
  | none =>
    rw [hloop] at hl
    simp only [] at hl
    rw [hl]
  | some f' =>
    rw [hloop] at hl
    obtain ⟨σ', hrun, hdl, hf'⟩ := hl
    rw [hrun]
    simp [hf', hdl]

theorem enumB_run (hfac : E.fac = mirrorFactory) (k : IS) (σ : ISt Factory) (hdel : σ.deleted = false) :
    retView ((enumB k).run E none σ) =
      (enumBlock E.cfg σ.dataType E.name E.cells).elim (retView (k.run E none σ)) some := by
  cases hd : (σ.dataType == "enum")
  · simp [enumB, IS.run, IC.eval, hd, enumBlock]
  · simp only [enumB, IS.run, IC.eval, hd, enumBlock, if_true, enumG, hfac, mirrorFactory]
    cases hn : newFactory (match E.cfg.enums.find? (·.1 == E.name) with | some e => e.2 | none => []) with
    | none => simp [retView]
    | some f =>
      simp only []
      rw [enumTail_run E hfac _ f rfl]
      cases hloop : enumLoop E.cfg.emptyNull E.cells f with
      | none => simp [retView]
      | some f' => simp [retView, toData, hdel]

theorem elim_some_getD {β : Type} (b : Option β) (K : β) : b.elim (some K) some = some (b.getD K) := by
  cases b <;> rfl

/-- **The canonical term is the mirror.** -/
theorem canon_run (hfac : E.fac = mirrorFactory) :
    retView (canon.run E none {}) = some (columnToDataG E.po E.cfg E.name E.cells) := by
  have h0 : canon.run E none {} =
      (IS.ifThen (.and .noRows (.typeIs "")) .retEmpty (intB (floatB (boolB (strB (enumB .retErr)))))).run E none
        { dataType := dataTypeOf E.cfg E.name } := rfl
  obtain ⟨σ2, hd2, hl2, hr2⟩ := intB_run E (floatB (boolB (strB (enumB .retErr)))) { dataType := dataTypeOf E.cfg E.name } rfl rfl
  obtain ⟨σ3, hd3, hl3, hr3⟩ := floatB_run E (boolB (strB (enumB .retErr))) σ2 hl2
  obtain ⟨σ4, hd4, hl4, hr4⟩ := boolB_run E (strB (enumB .retErr)) σ3 hl3
  have hr5 := strB_run E (enumB .retErr) σ4 hl4
  have hr6 := enumB_run E hfac .retErr σ4 hl4
  rw [hd4, hd3, hd2] at hr6 hr5
  rw [hd3, hd2] at hr4
  rw [hd2] at hr3
  have hend : retView (IS.retErr.run E none σ4) = some none := rfl
  rw [h0, columnToDataG_eq]
  cases hc : (E.cells.length == 0 && dataTypeOf E.cfg E.name == "")
  · have hgo : (IS.ifThen (.and .noRows (.typeIs "")) .retEmpty (intB (floatB (boolB (strB (enumB .retErr)))))).run E none
          { dataType := dataTypeOf E.cfg E.name } =
        (intB (floatB (boolB (strB (enumB .retErr))))).run E none { dataType := dataTypeOf E.cfg E.name } := by
      cases h1 : E.cells.length == 0 <;> cases h2 : dataTypeOf E.cfg E.name == "" <;>
        simp [IS.run, IC.eval, h1, h2] at hc ⊢
    -- every block returns or hands on to the next: the chain of the mirror
    rw [hgo, hr2, hr3, hr4, hr5, hr6, hend]
    simp only [elim_some_getD, Bool.false_eq_true, if_false]
  · have h1 : (E.cells.length == 0) = true := by
      cases h : E.cells.length == 0 <;> simp [h] at hc ⊢
    have h2 : (dataTypeOf E.cfg E.name == "") = true := by
      cases h : dataTypeOf E.cfg E.name == "" <;> simp [h] at hc ⊢
    simp [IS.run, IC.eval, h1, h2, retView, toData]

end Blocks

/-! ## Today's source -/

/-- **`columnToData` of today's source is the statement-by-statement mirror**: for every parse oracle, configuration,
column name and list of cell texts, the term extracted today has a meaning (`some`), it returns an error exactly when
`columnToDataG` does, and otherwise the same data and the same "declaration deleted" flag. -/
theorem gen_columnToData_mirror (po : ParseOracle) (cfg : CsvCfg) (name : Bytes) (cells : List Bytes) :
    genColumnToData po cfg name cells = some (columnToDataG po cfg name cells) := by
  unfold genColumnToData
  rw [gen_infer_canon, runInfer_view]
  exact canon_run (env po cfg name cells) rfl

/-- **`columnToData` of today's source evaluates to `columnToDataM`** (the logical column the returned data denotes),
for all cell lists, oracles and configurations. -/
theorem gen_columnToData_semantics (po : ParseOracle) (cfg : CsvCfg) (name : Bytes) (cells : List Bytes) :
    (genColumnToData po cfg name cells).map (fun r => r.map (fun d => (d.1.toLCol name, d.2))) =
      some (columnToDataM po cfg name cells) := by
  rw [gen_columnToData_mirror]
  rfl

/-- … hence to the specification's `csvColumn` (`columnToData_eq_spec`). -/
theorem gen_columnToData_spec (po : ParseOracle) (cfg : CsvCfg) (name : Bytes) (cells : List Bytes) :
    (genColumnToData po cfg name cells).map (fun r => r.map (fun d => (d.1.toLCol name, d.2))) =
      some (specView (csvColumn po cfg name cells)) := by
  rw [gen_columnToData_semantics, columnToData_eq_spec]

/-! ## Witnesses: the statement tells wrong typings apart -/

section Witnesses

/-- a term run with the factory mirror, as type and cells of the logical column (`none`: error or no meaning) -/
def typing (t : IS) (cfg : CsvCfg) (cells : List Bytes) : Option (CType × List Cell) :=
  match runInfer (env toy cfg [97] cells) t with
  | some (some d) => some (((toData d.1).toLCol [97]).ty, ((toData d.1).toLCol [97]).cells.toList)
  | _ => none

def specTyping (cfg : CsvCfg) (cells : List Bytes) : Option (CType × List Cell) :=
  (csvColumn toy cfg [97] cells).1.map (fun c => (c.ty, c.cells.toList))

def deletedFlag (t : IS) (cfg : CsvCfg) (cells : List Bytes) : Option Bool :=
  match runInfer (env toy cfg [97] cells) t with
  | some (some d) => some d.2
  | _ => none

def withBlocks (i f b s e : IS → IS) : IS :=
  .declErr (.readType (.ifThen (.and .noRows (.typeIs "")) .retEmpty (i (f (b (s (e .retErr)))))))

example : canon = withBlocks intB floatB boolB strB enumB := rfl

/-- the float block without `err = nil`: the error of the int attempt is still set after a float loop that succeeded -/
def floatBStale (k : IS) : IS := .ifThen (declared "float") (.makeAcc .float (.loop floatBody (accTail "float" .float))) k

/-- … types `["1", ""]` as a string column; the spec (and today's term) as float with a NaN: -/
example : typing (withBlocks intB floatBStale boolB strB enumB) {} [b1, []] = some (.string, [.str (some b1), .str (some [])]) ∧
    specTyping {} [b1, []] = some (.float, [.float 0x3ff0000000000000, .float F64.canonNaN]) ∧
    typing canon {} [b1, []] = specTyping {} [b1, []] := by decide

/-- the bool attempt in front of the int attempt types `["1", "0"]` as bool (`ParseBool` accepts both); the spec says int: -/
example : typing (withBlocks boolB intB floatB strB enumB) {} [b1, b0] = some (.bool, [.bool true, .bool false]) ∧
    specTyping {} [b1, b0] = some (.int, [.int 1, .int 0]) ∧
    typing canon {} [b1, b0] = specTyping {} [b1, b0] := by decide

/-- the float loop without the empty-cell rule (`if p.start == p.end { append NaN; continue }`) -/
def floatBNoNaN (k : IS) : IS :=
  .ifThen (declared "float") (.clearErr (.makeAcc .float (.loop (parseStep .float64 .float) (accTail "float" .float)))) k

/-- … rejects the declared float column `["1", ""]`: -/
example : typing (withBlocks intB floatBNoNaN boolB strB enumB) { types := [([97], "float")] } [b1, []] = none ∧
    specTyping { types := [([97], "float")] } [b1, []] = some (.float, [.float 0x3ff0000000000000, .float F64.canonNaN]) ∧
    typing canon { types := [([97], "float")] } [b1, []] = specTyping { types := [([97], "float")] } [b1, []] := by decide

/-- the null rule of the string block without `conf.EmptyNull` -/
def strBAlwaysNull (k : IS) : IS :=
  .ifThen (declared "string") (.makePtrs (.loop (.ifElse .cellEmpty (.setPtr true .done) (.setPtr false .done) .done) .retBlob)) k

/-- … makes the empty cell of `["x", ""]` null although `EmptyNull` is off: -/
example : typing (withBlocks intB floatB boolB strBAlwaysNull enumB) {} [bx, []] = some (.string, [.str (some bx), .str none]) ∧
    specTyping {} [bx, []] = some (.string, [.str (some bx), .str (some [])]) ∧
    typing canon {} [bx, []] = specTyping {} [bx, []] := by decide

/-- the zero-row test without `dataType == None`: a declared int column without rows becomes the typeless column -/
example : typing (.declErr (.readType (.ifThen .noRows .retEmpty (intB (floatB (boolB (strB (enumB .retErr)))))))) { types := [([97], "int")] } [] =
      some (.undef, []) ∧
    specTyping { types := [([97], "int")] } [] = some (.int, []) ∧
    typing canon { types := [([97], "int")] } [] = specTyping { types := [([97], "int")] } [] := by decide

/-- the enum block without `delete(conf.EnumVals, colName)`: the declaration is not consumed (ReadCSV would then fail with
"Enum values specified for non enum column") -/
def enumBNoDelete (k : IS) : IS :=
  .ifThen (.typeIs "enum") (.lookupValues (.newFactory (.ifThen .callFailed .retCallErr enumTail))) k

example : deletedFlag (withBlocks intB floatB boolB strB enumBNoDelete) { types := [([97], "enum")], enums := [([97], [bx])] } [bx] = some false ∧
    (csvColumn toy { types := [([97], "enum")], enums := [([97], [bx])] } [97] [bx]).2 = true ∧
    deletedFlag canon { types := [([97], "enum")], enums := [([97], [bx])] } [bx] = some true := by decide

/-- a loop that stops at the first failure without recording it (`break` without `err = e`) returns the prefix -/
example : typing (withBlocks (fun k => .ifThen (declared "int") (.makeAcc .int (.loop (.parse .atoi (.ifThen .callFailed .brk
        (.append .int .done))) (accTail "int" .int))) k) floatB boolB strB enumB) {} [b1, bx] = some (.int, [.int 1]) ∧
    specTyping {} [b1, bx] = some (.string, [.str (some b1), .str (some bx)]) ∧
    typing canon {} [b1, bx] = specTyping {} [b1, bx] := by decide

end Witnesses

#print axioms gen_infer_canon
#print axioms gen_infer_no_opaque
#print axioms gen_columnToData_mirror
#print axioms gen_columnToData_semantics
#print axioms gen_columnToData_spec

end QF.Props.C12InferGen
