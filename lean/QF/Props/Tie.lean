import QF.Gen.Facts
import QF.Gen.Ryu
import QF.Props.Expected
/-!
# Tie T1: the source the model was written against is the source that is there now

`QF.Gen` is regenerated from /repo on every run; `QF.Expected` is the reviewed snapshot the hand-written mirror
model corresponds to. `same n` says that the constant / function `n` has today exactly the (normalised) source text
it had when the model was written (compared through a 64-bit hash of the text, so that the kernel decides it cheaply;
the texts themselves are in `Gen.facts` / `Expected.facts` for the reader). Each property lists, in
`QF/Props/Cnn.lean`, the functions its mirror follows; the theorem `tie` there is re-checked on every run and fails
as soon as one of them changes. Every such list is empty today: each function a mirror follows is regenerated as a term
(`QF.Gen.*`) and proved equal to the mirror, so `same` / `sameAll` compare nothing and only `kernelsSame` compares a hash.
-/
namespace QF.Tie
open QF

def same (name : String) : Bool :=
  match Gen.hashes.lookup name, Expected.hashes.lookup name with
  | some a, some b => a == b
  | _, _ => false

def sameAll (names : List String) : Bool := names.all same

/-- the comparator tables are unchanged (which comparator is served by which kernel). The kernels themselves are no
longer compared as text: their meaning is regenerated as `Gen.kernelAst` and proved equal to the spec's predicates
(`QF.Props.C02Kernels.gen_kernel_semantics`), so renaming a variable in a kernel raises no alarm while changing an
operator, a null test or an operand does. -/
def kernelsSame : Bool := Gen.tablesHash == Expected.tablesHash

end QF.Tie
