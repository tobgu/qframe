import QF.Props.C02Kernels
import QF.Core.ListFacts
import QF.Gen.Loops
import QF.Gen.Guards
/-!
# C06 — the per-row LOOPS of Apply in today's source build what `applyInstr` builds (tie T1, by semantics)

`QF.Gen.apply1Ast`, `QF.Gen.apply2Ast`, `QF.Gen.apply0Ast` and `QF.Gen.apply1WrapAst` (QF/Gen/Loops.lean, regenerated on
every run by go/cmd/extract/last.go) hold, as terms of QF/Core/LExpr.lean, `Column.Apply1` and `Column.Apply2` of each of
the five column packages, `QFrame.apply0` of /repo/qframe.go after its guard, and the switch of `QFrame.apply1` on the
type of the slice `Apply1` returned: which dynamic types of the function value are accepted, and behind each of them the
allocation of the result, the loop over the index (which row is read — of the receiver, of the second column —, which slot
is written) and where the result goes. `LFn.run` is their meaning on PHYSICAL data. The dispatch of `Apply` to the three
helpers and their guard prefixes are C10Guards (`gen_apply_dispatch`, `gen_apply_loop`, `gen_sticky_all`); this file is
what those theorems take as given: that a helper call computes `applyInstr`.

Proved here, over the data generated TODAY:

* `gen_loops_no_opaque`        — every function was translated completely, and both tables list exactly the five column
                                 packages (so `apply1Of` / `apply2Of` never fall back on `missing`)
* `gen_apply1_canon`, `gen_apply2_canon`, `gen_apply0_canon`, `gen_apply1_wrap_canon` — today's terms ARE the canonical
                                 ones (finite `decide`): per column type the four accepted signatures `func(T) R`,
                                 R ∈ int / float64 / bool / *string, each with `make([]R, len(c.data))` and
                                 `result[row] = t(<cell row>)`; `func(T, T) T` for Apply2 after the assertion of the second
                                 column; the ten cases of apply0
* `gen_builtin_entries`        — the only built-in table is `"ToUpper"` ↦ the package's `toUpper` (by the hash of its body, a
                                 fact of QF/Gen/Facts.lean), for string and enum columns, in `Apply1` only
* `accOf_eval`                 — the argument handed to the function IS the cell: `nil` for a null cell of a string / enum
                                 column, the address of its string otherwise (`stringToPtr(c.stringAt(i))`,
                                 `c.stringPtrAt(i)` inlined by the translator)
* `gen_apply_loops_physical`   — for ALL physical contents, every index and every function value, the three functions return
                                 the array that holds the function of the row's cell(s) at every row of the index and the
                                 zero value of the element type at every other row of the full column length, or an error
                                 exactly for the rejected function values (`expect1`, `expect2`, `expect0`)
* `gen_apply_loops_semantics`  — … which, read through the index `ix0` of the frame, is exactly the frame `applyInstr`
                                 specifies (`gen_apply1_semantics`, `gen_apply2_semantics`, `gen_apply0_semantics`): for
                                 `Apply` (all rows) and `FilteredApply` (the rows a clause keeps), for every function of
                                 the catalogue of QF/Spec/Ops.lean incl. the stateful zero-argument ones (the `k`-th value
                                 at the `k`-th selected row; needs the index to be duplicate-free)

Witnesses at the end: `result[pos]`, `make([]T, len(ix))`, `other.data[pos]`, skipping null rows, accepting a function of
another element type — each gives a different outcome than the statement allows; for `&""` in place of nil the array is
computed next to today's.

Method as in C02Dispatch / C08Construct: `decide` shows that today's terms are the canonical ones; the meaning of the
canonical terms is computed once and for all (`canon1_run`, `canon2_run`, `canon0_run`).
-/
namespace QF.Props.C06LoopsGen
open QF QF.Props.C02Kernels

/-! ## Today's terms -/

/-- never reached for `ty ∈ tys`: by `gen_loops_no_opaque` both tables list the five packages -/
def missing : LFn := { cases := [], dflt := .opaque "missing" }
def apply1Of (ty : CType) : LFn := (Gen.apply1Ast.lookup (pkgOf ty)).getD missing
def apply2Of (ty : CType) : LFn := (Gen.apply2Ast.lookup (pkgOf ty)).getD missing

theorem gen_loops_no_opaque :
    (∀ e ∈ Gen.apply1Ast, e.2.hasOpaque = false) ∧ (∀ e ∈ Gen.apply2Ast, e.2.hasOpaque = false) ∧
    Gen.apply0Ast.hasOpaque = false ∧
    Gen.apply1Ast.map (·.1) = tys.map pkgOf ∧ Gen.apply2Ast.map (·.1) = tys.map pkgOf := by decide +kernel

/-! ## Canonical terms -/

/-- the element types a result slice may have -/
def resTys : List CType := [.int, .float, .bool, .string]

def accOf : CType → LAcc
  | .string => .ifNull .nilPtr .addrStr
  | .enum => .ifNull .nilPtr .addrValue
  | _ => .raw

/-- `result := make([]r, len(c.data)); for _, i := range ix { result[i] = t(<cell i>) }; return result, nil` -/
def loop1 (ty r : CType) : LBody := .loop r .recvLen [.store .row (.call [.cell .recv .row (accOf ty)])] .slice

/-- … `result[i] = t(<cell i>, <cell i of the other column>)` -/
def loop2 (ty : CType) (ret : LRet) : LBody :=
  .loop (fkind ty) .recvLen [.store .row (.call [.cell .recv .row (accOf ty), .cell .other .row (accOf ty)])] ret

/-- the hash of the body of the package's `toUpper` among the facts of `QF/Gen/Facts.lean` -/
def upperHash (ty : CType) : Nat := (Gen.hashes.lookup (pkgOf ty ++ ".toUpper")).getD 0

def hasBuiltins : CType → Bool
  | .string | .enum => true
  | _ => false

def canon1 (ty : CType) : LFn :=
  { assertOther := none
    cases := resTys.map (fun r => (LSig.fn [fkind ty] r, loop1 ty r)) ++
      (if hasBuiltins ty then [(LSig.str, LBody.lookup [("ToUpper", upperHash ty)] .err)] else [])
    dflt := .err }

/-- where the result of `Apply2` goes: a column of the receiver's package; for an enum column a string column -/
def ret2 (ty : CType) : LRet := if ty = .enum then .strCol else .ownCol

def canon2 (ty : CType) : LFn :=
  { assertOther := some .err
    cases := (LSig.fn [fkind ty, fkind ty] (fkind ty), loop2 ty (ret2 ty)) ::
      (if hasBuiltins ty then [(LSig.str, LBody.err)] else [])
    dflt := .err }

/-- `data := make([]r, colLen); for _, i := range qf.index { data[i] = rhs }` -/
def loop0 (r : CType) (rhs : LRhs) : LBody := .loop r .firstColLen [.store .row rhs] .create

def canon0 : LFn :=
  { assertOther := none
    cases := (resTys.flatMap (fun r => [(LSig.fn [] r, loop0 r (.call [])), (LSig.const r, loop0 r .fnValue)])) ++
      [(LSig.str, loop0 .string .addrFnValue), (LSig.named, .copyCol)]
    dflt := .err }

/-- Of the four fields `toRes` reads `slices` and `setsDst`; `passesColumn` is read only where a built-in returned a column
(C06FApplyGen `helperX`); `dfltErr` is recorded and has no reading: a slice type outside `slices` is `none` in `toRes`, not an
error. -/
def canonWrap : LWrap :=
  { slices := resTys.map (fun r => (r, r)), passesColumn := true, dfltErr := true, setsDst := true }

theorem gen_apply1_canon : ∀ ty ∈ tys, apply1Of ty = canon1 ty := by decide +kernel
theorem gen_apply2_canon : ∀ ty ∈ tys, apply2Of ty = canon2 ty := by decide +kernel
theorem gen_apply0_canon : Gen.apply0Ast = canon0 := by decide +kernel
theorem gen_apply1_wrap_canon : Gen.apply1WrapAst = canonWrap := by decide +kernel

/-! ## The write loop, closed form -/

/-- `for _, i := range ix { res[i] = G i }` -/
def writeLoop (G : Nat → Cell) : List Nat → List Cell → List Cell
  | [], res => res
  | i :: ix, res => writeLoop G ix (res.set i (G i))

theorem writeLoop_length (G : Nat → Cell) (ix : List Nat) (res : List Cell) :
    (writeLoop G ix res).length = res.length := by
  induction ix generalizing res with
  | nil => rfl
  | cons i ix ih => simp only [writeLoop, ih, List.length_set]

theorem writeLoop_getElem? (G : Nat → Cell) (ix : List Nat) (res : List Cell) (p : Nat) :
    (writeLoop G ix res)[p]? =
      if p ∈ ix then (if p < res.length then some (G p) else none) else res[p]? := by
  induction ix generalizing res with
  | nil => simp [writeLoop]
  | cons i ix ih =>
    rw [writeLoop, ih, List.length_set, List.getElem?_set]
    by_cases h1 : p ∈ ix
    · simp [h1]
    · by_cases h2 : i = p
      · simp [h1, h2]
      · simp [h1, h2, Ne.symm h2]

/-- the rows of the result of a pure loop: `G` on the rows of the index, the zero value elsewhere -/
def rowsOf (L : Nat) (ix : List Nat) (z : Cell) (G : Nat → Cell) : List Cell :=
  (List.range L).map (fun p => if p ∈ ix then G p else z)

theorem writeLoop_replicate (G : Nat → Cell) (ix : List Nat) (L : Nat) (z : Cell) :
    writeLoop G ix (List.replicate L z) = rowsOf L ix z G := by
  unfold rowsOf
  apply List.ext_getElem?
  intro p
  rw [writeLoop_getElem?, List.getElem?_map, List.length_replicate, List.getElem?_replicate]
  by_cases hp : p < L
  · rw [List.getElem?_range hp]
    by_cases hm : p ∈ ix <;> simp [hm, hp]
  · rw [List.getElem?_eq_none (by simpa using hp)]
    by_cases hm : p ∈ ix <;> simp [hm, hp]

theorem writeLoop_congr {G G' : Nat → Cell} : ∀ (ix : List Nat) (res : List Cell), (∀ p ∈ ix, G p = G' p) →
    writeLoop G ix res = writeLoop G' ix res
  | [], _, _ => rfl
  | i :: ix, res, h => by
    rw [writeLoop, writeLoop, h i List.mem_cons_self]
    exact writeLoop_congr ix _ fun p hp => h p (List.mem_cons_of_mem _ hp)

theorem runLoop_pure {σ : Type} (E : LEnv σ) (body : List LStmt) (G : Nat → Cell) (L : Nat) :
    ∀ (ix : List Nat) (pos : Nat) (res : List Cell) (s : σ), res.length = L →
      (∀ pos row (res : List Cell) (s : σ), row ∈ ix → res.length = L →
        lRunBody E pos row body res s = .ok (res.set row (G row), s)) →
      lRunLoop E body pos ix res s = .ok (writeLoop G ix res, s) := by
  intro ix
  induction ix with
  | nil => intro pos res s _ _; rfl
  | cons i ix ih =>
    intro pos res s hl hb
    simp only [lRunLoop, writeLoop]
    rw [hb pos i res s List.mem_cons_self hl]
    exact ih (pos + 1) _ s (by rw [List.length_set]; exact hl)
      (fun pos row res s hr hl' => hb pos row res s (List.mem_cons_of_mem _ hr) hl')

/-- **The loop of every signature whose right-hand side leaves the closure state alone** (all but `func() R`, which is
`runLoop_fill`): `result := make([]r, L); for _, row := range ix { result[row] = rhs }` where the right-hand side evaluates to
`G row`: `G` on the rows of the index, the zero value of `r` on all others. -/
theorem loop_pure {σ : Type} (E : LEnv σ) (r : CType) (len : LLen) (L : Nat) (hlen : len.eval E = some L) (rhs : LRhs)
    (ret : LRet) (G : Nat → Cell) (hv : ∀ pos row (s : σ), row ∈ E.ix → rhs.eval E pos row s = .ok (G row, s))
    (hix : ∀ p ∈ E.ix, p < L) :
    (LBody.loop r len [.store .row rhs] ret).run E = .arr ret r (rowsOf L E.ix (zeroCell r) G) E.s0 := by
  have h := runLoop_pure E [.store .row rhs] G L E.ix 0 (List.replicate L (zeroCell r)) E.s0 (by simp) (by
    intro pos row res s hr hl
    have hrl : row < res.length := by rw [hl]; exact hix row hr
    simp [lRunBody, hv pos row s hr, LIdx.of, hrl])
  simp only [LBody.run, hlen, h, writeLoop_replicate]

/-! ## From the cell to the function argument -/

/-- **The argument the function gets is the cell**, for every cell a column of the type can hold: the raw element for
int / float / bool; for string and enum columns `nil` for a null cell and the address of the cell's string otherwise. -/
theorem accOf_eval (ty : CType) (hty : ty ∈ tys) (vals : List Bytes) (x : Cell) (hx : cellOk ty vals x = true) :
    (accOf ty).eval ty vals x = some x := by
  unfold cellOk at hx
  cases ty with
  | int => simp [accOf, LAcc.eval, hx]
  | float => simp [accOf, LAcc.eval, hx]
  | bool => simp [accOf, LAcc.eval, hx]
  | undef => simp [tys] at hty
  | string =>
    cases x with
    | str s => cases s <;> simp [accOf, LAcc.eval, nullOf, strOf]
    | _ => simp [cellVal] at hx
  | enum =>
    cases x with
    | str s =>
      cases s with
      | none => simp [accOf, LAcc.eval, nullOf, cellVal]
      | some b =>
        obtain ⟨i, hr, hi⟩ := enum_ok hx
        have hne : (i == enumNull) = false := by simp [enumNull]; omega
        simp [accOf, LAcc.eval, nullOf, cellVal, hr, show i < enumNull from hi, hne, enumStrOf_some hr hi]
    | _ => simp [cellVal] at hx

/-! ## Physical columns -/

/-- every cell is one a column of the type can hold (for an enum: its string is in the value table) -/
def ColOk (P : PCol) : Prop := P.ty ∈ tys ∧ ∀ x ∈ P.cells, cellOk P.ty P.vals x = true

theorem ColOk.get {P : PCol} (h : ColOk P) {p : Nat} (hp : p < P.cells.length) :
    P.cells[p]? = some (P.cells[p]!) ∧ cellOk P.ty P.vals (P.cells[p]!) = true := by
  have e : P.cells[p]! = P.cells[p] := by simp [hp]
  rw [e]
  exact ⟨List.getElem?_eq_getElem hp, h.2 _ (List.getElem_mem hp)⟩

/-! ## Apply1 -/

theorem loop1_run {σ : Type} (E : LEnv σ) (a r : CType) (g : Cell → Cell) (hfn : E.fn = .fn1 a r g)
    (hok : ColOk E.recv) (hix : ∀ p ∈ E.ix, p < E.recv.cells.length) :
    (loop1 E.recv.ty r).run E =
      .arr .slice r (rowsOf E.recv.cells.length E.ix (zeroCell r) (fun p => g (E.recv.cells[p]!))) E.s0 := by
  refine loop_pure E r .recvLen _ rfl _ .slice _ (fun pos row s hr => ?_) hix
  obtain ⟨hx, hc⟩ := hok.get (hix row hr)
  have e1 := accOf_eval _ hok.1 _ _ hc
  generalize E.recv.cells[row]! = x at hx e1 ⊢
  simp [LRhs.eval, hfn, LArg.eval, LEnv.col, LIdx.of, hx, e1]

/-- What `Apply1` of a column of type `ty` must do with a function value: a one-argument function on the column's element
type with one of the four result types runs the loop; a `string` is the name of a built-in (string and enum columns only,
and only "ToUpper"); everything else is an error. -/
def expect1 {σ : Type} (E : LEnv σ) : LOutcome σ :=
  match E.fn with
  | .fn1 a r g =>
    if a = fkind E.recv.ty ∧ r ∈ resTys then
      .arr .slice r (rowsOf E.recv.cells.length E.ix (zeroCell r) (fun p => g (E.recv.cells[p]!))) E.s0
    else .err
  | .str s => if hasBuiltins E.recv.ty = true ∧ s = strBytes "ToUpper" then .builtin (upperHash E.recv.ty) else .err
  | _ => .err

theorem switch_of_mem {σ : Type} (F : LFn) (hnd : (F.cases.map (·.1)).Nodup) (E : LEnv σ) (b : LBody)
    (h : (E.fn.sig, b) ∈ F.cases) : F.switch E = b.run E := by
  unfold LFn.switch
  rw [QF.ListFacts.find?_key_of_mem (·.1) F.cases hnd _ h]

theorem switch_of_not_mem {σ : Type} (F : LFn) (E : LEnv σ) (h : E.fn.sig ∉ F.cases.map (·.1)) : F.switch E = F.dflt.run E := by
  unfold LFn.switch
  rw [List.find?_eq_none.mpr fun c hc e => h (List.mem_map.mpr ⟨c, hc, (beq_iff_eq.mp e)⟩)]

theorem canon1_sigs (ty : CType) :
    (canon1 ty).cases.map (·.1) = resTys.map (LSig.fn [fkind ty]) ++ if hasBuiltins ty then [.str] else [] := by
  cases ty <;> rfl

theorem canon1_keys (ty : CType) : ((canon1 ty).cases.map (·.1)).Nodup := by rw [canon1_sigs]; cases ty <;> decide

theorem canon1_run {σ : Type} (E : LEnv σ) (hok : ColOk E.recv) (hix : ∀ p ∈ E.ix, p < E.recv.cells.length) :
    (canon1 E.recv.ty).run E = expect1 E := by
  show (canon1 E.recv.ty).switch E = _
  unfold expect1
  cases hfn : E.fn with
  | fn1 a r g =>
    simp only
    by_cases h : a = fkind E.recv.ty ∧ r ∈ resTys
    · rw [if_pos h, switch_of_mem _ (canon1_keys _) E (loop1 E.recv.ty r)
        (by rw [hfn]; exact List.mem_append_left _ (List.mem_map.mpr ⟨r, h.2, by rw [h.1]; rfl⟩))]
      exact loop1_run E a r g hfn hok hix
    · rw [if_neg h, switch_of_not_mem]
      · rfl
      · rw [hfn, canon1_sigs]
        cases hasBuiltins E.recv.ty <;> simpa [LVal.sig] using fun hr e => h ⟨e.symm, hr⟩
  | str s =>
    simp only
    cases hb : hasBuiltins E.recv.ty
    · rw [switch_of_not_mem _ _ (by rw [hfn, canon1_sigs, hb]; simp [LVal.sig])]
      simp only [Bool.false_eq_true, false_and, ↓reduceIte]
      rfl
    · rw [switch_of_mem _ (canon1_keys _) E (.lookup [("ToUpper", upperHash E.recv.ty)] .err)
        (by rw [hfn]; exact List.mem_append_right _ (by rw [hb]; exact List.mem_singleton_self _))]
      by_cases hs : s = strBytes "ToUpper"
      · subst hs; simp [LBody.run, hfn]
      · have hs' : ¬ (strBytes "ToUpper" = s) := fun e => hs e.symm
        simp [LBody.run, hfn, hs, hs']
  | _ =>
    rw [switch_of_not_mem _ _ (by rw [hfn, canon1_sigs]; cases hasBuiltins E.recv.ty <;> simp [LVal.sig])]
    rfl

/-! ## Apply2 -/

theorem loop2_run {σ : Type} (E : LEnv σ) (a b r : CType) (g : Cell → Cell → Cell) (hfn : E.fn = .fn2 a b r g) (ret : LRet)
    (hok : ColOk E.recv) (hok2 : ColOk E.other) (hty : E.other.ty = E.recv.ty)
    (hlen : E.other.cells.length = E.recv.cells.length) (hix : ∀ p ∈ E.ix, p < E.recv.cells.length) :
    (loop2 E.recv.ty ret).run E =
      .arr ret (fkind E.recv.ty) (rowsOf E.recv.cells.length E.ix (zeroCell (fkind E.recv.ty))
        (fun p => g (E.recv.cells[p]!) (E.other.cells[p]!))) E.s0 := by
  refine loop_pure E _ .recvLen _ rfl _ ret _ (fun pos row s hr => ?_) hix
  obtain ⟨hx, hc⟩ := hok.get (hix row hr)
  obtain ⟨hy, hd⟩ := hok2.get (by rw [hlen]; exact hix row hr)
  have e1 := accOf_eval _ hok.1 _ _ hc
  have e2 := accOf_eval _ hok2.1 _ _ hd
  rw [hty] at e2
  generalize E.recv.cells[row]! = x at hx e1 ⊢
  generalize E.other.cells[row]! = y at hy e2 ⊢
  simp [LRhs.eval, hfn, LArg.eval, LEnv.col, LIdx.of, hx, hy, hty, e1, e2]

theorem ret2_cases (ty : CType) : (ret2 ty = .ownCol ∧ fkind ty = ty) ∨ (ret2 ty = .strCol ∧ fkind ty = .string) := by
  cases ty <;> simp [ret2, fkind]

/-- What `Apply2` must do: the second column must be of the receiver's package; the function a two-argument function on
the column's element type with the same result type; everything else is an error. -/
def expect2 {σ : Type} (E : LEnv σ) : LOutcome σ :=
  if E.other.ty = E.recv.ty then
    match E.fn with
    | .fn2 a b r g =>
      if a = fkind E.recv.ty ∧ b = fkind E.recv.ty ∧ r = fkind E.recv.ty then
        .arr (ret2 E.recv.ty) (fkind E.recv.ty) (rowsOf E.recv.cells.length E.ix (zeroCell (fkind E.recv.ty))
          (fun p => g (E.recv.cells[p]!) (E.other.cells[p]!))) E.s0
      else .err
    | _ => .err
  else .err

theorem canon2_sigs (ty : CType) :
    (canon2 ty).cases.map (·.1) = LSig.fn [fkind ty, fkind ty] (fkind ty) :: if hasBuiltins ty then [.str] else [] := by
  cases ty <;> rfl

theorem canon2_keys (ty : CType) : ((canon2 ty).cases.map (·.1)).Nodup := by rw [canon2_sigs]; cases ty <;> decide

theorem canon2_run {σ : Type} (E : LEnv σ) (hok : ColOk E.recv) (hok2 : ColOk E.other)
    (hlen : E.other.cells.length = E.recv.cells.length) (hix : ∀ p ∈ E.ix, p < E.recv.cells.length) :
    (canon2 E.recv.ty).run E = expect2 E := by
  unfold expect2
  by_cases hty : E.other.ty = E.recv.ty
  · have hsw : (canon2 E.recv.ty).run E = (canon2 E.recv.ty).switch E := by
      simp [LFn.run, canon2, hty]
    rw [hsw, if_pos hty]
    cases hfn : E.fn with
    | fn2 a b r g =>
      simp only
      by_cases h : a = fkind E.recv.ty ∧ b = fkind E.recv.ty ∧ r = fkind E.recv.ty
      · rw [if_pos h, switch_of_mem _ (canon2_keys _) E (loop2 E.recv.ty (ret2 E.recv.ty))
          (by rw [hfn, h.1, h.2.1, h.2.2]; exact List.mem_cons_self)]
        exact loop2_run E a b r g hfn _ hok hok2 hty hlen hix
      · rw [if_neg h, switch_of_not_mem]
        · rfl
        · rw [hfn, canon2_sigs]
          cases hasBuiltins E.recv.ty <;> simpa [LVal.sig] using fun e1 e2 e3 => h ⟨e1, e2, e3⟩
    | str s =>
      cases hb : hasBuiltins E.recv.ty
      · rw [switch_of_not_mem _ _ (by rw [hfn, canon2_sigs, hb]; simp [LVal.sig])]; rfl
      · rw [switch_of_mem _ (canon2_keys _) E .err (by rw [hfn]; simp [canon2, LVal.sig, hb])]; rfl
    | _ =>
      rw [switch_of_not_mem _ _ (by rw [hfn, canon2_sigs]; cases hasBuiltins E.recv.ty <;> simp [LVal.sig])]
      rfl
  · simp [LFn.run, canon2, hty, LBody.run]

/-! ## apply0: constants and zero-argument functions with state -/

section stateful
variable {σ : Type}

/-- the `k`-th value (from 0) a closure with transition `next` produces from state `s` -/
def nthVal (next : σ → Cell × σ) : σ → Nat → Cell
  | s, 0 => (next s).1
  | s, k + 1 => nthVal next (next s).2 k

def iterState (next : σ → Cell × σ) : σ → Nat → σ
  | s, 0 => s
  | s, n + 1 => iterState next (next s).2 n

/-- the value the stateful loop over `ix` stores at row `p`: the one of the call at `p`'s position in `ix` -/
def valAt (next : σ → Cell × σ) (s : σ) (ix : List Nat) (p : Nat) : Cell := nthVal next s ((ix.idxOf? p).getD 0)

/-- **The stateful loop is the write loop** on a duplicate-free index: row `ix[k]` receives the `k`-th value. (With a
repeated row the last call would win while `valAt` names the first: hence `Nodup`, which `runLoop_pure` does not need.) -/
theorem runLoop_fill (E : LEnv σ) (r : CType) (next : σ → Cell × σ) (hfn : E.fn = .fn0 r next) :
    ∀ (ix : List Nat) (pos : Nat) (res : List Cell) (s : σ), (∀ p ∈ ix, p < res.length) → ix.Nodup →
      lRunLoop E [.store .row (.call [])] pos ix res s = .ok (writeLoop (valAt next s ix) ix res, iterState next s ix.length) := by
  intro ix
  induction ix with
  | nil => intro pos res s _ _; rfl
  | cons i ix ih =>
    intro pos res s h nd
    have ndc := List.nodup_cons.mp nd
    have hi : i < res.length := h i List.mem_cons_self
    simp only [lRunLoop, lRunBody, LRhs.eval, hfn, LIdx.of, hi, ↓reduceIte, writeLoop, List.length_cons, iterState]
    rw [ih (pos + 1) _ _ (fun p hp => by rw [List.length_set]; exact h p (List.mem_cons_of_mem _ hp)) ndc.2]
    have h0 : valAt next s (i :: ix) i = (next s).1 := by simp [valAt, List.idxOf?_cons, nthVal]
    rw [h0, writeLoop_congr ix _ fun p hp => ?_]
    have hne : (i == p) = false := by simpa using fun (e : i = p) => ndc.1 (e ▸ hp)
    obtain ⟨k, hk⟩ := Option.isSome_iff_exists.mp (List.isSome_idxOf?.mpr hp)
    simp [valAt, List.idxOf?_cons, hne, hk, nthVal]

end stateful

/-- What `apply0` must do after its guard: a zero-argument function of one of the four result types is called once per
entry of the index, in index order, the `k`-th value stored at row `ix[k]`; an `int`, `float64`, `bool`, `*string` or
`string` constant is stored at every row of the index (a `string` as a non-nil pointer); a `types.ColumnName` is handed to
`Copy`; everything else is an error. The array has the length of the first column and holds the zero value elsewhere. -/
def expect0 {σ : Type} (E : LEnv σ) : LOutcome σ :=
  match E.fn with
  | .fn0 r next =>
    if r ∈ resTys then
      .arr .create r (rowsOf E.firstColLen E.ix (zeroCell r) (valAt next E.s0 E.ix)) (iterState next E.s0 E.ix.length)
    else .err
  | .const c => .arr .create (cellType c) (rowsOf E.firstColLen E.ix (zeroCell (cellType c)) (fun _ => c)) E.s0
  | .str s => .arr .create .string (rowsOf E.firstColLen E.ix (.str none) (fun _ => .str (some s))) E.s0
  | .named n => .copy n
  | _ => .err

theorem cellType_mem (c : Cell) : cellType c ∈ resTys := by cases c <;> simp [cellType, resTys]

theorem canon0_sigs : canon0.cases.map (·.1) = resTys.flatMap (fun r => [LSig.fn [] r, .const r]) ++ [.str, .named] := rfl

theorem canon0_keys : (canon0.cases.map (·.1)).Nodup := by decide

theorem canon0_run {σ : Type} (E : LEnv σ) (hix : ∀ p ∈ E.ix, p < E.firstColLen) (nd : E.ix.Nodup) :
    canon0.run E = expect0 E := by
  show canon0.switch E = _
  unfold expect0
  cases hfn : E.fn with
  | fn0 r next =>
    simp only
    by_cases h : r ∈ resTys
    · rw [if_pos h, switch_of_mem _ canon0_keys E (loop0 r (.call []))
        (by rw [hfn]; exact List.mem_append_left _ (List.mem_flatMap.mpr ⟨r, h, List.mem_cons_self⟩))]
      simp only [loop0, LBody.run, LLen.eval]
      rw [runLoop_fill E r next hfn E.ix 0 _ E.s0 (by simpa using hix) nd, writeLoop_replicate]
    · rw [if_neg h, switch_of_not_mem _ _ (by rw [hfn, canon0_sigs]; simpa [LVal.sig] using h)]
      rfl
  | const c =>
    rw [switch_of_mem _ canon0_keys E (loop0 (cellType c) .fnValue)
      (by rw [hfn]; exact List.mem_append_left _ (List.mem_flatMap.mpr ⟨_, cellType_mem c, by simp [LVal.sig]⟩))]
    exact loop_pure E _ .firstColLen _ rfl _ .create (fun _ => c) (by intro pos row s _; simp [LRhs.eval, hfn]) hix
  | str s =>
    rw [switch_of_mem _ canon0_keys E (loop0 .string .addrFnValue) (by rw [hfn]; simp [canon0, LVal.sig])]
    exact loop_pure E _ .firstColLen _ rfl _ .create (fun _ => .str (some s)) (by intro pos row s' _; simp [LRhs.eval, hfn]) hix
  | named n =>
    rw [switch_of_mem _ canon0_keys E .copyCol (by rw [hfn]; simp [canon0, LVal.sig])]
    simp [LBody.run, hfn]
  | _ =>
    rw [switch_of_not_mem _ _ (by rw [hfn, canon0_sigs]; simp [LVal.sig])]
    rfl

/-! ## The frame whose index is `ix0` -/

/-- what a user sees of an array of physical cells through the index `ix0` of the frame: row `r` is `cells[ix0[r]]` -/
def observe (ix0 : List Nat) (cells : List Cell) : Array Cell := (ix0.map (fun p => cells[p]!)).toArray

/-- the logical column `c` is the physical column `P` seen through `ix0` -/
structure Sees (ix0 : List Nat) (P : PCol) (c : LCol) : Prop where
  ty : c.ty = P.ty
  vals : c.vals = P.vals
  cells : c.cells = observe ix0 P.cells

theorem observe_get (ix0 : List Nat) (cells : List Cell) (r : Nat) (hr : r < ix0.length) :
    (observe ix0 cells)[r]! = cells[ix0[r]!]! := by
  simp [observe, hr]

theorem observe_reread (ix0 : List Nat) (cells : List Cell) :
    observe ix0 cells = ((List.range ix0.length).map (fun r => (observe ix0 cells)[r]!)).toArray := by
  have h := QF.ListFacts.range_map_getElem (ix0.map (fun p => cells[p]!))
  rw [List.length_map] at h
  unfold observe
  simp only [List.getElem!_toArray]
  rw [h]

theorem rowsOf_get (L : Nat) (ix : List Nat) (z : Cell) (G : Nat → Cell) (p : Nat) (hp : p < L) :
    (rowsOf L ix z G)[p]! = if p ∈ ix then G p else z := by
  simp [rowsOf, hp]

/-- The selection: the frame shows the rows `ix0` of columns with `L` physical rows, the loop runs over `ix`, and `mask` says
which rows of the frame the loop visits. -/
structure Sel (ix0 ix : List Nat) (mask : Nat → Bool) (L : Nat) : Prop where
  shown : ∀ p ∈ ix0, p < L
  visited : ∀ p ∈ ix, p < L
  mask : ∀ r, r < ix0.length → mask r = decide (ix0[r]! ∈ ix)

/-- `Apply` (`keep` everything) and `FilteredApply` (the rows a clause keeps): the loop runs over the rows of the frame that
`keep` keeps -/
theorem Sel.filter {ix0 : List Nat} {keep mask : Nat → Bool} {L : Nat} (h0 : ∀ p ∈ ix0, p < L)
    (hm : ∀ r, r < ix0.length → mask r = keep (ix0[r]!)) : Sel ix0 (ix0.filter keep) mask L :=
  ⟨h0, fun p hp => h0 p (List.mem_filter.mp hp).1, fun r hr => by
    rw [hm r hr]
    have e : ix0[r]! = ix0[r] := by simp [hr]
    rw [e]
    simp [List.mem_filter, List.getElem_mem]⟩

/-- for the enum `ToUpper`, which ignores the index (C06FApplyGen `helper1_upper`) -/
theorem Sel.all {ix0 : List Nat} {L : Nat} (h0 : ∀ p ∈ ix0, p < L) : Sel ix0 (List.range L) (fun _ => true) L :=
  ⟨h0, fun _ hp => List.mem_range.mp hp, fun _ hr =>
    (decide_eq_true (List.mem_range.mpr (h0 _ (QF.ListFacts.getElem!_mem hr)))).symm⟩

/-- **The result array seen through the frame's index is the column the spec builds**: row `r` holds `G` of its physical
row if the loop visits that row, the fill value otherwise. `G` is indexed by physical row, `H` by row of the frame; `hH`
ties them. -/
theorem Sel.observe_rowsOf {ix0 ix : List Nat} {mask : Nat → Bool} {L : Nat} (S : Sel ix0 ix mask L) (z : Cell)
    (G H : Nat → Cell) (hH : ∀ r, r < ix0.length → H r = G (ix0[r]!)) :
    observe ix0 (rowsOf L ix z G) = ((List.range ix0.length).map (fun r => if mask r then H r else z)).toArray := by
  unfold observe
  congr 1
  apply List.ext_getElem
  · simp
  · intro r h1 h2
    have hr : r < ix0.length := by simpa using h1
    have hp : ix0[r] < L := S.shown _ (List.getElem_mem hr)
    have e : ix0[r]! = ix0[r] := by simp [hr]
    simp only [List.getElem_map, List.getElem_range, rowsOf_get L ix z G _ hp, S.mask r hr, hH r hr, e]
    by_cases hmem : ix0[r] ∈ ix <;> simp [hmem]

/-! ## The function value the harness and the spec mean by an `Fn` -/

/-- The Go value of the function field of an instruction (the catalogue of QF/Spec/Ops.lean is defined identically in the
harness; the constants of `f0r` are those of `perm` in go/cmd/harness/hist.go). The state of a zero-argument function is an
integer counter. A `*string` constant is `.const (.str p)`; a Go `string` is `Fn.builtin` when there is a source column and
the constant `.const (.str (some s))` when there is none (`gen_apply0_string_const`). -/
def goVal : Fn → LVal Int
  | .const c => .const c
  | .colCopy n => .named n
  | .f0 kind seed =>
    if kind = "f0r" then .fn0 .int (fun k => (.int ((seed * 7919 + k * 104729) % 1000003), k + 1))
    else match f0Cell kind 0 with
      | some z => .fn0 (cellType z) (fun i => ((f0Cell kind i).getD z, i + 1))
      | none => .other
  | .f1 id => match fn1 id with | some (src, rt, g) => .fn1 src rt g | none => .other
  | .f2 id => match fn2 id with | some (src, g) => .fn2 src src src g | none => .other
  | .builtin n => .str n
  | .bad => .other

/-- `f0r`: the second field is a seed, the counter starts at 0 (`k := -1; k++` in hist.go); otherwise the second field is
the first argument handed to `f0Cell` -/
def goState : Fn → Int
  | .f0 kind start => if kind = "f0r" then 0 else start
  | _ => 0

/-- Where the result array goes, read back through the frame's index `ix0`: `Apply1`'s slice becomes a column of the
package `QFrame.apply1` picks for its element type (`w`), `Apply2` returns a column itself, `apply0` hands the slice to
`createColumn` with an empty configuration; then `setColumn(dst, ·)`, which rejects an illegal destination name.
`none`: the work is done elsewhere (a built-in function, `Copy`), or the run has no result. Of `w` only `slices` and
`setsDst` are read (see `canonWrap`). -/
def toRes {σ : Type} (w : LWrap) (sets2 : Bool) (f : LFrame) (dst : Bytes) (ix0 : List Nat) (recvTy : CType) :
    LOutcome σ → Option Res
  | .err => some .err
  | .arr ret ty cells _ =>
    -- the type of the new column, and whether it is handed to `setColumn(dst, ·)`
    let col : Option (CType × Bool) :=
      match ret with
      | .slice => (w.slices.lookup ty).map (fun t => (t, w.setsDst))
      | .ownCol => some (recvTy, sets2)
      | .strCol => some (.string, sets2)
      | .create => some (ty, true)
      | .opaque _ => none
    col.map (fun t =>
      if t.2 && legalName dst then .ok (setCol f { name := dst, ty := t.1, cells := observe ix0 cells }) else .err)
  | _ => none

/-- `apply2` ends in `return qf.setColumn(dst, <the column Apply2 returned>)` (QF/Gen/Guards.lean, regenerated by gast.go) -/
def apply2Sets : Bool := decide (("apply2", "set") ∈ Gen.openTails2)

/-- the call goes to the built-in `ToUpper` of a string or enum column -/
def isUpperCall : Fn → CType → Bool
  | .builtin n, ty => n == strBytes "ToUpper" && hasBuiltins ty
  | _, _ => false

/-- the two tests of `applyInstr` for a built-in name -/
theorem isUpperCall_builtin (n : Bytes) (ty : CType) :
    isUpperCall (.builtin n) ty =
      ((n == strBytes "ToUpper" && ty == .enum) || (n == strBytes "ToUpper" && ty == .string)) := by
  show (n == strBytes "ToUpper" && hasBuiltins ty) = _
  generalize (n == strBytes "ToUpper") = b
  cases ty <;> cases b <;> rfl

theorem fn1_typed {id : String} {src rt : CType} {g : Cell → Cell} (h : fn1 id = some (src, rt, g)) :
    rt ∈ resTys ∧ ∀ x, cellType x = src → cellType (g x) = rt := by
  unfold fn1 at h
  split at h
  case h_19 => cases h
  all_goals
    cases h
    refine ⟨by decide, fun x hx => ?_⟩
    -- `hx` leaves the constructor of the argument type; a string function is defined by cases on nil / empty / non-empty
    cases x <;> cases hx
    first
    | rfl
    | (rename_i o; cases o with | none => rfl | some l => cases l <;> rfl)

theorem fn2_typed {id : String} {src : CType} {g : Cell → Cell → Cell} (h : fn2 id = some (src, g)) :
    src ∈ resTys ∧ ∀ x y, cellType x = src → cellType y = src → cellType (g x y) = src := by
  unfold fn2 at h
  split at h
  case h_10 => cases h
  all_goals
    cases h
    refine ⟨by decide, fun x y hx hy => ?_⟩
    cases x <;> cases hx
    cases y <;> cases hy
    first
    | rfl
    | (rename_i o p; cases o <;> cases p <;> rfl)

theorem wrap_lookup (r : CType) (h : r ∈ resTys) : Gen.apply1WrapAst.slices.lookup r = some r := by
  rw [gen_apply1_wrap_canon]
  simp only [resTys, List.mem_cons, List.not_mem_nil, or_false] at h
  rcases h with rfl | rfl | rfl | rfl <;> rfl

theorem wrap_sets : Gen.apply1WrapAst.setsDst = true ∧ Gen.apply1WrapAst.passesColumn = true := by
  rw [gen_apply1_wrap_canon]
  exact ⟨rfl, rfl⟩

/-! ## Apply1 read through the frame's index -/

/-- the environment of `Apply1` / `Apply2` / `apply0` on a frame whose columns have `L` physical rows -/
def envOf (P Q : PCol) (ix : List Nat) (L : Nat) (fn : Fn) : LEnv Int :=
  { recv := P, other := Q, ix := ix, firstColLen := L, fn := goVal fn, s0 := goState fn }

/-- **Apply1, for the frame whose index is `ix0`** (`ix` = the index the loop runs over: `ix0` for `Apply`, the filtered
index for `FilteredApply`; `mask` = which rows of the frame it selects). For every column type, every function value and
ALL well-typed column contents: today's `Column.Apply1` followed by today's `apply1` returns exactly the frame
`applyInstr` specifies — the function on the cell of every selected row, the zero value of the result type on the others,
an error for every function value the column type does not accept — except that the built-in `"ToUpper"` of a string or
enum column is handed, with (ix, column), to the function whose body is hashed as `<pkg>.toUpper` in `Gen.hashes`. -/
theorem gen_apply1_semantics (up : UpperOracle) (f : LFrame) (ix0 ix : List Nat) (mask : Nat → Bool) (P : PCol) (c : LCol)
    (dst s1 : Bytes) (fn : Fn) (hn : f.n = ix0.length) (hc : f.find? s1 = some c) (hs : Sees ix0 P c) (hok : ColOk P)
    (S : Sel ix0 ix mask P.cells.length) :
    (isUpperCall fn P.ty = true → (apply1Of P.ty).run (envOf P P ix P.cells.length fn) = .builtin (upperHash P.ty)) ∧
    (isUpperCall fn P.ty = false →
      toRes Gen.apply1WrapAst apply2Sets f dst ix0 P.ty ((apply1Of P.ty).run (envOf P P ix P.cells.length fn)) =
        some (applyInstr up f mask { dst := dst, src1 := some s1, src2 := none, fn := fn })) := by
  have hrun := canon1_run (envOf P P ix P.cells.length fn) hok S.visited
  rw [gen_apply1_canon P.ty hok.1]
  have hr : (envOf P P ix P.cells.length fn).recv = P := rfl
  rw [hr] at hrun
  rw [hrun]
  constructor
  · intro hu
    cases fn with
    | builtin n =>
      simp only [isUpperCall, Bool.and_eq_true, beq_iff_eq] at hu
      simp [expect1, envOf, goVal, hu.1, hu.2]
    | _ => simp [isUpperCall] at hu
  · intro hu
    cases fn with
    | f1 id =>
      cases hid : fn1 id with
      | none => simp [expect1, envOf, goVal, hid, toRes, applyInstr, hc]
      | some t =>
        obtain ⟨src, rt, g⟩ := t
        have hrt := (fn1_typed hid).1
        by_cases hsrc : src = fkind P.ty
        · subst hsrc
          have hb : (fkind c.ty == fkind P.ty) = true := by rw [hs.ty]; simp
          simp only [expect1, envOf, goVal, hid, hrt, and_self, ↓reduceIte, toRes, wrap_lookup rt hrt,
            Option.map_some, wrap_sets.1, Bool.true_and, applyInstr, hc, hb]
          rw [S.observe_rowsOf (zeroCell rt) (fun p => g (P.cells[p]!)) (fun r => g c.cells[r]!)
            (by intro r hr; rw [hs.cells, observe_get _ _ _ hr]), hn]
        · have hb : (fkind c.ty == src) = false := by rw [hs.ty]; simpa using fun e => hsrc e.symm
          simp [expect1, envOf, goVal, hid, hsrc, toRes, applyInstr, hc, hb]
    | builtin n =>
      have e := hu
      rw [isUpperCall_builtin, ← hs.ty, Bool.or_eq_false_iff] at e
      have e1 : ¬ (hasBuiltins P.ty = true ∧ n = strBytes "ToUpper") := by
        simpa [isUpperCall, and_comm] using hu
      simp [expect1, envOf, goVal, e1, toRes, applyInstr, hc, e.1, e.2]
    | f2 id => cases hid : fn2 id <;> simp [expect1, envOf, goVal, hid, toRes, applyInstr, hc]
    | f0 kind start =>
      simp only [applyInstr, hc]
      unfold expect1 envOf goVal
      simp only
      by_cases hk : kind = "f0r"
      · simp [hk, toRes]
      · cases hz : f0Cell kind 0 <;> simp [hk, toRes]
    | _ => simp [expect1, envOf, goVal, toRes, applyInstr, hc]

/-! ## Apply2 read through the frame's index -/

theorem apply2Sets_true : apply2Sets = true := by decide +kernel

theorem fn2_src_mem {id : String} {src : CType} {g : Cell → Cell → Cell} (h : fn2 id = some (src, g)) : src ∈ resTys :=
  (fn2_typed h).1

/-- **Apply2, for the frame whose index is `ix0`**: for every pair of column types, every function value and ALL
well-typed contents of the two columns: today's `Column.Apply2` followed by `setColumn` returns exactly the frame
`applyInstr` specifies — at every selected row the function on the two cells of the SAME physical row, the zero value
elsewhere; an error when the second column is of another package, or the function is not `func(T, T) T` for the element
type `T` of the columns. -/
theorem gen_apply2_semantics (up : UpperOracle) (f : LFrame) (ix0 ix : List Nat) (mask : Nat → Bool) (P Q : PCol)
    (c1 c2 : LCol) (dst s1 s2 : Bytes) (fn : Fn) (hn : f.n = ix0.length)
    (hc1 : f.find? s1 = some c1) (hc2 : f.find? s2 = some c2) (hs1 : Sees ix0 P c1) (hs2 : Sees ix0 Q c2)
    (hok : ColOk P) (hok2 : ColOk Q) (hlen : Q.cells.length = P.cells.length) (S : Sel ix0 ix mask P.cells.length) :
    toRes Gen.apply1WrapAst apply2Sets f dst ix0 P.ty ((apply2Of P.ty).run (envOf P Q ix P.cells.length fn)) =
      some (applyInstr up f mask { dst := dst, src1 := some s1, src2 := some s2, fn := fn }) := by
  have hrun := canon2_run (envOf P Q ix P.cells.length fn) hok hok2 hlen S.visited
  rw [gen_apply2_canon P.ty hok.1]
  have hr : (envOf P Q ix P.cells.length fn).recv = P := rfl
  rw [hr] at hrun
  rw [hrun]
  have hcol : (match ret2 P.ty with
      | .slice => (Gen.apply1WrapAst.slices.lookup (fkind P.ty)).map (fun t => (t, Gen.apply1WrapAst.setsDst))
      | .ownCol => some (P.ty, apply2Sets)
      | .strCol => some (CType.string, apply2Sets)
      | .create => some (fkind P.ty, true)
      | .opaque _ => none) = some (fkind P.ty, true) := by
    rw [apply2Sets_true]
    rcases ret2_cases P.ty with ⟨e1, e2⟩ | ⟨e1, e2⟩ <;> simp [e1, e2]
  by_cases hty : Q.ty = P.ty
  · have hb1 : (c1.ty == c2.ty) = true := by rw [hs1.ty, hs2.ty, hty]; simp
    cases fn with
    | f2 id =>
      cases hid : fn2 id with
      | none => simp [expect2, envOf, goVal, hid, toRes, applyInstr, hc1, hc2, hty]
      | some t =>
        obtain ⟨src, g⟩ := t
        by_cases hsrc : src = fkind P.ty
        · subst hsrc
          have hb : (fkind c1.ty == fkind P.ty) = true := by rw [hs1.ty]; simp
          simp only [expect2, envOf, goVal, hid, hty, and_self, ↓reduceIte, toRes, hcol, Option.map_some,
            Bool.true_and, applyInstr, hc1, hc2, hb1, hb]
          rw [S.observe_rowsOf (zeroCell (fkind P.ty)) (fun p => g (P.cells[p]!) (Q.cells[p]!))
            (fun r => g c1.cells[r]! c2.cells[r]!)
            (by intro r hr; rw [hs1.cells, hs2.cells, observe_get _ _ _ hr, observe_get _ _ _ hr]), hn]
        · have hb : (fkind c1.ty == src) = false := by rw [hs1.ty]; simpa using fun e => hsrc e.symm
          simp [expect2, envOf, goVal, hid, hsrc, toRes, applyInstr, hc1, hc2, hb, hty]
    | f1 id => cases hid : fn1 id <;> simp [expect2, envOf, goVal, hid, toRes, applyInstr, hc1, hc2, hty]
    | f0 kind start =>
      simp only [applyInstr, hc1, hc2]
      unfold expect2 envOf goVal
      simp only [hty, ↓reduceIte]
      by_cases hk : kind = "f0r"
      · simp [hk, toRes]
      · cases hz : f0Cell kind 0 <;> simp [hk, toRes]
    | _ => simp [expect2, envOf, goVal, toRes, applyInstr, hc1, hc2, hty]
  · have hb1 : (c1.ty == c2.ty) = false := by
      rw [hs1.ty, hs2.ty]; simpa using fun e => hty e.symm
    have he : expect2 (envOf P Q ix P.cells.length fn) = .err := by simp [expect2, envOf, hty]
    rw [he]
    cases fn with
    | f2 id => cases hid : fn2 id <;> simp [toRes, applyInstr, hc1, hc2, hb1, hid]
    | _ => simp [toRes, applyInstr, hc1, hc2]

/-! ## apply0 read through the frame's index -/

theorem idxOf?_map_inj (f : Nat → Nat) (l : List Nat) (a : Nat) (h : ∀ x ∈ l, f x = f a → x = a) :
    (l.map f).idxOf? (f a) = l.idxOf? a := by
  induction l with
  | nil => rfl
  | cons x xs ih =>
    rw [List.map_cons, List.idxOf?_cons, List.idxOf?_cons, ih (fun y hy => h y (List.mem_cons_of_mem _ hy))]
    by_cases e : x = a
    · subst e; simp
    · have e' : ¬ f x = f a := fun q => e (h x List.mem_cons_self q)
      simp [e, e']

theorem filter_index (ix0 : List Nat) (keep : Nat → Bool) :
    ix0.filter keep = ((List.range ix0.length).filter (fun r => keep (ix0[r]!))).map (fun r => ix0[r]!) := by
  have := @List.filter_map Nat Nat (fun r => ix0[r]!) keep (List.range ix0.length)
  rw [QF.ListFacts.range_map_getElem] at this
  exact this

/-- **position in the filtered index = position among the selected rows** -/
theorem idxOf?_filter_index (ix0 : List Nat) (nd : ix0.Nodup) (keep : Nat → Bool) (mask : Nat → Bool)
    (hm : ∀ r, r < ix0.length → mask r = keep (ix0[r]!)) (r : Nat) (hr : r < ix0.length) :
    (ix0.filter keep).idxOf? (ix0[r]!) = ((List.range ix0.length).filter mask).idxOf? r := by
  have hsel : (List.range ix0.length).filter mask = (List.range ix0.length).filter (fun r => keep (ix0[r]!)) :=
    List.filter_congr (fun x hx => hm x (List.mem_range.mp hx))
  rw [filter_index, hsel]
  apply idxOf?_map_inj (fun r => ix0[r]!)
  intro x hx e
  have hxl : x < ix0.length := List.mem_range.mp (List.mem_filter.mp hx).1
  have e' : ix0[x] = ix0[r] := by simpa [hxl, hr] using e
  exact (List.getElem_inj nd).mp e'

/-- the spec's reading of "the `k`-th value at the `k`-th selected row" -/
theorem match_idxOf? {α : Type} (l : List Nat) (p : Nat) (V : Nat → α) (z : α) :
    (match l.idxOf? p with | some k => V k | none => z) = if p ∈ l then V ((l.idxOf? p).getD 0) else z := by
  cases h : l.idxOf? p with
  | none => rw [if_neg (List.idxOf?_eq_none_iff.mp h)]
  | some k => rw [if_pos (List.isSome_idxOf?.mp (by rw [h]; rfl))]; rfl

theorem observe_valAt {σ : Type} (ix0 : List Nat) (keep : Nat → Bool) (L : Nat) (z : Cell) (next : σ → Cell × σ) (s : σ)
    (h0 : ∀ p ∈ ix0, p < L) (nd : ix0.Nodup) (mask : Nat → Bool) (hm : ∀ r, r < ix0.length → mask r = keep (ix0[r]!)) :
    observe ix0 (rowsOf L (ix0.filter keep) z (valAt next s (ix0.filter keep))) =
      ((List.range ix0.length).map (fun r =>
        match ((List.range ix0.length).filter mask).idxOf? r with
        | some k => nthVal next s k
        | none => z)).toArray := by
  rw [(Sel.filter h0 hm).observe_rowsOf z _ (valAt next s ((List.range ix0.length).filter mask))
    (fun r hr => by unfold valAt; rw [idxOf?_filter_index ix0 nd keep mask hm r hr])]
  congr 1
  apply List.map_congr_left
  intro r hr
  rw [match_idxOf?]
  simp [List.mem_filter, List.mem_range.mp hr, valAt]

/-- a counting closure: `i := s - 1; func() T { i++; return val(i) }` -/
theorem nthVal_counter (val : Int → Cell) (s : Int) (k : Nat) :
    nthVal (fun i => (val i, i + 1)) s k = val (s + k) := by
  induction k generalizing s with
  | zero => simp [nthVal]
  | succ k ih =>
    simp only [nthVal, ih]
    congr 1
    omega

/-- a placeholder for the column roles `apply0` does not have -/
def noCol : PCol := { ty := .undef, cells := [] }

/-- **apply0, for the frame whose index is `ix0`** and whose columns have `L` physical rows (`keep` = the rows the filter
of `FilteredApply` keeps, all of them for `Apply`; `mask` = the same as rows of the frame). For every function value:
today's `apply0` (after its guard) returns exactly the frame `applyInstr` specifies — a constant at every selected row; the
`k`-th value a zero-argument function produces at the `k`-th selected row, one call per selected row in frame order; the
zero value on all other rows; an error for every other function value — except that a `types.ColumnName` is handed to
`Copy` (`gen_apply0_copy`). (A Go `string` without source column is a constant, not a built-in name:
`gen_apply0_string_const`.) -/
theorem gen_apply0_semantics (up : UpperOracle) (f : LFrame) (ix0 : List Nat) (keep mask : Nat → Bool) (L : Nat)
    (dst : Bytes) (src2 : Option Bytes) (fn : Fn) (hn : f.n = ix0.length) (h0 : ∀ p ∈ ix0, p < L) (nd : ix0.Nodup)
    (hm : ∀ r, r < ix0.length → mask r = keep (ix0[r]!)) (hnb : ∀ n, fn ≠ .builtin n) (hnc : ∀ n, fn ≠ .colCopy n) :
    toRes Gen.apply1WrapAst apply2Sets f dst ix0 .undef (Gen.apply0Ast.run (envOf noCol noCol (ix0.filter keep) L fn)) =
      some (applyInstr up f mask { dst := dst, src1 := none, src2 := src2, fn := fn }) := by
  have S : Sel ix0 (ix0.filter keep) mask L := .filter h0 hm
  have hrun := canon0_run (envOf noCol noCol (ix0.filter keep) L fn) S.visited (nd.filter _)
  rw [gen_apply0_canon, hrun]
  cases fn with
  | const c =>
    simp only [expect0, envOf, goVal, goState, toRes, Option.map_some, Bool.true_and, applyInstr]
    rw [S.observe_rowsOf (zeroCell (cellType c)) (fun _ => c) (fun _ => c) (fun _ _ => rfl), hn]
  | colCopy n => exact absurd rfl (hnc n)
  | builtin n => exact absurd rfl (hnb n)
  | bad => simp [expect0, envOf, goVal, toRes, applyInstr]
  | f1 id => cases hid : fn1 id <;> simp [expect0, envOf, goVal, hid, toRes, applyInstr]
  | f2 id => cases hid : fn2 id <;> simp [expect0, envOf, goVal, hid, toRes, applyInstr]
  | f0 kind start =>
    by_cases hk : kind = "f0r"
    · subst hk
      simp only [expect0, envOf, goVal, goState, ↓reduceIte, toRes, Option.map_some, Bool.true_and, applyInstr,
        show CType.int ∈ resTys from by decide]
      rw [observe_valAt ix0 keep L _ _ _ h0 nd mask hm, hn]
      simp only [nthVal_counter (fun k => Cell.int ((start * 7919 + k * 104729) % 1000003)), Int.zero_add, zeroCell]
      rfl
    · cases hz : f0Cell kind 0 with
      | none => simp [expect0, envOf, goVal, goState, hk, applyInstr, hz, toRes]
      | some z =>
        simp only [expect0, envOf, goVal, goState, hk, ↓reduceIte, applyInstr, hz, cellType_mem, toRes, Option.map_some,
          Bool.true_and]
        rw [observe_valAt ix0 keep L _ _ _ h0 nd mask hm, hn]
        simp only [nthVal_counter (fun i => (f0Cell kind i).getD z)]
        rfl

/-- a `types.ColumnName` goes to `Copy(dst, name)` -/
theorem gen_apply0_copy (ix : List Nat) (L : Nat) (n : Bytes) :
    Gen.apply0Ast.run (envOf noCol noCol ix L (.colCopy n)) = .copy n := by
  rw [gen_apply0_canon]
  rfl

/-- a Go `string` without source column is the constant string: a non-nil pointer at every selected row -/
theorem gen_apply0_string_const (up : UpperOracle) (f : LFrame) (ix0 : List Nat) (keep mask : Nat → Bool) (L : Nat)
    (dst : Bytes) (src2 : Option Bytes) (s : Bytes) (hn : f.n = ix0.length) (h0 : ∀ p ∈ ix0, p < L) (nd : ix0.Nodup)
    (hm : ∀ r, r < ix0.length → mask r = keep (ix0[r]!)) :
    toRes Gen.apply1WrapAst apply2Sets f dst ix0 .undef
        (Gen.apply0Ast.run { recv := noCol, other := noCol, ix := ix0.filter keep, firstColLen := L, fn := (.str s : LVal Int), s0 := 0 }) =
      some (applyInstr up f mask { dst := dst, src1 := none, src2 := src2, fn := .const (.str (some s)) }) := by
  -- `expect0` of a Go `string` and of the `*string` constant of the same bytes is the same outcome
  have hix : ∀ p ∈ ix0.filter keep, p < L := fun p hp => h0 p (List.mem_filter.mp hp).1
  rw [← gen_apply0_semantics up f ix0 keep mask L dst src2 (.const (.str (some s))) hn h0 nd hm (by intro n; simp) (by intro n; simp),
    gen_apply0_canon,
    canon0_run ({ recv := noCol, other := noCol, ix := ix0.filter keep, firstColLen := L, fn := (.str s : LVal Int), s0 := 0 } : LEnv Int)
      hix (nd.filter _),
    canon0_run (envOf noCol noCol (ix0.filter keep) L (.const (.str (some s)))) hix (nd.filter _)]
  rfl

/-! ## The three helpers together -/

/-- The closed forms on PHYSICAL data, for today's terms: whatever the frame, `Apply1` / `Apply2` / `apply0` of today's
source return the array that holds, at every row listed in `ix`, the function applied to that row's cell(s) (the `k`-th
value of a zero-argument function at `ix[k]`), and the zero value of the element type at every other row of the full
column length — or an error, exactly for the function values `expect1` / `expect2` / `expect0` reject. -/
theorem gen_apply_loops_physical {σ : Type} (E : LEnv σ) :
    (ColOk E.recv → (∀ p ∈ E.ix, p < E.recv.cells.length) → (apply1Of E.recv.ty).run E = expect1 E) ∧
    (ColOk E.recv → ColOk E.other → E.other.cells.length = E.recv.cells.length → (∀ p ∈ E.ix, p < E.recv.cells.length) →
      (apply2Of E.recv.ty).run E = expect2 E) ∧
    ((∀ p ∈ E.ix, p < E.firstColLen) → E.ix.Nodup → Gen.apply0Ast.run E = expect0 E) := by
  refine ⟨fun hok hix => ?_, fun hok hok2 hlen hix => ?_, fun hix nd => ?_⟩
  · rw [gen_apply1_canon _ hok.1]; exact canon1_run E hok hix
  · rw [gen_apply2_canon _ hok.1]; exact canon2_run E hok hok2 hlen hix
  · rw [gen_apply0_canon]; exact canon0_run E hix nd

/-- **The per-row loops of Apply in today's source build what `applyInstr` builds** (C06), for the frame `f` whose index is
the duplicate-free list `ix0` of physical rows, the loop running over the sub-index `ix0.filter keep` (`keep` everything:
`Apply`; the rows a clause selects: `FilteredApply`), `mask` the same selection as rows of the frame: for every function
value `fn` of the catalogue, every destination,

* one source column: for every column type and ALL well-typed physical contents, `Column.Apply1` + `apply1` = `applyInstr`
  (built-in `"ToUpper"` on a string / enum column: the package's `toUpper` is called with the index and the column);
* two source columns: for every pair of column types and ALL contents, `Column.Apply2` + `setColumn` = `applyInstr`;
* no source column: `apply0` = `applyInstr` (a `types.ColumnName` goes to `Copy`: `gen_apply0_copy`; the spec's tag
  `Fn.builtin` has no Go value without a source column: `gen_apply0_string_const`). -/
theorem gen_apply_loops_semantics (up : UpperOracle) (f : LFrame) (ix0 : List Nat) (keep mask : Nat → Bool)
    (hn : f.n = ix0.length) (nd : ix0.Nodup) (hm : ∀ r, r < ix0.length → mask r = keep (ix0[r]!)) (dst : Bytes) (fn : Fn) :
    (∀ (P : PCol) (c : LCol) (s1 : Bytes), f.find? s1 = some c → Sees ix0 P c → ColOk P → (∀ p ∈ ix0, p < P.cells.length) →
      (isUpperCall fn P.ty = true →
        (apply1Of P.ty).run (envOf P P (ix0.filter keep) P.cells.length fn) = .builtin (upperHash P.ty)) ∧
      (isUpperCall fn P.ty = false →
        toRes Gen.apply1WrapAst apply2Sets f dst ix0 P.ty ((apply1Of P.ty).run (envOf P P (ix0.filter keep) P.cells.length fn)) =
          some (applyInstr up f mask { dst := dst, src1 := some s1, src2 := none, fn := fn }))) ∧
    (∀ (P Q : PCol) (c1 c2 : LCol) (s1 s2 : Bytes), f.find? s1 = some c1 → f.find? s2 = some c2 → Sees ix0 P c1 → Sees ix0 Q c2 →
      ColOk P → ColOk Q → Q.cells.length = P.cells.length → (∀ p ∈ ix0, p < P.cells.length) →
      toRes Gen.apply1WrapAst apply2Sets f dst ix0 P.ty ((apply2Of P.ty).run (envOf P Q (ix0.filter keep) P.cells.length fn)) =
        some (applyInstr up f mask { dst := dst, src1 := some s1, src2 := some s2, fn := fn })) ∧
    (∀ (L : Nat) (src2 : Option Bytes), (∀ p ∈ ix0, p < L) → (∀ n, fn ≠ .builtin n) → (∀ n, fn ≠ .colCopy n) →
      toRes Gen.apply1WrapAst apply2Sets f dst ix0 .undef (Gen.apply0Ast.run (envOf noCol noCol (ix0.filter keep) L fn)) =
        some (applyInstr up f mask { dst := dst, src1 := none, src2 := src2, fn := fn })) := by
  refine ⟨fun P c s1 hc hs hok h0 => ?_, fun P Q c1 c2 s1 s2 hc1 hc2 hs1 hs2 hok hok2 hlen h0 => ?_,
    fun L src2 h0 hnb hnc => ?_⟩
  · exact gen_apply1_semantics up f ix0 _ mask P c dst s1 fn hn hc hs hok (.filter h0 hm)
  · exact gen_apply2_semantics up f ix0 _ mask P Q c1 c2 dst s1 s2 fn hn hc1 hc2 hs1 hs2 hok hok2 hlen (.filter h0 hm)
  · exact gen_apply0_semantics up f ix0 keep mask L dst src2 fn hn h0 nd hm hnb hnc

/-- the look-ups of a built-in name in a function: (entries of the map, what happens on a miss) -/
def lookupsOf (F : LFn) : List (List (String × Nat) × LBody) :=
  F.cases.filterMap (fun c => match c.2 with | .lookup es miss => some (es, miss) | _ => none)

/-- the built-in table entries of `Apply1` name the functions whose bodies are the facts `scolumn.toUpper` /
`ecolumn.toUpper` of `QF/Gen/Facts.lean` (tied to the models of C18 / C17 by `QF/Props/Expected.lean`). `upperHash ty ≠ 0`:
the `getD 0` in `upperHash` did not fall through, i.e. Facts has the entry. -/
theorem gen_builtin_entries :
    (∀ ty ∈ tys, lookupsOf (apply1Of ty) = if hasBuiltins ty then [([("ToUpper", upperHash ty)], LBody.err)] else []) ∧
    (∀ ty ∈ tys, hasBuiltins ty = true → upperHash ty ≠ 0) ∧
    (∀ ty ∈ tys, lookupsOf (apply2Of ty) = []) ∧ lookupsOf Gen.apply0Ast = [] := by
  have hl : ∀ ty ∈ tys, lookupsOf (apply1Of ty) = if hasBuiltins ty then [([("ToUpper", upperHash ty)], LBody.err)] else [] := by
    intro ty h
    rw [gen_apply1_canon ty h]
    cases ty <;> rfl
  -- Evaluating `upperHash` is a look-up in the String-keyed table `Gen.hashes`, by far the dearest step of this file (paid in
  -- `gen_apply1_canon`). So the entries are read off that equation: no entry of today's tables carries the hash 0, hence the
  -- hash `gen_apply1_canon` identifies with `upperHash ty` is not 0.
  have hz : ∀ ty ∈ tys, ∀ e ∈ lookupsOf (apply1Of ty), ∀ k ∈ e.1, k.2 ≠ 0 := by decide +kernel
  refine ⟨hl, fun ty h hb => ?_, by decide, by decide⟩
  have hty := hl ty h
  rw [hb] at hty
  exact hz ty h _ (by rw [hty]; exact List.mem_singleton_self _) _ (List.mem_singleton_self _)

/-! ## Witnesses: the statements tell wrong loops apart -/

section Witnesses

def outCells {σ : Type} : LOutcome σ → Option (List Cell)
  | .arr _ _ cells _ => some cells
  | _ => none

theorem ne_of_outCells {σ : Type} {a b : LOutcome σ} (h : outCells a ≠ outCells b) : a ≠ b :=
  fun e => h (congrArg outCells e)

private def inc : Cell → Cell
  | .int x => .int (x + 1)
  | c => c

private def colI : PCol := { ty := .int, cells := [.int 10, .int 20, .int 30] }
private def colJ : PCol := { ty := .int, cells := [.int 1, .int 2, .int 3] }
private def colS : PCol := { ty := .string, cells := [.str (some [97]), .str none, .str (some [98])] }

/-- a sorted / filtered view: rows 2 and 0, in this order -/
private def envI : LEnv Unit := { recv := colI, other := colJ, ix := [2, 0], fn := .fn1 .int .int inc, s0 := () }

private def add : Cell → Cell → Cell
  | .int x, .int y => .int (x + y)
  | c, _ => c

private def envIJ : LEnv Unit := { envI with fn := .fn2 .int .int .int add }

private def isNil : Cell → Cell
  | .str none => .bool true
  | _ => .bool false

private def envS : LEnv Unit := { recv := colS, other := colS, ix := [0, 1, 2], fn := .fn1 .string .bool isNil, s0 := () }

private def one (sig : LSig) (b : LBody) : LFn := { cases := [(sig, b)], dflt := .err }

-- today's loop
example : outCells ((apply1Of .int).run envI) = some [.int 11, .int 0, .int 31] := by decide +kernel
example : outCells (expect1 envI) = some [.int 11, .int 0, .int 31] := by decide +kernel
-- `result[pos] = t(c.data[i])`: written at the loop position instead of the row
example : outCells ((one (.fn [.int] .int) (.loop .int .recvLen [.store .pos (.call [.cell .recv .row .raw])] .slice)).run envI)
    = some [.int 31, .int 11, .int 0] := by decide +kernel
example : (one (.fn [.int] .int) (.loop .int .recvLen [.store .pos (.call [.cell .recv .row .raw])] .slice)).run envI
    ≠ expect1 envI :=
  ne_of_outCells (by decide +kernel)
-- `result := make([]int, len(ix))`: the write at row 2 is out of range
example : outCells ((one (.fn [.int] .int) (.loop .int .ixLen [.store .row (.call [.cell .recv .row .raw])] .slice)).run envI)
    = none := by decide +kernel
example : (one (.fn [.int] .int) (.loop .int .ixLen [.store .row (.call [.cell .recv .row .raw])] .slice)).run envI
    ≠ expect1 envI :=
  ne_of_outCells (by decide +kernel)
-- Apply2 reading the other column at the loop position: `t(c.data[i], ss2.data[pos])`
example : outCells ((apply2Of .int).run envIJ) = some [.int 11, .int 0, .int 33] := by decide +kernel
example : outCells ((one (.fn [.int, .int] .int)
      (.loop .int .recvLen [.store .row (.call [.cell .recv .row .raw, .cell .other .pos .raw])] .ownCol)).run envIJ)
    = some [.int 12, .int 0, .int 31] := by decide +kernel
example : (one (.fn [.int, .int] .int)
      (.loop .int .recvLen [.store .row (.call [.cell .recv .row .raw, .cell .other .pos .raw])] .ownCol)).run envIJ
    ≠ expect2 envIJ :=
  ne_of_outCells (by decide +kernel)
-- skipping the rows whose cell is null: the function never sees nil
example : outCells ((apply1Of .string).run envS) = some [.bool false, .bool true, .bool false] := by decide +kernel
example : outCells ((one (.fn [.string] .bool) (.loop .bool .recvLen
      [.skipIfNull .recv .row, .store .row (.call [.cell .recv .row (accOf .string)])] .slice)).run envS)
    = some [.bool false, .bool false, .bool false] := by decide +kernel
example : (one (.fn [.string] .bool) (.loop .bool .recvLen
      [.skipIfNull .recv .row, .store .row (.call [.cell .recv .row (accOf .string)])] .slice)).run envS
    ≠ expect1 envS :=
  ne_of_outCells (by decide +kernel)
-- a string function handed `&""` instead of nil for a null cell (`stringToPtr` without its test)
example : outCells ((one (.fn [.string] .bool) (.loop .bool .recvLen
      [.store .row (.call [.cell .recv .row .addrStr])] .slice)).run envS)
    = some [.bool false, .bool false, .bool false] := by decide +kernel
-- accepting a function of the wrong element type: expect1 says error
example : outCells ((one (.fn [.float] .int) (loop1 .int .int)).run { envI with fn := .fn1 .float .int inc }) ≠
    outCells (expect1 { envI with fn := .fn1 .float .int inc }) := by decide +kernel

end Witnesses

#print axioms gen_loops_no_opaque
#print axioms gen_apply1_canon
#print axioms gen_apply2_canon
#print axioms gen_apply0_canon
#print axioms gen_apply1_wrap_canon
#print axioms gen_apply_loops_physical
#print axioms gen_apply1_semantics
#print axioms gen_apply2_semantics
#print axioms gen_apply0_semantics
#print axioms gen_apply0_string_const
#print axioms gen_apply0_copy
#print axioms gen_apply_loops_semantics
#print axioms gen_builtin_entries

end QF.Props.C06LoopsGen
