import QF.Props.C16RyuFns
/-!
# C16 — the regenerated Ryu core: witnesses

Plausible mutations of /repo/internal/ryu/ryu64.go, as the terms the translator produces for them (`mut…`; bin/selftest-ryu
makes the edits in a clone of the repository and checks that the translator indeed emits a different term and that the
theorems of C16RyuCanon / C16RyuGen fail). For each: the canonical-term check `Gen.ryuFns = canonFns` would fail
(`mut… ≠ canonFns`, and `gen_ryu_canon` says today's extraction is `canonFns`), and — for all but `mutQ` — a concrete
float64 on which the interpreted result differs from the mirror's, i.e. `gen_ryu_semantics` (for the two mutants of the digit
layout: `gen_appendf_semantics`) is false for the mutant.
-/
namespace QF.Props.C16RyuGen
open QF QF.RY

/-- `float64ToDecimal` with another step 3 and step 4 -/
def toDecimalWith (s3 s4 : S) : Fn := { params := 2, body := S.block (step12 ++ [s3] ++ step4Decls ++ [s4, retStmt]) }
def fnsWith (s3 s4 : S) : List (FnId × Fn) := (canonFns.take 1) ++ [(fToDecimal, toDecimalWith s3 s4)] ++ canonFns.drop 2

/-- the common case with other loops -/
def commonWith (c10 : E) (b10 : S) : S := S.scope (S.block [
  S.define 17 (E.bool false), common100, S.for (S.block []) c10 (S.block []) b10,
  S.assign 16 (E.bin AOp.add (E.var 8) (E.call1 fBoolToUint64 (E.or (E.cmp COp.eq (E.var 8) (E.var 10)) (E.var 17))))])
def generalWith (b1 : S) (fin : List S) : S := S.scope (S.block ([
  S.for (S.block []) (E.bool true) (S.block []) b1,
  S.ite (E.var 12) (S.scope (S.block [general2])) (S.scope (S.block []))] ++ fin))
def step4With (g c : S) : S := S.ite (E.or (E.var 12) (E.var 13)) g c

/-- `roundUp = vr%10 >= 5` → `> 5` -/
def mutRound := fnsWith step3Stmt (step4With generalPart (commonWith common10Cond (S.scope (S.block [
  S.assign 17 (E.cmp COp.gt (E.bin AOp.mod (E.var 8) (E.u 64 10)) (E.u 64 5)),
  S.assign 8 (E.bin AOp.div (E.var 8) (E.u 64 10)),
  S.assign 9 (E.bin AOp.div (E.var 9) (E.u 64 10)),
  S.assign 10 (E.bin AOp.div (E.var 10) (E.u 64 10)),
  S.assign 14 (E.bin AOp.add (E.var 14) (E.i 32 1))]))))
/-- `for vp/10 > vm/10` → `>=` -/
def mutLoop := fnsWith step3Stmt (step4With generalPart
  (commonWith (E.cmp COp.ge (E.bin AOp.div (E.var 9) (E.u 64 10)) (E.bin AOp.div (E.var 10) (E.u 64 10))) common10Body))
/-- `lastRemovedDigit >= 5` → `> 5` in the final decision of the general case -/
def mutLast := fnsWith step3Stmt (step4With (generalWith general1Body [
  S.ite (E.and (E.and (E.var 13) (E.cmp COp.eq (E.var 15) (E.u 8 5))) (E.cmp COp.eq (E.bin AOp.mod (E.var 8) (E.u 64 2)) (E.u 64 0)))
    (S.scope (S.block [S.assign 15 (E.u 8 4)])) (S.scope (S.block [])),
  S.assign 16 (E.var 8),
  S.ite (E.or (E.and (E.cmp COp.eq (E.var 8) (E.var 10)) (E.or (E.not (E.var 5)) (E.not (E.var 12)))) (E.cmp COp.gt (E.var 15) (E.u 8 5)))
    (S.scope (S.block [S.assign 16 (E.bin AOp.add (E.var 16) (E.u 64 1))])) (S.scope (S.block []))]) commonPart)
/-- the update of vmIsTrailingZeros in the first loop of the general case dropped -/
def mutDrop := fnsWith step3Stmt (step4With (generalWith (S.scope (S.block [
  S.define 17 (E.bin AOp.div (E.var 9) (E.u 64 10)),
  S.define 18 (E.bin AOp.div (E.var 10) (E.u 64 10)),
  S.ite (E.cmp COp.le (E.var 17) (E.var 18)) (S.scope (S.block [S.brk])) (S.scope (S.block [])),
  S.define 19 (E.bin AOp.mod (E.var 10) (E.u 64 10)),
  S.define 20 (E.bin AOp.div (E.var 8) (E.u 64 10)),
  S.define 21 (E.bin AOp.mod (E.var 8) (E.u 64 10)),
  S.assign 13 (E.and (E.var 13) (E.cmp COp.eq (E.var 15) (E.u 8 0))),
  S.assign 15 (E.toU 8 (E.var 21)),
  S.assign 8 (E.var 20),
  S.assign 9 (E.var 17),
  S.assign 10 (E.var 18),
  S.assign 14 (E.bin AOp.add (E.var 14) (E.i 32 1))])) generalFinish) commonPart)

/-- step 3 with other flags in the branch `e2 < 0` / another table index in the branch `e2 >= 0` -/
def negWith (fl : S) : S := S.scope (S.block [
  S.define 14 (E.bin AOp.sub (E.call1 fLog10Pow5 (E.neg (E.var 2))) (E.call1 fBoolToUint32 (E.cmp COp.gt (E.neg (E.var 2)) (E.i 32 1)))),
  S.assign 11 (E.bin AOp.add (E.toI 32 (E.var 14)) (E.var 2)),
  S.define 15 (E.bin AOp.sub (E.neg (E.var 2)) (E.toI 32 (E.var 14))),
  S.define 16 (E.bin AOp.sub (E.call1 fPow5Bits (E.var 15)) (E.i 32 121)),
  S.define 17 (E.bin AOp.sub (E.toI 32 (E.var 14)) (E.var 16)),
  S.define 18 (E.tbl Tbl.pow5Split (E.var 15)),
  S.assign 8 (E.call3 fMulShift eMv (E.var 18) (E.var 17)),
  S.assign 9 (E.call3 fMulShift eMp (E.var 18) (E.var 17)),
  S.assign 10 (E.call3 fMulShift eMm (E.var 18) (E.var 17)),
  fl])
def posWith (ix : E) : S := S.scope (S.block [
  S.define 14 (E.bin AOp.sub (E.call1 fLog10Pow2 (E.var 2)) (E.call1 fBoolToUint32 (E.cmp COp.gt (E.var 2) (E.i 32 3)))),
  S.assign 11 (E.toI 32 (E.var 14)),
  S.define 15 (E.bin AOp.sub (E.bin AOp.add (E.i 32 122) (E.call1 fPow5Bits (E.toI 32 (E.var 14)))) (E.i 32 1)),
  S.define 16 (E.bin AOp.add (E.bin AOp.add (E.neg (E.var 2)) (E.toI 32 (E.var 14))) (E.var 15)),
  S.define 17 (E.tbl Tbl.pow5InvSplit ix),
  S.assign 8 (E.call3 fMulShift eMv (E.var 17) (E.var 16)),
  S.assign 9 (E.call3 fMulShift eMp (E.var 17) (E.var 16)),
  S.assign 10 (E.call3 fMulShift eMm (E.var 17) (E.var 16)),
  posFlags])
def step3With (p n : S) : S := S.ite (E.cmp COp.ge (E.var 2) (E.i 32 0)) p n
/-- `multipleOfPowerOfTwo64(mv, q-1)` → `(mv, q)` -/
def mutQ := fnsWith (step3With posPart (negWith (
  S.ite (E.cmp COp.le (E.var 14) (E.u 32 1))
    (S.scope (S.block [
      S.assign 13 (E.bool true),
      S.ite (E.var 5)
        (S.scope (S.block [S.assign 12 (E.cmp COp.eq (E.var 7) (E.u 64 1))]))
        (S.scope (S.block [S.assign 9 (E.bin AOp.sub (E.var 9) (E.u 64 1))]))]))
    (S.scope (S.block [
      S.ite (E.cmp COp.lt (E.var 14) (E.u 32 63))
        (S.scope (S.block [S.assign 13 (E.call2 fMultipleOf2 (E.var 6) (E.var 14))]))
        (S.scope (S.block []))]))))) step4Stmt
/-- `pow5InvSplit64[q]` → `pow5InvSplit64[q-1]` -/
def mutIdx := fnsWith (step3With (posWith (E.bin AOp.sub (E.var 14) (E.u 32 1))) negPart) step4Stmt

def unblock : S → List S
  | .seq a b => a :: unblock b
  | _ => []
theorem unblock_block : ∀ l : List S, unblock (S.block l) = l
  | [] => rfl
  | s :: ss => congrArg (s :: ·) (unblock_block ss)

/-- the reassembly determines its parts: a program with another step 3 or step 4 is another program
(13 = `step12.length`, 17 = 13 + 1 + `step4Decls.length`) -/
theorem fnsWith_inj {s3 s4 s3' s4' : S} (h : fnsWith s3 s4 = fnsWith s3' s4') : s3 = s3' ∧ s4 = s4' := by
  have h2 : some (fToDecimal, toDecimalWith s3 s4) = some (fToDecimal, toDecimalWith s3' s4') := congrArg (·[1]?) h
  have h3 := congrArg (fun p : Option (FnId × Fn) => p.map fun q => unblock q.2.body) h2
  simp only [toDecimalWith, Option.map_some, unblock_block, Option.some.injEq] at h3
  exact ⟨Option.some.inj (congrArg (·[13]?) h3), Option.some.inj (congrArg (·[17]?) h3)⟩

/-- the reassembly with today's parts is today's program (the mutants below differ from it in one place each) -/
example : fnsWith step3Stmt step4Stmt = canonFns := rfl

/-! ## the canonical-term check fails for every mutant -/

example : mutRound ≠ canonFns := fun h => absurd (fnsWith_inj (s3' := step3Stmt) (s4' := step4Stmt) h).2 (by decide)
example : mutLoop ≠ canonFns := fun h => absurd (fnsWith_inj (s3' := step3Stmt) (s4' := step4Stmt) h).2 (by decide)
example : mutLast ≠ canonFns := fun h => absurd (fnsWith_inj (s3' := step3Stmt) (s4' := step4Stmt) h).2 (by decide)
example : mutDrop ≠ canonFns := fun h => absurd (fnsWith_inj (s3' := step3Stmt) (s4' := step4Stmt) h).2 (by decide)
example : mutQ ≠ canonFns := fun h => absurd (fnsWith_inj (s3' := step3Stmt) (s4' := step4Stmt) h).1 (by decide)
example : mutIdx ≠ canonFns := fun h => absurd (fnsWith_inj (s3' := step3Stmt) (s4' := step4Stmt) h).1 (by decide)

/-! ## concrete floats: the interpreted mutant and the mirror disagree (fields `mant`, `exp` of a finite non-zero float64) -/

/-- `vr%10 >= 5` → `> 5` (`mant = 2502704619872173`, `exp = 643`) -/
example : interpToDecimal mutRound T 64 2502704619872173 643 ≠ some ((Ryu64.float64ToDecimal 2502704619872173 643).m, (Ryu64.float64ToDecimal 2502704619872173 643).e) := by
  decide +kernel
/-- `vp/10 > vm/10` → `>=` -/
example : interpToDecimal mutLoop T 64 3062797560162830 610 ≠ some ((Ryu64.float64ToDecimal 3062797560162830 610).m, (Ryu64.float64ToDecimal 3062797560162830 610).e) := by
  decide +kernel
/-- `lastRemovedDigit >= 5` → `> 5` -/
example : interpToDecimal mutLast T 64 699536398209912 1069 ≠ some ((Ryu64.float64ToDecimal 699536398209912 1069).m, (Ryu64.float64ToDecimal 699536398209912 1069).e) := by
  decide +kernel
/-- the dropped `vmIsTrailingZeros` update -/
example : interpToDecimal mutDrop T 64 2850706605355368 1083 ≠ some ((Ryu64.float64ToDecimal 2850706605355368 1083).m, (Ryu64.float64ToDecimal 2850706605355368 1083).e) := by
  decide +kernel
/-- the table index `q` → `q-1` -/
example : interpToDecimal mutIdx T 64 693468515117552 1213 ≠ some ((Ryu64.float64ToDecimal 693468515117552 1213).m, (Ryu64.float64ToDecimal 693468515117552 1213).e) := by
  decide +kernel
/-- today's program agrees with the mirror on one sample float (an instance of `gen_ryu_semantics`) -/
example : interpToDecimal canonFns T 64 2502704619872173 643 = some ((Ryu64.float64ToDecimal 2502704619872173 643).m, (Ryu64.float64ToDecimal 2502704619872173 643).e) := by
  decide +kernel

/-! ## the digit layout -/

/-- the list with another function in place `i` -/
def fnsAt (i : Nat) (fn : Fn) : List (FnId × Fn) := canonFns.take i ++ [(i, fn)] ++ canonFns.drop (i + 1)

/-- `sizeSlice`: `b[:len(b)+bufLen]` → `b[:len(b)+bufLen+1]` (one stale byte too many becomes visible) -/
def mutSize := fnsAt 17 { params := 2, body := S.block [
  S.ite (E.cmp COp.ge (E.bin AOp.sub (E.cap (E.var 0)) (E.len (E.var 0))) (E.var 1))
    (S.scope (S.block [S.ret (E.sliceTo (E.var 0) (E.bin AOp.add (E.bin AOp.add (E.len (E.var 0)) (E.var 1)) (E.i 64 1)))])) (S.scope (S.block [])),
  S.ret (E.appendS 7 (E.var 0) (E.makeBytes (E.var 1)))] }

/-- `appendF`, layout `// XYZ`: the zero fill writes `'1'` -/
def mutZero := fnsAt 14 { params := 3, body := S.block ([
  S.ite (E.var 2) (S.scope (S.block [S.assign 1 (E.append1 5 (E.var 1) (E.u 8 45))])) (S.scope (S.block [])),
  S.define 3 (E.field (E.var 0) 0),
  S.define 4 (E.call1 fDecimalLen (E.var 3)),
  S.define 5 (E.toI 64 (E.field (E.var 0) 1)),
  S.ite (E.cmp COp.ge (E.var 5) (E.i 64 0)) (S.scope (S.block [
    S.define 6 (E.len (E.var 1)),
    S.assign 1 (E.call2 fSizeSlice (E.var 1) (E.bin AOp.add (E.var 5) (E.var 4))),
    S.for (S.block [S.define 7 (E.var 6)]) (E.cmp COp.lt (E.var 7) (E.bin AOp.add (E.var 5) (E.var 6)))
      (S.block [S.assign 7 (E.bin AOp.add (E.var 7) (E.i 64 1))])
      (S.scope (S.block [S.setIndex 1 (E.bin AOp.add (E.var 4) (E.var 7)) (E.u 8 49)])),
    S.for (S.block [S.define 7 (E.bin AOp.sub (E.bin AOp.add (E.var 6) (E.var 4)) (E.i 64 1))]) (E.cmp COp.ge (E.var 7) (E.var 6))
      (S.block [S.assign 7 (E.bin AOp.sub (E.var 7) (E.i 64 1))])
      (S.scope (S.block (digitStmts 1 7))),
    S.ret (E.var 1)])) (S.scope (S.block [])),
  S.define 6 (E.neg (E.var 5)),
  S.ite (E.cmp COp.ge (E.var 6) (E.var 4)) layoutFracPart (S.scope (S.block []))] ++ layoutMixedPart) }

theorem fnsAt_inj {i : Nat} {fn fn' : Fn} (hi : i < canonFns.length) (h : fnsAt i fn = fnsAt i fn') : fn = fn' := by
  have hl : (canonFns.take i).length = i := by rw [List.length_take]; omega
  have h2 := congrArg (·[i]?) h
  simp only [fnsAt, List.append_assoc, List.getElem?_append_right (Nat.le_of_eq hl), hl, Nat.sub_self, List.cons_append,
    List.getElem?_cons_zero, Option.some.injEq, Prod.mk.injEq, true_and] at h2
  exact h2

example : fnsAt 17 fnSizeSlice = canonFns := rfl
example : fnsAt 14 fnAppendF = canonFns := rfl
example : mutSize ≠ canonFns := fun h => absurd (fnsAt_inj (fn' := fnSizeSlice) (by decide) h) (by decide)
example : mutZero ≠ canonFns := fun h => absurd (fnsAt_inj (fn' := fnAppendF) (by decide) h) (by decide)

/-- 3.0 into an empty buffer with two stale bytes of spare capacity: `"3"`; the mutant's result shows a stale byte -/
example : interpAppendFloat canonFns T 4000 (fun _ => []) [] [9, 9] 0x4008000000000000 = some ([51], [9]) := by decide +kernel
example : interpAppendFloat mutSize T 4000 (fun _ => []) [] [9, 9] 0x4008000000000000 = some ([51, 9], []) := by decide +kernel
/-- 100.0: `"100"`, the mutant writes `"111"` -/
example : interpAppendFloat canonFns T 4000 (fun _ => []) [] [] 0x4059000000000000 = some ([49, 48, 48], []) := by decide +kernel
example : interpAppendFloat mutZero T 4000 (fun _ => []) [] [] 0x4059000000000000 = some ([49, 49, 49], []) := by decide +kernel

end QF.Props.C16RyuGen
