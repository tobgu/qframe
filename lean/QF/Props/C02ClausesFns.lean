import QF.Core.ListFacts
import QF.Props.C02ClausesCanon
import QF.Core.ExecAttr
/-!
# C02 — the meaning of the canonical clause-evaluation terms, function by function

Symbolic execution of the canonical terms of C02ClausesCanon (`canonFns`) in the semantics `CL.S.exec` / `CL.E.eval`
(QF/Core/CLExpr.lean): one lemma per statement form (`exec_*`; the `range` loops keep their step function folded so
that loop lemmas can be stated by induction on the slice), and then, bottom-up along the call graph,

* `call_withErr`, `call_withIndex`, `call_newBool`, `call_ixLen`, `call_maskLen`, `call_max`
* `call_ixFilter`   — `index.Int.Filter` (counting loop, collecting loop) = `F.idxFilter` when the mask is not longer than the index
* `call_orFrames`   — `orFrames` = `F.orFrames`; its two-cursor loop = `F.orMerge` (`orMerge_loop`, each cursor by `exec_cursor`)
* `call_leaves`     — `QFrame.filter(filters...)` = `F.filterLeaves`: per filter the look-ups (`prefix_part`), the shortcut
                      through `filter.Inverse` (`shortcut_part`: taken iff `Leaf.inv`), the fallback (`fallback_part`, the
                      in-place loop `fallback_loop`), together `F.leafStep` (`leaf_step`, in the sense of `StepSim`), folded over the filters on ONE mask
                      (`leaves_loop`), then `index.Filter`.

`O : Leaf → LeafCalls` is what the calls made for a leaf return; `hO : ∀ l, (O l).Abstracts l` ties it to `F.Leaf`.
-/
namespace QF.Props.C02ClausesGen
open QF QF.CL F
set_option linter.unusedSimpArgs false

variable (O : Leaf → LeafCalls)

/-- the environment of a function body run at call depth `n + 1` -/
abbrev env (n : Nat) : Env := { call := callAt canonFns O n, oracle := O }

theorem callAt_succ (n : Nat) (f : FnId) (fn : Fn) (h : canonFns.lookup f = some fn) (args : List Val) :
    callAt canonFns O (n+1) f args = runFn (env O n) fn args := by
  simp [callAt, h]

theorem set_apply (σ : Store) (v w : Var) (x : Val) : σ.set v x w = if w = v then some x else σ w := rfl

/-! ## Execution lemmas (one per statement form; `range` keeps its step function folded) -/

def stepOf (Γ : Env) (k v : Option Var) (body : S) (y : Val) (i : Nat) (σ : Store) : Out :=
  body.exec Γ (bindKV k v i y σ)

section exec
variable (Γ : Env) (σ : Store)
theorem exec_skip : S.skip.exec Γ σ = .next σ := rfl
theorem exec_block_nil : (S.block []).exec Γ σ = .next σ := rfl
theorem exec_block_cons (s : S) (ss : List S) :
    (S.block (s :: ss)).exec Γ σ = (match s.exec Γ σ with | .next σ' => (S.block ss).exec Γ σ' | r => r) := rfl
theorem exec_seq (a b : S) : (S.seq a b).exec Γ σ = (match a.exec Γ σ with | .next σ' => b.exec Γ σ' | r => r) := rfl
theorem exec_define (v : Var) (e : E) : (S.define v e).exec Γ σ = (match e.eval Γ σ with | some x => .next (σ.set v x) | none => .stuck) := rfl
theorem exec_assign (v : Var) (e : E) : (S.assign v e).exec Γ σ = (match e.eval Γ σ with | some x => .next (σ.set v x) | none => .stuck) := rfl
theorem exec_incr (v : Var) : (S.incr v).exec Γ σ = (match σ v with | some (.int n) => .next (σ.set v (.int (n + 1))) | _ => .stuck) := rfl
theorem exec_setAt (m : Var) (i e : E) : (S.setAt m i e).exec Γ σ =
    (match σ m, i.eval Γ σ, e.eval Γ σ with
     | some (.mask mm), some (.int n), some (.bool b) =>
       if n < 0 ∨ (mm.length : Int) ≤ n then .stuck else .next (σ.set m (.mask (mm.set n.toNat b)))
     | _, _, _ => .stuck) := rfl
theorem exec_setInverse (v : Var) (e : E) : (S.setInverse v e).exec Γ σ =
    (match σ v, e.eval Γ σ with
     | some (.leaf l), some (.bool b) => .next (σ.set v (.leaf { l with inverse := b }))
     | _, _ => .stuck) := rfl
theorem exec_ite (c : E) (t e : S) : (S.ite c t e).exec Γ σ =
    (match c.eval Γ σ with
     | some (.bool true) => t.exec Γ σ
     | some (.bool false) => e.exec Γ σ
     | _ => .stuck) := rfl
theorem exec_ifIs (x : E) (ty : DynTy) (v : Var) (t e : S) : (S.ifIs x ty v t e).exec Γ σ =
    (match x.eval Γ σ with
     | some (.obj o) =>
       if o.ty = ty then
         t.exec Γ (σ.set v (match ty with | .filter => .leaf o.leaf | _ => .struct o.ty o.subs o.errField))
       else e.exec Γ σ
     | _ => .stuck) := rfl
theorem exec_range (xs : E) (k v : Option Var) (body : S) : (S.range xs k v body).exec Γ σ =
    (match xs.eval Γ σ with
     | some x => (match x.elems with | some l => loop (stepOf Γ k v body) l 0 σ | none => .stuck)
     | none => .stuck) := rfl
theorem exec_rangeLive (m : Var) (k v : Option Var) (body : S) : (S.rangeLive m k v body).exec Γ σ =
    (match σ m with
     | some (.mask mm) => loopLive (stepOf Γ k v body) m mm.length 0 σ
     | _ => .stuck) := rfl
theorem exec_ret (e : E) : (S.ret e).exec Γ σ = (match e.eval Γ σ with | some x => .ret x | none => .stuck) := rfl
theorem exec_lookupColumn (s ok : Var) (fr lf : E) : (S.lookupColumn s ok fr lf).exec Γ σ =
    (match fr.eval Γ σ, lf.eval Γ σ with
     | some (.frame _), some (.leaf l) => .next ((σ.set s (.tok .col l)).set ok (.bool (Γ.oracle l).colKnown))
     | _, _ => .stuck) := rfl
theorem exec_ifArgIsColumn (lf name : Var) (t : S) : (S.ifArgIsColumn lf name t).exec Γ σ =
    (match σ lf with
     | some (.leaf l) => if (Γ.oracle l).argIsCol then t.exec Γ (σ.set name (.tok .argName l)) else .next σ
     | _ => .stuck) := rfl
theorem exec_lookupArgColumn (a ok : Var) (fr : E) (name : Var) : (S.lookupArgColumn a ok fr name).exec Γ σ =
    (match fr.eval Γ σ, σ name with
     | some (.frame _), some (.tok .argName l) => .next ((σ.set a (.tok .argCol l)).set ok (.bool (Γ.oracle l).argColKnown))
     | _, _ => .stuck) := rfl
theorem exec_promote (r : List PRule) (s a : Var) : (S.promote r s a).exec Γ σ =
    (match σ s, σ a with
     | some (.tok .col _), some (.tok .argCol _) => .next σ
     | _, _ => .stuck) := rfl
theorem exec_setArg (lf a : Var) : (S.setArg lf a).exec Γ σ =
    (match σ lf, σ a with
     | some (.leaf _), some (.tok .argCol _) => .next σ
     | _, _ => .stuck) := rfl
theorem exec_ifCmpIsString (lf sc : Var) (t : S) : (S.ifCmpIsString lf sc t).exec Γ σ =
    (match σ lf with
     | some (.leaf l) => if (Γ.oracle l).cmpIsString then t.exec Γ (σ.set sc (.tok .cmpStr l)) else .next σ
     | _ => .stuck) := rfl
theorem exec_ifInverseEntry (key inv : Var) (t : S) : (S.ifInverseEntry key inv t).exec Γ σ =
    (match σ key with
     | some (.tok .cmpStr l) => if (Γ.oracle l).hasInverse then t.exec Γ (σ.set inv (.tok .invCmp l)) else .next σ
     | _ => .stuck) := rfl
theorem exec_kernel (er s : Var) (ix : E) (cmp : KCmp) (lf m : Var) : (S.kernel er s ix cmp lf m).exec Γ σ =
    (match σ s, ix.eval Γ σ, σ lf, σ m with
     | some (.tok .col _), some (.ix I), some (.leaf l), some (.mask mm) =>
       let k : Option (Option (KShape × (Pos → Bool))) :=
         match cmp with
         | .own => some (Γ.oracle l).direct
         | .inverseVia v => (match σ v with | some (.tok .invCmp _) => some (Γ.oracle l).inverse | _ => none)
       (match k with
        | none => .stuck
        | some none => .next (σ.set er (.err true))
        | some (some (sh, p)) => .next ((σ.set m (.mask (F.runKernel sh p I mm))).set er (.err false)))
     | _, _, _, _ => .stuck) := rfl
end exec

attribute [cl_exec] exec_block_nil exec_block_cons exec_skip exec_seq exec_define exec_assign exec_incr exec_setAt exec_setInverse
  exec_ite exec_ifIs exec_range exec_rangeLive exec_ret exec_lookupColumn exec_ifArgIsColumn exec_lookupArgColumn exec_promote
  exec_setArg exec_ifCmpIsString exec_ifInverseEntry exec_kernel
  E.eval bindArgs bindKV Store.setOpt set_apply Val.isNil Val.len Val.elems Val.at COp.holds loop

/-- symbolic execution: the statement forms by the simp lemmas `exec_*` (loops stay folded), expressions and stores by unfolding -/
macro "exec_simp" " [" ts:Lean.Parser.Tactic.simpLemma,* "]" : tactic =>
  `(tactic| simp [cl_exec, $ts,*])

theorem call_withErr (n : Nat) (f : Frame) (e : Bool) :
    callAt canonFns O (n+1) .withErr [.frame f, .err e] = some (.frame { index := f.index, err := e }) := by
  rw [callAt_succ O n .withErr fnWithErr rfl]
  exec_simp [runFn, fnWithErr]

theorem call_withIndex (n : Nat) (f : Frame) (l : List Pos) :
    callAt canonFns O (n+1) .withIndex [.frame f, .ix l] = some (.frame { index := l, err := f.err }) := by
  rw [callAt_succ O n .withIndex fnWithIndex rfl]
  exec_simp [runFn, fnWithIndex]

theorem call_newBool (n : Nat) (k : Nat) :
    callAt canonFns O (n+1) .newBool [.int k] = some (.mask (List.replicate k false)) := by
  rw [callAt_succ O n .newBool fnNewBool rfl]
  have hk : ¬ ((k : Int) < 0) := by omega
  exec_simp [runFn, fnNewBool, hk]

theorem call_ixLen (n : Nat) (l : List Pos) :
    callAt canonFns O (n+1) .ixLen [.ix l] = some (.int l.length) := by
  rw [callAt_succ O n .ixLen fnIxLen rfl]
  exec_simp [runFn, fnIxLen]

theorem call_maskLen (n : Nat) (l : List Bool) :
    callAt canonFns O (n+1) .maskLen [.mask l] = some (.int l.length) := by
  rw [callAt_succ O n .maskLen fnMaskLen rfl]
  exec_simp [runFn, fnMaskLen]

theorem call_max (n : Nat) (a b : Int) :
    callAt canonFns O (n+1) .max [.int a, .int b] = some (.int (max a b)) := by
  rw [callAt_succ O n .max fnMax rfl]
  by_cases h : b < a <;> exec_simp [runFn, fnMax, h] <;> omega

/-! ## `Int.Filter` -/

/-- the counting loop keeps the receiver and the mask and leaves a count that is not negative. The round is run in the goal; the
rest of the loop continues from whatever store it leaves (so the conclusion speaks of values, not of the first store). -/
theorem ixFilter_count (Γ : Env) (a b : Val) (m : List Bool) : ∀ (j : Nat) (σ : Store) (k : Int), 0 ≤ k →
    σ 0 = some a → σ 1 = some b → σ 2 = some (.int k) →
    ∃ σ', loop (stepOf Γ none (some 3) ixCountBody) (m.map .bool) j σ = .next σ' ∧
      ∃ k', 0 ≤ k' ∧ σ' 0 = some a ∧ σ' 1 = some b ∧ σ' 2 = some (.int k') := by
  induction m with
  | nil => intro j σ k hk h0 h1 h2; exact ⟨σ, rfl, k, hk, h0, h1, h2⟩
  | cons c m ih =>
    intro j σ k hk h0 h1 h2
    simp only [List.map_cons, loop]
    cases c
    · exec_simp [stepOf]
      exact ih _ _ k hk (by simp [set_apply, h0]) (by simp [set_apply, h1]) (by simp [set_apply, h2])
    · exec_simp [stepOf, h2]
      exact ih _ _ (k + 1) (by omega) (by simp [set_apply, h0]) (by simp [set_apply, h1]) (by simp [set_apply])

theorem ixFilter_collect (Γ : Env) (l T : List Pos) (m : List Bool) : ∀ (j : Nat) (σ : Store) (acc : List Pos),
    σ 0 = some (.ix l) → σ 4 = some (.ix acc) → j + m.length ≤ l.length → acc ++ idxFilter (l.drop j) m = T →
    ∃ σ', loop (stepOf Γ (some 5) (some 6) ixCollectBody) (m.map .bool) j σ = .next σ' ∧ σ' 4 = some (.ix T) := by
  induction m with
  | nil => intro j σ acc _ h4 _ hT; exact ⟨σ, rfl, by simpa [idxFilter, h4] using hT⟩
  | cons b m ih =>
    intro j σ acc h0 h4 hlen hT
    simp only [List.length_cons] at hlen
    have hj : j < l.length := by omega
    have hnn : ¬ ((j : Int) < 0) := by omega
    rw [← List.getElem_cons_drop hj] at hT
    simp only [List.map_cons, loop]
    cases b
    · exec_simp [stepOf]
      exact ih _ _ acc (by simp [set_apply, h0]) (by simp [set_apply, h4]) (by omega) hT
    · exec_simp [stepOf, h0, h4, hnn, hj]
      exact ih _ _ (acc ++ [l[j]]) (by simp [set_apply, h0]) (by simp [set_apply]) (by omega) (by rw [List.append_assoc]; exact hT)

theorem idxFilter_nil_left (m : List Bool) : idxFilter [] m = [] := by cases m <;> rfl

theorem call_ixFilter (n : Nat) (l : List Pos) (m : List Bool) (h : m.length ≤ l.length) :
    callAt canonFns O (n+1) .ixFilter [.ix l, .mask m] = some (.ix (idxFilter l m)) := by
  rw [callAt_succ O n .ixFilter fnIxFilter rfl]
  obtain ⟨σ1, h1, k, hk, h3, h4, h2⟩ := ixFilter_count (env O n) (.ix l) (.mask m) m 0
    (((Store.empty.set 0 (.ix l)).set 1 (.mask m)).set 2 (.int 0)) 0 (by omega) (by simp [set_apply]) (by simp [set_apply]) (by simp [set_apply])
  obtain ⟨σ2, h5, h6⟩ := ixFilter_collect (env O n) l _ m 0 (σ1.set 4 (.ix [])) [] (by simp [set_apply, h3]) (by simp [set_apply]) (by omega) rfl
  have hk' : ¬ (k < 0) := by omega
  exec_simp [runFn, fnIxFilter, h1, h2, h4, hk', h5, h6]

/-! ## `orFrames` -/

/-- `cursor < n && a[cursor] == x`, `n` the length of the index `a`: does `x` head what the cursor has not passed? -/
theorem eval_cursor (Γ : Env) (σ : Store) (n a : E) (c x : Var) (ix : List Pos) (i : Nat) (y : Pos)
    (hn : n.eval Γ σ = some (.int ix.length)) (ha : a.eval Γ σ = some (.ix ix))
    (hc : σ c = some (.int i)) (hx : σ x = some (.pos y)) :
    (E.and (E.cmp COp.lt (E.var c) n) (E.cmp COp.eq (E.at a (E.var c)) (E.var x))).eval Γ σ =
      some (.bool ((ix.drop i).head? == some y)) := by
  have hnn : ¬ ((i : Int) < 0) := by omega
  rw [List.head?_drop]
  by_cases hi : i < ix.length
  · simp [E.eval, hn, ha, hc, hx, Val.at, COp.holds, hi, hnn, List.getElem?_eq_getElem hi, ListFacts.natCast_beq]
  · have : ix[i]? = none := by simp; omega
    simp [E.eval, hn, ha, hc, hx, COp.holds, hi, this]

/-- `if cursor < len(p.index) && p.index[cursor] == x { found = true; cursor++ }`: the cursor `c` passes `x` if `x` heads the
rest of the index of `p`, `found` (variable 7) records it, nothing else is written -/
theorem exec_cursor (Γ : Env) (σ : Store) (c p x : Var) (hc7 : c ≠ 7) (G : Frame) (i : Nat) (y : Pos) (b : Bool)
    (hp : σ p = some (.ptr (some G))) (hc : σ c = some (.int i)) (hx : σ x = some (.pos y)) (h7 : σ 7 = some (.bool b)) :
    ∃ σ', (S.ite (hitCond c p x) (S.block [S.assign 7 (E.bool true), S.incr c]) (S.block [])).exec Γ σ = .next σ' ∧
      σ' c = some (.int ↑(if (G.index.drop i).head? == some y then i + 1 else i)) ∧
      σ' 7 = some (.bool (b || (G.index.drop i).head? == some y)) ∧ ∀ w, w ≠ c → w ≠ 7 → σ' w = σ w := by
  have e : (hitCond c p x).eval Γ σ = _ :=
    eval_cursor Γ σ (E.len (E.frameIndex (E.deref (E.var p)))) (E.frameIndex (E.deref (E.var p))) c x G.index i y
      (by simp [E.eval, hp, Val.len]) (by simp [E.eval, hp]) hc hx
  rw [exec_ite, e]
  cases (G.index.drop i).head? == some y
  · exact ⟨σ, rfl, by simpa using hc, by simpa using h7, fun _ _ _ => rfl⟩
  · exact ⟨(σ.set 7 (.bool true)).set c (.int (i + 1)), by exec_simp [hc, hc7], by simp [set_apply],
      by simp [set_apply, hc7.symm], fun w h1 h2 => by simp [set_apply, h1, h2]⟩

theorem orMerge_loop (Γ : Env) (L R : Frame) (xs : List Pos) : ∀ (c : Nat) (σ : Store) (acc : List Pos) (i j : Nat),
    σ 1 = some (.ptr (some L)) → σ 2 = some (.ptr (some R)) → σ 3 = some (.ix acc) → σ 4 = some (.int i) → σ 5 = some (.int j) →
    ∃ σ', loop (stepOf Γ none (some 6) orBody) (xs.map .pos) c σ = .next σ' ∧ σ' 0 = σ 0 ∧
      σ' 3 = some (.ix (acc ++ orMerge xs (L.index.drop i) (R.index.drop j))) := by
  induction xs with
  | nil => intro c σ acc i j _ _ h3 _ _; exact ⟨σ, rfl, rfl, by simp [orMerge, h3]⟩
  | cons x xs ih =>
    intro c σ acc i j h1 h2 h3 h4 h5
    obtain ⟨σ1, e1, c1, f1, r1⟩ := exec_cursor Γ ((σ.set 6 (.pos x)).set 7 (.bool false)) 4 1 6 (by decide) L i x false
      (by simp [set_apply, h1]) (by simp [set_apply, h4]) (by simp [set_apply]) (by simp [set_apply])
    obtain ⟨σ2, e2, c2, f2, r2⟩ := exec_cursor Γ σ1 5 2 6 (by decide) R j x _
      (by simp [r1, set_apply, h2]) (by simp [r1, set_apply, h5]) (by simp [r1, set_apply]) f1
    generalize hL : ((L.index.drop i).head? == some x) = hitL at c1 f1 f2
    generalize hR : ((R.index.drop j).head? == some x) = hitR at c2 f2
    -- `if found { res = append(res, x) }`
    have e3 : ∃ σ3, (S.ite (E.var 7) (S.block [S.assign 3 (E.snoc (E.var 3) (E.var 6))]) (S.block [])).exec Γ σ2 = .next σ3 ∧
        σ3 3 = some (.ix (if hitL || hitR then acc ++ [x] else acc)) ∧ ∀ w, w ≠ 3 → σ3 w = σ2 w := by
      have k3 : σ2 3 = some (.ix acc) := by simp [r2, r1, set_apply, h3]
      cases hb : (hitL || hitR)
      · exact ⟨σ2, by exec_simp [f2, hb], by simpa using k3, fun _ _ => rfl⟩
      · exact ⟨σ2.set 3 (.ix (acc ++ [x])), by exec_simp [f2, hb, k3, r2, r1], by simp [set_apply], fun w hw => by simp [set_apply, hw]⟩
    obtain ⟨σ3, e3, a3, r3⟩ := e3
    obtain ⟨σ', g1, g2, g3⟩ := ih (c+1) σ3 _ (if hitL then i + 1 else i) (if hitR then j + 1 else j)
      (by simp [r3, r2, r1, set_apply, h1]) (by simp [r3, r2, r1, set_apply, h2]) a3
      (by rw [r3 4 (by decide), r2 4 (by decide) (by decide), c1]) (by rw [r3 5 (by decide), c2])
    refine ⟨σ', ?_, by simp [g2, r3, r2, r1, set_apply], ?_⟩
    · simp only [List.map_cons, loop, stepOf, bindKV, Store.setOpt, exec_block_cons, exec_define, E.eval, e1, e2, e3, exec_block_nil, g1]
    · simp only [g3, orMerge, hL, hR]
      cases hitL <;> cases hitR <;> simp [List.tail_drop]

theorem call_orFrames (n : Nat) (orig rhs : Frame) (lhs : Option Frame) :
    callAt canonFns O (n+2) .orFrames [.ptr (some orig), .ptr lhs, .ptr (some rhs)] = some (.ptr (some (F.orFrames orig lhs rhs))) := by
  rw [callAt_succ O (n+1) .orFrames fnOrFrames rfl]
  cases lhs with
  | none => exec_simp [runFn, fnOrFrames, F.orFrames]
  | some lhs =>
    cases hl : lhs.err
    · cases hr : rhs.err
      · have hcap : ¬ (max (lhs.index.length : Int) (rhs.index.length : Int) < 0) := by omega
        obtain ⟨σ', g1, g2, g3⟩ := orMerge_loop (env O (n+1)) lhs rhs orig.index 0
          ((((((Store.empty.set 0 (.ptr (some orig))).set 1 (.ptr (some lhs))).set 2 (.ptr (some rhs))).set 3 (.ix [])).set 4 (.int 0)).set 5 (.int 0)) [] 0 0
          (by simp [set_apply]) (by simp [set_apply]) (by simp [set_apply]) (by simp [set_apply]) (by simp [set_apply])
        simp [set_apply] at g2
        exec_simp [runFn, fnOrFrames, F.orFrames, hl, hr, call_max, hcap, g1, g2, g3, call_withIndex]
      · exec_simp [runFn, fnOrFrames, F.orFrames, hl, hr]
    · exec_simp [runFn, fnOrFrames, F.orFrames, hl]

/-! ## `QFrame.filter` -/

theorem runKernel_length (sh : KShape) (p : Pos → Bool) : ∀ (ix : List Pos) (m : List Bool),
    (runKernel sh p ix m).length = min ix.length m.length := by
  intro ix
  induction ix with
  | nil => intro m; simp [runKernel]
  | cons i ix ih =>
    intro m
    cases m with
    | nil => simp [runKernel]
    | cons b m => simp [runKernel, ih, Nat.succ_min_succ]

def fb (x y : Bool) : Bool := if !x then !y else x

/-- one round of `for i, x := range bIndex { if !x { bIndex[i] = !invBIndex[i] } }` at the entry `b`, `c` of the two masks -/
theorem fallback_round (Γ : Env) (σ : Store) (pre rest ipre irest : List Bool) (b c : Bool) (hp : pre.length = ipre.length)
    (h2 : σ 2 = some (.mask (pre ++ b :: rest))) (h13 : σ 13 = some (.mask (ipre ++ c :: irest))) :
    ∃ σ1, stepOf Γ (some 14) (some 15) fallbackBody (.bool b) pre.length σ = .next σ1 ∧
      σ1 2 = some (.mask (pre ++ fb b c :: rest)) ∧ σ1 13 = σ 13 ∧ σ1 0 = σ 0 ∧ σ1 9 = σ 9 := by
  have hnn : ¬ ((pre.length : Int) < 0) := by omega
  have hb : ¬ ((pre.length : Int) + ((rest.length : Int) + 1) ≤ (pre.length : Int)) := by omega
  have hget : (ipre ++ c :: irest)[pre.length]? = some c := by rw [hp]; simp
  cases b
  · exact ⟨((σ.set 14 (.int pre.length)).set 15 (.bool false)).set 2 (.mask (pre ++ (!c) :: rest)),
      by exec_simp [stepOf, h2, h13, hnn, hb, hget], by simp [set_apply, fb], by simp [set_apply], by simp [set_apply], by simp [set_apply]⟩
  · exact ⟨(σ.set 14 (.int pre.length)).set 15 (.bool true), by exec_simp [stepOf], by simp [set_apply, h2, fb], by simp [set_apply],
      by simp [set_apply], by simp [set_apply]⟩

theorem fallback_loop (Γ : Env) : ∀ (rest irest pre ipre : List Bool) (σ : Store), pre.length = ipre.length → rest.length = irest.length →
    σ 2 = some (.mask (pre ++ rest)) → σ 13 = some (.mask (ipre ++ irest)) →
    ∃ σ', loopLive (stepOf Γ (some 14) (some 15) fallbackBody) 2 rest.length pre.length σ = .next σ' ∧
      σ' 2 = some (.mask (pre ++ List.zipWith fb rest irest)) ∧ σ' 0 = σ 0 ∧ σ' 9 = σ 9 := by
  intro rest
  induction rest with
  | nil => intro irest pre ipre σ _ _ h2 _; exact ⟨σ, rfl, by simpa using h2, rfl, rfl⟩
  | cons b rest ih =>
    intro irest pre ipre σ hp hr h2 h13
    cases irest with
    | nil => simp at hr
    | cons c irest =>
      obtain ⟨σ1, e1, k2, k13, k0, k9⟩ := fallback_round Γ σ pre rest ipre irest b c hp h2 h13
      obtain ⟨σ', g1, g2, g3, g4⟩ := ih irest (pre ++ [fb b c]) (ipre ++ [c]) σ1 (by simp [hp]) (by simpa using hr) (by simpa using k2)
        (by simp [k13, h13])
      have hget : (pre ++ b :: rest)[pre.length]? = some b := by simp
      refine ⟨σ', ?_, by simpa using g2, by rw [g3, k0], by rw [g4, k9]⟩
      simp only [List.length_cons, loopLive, h2, hget, e1]
      simpa using g1

theorem exec_block_append (Γ : Env) (a b : List S) : ∀ σ : Store,
    (S.block (a ++ b)).exec Γ σ = (match (S.block a).exec Γ σ with | .next σ' => (S.block b).exec Γ σ' | r => r) := by
  induction a with
  | nil => intro σ; rfl
  | cons s a ih =>
    intro σ
    simp only [List.cons_append, exec_block_cons]
    cases s.exec Γ σ with
    | next σ' => exact ih σ'
    | ret v => rfl
    | stuck => rfl

/-- the variables of the loop of `QFrame.filter` that matter: the frame, the shared mask, the filter, its column -/
def LeafSt (σ : Store) (f : Frame) (l : Leaf) (mask : List Bool) : Prop :=
  σ 0 = some (.frame f) ∧ σ 2 = some (.mask mask) ∧ σ 3 = some (.leaf l) ∧ σ 4 = some (.tok .col l)

def failed (f : Frame) : Frame := { index := f.index, err := true }

/-- how a piece of the loop body of `QFrame.filter` follows a step of the mirror: it returns the failed frame where the mirror
has no mask, else it goes on with the frame untouched and the mirror's mask -/
def StepSim (f : Frame) (out : Out) : Option (List Bool) → Prop
  | none => out = .ret (.frame (failed f))
  | some mask' => ∃ σ', out = .next σ' ∧ σ' 0 = some (.frame f) ∧ σ' 2 = some (.mask mask')

section leaf
variable (n : Nat) (f : Frame) (l : Leaf) (mask : List Bool) (hA : (O l).Abstracts l)
include hA

/-- the look-ups: they fail only for a leaf that `F.Leaf` marks as failing -/
theorem prefix_part (σ : Store) (h0 : σ 0 = some (.frame f)) (h2 : σ 2 = some (.mask mask)) (h3 : σ 3 = some (.leaf l)) :
    ((S.block leafPrefix).exec (env O (n+1)) σ = .ret (.frame (failed f)) ∧ l.err = true) ∨
    (∃ σ', (S.block leafPrefix).exec (env O (n+1)) σ = .next σ' ∧ LeafSt σ' f l mask) := by
  obtain ⟨a1, a2, _, _⟩ := hA
  cases hck : (O l).colKnown
  · left
    exact ⟨by exec_simp [leafPrefix, retNewErr, h0, h3, hck, call_withErr, failed], a1 hck⟩
  · cases hac : (O l).argIsCol
    · right
      refine ⟨_, by exec_simp [leafPrefix, retNewErr, h0, h3, hck, hac]; rfl, ?_⟩
      simp [LeafSt, set_apply, h0, h2, h3]
    · cases hak : (O l).argColKnown
      · left
        exact ⟨by exec_simp [leafPrefix, retNewErr, h0, h3, hck, hac, hak, call_withErr, failed], a2 hac hak⟩
      · right
        refine ⟨_, by exec_simp [leafPrefix, retNewErr, h0, h3, hck, hac, hak]; rfl, ?_⟩
        simp [LeafSt, set_apply, h0, h2, h3]

/-- the shortcut through `filter.Inverse` is taken exactly when `F.Leaf.inv` says so (for a leaf that does not fail) -/
theorem shortcut_part (σ : Store) (hs : LeafSt σ f l mask) (h10 : σ 10 = some (.bool false)) :
    ∃ σ', shortcutPart.exec (env O (n+1)) σ = .next σ' ∧
      match (if l.err then none else l.inv) with
      | some (sh, p) => LeafSt σ' f l (runKernel sh p f.index mask) ∧ σ' 10 = some (.bool true) ∧ σ' 9 = some (.err false)
      | none => LeafSt σ' f l mask ∧ σ' 10 = some (.bool false) := by
  obtain ⟨_, _, _, a4⟩ := hA
  obtain ⟨h0, h2, h3, h4⟩ := hs
  rw [← a4]
  cases hstr : (O l).cmpIsString
  · refine ⟨σ, by exec_simp [shortcutPart, h3, hstr], ?_⟩
    simp [LeafSt, h0, h2, h3, h4, h10]
  · cases hinv : (O l).hasInverse
    · refine ⟨_, by exec_simp [shortcutPart, h3, hstr, hinv]; rfl, ?_⟩
      simp [LeafSt, set_apply, h0, h2, h3, h4, h10]
    · cases hk : (O l).inverse with
      | none =>
        refine ⟨_, by exec_simp [shortcutPart, h0, h2, h3, h4, hstr, hinv, hk]; rfl, ?_⟩
        simp [LeafSt, set_apply, h0, h2, h3, h4, h10]
      | some sp =>
        refine ⟨_, by exec_simp [shortcutPart, h0, h2, h3, h4, hstr, hinv, hk]; rfl, ?_⟩
        simp [LeafSt, set_apply, h0, h3, h4]

/-- the fallback evaluates the comparator itself on a fresh mask and complements into the entries that are still false -/
theorem fallback_part (σ : Store) (hs : LeafSt σ f l mask) (h10 : σ 10 = some (.bool false)) (hlen : mask.length = f.index.length) :
    ∃ σ', fallbackPart.exec (env O (n+1)) σ = .next σ' ∧ σ' 0 = some (.frame f) ∧
      if l.err then σ' 9 = some (.err true) else σ' 9 = some (.err false) ∧
        σ' 2 = some (.mask (List.zipWith fb mask (runKernel l.shape l.pred f.index (List.replicate mask.length false)))) := by
  obtain ⟨_, _, a3, _⟩ := hA
  obtain ⟨h0, h2, h3, h4⟩ := hs
  cases he : l.err
  · simp only [he, Bool.false_eq_true, if_false] at a3
    let inv := runKernel l.shape l.pred f.index (List.replicate mask.length false)
    have hil : mask.length = inv.length := by simp [inv, runKernel_length, hlen]
    let σ1 := ((σ.set 13 (.mask (List.replicate mask.length false))).set 13 (.mask inv)).set 9 (.err false)
    obtain ⟨σ', g1, g2, g3, g4⟩ := fallback_loop (env O (n+1)) mask inv [] [] σ1 rfl hil (by simp [σ1, set_apply, h2]) (by simp [σ1, set_apply])
    refine ⟨σ', ?_, by simp [g3, σ1, set_apply, h0], by simp [g4, σ1, set_apply], by simpa using g2⟩
    simp only [List.length_nil, σ1, inv] at g1
    exec_simp [fallbackPart, h0, h2, h3, h4, h10, a3, call_maskLen, call_newBool, g1]
  · simp only [he, if_true] at a3
    refine ⟨_, by exec_simp [fallbackPart, h0, h2, h3, h4, h10, a3, call_maskLen, call_newBool]; rfl, ?_, ?_⟩
    · simp [set_apply, h0]
    · simp [set_apply]

omit hA in
theorem fb_eq : (fun x y => if (!x) = true then !y else x) = fb := by funext x y; rfl

/-- the kernel calls of one filter are `F.leafStep` -/
theorem tail_part (σ : Store) (hs : LeafSt σ f l mask) (hlen : mask.length = f.index.length) :
    StepSim f ((S.block leafTail).exec (env O (n+1)) σ) (leafStep f.index mask l) := by
  have ⟨_, _, a3, _⟩ := hA
  have ⟨h0, h2, h3, h4⟩ := hs
  cases hfl : l.inverse
  · -- the comparator itself
    cases he : l.err <;> simp only [he, Bool.false_eq_true, if_false, if_true] at a3 <;>
      simp only [leafStep, he, hfl, Bool.false_eq_true, if_false, if_true, StepSim]
    · exact ⟨_, by exec_simp [leafTail, leafKernel, h0, h2, h3, h4, hfl, a3]; rfl, by simp [set_apply, h0], by simp [set_apply]⟩
    · exec_simp [leafTail, leafKernel, retNewErr, h0, h2, h3, h4, hfl, a3, call_withErr, failed]
  · -- the inverse: by the shortcut where the leaf has one, else by the fallback
    obtain ⟨σ2, e2, hsc⟩ := shortcut_part O n f l mask hA ((σ.set 9 (.err false)).set 10 (.bool false))
      (by simp [LeafSt, set_apply, h0, h2, h3, h4]) (by simp [set_apply])
    cases he : l.err <;> simp only [he, Bool.false_eq_true, if_false, if_true] at hsc
    · cases hi : l.inv with
      | some sp =>
        simp only [hi] at hsc
        simp only [leafStep, he, hfl, hi, Bool.false_eq_true, if_false, if_true, StepSim]
        exact ⟨σ2, by exec_simp [leafTail, leafKernel, h3, hfl, e2, fallbackPart, hsc.2.1, hsc.2.2], hsc.1.1, hsc.1.2.1⟩
      | none =>
        simp only [hi] at hsc
        obtain ⟨σ3, e3, g0, g⟩ := fallback_part O n f l mask hA σ2 hsc.1 hsc.2 hlen
        simp only [he, Bool.false_eq_true, if_false] at g
        simp only [leafStep, he, hfl, hi, Bool.false_eq_true, if_false, if_true, fb_eq, StepSim]
        exact ⟨σ3, by exec_simp [leafTail, leafKernel, h3, hfl, e2, e3, g.1], g0, g.2⟩
    · obtain ⟨σ3, e3, g0, g9⟩ := fallback_part O n f l mask hA σ2 hsc.1 hsc.2 hlen
      simp only [he, if_true] at g9
      simp only [leafStep, he, if_true, StepSim]
      exec_simp [leafTail, leafKernel, retNewErr, h3, hfl, e2, e3, g0, g9, call_withErr, failed]

/-- one round of the loop of `QFrame.filter` is `F.leafStep` -/
theorem leaf_step (j : Nat) (σ : Store) (h0 : σ 0 = some (.frame f)) (h2 : σ 2 = some (.mask mask)) (hlen : mask.length = f.index.length) :
    StepSim f (stepOf (env O (n+1)) none (some 3) leafBody (.leaf l) j σ) (leafStep f.index mask l) := by
  simp only [stepOf, bindKV, Store.setOpt, exec_block_append]
  rcases prefix_part O n f l mask hA (σ.set 3 (.leaf l)) (by simp [set_apply, h0]) (by simp [set_apply, h2]) (by simp [set_apply]) with ⟨e, he⟩ | ⟨σ', e, hs⟩
  · simp only [e, leafStep, he, if_true, StepSim]
  · rw [e]
    exact tail_part O n f l mask hA σ' hs hlen

end leaf

theorem leafStep_length (ix : List Pos) (mask mask' : List Bool) (l : Leaf) (h : leafStep ix mask l = some mask')
    (hlen : mask.length = ix.length) : mask'.length = ix.length := by
  unfold leafStep at h
  cases he : l.err <;> simp only [he, Bool.false_eq_true, if_false, if_true] at h
  · cases hfl : l.inverse <;> simp only [hfl, Bool.false_eq_true, if_false, if_true] at h
    · simp only [Option.some.injEq] at h; subst h; simp [runKernel_length, hlen]
    · cases hi : l.inv with
      | none => simp only [hi, Option.some.injEq] at h; subst h; simp [runKernel_length, hlen]
      | some sp => obtain ⟨sh, p⟩ := sp; simp only [hi, Option.some.injEq] at h; subst h; simp [runKernel_length, hlen]
  · cases h

/-- the loop of `QFrame.filter` folds `F.leafStep` over the filters on one mask, which keeps the length of the index -/
theorem leaves_loop (hO : ∀ l, (O l).Abstracts l) (n : Nat) (f : Frame) : ∀ (ls : List Leaf) (j : Nat) (σ : Store) (mask : List Bool),
    σ 0 = some (.frame f) → σ 2 = some (.mask mask) → mask.length = f.index.length →
    StepSim f (loop (stepOf (env O (n+1)) none (some 3) leafBody) (ls.map .leaf) j σ) (ls.foldlM (leafStep f.index) mask) ∧
      ∀ mask', ls.foldlM (leafStep f.index) mask = some mask' → mask'.length = f.index.length := by
  intro ls
  induction ls with
  | nil => intro j σ mask h0 h2 hlen; exact ⟨⟨σ, rfl, h0, h2⟩, fun _ h => by cases h; exact hlen⟩
  | cons l ls ih =>
    intro j σ mask h0 h2 hlen
    have hstep := leaf_step O n f l mask (hO l) j σ h0 h2 hlen
    simp only [List.foldlM_cons, List.map_cons, loop]
    cases hl : leafStep f.index mask l with
    | none =>
      rw [hl] at hstep
      rw [show stepOf _ _ _ _ _ _ _ = _ from hstep]
      exact ⟨rfl, fun _ h => by cases h⟩
    | some m1 =>
      rw [hl] at hstep
      obtain ⟨σ1, e1, g0, g2⟩ := hstep
      rw [e1]
      exact ih (j+1) σ1 m1 g0 g2 (leafStep_length _ _ _ _ hl hlen)

/-- `QFrame.filter(filters...)` is `F.filterLeaves` -/
theorem call_leaves (hO : ∀ l, (O l).Abstracts l) (n : Nat) (f : Frame) (ls : List Leaf) :
    callAt canonFns O (n+2) .leaves [.frame f, .leaves ls] = some (.frame (filterLeaves f ls)) := by
  rw [callAt_succ O (n+1) .leaves fnLeaves rfl]
  cases he : f.err
  · obtain ⟨hl, hlen⟩ := leaves_loop O hO n f ls 0
      (((Store.empty.set 0 (.frame f)).set 1 (.leaves ls)).set 2 (.mask (List.replicate f.index.length false)))
      (List.replicate f.index.length false) (by simp [set_apply]) (by simp [set_apply]) (by simp)
    cases hf : ls.foldlM (leafStep f.index) (List.replicate f.index.length false) with
    | none =>
      rw [hf] at hl
      exec_simp [runFn, fnLeaves, retIfFailed, he, call_ixLen, call_newBool, show loop _ _ _ _ = _ from hl, filterLeaves, hf, failed]
    | some mask' =>
      rw [hf] at hl
      obtain ⟨σ', e, g0, g2⟩ := hl
      exec_simp [runFn, fnLeaves, retIfFailed, he, call_ixLen, call_newBool, e, g0, g2, filterLeaves, hf,
        call_ixFilter O n f.index mask' (by have := hlen mask' hf; omega), call_withIndex]
  · exec_simp [runFn, fnLeaves, retIfFailed, he, filterLeaves]

end QF.Props.C02ClausesGen
