import QF.Gen.RyuFns
import QF.Core.RYExpr
/-!
# C16 — the Ryu core in today's source: canonical terms (tie T1)

`QF.Gen.ryuFns` (regenerated on every run by go/cmd/extract/ryuast.go) holds the bodies of `float64ToDecimalExactInt`,
`float64ToDecimal`, `decimalLen64`, `mulShift64`, `shiftRight128`, `pow5Factor64`, `multipleOfPowerOfFive64`,
`multipleOfPowerOfTwo64`, `dec64.appendF`, `sizeSlice` of /repo/internal/ryu/ryu64.go and of `AppendFloat64f`, `appendSpecialf`,
`log10Pow2`, `log10Pow5`, `pow5Bits`, `boolToInt`, `boolToUint32`, `boolToUint64` of ryu.go as terms of the imperative language `QF.RY` (QF/Core/RYExpr.lean);
`QF.Gen.ryuPow10` is the array `powersOf10`. This file fixes the canonical terms (`canonFns`: today's translation; functions
numbered in the order of discovery, variables by the number of variables alive; the parts of `float64ToDecimal` have names
so that the lemmas about them can be stated) and proves that today's extraction is complete (`gen_ryu_no_opaque`, by finite
`decide`) and equal to them (`gen_ryu_canon`: the generated terms unfold to the canonical ones). The meaning of the canonical terms is computed in C16RyuFns /
C16RyuMain / C16RyuStep4 / C16RyuLayout (the table in C16RyuGen, which states the result).
-/
namespace QF.Props.C16RyuGen
open QF QF.RY

/-! the numbers of the functions (order of discovery) -/
abbrev fExactInt : FnId := 0
abbrev fToDecimal : FnId := 1
abbrev fDecimalLen : FnId := 2
abbrev fAppendFloat : FnId := 3
abbrev fBoolToUint64 : FnId := 4
abbrev fLog10Pow2 : FnId := 5
abbrev fBoolToUint32 : FnId := 6
abbrev fPow5Bits : FnId := 7
abbrev fMulShift : FnId := 8
abbrev fMultipleOf5 : FnId := 9
abbrev fLog10Pow5 : FnId := 10
abbrev fMultipleOf2 : FnId := 11
abbrev fBoolToInt : FnId := 12
abbrev fAppendSpecial : FnId := 13
abbrev fAppendF : FnId := 14
abbrev fShiftRight128 : FnId := 15
abbrev fPow5Factor : FnId := 16
abbrev fSizeSlice : FnId := 17

/-! ## `float64ToDecimalExactInt` — variables: 0 `mant`, 1 `exp`, 2 `d`, 3 `ok`, 4 `e`, 5 `shift` -/

/-- `d.m /= 10; d.e++` -/
abbrev exactLoopBody : S := S.scope (S.block [
  S.setField 2 0 (E.bin AOp.div (E.field (E.var 2) 0) (E.u 64 10)),
  S.setField 2 1 (E.bin AOp.add (E.field (E.var 2) 1) (E.i 32 1))])

/-- `d.m%10 == 0` -/
abbrev exactLoopCond : E := E.cmp COp.eq (E.bin AOp.mod (E.field (E.var 2) 0) (E.u 64 10)) (E.u 64 0)

/-- `for d.m%10 == 0 { d.m /= 10; d.e++ }` -/
def exactLoop : S := S.for (S.block []) exactLoopCond (S.block []) exactLoopBody

def fnExactInt : Fn := { params := 2, body := S.block [
  S.define 2 (E.mk2 (E.u 64 0) (E.i 32 0)),
  S.define 3 (E.bool false),
  S.define 4 (E.bin AOp.sub (E.var 1) (E.u 64 1023)),
  S.ite (E.cmp COp.gt (E.var 4) (E.u 64 52)) (S.scope (S.block [S.ret (E.mk2 (E.var 2) (E.bool false))])) (S.scope (S.block [])),
  S.define 5 (E.bin AOp.sub (E.u 64 52) (E.var 4)),
  S.assign 0 (E.bin AOp.bor (E.var 0) (E.u 64 4503599627370496)),
  S.setField 2 0 (E.shr (E.var 0) (E.var 5)),
  S.ite (E.cmp COp.ne (E.shl (E.field (E.var 2) 0) (E.var 5)) (E.var 0)) (S.scope (S.block [S.ret (E.mk2 (E.var 2) (E.bool false))])) (S.scope (S.block [])),
  exactLoop,
  S.ret (E.mk2 (E.var 2) (E.bool true))] }

/-! ## `float64ToDecimal` — variables: 0 `mant`, 1 `exp`, 2 `e2`, 3 `m2`, 4 `even`, 5 `acceptBounds`, 6 `mv`, 7 `mmShift`,
8 `vr`, 9 `vp`, 10 `vm`, 11 `e10`, 12 `vmIsTrailingZeros`, 13 `vrIsTrailingZeros`; in step 3 (`e2 >= 0`): 14 `q`, 15 `k`,
16 `i`, 17 `mul`; (`e2 < 0`): 14 `q`, 15 `i`, 16 `k`, 17 `j`, 18 `mul`; in step 4: 14 `removed`, 15 `lastRemovedDigit`,
16 `out`, then the loop temporaries (17 … 21) resp. 17 `roundUp` -/

/-- `4*m2` -/
abbrev eMv : E := E.bin AOp.mul (E.u 64 4) (E.var 3)
/-- `4*m2+2` -/
abbrev eMp : E := E.bin AOp.add (E.bin AOp.mul (E.u 64 4) (E.var 3)) (E.u 64 2)
/-- `4*m2-1-mmShift` -/
abbrev eMm : E := E.bin AOp.sub (E.bin AOp.sub (E.bin AOp.mul (E.u 64 4) (E.var 3)) (E.u 64 1)) (E.var 7)

/-- steps 1 and 2: `var e2 int32; var m2 uint64; if exp == 0 { … } else { … }; even := m2&1 == 0; acceptBounds := even;
mv := 4 * m2; mmShift := boolToUint64(mant != 0 || exp <= 1); var ( vr, vp, vm uint64; e10 int32; vmIsTrailingZeros,
vrIsTrailingZeros bool )` -/
def step12 : List S := [
  S.define 2 (E.i 32 0),
  S.define 3 (E.u 64 0),
  S.ite (E.cmp COp.eq (E.var 1) (E.u 64 0))
    (S.scope (S.block [S.assign 2 (E.i 32 (-1076)), S.assign 3 (E.var 0)]))
    (S.scope (S.block [
      S.assign 2 (E.bin AOp.sub (E.bin AOp.sub (E.bin AOp.sub (E.toI 32 (E.var 1)) (E.i 32 1023)) (E.i 32 52)) (E.i 32 2)),
      S.assign 3 (E.bin AOp.bor (E.shl (E.u 64 1) (E.u 64 52)) (E.var 0))])),
  S.define 4 (E.cmp COp.eq (E.bin AOp.band (E.var 3) (E.u 64 1)) (E.u 64 0)),
  S.define 5 (E.var 4),
  S.define 6 eMv,
  S.define 7 (E.call1 fBoolToUint64 (E.or (E.cmp COp.ne (E.var 0) (E.u 64 0)) (E.cmp COp.le (E.var 1) (E.u 64 1)))),
  S.define 8 (E.u 64 0),
  S.define 9 (E.u 64 0),
  S.define 10 (E.u 64 0),
  S.define 11 (E.i 32 0),
  S.define 12 (E.bool false),
  S.define 13 (E.bool false)]

/-- the flags of the branch `e2 >= 0`: `if q <= 21 { if mv%5 == 0 { … } else if acceptBounds { … } else if … { vp-- } }` -/
def posFlags : S :=
  S.ite (E.cmp COp.le (E.var 14) (E.u 32 21))
    (S.scope (S.block [
      S.ite (E.cmp COp.eq (E.bin AOp.mod (E.var 6) (E.u 64 5)) (E.u 64 0))
        (S.scope (S.block [S.assign 13 (E.call2 fMultipleOf5 (E.var 6) (E.var 14))]))
        (S.scope (S.block [
          S.ite (E.var 5)
            (S.scope (S.block [S.assign 12 (E.call2 fMultipleOf5 (E.bin AOp.sub (E.bin AOp.sub (E.var 6) (E.u 64 1)) (E.var 7)) (E.var 14))]))
            (S.scope (S.block [
              S.ite (E.call2 fMultipleOf5 (E.bin AOp.add (E.var 6) (E.u 64 2)) (E.var 14))
                (S.scope (S.block [S.assign 9 (E.bin AOp.sub (E.var 9) (E.u 64 1))]))
                (S.scope (S.block []))]))]))]))
    (S.scope (S.block []))

/-- step 3, `e2 >= 0` -/
def posPart : S := S.scope (S.block [
  S.define 14 (E.bin AOp.sub (E.call1 fLog10Pow2 (E.var 2)) (E.call1 fBoolToUint32 (E.cmp COp.gt (E.var 2) (E.i 32 3)))),
  S.assign 11 (E.toI 32 (E.var 14)),
  S.define 15 (E.bin AOp.sub (E.bin AOp.add (E.i 32 122) (E.call1 fPow5Bits (E.toI 32 (E.var 14)))) (E.i 32 1)),
  S.define 16 (E.bin AOp.add (E.bin AOp.add (E.neg (E.var 2)) (E.toI 32 (E.var 14))) (E.var 15)),
  S.define 17 (E.tbl Tbl.pow5InvSplit (E.var 14)),
  S.assign 8 (E.call3 fMulShift eMv (E.var 17) (E.var 16)),
  S.assign 9 (E.call3 fMulShift eMp (E.var 17) (E.var 16)),
  S.assign 10 (E.call3 fMulShift eMm (E.var 17) (E.var 16)),
  posFlags])

/-- the flags of the branch `e2 < 0`: `if q <= 1 { … } else if q < 63 { … }` -/
def negFlags : S :=
  S.ite (E.cmp COp.le (E.var 14) (E.u 32 1))
    (S.scope (S.block [
      S.assign 13 (E.bool true),
      S.ite (E.var 5)
        (S.scope (S.block [S.assign 12 (E.cmp COp.eq (E.var 7) (E.u 64 1))]))
        (S.scope (S.block [S.assign 9 (E.bin AOp.sub (E.var 9) (E.u 64 1))]))]))
    (S.scope (S.block [
      S.ite (E.cmp COp.lt (E.var 14) (E.u 32 63))
        (S.scope (S.block [S.assign 13 (E.call2 fMultipleOf2 (E.var 6) (E.bin AOp.sub (E.var 14) (E.u 32 1)))]))
        (S.scope (S.block []))]))

/-- step 3, `e2 < 0` -/
def negPart : S := S.scope (S.block [
  S.define 14 (E.bin AOp.sub (E.call1 fLog10Pow5 (E.neg (E.var 2))) (E.call1 fBoolToUint32 (E.cmp COp.gt (E.neg (E.var 2)) (E.i 32 1)))),
  S.assign 11 (E.bin AOp.add (E.toI 32 (E.var 14)) (E.var 2)),
  S.define 15 (E.bin AOp.sub (E.neg (E.var 2)) (E.toI 32 (E.var 14))),
  S.define 16 (E.bin AOp.sub (E.call1 fPow5Bits (E.var 15)) (E.i 32 121)),
  S.define 17 (E.bin AOp.sub (E.toI 32 (E.var 14)) (E.var 16)),
  S.define 18 (E.tbl Tbl.pow5Split (E.var 15)),
  S.assign 8 (E.call3 fMulShift eMv (E.var 18) (E.var 17)),
  S.assign 9 (E.call3 fMulShift eMp (E.var 18) (E.var 17)),
  S.assign 10 (E.call3 fMulShift eMm (E.var 18) (E.var 17)),
  negFlags])

/-- step 3: `if e2 >= 0 { … } else { … }` -/
def step3Stmt : S := S.ite (E.cmp COp.ge (E.var 2) (E.i 32 0)) posPart negPart

/-- `var removed int32; var lastRemovedDigit uint8; var out uint64` -/
def step4Decls : List S := [S.define 14 (E.i 32 0), S.define 15 (E.u 8 0), S.define 16 (E.u 64 0)]

/-- the body of the first loop of the general case -/
abbrev general1Body : S := S.scope (S.block [
  S.define 17 (E.bin AOp.div (E.var 9) (E.u 64 10)),
  S.define 18 (E.bin AOp.div (E.var 10) (E.u 64 10)),
  S.ite (E.cmp COp.le (E.var 17) (E.var 18)) (S.scope (S.block [S.brk])) (S.scope (S.block [])),
  S.define 19 (E.bin AOp.mod (E.var 10) (E.u 64 10)),
  S.define 20 (E.bin AOp.div (E.var 8) (E.u 64 10)),
  S.define 21 (E.bin AOp.mod (E.var 8) (E.u 64 10)),
  S.assign 12 (E.and (E.var 12) (E.cmp COp.eq (E.var 19) (E.u 64 0))),
  S.assign 13 (E.and (E.var 13) (E.cmp COp.eq (E.var 15) (E.u 8 0))),
  S.assign 15 (E.toU 8 (E.var 21)),
  S.assign 8 (E.var 20),
  S.assign 9 (E.var 17),
  S.assign 10 (E.var 18),
  S.assign 14 (E.bin AOp.add (E.var 14) (E.i 32 1))])

def general1 : S := S.for (S.block []) (E.bool true) (S.block []) general1Body

/-- the body of the second loop of the general case -/
abbrev general2Body : S := S.scope (S.block [
  S.define 17 (E.bin AOp.div (E.var 10) (E.u 64 10)),
  S.define 18 (E.bin AOp.mod (E.var 10) (E.u 64 10)),
  S.ite (E.cmp COp.ne (E.var 18) (E.u 64 0)) (S.scope (S.block [S.brk])) (S.scope (S.block [])),
  S.define 19 (E.bin AOp.div (E.var 9) (E.u 64 10)),
  S.define 20 (E.bin AOp.div (E.var 8) (E.u 64 10)),
  S.define 21 (E.bin AOp.mod (E.var 8) (E.u 64 10)),
  S.assign 13 (E.and (E.var 13) (E.cmp COp.eq (E.var 15) (E.u 8 0))),
  S.assign 15 (E.toU 8 (E.var 21)),
  S.assign 8 (E.var 20),
  S.assign 9 (E.var 19),
  S.assign 10 (E.var 17),
  S.assign 14 (E.bin AOp.add (E.var 14) (E.i 32 1))])

def general2 : S := S.for (S.block []) (E.bool true) (S.block []) general2Body

/-- the end of the general case: the tie rule and the final rounding -/
def generalFinish : List S := [
  S.ite (E.and (E.and (E.var 13) (E.cmp COp.eq (E.var 15) (E.u 8 5))) (E.cmp COp.eq (E.bin AOp.mod (E.var 8) (E.u 64 2)) (E.u 64 0)))
    (S.scope (S.block [S.assign 15 (E.u 8 4)])) (S.scope (S.block [])),
  S.assign 16 (E.var 8),
  S.ite (E.or (E.and (E.cmp COp.eq (E.var 8) (E.var 10)) (E.or (E.not (E.var 5)) (E.not (E.var 12)))) (E.cmp COp.ge (E.var 15) (E.u 8 5)))
    (S.scope (S.block [S.assign 16 (E.bin AOp.add (E.var 16) (E.u 64 1))])) (S.scope (S.block []))]

/-- step 4, general case -/
def generalPart : S := S.scope (S.block ([
  general1,
  S.ite (E.var 12) (S.scope (S.block [general2])) (S.scope (S.block []))] ++ generalFinish))

/-- `for vp/100 > vm/100 { … }` -/
abbrev common100Cond : E := E.cmp COp.gt (E.bin AOp.div (E.var 9) (E.u 64 100)) (E.bin AOp.div (E.var 10) (E.u 64 100))
abbrev common100Body : S := S.scope (S.block [
  S.assign 17 (E.cmp COp.ge (E.bin AOp.mod (E.var 8) (E.u 64 100)) (E.u 64 50)),
  S.assign 8 (E.bin AOp.div (E.var 8) (E.u 64 100)),
  S.assign 9 (E.bin AOp.div (E.var 9) (E.u 64 100)),
  S.assign 10 (E.bin AOp.div (E.var 10) (E.u 64 100)),
  S.assign 14 (E.bin AOp.add (E.var 14) (E.i 32 2))])
def common100 : S := S.for (S.block []) common100Cond (S.block []) common100Body

/-- `for vp/10 > vm/10 { … }` -/
abbrev common10Cond : E := E.cmp COp.gt (E.bin AOp.div (E.var 9) (E.u 64 10)) (E.bin AOp.div (E.var 10) (E.u 64 10))
abbrev common10Body : S := S.scope (S.block [
  S.assign 17 (E.cmp COp.ge (E.bin AOp.mod (E.var 8) (E.u 64 10)) (E.u 64 5)),
  S.assign 8 (E.bin AOp.div (E.var 8) (E.u 64 10)),
  S.assign 9 (E.bin AOp.div (E.var 9) (E.u 64 10)),
  S.assign 10 (E.bin AOp.div (E.var 10) (E.u 64 10)),
  S.assign 14 (E.bin AOp.add (E.var 14) (E.i 32 1))])
def common10 : S := S.for (S.block []) common10Cond (S.block []) common10Body

/-- step 4, common case -/
def commonPart : S := S.scope (S.block [
  S.define 17 (E.bool false),
  common100,
  common10,
  S.assign 16 (E.bin AOp.add (E.var 8) (E.call1 fBoolToUint64 (E.or (E.cmp COp.eq (E.var 8) (E.var 10)) (E.var 17))))])

/-- step 4: `if vmIsTrailingZeros || vrIsTrailingZeros { … } else { … }` -/
def step4Stmt : S := S.ite (E.or (E.var 12) (E.var 13)) generalPart commonPart

/-- `return dec64{m: out, e: e10 + removed}` -/
def retStmt : S := S.ret (E.mk2 (E.var 16) (E.bin AOp.add (E.var 11) (E.var 14)))

def fnToDecimal : Fn := { params := 2, body := S.block (step12 ++ [step3Stmt] ++ step4Decls ++ [step4Stmt, retStmt]) }

/-! ## `decimalLen64` — 0 `u`, 1 `log2`, 2 `t` -/

def fnDecimalLen : Fn := { params := 1, body := S.block [
  S.define 1 (E.bin AOp.sub (E.bin AOp.sub (E.i 64 64) (E.lz64 (E.var 0))) (E.i 64 1)),
  S.define 2 (E.shr (E.bin AOp.mul (E.bin AOp.add (E.var 1) (E.i 64 1)) (E.i 64 1233)) (E.u 64 12)),
  S.ret (E.bin AOp.add (E.bin AOp.sub (E.var 2) (E.call1 fBoolToInt (E.cmp COp.lt (E.var 0) (E.tbl Tbl.pow10 (E.var 2))))) (E.i 64 1))] }

/-! ## the helpers -/

def fnBoolToUint64 : Fn := { params := 1, body := S.block [
  S.ite (E.var 0) (S.scope (S.block [S.ret (E.u 64 1)])) (S.scope (S.block [])), S.ret (E.u 64 0)] }

def fnBoolToUint32 : Fn := { params := 1, body := S.block [
  S.ite (E.var 0) (S.scope (S.block [S.ret (E.u 32 1)])) (S.scope (S.block [])), S.ret (E.u 32 0)] }

def fnBoolToInt : Fn := { params := 1, body := S.block [
  S.ite (E.var 0) (S.scope (S.block [S.ret (E.i 64 1)])) (S.scope (S.block [])), S.ret (E.i 64 0)] }

def fnLog10Pow2 : Fn := { params := 1, body := S.block [
  S.assert (E.cmp COp.ge (E.var 0) (E.i 32 0)),
  S.assert (E.cmp COp.le (E.var 0) (E.i 32 1650)),
  S.ret (E.shr (E.bin AOp.mul (E.toU 32 (E.var 0)) (E.u 32 78913)) (E.u 64 18))] }

def fnLog10Pow5 : Fn := { params := 1, body := S.block [
  S.assert (E.cmp COp.ge (E.var 0) (E.i 32 0)),
  S.assert (E.cmp COp.le (E.var 0) (E.i 32 2620)),
  S.ret (E.shr (E.bin AOp.mul (E.toU 32 (E.var 0)) (E.u 32 732923)) (E.u 64 20))] }

def fnPow5Bits : Fn := { params := 1, body := S.block [
  S.assert (E.cmp COp.ge (E.var 0) (E.i 32 0)),
  S.assert (E.cmp COp.le (E.var 0) (E.i 32 3528)),
  S.ret (E.toI 32 (E.bin AOp.add (E.shr (E.bin AOp.mul (E.toU 32 (E.var 0)) (E.u 32 1217359)) (E.u 64 19)) (E.u 32 1)))] }

/-- `mulShift64` — 0 `m`, 1 `mul`, 2 `shift`, 3 `hihi`, 4 `hilo`, 5 `lohi`, 6 `sum` -/
def fnMulShift : Fn := { params := 3, body := S.block [
  S.define2 (some 3) (some 4) (E.mul64 (E.var 0) (E.field (E.var 1) 1)),
  S.define2 (some 5) none (E.mul64 (E.var 0) (E.field (E.var 1) 0)),
  S.define 6 (E.mk2 (E.bin AOp.add (E.var 5) (E.var 4)) (E.var 3)),
  S.ite (E.cmp COp.lt (E.field (E.var 6) 0) (E.var 5))
    (S.scope (S.block [S.setField 6 1 (E.bin AOp.add (E.field (E.var 6) 1) (E.u 64 1))])) (S.scope (S.block [])),
  S.ret (E.call2 fShiftRight128 (E.var 6) (E.bin AOp.sub (E.var 2) (E.i 32 64)))] }

/-- `shiftRight128` — 0 `v`, 1 `shift` -/
def fnShiftRight128 : Fn := { params := 2, body := S.block [
  S.assert (E.cmp COp.lt (E.var 1) (E.i 32 64)),
  S.ret (E.bin AOp.bor (E.shl (E.field (E.var 0) 1) (E.toU 64 (E.bin AOp.sub (E.i 32 64) (E.var 1))))
    (E.shr (E.field (E.var 0) 0) (E.toU 64 (E.var 1))))] }

def fnMultipleOf5 : Fn := { params := 2, body := S.block [S.ret (E.cmp COp.ge (E.call1 fPow5Factor (E.var 0)) (E.var 1))] }

def fnMultipleOf2 : Fn := { params := 2, body := S.block [S.ret (E.cmp COp.ge (E.toU 32 (E.tz64 (E.var 0))) (E.var 1))] }

/-- the body of the loop of `pow5Factor64` — 0 `v`, 1 `n`, 2 `q`, 3 `r` -/
abbrev pow5Body : S := S.scope (S.block [
  S.define 2 (E.bin AOp.div (E.var 0) (E.u 64 5)),
  S.define 3 (E.bin AOp.mod (E.var 0) (E.u 64 5)),
  S.ite (E.cmp COp.ne (E.var 3) (E.u 64 0)) (S.scope (S.block [S.ret (E.var 1)])) (S.scope (S.block [])),
  S.assign 0 (E.var 2)])

/-- `n++` -/
abbrev pow5Post : S := S.block [S.assign 1 (E.bin AOp.add (E.var 1) (E.u 32 1))]

def fnPow5Factor : Fn := { params := 1, body := S.block [
  S.for (S.block [S.define 1 (E.u 32 0)]) (E.bool true) pow5Post pow5Body] }

/-! ## the digit layout: `AppendFloat64f`, `appendSpecialf`, `dec64.appendF`, `sizeSlice`

The `append`s are numbered in the order of the translation: 0 … 4 in `appendSpecialf`, 5 the sign and 6 the `"0."` of `appendF`,
7 the one of `sizeSlice`. -/

/-- `AppendFloat64f` — 0 `b`, 1 `f`, 2 `u`, 3 `neg`, 4 `mant`, 5 `exp`, 6 `d`, 7 `ok` -/
def fnAppendFloat : Fn := { params := 2, body := S.block [
  S.define 2 (E.f64bits (E.var 1)),
  S.define 3 (E.cmp COp.ne (E.shr (E.var 2) (E.u 64 63)) (E.u 64 0)),
  S.define 4 (E.bin AOp.band (E.var 2) (E.bin AOp.sub (E.shl (E.u 64 1) (E.u 64 52)) (E.u 64 1))),
  S.define 5 (E.bin AOp.band (E.shr (E.var 2) (E.u 64 52)) (E.bin AOp.sub (E.shl (E.u 64 1) (E.u 64 11)) (E.u 64 1))),
  S.ite (E.or (E.cmp COp.eq (E.var 5) (E.bin AOp.sub (E.shl (E.u 64 1) (E.u 64 11)) (E.u 64 1)))
      (E.and (E.cmp COp.eq (E.var 5) (E.u 64 0)) (E.cmp COp.eq (E.var 4) (E.u 64 0))))
    (S.scope (S.block [S.ret (E.call4 fAppendSpecial (E.var 0) (E.var 3) (E.cmp COp.eq (E.var 5) (E.u 64 0)) (E.cmp COp.eq (E.var 4) (E.u 64 0)))]))
    (S.scope (S.block [])),
  S.define2 (some 6) (some 7) (E.call2 fExactInt (E.var 4) (E.var 5)),
  S.ite (E.not (E.var 7)) (S.scope (S.block [S.assign 6 (E.call2 fToDecimal (E.var 4) (E.var 5))])) (S.scope (S.block [])),
  S.ret (E.call3 fAppendF (E.var 6) (E.var 0) (E.var 3))] }

/-- `appendSpecialf` — 0 `b`, 1 `neg`, 2 `expZero`, 3 `mantZero` -/
def fnAppendSpecial : Fn := { params := 4, body := S.block [
  S.ite (E.not (E.var 3)) (S.scope (S.block [S.ret (E.appendS 0 (E.var 0) (E.str [78, 97, 78]))])) (S.scope (S.block [])),
  S.ite (E.not (E.var 2))
    (S.scope (S.block [S.ite (E.var 1)
      (S.scope (S.block [S.ret (E.appendS 1 (E.var 0) (E.str [45, 73, 110, 102]))]))
      (S.scope (S.block [S.ret (E.appendS 2 (E.var 0) (E.str [43, 73, 110, 102]))]))]))
    (S.scope (S.block [])),
  S.ite (E.var 1) (S.scope (S.block [S.assign 0 (E.append1 3 (E.var 0) (E.u 8 45))])) (S.scope (S.block [])),
  S.ret (E.append1 4 (E.var 0) (E.u 8 48))] }

/-- `b[i] = '0' + byte(out%10); out /= 10` (the slice is variable `v`) -/
abbrev digitStmts (v i : Var) : List S := [
  S.setIndex v (E.var i) (E.bin AOp.add (E.u 8 48) (E.toU 8 (E.bin AOp.mod (E.var 3) (E.u 64 10)))),
  S.assign 3 (E.bin AOp.div (E.var 3) (E.u 64 10))]

/-- the layout `// XYZ` (`dE >= 0`) — 6 `n`, 7 `i` -/
def layoutIntPart : S := S.scope (S.block [
  S.define 6 (E.len (E.var 1)),
  S.assign 1 (E.call2 fSizeSlice (E.var 1) (E.bin AOp.add (E.var 5) (E.var 4))),
  S.for (S.block [S.define 7 (E.var 6)]) (E.cmp COp.lt (E.var 7) (E.bin AOp.add (E.var 5) (E.var 6)))
    (S.block [S.assign 7 (E.bin AOp.add (E.var 7) (E.i 64 1))])
    (S.scope (S.block [S.setIndex 1 (E.bin AOp.add (E.var 4) (E.var 7)) (E.u 8 48)])),
  S.for (S.block [S.define 7 (E.bin AOp.sub (E.bin AOp.add (E.var 6) (E.var 4)) (E.i 64 1))]) (E.cmp COp.ge (E.var 7) (E.var 6))
    (S.block [S.assign 7 (E.bin AOp.sub (E.var 7) (E.i 64 1))])
    (S.scope (S.block (digitStmts 1 7))),
  S.ret (E.var 1)])

/-- the layout `// 0.XYZ` (`ePos >= outLen`) — 7 `b` (the shadowing `b := append(…)`), 8 `n`, 9 `i` -/
def layoutFracPart : S := S.scope (S.block [
  S.define 7 (E.appendS 6 (E.var 1) (E.str [48, 46])),
  S.define 8 (E.len (E.var 7)),
  S.assign 7 (E.call2 fSizeSlice (E.var 7) (E.var 6)),
  S.for (S.block [S.define 9 (E.bin AOp.sub (E.bin AOp.add (E.var 8) (E.var 6)) (E.i 64 1))]) (E.cmp COp.ge (E.var 9) (E.var 8))
    (S.block [S.assign 9 (E.bin AOp.sub (E.var 9) (E.i 64 1))])
    (S.scope (S.block (digitStmts 7 9))),
  S.ret (E.var 7)])

/-- the layout `// Y.XZ` — 7 `n`, 8 `i`, 9 `end` -/
def layoutMixedPart : List S := [
  S.assign 1 (E.call2 fSizeSlice (E.var 1) (E.bin AOp.add (E.var 4) (E.i 64 1))),
  S.define 7 (E.len (E.var 1)),
  S.define 8 (E.bin AOp.sub (E.var 7) (E.i 64 1)),
  S.define 9 (E.bin AOp.sub (E.var 8) (E.var 4)),
  S.for (S.block []) (E.cmp COp.gt (E.var 6) (E.i 64 0)) (S.block [S.assign 8 (E.bin AOp.sub (E.var 8) (E.i 64 1))])
    (S.scope (S.block (digitStmts 1 8 ++ [S.assign 6 (E.bin AOp.sub (E.var 6) (E.i 64 1))]))),
  S.setIndex 1 (E.var 8) (E.u 8 46),
  S.assign 8 (E.bin AOp.sub (E.var 8) (E.i 64 1)),
  S.for (S.block []) (E.cmp COp.ge (E.var 8) (E.var 9)) (S.block [S.assign 8 (E.bin AOp.sub (E.var 8) (E.i 64 1))])
    (S.scope (S.block (digitStmts 1 8))),
  S.ret (E.var 1)]

/-- `dec64.appendF` — 0 `d`, 1 `b`, 2 `neg`, 3 `out`, 4 `outLen`, 5 `dE`, 6 `ePos` -/
def fnAppendF : Fn := { params := 3, body := S.block ([
  S.ite (E.var 2) (S.scope (S.block [S.assign 1 (E.append1 5 (E.var 1) (E.u 8 45))])) (S.scope (S.block [])),
  S.define 3 (E.field (E.var 0) 0),
  S.define 4 (E.call1 fDecimalLen (E.var 3)),
  S.define 5 (E.toI 64 (E.field (E.var 0) 1)),
  S.ite (E.cmp COp.ge (E.var 5) (E.i 64 0)) layoutIntPart (S.scope (S.block [])),
  S.define 6 (E.neg (E.var 5)),
  S.ite (E.cmp COp.ge (E.var 6) (E.var 4)) layoutFracPart (S.scope (S.block []))] ++ layoutMixedPart) }

/-- `sizeSlice` — 0 `b`, 1 `bufLen` -/
def fnSizeSlice : Fn := { params := 2, body := S.block [
  S.ite (E.cmp COp.ge (E.bin AOp.sub (E.cap (E.var 0)) (E.len (E.var 0))) (E.var 1))
    (S.scope (S.block [S.ret (E.sliceTo (E.var 0) (E.bin AOp.add (E.len (E.var 0)) (E.var 1)))])) (S.scope (S.block [])),
  S.ret (E.appendS 7 (E.var 0) (E.makeBytes (E.var 1)))] }

def canonFns : List (FnId × Fn) := [
  (fExactInt, fnExactInt),
  (fToDecimal, fnToDecimal),
  (fDecimalLen, fnDecimalLen),
  (fAppendFloat, fnAppendFloat),
  (fBoolToUint64, fnBoolToUint64),
  (fLog10Pow2, fnLog10Pow2),
  (fBoolToUint32, fnBoolToUint32),
  (fPow5Bits, fnPow5Bits),
  (fMulShift, fnMulShift),
  (fMultipleOf5, fnMultipleOf5),
  (fLog10Pow5, fnLog10Pow5),
  (fMultipleOf2, fnMultipleOf2),
  (fBoolToInt, fnBoolToInt),
  (fAppendSpecial, fnAppendSpecial),
  (fAppendF, fnAppendF),
  (fShiftRight128, fnShiftRight128),
  (fPow5Factor, fnPow5Factor),
  (fSizeSlice, fnSizeSlice)]

/-- `powersOf10` -/
def canonPow10 : List Nat := [1, 10, 100, 1000, 10000, 100000, 1000000, 10000000, 100000000, 1000000000,
  10000000000, 100000000000, 1000000000000, 10000000000000, 100000000000000, 1000000000000000,
  10000000000000000, 100000000000000000]

/-- nothing in today's Ryu core was left untranslated -/
theorem gen_ryu_no_opaque : ∀ p ∈ Gen.ryuFns, p.2.body.hasOpaque = false := by decide

/-- today's extraction is the canonical translation -/
theorem gen_ryu_canon : Gen.ryuFns = canonFns ∧ Gen.ryuPow10 = canonPow10 := ⟨rfl, rfl⟩

end QF.Props.C16RyuGen
