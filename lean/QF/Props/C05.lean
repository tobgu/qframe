import QF.Props.Tie
/-! # C05 -/
namespace QF.Props.C05

-- No function of this property is tied by its source text (the list below is empty). Each is regenerated on every run and a
-- behaviour-changing edit makes a `gen_*_canon` theorem fail (checked by bin/selftest-ties); renaming locals or reformatting changes nothing.
-- `grouper.Distinct`, `groupIndex`, `table.insertEntry`, `table.grow`: `Gen.grouperFns` (grpast.go), `C04GrouperGen.gen_grouper_canon` (module C04GrouperCanon) +
-- `C04GrouperGen.gen_grouper_semantics`, `C04GrouperGen.gen_distinct_spec` (module C05DistinctGen).
-- `QFrame.Distinct`: its guard in `Gen.guardAst2` (`C10Guards.gen_distinct_semantics`), the comparables it hands to the grouper in `Gen.distinctCmpsAst`
-- (`C04GlueGen.gen_distinct_cmps_semantics`, `C04GlueLink.gen_distinct_rows`), the new index in `Gen.projectAst` (C08ProjectGen).
-- The helpers `QFrame.comparables` / `QFrame.orders` that build the key comparables: `Gen.comparablesAst` / `Gen.ordersAst` (sortgast.go), statement by statement,
-- `C03SortGlueGen.gen_comparables_semantics` / `gen_comparables_of_names` (one comparable per named column, in order, the SAME Null flag for all).
theorem tie : Tie.sameAll [] = true := by decide

end QF.Props.C05
