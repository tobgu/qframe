import QF.Gen.GrouperFns
/-!
# C01 / C11 — `writesOnlyFresh` for the language of the grouper's hash table (`QF.GL`)

Same construction as `QF.Props.C01FreshCL` (read its header first), for `newTable`, `grow`, `hash`, `insertEntry`,
`equals`, `groupIndex`, `GroupBy`, `Distinct` of /repo/internal/grouper.

The interpreter (QF/Core/GLExpr.lean) computes on values; the Go code stores into: the entry array of the table
(`S.setAt`, `S.setPtrField` through a `*tableEntry`), the table struct behind its pointer (`S.setField`, `S.incrField`,
`S.callMut`: a method with a pointer receiver), and the arrays `append` writes (`E.snoc`: an entry's `ix`, the result rows,
the group list). All of them must be objects MADE IN THIS RUN — or the receiver of a mutating method, which is the table
the CALLER made and owns (`M`: the functions called by `S.callMut`; their variable 0 is "a by-state table owned by the
call"; `okF` checks at every call site that the receiver handed over is fresh, and that a function of `M` is never called
in another way).

* `fresh N τ e` — DEEP provenance: nothing that can be written through the value of `e` existed before this run.
  `make`, literals, numbers; a field / element / dereference of a fresh object (`t.entries`, `p.ix`, `a[i]`, `*p`,
  `&t.entries[i]`) is fresh; the `comparables` field never; `append(l, x)` of fresh `l`, `x`; `&table{entries: es, …}` of
  fresh `es`; a call of a function of `N`.
* storing a value into a fresh object keeps it deep-fresh only if the value is fresh: `okF` demands it (`setAt`, `setField`,
  `setPtrField`, `append`).
* `tagExec` — the ghost run along the actual run of `S.exec` (dynamic tags, count of bad stores); **`tagExec_sound`**
  (a term that passes `okF` has count 0; `fresh`, `M`, `N` are trusted as in C01FreshCL); `runFn_writes_only_fresh`;
  `gen_grouper_writes_only_fresh` (today's `QF.Gen.grouperFns`, by `decide`).
* result provenance (`gen_grouper_result_provenance`): `groupIndex` returns the entry array of its own table and a copy of
  the statistics; `GroupBy` a NEW group list whose groups are the `ix` arrays the table built (`index.Int{first, i}` +
  `append`) or `index.Int{firstPos}`; `Distinct` a NEW row array. The index argument `ix` is only ranged over.
* witnesses: `distinctInPlace` (`result := ix[:0]`-style: the result rows are `append`ed onto the caller's index),
  `groupByIntoCallerIx` (a group starts as the caller's index slice and is appended to).
-/
set_option linter.unusedVariables false
namespace QF.Props.C01FreshGL
open QF.GL

/-- a field whose type is a slice (by its role) -/
def arrFld (f : Fld) : Bool := f == .entries || f == .ix || f == .comparables
/-- does `v.f₁.….fₙ` have a slice type? (the last field decides; the empty path is the variable itself) -/
def pathArr (p : List Fld) : Bool :=
  match p.getLast? with
  | some f => arrFld f
  | none => true
/-- an expression of type `index.Int` by its head: its elements are row numbers -/
def rowsTyped : E → Bool
  | .field _ .ix | .makeRows _ | .rows1 _ | .rows2 _ _ | .nilRows => true
  | _ => false

def fresh (N : FnId → Bool) (τ : Var → Bool) : E → Bool
  | .var v => τ v
  | .field e f => if f = .entries ∨ f = .ix then fresh N τ e else (f != .comparables)
  | .deref e => fresh N τ e
  | .addrEntry t _ => τ t
  | .at a _ => fresh N τ a
  | .makeEntries _ | .makeRows _ | .makeGroups _ | .rows1 _ | .rows2 _ _ | .nilPtr | .nilRows => true
  | .snoc l x => fresh N τ l && (rowsTyped l || fresh N τ x)
  | .mkTable es _ _ => fresh N τ es
  | .pair a b => fresh N τ a && fresh N τ b
  | .call1 f _ | .call2 f _ _ | .call3 f _ _ _ => N f
  | .opaque _ => false
  | _ => true

/-- every `append` inside `e` goes onto a fresh array and appends a fresh value; no mutating method is called as a function -/
def okE (M N : FnId → Bool) (τ : Var → Bool) : E → Bool
  | .snoc l x => fresh N τ l && (rowsTyped l || fresh N τ x) && okE M N τ l && okE M N τ x
  | .call1 f a => !M f && okE M N τ a
  | .call2 f a b => !M f && okE M N τ a && okE M N τ b
  | .call3 f a b c => !M f && okE M N τ a && okE M N τ b && okE M N τ c
  | .field e _ | .deref e | .addrEntry _ e | .isNil e | .not e | .toU32 e | .toU64 e | .toInt e | .toFloat e | .len e
  | .makeEntries e | .makeRows e | .makeGroups e | .rows1 e | .bitLen64 e | .pow2 e => okE M N τ e
  | .and a b | .or a b | .cmp _ a b | .bin _ a b | .at a b | .rows2 a b | .pair a b => okE M N τ a && okE M N τ b
  | .cmpHash a b c | .cmpCompare a b c | .mkTable a b c => okE M N τ a && okE M N τ b && okE M N τ c
  | .opaque _ => false
  | _ => true

def badE (M N : FnId → Bool) (τ : Var → Bool) (e : E) : Nat := if okE M N τ e then 0 else 1

def inF (F : List Var) (v : Var) : Bool := F.contains v
def notF (F : List Var) : Option Var → Bool
  | some v => !inF F v
  | none => true
/-- a binder of `F` gets a fresh value -/
def bindOK (F : List Var) (b : Bool) : Option Var → Bool
  | some v => !inF F v || b
  | none => true

def okF (M N : FnId → Bool) (F : List Var) : S → Bool
  | .skip => true
  | .brk => true
  | .seq a b => okF M N F a && okF M N F b
  | .define v e | .assign v e => okE M N (inF F) e && (!inF F v || fresh N (inF F) e)
  | .define2 v w e => okE M N (inF F) e && (!inF F v || fresh N (inF F) e) && (!inF F w || fresh N (inF F) e)
  | .setField v p e => inF F v && (!pathArr p || fresh N (inF F) e) && okE M N (inF F) e
  | .incrField v _ => inF F v
  | .setPtrField p f e => inF F p && (!arrFld f || fresh N (inF F) e) && okE M N (inF F) e
  | .setAt a i e => inF F a && fresh N (inF F) e && okE M N (inF F) i && okE M N (inF F) e
  | .ite c t e => okE M N (inF F) c && okF M N F t && okF M N F e
  | .range xs k v b => okE M N (inF F) xs && notF F k && bindOK F (fresh N (inF F) xs) v && okF M N F b
  | .for i c p b => okF M N F i && okE M N (inF F) c && okF M N F p && okF M N F b
  | .callMut f r args => M f && inF F r && args.all (okE M N (inF F))
  | .ret e => okE M N (inF F) e
  | .opaque _ => false

/-- the variables with a binding that is fresh under `τ` -/
def cands (N : FnId → Bool) (τ : Var → Bool) : S → List Var
  | .define v e | .assign v e => if fresh N τ e then [v] else []
  | .define2 v w e => if fresh N τ e then [v, w] else []
  | .seq a b => cands N τ a ++ cands N τ b
  | .ite _ t e => cands N τ t ++ cands N τ e
  | .range xs _ v b => (match v with | some v => if fresh N τ xs then [v] else [] | none => []) ++ cands N τ b
  | .for i _ p b => cands N τ i ++ cands N τ p ++ cands N τ b
  | _ => []

def rets : S → List E
  | .ret e => [e]
  | .seq a b => rets a ++ rets b
  | .ite _ t e => rets t ++ rets e
  | .range _ _ _ b => rets b
  | .for i _ p b => rets i ++ rets p ++ rets b
  | _ => []

/-- the targets of `v.m(args)` statements -/
def muts : S → List FnId
  | .callMut f _ _ => [f]
  | .seq a b => muts a ++ muts b
  | .ite _ t e => muts t ++ muts e
  | .range _ _ _ b => muts b
  | .for i _ p b => muts i ++ muts p ++ muts b
  | _ => []

/-- the methods of a unit that are called with a pointer receiver they write through -/
def mutFns (P : List (FnId × Fn)) (f : FnId) : Bool := P.any fun p => (muts p.2.body).contains f

/-- the tags a run starts with: parameters shared — except the receiver of a mutating method, which the caller owns —,
locals not bound yet hold nothing -/
def tags0 (owned : Bool) (params : Nat) : Var → Bool := fun v => decide (params ≤ v) || (owned && v == 0)

/-- the candidate set of a function: three rounds of "has a fresh binding" from the owned receiver. A binding can be fresh
only because an earlier candidate is (`es := t.entries` needs `t`, `p := &es[i]` needs `es`), so one round is not enough;
three is a fixed bound, not a fixpoint — on today's functions the second round already gives the set the third returns. -/
def fnF (N : FnId → Bool) (owned : Bool) (fn : Fn) : List Var :=
  let base : Var → Bool := fun v => owned && v == 0
  let F1 := cands N base fn.body
  let F2 := cands N (fun v => base v || inF F1 v) fn.body
  let F3 := cands N (fun v => base v || inF F2 v) fn.body
  (if owned then [0] else []) ++ F3

/-- **The static check on a function** (`owned`: it is a mutating method, variable 0 is the caller's own table). -/
def writesOnlyFresh (M N : FnId → Bool) (owned : Bool) (fn : Fn) : Bool :=
  okF M N (fnF N owned fn) fn.body && (fnF N owned fn).all (fun v => tags0 owned fn.params v)

/-- one round of "every `return` is fresh", callees judged by `N` -/
def newFns (P : List (FnId × Fn)) (M N : FnId → Bool) (f : FnId) : Bool :=
  match P.lookup f with
  | some fn => (rets fn.body).all (fresh N (inF (fnF N (M f) fn)))
  | none => false

/-! ## The ghost run -/

abbrev Tags := Var → Bool
def tset (τ : Tags) (v : Var) (b : Bool) : Tags := fun w => if w = v then b else τ w
def tsetOpt (τ : Tags) (v : Option Var) (b : Bool) : Tags :=
  match v with
  | some v => tset τ v b
  | none => τ

def tagLoop (step : Val → Nat → Store → Out) (tstep : Val → Nat → Store → Tags → Tags × Nat) :
    List Val → Nat → Store → Tags → Tags × Nat
  | [], _, _, τ => (τ, 0)
  | x :: xs, i, σ, τ =>
    match step x i σ with
    | .next σ' => ((tagLoop step tstep xs (i + 1) σ' (tstep x i σ τ).1).1,
                   (tstep x i σ τ).2 + (tagLoop step tstep xs (i + 1) σ' (tstep x i σ τ).1).2)
    | _ => tstep x i σ τ

def tagFor (cond : Store → Option Bool) (body post : Store → Out) (tcond : Tags → Nat)
    (tbody tpost : Store → Tags → Tags × Nat) : Nat → Store → Tags → Tags × Nat
  | 0, _, τ => (τ, 0)
  | fuel + 1, σ, τ =>
    match cond σ with
    | some true =>
      (match body σ with
       | .next σ' =>
         (match post σ' with
          | .next σ'' =>
            ((tagFor cond body post tcond tbody tpost fuel σ'' (tpost σ' (tbody σ τ).1).1).1,
             tcond τ + (tbody σ τ).2 + (tpost σ' (tbody σ τ).1).2 +
               (tagFor cond body post tcond tbody tpost fuel σ'' (tpost σ' (tbody σ τ).1).1).2)
          | _ => ((tpost σ' (tbody σ τ).1).1, tcond τ + (tbody σ τ).2 + (tpost σ' (tbody σ τ).1).2))
       | _ => ((tbody σ τ).1, tcond τ + (tbody σ τ).2))
    | _ => (τ, tcond τ)

def tbindKV (k v : Option Var) (b : Bool) (τ : Tags) : Tags := tsetOpt (tsetOpt τ k false) v b

def badArgs (M N : FnId → Bool) (τ : Tags) (args : List E) : Nat := if args.all (okE M N τ) then 0 else 1

/-- **The ghost run** along `S.exec Γ s σ`: dynamic tags, and the number of stores executed on / of something not fresh. -/
def tagExec (Γ : Env) (M N : FnId → Bool) : S → Store → Tags → Tags × Nat
  | .skip, _, τ => (τ, 0)
  | .brk, _, τ => (τ, 0)
  | .seq a b, σ, τ =>
    match a.exec Γ σ with
    | .next σ' => ((tagExec Γ M N b σ' (tagExec Γ M N a σ τ).1).1,
                   (tagExec Γ M N a σ τ).2 + (tagExec Γ M N b σ' (tagExec Γ M N a σ τ).1).2)
    | _ => tagExec Γ M N a σ τ
  | .define v e, _, τ => (tset τ v (fresh N τ e), badE M N τ e)
  | .assign v e, _, τ => (tset τ v (fresh N τ e), badE M N τ e)
  | .define2 v w e, _, τ => (tset (tset τ v (fresh N τ e)) w (fresh N τ e), badE M N τ e)
  | .setField v p e, _, τ => (τ, (if τ v && (!pathArr p || fresh N τ e) then 0 else 1) + badE M N τ e)
  | .incrField v _, _, τ => (τ, if τ v then 0 else 1)
  | .setPtrField p f e, _, τ => (τ, (if τ p && (!arrFld f || fresh N τ e) then 0 else 1) + badE M N τ e)
  | .setAt a i e, _, τ => (τ, (if τ a && fresh N τ e then 0 else 1) + badE M N τ i + badE M N τ e)
  | .ite c t e, σ, τ =>
    match c.eval Γ σ with
    | some (.bool true) => ((tagExec Γ M N t σ τ).1, badE M N τ c + (tagExec Γ M N t σ τ).2)
    | some (.bool false) => ((tagExec Γ M N e σ τ).1, badE M N τ c + (tagExec Γ M N e σ τ).2)
    | _ => (τ, badE M N τ c)
  | .range xs k v body, σ, τ =>
    match xs.eval Γ σ with
    | some x =>
      (match x.elems with
       | some l =>
         ((tagLoop (fun y i σ' => body.exec Γ (bindKV k v i y σ'))
            (fun y i σ' τ' => tagExec Γ M N body (bindKV k v i y σ') (tbindKV k v (fresh N τ xs) τ')) l 0 σ τ).1,
          badE M N τ xs + (tagLoop (fun y i σ' => body.exec Γ (bindKV k v i y σ'))
            (fun y i σ' τ' => tagExec Γ M N body (bindKV k v i y σ') (tbindKV k v (fresh N τ xs) τ')) l 0 σ τ).2)
       | none => (τ, badE M N τ xs))
    | none => (τ, badE M N τ xs)
  | .for init cond post body, σ, τ =>
    match init.exec Γ σ with
    | .next σ' =>
      ((tagFor (fun s => asBool (cond.eval Γ s)) (fun s => body.exec Γ s) (fun s => post.exec Γ s) (fun t => badE M N t cond)
          (fun s t => tagExec Γ M N body s t) (fun s t => tagExec Γ M N post s t) Γ.fuel σ' (tagExec Γ M N init σ τ).1).1,
       (tagExec Γ M N init σ τ).2 +
        (tagFor (fun s => asBool (cond.eval Γ s)) (fun s => body.exec Γ s) (fun s => post.exec Γ s) (fun t => badE M N t cond)
          (fun s t => tagExec Γ M N body s t) (fun s t => tagExec Γ M N post s t) Γ.fuel σ' (tagExec Γ M N init σ τ).1).2)
    | _ => tagExec Γ M N init σ τ
  | .callMut f r args, _, τ => (τ, (if M f && τ r then 0 else 1) + badArgs M N τ args)
  | .ret e, _, τ => (τ, badE M N τ e)
  | .opaque _, _, τ => (τ, 1)

/-! ## Soundness -/

def Inv (F : List Var) (τ : Tags) : Prop := ∀ v, inF F v = true → τ v = true

theorem or_mono {a b b' : Bool} (hb : b = true → b' = true) (h : (a || b) = true) : (a || b') = true := by
  cases a
  · exact hb h
  · rfl

theorem and_mono {a a' b b' : Bool} (ha : a = true → a' = true) (hb : b = true → b' = true) (h : (a && b) = true) :
    (a' && b') = true := by
  rw [Bool.and_eq_true] at h ⊢
  exact ⟨ha h.1, hb h.2⟩

/-- provenance is monotone in the tags; only variables, `&t.entries[i]` and the forms that pass on the provenance of a part
look at them -/
theorem fresh_mono (N : FnId → Bool) {τ τ' : Tags} (h : ∀ v, τ v = true → τ' v = true) (e : E) :
    fresh N τ e = true → fresh N τ' e = true := by
  induction e with
  | var v => exact h v
  | addrEntry t i _ => exact h t
  | field e f ih =>
    simp only [fresh]
    split
    · exact ih
    · exact id
  | deref e ih | «at» e _ ih _ | mkTable e _ _ ih _ _ => exact ih
  | pair a b iha ihb => exact and_mono iha ihb
  | snoc l x ihl ihx => exact and_mono ihl (or_mono ihx)
  | _ => exact id

/-- `okE` is the conjunction of `okE` of the direct parts, with the two provenance conditions of an `append` -/
theorem okE_mono (M N : FnId → Bool) {τ τ' : Tags} (h : ∀ v, τ v = true → τ' v = true) (e : E) :
    okE M N τ e = true → okE M N τ' e = true := by
  induction e with
  | snoc l x ihl ihx => exact and_mono (and_mono (and_mono (fresh_mono N h l) (or_mono (fresh_mono N h x))) ihl) ihx
  | call1 f a ih => exact and_mono id ih
  | call2 f a b iha ihb => exact and_mono (and_mono id iha) ihb
  | call3 f a b c iha ihb ihc => exact and_mono (and_mono (and_mono id iha) ihb) ihc
  | field e _ ih | deref e ih | addrEntry _ e ih | isNil e ih | not e ih | toU32 e ih | toU64 e ih | toInt e ih
  | toFloat e ih | len e ih | makeEntries e ih | makeRows e ih | makeGroups e ih | rows1 e ih | bitLen64 e ih
  | pow2 e ih => exact ih
  | and a b iha ihb | or a b iha ihb | cmp _ a b iha ihb | bin _ a b iha ihb | «at» a b iha ihb | rows2 a b iha ihb
  | pair a b iha ihb => exact and_mono iha ihb
  | cmpHash a b c iha ihb ihc | cmpCompare a b c iha ihb ihc | mkTable a b c iha ihb ihc =>
    exact and_mono (and_mono iha ihb) ihc
  | _ => exact id

theorem badE_zero (M N : FnId → Bool) (F : List Var) (τ : Tags) (h : Inv F τ) (e : E) (ok : okE M N (inF F) e = true) :
    badE M N τ e = 0 := by
  simp [badE, okE_mono M N h e ok]

theorem badArgs_zero (M N : FnId → Bool) (F : List Var) (τ : Tags) (h : Inv F τ) (args : List E)
    (ok : args.all (okE M N (inF F)) = true) : badArgs M N τ args = 0 := by
  have : args.all (okE M N τ) = true := by
    rw [List.all_eq_true] at ok ⊢
    exact fun e he => okE_mono M N h e (ok e he)
  simp [badArgs, this]

theorem Inv.tset_ok {F : List Var} {τ : Tags} (h : Inv F τ) (v : Var) (b : Bool) (hv : inF F v = false ∨ b = true) :
    Inv F (tset τ v b) := by
  intro w hw
  unfold tset
  split
  · rename_i e; subst e
    rcases hv with hv | hv
    · rw [hv] at hw; cases hw
    · exact hv
  · exact h w hw

theorem Inv.tsetOpt_ok {F : List Var} {τ : Tags} (h : Inv F τ) (v : Option Var) (b : Bool) (hv : bindOK F b v = true) :
    Inv F (tsetOpt τ v b) := by
  cases v with
  | none => exact h
  | some v => exact h.tset_ok v b (by simpa [bindOK] using hv)

theorem Inv.tsetOpt_out {F : List Var} {τ : Tags} (h : Inv F τ) (v : Option Var) (hv : notF F v = true) :
    Inv F (tsetOpt τ v false) := by
  cases v with
  | none => exact h
  | some v => exact h.tset_ok v false (by simpa [notF] using hv)

theorem bindOK_mono {F : List Var} {b b' : Bool} (hb : b = true → b' = true) (v : Option Var) (h : bindOK F b v = true) :
    bindOK F b' v = true := by
  cases v with
  | none => rfl
  | some v =>
    simp only [bindOK, Bool.or_eq_true, Bool.not_eq_true'] at h ⊢
    exact h.imp id hb

/-- a ghost result is good for `F`: nothing counted, `F` still tagged — what `tagExec_sound` says of every statement -/
def Good (F : List Var) (r : Tags × Nat) : Prop := r.2 = 0 ∧ Inv F r.1

/-- a good run after evaluating an expression that counts nothing -/
theorem Good.add {F : List Var} {r : Tags × Nat} (g : Good F r) {n : Nat} (hn : n = 0) : Good F (r.1, n + r.2) :=
  ⟨by rw [hn, g.1], g.2⟩

/-- two good runs one after the other -/
theorem Good.seq {F : List Var} {r r' : Tags × Nat} (g : Good F r) (g' : Good F r') : Good F (r'.1, r.2 + r'.2) :=
  g'.add g.1

theorem tagLoop_sound (F : List Var) (step : Val → Nat → Store → Out) (tstep : Val → Nat → Store → Tags → Tags × Nat)
    (hs : ∀ x i σ τ, Inv F τ → Good F (tstep x i σ τ)) :
    ∀ (l : List Val) (i : Nat) (σ : Store) (τ : Tags), Inv F τ → Good F (tagLoop step tstep l i σ τ) := by
  intro l
  induction l with
  | nil => intro i σ τ h; exact ⟨rfl, h⟩
  | cons x xs ih =>
    intro i σ τ h
    have h1 := hs x i σ τ h
    unfold tagLoop
    split
    · exact h1.seq (ih _ _ _ h1.2)
    · exact h1

theorem tagFor_sound (F : List Var) (cond : Store → Option Bool) (body post : Store → Out) (tcond : Tags → Nat)
    (tbody tpost : Store → Tags → Tags × Nat)
    (hc : ∀ τ, Inv F τ → tcond τ = 0)
    (hb : ∀ σ τ, Inv F τ → Good F (tbody σ τ))
    (hp : ∀ σ τ, Inv F τ → Good F (tpost σ τ)) :
    ∀ (fuel : Nat) (σ : Store) (τ : Tags), Inv F τ → Good F (tagFor cond body post tcond tbody tpost fuel σ τ) := by
  intro fuel
  induction fuel with
  | zero => intro σ τ h; exact ⟨rfl, h⟩
  | succ n ih =>
    intro σ τ h
    have h0 := hc τ h
    have h1 := hb σ τ h
    unfold tagFor
    split
    · split
      · rename_i σ' _
        have h2 := hp σ' _ h1.2
        split
        · exact ((h1.add h0).seq h2).seq (ih _ _ h2.2)
        · exact (h1.add h0).seq h2
      · exact h1.add h0
    · exact ⟨h0, h⟩

/-- **The flow-insensitive check implies the flow-sensitive count is 0.** If `okF M N F s` and the variables of `F` are tagged
fresh, the ghost run of `s` from ANY store — `S.exec`'s branches and loop rounds, tags computed by the same `fresh N` —
counts no bad store and leaves `F` tagged. Trusted, not proved: `fresh`'s table of object-making expressions, and `M`, `N`
(parameters: a call is tagged by `N f`, the callee's body is not entered; `mutFns` / `newFns` are meant for them). -/
theorem tagExec_sound (Γ : Env) (M N : FnId → Bool) (F : List Var) (s : S) :
    okF M N F s = true → ∀ (σ : Store) (τ : Tags), Inv F τ → (tagExec Γ M N s σ τ).2 = 0 ∧ Inv F (tagExec Γ M N s σ τ).1 := by
  show okF M N F s = true → ∀ (σ : Store) (τ : Tags), Inv F τ → Good F (tagExec Γ M N s σ τ)
  induction s with
  | skip | brk => intro _ σ τ h; exact ⟨rfl, h⟩
  | seq a b iha ihb =>
    intro ok σ τ h
    simp only [okF, Bool.and_eq_true] at ok
    have h1 := iha ok.1 σ τ h
    unfold tagExec
    split
    · exact h1.seq (ihb ok.2 _ _ h1.2)
    · exact h1
  | define v e | assign v e =>
    intro ok σ τ h
    simp only [okF, Bool.and_eq_true, Bool.or_eq_true, Bool.not_eq_true'] at ok
    exact ⟨badE_zero M N F τ h e ok.1, h.tset_ok v _ (ok.2.imp id (fresh_mono N h e))⟩
  | define2 v w e =>
    intro ok σ τ h
    simp only [okF, Bool.and_eq_true, Bool.or_eq_true, Bool.not_eq_true'] at ok
    exact ⟨badE_zero M N F τ h e ok.1.1,
      (h.tset_ok v _ (ok.1.2.imp id (fresh_mono N h e))).tset_ok w _ (ok.2.imp id (fresh_mono N h e))⟩
  | setField v _ e | setPtrField v _ e =>
    intro ok σ τ h
    simp only [okF, Bool.and_eq_true] at ok
    refine ⟨?_, h⟩
    simp only [tagExec, h v ok.1.1, or_mono (fresh_mono N h e) ok.1.2, badE_zero M N F τ h e ok.2, Bool.and_self, ↓reduceIte]
  | incrField v p =>
    intro ok σ τ h
    simp only [okF] at ok
    refine ⟨?_, h⟩
    simp only [tagExec, h v ok, ↓reduceIte]
  | setAt a i e =>
    intro ok σ τ h
    simp only [okF, Bool.and_eq_true] at ok
    refine ⟨?_, h⟩
    simp only [tagExec, h a ok.1.1.1, fresh_mono N h e ok.1.1.2, badE_zero M N F τ h i ok.1.2,
      badE_zero M N F τ h e ok.2, Bool.and_self, ↓reduceIte]
  | ite c t e iht ihe =>
    intro ok σ τ h
    simp only [okF, Bool.and_eq_true] at ok
    have hc := badE_zero M N F τ h c ok.1.1
    unfold tagExec
    split
    · exact (iht ok.1.2 σ τ h).add hc
    · exact (ihe ok.2 σ τ h).add hc
    · exact ⟨hc, h⟩
  | range xs k v body ih =>
    intro ok σ τ h
    simp only [okF, Bool.and_eq_true] at ok
    have hc := badE_zero M N F τ h xs ok.1.1.1
    have hb := bindOK_mono (fresh_mono N h xs) v ok.1.2
    unfold tagExec
    split
    · split
      · exact (tagLoop_sound F _ _
          (fun x i σ τ' hτ => ih ok.2 _ _ ((hτ.tsetOpt_out k ok.1.1.2).tsetOpt_ok v _ hb)) _ 0 σ τ h).add hc
      · exact ⟨hc, h⟩
    · exact ⟨hc, h⟩
  | «for» init cond post body ihi ihp ihb =>
    intro ok σ τ h
    simp only [okF, Bool.and_eq_true] at ok
    have h1 := ihi ok.1.1.1 σ τ h
    unfold tagExec
    split
    · exact h1.seq (tagFor_sound F _ _ _ (fun t => badE M N t cond) (fun s t => tagExec Γ M N body s t)
        (fun s t => tagExec Γ M N post s t) (fun t ht => badE_zero M N F t ht cond ok.1.1.2)
        (fun s t ht => ihb ok.2 s t ht) (fun s t ht => ihp ok.1.2 s t ht) Γ.fuel _ _ h1.2)
    · exact h1
  | callMut f r args =>
    intro ok σ τ h
    simp only [okF, Bool.and_eq_true] at ok
    refine ⟨?_, h⟩
    simp only [tagExec, ok.1.1, h r ok.1.2, badArgs_zero M N F τ h args ok.2, Bool.and_self, ↓reduceIte]
  | ret e =>
    intro ok σ τ h
    simp only [okF] at ok
    exact ⟨badE_zero M N F τ h e ok, h⟩
  | «opaque» _ => intro ok; simp [okF] at ok

/-- the ghost run of a whole function from its arguments -/
def tagRunFn (Γ : Env) (M N : FnId → Bool) (owned : Bool) (fn : Fn) (args : List Val) : Nat :=
  (tagExec Γ M N fn.body (bindArgs args 0 Store.empty) (tags0 owned fn.params)).2

/-- **A function that passes the check executes no store into (and stores nothing of) an object that was not made in the
same run** — a mutating method: or the table its caller owns. -/
theorem runFn_writes_only_fresh (Γ : Env) (M N : FnId → Bool) (owned : Bool) (fn : Fn) (args : List Val)
    (h : writesOnlyFresh M N owned fn = true) : tagRunFn Γ M N owned fn args = 0 := by
  simp only [writesOnlyFresh, Bool.and_eq_true, List.all_eq_true] at h
  refine (tagExec_sound Γ M N _ fn.body h.1 _ (tags0 owned fn.params) ?_).1
  intro v hv
  exact h.2 v (by simpa [inF] using hv)

/-! ## Today's terms -/

abbrev todayMut : FnId → Bool := mutFns Gen.grouperFns
/-- two rounds of `newFns` from "no callee returns a new object": the first admits `newTable`, `Pow2`, `hash`, … (their
`return`s are fresh without any callee); `groupIndex` returns the entries of the table `newTable` made, so it is admitted
only in the second (after one round it is `false`; the `example` below has it `true`). `GroupBy` / `Distinct` are judged with
these two rounds in `gen_grouper_result_provenance`. -/
abbrev todayNew : FnId → Bool := newFns Gen.grouperFns todayMut (newFns Gen.grouperFns todayMut (fun _ => false))

example : todayMut .grow = true ∧ todayMut .insertEntry = true ∧ todayMut .hash = false ∧ todayMut .groupIndex = false ∧
    todayNew .newTable = true ∧ todayNew .groupIndex = true := by decide +kernel

/-- **Every function of today's grouper passes the check** (redone on every run). -/
theorem gen_grouper_writes_only_fresh :
    ∀ p ∈ Gen.grouperFns, writesOnlyFresh todayMut todayNew (todayMut p.1) p.2 = true := by decide +kernel

theorem gen_grouper_runs_write_only_fresh (Γ : Env) (p : FnId × Fn) (hp : p ∈ Gen.grouperFns) (args : List Val) :
    tagRunFn Γ todayMut todayNew (todayMut p.1) p.2 args = 0 :=
  runFn_writes_only_fresh Γ _ _ _ _ args (gen_grouper_writes_only_fresh p hp)

/-- **What today's `groupIndex`, `GroupBy`, `Distinct` return is fresh**: every `return` of the three functions passes
`fresh` (deep: the entry array, every group, the row array were made in the run), callees judged by `todayNew`. -/
theorem gen_grouper_result_provenance :
    todayNew .groupIndex = true ∧ newFns Gen.grouperFns todayMut todayNew .groupBy = true ∧
    newFns Gen.grouperFns todayMut todayNew .distinct = true := by decide +kernel

/-! ## Witnesses -/

/-- `Distinct` collecting its result IN THE CALLER'S INDEX (`result := ix[:0]`-style: `append` onto `ix`) -/
def distinctInPlace : Fn :=
  { params := 2, body := S.block [S.define2 2 3 (E.call3 FnId.groupIndex (E.var 0) (E.var 1) (E.bool false)),
      S.define 4 (E.var 0),
      S.range (E.var 2) none (some 5) (S.block [S.ite (E.field (E.var 5) Fld.occupied) (S.block [S.assign 4 (E.snoc (E.var 4) (E.field (E.var 5) Fld.firstPos))]) (S.block [])]),
      S.ret (E.var 4)] }

/-- a `GroupBy` whose one group starts as THE CALLER'S INDEX SLICE (`g := ix`), is appended to for every row, and goes
into a new group list -/
def groupByIntoCallerIx : Fn :=
  { params := 2, body := S.block [S.define 2 (E.makeGroups (E.int 1)), S.define 3 (E.var 0),
      S.range (E.var 0) none (some 4) (S.block [S.assign 3 (E.snoc (E.var 3) (E.var 4))]),
      S.assign 2 (E.snoc (E.var 2) (E.var 3)), S.ret (E.var 2)] }

def exCmp : Cmp := { compare := fun a b => if a % 2 == b % 2 then .equal else .notEqual, hash := fun r s => r % 2 + s }
def exEnv : Env := { call := callAt Gen.grouperFns 64 4, fuel := 64 }

/-- **Witness: a Distinct that appends its rows onto the caller's index.** -/
theorem witness_distinct_in_place :
    writesOnlyFresh todayMut todayNew false distinctInPlace = false ∧
    0 < tagRunFn exEnv todayMut todayNew false distinctInPlace [.rows (some [2, 0, 1]), .cmps [exCmp]] := by
  decide +kernel

/-- **Witness: a grouper that stores into the caller's index slice.** -/
theorem witness_grouper_into_caller_ix :
    writesOnlyFresh todayMut todayNew false groupByIntoCallerIx = false ∧
    0 < tagRunFn exEnv todayMut todayNew false groupByIntoCallerIx [.rows (some [2, 0, 1]), .cmps [exCmp]] := by
  decide +kernel

/-- today's `Distinct` on the same input: the run has a value (rows 2, 1: one per parity) and the ghost run counts nothing -/
example : (Gen.grouperFns.lookup .distinct).map (fun fn =>
    ((runFn exEnv fn [.rows (some [2, 0, 1]), .cmps [exCmp]]).map (fun r => match r.1 with | .rows l => l | _ => none),
      tagRunFn exEnv todayMut todayNew false fn [.rows (some [2, 0, 1]), .cmps [exCmp]])) = some (some (some [2, 1]), 0) := by
  decide +kernel

#print axioms tagExec_sound
#print axioms runFn_writes_only_fresh
#print axioms gen_grouper_writes_only_fresh
#print axioms gen_grouper_runs_write_only_fresh
#print axioms gen_grouper_result_provenance
#print axioms witness_distinct_in_place
#print axioms witness_grouper_into_caller_ix

end QF.Props.C01FreshGL
