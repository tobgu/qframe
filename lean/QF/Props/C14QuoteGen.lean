import QF.Gen.StringsFns
import QF.Core.STExec
import QF.Props.C14Quote
/-!
# C14 — the JSON string quoting of today's source (tie T1)

`QF.Gen.stringsFns` (regenerated on every run by go/cmd/extract/strast.go) holds the body of `AppendQuotedString` of
/repo/internal/strings/serialize.go as a term of the language `QF.ST` (QF/Core/STExpr.lean), the constant `chars`
replaced by its value.

* `gen_quote_no_opaque`, `gen_quote_canon` — today's extraction is complete and equal to the canonical term (`decide`).
* `gen_quote_semantics` — interpreted with Go's semantics (the loop with the pending run `str[p:i]` that is flushed before
  every escape, the tests on the byte, `\u00XY` through `chars[c>>4]` / `chars[c&0xf]`, `utf8.DecodeRuneInString` as the
  spec's `Json.decodeRune`), the canonical term returns `buf ++ C14.appendQuoted s` — the byte-exact hand mirror of
  C14Quote — for EVERY byte string `s` (valid UTF-8 or not) and every buffer (nil included), whenever the loop budget
  exceeds `len(s)`.
* `gen_quote_parses` — hence `C14.quoted_parses` holds for the bytes today's code appends: the RFC 8259 string parser
  consumes exactly the token and decodes it to `Json.sanitize s`.
* witnesses: `<=` for `<` / `>` for `>=` / `>= 0x1f` in the test for bytes that need no escape, a dropped flush, a
  forgotten `p = i`, `c>>3` produce other bytes on concrete inputs; the first two and the dropped flush are shown to be
  different terms (`gen_quote_canon` fails).
-/
namespace QF.Props.C14QuoteGen
open QF QF.ST
open QF.Props.C14 (scan escapeAscii hexDigit appendQuoted scan_nil scan_plain scan_esc scan_bad scan_ls scan_good)

/-! ## The canonical term: variables 0 `buf`, 1 `str`, 2 `p`, 3 `i`, 4 `c`, 5 `runeValue`, 6 `runeWidth` -/

/-- `c != '\\' && c != '"' && c >= 0x20 && c < utf8.RuneSelf` -/
def plainCond : E :=
  E.and (E.and (E.and (E.cmp COp.ne (E.var 4) (E.byte 92)) (E.cmp COp.ne (E.var 4) (E.byte 34))) (E.cmp COp.ge (E.var 4) (E.byte 32)))
    (E.cmp COp.lt (E.var 4) (E.byte 128))

/-- `i += d` -/
def skipBy (d : E) : S := S.assign (L.var 3) (E.add (E.var 3) d)

/-- `if <plain> { i++; continue }` -/
def plainPart : S := S.ite plainCond (S.block [skipBy (E.int 1), S.cont]) (S.block [])

/-- `buf = append(buf, str[p:i]...)` -/
def flush : S := S.assign (L.var 0) (E.appAll (E.var 0) (E.slice (E.var 1) (E.var 2) (E.var 3)))

/-- `chars` -/
def charsE : E := E.str [48, 49, 50, 51, 52, 53, 54, 55, 56, 57, 97, 98, 99, 100, 101, 102]

/-- `buf = append(buf, lit...)` -/
def emit (lit : List Nat) : S := S.assign (L.var 0) (E.appAll (E.var 0) (E.str lit))

/-- `buf = append(buf, chars[e])` -/
def pushHex (e : E) : S := S.assign (L.var 0) (E.app1 (E.var 0) (E.at charsE e))

/-- `switch c { case '\t': … case '\r': … case '\n': … case '\\': … case '"': … default: \u00XY }` -/
def escSwitch : S :=
  S.ite (E.cmp COp.eq (E.var 4) (E.byte 9)) (S.block [emit [92, 116]])
  (S.ite (E.cmp COp.eq (E.var 4) (E.byte 13)) (S.block [emit [92, 114]])
  (S.ite (E.cmp COp.eq (E.var 4) (E.byte 10)) (S.block [emit [92, 110]])
  (S.ite (E.cmp COp.eq (E.var 4) (E.byte 92)) (S.block [emit [92, 92]])
  (S.ite (E.cmp COp.eq (E.var 4) (E.byte 34)) (S.block [emit [92, 34]])
  (S.block [
    emit [92, 117, 48, 48],
    pushHex (E.shr (E.var 4) (E.int 4)),
    pushHex (E.band (E.var 4) (E.byte 15))])))))

/-- `i += d; p = i; continue` -/
def advance (d : E) : List S := [skipBy d, S.assign (L.var 2) (E.var 3), S.cont]

def advance1 : List S := advance (E.int 1)

/-- `if c < utf8.RuneSelf { flush; switch …; i++; p = i; continue }` -/
def asciiPart : S := S.ite (E.cmp COp.lt (E.var 4) (E.byte 128)) (S.block (flush :: escSwitch :: advance1)) (S.block [])

/-- `if runeValue == utf8.RuneError && runeWidth == 1 { flush; \\ufffd; i++; p = i; continue }` -/
def badPart : S :=
  S.ite (E.and (E.cmp COp.eq (E.var 5) (E.rune 65533)) (E.cmp COp.eq (E.var 6) (E.int 1)))
    (S.block (flush :: emit [92, 117, 102, 102, 102, 100] :: advance1)) (S.block [])

/-- `if runeValue == U+2028 || runeValue == U+2029 { flush; \u202X; i += runeWidth; p = i; continue }` -/
def lsPart : S :=
  S.ite (E.or (E.cmp COp.eq (E.var 5) (E.rune 8232)) (E.cmp COp.eq (E.var 5) (E.rune 8233)))
    (S.block (flush :: emit [92, 117, 50, 48, 50] :: pushHex (E.band (E.var 5) (E.rune 15)) :: advance (E.var 6))) (S.block [])

/-- `runeValue, runeWidth := utf8.DecodeRuneInString(str[i:])` -/
def decodeAt : S := S.decodeRune (L.var 5) (L.var 6) (E.sliceFrom (E.var 1) (E.var 3))

/-- what follows `c := str[i]` in a round of the loop, for a byte ≥ 0x80 -/
def widePart : List S := [decodeAt, badPart, lsPart, skipBy (E.var 6)]

/-- `i < len(str)`, else the loop ends -/
def loopTest : S := S.ite (E.cmp COp.lt (E.var 3) (E.len (E.var 1))) S.skip S.brk

/-- `c := str[i]` -/
def readC : S := S.assign (L.var 4) (E.at (E.var 1) (E.var 3))

/-- the body of `for i := 0; i < len(str); { … }` -/
def qBody : S := S.block (loopTest :: readC :: plainPart :: asciiPart :: widePart)

def fnQuote : ST.Fn := { params := 2, body := S.block [
  S.assign (L.var 0) (E.app1 (E.var 0) (E.byte 34)),
  S.assign (L.var 2) (E.int 0),
  S.assign (L.var 3) (E.int 0),
  S.loop qBody,
  S.assign (L.var 0) (E.appAll (E.var 0) (E.sliceFrom (E.var 1) (E.var 2))),
  S.assign (L.var 0) (E.app1 (E.var 0) (E.byte 34)),
  S.ret [E.var 0]] }

theorem gen_quote_no_opaque :
    ∃ fn, Gen.stringsFns.lookup .appendQuoted = some fn ∧ fn.body.hasOpaque = false := by decide

theorem gen_quote_canon : Gen.stringsFns.lookup .appendQuoted = some fnQuote := by decide

/-! ## The mirror's test for a plain byte (the equations of `scan` are in C14Quote) -/

/-- the mirror's test for a byte that is copied as it is -/
def isPlain (c : UInt8) : Bool := c != 92 && c != 34 && c ≥ 0x20 && c < 0x80

theorem not_plain_of_ge (c : UInt8) (hc : ¬ c < 0x80) : isPlain c = false := by
  unfold isPlain; simp [hc]

theorem take_add_drop (s : Bytes) (p i w : Nat) (hp : p ≤ i) (hi : i ≤ s.length) :
    (s.take (i + w)).drop p = (s.take i).drop p ++ (s.drop i).take w := by
  rw [List.take_add, List.drop_append_of_le_length (by simp; omega)]

/-! ## The statements of the loop body, one by one -/

/-- the variables the loop works on -/
structure QSt (σ : Store) (B s : Bytes) (p i : Nat) : Prop where
  h0 : σ 0 = some (.bytes (some B))
  h1 : σ 1 = some (.str s)
  h2 : σ 2 = some (.int p)
  h3 : σ 3 = some (.int i)

section body
variable {Γ : Env} {σ : Store} {B s : Bytes} {p i : Nat}

theorem loopTest_exec (hq : QSt σ B s p i) : loopTest.exec Γ σ = if i < s.length then .next σ else .brk σ := by
  have hc : (E.cmp COp.lt (E.var 3) (E.len (E.var 1))).eval Γ σ = .ok (.bool (decide ((i : Int) < s.length))) :=
    eval_cmp (eval_var hq.h3) (eval_len (eval_var hq.h1) rfl) rfl
  split
  · exact exec_ite_pos hc (decide_eq_true (by omega))
  · exact exec_ite_neg hc (decide_eq_false (by omega))

theorem readC_exec (hq : QSt σ B s p i) (hi : i < s.length) : readC.exec Γ σ = .next (σ.set 4 (.byte s[i])) :=
  exec_assign_ok ((eval_at (eval_var hq.h1) (eval_var hq.h3) rfl).trans
    (by rw [Val.index, if_pos (by omega), Int.toNat_natCast, getElem!_pos s i hi]))

theorem plainCond_eval {c : UInt8} (h4 : σ 4 = some (.byte c)) : plainCond.eval Γ σ = .ok (.bool (isPlain c)) :=
  eval_and (eval_and (eval_and (eval_cmp (eval_var h4) rfl rfl) (eval_cmp (eval_var h4) rfl rfl)) (eval_cmp (eval_var h4) rfl rfl))
    (eval_cmp (eval_var h4) rfl rfl)

theorem skipBy_exec {d : E} {w : Nat} (h3 : σ 3 = some (.int i)) (hd : d.eval Γ σ = .ok (.int w)) :
    (skipBy d).exec Γ σ = .next (σ.set 3 (.int (i + w : Nat))) :=
  exec_assign_ok (eval_add (eval_var h3) hd rfl)

theorem advance_exec {d : E} {w : Nat} (h3 : σ 3 = some (.int i)) (hd : d.eval Γ σ = .ok (.int w)) :
    (S.block (advance d)).exec Γ σ = .cont ((σ.set 3 (.int (i + w : Nat))).set 2 (.int (i + w : Nat))) :=
  exec_cons_next (skipBy_exec h3 hd) (exec_cons_next (exec_assign_ok (eval_var rfl)) rfl)

/-- a byte that is copied as it is joins the pending run -/
theorem plain_exec {c : UInt8} (h3 : σ 3 = some (.int i)) (h4 : σ 4 = some (.byte c)) (hpl : isPlain c = true) :
    plainPart.exec Γ σ = .cont (σ.set 3 (.int (i + 1 : Nat))) :=
  (exec_ite_pos (plainCond_eval h4) hpl).trans (exec_cons_next (skipBy_exec h3 rfl) rfl)

theorem plain_skip {c : UInt8} (h4 : σ 4 = some (.byte c)) (hpl : isPlain c = false) : plainPart.exec Γ σ = .next σ :=
  exec_ite_neg (plainCond_eval h4) hpl

theorem flush_exec (hq : QSt σ B s p i) (hp : p ≤ i) (hi : i ≤ s.length) :
    flush.exec Γ σ = .next (σ.set 0 (.bytes (some (B ++ (s.take i).drop p)))) :=
  exec_assign_ok (bind2 (eval_var hq.h0) (bind2 (eval_var hq.h1) (eval_var hq.h2) (bind1 (eval_var hq.h3) (slice_str hp hi))) rfl)

theorem emit_exec {X : Bytes} (h0 : σ 0 = some (.bytes (some X))) (lit : List Nat) :
    (emit lit).exec Γ σ = .next (σ.set 0 (.bytes (some (X ++ lit.map UInt8.ofNat)))) := by
  rw [emit, exec_assign, E.eval, eval_var h0]
  rfl

theorem hex_table : ∀ n, n < 16 →
    ([48, 49, 50, 51, 52, 53, 54, 55, 56, 57, 97, 98, 99, 100, 101, 102] : List UInt8)[n]! = hexDigit n := by decide

/-- `buf = append(buf, chars[e])` appends the hex digit of the value of `e` -/
theorem pushHex_exec {X : Bytes} {e : E} {y : ST.Val} {n : Nat} (h0 : σ 0 = some (.bytes (some X))) (he : e.eval Γ σ = .ok y)
    (hy : asIndex y = .ok (n : Int)) (hn : n < 16) :
    (pushHex e).exec Γ σ = .next (σ.set 0 (.bytes (some (X ++ [hexDigit n])))) := by
  have hat : (E.at charsE e).eval Γ σ = .ok (.byte (hexDigit n)) := by
    rw [eval_at (x := .str _) rfl he hy, Val.index, if_pos (by simp; omega), Int.toNat_natCast]
    exact congrArg (fun b => ST.Res.ok (ST.Val.byte b)) (hex_table n hn)
  rw [pushHex, exec_assign, E.eval, eval_var h0, hat]
  rfl

theorem shr4 (c : UInt8) : (c >>> 4).toNat = c.toNat / 16 := by
  rw [UInt8.toNat_shiftRight, Nat.shiftRight_eq_div_pow]; rfl

theorem and15 (c : UInt8) : (c &&& 15).toNat = c.toNat % 16 := by
  rw [UInt8.toNat_and]; exact Nat.and_two_pow_sub_one_eq_mod c.toNat 4

/-- the `switch c` appends the mirror's `escapeAscii c` -/
theorem esc_exec {X : Bytes} {c : UInt8} (h0 : σ 0 = some (.bytes (some X))) (h4 : σ 4 = some (.byte c)) :
    escSwitch.exec Γ σ = .next (σ.set 0 (.bytes (some (X ++ escapeAscii c)))) := by
  have arm (k : Nat) (t e : S) : (S.ite (E.cmp COp.eq (E.var 4) (E.byte k)) t e).exec Γ σ =
      if c == UInt8.ofNat k then t.exec Γ σ else e.exec Γ σ := by
    have hc : (E.cmp COp.eq (E.var 4) (E.byte k)).eval Γ σ = .ok (.bool (c == UInt8.ofNat k)) := eval_cmp (eval_var h4) rfl rfl
    cases hk : c == UInt8.ofNat k
    · exact exec_ite_neg hc hk
    · exact exec_ite_pos hc hk
  have one (lit : List Nat) : (S.block [emit lit]).exec Γ σ = .next (σ.set 0 (.bytes (some (X ++ lit.map UInt8.ofNat)))) :=
    exec_cons_next (emit_exec h0 lit) rfl
  have hx : (S.block [emit [92, 117, 48, 48], pushHex (E.shr (E.var 4) (E.int 4)), pushHex (E.band (E.var 4) (E.byte 15))]).exec Γ σ =
      .next (σ.set 0 (.bytes (some (X ++ [92, 117, 48, 48, hexDigit (c.toNat / 16), hexDigit (c.toNat % 16)])))) := by
    have hc := c.toNat_lt
    have e1 : ∀ τ : Store, τ 4 = some (.byte c) → (E.shr (E.var 4) (E.int 4)).eval Γ τ = .ok (.byte (c >>> 4)) :=
      fun τ h => by rw [E.eval, eval_var h]; rfl
    have e2 : ∀ τ : Store, τ 4 = some (.byte c) → (E.band (E.var 4) (E.byte 15)).eval Γ τ = .ok (.byte (c &&& 15)) :=
      fun τ h => by rw [E.eval, eval_var h]; rfl
    refine (exec_cons_next (emit_exec h0 _) <| exec_cons_next (pushHex_exec rfl (e1 _ h4) rfl (by rw [shr4]; omega)) <|
      exec_cons_next (pushHex_exec rfl (e2 _ h4) rfl (by rw [and15]; omega)) rfl).trans ?_
    rw [shr4, and15]
    simp only [exec_block_nil, set_set, List.append_assoc]
    rfl
  rw [escSwitch, escapeAscii, arm, arm, arm, arm, arm, one, one, one, one, one, hx]
  simp only [UInt8.reduceOfNat, List.map_cons, List.map_nil]
  -- the same five tests on both sides: move the mirror's under `Out.next`
  have f := apply_ite (fun l => Out.next (σ.set 0 (.bytes (some (X ++ l)))))
  rw [f, f, f, f, f]

/-- a byte below 0x80 that is escaped: flush, escape, the pending run starts after it -/
theorem ascii_exec {c : UInt8} (hq : QSt σ B s p i) (h4 : σ 4 = some (.byte c)) (hp : p ≤ i) (hi : i ≤ s.length) (hlt : c < 128) :
    ∃ σ', asciiPart.exec Γ σ = .cont σ' ∧ QSt σ' (B ++ (s.take i).drop p ++ escapeAscii c) s (i + 1) (i + 1) := by
  refine ⟨_, (exec_ite_pos (eval_cmp (eval_var h4) rfl rfl) (decide_eq_true hlt)).trans <|
    exec_cons_next (flush_exec hq hp hi) <| exec_cons_next (esc_exec rfl h4) <| advance_exec hq.h3 rfl, ?_⟩
  exact ⟨rfl, hq.h1, rfl, rfl⟩

theorem ascii_skip {c : UInt8} (h4 : σ 4 = some (.byte c)) (hlt : ¬ c < 128) : asciiPart.exec Γ σ = .next σ :=
  exec_ite_neg (eval_cmp (eval_var h4) rfl rfl) (decide_eq_false hlt)

theorem decodeAt_exec (hq : QSt σ B s p i) (hi : i ≤ s.length) :
    decodeAt.exec Γ σ = .next ((σ.set 5 (.rune (Γ.decode (s.drop i)).1)).set 6 (.int (Γ.decode (s.drop i)).2)) := by
  rw [decodeAt, exec_decodeRune, eval_sliceFrom_str (eval_var hq.h1) (eval_var hq.h3) hi]
  rfl

/-- an invalid byte: flush, the six bytes `\ufffd`, the pending run starts after it -/
theorem bad_exec (hq : QSt σ B s p i) (h5 : σ 5 = some (.rune 65533)) (h6 : σ 6 = some (.int 1)) (hp : p ≤ i) (hi : i ≤ s.length) :
    ∃ σ', badPart.exec Γ σ = .cont σ' ∧ QSt σ' (B ++ (s.take i).drop p ++ [92, 117, 102, 102, 102, 100]) s (i + 1) (i + 1) := by
  refine ⟨_, (exec_ite_pos (eval_and (eval_cmp (eval_var h5) rfl rfl) (eval_cmp (eval_var h6) rfl rfl)) rfl).trans <|
    exec_cons_next (flush_exec hq hp hi) <| exec_cons_next (emit_exec rfl _) <| advance_exec hq.h3 rfl, ?_⟩
  exact ⟨rfl, hq.h1, rfl, rfl⟩

theorem bad_skip {r : Int} {w : Nat} (h5 : σ 5 = some (.rune r)) (h6 : σ 6 = some (.int w)) (hw : 2 ≤ w) : badPart.exec Γ σ = .next σ :=
  exec_ite_neg (eval_and (eval_cmp (eval_var h5) rfl rfl) (eval_cmp (eval_var h6) rfl rfl))
    (show (decide (r = 65533) && decide ((w : Int) = 1)) = false by rw [decide_eq_false (by omega : ¬ (w : Int) = 1), Bool.and_false])

theorem ls_digit {r : Nat} (hr : r = 0x2028 ∨ r = 0x2029) : sx32 (tc32 r &&& tc32 15) = ((r % 16 : Nat) : Int) := by
  rcases hr with rfl | rfl <;> decide

/-- U+2028, U+2029: flush, the six bytes `\u2028` / `\u2029`, the pending run starts after the rune -/
theorem ls_exec {r w : Nat} (hq : QSt σ B s p i) (h5 : σ 5 = some (.rune r)) (h6 : σ 6 = some (.int w)) (hp : p ≤ i) (hi : i ≤ s.length)
    (hr : r = 0x2028 ∨ r = 0x2029) :
    ∃ σ', lsPart.exec Γ σ = .cont σ' ∧ QSt σ' (B ++ (s.take i).drop p ++ [92, 117, 50, 48, 50, hexDigit (r % 16)]) s (i + w) (i + w) := by
  have hc : (decide ((r : Int) = 8232) || decide ((r : Int) = 8233)) = true := by rcases hr with rfl | rfl <;> rfl
  have e : ∀ τ : Store, τ 5 = some (.rune r) → (E.band (E.var 5) (E.rune 15)).eval Γ τ = .ok (.rune (sx32 (tc32 r &&& tc32 15))) :=
    fun τ h => by rw [E.eval, eval_var h]; rfl
  refine ⟨_, (exec_ite_pos (eval_or (eval_cmp (eval_var h5) rfl rfl) (eval_cmp (eval_var h5) rfl rfl)) hc).trans <|
    exec_cons_next (flush_exec hq hp hi) <| exec_cons_next (emit_exec rfl _) <|
    exec_cons_next (pushHex_exec (n := r % 16) rfl (e _ h5) (congrArg ST.Res.ok (ls_digit hr)) (by omega)) <|
    advance_exec hq.h3 (eval_var h6), ?_⟩
  exact ⟨by simp only [set_apply, ↓reduceIte, List.append_assoc]; rfl, hq.h1, rfl, rfl⟩

theorem ls_skip {r : Nat} (h5 : σ 5 = some (.rune r)) (hr : ¬ (r = 0x2028 ∨ r = 0x2029)) : lsPart.exec Γ σ = .next σ :=
  exec_ite_neg (eval_or (eval_cmp (eval_var h5) rfl rfl) (eval_cmp (eval_var h5) rfl rfl))
    (show (decide ((r : Int) = 8232) || decide ((r : Int) = 8233)) = false by
      simp only [Bool.or_eq_false_iff, decide_eq_false_iff_not]; omega)

end body

/-- `utf8.DecodeRuneInString` is the spec's `Json.decodeRune` -/
def DecodesAsSpec (Γ : Env) : Prop := ∀ t, Γ.decode t = ((↑(Json.decodeRune t).1 : Int), (Json.decodeRune t).2)

/-! ## The loop -/

/-- One round of the loop at a position inside the string: the round goes on, the position advances, and the bytes in the
buffer plus the pending run plus what the mirror's `scan` still has to emit stay the same. -/
theorem q_step (Γ : Env) (hdec : DecodesAsSpec Γ) (s : Bytes) (σ : Store) (B : Bytes) (p i : Nat)
    (hq : QSt σ B s p i) (hi : i < s.length) (hp : p ≤ i) :
    ∃ σ' B' p' i', GoesOn (stepOf Γ qBody σ) σ' ∧ QSt σ' B' s p' i' ∧ i < i' ∧ i' ≤ s.length ∧ p' ≤ i' ∧
      ∀ f, B' ++ (s.take i').drop p' ++ scan f (s.drop i') = B ++ (s.take i).drop p ++ scan (f + 1) (s.drop i) := by
  have hd : s.drop i = s[i] :: s.drop (i + 1) := List.drop_eq_getElem_cons hi
  have hil : i ≤ s.length := by omega
  -- the round up to `c := str[i]`
  have hq4 : QSt (σ.set 4 (.byte s[i])) B s p i := ⟨hq.h0, hq.h1, hq.h2, hq.h3⟩
  have h4 : (σ.set 4 (.byte s[i])) 4 = some (.byte s[i]) := rfl
  rw [stepOf, qBody, exec_cons_next ((loopTest_exec hq).trans (if_pos hi)) (exec_cons_next (readC_exec hq hi) rfl)]
  generalize s[i] = c at hd hq4 h4 ⊢
  generalize σ.set 4 (.byte c) = τ at hq4 h4 ⊢
  by_cases hpl : isPlain c = true
  · refine ⟨_, B, p, i + 1, Or.inl (exec_cons_cont (plain_exec hq4.h3 h4 hpl)), ⟨hq4.h0, hq4.h1, hq4.h2, rfl⟩, by omega, hi, by omega, fun f => ?_⟩
    have ht1 : (s.drop i).take 1 = [c] := by rw [hd]; rfl
    rw [take_add_drop s p i 1 hp hil, ht1, hd, scan_plain f c _ hpl]
    simp
  have hplf : isPlain c = false := by simpa using hpl
  rw [exec_cons_next (plain_skip h4 hplf) rfl]
  by_cases hlt : c < 0x80
  · obtain ⟨σ', he, hq'⟩ := ascii_exec (Γ := Γ) hq4 h4 hp hil hlt
    refine ⟨σ', _, _, _, Or.inl (exec_cons_cont he), hq', by omega, hi, Nat.le_refl _, fun f => ?_⟩
    rw [List.drop_take_self, hd, scan_esc f c _ hplf hlt]
    simp
  -- a byte ≥ 0x80: the rune is decoded
  obtain ⟨r, w, hrw⟩ : ∃ r w, Json.decodeRune (s.drop i) = (r, w) := ⟨_, _, rfl⟩
  have hdr : Γ.decode (s.drop i) = ((r : Int), w) := by rw [hdec, hrw]
  have hq6 : QSt ((τ.set 5 (.rune r)).set 6 (.int w)) B s p i := ⟨hq4.h0, hq4.h1, hq4.h2, hq4.h3⟩
  rw [exec_cons_next (ascii_skip h4 hlt) rfl, widePart, exec_cons_next ((decodeAt_exec hq4 hil).trans (by rw [hdr])) rfl]
  have h5 : ((τ.set 5 (.rune r)).set 6 (.int w)) 5 = some (.rune r) := rfl
  have h6 : ((τ.set 5 (.rune r)).set 6 (.int w)) 6 = some (.int w) := rfl
  generalize (τ.set 5 (.rune r)).set 6 (.int w) = τ' at hq6 h5 h6 ⊢
  rw [hd] at hrw
  rcases C14.decodeRune_spec c (s.drop (i + 1)) hlt with hbad | ⟨r', w', pre, t, hrest, hw1, hw, hX, -⟩
  · -- an invalid byte
    obtain ⟨rfl, rfl⟩ : r = 0xFFFD ∧ w = 1 := by rw [hbad] at hrw; exact ⟨(congrArg Prod.fst hrw).symm, (congrArg Prod.snd hrw).symm⟩
    obtain ⟨σ', he, hq'⟩ := bad_exec (Γ := Γ) hq6 h5 h6 hp hil
    refine ⟨σ', _, _, _, Or.inl (exec_cons_cont he), hq', by omega, hi, Nat.le_refl _, fun f => ?_⟩
    rw [List.drop_take_self, hd, scan_bad f c _ hlt hbad]
    simp
  obtain ⟨rfl, rfl⟩ : r' = r ∧ w' = w := by
    have := hX t; rw [← hrest, hrw] at this; exact ⟨(congrArg Prod.fst this).symm, (congrArg Prod.snd this).symm⟩
  have hwl : i + w' ≤ s.length := by
    have hlen : (s.drop i).length = s.length - i := List.length_drop
    rw [hd, hrest] at hlen; simp at hlen; omega
  have hdd : s.drop (i + w') = (c :: s.drop (i + 1)).drop w' := by rw [← hd, List.drop_drop]
  rw [exec_cons_next (bad_skip h5 h6 hw) rfl]
  by_cases hls : r' = 0x2028 ∨ r' = 0x2029
  · obtain ⟨σ', he, hq'⟩ := ls_exec (Γ := Γ) hq6 h5 h6 hp hil hls
    refine ⟨σ', _, _, _, Or.inl (exec_cons_cont he), hq', by omega, hwl, Nat.le_refl _, fun f => ?_⟩
    rw [List.drop_take_self, hd, scan_ls f c _ r' w' hlt hrw hw hls, hdd]
    simp
  · -- any other well-formed rune joins the pending run
    refine ⟨_, B, p, i + w', Or.inr (exec_cons_next (ls_skip h5 hls) (exec_cons_next (skipBy_exec hq6.h3 (eval_var h6)) rfl)),
      ⟨hq6.h0, hq6.h1, hq6.h2, rfl⟩, by omega, hwl, by omega, fun f => ?_⟩
    rw [take_add_drop s p i w' hp hil, hd, scan_good f c _ r' w' hlt hrw hw hls, hdd]
    simp

/-- The loop from any position `i` with pending run `str[p:i]`: it ends, and the buffer plus the pending run is what it was plus
what the mirror's `scan` emits for `str[i:]` (for every budget of the mirror above the remaining length). -/
theorem q_loop (Γ : Env) (hdec : DecodesAsSpec Γ) (s : Bytes) : ∀ (k : Nat) (σ : Store) (B : Bytes) (p i : Nat),
    QSt σ B s p i → p ≤ i → i ≤ s.length → s.length - i < k →
    ∃ σ' B' p' i', iter (stepOf Γ qBody) k σ = .next σ' ∧ QSt σ' B' s p' i' ∧ p' ≤ s.length ∧
      ∀ f, s.length - i < f → B' ++ s.drop p' = B ++ (s.take i).drop p ++ scan f (s.drop i) := by
  intro k
  induction k with
  | zero => intro σ B p i _ _ _ h; omega
  | succ k ih =>
    intro σ B p i hq hp hil hk
    rw [iter_succ]
    by_cases hi : i < s.length
    · obtain ⟨σ1, B1, p1, i1, hgo, hq1, hlt, hle, hp1, hf⟩ := q_step Γ hdec s σ B p i hq hi hp
      obtain ⟨σ', B', p', i', hiter, hq', hp', hfin⟩ := ih σ1 B1 p1 i1 hq1 hp1 hle (by omega)
      refine ⟨σ', B', p', i', (contK_goesOn _ k _ σ1 hgo).trans hiter, hq', hp', ?_⟩
      intro f hf'
      obtain ⟨f', rfl⟩ : ∃ f', f = f' + 1 := ⟨f - 1, by omega⟩
      rw [← hf f', hfin f' (by omega)]
    · rw [stepOf, qBody, exec_block_cons, (loopTest_exec hq).trans (if_neg hi)]
      refine ⟨σ, B, p, i, rfl, hq, by omega, ?_⟩
      intro f _
      rw [List.take_of_length_le (by omega), List.drop_eq_nil_of_le (by omega : s.length ≤ i), scan_nil]
      simp

/-- today's `AppendQuotedString` by the regenerated term -/
def genQuote (Γ : Env) (buf : Option Bytes) (s : Bytes) : Option (List ST.Val) :=
  (run Γ Gen.stringsFns .appendQuoted [.bytes buf, .str s]).vals

/-- C14 for today's code: `AppendQuotedString` of today's source, interpreted with Go's semantics and the spec's UTF-8
decoder, appends exactly the bytes of the hand mirror `C14.appendQuoted` — for every byte string, every buffer (nil
included) and every loop budget above the length of the string. -/
theorem gen_quote_semantics (Γ : Env) (hdec : DecodesAsSpec Γ) (buf : Option Bytes) (s : Bytes) (hfuel : s.length < Γ.fuel) :
    genQuote Γ buf s = some [.bytes (some (buf.getD [] ++ appendQuoted s))] := by
  obtain ⟨σ', B', p', i', hiter, ⟨h0, h1, h2, h3⟩, hp', hfin⟩ := q_loop Γ hdec s Γ.fuel
    (((((Store.empty.set 0 (.bytes buf)).set 1 (.str s)).set 0 (.bytes (some (buf.getD [] ++ [34])))).set 2 (.int 0)).set 3 (.int 0))
    (buf.getD [] ++ [34]) 0 0 ⟨rfl, rfl, rfl, rfl⟩ (by omega) (by omega) (by omega)
  have hfin' := hfin (s.length + 1) (by omega)
  refine run_vals gen_quote_canon rfl (exec_cons_next (exec_assign_ok (bind2 (eval_var rfl) rfl rfl)) <|
    exec_cons_next (exec_assign_ok rfl) <| exec_cons_next (exec_assign_ok rfl) <| exec_cons_next (Eq.trans (exec_loop _ _ _) hiter) <|
    exec_cons_next (exec_assign_ok (bind2 (eval_var h0) (eval_sliceFrom_str (eval_var h1) (eval_var h2) hp') rfl)) <|
    exec_cons_next (exec_assign_ok (bind2 (eval_var rfl) rfl rfl)) <| exec_cons_ret (exec_ret_ok (evalList_cons (Eq.trans (eval_var rfl) ?_) rfl)))
  show ST.Res.ok (ST.Val.bytes (some (B' ++ s.drop p' ++ [34]))) = _
  rw [hfin']
  simp [appendQuoted]

/-- … hence what today's code appends is a JSON string token: it starts with `"`, and the RFC 8259 string parser consumes
exactly the rest and decodes it to `Json.sanitize s` (`C14.quoted_parses`). -/
theorem gen_quote_parses (Γ : Env) (hdec : DecodesAsSpec Γ) (buf : Option Bytes) (s : Bytes) (hfuel : s.length < Γ.fuel) :
    ∃ out, genQuote Γ buf s = some [.bytes (some (buf.getD [] ++ out))] ∧ out.head? = some 34 ∧
      ∃ fuel, Json.parseStr fuel (out.drop 1) [] = some (Json.sanitize s, []) :=
  ⟨appendQuoted s, gen_quote_semantics Γ hdec buf s hfuel, C14.quoted_starts_with_quote s, C14.quoted_parses s⟩

/-- an environment that satisfies the hypotheses: the spec's decoder, a budget of `fuel` rounds -/
def specEnv (fuel : Nat) : Env :=
  { fuel := fuel, decode := fun t => (((Json.decodeRune t).1 : Nat), (Json.decodeRune t).2), encode := fun _ => [],
    runeLen := fun _ => 0, toUpper := id, newMatcher := fun _ _ => .error .badPattern }

theorem specEnv_decodes (fuel : Nat) : DecodesAsSpec (specEnv fuel) := fun _ => rfl

/-! ## Witnesses: plausible mutations are different terms and append other bytes -/

/-- `AppendQuotedString` with other statements for the plain-byte test and for the escape of a byte below 0x80 -/
def mkQuote (plain ascii : S) : ST.Fn := { params := 2, body := S.block [
  S.assign (L.var 0) (E.app1 (E.var 0) (E.byte 34)),
  S.assign (L.var 2) (E.int 0),
  S.assign (L.var 3) (E.int 0),
  S.loop (S.block (
    S.ite (E.cmp COp.lt (E.var 3) (E.len (E.var 1))) S.skip S.brk ::
    S.assign (L.var 4) (E.at (E.var 1) (E.var 3)) ::
    plain :: ascii :: widePart)),
  S.assign (L.var 0) (E.appAll (E.var 0) (E.sliceFrom (E.var 1) (E.var 2))),
  S.assign (L.var 0) (E.app1 (E.var 0) (E.byte 34)),
  S.ret [E.var 0]] }

example : mkQuote plainPart asciiPart = fnQuote := rfl

/-- the bytes a variant appends to an empty buffer -/
def outOf (fn : ST.Fn) (s : Bytes) : Option Bytes :=
  match (runFn (specEnv 64) fn [.bytes none, .str s]).vals with
  | some [.bytes (some b)] => some b
  | _ => none

def plainWith (op1 op2 : COp) : S :=
  S.ite (E.and (E.and (E.and (E.cmp COp.ne (E.var 4) (E.byte 92)) (E.cmp COp.ne (E.var 4) (E.byte 34))) (E.cmp op1 (E.var 4) (E.byte 32)))
    (E.cmp op2 (E.var 4) (E.byte 128))) (S.block [S.assign (L.var 3) (E.add (E.var 3) (E.int 1)), S.cont]) (S.block [])

example : plainWith .ge .lt = plainPart := rfl

-- today's term on samples: the mirror's bytes
example : outOf fnQuote [97, 9, 98] = some [34, 97, 92, 116, 98, 34] := by decide
example : outOf fnQuote [32, 0x80, 0x1f] = some (appendQuoted [32, 0x80, 0x1f]) := by decide
example : outOf fnQuote [0xE2, 0x80, 0xA8, 0xEF, 0xBF, 0xBD, 0xFF] = some (appendQuoted [0xE2, 0x80, 0xA8, 0xEF, 0xBF, 0xBD, 0xFF]) := by decide

/-- `c <= utf8.RuneSelf` for `c < utf8.RuneSelf` in the test for bytes that need no escape: the invalid byte 0x80 is copied
as it is, and the output is no longer what `quoted_parses` speaks about (a parser recovers U+FFFD = EF BF BD, not 0x80) -/
example : mkQuote (plainWith .ge .le) asciiPart ≠ fnQuote := by decide
example : outOf (mkQuote (plainWith .ge .le) asciiPart) [0x80] = some [34, 0x80, 34] := by decide
example : outOf fnQuote [0x80] = some [34, 92, 117, 102, 102, 102, 100, 34] := by decide
example : outOf (mkQuote (plainWith .ge .le) asciiPart) [0x80] ≠ some (appendQuoted [0x80]) := by decide

/-- `c > 0x20` for `c >= 0x20`: a space is escaped as `\u0020` -/
example : mkQuote (plainWith .gt .lt) asciiPart ≠ fnQuote := by decide
example : outOf (mkQuote (plainWith .gt .lt) asciiPart) [32] = some [34, 92, 117, 48, 48, 50, 48, 34] := by decide
example : outOf fnQuote [32] = some [34, 32, 34] := by decide

/-- `c >= 0x1f` for `c >= 0x20`: the control byte 0x1f is copied as it is — not a JSON string (the parser rejects it) -/
def plain1f : S :=
  S.ite (E.and (E.and (E.and (E.cmp COp.ne (E.var 4) (E.byte 92)) (E.cmp COp.ne (E.var 4) (E.byte 34))) (E.cmp COp.ge (E.var 4) (E.byte 31)))
    (E.cmp COp.lt (E.var 4) (E.byte 128))) (S.block [S.assign (L.var 3) (E.add (E.var 3) (E.int 1)), S.cont]) (S.block [])
example : outOf (mkQuote plain1f asciiPart) [0x1f] = some [34, 0x1f, 34] := by decide
example : Json.parseStr 10 [0x1f, 34] [] = none := by decide

/-- the flush of the pending run dropped before an escape: the bytes before the escape are lost -/
def asciiNoFlush : S := S.ite (E.cmp COp.lt (E.var 4) (E.byte 128)) (S.block (escSwitch :: advance1)) (S.block [])
example : mkQuote plainPart asciiNoFlush ≠ fnQuote := by decide
example : outOf (mkQuote plainPart asciiNoFlush) [97, 9, 98] = some [34, 92, 116, 98, 34] := by decide

/-- `p = i` forgotten after an escape: the escaped byte is written again, raw, with the next run -/
def asciiNoP : S := S.ite (E.cmp COp.lt (E.var 4) (E.byte 128))
  (S.block [flush, escSwitch, S.assign (L.var 3) (E.add (E.var 3) (E.int 1)), S.cont]) (S.block [])
example : outOf (mkQuote plainPart asciiNoP) [97, 9, 98] = some [34, 97, 92, 116, 97, 9, 98, 34] := by decide

/-- `chars[c>>3]` for `chars[c>>4]`: 0x1f is written as `\u003f` -/
def escShift3 : S :=
  S.ite (E.cmp COp.lt (E.var 4) (E.byte 128)) (S.block ([flush,
    emit [92, 117, 48, 48],
    S.assign (L.var 0) (E.app1 (E.var 0) (E.at charsE (E.shr (E.var 4) (E.int 3)))),
    S.assign (L.var 0) (E.app1 (E.var 0) (E.at charsE (E.band (E.var 4) (E.byte 15))))] ++ advance1)) (S.block [])
example : outOf (mkQuote plainPart escShift3) [0x1f] = some [34, 92, 117, 48, 48, 51, 102, 34] := by decide
example : outOf fnQuote [0x1f] = some [34, 92, 117, 48, 48, 49, 102, 34] := by decide

end QF.Props.C14QuoteGen

#print axioms QF.Props.C14QuoteGen.gen_quote_no_opaque
#print axioms QF.Props.C14QuoteGen.gen_quote_canon
#print axioms QF.Props.C14QuoteGen.gen_quote_semantics
#print axioms QF.Props.C14QuoteGen.gen_quote_parses
