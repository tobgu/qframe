import QF.Props.C13WriterGen
import QF.Props.C14WriterGen
import QF.Props.C14ReadJsonGen
import QF.Props.C12NoFuel
import QF.Props.C12GlueGen
import QF.Props.C19SqlWriteGen
import QF.Props.C19ReadSqlGen
import QF.Props.C03SortGlueGen
/-!
# C15 — I/O failures are reported: the writers against a writer that fails at a byte offset, and all six entry points

C15: "If the io.Reader, io.Writer or database/sql driver underneath ReadCSV, ReadJSON, ReadSQL, ToCSV, ToJSON or ToSQL fails
at any point, the call reports an error. It never returns an error-free frame that is missing rows of the input, never
reports success for output that was not completely accepted by the writer, and never panics."

The regenerated writers (`Gen.toJsonAst`, `Gen.toCsvAst`; QF/Core/WExpr.lean) are run against fault ORACLES: `Write` call
number `k` fails (`JEnv.fail`), `w.Write` number `k` of the csv writer fails / `w.Error()` is non-nil after `Flush`
(`CWEnv.wfail`, `CWEnv.ferr`). The writer C15 talks about is one that fails AT A BYTE OFFSET. This file

* states the scripted writer `FW` (accepts the first `limit` bytes and fails from then on; the failing call hands over the
  bytes up to the limit first — a partial write — or nothing, as `partialWrite` says): the `faultWriter` of the T2 harness;
* proves `gen_tojson_fault`: for every frame, every fault offset and every oracle that gives the scripted writer's answers on
  the calls actually made (`FW.agrees`; one exists: `oracle_agrees`): `ToJSON` has a meaning (no panic), returns an error
  iff some `Write` failed iff the writer did not accept the whole text, and the bytes the writer accepted are a prefix of the
  fault-free output `C14ToJson.toJSON` (all of it when nil is returned);
* states the csv writer over its buffer (`encoding/csv.Writer` over `bufio.Writer` — NOT regenerated: the stated model
  `BufSched`) and proves `gen_tocsv_fault`: for every frame, fault offset and buffer schedule: `ToCSV` returns an error iff
  some `w.Write` or the final `Flush` (`w.Error()`) failed iff the writer did not accept the whole text, and the bytes the
  writer accepted are a prefix of the fault-free output `C13Write.tocsv`;
* assembles `gen_io_failures_reported`: one statement per I/O entry point of C15's text.

ReadJSON's decoder is the standard library: its reader-fault rule is stated over the model `decodeDoc` / `JUEnv.dec`
("a reader error that strikes before the document's value is complete is returned by `Decode`") and RESTS ON THAT MODEL.
-/
namespace QF.Props.C15EndToEnd
open QF
set_option linter.unusedSimpArgs false

/-! ## The scripted writer -/

/-- An `io.Writer` that accepts the first `limit` bytes and fails from then on (the `faultWriter` of the harness). -/
structure FW where
  limit : Nat
  /-- the failing call hands over the bytes up to the limit before it returns the error (`n < len(p)`, `err != nil`);
  `false`: it hands over nothing -/
  partialWrite : Bool := true

/-- `Write(p)` when `acc` bytes have been accepted so far: the bytes this call accepts, and whether it returns an error -/
def FW.write (w : FW) (acc : Nat) (p : Bytes) : Bytes × Bool :=
  if acc + p.length ≤ w.limit then (p, false) else (if w.partialWrite then p.take (w.limit - acc) else [], true)

/-- the calls `ps` one after the other by a caller that stops at the first error: the bytes accepted, and did a call fail -/
def FW.feed (w : FW) : Nat → List Bytes → Bytes × Bool
  | _, [] => ([], false)
  | acc, p :: ps =>
    if (w.write acc p).2 then ((w.write acc p).1, true)
    else (p ++ (w.feed (acc + p.length) ps).1, (w.feed (acc + p.length) ps).2)

/-- the bytes accepted over the calls `ps`, whatever the caller does with the errors -/
def FW.accepted (w : FW) : Nat → List Bytes → Bytes
  | _, [] => []
  | acc, p :: ps => (w.write acc p).1 ++ w.accepted (acc + (w.write acc p).1.length) ps

/-- the oracle `fail` (call number ↦ does it return an error) gives the scripted writer's answers on the calls `ps`, numbered
from `k`, the writer having accepted `acc` bytes before -/
def FW.agrees (w : FW) (fail : Nat → Bool) : Nat → Nat → List Bytes → Bool
  | _, _, [] => true
  | k, acc, p :: ps => (fail k == (w.write acc p).2) && w.agrees fail (k + 1) (acc + (w.write acc p).1.length) ps

theorem FW.write_ok (w : FW) (acc : Nat) (p : Bytes) (h : (w.write acc p).2 = false) :
    (w.write acc p).1 = p ∧ acc + p.length ≤ w.limit := by
  unfold FW.write at h ⊢
  by_cases hc : acc + p.length ≤ w.limit
  · simp [hc]
  · simp [hc] at h

theorem FW.write_fail (w : FW) (acc : Nat) (p : Bytes) (h : (w.write acc p).2 = true) :
    w.limit < acc + p.length ∧ (w.write acc p).1 <+: p := by
  unfold FW.write at h ⊢
  by_cases hc : acc + p.length ≤ w.limit
  · simp [hc] at h
  · simp only [hc, if_false]
    refine ⟨by omega, ?_⟩
    cases w.partialWrite
    · exact List.nil_prefix
    · exact List.take_prefix _ _

/-- the scripted writer over the calls `l`, started within its limit: what it accepted is a prefix of what it was handed;
a call fails iff the limit is below the end of the text; without a failing call everything was accepted; with partial
writes it has accepted exactly its first `limit` bytes when a call fails -/
theorem FW.feed_spec (w : FW) : ∀ (l : List Bytes) (acc : Nat), acc ≤ w.limit →
    (w.feed acc l).1 <+: l.flatten ∧
    ((w.feed acc l).2 = true ↔ w.limit < acc + l.flatten.length) ∧
    ((w.feed acc l).2 = false → (w.feed acc l).1 = l.flatten) ∧
    (w.partialWrite = true → (w.feed acc l).2 = true → acc + (w.feed acc l).1.length = w.limit) := by
  intro l
  induction l with
  | nil =>
    intro acc hacc
    exact ⟨List.prefix_rfl, ⟨nofun, fun h => absurd hacc (Nat.not_le_of_lt h)⟩, fun _ => rfl, fun _ => nofun⟩
  | cons p ps ih =>
    intro acc hacc
    unfold FW.feed
    rw [List.flatten_cons, List.length_append]
    cases hw : (w.write acc p).2 with
    | true =>
      rw [if_pos rfl]
      obtain ⟨hlim, hpre⟩ := w.write_fail acc p hw
      refine ⟨hpre.trans (List.prefix_append _ _), ⟨fun _ => by omega, fun _ => rfl⟩, nofun, fun hp _ => ?_⟩
      unfold FW.write
      rw [if_neg (Nat.not_le_of_lt hlim), hp, if_pos rfl, List.length_take]
      omega
    | false =>
      rw [if_neg nofun]
      obtain ⟨_, hok⟩ := w.write_ok acc p hw
      obtain ⟨h1, h2, h3, h4⟩ := ih (acc + p.length) hok
      refine ⟨(List.prefix_append_right_inj p).2 h1, ?_, fun h => ?_, fun hp h => ?_⟩
      · rw [← Nat.add_assoc]; exact h2
      · exact congrArg (p ++ ·) (h3 h)
      · rw [List.length_append, ← Nat.add_assoc]; exact h4 hp h
/-! ## Programs that stop at the first failing call (`cutWrites`) against the scripted writer -/

theorem cut_prefix {α : Type} (fail : Nat → Bool) : ∀ (l : List α) (k : Nat), (cutWrites fail k l).1 <+: l := by
  intro l
  induction l with
  | nil => intro k; simp [cutWrites]
  | cons b bs ih =>
    intro k
    by_cases h : fail k = true
    · simp only [cutWrites, h, if_true]
      exact ⟨bs, rfl⟩
    · simp only [cutWrites, h, Bool.false_eq_true, if_false]
      exact (List.prefix_append_right_inj [b]).2 (ih (k + 1))

/-- an error is returned iff one of the calls made failed -/
theorem cut_fail_iff {α : Type} (fail : Nat → Bool) : ∀ (l : List α) (k : Nat),
    (cutWrites fail k l).2 = true ↔ ∃ j, j < (cutWrites fail k l).1.length ∧ fail (k + j) = true := by
  intro l
  induction l with
  | nil => intro k; simp [cutWrites]
  | cons b bs ih =>
    intro k
    by_cases h : fail k = true
    · simp only [cutWrites, h, if_true, List.length_singleton, true_iff]
      exact ⟨0, by omega, by simpa using h⟩
    · simp only [cutWrites, h, Bool.false_eq_true, if_false, List.length_cons]
      rw [ih (k + 1)]
      constructor
      · rintro ⟨j, hj, hf⟩
        exact ⟨j + 1, by omega, by rw [← hf]; congr 1; omega⟩
      · rintro ⟨j, hj, hf⟩
        cases j with
        | zero => simp at hf; exact absurd hf h
        | succ j => exact ⟨j, by omega, by rw [← hf]; congr 1; omega⟩

/-- **The oracle and the writer.** When the oracle gives the scripted writer's answers on the calls made, the program has
returned an error iff the writer failed on the chunks, and what the writer accepted over the calls made is what it accepts
of the chunks. -/
theorem cut_feed (w : FW) (fail : Nat → Bool) : ∀ (l : List Bytes) (k acc : Nat),
    w.agrees fail k acc (cutWrites fail k l).1 = true →
    (cutWrites fail k l).2 = (w.feed acc l).2 ∧ w.accepted acc (cutWrites fail k l).1 = (w.feed acc l).1 := by
  intro l
  induction l with
  | nil => intro k acc _; simp [cutWrites, FW.feed, FW.accepted]
  | cons b bs ih =>
    intro k acc h
    by_cases hf : fail k = true
    · simp only [cutWrites, hf, if_true, FW.agrees, Bool.and_true, beq_iff_eq] at h ⊢
      simp only [FW.feed, ← h, if_true, FW.accepted, List.append_nil, and_self]
    · have hfb : fail k = false := by simpa using hf
      simp only [cutWrites, hfb, Bool.false_eq_true, if_false, FW.agrees, Bool.and_eq_true, beq_iff_eq] at h ⊢
      have hw : (w.write acc b).2 = false := h.1.symm
      have h1 := (w.write_ok acc b hw).1
      rw [h1] at h
      obtain ⟨e1, e2⟩ := ih (k + 1) (acc + b.length) h.2
      simp only [FW.feed, hw, Bool.false_eq_true, if_false, FW.accepted, h1]
      exact ⟨e1, by rw [e2]⟩

/-- the scripted writer's answers as an oracle on the fault-free chunks `l`: call `j` fails iff its end is beyond the limit -/
def FW.oracle (w : FW) (l : List Bytes) : Nat → Bool := fun j => decide (w.limit < ((l.take (j + 1)).flatten).length)

/-- **Such an oracle exists**: the one read off the fault-free chunks agrees with the writer on the calls made. -/
theorem oracle_agrees_from (w : FW) (l : List Bytes) : ∀ (rest pre : List Bytes), l = pre ++ rest → pre.flatten.length ≤ w.limit →
    w.agrees (w.oracle l) pre.length pre.flatten.length (cutWrites (w.oracle l) pre.length rest).1 = true := by
  intro rest
  induction rest with
  | nil => intro pre _ _; simp [cutWrites, FW.agrees]
  | cons p ps ih =>
    intro pre hl hacc
    have hlen1 : (pre ++ [p]).length = pre.length + 1 := by simp
    have hlen2 : (pre ++ [p]).flatten.length = pre.flatten.length + p.length := by
      simp only [List.flatten_append, List.flatten_cons, List.flatten_nil, List.append_nil, List.length_append]
    have htake : l.take (pre.length + 1) = pre ++ [p] := by
      have e : pre ++ p :: ps = (pre ++ [p]) ++ ps := by simp
      rw [hl, e, List.take_left' hlen1]
    have horc : w.oracle l pre.length = (w.write pre.flatten.length p).2 := by
      unfold FW.oracle FW.write
      rw [htake, hlen2]
      by_cases hc : pre.flatten.length + p.length ≤ w.limit
      · rw [if_pos hc]
        simp only [decide_eq_false_iff_not, Nat.not_lt]
        exact hc
      · rw [if_neg hc]
        simp only [decide_eq_true_eq]
        omega
    by_cases hf : w.oracle l pre.length = true
    · simp only [cutWrites, hf, if_true, FW.agrees, Bool.and_true, beq_iff_eq]
      rw [← horc, hf]
    · have hfb : w.oracle l pre.length = false := by simpa using hf
      simp only [cutWrites, hfb, Bool.false_eq_true, if_false, FW.agrees, Bool.and_eq_true, beq_iff_eq]
      have hw : (w.write pre.flatten.length p).2 = false := by rw [← horc, hfb]
      obtain ⟨h1, h2⟩ := w.write_ok _ p hw
      refine ⟨by rw [hw], ?_⟩
      rw [h1]
      have := ih (pre ++ [p]) (by rw [hl]; simp) (by rw [hlen2]; exact h2)
      rw [hlen1, hlen2] at this
      exact this

theorem oracle_agrees (w : FW) (l : List Bytes) : w.agrees (w.oracle l) 0 0 (cutWrites (w.oracle l) 0 l).1 = true := by
  have := oracle_agrees_from w l l [] rfl (by simp)
  simpa using this

#print axioms oracle_agrees

/-! ## `ToJSON` against the scripted writer -/

section ToJSON
open QF.Props.C14WriterGen QF.Props.C14ToJson

/-- **`ToJSON` of today's source against a writer that fails at a byte offset.** For EVERY frame (cells of their column's
type), every oracle `fail` for the `Write` calls and every scripted writer `w` (any limit, partial write or not):

* the call has a meaning and returns (no panic); the `Write` calls made are an initial part of the fault-free calls
  (`[`, one per record, `]`);
* it returns a non-nil error IFF one of the `Write` calls it made returned an error;

and when the oracle gives the scripted writer's answers on the calls made (`FW.agrees`; such an oracle exists:
`gen_tojson_fault_oracle`):

* it returns an error iff the writer's limit is below the length of the fault-free text — success is never reported for
  output the writer did not completely accept, and an error never for output it accepted completely;
* the bytes the writer accepted are a PREFIX of the fault-free output `toJSON fmt f`; all of it when nil is returned; with
  partial writes exactly the first `limit` bytes when an error is returned. -/
theorem gen_tojson_fault (fmt : UInt64 → Bytes) (f : LFrame) (hf : C09Observe.FrameTyped f) (w : FW) (fail : Nat → Bool) :
    ∃ ws e, genToJSON fmt f fail = some (ws, e) ∧
      ws <+: chunks fmt f ∧
      (e = true ↔ ∃ j, j < ws.length ∧ fail j = true) ∧
      (w.agrees fail 0 0 ws = true →
        (e = true ↔ w.limit < (toJSON fmt f).length) ∧
        w.accepted 0 ws <+: toJSON fmt f ∧
        (e = false → w.accepted 0 ws = toJSON fmt f) ∧
        (e = true → w.partialWrite = true → (w.accepted 0 ws).length = w.limit)) := by
  refine ⟨(cutWrites fail 0 (chunks fmt f)).1, (cutWrites fail 0 (chunks fmt f)).2, ?_, cut_prefix _ _ _, ?_, ?_⟩
  · rw [gen_tojson_writes fmt f hf fail]
    rfl
  · have := cut_fail_iff fail (chunks fmt f) 0
    simpa using this
  · intro hag
    obtain ⟨e1, e2⟩ := cut_feed w fail (chunks fmt f) 0 0 hag
    obtain ⟨h1, h2, h3, h4⟩ := w.feed_spec (chunks fmt f) 0 (Nat.zero_le _)
    rw [Nat.zero_add] at h2 h4
    rw [e1, e2, ← chunks_flatten]
    exact ⟨h2, h1, h3, fun h hp => h4 hp h⟩

/-- … and the oracle read off the fault-free chunks is one that agrees with the writer: the hypothesis of
`gen_tojson_fault` can be met for every frame and every writer. -/
theorem gen_tojson_fault_oracle (fmt : UInt64 → Bytes) (f : LFrame) (hf : C09Observe.FrameTyped f) (w : FW) :
    ∃ ws e, genToJSON fmt f (w.oracle (chunks fmt f)) = some (ws, e) ∧ w.agrees (w.oracle (chunks fmt f)) 0 0 ws = true := by
  refine ⟨(cutWrites (w.oracle (chunks fmt f)) 0 (chunks fmt f)).1, (cutWrites (w.oracle (chunks fmt f)) 0 (chunks fmt f)).2, ?_,
    oracle_agrees w (chunks fmt f)⟩
  rw [gen_tojson_writes fmt f hf]
  rfl

end ToJSON

/-! ## `ToCSV` against the scripted writer -/

section ToCSV
open QF.Props.C13WriterGen QF.Props.C13Write

/-- **The csv writer over its buffer — the stated model** (`encoding/csv.Writer` over `bufio.Writer`; the standard library
is NOT regenerated). `w.Write(record)` renders the record (`C13Write.writeRecord`, the byte-exact mirror of the csv writer)
into a buffer; the buffer hands what it holds to the underlying `io.Writer` in chunks, when it likes (when it is full, for a
large piece directly, and what is left at `Flush`); its error is sticky: after the first failing call of the underlying
writer nothing more is handed over, every further `w.Write` returns that error, and `w.Error()` returns it after `Flush`.
Hence a run is described by the chunking it would produce if nothing failed:

* `chunks` — the pieces handed to the underlying writer, in order, when nothing fails (`Flush` included): together the
  rendered records;
* `upto i` — how many of them have been handed over when `w.Write` number `i` returns.

Every buffer size and every chunking policy is an instance; the theorems below hold for all of them. (A real buffer also
never hands over bytes that were not written yet; the theorems do not need it.) -/
structure BufSched where
  chunks : List Bytes
  upto : Nat → Nat

/-- does `w.Write` number `i` return an error: one of the chunks handed over by then was refused -/
def wfailOf (w : FW) (B : BufSched) : Nat → Bool := fun i => (w.feed 0 (B.chunks.take (B.upto i))).2

/-- is `w.Error()` non-nil after `Flush`: one of the chunks was refused -/
def ferrOf (w : FW) (B : BufSched) : Bool := (w.feed 0 B.chunks).2

/-- the bytes the underlying writer has accepted when `ToCSV` returns after `nrecs` records, flushed or not -/
def acceptedCsv (w : FW) (B : BufSched) (nrecs : Nat) (flushed : Bool) : Bytes :=
  (w.feed 0 (if flushed then B.chunks else B.chunks.take (B.upto (nrecs - 1)))).1

theorem take_flatten_prefix (l : List Bytes) (m : Nat) : (l.take m).flatten <+: l.flatten := by
  conv => rhs; rw [← List.take_append_drop m l, List.flatten_append]
  exact List.prefix_append _ _

/-- the outcome `csvResult` (records handed over, flushed?, return) of any record list against the scripted writer behind
any buffer schedule that renders these records -/
theorem csvResult_fault (E : CWEnv) (w : FW) (B : BufSched) (hw : E.wfail = wfailOf w B) (hfe : E.ferr = ferrOf w B)
    (rows : List (List Bytes)) (hB : B.chunks.flatten = csvWrite rows) :
    (csvResult E rows).1 <+: rows ∧
    ((csvResult E rows).2.2 ≠ .nil ↔
      (∃ i, i < (csvResult E rows).1.length ∧ E.wfail i = true) ∨ ((csvResult E rows).2.1 = true ∧ E.ferr = true)) ∧
    ((csvResult E rows).2.2 ≠ .nil ↔ w.limit < (csvWrite rows).length) ∧
    acceptedCsv w B (csvResult E rows).1.length (csvResult E rows).2.1 <+: csvWrite rows ∧
    ((csvResult E rows).2.2 = .nil → acceptedCsv w B (csvResult E rows).1.length (csvResult E rows).2.1 = csvWrite rows) := by
  have hcut := cut_fail_iff E.wfail rows 0
  simp only [Nat.zero_add] at hcut
  -- what the writer makes of an initial part of the chunks, and of all of them
  have hpart : ∀ m, (w.feed 0 (B.chunks.take m)).1 <+: csvWrite rows ∧
      ((w.feed 0 (B.chunks.take m)).2 = true → w.limit < (csvWrite rows).length) := by
    intro m
    obtain ⟨h1, h2, _⟩ := w.feed_spec (B.chunks.take m) 0 (Nat.zero_le _)
    have hp := take_flatten_prefix B.chunks m
    rw [hB] at hp
    rw [Nat.zero_add] at h2
    exact ⟨h1.trans hp, fun h => Nat.lt_of_lt_of_le (h2.1 h) hp.length_le⟩
  obtain ⟨hall1, hall2, hall3, _⟩ := w.feed_spec B.chunks 0 (Nat.zero_le _)
  rw [hB, Nat.zero_add] at hall2
  rw [hB] at hall1 hall3
  unfold csvResult acceptedCsv
  cases hc : (cutWrites E.wfail 0 rows).2 with
  | true =>
    obtain ⟨j, hj, hjf⟩ := hcut.1 hc
    simp only [Bool.not_true, if_true, Bool.false_eq_true, if_false]
    refine ⟨cut_prefix _ _ _, ⟨fun _ => .inl ⟨j, hj, hjf⟩, fun _ => nofun⟩, ⟨fun _ => ?_, fun _ => nofun⟩,
      (hpart _).1, nofun⟩
    rw [hw] at hjf
    exact (hpart _).2 hjf
  | false =>
    have hnone : ¬ ∃ i, i < (cutWrites E.wfail 0 rows).1.length ∧ E.wfail i = true :=
      fun h => Bool.false_ne_true (hc ▸ hcut.2 h)
    simp only [Bool.not_false, Bool.false_eq_true, if_false, if_true]
    rw [hfe]
    unfold ferrOf
    cases hfr : (w.feed 0 B.chunks).2 with
    | true =>
      simp only [if_true]
      exact ⟨cut_prefix _ _ _, ⟨fun _ => .inr ⟨trivial, trivial⟩, fun _ => nofun⟩, ⟨fun _ => hall2.1 hfr, fun _ => nofun⟩,
        hall1, nofun⟩
    | false =>
      simp only [Bool.false_eq_true, if_false]
      exact ⟨cut_prefix _ _ _, ⟨fun h => absurd rfl h, fun h => h.elim (fun h => absurd h hnone) (fun h => nomatch h.2)⟩,
        ⟨fun h => absurd rfl h, fun h => nomatch hfr ▸ hall2.2 h⟩, hall1, fun _ => hall3 hfr⟩

/-- **`ToCSV` of today's source against a writer that fails at a byte offset**, behind the csv writer and its buffer (stated
model `BufSched`). For EVERY frame with distinct column names whose cells are of their column's type, with or without the
header record, every scripted writer (any limit, partial write or not) and every buffer schedule `B` that renders the
fault-free records (`B.chunks.flatten = tocsv fmt hdr f`):

* the call has a meaning and returns (no panic); the records handed to the csv writer are an initial part of the
  fault-free records;
* it returns a non-nil error IFF some `w.Write` it made returned an error, or the writer was flushed and the final
  `w.Error()` is non-nil — the failure noticed at `Flush` is NOT swallowed;
* it returns an error iff the writer's limit is below the length of the fault-free text: success is never reported for
  output that was not completely accepted;
* the bytes the underlying writer accepted are a PREFIX of the fault-free output `tocsv fmt hdr f`, and all of it when nil
  is returned. -/
theorem gen_tocsv_fault (fmt : UInt64 → Bytes) (f : LFrame) (hf : C09Observe.FrameTyped f) (hnd : f.names.Nodup)
    (hdr : Bool) (w : FW) (B : BufSched) (hB : B.chunks.flatten = tocsv fmt hdr f) :
    ∃ recs fl ret, genToCSV fmt f none hdr (wfailOf w B) (ferrOf w B) = some (recs, fl, ret) ∧
      recs <+: tocsvRows fmt hdr f ∧
      (ret ≠ .nil ↔ (∃ i, i < recs.length ∧ wfailOf w B i = true) ∨ (fl = true ∧ ferrOf w B = true)) ∧
      (ret ≠ .nil ↔ w.limit < (tocsv fmt hdr f).length) ∧
      acceptedCsv w B recs.length fl <+: tocsv fmt hdr f ∧
      (ret = .nil → acceptedCsv w B recs.length fl = tocsv fmt hdr f) := by
  exact ⟨_, _, _, gen_tocsv_error fmt f hf hnd hdr _ _,
    csvResult_fault (genEnv fmt f none hdr (wfailOf w B) (ferrOf w B)) w B rfl rfl _ hB⟩

/-- … the same with a column list (`conf.Columns`) of the frame's length whose names all exist (a permutation of the column
names, say): the records are those of the selected columns `cs`. (A list of another length or with an unknown name is
rejected before anything is written: `C13WriterGen.gen_tocsv_reject`.) -/
theorem gen_tocsv_fault_given (fmt : UInt64 → Bytes) (f : LFrame) (hf : C09Observe.FrameTyped f) (cols : List Bytes)
    (cs : List LCol) (hl : cols.length = f.cols.length) (hcs : cols.mapM f.find? = some cs)
    (hdr : Bool) (w : FW) (B : BufSched) (hB : B.chunks.flatten = tocsv fmt hdr { f with cols := cs }) :
    ∃ recs fl ret, genToCSV fmt f (some cols) hdr (wfailOf w B) (ferrOf w B) = some (recs, fl, ret) ∧
      recs <+: tocsvRows fmt hdr { f with cols := cs } ∧
      (ret ≠ .nil ↔ (∃ i, i < recs.length ∧ wfailOf w B i = true) ∨ (fl = true ∧ ferrOf w B = true)) ∧
      (ret ≠ .nil ↔ w.limit < (tocsv fmt hdr { f with cols := cs }).length) ∧
      acceptedCsv w B recs.length fl <+: tocsv fmt hdr { f with cols := cs } ∧
      (ret = .nil → acceptedCsv w B recs.length fl = tocsv fmt hdr { f with cols := cs }) := by
  rw [← optMap_eq_mapM] at hcs
  have hrun : genToCSV fmt f (some cols) hdr (wfailOf w B) (ferrOf w B) =
      some (csvResult (genEnv fmt f (some cols) hdr (wfailOf w B) (ferrOf w B)) (tocsvRows fmt hdr { f with cols := cs })) := by
    rw [genToCSV, gen_tocsv_canon, canon_given _ fmt (genEnv_ok fmt f _ hdr _ _ hf) cols cs rfl hl hcs]
    rfl
  exact ⟨_, _, _, hrun, csvResult_fault (genEnv fmt f (some cols) hdr (wfailOf w B) (ferrOf w B)) w B rfl rfl _ hB⟩

/-- a buffer of `cap ≥ 1` bytes that hands over full buffers and, at `Flush`, the rest: the pieces of the text `b` -/
def chop (cap : Nat) : Nat → Bytes → List Bytes
  | 0, _ => []
  | fuel + 1, b => if b.length ≤ cap then (if b.isEmpty then [] else [b]) else b.take cap :: chop cap fuel (b.drop cap)

theorem chop_flatten (cap : Nat) (hcap : 1 ≤ cap) : ∀ (fuel : Nat) (b : Bytes), b.length < fuel → (chop cap fuel b).flatten = b := by
  intro fuel
  induction fuel with
  | zero => intro b h; omega
  | succ fuel ih =>
    intro b h
    unfold chop
    by_cases hc : b.length ≤ cap
    · simp only [hc, if_true]
      cases b with
      | nil => rfl
      | cons x xs => simp
    · simp only [hc, if_false, List.flatten_cons]
      rw [ih (b.drop cap) (by simp only [List.length_drop]; omega), List.take_append_drop]

/-- **An instance of the model for every buffer size**: a buffer of `cap` bytes (`bufio`'s is 4096) in front of the
underlying writer hands over full buffers as they fill and the rest at `Flush`; when `w.Write` number `i` returns, the full
buffers among the bytes of the records `0 … i` have been handed over. -/
def bufOfCap (cap : Nat) (rows : List (List Bytes)) : BufSched :=
  { chunks := chop cap ((csvWrite rows).length + 1) (csvWrite rows),
    upto := fun i => (csvWrite (rows.take (i + 1))).length / cap }

theorem bufOfCap_ok (cap : Nat) (hcap : 1 ≤ cap) (rows : List (List Bytes)) : (bufOfCap cap rows).chunks.flatten = csvWrite rows :=
  chop_flatten cap hcap _ _ (Nat.lt_succ_self _)

/-- `gen_tocsv_fault` for a buffer of any size `cap ≥ 1`: the hypothesis on the schedule is met for every frame -/
theorem gen_tocsv_fault_cap (fmt : UInt64 → Bytes) (f : LFrame) (hf : C09Observe.FrameTyped f) (hnd : f.names.Nodup)
    (hdr : Bool) (w : FW) (cap : Nat) (hcap : 1 ≤ cap) :
    ∃ recs fl ret, genToCSV fmt f none hdr (wfailOf w (bufOfCap cap (tocsvRows fmt hdr f))) (ferrOf w (bufOfCap cap (tocsvRows fmt hdr f)))
        = some (recs, fl, ret) ∧
      (ret ≠ .nil ↔ w.limit < (tocsv fmt hdr f).length) ∧
      acceptedCsv w (bufOfCap cap (tocsvRows fmt hdr f)) recs.length fl <+: tocsv fmt hdr f ∧
      (ret = .nil → acceptedCsv w (bufOfCap cap (tocsvRows fmt hdr f)) recs.length fl = tocsv fmt hdr f) := by
  obtain ⟨recs, fl, ret, h1, _, _, h4, h5, h6⟩ :=
    gen_tocsv_fault fmt f hf hnd hdr w (bufOfCap cap (tocsvRows fmt hdr f)) (bufOfCap_ok cap hcap _)
  exact ⟨recs, fl, ret, h1, h4, h5, h6⟩

end ToCSV

/-! ## `ReadJSON`: the reader-fault rule over the stated model of `Decode` -/

section ReadJSON
open QF.Props.C14ReadJsonGen

/-- `UnmarshalJSON` of today's source when `decoder.Decode(&records)` returns `dec` (`none`: an error) -/
def genUnmarshalOn (dec : Option (List GoMap)) (iter : GoMap → GoMap) : Option (Option JData) :=
  match Gen.unmarshalJsonAst.run (δ := JData) (ρ := Unit)
      { dec := dec, toData := genToData iter, unm := none, new := fun _ => (), errFrame := () } .start with
  | some (.data d) => some d
  | _ => none

/-- `ReadJSON` of today's source when `decoder.Decode(&records)` returns `dec` -/
def genReadJsonOn (dec : Option (List GoMap)) (iter : GoMap → GoMap) : Option Res :=
  match Gen.readJsonAst.run (δ := JData) (ρ := Res)
      { dec := none, toData := fun _ => none, unm := genUnmarshalOn dec iter, new := newOfData, errFrame := .err } .start with
  | some (.frame f) => some f
  | _ => none

/-- **THE STATED MODEL of `(*json.Decoder).Decode` over a reader** (`encoding/json` is NOT regenerated): when the reader
returns an error other than `io.EOF` before the document's value is complete (`readerFailed`), `Decode` returns that error;
otherwise it is `decodeDoc` of the document (QF/Core/JRExpr.lean). A reader error that strikes only after the closing `]`
has been delivered is never seen by `Decode` — and then nothing of the input is missing. -/
def decodeOver (pnum : Bytes → Option UInt64) (doc : Json.JVal) (readerFailed : Bool) : Option (List GoMap) :=
  if readerFailed then none else decodeDoc pnum doc

/-- with a reader that does not fail this is `C14ReadJsonGen.genReadJson` -/
theorem genReadJsonOn_doc (pnum : Bytes → Option UInt64) (iter : GoMap → GoMap) (doc : Json.JVal) :
    genReadJsonOn (decodeOver pnum doc false) iter = genReadJson pnum iter doc := rfl

/-- **`ReadJSON` of today's source returns `QFrame{Err: err}` whenever `Decode` returns an error** — RESTS ON THE MODEL
`decodeOver`: a reader error is an error of `Decode`. Proved of the regenerated `UnmarshalJSON` and `ReadJSON`. -/
theorem gen_readjson_reader_fault (iter : GoMap → GoMap) : genReadJsonOn none iter = some .err := by
  have hu : genUnmarshalOn none iter = some none := by
    unfold genUnmarshalOn
    rw [gen_readjson_canon.2.2.1]
    simp [canonUnmarshal, JU.run]
  unfold genReadJsonOn
  rw [gen_readjson_canon.2.2.2, hu]
  simp [canonReadJson, JU.run]

end ReadJSON

/-! ## All six entry points -/

section All
open QF.Props.C13WriterGen QF.Props.C13Write QF.Props.C14WriterGen QF.Props.C14ToJson QF.Props.C12GlueGen
open QF.Props.C19Sql QF.Props.C19SqlWriteGen QF.Props.C19ReadSqlGen QF.Props.C14ReadJsonGen
open QF.SG QF.Props.C03SortGlueGen

/-- `ToSQL` with any scripted driver: an error iff some `Exec` failed; the statements that reached the driver are an initial
part of the frame's statements, all of them when nil is returned -/
theorem gen_tosql_reported (P : VFrame) (h : FrameOK P) (cfg : SqlCfg) (efail : Nat → Bool) :
    ∃ execs ret, genToSQLToday P false cfg efail = some (execs, ret) ∧ execs <+: toSqlGo cfg P.logical ∧
      (ret ≠ .nil ↔ ∃ j, j < execs.length ∧ efail j = true) ∧ (ret = .nil → execs = toSqlGo cfg P.logical) := by
  refine ⟨(cutWrites efail 0 (toSqlGo cfg P.logical)).1,
    if (cutWrites efail 0 (toSqlGo cfg P.logical)).2 then .execErr else .nil, ?_, cut_prefix _ _ _, ?_, ?_⟩
  · rw [gen_tosql_semantics P h false cfg efail]
    rfl
  · have hc := cut_fail_iff efail (toSqlGo cfg P.logical) 0
    simp only [Nat.zero_add] at hc
    by_cases hx : (cutWrites efail 0 (toSqlGo cfg P.logical)).2 = true
    · simp only [hx, if_true, ne_eq, reduceCtorEq, not_false_eq_true, true_iff]
      exact hc.1 hx
    · simp only [hx, Bool.false_eq_true, if_false, ne_eq, not_true_eq_false, false_iff]
      exact fun hh => hx (hc.2 hh)
  · intro hr
    apply cutWrites_ok
    by_cases hx : (cutWrites efail 0 (toSqlGo cfg P.logical)).2 = true
    · simp [hx] at hr
    · simpa using hx

/-- **C15, one statement per I/O entry point, for the code regenerated from today's source.**

1. `ReadCSV` — for every document, read schedule with reads ≥ 1, buffer capacity, EOF mode, and EVERY call number `k` at
   which the underlying reader fails (with or without data): the regenerated fastcsv reader ends with the reader's failure
   iff the failing `Read` call was made (`C12NoFuel.gen_fail_iff_reached`), and then the regenerated glue returns an error
   whatever records it was given before (`C12GlueGen.gen_csvglue_faults`; so does it when `r.Err()` is non-nil at a record).
2. `ReadJSON` — OVER THE STATED MODEL `decodeOver` of the standard library's decoder (a reader error before the value is
   complete is returned by `Decode`): regenerated `UnmarshalJSON` / `ReadJSON` return `QFrame{Err: err}`.
3. `ToCSV` — `gen_tocsv_fault`: every fault offset of the writer, every buffer schedule of the csv writer (stated model
   `BufSched`): an error iff a `w.Write` or the final `Flush` failed iff not everything was accepted; accepted bytes a prefix.
4. `ToJSON` — `gen_tojson_fault`: every fault offset: an error iff a `Write` failed iff not everything was accepted; accepted
   bytes a prefix of the fault-free text.
5. `ToSQL` — every scripted driver: an error iff an `Exec` failed, the statements that reached the driver are an initial
   part of the frame's statements (exactly `k + 1` when `Exec` number `k` fails: `gen_tosql_fault`); a frame error: no call.
6. `ReadSQL` / `ReadSQLWithArgs` — a non-nil `rows.Err()` after the loop, a failing `rows.Columns()` (reached only when there
   is a row), a failing `Scan` (any row) are returned as errors; a failing `Prepare` / `Query` / `ReadSQL` gives `QFrame{Err: err}`.

In every clause the call HAS A MEANING (`some …`): the regenerated code does not panic. -/
theorem gen_io_failures_reported :
    -- 1. ReadCSV
    (∀ (po : ParseOracle) (cfg : CsvCfg) (hintBig : Bool) (cap : Nat) (eofWD fwd : Bool) (doc : List Csv.Byte)
        (sched : List Nat), (∀ n ∈ sched, 1 ≤ n) →
        ∀ (k : Nat) (rows : List (List (List Csv.Byte))) (e : Option Csv.RErr) (rd : Csv.Reader),
        CR.readAll Gen.csvFns doc sched cfg.delim cap (some k) eofWD fwd = .ok (rows, e, rd) →
        (e = some .fail ↔ k < rd.fs.buf.src.calls) ∧
        (k < rd.fs.buf.src.calls → ∀ records, genReadCsv po cfg hintBig records (e == some .fail) = some none) ∧
        (∀ records finalErr, (∃ r ∈ records.drop (if cfg.headers.isEmpty then 1 else 0), r.2 = true) →
          genReadCsv po cfg hintBig records finalErr = some none)) ∧
    -- 2. ReadJSON (over the model `decodeOver`)
    (∀ (pnum : Bytes → Option UInt64) (iter : GoMap → GoMap) (doc : Json.JVal),
        genReadJsonOn (decodeOver pnum doc true) iter = some .err ∧
        genReadJsonOn (decodeOver pnum doc false) iter = genReadJson pnum iter doc) ∧
    -- 3. ToCSV
    (∀ (fmt : UInt64 → Bytes) (f : LFrame), C09Observe.FrameTyped f → f.names.Nodup → ∀ (hdr : Bool) (w : FW) (B : BufSched),
        B.chunks.flatten = tocsv fmt hdr f →
        ∃ recs fl ret, genToCSV fmt f none hdr (wfailOf w B) (ferrOf w B) = some (recs, fl, ret) ∧
          recs <+: tocsvRows fmt hdr f ∧
          (ret ≠ .nil ↔ (∃ i, i < recs.length ∧ wfailOf w B i = true) ∨ (fl = true ∧ ferrOf w B = true)) ∧
          (ret ≠ .nil ↔ w.limit < (tocsv fmt hdr f).length) ∧
          acceptedCsv w B recs.length fl <+: tocsv fmt hdr f ∧
          (ret = .nil → acceptedCsv w B recs.length fl = tocsv fmt hdr f)) ∧
    -- 4. ToJSON
    (∀ (fmt : UInt64 → Bytes) (f : LFrame), C09Observe.FrameTyped f → ∀ (w : FW) (fail : Nat → Bool),
        ∃ ws e, genToJSON fmt f fail = some (ws, e) ∧ ws <+: chunks fmt f ∧
          (e = true ↔ ∃ j, j < ws.length ∧ fail j = true) ∧
          (w.agrees fail 0 0 ws = true →
            (e = true ↔ w.limit < (toJSON fmt f).length) ∧ w.accepted 0 ws <+: toJSON fmt f ∧
            (e = false → w.accepted 0 ws = toJSON fmt f) ∧
            (e = true → w.partialWrite = true → (w.accepted 0 ws).length = w.limit))) ∧
    -- 5. ToSQL
    (∀ (P : VFrame), FrameOK P → ∀ (cfg : SqlCfg),
        (∀ efail, ∃ execs ret, genToSQLToday P false cfg efail = some (execs, ret) ∧ execs <+: toSqlGo cfg P.logical ∧
          (ret ≠ .nil ↔ ∃ j, j < execs.length ∧ efail j = true) ∧ (ret = .nil → execs = toSqlGo cfg P.logical)) ∧
        (∀ k, k < P.index.length →
          genToSQLToday P false cfg (fun j => j == k) = some ((toSqlGo cfg P.logical).take (k + 1), .execErr)) ∧
        (∀ efail, genToSQLToday P true cfg efail = some ([], .frameErr))) ∧
    -- 6. ReadSQL, ReadSQLWithArgs
    ((∀ (R : RParams) (cmap : Option (List (Bytes × CoFn))) (S : Script),
        (S.finalErr = true ∨ (S.columnsFail = true ∧ S.rows ≠ []) → genReadSql R cmap S = some none) ∧
        (S.rows.foldlM (step2 R) (cols0 cmap S.names) = none → genReadSql R cmap S = some none)) ∧
      (∀ {α ρ δ χ : Type} (E : REnv α ρ δ χ) (args : List α),
        (E.prepare (E.queryText E.cfg) = false ∨ E.query (E.queryText E.cfg) args = none ∨
          ∃ rows, E.query (E.queryText E.cfg) args = some rows ∧ E.readSql rows E.cfg = none) →
        ∃ r, genReadSqlArgs E args = some r ∧ r.frame.err = true)) := by
  refine ⟨?_, ?_, ?_, ?_, ?_, ?_, ?_⟩
  · intro po cfg hintBig cap eofWD fwd doc sched hs k rows e rd hrun
    have hiff := C12NoFuel.gen_fail_iff_reached doc sched cfg.delim cap k eofWD fwd hs rows e rd hrun
    refine ⟨hiff, ?_, ?_⟩
    · intro hk records
      have he : e = some .fail := hiff.2 hk
      subst he
      exact gen_csvglue_faults po cfg hintBig records _ (.inl rfl)
    · intro records finalErr hex
      exact gen_csvglue_faults po cfg hintBig records finalErr (.inr hex)
  · intro pnum iter doc
    exact ⟨gen_readjson_reader_fault iter, rfl⟩
  · intro fmt f hf hnd hdr w B hB
    exact gen_tocsv_fault fmt f hf hnd hdr w B hB
  · intro fmt f hf w fail
    exact gen_tojson_fault fmt f hf w fail
  · intro P hP cfg
    exact ⟨fun efail => gen_tosql_reported P hP cfg efail, fun k hk => gen_tosql_fault P hP cfg k hk,
      fun efail => gen_tosql_frame_error P hP cfg efail⟩
  · intro R cmap S
    exact ⟨gen_readsql_faults R cmap S, gen_readsql_scan_fault R cmap S⟩
  · intro α ρ δ χ E args h
    exact gen_readsqlargs_faults E args h

end All

/-! ## Examples: concrete inputs meet the hypotheses -/

section Examples
open QF.Props.C13WriterGen QF.Props.C13Write QF.Props.C14ToJson

/-- columns `a` (bool) and `b` (string, second cell null), two rows -/
def exFrame : LFrame := C13WriterGen.wFrame
def exFmt : UInt64 → Bytes := fun _ => [48]

theorem exFrame_typed : C09Observe.FrameTyped exFrame := by
  intro c hc
  simp only [exFrame, C13WriterGen.wFrame, List.mem_cons, List.not_mem_nil, or_false] at hc
  rcases hc with rfl | rfl <;> exact ⟨by decide, by decide⟩

/-- a writer that accepts 5 bytes, the failing call handing over what still fits -/
def exW : FW := { limit := 5, partialWrite := true }

/-- the fault-free JSON text has 41 bytes in 4 `Write` calls; with the limit 5 the second call fails: `[` and the first 4
bytes of the first record were accepted — the first 5 bytes of the text -/
example : (C14WriterGen.chunks exFmt exFrame).map (·.length) = [1, 18, 21, 1] ∧
    cutWrites (exW.oracle (C14WriterGen.chunks exFmt exFrame)) 0 (C14WriterGen.chunks exFmt exFrame) =
      ((C14WriterGen.chunks exFmt exFrame).take 2, true) ∧
    exW.accepted 0 ((C14WriterGen.chunks exFmt exFrame).take 2) = (toJSON exFmt exFrame).take 5 := by decide

/-- `gen_tojson_fault` on the example: the hypotheses are met (`exFrame_typed`, `oracle_agrees`) -/
example : ∃ ws e, C14WriterGen.genToJSON exFmt exFrame (exW.oracle (C14WriterGen.chunks exFmt exFrame)) = some (ws, e) ∧
    exW.agrees (exW.oracle (C14WriterGen.chunks exFmt exFrame)) 0 0 ws = true :=
  gen_tojson_fault_oracle exFmt exFrame exFrame_typed exW

/-- a buffer larger than the whole CSV text: nothing reaches the underlying writer before `Flush` -/
def exBig : BufSched := { chunks := [tocsv exFmt true exFrame], upto := fun _ => 0 }

/-- a buffer that hands over every record as soon as it is written -/
def exPerRecord : BufSched := { chunks := (tocsvRows exFmt true exFrame).map writeRecord, upto := fun i => i + 1 }

example : exBig.chunks.flatten = tocsv exFmt true exFrame ∧ exPerRecord.chunks.flatten = tocsv exFmt true exFrame := by decide

/-- behind the large buffer no `w.Write` fails — the failure is noticed at `Flush` only, through `w.Error()`; behind the
record-wise buffer the second `w.Write` (`true,x`: bytes 4 … 10) fails -/
example : (wfailOf exW exBig 0, wfailOf exW exBig 1, wfailOf exW exBig 2, ferrOf exW exBig) = (false, false, false, true) ∧
    (wfailOf exW exPerRecord 0, wfailOf exW exPerRecord 1) = (false, true) := by decide

/-- `gen_tocsv_fault` on the example, large buffer: the hypotheses are met -/
example : ∃ recs fl ret, genToCSV exFmt exFrame none true (wfailOf exW exBig) (ferrOf exW exBig) = some (recs, fl, ret) ∧
    recs <+: tocsvRows exFmt true exFrame ∧
    (ret ≠ .nil ↔ (∃ i, i < recs.length ∧ wfailOf exW exBig i = true) ∨ (fl = true ∧ ferrOf exW exBig = true)) ∧
    (ret ≠ .nil ↔ exW.limit < (tocsv exFmt true exFrame).length) ∧
    acceptedCsv exW exBig recs.length fl <+: tocsv exFmt true exFrame ∧
    (ret = .nil → acceptedCsv exW exBig recs.length fl = tocsv exFmt true exFrame) :=
  gen_tocsv_fault exFmt exFrame exFrame_typed (by decide) true exW exBig (by decide)

/-- what the canonical `ToCSV` returns there: all three records handed to the csv writer, flushed, and the NON-NIL
`w.Error()`; the underlying writer holds the first 5 bytes `a,b\nt` -/
example : canonToCSV.output { C13WriterGen.wEnv exFrame none true with wfail := wfailOf exW exBig, ferr := ferrOf exW exBig } =
      some (tocsvRows exFmt true exFrame, true, .writerErr) ∧
    acceptedCsv exW exBig 3 true = [97, 44, 98, 10, 116] := by decide

/-- a 4-byte buffer: `a,b\\n` `true` `,x\\nf` `alse` `,\\n` — the second full buffer is refused by the writer of limit 5 during the
second `w.Write`, which returns the error -/
example : (bufOfCap 4 (tocsvRows exFmt true exFrame)).chunks.map (·.length) = [4, 4, 4, 4, 2] ∧
    (wfailOf exW (bufOfCap 4 (tocsvRows exFmt true exFrame)) 0, wfailOf exW (bufOfCap 4 (tocsvRows exFmt true exFrame)) 1) = (false, true) := by
  decide

end Examples

#print axioms gen_tojson_fault
#print axioms gen_tojson_fault_oracle
#print axioms csvResult_fault
#print axioms gen_tocsv_fault
#print axioms gen_tocsv_fault_given
#print axioms gen_tocsv_fault_cap
#print axioms gen_readjson_reader_fault
#print axioms gen_tosql_reported
#print axioms gen_io_failures_reported

end QF.Props.C15EndToEnd
