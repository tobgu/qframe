import QF.Props.Tie
import QF.Core.CsvFull
import QF.Core.CsvL1
import QF.Props.C12Read
/-!
# C12 — ReadCSV parses RFC 4180 for any fragmentation of the stream

Mirror: `Full.readAll` follows internal/fastcsv/csv.go (bufferedReader.more/reset,
nextUnquotedField, nextQuotedField with look-ahead, in-place compaction, quoteCount, CR skipped only
after a closing quote, trailing delimiter at the end of the input; fields.next with the empty last
field after a trailing delimiter; Reader.Next with CR trimming and the blank-last-line rule), driven
by a read schedule (list of chunk sizes).

* `read_schedule_independent`: whatever the schedule, the reader returns what it returns
  when the whole document is already loaded.
* `any_two_schedules_agree`: hence any two schedules give the same rows, fields and error.
* `qscan_content'`, `qscan_content`: the buffer-free scanner `Sim.qscan` (QF/Core/CsvL1.lean; equal to the in-place
  compacting loop on a loaded buffer by `Sim.quoted_eq_qscan`) reads an escaped
  field back as its content, whatever the content (carriage returns included).
* `Sim.quoted_eq_qscan`, `Sim.qscan_content` themselves are proved here, at the head of the file: the scanner and the loop of
  `Sim` are those of C12Read up to the types (`Sim.qscan_eq`, `Sim.quoted_toFull`), so both are read off `C12Read.quoted_eq_qscan`,
  `C12Read.qscan_content`.
-/
namespace Sim

/-- `Sim.qscan` is the scanner of C12Read up to the error type -/
def ofScan (q : List Byte × Bool × Option Full.RErr × Nat) : List Byte × Bool × Option RErr × Nat :=
  (q.1, q.2.1, ofErr q.2.2.1, q.2.2.2)

theorem qscan_eq (delim : Byte) : ∀ (l acc : List Byte) (qc : Nat) (p : Byte),
    qscan delim l acc qc p = ofScan (QF.Props.C12Read.qscan delim l acc qc p)
  | [], _, _, _ => rfl
  | [b], acc, qc, _ => by rw [qscan, QF.Props.C12Read.qscan]; split <;> rfl
  | b :: b' :: rest, acc, qc, p => by
    rw [qscan, QF.Props.C12Read.qscan]
    simp only [qscan_eq delim (b' :: rest), apply_ite ofScan]
    rfl

theorem escape_eq (f : List Byte) : escape f = QF.Props.C12Read.esc f := by
  induction f with
  | nil => rfl
  | cons b bs ih =>
    rw [escape, QF.Props.C12Read.esc_cons, ih]
    by_cases h : (b == QUOTE) = true
    · rw [if_pos h, if_pos (show (b == 34) = true from h)]; rfl
    · rw [if_neg h, if_neg (show ¬ (b == 34) = true from h)]; rfl

/-- lock-step: tape machine on a loaded state vs functional scanner -/
theorem quoted_eq_qscan (delim : Byte) (fuel : Nat) : ∀ (s : St) (start w qc : Nat) (acc : List Byte) (p : Byte),
    s.future = [] → start ≤ w → w ≤ s.cursor → s.cursor ≤ s.data.length →
    (s.data.take w).drop start = acc → (w < s.data.length → s.data[w]? = some p) →
    s.data.length - s.cursor < fuel →
    ∃ d, quoted delim fuel s start w qc =
      some (⟨(qscan delim (s.data.drop s.cursor) acc qc p).1, (qscan delim (s.data.drop s.cursor) acc qc p).2.1,
             (qscan delim (s.data.drop s.cursor) acc qc p).2.2.1,
             s.data.length - (qscan delim (s.data.drop s.cursor) acc qc p).2.2.2⟩, d) := by
  intro s start w qc acc p hf hsw hwc hcl hacc hp hfu
  obtain ⟨s', a1, _, a3, _⟩ := QF.Props.C12Read.quoted_eq_qscan delim fuel s.toFull start w qc acc p hf hsw hwc hcl hacc hp hfu
  rw [quoted_toFull, a1, qscan_eq]
  exact ⟨s'.data, congrArg (fun c => some ((⟨_, _, _, c⟩ : Res), s'.data)) (Nat.eq_sub_of_add_eq a3)⟩

/-- the functional scanner walks through escaped content and accumulates exactly the content —
    carriage returns included (they are skipped only after a closing quote) -/
theorem qscan_content (delim : Byte) (hdq : (QUOTE == delim) = false) : ∀ (content tail acc : List Byte), tail ≠ [] →
    qscan delim (escape content ++ tail) acc 0 (hd (escape content ++ tail)) = qscan delim tail (acc ++ content) 0 (hd tail) := by
  intro content tail acc ht
  rw [qscan_eq, qscan_eq, escape_eq]
  exact congrArg ofScan (QF.Props.C12Read.qscan_content delim (fun h => by rw [h] at hdq; cases hdq) content tail acc ht)

#print axioms quoted_eq_qscan
#print axioms qscan_content
end Sim

namespace QF.Props.C12

theorem read_schedule_independent (delim : Full.Byte) (fuel n : Nat) (doc : List Full.Byte) (sched : List Nat)
    (res : List (List (List Full.Byte)) × Option Full.RErr)
    (h : Full.readAll delim fuel n (Full.initFS doc sched) [] = some res) :
    Full.readAll delim fuel n (Full.loadedFS doc) [] = some res :=
  Full.read_schedule_independent delim fuel n doc sched res h

theorem any_two_schedules_agree (delim : Full.Byte) (fuel n : Nat) (doc : List Full.Byte) (s1 s2 : List Nat)
    (r1 r2 : List (List (List Full.Byte)) × Option Full.RErr)
    (h1 : Full.readAll delim fuel n (Full.initFS doc s1) [] = some r1)
    (h2 : Full.readAll delim fuel n (Full.initFS doc s2) [] = some r2) : r1 = r2 :=
  Full.any_two_schedules_agree delim fuel n doc s1 s2 r1 r2 h1 h2

/-- `nextQuotedField` skips CR only after a closing quote (/repo 2a6b7d7 "fix: fastcsv keeps carriage returns inside quoted fields"), so the content may be anything, carriage returns included. -/
theorem qscan_content' (delim : Sim.Byte) (hd : (Sim.QUOTE == delim) = false) (content tail acc : List Sim.Byte)
    (ht : tail ≠ []) :
    Sim.qscan delim (Sim.escape content ++ tail) acc 0 (Sim.hd (Sim.escape content ++ tail)) =
      Sim.qscan delim tail (acc ++ content) 0 (Sim.hd tail) :=
  Sim.qscan_content delim hd content tail acc ht

/-- The same for content without CR, which is what held of `nextQuotedField` before that commit; `_hcr` is not used. -/
theorem qscan_content (delim : Sim.Byte) (hd : (Sim.QUOTE == delim) = false) (content tail acc : List Sim.Byte)
    (_hcr : ¬Sim.CR ∈ content) (ht : tail ≠ []) :
    Sim.qscan delim (Sim.escape content ++ tail) acc 0 (Sim.hd (Sim.escape content ++ tail)) =
      Sim.qscan delim tail (acc ++ content) 0 (Sim.hd tail) :=
  Sim.qscan_content delim hd content tail acc ht

/-- No function of this property is compared as source text: the list is empty (the functions are regenerated as terms, see below). -/
-- Tie audit (bin/selftest-ties): the following functions are regenerated as terms; every behaviour-changing edit of
-- them makes a `gen_*_canon` theorem of this property's modules fail, renaming their locals or reformatting them changes nothing:
-- the eleven functions of internal/fastcsv (`bufferedReader.more`, `bufferedReader.reset`, `fields.reset`, `fields.nextUnquotedField`, `nextQuotedField`, `fields.next`, `Reader.Next`, `Reader.Err`, `Reader.Read`, `eofReaderWrapper.Read`, `NewReader`):
-- `Gen.csvFns` (csvast.go), `C12CsvGen.gen_csv_canon` (C12CsvCanon.lean) + `C12CsvGen.gen_csv_semantics_partial`. `columnToData`: `Gen.columnToDataAst` (iast.go), `C12InferGen.gen_infer_canon` + `gen_columnToData_spec`.
-- The glue of ReadCSV is regenerated in `Gen.readCsvAst` / `renameDupAst` / `addAliasAst` / `isEmptyLineAst` / `readCsvEntryAst` (C12GlueGen.gen_csvglue_semantics, gen_rename_semantics).
theorem tie : Tie.sameAll [] = true := by decide

end QF.Props.C12
