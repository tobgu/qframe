import QF.Core.JRExpr
import QF.Core.ListFacts
import QF.Gen.ReadJson
import QF.Props.C08Guards
/-!
# C14 — the JSON reading glue of today's source IS the spec's `jsonDataS` / `readJsonS` (tie T1, by semantics)

`QF.Gen.fillAsts`, `QF.Gen.recordsToDataAst`, `QF.Gen.unmarshalJsonAst`, `QF.Gen.readJsonAst` (regenerated on every run by
go/cmd/extract/jrast.go) hold `fillInts` / `fillFloats` / `fillBools` / `fillStrings`, `jsonRecordsToData`, `UnmarshalJSON`
of /repo/internal/io/json.go and `ReadJSON` of /repo/qframe.go as terms of `QF.JR` / `QF.JU` (QF/Core/JRExpr.lean: their
Go meaning; the order in which `range` delivers the entries of a map is a parameter). This file proves, for the terms
generated TODAY:

* `gen_readjson_no_opaque`     — everything was found and translated completely
* `gen_readjson_canon`         — the terms are the canonical ones
* `gen_fill_semantics`         — each fill function, on ANY records (any `interface{}` values, `int` included), any column
                                 name: an error iff some record lacks the key or holds a value of another dynamic type,
                                 else the slice of the values in record order (`fillM`)
* `gen_toData_semantics`       — `jsonRecordsToData` on any records and any iteration order of `range`: the entries of
                                 record 0 in that order, each typed by its value in record 0 (`int`, `float64`, `bool`,
                                 `string`/nil; anything else: the "unknown type" error) and filled from all records
* `gen_readjson_semantics`     — for every list of JSON records (member lists of objects; values = the spec's `JVal`)
                                 whose numbers are float64s, decoded as `encoding/json` does (`decodeRec`), and EVERY
                                 iteration order of the map: today's `jsonRecordsToData` returns an error exactly when the
                                 spec's `jsonDataS` does (missing member, wrong type in a later record, array / object in
                                 record 0), and otherwise a map holding exactly the spec's columns
                                 (a permutation of them; in the order of record 0 when `range` follows it:
                                 `gen_readjson_semantics_ordered`). The `int` clauses are dead: `decoded_no_int`.
* `gen_unmarshal_semantics`    — `UnmarshalJSON`: the error of `Decode` (document no array of objects, a number that is no
                                 float64) is returned, else `jsonRecordsToData(records)`: with the above, the spec's
                                 `jsonDocS` for every document
* `gen_readjson_frame`         — `ReadJSON`: `QFrame{Err: err}` iff `UnmarshalJSON` fails, else `New(data, confFuncs...)`;
                                 with `New` = the spec's `newS` (no configuration) the frame is `readJsonS pnum doc`, whatever
                                 the iteration order (`newS_perm`: `New` sorts the names)

Witnesses at the end: plausible mutations violate the statements.
-/
namespace QF.Props.C14ReadJsonGen
open QF QF.Json

/-! ## Canonical terms -/

/-- `record := records[i]; value, ok := record[colName]; if !ok { return error }; …` -/
def fetch (k : JR) : JR := .bindRecord .loopVar (.lookup (.ifNotOk .retErr k))

/-- `x, ok := value.(T); if !ok { return error }; col[i] = x` -/
def assertStore (d : JRDyn) : JR := .assertTy d (.ifNotOk .retErr (.store .done))

/-- `switch t := value.(type) { case string: col[i] = &t; case nil: col[i] = nil; default: return error }` -/
def strSwitch : JR := .caseTy [.string] (.storeAddr .done) (.caseTy [.null] (.storeNil .done) .retErr)

def fillBody : JRElem → JR
  | .int => fetch (assertStore .int)
  | .float64 => fetch (assertStore .float64)
  | .bool => fetch (assertStore .bool)
  | .strptr => fetch strSwitch

def canonFill (e : JRElem) : JR := .rangeCol (fillBody e) .retNil

def canonFills : List (JRElem × JR) :=
  [(.int, canonFill .int), (.float64, canonFill .float64), (.bool, canonFill .bool), (.strptr, canonFill .strptr)]

/-- `col := make([]T, len(records)); if err := fill(col, records, colName); err != nil { return nil, err }; result[colName] = col` -/
def column (e : JRElem) : JR := .makeCol e (.callFill e .retCallErr (.setResult .done))

def typeSwitch : JR :=
  .caseTy [.int] (column .int) (.caseTy [.float64] (column .float64) (.caseTy [.bool] (column .bool)
    (.caseTy [.null, .string] (column .strptr) .retErr)))

def canonToData : JR :=
  .newResult (.ifNoRecords .retResult (.bindRecord (.lit 0) (.rangeRecord typeSwitch .retResult)))

def canonUnmarshal : JU := .decode (.ifErr .retErr .retToData)
def canonReadJson : JU := .unmarshal (.ifErr .retErrFrame .retNew)

theorem gen_readjson_canon :
    Gen.fillAsts = canonFills ∧ Gen.recordsToDataAst = canonToData ∧ Gen.unmarshalJsonAst = canonUnmarshal ∧
    Gen.readJsonAst = canonReadJson := by decide

theorem gen_readjson_no_opaque :
    Gen.fillAsts.map (·.1) = [.int, .float64, .bool, .strptr] ∧ (∀ p ∈ Gen.fillAsts, p.2.hasOpaque = false) ∧
    Gen.recordsToDataAst.hasOpaque = false ∧ Gen.unmarshalJsonAst.hasOpaque = false ∧ Gen.readJsonAst.hasOpaque = false := by
  decide

def canonProg : JRProg := { fills := canonFills, toData := canonToData }
def genProg : JRProg := { fills := Gen.fillAsts, toData := Gen.recordsToDataAst }

theorem gen_prog : genProg = canonProg := by
  unfold genProg canonProg
  rw [gen_readjson_canon.1, gen_readjson_canon.2.1]

/-! ## The fill functions -/

def JCol.shape : JCol → JRElem
  | .ints _ => .int
  | .floats _ => .float64
  | .bools _ => .bool
  | .strs _ => .strptr

/-- one round of a fill function: the slot of record `m` appended to the slice (`none`: an error) -/
def pushCell (e : JRElem) (name : Bytes) (m : GoMap) (c : JCol) : Option JCol :=
  match goMapGet m name with
  | none => none
  | some v =>
    match e, v, c with
    | .int, .int i, .ints a => some (.ints (a ++ [i]))
    | .float64, .float64 f, .floats a => some (.floats (a ++ [f]))
    | .bool, .bool b, .bools a => some (.bools (a ++ [b]))
    | .strptr, .str s, .strs a => some (.strs (a ++ [some s]))
    | .strptr, .null, .strs a => some (.strs (a ++ [none]))
    | _, _, _ => none

/-- all rounds -/
def fillFrom (e : JRElem) (name : Bytes) : List GoMap → JCol → Option JCol
  | [], c => some c
  | m :: ms, c =>
    match pushCell e name m c with
    | none => none
    | some c' => fillFrom e name ms c'

/-- a fill function on a fresh slice -/
def fillM (e : JRElem) (name : Bytes) (recs : List GoMap) : Option JCol := fillFrom e name recs (JCol.empty e)

theorem pushCell_size (e : JRElem) (name : Bytes) (m : GoMap) (c c' : JCol) (h : pushCell e name m c = some c') :
    c'.size = c.size + 1 ∧ JCol.shape c' = JCol.shape c := by
  unfold pushCell at h
  cases hg : goMapGet m name with
  | none => simp [hg] at h
  | some v =>
    rw [hg] at h
    cases e <;> cases v <;> cases c <;> simp at h <;> subst h <;> simp [JCol.size, JCol.shape]

theorem fillFrom_size (e : JRElem) (name : Bytes) : ∀ (ms : List GoMap) (c c' : JCol), fillFrom e name ms c = some c' →
    c'.size = c.size + ms.length := by
  intro ms
  induction ms with
  | nil => intro c c' h; simp [fillFrom] at h; subst h; simp
  | cons m ms ih =>
    intro c c' h
    unfold fillFrom at h
    cases hp : pushCell e name m c with
    | none => simp [hp] at h
    | some c1 =>
      rw [hp] at h
      have := ih c1 c' h
      rw [this, (pushCell_size e name m c c1 hp).1]
      simp only [List.length_cons]
      omega

/-- what a fill function does with the value it found -/
def storeSlot : JRElem → JR
  | .int => assertStore .int
  | .float64 => assertStore .float64
  | .bool => assertStore .bool
  | .strptr => strSwitch

theorem fillBody_eq (e : JRElem) : fillBody e = fetch (storeSlot e) := by cases e <;> rfl

section FillLoop
variable (E : JREnv)

/-- the state of a fill function between two rounds: the slots written so far, `len(col)` and the column name -/
def FillSt (name : Bytes) (len : Nat) (c : JCol) (σ : JRSt) : Prop := σ.col = some c ∧ σ.colLen = len ∧ σ.colName = name

/-- `record := records[i]; value, ok := record[colName]; if !ok { return error }` -/
theorem fetch_run (k : JR) (i : Nat) (m : GoMap) (σ : JRSt) (hm : E.records[i]? = some m) :
    (fetch k).run E (some i) σ =
      match goMapGet m σ.colName with
      | none => .retErr
      | some v => k.run E (some i) { σ with record := some m, value := some v, ok := true } := by
  simp only [fetch, JR.run, hm]
  cases goMapGet m σ.colName <;> rfl

/-- one round of the canonical body is `pushCell` -/
theorem fillBody_step {name : Bytes} {len : Nat} (e : JRElem) (i : Nat) (m : GoMap) (σ : JRSt) (c : JCol)
    (hσ : FillSt name len c σ) (hs : c.size = i) (hsh : JCol.shape c = e) (hm : E.records[i]? = some m) :
    (pushCell e name m c = none → (fillBody e).run E (some i) σ = .retErr) ∧
    ∀ c', pushCell e name m c = some c' → ∃ σ', (fillBody e).run E (some i) σ = .next σ' ∧ FillSt name len c' σ' := by
  obtain ⟨hc, rfl, rfl⟩ := hσ
  subst hsh
  rw [fillBody_eq, fetch_run E _ i m σ hm]
  unfold pushCell
  cases hg : goMapGet m σ.colName with
  | none => exact ⟨fun _ => rfl, fun _ h => (nomatch h)⟩
  | some v =>
    cases c <;> cases v <;>
      simp [JCol.shape, storeSlot, assertStore, strSwitch, JR.run, JRDyn.bind, hc, JCol.size, JCol.push, JCol.pushPtr, FillSt] at hs ⊢ <;>
      simp [hs]

/-- the loop of a canonical fill function over the records that are left -/
theorem fill_loop {name : Bytes} {len : Nat} (e : JRElem) : ∀ (rest pre : List GoMap) (σ : JRSt) (c : JCol),
    E.records = pre ++ rest → FillSt name len c σ → c.size = pre.length → JCol.shape c = e →
    (fillFrom e name rest c = none →
      iterIdx (fun i τ => (fillBody e).run E (some i) τ) pre.length rest.length σ = .retErr) ∧
    ∀ c', fillFrom e name rest c = some c' →
      ∃ σ', iterIdx (fun i τ => (fillBody e).run E (some i) τ) pre.length rest.length σ = .next σ' ∧ FillSt name len c' σ' := by
  intro rest
  induction rest with
  | nil => intro pre σ c _ hσ _ _; exact ⟨fun h => (nomatch h), fun c' h => ⟨σ, rfl, Option.some.inj h ▸ hσ⟩⟩
  | cons m ms ih =>
    intro pre σ c hrec hσ hs hsh
    have hstep := fillBody_step E e pre.length m σ c hσ hs hsh (by rw [hrec]; simp)
    simp only [fillFrom, List.length_cons, iterIdx]
    cases hp : pushCell e name m c with
    | none => exact ⟨fun _ => by rw [hstep.1 hp], fun _ h => (nomatch h)⟩
    | some c1 =>
      obtain ⟨σ1, hrun, hσ1⟩ := hstep.2 c1 hp
      have hsz := pushCell_size e name m c c1 hp
      have := ih (pre ++ [m]) σ1 c1 (by rw [hrec, List.append_assoc]; rfl) hσ1
        (by rw [hsz.1, hs, List.length_append]; rfl) (hsz.2.trans hsh)
      rw [List.length_append] at this
      rw [hrun]
      exact this

end FillLoop

theorem empty_shape (e : JRElem) : JCol.shape (JCol.empty e) = e := by cases e <;> rfl
theorem empty_size (e : JRElem) : (JCol.empty e).size = 0 := by cases e <;> rfl

theorem canon_lookup (e : JRElem) : canonFills.lookup e = some (canonFill e) := by cases e <;> decide

/-- **A canonical fill function called with a fresh slice of `len(records)` slots is `fillM`.** -/
theorem canon_fill (recs : List GoMap) (e : JRElem) (name : Bytes) :
    canonProg.fill recs e name recs.length = some (fillM e name recs) := by
  have h := fill_loop { records := recs, iter := id, fill := fun _ _ _ => none } e recs []
    { colName := name, colLen := recs.length, col := some (JCol.empty e) } (JCol.empty e) rfl ⟨rfl, rfl, rfl⟩ (empty_size e)
    (empty_shape e)
  rw [List.length_nil] at h
  simp only [JRProg.fill, canonProg, canon_lookup, canonFill, JR.run, fillM]
  cases hf : fillFrom e name recs (JCol.empty e) with
  | none => rw [h.1 hf]
  | some c =>
    obtain ⟨σ', h1, h2, -, -⟩ := h.2 c hf
    have hsz := fillFrom_size e name recs _ _ hf
    rw [empty_size, Nat.zero_add] at hsz
    rw [h1]
    simp only [h2, hsz, if_true]

/-! ## `jsonRecordsToData` -/

/-- the element type the value of record 0 decides (`none`: the "unknown type" error) -/
def elemOf : GV → Option JRElem
  | .int _ => some .int
  | .float64 _ => some .float64
  | .bool _ => some .bool
  | .null => some .strptr
  | .str _ => some .strptr
  | .other => none

/-- the column of an entry of record 0 -/
def colOf (recs : List GoMap) (name : Bytes) (v : GV) : Option JCol := (elemOf v).bind (fun e => fillM e name recs)

/-- the rounds of the loop over the entries of record 0 -/
def dataFrom (recs : List GoMap) : List (Bytes × GV) → JData → Option JData
  | [], acc => some acc
  | e :: es, acc =>
    match colOf recs e.1 e.2 with
    | none => none
    | some c => dataFrom recs es (jdataInsert acc e.1 c)

/-- `jsonRecordsToData`, with the iteration order of `range` -/
def toDataM (iter : GoMap → GoMap) (recs : List GoMap) : Option JData :=
  match recs with
  | [] => some []
  | r0 :: _ => dataFrom recs (iter r0) []

theorem fillM_size (e : JRElem) (name : Bytes) (recs : List GoMap) (c : JCol) (h : fillM e name recs = some c) :
    c.size = recs.length := by
  have := fillFrom_size e name recs _ _ h
  simpa [empty_size] using this

section ToData
variable (E : JREnv) (hfill : E.fill = canonProg.fill E.records)
include hfill

/-- `col := make(…); if err := fill(…); err != nil { return nil, err }; result[colName] = col` -/
theorem column_run (e : JRElem) (cur : Option Nat) (σ : JRSt) (acc : JData) (name : Bytes) (hr : σ.result = some acc)
    (hn : σ.colName = name) :
    match fillM e name E.records with
    | none => (column e).run E cur σ = .retErr
    | some c => ∃ σ', (column e).run E cur σ = .next σ' ∧ σ'.result = some (jdataInsert acc name c) := by
  subst hn
  simp only [column, JR.run, hfill, canon_fill, if_true]
  cases hf : fillM e σ.colName E.records with
  | none => simp
  | some c =>
    have hsz := fillM_size e σ.colName E.records c hf
    simp [hr, hsz]

/-- one round of the loop over record 0: the type switch picks the column's element type as `elemOf` does -/
theorem typeSwitch_run (cur : Option Nat) (σ : JRSt) (acc : JData) (v : GV) (hr : σ.result = some acc)
    (hv : σ.value = some v) :
    match colOf E.records σ.colName v with
    | none => typeSwitch.run E cur σ = .retErr
    | some c => ∃ σ', typeSwitch.run E cur σ = .next σ' ∧ σ'.result = some (jdataInsert acc σ.colName c) := by
  unfold colOf
  cases v <;> simp only [typeSwitch, JR.run, hv, JRDyn.bind, elemOf, Option.bind_some, Option.bind_none, List.any_cons,
    List.any_nil, Option.isSome_some, Option.isSome_none, Bool.or_false, Bool.or_true, Bool.false_eq_true, if_true, if_false] <;>
    exact column_run E hfill _ cur _ acc _ hr rfl

theorem entries_loop (cur : Option Nat) : ∀ (es : List (Bytes × GV)) (σ : JRSt) (acc : JData), σ.result = some acc →
    match dataFrom E.records es acc with
    | none => iterEntries (fun name v τ => typeSwitch.run E cur { τ with colName := name, value := some v }) es σ = .retErr
    | some d => ∃ σ', iterEntries (fun name v τ => typeSwitch.run E cur { τ with colName := name, value := some v }) es σ =
        .next σ' ∧ σ'.result = some d := by
  intro es
  induction es with
  | nil => intro σ acc hr; exact ⟨σ, rfl, hr⟩
  | cons e es ih =>
    intro σ acc hr
    have hstep := typeSwitch_run E hfill cur { σ with colName := e.1, value := some e.2 } acc e.2 hr rfl
    simp only [] at hstep
    unfold dataFrom
    cases hc : colOf E.records e.1 e.2 with
    | none =>
      rw [hc] at hstep
      simp only [iterEntries]
      rw [hstep]
    | some c =>
      rw [hc] at hstep
      obtain ⟨σ1, hrun, hr1⟩ := hstep
      simp only [iterEntries]
      rw [hrun]
      exact ih σ1 _ hr1

end ToData

theorem canonToData_run (E : JREnv) (hfill : E.fill = canonProg.fill E.records) :
    canonToData.run E none {} =
      match E.records with
      | [] => .retData []
      | r0 :: _ =>
        match dataFrom E.records (E.iter r0) [] with
        | none => .retErr
        | some d => .retData d := by
  cases hrecs : E.records with
  | nil => simp [canonToData, JR.run, hrecs]
  | cons r0 rs =>
    have h := entries_loop E hfill none (E.iter r0) { result := some [], record := some r0 } [] rfl
    rw [hrecs] at h
    simp only [canonToData, JR.run, hrecs, List.length_cons, Nat.add_one_ne_zero, if_false, List.getElem?_cons_zero]
    cases hd : dataFrom (r0 :: rs) (E.iter r0) [] with
    | none =>
      rw [hd] at h
      simp only [] at h
      rw [h]
    | some d =>
      rw [hd] at h
      obtain ⟨σ', h1, h2⟩ := h
      rw [h1]
      simp [JR.run, h2]

/-- **The canonical `jsonRecordsToData` is `toDataM`**, for all records and iteration orders. -/
theorem canon_toData (iter : GoMap → GoMap) (recs : List GoMap) :
    canonProg.run iter recs = some (toDataM iter recs) := by
  unfold JRProg.run toDataM
  have h := canonToData_run { records := recs, iter := iter, fill := canonProg.fill recs } rfl
  have e : canonProg.toData = canonToData := rfl
  rw [e, h]
  cases recs with
  | nil => rfl
  | cons r0 rs =>
    simp only []
    cases dataFrom (r0 :: rs) (iter r0) [] <;> rfl

/-! ## Today's source -/

/-- a fill function of today's source, called with a fresh slice of `len(records)` slots -/
def genFill (recs : List GoMap) (e : JRElem) (name : Bytes) : Option (Option JCol) := genProg.fill recs e name recs.length

/-- `jsonRecordsToData` of today's source -/
def genToData (iter : GoMap → GoMap) (recs : List GoMap) : Option (Option JData) := genProg.run iter recs

/-- **Each fill function of today's source is `fillM`**: on any records (whatever the `interface{}` values hold) and any
column name it has a meaning; it returns an error iff some record lacks the key or holds a value of another dynamic type
(`fillStrings`: neither a string nor nil), and otherwise leaves the values in the slice in record order. -/
theorem gen_fill_semantics (recs : List GoMap) (e : JRElem) (name : Bytes) :
    genFill recs e name = some (fillM e name recs) := by
  unfold genFill
  rw [gen_prog]
  exact canon_fill recs e name

/-- **`jsonRecordsToData` of today's source is `toDataM`**: no records, no columns; else the entries of record 0 in the
order `range` delivers them, each typed by its value there and filled from all records; the first failing column ends it
with an error. -/
theorem gen_toData_semantics (iter : GoMap → GoMap) (recs : List GoMap) :
    genToData iter recs = some (toDataM iter recs) := by
  unfold genToData
  rw [gen_prog]
  exact canon_toData iter recs

/-! ## Decoding: `decodeRec` is the object's member list as a map -/

def keysOf (m : GoMap) : List Bytes := m.map (·.1)

theorem goMapGet_insert (m : GoMap) (k k' : Bytes) (v : GV) :
    goMapGet (goMapInsert m k v) k' = if k = k' then some v else goMapGet m k' := by
  induction m with
  | nil => by_cases h : k = k' <;> simp [goMapInsert, goMapGet, h]
  | cons e rest ih =>
    unfold goMapInsert
    by_cases he : e.1 = k
    · by_cases h : k = k'
      · simp [he, h, goMapGet]
      · have : ¬ e.1 = k' := by rw [he]; exact h
        simp [he, h, goMapGet, this]
    · by_cases h' : e.1 = k'
      · have : ¬ k = k' := by intro hk; exact he (h'.trans hk.symm)
        have hne : ¬ k' = k := fun hk => this hk.symm
        simp [goMapGet, h', this, hne]
      · have ih' := ih
        simp only [goMapGet] at ih'
        simp [he, goMapGet, h', ih']

theorem goMapInsert_eq (m : GoMap) (k : Bytes) (v : GV) : goMapInsert m k v = ListFacts.assocInsert m k v := by
  induction m with
  | nil => rfl
  | cons e rest ih => rw [goMapInsert, ListFacts.assocInsert, ih]

theorem keysOf_insert (m : GoMap) (k : Bytes) (v : GV) :
    keysOf (goMapInsert m k v) = if (keysOf m).contains k then keysOf m else keysOf m ++ [k] := by
  simp only [goMapInsert_eq, keysOf, List.contains_iff_mem]; exact ListFacts.assocInsert_keys m k v

def insStep (pnum : Bytes → Option UInt64) (m : GoMap) (kv : Bytes × JVal) : GoMap := goMapInsert m kv.1 (decodeVal pnum kv.2)

theorem keysOf_decodeRec (pnum : Bytes → Option UInt64) (r : JRec) : keysOf (decodeRec pnum r) = jrecKeys r := by
  rw [jrecKeys, dedup, List.foldl_map]
  exact (List.foldl_hom keysOf fun m kv => (keysOf_insert m kv.1 (decodeVal pnum kv.2)).symm).symm

theorem nodup_insert (m : GoMap) (k : Bytes) (v : GV) (h : (keysOf m).Nodup) : (keysOf (goMapInsert m k v)).Nodup := by
  rw [keysOf_insert]
  by_cases hc : k ∈ keysOf m
  · simp [hc, h]
  · simp [hc, List.nodup_append, h]
    intro a ha hk
    exact hc (hk ▸ ha)

theorem nodup_foldl (pnum : Bytes → Option UInt64) (r : JRec) : ∀ m : GoMap, (keysOf m).Nodup →
    (keysOf (r.foldl (insStep pnum) m)).Nodup := by
  induction r with
  | nil => intro m h; exact h
  | cons kv r ih => intro m h; exact ih _ (nodup_insert m _ _ h)

theorem nodup_decodeRec (pnum : Bytes → Option UInt64) (r : JRec) : (keysOf (decodeRec pnum r)).Nodup :=
  nodup_foldl pnum r [] (by simp [keysOf])

theorem get_foldl (pnum : Bytes → Option UInt64) (k : Bytes) (r : JRec) : ∀ m : GoMap,
    goMapGet (r.foldl (insStep pnum) m) k =
      match jrecGet r k with
      | some j => some (decodeVal pnum j)
      | none => goMapGet m k := by
  induction r with
  | nil => intro m; simp [jrecGet]
  | cons kv r ih =>
    intro m
    simp only [List.foldl_cons]
    rw [ih]
    have hg : jrecGet (kv :: r) k = (jrecGet r k).or (if kv.1 = k then some kv.2 else none) := by
      simp only [jrecGet, List.reverse_cons, List.find?_append]
      cases h : List.find? (fun x => x.1 == k) r.reverse with
      | some x => simp
      | none => by_cases hk : kv.1 = k <;> simp [hk]
    rw [hg]
    cases jrecGet r k with
    | some j => simp
    | none =>
      simp only [Option.none_or, insStep, goMapGet_insert]
      by_cases hk : kv.1 = k <;> simp [hk]

theorem get_decodeRec (pnum : Bytes → Option UInt64) (r : JRec) (k : Bytes) :
    goMapGet (decodeRec pnum r) k = (jrecGet r k).map (decodeVal pnum) := by
  have := get_foldl pnum k r []
  have e : decodeRec pnum r = r.foldl (insStep pnum) [] := rfl
  rw [e, this]
  cases jrecGet r k <;> rfl

/-- an entry of a map with distinct keys is what a lookup of its key returns -/
theorem get_of_mem (m : GoMap) (h : (keysOf m).Nodup) (e : Bytes × GV) (he : e ∈ m) : goMapGet m e.1 = some e.2 := by
  rw [goMapGet, ListFacts.find?_key_of_mem (fun x : Bytes × GV => x.1) m h e he]; rfl

/-- `encoding/json` never produces an `int`: the `case int` clause of `jsonRecordsToData` and `fillInts` are dead code for
decoded input. -/
theorem decoded_no_int (pnum : Bytes → Option UInt64) (j : JVal) : elemOf (decodeVal pnum j) ≠ some .int := by
  cases j <;> simp [decodeVal, elemOf]

/-! ## The columns against the spec -/

def JCol.cells : JCol → List Cell
  | .ints a => a.map Cell.int
  | .floats a => a.map Cell.float
  | .bools a => a.map Cell.bool
  | .strs a => a.map Cell.str

def elemTy : JRElem → CType
  | .int => .int
  | .float64 => .float
  | .bool => .bool
  | .strptr => .string

/-- the column `createColumn` makes of a slice -/
def JCol.toLCol (name : Bytes) (c : JCol) : LCol :=
  { name := name, ty := elemTy (JCol.shape c), cells := (JCol.cells c).toArray }

/-- the map as the columns `New` receives -/
def dataView (d : JData) : List LCol := d.map (fun p => JCol.toLCol p.1 p.2)

/-- every number among the member values is a float64 -/
def RecOk (pnum : Bytes → Option UInt64) (r : JRec) : Prop := ∀ kv ∈ r, ∀ t, kv.2 = JVal.num t → (pnum t).isSome = true

theorem jrecGet_mem (r : JRec) (k : Bytes) (j : JVal) (h : jrecGet r k = some j) : (k, j) ∈ r := by
  unfold jrecGet at h
  cases hf : List.find? (fun x => x.1 == k) r.reverse with
  | none => simp [hf] at h
  | some x =>
    rw [hf] at h
    simp only [Option.map_some, Option.some.injEq] at h
    have hm := List.mem_of_find?_eq_some hf
    have hk := List.find?_some hf
    simp only [beq_iff_eq] at hk
    rw [← hk, ← h]
    exact List.mem_reverse.1 hm

/-- the cell a Go value is in a slice of element type `e` (`none`: the type assertion of the fill function fails) -/
def gvCell : JRElem → GV → Option Cell
  | .int, .int i => some (.int i)
  | .float64, .float64 f => some (.float f)
  | .bool, .bool b => some (.bool b)
  | .strptr, .str s => some (.str (some s))
  | .strptr, .null => some (.str none)
  | _, _ => none

/-- what is seen of a slice -/
def view (c : JCol) : JRElem × List Cell := (JCol.shape c, JCol.cells c)

theorem pushCell_view (e : JRElem) (name : Bytes) (m : GoMap) (c : JCol) (hc : JCol.shape c = e) :
    (pushCell e name m c).map view = ((goMapGet m name).bind (gvCell e)).map (fun x => (e, JCol.cells c ++ [x])) := by
  subst hc
  unfold pushCell
  cases goMapGet m name with
  | none => rfl
  | some v => cases c <;> cases v <;> simp [JCol.shape, gvCell, view, JCol.cells]

theorem fillFrom_view (e : JRElem) (name : Bytes) : ∀ (ms : List GoMap) (c : JCol), JCol.shape c = e →
    (fillFrom e name ms c).map view =
      (List.mapM (fun m => (goMapGet m name).bind (gvCell e)) ms).map (fun xs => (e, JCol.cells c ++ xs)) := by
  intro ms
  induction ms with
  | nil => intro c hc; simp [fillFrom, view, hc]
  | cons m ms ih =>
    intro c hc
    have hstep := pushCell_view e name m c hc
    simp only [fillFrom, ListFacts.mapM_cons_opt]
    cases hp : pushCell e name m c with
    | none =>
      rw [hp] at hstep
      cases hx : (goMapGet m name).bind (gvCell e) with
      | none => rfl
      | some x => rw [hx] at hstep; cases hstep
    | some c1 =>
      rw [hp] at hstep
      cases hx : (goMapGet m name).bind (gvCell e) with
      | none => rw [hx] at hstep; cases hstep
      | some x =>
        rw [hx] at hstep
        obtain ⟨h1, h2⟩ := Prod.mk.inj (Option.some.inj hstep)
        simp only []
        rw [ih c1 h1, h2]
        cases List.mapM (fun m => (goMapGet m name).bind (gvCell e)) ms <;> simp

/-- **A fill function is the all-or-nothing map of its type assertion over the records** (any Go values): the Go-level
counterpart of the spec's `jsonColumnS`. -/
theorem fillM_view (e : JRElem) (name : Bytes) (recs : List GoMap) :
    (fillM e name recs).map (JCol.toLCol name) =
      (List.mapM (fun m => (goMapGet m name).bind (gvCell e)) recs).map
        (fun xs => ({ name := name, ty := elemTy e, cells := xs.toArray } : LCol)) := by
  have h := fillFrom_view e name recs (JCol.empty e) (empty_shape e)
  have h0 : JCol.cells (JCol.empty e) = [] := by cases e <;> rfl
  unfold fillM
  cases hf : fillFrom e name recs (JCol.empty e) with
  | none =>
    rw [hf] at h
    cases hm : List.mapM (fun m => (goMapGet m name).bind (gvCell e)) recs with
    | none => rfl
    | some xs => rw [hm] at h; cases h
  | some c =>
    rw [hf] at h
    cases hm : List.mapM (fun m => (goMapGet m name).bind (gvCell e)) recs with
    | none => rw [hm] at h; cases h
    | some xs =>
      rw [hm] at h
      obtain ⟨h1, h2⟩ := Prod.mk.inj (Option.some.inj h)
      simp [JCol.toLCol, h1, h2, h0]

/-- decoding, value by value: the type assertion on a decoded value is the spec's `jsonCell` on the JSON value -/
theorem gvCell_decode (pnum : Bytes → Option UInt64) (e : JRElem) (j : JVal) (he : e ≠ .int)
    (hnum : ∀ t, j = JVal.num t → (pnum t).isSome = true) :
    gvCell e (decodeVal pnum j) = jsonCell pnum (elemTy e) j := by
  cases j with
  | num t =>
    cases hp : pnum t with
    | none => have := hnum t rfl; simp [hp] at this
    | some f => cases e <;> simp [decodeVal, gvCell, jsonCell, elemTy, hp] at he ⊢
  | _ => cases e <;> simp [decodeVal, gvCell, jsonCell, elemTy] at he ⊢

theorem get_cell_decoded (pnum : Bytes → Option UInt64) (e : JRElem) (k : Bytes) (r : JRec) (hr : RecOk pnum r) (he : e ≠ .int) :
    (goMapGet (decodeRec pnum r) k).bind (gvCell e) = (jrecGet r k).bind (jsonCell pnum (elemTy e)) := by
  rw [get_decodeRec]
  cases hj : jrecGet r k with
  | none => rfl
  | some j => exact gvCell_decode pnum e j he (fun t ht => hr (k, j) (jrecGet_mem r k j hj) t ht)

/-- **The column of an entry of record 0 is the spec's column.** -/
theorem colOf_spec (pnum : Bytes → Option UInt64) (r0 : JRec) (rs : List JRec) (k : Bytes) (j0 : JVal)
    (hok : ∀ r ∈ r0 :: rs, RecOk pnum r) (h0 : jrecGet r0 k = some j0) :
    (colOf ((r0 :: rs).map (decodeRec pnum)) k (decodeVal pnum j0)).map (JCol.toLCol k) = jsonColumnS pnum (r0 :: rs) k := by
  have key : ∀ e : JRElem, e ≠ .int →
      (fillM e k ((r0 :: rs).map (decodeRec pnum))).map (JCol.toLCol k) =
        ((r0 :: rs).mapM (fun r => (jrecGet r k).bind (jsonCell pnum (elemTy e)))).map
          (fun cs => ({ name := k, ty := elemTy e, cells := cs.toArray } : LCol)) := fun e he => by
    rw [fillM_view, ListFacts.mapM_map_comp,
      ListFacts.mapM_congr (fun r hr => get_cell_decoded pnum e k r (hok r hr) he)]
  unfold colOf jsonColumnS
  simp only [h0, Option.bind_some]
  cases j0 with
  | null => exact key .strptr (by decide)
  | bool b => exact key .bool (by decide)
  | num t => exact key .float64 (by decide)
  | str s => exact key .strptr (by decide)
  | arr l => rfl
  | obj l => rfl

/-! ## The result map and the iteration order -/

/-- both an error, or the same elements in some order -/
inductive SameOpt {α : Type} : Option (List α) → Option (List α) → Prop where
  | err : SameOpt none none
  | ok {a b : List α} (h : a.Perm b) : SameOpt (some a) (some b)

theorem SameOpt.refl {α : Type} (x : Option (List α)) : SameOpt x x := by
  cases x with
  | none => exact .err
  | some a => exact .ok (List.Perm.refl a)

theorem SameOpt.trans {α : Type} {x y z : Option (List α)} (h1 : SameOpt x y) (h2 : SameOpt y z) : SameOpt x z := by
  cases h1 with
  | err => exact h2
  | ok h => cases h2 with | ok h' => exact .ok (h.trans h')

theorem SameOpt.symm {α : Type} {x y : Option (List α)} (h : SameOpt x y) : SameOpt y x := by
  cases h with
  | err => exact .err
  | ok h => exact .ok h.symm

theorem SameOpt.cons {α : Type} (b : α) {x y : Option (List α)} (h : SameOpt x y) :
    SameOpt (x.map (b :: ·)) (y.map (b :: ·)) := by
  cases h with
  | err => exact .err
  | ok h => exact .ok (h.cons b)

theorem mapM_perm {α β : Type} (f : α → Option β) {l l' : List α} (h : l.Perm l') : SameOpt (List.mapM f l) (List.mapM f l') := by
  induction h with
  | nil => exact .refl _
  | cons x _ ih =>
    simp only [ListFacts.mapM_cons_opt]
    cases f x with
    | none => exact .err
    | some b => exact ih.cons b
  | swap x y l =>
    simp only [ListFacts.mapM_cons_opt]
    cases f x <;> cases f y <;> cases List.mapM f l <;> first | exact .err | exact .ok (List.Perm.swap ..)
  | trans _ _ ih1 ih2 => exact ih1.trans ih2

theorem SameOpt.map {α β : Type} (g : α → β) {x y : Option (List α)} (h : SameOpt x y) :
    SameOpt (x.map (List.map g)) (y.map (List.map g)) := by
  cases h with
  | err => exact .err
  | ok h => exact .ok (h.map g)

theorem jdataInsert_new (acc : JData) (k : Bytes) (c : JCol) (h : k ∉ acc.map (·.1)) : jdataInsert acc k c = acc ++ [(k, c)] := by
  have e : jdataInsert acc k c = ListFacts.assocInsert acc k c := by
    induction acc with
    | nil => rfl
    | cons e rest ih => rw [jdataInsert, ListFacts.assocInsert, ih fun hm => h (List.mem_cons_of_mem _ hm)]
  rw [e, ListFacts.assocInsert_new acc k c h]

/-- with distinct keys the loop over the entries just appends the columns -/
theorem dataFrom_eq (recs : List GoMap) : ∀ (es : List (Bytes × GV)) (acc : JData), (acc.map (·.1) ++ es.map (·.1)).Nodup →
    dataFrom recs es acc = (List.mapM (fun e => (colOf recs e.1 e.2).map (fun c => (e.1, c))) es).map (acc ++ ·) := by
  intro es
  induction es with
  | nil => intro acc _; simp [dataFrom]
  | cons e es ih =>
    intro acc hnd
    simp only [dataFrom, ListFacts.mapM_cons_opt]
    cases hc : colOf recs e.1 e.2 with
    | none => rfl
    | some c =>
      have hk : e.1 ∉ acc.map (·.1) := by
        intro hm
        have := (List.nodup_append.1 hnd).2.2 e.1 hm e.1 (by simp)
        exact this rfl
      simp only [Option.map_some]
      rw [jdataInsert_new acc e.1 c hk, ih]
      · cases List.mapM (fun e => (colOf recs e.1 e.2).map (fun c => (e.1, c))) es <;> simp
      · have : (List.map (fun x => x.1) (acc ++ [(e.1, c)]) ++ List.map (fun x => x.1) es) =
            (List.map (fun x => x.1) acc ++ List.map (fun x => x.1) (e :: es)) := by simp
        rw [this]; exact hnd

/-- an entry of the decoded record 0 is a member of record 0, decoded -/
theorem entry_of_decoded (pnum : Bytes → Option UInt64) (r0 : JRec) (e : Bytes × GV) (he : e ∈ decodeRec pnum r0) :
    ∃ j0, jrecGet r0 e.1 = some j0 ∧ e.2 = decodeVal pnum j0 := by
  have h1 := get_of_mem _ (nodup_decodeRec pnum r0) e he
  rw [get_decodeRec] at h1
  cases hj : jrecGet r0 e.1 with
  | none => rw [hj] at h1; simp at h1
  | some j0 =>
    rw [hj] at h1
    simp only [Option.map_some, Option.some.injEq] at h1
    exact ⟨j0, rfl, h1.symm⟩

/-- the columns of decoded records, when `range` delivers the entries of record 0, each once, in any order -/
theorem toDataM_view (pnum : Bytes → Option UInt64) (iter : GoMap → GoMap) (r0 : JRec) (rs : List JRec)
    (hp : (iter (decodeRec pnum r0)).Perm (decodeRec pnum r0)) (hok : ∀ r ∈ r0 :: rs, RecOk pnum r) :
    (toDataM iter ((r0 :: rs).map (decodeRec pnum))).map dataView =
      List.mapM (fun e : Bytes × GV => jsonColumnS pnum (r0 :: rs) e.1) (iter (decodeRec pnum r0)) := by
  have hnd : (([] : JData).map (·.1) ++ (iter (decodeRec pnum r0)).map (·.1)).Nodup :=
    ((hp.map (fun x : Bytes × GV => x.1)).nodup_iff).2 (nodup_decodeRec pnum r0)
  simp only [toDataM, List.map_cons]
  rw [show decodeRec pnum r0 :: rs.map (decodeRec pnum) = (r0 :: rs).map (decodeRec pnum) from rfl, dataFrom_eq _ _ [] hnd]
  have : ∀ x : Option JData, (x.map (fun x => [] ++ x)).map dataView = x.map (List.map (fun p => JCol.toLCol p.1 p.2)) := by
    intro x; cases x <;> simp [dataView]
  rw [this, ← ListFacts.mapM_map_opt]
  apply ListFacts.mapM_congr
  intro e he
  obtain ⟨j0, hj, hv⟩ := entry_of_decoded pnum r0 e (hp.mem_iff.1 he)
  rw [← colOf_spec pnum r0 rs e.1 j0 hok hj, hv]
  cases colOf ((r0 :: rs).map (decodeRec pnum)) e.1 (decodeVal pnum j0) <;> rfl

/-- the spec goes through the keys of record 0 in the order of the decoded map -/
theorem columns_of_keys (pnum : Bytes → Option UInt64) (r0 : JRec) (recs : List JRec) :
    (jrecKeys r0).mapM (jsonColumnS pnum recs) =
      List.mapM (fun e : Bytes × GV => jsonColumnS pnum recs e.1) (decodeRec pnum r0) := by
  rw [← keysOf_decodeRec pnum r0, keysOf, ListFacts.mapM_map_comp]

/-- **`toDataM` on decoded records against the spec**, for every iteration order. -/
theorem toDataM_spec (pnum : Bytes → Option UInt64) (iter : GoMap → GoMap) (hiter : ∀ m, (iter m).Perm m)
    (recs : List JRec) (hok : ∀ r ∈ recs, RecOk pnum r) :
    SameOpt ((toDataM iter (recs.map (decodeRec pnum))).map dataView) (jsonDataS pnum recs) := by
  cases recs with
  | nil => exact .ok (List.Perm.refl _)
  | cons r0 rs =>
    rw [toDataM_view pnum iter r0 rs (hiter _) hok, jsonDataS, columns_of_keys]
    exact mapM_perm _ (hiter _)

theorem toDataM_spec_ordered (pnum : Bytes → Option UInt64) (recs : List JRec) (hok : ∀ r ∈ recs, RecOk pnum r) :
    (toDataM id (recs.map (decodeRec pnum))).map dataView = jsonDataS pnum recs := by
  cases recs with
  | nil => rfl
  | cons r0 rs => rw [toDataM_view pnum id r0 rs (.refl _) hok, jsonDataS, columns_of_keys]; rfl

/-- **`jsonRecordsToData` of today's source against the spec.** For every list of JSON records (the member lists of the
objects, values = the spec's `JVal`) whose numbers are float64s, decoded as `encoding/json` does, and EVERY order in which
`range` may deliver the entries of record 0: the function has a meaning; it returns an error exactly when `jsonDataS` is
an error (a record lacks a member of record 0; a later record holds a value of another type; record 0 holds an array or an
object), and otherwise a map whose columns are exactly the spec's columns (in the order of the iteration). -/
theorem gen_readjson_semantics (pnum : Bytes → Option UInt64) (iter : GoMap → GoMap) (hiter : ∀ m, (iter m).Perm m)
    (recs : List JRec) (hok : ∀ r ∈ recs, RecOk pnum r) :
    ∃ r, genToData iter (recs.map (decodeRec pnum)) = some r ∧ SameOpt (r.map dataView) (jsonDataS pnum recs) :=
  ⟨_, gen_toData_semantics iter _, toDataM_spec pnum iter hiter recs hok⟩

/-- … and when `range` follows the order of record 0, the columns come in the spec's order. -/
theorem gen_readjson_semantics_ordered (pnum : Bytes → Option UInt64) (recs : List JRec) (hok : ∀ r ∈ recs, RecOk pnum r) :
    (genToData id (recs.map (decodeRec pnum))).map (fun r => r.map dataView) = some (jsonDataS pnum recs) := by
  rw [gen_toData_semantics, Option.map_some, toDataM_spec_ordered pnum recs hok]

/-! ## The order of the names: `New` sorts them, so the iteration order does not show in the frame -/

/-- `bytesLe` is the lexicographic order of lists, whose order theory core Lean has -/
theorem bytesLe_iff : ∀ a b : Bytes, bytesLe a b = true ↔ a ≤ b := by
  intro a
  induction a with
  | nil => intro b; cases b <;> simp [bytesLe, bytesCmp]
  | cons x xs ih =>
    intro b
    cases b with
    | nil => simp [bytesLe, bytesCmp]
    | cons y ys =>
      rw [List.cons_le_cons_iff, ← ih ys]
      simp only [bytesLe, bytesCmp, gt_iff_lt]
      by_cases h1 : x < y
      · simp [h1]
      · by_cases h2 : y < x
        · simp [h1, h2, UInt8.ne_of_lt h2 |>.symm]
        · simp [UInt8.le_antisymm (UInt8.not_lt.mp h2) (UInt8.not_lt.mp h1)]

theorem insertSorted_sorted (x : Bytes) (l : List Bytes) (h : l.Pairwise (· ≤ ·)) : (insertSorted x l).Pairwise (· ≤ ·) := by
  induction l with
  | nil => exact List.pairwise_singleton _ _
  | cons y ys ih =>
    have hy := List.pairwise_cons.1 h
    unfold insertSorted
    split
    · next hle =>
      have hxy := (bytesLe_iff x y).1 hle
      refine List.pairwise_cons.2 ⟨fun z hz => ?_, h⟩
      rcases List.mem_cons.1 hz with rfl | hz
      · exact hxy
      · exact List.le_trans hxy (hy.1 z hz)
    · next hle =>
      refine List.pairwise_cons.2 ⟨fun z hz => ?_, ih hy.2⟩
      rcases List.mem_cons.1 ((C08Guards.insertSorted_perm x ys).mem_iff.1 hz) with rfl | hz
      · exact (List.le_total y z).resolve_right fun h => hle ((bytesLe_iff z y).2 h)
      · exact hy.1 z hz

theorem sortNames_sorted (l : List Bytes) : (sortNames l).Pairwise (· ≤ ·) := by
  induction l with
  | nil => exact .nil
  | cons x xs ih => exact insertSorted_sorted x _ ih

/-- sorting forgets the order of its input: two sorted lists with the same elements are equal -/
theorem sortNames_perm (l l' : List Bytes) (h : l.Perm l') : sortNames l = sortNames l' :=
  List.Perm.eq_of_pairwise (fun _ _ _ _ => List.le_antisymm) (sortNames_sorted l) (sortNames_sorted l')
    ((C08Guards.sortNames_perm_self l).trans (h.trans (C08Guards.sortNames_perm_self l').symm))
/-- looking a column up by name does not depend on the order when the names are distinct -/
theorem find_perm {α : Type} (name : α → Bytes) {l l' : List α} (h : l.Perm l') (hn : (l.map name).Nodup) (n : Bytes) :
    l.find? (fun c => name c == n) = l'.find? (fun c => name c == n) := by
  cases h1 : l.find? (fun c => name c == n) with
  | none => exact (List.find?_eq_none.2 fun x hx => List.find?_eq_none.1 h1 x (h.mem_iff.2 hx)).symm
  | some c =>
    have hk : name c = n := eq_of_beq (List.find?_some (p := fun c => name c == n) h1)
    subst hk
    exact (ListFacts.find?_key_of_mem name l' ((h.map name).nodup_iff.1 hn) c (h.mem_iff.1 (List.mem_of_find?_eq_some h1))).symm

/-- **`New` without column order does not depend on the order of the map.** -/
theorem newS_perm {a b : List NewCol} (h : a.Perm b) (hn : (a.map (·.name)).Nodup) (enums : List (Bytes × List Bytes)) :
    newS a [] enums = newS b [] enums := by
  have h1 : a.all (fun c => legalName c.name) = b.all (fun c => legalName c.name) := h.all_eq
  have h2 : sortNames (a.map (·.name)) = sortNames (b.map (·.name)) := sortNames_perm _ _ (h.map _)
  have h3 : a.length = b.length := h.length_eq
  have h4 : ∀ n, a.any (fun c => c.name == n) = b.any (fun c => c.name == n) := fun n => h.any_eq
  have h5 : ∀ n, a.find? (fun c => c.name == n) = b.find? (fun c => c.name == n) := fun n => find_perm (·.name) h hn n
  unfold newS
  simp only [h1, h2, h3, h4, h5]

/-! ## `UnmarshalJSON` and `ReadJSON` -/

/-- `UnmarshalJSON` of today's source on a reader holding the document `doc` -/
def genUnmarshal (pnum : Bytes → Option UInt64) (iter : GoMap → GoMap) (doc : JVal) : Option (Option JData) :=
  match Gen.unmarshalJsonAst.run (δ := JData) (ρ := Unit)
      { dec := decodeDoc pnum doc, toData := genToData iter, unm := none, new := fun _ => (), errFrame := () } .start with
  | some (.data d) => some d
  | _ => none

/-- `New(data)` as the spec has it -/
def newOfData (d : JData) : Res := newS ((dataView d).map LCol.toNewCol) [] []

/-- `ReadJSON` (no configuration functions) of today's source -/
def genReadJson (pnum : Bytes → Option UInt64) (iter : GoMap → GoMap) (doc : JVal) : Option Res :=
  match Gen.readJsonAst.run (δ := JData) (ρ := Res)
      { dec := none, toData := fun _ => none, unm := genUnmarshal pnum iter doc, new := newOfData, errFrame := .err } .start with
  | some (.frame f) => some f
  | _ => none

/-- `UnmarshalJSON` returns the error of `Decode`, else what `jsonRecordsToData` returns for the decoded records. -/
theorem gen_unmarshal_run (pnum : Bytes → Option UInt64) (iter : GoMap → GoMap) (doc : JVal) :
    genUnmarshal pnum iter doc =
      match decodeDoc pnum doc with
      | none => some none
      | some recs => genToData iter recs := by
  unfold genUnmarshal
  rw [gen_readjson_canon.2.2.1]
  cases hd : decodeDoc pnum doc with
  | none => simp [canonUnmarshal, JU.run]
  | some recs =>
    simp only [canonUnmarshal, JU.run]
    cases genToData iter recs <;> rfl

/-- `ReadJSON` returns `QFrame{Err: err}` iff `UnmarshalJSON` fails, else `New(data, confFuncs...)`. -/
theorem gen_readjson_run (pnum : Bytes → Option UInt64) (iter : GoMap → GoMap) (doc : JVal) :
    genReadJson pnum iter doc =
      match genUnmarshal pnum iter doc with
      | none => none
      | some none => some .err
      | some (some d) => some (newOfData d) := by
  unfold genReadJson
  rw [gen_readjson_canon.2.2.2]
  cases hu : genUnmarshal pnum iter doc with
  | none => simp [canonReadJson, JU.run]
  | some r => cases r <;> simp [canonReadJson, JU.run]

theorem numsOkL_all (pnum : Bytes → Option UInt64) : ∀ l, jsonNumsOkL pnum l = l.all (jsonNumsOk pnum)
  | [] => rfl
  | v :: vs => by rw [jsonNumsOkL, List.all_cons, numsOkL_all pnum vs]

theorem numsOkM_all (pnum : Bytes → Option UInt64) : ∀ r, jsonNumsOkM pnum r = r.all (fun kv => jsonNumsOk pnum kv.2)
  | [] => rfl
  | (k, v) :: r => by rw [jsonNumsOkM, List.all_cons, numsOkM_all pnum r]

theorem records_ok (pnum : Bytes → Option UInt64) (doc : JVal) (recs : List JRec) (h1 : jsonNumsOk pnum doc = true)
    (h2 : jsonRecords doc = some recs) : ∀ r ∈ recs, RecOk pnum r := by
  intro r hr kv hkv t ht
  cases doc with
  | null => cases h2; cases hr
  | arr l =>
    rw [jsonNumsOk, numsOkL_all, List.all_eq_true] at h1
    rw [jsonRecords, ListFacts.mapM_eq_some_iff] at h2
    -- `r` is the record of some element `v` of the array
    have hm : some r ∈ l.map jsonRecordOf := h2 ▸ List.mem_map_of_mem hr
    obtain ⟨v, hv, hvr⟩ := List.mem_map.1 hm
    have hv1 := h1 v hv
    cases v with
    | obj kvs =>
      cases hvr
      rw [jsonNumsOk, numsOkM_all, List.all_eq_true] at hv1
      simpa [ht, jsonNumsOk] using hv1 kv hkv
    | null => cases hvr; cases hkv
    | _ => cases hvr
  | _ => cases h2

/-- **`UnmarshalJSON` of today's source against the spec**, for EVERY document (any JSON value), every float64 oracle and
every iteration order of `range`: an error exactly when the spec's `jsonDocS` is one, else exactly the spec's columns. -/
theorem gen_unmarshal_semantics (pnum : Bytes → Option UInt64) (iter : GoMap → GoMap) (hiter : ∀ m, (iter m).Perm m)
    (doc : JVal) :
    ∃ r, genUnmarshal pnum iter doc = some r ∧ SameOpt (r.map dataView) (jsonDocS pnum doc) := by
  rw [gen_unmarshal_run]
  unfold decodeDoc jsonDocS
  by_cases hn : jsonNumsOk pnum doc = true
  · simp only [hn, if_true]
    cases hr : jsonRecords doc with
    | none => exact ⟨none, rfl, .err⟩
    | some recs =>
      simp only [Option.map_some, Option.bind_some]
      exact gen_readjson_semantics pnum iter hiter recs (records_ok pnum doc recs hn hr)
  · simp only [hn]
    exact ⟨none, rfl, .err⟩

theorem jsonColumnS_name (pnum : Bytes → Option UInt64) (recs : List JRec) (k : Bytes) (c : LCol)
    (h : jsonColumnS pnum recs k = some c) : c.name = k := by
  unfold jsonColumnS at h
  cases recs with
  | nil => simp at h
  | cons r0 rs =>
    simp only [] at h
    cases ht : (jrecGet r0 k).bind jsonTy with
    | none => rw [ht] at h; simp at h
    | some ty =>
      rw [ht] at h
      simp only [] at h
      cases hm : List.mapM (fun r => (jrecGet r k).bind (jsonCell pnum ty)) (r0 :: rs) with
      | none => rw [hm] at h; simp at h
      | some cs => rw [hm] at h; simp at h; rw [← h]

/-- the names of the spec's columns are distinct -/
theorem jsonDataS_nodup (pnum : Bytes → Option UInt64) (recs : List JRec) (cols : List LCol)
    (h : jsonDataS pnum recs = some cols) : (cols.map (·.name)).Nodup := by
  cases recs with
  | nil => simp [jsonDataS] at h; subst h; simp
  | cons r0 rs =>
    simp only [jsonDataS] at h
    rw [ListFacts.mapM_keys (·.name) (jsonColumnS_name pnum (r0 :: rs)) h, ← keysOf_decodeRec pnum r0]
    exact nodup_decodeRec pnum r0

/-- **`ReadJSON` of today's source is the spec's `readJsonS`**, for every document, float64 oracle and iteration order
(`New` taken from the spec: `newS` without column order and enum declarations). -/
theorem gen_readjson_frame (pnum : Bytes → Option UInt64) (iter : GoMap → GoMap) (hiter : ∀ m, (iter m).Perm m)
    (doc : JVal) : genReadJson pnum iter doc = some (readJsonS pnum doc) := by
  obtain ⟨r, hr, hs⟩ := gen_unmarshal_semantics pnum iter hiter doc
  rw [gen_readjson_run, hr]
  unfold readJsonS
  cases hs' : jsonDocS pnum doc with
  | none =>
    rw [hs'] at hs
    cases r with
    | none => rfl
    | some d => cases hs
  | some cols =>
    rw [hs'] at hs
    cases r with
    | none => cases hs
    | some d =>
      cases hs with
      | ok hp =>
        simp only [newOfData]
        have hnd : (cols.map (·.name)).Nodup := by
          unfold jsonDocS at hs'
          by_cases hn : jsonNumsOk pnum doc = true
          · simp only [hn, if_true] at hs'
            cases hrec : jsonRecords doc with
            | none => rw [hrec] at hs'; simp at hs'
            | some recs => rw [hrec] at hs'; exact jsonDataS_nodup pnum recs cols hs'
          · simp [hn] at hs'
        have hnd' : ((List.map LCol.toNewCol (dataView d)).map (·.name)).Nodup := by
          have : (List.map LCol.toNewCol (dataView d)).map (·.name) = (dataView d).map (·.name) := by
            simp [LCol.toNewCol]
          rw [this]
          exact ((hp.map (·.name)).nodup_iff).2 hnd
        rw [newS_perm (hp.map LCol.toNewCol) hnd' []]

/-! ## Witnesses: the statements tell wrong glue apart -/

section Witnesses

private def f1 : UInt64 := 0x3ff0000000000000
private def f2 : UInt64 := 0x4000000000000000
private def pnumW (t : Bytes) : Option UInt64 := if t = [49] then some f1 else if t = [50] then some f2 else none
private def ka : Bytes := [97]
private def sx : Bytes := [120]

/-- what is observed of a column -/
structure ObsCol where
  name : Bytes
  ty : CType
  cells : List Cell
  deriving DecidableEq, Repr

/-- what is observed of a run -/
inductive Obs where
  | noMeaning
  | error
  | cols (l : List ObsCol)
  deriving DecidableEq, Repr

def obsCols : Option (List LCol) → Obs
  | none => .error
  | some l => .cols (l.map (fun c => ⟨c.name, c.ty, c.cells.toList⟩))

/-- `jsonRecordsToData` made of the given terms, on decoded records, `range` in the order of record 0 -/
def runW (fills : List (JRElem × JR)) (toData : JR) (recs : List JRec) : Obs :=
  match ({ fills := fills, toData := toData } : JRProg).run id (recs.map (decodeRec pnumW)) with
  | none => .noMeaning
  | some r => obsCols (r.map dataView)

def specW (recs : List JRec) : Obs := obsCols (jsonDataS pnumW recs)

def withFill (e : JRElem) (t : JR) : List (JRElem × JR) := canonFills.map (fun p => if p.1 = e then (e, t) else p)

/-- the canonical terms agree with the spec on the inputs used below -/
example : runW canonFills canonToData [[(ka, .num [49])], [(ka, .num [50])]] = (specW [[(ka, .num [49])], [(ka, .num [50])]]) ∧
    runW canonFills canonToData [[(ka, .str sx)], []] = (specW [[(ka, .str sx)], []]) ∧
    runW canonFills canonToData [[(ka, .null)], [(ka, .str sx)]] = (specW [[(ka, .null)], [(ka, .str sx)]]) ∧
    runW canonFills canonToData [] = (specW []) ∧
    runW canonFills canonToData [[(ka, .num [49])], [(ka, .str sx)]] = (specW [[(ka, .num [49])], [(ka, .str sx)]]) := by
  decide

/-- `record := records[0]` in place of `records[i]` in `fillFloats`: every row gets the value of record 0 -/
example : runW (withFill .float64 (.rangeCol (.bindRecord (.lit 0) (.lookup (.ifNotOk .retErr (assertStore .float64)))) .retNil))
      canonToData [[(ka, .num [49])], [(ka, .num [50])]] = .cols [⟨ka, .float, [.float f1, .float f1]⟩] ∧
    specW [[(ka, .num [49])], [(ka, .num [50])]] = .cols [⟨ka, .float, [.float f1, .float f2]⟩] := by decide

/-- `fillStrings` without the test of `ok` after the lookup: a missing member becomes a null string; the spec says error -/
example : runW (withFill .strptr (.rangeCol (.bindRecord .loopVar (.lookup strSwitch)) .retNil)) canonToData
      [[(ka, .str sx)], []] = .cols [⟨ka, .string, [.str (some sx), .str none]⟩] ∧
    specW [[(ka, .str sx)], []] = .error := by decide

/-- `fillFloats` that does not return at a wrong type (`if !ok { }`): no meaning (the slot is not written) where the spec
says error -/
example : runW (withFill .float64 (.rangeCol (fetch (.assertTy .float64 (.ifNotOk .done (.store .done)))) .retNil)) canonToData
      [[(ka, .num [49])], [(ka, .str sx)]] = .noMeaning ∧
    specW [[(ka, .num [49])], [(ka, .str sx)]] = .error ∧
    runW canonFills canonToData [[(ka, .num [49])], [(ka, .str sx)]] = .error := by decide

/-- a type switch without `nil` in the string clause: a null in record 0 is the "unknown type" error; the spec has a
string column -/
example : runW canonFills (.newResult (.ifNoRecords .retResult (.bindRecord (.lit 0) (.rangeRecord
      (.caseTy [.int] (column .int) (.caseTy [.float64] (column .float64) (.caseTy [.bool] (column .bool)
        (.caseTy [.string] (column .strptr) .retErr)))) .retResult)))) [[(ka, .null)], [(ka, .str sx)]] = .error ∧
    specW [[(ka, .null)], [(ka, .str sx)]] = .cols [⟨ka, .string, [.str none, .str (some sx)]⟩] := by decide

/-- without `if len(records) == 0 { return result, nil }` the empty document has no meaning (`records[0]` panics) -/
example : runW canonFills (.newResult (.bindRecord (.lit 0) (.rangeRecord typeSwitch .retResult))) [] = .noMeaning ∧
    specW [] = .cols [] := by decide

/-- a column that is not stored in the result (`result[colName] = col` missing) -/
example : runW canonFills (.newResult (.ifNoRecords .retResult (.bindRecord (.lit 0) (.rangeRecord
      (.caseTy [.float64] (.makeCol .float64 (.callFill .float64 .retCallErr .done)) .retErr) .retResult))))
      [[(ka, .num [49])]] = .cols [] ∧
    specW [[(ka, .num [49])]] = .cols [⟨ka, .float, [.float f1]⟩] := by decide

/-- a fill error that is dropped (`if err := fill(…); err != nil { }`) leaves a partly written slice: no meaning -/
example : runW canonFills (.newResult (.ifNoRecords .retResult (.bindRecord (.lit 0) (.rangeRecord
      (.caseTy [.float64] (.makeCol .float64 (.callFill .float64 .done (.setResult .done))) .retErr) .retResult))))
      [[(ka, .num [49])], [(ka, .str sx)]] = .noMeaning := by decide

/-- `UnmarshalJSON` that ignores the error of `Decode`, `ReadJSON` that ignores the error of `UnmarshalJSON`: no meaning
on a failing document, where today's terms return the error -/
example : (JU.decode JU.retToData).run (δ := JData) (ρ := Unit)
      { dec := none, toData := fun _ => some none, unm := none, new := fun _ => (), errFrame := () } .start = none ∧
    (JU.unmarshal JU.retNew).run (δ := JData) (ρ := Bool)
      { dec := none, toData := fun _ => none, unm := some none, new := fun _ => true, errFrame := false } .start = none ∧
    genUnmarshal pnumW id (.num [49]) = some none ∧
    genUnmarshal pnumW id (.arr [.obj [(ka, .num [51])]]) = some none := by
  refine ⟨rfl, rfl, ?_, ?_⟩ <;> decide

end Witnesses

#print axioms gen_readjson_canon
#print axioms gen_readjson_no_opaque
#print axioms gen_fill_semantics
#print axioms gen_toData_semantics
#print axioms gen_readjson_semantics
#print axioms gen_readjson_semantics_ordered
#print axioms gen_unmarshal_semantics
#print axioms gen_readjson_frame
#print axioms decoded_no_int
#print axioms newS_perm

end QF.Props.C14ReadJsonGen
