import QF.Gen.Ctors
import QF.Props.C08PointerGen
/-!
# C08 — the column constructors `createColumn` calls, of today's source (tie T1)

`QF.Gen.scolNewBytes`, `scolNew`, `scolNewStrings`, `scolNewConst`, `numCtors` (regenerated on every run by
go/cmd/extract/ctorast.go) hold `NewBytes`, `New`, `NewStrings`, `NewConst` of /repo/internal/scolumn/column.go and
`New` / `NewConst` of internal/icolumn, fcolumn, bcolumn (column_gen.go) as terms of `QF.CT` (QF/Core/Ctors.lean). They
are the primitives `Ctor.cells` / `Ctor.const` / `Ctor.blob` of `createColumn` (QF/Core/Construct.lean, C08Construct).
`qfstrings.NewPointer` is run as regenerated (`C08PointerGen`: `genNP`).

* `gen_ctors_no_opaque`, `gen_ctors_canon` — today's extraction is complete and equal to the canonical terms (`decide`).
* `gen_scolumn_new_semantics`   — for every list of optional strings within the documented limits of the packed pointer
    (every string shorter than 2^28 bytes, all of them together shorter than 2^35 bytes: /repo/internal/strings/pointer.go),
    `scolumn.New` returns the column whose data buffer is the concatenation of the strings, with one pointer per row whose
    offset is the number of bytes in front of it, whose length is the string's (0 for null) and whose null flag tells null from
    a string; every pointer stays inside the buffer, and reading row `i` back through the pointer (`stringAt`) gives the
    cell that was passed. `NewStrings` is the same on `[]string`.
* `gen_scolumn_const_semantics` — `scolumn.NewConst(val, n)`: `n` rows that all read back `val` (null included); the buffer holds `val` once.
* `gen_const_semantics`         — `NewConst(v, n)` of the int / float / bool columns is `n` cells `v`, `New(d)` is `d`.
* `gen_ctors_meet_spec_partial` — so the regenerated constructors build the spec's cell lists (`Ctors.Spec.cells`, `.const` of
    QF/Core/Construct.lean), read back cell by cell. Excluded: strings beyond the pointer's limits.
* witnesses: the offset added before the pointer is made, the null flag not set, the length of a null row not 0, a constant
  column left unfilled.
-/
namespace QF.Props.C08CtorsGen
open QF QF.CT

/-! ## Canonical terms -/

/-- `pointers[i] = NewPointer(offset, sLen, false); offset += sLen; data = append(data, *s...)` -/
def canonStrBody : CB := .setPtr .offset .lenCur false (.addOffset .lenCur (.appendCur .done))
/-- `if s == nil { pointers[i] = NewPointer(offset, 0, true) } else { … }` -/
def canonNewBody : CB := .ifNil (.setPtr .offset (.lit 0) true .done) canonStrBody

def canonNew : CN := .makeData (.makePointers .lenCells (.initOffset 0 (.rangeCells canonNewBody .retBytes)))
def canonNewStrings : CN := .makeData (.makePointers .lenCells (.initOffset 0 (.rangeCells canonStrBody .retBytes)))
def canonNewConst : CN :=
  .makeData (.makePointers .count (.ifValNil
    (.makeData (.rangePointers (.setPtr (.lit 0) (.lit 0) true .done) .retBytes))
    (.makeData (.appendVal (.rangePointers (.setPtr (.lit 0) .lenVal false .done) .retBytes)))))
def canonNewBytes : NB := .ret .ptrParam .bytesParam
def canonNum : List (CType × NC × NC) :=
  [(.int, .retParam, .makeCells (.fillVal .retLocal)), (.float, .retParam, .makeCells (.fillVal .retLocal)),
   (.bool, .retParam, .makeCells (.fillVal .retLocal))]

theorem gen_ctors_canon :
    Gen.scolNewBytes = canonNewBytes ∧ Gen.scolNew = canonNew ∧ Gen.scolNewStrings = canonNewStrings ∧
    Gen.scolNewConst = canonNewConst ∧ Gen.numCtors = canonNum := by decide

theorem gen_ctors_no_opaque :
    Gen.scolNewBytes.hasOpaque = false ∧ Gen.scolNew.hasOpaque = false ∧ Gen.scolNewStrings.hasOpaque = false ∧
    Gen.scolNewConst.hasOpaque = false ∧ (∀ e ∈ Gen.numCtors, e.2.1.hasOpaque = false ∧ e.2.2.hasOpaque = false) := by decide

/-! ## `NewPointer` as regenerated -/

/-- `qfstrings.NewPointer(offset, length, isNull)` of today's source (QF/Gen/StringsFns.lean, run with Go's arithmetic) -/
def genNP (offset length : Nat) (isNull : Bool) : Option Nat :=
  match C08PointerGen.genRun C08PointerGen.anyEnv .newPointer [.int offset, .int length, .bool isNull] with
  | some [.u64 p] => some p
  | _ => none

theorem genNP_eq (o l : Nat) (b : Bool) (ho : o < 2 ^ 35) (hl : l < 2 ^ 28) : genNP o l b = some (Small.newPointer o l b) := by
  unfold genNP
  rw [(C08PointerGen.gen_pointer_semantics _).1 o l b ho hl]

/-- today's string constructors -/
def genScolNew (cells : List (Option Bytes)) : Option SCol := runString genNP Gen.scolNewBytes { cells := cells } Gen.scolNew
def genScolNewStrings (strs : List Bytes) : Option SCol :=
  runString genNP Gen.scolNewBytes { cells := strs.map some } Gen.scolNewStrings
def genScolNewConst (val : Option Bytes) (count : Nat) : Option SCol :=
  runString genNP Gen.scolNewBytes { val := val, count := count } Gen.scolNewConst

/-! ## What a string column is read as -/

/-- `stringAt` through a pointer: null, or the bytes `data[offset : offset+length]` -/
def cellOfPtr (data : Bytes) (p : Nat) : Option Bytes :=
  if Small.pIsNull p then none else some ((data.drop (Small.pOffset p)).take (Small.pLen p))

/-- the cells of a string column, row by row -/
def readBack (c : SCol) : List (Option Bytes) := c.ptrs.map (cellOfPtr c.data)

/-- the data buffer `New` builds: the strings one after the other -/
def dataOf : List (Option Bytes) → Bytes
  | [] => []
  | none :: r => dataOf r
  | some s :: r => s ++ dataOf r

/-- the pointers `New` builds when `off` bytes are in the buffer already -/
def ptrsFrom (off : Nat) : List (Option Bytes) → List Nat
  | [] => []
  | none :: r => Small.newPointer off 0 true :: ptrsFrom off r
  | some s :: r => Small.newPointer off s.length false :: ptrsFrom (off + s.length) r

/-- the number of bytes in front of each row -/
def offsetsFrom (off : Nat) : List (Option Bytes) → List Nat
  | [] => []
  | none :: r => off :: offsetsFrom off r
  | some s :: r => off :: offsetsFrom (off + s.length) r

/-- the documented limits of the packed pointer: 2^28 bytes a string, 2^35 bytes in all -/
def Within (cells : List (Option Bytes)) : Prop :=
  (dataOf cells).length < 2 ^ 35 ∧ ∀ s, some s ∈ cells → s.length < 2 ^ 28

/-! ## The loops -/

/-- `np` is `NewPointer` wherever the pointer has room for its arguments -/
def AgreesNP (np : Nat → Nat → Bool → Option Nat) : Prop :=
  ∀ o l b, o < 2 ^ 35 → l < 2 ^ 28 → np o l b = some (Small.newPointer o l b)

/-! A null row is treated as the empty string with the null flag set: one equation per function covers both kinds of row. -/

theorem dataOf_cons (c : Option Bytes) (r : List (Option Bytes)) : dataOf (c :: r) = c.getD [] ++ dataOf r := by
  cases c <;> rfl

theorem ptrsFrom_cons (off : Nat) (c : Option Bytes) (r : List (Option Bytes)) :
    ptrsFrom off (c :: r) =
      Small.newPointer off (c.getD []).length c.isNone :: ptrsFrom (off + (c.getD []).length) r := by
  cases c <;> rfl

theorem offsetsFrom_cons (off : Nat) (c : Option Bytes) (r : List (Option Bytes)) :
    offsetsFrom off (c :: r) = off :: offsetsFrom (off + (c.getD []).length) r := by
  cases c <;> rfl

theorem cell_small {c : Option Bytes} {cells : List (Option Bytes)} (h : ∀ s, some s ∈ c :: cells → s.length < 2 ^ 28) :
    (c.getD []).length < 2 ^ 28 := by
  cases c with
  | none => exact Nat.two_pow_pos 28
  | some s => exact h s List.mem_cons_self

theorem new_body_str (np : Nat → Nat → Bool → Option Nat) (I : In) (i : Nat) (s : Bytes) (σ : St) :
    canonNewBody.run np I i (some (some s)) σ = canonStrBody.run np I i (some (some s)) σ := by
  simp only [canonNewBody, CB.run]

theorem new_body (np : Nat → Nat → Bool → Option Nat) (hnp : AgreesNP np) (I : In) (i : Nat) (D : Bytes) (c : Option Bytes)
    (ps : List Nat) (hi : i < ps.length) (hD : D.length < 2 ^ 35) (hs : (c.getD []).length < 2 ^ 28) :
    canonNewBody.run np I i (some c) { data := some D, ptrs := some ps, offset := some D.length } =
      some { data := some (D ++ c.getD []),
             ptrs := some (ps.set i (Small.newPointer D.length (c.getD []).length c.isNone)),
             offset := some (D ++ c.getD []).length } := by
  cases c with
  | none =>
    simp only [canonNewBody, CB.run, IE.eval, hnp _ 0 true hD (by omega), hi, if_true, Option.getD_none, List.append_nil]
    rfl
  | some s =>
    simp only [new_body_str, canonStrBody, CB.run, IE.eval, hnp _ _ false hD (show s.length < 2 ^ 28 from hs), hi, if_true, List.length_append,
      Option.getD_some]
    rfl

/-- the loop of `New` from row `P.length` on: the rows in front keep their pointers, the rows that are left get theirs -/
theorem new_loop (np : Nat → Nat → Bool → Option Nat) (hnp : AgreesNP np) (I : In) (cells : List (Option Bytes)) :
    ∀ (D : Bytes) (P Q : List Nat), Q.length = cells.length → D.length + (dataOf cells).length < 2 ^ 35 →
      (∀ s, some s ∈ cells → s.length < 2 ^ 28) →
      loopCells np I canonNewBody P.length cells { data := some D, ptrs := some (P ++ Q), offset := some D.length } =
        some { data := some (D ++ dataOf cells), ptrs := some (P ++ ptrsFrom D.length cells),
               offset := some (D ++ dataOf cells).length } := by
  induction cells with
  | nil =>
    intro D P Q hQ _ _
    have : Q = [] := List.eq_nil_of_length_eq_zero hQ
    subst this
    simp [loopCells, dataOf, ptrsFrom]
  | cons c cs ih =>
    intro D P Q hQ hlen hstr
    cases Q with
    | nil => simp at hQ
    | cons q Q' =>
      rw [dataOf_cons, List.length_append] at hlen
      have hQ' : Q'.length = cs.length := by simpa using hQ
      have hi : P.length < (P ++ q :: Q').length := by simp
      simp only [loopCells, new_body np hnp I _ D c _ hi (by omega) (cell_small hstr)]
      have e : (P ++ q :: Q').set P.length (Small.newPointer D.length (c.getD []).length c.isNone) =
          (P ++ [Small.newPointer D.length (c.getD []).length c.isNone]) ++ Q' := by simp
      have e2 : P.length + 1 = (P ++ [Small.newPointer D.length (c.getD []).length c.isNone]).length := by simp
      rw [e, e2, ih (D ++ c.getD []) _ Q' hQ' (by rw [List.length_append]; omega)
        (fun s hs => hstr s (List.mem_cons_of_mem _ hs))]
      simp [dataOf_cons, ptrsFrom_cons]

/-- on cells that are all strings the loop of `NewStrings` is the loop of `New` -/
theorem strings_loop (np : Nat → Nat → Bool → Option Nat) (I : In) (strs : List Bytes) :
    ∀ (i : Nat) (σ : St), loopCells np I canonStrBody i (strs.map some) σ = loopCells np I canonNewBody i (strs.map some) σ := by
  induction strs with
  | nil => intro i σ; rfl
  | cons s ss ih =>
    intro i σ
    simp only [List.map_cons, loopCells, new_body_str]
    cases canonStrBody.run np I i (some (some s)) σ with
    | none => rfl
    | some σ' => exact ih (i + 1) σ'

/-- `for i := range pointers { pointers[i] = NewPointer(0, l, b) }` from row `P.length` on -/
theorem const_loop (np : Nat → Nat → Bool → Option Nat) (I : In) (l : IE) (b : Bool) (lv p : Nat) (D : Option Bytes) (o : Option Nat)
    (hl : ∀ σ : St, l.eval I σ none = some lv) (hp : np 0 lv b = some p) :
    ∀ (n : Nat) (P Q : List Nat), Q.length = n →
      loopN np I (.setPtr (.lit 0) l b .done) P.length n { data := D, ptrs := some (P ++ Q), offset := o } =
        some { data := D, ptrs := some (P ++ List.replicate n p), offset := o } := by
  intro n
  induction n with
  | zero =>
    intro P Q hQ
    have : Q = [] := List.eq_nil_of_length_eq_zero hQ
    subst this
    simp [loopN]
  | succ n ih =>
    intro P Q hQ
    cases Q with
    | nil => simp at hQ
    | cons q Q' =>
      have hQ' : Q'.length = n := by simpa using hQ
      have hi : P.length < (P ++ q :: Q').length := by simp
      have e : (P ++ q :: Q').set P.length p = (P ++ [p]) ++ Q' := by simp
      have e2 : P.length + 1 = (P ++ [p]).length := by simp
      have h0 : ∀ σ : St, (IE.lit 0).eval I σ none = some 0 := fun _ => rfl
      simp only [loopN, CB.run, h0, hl, hp, hi, if_true]
      rw [e, e2, ih _ Q' hQ']
      simp [List.replicate_succ]

/-! ## What the pointers say -/

theorem ptrsFrom_length (off : Nat) (cells : List (Option Bytes)) : (ptrsFrom off cells).length = cells.length := by
  induction cells generalizing off with
  | nil => rfl
  | cons c cs ih => rw [ptrsFrom_cons, List.length_cons, ih, List.length_cons]

/-- What the pointers say, read with the accessors of pointer.go, when `pre` is in the buffer already: offset, length and
null flag of every row; reading the rows back through their pointers gives the cells; every pointer stays inside the buffer. -/
theorem ptrsFrom_spec (cells : List (Option Bytes)) :
    ∀ pre : Bytes, pre.length + (dataOf cells).length < 2 ^ 35 → (∀ s, some s ∈ cells → s.length < 2 ^ 28) →
      (ptrsFrom pre.length cells).map Small.pOffset = offsetsFrom pre.length cells ∧
      (ptrsFrom pre.length cells).map Small.pLen = cells.map (fun c => (c.getD []).length) ∧
      (ptrsFrom pre.length cells).map Small.pIsNull = cells.map Option.isNone ∧
      (ptrsFrom pre.length cells).map (cellOfPtr (pre ++ dataOf cells)) = cells ∧
      ∀ p ∈ ptrsFrom pre.length cells, Small.pOffset p + Small.pLen p ≤ (pre ++ dataOf cells).length := by
  induction cells with
  | nil => intro pre _ _; exact ⟨rfl, rfl, rfl, rfl, fun p hp => by simp [ptrsFrom] at hp⟩
  | cons c cs ih =>
    intro pre hlen hstr
    rw [dataOf_cons, List.length_append] at hlen
    obtain ⟨r1, r2, r3⟩ := Small.pointer_roundtrip pre.length (c.getD []).length c.isNone (by omega) (cell_small hstr)
    have hpre : pre.length + (c.getD []).length = (pre ++ c.getD []).length := List.length_append.symm
    have hd : pre ++ dataOf (c :: cs) = (pre ++ c.getD []) ++ dataOf cs := by rw [dataOf_cons, List.append_assoc]
    obtain ⟨i1, i2, i3, i4, i5⟩ := ih (pre ++ c.getD []) (by rw [← hpre]; omega) (fun s hs => hstr s (List.mem_cons_of_mem _ hs))
    rw [ptrsFrom_cons, offsetsFrom_cons, hpre, hd]
    refine ⟨by rw [List.map_cons, r1, i1], by rw [List.map_cons, List.map_cons, r2, i2],
      by rw [List.map_cons, List.map_cons, r3, i3], ?_, ?_⟩
    · rw [List.map_cons, i4]
      congr 1
      unfold cellOfPtr
      rw [r1, r2, r3]
      cases c <;> simp
    · intro p hp
      rcases List.mem_cons.mp hp with rfl | hp
      · rw [r1, r2]; simp
      · exact i5 p hp

/-! ## `New`, `NewStrings` -/

theorem canon_new_run (np : Nat → Nat → Bool → Option Nat) (hnp : AgreesNP np) (cells : List (Option Bytes)) (h : Within cells) :
    runString np canonNewBytes { cells := cells } canonNew = some { ptrs := ptrsFrom 0 cells, data := dataOf cells } := by
  have hl := new_loop np hnp { cells := cells } cells [] [] (List.replicate cells.length 0) (by simp) (by simpa using h.1) h.2
  simp only [List.length_nil, List.nil_append] at hl
  simp only [runString, canonNew, CN.run, hl, canonNewBytes, NB.run]

/-- on `[]string` data `NewStrings` runs as `New` does, whatever `NewPointer` is -/
theorem canon_newStrings_eq (np : Nat → Nat → Bool → Option Nat) (nb : NB) (strs : List Bytes) :
    runString np nb { cells := strs.map some } canonNewStrings = runString np nb { cells := strs.map some } canonNew := by
  simp only [runString, canonNewStrings, canonNew, CN.run, strings_loop]

/-- **`scolumn.New` of today's source.** For every list of optional strings within the documented limits of the packed
pointer (`Within`: each string shorter than 2^28 bytes, all together shorter than 2^35 bytes) the constructor — run as
regenerated, `NewPointer` included — returns a column with
* the data buffer = the concatenation of the strings in row order (`dataOf`),
* one pointer per row, whose `Offset()` is the number of bytes in front of the row (`offsetsFrom 0`), whose `Len()` is the
  length of the string — 0 for a null row — and whose `IsNull()` is true exactly for the null rows,
* every pointer inside the buffer (`Offset() + Len() ≤ len(data)`: `stringAt` never slices out of range),
* and reading row `i` back through its pointer (`cellOfPtr`: null, or `data[Offset() : Offset()+Len()]`) gives the cell
  that was passed: `readBack c = cells`. -/
theorem gen_scolumn_new_semantics (cells : List (Option Bytes)) (h : Within cells) :
    ∃ c, genScolNew cells = some c ∧ c.data = dataOf cells ∧ c.ptrs.length = cells.length ∧
      c.ptrs.map Small.pOffset = offsetsFrom 0 cells ∧
      c.ptrs.map Small.pLen = cells.map (fun c => (c.getD []).length) ∧
      c.ptrs.map Small.pIsNull = cells.map Option.isNone ∧
      (∀ p ∈ c.ptrs, Small.pOffset p + Small.pLen p ≤ c.data.length) ∧
      readBack c = cells := by
  obtain ⟨c1, c2, _⟩ := gen_ctors_canon
  obtain ⟨f1, f2, f3, g1, g2⟩ := ptrsFrom_spec cells [] (by simpa using h.1) h.2
  refine ⟨{ ptrs := ptrsFrom 0 cells, data := dataOf cells }, ?_, rfl, ptrsFrom_length 0 cells, f1, f2, f3, ?_, ?_⟩
  · unfold genScolNew; rw [c1, c2]; exact canon_new_run genNP genNP_eq cells h
  · simpa using g2
  · simpa [readBack] using g1

/-- **`scolumn.NewStrings` of today's source** builds the column `New` builds from the same strings. -/
theorem gen_scolumn_newStrings_semantics (strs : List Bytes) (h : Within (strs.map some)) :
    genScolNewStrings strs = genScolNew (strs.map some) ∧
    ∃ c, genScolNewStrings strs = some c ∧ readBack c = strs.map some := by
  obtain ⟨_, c2, c3, _⟩ := gen_ctors_canon
  have e : genScolNewStrings strs = genScolNew (strs.map some) := by
    unfold genScolNewStrings genScolNew
    rw [c2, c3, canon_newStrings_eq]
  obtain ⟨c, hc, _, _, _, _, _, _, hr⟩ := gen_scolumn_new_semantics (strs.map some) h
  exact ⟨e, c, e ▸ hc, hr⟩

/-! ## `NewConst` -/

theorem canon_newConst_run (np : Nat → Nat → Bool → Option Nat) (hnp : AgreesNP np) (val : Option Bytes) (count : Nat)
    (h : ∀ s, val = some s → s.length < 2 ^ 28) :
    runString np canonNewBytes { val := val, count := count } canonNewConst =
      some { ptrs := List.replicate count (Small.newPointer 0 (val.getD []).length val.isNone), data := val.getD [] } := by
  cases val with
  | none =>
    have hl := const_loop np { val := none, count := count } (.lit 0) true 0 (Small.newPointer 0 0 true) (some []) none
      (fun _ => rfl) (hnp 0 0 true (by omega) (by omega)) count [] (List.replicate count 0) (by simp)
    simp only [List.length_nil, List.nil_append] at hl
    simp only [runString, canonNewConst, CN.run, List.length_replicate, hl, canonNewBytes, NB.run]
    rfl
  | some s =>
    have hs := h s rfl
    have hl := const_loop np { val := some s, count := count } .lenVal false s.length (Small.newPointer 0 s.length false)
      (some ([] ++ s)) none (fun _ => rfl) (hnp 0 s.length false (by omega) hs) count [] (List.replicate count 0) (by simp)
    simp only [List.length_nil, List.nil_append] at hl
    simp only [runString, canonNewConst, CN.run, List.length_replicate, List.nil_append, hl, canonNewBytes, NB.run]
    rfl

/-- **`scolumn.NewConst(val, n)` of today's source**, for a `val` within the pointer's limit: `n` rows, the buffer holds
the value once (nothing for null), every pointer is inside the buffer, and every row reads back `val`. -/
theorem gen_scolumn_const_semantics (val : Option Bytes) (count : Nat) (h : ∀ s, val = some s → s.length < 2 ^ 28) :
    ∃ c, genScolNewConst val count = some c ∧ c.data = val.getD [] ∧ c.ptrs.length = count ∧
      (∀ p ∈ c.ptrs, Small.pOffset p + Small.pLen p ≤ c.data.length) ∧
      readBack c = List.replicate count val := by
  obtain ⟨c1, _, _, c4, _⟩ := gen_ctors_canon
  have hl : (val.getD []).length < 2 ^ 28 := by
    cases val with
    | none => simp
    | some s => exact h s rfl
  obtain ⟨r1, r2, r3⟩ := Small.pointer_roundtrip 0 (val.getD []).length val.isNone (by omega) hl
  refine ⟨_, by unfold genScolNewConst; rw [c1, c4]; exact canon_newConst_run genNP genNP_eq val count h, rfl, by simp, ?_, ?_⟩
  · intro p hp
    rw [(List.mem_replicate.1 hp).2, r1, r2]; simp
  · simp only [readBack, List.map_replicate, cellOfPtr, r1, r2, r3]
    cases val <;> simp

/-! ## The int / float / bool columns -/

/-- today's `New(d)` / `NewConst(val, count)` of the package with cells of type `ty` -/
def genNumNew {α : Type} (ty : CType) (zero : α) (d : List α) : Option (List α) :=
  match Gen.numCtors.lookup ty with
  | some (n, _) => n.run zero d zero 0 none
  | none => none
def genNumConst {α : Type} (ty : CType) (zero val : α) (count : Nat) : Option (List α) :=
  match Gen.numCtors.lookup ty with
  | some (_, c) => c.run zero [] val count none
  | none => none

/-- **`NewConst(v, n)` of today's icolumn / fcolumn / bcolumn is `n` cells `v`** — every cell is written, whatever the
zero value of the element type is (`zero`: a `-0.0` constant is not left as `+0.0`) —, and `New(d)` is `d`. -/
theorem gen_const_semantics {α : Type} (ty : CType) (hty : ty = .int ∨ ty = .float ∨ ty = .bool) (zero val : α)
    (count : Nat) (d : List α) :
    genNumConst ty zero val count = some (List.replicate count val) ∧ genNumNew ty zero d = some d := by
  have hc : (NC.makeCells (.fillVal .retLocal)).run zero [] val count none = some (List.replicate count val) := by
    simp [NC.run]
  unfold genNumConst genNumNew
  rw [gen_ctors_canon.2.2.2.2]
  rcases hty with rfl | rfl | rfl <;> exact ⟨hc, rfl⟩

/-! ## The constructors as `createColumn` sees them -/

/-- **The regenerated constructors build the spec's cell lists** — what `Ctors.Spec.cells` / `Ctors.Spec.const`
(QF/Core/Construct.lean) assume of `Ctor.cells ty` / `Ctor.const ty`, read back cell by cell: a slice of ints / floats /
bools is the column's cells as they are; a constant is `n` copies; a `[]*string` within the pointer's limits reads back
as the same optional strings, a string constant as `n` copies of it.
EXCLUDED (`_partial`): string data beyond the documented limits of `qfstrings.Pointer` (a string of 2^28 bytes or more,
2^35 bytes or more in one column), where `NewPointer` packs offset and length into overlapping bits
(`C08PointerGen`, the last two witnesses). -/
theorem gen_ctors_meet_spec_partial :
    (∀ l : List Int, (genNumNew .int 0 l).map (·.map Cell.int) = some (l.map Cell.int)) ∧
    (∀ l : List UInt64, (genNumNew .float 0 l).map (·.map Cell.float) = some (l.map Cell.float)) ∧
    (∀ l : List Bool, (genNumNew .bool false l).map (·.map Cell.bool) = some (l.map Cell.bool)) ∧
    (∀ (v : Int) (n : Nat), (genNumConst .int 0 v n).map (·.map Cell.int) = some (List.replicate n (Cell.int v))) ∧
    (∀ (v : UInt64) (n : Nat), (genNumConst .float 0 v n).map (·.map Cell.float) = some (List.replicate n (Cell.float v))) ∧
    (∀ (v : Bool) (n : Nat), (genNumConst .bool false v n).map (·.map Cell.bool) = some (List.replicate n (Cell.bool v))) ∧
    (∀ l : List (Option Bytes), Within l → (genScolNew l).map (fun c => (readBack c).map Cell.str) = some (l.map Cell.str)) ∧
    (∀ (v : Option Bytes) (n : Nat), (∀ s, v = some s → s.length < 2 ^ 28) →
      (genScolNewConst v n).map (fun c => (readBack c).map Cell.str) = some (List.replicate n (Cell.str v))) := by
  refine ⟨?_, ?_, ?_, ?_, ?_, ?_, ?_, ?_⟩
  · intro l; rw [(gen_const_semantics .int (Or.inl rfl) 0 0 0 l).2]; rfl
  · intro l; rw [(gen_const_semantics .float (Or.inr (Or.inl rfl)) 0 0 0 l).2]; rfl
  · intro l; rw [(gen_const_semantics .bool (Or.inr (Or.inr rfl)) false false 0 l).2]; rfl
  · intro v n; rw [(gen_const_semantics .int (Or.inl rfl) 0 v n []).1]; simp
  · intro v n; rw [(gen_const_semantics .float (Or.inr (Or.inl rfl)) 0 v n []).1]; simp
  · intro v n; rw [(gen_const_semantics .bool (Or.inr (Or.inr rfl)) false v n []).1]; simp
  · intro l h
    obtain ⟨c, hc, _, _, _, _, _, _, hr⟩ := gen_scolumn_new_semantics l h
    rw [hc]; simp [hr]
  · intro v n h
    obtain ⟨c, hc, _, _, _, hr⟩ := gen_scolumn_const_semantics v n h
    rw [hc]; simp [hr]

/-! ## Witnesses: plausible mutations are different terms and violate the statements -/

section Witnesses

/-- `NewPointer` of the hand mirror (what `genNP` is within the limits) -/
def npS (o l : Nat) (b : Bool) : Option Nat := some (Small.newPointer o l b)

def readNew (t : CN) (cells : List (Option Bytes)) : Option (List (Option Bytes)) :=
  (runString npS canonNewBytes { cells := cells } t).map readBack

-- today's term on a sample
example : readNew canonNew [some [97, 98], none, some [], some [99]] = some [some [97, 98], none, some [], some [99]] := by decide

/-- `offset += sLen` BEFORE `pointers[i] = NewPointer(offset, sLen, false)`: the offset accumulated before instead of after -/
def newOffsetFirst : CN :=
  .makeData (.makePointers .lenCells (.initOffset 0 (.rangeCells
    (.ifNil (.setPtr .offset (.lit 0) true .done) (.addOffset .lenCur (.setPtr .offset .lenCur false (.appendCur .done)))) .retBytes)))
example : newOffsetFirst ≠ canonNew := by decide
/-- … every row reads the bytes of the rows behind it -/
example : readNew newOffsetFirst [some [97, 98], some [99]] = some [some [99], some []] := by decide

/-- the null flag not set: `NewPointer(offset, 0, false)` for a nil pointer -/
def newNoNullFlag : CN :=
  .makeData (.makePointers .lenCells (.initOffset 0 (.rangeCells
    (.ifNil (.setPtr .offset (.lit 0) false .done) canonStrBody) .retBytes)))
example : newNoNullFlag ≠ canonNew := by decide
/-- … null is read back as the empty string -/
example : readNew newNoNullFlag [none, some [97]] = some [some [], some [97]] := by decide

/-- the data not appended -/
def newNoAppend : CN :=
  .makeData (.makePointers .lenCells (.initOffset 0 (.rangeCells
    (.ifNil (.setPtr .offset (.lit 0) true .done) (.setPtr .offset .lenCur false (.addOffset .lenCur .done))) .retBytes)))
example : newNoAppend ≠ canonNew := by decide
example : readNew newNoAppend [some [97]] = some [some []] := by decide

/-- `NewBytes` with the data dropped: `Column{pointers: pointers}` -/
example : (runString npS (.ret .ptrParam .zero) { cells := [some [97]] } canonNew).map readBack = some [some []] := by decide

/-- a constant column not filled: `data := make([]T, count); return Column{data: data}` -/
def constNoFill : NC := .makeCells .retLocal
example : constNoFill ≠ NC.makeCells (.fillVal .retLocal) := by decide
/-- … `NewConst(7, 2)` is two zeros (and for floats `NewConst(-0.0, n)` would be `+0.0`: the comment in column_gen.go) -/
example : constNoFill.run (0 : Int) [] 7 2 none = some [0, 0] ∧
    (NC.makeCells (.fillVal .retLocal)).run (0 : Int) [] 7 2 none = some [7, 7] := by decide

end Witnesses

end QF.Props.C08CtorsGen

#print axioms QF.Props.C08CtorsGen.gen_ctors_canon
#print axioms QF.Props.C08CtorsGen.gen_ctors_no_opaque
#print axioms QF.Props.C08CtorsGen.gen_scolumn_new_semantics
#print axioms QF.Props.C08CtorsGen.gen_scolumn_newStrings_semantics
#print axioms QF.Props.C08CtorsGen.gen_scolumn_const_semantics
#print axioms QF.Props.C08CtorsGen.gen_const_semantics
#print axioms QF.Props.C08CtorsGen.gen_ctors_meet_spec_partial
