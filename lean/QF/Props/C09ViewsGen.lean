import QF.Props.C09Observe
import QF.Gen.Views
/-!
# C09 — the typed views of today's source hand out the logical cells; `QFrame.Equals` / `QFrame.Len` (tie T1, by semantics)

`QF.Gen.viewCtorAst`, `viewItemAtAst`, `viewLenAst`, `viewSliceAst` (regenerated on every run by
go/cmd/extract/viewast.go) hold, for each of the five column packages, `Column.View`, `View.ItemAt`, `View.Len`,
`View.Slice` as terms of `QF.VwCtor` / `VwItem` / `VwLen` / `VwSlice` (QF/Core/VwExpr.lean); `viewStrPtrAst`,
`viewStrCopyAst`, `viewEnumPtrAst` the helpers `stringToPtr`, `stringCopyAt` of scolumn and `stringPtrAt` of ecolumn. Their
`eval` functions are their Go meaning on a column AS STORED (`VCol`: the cells of all physical rows) and an index. This
file proves, for the terms generated TODAY:

* `gen_views_no_opaque`          — all twenty-three functions were found and translated completely
* `gen_views_canon`              — the terms are the canonical ones (finite check, redone on every run)
* `gen_view_semantics`           — for every column type, every stored column whose cells are of its type and every index
                                   into it: `c.View(ix).ItemAt(i)` is the cell at `ix[i]` (`(c.pick ix)[i]?`: no value — Go
                                   panics — for `i ≥ len(ix)`), `Len()` is `len(ix)`, `Slice()` is all cells the index
                                   selects, in its order; string and enum views hand out `*string`: the cell's string, nil
                                   for null (`Cell.str`) — for enums the string `values[code]`
* `gen_frame_equals_semantics`   — `QFrame.Equals` = the spec's `equalsS` (same length, same names in order, same types,
                                   cell-wise `Column.Equals`) on all pairs of frames whose cells are of their column's type;
                                   a restatement of `C09Observe.gen_equals_eq_spec` as a Boolean (the reason strings are not
                                   modelled)
* `gen_frame_len_semantics`      — `QFrame.Len` is -1 on a frame with an error, else the number of rows
                                   (`C08Guards.gen_len_semantics`)

Trusted (the reading of the leaves in VwExpr.lean): `&s` / `&c.values[v]` point to the string; a `View` literal with the
fields `data` / `column` and `index` holds what it is given.
-/
namespace QF.Props.C09ViewsGen
open QF
open QF.Props.C03Compare (pkgOf tys)
open QF.Props.C09Observe (enum_some canonHelper)

/-! ## Today's views -/

/-- the formatters play no role in the helpers -/
def noFmt : Fmt := ⟨fun _ => [], fun _ => [], fun b => b⟩

/-- a pair helper (`stringAt`, `stringCopyAt`) on a cell of a string column -/
def pairOf (e : RE) (x : Cell) : Option (Bytes × Bool) :=
  match e.eval noFmt .string [] [] [] x with
  | some (.pair b n) => some (b, n)
  | _ => none

/-- what the views call, for given translations of the helpers -/
def envIn (strAt : Option RE) (copy : RE) (toPtr enumPtr : VwPtr) : VwEnv where
  pair := fun cp x => if cp then pairOf copy x else strAt.bind (fun e => pairOf e x)
  toPtr := fun s n => toPtr.eval (some s) (some n) .string [] none
  enumPtr := fun vals x => enumPtr.eval none none .enum vals (some x)

/-- … for today's source (`stringAt` is the helper of C09Observe) -/
def genVwEnv : VwEnv :=
  envIn (Gen.observeHelpers.lookup "scolumn.stringAt") Gen.viewStrCopyAst Gen.viewStrPtrAst Gen.viewEnumPtrAst

/-- the three functions of a package -/
structure Fns where
  ctor : VwCtor
  item : VwItem
  len : VwLen
  slice : VwSlice
  deriving DecidableEq

def fnsIn (cs : List (String × VwCtor)) (is : List (String × VwItem)) (ls : List (String × VwLen))
    (ss : List (String × VwSlice)) (pkg : String) : Option Fns :=
  match cs.lookup pkg, is.lookup pkg, ls.lookup pkg, ss.lookup pkg with
  | some c, some i, some l, some s => some ⟨c, i, l, s⟩
  | _, _, _, _ => none

def genFns (pkg : String) : Option Fns := fnsIn Gen.viewCtorAst Gen.viewItemAtAst Gen.viewLenAst Gen.viewSliceAst pkg

def itemAtIn (E : VwEnv) (F : Option Fns) (c : VCol) (ix : List Nat) (i : Nat) : Option Cell :=
  F.bind (fun F => (F.ctor.eval c ix).bind (fun V => VwItem.eval E F.item V { param := some i } F.item))

def lenIn (F : Option Fns) (c : VCol) (ix : List Nat) : Option Nat :=
  F.bind (fun F => (F.ctor.eval c ix).bind (fun V => F.len.eval V))

def sliceIn (E : VwEnv) (F : Option Fns) (c : VCol) (ix : List Nat) : Option (List Cell) :=
  F.bind (fun F => (F.ctor.eval c ix).bind (fun V => F.slice.eval E F.item F.len V))

/-- `c.View(ix).ItemAt(i)` of today's source (the package of the column's type) -/
def genItemAt (c : VCol) (ix : List Nat) (i : Nat) : Option Cell := itemAtIn genVwEnv (genFns (pkgOf c.ty)) c ix i

/-- `c.View(ix).Len()` -/
def genLen (c : VCol) (ix : List Nat) : Option Nat := lenIn (genFns (pkgOf c.ty)) c ix

/-- `c.View(ix).Slice()` -/
def genSlice (c : VCol) (ix : List Nat) : Option (List Cell) := sliceIn genVwEnv (genFns (pkgOf c.ty)) c ix

/-! ## Canonical terms -/

def canonCtor : CType → VwCtor
  | .int | .float | .bool => .ofData
  | .string | .enum => .ofColumn
  | .undef => .opaque ""

/-- the item at the row `r`: the stored cell; for string and enum columns through the pointer helpers -/
def cellItem (ty : CType) (copy : Bool) (r : VwRow) : VwItem :=
  match ty with
  | .int | .float | .bool => .dataAt r
  | .string => .strPtr copy r
  | .enum => .enumPtr r
  | .undef => .opaque ""

def canonItemAt (ty : CType) : VwItem := cellItem ty false (.indexAt .param)

def canonSlice : CType → VwSlice
  | .enum => .fill .callLen (.itemAt .loopPos)
  | ty => .fill .callLen (cellItem ty true .loopRow)

def canonFns (ty : CType) : Fns := ⟨canonCtor ty, canonItemAt ty, .lenIndex, canonSlice ty⟩

/-- `if isNull { return nil }; return &s` -/
def canonStrPtr : VwPtr := .ite .flagParam .nilPtr .addrStr

/-- `if c.data[i].isNull() { return nil }; return &c.values[c.data[i]]` -/
def canonEnumPtr : VwPtr := .ite .cellIsNull .nilPtr .addrEnumValue

def canonEnv : VwEnv := envIn (some canonHelper) canonHelper canonStrPtr canonEnumPtr

/-! ## Today's terms are the canonical ones (finite checks over `QF.Gen`, redone on every run) -/

theorem gen_views_no_opaque :
    Gen.viewCtorAst.map (·.1) = tys.map pkgOf ∧ Gen.viewItemAtAst.map (·.1) = tys.map pkgOf ∧
    Gen.viewLenAst.map (·.1) = tys.map pkgOf ∧ Gen.viewSliceAst.map (·.1) = tys.map pkgOf ∧
    (∀ p ∈ Gen.viewCtorAst, p.2.hasOpaque = false) ∧ (∀ p ∈ Gen.viewItemAtAst, p.2.hasOpaque = false) ∧
    (∀ p ∈ Gen.viewLenAst, p.2.hasOpaque = false) ∧ (∀ p ∈ Gen.viewSliceAst, p.2.hasOpaque = false) ∧
    Gen.viewStrPtrAst.hasOpaque = false ∧ Gen.viewStrCopyAst.hasOpaque = false ∧ Gen.viewEnumPtrAst.hasOpaque = false := by
  decide +kernel

theorem gen_views_canon :
    (∀ ty ∈ tys, Gen.viewCtorAst.lookup (pkgOf ty) = some (canonCtor ty)) ∧
    (∀ ty ∈ tys, Gen.viewItemAtAst.lookup (pkgOf ty) = some (canonItemAt ty)) ∧
    (∀ ty ∈ tys, Gen.viewLenAst.lookup (pkgOf ty) = some .lenIndex) ∧
    (∀ ty ∈ tys, Gen.viewSliceAst.lookup (pkgOf ty) = some (canonSlice ty)) ∧
    Gen.viewStrPtrAst = canonStrPtr ∧ Gen.viewStrCopyAst = canonHelper ∧ Gen.viewEnumPtrAst = canonEnumPtr ∧
    Gen.observeHelpers.lookup "scolumn.stringAt" = some canonHelper := by
  decide +kernel

/-- "today's terms are the canonical ones", package by package -/
def GenCanon : Prop :=
  (∀ ty ∈ tys, genFns (pkgOf ty) = some (canonFns ty)) ∧
  Gen.viewStrPtrAst = canonStrPtr ∧ Gen.viewStrCopyAst = canonHelper ∧ Gen.viewEnumPtrAst = canonEnumPtr ∧
  Gen.observeHelpers.lookup "scolumn.stringAt" = some canonHelper

theorem gen_canon : GenCanon := by
  obtain ⟨h1, h2, h3, h4, h⟩ := gen_views_canon
  refine ⟨fun ty hty => ?_, h⟩
  rw [genFns, fnsIn, h1 ty hty, h2 ty hty, h3 ty hty, h4 ty hty]
  rfl

theorem genVwEnv_canon (h : GenCanon) : genVwEnv = canonEnv := by
  unfold genVwEnv canonEnv
  rw [h.2.1, h.2.2.1, h.2.2.2.1, h.2.2.2.2]

/-! ## The meaning of the canonical helpers -/

theorem canon_pair (cp : Bool) (s : Option Bytes) : canonEnv.pair cp (.str s) = some (s.getD [], s.isNone) := by
  cases cp <;> cases s <;> rfl

theorem canon_toPtr (s : Bytes) (n : Bool) : canonEnv.toPtr s n = some (if n then none else some s) := by
  cases n <;> rfl

theorem canon_enumPtr (vals : List Bytes) (s : Option Bytes) (h : wtCell .enum vals (.str s) = true) :
    canonEnv.enumPtr vals (.str s) = some s := by
  rcases s with _ | u
  · rfl
  · obtain ⟨h1, h2, _⟩ := enum_some h
    simp [canonEnv, envIn, canonEnumPtr, VwPtr.eval, VwCond.eval, h1, h2]

/-! ## Items -/

/-- what `c.View(ix)` holds: the cell slice of a column of one of the three value types, the column itself for strings and
enums -/
def viewOf (c : VCol) (ix : List Nat) : VView :=
  match c.ty with
  | .int | .float | .bool => { data := some c.data, index := ix }
  | _ => { col := some c, index := ix }

theorem viewOf_index (c : VCol) (ix : List Nat) : (viewOf c ix).index = ix := by
  unfold viewOf
  split <;> rfl

theorem canonCtor_eval (c : VCol) (ix : List Nat) (h : c.ty ∈ tys) : (canonCtor c.ty).eval c ix = some (viewOf c ix) := by
  cases hc : c.ty <;> simp [canonCtor, VwCtor.eval, viewOf, hc]
  simp [hc, tys] at h

/-- the cells of the stored column are of its type, and the index stays inside it -/
structure ColOK (c : VCol) (ix : List Nat) : Prop where
  ty : c.ty ∈ tys
  cells : ∀ j, j < c.data.size → wtCell c.ty c.vals c.data[j]! = true
  index : ∀ j ∈ ix, j < c.data.size

/-- **The item at a row expression is the stored cell of that row** (no value where the row expression has none or the row
is outside the column): for the three value types the element of the cell slice, for strings the pointer `stringToPtr`
makes of what `stringAt` / `stringCopyAt` return, for enums what `stringPtrAt` returns. -/
theorem cellItem_row (c : VCol) (ix : List Nat) (h : ColOK c ix) (cp : Bool) (r : VwRow) (ctx : VwCtx) :
    (cellItem c.ty cp r).eval1 canonEnv (viewOf c ix) ctx = (r.eval (viewOf c ix) ctx).bind (c.data[·]?) := by
  have hw : ∀ (j : Nat) x, c.data[j]? = some x → wtCell c.ty c.vals x = true := by
    intro j x hx
    obtain ⟨hj, rfl⟩ := Array.getElem?_eq_some_iff.1 hx
    simpa [hj] using h.cells j hj
  unfold viewOf
  generalize c.ty = ty at hw
  cases ty <;> simp only [cellItem, VwItem.eval1] <;> cases r.eval _ ctx <;> try rfl
  -- left: a column that is not of a value type, and a row `j`
  all_goals
    rename_i j
    dsimp only [Option.bind_some]
    cases hx : c.data[j]? <;> try rfl
    rename_i x
    have sx := wtCell_shape (hw j x hx)
  · obtain ⟨s, rfl⟩ := sx
    simp only [canon_pair, canon_toPtr]
    cases s <;> rfl
  · obtain ⟨s, rfl⟩ := sx
    simp only [canon_enumPtr c.vals s (hw j _ hx), Option.map_some]
  · exact sx.elim

/-- the items of the canonical terms do not call `ItemAt` -/
theorem cellItem_eval (E : VwEnv) (self : VwItem) (V : VView) (ctx : VwCtx) (ty : CType) (cp : Bool) (r : VwRow) :
    VwItem.eval E self V ctx (cellItem ty cp r) = (cellItem ty cp r).eval1 E V ctx := by
  cases ty <;> rfl

/-! ## `ItemAt`, `Len`, `Slice` of the canonical terms -/

theorem pick_get (c : VCol) (ix : List Nat) (i : Nat) : (c.pick ix)[i]? = (ix[i]?).map (fun j => c.data[j]!) := by
  simp [VCol.pick]

theorem canon_itemAt (c : VCol) (ix : List Nat) (h : ColOK c ix) (i : Nat) :
    itemAtIn canonEnv (some (canonFns c.ty)) c ix i = (c.pick ix)[i]? := by
  simp only [itemAtIn, canonFns, Option.bind_some, canonCtor_eval c ix h.ty, canonItemAt, cellItem_eval, cellItem_row c ix h,
    VwRow.eval, VwPos.eval, viewOf_index, pick_get]
  cases hi : ix[i]? with
  | none => rfl
  | some j => simp [h.index j (List.mem_of_getElem? hi)]

theorem canon_len (c : VCol) (ix : List Nat) (h : ColOK c ix) : lenIn (some (canonFns c.ty)) c ix = some ix.length := by
  simp [lenIn, canonFns, canonCtor_eval c ix h.ty, VwLen.eval, viewOf_index]

theorem optMap_withPos {α β : Type} (f : Nat × α → Option β) (g : α → β) (full : List α)
    (hf : ∀ i a, full[i]? = some a → f (i, a) = some (g a)) :
    ∀ (l pre : List α), full = pre ++ l → optMap f (withPos pre.length l) = some (l.map g) := by
  intro l
  induction l with
  | nil => intro pre _; rfl
  | cons a as ih =>
    intro pre hsplit
    have h1 : f (pre.length, a) = some (g a) := hf _ _ (by rw [hsplit]; simp)
    have h2 := ih (pre ++ [a]) (by simp [hsplit])
    simp only [List.length_append, List.length_cons, List.length_nil, Nat.zero_add] at h2
    simp [withPos, optMap, h1, h2]

theorem canon_slice (c : VCol) (ix : List Nat) (h : ColOK c ix) :
    sliceIn canonEnv (some (canonFns c.ty)) c ix = some (c.pick ix) := by
  -- one round of the loop: position `i`, row `j = ix[i]`
  have hround : ∀ (item : VwItem), (∀ i j, ix[i]? = some j →
        VwItem.eval canonEnv (canonItemAt c.ty) (viewOf c ix) { loop := some (i, j) } item = some c.data[j]!) →
      (VwSlice.fill .callLen item).eval canonEnv (canonItemAt c.ty) .lenIndex (viewOf c ix) = some (c.pick ix) := by
    intro item hitem
    have := optMap_withPos (fun p => VwItem.eval canonEnv (canonItemAt c.ty) (viewOf c ix) { loop := some p } item)
      (fun j => c.data[j]!) ix (fun i j hij => hitem i j hij) ix [] rfl
    simp only [List.length_nil] at this
    simp [VwSlice.eval, VwLenE.eval, VwLen.eval, viewOf_index, this, VCol.pick]
  simp only [sliceIn, canonFns, Option.bind_some, canonCtor_eval c ix h.ty]
  have hs : canonSlice c.ty = .fill .callLen (if c.ty = .enum then .itemAt .loopPos else cellItem c.ty true .loopRow) := by
    cases c.ty <;> rfl
  rw [hs]
  apply hround
  intro i j hij
  have hj := h.index j (List.mem_of_getElem? hij)
  split
  · -- `result[i] = v.ItemAt(i)`
    simp [VwItem.eval, VwPos.eval, canonItemAt, cellItem_row c ix h, VwRow.eval, viewOf_index, hij, hj]
  · simp [cellItem_eval, cellItem_row c ix h, VwRow.eval, hj]

/-! ## Today's views -/

/-- **The views of today's source hand out the logical cells.** For every column type, every stored column whose cells are
of its type and every index into it:

* `c.View(ix).ItemAt(i)` is the stored cell at `ix[i]` — `(c.pick ix)[i]?`, which has no value (Go panics) for `i ≥ len(ix)`;
* `c.View(ix).Len()` is `len(ix)`;
* `c.View(ix).Slice()` is the list of the stored cells at `ix[0], ix[1], …`.

The items of a string / enum view are `*string` (`Cell.str`): the cell's string, nil for a null cell; for an enum cell the
string is `values[code]` of the column's own value table. -/
theorem gen_view_semantics (c : VCol) (ix : List Nat) (h : ColOK c ix) :
    (∀ i, genItemAt c ix i = (c.pick ix)[i]?) ∧ genLen c ix = some ix.length ∧ genSlice c ix = some (c.pick ix) := by
  have canon := gen_canon
  have hf := canon.1 c.ty h.ty
  refine ⟨fun i => ?_, ?_, ?_⟩
  · rw [genItemAt, hf, genVwEnv_canon canon]; exact canon_itemAt c ix h i
  · rw [genLen, hf]; exact canon_len c ix h
  · rw [genSlice, hf, genVwEnv_canon canon]; exact canon_slice c ix h

/-- all observations of a view agree: `Slice()` is `ItemAt(0), …, ItemAt(Len()-1)` -/
theorem gen_view_observations_agree (c : VCol) (ix : List Nat) (h : ColOK c ix) :
    ∃ n s, genLen c ix = some n ∧ genSlice c ix = some s ∧ s.length = n ∧ ∀ i, genItemAt c ix i = s[i]? := by
  obtain ⟨h1, h2, h3⟩ := gen_view_semantics c ix h
  exact ⟨ix.length, c.pick ix, h2, h3, by simp [VCol.pick], h1⟩

/-! ## `QFrame.Equals` and `QFrame.Len` -/

open QF.Props.C10Guards (genGuards2 equalsReq) in
/-- what `a.Equals(b)` of today's source answers (its first result): the regenerated shape checks of `QFrame.Equals`
(`Gen.guardAst2`) with the regenerated `Column.Equals` of each column's package (`C09Observe.genDiffers`) -/
def genFrameEquals (a b : LFrame) : Option Bool :=
  match genGuards2 "Equals" (equalsReq a b (C09Observe.genDiffers a b)) with
  | some .retTrue => some true
  | some .retFalse => some false
  | _ => none

/-- **`QFrame.Equals` of today's source is the spec's `equalsS`**: same number of rows, same column names in order, same
column types, and cell-wise `Column.Equals` (NaN = NaN, null = null, −0.0 = +0.0, enums by string) — on ALL pairs of frames
whose cells are of their column's type. (The reason string is not modelled.) -/
theorem gen_frame_equals_semantics (a b : LFrame) (ha : C09Observe.FrameTyped a) (hb : C09Observe.FrameTyped b) :
    genFrameEquals a b = some (equalsS a b) := by
  rw [genFrameEquals, C09Observe.gen_equals_eq_spec a b ha hb]
  cases equalsS a b <;> rfl

/-- **`QFrame.Len` of today's source**: -1 for a frame that carries an error, else `len(index)`. -/
theorem gen_frame_len_semantics (P : VFrame) (hasErr : Bool) :
    C08Guards.genLen { hasErr := hasErr, rows := P.index.length } =
      some (if hasErr then -1 else (P.logical.n : Int)) :=
  C08Guards.gen_len_semantics _

/-! ## Witnesses: the statements tell wrong views apart -/

def wCol : VCol := { name := [97], ty := .int, data := #[.int 10, .int 11, .int 12] }

/-- today's int view on the index [2, 0]: ItemAt(0) is the cell of physical row 2 -/
example : itemAtIn canonEnv (some (canonFns .int)) wCol [2, 0] 0 = some (.int 12) ∧
    sliceIn canonEnv (some (canonFns .int)) wCol [2, 0] = some [.int 12, .int 10] := by
  constructor <;> decide +kernel

/-- a view indexing `data[i]` instead of `data[index[i]]` … -/
def rawItemAt : Fns := ⟨.ofData, .dataAt (.posAsRow .param), .lenIndex, canonSlice .int⟩

/-- … hands out physical row 0 where the logical cell 0 is physical row 2 -/
example : itemAtIn canonEnv (some rawItemAt) wCol [2, 0] 0 = some (.int 10) ∧ (wCol.pick [2, 0])[0]? = some (.int 12) := by
  constructor <;> decide +kernel

/-- `Slice` copying `data[i]` for the positions of the index -/
def rawSlice : Fns := ⟨.ofData, canonItemAt .int, .lenIndex, .fill .callLen (.dataAt (.posAsRow .loopPos))⟩

example : sliceIn canonEnv (some rawSlice) wCol [2, 0] = some [.int 10, .int 11] ∧ wCol.pick [2, 0] = [.int 12, .int 10] := by
  constructor <;> decide +kernel

/-- an enum view that hands out `&values[code]` without the null test has no value (Go panics) on a null cell; today's
view hands out nil -/
def wEnum : VCol := { name := [101], ty := .enum, vals := [[120], [121]], data := #[.str none, .str (some [121])] }

example : (envIn (some canonHelper) canonHelper canonStrPtr .addrEnumValue).enumPtr wEnum.vals (.str none) = none ∧
    itemAtIn canonEnv (some (canonFns .enum)) wEnum [1, 0] 1 = some (.str none) ∧
    itemAtIn canonEnv (some (canonFns .enum)) wEnum [1, 0] 0 = some (.str (some [121])) := by
  refine ⟨?_, ?_, ?_⟩ <;> decide +kernel

/-- a string view that ignores the null flag hands out a pointer to "" for a null cell: null and "" become the same -/
example : (envIn (some canonHelper) canonHelper .addrStr canonEnumPtr).toPtr [] true = some (some []) ∧
    canonEnv.toPtr [] true = some none := by
  constructor <;> decide +kernel

#print axioms gen_views_no_opaque
#print axioms gen_views_canon
#print axioms gen_view_semantics
#print axioms gen_view_observations_agree
#print axioms gen_frame_equals_semantics
#print axioms gen_frame_len_semantics

end QF.Props.C09ViewsGen
