import QF.Props.Tie
import QF.Core.Filter
/-!
# C02 — Filter keeps exactly the satisfying rows, in order

Mirror model `F.Clause.filter` (shared boolean mask, guarded kernels, inverse shortcut
with fallback, sequential And, Or with batches of pending leaves merged by `orFrames`
against the parent index, Not by leaf flip or complement merge, Null). Spec: `F.Clause.sem`
row-wise.

`filter_refines`: for every clause tree whose kernels are `sound` (guarded shape; where
the inverse shortcut is taken the inverse kernel is the pointwise negation) and which is
well typed, and for every frame with a duplicate-free index and no error, the result has
no error and its index is exactly `index.filter sem` — the satisfying rows, once each, in
their original relative order.
-/
namespace QF.Props.C02

theorem filter_refines (c : F.Clause) (hs : c.sound) (hw : c.wellTyped = true) : F.Ref c :=
  F.filter_refines c hs hw

/-- What `Ref` says, spelled out. -/
theorem filter_refines_unfolded (c : F.Clause) (hs : c.sound) (hw : c.wellTyped = true)
    (f : F.Frame) (hnd : f.index.Nodup) (he : f.err = false) :
    (c.filter f).err = false ∧ (c.filter f).index = f.index.filter c.sem :=
  F.filter_refines c hs hw f hnd he

/-- No function of this property is compared as source text: the list is empty (the functions are regenerated as terms, see below). -/
-- (`filterBuiltIn`, the kernels and the bitset builders are regenerated as terms and proved: C02Kernels, C02Dispatch)
-- Tie audit (bin/selftest-ties): the following functions are regenerated as terms; every behaviour-changing edit of
-- them makes a `gen_*_canon` theorem of this property's modules fail, renaming their locals or reformatting them changes nothing:
-- `QFrame.filter`, `orFrames`, `OrClause.filter`, `AndClause.filter`, `NotClause.filter`, `index.Int.Filter`: regenerated statement by statement as `Gen.clauseFns`
-- (clast.go), `C02ClausesGen.gen_clauses_canon` (C02ClausesCanon.lean) + `C02ClausesGen.gen_clause_filter_semantics`.
theorem tie : Tie.sameAll [] = true := by decide

/-! ### Facts about today's source (regenerated into `QF.Gen` on every run) -/

/-- Pairs of comparators that are complements of each other on every cell, null/NaN included. -/
def complementPairs : List (String × String) :=
  [("=", "!="), ("in", "not in"), ("not in", "in"), ("isnull", "isnotnull"), ("isnotnull", "isnull")]

/-- Every entry of `filter.Inverse` is a complement pair, which is what the inverse shortcut of `QFrame.filter` needs.
A check of the table on its own: the hypothesis `sound` of `filter_refines` is discharged for today's tables by
`C02Mirror.shapesOK_today`. With `>`↦`<=` in the table this fails. -/
theorem gen_inverse_complement : ∀ p ∈ Gen.inverse, p ∈ complementPairs := by decide

/-- A kernel accumulates into the shared mask if it only touches entries that are still false (`if !x`), delegates to
such a kernel, does nothing, or only ever sets entries to true. -/
def accumulating (k : String × String × String × String) : Bool :=
  k.2.2.1 == "guarded" || k.2.2.1 == "guarded+pre" || k.2.2.1 == "delegates" || k.2.2.1 == "noop" ||
  (k.2.2.1 == "unguarded" && k.2.2.2 == "true")

/-- Every filter kernel of the five column packages accumulates: none clears a mask entry that an earlier leaf of the
same OR group has set. Weaker than `F.Leaf.sound`, which asks for the guarded shape (`C02Mirror.checkShapes` treats the
one `unguarded`/`true` kernel, int `isnotnull`, apart). A kernel that overwrites the mask with false, like int `isnull`
before /repo f88559f, is a counterexample. -/
theorem gen_kernels_accumulate : Gen.kernels.all accumulating = true := by decide

/-- The comparator tables are the ones the spec's `leafPred` was written against (the kernels' semantics: `C02Kernels`). -/
theorem gen_kernels_same : Tie.kernelsSame = true := by decide

end QF.Props.C02
