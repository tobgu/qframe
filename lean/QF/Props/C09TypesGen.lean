import QF.Gen.SqlWrite
import QF.Gen.Writers
import QF.Props.C03Compare
/-!
# C09 — `QFrame.ColumnTypes()` regenerated (tie T1)

`QF.Gen.columnTypesAst` (QF/Gen/SqlWrite.lean, rewritten on every run by go/cmd/extract/sqlwast.go from /repo/qframe.go) is
`func (qf QFrame) ColumnTypes() []types.DataType` statement by statement as a term of `QF.SqCT` (QF/Core/SqExpr.lean):
`types := make([]types.DataType, len(qf.columns))`, the loop over `qf.columns`, `types[i] = col.DataType()`, `return types`.

* `gen_columntypes_no_opaque` / `gen_columntypes_canon` — nothing untranslated; today's term is the canonical one (`decide`);
* `gen_columntypes_semantics` — for EVERY frame (any number of columns), whatever its columns answer to `DataType()`
  (`ts`), `ColumnTypes()` returns exactly these answers, one per column, in column order; if some column's `DataType()` has no
  meaning, neither has the call (the last example);
* `gen_columntypes_today` — with `DataType()` of today's column packages (`Gen.dataTypeNames`, C09StringGen) the result for columns
  of the types `tys` is the list of the type names `typeName`.
* witnesses: writing the type at a constant position, forgetting the write, returning before the loop are different terms and
  give other results.
-/
namespace QF.Props.C09TypesGen
open QF
open QF.Props.C03Compare (pkgOf tys)

def canonSetType : SqCT := .setType .done
def canonColumnTypes : SqCT := .alloc (.forCols canonSetType .ret)

theorem gen_columntypes_no_opaque : Gen.columnTypesAst.hasOpaque = false := by decide +kernel
theorem gen_columntypes_canon : Gen.columnTypesAst = canonColumnTypes := by decide +kernel

/-- the canonical `ColumnTypes`: the answers in order -/
theorem canon_columntypes (ts : List Bytes) : canonColumnTypes.result (ts.map some) = some ts := by
  have := loopIdx_fill (fun i n σ => canonSetType.run (ts.map some) (some (i, n)) σ) (fun σ => σ.ret)
    (fun _ l => ({ res := some l, ret := false } : SqCTSt)) some id (fun _ _ => rfl) ts
    (fun _ _ _ _ A d R _ => by simp [canonSetType, SqCT.run]) ts [] (List.replicate ts.length []) rfl (by simp)
  simp only [List.map_id, List.map_nil, List.nil_append, List.length_nil] at this
  simp [SqCT.result, canonColumnTypes, SqCT.run, this]

/-- `qf.ColumnTypes()` of today's source on a frame whose columns answer `dts` to `DataType()` -/
def genColumnTypes (dts : List (Option Bytes)) : Option (List Bytes) := Gen.columnTypesAst.result dts

/-- **`ColumnTypes()` of today's source is the list of the columns' `DataType()` in column order**, for every frame. -/
theorem gen_columntypes_semantics (ts : List Bytes) : genColumnTypes (ts.map some) = some ts := by
  rw [genColumnTypes, gen_columntypes_canon]
  exact canon_columntypes ts

/-- per column type, what `DataType()` of today's column package returns -/
def typeName : CType → Bytes
  | .int => [105, 110, 116]
  | .float => [102, 108, 111, 97, 116]
  | .bool => [98, 111, 111, 108]
  | .string => [115, 116, 114, 105, 110, 103]
  | .enum => [101, 110, 117, 109]
  | .undef => []

theorem gen_typenames : ∀ ty ∈ tys, Gen.dataTypeNames.lookup (pkgOf ty) = some (typeName ty) := by decide +kernel

/-- **`ColumnTypes()` with today's `DataType()` methods**: for columns of the types `ctys` (each one of the five column types), the
names of these types in order -/
theorem gen_columntypes_today (ctys : List CType) (h : ∀ ty ∈ ctys, ty ∈ tys) :
    genColumnTypes (ctys.map (fun ty => Gen.dataTypeNames.lookup (pkgOf ty))) = some (ctys.map typeName) := by
  have : ctys.map (fun ty => Gen.dataTypeNames.lookup (pkgOf ty)) = (ctys.map typeName).map some := by
    rw [List.map_map]
    apply List.map_congr_left
    intro ty hty
    exact gen_typenames ty (h ty hty)
  rw [this, gen_columntypes_semantics]

/-! ## Example and witnesses -/

/-- the hypotheses are met: an int, a string and an enum column -/
example : genColumnTypes ([CType.int, .string, .enum].map (fun ty => Gen.dataTypeNames.lookup (pkgOf ty))) =
    some [[105, 110, 116], [115, 116, 114, 105, 110, 103], [101, 110, 117, 109]] := by decide +kernel
example : ∀ ty ∈ [CType.int, .string, .enum], ty ∈ tys := by decide

/-- a loop that forgets the write returns empty strings; a return before the loop too -/
example : (SqCT.alloc (.forCols .done .ret)).result [some [105], some [102]] = some [[], []] := by decide +kernel
example : (SqCT.alloc .ret).result [some [105], some [102]] = some [[], []] := by decide +kernel
example : SqCT.alloc (.forCols .done .ret) ≠ canonColumnTypes ∧ SqCT.alloc .ret ≠ canonColumnTypes := by decide
/-- a column whose `DataType()` has no meaning: no result -/
example : canonColumnTypes.result [some [105], none] = none := by decide +kernel

end QF.Props.C09TypesGen

#print axioms QF.Props.C09TypesGen.gen_columntypes_no_opaque
#print axioms QF.Props.C09TypesGen.gen_columntypes_canon
#print axioms QF.Props.C09TypesGen.gen_columntypes_semantics
#print axioms QF.Props.C09TypesGen.gen_columntypes_today
