import QF.Props.C12CsvFns
/-!
# C12 / C15 — `nextQuotedField` of the canonical CSV-reader terms = the mirror's `Csv.nextQuoted`

The Go function has two nested loops (the look-ahead `for buffer.cursor+1 >= len(buffer.data) { more() }` inside the
scanning loop), the mirror `Csv.quotedLoop` has ONE loop whose rounds are either a `more` or a byte. `quoted_loop` relates
them by `Refines`: whenever the mirror does not give up (`panic "fuel"`), the nested loops — each with the budget of the whole
mirror loop — return what the mirror returns. (Where the mirror gives up the nested loops may still go on: they have more
budget. Nothing is claimed there.)
-/
namespace QF.Props.C12CsvGen
open QF QF.CR Csv
set_option linter.unusedSimpArgs false

/-- a result of `quotedLoop` as the result of a loop or body: the field as a slice of the buffer, the flag, the error -/
def retQ (h : Reader) (start : Nat) : Csv.Out (List Byte × Bool × Option RErr × Buf) → CR.Out
  | .ok (f, eol, err, b) => .ret (withBuf h b) [.view start f.length (b.data.size - start), .bool eol, .err err]
  | .panic w => .panic (cls w)

/-- the variables of `nextQuotedField` hold the parameters of the mirror's loop -/
structure QS (σ : Store) (delim : Byte) (start w q : Nat) : Prop where
  d : σ 0 = some (.byte delim)
  s : σ 1 = some (.int start)
  w : σ 2 = some (.int w)
  q : σ 3 = some (.int q)

/-- `start ≤ writeCursor ≤ cursor ≤ len(data) ≤ cap(data)` -/
def QI (b : Buf) (start w : Nat) : Prop := start ≤ w ∧ w ≤ b.cursor ∧ b.cursor ≤ b.len ∧ b.len ≤ b.data.size

/-- the following rounds of the scanning loop return what the mirror returns with budget `k` -/
def Resume (fuel n k j : Nat) (delim : Byte) (start : Nat) : Prop :=
  ∀ (h : Reader) (σ : Store) (w q : Nat), QS σ delim start w q → QI h.fs.buf start w →
    Refines (retQ h start) (quotedLoop k h.fs.buf delim start w q) (iter (stepOf (env fuel (n+2)) qBody) j h σ)

theorem QS.set {σ : Store} {delim : Byte} {start w q : Nat} (hs : QS σ delim start w q) (v : Nat) (x : Val) (hv : 4 ≤ v) :
    QS (σ.set v x) delim start w q :=
  have ne (i : Nat) (hi : i < 4) : i ≠ v := Nat.ne_of_lt (Nat.lt_of_lt_of_le hi hv)
  ⟨(Store.set_ne σ v 0 x (ne 0 (by decide))).trans hs.d, (Store.set_ne σ v 1 x (ne 1 (by decide))).trans hs.s,
   (Store.set_ne σ v 2 x (ne 2 (by decide))).trans hs.w, (Store.set_ne σ v 3 x (ne 3 (by decide))).trans hs.q⟩

theorem QS.set_q {σ : Store} {delim : Byte} {start w q : Nat} (hs : QS σ delim start w q) (q' : Nat) :
    QS (σ.set 3 (.int q')) delim start w q' := ⟨hs.d, hs.s, hs.w, rfl⟩

theorem QS.set_w {σ : Store} {delim : Byte} {start w q : Nat} (hs : QS σ delim start w q) (w' : Nat) :
    QS (σ.set 2 (.int w')) delim start w' q := ⟨hs.d, hs.s, rfl, hs.q⟩

theorem withBuf_withBuf (h : Reader) (a b : Buf) : withBuf (withBuf h a) b = withBuf h b := rfl
theorem withBuf_buf (h : Reader) (a : Buf) : (withBuf h a).fs.buf = a := rfl
theorem retQ_withBuf (h : Reader) (a : Buf) (start : Nat) : retQ (withBuf h a) start = retQ h start := by
  funext o
  cases o <;> rfl

theorem readView_one (a : Array Byte) (c : Nat) (h : c < a.size) : readView a c 1 = [a[c]!] := by
  rw [readView, List.take_succ_eq_append_getElem (by simpa using h), List.drop_append_of_le_length (by simp; omega),
    List.drop_of_length_le (by simp; omega), getElem!_pos a c h]
  rfl

theorem q_keep (fuel n k j : Nat) (delim : Byte) (start : Nat) (res : Resume fuel n k j delim start)
    (h : Reader) (σ : Store) (w q : Nat) (hs : QS σ delim start w q)
    (hw : start ≤ w) (h1 : w + 1 ≤ h.fs.buf.cursor) (hc : h.fs.buf.cursor ≤ h.fs.buf.len) (hl : h.fs.buf.len ≤ h.fs.buf.data.size) :
    Refines (retQ h start) (C15Faults.qKeep k delim start w h.fs.buf)
      (contK (stepOf (env fuel (n+2)) qBody) j ((S.block qKeep).exec (env fuel (n+2)) h σ)) := by
  have hs' := (hs.set_q 0).set_w (w + 1)
  unfold C15Faults.qKeep
  unfold qKeep
  exec_simp [hs.w]
  simp only [bne_iff_ne, ne_eq]
  by_cases hne : w + 1 = h.fs.buf.cursor
  · rw [if_neg (not_not_intro hne), decide_eq_true hne]
    exact res h _ (w + 1) 0 hs' ⟨Nat.le_succ_of_le hw, h1, hc, hl⟩
  · rw [if_pos hne, decide_eq_false hne]
    have hb1 : w + 1 + 1 ≤ h.fs.buf.data.size := by omega
    by_cases hb : h.fs.buf.cursor + 1 ≤ h.fs.buf.data.size
    · rw [if_pos (show _ ∧ _ from ⟨hb, hb1⟩)]
      simp only [hb, hb1, ↓reduceIte, Out.ofRes_ok, Bool.not_false, Nat.add_sub_cancel_left, Nat.min_self,
        readView_one _ _ (show h.fs.buf.cursor < h.fs.buf.data.size from hb), writeAll, contK]
      have key := res (withBuf h { h.fs.buf with data := h.fs.buf.data.setIfInBounds (w + 1) h.fs.buf.data[h.fs.buf.cursor]! })
        _ (w + 1) 0 hs' ⟨Nat.le_succ_of_le hw, h1, hc, by simpa [withBuf] using hl⟩
      rw [retQ_withBuf] at key
      exact key
    · rw [if_neg (fun hh : _ ∧ _ => hb hh.1)]
      simp only [hb, hb1, ↓reduceIte, Out.ofRes_ok, Out.ofRes_panic, Bool.not_false, andThen, contK]
      exact Refines.of_eq (by simp only [retQ, cls_slice])

theorem tmod_two (q : Nat) : Int.tmod (↑q) 2 = ↑(q % 2) := by
  rw [Int.tmod_eq_emod_of_nonneg (Int.natCast_nonneg q)]; omega

theorem slice_length (b : Buf) (s w : Nat) (hw : w ≤ b.data.size) : (b.slice s w).length = w - s := by
  simp [Buf.slice, Nat.min_eq_left hw]

theorem exec_case (Γ : Env) (h : Reader) (σ : Store) (x : E) (d ch : Byte) (A B : S)
    (h5 : σ 5 = some (.byte ch)) (hx : x.eval h σ = .ok (.byte d)) :
    (S.ite (E.cmp COp.eq (E.var 5) x) A B).exec Γ h σ = if ch = d then A.exec Γ h σ else B.exec Γ h σ := by
  by_cases hc : ch = d <;> simp [exec_ite, E.eval, h5, hx, CR.compare, COp.same, hc]

theorem eval_qcOdd (h : Reader) (σ : Store) (q : Nat) (hq : σ 3 = some (.int q)) :
    qcOdd.eval h σ = .ok (.bool (q % 2 != 0)) := by
  unfold qcOdd
  exec_simp [hq, tmod_two, if_neg (by decide : ¬ (2 : Int) = 0), Int.natCast_eq_zero]
  rfl

theorem exec_ifOdd (Γ : Env) (h : Reader) (σ : Store) (q : Nat) (A B : S) (hq : σ 3 = some (.int q)) :
    (S.ite qcOdd A B).exec Γ h σ = if q % 2 = 0 then B.exec Γ h σ else A.exec Γ h σ := by
  rw [exec_ite, eval_qcOdd h σ q hq]
  by_cases hp : q % 2 = 0
  · rw [if_pos hp, hp]; rfl
  · rw [if_neg hp, (bne_iff_ne.2 hp : (q % 2 != 0) = true)]; rfl

theorem eval_qField (h : Reader) (σ : Store) (delim : Byte) (start w q : Nat) (hs : QS σ delim start w q)
    (i1 : start ≤ w) (hw : w ≤ h.fs.buf.data.size) :
    qField.eval h σ = .ok (.view start (w - start) (h.fs.buf.data.size - start)) := by
  unfold qField
  exec_simp [hs.s, hs.w, i1, hw]

theorem exec_retField (Γ : Env) (h : Reader) (σ : Store) (delim : Byte) (start w q : Nat) (hs : QS σ delim start w q)
    (eol : Bool) (e : E) (x : Option RErr) (he : e.eval h σ = .ok (.err x)) (i1 : start ≤ w) (hw : w ≤ h.fs.buf.data.size) :
    (S.ret [qField, E.bool eol, e]).exec Γ h σ =
      .ret h [.view start (w - start) (h.fs.buf.data.size - start), .bool eol, .err x] := by
  exec_simp [eval_qField h σ delim start w q hs i1 hw, he]

theorem q_switch (fuel n k j : Nat) (delim : Byte) (start : Nat) (res : Resume fuel n k j delim start)
    (h : Reader) (σ : Store) (ch : Byte) (w q : Nat) (hs : QS σ delim start w q) (h5 : σ 5 = some (.byte ch))
    (i1 : start ≤ w) (i2 : w + 1 ≤ h.fs.buf.cursor) (i3 : h.fs.buf.cursor ≤ h.fs.buf.len) (i4 : h.fs.buf.len ≤ h.fs.buf.data.size) :
    Refines (retQ h start) (C15Faults.qSw k delim start w q ch h.fs.buf)
      (contK (stepOf (env fuel (n+2)) qBody) j
        (match qSwitch.exec (env fuel (n+2)) h σ with
         | .next h3 σ3 => (S.block qKeep).exec (env fuel (n+2)) h3 σ3
         | r => r)) := by
  have hs' := hs
  obtain ⟨hd, hst, hww, hq⟩ := hs
  have hbne : ∀ a b : Nat, (a != b) = !decide (a = b) := fun a b => by simp [bne, BEq.beq]
  have hbeq : ∀ a b : Nat, (a == b) = decide (a = b) := fun a b => by simp [BEq.beq]
  have hbq : ∀ a b : Byte, (a == b) = decide (a = b) := fun a b => by simp [BEq.beq]
  have hwsz : w ≤ h.fs.buf.data.size := by omega
  have retCase : ∀ (eol : Bool), Refines (retQ h start) (.ok (h.fs.buf.slice start w, eol, none, h.fs.buf))
      (contK (stepOf (env fuel (n+2)) qBody) j
        (CR.Out.ret h [Val.view start (w - start) (h.fs.buf.data.size - start), Val.bool eol, Val.err none])) :=
    fun eol => Refines.of_eq (by simp only [contK, retQ, withBuf, slice_length _ _ _ hwsz])
  have contCase : ∀ (σ' : Store) (q' : Nat), QS σ' delim start w q' →
      Refines (retQ h start) (quotedLoop k h.fs.buf delim start w q') (contK (stepOf (env fuel (n+2)) qBody) j (CR.Out.cont h σ')) :=
    fun σ' q' hs'' => res h σ' w q' hs'' ⟨i1, by omega, i3, i4⟩
  have keepCase : ∀ (σ' : Store) (q' : Nat), QS σ' delim start w q' →
      Refines (retQ h start) (C15Faults.qKeep k delim start w h.fs.buf)
        (contK (stepOf (env fuel (n+2)) qBody) j ((S.block qKeep).exec (env fuel (n+2)) h σ')) :=
    fun σ' q' hs'' => q_keep fuel n k j delim start res h σ' w q' hs'' i1 i2 i3 i4
  unfold C15Faults.qSw
  unfold qSwitch
  simp only [hbne, hbeq, hbq, decide_eq_true_eq]
  rw [exec_case _ _ _ _ delim ch _ _ h5 (by simp [E.eval, hd]),
      exec_case _ _ _ _ LF ch _ _ h5 (by simp only [E.eval, UInt8_ofNat_10]),
      exec_case _ _ _ _ Csv.CR ch _ _ h5 (by simp only [E.eval, UInt8_ofNat_13]),
      exec_case _ _ _ _ QUOTE ch _ _ h5 (by simp only [E.eval, UInt8_ofNat_34])]
  by_cases c1 : ch = delim
  · simp only [if_pos c1, exec_block_cons, exec_block_nil, exec_ifOdd _ _ _ q _ _ hq]
    by_cases hp : q % 2 = 0
    · simp only [hp, if_true, decide_true, Bool.not_true, Bool.false_eq_true, if_false]
      exact keepCase σ q hs'
    · simp only [hp, if_false, decide_false, Bool.not_false, if_true]
      simp only [exec_retField _ _ _ _ _ _ _ hs' false E.nilErr none rfl i1 hwsz]
      exact retCase false
  · simp only [if_neg c1]
    by_cases c2 : ch = LF
    · simp only [if_pos c2, exec_block_cons, exec_block_nil, exec_ifOdd _ _ _ q _ _ hq]
      by_cases hp : q % 2 = 0
      · simp only [hp, if_true, decide_true, Bool.not_true, Bool.false_eq_true, if_false]
        exact keepCase σ q hs'
      · simp only [hp, if_false, decide_false, Bool.not_false, if_true]
        simp only [exec_retField _ _ _ _ _ _ _ hs' true E.nilErr none rfl i1 hwsz]
        exact retCase true
    · simp only [if_neg c2]
      by_cases c3 : ch = Csv.CR
      · simp only [if_pos c3, exec_block_cons, exec_block_nil, exec_ifOdd _ _ _ q _ _ hq]
        by_cases hp : q % 2 = 0
        · simp only [hp, if_true, decide_true, Bool.not_true, Bool.false_eq_true, if_false]
          exact keepCase σ q hs'
        · simp only [hp, if_false, decide_false, Bool.not_false, if_true, exec_cont]
          exact contCase σ q hs'
      · simp only [if_neg c3]
        by_cases c4 : ch = QUOTE
        · have hs1 := hs'.set_q (q + 1)
          simp only [if_pos c4]
          by_cases hp : (q + 1) % 2 = 1
          · have hp' : (((q + 1) % 2 : Nat) : Int) = 1 := by omega
            simp only [hp, decide_true, if_true]
            exec_simp [hq, tmod_two, if_neg (by decide : ¬ (2 : Int) = 0), hp']
            exact contCase _ (q + 1) hs1
          · have hp' : ¬ (((q + 1) % 2 : Nat) : Int) = 1 := by omega
            simp only [hp, decide_false, Bool.false_eq_true, if_false]
            exec_simp [hq, tmod_two, if_neg (by decide : ¬ (2 : Int) = 0), hp']
            exact keepCase _ (q + 1) hs1
        · simp only [if_neg c4]
          simp only [exec_block_nil]
          exact keepCase σ q hs'

theorem exec_qRest (Γ : Env) (h : Reader) (σ : Store) : qRest.exec Γ h σ =
    (match (S.assign (L.var 5) (E.at (E.fld Fld.data) (E.fld Fld.cursor))).exec Γ h σ with
     | .next h1 σ1 =>
       (match (S.incr (L.fld Fld.cursor)).exec Γ h1 σ1 with
        | .next h2 σ2 =>
          (match qSwitch.exec Γ h2 σ2 with
           | .next h3 σ3 => (S.block qKeep).exec Γ h3 σ3
           | r => r)
        | r => r)
     | r => r) := rfl

theorem q_rest (fuel n k j : Nat) (delim : Byte) (start : Nat) (res : Resume fuel n k j delim start)
    (h : Reader) (σ : Store) (w q : Nat) (hs : QS σ delim start w q) (hi : QI h.fs.buf start w)
    (hlt : h.fs.buf.cursor < h.fs.buf.len) :
    Refines (retQ h start) (C15Faults.qBody k delim start w q h.fs.buf)
      (contK (stepOf (env fuel (n+2)) qBody) j (qRest.exec (env fuel (n+2)) h σ)) := by
  obtain ⟨i1, i2, i3, i4⟩ := hi
  unfold C15Faults.qBody
  rw [if_pos hlt, exec_qRest]
  exec_simp [hlt]
  have := q_switch fuel n k j delim start res (withBuf h { h.fs.buf with cursor := h.fs.buf.cursor + 1 })
    (σ.set 5 (Val.byte h.fs.buf.data[h.fs.buf.cursor]!)) h.fs.buf.data[h.fs.buf.cursor]! w q
    (hs.set 5 _ (by decide)) rfl
    i1 (by simp [withBuf]; omega) (by simp [withBuf]; omega) (by simpa [withBuf] using i4)
  rw [retQ_withBuf] at this
  exact this

theorem eval_eofDelim (h : Reader) (σ : Store) (delim : Byte) (q : Nat) (err : RErr)
    (hd : σ 0 = some (.byte delim)) (hq : σ 3 = some (.int q)) (h4 : σ 4 = some (.err (some err))) :
    eofDelim.eval h σ = .ok (.bool (err == RErr.eof && q % 2 != 0 && decide (h.fs.buf.cursor < h.fs.buf.len)
      && h.fs.buf.data[h.fs.buf.cursor]! == delim)) := by
  refine eval_and (eval_and (eval_and ?_ fun _ => eval_qcOdd h σ q hq) fun _ => ?_) fun hc => ?_
  · exec_simp [h4]
    rfl
  · exec_simp []
  · exec_simp [hd, of_decide_eq_true (Eq.mp (Bool.and_eq_true _ _) hc).2]
    rfl

/-- what follows the look-ahead in a round of the scanning loop, and the `j` following rounds -/
def afterAhead (fuel n j : Nat) (o : CR.Out) : CR.Out :=
  contK (stepOf (env fuel (n+2)) qBody) j
    (match o with
     | .next h' σ' => qRest.exec (env fuel (n+2)) h' σ'
     | r => r)

theorem step_qBody (fuel n : Nat) (h : Reader) (σ : Store) :
    stepOf (env fuel (n+2)) qBody h σ =
      (match iter (stepOf (env fuel (n+2)) aheadBody) fuel h σ with
       | .next h' σ' => qRest.exec (env fuel (n+2)) h' σ'
       | r => r) := rfl

theorem iter_qBody_succ (fuel n j : Nat) (h : Reader) (σ : Store) :
    iter (stepOf (env fuel (n+2)) qBody) (j + 1) h σ =
      afterAhead fuel n j (iter (stepOf (env fuel (n+2)) aheadBody) fuel h σ) := by
  rw [iter_succ, step_qBody]; rfl

theorem afterAhead_ret (fuel n j : Nat) (h : Reader) (vs : List Val) : afterAhead fuel n j (.ret h vs) = .ret h vs := rfl

/-- The two nested loops of `nextQuotedField` against the mirror's one loop. `k`: the mirror's budget; `m`: what is left of
the look-ahead loop's budget; `j`: the rounds the scanning loop has left after this one. -/
theorem quoted_loop (fuel n : Nat) : ∀ (k m j : Nat) (h : Reader) (σ : Store) (delim : Byte) (start w q : Nat),
    QS σ delim start w q → QI h.fs.buf start w → k ≤ m → k ≤ j + 1 → k ≤ fuel →
    Refines (retQ h start) (quotedLoop k h.fs.buf delim start w q)
      (afterAhead fuel n j (iter (stepOf (env fuel (n+2)) aheadBody) m h σ)) := by
  intro k
  induction k with
  | zero => intro m j h σ delim start w q _ _ _ _ _; exact Refines.zero
  | succ k ih =>
    intro m j h σ delim start w q hs hi hm hj hf
    obtain ⟨m, rfl⟩ : ∃ m', m = m' + 1 := ⟨m - 1, by omega⟩
    have res : Resume fuel n k j delim start := by
      intro h' σ' w' q' hs' hi'
      rcases j with _ | j
      · have : k = 0 := by omega
        subst this
        exact Refines.zero
      · rw [iter_qBody_succ]
        exact ih fuel j h' σ' delim start w' q' hs' hi' (by omega) (by omega) (by omega)
    have ⟨i1, i2, i3, i4⟩ := hi
    rw [C15Faults.quotedLoop_succ, iter_succ, stepOf]
    by_cases hge : h.fs.buf.cursor + 1 ≥ h.fs.buf.len
    · rw [if_pos hge]
      obtain ⟨ml, mc, hmf, _⟩ := more_later h.fs.buf ⟨i3, i4⟩
      have hw : w ≤ h.fs.buf.more.1.data.size := by have := ml.wf.2; omega
      have hs4 := fun e => hs.set 4 (.err e) (Nat.le_refl 4)
      exec_simp [hge, call_more _ _ _ i4, withBuf]
      generalize h.fs.buf.more.2 = e
      rcases e with _ | err
      · exec_simp []
        have key := ih m j (withBuf h h.fs.buf.more.1) _ delim start w q (hs4 none) ⟨i1, mc ▸ i2, ml.wf.1, ml.wf.2⟩
          (by omega) (by omega) (by omega)
        rw [retQ_withBuf] at key
        exact key
      · exec_simp [eval_eofDelim _ _ delim q err (hs4 _).d (hs4 _).q rfl, qField, hs.s, hs.w, i1, hw]
        by_cases hC : (err == RErr.eof && q % 2 != 0 && decide (h.fs.buf.more.1.cursor < h.fs.buf.more.1.len)
            && h.fs.buf.more.1.data[h.fs.buf.more.1.cursor]! == delim) = true
        · exact Refines.of_eq (by simp only [hC, ↓reduceIte, andThen, contK, afterAhead_ret, retQ, withBuf, slice_length _ start w hw,
            slice_length { h.fs.buf.more.1 with cursor := h.fs.buf.more.1.cursor + 1 } start w hw])
        · rw [Eq.mp (Bool.not_eq_true _) hC]
          exec_simp [qField, hs.s, hs.w, i1, hw]
          exact Refines.of_eq (by simp only [contK, afterAhead_ret, retQ, withBuf, slice_length _ start w hw])
    · rw [if_neg hge]
      exec_simp [hge]
      exact q_rest fuel n k j delim start res h σ w q hs hi (by omega)

/-- a result of `nextQuoted` as the result of a call -/
def callQ (h : Reader) (start : Nat) : Csv.Out (List Byte × Bool × Option RErr × Buf) → CallRes
  | .ok (f, eol, err, b) => .ret (withBuf h b) [.view start f.length (b.data.size - start), .bool eol, .err err]
  | .panic w => .panic (cls w)

/-- the outcome of a body as the result of the call -/
def toCall : CR.Out → CallRes
  | .ret h' vs => .ret h' vs
  | .next h' _ => .ret h' []
  | .panic c => .panic c
  | _ => .stuck

/-- `nextQuotedField` is the mirror's `nextQuoted` wherever the mirror does not give up; the field comes back as the slice
`data[start : start + len(field)]` of the buffer. -/
theorem call_quoted (fuel n : Nat) (h : Reader) (delim : Byte)
    (hc : h.fs.buf.cursor < h.fs.buf.len) (hl : h.fs.buf.len ≤ h.fs.buf.data.size) :
    Refines (callQ h (h.fs.buf.cursor + 1)) (nextQuoted fuel h.fs.buf delim) (callAt canonFns fuel (n+3) .quoted [.byte delim] h) := by
  rw [callAt_succ _ _ .quoted fnQuoted rfl]
  unfold runFn fnQuoted
  unfold nextQuoted
  simp only
  exec_simp []
  rcases fuel with _ | f
  · exact Refines.zero
  · rw [iter_qBody_succ]
    have := quoted_loop (f + 1) n (f + 1) (f + 1) f (withBuf h { h.fs.buf with cursor := h.fs.buf.cursor + 1 })
      ((((Store.empty.set 0 (Val.byte delim)).set 1 (Val.int ((h.fs.buf.cursor + 1 : Nat) : Int))).set 2 (Val.int ((h.fs.buf.cursor + 1 : Nat) : Int))).set 3 (Val.int 0))
      delim (h.fs.buf.cursor + 1) (h.fs.buf.cursor + 1) 0
      ⟨by simp [set_apply], by simp [set_apply], by simp [set_apply], by simp [set_apply]⟩
      ⟨Nat.le_refl _, Nat.le_refl _, hc, hl⟩
      (Nat.le_refl _) (Nat.le_refl _) (Nat.le_refl _)
    rw [retQ_withBuf] at this
    exact this.map (fun o => toCall (andThen o ((S.block []).exec (env (f + 1) (n + 2))))) (emb' := callQ h (h.fs.buf.cursor + 1))
      fun o => by cases o <;> rfl

end QF.Props.C12CsvGen
