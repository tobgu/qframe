import QF.Core.Frame
import QF.Core.ListFacts
/-!
# C08 — projections: Slice / Select / Drop / Copy

Mirrors of `QFrame.Slice`, `QFrame.Select`, `QFrame.Drop`, `QFrame.Copy` (qframe.go) on the frame
mirror `Fr.Frame`, with

* preservation of well-formedness `Fr.WF` (error results included),
* the logical effect as an equation on `Fr.Frame.abs`,
* the error cases.

This is the hand mirror: `eval'` of C07Eval runs on `drop` / `copy` of this file.  It is not tied to the
regenerated terms; that tie is C08ProjectGen / C08ProjectIff, which state the regenerated code on the heap
model (`PFrame`) against `sliceS` … `copyS`, and have theorems of the same short names in their own namespaces.

Conventions.  `err : Option Err`; `some _` is Go's `Err != nil`.  Every Go
function starts with `if qf.Err != nil { return qf }`; the mirrors do the same (`*_of_err`), and the
`*_abs` theorems are stated for `f.err = none`.  `withErr` keeps columns, name map and index.

`WF` does not force column names to be pairwise different (`Select("a","a")` really builds such a
frame), and `Drop` goes through the *name map*; so the clean statement of `drop_abs` ("the remaining
columns, in the original order") carries the hypothesis `UniqueNames f`.  `drop_abs_general` is the
statement without it.  `UniqueNames` is preserved by all four operations (for `select` under
`names.Nodup`) and by `setColumn`.  No `names.Nodup` hypothesis is needed for `select_wf`/`select_abs`.
-/
namespace QF.Props.C08
open Fr

abbrev Entry := String × Ty × List (Option Val)

/-- the `abs` entry of a column read through the row index `ix` -/
def entry (ix : List Nat) (c : NCol) : Entry := (c.name, c.col.ty, ix.map fun p => c.col.data[p]?)

theorem abs_eq (f : Frame) : f.abs = f.cols.map (entry f.index) := rfl

/-- the `abs` entry of the column stored under name `n` in the name map -/
def lookup (f : Frame) (n : String) : Option Entry := (f.byName n).map (entry f.index)

/-- Go `withErr`: columns, map and index kept -/
def withErr (f : Frame) (e : Err) : Frame := { f with err := some e }

/-- Go `checkColumns` -/
def checkColumns (f : Frame) (names : List String) : Bool := names.all fun n => (f.byName n).isSome

def UniqueNames (f : Frame) : Prop := (f.cols.map (·.name)).Nodup

/-! ## generic facts -/

theorem withErr_wf {f : Frame} {L : Nat} (wf : WF f L) (e : Err) : WF (withErr f e) L :=
  ⟨wf.pos, wf.mapOk, wf.mapTotal, wf.len, wf.ixLt, wf.ixNodup⟩

theorem withErr_abs (f : Frame) (e : Err) : (withErr f e).abs = f.abs := rfl

theorem checkColumns_iff (f : Frame) (ns : List String) :
    checkColumns f ns = true ↔ ∀ n, n ∈ ns → (f.byName n).isSome = true := by
  simp [checkColumns]

theorem byName_mem {f : Frame} {L : Nat} (wf : WF f L) {n : String} {c : NCol} (h : f.byName n = some c) :
    c ∈ f.cols := List.mem_of_getElem? (wf.mapOk n c h).1

/-- with unique names the name map is the search of the column list by name -/
theorem byName_eq_find {f : Frame} {L : Nat} (wf : WF f L) (u : UniqueNames f) (n : String) :
    f.byName n = f.cols.find? (·.name == n) := wf.indexed.look_eq_find u n

/-! ## Slice -/

/-- qframe.go `Slice` -/
def slice (f : Frame) (a b : Int) : Frame :=
  if f.err.isSome then f
  else if a < 0 then withErr f .badSlice
  else if a > b then withErr f .badSlice
  else if b > (f.index.length : Int) then withErr f .badSlice
  else { f with index := (f.index.drop a.toNat).take (b.toNat - a.toNat) }

/-- rows `a .. b-1` of every column; names and types unchanged -/
def absSlice (l : List Entry) (a b : Nat) : List Entry :=
  l.map fun e => (e.1, e.2.1, (e.2.2.drop a).take (b - a))

theorem slice_of_err (f : Frame) (a b : Int) (he : f.err.isSome = true) : slice f a b = f := by
  simp [slice, he]

theorem slice_ok (f : Frame) (a b : Int) (he : f.err = none) (h0 : 0 ≤ a) (hab : a ≤ b) (hb : b ≤ (f.index.length : Int)) :
    slice f a b = { f with index := (f.index.drop a.toNat).take (b.toNat - a.toNat) } := by
  simp only [slice, he, Option.isSome_none, Bool.false_eq_true, if_false, if_neg (Int.not_lt.2 h0),
    if_neg (Int.not_lt.2 hab), if_neg (Int.not_lt.2 hb)]

theorem slice_bad (f : Frame) (a b : Int) (he : f.err = none) (h : ¬ (0 ≤ a ∧ a ≤ b ∧ b ≤ (f.index.length : Int))) :
    slice f a b = withErr f .badSlice := by
  simp only [slice, he, Option.isSome_none, Bool.false_eq_true, if_false]
  by_cases h1 : a < 0
  · rw [if_pos h1]
  by_cases h2 : a > b
  · rw [if_neg h1, if_pos h2]
  · rw [if_neg h1, if_neg h2, if_pos (by omega)]

theorem slice_cases (f : Frame) (a b : Int) :
    slice f a b = f ∨ slice f a b = withErr f .badSlice ∨
      slice f a b = { f with index := (f.index.drop a.toNat).take (b.toNat - a.toNat) } := by
  by_cases he : f.err.isSome = true
  · exact .inl (slice_of_err f a b he)
  have he : f.err = none := by simpa using he
  by_cases h : 0 ≤ a ∧ a ≤ b ∧ b ≤ (f.index.length : Int)
  · exact .inr (.inr (slice_ok f a b he h.1 h.2.1 h.2.2))
  · exact .inr (.inl (slice_bad f a b he h))

theorem slice_wf (f : Frame) (L : Nat) (wf : WF f L) (a b : Int) : WF (slice f a b) L := by
  rcases slice_cases f a b with h | h | h <;> rw [h]
  · exact wf
  · exact withErr_wf wf _
  · have hsub : ((f.index.drop a.toNat).take (b.toNat - a.toNat)).Sublist f.index :=
      (List.take_sublist _ _).trans (List.drop_sublist _ _)
    exact ⟨wf.pos, wf.mapOk, wf.mapTotal, wf.len, fun p hp => wf.ixLt p (hsub.subset hp), hsub.nodup wf.ixNodup⟩

theorem slice_abs (f : Frame) (a b : Int) (he : f.err = none)
    (h0 : 0 ≤ a) (hab : a ≤ b) (hb : b ≤ (f.index.length : Int)) :
    (slice f a b).abs = absSlice f.abs a.toNat b.toNat ∧
    (slice f a b).index = (f.index.drop a.toNat).take (b.toNat - a.toNat) ∧
    (slice f a b).err = none := by
  rw [slice_ok f a b he h0 hab hb]
  refine ⟨?_, rfl, he⟩
  simp only [Frame.abs, absSlice, List.map_map]
  apply List.map_congr_left
  intro c _
  simp [List.map_take, List.map_drop]

/-- outside `0 ≤ a ≤ b ≤ Len()`: error, nothing else changes -/
theorem slice_err (f : Frame) (a b : Int) (he : f.err = none)
    (h : ¬ (0 ≤ a ∧ a ≤ b ∧ b ≤ (f.index.length : Int))) :
    (slice f a b).err = some .badSlice ∧ (slice f a b).abs = f.abs ∧ (slice f a b).index = f.index := by
  rw [slice_bad f a b he h]
  exact ⟨rfl, rfl, rfl⟩

theorem slice_len (f : Frame) (a b : Int) (he : f.err = none)
    (h0 : 0 ≤ a) (hab : a ≤ b) (hb : b ≤ (f.index.length : Int)) :
    ((slice f a b).index.length : Int) = b - a := by
  rw [slice_ok f a b he h0 hab hb]
  obtain ⟨a', rfl⟩ := Int.eq_ofNat_of_zero_le h0
  obtain ⟨b', rfl⟩ := Int.eq_ofNat_of_zero_le (Int.le_trans h0 hab)
  simp only [Int.toNat_natCast, List.length_take, List.length_drop]
  omega

theorem slice_unique (f : Frame) (a b : Int) (u : UniqueNames f) : UniqueNames (slice f a b) := by
  rcases slice_cases f a b with h | h | h <;> rw [h] <;> exact u

/-! ## Select -/

def setPos (i : Nat) (c : NCol) : NCol := { c with pos := i }

/-- the new column slice of `Select`: `s := columnsByName[col]; s.pos = i; newColumns[i] = s`.
    (The `none` branch cannot be reached after `checkColumns`; it skips the name, where Go would store the zero
    value of the map, as `C08ProjectGen.selCol` does.) -/
def selectCols (f : Frame) : List String → Nat → List NCol
  | [], _ => []
  | n :: ns, i =>
    match f.byName n with
    | some c => setPos i c :: selectCols f ns (i + 1)
    | none => selectCols f ns i

/-- the new name map of `Select`: `newColumnsByName[col] = s`, in loop order (later wins) -/
def selectMap (f : Frame) : List String → Nat → (String → Option NCol) → (String → Option NCol)
  | [], _, m => m
  | n :: ns, i, m =>
    match f.byName n with
    | some c => selectMap f ns (i + 1) (fun k => if k = n then some (setPos i c) else m k)
    | none => selectMap f ns i m

/-- Go `QFrame{}` -/
def emptyFrame : Frame := { cols := [], byName := fun _ => none, index := [], err := none }

/-- qframe.go `Select` -/
def select (f : Frame) (names : List String) : Frame :=
  if f.err.isSome then f
  else if !checkColumns f names then withErr f .unknownCol
  else if names.isEmpty then emptyFrame
  else { cols := selectCols f names 0, byName := selectMap f names 0 (fun _ => none),
         index := f.index, err := none }

/-- whatever ignores `pos` sees in the new column list the columns the name map returns, in the order requested -/
theorem selectCols_map {β : Type} (f : Frame) (g : NCol → β) (hg : ∀ (i : Nat) (c : NCol), g (setPos i c) = g c)
    (ns : List String) (i : Nat) : (selectCols f ns i).map g = ns.filterMap fun n => (f.byName n).map g := by
  induction ns generalizing i with
  | nil => rfl
  | cons n ns ih =>
    simp only [selectCols, List.filterMap_cons]
    cases f.byName n with
    | none => exact ih i
    | some c => simp only [Option.map_some, List.map_cons, ih, hg]

theorem emptyFrame_wf (L : Nat) : WF emptyFrame L := by
  constructor <;> simp [emptyFrame]

theorem select_of_err (f : Frame) (names : List String) (he : f.err.isSome = true) : select f names = f := by
  simp [select, he]

/-- the loop of `Select`: every known name pushes its column, moved to the next place -/
theorem selectCols_indexed (f : Frame) (L : Nat) (wf : WF f L) (ns : List String) :
    ∀ (pre : List NCol) (m : String → Option NCol), NameIndex.Indexed NCol.name NCol.pos pre m →
      NameIndex.Indexed NCol.name NCol.pos (pre ++ selectCols f ns pre.length) (selectMap f ns pre.length m) := by
  induction ns with
  | nil => intro pre m w; simpa [selectCols, selectMap] using w
  | cons n ns ih =>
    intro pre m w
    simp only [selectCols, selectMap]
    cases hb : f.byName n with
    | none => exact ih pre m w
    | some c =>
      have hn : (setPos pre.length c).name = n := (wf.mapOk n c hb).2
      have := ih (pre ++ [setPos pre.length c]) _ (w.push (setPos pre.length c) rfl fun k => by rw [hn])
      simpa using this

theorem select_wf (f : Frame) (L : Nat) (wf : WF f L) (names : List String) : WF (select f names) L := by
  unfold select
  split
  · exact wf
  split
  · exact withErr_wf wf _
  split
  · exact emptyFrame_wf L
  · have w := selectCols_indexed f L wf names [] _ (NameIndex.Indexed.nil fun _ => rfl)
    refine ⟨w.pos, w.mapOk, w.mapTotal, fun c hc => ?_, wf.ixLt, wf.ixNodup⟩
    have := List.mem_map_of_mem (f := (·.col)) hc
    rw [selectCols_map f _ (fun _ _ => rfl)] at this
    obtain ⟨n, _, e⟩ := List.mem_filterMap.1 this
    obtain ⟨c0, hb, e⟩ := Option.map_eq_some_iff.1 e
    rw [← e]; exact wf.len c0 (byName_mem wf hb)

/-- `Select`, all names known: one entry per name, in the requested order; the index is kept (`QFrame{}`, whose
    index is empty, for zero names). -/
theorem select_abs (f : Frame) (names : List String) (he : f.err = none) (hc : checkColumns f names = true) :
    (select f names).abs.map some = names.map (lookup f) ∧
    (select f names).abs = names.filterMap (lookup f) ∧
    (select f names).index = (if names.isEmpty then [] else f.index) ∧
    (select f names).err = none := by
  have key : (select f names).abs = names.filterMap (lookup f) ∧
      (select f names).index = (if names.isEmpty then [] else f.index) ∧ (select f names).err = none := by
    simp only [select, he, Option.isSome_none, Bool.false_eq_true, ↓reduceIte, hc, Bool.not_true]
    by_cases hn : names.isEmpty = true
    · simp only [hn, ↓reduceIte]
      have : names = [] := by simpa using hn
      subst this
      exact ⟨rfl, rfl, rfl⟩
    · simp only [hn, Bool.false_eq_true, ↓reduceIte]
      refine ⟨?_, trivial, trivial⟩
      simp only [Frame.abs]
      exact selectCols_map f (entry f.index) (fun _ _ => rfl) names 0
  refine ⟨?_, key⟩
  rw [key.1]
  apply ListFacts.filterMap_total
  intro n hn
  have := (checkColumns_iff f names).mp hc n hn
  simp [lookup, this]

theorem selectCols_names (f : Frame) (L : Nat) (wf : WF f L) (ns : List String) (i : Nat) :
    (selectCols f ns i).map (·.name) = ns.filter fun n => (f.byName n).isSome := by
  induction ns generalizing i with
  | nil => rfl
  | cons n ns ih =>
    simp only [selectCols, List.filter_cons]
    cases hb : f.byName n with
    | none => simp only [Option.isSome_none, Bool.false_eq_true, ↓reduceIte]; exact ih i
    | some c =>
      simp only [Option.isSome_some, ↓reduceIte, List.map_cons, ih, setPos]
      rw [(wf.mapOk n c hb).2]

theorem select_names (f : Frame) (L : Nat) (wf : WF f L) (names : List String) (he : f.err = none)
    (hc : checkColumns f names = true) : (select f names).abs.map (·.1) = names := by
  have hcols : (select f names).cols = selectCols f names 0 := by
    simp only [select, he, Option.isSome_none, Bool.false_eq_true, ↓reduceIte, hc, Bool.not_true]
    split
    · next hn => rw [List.isEmpty_iff.mp hn]; rfl
    · rfl
  rw [abs_eq, List.map_map, hcols]
  exact (selectCols_names f L wf names 0).trans (List.filter_eq_self.2 ((checkColumns_iff f names).mp hc))

/-- an unknown name: error, nothing else changes -/
theorem select_err (f : Frame) (names : List String) (he : f.err = none) (hc : checkColumns f names = false) :
    (select f names).err = some .unknownCol ∧ (select f names).abs = f.abs ∧
    (select f names).index = f.index := by
  simp only [select, he, Option.isSome_none, Bool.false_eq_true, ↓reduceIte, hc, Bool.not_false]
  exact ⟨rfl, rfl, rfl⟩

theorem select_unique (f : Frame) (L : Nat) (wf : WF f L) (u : UniqueNames f) (names : List String)
    (hd : names.Nodup) : UniqueNames (select f names) := by
  unfold select
  split
  · exact u
  split
  · exact u
  split
  · simp [UniqueNames, emptyFrame]
  · simp only [UniqueNames]
    rw [selectCols_names f L wf]
    exact List.filter_sublist.nodup hd

/-! ## Drop -/

/-- qframe.go `Drop` -/
def drop (f : Frame) (names : List String) : Frame :=
  if f.err.isSome || names.isEmpty then f
  else if !checkColumns f names then withErr f .unknownCol
  else select f ((f.cols.filter fun c => !names.contains c.name).map (·.name))

/-- the entries whose name is not in `names`, original order -/
def absDrop (l : List Entry) (names : List String) : List Entry := l.filter fun e => !names.contains e.1

theorem drop_of_err (f : Frame) (names : List String) (he : f.err.isSome = true) : drop f names = f := by
  simp [drop, he]

theorem drop_nil (f : Frame) : drop f [] = f := by
  simp [drop]

theorem drop_wf (f : Frame) (L : Nat) (wf : WF f L) (names : List String) : WF (drop f names) L := by
  unfold drop
  split
  · exact wf
  split
  · exact withErr_wf wf _
  · exact select_wf f L wf _

theorem remaining_exist (f : Frame) (L : Nat) (wf : WF f L) (names : List String) :
    checkColumns f ((f.cols.filter fun c => !names.contains c.name).map (·.name)) = true := by
  rw [checkColumns_iff]
  intro n hn
  obtain ⟨c, hc, rfl⟩ := List.mem_map.mp hn
  exact wf.mapTotal c (List.mem_filter.mp hc).1

/-- `Drop` of at least one name, without any assumption on the names of `f`: the remaining names, in
    column order, each looked up in the name map.  (`Drop()` is the identity, see `drop_nil`.) -/
theorem drop_abs_general (f : Frame) (L : Nat) (wf : WF f L) (names : List String) (he : f.err = none)
    (hne : names ≠ []) (hc : checkColumns f names = true) :
    (drop f names).abs =
      ((f.cols.filter fun c => !names.contains c.name).map (·.name)).filterMap (lookup f) ∧
    (drop f names).index =
      (if (f.cols.filter fun c => !names.contains c.name).isEmpty then [] else f.index) ∧
    (drop f names).err = none := by
  have hn : names.isEmpty = false := by cases names with
    | nil => exact absurd rfl hne
    | cons => rfl
  have hd : drop f names = select f ((f.cols.filter fun c => !names.contains c.name).map (·.name)) := by
    simp [drop, he, hn, hc]
  rw [hd]
  obtain ⟨_, h2, h3, h4⟩ := select_abs f _ he (remaining_exist f L wf names)
  refine ⟨h2, ?_, h4⟩
  rw [h3]; simp

/-- `Drop`: all names exist ⇒ no error, and the content is the remaining columns in the original order.
    Needs `UniqueNames f`, because the remaining columns are fetched again through the name map. -/
theorem drop_abs (f : Frame) (L : Nat) (wf : WF f L) (u : UniqueNames f) (names : List String)
    (he : f.err = none) (hc : checkColumns f names = true) :
    (drop f names).abs = absDrop f.abs names ∧
    (drop f names).index =
      (if names.isEmpty then f.index else if (absDrop f.abs names).isEmpty then [] else f.index) ∧
    (drop f names).err = none := by
  have hfm : ∀ l : List NCol, (∀ c, c ∈ l → c ∈ f.cols) →
      (l.map (·.name)).filterMap (lookup f) = l.map (entry f.index) := by
    intro l h
    have : lookup f = fun n => (f.cols.find? (·.name == n)).map (entry f.index) := by
      funext n; rw [lookup, byName_eq_find wf u]
    rw [this, ← List.map_filterMap, ListFacts.filterMap_find?_key NCol.name f.cols u l h]
  have habs : absDrop f.abs names = (f.cols.filter fun c => !names.contains c.name).map (entry f.index) := by
    simp only [absDrop, Frame.abs, List.filter_map]
    rfl
  by_cases hne : names = []
  · subst hne
    rw [drop_nil]
    have : absDrop f.abs [] = f.abs := by simp [absDrop]
    rw [this]
    exact ⟨rfl, by simp, he⟩
  · obtain ⟨h1, h2, h3⟩ := drop_abs_general f L wf names he hne hc
    refine ⟨?_, ?_, h3⟩
    · rw [h1, habs]; exact hfm _ fun c hc => (List.mem_filter.mp hc).1
    · have hn : names.isEmpty = false := by cases names with
        | nil => exact absurd rfl hne
        | cons => rfl
      rw [h2, habs, hn]; simp

/-! ## Copy -/

/-- qframe.go `Copy` -/
def copy (f : Frame) (dst src : String) : Frame :=
  if f.err.isSome then f
  else match f.byName src with
    | none => withErr f .unknownCol
    | some c => if dst = src then f else setColumn f dst c.col

theorem setColumn_badName (f : Frame) (name : String) (c : Col) (h : checkName name = false) :
    setColumn f name c = withErr f .badName := by
  simp [setColumn, h, withErr]

theorem copy_of_err (f : Frame) (dst src : String) (he : f.err.isSome = true) : copy f dst src = f := by
  simp [copy, he]

theorem copy_wf (f : Frame) (L : Nat) (wf : WF f L) (dst src : String) : WF (copy f dst src) L := by
  unfold copy
  split
  · exact wf
  split
  · exact withErr_wf wf _
  · rename_i c hs
    split
    · exact wf
    · cases hn : checkName dst with
      | true => exact setColumn_wf f L wf dst c.col (wf.len c (byName_mem wf hs)) hn
      | false => rw [setColumn_badName f dst c.col hn]; exact withErr_wf wf _

/-- `Copy(dst, src)` with `dst ≠ src`, `src` present, `dst` a legal name: as `setColumn_abs`, with the
    type and the cells of the source column (i.e. the entry `(dst, (entry f.index c).2)`). -/
theorem copy_abs (f : Frame) (L : Nat) (wf : WF f L) (dst src : String) (c : NCol) (he : f.err = none)
    (hs : f.byName src = some c) (hne : dst ≠ src) (hn : checkName dst = true) :
    (copy f dst src).abs =
      absSet f.abs ((f.byName dst).map (·.pos)) (dst, c.col.ty, f.index.map fun p => c.col.data[p]?) ∧
    (copy f dst src).index = f.index ∧ (copy f dst src).err = none := by
  have hcp : copy f dst src = setColumn f dst c.col := by
    simp [copy, he, hs, hne]
  rw [hcp]
  obtain ⟨h1, h2, h3⟩ := setColumn_abs f L wf dst c.col hn
  exact ⟨h1, h2, h3.trans he⟩

/-- the same, with the source given by its `abs` entry -/
theorem copy_abs_lookup (f : Frame) (L : Nat) (wf : WF f L) (dst src : String) (e : Entry) (he : f.err = none)
    (hs : lookup f src = some e) (hne : dst ≠ src) (hn : checkName dst = true) :
    (copy f dst src).abs = absSet f.abs ((f.byName dst).map (·.pos)) (dst, e.2) ∧
    (copy f dst src).index = f.index ∧ (copy f dst src).err = none := by
  unfold lookup at hs
  cases hb : f.byName src with
  | none => rw [hb] at hs; cases hs
  | some c =>
    rw [hb] at hs
    simp only [Option.map_some, Option.some.injEq] at hs
    subst hs
    exact copy_abs f L wf dst src c he hb hne hn

/-- afterwards the destination name holds the source's type and cells -/
theorem copy_lookup (f : Frame) (dst src : String) (c : NCol) (he : f.err = none)
    (hs : f.byName src = some c) (hne : dst ≠ src) (hn : checkName dst = true) :
    lookup (copy f dst src) dst = some (dst, (entry f.index c).2) := by
  have hcp : copy f dst src = setColumn f dst c.col := by
    simp [copy, he, hs, hne]
  rw [hcp]
  unfold setColumn lookup
  simp only [hn, Bool.not_true, Bool.false_eq_true, ↓reduceIte]
  cases f.byName dst with
  | none => simp [entry]
  | some ex => simp [entry]

/-- `Copy(x, x)` of an existing column is the identity -/
theorem copy_self (f : Frame) (src : String) (hs : (f.byName src).isSome = true) : copy f src src = f := by
  unfold copy
  split
  · rfl
  · cases hb : f.byName src with
    | none => rw [hb] at hs; cases hs
    | some c => simp

/-- unknown source: error, nothing else changes (also when `dst = src`) -/
theorem copy_unknown (f : Frame) (dst src : String) (he : f.err = none) (hs : f.byName src = none) :
    (copy f dst src).err = some .unknownCol ∧ (copy f dst src).abs = f.abs ∧
    (copy f dst src).index = f.index := by
  have : copy f dst src = withErr f .unknownCol := by simp [copy, he, hs]
  rw [this]; exact ⟨rfl, rfl, rfl⟩

/-- illegal destination name: error, nothing else changes -/
theorem copy_badName (f : Frame) (dst src : String) (c : NCol) (he : f.err = none)
    (hs : f.byName src = some c) (hne : dst ≠ src) (hn : checkName dst = false) :
    (copy f dst src).err = some .badName ∧ (copy f dst src).abs = f.abs ∧
    (copy f dst src).index = f.index := by
  have : copy f dst src = withErr f .badName := by
    simp [copy, he, hs, hne, setColumn_badName f dst c.col hn]
  rw [this]; exact ⟨rfl, rfl, rfl⟩

/-! ## `UniqueNames` is an invariant -/

theorem setColumn_unique (f : Frame) (L : Nat) (wf : WF f L) (u : UniqueNames f) (name : String) (c : Col) :
    UniqueNames (setColumn f name c) := by
  unfold setColumn
  split
  · exact u
  · cases hb : f.byName name with
    | none => exact wf.indexed.push_nodup u (⟨name, f.cols.length, c⟩ : NCol) hb
    | some ex =>
      obtain ⟨h1, h2⟩ := wf.mapOk name ex hb
      show ((f.cols.set ex.pos ⟨name, ex.pos, c⟩).map NCol.name).Nodup
      rw [NameIndex.Indexed.replace_names ex.pos (⟨name, ex.pos, c⟩ : NCol) ex h1 h2]
      exact u

theorem drop_unique (f : Frame) (L : Nat) (wf : WF f L) (u : UniqueNames f) (names : List String) :
    UniqueNames (drop f names) := by
  unfold drop
  split
  · exact u
  split
  · exact u
  · apply select_unique f L wf u
    exact (List.filter_sublist.map _).nodup u

theorem copy_unique (f : Frame) (L : Nat) (wf : WF f L) (u : UniqueNames f) (dst src : String) :
    UniqueNames (copy f dst src) := by
  unfold copy
  split
  · exact u
  split
  · exact u
  · split
    · exact u
    · exact setColumn_unique f L wf u dst _

/-! ## statements on the `abs` list alone (frames with unique names) -/

/-- first entry with the given name -/
def absLookup (l : List Entry) (n : String) : Option Entry := l.find? (·.1 == n)

def absSelect (l : List Entry) (names : List String) : List Entry := names.filterMap (absLookup l)

def absCopy (l : List Entry) (dst src : String) : List Entry :=
  match absLookup l src with
  | none => l
  | some e => absSet l (l.findIdx? (·.1 == dst)) (dst, e.2)

theorem lookup_eq_absLookup (f : Frame) (L : Nat) (wf : WF f L) (u : UniqueNames f) (n : String) :
    lookup f n = absLookup f.abs n := by
  unfold lookup absLookup
  rw [abs_eq, List.find?_map, byName_eq_find wf u]
  rfl

theorem select_abs_pure (f : Frame) (L : Nat) (wf : WF f L) (u : UniqueNames f) (names : List String)
    (he : f.err = none) (hc : checkColumns f names = true) :
    (select f names).abs = absSelect f.abs names := by
  rw [(select_abs f names he hc).2.1]
  unfold absSelect
  congr 1
  funext n
  exact lookup_eq_absLookup f L wf u n

theorem pos_eq_findIdx (f : Frame) (L : Nat) (wf : WF f L) (u : UniqueNames f) (n : String) :
    (f.byName n).map (·.pos) = f.abs.findIdx? (·.1 == n) := by
  rw [abs_eq, List.findIdx?_map, byName_eq_find wf u, NameIndex.find?_pos wf.pos]
  rfl

/-- `Copy` on the `abs` list alone: the first entry named `src` is written under `dst` at the place of
    the first entry named `dst`, or appended -/
theorem copy_abs_pure (f : Frame) (L : Nat) (wf : WF f L) (u : UniqueNames f) (dst src : String)
    (he : f.err = none) (hs : (f.byName src).isSome = true) (hne : dst ≠ src) (hn : checkName dst = true) :
    (copy f dst src).abs = absCopy f.abs dst src := by
  cases hb : f.byName src with
  | none => rw [hb] at hs; cases hs
  | some c =>
    have hl : lookup f src = some (entry f.index c) := by simp [lookup, hb]
    rw [(copy_abs_lookup f L wf dst src _ he hl hne hn).1]
    unfold absCopy
    rw [← lookup_eq_absLookup f L wf u src, hl, pos_eq_findIdx f L wf u dst]

/-! ## a concrete instance: the hypotheses are satisfiable, the operations compute -/

def exA : NCol := ⟨"a", 0, ⟨.int, [.int 10, .int 11, .int 12]⟩⟩
def exB : NCol := ⟨"b", 1, ⟨.bool, [.bool true, .bool false, .bool true]⟩⟩
/-- two columns of physical length 3, rows in the order 2,0,1 -/
def exF : Frame :=
  { cols := [exA, exB]
    byName := fun n => if n = "a" then some exA else if n = "b" then some exB else none
    index := [2, 0, 1] }

theorem exF_wf : WF exF 3 := by
  constructor
  · intro i c h
    match i with
    | 0 => simp [exF] at h; subst h; rfl
    | 1 => simp [exF] at h; subst h; rfl
    | i + 2 => simp [exF] at h
  · intro n c h
    simp only [exF] at h
    split at h
    · cases h; rename_i hn; subst hn; exact ⟨rfl, rfl⟩
    · split at h
      · cases h; rename_i hn; subst hn; exact ⟨rfl, rfl⟩
      · cases h
  · intro c hc
    simp only [exF, List.mem_cons, List.not_mem_nil, or_false] at hc
    rcases hc with h | h <;> subst h <;> decide +kernel
  · intro c hc
    simp only [exF, List.mem_cons, List.not_mem_nil, or_false] at hc
    rcases hc with h | h <;> subst h <;> rfl
  · intro p hp
    simp only [exF, List.mem_cons, List.not_mem_nil, or_false] at hp
    omega
  · decide

theorem exF_unique : UniqueNames exF := by
  show (exF.cols.map (·.name)).Nodup
  decide +kernel

/-- hypotheses of `slice_wf`, `slice_abs` -/
example : WF exF 3 ∧ exF.err = none ∧ (0 : Int) ≤ 1 ∧ (1 : Int) ≤ 3 ∧ (3 : Int) ≤ (exF.index.length : Int) :=
  ⟨exF_wf, rfl, by decide, by decide, by decide⟩
example : (slice exF 1 3).abs =
    [("a", .int, [some (.int 10), some (.int 11)]), ("b", .bool, [some (.bool true), some (.bool false)])] := by
  decide +kernel
/-- hypothesis of `slice_err` -/
example : exF.err = none ∧ ¬ ((0 : Int) ≤ 2 ∧ (2 : Int) ≤ 4 ∧ (4 : Int) ≤ (exF.index.length : Int)) :=
  ⟨rfl, by decide⟩
example : (slice exF 2 4).err = some .badSlice := by decide +kernel

/-- hypotheses of `select_wf`, `select_abs`, `select_names`, `select_unique`, `select_abs_pure` -/
example : WF exF 3 ∧ UniqueNames exF ∧ exF.err = none ∧ checkColumns exF ["b", "a"] = true ∧ ["b", "a"].Nodup :=
  ⟨exF_wf, exF_unique, rfl, by decide +kernel, by decide +kernel⟩
example : (select exF ["b", "a"]).abs =
    [("b", .bool, [some (.bool true), some (.bool true), some (.bool false)]),
     ("a", .int, [some (.int 12), some (.int 10), some (.int 11)])] := by
  decide +kernel
example : (select exF ["b", "a"]).cols.map (·.pos) = [0, 1] := by decide +kernel
/-- duplicates are allowed in `select_wf` / `select_abs` -/
example : (select exF ["a", "a"]).abs.map (·.1) = ["a", "a"] := by decide +kernel
/-- hypothesis of `select_err` -/
example : exF.err = none ∧ checkColumns exF ["a", "zzz"] = false := ⟨rfl, by decide +kernel⟩

/-- hypotheses of `drop_wf`, `drop_abs`, `drop_abs_general`, `drop_unique` -/
example : WF exF 3 ∧ UniqueNames exF ∧ exF.err = none ∧ ["a"] ≠ [] ∧ checkColumns exF ["a"] = true :=
  ⟨exF_wf, exF_unique, rfl, by decide +kernel, by decide +kernel⟩
example : (drop exF ["a"]).abs = [("b", .bool, [some (.bool true), some (.bool true), some (.bool false)])] := by
  decide +kernel
example : (drop exF ["zzz"]).err = some .unknownCol := by decide +kernel

/-- hypotheses of `copy_wf`, `copy_abs`, `copy_abs_lookup`, `copy_lookup`, `copy_abs_pure`, `copy_unique` -/
example : WF exF 3 ∧ UniqueNames exF ∧ exF.err = none ∧ exF.byName "a" = some exA ∧ "c" ≠ "a" ∧
    checkName "c" = true :=
  ⟨exF_wf, exF_unique, rfl, by decide +kernel, by decide +kernel, by decide +kernel⟩
example : (copy exF "c" "a").abs =
    [("a", .int, [some (.int 12), some (.int 10), some (.int 11)]),
     ("b", .bool, [some (.bool true), some (.bool true), some (.bool false)]),
     ("c", .int, [some (.int 12), some (.int 10), some (.int 11)])] := by
  decide +kernel
/-- overwriting an existing destination keeps its place -/
example : (copy exF "a" "b").abs.map (fun e => (e.1, e.2.1)) = [("a", .bool), ("b", .bool)] := by
  decide +kernel
/-- hypotheses of `copy_self`, `copy_unknown`, `copy_badName` -/
example : (exF.byName "a").isSome = true := by decide +kernel
example : exF.err = none ∧ exF.byName "zzz" = none := ⟨rfl, by decide +kernel⟩
example : exF.err = none ∧ exF.byName "a" = some exA ∧ "$c" ≠ "a" ∧ checkName "$c" = false :=
  ⟨rfl, by decide +kernel, by decide +kernel, by decide +kernel⟩
example : (copy exF "$c" "a").err = some .badName := by decide +kernel

#print axioms slice_wf
#print axioms slice_abs
#print axioms slice_err
#print axioms slice_len
#print axioms select_wf
#print axioms select_abs
#print axioms select_names
#print axioms select_err
#print axioms select_abs_pure
#print axioms drop_wf
#print axioms drop_abs
#print axioms drop_abs_general
#print axioms copy_wf
#print axioms copy_abs
#print axioms copy_abs_lookup
#print axioms copy_lookup
#print axioms copy_self
#print axioms copy_unknown
#print axioms copy_badName
#print axioms copy_abs_pure
#print axioms slice_unique
#print axioms select_unique
#print axioms drop_unique
#print axioms copy_unique
#print axioms setColumn_unique
#print axioms exF_wf

end QF.Props.C08
