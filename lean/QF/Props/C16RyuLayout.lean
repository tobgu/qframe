import QF.Props.C16RyuStep4
import QF.Props.C16Layouts
/-!
# C16 — the meaning of the canonical Ryu terms (4): the digit layout (`sizeSlice`, `dec64.appendF`, `AppendFloat64f`)

A Go byte slice is `Val.bytes content spare` (QF/Core/RYExpr.lean) — the buffer model `AF.Buf` of QF/Core/AppendF.lean: visible
content plus whatever lies in the spare capacity; an `append` that does not fit allocates a new backing array whose spare
capacity is unspecified (`Env.fresh site`, by the number of the `append`).

* `call_sizeSlice`  — `sizeSlice(b, n)` is `AF.sizeSlice`
* `zero_loop`, `digit_loop_*` — the loops of `appendF` are `AF.writeZeros` / `C16.digitLoop`
* `call_appendF`    — `d.appendF(b, neg)` is `C16Link.appendF` (sign, `decimalLen64`, the three layouts)
* `exec_appendFloat` — `AppendFloat64f(b, f)` for a finite non-zero `f`: the fields are `C16Core.mantOf` / `expOf`, the
  decimal is `Ryu64.decimal`, the bytes are `C16Link.appendF`
-/
namespace QF.Props.C16RyuGen
open QF QF.RY AF

def bufVal (b : AF.Buf) : Val := .bytes b.content b.spare

theorem appendTo_eq (c sp bs x : List Byte) : appendTo c sp bs x = bufVal (C16.appendBytes ⟨c, sp⟩ bs x) := by
  unfold appendTo C16.appendBytes bufVal; simp only []; split <;> rfl

/-! ## `sizeSlice`

The bounds of this file (`2^62`, `2^60`, `2^59` bytes, `2^20`, `3000`, fuel above `3100`) are not properties of the Go code, they
are what the callers have: any bound that keeps `len(b) + n` inside `int` would do, and each caller gives one bit to the `append`
before it; `3000` is what `toDecimal_e_bound` (below) has for the decimal exponent (2000 from `Step3Ok.e10`, at most 60 digits
removed), and 3100 rounds are more than any loop of `appendF` makes (`dE ≤ 3000`, `outLen ≤ 18`). -/

/-- what the callers of `sizeSlice` need from their environment (`x7`: the spare capacity its `append` leaves when it allocates) -/
def SizeSliceOk (Γ : Env) (x7 : List Byte) : Prop :=
  ∀ (c sp : List Byte) (k : Nat), c.length + sp.length < 2 ^ 62 → k < 2 ^ 62 →
    Γ.call fSizeSlice [.bytes c sp, .i 64 k] = some (bufVal (AF.sizeSlice ⟨c, sp⟩ k x7))

theorem call_sizeSlice (F : Nat) (fr : Nat → List UInt8) (n : Nat) (c sp : List UInt8) (k : Nat)
    (hlen : c.length + sp.length < 2 ^ 62) (hk : k < 2 ^ 62) :
    callAt canonFns T F fr (n+1) fSizeSlice [.bytes c sp, .i 64 k] = some (bufVal (AF.sizeSlice ⟨c, sp⟩ k (fr 7))) := by
  refine call_of look_sizeSlice rfl ?_
  simp only [fnSizeSlice]
  have hw : wrapS 64 (((c.length + sp.length : Nat) : Int) - (c.length : Int)) = (sp.length : Int) := by
    rw [wrapS64] <;> omega
  by_cases h : sp.length ≥ k
  · have hw2 : wrapS 64 ((c.length : Int) + (k : Int)) = ((c.length + k : Nat) : Int) := by rw [wrapS64] <;> omega
    refine Eq.trans (block_ret (Eq.trans
      (if_enter (decide_eq_true (Int.ofNat_le.mpr h))
        (cmp_of (bin_of rfl rfl (congrArg (fun z => some (Val.i 64 z)) hw)) rfl rfl))
      (scope_ret (block_ret (ret_of (sliceTo_of rfl (bin_of rfl rfl (congrArg (fun z => some (Val.i 64 z)) hw2)) rfl
        (Nat.add_le_add_left h _))))))) ?_
    simp [bufVal, AF.sizeSlice, h, List.take_append, List.drop_append]
    exact List.take_of_length_le (by omega)
  · refine Eq.trans (block_step
      (if_skip (decide_eq_false (fun hc => h (Int.ofNat_le.mp hc)))
        (cmp_of (bin_of rfl rfl (congrArg (fun z => some (Val.i 64 z)) hw)) rfl rfl))
      (block_ret (ret_of (appendS_of rfl (makeBytes_of rfl rfl) rfl)))) ?_
    simp [bufVal, AF.sizeSlice, appendTo, h]

/-! ## the loops of `appendF` -/

/-- the Go loop writes upwards from `pos`, `writeZeros` recurses from the top: one shift -/
theorem wz_shift : ∀ (k : Nat) (l : List Byte) (pos : Nat), writeZeros (l.set pos 48) (pos + 1) k = writeZeros l pos (k + 1) := by
  intro k
  induction k with
  | zero => intro l pos; simp [writeZeros]
  | succ k ih =>
    intro l pos
    rw [writeZeros, writeZeros, ← ih (l.set (pos + (k + 1)) 48) pos]
    congr 1
    rw [List.set_comm _ _ (by omega)]
    congr 2
    omega

/-- `for i := n; i < dE+n; i++ { b[outLen+i] = '0' }` -/
theorem zero_loop (Γ : Env) (d neg out : Val) (sp : List Byte) (olen dE n : Nat) : ∀ (r : Nat) (l : List Byte) (q F : Nat),
    q + r = dE + n → olen + dE + n ≤ l.length → l.length < 2 ^ 62 → r < F →
    forLoop (condOf Γ (E.cmp COp.lt (E.var 7) (E.bin AOp.add (E.var 5) (E.var 6))))
        (execOf Γ (S.scope (S.block [S.setIndex 1 (E.bin AOp.add (E.var 4) (E.var 7)) (E.u 8 48)])))
        (execOf Γ (S.block [S.assign 7 (E.bin AOp.add (E.var 7) (E.i 64 1))])) F
        [d, .bytes l sp, neg, out, .i 64 olen, .i 64 dE, .i 64 n, .i 64 q] =
      .next [d, .bytes (writeZeros l (olen + q) r) sp, neg, out, .i 64 olen, .i 64 dE, .i 64 n, .i 64 ((q + r : Nat) : Int)] := by
  intro r
  induction r with
  | zero =>
    intro l q F h1 h2 h3 hF
    obtain ⟨F', rfl⟩ : ∃ F', F = F' + 1 := ⟨F - 1, by omega⟩
    have hc : ¬ ((q : Int) < (dE : Int) + (n : Int)) := by omega
    exact forLoop_exit _ _ _ _ _ _ (cond_false (decide_eq_false hc) (cmp_of rfl (wrap64_of rfl (by omega) (by omega)) rfl))
  | succ r ih =>
    intro l q F h1 h2 h3 hF
    obtain ⟨F', rfl⟩ : ∃ F', F = F' + 1 := ⟨F - 1, by omega⟩
    have hw2 : wrapS 64 ((olen : Int) + (q : Int)) = ((olen + q : Nat) : Int) := by rw [wrapS64] <;> omega
    have hw3 : wrapS 64 ((q : Int) + 1) = ((q + 1 : Nat) : Int) := by rw [wrapS64] <;> omega
    have hc : (q : Int) < (dE : Int) + (n : Int) := by omega
    refine Eq.trans (Eq.trans (forLoop_next _ _ _ _ _ _
      (cond_true (decide_eq_true hc) (cmp_of rfl (wrap64_of rfl (by omega) (by omega)) rfl))
      (scope_next (block_step (setIndex_of rfl (bin_of rfl rfl (congrArg (fun z => some (Val.i 64 z)) hw2)) rfl rfl
        (Int.natCast_nonneg _) (Int.ofNat_lt.mpr (by omega))) rfl) rfl)
      (block_step (assign_of rfl (bin_of rfl rfl (congrArg (fun z => some (Val.i 64 z)) hw3))) rfl))
      (ih (l.set (olen + q) 48) (q + 1) F' (by omega) (by simp; omega) (by simp; omega) (by omega))) ?_
    rw [← Nat.add_assoc, wz_shift, show q + 1 + r = q + (r + 1) by omega]

/-- `for i := …; i >= lo; i-- { b[i] = '0' + byte(out%10); out /= 10 }` is `C16.digitLoop`, for any layout `st` of the store
in which the condition tests `lo ≤ i`, the body writes the digit at `i` (giving `mid`) and the post statement decrements `i` -/
theorem digit_loop (Γ : Env) (cond : E) (body post : S) (st mid : List Byte → Nat → Int → Store) (pos : Nat)
    (hc : ∀ l out iv, condOf Γ cond (st l out iv) = some (decide ((pos : Int) ≤ iv)))
    (hb : ∀ l out (i : Nat), i < l.length → l.length < 2 ^ 62 →
      body.exec Γ (st l out i) = .next (mid (l.set i (digit out)) (out / 10) i))
    (hp : ∀ l out (i : Nat), l.length < 2 ^ 62 → i < l.length → post.exec Γ (mid l out i) = .next (st l out ((i : Int) - 1))) :
    ∀ (k : Nat) (l : List Byte) (out F : Nat), pos + k ≤ l.length → l.length < 2 ^ 62 → k < F →
    forLoop (condOf Γ cond) (execOf Γ body) (execOf Γ post) F (st l out ((pos : Int) + (k : Int) - 1)) =
      .next (st (C16.digitLoop l pos k out).1 (C16.digitLoop l pos k out).2 ((pos : Int) - 1)) := by
  intro k
  induction k with
  | zero =>
    intro l out F h1 h2 hF
    obtain ⟨F', rfl⟩ : ∃ F', F = F' + 1 := ⟨F - 1, by omega⟩
    have hiv : (pos : Int) + ((0 : Nat) : Int) - 1 = (pos : Int) - 1 := by omega
    rewrite [hiv, forLoop_exit _ _ _ _ _ _ ((hc l out _).trans (by rw [decide_eq_false (by omega)]))]
    rfl
  | succ k ih =>
    intro l out F h1 h2 hF
    obtain ⟨F', rfl⟩ : ∃ F', F = F' + 1 := ⟨F - 1, by omega⟩
    have hiv : (pos : Int) + ((k + 1 : Nat) : Int) - 1 = ((pos + k : Nat) : Int) := by omega
    have hiv' : ((pos + k : Nat) : Int) - 1 = (pos : Int) + (k : Int) - 1 := by omega
    have hi := ih (l.set (pos + k) (digit out)) (out / 10) F' (by simp; omega) (by simp; omega) (by omega)
    rewrite [hiv, forLoop_next _ _ _ _ _ _ ((hc l out _).trans (by rw [decide_eq_true (by omega)]))
      (hb l out (pos + k) (by omega) h2) (hp _ _ (pos + k) (by simp; omega) (by simp; omega)), hiv', hi]
    simp [C16.digitLoop]

/-- `'0' + byte(out%10)` as the interpreter computes it -/
theorem digit_eval (out : Nat) : Nat.toUInt8 ((48 + (((out % 10 : Nat) : Int) % 2 ^ 8).toNat) % 2 ^ 8) = digit out := by
  have h1 : (((out % 10 : Nat) : Int) % 2 ^ 8).toNat = out % 10 := by omega
  have h2 : (48 + out % 10) % 2 ^ 8 = 48 + out % 10 := by omega
  rw [h1, h2]
  rfl

/-- `// XYZ`, second loop (`for i := n + outLen - 1; i >= n; i--`): the slice is variable 1, 6 `n`, 7 `i` -/
theorem digit_loop_int (Γ : Env) (d neg olen dE : Val) (sp : List Byte) (pos : Nat) : ∀ (k : Nat) (l : List Byte) (out F : Nat) (iv : Int),
    iv = (pos : Int) + (k : Int) - 1 → pos + k ≤ l.length → l.length < 2 ^ 62 → k < F →
    forLoop (condOf Γ (E.cmp COp.ge (E.var 7) (E.var 6))) (execOf Γ (S.scope (S.block (digitStmts 1 7))))
        (execOf Γ (S.block [S.assign 7 (E.bin AOp.sub (E.var 7) (E.i 64 1))])) F
        [d, .bytes l sp, neg, .u 64 out, olen, dE, .i 64 pos, .i 64 iv] =
      .next [d, .bytes (C16.digitLoop l pos k out).1 sp, neg, .u 64 (C16.digitLoop l pos k out).2, olen, dE, .i 64 pos, .i 64 ((pos : Int) - 1)] := by
  intro k l out F iv hiv
  subst hiv
  refine digit_loop Γ _ _ _ (fun l out iv => [d, .bytes l sp, neg, .u 64 out, olen, dE, .i 64 pos, .i 64 iv]) (fun l out iv => [d, .bytes l sp, neg, .u 64 out, olen, dE, .i 64 pos, .i 64 iv]) pos ?_ ?_ ?_ k l out F
  · intro l out iv
    rfl
  · intro l out i h1 h2
    rw [← digit_eval]
    apply scope_next
    xstep (setIndex_of rfl rfl rfl rfl (Int.natCast_nonneg i) (Int.ofNat_lt.mpr h1))
    xstep
    rfl
    rfl
  · intro l out i h2 h1
    rw [← wrapS64 ((i : Int) - 1) (by omega) (by omega)]
    xstep
    rfl
/-- `// 0.XYZ` (`for i := n + ePos - 1; i >= n; i--`): the slice is variable 7, 8 `n`, 9 `i` -/
theorem digit_loop_frac (Γ : Env) (d b0 neg olen dE ePos : Val) (sp : List Byte) (pos : Nat) : ∀ (k : Nat) (l : List Byte) (out F : Nat) (iv : Int),
    iv = (pos : Int) + (k : Int) - 1 → pos + k ≤ l.length → l.length < 2 ^ 62 → k < F →
    forLoop (condOf Γ (E.cmp COp.ge (E.var 9) (E.var 8))) (execOf Γ (S.scope (S.block (digitStmts 7 9))))
        (execOf Γ (S.block [S.assign 9 (E.bin AOp.sub (E.var 9) (E.i 64 1))])) F
        [d, b0, neg, .u 64 out, olen, dE, ePos, .bytes l sp, .i 64 pos, .i 64 iv] =
      .next [d, b0, neg, .u 64 (C16.digitLoop l pos k out).2, olen, dE, ePos, .bytes (C16.digitLoop l pos k out).1 sp, .i 64 pos, .i 64 ((pos : Int) - 1)] := by
  intro k l out F iv hiv
  subst hiv
  refine digit_loop Γ _ _ _ (fun l out iv => [d, b0, neg, .u 64 out, olen, dE, ePos, .bytes l sp, .i 64 pos, .i 64 iv]) (fun l out iv => [d, b0, neg, .u 64 out, olen, dE, ePos, .bytes l sp, .i 64 pos, .i 64 iv]) pos ?_ ?_ ?_ k l out F
  · intro l out iv
    rfl
  · intro l out i h1 h2
    rw [← digit_eval]
    apply scope_next
    xstep (setIndex_of rfl rfl rfl rfl (Int.natCast_nonneg i) (Int.ofNat_lt.mpr h1))
    xstep
    rfl
    rfl
  · intro l out i h2 h1
    rw [← wrapS64 ((i : Int) - 1) (by omega) (by omega)]
    xstep
    rfl
/-- `// Y.XZ`, second loop (`for ; i >= end; i--`): the slice is variable 1, 8 `i`, 9 `end` -/
theorem digit_loop_mixedB (Γ : Env) (d neg olen dE ePos nn : Val) (sp : List Byte) (pos : Nat) : ∀ (k : Nat) (l : List Byte) (out F : Nat) (iv : Int),
    iv = (pos : Int) + (k : Int) - 1 → pos + k ≤ l.length → l.length < 2 ^ 62 → k < F →
    forLoop (condOf Γ (E.cmp COp.ge (E.var 8) (E.var 9))) (execOf Γ (S.scope (S.block (digitStmts 1 8))))
        (execOf Γ (S.block [S.assign 8 (E.bin AOp.sub (E.var 8) (E.i 64 1))])) F
        [d, .bytes l sp, neg, .u 64 out, olen, dE, ePos, nn, .i 64 iv, .i 64 pos] =
      .next [d, .bytes (C16.digitLoop l pos k out).1 sp, neg, .u 64 (C16.digitLoop l pos k out).2, olen, dE, ePos, nn, .i 64 ((pos : Int) - 1), .i 64 pos] := by
  intro k l out F iv hiv
  subst hiv
  refine digit_loop Γ _ _ _ (fun l out iv => [d, .bytes l sp, neg, .u 64 out, olen, dE, ePos, nn, .i 64 iv, .i 64 pos]) (fun l out iv => [d, .bytes l sp, neg, .u 64 out, olen, dE, ePos, nn, .i 64 iv, .i 64 pos]) pos ?_ ?_ ?_ k l out F
  · intro l out iv
    rfl
  · intro l out i h1 h2
    rw [← digit_eval]
    apply scope_next
    xstep (setIndex_of rfl rfl rfl rfl (Int.natCast_nonneg i) (Int.ofNat_lt.mpr h1))
    xstep
    rfl
    rfl
  · intro l out i h2 h1
    rw [← wrapS64 ((i : Int) - 1) (by omega) (by omega)]
    xstep
    rfl

/-- `for ; ePos > 0; i-- { b[i] = '0' + byte(out%10); out /= 10; ePos-- }` -/
theorem digit_loop_mixedA (Γ : Env) (d neg olen dE nn endv : Val) (sp : List Byte) (pos : Nat) :
    ∀ (k : Nat) (l : List Byte) (out F : Nat) (iv : Int),
    iv = (pos : Int) + (k : Int) - 1 → pos + k ≤ l.length → l.length < 2 ^ 62 → k < F →
    forLoop (condOf Γ (E.cmp COp.gt (E.var 6) (E.i 64 0)))
        (execOf Γ (S.scope (S.block (digitStmts 1 8 ++ [S.assign 6 (E.bin AOp.sub (E.var 6) (E.i 64 1))]))))
        (execOf Γ (S.block [S.assign 8 (E.bin AOp.sub (E.var 8) (E.i 64 1))])) F
        [d, .bytes l sp, neg, .u 64 out, olen, dE, .i 64 k, nn, .i 64 iv, endv] =
      .next [d, .bytes (C16.digitLoop l pos k out).1 sp, neg, .u 64 (C16.digitLoop l pos k out).2, olen, dE, .i 64 0, nn,
        .i 64 ((pos : Int) - 1), endv] := by
  intro k l out F iv hiv h1 h2 hF
  subst hiv
  have e1 : (k : Int) = (pos : Int) + (k : Int) - 1 - (pos : Int) + 1 := by omega
  have e2 : (0 : Int) = (pos : Int) - 1 - (pos : Int) + 1 := by omega
  rewrite [congrArg (Val.i 64) e1, congrArg (Val.i 64) e2]
  refine digit_loop Γ _ _ _ (fun l out iv => [d, .bytes l sp, neg, .u 64 out, olen, dE, .i 64 (iv - (pos : Int) + 1), nn, .i 64 iv, endv])
    (fun l out iv => [d, .bytes l sp, neg, .u 64 out, olen, dE, .i 64 (iv - (pos : Int)), nn, .i 64 iv, endv]) pos ?_ ?_ ?_ k l out F h1 h2 hF
  · intro l out iv
    show some (decide (iv - (pos : Int) + 1 > 0)) = _
    exact congrArg some (decide_eq_decide.mpr ⟨by omega, by omega⟩)
  · intro l out i h1 h2
    have hw : wrapS 64 ((i : Int) - (pos : Int) + 1 - 1) = (i : Int) - (pos : Int) := by rw [wrapS64] <;> omega
    rw [← digit_eval]
    apply scope_next
    xstep (setIndex_of rfl rfl rfl rfl (Int.natCast_nonneg i) (Int.ofNat_lt.mpr h1))
    xstep
    xstep (assign_of rfl (bin_of rfl rfl (congrArg (fun z => some (Val.i 64 z)) hw)))
    rfl
    rfl
  · intro l out i h2 h1
    rw [← wrapS64 ((i : Int) - 1) (by omega) (by omega), show wrapS 64 ((i : Int) - 1) - (pos : Int) + 1 = (i : Int) - (pos : Int) by
      rw [wrapS64 _ (by omega) (by omega)]; omega]
    xstep
    rfl

/-! ## the three layouts -/

theorem writeZeros_length : ∀ (k : Nat) (l : List Byte) (p : Nat), (writeZeros l p k).length = l.length := by
  intro k
  induction k with
  | zero => intro l p; rfl
  | succ k ih => intro l p; simp [writeZeros, ih]

theorem digitLoop_len (pos k : Nat) (l : List Byte) (out : Nat) : (C16.digitLoop l pos k out).1.length = l.length := by
  rw [C16.digitLoop_eq]; exact writeDigits_length ..

theorem exec_layoutInt (Γ : Env) (x7 : List Byte)
    (hss : SizeSliceOk Γ x7)
    (d neg : Val) (c sp : List Byte) (m olen dE : Nat) (hlen : c.length + sp.length < 2 ^ 60) (ho : olen < 2 ^ 20) (hd : dE < 2 ^ 20)
    (hf1 : dE < Γ.fuel) (hf2 : olen < Γ.fuel) :
    layoutIntPart.exec Γ [d, .bytes c sp, neg, .u 64 m, .i 64 olen, .i 64 dE] =
      .ret (bufVal (layoutInt ⟨c, sp⟩ m olen dE x7)) := by
  have hcall := hss c sp (dE + olen) (by omega) (by omega)
  have hl := C16.sizeSlice_len ⟨c, sp⟩ (dE + olen) x7
  unfold layoutInt
  simp only at hl ⊢
  generalize sizeSlice ⟨c, sp⟩ (dE + olen) x7 = b1 at hcall hl ⊢
  obtain ⟨c1, sp1⟩ := b1
  simp only at hl ⊢
  simp only [layoutIntPart]
  have hwz : wrapS 64 ((dE : Int) + (olen : Int)) = ((dE + olen : Nat) : Int) := by rw [wrapS64] <;> omega
  have hwl := writeZeros_length dE c1 (olen + c.length)
  have hiv : wrapS 64 (wrapS 64 ((c.length : Int) + (olen : Int)) - 1) = (c.length : Int) + (olen : Int) - 1 := by
    rw [wrapS64 ((c.length : Int) + (olen : Int)) (by omega) (by omega), wrapS64 _ (by omega) (by omega)]
  apply scope_ret
  xstep
  xstep (assign_of rfl
    (call2_of rfl (bin_of rfl rfl (congrArg (fun z => some (Val.i 64 z)) hwz)) hcall))
  unfold bufVal; xlit
  xstep (for_next rfl
    (zero_loop Γ d neg (.u 64 m) sp1 olen dE c.length dE c1 c.length Γ.fuel (by omega) (by omega) (by omega) hf1) rfl)
  xstep (for_next rfl
    (digit_loop_int Γ d neg (.i 64 olen) (.i 64 dE) sp1 c.length olen (writeZeros c1 (olen + c.length) dE) m Γ.fuel _ hiv
      (by omega) (by omega) hf2) rfl)
  refine (block_ret rfl).trans ?_
  rw [C16.digitLoop_eq, Nat.add_comm olen c.length]

/-- `x6` comes with `Γ.fresh 6 = x6` (likewise `x5` in `exec_appendF`) so that the statement is about variables -/
theorem exec_layoutFrac (Γ : Env) (x6 x7 : List Byte) (h6 : Γ.fresh 6 = x6)
    (hss : SizeSliceOk Γ x7)
    (d neg olen dE : Val) (c sp : List Byte) (m ePos : Nat) (hlen : c.length + sp.length < 2 ^ 60) (hx6 : x6.length < 2 ^ 60)
    (he : ePos < 2 ^ 20) (hf : ePos < Γ.fuel) :
    layoutFracPart.exec Γ [d, .bytes c sp, neg, .u 64 m, olen, dE, .i 64 ePos] =
      .ret (bufVal (C16.layoutFrac ⟨c, sp⟩ m ePos x6 x7)) := by
  unfold C16.layoutFrac
  have hb0 := appendTo_eq c sp [48, 46] x6
  have hc0 : (C16.appendBytes ⟨c, sp⟩ [48, 46] x6).content = c ++ [48, 46] := C16.appendBytes_content _ _ _
  have hs0 : (C16.appendBytes ⟨c, sp⟩ [48, 46] x6).spare.length < 2 ^ 60 := by
    unfold C16.appendBytes; simp only []; split
    · simp; omega
    · exact hx6
  generalize C16.appendBytes ⟨c, sp⟩ [48, 46] x6 = b0 at hb0 hc0 hs0 ⊢
  obtain ⟨c0, sp0⟩ := b0
  rw [← h6] at hb0
  simp only at hc0 hs0 ⊢
  have hl0 : c0.length = c.length + 2 := by rw [hc0]; simp
  have hcall := hss c0 sp0 ePos (by omega) (by omega)
  have hl := C16.sizeSlice_len ⟨c0, sp0⟩ ePos x7
  generalize sizeSlice ⟨c0, sp0⟩ ePos x7 = b1 at hcall hl ⊢
  obtain ⟨c1, sp1⟩ := b1
  simp only at hl ⊢
  simp only [layoutFracPart]
  have hiv : wrapS 64 (wrapS 64 ((c0.length : Int) + (ePos : Int)) - 1) = (c0.length : Int) + (ePos : Int) - 1 := by
    rw [wrapS64 ((c0.length : Int) + (ePos : Int)) (by omega) (by omega), wrapS64 _ (by omega) (by omega)]
  apply scope_ret
  xstep (define_of rfl (congrArg some hb0))
  unfold bufVal; xlit
  xstep
  xstep (assign_of rfl (call2_of rfl rfl hcall))
  unfold bufVal; xlit
  xstep (for_next rfl
    (digit_loop_frac Γ d (.bytes c sp) neg olen dE (.i 64 ePos) sp1 c0.length ePos c1 m Γ.fuel _ hiv (by omega) (by omega) hf) rfl)
  exact block_ret rfl

theorem exec_layoutMixed (Γ : Env) (x7 : List Byte)
    (hss : SizeSliceOk Γ x7)
    (d neg dE : Val) (c sp : List Byte) (m olen ePos : Nat) (hlen : c.length + sp.length < 2 ^ 60) (ho : olen < 2 ^ 20)
    (he : ePos < olen) (hf : olen < Γ.fuel) :
    (S.block layoutMixedPart).exec Γ [d, .bytes c sp, neg, .u 64 m, .i 64 olen, dE, .i 64 ePos] =
      .ret (bufVal (C16.layoutMixed ⟨c, sp⟩ m olen ePos x7)) := by
  unfold C16.layoutMixed
  have hcall := hss c sp (olen + 1) (by omega) (by omega)
  have hl := C16.sizeSlice_len ⟨c, sp⟩ (olen + 1) x7
  generalize sizeSlice ⟨c, sp⟩ (olen + 1) x7 = b1 at hcall hl ⊢
  obtain ⟨c1, sp1⟩ := b1
  simp only at hl ⊢
  -- the mirror's positions get names and the equations that place them: `omega` below meets no truncated subtraction
  generalize hpA : c1.length - 1 + 1 - ePos = pA
  replace hpA : pA + ePos = c1.length := by omega
  generalize hi1 : c1.length - 1 - ePos = i1
  replace hi1 : i1 + ePos + 1 = c1.length := by omega
  generalize hpB : c1.length - 1 - olen = pB
  replace hpB : pB + olen + 1 = c1.length := by omega
  generalize hkB : i1 - pB = kB
  replace hkB : pB + kB = i1 := by omega
  have hw1 : wrapS 64 ((olen : Int) + 1) = ((olen + 1 : Nat) : Int) := by rw [wrapS64] <;> omega
  have hend : wrapS 64 (wrapS 64 ((c1.length : Int) - 1) - (olen : Int)) = (pB : Int) := by
    rw [wrapS64 ((c1.length : Int) - 1) (by omega) (by omega), wrapS64 _ (by omega) (by omega)]; omega
  have hivA : wrapS 64 ((c1.length : Int) - 1) = (pA : Int) + (ePos : Int) - 1 := by
    rw [wrapS64 _ (by omega) (by omega)]; omega
  have hj : (pA : Int) - 1 = (i1 : Int) := by omega
  have hivB : wrapS 64 ((pA : Int) - 1 - 1) = (pB : Int) + (kB : Int) - 1 := by
    rw [wrapS64 _ (by omega) (by omega)]; omega
  simp only [layoutMixedPart]
  xstep (assign_of rfl
    (call2_of rfl (bin_of rfl rfl (congrArg (fun z => some (Val.i 64 z)) hw1)) hcall))
  unfold bufVal; xlit
  xstep
  xstep
  xstep (define_of rfl (bin_of rfl rfl (congrArg (fun z => some (Val.i 64 z)) hend)))
  xstep (for_next rfl
    (digit_loop_mixedA Γ d neg (.i 64 olen) dE (.i 64 c1.length) _ sp1 pA ePos c1 m Γ.fuel _ hivA
      (by omega) (by omega) (by omega)) rfl)
  generalize hrA : C16.digitLoop c1 pA ePos m = rA
  have hlA : rA.1.length = c1.length := by rw [← hrA]; exact digitLoop_len _ _ _ _
  obtain ⟨lA, oA⟩ := rA
  simp only at hlA ⊢
  xstep (setIndex_of rfl (congrArg (fun z => some (Val.i 64 z)) hj) rfl rfl (Int.natCast_nonneg _)
    (Int.ofNat_lt.mpr (by omega)))
  xstep
  xstep (for_next rfl
    (digit_loop_mixedB Γ d neg (.i 64 olen) dE (.i 64 0) (.i 64 c1.length) sp1 pB kB (lA.set i1 46) oA Γ.fuel _ hivB
      (by simp; omega) (by simp; omega) (by omega)) rfl)
  exact block_ret rfl

/-! ## `dec64.appendF` -/

theorem decimalLen64_le (u : Nat) (h : u < 2 ^ 59) : Ryu64.decimalLen64 u ≤ 18 := by
  have hb := bitLen_le u h
  unfold Ryu64.decimalLen64
  simp only []
  generalize Ryu64.bitLen64 u = B at hb
  have : (B * 1233) >>> 12 ≤ 17 := by rw [Nat.shiftRight_eq_div_pow]; omega
  omega

theorem exec_appendF_rest (Γ : Env) (x6 x7 : List Byte) (h6 : Γ.fresh 6 = x6)
    (hdl : ∀ u : Nat, u < 2 ^ 59 → Γ.call fDecimalLen [.u 64 u] = some (.i 64 (Ryu64.decimalLen64 u : Nat)))
    (hss : SizeSliceOk Γ x7)
    (negv : Val) (c sp : List Byte) (m : Nat) (e : Int) (hm : m < 2 ^ 59) (he0 : -3000 ≤ e) (he1 : e ≤ 3000)
    (hlen : c.length + sp.length < 2 ^ 60) (hx6 : x6.length < 2 ^ 60) (hf : 3100 < Γ.fuel) :
    (restOf fnAppendF.body).exec Γ [.pair (.u 64 m) (.i 32 e), .bytes c sp, negv] =
      .ret (bufVal (C16Link.appendFMag ⟨c, sp⟩ m e x6 x7)) := by
  show (S.block _).exec Γ _ = _
  have hol := decimalLen64_le m hm
  have hcall := hdl m hm
  have hwe : wrapS 64 e = e := by rw [wrapS64] <;> omega
  unfold C16Link.appendFMag
  generalize Ryu64.decimalLen64 m = olen at hol hcall ⊢
  xstep
  xstep (define_of rfl (call1_of rfl hcall))
  xstep
  rewrite [hwe]
  by_cases hge : e ≥ 0
  · obtain ⟨dE, rfl⟩ : ∃ dE : Nat, e = (dE : Int) := ⟨e.toNat, by omega⟩
    rewrite [if_pos hge, Int.toNat_natCast]
    exact block_ret ((if_enter (decide_eq_true hge) rfl).trans
      (exec_layoutInt Γ x7 hss _ _ c sp m olen dE hlen (by omega) (by omega) (by omega) (by omega)))
  · obtain ⟨ePos, rfl⟩ : ∃ ePos : Nat, e = -(ePos : Int) := ⟨(-e).toNat, by omega⟩
    have hw : wrapS 64 (- -(ePos : Int)) = (ePos : Int) := by rw [Int.neg_neg, wrapS64] <;> omega
    rewrite [if_neg hge, Int.neg_neg, Int.toNat_natCast]
    refine block_step (if_skip (decide_eq_false hge) rfl) ?_
    xstep
    rewrite [hw]
    unfold C16.appendFNeg
    by_cases hfr : ePos ≥ olen
    · rewrite [if_pos hfr]
      exact block_ret ((if_enter (decide_eq_true (Int.ofNat_le.mpr hfr)) rfl).trans
        (exec_layoutFrac Γ x6 x7 h6 hss _ _ _ _ c sp m ePos hlen hx6 (by omega) (by omega)))
    · rewrite [if_neg hfr]
      refine block_step (if_skip (decide_eq_false (fun h => hfr (Int.ofNat_le.mp h))) rfl) ?_
      exact exec_layoutMixed Γ x7 hss _ _ _ c sp m olen ePos hlen (by omega) (by omega) (by omega)

theorem exec_appendF (Γ : Env) (x5 x6 x7 : List Byte) (h5 : Γ.fresh 5 = x5) (h6 : Γ.fresh 6 = x6)
    (hdl : ∀ u : Nat, u < 2 ^ 59 → Γ.call fDecimalLen [.u 64 u] = some (.i 64 (Ryu64.decimalLen64 u : Nat)))
    (hss : SizeSliceOk Γ x7)
    (neg : Bool) (c sp : List Byte) (m : Nat) (e : Int) (hm : m < 2 ^ 59) (he0 : -3000 ≤ e) (he1 : e ≤ 3000)
    (hlen : c.length + sp.length < 2 ^ 59) (hx5 : x5.length < 2 ^ 59) (hx6 : x6.length < 2 ^ 60) (hf : 3100 < Γ.fuel) :
    fnAppendF.body.exec Γ [.pair (.u 64 m) (.i 32 e), .bytes c sp, .bool neg] =
      .ret (bufVal (C16Link.appendF ⟨c, sp⟩ neg m e x5 x6 x7)) := by
  unfold C16Link.appendF
  simp only [fnAppendF, List.cons_append, List.nil_append]
  cases neg
  · refine block_step (if_skip rfl rfl) ?_
    exact exec_appendF_rest Γ x6 x7 h6 hdl hss _ c sp m e hm he0 he1 (by omega) hx6 hf
  · have hb := appendTo_eq c sp [45] x5
    have hl : (C16.appendBytes ⟨c, sp⟩ [45] x5).content.length + (C16.appendBytes ⟨c, sp⟩ [45] x5).spare.length < 2 ^ 60 := by
      unfold C16.appendBytes; simp only []; split
      · simp; omega
      · simp; omega
    generalize C16.appendBytes ⟨c, sp⟩ [45] x5 = b' at hb hl ⊢
    obtain ⟨c', sp'⟩ := b'
    rw [← h5] at hb
    xstep ((if_enter rfl rfl).trans (scope_assign rfl (congrArg some hb)))
    unfold bufVal; xlit
    exact exec_appendF_rest Γ x6 x7 h6 hdl hss _ c' sp' m e hm he0 he1 hl hx6 hf

/-- `d.appendF(b, neg)` is the mirror `C16Link.appendF`: the sign, `decimalLen64`, the three layouts — buffer for buffer
(content and spare capacity), with `fr 5`, `fr 6`, `fr 7` what the three `append`s that may allocate leave behind -/
theorem call_appendF (F : Nat) (fr : Nat → List UInt8) (n : Nat) (hF : 3100 < F) (neg : Bool) (c sp : List Byte) (m : Nat) (e : Int)
    (hm : m < 2 ^ 59) (he0 : -3000 ≤ e) (he1 : e ≤ 3000) (hlen : c.length + sp.length < 2 ^ 59)
    (hx5 : (fr 5).length < 2 ^ 59) (hx6 : (fr 6).length < 2 ^ 60) :
    callAt canonFns T F fr (n+4) fAppendF [.pair (.u 64 m) (.i 32 e), .bytes c sp, .bool neg] =
      some (bufVal (C16Link.appendF ⟨c, sp⟩ neg m e (fr 5) (fr 6) (fr 7))) :=
  call_of look_appendF rfl
    (exec_appendF (env F fr (n+3)) (fr 5) (fr 6) (fr 7) rfl rfl (by rw [env_call]; exact call_decimalLen64 F fr (n+1))
      (by unfold SizeSliceOk; rw [env_call]; exact call_sizeSlice F fr (n+2)) neg c sp m e hm he0 he1 hlen hx5 hx6 (by rw [env_fuel]; exact hF))

/-! ## `AppendFloat64f` -/

theorem exec_appendFloat (Γ : Env) (x5 x6 x7 : List Byte) (c sp : List Byte) (bits mant exp xm dm : Nat) (xe de : Int) (ok : Bool)
    (hmant : bits % 2 ^ 52 = mant) (hexp : bits / 2 ^ 52 % 2048 = exp)
    (hfin : exp ≠ 2047) (hnz : mant ≠ 0 ∨ exp ≠ 0)
    (hei : Γ.call fExactInt [.u 64 mant, .u 64 exp] = some (.pair (.pair (.u 64 xm) (.i 32 xe)) (.bool ok)))
    (htd : Γ.call fToDecimal [.u 64 mant, .u 64 exp] = some (.pair (.u 64 dm) (.i 32 de)))
    (haf : ∀ (neg : Bool), Γ.call fAppendF [.pair (.u 64 (if ok then xm else dm)) (.i 32 (if ok then xe else de)), .bytes c sp, .bool neg] =
      some (bufVal (C16Link.appendF ⟨c, sp⟩ neg (if ok then xm else dm) (if ok then xe else de) x5 x6 x7))) :
    fnAppendFloat.body.exec Γ [.bytes c sp, .f64 bits] =
      .ret (bufVal (C16Link.appendF ⟨c, sp⟩ (bits >>> 63 != 0) (if ok then xm else dm) (if ok then xe else de) x5 x6 x7)) := by
  simp only [fnAppendFloat]
  -- the shifts by a literal keep their range test in the value: it is resolved by `if_pos` here, not by unfolding `>>>` at the end
  have h63 : ((if 63 < 64 then bits >>> 63 else 0) != 0) = (bits >>> 63 != 0) := by rw [if_pos (by decide)]
  have hm : bits &&& (2 ^ 52 - 1) = mant := (Nat.and_two_pow_sub_one_eq_mod bits 52).trans hmant
  have hx : (if 52 < 64 then bits >>> 52 else 0) &&& (2 ^ 11 - 1) = exp := by
    rw [if_pos (by decide), Nat.and_two_pow_sub_one_eq_mod, Nat.shiftRight_eq_div_pow]; exact hexp
  have hcond : ((exp == 2047) || (exp == 0 && mant == 0)) = false := by
    rcases hnz with h | h <;> simp [hfin, h]
  xstep
  xstep (define_of rfl (cmp_of rfl rfl (congrArg some h63)))
  xstep (define_of rfl (bin_of rfl rfl (congrArg (fun n => some (Val.u 64 n)) hm)))
  xstep (define_of rfl (bin_of rfl rfl (congrArg (fun n => some (Val.u 64 n)) hx)))
  refine block_step (if_skip hcond (or_of rfl (and_of rfl rfl))) ?_
  xstep (define2_of rfl rfl (call2_of rfl rfl hei))
  cases ok
  · xstep ((if_enter rfl rfl).trans (scope_assign rfl (call2_of rfl rfl htd)))
    exact block_ret (ret_of (call3_of rfl rfl rfl (haf _)))
  · refine block_step (if_skip rfl rfl) ?_
    exact block_ret (ret_of (call3_of rfl rfl rfl (haf _)))

/-! ## the exponents of the two decimals are small: what `gen_appendf_semantics` needs for `call_appendF` -/

theorem exactInt_e_bound (mant exp : Nat) (X : Ryu64.Dec64) (ok : Bool) (h : Ryu64.float64ToDecimalExactInt mant exp = (X, ok)) :
    0 ≤ X.e ∧ X.e ≤ 20 := by
  unfold Ryu64.float64ToDecimalExactInt at h
  dsimp only at h
  split at h
  · have := (Prod.mk.inj h).1; subst this; simp
  · split at h
    · have := (Prod.mk.inj h).1; subst this; simp
    · have := (Prod.mk.inj h).1; subst this
      rw [C16Core.exactIntLoop_eq]
      have := C16Core.factorCount_le 10 20 (Ryu64.shr64 (mant ||| Ryu64.shl64 1 Ryu64.mantBits64) (Ryu64.mantBits64 - Ryu64.subU64 exp Ryu64.bias64))
      simp only at this ⊢
      omega

theorem toDecimal_e_bound (mant exp : Nat) (ok3 : Step3Ok exp) :
    -3000 ≤ (Ryu64.float64ToDecimal mant exp).e ∧ (Ryu64.float64ToDecimal mant exp).e ≤ 3000 := by
  have hfd : (Ryu64.float64ToDecimal mant exp).e =
      (Ryu64.step3 mant exp).e10 + (Ryu64.step4 (Ryu64.step3 mant exp) (Ryu64.acceptBoundsOf mant exp)).2 := rfl
  rw [hfd]
  have he10 := ok3.e10 mant
  generalize Ryu64.step3 mant exp = s3 at he10 ⊢
  unfold Ryu64.step4
  split
  · rw [step4General_gen]
    have := genFinal_removed s3
    simp only
    omega
  · rw [step4Common_com]
    have := comFinal_removed s3
    simp only
    omega

end QF.Props.C16RyuGen
