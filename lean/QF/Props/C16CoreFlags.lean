import QF.Props.C16CoreMain
/-!
# C16 — the Ryu core: the flags of step 3 are sound; `ryu_shortest_partial`

`step3PosQ_spec`, `step3NegQ_spec` (`C16CoreMain`) say when exactly the code sets `vmIsTrailingZeros`, `vrIsTrailingZeros` and
decrements `vp`. `pos_sound`, `neg_sound`: with `multipleOfPowerOfFive64_iff` / `multipleOfPowerOfTwo64_iff` and the coprimality of 2 and 5
these decisions are sound for the scaled interval ends and value in the sense `Sem` needs (`flags_sound`), including
* the cut-off `q ≤ 21` of the branch `e2 ≥ 0`: for `q ≥ 22` an unnoticed multiple of 10 would need `5^23 ∣ mp` or `5^23 ∣ mm`,
  which forces a significand of the wrong parity (`mult_pow23_cases`),
* the cut-off `q < 63` and the `q − 1` of the branch `e2 < 0`, which sets `vrIsTrailingZeros` also for half-integers
  (harmless: `half_int_tie`).
`ryu_shortest_partial`: the mirror's decimal satisfies `Spec` under the hypothesis that the three `mulShift64` products are
exact floors; `ryu_shortest` (C16Precision.lean) is the statement without that hypothesis.
-/
namespace QF.Props.C16Core
open QF.Ryu64

/-! ## the conclusions of step 3 about trailing zeros are sound -/

theorem coprime_two_five_pow (a b : Nat) : Nat.Coprime (2 ^ a) (5 ^ b) := Nat.Coprime.pow a b (by decide)
theorem coprime_five_two_pow (a b : Nat) : Nat.Coprime (5 ^ a) (2 ^ b) := Nat.Coprime.pow a b (by decide)

/-- a power of two divides `a · 5^i` iff it divides `a` -/
theorem two_pow_dvd_mul_iff (q a i : Nat) : 2 ^ q ∣ a * 5 ^ i ↔ 2 ^ q ∣ a :=
  ⟨fun h => Nat.Coprime.dvd_of_dvd_mul_right (coprime_two_five_pow q i) h, fun h => Nat.dvd_trans h (Nat.dvd_mul_right _ _)⟩

/-- a power of five divides `a · 2^e` iff it divides `a` -/
theorem five_pow_dvd_mul_iff (q a e : Nat) : 5 ^ q ∣ a * 2 ^ e ↔ 5 ^ q ∣ a :=
  ⟨fun h => Nat.Coprime.dvd_of_dvd_mul_right (coprime_five_two_pow q e) h, fun h => Nat.dvd_trans h (Nat.dvd_mul_right _ _)⟩

theorem four_dvd_two_pow (q : Nat) (h : 2 ≤ q) : 4 ∣ 2 ^ q := by
  have : (4 : Nat) = 2 ^ 2 := rfl
  rw [this]; exact Nat.pow_dvd_pow 2 h

theorem subU64_one (raw : Nat) (h1 : 1 ≤ raw) (h2 : raw < 2 ^ 64) : subU64 raw 1 = raw - 1 := by
  unfold subU64; omega

/-- what `Sem` needs to know about the flags and the `vp--` of step 3, for the scaled interval ends `mm·N/D`, `mp·N/D` and the
scaled value `mv·N/D` (`raw` is the `mulShift64` result for `mp`) -/
def FlagsSound (mm mv mp N D vp raw : Nat) (acc vmTZ vrTZ : Bool) : Prop :=
  (vp = raw → acc = false → D ∣ mp * N → ¬ 10 ∣ mp * N / D) ∧
  (vp ≠ raw → acc = false ∧ D ∣ mp * N) ∧
  (vmTZ = true → acc = true ∧ D ∣ mm * N) ∧
  (acc = true → D ∣ mm * N → vmTZ = false → ¬ 10 ∣ mm * N / D) ∧
  (vrTZ = true → (D ∣ mv * N ∨ (D ∣ 2 * (mv * N) ∧ 5 ∣ 2 * (mv * N) / D)))

/-- soundness of the flags of the branch `e2 < 0` (scale `5^i / 2^q`, `i ≥ 1`) -/
theorem neg_sound (q i m2 s vp raw : Nat) (acc vmTZ vrTZ : Bool) (hi : 1 ≤ i) (hm1 : 1 ≤ m2) (hm2 : m2 < 2 ^ 53) (hs : s ≤ 1)
    (hraw1 : 1 ≤ raw) (hraw2 : raw < 2 ^ 64) (F : NegFlags q s (4 * m2) vp raw acc vmTZ vrTZ) :
    FlagsSound (4 * m2 - 1 - s) (4 * m2) (4 * m2 + 2) (5 ^ i) (2 ^ q) vp raw acc vmTZ vrTZ := by
  obtain ⟨fvm, fvr, fvp1, fvp2⟩ := F
  unfold FlagsSound
  have hq1 : ∀ a : Nat, a % 2 = 0 → q ≤ 1 → 2 ^ q ∣ a := by
    intro a ha hq
    have : q = 0 ∨ q = 1 := by omega
    rcases this with h | h <;> subst h
    · exact Nat.one_dvd _
    · exact Nat.dvd_of_mod_eq_zero ha
  refine ⟨?_, ?_, ?_, ?_, ?_⟩
  · intro hv ha hd
    exfalso
    rw [two_pow_dvd_mul_iff] at hd
    have hq : q ≤ 1 := by
      apply Nat.le_of_not_lt; intro hq
      have := Nat.dvd_trans (four_dvd_two_pow q hq) hd
      omega
    have := fvp2 ⟨hq, ha⟩
    rw [subU64_one raw hraw1 hraw2] at this
    omega
  · intro hv
    obtain ⟨hq, ha⟩ := fvp1 hv
    exact ⟨ha, (two_pow_dvd_mul_iff _ _ _).mpr (hq1 _ (by omega) hq)⟩
  · intro hv
    obtain ⟨hq, ha, hs1⟩ := fvm.mp hv
    subst hs1
    exact ⟨ha, (two_pow_dvd_mul_iff _ _ _).mpr (hq1 _ (by omega) hq)⟩
  · intro ha hd hv h10
    have hd' := (two_pow_dvd_mul_iff _ _ _).mp hd
    have hq : q ≤ 1 := by
      apply Nat.le_of_not_lt; intro hq
      have := Nat.dvd_trans (four_dvd_two_pow q hq) hd'
      omega
    have hs0 : s = 0 := by
      apply Classical.byContradiction; intro hne
      have : vmTZ = true := fvm.mpr ⟨hq, ha, by omega⟩
      rw [this] at hv; cases hv
    subst hs0
    have hq0 : q = 0 := by
      apply Classical.byContradiction; intro hne
      have hq1' : q = 1 := by omega
      subst hq1'
      have : 2 ∣ 4 * m2 - 1 - 0 := hd'
      omega
    subst hq0
    rw [Nat.pow_zero, Nat.div_one] at h10
    have h2 : 2 ^ 1 ∣ (4 * m2 - 1 - 0) * 5 ^ i := Nat.dvd_trans (by decide : 2 ^ 1 ∣ 10) h10
    rw [two_pow_dvd_mul_iff] at h2
    have : 2 ∣ 4 * m2 - 1 - 0 := h2
    omega
  · intro hv
    rcases fvr.mp hv with hq | ⟨hq1', hq63, hmul⟩
    · left
      exact (two_pow_dvd_mul_iff _ _ _).mpr (hq1 _ (by omega) hq)
    · right
      have hsub : subU32 q 1 = q - 1 := by unfold subU32; omega
      rw [hsub, multipleOfPowerOfTwo64_iff _ _ (by omega) (by omega)] at hmul
      obtain ⟨c, hc⟩ := hmul
      obtain ⟨i', rfl⟩ : ∃ i', i = i' + 1 := ⟨i - 1, by omega⟩
      have e : 2 * (4 * m2 * 5 ^ (i' + 1)) = 2 ^ q * (5 * (c * 5 ^ i')) := by
        rw [hc, show q = (q - 1) + 1 by omega, Nat.pow_succ 2, Nat.pow_succ 5]
        simp only [Nat.add_sub_cancel]
        generalize 2 ^ (q - 1) = P
        generalize 5 ^ i' = F
        rw [Nat.mul_comm P 2, Nat.mul_assoc 2 P, Nat.mul_assoc P, Nat.mul_comm F 5, Nat.mul_left_comm c 5 F]
      refine ⟨⟨_, e⟩, ?_⟩
      rw [e, Nat.mul_div_cancel_left _ (Nat.pow_pos (by decide))]
      exact Nat.dvd_mul_right _ _


/-- `10^q ∣ a · 2^e` iff `5^q ∣ a` (for `q ≤ e`) -/
theorem ten_pow_dvd_mul_iff (q e a : Nat) (hqe : q ≤ e) : 10 ^ q ∣ a * 2 ^ e ↔ 5 ^ q ∣ a := by
  have e10 : (10 : Nat) ^ q = 2 ^ q * 5 ^ q := Nat.mul_pow 2 5 q
  constructor
  · intro h
    have : 5 ^ q ∣ a * 2 ^ e := Nat.dvd_trans ⟨2 ^ q, by rw [e10, Nat.mul_comm]⟩ h
    exact (five_pow_dvd_mul_iff q a e).mp this
  · rintro ⟨c, rfl⟩
    refine ⟨c * 2 ^ (e - q), ?_⟩
    have : (2 : Nat) ^ e = 2 ^ q * 2 ^ (e - q) := by rw [← Nat.pow_add]; congr 1; omega
    rw [this, e10]
    generalize 2 ^ q = P
    generalize 5 ^ q = F
    generalize 2 ^ (e - q) = R
    rw [Nat.mul_assoc F c, Nat.mul_assoc P F, Nat.mul_left_comm c P R, Nat.mul_left_comm F P]

/-- if the quotient of `a · 2^e` by `10^q` is a multiple of 10 then `5^(q+1) ∣ a` -/
theorem five_pow_succ_dvd_of_quot (q e a : Nat) (hd : 10 ^ q ∣ a * 2 ^ e) (h10 : 10 ∣ a * 2 ^ e / 10 ^ q) :
    5 ^ (q + 1) ∣ a := by
  have h1 : 10 ^ q * 10 ∣ a * 2 ^ e := Nat.mul_dvd_of_dvd_div hd h10
  rw [← Nat.pow_succ] at h1
  have e10 : (10 : Nat) ^ (q + 1) = 2 ^ (q + 1) * 5 ^ (q + 1) := Nat.mul_pow 2 5 (q + 1)
  have : 5 ^ (q + 1) ∣ a * 2 ^ e := Nat.dvd_trans ⟨2 ^ (q + 1), by rw [e10, Nat.mul_comm]⟩ h1
  exact (five_pow_dvd_mul_iff (q + 1) a e).mp this

theorem five_dvd_of_pow_succ {q a : Nat} (h : 5 ^ (q + 1) ∣ a) : a % 5 = 0 := by
  have : 5 ∣ a := Nat.dvd_trans (Nat.dvd_mul_left 5 (5 ^ q)) (by rwa [Nat.pow_succ] at h)
  exact Nat.mod_eq_zero_of_dvd this

theorem pow23_dvd_of {q a : Nat} (hq : 22 ≤ q) (h : 5 ^ (q + 1) ∣ a) : 5 ^ 23 ∣ a :=
  Nat.dvd_trans (Nat.pow_dvd_pow 5 (by omega)) h

/-- a multiple of `5^23` below `2^56` is one of seven numbers (omega cannot work with the coefficient `5^23`) -/
theorem mult_pow23_cases (x : Nat) (hx : x < 2 ^ 56) (h : 5 ^ 23 ∣ x) :
    x = 0 ∨ x = 11920928955078125 ∨ x = 23841857910156250 ∨ x = 35762786865234375 ∨ x = 47683715820312500 ∨
    x = 59604644775390625 ∨ x = 71525573730468750 := by
  obtain ⟨j, hj⟩ := h
  have h523 : (5 : Nat) ^ 23 = 11920928955078125 := by decide +kernel
  rw [h523] at hj
  have hlt : 11920928955078125 * j < 11920928955078125 * 7 := by rw [← hj]; omega
  have hj7 : j < 7 := Nat.lt_of_mul_lt_mul_left hlt
  have hc : j = 0 ∨ j = 1 ∨ j = 2 ∨ j = 3 ∨ j = 4 ∨ j = 5 ∨ j = 6 := by clear hj hlt; omega
  rcases hc with h | h | h | h | h | h | h <;> subst h <;> simp [hj]

/-- soundness of the flags of the branch `e2 ≥ 0` (scale `2^e / 10^q`, `q ≤ e`), including the cut-off `q ≤ 21`: for
`q ≥ 22` a multiple of `5^(q+1) ≥ 5^23` among `mp`, `mm` would force a significand of the wrong parity -/
theorem pos_sound (q e m2 s vp raw : Nat) (acc vmTZ vrTZ : Bool) (hqe : q ≤ e) (hm1 : 1 ≤ m2) (hm2 : m2 < 2 ^ 53)
    (hs : s ≤ 1) (hs0 : s = 0 → m2 = 2 ^ 52) (hacc : acc = true ↔ m2 % 2 = 0)
    (hraw1 : 1 ≤ raw) (hraw2 : raw < 2 ^ 64)
    (F : PosFlags q (4 * m2) (4 * m2 - 1 - s) (4 * m2 + 2) vp raw acc vmTZ vrTZ) :
    FlagsSound (4 * m2 - 1 - s) (4 * m2) (4 * m2 + 2) (2 ^ e) (10 ^ q) vp raw acc vmTZ vrTZ := by
  obtain ⟨fvm, fvr, fvp1, fvp2⟩ := F
  unfold FlagsSound
  have i5p := multipleOfPowerOfFive64_iff (4 * m2 + 2) q (by omega) (by omega)
  have i5m := multipleOfPowerOfFive64_iff (4 * m2 - 1 - s) q (by omega) (by omega)
  have i5v := multipleOfPowerOfFive64_iff (4 * m2) q (by omega) (by omega)
  refine ⟨?_, ?_, ?_, ?_, ?_⟩
  · intro hv ha hd h10
    have h5q := (ten_pow_dvd_mul_iff q e _ hqe).mp hd
    have h5q1 := five_pow_succ_dvd_of_quot q e _ hd h10
    by_cases hq : q ≤ 21
    · by_cases h5 : 4 * m2 % 5 = 0
      · have := five_dvd_of_pow_succ h5q1; omega
      · have := fvp2 ⟨hq, h5, ha, i5p.mpr h5q⟩
        rw [subU64_one raw hraw1 hraw2] at this; omega
    · have hc := mult_pow23_cases _ (by omega) (pow23_dvd_of (by omega) h5q1)
      have hacc' : ¬ m2 % 2 = 0 := fun h => by rw [hacc.mpr h] at ha; cases ha
      omega
  · intro hv
    obtain ⟨_, _, ha, hmul⟩ := fvp1 hv
    exact ⟨ha, (ten_pow_dvd_mul_iff q e _ hqe).mpr (i5p.mp hmul)⟩
  · intro hv
    obtain ⟨_, _, ha, hmul⟩ := fvm.mp hv
    exact ⟨ha, (ten_pow_dvd_mul_iff q e _ hqe).mpr (i5m.mp hmul)⟩
  · intro ha hd hv h10
    have h5q := (ten_pow_dvd_mul_iff q e _ hqe).mp hd
    have h5q1 := five_pow_succ_dvd_of_quot q e _ hd h10
    by_cases hq : q ≤ 21
    · by_cases h5 : 4 * m2 % 5 = 0
      · have := five_dvd_of_pow_succ h5q1; omega
      · have : vmTZ = true := fvm.mpr ⟨hq, h5, ha, i5m.mpr h5q⟩
        rw [this] at hv; cases hv
    · have hc := mult_pow23_cases _ (by omega) (pow23_dvd_of (by omega) h5q1)
      have hacc' : m2 % 2 = 0 := hacc.mp ha
      have hs' : s = 0 ∨ s = 1 := by omega
      rcases hs' with h | h
      · have := hs0 h; subst h; omega
      · subst h; omega
  · intro hv
    obtain ⟨_, _, hmul⟩ := fvr.mp hv
    exact Or.inl ((ten_pow_dvd_mul_iff q e _ hqe).mpr (i5v.mp hmul))


theorem acceptBoundsOf_iff (mant exp : Nat) : acceptBoundsOf mant exp = true ↔ decodeM2 mant exp % 2 = 0 := by
  unfold acceptBoundsOf; rw [beq_iff_eq, Nat.and_one_is_mod]

theorem mmShift_zero (mant exp : Nat) (hm : mant < 2 ^ 52) (h : mmShiftOf mant exp = 0) : decodeM2 mant exp = 2 ^ 52 := by
  unfold mmShiftOf boolToNat at h
  have h' : (mant != 0 || decide (exp ≤ 1)) = false := by
    cases hb : (mant != 0 || decide (exp ≤ 1)) with
    | false => rfl
    | true => rw [hb] at h; simp at h
  simp only [Bool.or_eq_false_iff, bne_eq_false_iff_eq, decide_eq_false_iff_not] at h'
  obtain ⟨h1, h2⟩ := h'
  rw [decodeM2_eq mant exp hm, h1]
  have : exp ≠ 0 := by omega
  simp [this]

theorem le_of_ten_pow_le_two_pow {q e : Nat} (h : 10 ^ q ≤ 2 ^ e) : q ≤ e := by
  have h1 : 2 ^ q ≤ 10 ^ q := Nat.pow_le_pow_left (by decide) q
  exact (Nat.pow_le_pow_iff_right (by decide : 1 < 2)).mp (Nat.le_trans h1 h)

/-- The conclusions step 3 draws about trailing zeros and the `vp--` adjustment are sound for every finite non-zero
float (given that the `mulShift64` result for `mp` is the exact floor), in the form `Sem` asks for: `vp` is decremented only for
an excluded integral upper end and left alone for such an end only if its last digit is not 0; `vmIsTrailingZeros` is set only
for an acceptable integral lower end and left unset for such an end only if its last digit is not 0; `vrIsTrailingZeros` is set
only for an integral value or a half-integral one whose double is a multiple of 5. -/
theorem flags_sound (mant exp : Nat) (hm : mant < 2 ^ 52) (he : exp < 2047) (hnz : mant ≠ 0 ∨ exp ≠ 0)
    (Hvp : mulShift64 (mpOf (decodeM2 mant exp)) (mulOf exp) (shiftOf exp)
      = mpOf (decodeM2 mant exp) * scaleNum exp / scaleDen exp) :
    ((step3 mant exp).vp = mulShift64 (mpOf (decodeM2 mant exp)) (mulOf exp) (shiftOf exp) →
      acceptBoundsOf mant exp = false → scaleDen exp ∣ mpOf (decodeM2 mant exp) * scaleNum exp →
      ¬ 10 ∣ mpOf (decodeM2 mant exp) * scaleNum exp / scaleDen exp) ∧
    ((step3 mant exp).vp ≠ mulShift64 (mpOf (decodeM2 mant exp)) (mulOf exp) (shiftOf exp) →
      acceptBoundsOf mant exp = false ∧ scaleDen exp ∣ mpOf (decodeM2 mant exp) * scaleNum exp) ∧
    ((step3 mant exp).vmIsTrailingZeros = true →
      acceptBoundsOf mant exp = true ∧ scaleDen exp ∣ mmOf (decodeM2 mant exp) (mmShiftOf mant exp) * scaleNum exp) ∧
    (acceptBoundsOf mant exp = true →
      scaleDen exp ∣ mmOf (decodeM2 mant exp) (mmShiftOf mant exp) * scaleNum exp →
      (step3 mant exp).vmIsTrailingZeros = false →
      ¬ 10 ∣ mmOf (decodeM2 mant exp) (mmShiftOf mant exp) * scaleNum exp / scaleDen exp) ∧
    ((step3 mant exp).vrIsTrailingZeros = true →
      (scaleDen exp ∣ mvOf (decodeM2 mant exp) * scaleNum exp ∨
        (scaleDen exp ∣ 2 * (mvOf (decodeM2 mant exp) * scaleNum exp) ∧
          5 ∣ 2 * (mvOf (decodeM2 mant exp) * scaleNum exp) / scaleDen exp))) := by
  obtain ⟨hm1, hm2, hs, emv, emp, emm⟩ := factors mant exp hm hnz
  obtain ⟨hraw1, hraw2⟩ := mp_scaled_bounds mant exp hm he hnz
  rw [← Hvp, emp] at hraw1 hraw2
  by_cases h : 1077 ≤ exp
  · obtain ⟨-, -, hN, hD, -, -, a, -⟩ := scale_pos exp h (by omega)
    obtain ⟨-, -, -, F⟩ := step3_pos mant exp ((decodeE2_nonneg_iff exp).mpr h)
    rw [emv, emp, emm] at F ⊢
    rw [hN, hD]
    exact pos_sound (qOf exp) (exp - 1077) (decodeM2 mant exp) (mmShiftOf mant exp) _ _ _ _ _
      (le_of_ten_pow_le_two_pow a) hm1 hm2 hs (mmShift_zero mant exp hm) (acceptBoundsOf_iff mant exp) hraw1 hraw2 F
  · obtain ⟨i, hi, -, -, -, hN, hD, -⟩ := scale_neg exp (by omega)
    obtain ⟨-, -, -, F⟩ := step3_neg mant exp (by rw [decodeE2_nonneg_iff]; exact h)
    rw [emv, emp] at F
    rw [emv, emp, emm, hN, hD]
    exact neg_sound (qOf exp) i (decodeM2 mant exp) (mmShiftOf mant exp) _ _ _ _ _ hi hm1 hm2 hs hraw1 hraw2 F


/-- **`ryu_shortest_partial`: the mirror of `float64ToDecimal` yields the shortest, correctly rounded decimal for every finite
non-zero float64 — under the hypothesis that the three `mulShift64` results are the exact floors of the scaled quantities.**

For the fields `mant < 2^52`, `exp < 2047` (not both 0) let `m2`, `e2` be the significand and the exponent − 2 as step 1
computes them (`interval_value`: `4·m2 · 2^e2` is the float's value), `mv = 4·m2`, `mp = 4·m2 + 2`,
`mm = 4·m2 − 1 − mmShift` (`interval_upper`, `interval_lower`: `mp·2^e2` and `mm·2^e2` are the midpoints to the
neighbouring floats, so `[mm, mp]·2^e2` is the rounding interval, closed iff the significand is even), and
`N/D = 2^e2 / 10^e10` the scale chosen by the code (`scale_meaning`).

HYPOTHESIS: `Hvr`, `Hvp`, `Hvm` — the three calls `mulShift64(4*m2, mul, shift)`,
`mulShift64(4*m2+2, …)`, `mulShift64(4*m2-1-mmShift, …)` with the multiplier `mulOf exp` read from the extracted tables and the
shift `shiftOf exp` return exactly `⌊mv·N/D⌋`, `⌊mp·N/D⌋`, `⌊mm·N/D⌋`. By `mulShift64_exact` each call returns
`⌊m · tableEntry / 2^shift⌋`; that this equals the floor of the exact scaled quantity for all `m < 2^55` is the precision
lemma of the Ryu paper. For the 121/122-bit multipliers of this port (`pow5Split64_correct`, `pow5InvSplit64_correct`) it
holds with two exceptions (`precision`, `precision_exceptions`, `hypothesis_fails` in C16PrecisionCheck.lean), so the
hypothesis is false for two floats; `ryu_shortest` (C16Precision.lean) treats those directly and has no hypothesis.

CONCLUSION: with `d = float64ToDecimal mant exp` and `k = d.e − e10` (the number of digits removed), `d.m · 10^k` in units of
`10^e10` lies in the rounding interval (`Adm`), no decimal with fewer digits lies in it, and no decimal with the same number
of digits in the interval is closer to the exact value (`Spec`). Everything else — the loops and their fuel, the final
rounding decision, the digit bookkeeping, the trailing-zero flags of step 3 including the cut-offs `q ≤ 21`, `q < 63` and
the `q − 1` of the branch `e2 < 0`, the `vp--` adjustment, the width of the interval — is proved. -/
theorem ryu_shortest_partial (mant exp : Nat) (hm : mant < 2 ^ 52) (he : exp < 2047) (hnz : mant ≠ 0 ∨ exp ≠ 0)
    (Hvr : mulShift64 (mvOf (decodeM2 mant exp)) (mulOf exp) (shiftOf exp)
      = mvOf (decodeM2 mant exp) * scaleNum exp / scaleDen exp)
    (Hvp : mulShift64 (mpOf (decodeM2 mant exp)) (mulOf exp) (shiftOf exp)
      = mpOf (decodeM2 mant exp) * scaleNum exp / scaleDen exp)
    (Hvm : mulShift64 (mmOf (decodeM2 mant exp) (mmShiftOf mant exp)) (mulOf exp) (shiftOf exp)
      = mmOf (decodeM2 mant exp) (mmShiftOf mant exp) * scaleNum exp / scaleDen exp) :
    ∃ k : Nat, (float64ToDecimal mant exp).e = e10Of exp + (k : Int) ∧
      Spec (mmOf (decodeM2 mant exp) (mmShiftOf mant exp) * scaleNum exp) (mvOf (decodeM2 mant exp) * scaleNum exp)
        (mpOf (decodeM2 mant exp) * scaleNum exp) (scaleDen exp) (acceptBoundsOf mant exp)
        (float64ToDecimal mant exp).m k := by
  obtain ⟨Hkeep, Hdec, Hfm1, Hfm2, Hfr⟩ := flags_sound mant exp hm he hnz Hvp
  obtain ⟨f1, f2, f3, f4⟩ := step3_fields mant exp
  obtain ⟨hm1, hm2, hs, emv, emp, emm⟩ := factors mant exp hm hnz
  obtain ⟨hD, hDN, hN, hq⟩ := scale_facts exp he
  obtain ⟨a1, a2, a3, a4, a5, a6⟩ :=
    sem_arith (decodeM2 mant exp) (mmShiftOf mant exp) (scaleNum exp) (scaleDen exp) (acceptBoundsOf mant exp)
      hm1 hm2 hs hD hDN hN hq
  rw [← emm] at a1 a2 a4 a5
  rw [← emp] at a3 a4 a5 a6
  rw [← emv] at a2 a3 a4 a5
  have hsem : Sem (mmOf (decodeM2 mant exp) (mmShiftOf mant exp) * scaleNum exp) (mvOf (decodeM2 mant exp) * scaleNum exp)
      (mpOf (decodeM2 mant exp) * scaleNum exp) (scaleDen exp) (acceptBoundsOf mant exp) (step3 mant exp) :=
    { hD := hD, hA := a1, hAB := a2, hBC := a3, hgap := a4, hwide := a5
      hvm := by rw [f2, Hvm]
      hvr := by rw [f1, Hvr]
      hvp := vp_last_digit _ _ _ _ _ hD (by omega) Hvp (by rw [Hvp]; exact (mp_scaled_bounds mant exp hm he hnz).2) f3
        (fun h => Hkeep h) (fun _ h => Hdec h)
      hlt := a6
      hfm1 := Hfm1, hfm2 := Hfm2, hfr := Hfr }
  obtain ⟨k, hk1, hk2⟩ := step4_correct hsem
  refine ⟨k, ?_, hk2⟩
  show (step3 mant exp).e10 + (step4 (step3 mant exp) (acceptBoundsOf mant exp)).2 = _
  rw [f4, hk1]

end QF.Props.C16Core
