import QF.Spec.JsonRead
import QF.Spec.Render
import QF.Core.ListFacts
import QF.Props.C14ToJson
import QF.Props.C14WriterGen
import QF.Props.C14ReadJsonGen
import QF.Props.C08Construct
import QF.Props.C16Link
import QF.Props.C16LinkFinal
/-!
# C14 — `ReadJSON ∘ ToJSON`, end to end (composition)

`C14ToJson.tojson_parses` / `tojson_denotes` say what the text `ToJSON` writes denotes; `C14ReadJsonGen.gen_readjson_frame`
says that `ReadJSON` of today's source IS the spec `readJsonS` (QF/Spec/JsonRead.lean) on the parsed document. This file
links the two:

* `readjson_tojson_partial` — for every frame of the read-back half of C14's quantifier (`JsonTyped`: at least one column and
  one row, every column with `n` cells of its type, floats not NaN — an infinity is excluded by `FrameOK`, the writer's text
  for it is no JSON —; the names, as a JSON decoder returns them, distinct and legal) and every float formatter / float
  parser that fit on the frame's own numbers (`FrameOK`: a JSON number token; `ReadsBack`: the parser returns the float):
  `readJsonS pnum` of the parsed text is `.ok (jsonUnconfigured (jsonReread f))` — the driver's `jsonReread f`
  (QF/Spec/Render.lean: ints as equal-valued floats, strings as a JSON decoder returns them) with what only the
  configuration `ColumnOrder` / `Enums` could supply taken away: the columns sorted by name, enum columns as string columns.
* `gen_json_roundtrip_end_to_end_partial` — the same with the REGENERATED writer (`C14WriterGen`) and reader
  (`C14ReadJsonGen.gen_readjson_frame`).
* `float_reads_back`, `ryu_reads_back`, `ryu_text_reads_back`, `pnumS_correct` — the float clause of `ReadsBack` holds for
  every correct IEEE parser (`PnumCorrect`; the driver's `pnumS` is one) and every formatter whose text denotes the float —
  in particular the text of the Ryu pipeline (`C16Link.appendF`, by `C16Link.ryu_text_is_shortest`: `Num.parsesTo`).

The two hypotheses on formatter and parser are local to the numbers of the frame (as in `C14ToJson.tojson_parses_local`):
* `FrameOK fmt f` — the formatter's text for the frame's floats is a JSON number TOKEN (`C14ToJson.NumTok`);
* `ReadsBack pnum fmt` on the frame's cells — the parser returns the float the text denotes; for an int cell
  `pnum (intText v) = some (Num.ofDecimal (v < 0) |v| 0)`.
`QF/Props/C14RoundTrip.lean` proves both for the formatter of C16 (`ryuFmt`) and every correct parser and states the
compositions without them (`readjson_tojson`, `gen_json_roundtrip_end_to_end`), and proves the statement for the CONFIGURED
reader `ReadJSON(ColumnOrder(names), Enums(values))` the harness calls (`readjson_cfg_tojson`); here `readjson_tojson_partial` is
the statement for `ReadJSON` without configuration functions, which is what `C14ReadJsonGen.gen_readjson_frame` regenerates.
The replay driver also checks the configured statement dynamically: it evaluates `readJsonCfgS pnumS` on the bytes actually
written and compares the result with `jsonReread f` (`DRIVER-ERROR kind=expectations`).
-/
namespace QF.Props.C14EndToEnd
open QF QF.Json QF.Props.C14ToJson

/-! ## What comes back -/

/-- a cell as it is read back -/
def convCell : Cell → Cell
  | .int v => .float (Num.ofDecimal (v < 0) v.natAbs 0)
  | .str (some s) => .str (some (sanitize s))
  | c => c

/-- the type a column is read back with when nothing is declared -/
def plainTy : CType → CType
  | .int => .float
  | .enum => .string
  | t => t

/-- a column as `ReadJSON` without configuration returns it -/
def plainCol (c : LCol) : LCol := { name := sanitize c.name, ty := plainTy c.ty, cells := c.cells.map convCell }

/-- a cell of a column of type `ty` in the read-back half of the property's quantifier: of the type, a float not NaN -/
def CellTyped : CType → Cell → Prop
  | .int, .int _ => True
  | .float, .float b => F64.isNaN b = false
  | .bool, .bool _ => True
  | .string, .str _ => True
  | .enum, .str _ => True
  | _, _ => False

/-- The frames `ReadJSON ∘ ToJSON` is specified on: at least one column and one row; every column holds `n` cells of its
type, floats not NaN; the column names as a JSON decoder returns them (`sanitize`: invalid UTF-8 replaced by U+FFFD) are
distinct and legal. -/
structure JsonTyped (f : LFrame) : Prop where
  cols : f.cols ≠ []
  rows : 0 < f.n
  size : ∀ c ∈ f.cols, c.cells.size = f.n
  typed : ∀ c ∈ f.cols, ∀ r, r < f.n → CellTyped c.ty c.cells[r]!
  names : (f.cols.map fun c => sanitize c.name).Nodup
  legal : ∀ c ∈ f.cols, legalName (sanitize c.name) = true

/-- the float parser returns what the cell's number denotes: the float itself, for an int the float of equal value -/
def ReadsBack (pnum : Bytes → Option UInt64) (fmt : UInt64 → List UInt8) : Cell → Prop
  | .float b => F64.isNaN b = false → pnum (fmt b) = some b
  | .int v => pnum (intText v) = some (Num.ofDecimal (v < 0) v.natAbs 0)
  | _ => True

/-! ## One cell -/

theorem cell_link (pnum : Bytes → Option UInt64) (fmt : UInt64 → List UInt8) (ty : CType) (x : Cell)
    (ht : CellTyped ty x) (hr : ReadsBack pnum fmt x) :
    jsonNumsOk pnum (C14ToJson.cellVal fmt x) = true ∧ jsonTy (C14ToJson.cellVal fmt x) = some (plainTy ty) ∧
    jsonCell pnum (plainTy ty) (C14ToJson.cellVal fmt x) = some (convCell x) := by
  cases ty <;> cases x <;> simp only [CellTyped] at ht
  · -- int
    simp only [ReadsBack] at hr
    simp [C14ToJson.cellVal, jsonNumsOk, jsonTy, jsonCell, plainTy, convCell, hr]
  · -- float
    simp only [ReadsBack] at hr
    have := hr ht
    simp [C14ToJson.cellVal, jsonNumsOk, jsonTy, jsonCell, plainTy, convCell, ht, this]
  · simp [C14ToJson.cellVal, jsonNumsOk, jsonTy, jsonCell, plainTy, convCell]
  · rename_i s
    cases s <;> simp [C14ToJson.cellVal, jsonNumsOk, jsonTy, jsonCell, plainTy, convCell]
  · rename_i s
    cases s <;> simp [C14ToJson.cellVal, jsonNumsOk, jsonTy, jsonCell, plainTy, convCell]

/-! ## Lists -/

theorem mapM_map {α β γ : Type} (f : β → Option γ) (g : α → β) (h : α → γ) (l : List α)
    (hx : ∀ x ∈ l, f (g x) = some (h x)) : (l.map g).mapM f = some (l.map h) :=
  (ListFacts.mapM_eq_some_iff f _ _).2 (by rw [List.map_map, List.map_map]; exact List.map_congr_left hx)

theorem dedup_go (l acc : List Bytes) (h : (acc ++ l).Nodup) :
    l.foldl (fun acc x => if acc.contains x then acc else acc ++ [x]) acc = acc ++ l := by
  induction l generalizing acc with
  | nil => simp
  | cons x xs ih =>
    have hx : x ∉ acc := by
      intro hm
      have := List.nodup_append.mp h
      exact this.2.2 x hm x (by simp) rfl
    have hc : acc.contains x = false := by simpa using hx
    simp only [List.foldl_cons, hc, Bool.false_eq_true, if_false]
    rw [ih (acc ++ [x]) (by simpa using h)]
    simp

theorem dedup_nodup (l : List Bytes) (h : l.Nodup) : dedup l = l := by
  unfold dedup
  simpa using dedup_go l [] (by simpa using h)

/-- in a list of members with distinct names every name finds its own member -/
theorem get_member {α : Type} (key : α → Bytes) (val : α → JVal) (l : List α) (hnd : (l.map key).Nodup) (c : α) (hc : c ∈ l) :
    jrecGet (l.map fun x => (key x, val x)) (key c) = some (val c) := by
  have := ListFacts.find?_key_of_mem (fun p : Bytes × JVal => p.1) (l.map fun x => (key x, val x)).reverse
    (by rw [List.map_reverse, List.map_map]; exact (List.reverse_perm _).nodup_iff.2 hnd) (key c, val c)
    (List.mem_reverse.2 (List.mem_map.2 ⟨c, hc, rfl⟩))
  rw [jrecGet, this]
  rfl

/-! ## The document -/

section Doc
variable (pnum : Bytes → Option UInt64) (fmt : UInt64 → List UInt8) (f : LFrame)

/-- the records of the document `ToJSON` writes -/
def recsOf : List JRec := (List.range f.n).map (fun r => f.cols.map (kv fmt r))

theorem records_expected : jsonRecords (expected fmt f) = some (recsOf fmt f) := by
  unfold expected jsonRecords recsOf
  exact mapM_map jsonRecordOf (rowVal fmt f) (fun r => f.cols.map (kv fmt r)) _ (fun _ _ => rfl)

variable (ht : JsonTyped f) (hr : ∀ c ∈ f.cols, ∀ r, r < f.n → ReadsBack pnum fmt c.cells[r]!)
include ht hr

theorem numsOk_expected : jsonNumsOk pnum (expected fmt f) = true := by
  unfold expected
  rw [jsonNumsOk, C14ReadJsonGen.numsOkL_all, List.all_map, List.all_eq_true]
  intro r hrm
  show jsonNumsOk pnum (rowVal fmt f r) = true
  unfold rowVal
  rw [jsonNumsOk, C14ReadJsonGen.numsOkM_all, List.all_map, List.all_eq_true]
  intro c hc
  exact (cell_link pnum fmt c.ty _ (ht.typed c hc r (List.mem_range.mp hrm)) (hr c hc r (List.mem_range.mp hrm))).1

omit hr in
theorem head_recs : (recsOf fmt f).head? = some (f.cols.map (kv fmt 0)) := by
  unfold recsOf
  have : f.n ≠ 0 := Nat.ne_of_gt ht.rows
  simp [List.head?_range, this]

omit hr in
theorem get_cell (r : Nat) (c : LCol) (hc : c ∈ f.cols) :
    jrecGet (f.cols.map (kv fmt r)) (sanitize c.name) = some (C14ToJson.cellVal fmt c.cells[r]!) :=
  get_member (fun c : LCol => sanitize c.name) (fun c => C14ToJson.cellVal fmt c.cells[r]!) f.cols ht.names c hc

theorem column_link (c : LCol) (hc : c ∈ f.cols) : jsonColumnS pnum (recsOf fmt f) (sanitize c.name) = some (plainCol c) := by
  have hhead := head_recs fmt f ht
  have hmap : (recsOf fmt f).mapM (fun r => (jrecGet r (sanitize c.name)).bind (jsonCell pnum (plainTy c.ty))) =
      some ((List.range f.n).map fun r => convCell c.cells[r]!) := by
    unfold recsOf
    apply mapM_map
    intro r hrm
    have hrn : r < f.n := List.mem_range.mp hrm
    rw [get_cell fmt f ht r c hc]
    exact (cell_link pnum fmt c.ty _ (ht.typed c hc r hrn) (hr c hc r hrn)).2.2
  have hcells : ((List.range f.n).map fun r => convCell c.cells[r]!).toArray = c.cells.map convCell := by
    apply Array.ext
    · simp [ht.size c hc]
    · intro i h1 h2
      have hi : i < c.cells.size := by simpa using h2
      simp [hi]
  cases hrecs : recsOf fmt f with
  | nil => rw [hrecs] at hhead; cases hhead
  | cons r0 rest =>
    rw [hrecs] at hhead hmap
    simp only [List.head?_cons, Option.some.injEq] at hhead
    subst hhead
    simp only [jsonColumnS]
    rw [get_cell fmt f ht 0 c hc]
    simp only [Option.bind_some, (cell_link pnum fmt c.ty _ (ht.typed c hc 0 ht.rows) (hr c hc 0 ht.rows)).2.1, hmap,
      Option.map_some, hcells]
    rfl

/-- **the columns `UnmarshalJSON` makes of what `ToJSON` wrote** -/
theorem doc_link : jsonDocS pnum (expected fmt f) = some (f.cols.map plainCol) := by
  unfold jsonDocS
  rw [numsOk_expected pnum fmt f ht hr, records_expected]
  simp only [if_true, Option.bind_some]
  have hhead := head_recs fmt f ht
  cases hrecs : recsOf fmt f with
  | nil => rw [hrecs] at hhead; cases hhead
  | cons r0 rest =>
    rw [hrecs] at hhead
    simp only [List.head?_cons, Option.some.injEq] at hhead
    simp only [jsonDataS]
    have hkeys : jrecKeys r0 = f.cols.map fun c => sanitize c.name := by
      rw [hhead]
      unfold jrecKeys
      rw [List.map_map]
      exact dedup_nodup _ ht.names
    rw [hkeys, ← hrecs]
    exact mapM_map (jsonColumnS pnum (recsOf fmt f)) (fun c : LCol => sanitize c.name) plainCol f.cols
      (fun c hc => column_link pnum fmt f ht hr c hc)

end Doc

/-! ## `New` on the data map: the columns sorted by name -/

section New
open QF.Props.C08Construct (specCol build_cons build_nil newS_after_prefix)
open QF.Props.C08Guards (specOrder newPrefixRejects sortNames_length sortNames_mem)

/-- a column as `ReadJSON`'s data map holds it -/
structure PlainOk (n : Nat) (c : LCol) : Prop where
  legal : legalName c.name = true
  size : c.cells.size = n
  ty : c.ty = .float ∨ c.ty = .bool ∨ c.ty = .string
  vals : c.vals = []
  strict : c.strict = false

theorem find_toNewCol (cols : List LCol) (x : Bytes) :
    (cols.map LCol.toNewCol).find? (·.name == x) = (cols.find? (·.name == x)).map LCol.toNewCol := by
  rw [List.find?_map]
  rfl

theorem ordered_eq (cols : List LCol) :
    (specOrder (cols.map LCol.toNewCol) []).filterMap (fun x => (cols.map LCol.toNewCol).find? (·.name == x)) =
      (sortByName cols).map LCol.toNewCol := by
  have hn : (cols.map LCol.toNewCol).map (·.name) = cols.map (·.name) := by simp [LCol.toNewCol]
  unfold specOrder sortByName
  simp only [List.isEmpty_nil, if_true, hn, List.map_filterMap, find_toNewCol]

theorem sortByName_mem {cols : List LCol} {c : LCol} (h : c ∈ sortByName cols) : c ∈ cols := by
  obtain ⟨x, _, hx⟩ := List.mem_filterMap.mp h
  exact List.mem_of_find?_eq_some hx

theorem sortByName_ne_nil {cols : List LCol} (h : cols ≠ []) : sortByName cols ≠ [] := by
  unfold sortByName
  cases hs : sortNames (cols.map (·.name)) with
  | nil =>
    have := sortNames_length (cols.map (·.name))
    rw [hs] at this
    cases cols with
    | nil => exact absurd rfl h
    | cons _ _ => simp at this
  | cons x xs =>
    have hx : x ∈ cols.map (·.name) := (sortNames_mem x _).mp (by rw [hs]; simp)
    obtain ⟨c, hc, rfl⟩ := List.mem_map.mp hx
    cases hf : cols.find? (·.name == c.name) with
    | none =>
      have := List.find?_eq_none.mp hf c hc
      simp at this
    | some c' => simp [hf]

/-- `New` gets past its first three checks when the names are legal and the order it works with rearranges them -/
theorem not_prefixRejects (cols : List NewCol) (order : List Bytes) (hlegal : ∀ c ∈ cols, legalName c.name = true)
    (hlen : (specOrder cols order).length = cols.length) (hmem : ∀ x ∈ specOrder cols order, x ∈ cols.map (·.name)) :
    ¬ newPrefixRejects cols order := by
  rintro (h | h | h)
  · obtain ⟨c, hc, hl⟩ := List.all_eq_false.1 h
    exact hl (hlegal c hc)
  · exact h hlen
  · obtain ⟨x, hx, hl⟩ := List.all_eq_false.1 h
    obtain ⟨c, hc, rfl⟩ := List.mem_map.1 (hmem x hx)
    exact hl (List.any_eq_true.2 ⟨c, hc, beq_self_eq_true _⟩)

open QF.Props.C08Construct (colS kindCells declFor newS_ok_iff) in
open QF.Props.C08NewIff (orderedCols firstLen isStrCol enumSrc) in
open QF.Props.C08EndToEnd (declaredEnum) in
/-- `New` on a column map whose columns in the order `New` works with are `l.map toN`, each of `n` rows and made into `toL a`,
every declaration being for one of them -/
theorem newS_of_ordered {α : Type} (cols : List NewCol) (order : List Bytes) (enums : List (Bytes × List Bytes)) (n : Nat)
    (toN : α → NewCol) (toL : α → LCol) (l : List α) (hl : l ≠ []) (hp : ¬ newPrefixRejects cols order)
    (hord : orderedCols cols order = l.map toN)
    (hcol : ∀ a ∈ l, (toN a).count = (n : Int) ∧ colS enums (toN a) = some (toL a))
    (hen : ∀ e ∈ enums, ∃ a ∈ l, (toN a).name = e.1 ∧ declaredEnum enums (toN a) = true) :
    newS cols order enums = .ok { cols := l.map toL, n := n } := by
  have hlen : firstLen cols order = (n : Int) := by
    obtain ⟨a0, rest, rfl⟩ := List.exists_cons_of_ne_nil hl
    unfold firstLen
    rw [hord]
    exact (hcol a0 (by simp)).1
  refine (newS_ok_iff cols order enums _).2 ⟨hp, ?_, ?_, by rw [hlen]; rfl, fun e he => ?_⟩
  · rw [hord, hlen]
    intro c hc
    obtain ⟨a, ha, rfl⟩ := List.mem_map.1 hc
    rw [(hcol a ha).1]
    exact ⟨Int.natCast_nonneg n, rfl⟩
  · rw [hord]
    exact mapM_map (colS enums) toN toL l (fun a ha => (hcol a ha).2)
  · obtain ⟨a, ha, h1, h2⟩ := hen e he
    exact ⟨toN a, by rw [hord]; exact List.mem_map_of_mem ha, h1, h2⟩

open QF.Props.C08Construct (colS kindCells declFor) in
open QF.Props.C08NewIff (enumSrc) in
/-- `New`'s column of a column made of an `LCol`: under a declaration an enum column of its strings, else the column itself -/
theorem colS_toNewCol (enums : List (Bytes × List Bytes)) (c : LCol) :
    colS enums c.toNewCol =
      match declFor enums c.toNewCol with
      | some (_, decl) => (mkEnum decl c.cells.toList).map fun p =>
          ({ name := c.name, ty := .enum, vals := p.1, strict := p.2, cells := c.cells } : LCol)
      | none => some { name := c.name, ty := c.ty, cells := c.cells } := by
  unfold colS
  simp only [kindCells, enumSrc, LCol.toNewCol, Array.toArray_toList]
  cases declFor enums _ <;> rfl

open QF.Props.C08Construct (declFor) in
open QF.Props.C08NewIff (isStrCol) in
theorem declFor_toNewCol (enums : List (Bytes × List Bytes)) (c : LCol) :
    declFor enums c.toNewCol = if c.ty == .string then enums.find? (·.1 == c.name) else none := by
  unfold declFor isStrCol
  cases h : c.ty <;> simp [LCol.toNewCol, h]

open QF.Props.C08Construct (colS kindCells declFor newS_ok_iff) in
open QF.Props.C08NewIff (orderedCols firstLen isStrCol enumSrc) in
open QF.Props.C08EndToEnd (declaredEnum) in
theorem colS_plain {n : Nat} (c : LCol) (h : PlainOk n c) : colS [] c.toNewCol = some c := by
  obtain ⟨name, ty, vals, strict, cells⟩ := c
  obtain ⟨_, _, hty, hv, hs⟩ := h
  simp only at hty hv hs
  subst hv hs
  rcases hty with rfl | rfl | rfl <;> simp [colS, kindCells, declFor, isStrCol, LCol.toNewCol]

open QF.Props.C08Construct (colS kindCells declFor newS_ok_iff) in
open QF.Props.C08NewIff (orderedCols firstLen isStrCol enumSrc) in
open QF.Props.C08EndToEnd (declaredEnum) in
/-- **`New` without configuration on a data map of float / bool / string columns of one length**: the columns sorted by name -/
theorem newS_plain {n : Nat} (cols : List LCol) (hne : cols ≠ []) (hok : ∀ c ∈ cols, PlainOk n c) :
    newS (cols.map LCol.toNewCol) [] [] = .ok { cols := sortByName cols, n := n } := by
  have := newS_of_ordered (cols.map LCol.toNewCol) [] [] n LCol.toNewCol id (sortByName cols) (sortByName_ne_nil hne)
    (not_prefixRejects _ [] (fun c' hc' => by obtain ⟨c, hc, rfl⟩ := List.mem_map.mp hc'; exact (hok c hc).legal)
      (by simp [specOrder, sortNames_length]) (fun x hx => (sortNames_mem x _).mp hx))
    (ordered_eq cols)
    (fun c hc => ⟨by simp [LCol.toNewCol, (hok c (sortByName_mem hc)).size], colS_plain c (hok c (sortByName_mem hc))⟩) nofun
  rwa [List.map_id] at this

end New

/-! ## `readJsonS` of what `ToJSON` wrote -/

theorem typed_at (f : LFrame) (ht : JsonTyped f) (c : LCol) (hc : c ∈ f.cols) (i : Nat) (hi : i < c.cells.size) :
    CellTyped c.ty c.cells[i] := by
  have := ht.typed c hc i (by rw [← ht.size c hc]; exact hi)
  rwa [getElem!_pos c.cells i hi] at this

theorem plainOk_of (f : LFrame) (ht : JsonTyped f) (c : LCol) (hc : c ∈ f.cols) : PlainOk f.n (plainCol c) where
  legal := ht.legal c hc
  size := by simp [plainCol, ht.size c hc]
  ty := by
    have h0 := ht.typed c hc 0 ht.rows
    show plainTy c.ty = .float ∨ plainTy c.ty = .bool ∨ plainTy c.ty = .string
    cases hty : c.ty <;> simp [plainTy]
    rw [hty] at h0
    cases hx : c.cells[0]! <;> rw [hx] at h0 <;> exact h0
  vals := rfl
  strict := rfl

/-! `jsonReread` (QF/Spec/Render.lean) converts the cells of a column by the column's type, `plainCol` every cell by `convCell`: on
a cell of the column's type the two agree (`reread_typed`), which is all that is ever looked at of a column's type. -/

/-- the two cell conversions of `jsonReread` -/
def rereadInt : Cell → Cell
  | .int v => .float (Num.ofDecimal (v < 0) v.natAbs 0)
  | y => y

def rereadStr : Cell → Cell
  | .str (some s) => .str (some (sanitize s))
  | y => y

/-- the cell conversion of `jsonReread` in a column of type `ty` -/
def reread : CType → Cell → Cell
  | .int => rereadInt
  | .string => rereadStr
  | .enum => rereadStr
  | _ => id

theorem reread_typed {ty : CType} {x : Cell} (h : CellTyped ty x) : reread ty x = convCell x := by
  cases ty <;> cases x <;> first | rfl | exact h.elim | (rename_i s; cases s <;> rfl)

theorem cells_conv (f : LFrame) (ht : JsonTyped f) (c : LCol) (hc : c ∈ f.cols) :
    c.cells.map (reread c.ty) = c.cells.map convCell :=
  Array.map_congr_left fun x hx => by
    obtain ⟨i, hi, rfl⟩ := Array.mem_iff_getElem.1 hx
    exact reread_typed (typed_at f ht c hc i hi)

/-- one column of `jsonReread` -/
def cfgCol (c : LCol) : LCol :=
  match c.ty with
  | .int => { c with ty := .float, cells := c.cells.map rereadInt }
  | .string => { c with cells := c.cells.map rereadStr }
  | .enum =>
    let cells := c.cells.map rereadStr
    if c.vals.isEmpty then
      match mkEnum [] cells.toList with
      | some (vals, _) => { c with cells := cells, vals := vals, strict := false }
      | none => { c with cells := cells }
    else { c with cells := cells, strict := true }
  | _ => c

theorem jsonReread_eq (f : LFrame) : jsonReread f = { cols := f.cols.map cfgCol, n := f.n } := rfl

/-- what `jsonUnconfigured` keeps of a column of `jsonReread` -/
theorem cfgCol_fields (c : LCol) : (cfgCol c).name = c.name ∧
    (if (cfgCol c).ty == .enum then CType.string else (cfgCol c).ty) = plainTy c.ty ∧
    (cfgCol c).cells = c.cells.map (reread c.ty) := by
  obtain ⟨name, ty, vals, strict, cells⟩ := c
  cases ty with
  | int | string => exact ⟨rfl, rfl, rfl⟩
  | float | bool | undef => exact ⟨rfl, rfl, (Array.map_id _).symm⟩
  | enum =>
    unfold cfgCol
    dsimp only
    split
    · split <;> exact ⟨rfl, rfl, rfl⟩
    · exact ⟨rfl, rfl, rfl⟩

/-- the driver's `jsonReread f` without what only `ColumnOrder` / `Enums` could supply -/
theorem unconfigured_reread (f : LFrame) (ht : JsonTyped f) :
    jsonUnconfigured (jsonReread f) = { n := f.n, cols := sortByName (f.cols.map plainCol) } := by
  unfold jsonUnconfigured
  rw [jsonReread_eq]
  simp only [List.map_map]
  congr 2
  apply List.map_congr_left
  intro c hc
  obtain ⟨h1, h2, h3⟩ := cfgCol_fields c
  simp only [Function.comp, plainCol, h1, h2, h3, cells_conv f ht c hc]

/-- **`ReadJSON ∘ ToJSON` on the spec side.** For every frame `f` of the read-back half of C14's quantifier (`JsonTyped`),
every float formatter `fmt` that writes a JSON number token for the frame's floats (`FrameOK`) and every float parser
`pnum` that returns, for the frame's own numbers, what they denote (`ReadsBack`): the text `ToJSON` writes parses
(RFC 8259) to a document of which `readJsonS` — `ReadJSON` without configuration functions — makes, without error, the
frame `jsonUnconfigured (jsonReread f)`: the driver's `jsonReread f` (ints as equal-valued floats, strings as a JSON
decoder returns them, bools and floats as they are) with the columns sorted by name and the enum columns as string
columns, which is all that is left when neither `ColumnOrder` nor `Enums` is supplied. -/
theorem readjson_tojson_partial (pnum : Bytes → Option UInt64) (fmt : UInt64 → List UInt8) (f : LFrame) (ht : JsonTyped f)
    (hok : FrameOK fmt f) (hr : ∀ c ∈ f.cols, ∀ r, r < f.n → ReadsBack pnum fmt c.cells[r]!) :
    (Json.parse (toJSON fmt f)).map (readJsonS pnum) = some (.ok (jsonUnconfigured (jsonReread f))) := by
  rw [tojson_parses_local fmt f hok, Option.map_some, unconfigured_reread f ht]
  unfold readJsonS
  rw [doc_link pnum fmt f ht hr]
  simp only
  rw [newS_plain (n := f.n) (f.cols.map plainCol) (by simpa using ht.cols)
    (fun c' hc' => by obtain ⟨c, hc, rfl⟩ := List.mem_map.mp hc'; exact plainOk_of f ht c hc)]

/-- **`ReadJSON ∘ ToJSON` of today's source, end to end.** With the REGENERATED writer (`C14WriterGen.genToJSON`: the
assembly loop `Gen.toJsonAst`, the cell writers `Gen.appendAst`, on a writer that does not fail) and the REGENERATED
reader (`C14ReadJsonGen.genReadJson`: `Gen.readJsonAst`, `unmarshalJsonAst`, `recordsToDataAst`, `fillAsts`; for every
iteration order of Go's maps): for every frame of the read-back half of C14's quantifier whose cells are of their
columns' types (`FrameTyped`: for an enum cell a member of the value table), `ToJSON` returns no error, the bytes it
handed to `Write` are a JSON text (RFC 8259), and `ReadJSON` of the document they denote returns, without error, the
frame `jsonUnconfigured (jsonReread f)` — the driver's `jsonReread f` with the columns sorted by name and the enum columns
as strings (no `ColumnOrder`, no `Enums`). -/
theorem gen_json_roundtrip_end_to_end_partial (pnum : Bytes → Option UInt64) (fmt : UInt64 → List UInt8)
    (iter : GoMap → GoMap) (hiter : ∀ m, (iter m).Perm m) (f : LFrame) (ht : JsonTyped f)
    (hf : C09Observe.FrameTyped f) (hok : FrameOK fmt f)
    (hr : ∀ c ∈ f.cols, ∀ r, r < f.n → ReadsBack pnum fmt c.cells[r]!) :
    ∃ ws doc, C14WriterGen.genToJSON fmt f (fun _ => false) = some (ws, false) ∧ Json.parse ws.flatten = some doc ∧
      C14ReadJsonGen.genReadJson pnum iter doc = some (.ok (jsonUnconfigured (jsonReread f))) := by
  obtain ⟨ws, h1, _, h3, _⟩ := C14WriterGen.gen_tojson_semantics fmt f hf
  have hrt := readjson_tojson_partial pnum fmt f ht hok hr
  rw [← h3] at hrt
  cases hp : Json.parse ws.flatten with
  | none => rw [hp] at hrt; cases hrt
  | some doc =>
    rw [hp] at hrt
    simp only [Option.map_some, Option.some.injEq] at hrt
    exact ⟨ws, doc, h1, hp, by rw [C14ReadJsonGen.gen_readjson_frame pnum iter hiter doc, hrt]⟩

/-! ## The hypotheses on formatter and parser -/

/-- `pnum` is a correct IEEE parser of number tokens: for a token that denotes the decimal `m · 10^d` it returns the
correctly rounded float64 (`Num.ofDecimal`, proved nearest-even in `C16Round`) unless that is an infinity (out of range). -/
def PnumCorrect (pnum : Bytes → Option UInt64) : Prop :=
  ∀ t neg m d, Num.parseNumber t = some (neg, m, d) →
    ((Num.ofDecimal neg m d &&& 0x7fffffffffffffff) == 0x7ff0000000000000) = false → pnum t = some (Num.ofDecimal neg m d)

/-- the parser the replay driver uses is one -/
theorem pnumS_correct : PnumCorrect pnumS := by
  intro t neg m d h1 h2
  simp only [pnumS, h1, h2, Bool.false_eq_true, if_false]

/-- **A float reads back** whenever the formatter's text denotes it as a JSON number (`Num.parseNumber`, exponent form
allowed) under correct rounding and it is finite — what `C16Link.ryu_text_is_shortest` proves of the Ryu pipeline's text
(`Num.parsesTo b text`, positional form) — for every correct parser. -/
theorem float_reads_back (pnum : Bytes → Option UInt64) (hp : PnumCorrect pnum) (fmt : UInt64 → List UInt8) (b : UInt64)
    (hfin : ((b &&& 0x7fffffffffffffff) == 0x7ff0000000000000) = false)
    (hden : ∃ neg m d, Num.parseNumber (fmt b) = some (neg, m, d) ∧ Num.ofDecimal neg m d = b) :
    ReadsBack pnum fmt (.float b) := by
  intro _
  obtain ⟨neg, m, d, h1, h2⟩ := hden
  have := hp (fmt b) neg m d h1 (by rw [h2]; exact hfin)
  rw [this, h2]

/-! ### Positional texts: `Num.parsesTo` (what C16 proves of the Ryu text) gives the float clause of `ReadsBack` -/

theorem takeWhile_all {α} (p : α → Bool) (l : List α) (h : ∀ x ∈ l, p x = true) : l.takeWhile p = l ∧ l.dropWhile p = [] :=
  ⟨by simpa using List.takeWhile_append_of_pos (l₂ := []) h, by simpa using List.dropWhile_append_of_pos (l₂ := []) h⟩

theorem digit_notE (c : UInt8) (h : (decide (48 ≤ c) && decide (c ≤ 57)) = true) : (!(c == 101 || c == 69)) = true := by
  rw [Bool.and_eq_true, decide_eq_true_eq, decide_eq_true_eq, UInt8.le_iff_toNat_le, UInt8.le_iff_toNat_le] at h
  have h1 : c ≠ 101 := fun e => by subst e; exact absurd h.2 (by decide)
  have h2 : c ≠ 69 := fun e => by subst e; exact absurd h.2 (by decide)
  simp [h1, h2]

/-- A text in positional notation holds no exponent marker (its bytes are a sign, digits and a point), so `parseNumber`
reads all of it as the mantissa. -/
theorem parseNumber_of_positional {s : List UInt8} {p : Bool × Nat × Int} (h : Num.parsePositional s = some p) :
    Num.parseNumber s = some p := by
  have hall : ∀ c ∈ s, (!(c == 101 || c == 69)) = true := by
    unfold Num.parsePositional at h
    split at h
    next neg s' hsign =>
    have hs : ∀ c ∈ s, c = 45 ∨ c ∈ s' := by
      split at hsign <;> cases hsign
      · exact fun c hc => (List.mem_cons.1 hc)
      · exact fun c hc => .inr hc
    simp only at h
    intro c hc
    rcases hs c hc with rfl | hc
    · decide
    rw [← List.takeWhile_append_dropWhile (p := fun c => decide (48 ≤ c) && decide (c ≤ 57)) (l := s')] at hc
    rcases List.mem_append.1 hc with hc | hc
    · exact digit_notE c (List.all_eq_true.1 List.all_takeWhile c hc)
    · split at h
      · next hnil => rw [hnil] at hc; cases hc
      · next r hdot =>
        rw [hdot] at hc
        rcases List.mem_cons.1 hc with rfl | hc
        · decide
        · by_cases hr : r.all (fun c => decide (48 ≤ c) && decide (c ≤ 57)) = true
          · exact digit_notE c (List.all_eq_true.1 hr c hc)
          · simp [hr] at h
      · simp at h
  unfold Num.parseNumber
  have := takeWhile_all (fun c => !(c == 101 || c == 69)) s hall
  simp only [this.1, this.2, h]
/-- **The Ryu text reads back.** A finite float whose text passes `Num.parsesTo b` — positional notation that denotes `b`
under correct rounding: the second conclusion of `C16Link.ryu_text_is_shortest` for the text `C16Link.appendF` appends,
for every finite non-zero float64 and every buffer state — is returned by every correct parser. -/
theorem ryu_reads_back (pnum : Bytes → Option UInt64) (hp : PnumCorrect pnum) (fmt : UInt64 → List UInt8) (b : UInt64)
    (hfin : ((b &&& 0x7fffffffffffffff) == 0x7ff0000000000000) = false) (hpt : Num.parsesTo b (fmt b) = true) :
    ReadsBack pnum fmt (.float b) := by
  apply float_reads_back pnum hp fmt b hfin
  obtain ⟨neg, m, d, hpp, hb⟩ := parsesTo_iff.1 hpt
  exact ⟨neg, m, d, parseNumber_of_positional hpp, hb⟩

open QF.Ryu64 QF.Props.C16Core QF.Props.C16Link in
/-- instantiated with `C16Link.ryu_text_is_shortest`: for every finite non-zero float64 `b` the text the Ryu pipeline
appends to an empty buffer reads back as `b` through every correct parser -/
theorem ryu_text_reads_back (pnum : Bytes → Option UInt64) (hp : PnumCorrect pnum) (b : UInt64) (dy : Num.Dyadic)
    (hd : Num.decode b = some dy) (h0 : dy.m ≠ 0) (buf : AF.Buf) (extraS extra0 extra : List AF.Byte)
    (hfin : ((b &&& 0x7fffffffffffffff) == 0x7ff0000000000000) = false) :
    ∃ text, (appendF buf dy.neg (decimal (mantOf b) (expOf b)).1
        (decimal (mantOf b) (expOf b)).2.1 extraS extra0 extra).content = buf.content ++ text ∧
      ∀ fmt : UInt64 → List UInt8, fmt b = text → ReadsBack pnum fmt (.float b) := by
  obtain ⟨text, h1, _, h3, _⟩ := ryu_text_is_shortest b dy hd h0 buf extraS extra0 extra
  exact ⟨text, h1, fun fmt hf => ryu_reads_back pnum hp fmt b hfin (by rw [hf]; exact h3)⟩

/-! ## A concrete input that meets the hypotheses -/

section Example

/-- `a: [1, -2]` (int), `s: ["x", null]` (string), `b: [true, false]`, `e: ["hi", "lo"]` (enum, declared `lo, hi`) -/
def exF : LFrame :=
  { n := 2
    cols := [{ name := [115], ty := .string, cells := #[.str (some [120]), .str none] },
             { name := [97], ty := .int, cells := #[.int 1, .int (-2)] },
             { name := [98], ty := .bool, cells := #[.bool true, .bool false] },
             { name := [101], ty := .enum, vals := [[108, 111], [104, 105]], strict := true,
               cells := #[.str (some [104, 105]), .str (some [108, 111])] }] }

/-- `CellTyped`, for the witnesses (a concrete frame is typed by evaluation) -/
def cellTypedDec (ty : CType) (x : Cell) : Decidable (CellTyped ty x) := by
  cases ty <;> cases x <;> (unfold CellTyped; infer_instance)

/-- `JsonTyped` and `FrameOK`, two of the hypotheses of `readjson_tojson_partial` / `gen_json_roundtrip_end_to_end_partial`, hold for it
(no float column: `FrameOK` is empty). `ReadsBack` is not shown: its float clause is empty too, its int clause is what a correct parser
does on `1` and `-2`. -/
example : JsonTyped exF ∧ FrameOK (fun _ => [48]) exF := by
  letI := cellTypedDec
  refine ⟨⟨by decide, by decide, by decide, by decide, by decide, by decide⟩, ?_⟩
  intro c hc r hr b hb
  simp only [exF, List.mem_cons, List.not_mem_nil, or_false] at hc
  have : r = 0 ∨ r = 1 := by simp only [exF] at hr; omega
  rcases hc with rfl | rfl | rfl | rfl <;> rcases this with rfl | rfl <;> simp at hb

/-- … and what comes back is not trivial: the columns sorted by name (`a`, `b`, `e`, `s`), the int column as floats, the
enum column as strings -/
example : (jsonUnconfigured (jsonReread exF)).names = [[97], [98], [101], [115]] ∧
    (jsonUnconfigured (jsonReread exF)).cols.map (·.ty) = [.float, .bool, .string, .string] := by
  decide

end Example

end QF.Props.C14EndToEnd

#print axioms QF.Props.C14EndToEnd.readjson_tojson_partial
#print axioms QF.Props.C14EndToEnd.gen_json_roundtrip_end_to_end_partial
#print axioms QF.Props.C14EndToEnd.float_reads_back
#print axioms QF.Props.C14EndToEnd.pnumS_correct
#print axioms QF.Props.C14EndToEnd.ryu_reads_back
#print axioms QF.Props.C14EndToEnd.ryu_text_reads_back
