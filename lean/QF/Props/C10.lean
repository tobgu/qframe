import QF.Props.Tie
/-! # C10 -/
namespace QF.Props.C10

-- No function of this property is tied by its source text (the list below is empty). Each is regenerated on every run and a
-- behaviour-changing edit makes a `gen_*_canon` theorem fail (checked by bin/selftest-ties); renaming locals or reformatting changes nothing.
-- `QFrame.setColumn`, `QFrame.Slice`: `Gen.guardAst` + `Gen.projectAst`, `C08Guards.gen_guards_canon` + `gen_guards_semantics`, `C08ProjectGen.gen_project_canon` + `gen_project_sticky`.
-- `New`: `Gen.guardAst` + `Gen.newTailAst`, `C08Guards.gen_guards_canon`, `C08Construct.gen_construct_canon` + `gen_new_reject_iff`. `CheckName`: `Gen.checkNameAst`, `C08Guards.gen_checkname_canon`.
-- `Aggregate`: loops in `Gen.aggregateAst` (C04LoopsGen), glue with the unknown-column and duplicate-name errors in `Gen.aggregateGlueAst` (C04GlueGen), guards in C10Guards.
theorem tie : Tie.sameAll [] = true := by decide

end QF.Props.C10
