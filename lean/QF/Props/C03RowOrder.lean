import QF.Core.ListFacts
import QF.Props.C03Compare
import QF.Core.SorterSorted
import QF.Core.Compare
/-!
# C03 — the spec's `rowLess` is a strict weak order on rows that hold cells of their columns' types

`Sorter.sort_sorted_full` (QF/Core/SorterPivot.lean) needs the comparison function to be a strict weak order (`Sorter.SWO`)
on ALL row numbers. The spec's `rowLess` (QF/Spec/Ops.lean) compares the cells of the key columns with `keyCmp`; on cells
that are not of the column's type `keyCmp` is not an order at all (`cellCmp` has no value there and counts as "equal"). So:

* `TP`, `lexCmp`, `lexCmp_tp` (QF/Core/OrderFacts.lean), `swo_of_tp` (QF/Core/Compare.lean) — a lexicographic chain of total
  preorders is a total preorder, and `cmp · · == .lt` of a total preorder is a strict weak order; `bytesCmp` is a total
  preorder (`tp_bytes`, there too);
* `keyCmp_eq_rank` — on cells of the column's type `keyCmp c o x y` is the lexicographic comparison of three RANKS of the two
  cells — the null class (0: null first, 1: a value, 2: null last), an integer (the int, the order key of the float, 0/1
  for a bool, the rank of an enum value), a byte string (the string) — each reversed when the order says Reverse;
* `physLess L keys` — the comparison of two physical rows that `QF.Props.C03EndToEnd` hands to the sorter's theorem: the
  lexicographic comparison of these ranks over all keys for rows below `L`; a row that is not below `L` (no row of a
  well-formed frame) comes after every row that is and is equal to every other such row;
* `physLess_swo` — it is a strict weak order, for ANY columns (the ranks are total functions);
* `physLess_eq_rowLess` — on rows below `L` of key columns whose `L` cells are of their types it IS the spec's `rowLess`.
-/
namespace QF.Props.C03RowOrder
open QF QF.Props.C03Compare
set_option linter.unusedSimpArgs false

/-! ## The three ranks of a cell -/

/-- 0: a null that comes first, 1: a value, 2: a null that comes last -/
def nullClass (nullLast : Bool) (x : Cell) : Int := if x.isNull then (if nullLast then 2 else 0) else 1

def numRank (c : LCol) (x : Cell) : Int :=
  match x with
  | .int v => v
  | .float b => if F64.isNaN b then 0 else F64.key b
  | .bool b => (b.toNat : Int)
  | .str (some s) => if c.ty == .enum then (((enumRank c.vals s).getD 0 : Nat) : Int) else 0
  | .str none => 0

def strRank (c : LCol) (x : Cell) : Bytes :=
  match x with
  | .str (some s) => if c.ty == .enum then [] else s
  | _ => []

/-- the lexicographic comparison of the three ranks -/
def rank3 (c : LCol) (nullLast : Bool) (x y : Cell) : Ordering :=
  match compare (nullClass nullLast x) (nullClass nullLast y) with
  | .lt => .lt
  | .gt => .gt
  | .eq =>
    match compare (numRank c x) (numRank c y) with
    | .lt => .lt
    | .gt => .gt
    | .eq => bytesCmp (strRank c x) (strRank c y)

theorem int_cmp_self (a : Int) : compare a a = .eq := Int.compare_eq_eq.mpr rfl

theorem collapse (o : Ordering) : (match o with | .lt => Ordering.lt | .gt => .gt | .eq => .eq) = o := by cases o <;> rfl

theorem bytesCmp_nil : bytesCmp [] [] = .eq := rfl

theorem c01 : compare (0 : Int) 1 = .lt := by decide
theorem c10 : compare (1 : Int) 0 = .gt := by decide
theorem c12 : compare (1 : Int) 2 = .lt := by decide
theorem c21 : compare (2 : Int) 1 = .gt := by decide

/-- `keyCmp` without Reverse -/
def baseCmp (c : LCol) (nullLast : Bool) (x y : Cell) : Ordering := keyCmp c ⟨[], false, nullLast⟩ x y

theorem keyCmp_eq_base (c : LCol) (o : Order) (x y : Cell) : keyCmp c o x y = sw o.reverse (baseCmp c o.nullLast x y) := by
  unfold baseCmp keyCmp sw
  cases o.reverse <;> simp

theorem baseCmp_eq_rank (c : LCol) (nl : Bool) {x y : Cell} (h : Cells c.vals c.ty x y) : baseCmp c nl x y = rank3 c nl x y := by
  unfold baseCmp keyCmp
  simp only [Bool.false_eq_true, if_false]
  cases hxn : x.isNull <;> cases hyn : y.isNull
  · -- two values
    simp only [rank3, nullClass, hxn, hyn, Bool.false_eq_true, if_false, int_cmp_self]
    generalize ht : c.ty = ty at h
    cases h with
    | int a b => simp only [cellCmp, Option.getD_some, numRank, strRank, bytesCmp_nil, collapse]
    | float a b =>
      simp only [Cell.isNull] at hxn hyn
      simp only [cellCmp, hxn, hyn, Bool.or_self, Bool.false_eq_true, if_false, Option.getD_some, numRank, strRank,
        bytesCmp_nil, collapse]
    | bool a b => simp only [cellCmp, Option.getD_some, numRank, strRank, bytesCmp_nil, collapse, ListFacts.compare_natCast]
    | string s t =>
      rcases s with _ | u <;> rcases t with _ | v <;> simp [Cell.isNull] at hxn hyn
      simp [cellCmp, ht, numRank, strRank, int_cmp_self]
    | enum s t hs ht' =>
      rcases s with _ | u <;> rcases t with _ | v <;> simp [Cell.isNull] at hxn hyn
      obtain ⟨i, hi, _⟩ := enum_ok hs
      obtain ⟨j, hj, _⟩ := enum_ok ht'
      simp only [cellCmp, ht, beq_self_eq_true, if_true, hi, hj, Option.getD_some, numRank, strRank, bytesCmp_nil, collapse,
        ListFacts.compare_natCast]
  · -- a value and a null
    simp only [rank3, nullClass, hxn, hyn, Bool.false_eq_true, if_false, if_true]
    cases nl <;> simp [c10, c12]
  · simp only [rank3, nullClass, hxn, hyn, Bool.false_eq_true, if_false, if_true]
    cases nl <;> simp [c01, c21]
  · -- two nulls: all three ranks agree
    have hnum : ∀ z : Cell, z.isNull = true → numRank c z = 0 ∧ strRank c z = [] := by
      intro z hz
      rcases z with _ | b | _ | (_ | s) <;> simp [Cell.isNull] at hz
      · simp [numRank, strRank, hz]
      · simp [numRank, strRank]
    obtain ⟨a1, a2⟩ := hnum x hxn
    obtain ⟨b1, b2⟩ := hnum y hyn
    simp only [rank3, nullClass, hxn, hyn, if_true, int_cmp_self, a1, a2, b1, b2, bytesCmp_nil]

/-- **On cells of the column's type, the spec's `keyCmp` is the lexicographic comparison of the three ranks**, reversed when
the order says so. -/
theorem keyCmp_eq_rank (c : LCol) (hty : c.ty ∈ tys) (o : Order) (x y : Cell) (hx : wtCell c.ty c.vals x = true)
    (hy : wtCell c.ty c.vals y = true) : keyCmp c o x y = sw o.reverse (rank3 c o.nullLast x y) := by
  rw [keyCmp_eq_base, baseCmp_eq_rank c o.nullLast (cells_of_wt hty hx hy)]

/-! ## The comparison of physical rows handed to the sorter -/

/-- the three comparators of a key: each rank of the cell at the row, for rows below `L` (a constant outside), reversed
when the order says so -/
def comps (L : Nat) (k : LCol × Order) : List (Nat → Nat → Ordering) :=
  [fun a b => sw k.2.reverse (compare (if a < L then nullClass k.2.nullLast k.1.cells[a]! else 0) (if b < L then nullClass k.2.nullLast k.1.cells[b]! else 0)),
   fun a b => sw k.2.reverse (compare (if a < L then numRank k.1 k.1.cells[a]! else 0) (if b < L then numRank k.1 k.1.cells[b]! else 0)),
   fun a b => sw k.2.reverse (bytesCmp (if a < L then strRank k.1 k.1.cells[a]! else []) (if b < L then strRank k.1 k.1.cells[b]! else []))]

/-- rows below `L` first -/
def sideCmp (L : Nat) : Nat → Nat → Ordering := fun a b => compare (if a < L then (0 : Int) else 1) (if b < L then (0 : Int) else 1)

def physCmp (L : Nat) (keys : List (LCol × Order)) : Nat → Nat → Ordering :=
  lexCmp (sideCmp L :: keys.flatMap (comps L))

/-- the comparison of two physical rows: rows below `L` by the ranks of their key cells, key after key; a row that is not
below `L` after every row that is, and equal to every other such row -/
def physLess (L : Nat) (keys : List (LCol × Order)) : Nat → Nat → Bool := fun a b => physCmp L keys a b == .lt

theorem comps_tp (L : Nat) (k : LCol × Order) : ∀ c ∈ comps L k, TP c := by
  intro c hc
  simp only [comps, List.mem_cons, List.mem_nil_iff, or_false] at hc
  rcases hc with rfl | rfl | rfl
  · exact tp_sw _ (tp_int _)
  · exact tp_sw _ (tp_int _)
  · exact tp_sw _ (tp_bytes _)

theorem physCmp_tp (L : Nat) (keys : List (LCol × Order)) : TP (physCmp L keys) := by
  apply lexCmp_tp
  intro c hc
  rcases List.mem_cons.mp hc with rfl | hc
  · exact tp_int _
  · obtain ⟨k, _, hk⟩ := List.mem_flatMap.mp hc
    exact comps_tp L k c hk

/-- **The comparison handed to the sorter is a strict weak order**, whatever the columns hold. -/
theorem physLess_swo (L : Nat) (keys : List (LCol × Order)) : Sorter.SWO (physLess L keys) :=
  swo_of_tp (physCmp_tp L keys)

/-- a key column of a well-formed frame holds `L` cells of its type -/
def KeyTyped (L : Nat) (c : LCol) : Prop := c.ty ∈ tys ∧ ∀ r < L, wtCell c.ty c.vals c.cells[r]! = true

theorem comps_eq_keyCmp (L : Nat) (k : LCol × Order) (hk : KeyTyped L k.1) (a b : Nat) (ha : a < L) (hb : b < L) :
    lexCmp (comps L k) a b = keyCmp k.1 k.2 k.1.cells[a]! k.1.cells[b]! := by
  rw [keyCmp_eq_rank k.1 hk.1 k.2 _ _ (hk.2 a ha) (hk.2 b hb)]
  simp only [comps, lexCmp, ha, hb, if_true, rank3]
  generalize compare (nullClass k.2.nullLast k.1.cells[a]!) (nullClass k.2.nullLast k.1.cells[b]!) = o1
  generalize compare (numRank k.1 k.1.cells[a]!) (numRank k.1 k.1.cells[b]!) = o2
  generalize bytesCmp (strRank k.1 k.1.cells[a]!) (strRank k.1 k.1.cells[b]!) = o3
  cases k.2.reverse <;> cases o1 <;> cases o2 <;> cases o3 <;> rfl

/-- **On rows below `L` of key columns that hold cells of their types, the comparison handed to the sorter is the spec's
`rowLess`** (which reads the cells from the key columns and never looks at its frame argument, hence any `f`). -/
theorem physLess_eq_rowLess (f : LFrame) (L : Nat) (keys : List (LCol × Order)) (hk : ∀ k ∈ keys, KeyTyped L k.1) (a b : Nat)
    (ha : a < L) (hb : b < L) : physLess L keys a b = rowLess f keys a b := by
  have hside : sideCmp L a b = .eq := by simp [sideCmp, ha, hb, int_cmp_self]
  unfold physLess physCmp
  simp only [lexCmp, hside]
  induction keys with
  | nil => simp [lexCmp, rowLess]
  | cons k ks ih =>
    have ih' := ih (fun k' hk' => hk k' (by simp [hk']))
    simp only [List.flatMap_cons, lexCmp_append, comps_eq_keyCmp L k (hk k (by simp)) a b ha hb]
    obtain ⟨c, o⟩ := k
    simp only [rowLess]
    cases keyCmp c o c.cells[a]! c.cells[b]! with
    | lt => rfl
    | gt => rfl
    | eq => exact ih'

end QF.Props.C03RowOrder

#print axioms QF.Props.C03RowOrder.lexCmp_tp
#print axioms QF.Props.C03RowOrder.keyCmp_eq_rank
#print axioms QF.Props.C03RowOrder.physLess_swo
#print axioms QF.Props.C03RowOrder.physLess_eq_rowLess
