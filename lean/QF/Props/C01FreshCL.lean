import QF.Gen.Clauses
/-!
# C01 / C11 — `writesOnlyFresh` for the language of Filter's clause evaluation (`QF.CL`)

The interpreter of `QF.CL` (QF/Core/CLExpr.lean) computes on VALUES: a variable holds a list, `m[i] = e` replaces the
list held by `m`. In the Go code a slice variable holds a HEADER; `m[i] = e`, `append(m, x)` (with spare capacity) and the
kernel call `s.Filter(ix, cmp, arg, m)` store into the BACKING ARRAY, which every other header derived from it shares. The
value semantics is exact — and the operation persistent (C01), race-free (C11) — exactly when no storing statement ever
hits a backing array that something else can reach. This file makes that a checked statement about the regenerated terms.

* `E.fresh N τ e` — PROVENANCE of an expression, given which variables currently hold an array made in this run (`τ`) and
  which callees return a new array (`N`): `make`, the literal `make([]filter.Filter, 0)`, the variadic list, `append(l, x)`
  / `l[:n]` of a fresh `l`, a call of a function of `N`, anything that is not an array (numbers, booleans, errors) are fresh;
  `<frame>.index`, a frame, a pointer to a frame, the sub-clauses of a clause are NOT (they share what the frame / the
  caller holds).
* the STORING constructs of the language: `S.setAt m i e` (`m[i] = e`), `S.kernel … m` (the kernel writes the mask `m`),
  and every `E.snoc l x` (`append(l, x)`: stores into the array of `l` when it has capacity). `S.setInverse`, `S.setArg`
  and `S.incr` assign a field of a struct VALUE / an `int` local — a variable of the function's own frame, never an array.
* `S.okF N F s` — the static check for a set `F` of variables ("only ever bound to fresh arrays"): every `:=` / `=` of a
  variable of `F` has a fresh right-hand side; no other binder (range variables, `v, ok := …`, type-test variables) binds a
  variable of `F`; every storing construct targets a variable of `F` / a fresh expression; nothing is opaque.
* `Fn.writesOnlyFresh N fn` — `okF` for the candidate set read off the body (`S.cands`: the variables with a `make` / new-call
  definition), none of them a parameter or the receiver.
* `tagExec` — the GHOST RUN: along the ACTUAL run of the interpreter (same branches, same loop rounds, same stores — it
  consults `S.exec` / `E.eval` for every decision) it keeps the dynamic provenance `τ` of every variable (flow-sensitive: a
  variable re-bound to a shared array loses its tag) and COUNTS the storing constructs executed on a non-fresh target.
* **`tagExec_sound`** (the flow-insensitive check implies the flow-sensitive count): if `okF N F s` and every variable of
  `F` is tagged fresh, the ghost run of `s` from any store counts 0 bad stores and every variable of `F` is still tagged
  fresh. `runFn_writes_only_fresh`: the ghost run of a whole function from any arguments — the parameters tagged SHARED, the
  locals not yet bound tagged fresh (they hold nothing) — counts 0. Both sides tag expressions by the same `fresh N`; the
  interpreter carries no array identities, so that `fresh` and `N` name the array-making expressions and callees is trusted.
* `gen_clauses_writes_only_fresh` — every function of today's `QF.Gen.clauseFns` passes (finite `decide`, redone on every
  run), with `N` = `newFns clauseFns` = the functions whose every `return` is fresh (today: `index.NewBool`,
  `index.Int.Filter`, and the functions that return no array).
* what the RESULT of `Filter` shares (read off the terms, `gen_clauses_result_provenance`): the result frame is (a) the
  receiver itself when `qf.Err != nil` (`publicFilter`, `leaves`, every clause method: `return qf`) and for `NullClause`;
  (b) `qf.withErr(err)` = the receiver's index UNCHANGED with a new error (unknown column, kernel error, clause error);
  (c) otherwise `qf.withIndex(ix)` with `ix` the result of `index.Int.Filter` (a `make` of the same call) / the `make` of
  `orFrames` / of `NotClause.filter`. In (a), (b) the index array is SHARED with the receiver and not written; in (c) it is
  new. The mask (`index.NewBool`) is always new and dies with the call.
* witnesses: `leavesInPlace` (the result index compacted into the receiver's index array: `ix := qf.index[:0]`-style
  `append` onto `qf.index`), `leavesSharedMask` (the kernels run on a mask that is an argument) fail the check and their ghost run counts a bad store;
  `witness_isnull_kernel_shared_mask`: the repaired int-`isnull` defect (the kernel cleared the mask the leaves of one call
  share) — a wrong value in an array the call owns, no store into an array that existed.
-/
set_option linter.unusedVariables false
namespace QF.Props.C01FreshCL
open QF.CL

/-! ## Provenance of expressions -/

/-- is the value of `e` free of arrays that existed before this run? (`τ`: the variables that hold a fresh array now;
`N`: the callees that return one) -/
def fresh (N : FnId → Bool) (τ : Var → Bool) : E → Bool
  | .var v => τ v
  | .makeMask _ | .makeIx _ | .emptyLeaves | .single _ => true
  | .snoc l _ => fresh N τ l
  | .truncate l _ => fresh N τ l
  | .call1 f _ | .call2 f _ _ | .call3 f _ _ _ => N f
  | .int _ | .bool _ | .nilErr | .newErr | .nilPtr | .isNil _ | .notNil _ | .not _ | .and _ _ | .or _ _ | .cmp _ _ _
  | .add _ _ | .sub _ _ | .len _ | .at _ _ | .inverseFlag _ | .errField _ | .callErr _ => true
  | _ => false

/-- the bases `l` of all `append(l, x)` inside an expression -/
def snocs : E → List E
  | .snoc l x => l :: (snocs l ++ snocs x)
  | .addr e | .deref e | .frameErr e | .frameIndex e | .isNil e | .notNil e | .not e | .len e | .makeMask e | .makeIx e
  | .single e | .inverseFlag e | .subClauses e | .subClause e | .errField e | .mkNot e | .callErr e | .call1 _ e => snocs e
  | .mkFrame a b | .and a b | .or a b | .cmp _ a b | .add a b | .sub a b | .at a b | .truncate a b
  | .mkCombo _ a b | .callFilter a b | .call2 _ a b => snocs a ++ snocs b
  | .call3 _ a b c => snocs a ++ snocs b ++ snocs c
  | _ => []

/-- every `append` inside `e` goes onto a fresh array -/
def okE (N : FnId → Bool) (τ : Var → Bool) (e : E) : Bool := (snocs e).all (fresh N τ)

/-- the number of `append`s inside `e` onto an array that is not fresh -/
def badE (N : FnId → Bool) (τ : Var → Bool) (e : E) : Nat := ((snocs e).filter fun l => !fresh N τ l).length

def inF (F : List Var) (v : Var) : Bool := F.contains v
def notF (F : List Var) : Option Var → Bool
  | some v => !inF F v
  | none => true

/-! ## The static check -/

def okF (N : FnId → Bool) (F : List Var) : S → Bool
  | .skip => true
  | .seq a b => okF N F a && okF N F b
  | .define v e | .assign v e => okE N (inF F) e && (!inF F v || fresh N (inF F) e)
  | .incr _ => true
  | .setAt m i e => inF F m && okE N (inF F) i && okE N (inF F) e
  | .setInverse _ e => okE N (inF F) e
  | .ite c t e => okE N (inF F) c && okF N F t && okF N F e
  | .ifIs x _ v t e => okE N (inF F) x && !inF F v && okF N F t && okF N F e
  | .range xs k v b => okE N (inF F) xs && notF F k && notF F v && okF N F b
  | .rangeLive _ k v b => notF F k && notF F v && okF N F b
  | .ret e => okE N (inF F) e
  | .lookupColumn s ok f l => !inF F s && !inF F ok && okE N (inF F) f && okE N (inF F) l
  | .ifArgIsColumn _ name t => !inF F name && okF N F t
  | .lookupArgColumn a ok f _ => !inF F a && !inF F ok && okE N (inF F) f
  | .promote _ _ _ => true
  | .setArg _ _ => true
  | .ifCmpIsString _ sc t => !inF F sc && okF N F t
  | .ifInverseEntry _ inv t => !inF F inv && okF N F t
  | .kernel er _ ix _ _ m => inF F m && !inF F er && okE N (inF F) ix
  | .opaque _ => false

/-- is `e` an allocation by its head? -/
def isAlloc (N : FnId → Bool) : E → Bool
  | .makeMask _ | .makeIx _ | .emptyLeaves => true
  | .call1 f _ | .call2 f _ _ | .call3 f _ _ _ => N f
  | _ => false

/-- the variables with a definition that is an allocation -/
def cands (N : FnId → Bool) : S → List Var
  | .define v e | .assign v e => if isAlloc N e then [v] else []
  | .seq a b => cands N a ++ cands N b
  | .ite _ t e | .ifIs _ _ _ t e => cands N t ++ cands N e
  | .range _ _ _ b | .rangeLive _ _ _ b | .ifArgIsColumn _ _ b | .ifCmpIsString _ _ b | .ifInverseEntry _ _ b => cands N b
  | _ => []

/-- the expressions returned -/
def rets : S → List E
  | .ret e => [e]
  | .seq a b => rets a ++ rets b
  | .ite _ t e | .ifIs _ _ _ t e => rets t ++ rets e
  | .range _ _ _ b | .rangeLive _ _ _ b | .ifArgIsColumn _ _ b | .ifCmpIsString _ _ b | .ifInverseEntry _ _ b => rets b
  | _ => []

/-- **The static check on a function**: every storing statement targets a variable that only ever holds arrays allocated
in the same run; no such variable is the receiver or a parameter. -/
def writesOnlyFresh (N : FnId → Bool) (fn : Fn) : Bool :=
  okF N (cands N fn.body) fn.body && (cands N fn.body).all (fun v => decide (fn.params ≤ v))

/-- the functions of a unit all of whose `return`s are fresh (callees judged as not new: no recursion) -/
def newFns (P : List (FnId × Fn)) (f : FnId) : Bool :=
  match P.lookup f with
  | some fn => (rets fn.body).all (fresh (fun _ => false) (inF (cands (fun _ => false) fn.body)))
  | none => false

/-! ## The ghost run -/

abbrev Tags := Var → Bool
def tset (τ : Tags) (v : Var) (b : Bool) : Tags := fun w => if w = v then b else τ w
def tsetOpt (τ : Tags) (v : Option Var) (b : Bool) : Tags :=
  match v with
  | some v => tset τ v b
  | none => τ

def tagLoop (step : Val → Nat → Store → Out) (tstep : Val → Nat → Store → Tags → Tags × Nat) :
    List Val → Nat → Store → Tags → Tags × Nat
  | [], _, _, τ => (τ, 0)
  | x :: xs, i, σ, τ =>
    match step x i σ with
    | .next σ' => ((tagLoop step tstep xs (i + 1) σ' (tstep x i σ τ).1).1,
                   (tstep x i σ τ).2 + (tagLoop step tstep xs (i + 1) σ' (tstep x i σ τ).1).2)
    | _ => tstep x i σ τ

def tagLoopLive (step : Val → Nat → Store → Out) (tstep : Val → Nat → Store → Tags → Tags × Nat) (m : Var) :
    Nat → Nat → Store → Tags → Tags × Nat
  | 0, _, _, τ => (τ, 0)
  | n + 1, i, σ, τ =>
    match σ m with
    | some (.mask mm) =>
      (match mm[i]? with
       | some b =>
         (match step (.bool b) i σ with
          | .next σ' => ((tagLoopLive step tstep m n (i + 1) σ' (tstep (.bool b) i σ τ).1).1,
                         (tstep (.bool b) i σ τ).2 + (tagLoopLive step tstep m n (i + 1) σ' (tstep (.bool b) i σ τ).1).2)
          | _ => tstep (.bool b) i σ τ)
       | none => (τ, 0))
    | _ => (τ, 0)

/-- what `v, ok := x.(T)` binds `v` to (as in `S.exec`) -/
def isBound (ty : DynTy) (o : Obj) : Val :=
  match ty with
  | .filter => .leaf o.leaf
  | _ => .struct o.ty o.subs o.errField

def tbindKV (k v : Option Var) (τ : Tags) : Tags := tsetOpt (tsetOpt τ k false) v false

/-- **The ghost run**: the provenance tags after the statement and the number of stores executed on a target that was not
fresh, along the run `S.exec Γ s σ` of the interpreter. -/
def tagExec (Γ : Env) (N : FnId → Bool) : S → Store → Tags → Tags × Nat
  | .skip, _, τ => (τ, 0)
  | .seq a b, σ, τ =>
    match a.exec Γ σ with
    | .next σ' => ((tagExec Γ N b σ' (tagExec Γ N a σ τ).1).1, (tagExec Γ N a σ τ).2 + (tagExec Γ N b σ' (tagExec Γ N a σ τ).1).2)
    | _ => tagExec Γ N a σ τ
  | .define v e, _, τ => (tset τ v (fresh N τ e), badE N τ e)
  | .assign v e, _, τ => (tset τ v (fresh N τ e), badE N τ e)
  | .incr _, _, τ => (τ, 0)
  | .setAt m i e, _, τ => (τ, (if τ m then 0 else 1) + badE N τ i + badE N τ e)
  | .setInverse _ e, _, τ => (τ, badE N τ e)
  | .ite c t e, σ, τ =>
    match c.eval Γ σ with
    | some (.bool true) => ((tagExec Γ N t σ τ).1, badE N τ c + (tagExec Γ N t σ τ).2)
    | some (.bool false) => ((tagExec Γ N e σ τ).1, badE N τ c + (tagExec Γ N e σ τ).2)
    | _ => (τ, badE N τ c)
  | .ifIs x ty v t e, σ, τ =>
    match x.eval Γ σ with
    | some (.obj o) =>
      if o.ty = ty then
        ((tagExec Γ N t (σ.set v (isBound ty o)) (tset τ v false)).1,
         badE N τ x + (tagExec Γ N t (σ.set v (isBound ty o)) (tset τ v false)).2)
      else ((tagExec Γ N e σ τ).1, badE N τ x + (tagExec Γ N e σ τ).2)
    | _ => (τ, badE N τ x)
  | .range xs k v body, σ, τ =>
    match xs.eval Γ σ with
    | some x =>
      (match x.elems with
       | some l =>
         ((tagLoop (fun y i σ' => body.exec Γ (bindKV k v i y σ')) (fun y i σ' τ' => tagExec Γ N body (bindKV k v i y σ') (tbindKV k v τ')) l 0 σ τ).1,
          badE N τ xs + (tagLoop (fun y i σ' => body.exec Γ (bindKV k v i y σ')) (fun y i σ' τ' => tagExec Γ N body (bindKV k v i y σ') (tbindKV k v τ')) l 0 σ τ).2)
       | none => (τ, badE N τ xs))
    | none => (τ, badE N τ xs)
  | .rangeLive m k v body, σ, τ =>
    match σ m with
    | some (.mask mm) =>
      tagLoopLive (fun y i σ' => body.exec Γ (bindKV k v i y σ')) (fun y i σ' τ' => tagExec Γ N body (bindKV k v i y σ') (tbindKV k v τ')) m mm.length 0 σ τ
    | _ => (τ, 0)
  | .ret e, _, τ => (τ, badE N τ e)
  | .lookupColumn s ok fr lf, _, τ => (tset (tset τ s false) ok false, badE N τ fr + badE N τ lf)
  | .ifArgIsColumn lf name t, σ, τ =>
    match σ lf with
    | some (.leaf l) => if (Γ.oracle l).argIsCol then tagExec Γ N t (σ.set name (.tok .argName l)) (tset τ name false) else (τ, 0)
    | _ => (τ, 0)
  | .lookupArgColumn a ok fr _, _, τ => (tset (tset τ a false) ok false, badE N τ fr)
  | .promote _ _ _, _, τ => (τ, 0)
  | .setArg _ _, _, τ => (τ, 0)
  | .ifCmpIsString lf sc t, σ, τ =>
    match σ lf with
    | some (.leaf l) => if (Γ.oracle l).cmpIsString then tagExec Γ N t (σ.set sc (.tok .cmpStr l)) (tset τ sc false) else (τ, 0)
    | _ => (τ, 0)
  | .ifInverseEntry key inv t, σ, τ =>
    match σ key with
    | some (.tok .cmpStr l) => if (Γ.oracle l).hasInverse then tagExec Γ N t (σ.set inv (.tok .invCmp l)) (tset τ inv false) else (τ, 0)
    | _ => (τ, 0)
  | .kernel er _ ix _ _ m, _, τ => (tset τ er false, (if τ m then 0 else 1) + badE N τ ix)
  | .opaque _, _, τ => (τ, 1)

/-! ## Soundness -/

/-- every variable of `F` is tagged fresh -/
def Inv (F : List Var) (τ : Tags) : Prop := ∀ v, inF F v = true → τ v = true

/-- provenance is monotone in the tags: only a variable, and `append` / re-slicing of one, look at them -/
theorem fresh_mono (N : FnId → Bool) {τ τ' : Tags} (h : ∀ v, τ v = true → τ' v = true) (e : E) :
    fresh N τ e = true → fresh N τ' e = true := by
  induction e with
  | var v => exact h v
  | snoc l _ ih _ | truncate l _ ih _ => exact ih
  | _ => exact id

theorem badE_zero (N : FnId → Bool) (F : List Var) (τ : Tags) (h : Inv F τ) (e : E) (ok : okE N (inF F) e = true) :
    badE N τ e = 0 := by
  unfold badE
  rw [List.length_eq_zero_iff, List.filter_eq_nil_iff]
  intro l hl
  have := fresh_mono N h l (List.all_eq_true.1 ok l hl)
  simp [this]

theorem Inv.tset_out {F : List Var} {τ : Tags} (h : Inv F τ) (v : Var) (b : Bool) (hv : inF F v = false) : Inv F (tset τ v b) := by
  intro w hw
  unfold tset
  split
  · rename_i e; subst e; rw [hv] at hw; cases hw
  · exact h w hw

theorem Inv.tset_fresh {F : List Var} {τ : Tags} (h : Inv F τ) (v : Var) : Inv F (tset τ v true) := by
  intro w hw
  unfold tset
  split
  · rfl
  · exact h w hw

theorem Inv.tsetOpt_out {F : List Var} {τ : Tags} (h : Inv F τ) (v : Option Var) (b : Bool) (hv : notF F v = true) :
    Inv F (tsetOpt τ v b) := by
  cases v with
  | none => exact h
  | some v => exact h.tset_out v b (by simpa [notF] using hv)

/-- a ghost result is good for `F`: nothing counted, `F` still tagged — what `tagExec_sound` says of every statement -/
def Good (F : List Var) (r : Tags × Nat) : Prop := r.2 = 0 ∧ Inv F r.1

/-- a good run after evaluating an expression that counts nothing -/
theorem Good.add {F : List Var} {r : Tags × Nat} (g : Good F r) {n : Nat} (hn : n = 0) : Good F (r.1, n + r.2) :=
  ⟨by rw [hn, g.1], g.2⟩

/-- two good runs one after the other -/
theorem Good.seq {F : List Var} {r r' : Tags × Nat} (g : Good F r) (g' : Good F r') : Good F (r'.1, r.2 + r'.2) :=
  g'.add g.1

theorem tagLoop_sound (F : List Var) (step : Val → Nat → Store → Out) (tstep : Val → Nat → Store → Tags → Tags × Nat)
    (hs : ∀ x i σ τ, Inv F τ → Good F (tstep x i σ τ)) :
    ∀ (l : List Val) (i : Nat) (σ : Store) (τ : Tags), Inv F τ → Good F (tagLoop step tstep l i σ τ) := by
  intro l
  induction l with
  | nil => intro i σ τ h; exact ⟨rfl, h⟩
  | cons x xs ih =>
    intro i σ τ h
    have h1 := hs x i σ τ h
    unfold tagLoop
    split
    · exact h1.seq (ih _ _ _ h1.2)
    · exact h1

theorem tagLoopLive_sound (F : List Var) (step : Val → Nat → Store → Out) (tstep : Val → Nat → Store → Tags → Tags × Nat)
    (m : Var) (hs : ∀ x i σ τ, Inv F τ → Good F (tstep x i σ τ)) :
    ∀ (n i : Nat) (σ : Store) (τ : Tags), Inv F τ → Good F (tagLoopLive step tstep m n i σ τ) := by
  intro n
  induction n with
  | zero => intro i σ τ h; exact ⟨rfl, h⟩
  | succ n ih =>
    intro i σ τ h
    unfold tagLoopLive
    split
    · split
      · rename_i b _
        have h1 := hs (.bool b) i σ τ h
        split
        · exact h1.seq (ih _ _ _ h1.2)
        · exact h1
      · exact ⟨rfl, h⟩
    · exact ⟨rfl, h⟩

/-- **The flow-insensitive check implies the flow-sensitive count is 0.** If `okF N F s` and the variables of `F` are tagged
fresh, the ghost run of `s` from ANY store — `S.exec`'s branches and loop rounds, tags computed by the same `fresh N` —
counts no store on an untagged target and leaves `F` tagged. Trusted, not proved: `fresh`'s table of array-making
expressions, and `N` (a parameter: a call is tagged by `N f`, the callee's body is not entered; `newFns` is meant for it). -/
theorem tagExec_sound (Γ : Env) (N : FnId → Bool) (F : List Var) (s : S) :
    okF N F s = true → ∀ (σ : Store) (τ : Tags), Inv F τ → (tagExec Γ N s σ τ).2 = 0 ∧ Inv F (tagExec Γ N s σ τ).1 := by
  show okF N F s = true → ∀ (σ : Store) (τ : Tags), Inv F τ → Good F (tagExec Γ N s σ τ)
  induction s with
  | skip | incr _ | promote _ _ _ | setArg _ _ => intro _ σ τ h; exact ⟨rfl, h⟩
  | seq a b iha ihb =>
    intro ok σ τ h
    simp only [okF, Bool.and_eq_true] at ok
    have h1 := iha ok.1 σ τ h
    unfold tagExec
    split
    · exact h1.seq (ihb ok.2 _ _ h1.2)
    · exact h1
  | define v e | assign v e =>
    intro ok σ τ h
    simp only [okF, Bool.and_eq_true, Bool.or_eq_true, Bool.not_eq_true'] at ok
    refine ⟨badE_zero N F τ h e ok.1, ?_⟩
    rcases ok.2 with hv | hf
    · exact h.tset_out v _ hv
    · simp only [tagExec, fresh_mono N h e hf]; exact h.tset_fresh v
  | setAt m i e =>
    intro ok σ τ h
    simp only [okF, Bool.and_eq_true] at ok
    refine ⟨?_, h⟩
    simp only [tagExec, h m ok.1.1, badE_zero N F τ h i ok.1.2, badE_zero N F τ h e ok.2, ↓reduceIte]
  | ite c t e iht ihe =>
    intro ok σ τ h
    simp only [okF, Bool.and_eq_true] at ok
    have hc := badE_zero N F τ h c ok.1.1
    unfold tagExec
    split
    · exact (iht ok.1.2 σ τ h).add hc
    · exact (ihe ok.2 σ τ h).add hc
    · exact ⟨hc, h⟩
  | ifIs x ty v t e iht ihe =>
    intro ok σ τ h
    simp only [okF, Bool.and_eq_true, Bool.not_eq_true'] at ok
    have hc := badE_zero N F τ h x ok.1.1.1
    unfold tagExec
    split
    · split
      · exact (iht ok.1.2 _ _ (h.tset_out v false ok.1.1.2)).add hc
      · exact (ihe ok.2 σ τ h).add hc
    · exact ⟨hc, h⟩
  | range xs k v body ih =>
    intro ok σ τ h
    simp only [okF, Bool.and_eq_true] at ok
    have hc := badE_zero N F τ h xs ok.1.1.1
    unfold tagExec
    split
    · split
      · exact (tagLoop_sound F _ _
          (fun x i σ τ hτ => ih ok.2 _ _ ((hτ.tsetOpt_out k false ok.1.1.2).tsetOpt_out v false ok.1.2)) _ 0 σ τ h).add hc
      · exact ⟨hc, h⟩
    · exact ⟨hc, h⟩
  | rangeLive m k v body ih =>
    intro ok σ τ h
    simp only [okF, Bool.and_eq_true] at ok
    unfold tagExec
    split
    · exact tagLoopLive_sound F _ _ m
        (fun x i σ τ hτ => ih ok.2 _ _ ((hτ.tsetOpt_out k false ok.1.1).tsetOpt_out v false ok.1.2)) _ 0 σ τ h
    · exact ⟨rfl, h⟩
  | setInverse _ e | ret e =>
    intro ok σ τ h
    simp only [okF] at ok
    exact ⟨badE_zero N F τ h e ok, h⟩
  | lookupColumn s okv fr lf =>
    intro ok σ τ h
    simp only [okF, Bool.and_eq_true, Bool.not_eq_true'] at ok
    refine ⟨?_, (h.tset_out s false ok.1.1.1).tset_out okv false ok.1.1.2⟩
    simp only [tagExec, badE_zero N F τ h fr ok.1.2, badE_zero N F τ h lf ok.2]
  | ifArgIsColumn _ name t ih | ifCmpIsString _ name t ih | ifInverseEntry _ name t ih =>
    intro ok σ τ h
    simp only [okF, Bool.and_eq_true, Bool.not_eq_true'] at ok
    unfold tagExec
    split
    · split
      · exact ih ok.2 _ _ (h.tset_out name false ok.1)
      · exact ⟨rfl, h⟩
    · exact ⟨rfl, h⟩
  | lookupArgColumn a okv fr name =>
    intro ok σ τ h
    simp only [okF, Bool.and_eq_true, Bool.not_eq_true'] at ok
    refine ⟨?_, (h.tset_out a false ok.1.1).tset_out okv false ok.1.2⟩
    simp only [tagExec, badE_zero N F τ h fr ok.2]
  | kernel er s ix cmp lf m =>
    intro ok σ τ h
    simp only [okF, Bool.and_eq_true, Bool.not_eq_true'] at ok
    refine ⟨?_, h.tset_out er false ok.1.2⟩
    simp only [tagExec, h m ok.1.1, badE_zero N F τ h ix ok.2, ↓reduceIte]
  | «opaque» _ => intro ok; simp [okF] at ok

/-- the tags a function run starts with: the receiver and the parameters are SHARED, a local that is not bound yet holds
nothing -/
def tags0 (params : Nat) : Tags := fun v => decide (params ≤ v)

/-- the ghost run of a whole function from its arguments -/
def tagRunFn (Γ : Env) (N : FnId → Bool) (fn : Fn) (args : List Val) : Nat :=
  (tagExec Γ N fn.body (bindArgs args 0 Store.empty) (tags0 fn.params)).2

/-- **A function that passes the check executes no store into an array that was not made in the same run** — for every
environment (callees, leaf oracle) and all arguments. -/
theorem runFn_writes_only_fresh (Γ : Env) (N : FnId → Bool) (fn : Fn) (args : List Val)
    (h : writesOnlyFresh N fn = true) : tagRunFn Γ N fn args = 0 := by
  simp only [writesOnlyFresh, Bool.and_eq_true, List.all_eq_true, decide_eq_true_eq] at h
  refine (tagExec_sound Γ N _ fn.body h.1 _ (tags0 fn.params) ?_).1
  intro v hv
  simp only [tags0, decide_eq_true_eq]
  exact h.2 v (by simpa [inF] using hv)

/-! ## Today's terms -/

/-- the callees of today's unit that return a new array (or no array) -/
abbrev todayNew : FnId → Bool := newFns Gen.clauseFns

/-- **Every function of today's clause evaluation passes the check** (redone on every run). -/
theorem gen_clauses_writes_only_fresh : ∀ p ∈ Gen.clauseFns, writesOnlyFresh todayNew p.2 = true := by decide +kernel

/-- `index.NewBool` and `index.Int.Filter` return new arrays; `withIndex` / `withErr` return frames (not new: they carry the
index they are given / the receiver's) -/
example : todayNew .newBool = true ∧ todayNew .ixFilter = true ∧ todayNew .withIndex = false ∧ todayNew .withErr = false := by
  decide +kernel

/-- **Any run of any function of today's unit, from any arguments, under any environment: no store into an existing array.** -/
theorem gen_clauses_runs_write_only_fresh (Γ : Env) (p : FnId × Fn) (hp : p ∈ Gen.clauseFns) (args : List Val) :
    tagRunFn Γ todayNew p.2 args = 0 :=
  runFn_writes_only_fresh Γ _ _ args (gen_clauses_writes_only_fresh p hp)

/-- what a returned frame expression shares -/
inductive RetKind where
  /-- the receiver / the frame parameter itself (variable `v`) -/
  | param (v : Var)
  /-- a frame with the index of frame `v` unchanged (`withErr`) -/
  | sameIndex
  /-- a frame with an index made in this run (`withIndex(qf, <fresh>)`) -/
  | newIndex
  /-- the result of another function of the unit / of a sub-clause's method -/
  | callee
  /-- not a frame (an array, a number, an error, a clause struct) -/
  | other
  deriving DecidableEq, Repr

def retKind (N : FnId → Bool) (params : Nat) (F : List Var) : E → RetKind
  | .var v => if v < params then .param v else if inF F v then .other else .callee
  | .call2 .withErr _ _ => .sameIndex
  | .call2 .withIndex _ ix => if fresh N (inF F) ix then .newIndex else .sameIndex
  | .call2 .leaves _ _ | .callFilter _ _ | .deref _ | .call3 .orFrames _ _ _ | .addr _ => .callee
  | _ => .other

def retKinds (N : FnId → Bool) (fn : Fn) : List RetKind :=
  (rets fn.body).map (retKind N fn.params (cands N fn.body))

/-- **What the results of today's Filter functions share** (read off the terms): `QFrame.filter` returns the receiver
(failed frame), `withErr` of the receiver (unknown column, unknown argument column, kernel error) or `withIndex` of a NEW
index (`index.Int.Filter`); `NotClause.filter` and `orFrames` build their index with `make` + `append`; the clause methods
and `QFrame.Filter` return the receiver or what their callees return. No function returns a frame whose index is an
existing array that the function has written. -/
theorem gen_clauses_result_provenance :
    (Gen.clauseFns.lookup .leaves).map (retKinds todayNew) =
      some [.param 0, .sameIndex, .sameIndex, .sameIndex, .newIndex] ∧
    (Gen.clauseFns.lookup .publicFilter).map (retKinds todayNew) = some [.param 0, .callee] ∧
    (Gen.clauseFns.lookup (.filter .null)).map (retKinds todayNew) = some [.param 1] ∧
    (Gen.clauseFns.lookup (.filter .not)).map (retKinds todayNew) =
      some [.param 1, .sameIndex, .callee, .callee, .newIndex] ∧
    (Gen.clauseFns.lookup .orFrames).map (retKinds todayNew) = some [.param 2, .param 1, .param 2, .callee] := by
  decide +kernel

/-! ## Witnesses -/

/-- `QFrame.filter` compacting the surviving rows INTO THE RECEIVER'S INDEX (`ix := qf.index; … ix = append(ix[:0]…)` —
here: the result index is `append`ed onto `qf.index` itself) -/
def leavesInPlace : Fn :=
  { params := 2, body := S.block [S.define 2 (E.call1 FnId.newBool (E.call1 FnId.ixLen (E.frameIndex (E.var 0)))),
      S.define 3 (E.frameIndex (E.var 0)),
      S.range (E.var 2) (some 4) (some 5) (S.block [S.ite (E.not (E.var 5)) (S.block [S.assign 3 (E.snoc (E.var 3) (E.at (E.frameIndex (E.var 0)) (E.var 4)))]) (S.block [])]),
      S.ret (E.call2 FnId.withIndex (E.var 0) (E.var 3))] }

/-- `QFrame.filter` evaluating its kernels on a mask it was handed (parameter 2) instead of its own `index.NewBool` -/
def leavesSharedMask : Fn :=
  { params := 3, body := S.block [S.range (E.var 1) none (some 3) (S.block [S.lookupColumn 4 5 (E.var 0) (E.var 3),
      S.kernel 6 4 (E.frameIndex (E.var 0)) KCmp.own 3 2]),
      S.ret (E.call2 FnId.withIndex (E.var 0) (E.call2 FnId.ixFilter (E.frameIndex (E.var 0)) (E.var 2)))] }

def exLeaf : F.Leaf := { shape := .guarded, pred := fun p => p == 1 }
def exEnv : Env := { call := callAt Gen.clauseFns LeafCalls.ofLeaf 3, oracle := LeafCalls.ofLeaf }

/-- **Witness: a Filter that compacts into the receiver's index** fails the check, and its ghost run on the frame with
index [2, 0, 1] counts a store into an array that existed. -/
theorem witness_filter_in_place :
    writesOnlyFresh todayNew leavesInPlace = false ∧
    0 < tagRunFn exEnv todayNew leavesInPlace [.frame { index := [2, 0, 1] }, .leaves [exLeaf]] := by
  decide +kernel

/-- **Witness: kernels run on a mask that is an argument** (a mask shared with the caller). -/
theorem witness_filter_shared_mask :
    writesOnlyFresh todayNew leavesSharedMask = false ∧
    0 < tagRunFn exEnv todayNew leavesSharedMask [.frame { index := [2, 0, 1] }, .leaves [exLeaf], .mask [false, false, false]] := by
  decide +kernel

/-- today's `QFrame.filter` on the same input: the run has a value and the ghost run counts nothing -/
example : (Gen.clauseFns.lookup .leaves).map (fun fn =>
    ((runFn exEnv fn [.frame { index := [2, 0, 1] }, .leaves [exLeaf]]).isSome,
      tagRunFn exEnv todayNew fn [.frame { index := [2, 0, 1] }, .leaves [exLeaf]])) = some (true, 0) := by decide +kernel

/-- the int `isnull` kernel as it was before the repair `fix: isnull on an int column no longer clears matches of earlier OR
branches` (/repo history): `for i := range bIndex { bIndex[i] = false }` — `KShape.setAll false` — instead of leaving the
mask alone -/
def isnullOld : F.Leaf := { shape := .setAll false, pred := fun _ => false }
/-- the repaired kernel: a guarded kernel whose predicate never holds (an int is never null) -/
def isnullNew : F.Leaf := { shape := .guarded, pred := fun _ => false }

def indexOf : Option Val → Option (List F.Pos)
  | some (.frame g) => some g.index
  | _ => none

/-- **Witness: the int `isnull` kernel clearing the SHARED MASK** — shared between the leaves of one `QFrame.filter` call
(an `Or` of filters is evaluated on one mask). With the old kernel the match of the first leaf (position 1) is lost, with
the repaired one it is kept. In both runs the ghost run counts NO store into an existing array: the mask is
`index.NewBool` of the same call, the kernels store into it by design — the defect was a wrong value in an array the call
owns (a C02 defect: seeded / repaired there), not a write into storage that existed; C01 / C11 hold for both. -/
theorem witness_isnull_kernel_shared_mask :
    (Gen.clauseFns.lookup .leaves).map (fun fn =>
      (indexOf (runFn exEnv fn [.frame { index := [2, 0, 1] }, .leaves [exLeaf, isnullOld]]),
       indexOf (runFn exEnv fn [.frame { index := [2, 0, 1] }, .leaves [exLeaf, isnullNew]]),
       tagRunFn exEnv todayNew fn [.frame { index := [2, 0, 1] }, .leaves [exLeaf, isnullOld]],
       tagRunFn exEnv todayNew fn [.frame { index := [2, 0, 1] }, .leaves [exLeaf, isnullNew]])) =
    some (some [], some [1], 0, 0) := by decide +kernel

#print axioms witness_isnull_kernel_shared_mask
#print axioms tagExec_sound
#print axioms runFn_writes_only_fresh
#print axioms gen_clauses_writes_only_fresh
#print axioms gen_clauses_runs_write_only_fresh
#print axioms gen_clauses_result_provenance
#print axioms witness_filter_in_place
#print axioms witness_filter_shared_mask

end QF.Props.C01FreshCL
