import QF.Props.C16RyuCanon
import QF.Core.Ryu64
/-!
# C16 — the meaning of the canonical Ryu terms, function by function (1: the helpers)

The canonical terms of C16RyuCanon (`canonFns`) are run in the semantics `RY.S.exec` / `RY.E.eval` (QF/Core/RYExpr.lean):
one equation per statement form and per expression form (`exec_*`, `eval_*`: the set is complete, whether a rule below uses
the equation or not, but for `S.opaque`, which does not occur: `gen_ryu_no_opaque`; the loops keep their step functions folded
so that loop lemmas can be stated by induction), the rules by which C16RyuFns / Main / Step4 / Layout run a program on an
explicit store by evaluation, one statement at a time (`block_step`, `if_enter`, `call1_of`, …), the loop rule `forLoop_sim`
for the loops that end by their condition or a `break` and whose mirror is given by two equations (C16RyuMain, C16RyuStep4;
a loop that ends by `return` or whose mirror has another shape gets its own induction on the rounds), and then, bottom-up
along the call graph, one lemma per helper saying that a call of the canonical term returns what the hand-written mirror
`QF.Ryu64` (QF/Core/Ryu64.lean) computes:

* `call_boolToUint64`, `call_boolToUint32`, `call_boolToInt`
* `call_log10Pow2`, `call_log10Pow5`, `call_pow5Bits`   (inside the ranges the code asserts)
* `call_shiftRight128`, `call_mulShift64`               (`shift − 64 < 64` as the code asserts; `0 ≤ shift − 64` is what the
                                                         callers of `mulShift64` provide: `Step3Ok`)
* `call_pow5Factor64`, `call_multipleOf5`               (`v ≠ 0`: the Go loop does not terminate for 0)
* `call_multipleOf2`
* `call_decimalLen64`                                   (`u < 2^59`: beyond, Go indexes `powersOf10` out of range)
-/
namespace QF.Props.C16RyuGen
open QF QF.RY

/-- the tables the interpretation reads: the two multiplier tables regenerated by `QF.Gen.Ryu`, and `powersOf10` -/
def T : Tbl → Nat → Option Val := tables Gen.pow5Split64 Gen.pow5InvSplit64 canonPow10

/-- the environment of a function body run at call depth `n + 1` -/
abbrev env (F : Nat) (fr : Nat → List UInt8) (n : Nat) : Env := { call := callAt canonFns T F fr n, tbl := T, fuel := F, fresh := fr }

theorem callAt_succ (F : Nat) (fr : Nat → List UInt8) (n : Nat) (f : FnId) (fn : Fn) (h : canonFns.lookup f = some fn) (args : List Val) :
    callAt canonFns T F fr (n+1) f args = runFn (env F fr n) fn args := by
  simp [callAt, h]

/- `env_call` is rewritten before a call lemma is given: left to the unifier, `(env F fr n).call f args =?= callAt … n f args`
unfolds `callAt` and runs the callee. -/
theorem env_call (F : Nat) (fr : Nat → List UInt8) (n : Nat) : (env F fr n).call = callAt canonFns T F fr n := rfl
theorem env_tbl (F : Nat) (fr : Nat → List UInt8) (n : Nat) : (env F fr n).tbl = T := rfl
theorem env_fuel (F : Nat) (fr : Nat → List UInt8) (n : Nat) : (env F fr n).fuel = F := rfl
theorem env_fresh (F : Nat) (fr : Nat → List UInt8) (n : Nat) : (env F fr n).fresh = fr := rfl

/-- the condition and a clause of a loop as functions of the store, under names: `S.exec` passes them to `forLoop` as lambdas
(`exec_for` is `rfl` all the same); with names a goal shows the `E` / `S` of the loop and a loop lemma can be stated about it -/
def condOf (Γ : Env) (c : E) (σ : Store) : Option Bool := asBool (c.eval Γ σ)
def execOf (Γ : Env) (s : S) (σ : Store) : Out := s.exec Γ σ

section exec
variable (Γ : Env) (σ : Store)
theorem exec_skip : S.skip.exec Γ σ = .next σ := rfl
theorem exec_block_nil : (S.block []).exec Γ σ = .next σ := rfl
theorem exec_block_cons (s : S) (ss : List S) :
    (S.block (s :: ss)).exec Γ σ = (match s.exec Γ σ with | .next σ' => (S.block ss).exec Γ σ' | r => r) := rfl
theorem exec_seq (a b : S) : (S.seq a b).exec Γ σ = (match a.exec Γ σ with | .next σ' => b.exec Γ σ' | r => r) := rfl
theorem exec_scope (b : S) : (S.scope b).exec Γ σ =
    (match b.exec Γ σ with
     | .next σ' => .next (σ'.take σ.length)
     | .brk σ' => .brk (σ'.take σ.length)
     | r => r) := rfl
theorem exec_define (v : Var) (e : E) : (S.define v e).exec Γ σ =
    (if v = σ.length then (match e.eval Γ σ with | some x => .next (σ ++ [x]) | none => .stuck) else .stuck) := rfl
theorem exec_define2 (v w : Option Var) (e : E) : (S.define2 v w e).exec Γ σ =
    (match e.eval Γ σ with
     | some (.pair x y) =>
       (match pushOpt σ v x with
        | some σ' => (match pushOpt σ' w y with | some σ'' => .next σ'' | none => .stuck)
        | none => .stuck)
     | _ => .stuck) := rfl
theorem exec_assign (v : Var) (e : E) : (S.assign v e).exec Γ σ =
    (if v < σ.length then (match e.eval Γ σ with | some x => .next (σ.set v x) | none => .stuck) else .stuck) := rfl
theorem exec_setField (v : Var) (k : Nat) (e : E) : (S.setField v k e).exec Γ σ =
    (match σ[v]?, e.eval Γ σ with
     | some s, some x => (match setFld k x s with | some s' => .next (σ.set v s') | none => .stuck)
     | _, _ => .stuck) := rfl
theorem exec_setIndex (v : Var) (ix e : E) : (S.setIndex v ix e).exec Γ σ =
    (match σ[v]?, ix.eval Γ σ, e.eval Γ σ with
     | some (.bytes c sp), some y, some (.u w x) =>
       (match y.toZ with
        | some z => if w = 8 ∧ 0 ≤ z ∧ z < (c.length : Nat) then .next (σ.set v (.bytes (c.set z.toNat x.toUInt8) sp)) else .stuck
        | none => .stuck)
     | _, _, _ => .stuck) := rfl
theorem exec_ite (c : E) (t e : S) : (S.ite c t e).exec Γ σ =
    (match c.eval Γ σ with
     | some (.bool true) => t.exec Γ σ
     | some (.bool false) => e.exec Γ σ
     | _ => .stuck) := rfl
theorem exec_for (init : S) (cond : E) (post body : S) : (S.for init cond post body).exec Γ σ =
    (match init.exec Γ σ with
     | .next σ' =>
       (match forLoop (condOf Γ cond) (execOf Γ body) (execOf Γ post) Γ.fuel σ' with
        | .next σ'' => .next (σ''.take σ.length)
        | r => r)
     | _ => .stuck) := rfl
theorem exec_brk : S.brk.exec Γ σ = .brk σ := rfl
theorem exec_ret (e : E) : (S.ret e).exec Γ σ = (match e.eval Γ σ with | some x => .ret x | none => .stuck) := rfl
theorem exec_assert (c : E) : (S.assert c).exec Γ σ = (match c.eval Γ σ with | some (.bool true) => .next σ | _ => .stuck) := rfl
end exec


/-- `a || b` / `a && b` on the values of the operands (the operands of the translated code have no effects) -/
def orVal (ra rb : Option Val) : Option Val :=
  match ra with
  | some (.bool true) => some (.bool true)
  | some (.bool false) => (match rb with | some (.bool x) => some (.bool x) | _ => none)
  | _ => none
def andVal (ra rb : Option Val) : Option Val :=
  match ra with
  | some (.bool false) => some (.bool false)
  | some (.bool true) => (match rb with | some (.bool x) => some (.bool x) | _ => none)
  | _ => none
theorem orVal_bool (x y : Bool) : orVal (some (.bool x)) (some (.bool y)) = some (.bool (x || y)) := by cases x <;> rfl
theorem andVal_bool (x y : Bool) : andVal (some (.bool x)) (some (.bool y)) = some (.bool (x && y)) := by cases x <;> rfl

section eval
variable (Γ : Env) (σ : Store)
theorem eval_var (v : Var) : (E.var v).eval Γ σ = σ[v]? := rfl
theorem eval_u (w n : Nat) : (E.u w n).eval Γ σ = some (.u w n) := rfl
theorem eval_i (w : Nat) (z : Int) : (E.i w z).eval Γ σ = some (.i w z) := rfl
theorem eval_bool (b : Bool) : (E.bool b).eval Γ σ = some (.bool b) := rfl
theorem eval_field (e : E) (k : Nat) : (E.field e k).eval Γ σ =
    (match e.eval Γ σ with
     | some (.pair a b) => if k = 0 then some a else if k = 1 then some b else none
     | _ => none) := rfl
theorem eval_mk2 (a b : E) : (E.mk2 a b).eval Γ σ =
    (match a.eval Γ σ, b.eval Γ σ with | some x, some y => some (.pair x y) | _, _ => none) := rfl
theorem eval_not (e : E) : (E.not e).eval Γ σ = (match e.eval Γ σ with | some (.bool b) => some (.bool (!b)) | _ => none) := rfl
theorem eval_neg (e : E) : (E.neg e).eval Γ σ =
    (match e.eval Γ σ with
     | some (.i w z) => some (.i w (wrapS w (-z)))
     | some (.u w n) => some (.u w ((2 ^ w - n) % 2 ^ w))
     | _ => none) := rfl
theorem eval_and (a b : E) : (E.and a b).eval Γ σ = andVal (a.eval Γ σ) (b.eval Γ σ) := rfl
theorem eval_or (a b : E) : (E.or a b).eval Γ σ = orVal (a.eval Γ σ) (b.eval Γ σ) := rfl
theorem eval_cmp (op : COp) (a b : E) : (E.cmp op a b).eval Γ σ =
    (match a.eval Γ σ, b.eval Γ σ with | some x, some y => (x.compare op y).map .bool | _, _ => none) := rfl
theorem eval_bin (op : AOp) (a b : E) : (E.bin op a b).eval Γ σ =
    (match a.eval Γ σ, b.eval Γ σ with | some x, some y => x.arith op y | _, _ => none) := rfl
theorem eval_shl (a s : E) : (E.shl a s).eval Γ σ =
    (match a.eval Γ σ, s.eval Γ σ with
     | some x, some y => (match y.count with | some n => x.shl n | none => none)
     | _, _ => none) := rfl
theorem eval_shr (a s : E) : (E.shr a s).eval Γ σ =
    (match a.eval Γ σ, s.eval Γ σ with
     | some x, some y => (match y.count with | some n => x.shr n | none => none)
     | _, _ => none) := rfl
theorem eval_toU (w : Nat) (e : E) : (E.toU w e).eval Γ σ =
    (match e.eval Γ σ with | some x => x.toZ.map (fun z => .u w (z % 2 ^ w).toNat) | none => none) := rfl
theorem eval_toI (w : Nat) (e : E) : (E.toI w e).eval Γ σ =
    (match e.eval Γ σ with | some x => x.toZ.map (fun z => .i w (wrapS w z)) | none => none) := rfl
theorem eval_mul64 (a b : E) : (E.mul64 a b).eval Γ σ =
    (match a.eval Γ σ, b.eval Γ σ with
     | some (.u w x), some (.u w' y) =>
       if w = 64 ∧ w' = 64 then some (.pair (.u 64 (x * y / 2 ^ 64 % 2 ^ 64)) (.u 64 (x * y % 2 ^ 64))) else none
     | _, _ => none) := rfl
theorem eval_lz64 (e : E) : (E.lz64 e).eval Γ σ =
    (match e.eval Γ σ with | some (.u w n) => if w = 64 then some (.i 64 (64 - (RY.bitLen n : Int))) else none | _ => none) := rfl
theorem eval_tz64 (e : E) : (E.tz64 e).eval Γ σ =
    (match e.eval Γ σ with | some (.u w n) => if w = 64 then some (.i 64 (RY.tz64 n : Nat)) else none | _ => none) := rfl
theorem eval_tbl (t : Tbl) (ix : E) : (E.tbl t ix).eval Γ σ =
    (match ix.eval Γ σ with
     | some x => (match x.toZ with | some z => if z < 0 then none else Γ.tbl t z.toNat | none => none)
     | none => none) := rfl
theorem eval_call1 (f : FnId) (a : E) : (E.call1 f a).eval Γ σ = (match a.eval Γ σ with | some x => Γ.call f [x] | none => none) := rfl
theorem eval_call2 (f : FnId) (a b : E) : (E.call2 f a b).eval Γ σ =
    (match a.eval Γ σ, b.eval Γ σ with | some x, some y => Γ.call f [x, y] | _, _ => none) := rfl
theorem eval_call3 (f : FnId) (a b c : E) : (E.call3 f a b c).eval Γ σ =
    (match a.eval Γ σ, b.eval Γ σ, c.eval Γ σ with
     | some x, some y, some z => Γ.call f [x, y, z]
     | _, _, _ => none) := rfl
theorem eval_call4 (f : FnId) (a b c d : E) : (E.call4 f a b c d).eval Γ σ =
    (match a.eval Γ σ, b.eval Γ σ, c.eval Γ σ, d.eval Γ σ with
     | some x, some y, some z, some w => Γ.call f [x, y, z, w]
     | _, _, _, _ => none) := rfl
theorem eval_str (l : List Nat) : (E.str l).eval Γ σ = some (.str (l.map Nat.toUInt8)) := rfl
theorem eval_len (e : E) : (E.len e).eval Γ σ =
    (match e.eval Γ σ with | some x => x.bytesOf.map (fun l => .i 64 (l.length : Nat)) | none => none) := rfl
theorem eval_cap (e : E) : (E.cap e).eval Γ σ =
    (match e.eval Γ σ with | some (.bytes c sp) => some (.i 64 ((c.length + sp.length : Nat) : Int)) | _ => none) := rfl
theorem eval_index (b ix : E) : (E.index b ix).eval Γ σ =
    (match b.eval Γ σ, ix.eval Γ σ with
     | some (.bytes c _), some y =>
       (match y.toZ with | some z => if z < 0 then none else (c[z.toNat]?).map (fun x => .u 8 x.toNat) | none => none)
     | _, _ => none) := rfl
theorem eval_sliceTo (b hi : E) : (E.sliceTo b hi).eval Γ σ =
    (match b.eval Γ σ, hi.eval Γ σ with
     | some (.bytes c sp), some y =>
       (match y.toZ with
        | some z => if z < 0 ∨ ((c.length + sp.length : Nat) : Int) < z then none
                    else some (.bytes ((c ++ sp).take z.toNat) ((c ++ sp).drop z.toNat))
        | none => none)
     | _, _ => none) := rfl
theorem eval_makeBytes (n : E) : (E.makeBytes n).eval Γ σ =
    (match n.eval Γ σ with
     | some y => (match y.toZ with | some z => if z < 0 then none else some (.bytes (List.replicate z.toNat 0) []) | none => none)
     | none => none) := rfl
theorem eval_append1 (site : Nat) (b x : E) : (E.append1 site b x).eval Γ σ =
    (match b.eval Γ σ, x.eval Γ σ with
     | some (.bytes c sp), some (.u w v) => if w = 8 then some (appendTo c sp [v.toUInt8] (Γ.fresh site)) else none
     | _, _ => none) := rfl
theorem eval_appendS (site : Nat) (b x : E) : (E.appendS site b x).eval Γ σ =
    (match b.eval Γ σ, x.eval Γ σ with
     | some (.bytes c sp), some y => (match y.bytesOf with | some bs => some (appendTo c sp bs (Γ.fresh site)) | none => none)
     | _, _ => none) := rfl
theorem eval_f64bits (e : E) : (E.f64bits e).eval Γ σ = (match e.eval Γ σ with | some (.f64 n) => some (.u 64 n) | _ => none) := rfl
theorem eval_opaque (t : String) : (E.opaque t).eval Γ σ = none := rfl
end eval

theorem exec_block_append (Γ : Env) (l1 l2 : List S) (σ : Store) :
    (S.block (l1 ++ l2)).exec Γ σ = (match (S.block l1).exec Γ σ with | .next σ' => (S.block l2).exec Γ σ' | r => r) := by
  induction l1 generalizing σ with
  | nil => rfl
  | cons s ss ih =>
    simp only [List.cons_append, exec_block_cons]
    cases s.exec Γ σ <;> simp [ih]

/-- a block without its first statement: for stating a lemma about a function body after its first statement
(`exec_appendF_rest`) -/
def restOf : S → S
  | .seq _ b => b
  | s => s

theorem forLoop_succ (cond : Store → Option Bool) (body post : Store → Out) (F : Nat) (σ : Store) :
    forLoop cond body post (F+1) σ =
      (match cond σ with
       | some true =>
         (match body σ with
          | .next σ' => (match post σ' with | .next σ'' => forLoop cond body post F σ'' | _ => .stuck)
          | .brk σ' => .next σ'
          | r => r)
       | some false => .next σ
       | none => .stuck) := rfl

theorem Out.bind_next (σ : Store) (k : Store → Out) : (Out.next σ).bind k = k σ := id rfl
theorem Out.bind_brk (σ : Store) (k : Store → Out) : (Out.brk σ).bind k = Out.brk σ := id rfl
theorem Out.bind_ret (v : Val) (k : Store → Out) : (Out.ret v).bind k = Out.ret v := id rfl
theorem Out.bind_stuck (k : Store → Out) : Out.stuck.bind k = Out.stuck := id rfl
theorem Out.bindStrict_next (σ : Store) (k : Store → Out) : (Out.next σ).bindStrict k = k σ := id rfl
theorem Out.scoped_next (n : Nat) (σ : Store) : (Out.next σ).scoped n = Out.next (σ.take n) := id rfl
theorem Out.scoped_brk (n : Nat) (σ : Store) : (Out.brk σ).scoped n = Out.brk (σ.take n) := id rfl
theorem Out.scoped_ret (n : Nat) (v : Val) : (Out.ret v).scoped n = Out.ret v := id rfl
theorem Out.loopEnd_next (n : Nat) (σ : Store) : (Out.next σ).loopEnd n = Out.next (σ.take n) := id rfl
theorem Out.loopEnd_ret (n : Nat) (v : Val) : (Out.ret v).loopEnd n = Out.ret v := id rfl
theorem Out.res_ret (v : Val) : (Out.ret v).res = some v := id rfl
theorem Out.branch_true (rt re : Out) : Out.branch (some (.bool true)) rt re = rt := id rfl
theorem Out.branch_false (rt re : Out) : Out.branch (some (.bool false)) rt re = re := id rfl
theorem stepOut_ret (v : Val) (post rec : Store → Out) (σ : Store) : stepOut (some true) (.ret v) post rec σ = Out.ret v := id rfl

section round
variable (Γ : Env) (cond : E) (post body : S) (F : Nat) (σ : Store)
theorem forLoop_exit (hc : condOf Γ cond σ = some false) :
    forLoop (condOf Γ cond) (execOf Γ body) (execOf Γ post) (F+1) σ = .next σ := by
  rw [forLoop_succ, hc]
theorem forLoop_brk {σ' : Store} (hc : condOf Γ cond σ = some true) (hb : body.exec Γ σ = .brk σ') :
    forLoop (condOf Γ cond) (execOf Γ body) (execOf Γ post) (F+1) σ = .next σ' := by
  rw [forLoop_succ, hc, execOf, hb]
theorem forLoop_next {σ' σ'' : Store} (hc : condOf Γ cond σ = some true) (hb : body.exec Γ σ = .next σ')
    (hp : post.exec Γ σ' = .next σ'') :
    forLoop (condOf Γ cond) (execOf Γ body) (execOf Γ post) (F+1) σ =
      forLoop (condOf Γ cond) (execOf Γ body) (execOf Γ post) F σ'' := by
  rw [forLoop_succ, hc, execOf, hb]; dsimp only; rw [execOf, hp]
theorem forLoop_ret {x : Val} (hc : condOf Γ cond σ = some true) (hb : body.exec Γ σ = .ret x) :
    forLoop (condOf Γ cond) (execOf Γ body) (execOf Γ post) (F+1) σ = .ret x := by
  rw [forLoop_succ, hc, execOf, hb]
end round
theorem condOf_true (Γ : Env) (σ : Store) : condOf Γ (E.bool true) σ = some true := rfl

/-! ## Execution by evaluation

A statement on an explicit store is run by the interpreter itself: `s.exec Γ [a, b, …] = .next ?σ'` holds by `rfl`, and the
elaborator finds `?σ'` by evaluating the left side (look-ups in a list literal, the arithmetic on `Val.u w x` / `Val.i w z`
left standing as the term the interpreter builds: `(x + (2 ^ w - y % 2 ^ w)) % 2 ^ w`, `wrapS w (z + 1)`, `decide (x ≤ y)`).
The rules below cut a program into the pieces that evaluate: one statement of a block (`block_step`), the end of a scope, a
branch whose condition is known by a hypothesis (`if_enter`, `if_else`, `if_skip`), and — where evaluation stops at something
it cannot compute — the expression forms that pass a fact in: the answer of a call (`call1_of` …, whatever stands around the
call by `bin_of`, `cmp_of`), a table entry (`tbl_of`), `&&` / `||` of Booleans that are variables (`and_of`, `or_of`), an
index inside the slice (`setIndex_of`), a signed result inside its range (`wrap32_of`, `wrap64_of` below: the wrap-around goes
where the operation stands), an unsigned subtraction as the mirror writes it (`sub64_of`, `sub32_of`, the `h` of `bin_of`). Evaluate one statement at a time and bring the store back to a list literal after each
(`xstep`): the evaluation of a block as a whole re-evaluates every pending `List.set` / `++` at each look-up. -/
section rules
variable {Γ : Env} {σ σ' σ'' : Store} {r : Out} {s t e : S} {ss : List S} {c a b d : E} {x y z w : Val} {v : Var} {f : FnId}

theorem block_step (h : s.exec Γ σ = .next σ') (k : (S.block ss).exec Γ σ' = r) : (S.block (s :: ss)).exec Γ σ = r := by
  rw [exec_block_cons, h]; exact k
theorem block_append {l₁ l₂ : List S} (h : (S.block l₁).exec Γ σ = .next σ') (k : (S.block l₂).exec Γ σ' = r) :
    (S.block (l₁ ++ l₂)).exec Γ σ = r := by
  rw [exec_block_append, h]; exact k
theorem block_brk (h : s.exec Γ σ = .brk σ') : (S.block (s :: ss)).exec Γ σ = .brk σ' := by rw [exec_block_cons, h]
theorem block_ret (h : s.exec Γ σ = .ret x) : (S.block (s :: ss)).exec Γ σ = .ret x := by rw [exec_block_cons, h]

theorem scope_next (h : s.exec Γ σ = .next σ') (ht : σ'.take σ.length = σ'') : (S.scope s).exec Γ σ = .next σ'' := by
  rw [exec_scope, h, ← ht]
theorem scope_brk (h : s.exec Γ σ = .brk σ') (ht : σ'.take σ.length = σ'') : (S.scope s).exec Γ σ = .brk σ'' := by
  rw [exec_scope, h, ← ht]
theorem scope_ret (h : s.exec Γ σ = .ret x) : (S.scope s).exec Γ σ = .ret x := by rw [exec_scope, h]
/-- a block that declares nothing -/
theorem scope_same (h : s.exec Γ σ = .next σ') (hl : σ'.length = σ.length) : (S.scope s).exec Γ σ = .next σ' :=
  scope_next h (by rw [← hl, List.take_length])

/-- `hb` says what the condition is; `hc` (by `rfl`, or by `and_of` …) that `c` evaluates to it -/
theorem if_enter {p : Bool} (hb : p = true) (hc : c.eval Γ σ = some (.bool p)) : (S.ite c t e).exec Γ σ = t.exec Γ σ := by
  rw [exec_ite, hc, hb]
theorem if_else {p : Bool} (hb : p = false) (hc : c.eval Γ σ = some (.bool p)) : (S.ite c t e).exec Γ σ = e.exec Γ σ := by
  rw [exec_ite, hc, hb]
/-- `if c { … }` whose condition is false -/
theorem if_skip {p : Bool} (hb : p = false) (hc : c.eval Γ σ = some (.bool p)) :
    (S.ite c t (S.scope (S.block []))).exec Γ σ = .next σ :=
  (if_else hb hc).trans (scope_same rfl rfl)

theorem define_of (hv : v = σ.length) (he : c.eval Γ σ = some x) : (S.define v c).exec Γ σ = .next (σ ++ [x]) := by
  rw [exec_define, if_pos hv, he]
theorem define2_of {w' : Var} (hv : v = σ.length) (hw : w' = σ.length + 1) (he : c.eval Γ σ = some (.pair x y)) :
    (S.define2 (some v) (some w') c).exec Γ σ = .next (σ ++ [x] ++ [y]) := by
  subst hv hw
  rw [exec_define2, he]
  simp [pushOpt]
/-- `hv` is `rfl` (`Nat.blt`, not `<`, so that `rfl` proves it) -/
theorem assign_of (hv : Nat.blt v σ.length = true) (he : c.eval Γ σ = some x) : (S.assign v c).exec Γ σ = .next (σ.set v x) := by
  rw [exec_assign, if_pos (show v < σ.length from Nat.le_of_ble_eq_true hv), he]
/-- `{ v = e }`, the commonest branch of an `if` -/
theorem scope_assign (hv : Nat.blt v σ.length = true) (he : c.eval Γ σ = some x) :
    (S.scope (S.block [S.assign v c])).exec Γ σ = .next (σ.set v x) :=
  scope_same (block_step (assign_of hv he) rfl) (List.length_set ..)
theorem assert_of {p : Bool} (hb : p = true) (hc : c.eval Γ σ = some (.bool p)) : (S.assert c).exec Γ σ = .next σ := by
  rw [exec_assert, hc, hb]
theorem ret_of (he : c.eval Γ σ = some x) : (S.ret c).exec Γ σ = .ret x := by rw [exec_ret, he]
theorem setIndex_of {cs sp : List UInt8} {i : Int} {n : Nat} (hv : σ[v]? = some (.bytes cs sp)) (hi : a.eval Γ σ = some y)
    (hz : y.toZ = some i) (he : c.eval Γ σ = some (.u 8 n)) (h0 : 0 ≤ i) (h1 : i < (cs.length : Nat)) :
    (S.setIndex v a c).exec Γ σ = .next (σ.set v (.bytes (cs.set i.toNat n.toUInt8) sp)) := by
  rw [exec_setIndex, hv, hi, he]
  show (match y.toZ with | some z => _ | none => _) = _
  rw [hz]; exact if_pos ⟨rfl, h0, h1⟩

theorem call1_of (ha : a.eval Γ σ = some x) (h : Γ.call f [x] = some w) : (E.call1 f a).eval Γ σ = some w := by
  rw [eval_call1, ha]; exact h
theorem call2_of (ha : a.eval Γ σ = some x) (hb : b.eval Γ σ = some y) (h : Γ.call f [x, y] = some w) :
    (E.call2 f a b).eval Γ σ = some w := by
  rw [eval_call2, ha, hb]; exact h
theorem call3_of (ha : a.eval Γ σ = some x) (hb : b.eval Γ σ = some y) (hc : c.eval Γ σ = some z)
    (h : Γ.call f [x, y, z] = some w) : (E.call3 f a b c).eval Γ σ = some w := by
  rw [eval_call3, ha, hb, hc]; exact h
/-- `h` is `rfl`, or says what the machine operation is in the mirror's terms -/
theorem bin_of {op : AOp} (ha : a.eval Γ σ = some x) (hb : b.eval Γ σ = some y) (h : x.arith op y = some z) :
    (E.bin op a b).eval Γ σ = some z := by
  rw [eval_bin, ha, hb]; exact h
theorem cmp_of {op : COp} {p : Bool} (ha : a.eval Γ σ = some x) (hb : b.eval Γ σ = some y) (h : x.compare op y = some p) :
    (E.cmp op a b).eval Γ σ = some (.bool p) := by
  rw [eval_cmp, ha, hb]; exact congrArg (Option.map Val.bool) h
theorem tbl_of {tb : Tbl} {n k : Nat} (ha : a.eval Γ σ = some (.u k n)) (h : Γ.tbl tb n = some w) :
    (E.tbl tb a).eval Γ σ = some w := by
  rw [eval_tbl, ha]
  show (if (n : Int) < 0 then none else Γ.tbl tb (n : Int).toNat) = _
  rw [if_neg (Int.not_lt.mpr (Int.natCast_nonneg n)), Int.toNat_natCast]; exact h
/-- a table look-up with a signed index -/
theorem tblZ_of {tb : Tbl} {i : Int} (ha : a.eval Γ σ = some x) (hz : x.toZ = some i) (h0 : 0 ≤ i)
    (h : Γ.tbl tb i.toNat = some w) : (E.tbl tb a).eval Γ σ = some w := by
  rw [eval_tbl, ha]
  show (match x.toZ with | some z => _ | none => _) = _
  rw [hz]
  show (if i < 0 then none else Γ.tbl tb i.toNat) = _
  rw [if_neg (Int.not_lt.mpr h0)]; exact h
theorem sliceTo_of {cs sp : List UInt8} {n : Nat} (hb : b.eval Γ σ = some (.bytes cs sp)) (ha : a.eval Γ σ = some y)
    (hz : y.toZ = some (n : Int)) (h1 : n ≤ cs.length + sp.length) :
    (E.sliceTo b a).eval Γ σ = some (.bytes ((cs ++ sp).take n) ((cs ++ sp).drop n)) := by
  rw [eval_sliceTo, hb, ha]
  show (match y.toZ with | some z => _ | none => _) = _
  rw [hz]; exact if_neg (by omega)
theorem makeBytes_of {n : Nat} (ha : a.eval Γ σ = some y) (hz : y.toZ = some (n : Int)) :
    (E.makeBytes a).eval Γ σ = some (.bytes (List.replicate n 0) []) := by
  rw [eval_makeBytes, ha]
  show (match y.toZ with | some z => _ | none => _) = _
  rw [hz]; exact if_neg (by omega)
theorem appendS_of {cs sp bs : List UInt8} {site : Nat} (hb : b.eval Γ σ = some (.bytes cs sp)) (ha : a.eval Γ σ = some y)
    (hy : y.bytesOf = some bs) : (E.appendS site b a).eval Γ σ = some (appendTo cs sp bs (Γ.fresh site)) := by
  rw [eval_appendS, hb, ha]
  show (match y.bytesOf with | some bs => _ | none => _) = _
  rw [hy]
theorem and_of {p q : Bool} (ha : a.eval Γ σ = some (.bool p)) (hb : b.eval Γ σ = some (.bool q)) :
    (E.and a b).eval Γ σ = some (.bool (p && q)) := by rw [eval_and, ha, hb, andVal_bool]
theorem or_of {p q : Bool} (ha : a.eval Γ σ = some (.bool p)) (hb : b.eval Γ σ = some (.bool q)) :
    (E.or a b).eval Γ σ = some (.bool (p || q)) := by rw [eval_or, ha, hb, orVal_bool]

theorem cond_true {p : Bool} (hb : p = true) (hc : c.eval Γ σ = some (.bool p)) : condOf Γ c σ = some true := by
  rw [condOf, hc, hb]; rfl
theorem cond_false {p : Bool} (hb : p = false) (hc : c.eval Γ σ = some (.bool p)) : condOf Γ c σ = some false := by
  rw [condOf, hc, hb]; rfl

/-- a `for` statement: its init statement, the loop from there (a loop lemma), the end of its scope -/
theorem for_next {σ₀ σ₁ : Store} (hi : s.exec Γ σ = .next σ₀)
    (hl : forLoop (condOf Γ c) (execOf Γ e) (execOf Γ t) Γ.fuel σ₀ = .next σ₁) (ht : σ₁.take σ.length = σ') :
    (S.for s c t e).exec Γ σ = .next σ' := by
  rw [exec_for, hi]; dsimp only; rw [hl, ← ht]
theorem for_ret {σ₀ : Store} (hi : s.exec Γ σ = .next σ₀)
    (hl : forLoop (condOf Γ c) (execOf Γ e) (execOf Γ t) Γ.fuel σ₀ = .ret x) : (S.for s c t e).exec Γ σ = .ret x := by
  rw [exec_for, hi]; dsimp only; rw [hl]
end rules

/-- a call at depth `n + 1` runs the body in the environment of depth `n` -/
theorem call_of {F : Nat} {fr : Nat → List UInt8} {n : Nat} {f : FnId} {fn : Fn} {args : List Val} {v : Val}
    (hl : canonFns.lookup f = some fn) (hp : args.length = fn.params) (h : fn.body.exec (env F fr n) args = .ret v) :
    callAt canonFns T F fr (n+1) f args = some v := by
  rw [callAt_succ F fr n f fn hl, runFn, if_pos hp, h]

/-- brings the store of the goal back to a list literal after a step (`σ ++ [x]`, `σ.set v x`, `σ'.take σ.length`) -/
macro "xlit" : tactic =>
  `(tactic| dsimp only [List.cons_append, List.nil_append, List.set_cons_succ, List.set_cons_zero, List.take_succ_cons, List.take_zero,
      List.length_cons, List.length_nil, Nat.reduceAdd])
/-- the next statement of the block: `t` proves what it does (a rule applied to the facts evaluation cannot find); plain
`xstep` runs it by evaluation -/
macro "xstep" ppSpace colGt t:term:max : tactic => `(tactic| (refine block_step $t ?_; xlit))
macro "xstep" : tactic => `(tactic| xstep rfl)

/-- A `for` loop of the interpretation runs a loop of the mirror. `st` lays the mirror's state out as a store; one round from
`st s` either ends the loop there (`stop s`: the condition fails or the body breaks) or arrives at
`st (next s)` with one unit of fuel less; `ok n s` holds what bounds the rounds by `n` (the Go condition, not the fuel, ends
the loop) and whatever keeps the arithmetic in range. `loop` is the mirror's loop, given by its two equations. -/
theorem forLoop_sim {α : Type} (cond : Store → Option Bool) (body post : Store → Out) (st : α → Store)
    (stop : α → Prop) [DecidablePred stop] (next : α → α) (ok : Nat → α → Prop) (loop : Nat → α → α)
    (hl0 : ∀ s, loop 0 s = s) (hl : ∀ n s, loop (n + 1) s = if stop s then s else loop n (next s))
    (hend : ∀ s F, stop s → forLoop cond body post (F + 1) (st s) = .next (st s))
    (hround : ∀ n s F, ok (n + 1) s → ¬ stop s → forLoop cond body post (F + 1) (st s) = forLoop cond body post F (st (next s)))
    (hok : ∀ n s, ok (n + 1) s → ¬ stop s → ok n (next s)) (hok0 : ∀ s, ok 0 s → stop s) :
    ∀ (n : Nat) (s : α) (F : Nat), ok n s → n < F → forLoop cond body post F (st s) = .next (st (loop n s)) := by
  intro n
  induction n with
  | zero =>
    intro s F h hF
    obtain ⟨F', rfl⟩ : ∃ F', F = F' + 1 := ⟨F - 1, by omega⟩
    rw [hl0, hend s F' (hok0 s h)]
  | succ n ih =>
    intro s F h hF
    obtain ⟨F', rfl⟩ : ∃ F', F = F' + 1 := ⟨F - 1, by omega⟩
    rw [hl]
    by_cases hs : stop s
    · rw [if_pos hs, hend s F' hs]
    · rw [if_neg hs, hround n s F' h hs, ih (next s) F' (hok n s h hs) (by omega)]

/-- `a - b` on `uint<w>` is the mirror's (`Ryu64.subU64`, `subU32`): the `h` of `bin_of` -/
theorem subU_of (w a b : Nat) (h : b < 2 ^ w) : (Val.u w a).arith .sub (.u w b) = some (.u w ((a + 2 ^ w - b) % 2 ^ w)) := by
  show (if w = w then _ else _) = _
  rw [if_pos rfl]
  show some (Val.u w ((a + (2 ^ w - b % 2 ^ w)) % 2 ^ w)) = _
  rw [Nat.mod_eq_of_lt h, ← Nat.add_sub_assoc (Nat.le_of_lt h)]
theorem sub64_of (a b : Nat) (h : b < 2 ^ 64) : (Val.u 64 a).arith .sub (.u 64 b) = some (.u 64 (Ryu64.subU64 a b)) :=
  subU_of 64 a b h
theorem sub32_of (a b : Nat) (h : b < 2 ^ 32) : (Val.u 32 a).arith .sub (.u 32 b) = some (.u 32 (Ryu64.subU32 a b)) :=
  subU_of 32 a b h

/-- a value inside the range of `int<w>` is not changed by the wrap-around (for the two widths with the bounds as literals,
which is what `omega` wants where they are used) -/
theorem wrapS_of_range (w : Nat) (z : Int) (h1 : -(2 ^ (w - 1) : Int) ≤ z) (h2 : z < 2 ^ (w - 1)) : wrapS w z = z := by
  have hp : ((2 ^ (w - 1) : Nat) : Int) = 2 ^ (w - 1) := by simp
  cases z with
  | ofNat n =>
    have : n < 2 ^ (w - 1) := by rw [← hp] at h2; exact Int.ofNat_lt.mp h2
    simp [wrapS, this]
  | negSucc n =>
    have : n < 2 ^ (w - 1) := by rw [← hp, Int.negSucc_eq] at h1; omega
    simp [wrapS, this]
theorem wrapS32 (z : Int) (h1 : -2147483648 ≤ z) (h2 : z < 2147483648) : wrapS 32 z = z := wrapS_of_range 32 z h1 h2
theorem wrapS64 (z : Int) (h1 : -9223372036854775808 ≤ z) (h2 : z < 9223372036854775808) : wrapS 64 z = z :=
  wrapS_of_range 64 z h1 h2
/-- the value of an `int32` / `int` expression that is inside the range: the wrap-around of the last operation goes (`he` is
`rfl`, `bin_of` …, and finds `r`); nested where the expression nests, so that each range is proved where its operation stands -/
theorem wrap32_of {Γ : Env} {σ : Store} {c : E} {r : Int} (he : c.eval Γ σ = some (.i 32 (wrapS 32 r)))
    (h0 : -2147483648 ≤ r) (h1 : r < 2147483648) : c.eval Γ σ = some (.i 32 r) := by rw [he, wrapS32 r h0 h1]
theorem wrap64_of {Γ : Env} {σ : Store} {c : E} {r : Int} (he : c.eval Γ σ = some (.i 64 (wrapS 64 r)))
    (h0 : -9223372036854775808 ≤ r) (h1 : r < 9223372036854775808) : c.eval Γ σ = some (.i 64 r) := by
  rw [he, wrapS64 r h0 h1]
theorem look_exactInt : canonFns.lookup fExactInt = some fnExactInt := rfl
theorem look_toDecimal : canonFns.lookup fToDecimal = some fnToDecimal := rfl
theorem look_decimalLen : canonFns.lookup fDecimalLen = some fnDecimalLen := rfl
theorem look_boolToUint64 : canonFns.lookup fBoolToUint64 = some fnBoolToUint64 := rfl
theorem look_log10Pow2 : canonFns.lookup fLog10Pow2 = some fnLog10Pow2 := rfl
theorem look_boolToUint32 : canonFns.lookup fBoolToUint32 = some fnBoolToUint32 := rfl
theorem look_pow5Bits : canonFns.lookup fPow5Bits = some fnPow5Bits := rfl
theorem look_mulShift : canonFns.lookup fMulShift = some fnMulShift := rfl
theorem look_multipleOf5 : canonFns.lookup fMultipleOf5 = some fnMultipleOf5 := rfl
theorem look_log10Pow5 : canonFns.lookup fLog10Pow5 = some fnLog10Pow5 := rfl
theorem look_multipleOf2 : canonFns.lookup fMultipleOf2 = some fnMultipleOf2 := rfl
theorem look_boolToInt : canonFns.lookup fBoolToInt = some fnBoolToInt := rfl
theorem look_shiftRight128 : canonFns.lookup fShiftRight128 = some fnShiftRight128 := rfl
theorem look_pow5Factor : canonFns.lookup fPow5Factor = some fnPow5Factor := rfl
theorem look_appendFloat : canonFns.lookup fAppendFloat = some fnAppendFloat := rfl
theorem look_appendSpecial : canonFns.lookup fAppendSpecial = some fnAppendSpecial := rfl
theorem look_appendF : canonFns.lookup fAppendF = some fnAppendF := rfl
theorem look_sizeSlice : canonFns.lookup fSizeSlice = some fnSizeSlice := rfl

/-! ## `boolToUint64`, `boolToUint32`, `boolToInt` -/

theorem call_boolToUint64 (F : Nat) (fr : Nat → List UInt8) (n : Nat) (b : Bool) :
    callAt canonFns T F fr (n+1) fBoolToUint64 [.bool b] = some (.u 64 (Ryu64.boolToNat b)) := by
  cases b <;> exact call_of look_boolToUint64 rfl rfl

theorem call_boolToUint32 (F : Nat) (fr : Nat → List UInt8) (n : Nat) (b : Bool) :
    callAt canonFns T F fr (n+1) fBoolToUint32 [.bool b] = some (.u 32 (Ryu64.boolToNat b)) := by
  cases b <;> exact call_of look_boolToUint32 rfl rfl

theorem call_boolToInt (F : Nat) (fr : Nat → List UInt8) (n : Nat) (b : Bool) :
    callAt canonFns T F fr (n+1) fBoolToInt [.bool b] = some (.i 64 (Ryu64.boolToNat b : Nat)) := by
  cases b <;> exact call_of look_boolToInt rfl rfl

/-! ## `log10Pow2`, `log10Pow5`, `pow5Bits`

A shift by a literal count evaluates to `if 18 < 32 then x >>> 18 else 0`; the `if` is resolved by `if_pos`, not left to the
closing `rfl`: the kernel would unfold `>>>` before it looks at the `if`. -/

theorem call_log10Pow2 (F : Nat) (fr : Nat → List UInt8) (n : Nat) (e : Int) (h0 : 0 ≤ e) (h1 : e ≤ 1650) :
    callAt canonFns T F fr (n+1) fLog10Pow2 [.i 32 e] = some (.u 32 (Ryu64.log10Pow2 e)) :=
  call_of look_log10Pow2 rfl
    (block_step (assert_of (decide_eq_true h0) rfl) (block_step (assert_of (decide_eq_true h1) rfl)
      (block_ret ((ret_of rfl).trans (congrArg (fun n => Out.ret (Val.u 32 n)) (if_pos (by decide)))))))

theorem call_log10Pow5 (F : Nat) (fr : Nat → List UInt8) (n : Nat) (e : Int) (h0 : 0 ≤ e) (h1 : e ≤ 2620) :
    callAt canonFns T F fr (n+1) fLog10Pow5 [.i 32 e] = some (.u 32 (Ryu64.log10Pow5 e)) :=
  call_of look_log10Pow5 rfl
    (block_step (assert_of (decide_eq_true h0) rfl) (block_step (assert_of (decide_eq_true h1) rfl)
      (block_ret ((ret_of rfl).trans (congrArg (fun n => Out.ret (Val.u 32 n)) (if_pos (by decide)))))))

theorem call_pow5Bits (F : Nat) (fr : Nat → List UInt8) (n : Nat) (e : Int) (h0 : 0 ≤ e) (h1 : e ≤ 3528) :
    callAt canonFns T F fr (n+1) fPow5Bits [.i 32 e] = some (.i 32 (Ryu64.pow5Bits e)) := by
  have hw : wrapS 32 (((Ryu64.u32 (Ryu64.toU32 e * 1217359) >>> 19 + 1) % 2 ^ 32 : Nat) : Int) =
      ((Ryu64.u32 (Ryu64.toU32 e * 1217359) >>> 19 + 1 : Nat) : Int) := by
    have : Ryu64.u32 (Ryu64.toU32 e * 1217359) >>> 19 < 8192 := by
      rw [Nat.shiftRight_eq_div_pow]; unfold Ryu64.u32; omega
    rw [wrapS32] <;> omega
  refine call_of look_pow5Bits rfl
    (block_step (assert_of (decide_eq_true h0) rfl) (block_step (assert_of (decide_eq_true h1) rfl)
      (block_ret ((ret_of rfl).trans ?_))))
  rw [if_pos (by decide : 19 < 32)]
  exact congrArg (fun z => Out.ret (Val.i 32 z)) hw

theorem call_shiftRight128 (F : Nat) (fr : Nat → List UInt8) (n : Nat) (lo hi : Nat) (s : Int) (h0 : 0 ≤ s) (h1 : s < 64) :
    callAt canonFns T F fr (n+1) fShiftRight128 [.pair (.u 64 lo) (.u 64 hi), .i 32 s] =
      some (.u 64 (Ryu64.shiftRight128 (lo, hi) s)) := by
  have hw : wrapS 32 (64 - s) = 64 - s := wrapS32 _ (by omega) (by omega)
  refine call_of look_shiftRight128 rfl (block_step (assert_of (decide_eq_true h1) rfl) (block_ret ((ret_of rfl).trans ?_)))
  rw [hw]; rfl

theorem call_mulShift64 (F : Nat) (fr : Nat → List UInt8) (n : Nat) (m lo hi : Nat) (s : Int) (h0 : 64 ≤ s) (h1 : s < 128) :
    callAt canonFns T F fr (n+2) fMulShift [.u 64 m, .pair (.u 64 lo) (.u 64 hi), .i 32 s] =
      some (.u 64 (Ryu64.mulShift64 m (lo, hi) s)) := by
  have hc := fun lo hi => call_shiftRight128 F fr n lo hi (s - 64) (by omega) (by omega)
  refine call_of look_mulShift rfl ?_
  xstep
  xstep
  xstep
  by_cases hlt : Ryu64.u64 ((Ryu64.mul64 m lo).1 + (Ryu64.mul64 m hi).2) < (Ryu64.mul64 m lo).1
  · xstep ((if_enter (decide_eq_true hlt) rfl).trans (scope_same (block_step rfl rfl) rfl))
    refine (block_ret (ret_of (call2_of rfl (wrap32_of rfl (by omega) (by omega)) (hc _ _)))).trans ?_
    unfold Ryu64.mulShift64; dsimp only; rw [if_pos hlt]; rfl
  · refine block_step (if_skip (decide_eq_false hlt) rfl) ?_
    refine (block_ret (ret_of (call2_of rfl (wrap32_of rfl (by omega) (by omega)) (hc _ _)))).trans ?_
    unfold Ryu64.mulShift64; dsimp only; rw [if_neg hlt]; rfl

/-! ## `pow5Factor64`, `multipleOfPowerOfFive64` -/

/-- the loop of `pow5Factor64` ends by `return`, so it is not an instance of `forLoop_sim`; `fuel` is the mirror's, `F` the
interpreter's -/
theorem pow5_loop (Γ : Env) : ∀ (fuel v n F : Nat), v ≠ 0 → v < 5 ^ fuel → n + fuel < 2 ^ 32 → fuel ≤ F →
    forLoop (condOf Γ (E.bool true)) (execOf Γ pow5Body) (execOf Γ pow5Post) F [.u 64 v, .u 32 n] =
      .ret (.u 32 (Ryu64.pow5Factor64Loop fuel v n)) := by
  intro fuel
  induction fuel with
  | zero => intro v n F h0 h; simp at h; omega
  | succ fuel ih =>
    intro v n F h0 h hn hF
    obtain ⟨F', rfl⟩ : ∃ F', F = F' + 1 := ⟨F - 1, by omega⟩
    rw [Ryu64.pow5Factor64Loop]
    by_cases hr : (v % 5 != 0) = true
    · rw [if_pos hr]
      exact forLoop_ret _ _ _ _ _ _ (condOf_true _ _)
        (scope_ret (block_step rfl (block_step rfl (block_ret ((if_enter hr rfl).trans (scope_ret (block_ret rfl)))))))
    · have hr0 : v % 5 = 0 := by simpa using hr
      have hn1 : (n + 1) % 2 ^ 32 = n + 1 := Nat.mod_eq_of_lt (by omega)
      rw [if_neg hr, ← ih (v / 5) (n + 1) F' (by omega) (by rw [Nat.pow_succ] at h; omega) (by omega) (by omega), ← hn1]
      exact forLoop_next _ _ _ _ _ _ (condOf_true _ _)
        (scope_next (block_step rfl (block_step rfl (block_step (if_skip (Bool.not_eq_true _ ▸ hr) rfl) (block_step rfl rfl)))) rfl) rfl

/-- 28: the fuel of `Ryu64.pow5Factor64` (`2^64 < 5^28`) -/
theorem call_pow5Factor64 (F : Nat) (fr : Nat → List UInt8) (n : Nat) (hF : 28 ≤ F) (v : Nat) (h0 : v ≠ 0) (h : v < 2 ^ 64) :
    callAt canonFns T F fr (n+1) fPow5Factor [.u 64 v] = some (.u 32 (Ryu64.pow5Factor64 v)) :=
  call_of look_pow5Factor rfl (block_ret (for_ret rfl (pow5_loop (env F fr n) 28 v 0 F h0 (by omega) (by omega) hF)))

theorem call_multipleOf5 (F : Nat) (fr : Nat → List UInt8) (n : Nat) (hF : 28 ≤ F) (v p : Nat) (h0 : v ≠ 0) (h : v < 2 ^ 64) :
    callAt canonFns T F fr (n+2) fMultipleOf5 [.u 64 v, .u 32 p] = some (.bool (Ryu64.multipleOfPowerOfFive64 v p)) :=
  call_of look_multipleOf5 rfl (block_ret (ret_of (cmp_of (call1_of rfl (call_pow5Factor64 F fr n hF v h0 h)) rfl rfl)))

/-! ## `multipleOfPowerOfTwo64` -/

/-- QF/Core/RYExpr.lean has its own `tzLoop` / `bitLen` (the semantics does not import the mirror): they are the mirror's -/
theorem tzLoop_eq : ∀ (fuel v n : Nat), tzLoop fuel v n = Ryu64.trailingZeros64Loop fuel v n := by
  intro fuel
  induction fuel with
  | zero => intro v n; rfl
  | succ fuel ih => intro v n; simp [tzLoop, Ryu64.trailingZeros64Loop, ih]

theorem tzLoop_le : ∀ (fuel v n : Nat), tzLoop fuel v n ≤ n + fuel := by
  intro fuel
  induction fuel with
  | zero => intro v n; simp [tzLoop]
  | succ fuel ih =>
    intro v n
    unfold tzLoop
    split
    · omega
    · have := ih (v / 2) (n + 1); omega

theorem call_multipleOf2 (F : Nat) (fr : Nat → List UInt8) (n : Nat) (v p : Nat) :
    callAt canonFns T F fr (n+1) fMultipleOf2 [.u 64 v, .u 32 p] = some (.bool (Ryu64.multipleOfPowerOfTwo64 v p)) := by
  have h1 : tz64 v = Ryu64.trailingZeros64 v := tzLoop_eq 64 v 0
  have h2 : Ryu64.trailingZeros64 v ≤ 64 := by rw [← h1]; have := tzLoop_le 64 v 0; unfold tz64; omega
  have h3 : ((Ryu64.trailingZeros64 v : Int) % 2 ^ 32).toNat = Ryu64.trailingZeros64 v := by omega
  refine call_of look_multipleOf2 rfl (block_ret ((ret_of rfl).trans ?_))
  rw [h1, h3]; rfl

/-! ## `decimalLen64` -/

theorem bitLen_eq (u : Nat) : bitLen u = Ryu64.bitLen64 u := rfl

theorem bitLen_le (u : Nat) (h : u < 2 ^ 59) : Ryu64.bitLen64 u ≤ 59 := by
  unfold Ryu64.bitLen64
  split
  · omega
  · rename_i h0
    have := (Nat.log2_lt h0).mpr h
    omega

theorem pow10_get (t : Nat) (h : t < 18) : canonPow10[t]? = some (Ryu64.powersOf10.getD t 0) := by
  have : ∀ t, t < 18 → canonPow10[t]? = some (Ryu64.powersOf10.getD t 0) := by decide
  exact this t h

theorem call_decimalLen64 (F : Nat) (fr : Nat → List UInt8) (n : Nat) (u : Nat) (h : u < 2 ^ 59) :
    callAt canonFns T F fr (n+2) fDecimalLen [.u 64 u] = some (.i 64 (Ryu64.decimalLen64 u : Nat)) := by
  have hb : RY.bitLen u ≤ 59 := bitLen_le u h
  have hD : Ryu64.decimalLen64 u = (RY.bitLen u * 1233) >>> 12 + 1 -
      Ryu64.boolToNat (decide (u < Ryu64.powersOf10.getD ((RY.bitLen u * 1233) >>> 12) 0)) := rfl
  rw [hD]
  generalize hB : RY.bitLen u = B at hb
  -- `log2 := 64 - lz - 1`, `t := (log2 + 1) * 1233 >> 12`
  have h1 : wrapS 64 (wrapS 64 (64 - (64 - (B : Int))) - 1) = (B : Int) - 1 := by
    rw [wrapS64 (64 - (64 - (B : Int))) (by omega) (by omega), wrapS64 _ (by omega) (by omega)]; omega
  have h2 : (wrapS 64 (wrapS 64 ((B : Int) - 1 + 1) * 1233)) >>> 12 = (((B * 1233) >>> 12 : Nat) : Int) := by
    rw [wrapS64 ((B : Int) - 1 + 1) (by omega) (by omega), wrapS64 _ (by omega) (by omega), Int.shiftRight_eq_div_pow,
      Nat.shiftRight_eq_div_pow]
    simp
  have ht : (B * 1233) >>> 12 < 18 := by rw [Nat.shiftRight_eq_div_pow]; omega
  generalize (B * 1233) >>> 12 = t at ht h2
  have hP : T Tbl.pow10 t = some (.u 64 (Ryu64.powersOf10.getD t 0)) := by simp [T, tables, pow10_get t ht]
  generalize Ryu64.powersOf10.getD t 0 = P at hP
  have hc := call_boolToInt F fr n (decide (u < P))
  have hbn : Ryu64.boolToNat (decide (u < P)) ≤ 1 := by unfold Ryu64.boolToNat; split <;> omega
  generalize Ryu64.boolToNat (decide (u < P)) = bb at hc hbn
  have h3 : wrapS 64 (wrapS 64 ((t : Int) - (bb : Int)) + 1) = ((t + 1 - bb : Nat) : Int) := by
    rw [wrapS64 ((t : Int) - (bb : Int)) (by omega) (by omega), wrapS64 _ (by omega) (by omega)]; omega
  refine call_of look_decimalLen rfl ?_
  xstep
  rewrite [hB, h1]
  xstep
  rewrite [h2]
  exact block_ret ((ret_of (bin_of (bin_of rfl (call1_of (cmp_of rfl (tblZ_of rfl rfl (Int.natCast_nonneg t) hP) rfl) hc) rfl) rfl rfl)).trans
    (congrArg (fun z => Out.ret (Val.i 64 z)) h3))

end QF.Props.C16RyuGen
