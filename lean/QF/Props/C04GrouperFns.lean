import QF.Props.C04GrouperCanon
import QF.Core.ExecAttr
import QF.Core.GrouperMain
/-!
# C04 / C05 — the meaning of the canonical grouper terms, function by function (1: the leaves of the call graph)

Symbolic execution of the canonical terms of C04GrouperCanon (`canonFns`) in the semantics `GL.S.exec` / `GL.E.eval`
(QF/Core/GLExpr.lean): one lemma per statement form (`exec_*`; the loops keep their step functions folded so that loop
lemmas can be stated by induction), and then, bottom-up along the call graph,

* `call_max`, `call_pow2`, `call_initialSizeExp` (= `G.initialSizeExp`), `call_newTable` (= the mirror's empty table)
* `call_hash`    — `table.hash`: the comparables' hashes chained from 0, truncated to 32 bits (`hashOf cs i % 2^32`)
* `call_equals`  — `equals`: every comparable says `Equal` (`eqvOf cs i j`)

The mirror `G` (QF/Core/Grouper.lean) abstracts the comparables to `hash : Nat → Nat` and `eqv : Nat → Nat → Bool`; here
they are `hashOf cs` and `eqvOf cs` for the list `cs` of interface values. `encTbl` is the Go table a mirror table stands
for (an empty slot is the zero entry; `ix = []` is the nil slice).
-/
namespace QF.Props.C04GrouperGen
open QF QF.GL
set_option linter.unusedSimpArgs false

/-! ## The abstraction of `G` -/

/-- what `table.hash(i)` computes before the truncation to 32 bits: the `Hash` methods chained, starting from 0 -/
def hashOf (cs : List Cmp) (i : Nat) : Nat := cs.foldl (fun h c => c.hash i h % M64) 0

/-- `equals(comparables, i, j)` -/
def eqvOf (cs : List Cmp) (i j : Nat) : Bool := cs.all fun c => c.compare i j == CRes.equal

/-- the comparable that stands for an abstract hash function and key equality -/
def cmpOf (hash : Nat → Nat) (eqv : Nat → Nat → Bool) : Cmp :=
  { compare := fun i j => if eqv i j then .equal else .notEqual, hash := fun i _ => hash i }

def encEntry : Option G.Entry → Entry
  | none => {}
  | some e => { ix := if e.ix.isEmpty then none else some e.ix, hash := e.hash, firstPos := e.firstPos, occupied := true }

def encSlots (a : Array (Option G.Entry)) : List Entry := a.toList.map encEntry

/-- the statistics the table carries while it is filled (`GroupCount` and `LoadFactor` are set at the end of `groupIndex`) -/
def encStats (t : G.Tbl) : Stats :=
  { relocationCount := t.relocCount, relocationCollisions := t.relocCollisions, insertCollisions := t.insertCollisions }

/-- the statistics `groupIndex` returns -/
def finalStats (t : G.Tbl) : Stats :=
  { relocationCount := t.relocCount, relocationCollisions := t.relocCollisions, insertCollisions := t.insertCollisions,
    groupCount := t.groupCount, lfNum := t.lfNum, lfDen := t.lfDen }

def encTbl (cs : List Cmp) (collect : Bool) (t : G.Tbl) : Table :=
  { entries := encSlots t.slots, cmps := cs, stats := encStats t, lfNum := t.lfNum, lfDen := t.lfDen,
    groupCount := t.groupCount, collectIx := collect }

@[simp] theorem encTbl_entries (cs : List Cmp) (c : Bool) (t : G.Tbl) : (encTbl cs c t).entries = encSlots t.slots := rfl
@[simp] theorem encTbl_cmps (cs : List Cmp) (c : Bool) (t : G.Tbl) : (encTbl cs c t).cmps = cs := rfl
@[simp] theorem encTbl_stats (cs : List Cmp) (c : Bool) (t : G.Tbl) : (encTbl cs c t).stats = encStats t := rfl
@[simp] theorem encTbl_lfNum (cs : List Cmp) (c : Bool) (t : G.Tbl) : (encTbl cs c t).lfNum = t.lfNum := rfl
@[simp] theorem encTbl_lfDen (cs : List Cmp) (c : Bool) (t : G.Tbl) : (encTbl cs c t).lfDen = t.lfDen := rfl
@[simp] theorem encTbl_groupCount (cs : List Cmp) (c : Bool) (t : G.Tbl) : (encTbl cs c t).groupCount = t.groupCount := rfl
@[simp] theorem encTbl_collectIx (cs : List Cmp) (c : Bool) (t : G.Tbl) : (encTbl cs c t).collectIx = c := rfl

/-! ## Execution lemmas -/

/-- the environment of a function body run at call depth `n + 1` -/
abbrev env (F n : Nat) : Env := { call := callAt canonFns F n, fuel := F }

theorem callAt_succ (F n : Nat) (f : FnId) (fn : Fn) (h : canonFns.lookup f = some fn) (args : List Val) :
    callAt canonFns F (n+1) f args = runFn (env F n) fn args := by
  simp [callAt, h]

theorem set_apply (σ : Store) (v w : Var) (x : Val) : σ.set v x w = if w = v then some x else σ w := rfl

/-- Loop bodies, loop conditions and `for` clauses under names of their own: the `exec_*` equations of the loops put these
around their parts, so `exec_simp` does not run `S.exec` inside a loop, and a loop lemma is an induction over `loop (stepOf …)`
that opens `stepOf` once, in its step case. -/
def stepOf (Γ : Env) (k v : Option Var) (body : S) (y : Val) (i : Nat) (σ : Store) : Out :=
  body.exec Γ (bindKV k v i y σ)

def condOf (Γ : Env) (c : E) (σ : Store) : Option Bool := asBool (c.eval Γ σ)
def execOf (Γ : Env) (s : S) (σ : Store) : Out := s.exec Γ σ

section exec
variable (Γ : Env) (σ : Store)
theorem exec_skip : S.skip.exec Γ σ = .next σ := rfl
theorem exec_block_nil : (S.block []).exec Γ σ = .next σ := rfl
theorem exec_block_cons (s : S) (ss : List S) :
    (S.block (s :: ss)).exec Γ σ = (match s.exec Γ σ with | .next σ' => (S.block ss).exec Γ σ' | r => r) := rfl
theorem exec_seq (a b : S) : (S.seq a b).exec Γ σ = (match a.exec Γ σ with | .next σ' => b.exec Γ σ' | r => r) := rfl
theorem exec_define (v : Var) (e : E) : (S.define v e).exec Γ σ = (match e.eval Γ σ with | some x => .next (σ.set v x) | none => .stuck) := rfl
theorem exec_define2 (v w : Var) (e : E) : (S.define2 v w e).exec Γ σ =
    (match e.eval Γ σ with | some (.pair x y) => .next ((σ.set v x).set w y) | _ => .stuck) := rfl
theorem exec_assign (v : Var) (e : E) : (S.assign v e).exec Γ σ = (match e.eval Γ σ with | some x => .next (σ.set v x) | none => .stuck) := rfl
theorem exec_setField (v : Var) (p : List Fld) (e : E) : (S.setField v p e).exec Γ σ =
    (match σ v, e.eval Γ σ with
     | some s, some x =>
       (match Val.updPath (fun old => if old.sameKind x then some x else none) s p with
        | some s' => .next (σ.set v s')
        | none => .stuck)
     | _, _ => .stuck) := rfl
theorem exec_incrField (v : Var) (p : List Fld) : (S.incrField v p).exec Γ σ =
    (match σ v with
     | some s => (match Val.updPath Val.succ s p with | some s' => .next (σ.set v s') | none => .stuck)
     | none => .stuck) := rfl
theorem exec_setPtrField (p : Var) (f : Fld) (e : E) : (S.setPtrField p f e).exec Γ σ =
    (match σ p, e.eval Γ σ with
     | some (.ptr (some (t, i))), some x =>
       (match σ t with
        | some (.tbl T) =>
          (match T.entries[i]? with
           | some en =>
             (match (Val.entry en).setField f x with
              | some (.entry en') => .next (σ.set t (.tbl { T with entries := T.entries.set i en' }))
              | _ => .stuck)
           | none => .stuck)
        | _ => .stuck)
     | _, _ => .stuck) := rfl
theorem exec_setAt (a : Var) (i e : E) : (S.setAt a i e).exec Γ σ =
    (match σ a, i.eval Γ σ, e.eval Γ σ with
     | some (.entries l), some y, some (.entry en) =>
       (match y.toZ with
        | some n => if n < 0 ∨ (l.length : Int) ≤ n then .stuck else .next (σ.set a (.entries (l.set n.toNat en)))
        | none => .stuck)
     | _, _, _ => .stuck) := rfl
theorem exec_ite (c : E) (t e : S) : (S.ite c t e).exec Γ σ =
    (match c.eval Γ σ with
     | some (.bool true) => t.exec Γ σ
     | some (.bool false) => e.exec Γ σ
     | _ => .stuck) := rfl
theorem exec_range (xs : E) (k v : Option Var) (body : S) : (S.range xs k v body).exec Γ σ =
    (match xs.eval Γ σ with
     | some x => (match x.elems with | some l => loop (stepOf Γ k v body) l 0 σ | none => .stuck)
     | none => .stuck) := rfl
theorem exec_for (init : S) (cond : E) (post body : S) : (S.for init cond post body).exec Γ σ =
    (match init.exec Γ σ with
     | .next σ' => forLoop (condOf Γ cond) (execOf Γ body) (execOf Γ post) Γ.fuel σ'
     | _ => .stuck) := rfl
theorem exec_brk : S.brk.exec Γ σ = .brk σ := rfl
theorem exec_callMut (f : FnId) (r : Var) (args : List E) : (S.callMut f r args).exec Γ σ =
    (match σ r, evalArgs Γ σ args with
     | some x, some xs =>
       (match Γ.call f (x :: xs) with
        | some (_, some x') => .next (σ.set r x')
        | _ => .stuck)
     | _, _ => .stuck) := rfl
theorem exec_ret (e : E) : (S.ret e).exec Γ σ = (match e.eval Γ σ with | some x => .ret x σ | none => .stuck) := rfl
end exec

attribute [gl_exec] exec_block_nil exec_block_cons exec_skip exec_seq exec_define exec_define2 exec_assign exec_setField exec_incrField
  exec_setPtrField exec_setAt exec_ite exec_range exec_for exec_brk exec_callMut exec_ret set_apply

/-- symbolic execution of the statement forms (loops stay folded; the simp set `gl_exec`) and of expressions (the simp set `QF.GL.Sym`) -/
macro "exec_simp" " [" ts:Lean.Parser.Tactic.simpLemma,* "]" loc:(Lean.Parser.Tactic.location)? : tactic =>
  `(tactic| open QF.GL.Sym in simp [gl_exec, $ts,*] $(loc)?)

theorem M32_pow : M32 = 2 ^ 32 := by rfl
theorem M64_eq : M64 = 18446744073709551616 := rfl
theorem M32_le_M64 : M32 ≤ M64 := by decide

/-- a conversion `uintN(x)` of a natural number in range is exact; stated on variables, so that the callers compare their bounds
as they stand (`omega` on the moduli written out, in the context of a call lemma, is slow) -/
theorem toU_ofNat {x m : Nat} (h : x < m) : (((x : Nat) : Int) % (m : Int)).toNat = x := by
  rw [Int.emod_eq_of_lt (Int.natCast_nonneg x) (Int.ofNat_lt.mpr h), Int.toNat_natCast]

/-- `uintN(x - 1)` for `x` positive -/
theorem toU_pred {x m : Nat} (h0 : 0 < x) (h : x ≤ m) : (((x : Int) - 1) % (m : Int)).toNat = x - 1 := by
  rw [← Int.natCast_one, ← Int.natCast_sub h0]; exact toU_ofNat (Nat.lt_of_lt_of_le (Nat.sub_lt h0 Nat.one_pos) h)

theorem look_grow : canonFns.lookup .grow = some fnGrow := rfl
theorem look_hash : canonFns.lookup .hash = some fnHash := rfl
theorem look_insertEntry : canonFns.lookup .insertEntry = some fnInsertEntry := rfl
theorem look_newTable : canonFns.lookup .newTable = some fnNewTable := rfl
theorem look_equals : canonFns.lookup .equals = some fnEquals := rfl
theorem look_initialSizeExp : canonFns.lookup .initialSizeExp = some fnInitialSizeExp := rfl
theorem look_groupIndex : canonFns.lookup .groupIndex = some fnGroupIndex := rfl
theorem look_groupBy : canonFns.lookup .groupBy = some fnGroupBy := rfl
theorem look_distinct : canonFns.lookup .distinct = some fnDistinct := rfl
theorem look_max : canonFns.lookup .max = some fnMax := rfl
theorem look_pow2 : canonFns.lookup .pow2 = some fnPow2 := rfl

/-! ## `integer.Max`, `integer.Pow2`, `calculateInitialSizeExp`, `newTable` -/

theorem call_max (F n : Nat) (a b : Int) :
    callAt canonFns F (n+1) .max [.int a, .int b] = some (.int (max a b), some (.int a)) := by
  rw [callAt_succ F n _ _ look_max]
  by_cases h : b < a
  all_goals
    exec_simp [runFn, fnMax, h]
    omega

theorem call_pow2 (F n : Nat) (e : Nat) (he : e ≤ 62) :
    callAt canonFns F (n+1) .pow2 [.int e] = some (.int ((2 ^ e : Nat) : Int), some (.int e)) := by
  rw [callAt_succ F n _ _ look_pow2]
  have h1 : ¬ ((e : Int) < 0) := by omega
  have h2 : ¬ (62 < (e : Int)) := by omega
  exec_simp [runFn, fnPow2, h1, h2]

theorem bitLen_eq (q : Nat) : bitLen q = if q = 0 then 0 else Nat.log2 q + 1 := rfl

/-- `calculateInitialSizeExp(n)` is the mirror's `G.initialSizeExp n` (for a length that fits `uint64`) -/
theorem call_initialSizeExp (F n : Nat) (len : Nat) (hlen : len < M64) :
    callAt canonFns F (n+2) .initialSizeExp [.int len] = some (.int (G.initialSizeExp len), some (.int len)) := by
  rw [callAt_succ F (n+1) _ _ look_initialSizeExp]
  have hm := toU_ofNat hlen
  have h4 : (len / 4) % M64 = len / 4 := Nat.mod_eq_of_lt (by unfold M64 at *; omega)
  have hcall := call_max F n (bitLen (len / 4)) 3
  have hmax : max ((bitLen (len / 4) : Nat) : Int) 3 = ((G.initialSizeExp len : Nat) : Int) := by
    unfold G.initialSizeExp; rw [bitLen_eq]; omega
  exec_simp [runFn, fnInitialSizeExp, hm, h4, hcall, hmax]

/-- `newTable(sizeExp, comparables, collectIx)` is the mirror's empty table of `2^sizeExp` slots -/
theorem call_newTable (F n : Nat) (e : Nat) (he : e ≤ 62) (cs : List Cmp) (collect : Bool) :
    callAt canonFns F (n+2) .newTable [.int e, .cmps cs, .bool collect] =
      some (.tbl (encTbl cs collect { slots := Array.replicate (2 ^ e) none }), some (.int e)) := by
  rw [callAt_succ F (n+1) _ _ look_newTable]
  have hcall := call_pow2 F n e he
  have h1 : ¬ ((2:Int)^e < 0) := by
    have := Int.natCast_nonneg (2^e)
    rw [Int.natCast_pow] at this
    simp at this ⊢
    omega
  have h2 : ((2:Int)^e).toNat = 2^e := by
    have : ((2:Int)^e) = ((2^e : Nat) : Int) := by simp
    rw [this, Int.toNat_natCast]
  exec_simp [runFn, fnNewTable, hcall, h1, h2, encTbl, encSlots, encStats, encEntry]

/-! ## `table.hash` -/

theorem hash_loop (Γ : Env) (i : Nat) (cs : List Cmp) : ∀ (j : Nat) (σ : Store) (h : Nat),
    σ 1 = some (.u32 i) → σ 2 = some (.u64 h) →
    ∃ σ', loop (stepOf Γ none (some 3) hashBody) (cs.map .cmp) j σ = .next σ' ∧ σ' 0 = σ 0 ∧
      σ' 2 = some (.u64 (cs.foldl (fun h c => c.hash i h % M64) h)) := by
  induction cs with
  | nil => intro j σ h _ h2; exact ⟨σ, rfl, rfl, by simpa using h2⟩
  | cons c cs ih =>
    intro j σ h h1 h2
    obtain ⟨σ', g1, g2, g3⟩ := ih (j+1) ((σ.set 3 (.cmp c)).set 2 (.u64 (c.hash i h % M64))) (c.hash i h % M64)
      (by simp [set_apply, h1]) (by simp [set_apply])
    refine ⟨σ', ?_, by simp [g2, set_apply], by simpa using g3⟩
    exec_simp [stepOf, h1, h2, g1]

/-- `t.hash(i)` = the chained hash, truncated to 32 bits; the table is not touched -/
theorem call_hash (F n : Nat) (T : Table) (i : Nat) :
    callAt canonFns F (n+1) .hash [.tbl T, .u32 i] = some (.u32 (hashOf T.cmps i % M32), some (.tbl T)) := by
  rw [callAt_succ F n _ _ look_hash]
  obtain ⟨σ', g1, g2, g3⟩ := hash_loop (env F n) i T.cmps 0
    (((Store.empty.set 0 (.tbl T)).set 1 (.u32 i)).set 2 (.u64 0)) 0 (by simp [set_apply]) (by simp [set_apply])
  simp [set_apply] at g2
  have hc : ((((List.foldl (fun h c => c.hash i h % M64) 0 T.cmps : Nat) : Int) % (M32 : Int)).toNat) = hashOf T.cmps i % M32 := by
    unfold hashOf
    omega
  exec_simp [runFn, fnHash, g1, g2, g3, hc]

/-! ## `equals` -/

theorem equals_loop (Γ : Env) (i k : Nat) (cs : List Cmp) : ∀ (j : Nat) (σ : Store),
    σ 1 = some (.u32 i) → σ 2 = some (.u32 k) →
    ∃ σ', loop (stepOf Γ none (some 3) equalsBody) (cs.map .cmp) j σ =
        (if eqvOf cs i k then .next σ' else .ret (.bool false) σ') ∧ σ' 0 = σ 0 := by
  induction cs with
  | nil => intro j σ _ _; exact ⟨σ, rfl, rfl⟩
  | cons c cs ih =>
    intro j σ h1 h2
    obtain ⟨σ', g1, g2⟩ := ih (j+1) (σ.set 3 (.cmp c)) (by simp [set_apply, h1]) (by simp [set_apply, h2])
    -- a comparable that does not answer `Equal` returns at once, with the store of this round
    refine ⟨if c.compare i k == CRes.equal then σ' else σ.set 3 (.cmp c), ?_, by split <;> simp [g2, set_apply]⟩
    cases hc : (c.compare i k == CRes.equal) <;> exec_simp [stepOf, h1, h2, bne, hc, eqvOf, g1]

/-- `equals(comparables, i, j)`: every comparable answers `Equal` -/
theorem call_equals (F n : Nat) (cs : List Cmp) (i k : Nat) :
    callAt canonFns F (n+1) .equals [.cmps cs, .u32 i, .u32 k] = some (.bool (eqvOf cs i k), some (.cmps cs)) := by
  rw [callAt_succ F n _ _ look_equals]
  obtain ⟨σ', g1, g2⟩ := equals_loop (env F n) i k cs 0 (((Store.empty.set 0 (.cmps cs)).set 1 (.u32 i)).set 2 (.u32 k))
    (by simp [set_apply]) (by simp [set_apply])
  simp [set_apply] at g2
  cases h : eqvOf cs i k <;> exec_simp [runFn, fnEquals, h, g1, g2]

end QF.Props.C04GrouperGen
