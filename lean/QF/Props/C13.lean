import QF.Props.Tie
namespace QF.Props.C13

/-- No function of this property is compared as source text: the list is empty (the functions are regenerated as terms, see below). -/
-- Tie audit (bin/selftest-ties): the following functions are regenerated as terms; every behaviour-changing edit of
-- them makes a `gen_*_canon` theorem of this property's modules fail, renaming their locals or reformatting them changes nothing:
-- `QFrame.ToCSV`: `Gen.toCsvAst` (wast.go) + `Gen.guardAst2`, `C13WriterGen.gen_tocsv_canon` + `gen_tocsv_semantics`, `C10Guards.gen_guards2_canon` + `C10Guards.gen_csv_semantics`.
-- `Column.StringAt` of fcolumn / icolumn / bcolumn: `Gen.stringAtAst` (oast.go), `C09Observe.gen_stringAt_canon` + `gen_stringAt_semantics`.
theorem tie : Tie.sameAll [] = true := by decide

end QF.Props.C13
