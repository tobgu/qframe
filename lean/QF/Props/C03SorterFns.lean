import QF.Props.C03SorterExec
import QF.Core.SorterPerm
/-!
# C03 — the meaning of the canonical sorter terms, function by function (part 1)

Bottom-up along the call graph, each by induction following the recursion of the hand mirror (QF/Core/Sorter.lean):

* `call_len`, `call_swap` (= `Sorter.sw`), `call_less` (the `range` over the comparators = `lessOf`, which is
  `sorterLess` of C03Compare), `call_maxDepth` (= `Sorter.maxDepth`)
* `call_median` (= `Sorter.medianOfThree`; `med_swap`: its compare-and-swap statement), `call_insertionSort` (`ins_inner` =
  `Sorter.insInner`; the outer loop is the fold by `count_up`), `call_siftDown` (`sift_loop` = `Sorter.siftDown` for every
  sufficient fuel of the mirror; `sift_child`: the choice of the child), `call_heapSort` (its two loops are the two folds of
  `Sorter.heapSort` by `count_down`)

A statement that a proof treats as a unit has a name (`medSwap`, `siftChild`) and an equation that shows it inside its
function (`fnMedianOfThree_body`, `siftBody_eq`): `sl_simp` stops at the name, and the lemma about it is applied there.

All statements are in the limit semantics (`C` = `callLim canonFns`, `X` = `execLim canonFns`): the result is `.ok`, so the
code neither panics (every index is shown to be within the array) nor runs forever. The arguments of `Swap`, `Less` and
`medianOfThree` are `Int`s with their range as hypotheses, the mirror's `Nat`s their `toNat`; everywhere else a position
is the cast of a natural, and `sl_simp` keeps it in that form (C03SorterExec, Casts).
-/
namespace QF.Props.C03SorterGen
open QF QF.SL
set_option linter.unusedSimpArgs false

/-! ## `Len`, `Swap` -/

theorem call_len (cols : Cols) (a : Ix) : C cols fLen [.sorter] a = .ok (.int a.size, a) := by
  rw [callLim_eq canonFns cols _ fLen fnLen rfl _ rfl [.sorter] rfl]
  simp only [fnLen]
  sl_simp []

theorem sw_eq_sets (a : Ix) (i j : Nat) (hi : i < a.size) (hj : j < a.size) :
    (a.setIfInBounds i a[j]!).setIfInBounds j a[i]! = Sorter.sw a i j := by
  rw [getElem!_pos a i hi, getElem!_pos a j hj]
  simp only [Sorter.sw, hi, hj, and_self, ↓reduceDIte]
  apply Array.ext
  · simp
  · intro k h1 h2
    simp [Array.swap, Array.setIfInBounds, hi, hj, Array.getElem_set]

theorem call_swap (cols : Cols) (a : Ix) (x y : Int) (hx : 0 ≤ x ∧ x < a.size) (hy : 0 ≤ y ∧ y < a.size) :
    C cols fSwap [.sorter, .int x, .int y] a = .ok (.unit, Sorter.sw a x.toNat y.toNat) := by
  rw [callLim_eq canonFns cols _ fSwap fnSwap rfl _ rfl [.sorter, .int x, .int y] rfl]
  simp only [fnSwap]
  have h3 : x.toNat < a.size := by omega
  have h4 : y.toNat < a.size := by omega
  have h5 : 0 ≤ x ∧ x < ↑a.size ∧ 0 ≤ y ∧ y < ↑a.size := ⟨hx.1, hx.2, hy.1, hy.2⟩
  sl_simp [x_setIx2, if_pos h5, sw_eq_sets a _ _ h3 h4]

/-! ## `Less` -/

/-- `Sorter.Less` on two rows: the first comparator that says LessThan / GreaterThan decides -/
def lessOf : Cols → Nat → Nat → Option Bool
  | [], _, _ => some false
  | f :: fs, i, j =>
    match f i j with
    | none => none
    | some r => if r = .lessThan then some true else if r = .greaterThan then some false else lessOf fs i j

/-- how the `range` loop of `Less` ends -/
def LessEnds (a : Ix) (b : Bool) (c : Ctl) : Prop := c = .ret (.bool b) a ∨ (b = false ∧ ∃ σ, c = .next (σ, a))

/-- one round of `for _, s := range s.columns` -/
noncomputable def lessStep (cols : Cols) : Nat → St → R Ctl := fun k st' => X cols lessBody (st'.1.set 5 (.col k), st'.2)

theorem less_loop (cols : Cols) (a : Ix) (x y : Val) (di dj : Nat) :
    ∀ (rest : Cols) (k : Nat) (p q : Val) (b : Bool), cols.drop k = rest → lessOf rest di dj = some b →
      ∃ c, colLoop (lessStep cols) (List.range' k rest.length) ([.sorter, x, y, .row di, .row dj, p, q], a) = .ok c ∧
        LessEnds a b c := by
  intro rest
  induction rest with
  | nil =>
    intro k p q b _ hb
    simp only [lessOf, Option.some.injEq] at hb
    exact ⟨_, rfl, .inr ⟨hb.symm, _, rfl⟩⟩
  | cons f fs ih =>
    intro k p q b hk hb
    have hk1 : cols[k]? = some f := by
      have := congrArg (fun l => l[0]?) hk
      simpa using this
    have hk2 : cols.drop (k + 1) = fs := by
      have := congrArg List.tail hk
      simpa using this
    simp only [lessOf] at hb
    cases hf : f di dj with
    | none => simp [hf] at hb
    | some r =>
      simp only [hf] at hb
      simp only [List.length_cons, List.range'_succ, colLoop, lessStep, lessBody]
      sl_simp [ev_compare, hk1, hf]
      by_cases h1 : r = .lessThan
      · subst h1
        simp only [↓reduceIte, Option.some.injEq] at hb
        subst hb
        sl_simp [beq_self_eq_true]
        exact ⟨_, rfl, .inl rfl⟩
      · simp only [h1, ↓reduceIte] at hb
        have h1' : (r == CRes.lessThan) = false := by simpa using h1
        by_cases h2 : r = .greaterThan
        · subst h2
          simp only [↓reduceIte, Option.some.injEq] at hb
          subst hb
          sl_simp [h1', beq_self_eq_true]
          exact ⟨_, rfl, .inl rfl⟩
        · simp only [h2, ↓reduceIte] at hb
          have h2' : (r == CRes.greaterThan) = false := by simpa using h2
          sl_simp [h1', h2']
          exact ih (k + 1) _ _ b hk2 hb

theorem call_less (cols : Cols) (a : Ix) (x y : Int) (hx : 0 ≤ x ∧ x < a.size) (hy : 0 ≤ y ∧ y < a.size) (b : Bool)
    (hb : lessOf cols a[x.toNat]! a[y.toNat]! = some b) :
    C cols fLess [.sorter, .int x, .int y] a = .ok (.bool b, a) := by
  rw [callLim_eq canonFns cols _ fLess fnLess rfl _ rfl [.sorter, .int x, .int y, .unit, .unit, .unit, .unit] rfl]
  simp only [fnLess]
  sl_simp [x_rangeCols, List.range_eq_range']
  obtain ⟨c, hc, he⟩ := less_loop cols a (.int x) (.int y) _ _ cols 0 .unit .unit b rfl hb
  rw [show (fun k (st' : St) => X cols lessBody (st'.1.set 5 (.col k), st'.2)) = lessStep cols from rfl, hc]
  rcases he with rfl | ⟨rfl, σ, rfl⟩
  · sl_simp []
  · sl_simp []

/-- the comparison function on row numbers that the comparators of the run implement -/
def LessIs (cols : Cols) (less : Nat → Nat → Bool) : Prop := ∀ i j, lessOf cols i j = some (less i j)

/-- `data.Less(x, y)` is `less data[x] data[y]` (`Sorter.lt` of the mirror) -/
theorem call_less' {cols : Cols} {less : Nat → Nat → Bool} (hl : LessIs cols less) (a : Ix) (x y : Int)
    (hx : 0 ≤ x ∧ x < a.size) (hy : 0 ≤ y ∧ y < a.size) :
    C cols fLess [.sorter, .int x, .int y] a = .ok (.bool (Sorter.lt less a x.toNat y.toNat), a) :=
  call_less cols a x y hx hy _ (hl _ _)

/-! ## `maxDepth` -/

/-- the number of binary digits -/
def bits (n : Nat) : Nat := if n = 0 then 0 else Nat.log2 n + 1

theorem bits_pos (n : Nat) (h : 0 < n) : bits n = bits (n / 2) + 1 := by
  unfold bits
  rw [Nat.log2_def n]
  by_cases h2 : 2 ≤ n
  · have : n / 2 ≠ 0 := by omega
    have h0 : n ≠ 0 := by omega
    simp only [h2, ↓reduceIte, this, h0]
  · have : n / 2 = 0 := by omega
    have h0 : n ≠ 0 := by omega
    simp only [h2, ↓reduceIte, this, h0]

theorem md_loop (cols : Cols) (a : Ix) (v0 : Val) : ∀ (i d : Nat),
    X cols mdLoop ([v0, .int d, .int i], a) = .ok (.next ([v0, .int ↑(d + bits i), .int 0], a)) := by
  intro i
  induction i using Nat.strongRecOn with
  | _ i ih =>
    intro d
    rw [mdLoop, x_loop]
    by_cases h0 : i = 0
    · subst h0
      sl_simp [Nat.lt_irrefl, decide_false]
      rfl
    · have h : 0 < i := by omega
      sl_simp [h, decide_true]
      rw [← mdLoop, ih (i / 2) (by omega) (d + 1), bits_pos i h]
      simp only [Nat.add_assoc, Nat.add_comm 1]

theorem call_maxDepth (cols : Cols) (a : Ix) (n : Nat) :
    C cols fMaxDepth [.int n] a = .ok (.int (Sorter.maxDepth n : Nat), a) := by
  rw [callLim_eq canonFns cols _ fMaxDepth fnMaxDepth rfl _ rfl [.int n, .unit, .unit] rfl]
  simp only [fnMaxDepth]
  sl_simp []
  rw [show X cols mdLoop ([.int n, .int 0, .int n], a) = _ from md_loop cols a _ n 0]
  sl_simp []
  simp only [Sorter.maxDepth, bits, Nat.zero_add]
  congr 3
  split <;> omega

/-! ## `medianOfThree` -/

/-- `if data.Less(m1, m0) { data.Swap(m1, m0) }`: the first statement of `medianOfThree`, and its last -/
def medSwap : S := S.ite (less (v 1) (v 2)) (S.block [swap (v 1) (v 2)]) nop

theorem fnMedianOfThree_body : fnMedianOfThree.body =
    S.block [medSwap, S.ite (less (v 3) (v 1)) (S.block [swap (v 3) (v 1), medSwap]) nop] := rfl

section withLess
variable {cols : Cols} {less : Nat → Nat → Bool} (hl : LessIs cols less)
include hl

theorem med_swap (a : Ix) (m1 m0 : Int) (v3 : Val) (h1 : 0 ≤ m1 ∧ m1 < a.size) (h0 : 0 ≤ m0 ∧ m0 < a.size) :
    X cols medSwap ([.sorter, .int m1, .int m0, v3], a) = .ok (.next ([.sorter, .int m1, .int m0, v3],
      if Sorter.lt less a m1.toNat m0.toNat then Sorter.sw a m1.toNat m0.toNat else a)) := by
  rw [medSwap]
  sl_simp [call_less' hl]
  cases Sorter.lt less a m1.toNat m0.toNat
  · sl_simp [Bool.false_eq_true]
  · sl_simp [call_swap]

theorem call_median (a : Ix) (m1 m0 m2 : Int) (h1 : 0 ≤ m1 ∧ m1 < a.size) (h0 : 0 ≤ m0 ∧ m0 < a.size) (h2 : 0 ≤ m2 ∧ m2 < a.size) :
    C cols fMedianOfThree [.sorter, .int m1, .int m0, .int m2] a =
      .ok (.unit, Sorter.medianOfThree less a m1.toNat m0.toNat m2.toNat) := by
  rw [callLim_eq canonFns cols _ fMedianOfThree fnMedianOfThree rfl _ rfl [.sorter, .int m1, .int m0, .int m2] rfl,
    fnMedianOfThree_body]
  simp only [Sorter.medianOfThree]
  sl_simp []
  rw [med_swap hl a m1 m0 _ h1 h0]
  have hb : (if Sorter.lt less a m1.toNat m0.toNat then Sorter.sw a m1.toNat m0.toNat else a).size = a.size := by
    split
    · exact Sorter.sw_size _ _ _
    · rfl
  generalize (if Sorter.lt less a m1.toNat m0.toNat then Sorter.sw a m1.toNat m0.toNat else a) = b at hb ⊢
  sl_simp [call_less' hl]
  cases Sorter.lt less b m2.toNat m1.toNat
  · sl_simp [Bool.false_eq_true]
  · sl_simp [call_swap]
    rw [med_swap hl _ m1 m0 _ (by rw [Sorter.sw_size]; omega) (by rw [Sorter.sw_size]; omega)]
    sl_simp []

/-! ## `insertionSort` -/

theorem ins_inner (lo : Nat) (v2 v3 : Val) : ∀ (j : Nat) (a : Ix), j < a.size →
    ∃ jz' : Int, X cols insInnerLoop ([.sorter, .int lo, v2, v3, .int j], a) =
      .ok (.next ([.sorter, .int lo, v2, v3, .int jz'], Sorter.insInner less a lo j)) := by
  intro j
  induction j with
  | zero =>
    intro a _
    rw [insInnerLoop, x_loop]
    sl_simp [Nat.not_lt_zero, decide_false, Sorter.insInner]
    exact ⟨_, rfl⟩
  | succ j ih =>
    intro a hsz
    rw [insInnerLoop, x_loop]
    simp only [Sorter.insInner]
    by_cases h : j + 1 > lo
    · sl_simp [h, decide_true, call_less' hl, Nat.add_sub_cancel, Bool.true_and]
      cases e : Sorter.lt less a (j + 1) j
      · sl_simp [Bool.false_eq_true]
        exact ⟨_, rfl⟩
      · sl_simp [call_swap, Nat.add_sub_cancel]
        rw [← insInnerLoop]
        exact ih _ (by simp only [Sorter.sw_size]; omega)
    · sl_simp [h, decide_false, Bool.false_and, Bool.false_eq_true]
      exact ⟨_, rfl⟩

omit hl in
theorem insInner_size (less : Nat → Nat → Bool) (a : Ix) (lo j : Nat) : (Sorter.insInner less a lo j).size = a.size :=
  (Sorter.insInner_perm less a lo j).size_eq

theorem call_insertionSort (a : Ix) (lo hi : Nat) (hsz : hi ≤ a.size) :
    C cols fInsertionSort [.sorter, .int lo, .int hi] a = .ok (.unit, Sorter.insertionSort less a lo hi) := by
  rw [callLim_eq canonFns cols _ fInsertionSort fnInsertionSort rfl _ rfl [.sorter, .int lo, .int hi, .unit, .unit] rfl]
  simp only [fnInsertionSort, Sorter.insertionSort]
  sl_simp []
  obtain ⟨i', p', h, -⟩ := count_up canonFns cols (lt (v 3) (v 2)) 3 (S.block [S.define 4 (v 3), insInnerLoop])
    (fun a i => Sorter.insInner less a lo i) (fun _ a => hi ≤ a.size) (fun i p => [.sorter, .int lo, .int hi, .int i, p]) hi
    (fun i p a => by sl_simp [Int.ofNat_lt])
    (fun i p a _ ha => by
      obtain ⟨jz', hj⟩ := ins_inner hl lo (.int hi) (.int i) i a (by omega)
      exact ⟨.int jz', by sl_simp [hj], by rw [insInner_size]; exact ha⟩)
    (fun i p a => by sl_simp []) (hi - (lo + 1)) (lo + 1) .unit a rfl hsz
  rw [insOuterLoop, h]
  sl_simp []

end withLess

/-! ## `siftDown` -/

theorem siftDown_size (less : Nat → Nat → Bool) (fuel : Nat) (a : Ix) (root hi first : Nat) :
    (Sorter.siftDown less fuel a root hi first).size = a.size :=
  (Sorter.siftDown_perm less fuel a root hi first).size_eq

theorem tdiv_half (n : Nat) : ((n : Int) - 1).tdiv 2 = ↑((n - 1) / 2) := by
  cases n with
  | zero => decide
  | succ m =>
    have : ((m + 1 : Nat) : Int) - 1 = m := by omega
    rw [this, Int.tdiv_eq_ediv_of_nonneg (by omega)]
    simp only [Nat.add_sub_cancel]
    omega

/-- `if child+1 < hi && data.Less(first+child, first+child+1) { child++ }` -/
def siftChild : S :=
  S.ite (E.and (lt (add (v 5) (lit 1)) (v 2)) (less (add (v 3) (v 5)) (add (add (v 3) (v 5)) (lit 1)))) (S.block [S.incr 5]) nop

theorem siftBody_eq : siftBody = S.block [
    S.define 5 (add (mul (lit 2) (v 4)) (lit 1)),
    S.ite (ge (v 5) (v 2)) (S.block [S.brk]) nop,
    siftChild,
    S.ite (not' (less (add (v 3) (v 4)) (add (v 3) (v 5)))) (S.block [S.ret0]) nop,
    swap (add (v 3) (v 4)) (add (v 3) (v 5)),
    S.assign 4 (v 5)] := rfl

section withLess
variable {cols : Cols} {less : Nat → Nat → Bool} (hl : LessIs cols less)
include hl

/-- a function body without results ends: it falls off its end or returns -/
def Done (a' : Ix) (c : Ctl) : Prop := (∃ σ, c = .next (σ, a')) ∨ c = .ret .unit a'

omit hl in
theorem done_wrap {a' : Ix} {c : Ctl} (h : Done a' c) : wrapRet c = .ok (.unit, a') := by
  rcases h with ⟨σ, rfl⟩ | rfl <;> rfl

/-- the greater of the two children, as the mirror selects it -/
theorem sift_child (v1 v4 : Val) (hi first ch : Nat) (a : Ix) (hsz : first + hi ≤ a.size) :
    X cols siftChild ([.sorter, v1, .int hi, .int first, v4, .int ch], a) =
      .ok (.next ([.sorter, v1, .int hi, .int first, v4,
        .int ↑(if ch + 1 < hi && Sorter.lt less a (first + ch) (first + ch + 1) then ch + 1 else ch)], a)) := by
  rw [siftChild]
  by_cases h1 : ch + 1 < hi
  · sl_simp [h1, decide_true, call_less' hl, Bool.true_and]
    cases Sorter.lt less a (first + ch) (first + ch + 1)
    · sl_simp [Bool.false_eq_true]
    · sl_simp []
  · sl_simp [h1, decide_false, Bool.false_and, Bool.false_eq_true]

theorem sift_loop (v1 : Val) (hi first : Nat) : ∀ (fuel root : Nat) (a : Ix) (p : Val),
    hi ≤ fuel + root → first + hi ≤ a.size →
    ∃ c, X cols siftLoop ([.sorter, v1, .int hi, .int first, .int root, p], a) = .ok c ∧
      Done (Sorter.siftDown less fuel a root hi first) c := by
  intro fuel
  induction fuel with
  | zero =>
    intro root a p hf hsz
    have : hi ≤ 2 * root + 1 := by omega
    rw [siftLoop, x_loop, siftBody_eq]
    sl_simp [this, decide_true]
    exact ⟨_, rfl, .inl ⟨_, rfl⟩⟩
  | succ fuel ih =>
    intro root a p hf hsz
    rw [siftLoop, x_loop, siftBody_eq]
    simp only [Sorter.siftDown]
    by_cases hc : 2 * root + 1 ≥ hi
    · sl_simp [hc, decide_true]
      exact ⟨_, rfl, .inl ⟨_, rfl⟩⟩
    · sl_simp [hc, decide_false]
      rw [sift_child hl _ _ hi first (2 * root + 1) a hsz]
      generalize hcs : (if (decide (2 * root + 1 + 1 < hi) && Sorter.lt less a (first + (2 * root + 1)) (first + (2 * root + 1) + 1)) = true
        then 2 * root + 1 + 1 else 2 * root + 1) = cs
      have hcs' : 2 * root + 1 ≤ cs ∧ cs < hi := by
        subst hcs
        split
        · rename_i h
          simp only [Bool.and_eq_true, decide_eq_true_eq] at h
          omega
        · omega
      sl_simp [call_less' hl]
      cases Sorter.lt less a (first + root) (first + cs)
      · sl_simp [Bool.not_false]
        exact ⟨_, rfl, .inr rfl⟩
      · sl_simp [Bool.not_true, call_swap, Bool.false_eq_true]
        rw [← siftBody_eq, ← siftLoop]
        exact ih cs _ _ (by omega) (by rw [Sorter.sw_size]; omega)

/-- `siftDown(data, lo, hi, first)` is the mirror's `siftDown` with any fuel of at least `hi - lo` -/
theorem call_siftDown (fuel : Nat) (a : Ix) (root hi first : Nat) (h : hi ≤ fuel + root ∧ first + hi ≤ a.size) :
    C cols fSiftDown [.sorter, .int root, .int hi, .int first] a = .ok (.unit, Sorter.siftDown less fuel a root hi first) := by
  rw [callLim_eq canonFns cols _ fSiftDown fnSiftDown rfl _ rfl [.sorter, .int root, .int hi, .int first, .unit, .unit] rfl]
  simp only [fnSiftDown]
  sl_simp []
  obtain ⟨c, hc, hd⟩ := sift_loop hl (.int root) hi first fuel root a .unit h.1 h.2
  rw [hc]
  rcases hd with ⟨σ, rfl⟩ | rfl <;> sl_simp []

/-! ## `heapSort`

variables of `heapSort`: 0 data, 1 a, 2 b, 3 first, 4 lo, 5 hi, 6 i (build), 7 i (pop) -/

theorem call_heapSort (a : Ix) (lo hi : Nat) (hlh : lo ≤ hi) (hsz : hi ≤ a.size) :
    C cols fHeapSort [.sorter, .int lo, .int hi] a = .ok (.unit, Sorter.heapSort less a lo hi) := by
  rw [callLim_eq canonFns cols _ fHeapSort fnHeapSort rfl _ rfl
    [.sorter, .int lo, .int hi, .unit, .unit, .unit, .unit, .unit] rfl]
  simp only [fnHeapSort, Sorter.heapSort]
  sl_simp [← Int.natCast_sub hlh, tdiv_half]
  generalize hn : hi - lo = n
  -- `lo := 0` of the program is the literal, not a cast
  have sd0 (a : Ix) (i : Nat) (h : i ≤ n + 1 + 0 ∧ lo + i ≤ a.size) :
      C cols fSiftDown [.sorter, .int 0, .int i, .int lo] a = .ok (.unit, Sorter.siftDown less (n + 1) a 0 i lo) :=
    call_siftDown hl (n + 1) a 0 i lo h
  -- the build loop, then the pop loop: both count down, the array stays long enough
  obtain ⟨hb, hbs⟩ := count_down canonFns cols (ge (v 6) (lit 0)) 6 (S.block [S.expr (E.call4 fSiftDown (v 0) (v 6) (v 5) (v 3))])
    (fun a i => Sorter.siftDown less (n + 1) a i n lo) (fun a => lo + n ≤ a.size)
    (fun i => [.sorter, .int lo, .int hi, .int lo, .int 0, .int n, .int i, .unit]) ((n - 1) / 2 + 1)
    (fun i a => by sl_simp [])
    (fun i a _ ha => ⟨by sl_simp [call_siftDown hl (n + 1)], by rw [siftDown_size]; exact ha⟩)
    (fun i a => by sl_simp []) _ a (Nat.le_refl _) (by omega)
  rw [hsBuildLoop, ← ListFacts.cast_succ_sub_one ((n - 1) / 2), hb]
  sl_simp []
  rw [hsPopLoop, (count_down canonFns cols _ 7 _
    (fun a i => Sorter.siftDown less (n + 1) (Sorter.sw a lo (lo + i)) 0 i lo) (fun a => lo + n ≤ a.size)
    (fun i => [.sorter, .int lo, .int hi, .int lo, .int 0, .int n, .int (-1), .int i]) n
    (fun i a => by sl_simp [])
    (fun i a hi ha => ⟨by sl_simp [call_swap, sd0], by rw [siftDown_size, Sorter.sw_size]; exact ha⟩)
    (fun i a => by sl_simp []) n _ (Nat.le_refl _) hbs).1]
  sl_simp []

end withLess

end QF.Props.C03SorterGen
