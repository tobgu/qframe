import QF.Props.Tie
namespace QF.Props.C15

/-- No function of this property is compared as source text: the list is empty (the functions are regenerated as terms, see below). -/
-- Tie audit (bin/selftest-ties): the following functions are regenerated as terms; every behaviour-changing edit of
-- them makes a `gen_*_canon` theorem of this property's modules fail, renaming their locals or reformatting them changes nothing:
-- `QFrame.ToCSV`, `QFrame.ToJSON`: `Gen.toCsvAst` / `Gen.toJsonAst` (wast.go) + `Gen.guardAst2`, `C13WriterGen.gen_tocsv_canon` + `gen_tocsv_error`, `C14WriterGen.gen_tojson_canon` + `gen_tojson_fault`,
-- `C10Guards.gen_guards2_canon`. `eofReaderWrapper.Read`, `bufferedReader.more`: `Gen.csvFns`, `C12CsvGen.gen_csv_canon` (C12CsvCanon.lean) + `C12CsvGen.gen_csv_wrapRead` / `gen_csv_more`.
-- ToSQL is regenerated in `Gen.toSqlAst` (C19SqlWriteGen.gen_tosql_fault), ReadCSV's glue in `Gen.readCsvAst` (C12GlueGen.gen_csvglue_faults), ReadSQL in `Gen.readSqlAst` (C19ReadSqlGen.gen_readsql_faults).
-- `ReadSQLWithArgs` is regenerated statement by statement in `Gen.readSqlArgsAst` (sortgast.go: config → `Prepare(conf.Query)` → `defer Close` → `Query(queryArgs...)` →
-- `qfsqlio.ReadSQL` → `New(data, ColumnOrder(columns...))`, every failure returned as `QFrame{Err: err}`): `C03SortGlueGen.gen_sortglue_canon` + `gen_readsqlargs_semantics` / `gen_readsqlargs_faults`.
theorem tie : Tie.sameAll [] = true := by decide

end QF.Props.C15
