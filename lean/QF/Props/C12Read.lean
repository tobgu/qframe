import QF.Core.CsvFull
import QF.Props.C13Render
/-!
# C12 (reader mirror vs. specification on rendered documents)

`Full.readAll` (the mirror of the REPAIRED internal/fastcsv: refilling buffer, in-place compaction of
quoted fields, CR skipped only after a closing quote, empty last field after a trailing delimiter, CR
trimming, blank-last-line rule) returns, on every document rendered from a table with an admissible
quoting choice and for EVERY read schedule, exactly the table — i.e. what the RFC 4180 specification
`rfcParse` says. Quoted fields may contain line breaks, CR LF included (`RowOk'`); the last row may come
without its line break and may end with a delimiter (`read_render_no_final_newline`,
`read_render_trailing_delim`).

Structure of the proof
* §0  list helpers
* §1  unquoted bytes on a loaded buffer: the scanner only moves its cursor (`unq_skip`), up to the end of the input
      (`unq_field_eof`)
* §2  quoted field: lock-step with a functional scanner (`quoted_eq_qscan`), content (`qscan_content`, any
      content), closing quote and what follows it (`qscan_close_delim`, `qscan_close_break`, `…_eof`, `qscan_close_end`)
* §3  one field through `fnext` (`fnext_unquoted`, `fnext_quoted`; `fnext_field_delim`; the last field of a row,
      `LastField`: before a line break — LF or CR LF, `C13.LineBreak` — `fnext_field_break`, at the end of the input
      `fnext_field_end`), one row through `rowLoop` / `readerNext` given its last field (`rowLoop_last`,
      `readerNext_last`; `readerNext_break`, `readerNext_row`, without line break `readerNext_fields`)
* §4  the whole document through `readAll` on the loaded buffer, by induction on the grammar of RFC 4180 documents
      (`C13.Doc`, declared in C13Render with the specification's side of it: rows ended by LF or CR LF, the last one possibly
      by the end of the input; here `Doc.read`); rows ended by LF (`Doc.ofRows`): `readAll_loaded`, `readAll_loaded_nfn`
      and, the reader doing under every schedule what it does on the loaded buffer (`Full.readAll_initFS`), under every
      schedule (`Doc.read_sched`)
* §5  totality of the reader under an arbitrary schedule (`readAll_total`), shown on the loaded buffer (`readAll_total_loaded`)
* §6  main theorems `read_render'`, `read_eq_spec'`, `read_render_no_final_newline`,
      `read_render_trailing_delim`, … and, as corollaries, the theorems stated before the repair
      (`read_render`, `read_eq_spec`, … with `RowOk`, which forbids CR in every field)
-/
namespace QF.Props.C12Read
open Full
open QF.Props.C13 (renderField renderFields renderRow renderDoc RowOk mustQuote)

/-! ## §0 helpers -/

theorem drop_cons_inv {α} {l : List α} {i : Nat} {x : α} {xs : List α} (h : l.drop i = x :: xs) :
    i < l.length ∧ l[i]? = some x ∧ l.drop (i + 1) = xs := by
  have hlt : i < l.length := by
    have := congrArg List.length h
    simp at this; omega
  rw [List.drop_eq_getElem_cons hlt] at h
  simp only [List.cons.injEq] at h
  exact ⟨hlt, by rw [List.getElem?_eq_getElem hlt, h.1], h.2⟩

theorem drop_add_of_append {α} {l : List α} {i : Nat} {a b : List α} (h : l.drop i = a ++ b) :
    l.drop (i + a.length) = b := by
  rw [← List.drop_drop, h, List.drop_left]

theorem slice_of_drop {α} {l : List α} {i : Nat} {a b : List α} (h : l.drop i = a ++ b) :
    (l.take (i + a.length)).drop i = a := by
  rw [List.drop_take, h]
  simp

theorem drop_of_suffix {α} {l : List α} {c k : Nat} {D rest : List α} (h : l.drop c = D) (hs : rest <:+ D)
    (hc : c ≤ l.length) (hk : k + rest.length = l.length) : l.drop k = rest := by
  obtain ⟨pre, rfl⟩ := hs
  have := congrArg List.length h
  rw [List.length_drop, List.length_append] at this
  obtain rfl : k = c + pre.length := by omega
  exact drop_add_of_append h

/-! ## §1 unquoted field on a loaded buffer -/

theorem ens1_at (st : St) (hf : st.future = []) (h : st.cursor < st.data.length) : ens1 st = (st, none) := by
  rw [ens1_loaded _ hf]
  have : ¬ st.cursor ≥ st.data.length := by omega
  simp only [this, ↓reduceIte]

/-- Over bytes that are neither the delimiter nor LF the unquoted scanner only moves its cursor. -/
theorem unq_skip (delim : Byte) : ∀ (f : List Byte) (n : Nat) (fs : FS) (tl : List Byte),
    fs.st.future = [] → (∀ c ∈ f, c ≠ delim ∧ c ≠ LF) → fs.st.data.drop fs.st.cursor = f ++ tl →
    unq delim (n + f.length) fs = unq delim n { fs with st := { fs.st with cursor := fs.st.cursor + f.length } } := by
  intro f
  induction f with
  | nil => intro n fs tl _ _ _; rfl
  | cons b bs ih =>
    intro n fs tl hf hall hd
    obtain ⟨hlt, hget, hd'⟩ := drop_cons_inv hd
    have hb := hall b (List.mem_cons_self ..)
    rw [List.length_cons, ← Nat.add_assoc, unq_loaded _ _ _ hf, if_neg (Nat.not_le.mpr hlt), hget]
    simp only
    rw [if_neg (by simpa using hb.1), if_neg (by simpa using hb.2),
      ih n { fs with st := { fs.st with cursor := fs.st.cursor + 1 } } tl hf (fun c hc => hall c (List.mem_cons_of_mem _ hc)) hd']
    simp only [Nat.add_assoc, Nat.add_comm 1]

/-- An unquoted field `f` (no delimiter, no LF) up to the end of the input: the unquoted scanner
returns the slice from `fieldStart` to the end, with `hitEOL` and `eof`. -/
theorem unq_field_eof (delim : Byte) (f : List Byte) (fuel : Nat) (fs : FS)
    (hf : fs.st.future = []) (hall : ∀ c ∈ f, c ≠ delim ∧ c ≠ LF)
    (hd : fs.st.data.drop fs.st.cursor = f) (hfu : f.length < fuel) :
    ∃ fs', unq delim fuel fs = some (fs', true) ∧
      fs'.field = fs.st.slice fs.fieldStart (fs.st.cursor + f.length) ∧ fs'.hitEOL = true ∧ fs'.err = some .eof := by
  obtain ⟨n, rfl⟩ : ∃ n, fuel = (n + 1) + f.length := ⟨fuel - f.length - 1, by omega⟩
  have hge : fs.st.data.length ≤ fs.st.cursor + f.length := by
    have := congrArg List.length hd
    rw [List.length_drop] at this; omega
  rw [unq_skip delim f _ fs [] hf hall (by rw [hd, List.append_nil]), unq_loaded _ _ _ (by exact hf), if_pos hge]
  exact ⟨_, rfl, rfl, rfl, rfl⟩

/-! ## §2 quoted field on a loaded buffer -/

/-- functional scanner for the quoted loop (the one of `Sim.qscan`, over `Full`'s types): `rest` = unread
bytes, `acc` = field so far, `qc` = consecutive quotes, `p` = the byte the next "keep" appends
(= tape[writeCursor]). Returns field, hitEOL, err, number of unread bytes left. -/
def qscan (delim : Byte) : List Byte → List Byte → Nat → Byte → List Byte × Bool × Option RErr × Nat
  | [], acc, _, _ => (acc, true, some .eof, 0)
  | [b], acc, qc, _ =>          -- the last byte is examined only for "delimiter after the closing quote"
    if qc % 2 != 0 && b == delim then (acc, false, none, 0) else (acc, true, some .eof, 1)
  | b :: b' :: rest, acc, qc, p =>
    if b == delim then
      (if qc % 2 != 0 then (acc, false, none, (b' :: rest).length) else qscan delim (b' :: rest) (acc ++ [p]) 0 b')
    else if b == LF then
      (if qc % 2 != 0 then (acc, true, none, (b' :: rest).length) else qscan delim (b' :: rest) (acc ++ [p]) 0 b')
    else if b == CR then   -- skipped after a closing quote (CRLF row end), content inside the quotes
      (if qc % 2 != 0 then qscan delim (b' :: rest) acc qc p else qscan delim (b' :: rest) (acc ++ [p]) 0 b')
    else if b == QUOTE then
      (if (qc + 1) % 2 == 1 then qscan delim (b' :: rest) acc (qc + 1) p else qscan delim (b' :: rest) (acc ++ [p]) 0 b')
    else qscan delim (b' :: rest) (acc ++ [p]) 0 b'

/-- What the tape machine returns, in terms of the scanner's result `q`: the `Res`, and a final state
that is still loaded, has consumed all but `q.2.2.2` bytes, and is untouched from its cursor on. -/
def QOut (r : Option (Full.Res × St)) (q : List Byte × Bool × Option RErr × Nat) (orig : List Byte) (c0 : Nat) : Prop :=
  ∃ s', r = some (⟨q.1, q.2.1, q.2.2.1⟩, s') ∧ s'.future = [] ∧ s'.cursor + q.2.2.2 = orig.length ∧
    s'.data.length = orig.length ∧ c0 ≤ s'.cursor ∧ s'.data.drop s'.cursor = orig.drop s'.cursor

theorem qscan_cons2 (delim b b' : Byte) (rest acc : List Byte) (qc : Nat) (p : Byte) :
    qscan delim (b :: b' :: rest) acc qc p =
      switch delim b qc (fun eol => (acc, eol, none, (b' :: rest).length)) (fun qc' => qscan delim (b' :: rest) acc qc' p)
        (qscan delim (b' :: rest) (acc ++ [p]) 0 b') := by
  rw [qscan]; rfl

/-- lock-step: `Full.quoted` on a loaded state vs. the functional scanner (as `Sim.quoted_eq_qscan`,
with the facts about the final state that the row loop needs). -/
theorem quoted_eq_qscan (delim : Byte) (fuel : Nat) : ∀ (s : St) (start w qc : Nat) (acc : List Byte) (p : Byte),
    s.future = [] → start ≤ w → w ≤ s.cursor → s.cursor ≤ s.data.length →
    (s.data.take w).drop start = acc → (w < s.data.length → s.data[w]? = some p) →
    s.data.length - s.cursor < fuel →
    QOut (quoted delim fuel s start w qc) (qscan delim (s.data.drop s.cursor) acc qc p) s.data s.cursor := by
  induction fuel with
  | zero => intro s start w qc acc p _ _ _ _ _ _ h; omega
  | succ n ih =>
    intro s start w qc acc p hf hsw hwc hcl hacc hp hfu
    rw [quoted_loaded _ _ _ _ _ _ hf]
    by_cases hE : s.cursor + 1 ≥ s.data.length
    · -- the input ends: at most one unread byte, examined only for "delimiter after the closing quote"
      rw [if_pos hE]
      unfold atEof St.slice
      rw [hacc]
      cases hd : s.data.drop s.cursor with
      | nil =>
        have hge : ¬ s.cursor < s.data.length := Nat.not_lt.mpr (List.drop_eq_nil_iff.mp hd)
        rw [if_neg (by simp [hge])]
        exact ⟨s, rfl, hf, by show s.cursor + 0 = _; omega, rfl, Nat.le_refl _, rfl⟩
      | cons x xs =>
        obtain ⟨hlt, hx, hxs⟩ := drop_cons_inv hd
        obtain rfl : xs = [] := by rw [← hxs]; exact List.drop_eq_nil_of_le (by omega)
        rw [qscan, hx]
        simp only [hlt, decide_true, Bool.and_true, Option.some_beq_some]
        split
        · exact ⟨_, rfl, hf, by show s.cursor + 1 + 0 = _; omega, rfl, Nat.le_succ _, rfl⟩
        · exact ⟨s, rfl, hf, by show s.cursor + 1 = _; omega, rfl, Nat.le_refl _, rfl⟩
    · rw [if_neg hE]
      have h2 : s.cursor + 1 < s.data.length := by omega
      have hc0 : s.cursor < s.data.length := by omega
      unfold body
      rw [List.getElem?_eq_getElem hc0]
      generalize hch : s.data[s.cursor] = ch
      generalize hnb : s.data[s.cursor + 1] = nb
      generalize hR : s.data.drop (s.cursor + 2) = R
      have e2 : s.data.drop (s.cursor + 1) = nb :: R := by
        rw [List.drop_eq_getElem_cons h2, hnb, hR]
      have hrest : s.cursor + 1 + (nb :: R).length = s.data.length := by
        rw [← e2, List.length_drop]; omega
      rw [List.drop_eq_getElem_cons hc0, hch, e2, qscan_cons2]
      -- what a recursive call on a state that has the same bytes from the cursor on gives
      have hrec : ∀ (s1 : St) (w' qc' : Nat) (acc' : List Byte) (p' : Byte), s1.cursor = s.cursor + 1 → s1.future = [] →
          s1.data.length = s.data.length → s1.data.drop (s.cursor + 1) = nb :: R → w' ≤ s.cursor + 1 → start ≤ w' →
          (s1.data.take w').drop start = acc' → (w' < s1.data.length → s1.data[w']? = some p') →
          (∀ c, s.cursor + 1 ≤ c → s1.data.drop c = s.data.drop c) →
          QOut (quoted delim n s1 start w' qc') (qscan delim (nb :: R) acc' qc' p') s.data s.cursor := by
        intro s1 w' qc' acc' p' hc1 hf1 hl1 hd1 hw' hs' ha' hp' hsame
        have := ih s1 start w' qc' acc' p' hf1 hs' (by omega) (by omega) ha' hp' (by omega)
        rw [hc1, hd1] at this
        obtain ⟨s', a1, a2, a3, a4, a5, a6⟩ := this
        exact ⟨s', a1, a2, by omega, by omega, by omega, by rw [a6]; exact hsame _ (by omega)⟩
      refine switch_rel (fun a q => QOut a q s.data s.cursor) delim ch qc ?_ ?_ ?_
      · intro eol _
        exact ⟨{ s with cursor := s.cursor + 1 }, by rw [← hacc]; rfl, hf, hrest, rfl, Nat.le_succ _, rfl⟩
      · intro qc'
        exact hrec _ w qc' acc p rfl hf rfl e2 (by omega) hsw hacc hp (fun _ _ => rfl)
      · have hpw : s.data[w]? = some p := hp (by omega)
        have hacc' : ∀ dta : List Byte, dta.take (w + 1) = s.data.take (w + 1) → (dta.take (w + 1)).drop start = acc ++ [p] := by
          intro dta hdt
          rw [hdt, List.take_add_one, hpw, Option.toList_some, List.drop_append, hacc,
            Nat.sub_eq_zero_of_le (by rw [List.length_take]; omega)]
          rfl
        unfold keep
        dsimp only
        split
        · rename_i hne
          have hw1 : w + 1 < s.cursor + 1 := by
            have : w + 1 ≠ s.cursor + 1 := by simpa using hne
            omega
          rw [List.getElem?_eq_getElem h2, hnb]
          exact hrec _ (w + 1) 0 (acc ++ [p]) nb rfl hf (List.length_set ..) (by rw [List.drop_set_of_lt hw1, e2]) (by omega) (by omega)
            (hacc' _ (by rw [List.take_set_of_le (Nat.le_refl _)]))
            (fun _ => by show (s.data.set (w + 1) nb)[w + 1]? = some nb; rw [List.getElem?_set_self (by omega)])
            (fun c hc => List.drop_set_of_lt (by omega))
        · rename_i hne
          have hw1 : w + 1 = s.cursor + 1 := by simpa using hne
          exact hrec _ (w + 1) 0 (acc ++ [p]) nb rfl hf rfl e2 (by omega) (by omega) (hacc' _ rfl)
            (fun _ => by show s.data[w + 1]? = some nb; rw [hw1, List.getElem?_eq_getElem h2, hnb]) (fun _ _ => rfl)

/-- RFC 4180 escaping of a field's content inside quotes (as `renderField true` writes it). -/
def esc (f : List Byte) : List Byte := f.flatMap (fun c => if c == 34 then [34, 34] else [c])

theorem esc_cons (b : Byte) (bs : List Byte) : esc (b :: bs) = (if b == 34 then [34, 34] else [b]) ++ esc bs := by
  simp [esc]

theorem renderField_true (f : List Byte) : renderField true f = QUOTE :: (esc f ++ [QUOTE]) := by
  simp [renderField, esc, QUOTE]

def hd (l : List Byte) : Byte := l.headD 0

/-- the functional scanner walks through escaped content and accumulates exactly the content
(as `Sim.qscan_content`) — whatever the content: delimiters, line feeds, quotes and, since the repair of
`nextQuotedField`, carriage returns -/
theorem qscan_content (delim : Byte) (hdq : delim ≠ 34) : ∀ (content tail acc : List Byte), tail ≠ [] →
    qscan delim (esc content ++ tail) acc 0 (hd (esc content ++ tail)) = qscan delim tail (acc ++ content) 0 (hd tail) := by
  intro content
  induction content with
  | nil => intro tail acc _; simp [esc]
  | cons b bs ih =>
    intro tail acc ht
    obtain ⟨r0, rs, hr⟩ : ∃ r0 rs, esc bs ++ tail = r0 :: rs := by
      cases h : esc bs ++ tail with
      | nil => simp at h; exact absurd h.2 ht
      | cons r0 rs => exact ⟨r0, rs, rfl⟩
    -- the scanner takes `b` (doubled if it is the quote) into the field and stands before the rest
    have step : qscan delim (esc (b :: bs) ++ tail) acc 0 (hd (esc (b :: bs) ++ tail)) = qscan delim (r0 :: rs) (acc ++ [b]) 0 r0 := by
      rw [esc_cons, List.append_assoc, hr]
      by_cases hq : (b == 34) = true
      · obtain rfl : b = 34 := by simpa using hq
        exact ((qscan_cons2 ..).trans (switch_quote delim hdq ..).1).trans ((qscan_cons2 ..).trans (switch_quote delim hdq ..).2)
      · rw [if_neg hq]
        exact (qscan_cons2 ..).trans (switch_zero _ _ _ _ _ (Bool.eq_false_iff.mpr hq))
    have := ih tail (acc ++ [b]) ht
    rw [hr] at this
    rw [step]
    exact this.trans (by rw [List.append_assoc]; rfl)

/-- the closing quote followed by the delimiter: the delimiter is consumed and the row goes on — also when the delimiter
is the very last byte of the input (repaired code) -/
theorem qscan_close_delim (delim : Byte) (hd1 : delim ≠ 34) (acc rest : List Byte) :
    qscan delim (QUOTE :: delim :: rest) acc 0 QUOTE = (acc, false, none, rest.length) := by
  have h34 : ¬ (34 : UInt8) = delim := fun h => hd1 h.symm
  cases rest <;> simp [qscan, h34, QUOTE, LF, CR]

/-- the closing quote, a line break (a CR after the closing quote is skipped) and at least one more byte -/
theorem qscan_close_break (delim : Byte) (hd1 : delim ≠ 34) (hd2 : delim ≠ 10) (acc : List Byte) {t : List Byte}
    (ht : C13.LineBreak delim t) (r0 : Byte) (rs : List Byte) :
    qscan delim (QUOTE :: (t ++ r0 :: rs)) acc 0 QUOTE = (acc, true, none, (r0 :: rs).length) := by
  have h34 : ¬ (34 : UInt8) = delim := fun h => hd1 h.symm
  have h10 : ¬ (10 : UInt8) = delim := fun h => hd2 h.symm
  rcases ht with rfl | ⟨hd3, rfl⟩
  · simp [qscan, h34, h10, QUOTE, LF, CR]
  · have h13 : ¬ (13 : UInt8) = delim := fun h => hd3 h.symm
    simp [qscan, h34, h13, h10, QUOTE, LF, CR]

/-- the closing quote and a line break as the very last bytes of the input: the LF is never examined -/
theorem qscan_close_break_eof (delim : Byte) (hd1 : delim ≠ 34) (hd2 : delim ≠ 10) (acc : List Byte) {t : List Byte}
    (ht : C13.LineBreak delim t) : qscan delim (QUOTE :: t) acc 0 QUOTE = (acc, true, some .eof, 1) := by
  have h34 : ¬ (34 : UInt8) = delim := fun h => hd1 h.symm
  have h10 : ¬ (10 : UInt8) = delim := fun h => hd2 h.symm
  rcases ht with rfl | ⟨hd3, rfl⟩
  · simp [qscan, h34, h10, QUOTE, LF, CR]
  · have h13 : ¬ (13 : UInt8) = delim := fun h => hd3 h.symm
    simp [qscan, h34, h13, h10, QUOTE, LF, CR]

/-- the closing quote is the very last byte of the input -/
theorem qscan_close_end (delim : Byte) (acc : List Byte) :
    qscan delim [QUOTE] acc 0 QUOTE = (acc, true, some .eof, 1) := by
  simp [qscan]

/-- a rendered quoted field from the opening quote at the cursor: the tape machine's result is the
scanner's result on closing quote + tail, with the content accumulated (any content, CR included) -/
theorem quoted_field_scan (delim : Byte) (hd1 : delim ≠ 34) (fuel : Nat) (s : St) (f tail : List Byte)
    (hf : s.future = [])
    (hdr : s.data.drop s.cursor = QUOTE :: (esc f ++ QUOTE :: tail))
    (hfu : s.data.length - s.cursor ≤ fuel) :
    QOut (quoted delim fuel { s with cursor := s.cursor + 1 } (s.cursor + 1) (s.cursor + 1) 0)
      (qscan delim (QUOTE :: tail) f 0 QUOTE) s.data (s.cursor + 1) := by
  obtain ⟨hlt, _, hd'⟩ := drop_cons_inv hdr
  have hne : esc f ++ QUOTE :: tail ≠ [] := by simp
  have hp : s.cursor + 1 < s.data.length → s.data[s.cursor + 1]? = some (hd (esc f ++ QUOTE :: tail)) := by
    intro _
    cases hx : esc f ++ QUOTE :: tail with
    | nil => exact absurd hx hne
    | cons x xs =>
      rw [hx] at hd'
      rw [(drop_cons_inv hd').2.1]; rfl
  have := quoted_eq_qscan delim fuel { s with cursor := s.cursor + 1 } (s.cursor + 1) (s.cursor + 1) 0 []
    (hd (esc f ++ QUOTE :: tail)) hf (Nat.le_refl _) (Nat.le_refl _) (by show s.cursor + 1 ≤ s.data.length; omega)
    (by simp) hp (by show s.data.length - (s.cursor + 1) < fuel; omega)
  simp only [hd'] at this
  rw [qscan_content delim hd1 f (QUOTE :: tail) [] (by simp)] at this
  simpa [hd] using this

/-! ## §3 one field through `fnext`, one row through `rowLoop` and `readerNext` -/

/-- loaded reader state at the start of a field, `D` = the unread bytes -/
structure Ready (fs : FS) (D : List Byte) : Prop where
  fut : fs.st.future = []
  eol : fs.hitEOL = false
  fstart : fs.fieldStart = fs.st.cursor
  drop : fs.st.data.drop fs.st.cursor = D
  inb : fs.st.cursor ≤ fs.st.data.length
  err : fs.err = none

theorem ready_len {fs : FS} {D : List Byte} (h : Ready fs D) : fs.st.data.length - fs.st.cursor = D.length := by
  rw [← h.drop]; simp

/-- what `mustQuote` leaves in an unquoted field: no delimiter, no LF, and no quote at its head -/
theorem unquoted_bytes {delim : Byte} {f : List Byte} (hm : mustQuote delim f = false) :
    (∀ c ∈ f, c ≠ delim ∧ c ≠ LF) ∧ ∀ t : List Byte, t.head? ≠ some QUOTE → (f ++ t).head? ≠ some QUOTE := by
  have hall := QF.Props.C13.not_mustQuote hm
  refine ⟨fun c hc => ⟨(hall c hc).1, (hall c hc).2.2.1⟩, fun t ht => ?_⟩
  cases f with
  | nil => exact ht
  | cons b bs =>
    have := (hall b (List.mem_cons_self ..)).2.1
    simpa [QUOTE] using this

/-- unquoted bytes `g` followed by `term` ∈ {delim, LF} at the start of a field: `fnext` returns `g` -/
theorem fnext_unquoted (delim : Byte) (hd2 : delim ≠ 10) (fuel : Nat) (fs : FS)
    (g : List Byte) (term : Byte) (rest : List Byte) (hr : Ready fs (g ++ term :: rest))
    (hg : ∀ c ∈ g, c ≠ delim ∧ c ≠ LF) (hq : (g ++ [term]).head? ≠ some QUOTE) (ht : term = delim ∨ term = LF)
    (hfu : (g ++ term :: rest).length ≤ fuel) :
    ∃ fs', fnext delim fuel fs = some (fs', true) ∧ fs'.field = g ∧ fs'.hitEOL = (term == LF) ∧ fs'.err = none ∧
      (term = delim → fs'.fieldStart = fs'.st.cursor) ∧ fs'.st.future = [] ∧
      fs'.st.data.drop fs'.st.cursor = rest ∧ fs'.st.cursor ≤ fs'.st.data.length ∧ fs.st.cursor < fs'.st.cursor := by
  obtain ⟨x, xs, hx, hxq⟩ : ∃ x xs, g ++ term :: rest = x :: xs ∧ (x == QUOTE) = false := by
    cases g with
    | nil => exact ⟨term, rest, rfl, by simpa using hq⟩
    | cons b bs => exact ⟨b, bs ++ term :: rest, rfl, by simpa using hq⟩
  have hdx := hr.drop
  rw [hx] at hdx
  obtain ⟨hlt, hget, _⟩ := drop_cons_inv hdx
  unfold fnext
  simp only [hr.eol, Bool.false_eq_true, ↓reduceIte]
  rw [ens1_at _ hr.fut hlt]
  simp only [hget, hxq, Bool.false_eq_true, ↓reduceIte]
  obtain ⟨n, rfl⟩ : ∃ n, fuel = (n + 1) + g.length := ⟨fuel - g.length - 1, by simp at hfu; omega⟩
  obtain ⟨hlt', hget', hrest⟩ := drop_cons_inv (drop_add_of_append hr.drop)
  rw [unq_skip delim g _ _ _ (by exact hr.fut) hg (by exact hr.drop), unq_loaded _ _ _ (by exact hr.fut),
    if_neg (Nat.not_le.mpr hlt'), hget']
  simp only
  have hfld : fs.st.slice fs.fieldStart (fs.st.cursor + g.length) = g := by
    rw [hr.fstart]; exact slice_of_drop hr.drop
  by_cases c1 : term = delim
  · subst c1
    rw [if_pos (beq_self_eq_true _)]
    exact ⟨_, rfl, hfld, by rw [show (term == LF) = false by simpa [LF] using hd2], hr.err, fun _ => rfl, hr.fut, hrest, hlt',
      by show fs.st.cursor < fs.st.cursor + g.length + 1; omega⟩
  · obtain rfl : term = LF := ht.resolve_left c1
    rw [if_neg (by simpa using c1), if_pos (beq_self_eq_true _)]
    exact ⟨_, rfl, hfld, rfl, hr.err, fun h => absurd h c1, hr.fut, hrest, hlt',
      by show fs.st.cursor < fs.st.cursor + g.length + 1; omega⟩

/-- a rendered quoted field at the start of a field, whatever follows: `fnext` returns what the scanner says of the closing
quote and `tail` — the result `(g, eol, e, ·)` and, unread, the last bytes `rest` of the input, as many as it reports -/
theorem fnext_quoted (delim : Byte) (hd1 : delim ≠ 34) (fuel : Nat) (fs : FS) (f tail : List Byte)
    (hr : Ready fs (renderField true f ++ tail)) (hfu : (renderField true f ++ tail).length ≤ fuel)
    {g : List Byte} {eol : Bool} {e : Option RErr} {rest : List Byte}
    (hq : qscan delim (QUOTE :: tail) f 0 QUOTE = (g, eol, e, rest.length)) (hrest : rest <:+ QUOTE :: tail) :
    ∃ fs', fnext delim fuel fs = some (fs', true) ∧ fs'.field = g ∧ fs'.hitEOL = eol ∧ fs'.err = e ∧
      fs'.fieldStart = fs'.st.cursor ∧ fs'.st.future = [] ∧
      fs'.st.data.drop fs'.st.cursor = rest ∧ fs'.st.cursor ≤ fs'.st.data.length ∧ fs.st.cursor < fs'.st.cursor := by
  have hdx : fs.st.data.drop fs.st.cursor = (QUOTE :: esc f) ++ (QUOTE :: tail) := by
    rw [hr.drop, renderField_true]; simp
  obtain ⟨hlt, hget, _⟩ := drop_cons_inv hdx
  obtain ⟨s', q1, q2, q3, q4, q5, q6⟩ := quoted_field_scan delim hd1 fuel fs.st f tail hr.fut hdx
    (by rw [ready_len hr]; exact hfu)
  rw [hq] at q1 q3
  unfold fnext
  simp only [hr.eol, Bool.false_eq_true, ↓reduceIte]
  rw [ens1_at _ hr.fut hlt]
  simp only [hget, beq_self_eq_true, ↓reduceIte, q1]
  refine ⟨_, rfl, rfl, rfl, rfl, rfl, q2, ?_, by show s'.cursor ≤ s'.data.length; omega, by show fs.st.cursor < s'.cursor; omega⟩
  show s'.data.drop s'.cursor = rest
  rw [q6]
  exact drop_of_suffix hdx (hrest.trans (List.suffix_append _ _)) (Nat.le_of_lt hlt) q3

/-- a non-empty unquoted field up to the end of the input -/
theorem fnext_unquoted_end (delim : Byte) (fuel : Nat) (fs : FS) (f : List Byte)
    (hr : Ready fs f) (hne : f ≠ []) (hm : mustQuote delim f = false) (hfu : f.length < fuel) :
    ∃ fs', fnext delim fuel fs = some (fs', true) ∧ fs'.field = f ∧ fs'.hitEOL = true ∧ fs'.err = some .eof := by
  obtain ⟨hall', hhd⟩ := unquoted_bytes hm
  obtain ⟨x, xs, hx⟩ : ∃ x xs, f = x :: xs := by
    cases f with
    | nil => exact absurd rfl hne
    | cons x xs => exact ⟨x, xs, rfl⟩
  have hxq : (x == QUOTE) = false := by
    have := hhd [] (fun h => nomatch h)
    rw [hx] at this
    simpa using this
  have hdx := hr.drop
  rw [hx] at hdx
  obtain ⟨hlt, hget, _⟩ := drop_cons_inv hdx
  unfold fnext
  simp only [hr.eol, Bool.false_eq_true, ↓reduceIte]
  rw [ens1_at _ hr.fut hlt]
  simp only [hget, hxq, Bool.false_eq_true, ↓reduceIte]
  obtain ⟨fs', h1, h2, h3, h4⟩ :=
    unq_field_eof delim f fuel { fs with st := fs.st, hitEOL := false } hr.fut hall' hr.drop hfu
  refine ⟨fs', h1, ?_, h3, h4⟩
  rw [h2, hr.fstart]
  have hd0 : fs.st.data.drop fs.st.cursor = f ++ [] := by rw [hr.drop]; simp
  exact slice_of_drop hd0

/-- repaired code: the input ends right after a delimiter of this row — one more, empty, field -/
theorem fnext_empty_end (delim : Byte) (fuel : Nat) (fs : FS) (hr : Ready fs []) (hpos : 0 < fs.st.cursor) :
    ∃ fs', fnext delim fuel fs = some (fs', true) ∧ fs'.field = [] ∧ fs'.hitEOL = true ∧ fs'.err = some .eof := by
  have hge : fs.st.cursor ≥ fs.st.data.length := List.drop_eq_nil_iff.mp hr.drop
  have hfs : fs.fieldStart > 0 := by rw [hr.fstart]; exact hpos
  unfold fnext
  simp only [hr.eol, Bool.false_eq_true, ↓reduceIte]
  rw [ens1_loaded _ hr.fut]
  simp only [hge, hfs, ↓reduceIte]
  refine ⟨_, rfl, ?_, rfl, rfl⟩
  show fs.st.slice fs.fieldStart fs.fieldStart = []
  simp [St.slice]

/-- what the proof needs of a field: it is quoted if it must be (so an unquoted field contains no
delimiter, quote, LF, CR). A quoted field may contain anything, CR included. -/
def FieldOk' (delim : Byte) (p : Bool × List Byte) : Prop :=
  mustQuote delim p.2 = true → p.1 = true

/-- the hypothesis of the theorems before the repair of `nextQuotedField`: moreover no CR inside -/
def FieldOk (delim : Byte) (p : Bool × List Byte) : Prop :=
  (mustQuote delim p.2 = true → p.1 = true) ∧ CR ∉ p.2

instance (delim : Byte) (p : Bool × List Byte) : Decidable (FieldOk' delim p) := by
  unfold FieldOk'; infer_instance

instance (delim : Byte) (p : Bool × List Byte) : Decidable (FieldOk delim p) := by
  unfold FieldOk; infer_instance

theorem FieldOk.weaken {delim : Byte} {p : Bool × List Byte} (h : FieldOk delim p) : FieldOk' delim p := h.1

/-- `Reader.Next` drops one trailing CR of the last field of a row (CRLF support), so that field must
not end with CR. (For an unquoted field this follows from `FieldOk'`.) -/
def LastNoCR (r : List (Bool × List Byte)) : Prop :=
  ∀ p, r.getLast? = some p → p.2.getLast? ≠ some CR

instance (r : List (Bool × List Byte)) : Decidable (LastNoCR r) :=
  match h : r.getLast? with
  | none => isTrue (fun p hp => by rw [h] at hp; cases hp)
  | some q =>
    if hq : q.2.getLast? = some CR then isFalse (fun hh => hh q h hq)
    else isTrue (fun p hp => by rw [h] at hp; cases hp; exact hq)

theorem lastNoCR_of_noCR {r : List (Bool × List Byte)} (h : ∀ p ∈ r, CR ∉ p.2) : LastNoCR r := by
  intro p hp hl
  exact h p (List.mem_of_getLast? hp) (List.mem_of_getLast? hl)

/-- loaded reader state between two rows, `D` = the unread bytes: either no error so far, or the
input is exhausted and `eof` has already been recorded (by the quoted scanner's look-ahead) -/
def AtRow (fs : FS) (D : List Byte) : Prop :=
  (fs.err = none ∧ fs.st.future = [] ∧ fs.st.data.drop fs.st.cursor = D ∧ fs.st.cursor ≤ fs.st.data.length) ∨
  (D = [] ∧ fs.err = some .eof)

theorem mustQuote_false_of {delim : Byte} {p : Bool × List Byte} (h : FieldOk' delim p) (hq : p.1 = false) :
    mustQuote delim p.2 = false := by
  cases hm : mustQuote delim p.2 with
  | false => rfl
  | true => rw [h hm] at hq; exact absurd hq (by simp)

/-- A rendered field followed by the delimiter, whatever follows — more bytes or (repaired
code) the end of the input. -/
theorem fnext_field_delim (delim : Byte) (hd1 : delim ≠ 34) (hd2 : delim ≠ 10) (fuel : Nat) (fs : FS)
    (p : Bool × List Byte) (rest : List Byte) (hp : FieldOk' delim p)
    (hr : Ready fs (renderField p.1 p.2 ++ delim :: rest))
    (hfu : (renderField p.1 p.2 ++ delim :: rest).length ≤ fuel) :
    ∃ fs', fnext delim fuel fs = some (fs', true) ∧ fs'.field = p.2 ∧ Ready fs' rest ∧ 0 < fs'.st.cursor := by
  obtain ⟨q, f⟩ := p
  cases q with
  | true =>
    obtain ⟨fs', a1, a2, a3, a4, a5, a6, a7, a8, a9⟩ := fnext_quoted delim hd1 fuel fs f (delim :: rest) hr hfu
      (qscan_close_delim delim hd1 f rest) ⟨[QUOTE, delim], rfl⟩
    exact ⟨fs', a1, a2, ⟨a6, a3, a5, a7, a8, a4⟩, by omega⟩
  | false =>
    obtain ⟨hg, hhd⟩ := unquoted_bytes (mustQuote_false_of hp rfl)
    simp only [renderField, Bool.false_eq_true, ↓reduceIte] at hr hfu
    obtain ⟨fs', a1, a2, a3, a4, a5, a6, a7, a8, a9⟩ := fnext_unquoted delim hd2 fuel fs f delim rest hr hg
      (hhd [delim] (fun h => hd1 (Option.some.inj h))) (Or.inl rfl) hfu
    exact ⟨fs', a1, a2, ⟨a6, by rw [a3]; simpa [LF] using hd2, a5 rfl, a7, a8, a4⟩, by omega⟩

/-- `fnext_field_delim` when more bytes follow the delimiter (all that held before the repair of `fields.next`). -/
theorem fnext_field_mid (delim : Byte) (hd1 : delim ≠ 34) (hd2 : delim ≠ 10) (fuel : Nat) (fs : FS)
    (p : Bool × List Byte) (r0 : Byte) (rs : List Byte) (hp : FieldOk' delim p)
    (hr : Ready fs (renderField p.1 p.2 ++ delim :: r0 :: rs))
    (hfu : (renderField p.1 p.2 ++ delim :: r0 :: rs).length ≤ fuel) :
    ∃ fs', fnext delim fuel fs = some (fs', true) ∧ fs'.field = p.2 ∧ Ready fs' (r0 :: rs) := by
  obtain ⟨fs', a1, a2, a3, _⟩ := fnext_field_delim delim hd1 hd2 fuel fs p (r0 :: rs) hp hr hfu
  exact ⟨fs', a1, a2, a3⟩

/-- What `fnext` does with the last field of a row, which is followed by `tail` (a line break and the rest of the input, or
nothing): the row loop collects `lastF p`, and the row is over in a state satisfying `E`. An unquoted empty field at the
very end of the input is a field only after a delimiter. -/
def LastField (delim : Byte) (fuel : Nat) (tail : List Byte) (lastF : Bool × List Byte → List Byte) (E : FS → Prop) : Prop :=
  ∀ (fs : FS) (p : Bool × List Byte), FieldOk' delim p → Ready fs (renderField p.1 p.2 ++ tail) →
    (tail = [] → p = (false, []) → 0 < fs.st.cursor) → (renderField p.1 p.2 ++ tail).length < fuel →
    ∃ fs', fnext delim fuel fs = some (fs', true) ∧ fs'.field = lastF p ∧ fs'.hitEOL = true ∧ E fs'

/-- A rendered field followed by a line break `t` (end of the row), whatever follows. An unquoted field comes
back with the bytes of the line break before its LF — the CR of CR LF, which `Reader.Next` trims; after a closing quote the
CR is skipped. -/
theorem fnext_field_break (delim : Byte) (hd1 : delim ≠ 34) (hd2 : delim ≠ 10) (fuel : Nat) {t : List Byte}
    (ht : C13.LineBreak delim t) (rest : List Byte) :
    LastField delim fuel (t ++ rest) (fun p => if p.1 then p.2 else p.2 ++ t.dropLast) (AtRow · rest) := by
  intro fs p hp hr _ hfu
  obtain ⟨q, f⟩ := p
  cases q with
  | true =>
    cases rest with
    | nil =>
      have hsuf : [LF] <:+ QUOTE :: (t ++ []) := by
        rcases ht with rfl | ⟨_, rfl⟩
        · exact ⟨[QUOTE], rfl⟩
        · exact ⟨[QUOTE, CR], rfl⟩
      obtain ⟨fs', a1, a2, a3, a4, _⟩ := fnext_quoted delim hd1 fuel fs f (t ++ []) hr (Nat.le_of_lt hfu) (rest := [LF])
        (by rw [List.append_nil]; exact qscan_close_break_eof delim hd1 hd2 f ht) hsuf
      exact ⟨fs', a1, a2, a3, Or.inr ⟨rfl, a4⟩⟩
    | cons r0 rs =>
      obtain ⟨fs', a1, a2, a3, a4, _, a6, a7, a8, _⟩ := fnext_quoted delim hd1 fuel fs f (t ++ r0 :: rs) hr (Nat.le_of_lt hfu)
        (qscan_close_break delim hd1 hd2 f ht r0 rs) ⟨QUOTE :: t, rfl⟩
      exact ⟨fs', a1, a2, a3, Or.inl ⟨a4, a6, a7, a8⟩⟩
  | false =>
    obtain ⟨hg, hhd⟩ := unquoted_bytes (mustQuote_false_of hp rfl)
    have ht' : t = t.dropLast ++ [LF] ∧ (∀ c ∈ t.dropLast, c ≠ delim ∧ c ≠ LF) ∧ t.head? ≠ some QUOTE := by
      rcases ht with rfl | ⟨hd3, rfl⟩
      · exact ⟨rfl, fun c hc => (by cases hc), by decide⟩
      · refine ⟨rfl, fun c hc => ?_, by decide⟩
        obtain rfl : c = CR := List.mem_singleton.mp hc
        exact ⟨fun h => hd3 (by rw [← h]; rfl), by decide⟩
    have hdoc : renderField false f ++ (t ++ rest) = (f ++ t.dropLast) ++ LF :: rest := by
      conv => lhs; rw [ht'.1]
      simp [renderField]
    rw [hdoc] at hr hfu
    obtain ⟨fs', a1, a2, a3, a4, _, a6, a7, a8, _⟩ := fnext_unquoted delim hd2 fuel fs (f ++ t.dropLast) LF rest hr
      (fun c hc => (List.mem_append.mp hc).elim (hg c) (ht'.2.1 c))
      (by rw [List.append_assoc, ← ht'.1]; exact hhd t ht'.2.2) (Or.inr rfl) (Nat.le_of_lt hfu)
    exact ⟨fs', a1, a2, by rw [a3]; rfl, Or.inl ⟨a4, a6, a7, a8⟩⟩

/-- A rendered field up to the end of the input (last field of a last row without line break):
quoted; or unquoted and non-empty; or (repaired code) unquoted, empty and preceded by a delimiter. -/
theorem fnext_field_end (delim : Byte) (hd1 : delim ≠ 34) (fuel : Nat) :
    LastField delim fuel [] (·.2) (fun fs' => fs'.err = some .eof) := by
  intro fs p hp hr hpos hfu
  obtain ⟨q, f⟩ := p
  cases q with
  | true =>
    obtain ⟨fs', a1, a2, a3, a4, _⟩ := fnext_quoted delim hd1 fuel fs f [] hr (Nat.le_of_lt hfu) (rest := [QUOTE])
      (qscan_close_end delim f) ⟨[], rfl⟩
    exact ⟨fs', a1, a2, a3, a4⟩
  | false =>
    have hm := mustQuote_false_of hp rfl
    simp only [renderField, Bool.false_eq_true, ↓reduceIte, List.append_nil] at hr hfu
    by_cases hf : f = []
    · subst hf
      exact fnext_empty_end delim fuel fs hr (hpos rfl rfl)
    · exact fnext_unquoted_end delim fuel fs f hr hf hm hfu

theorem renderFields_cons2 (delim : Byte) (p q : Bool × List Byte) (xs : List (Bool × List Byte)) :
    renderFields delim (p :: q :: xs) = renderField p.1 p.2 ++ delim :: renderFields delim (q :: xs) := by
  simp [renderFields]

theorem length_le_renderFields (delim : Byte) : ∀ r : List (Bool × List Byte), r.length ≤ (renderFields delim r).length + 1
  | [] => by simp
  | [p] => by simp
  | p :: q :: xs => by
    have := length_le_renderFields delim (q :: xs)
    rw [renderFields_cons2]
    simp only [List.length_append, List.length_cons] at this ⊢
    omega

/-- an unquoted empty field at the end of a row with at least two fields is rendered as a trailing delimiter -/
theorem renderFields_trailing (delim : Byte) : ∀ (xs : List (Bool × List Byte)), xs ≠ [] →
    renderFields delim (xs ++ [(false, [])]) = renderFields delim xs ++ [delim]
  | [], h => absurd rfl h
  | [p], _ => by simp [renderFields, renderField]
  | p :: q :: ys, _ => by
    have := renderFields_trailing delim (q :: ys) (by simp)
    simp only [List.cons_append] at this ⊢
    rw [renderFields_cons2, this, renderFields_cons2]
    simp

/-- The fields of one rendered row through the row loop, given what `fnext` does with the last one. -/
theorem rowLoop_last (delim : Byte) (hd1 : delim ≠ 34) (hd2 : delim ≠ 10) (fuel : Nat) {tail : List Byte}
    {lastF : Bool × List Byte → List Byte} {E : FS → Prop} (hlast : LastField delim fuel tail lastF E) :
    ∀ (r : List (Bool × List Byte)) (p : Bool × List Byte) (n : Nat) (fs : FS) (acc : List (List Byte)),
    r.getLast? = some p → (∀ q ∈ r, FieldOk' delim q) → Ready fs (renderFields delim r ++ tail) →
    (tail = [] → r = [(false, [])] → 0 < fs.st.cursor) →
    (renderFields delim r ++ tail).length < fuel → r.length < n →
    ∃ fs', rowLoop delim fuel n fs acc = some (fs', acc ++ ((r.map (·.2)).dropLast ++ [lastF p])) ∧ E fs' := by
  intro r
  induction r with
  | nil => intro p n fs acc h; cases h
  | cons x xs ih =>
    intro p n fs acc hp hok hr hpos hfu hn
    have hx := hok x (List.mem_cons_self ..)
    cases xs with
    | nil =>
      obtain rfl : x = p := Option.some.inj hp
      obtain ⟨fs1, a1, a2, a3, a4⟩ := hlast fs x hx hr (fun h1 h2 => hpos h1 (by rw [h2])) hfu
      obtain ⟨m, rfl⟩ : ∃ m, n = m + 2 := ⟨n - 2, by simp at hn; omega⟩
      refine ⟨fs1, ?_, a4⟩
      have hstop : fnext delim fuel fs1 = some (fs1, false) := by
        unfold fnext; simp [a3]
      simp only [rowLoop, a1, hstop, a2]
      simp
    | cons y ys =>
      rw [renderFields_cons2, List.append_assoc, List.cons_append] at hr hfu
      obtain ⟨fs1, a1, a2, a3, a4⟩ := fnext_field_delim delim hd1 hd2 fuel fs x _ hx hr (Nat.le_of_lt hfu)
      obtain ⟨m, rfl⟩ : ∃ m, n = m + 1 := ⟨n - 1, by simp at hn; omega⟩
      obtain ⟨fs', b1, b2⟩ := ih p m fs1 (acc ++ [x.2]) (by rwa [List.getLast?_cons_cons] at hp)
        (fun q hq => hok q (List.mem_cons_of_mem _ hq)) a3 (fun _ _ => a4)
        (by simp at hfu ⊢; omega) (by simp at hn ⊢; omega)
      refine ⟨fs', ?_, b2⟩
      simp only [rowLoop, a1, a2, b1]
      simp

/-- `Reader.Next`'s CR trimming does nothing when the last field does not end with CR -/
theorem trimCR_last (row : List (List Byte)) (h : ∀ f, row.getLast? = some f → f.getLast? ≠ some CR) :
    trimCR row = row := by
  unfold trimCR
  cases hl : row.getLast? with
  | none => rfl
  | some last =>
    have : (last.getLast? == some CR) = false := by
      cases hc : last.getLast? == some CR with
      | false => rfl
      | true => exact absurd (by simpa using hc) (h last hl)
    simp [this]

theorem trimCR_id (row : List (List Byte)) (h : ∀ f ∈ row, CR ∉ f) : trimCR row = row :=
  trimCR_last row (fun f hf hl => h f (List.mem_of_getLast? hf) (List.mem_of_getLast? hl))

theorem trimCR_map {r : List (Bool × List Byte)} (h : LastNoCR r) : trimCR (r.map (·.2)) = r.map (·.2) := by
  apply trimCR_last
  intro f hf
  rw [List.getLast?_map] at hf
  cases hl : r.getLast? with
  | none => rw [hl] at hf; simp at hf
  | some p =>
    rw [hl] at hf
    simp only [Option.map_some, Option.some.injEq] at hf
    rw [← hf]
    exact h p hl

theorem trimCR_concat (ys : List (List Byte)) (x : List Byte) :
    trimCR (ys ++ [x]) = if x.getLast? == some CR then ys ++ [x.dropLast] else ys ++ [x] := by
  unfold trimCR
  rw [List.getLast?_concat, List.dropLast_concat]

theorem map_snd_last {r : List (Bool × List Byte)} {p : Bool × List Byte} (hp : r.getLast? = some p) :
    (r.map (·.2)).dropLast ++ [p.2] = r.map (·.2) := by
  obtain ⟨ys, hys⟩ := List.getLast?_eq_some_iff.mp (show (r.map (·.2)).getLast? = some p.2 by rw [List.getLast?_map, hp]; rfl)
  rw [hys, List.dropLast_concat]

/-- One rendered row through `readerNext`, given what `fnext` does with its last field and that the trimming
of `Reader.Next` makes the collected fields the row. -/
theorem readerNext_last (delim : Byte) (hd1 : delim ≠ 34) (hd2 : delim ≠ 10) (fuel : Nat) {tail : List Byte}
    {lastF : Bool × List Byte → List Byte} {E : FS → Prop} (hlast : LastField delim fuel tail lastF E)
    (r : List (Bool × List Byte)) (p : Bool × List Byte) (fs : FS) (hp : r.getLast? = some p)
    (hok : ∀ q ∈ r, FieldOk' delim q) (htrim : trimCR ((r.map (·.2)).dropLast ++ [lastF p]) = r.map (·.2))
    (hpos : tail = [] → r ≠ [(false, [])])
    (he : fs.err = none) (hf : fs.st.future = []) (hdr : fs.st.data.drop fs.st.cursor = renderFields delim r ++ tail)
    (hfu : (renderFields delim r ++ tail).length < fuel) (hn : r.length < fuel) :
    ∃ fs', readerNext delim fuel fs = some (fs', r.map (·.2), true) ∧ E fs' := by
  have hready : Ready { fs with st := fs.st.reset, field := [], fieldStart := 0, hitEOL := false }
      (renderFields delim r ++ tail) :=
    ⟨hf, rfl, rfl, by simpa [St.reset] using hdr, Nat.zero_le _, he⟩
  obtain ⟨fs', a1, a2⟩ := rowLoop_last delim hd1 hd2 fuel hlast r p fuel _ [] hp hok hready
    (fun h1 h2 => absurd h2 (hpos h1)) hfu hn
  have hnemp : (r.map (·.2)).isEmpty = false := by
    cases r with
    | nil => cases hp
    | cons _ _ => rfl
  refine ⟨fs', ?_, a2⟩
  have hsome : fs.err.isSome = false := by rw [he]; rfl
  unfold readerNext
  simp only [hsome, Bool.false_eq_true, ↓reduceIte]
  simp only [List.nil_append] at a1
  rw [a1]
  simp only [htrim, hnemp, Bool.false_eq_true, ↓reduceIte]

/-- One rendered row with its line break `t` through `readerNext`. -/
theorem readerNext_break (delim : Byte) (hd1 : delim ≠ 34) (hd2 : delim ≠ 10) (fuel : Nat) {t : List Byte}
    (ht : C13.LineBreak delim t) (r : List (Bool × List Byte)) (fs : FS) (rest : List Byte)
    (hne : r ≠ []) (hok : ∀ p ∈ r, FieldOk' delim p) (hcr : LastNoCR r)
    (he : fs.err = none) (hf : fs.st.future = []) (hdr : fs.st.data.drop fs.st.cursor = renderFields delim r ++ (t ++ rest))
    (hfu : (renderFields delim r ++ (t ++ rest)).length < fuel) :
    ∃ fs', readerNext delim fuel fs = some (fs', r.map (·.2), true) ∧ AtRow fs' rest := by
  obtain ⟨p, hp⟩ : ∃ p, r.getLast? = some p := ⟨_, List.getLast?_eq_some_getLast hne⟩
  have ht1 : 1 ≤ t.length := by rcases ht with rfl | ⟨_, rfl⟩ <;> decide
  refine readerNext_last delim hd1 hd2 fuel (fnext_field_break delim hd1 hd2 fuel ht rest) r p fs hp hok ?_
    (fun h => by have := congrArg List.length h; rw [List.length_append, List.length_nil] at this; omega) he hf hdr hfu
    (by have := length_le_renderFields delim r; simp only [List.length_append] at hfu; omega)
  -- the trimming undoes what the line break left in an unquoted last field
  have hkeep : trimCR ((r.map (·.2)).dropLast ++ [p.2]) = r.map (·.2) := by rw [map_snd_last hp]; exact trimCR_map hcr
  obtain ⟨q, f⟩ := p
  cases q with
  | true => exact hkeep
  | false =>
    rcases ht with rfl | ⟨_, rfl⟩
    · simpa using hkeep
    · rw [trimCR_concat]
      simpa [CR] using map_snd_last hp

theorem readerNext_row (delim : Byte) (hd1 : delim ≠ 34) (hd2 : delim ≠ 10) (fuel : Nat)
    (r : List (Bool × List Byte)) (fs : FS) (rest : List Byte)
    (hne : r ≠ []) (hok : ∀ p ∈ r, FieldOk' delim p) (hcr : LastNoCR r)
    (he : fs.err = none) (hf : fs.st.future = []) (hdr : fs.st.data.drop fs.st.cursor = renderRow delim r ++ rest)
    (hfu : (renderRow delim r ++ rest).length < fuel) :
    ∃ fs', readerNext delim fuel fs = some (fs', r.map (·.2), true) ∧ AtRow fs' rest := by
  have e : renderRow delim r ++ rest = renderFields delim r ++ ([LF] ++ rest) := List.append_assoc ..
  rw [e] at hdr hfu
  exact readerNext_break delim hd1 hd2 fuel (Or.inl rfl) r fs rest hne hok hcr he hf hdr hfu

/-- The last row, rendered without line break, through `readerNext`: the fields come back, the reader has
recorded `eof`. The row must not be the single bare empty field, which renders to nothing. -/
theorem readerNext_fields (delim : Byte) (hd1 : delim ≠ 34) (hd2 : delim ≠ 10) (fuel : Nat)
    (r : List (Bool × List Byte)) (fs : FS)
    (hne : r ≠ []) (hok : ∀ p ∈ r, FieldOk' delim p) (hcr : LastNoCR r) (hl : r ≠ [(false, [])])
    (he : fs.err = none) (hf : fs.st.future = []) (hdr : fs.st.data.drop fs.st.cursor = renderFields delim r)
    (hfu : (renderFields delim r).length + 1 < fuel) :
    ∃ fs', readerNext delim fuel fs = some (fs', r.map (·.2), true) ∧ fs'.err = some .eof := by
  obtain ⟨p, hp⟩ : ∃ p, r.getLast? = some p := ⟨_, List.getLast?_eq_some_getLast hne⟩
  exact readerNext_last delim hd1 hd2 fuel (fnext_field_end delim hd1 fuel) r p fs hp hok
    (by rw [map_snd_last hp]; exact trimCR_map hcr) (fun _ => hl) he hf (by rw [List.append_nil]; exact hdr)
    (by rw [List.append_nil]; omega) (by have := length_le_renderFields delim r; omega)

/-! ## §4 the whole document on the loaded buffer -/

/-- Admissible row for the repaired reader — what the proof needs of a row: it has a field, every
field that must be quoted is quoted (a quoted field may contain anything, CR and CR LF included), and
the last field does not end with CR (`Reader.Next` would trim it). -/
structure RowOk' (delim : Byte) (r : List (Bool × List Byte)) : Prop where
  /-- at least one field -/
  nonempty : r ≠ []
  /-- every field that `mustQuote` is quoted -/
  quoted : ∀ p ∈ r, FieldOk' delim p
  /-- the last field does not end with CR -/
  lastNoCR : LastNoCR r

/-- end of input: the reader reports `eof` and no further row -/
theorem readAll_end (delim : Byte) (fuel n : Nat) (fs : FS) (acc : List (List (List Byte)))
    (h : AtRow fs []) (hfu : 0 < fuel) (hn : 0 < n) :
    readAll delim fuel n fs acc = some (acc, some .eof) := by
  obtain ⟨n, rfl⟩ : ∃ m, n = m + 1 := ⟨n - 1, by omega⟩
  obtain ⟨k, rfl⟩ : ∃ m, fuel = m + 1 := ⟨fuel - 1, by omega⟩
  rcases h with ⟨he, hf, hdr, hin⟩ | ⟨_, he⟩
  · have hlen : fs.st.data.length - fs.st.cursor = 0 := by
      have := congrArg List.length hdr; simpa using this
    have hens : ens1 fs.st.reset = (fs.st.reset, some .eof) := by
      rw [ens1_loaded _ (by simpa [St.reset] using hf)]
      simp [St.reset]; omega
    have hfn : fnext delim (k + 1) { fs with st := fs.st.reset, field := [], fieldStart := 0, hitEOL := false }
        = some ({ fs with st := fs.st.reset, field := [], fieldStart := 0, hitEOL := false, err := some .eof }, false) := by
      unfold fnext
      simp only [Bool.false_eq_true, ↓reduceIte, hens, Nat.lt_irrefl, gt_iff_lt]
    have hrd : readerNext delim (k + 1) fs
        = some ({ fs with st := fs.st.reset, field := [], fieldStart := 0, hitEOL := false, err := some .eof }, [], false) := by
      have hsome : fs.err.isSome = false := by rw [he]; rfl
      unfold readerNext
      simp only [hsome, Bool.false_eq_true, ↓reduceIte]
      simp [rowLoop, hfn, trimCR]
    simp [readAll, hrd]
  · have hrd : readerNext delim (k + 1) fs = some (fs, [], false) := by
      unfold readerNext; simp [he]
    simp [readAll, hrd, he]

theorem readAll_step (delim : Byte) (fuel n : Nat) (fs fs' : FS) (row : List (List Byte)) (acc : List (List (List Byte)))
    (h : readerNext delim fuel fs = some (fs', row, true)) :
    readAll delim fuel (n + 1) fs acc = readAll delim fuel n fs' (acc ++ [row]) := by
  simp only [readAll, h]

theorem renderFields_ne_nil {delim : Byte} {r : List (Bool × List Byte)} (hne : r ≠ []) (hl : r ≠ [(false, [])]) :
    renderFields delim r ≠ [] := by
  match r, hne with
  | [(true, f)], _ => simp [renderFields, renderField]
  | [(false, f)], _ =>
    intro h
    simp only [renderFields, renderField, Bool.false_eq_true, ↓reduceIte] at h
    subst h
    exact hl rfl
  | p :: q :: ys, _ => rw [renderFields_cons2]; simp

/-- The reader model on the loaded buffer reads a document back: from a state between two rows whose unread bytes are the
document, `readAll` appends the table and ends with `eof`. -/
theorem _root_.QF.Props.C13.Doc.read {delim : Byte} (hd1 : delim ≠ 34) (hd2 : delim ≠ 10) {fuel k : Nat} {doc : List Byte}
    {table : List (List (List Byte))} (d : C13.Doc delim (RowOk' delim) k doc table) :
    ∀ (fs : FS) (acc : List (List (List Byte))) (n : Nat), AtRow fs doc → doc.length + k < fuel → table.length < n →
      readAll delim fuel n fs acc = some (acc ++ table, some .eof) := by
  induction d with
  | nil =>
    intro fs acc n h hfu hn
    rw [readAll_end delim fuel n fs acc h (by omega) hn, List.append_nil]
  | last r h hl =>
    intro fs acc n hat hfu hn
    obtain ⟨m, rfl⟩ : ∃ m, n = m + 2 := ⟨n - 2, by simp at hn; omega⟩
    rcases hat with ⟨he, hf, hdr, _⟩ | ⟨hnil, _⟩
    · obtain ⟨fs', a1, a2⟩ := readerNext_fields delim hd1 hd2 fuel r fs h.nonempty h.quoted h.lastNoCR hl he hf hdr hfu
      rw [readAll_step delim fuel (m + 1) fs fs' _ _ a1,
        readAll_end delim fuel (m + 1) fs' _ (Or.inr ⟨rfl, a2⟩) (by omega) (by omega)]
    · exact absurd hnil (renderFields_ne_nil h.nonempty hl)
  | @row k rest table r t h ht d ih =>
    intro fs acc n hat hfu hn
    obtain ⟨m, rfl⟩ : ∃ m, n = m + 1 := ⟨n - 1, by simp at hn; omega⟩
    have ht1 : t ≠ [] := by rcases ht with rfl | ⟨_, rfl⟩ <;> simp
    rcases hat with ⟨he, hf, hdr, _⟩ | ⟨hnil, _⟩
    · obtain ⟨fs', a1, a2⟩ := readerNext_break delim hd1 hd2 fuel ht r fs rest h.nonempty h.quoted h.lastNoCR he hf hdr
        (by omega)
      rw [readAll_step delim fuel m fs fs' _ _ a1, ih fs' _ m a2 (by simp at hfu; omega) (by simpa using hn),
        List.append_assoc]
      rfl
    · simp [ht1] at hnil

/-- **The reader model reads every RFC 4180 document back**, whatever the sizes of the reads (`readAll_initFS`). -/
theorem _root_.QF.Props.C13.Doc.read_sched {delim : Byte} (hd : delim ≠ 34 ∧ delim ≠ 10 ∧ delim ≠ 13) {k : Nat} {doc : List Byte}
    {table : List (List (List Byte))} (d : C13.Doc delim (RowOk' delim) k doc table) (sched : List Nat) (fuel n : Nat)
    (hfu : doc.length + k < fuel) (hn : table.length < n) :
    readAll delim fuel n (initFS doc sched) [] = some (table, some .eof) := by
  rw [readAll_initFS]
  exact d.read hd.1 hd.2.1 (loadedFS doc) [] n (Or.inl ⟨rfl, rfl, rfl, Nat.zero_le _⟩) hfu hn

theorem readAll_loaded (delim : Byte) (hd1 : delim ≠ 34) (hd2 : delim ≠ 10)
    (rows : List (List (Bool × List Byte))) (hok : ∀ r ∈ rows, RowOk' delim r)
    (fuel n : Nat) (hfu : (renderDoc delim rows).length < fuel) (hn : rows.length < n) :
    readAll delim fuel n (loadedFS (renderDoc delim rows)) [] = some (rows.map (·.map (·.2)), some .eof) := by
  have d := C13.Doc.nil.ofRows (delim := delim) rows hok
  rw [List.append_nil, List.append_nil] at d
  exact d.read hd1 hd2 (loadedFS _) [] n (Or.inl ⟨rfl, rfl, rfl, Nat.zero_le _⟩) hfu (by simpa using hn)

theorem readAll_loaded_nfn (delim : Byte) (hd1 : delim ≠ 34) (hd2 : delim ≠ 10)
    (rows : List (List (Bool × List Byte))) (last : List (Bool × List Byte))
    (hok : ∀ r ∈ rows ++ [last], RowOk' delim r) (hl : last ≠ [(false, [])])
    (fuel n : Nat) (hfu : (renderDoc delim rows ++ renderFields delim last).length + 1 < fuel)
    (hn : rows.length + 1 < n) :
    readAll delim fuel n (loadedFS (renderDoc delim rows ++ renderFields delim last)) []
      = some ((rows ++ [last]).map (·.map (·.2)), some .eof) := by
  have d := (C13.Doc.last (delim := delim) last (hok last (by simp)) hl).ofRows rows fun r hr => hok r (by simp [hr])
  rw [List.map_append]
  exact d.read hd1 hd2 (loadedFS _) [] n (Or.inl ⟨rfl, rfl, rfl, Nat.zero_le _⟩) hfu (by simpa using hn)


/-! ## §5 totality under an arbitrary read schedule

With enough fuel every loop of the reader mirror returns. The reader does under any schedule what it does on the loaded
buffer (`readAll_twin`), so the argument is made there; the measure is the number of unread bytes (`Unread`).

Since the repair of `fields.next` one call of `next` may return a field without consuming a byte: the
empty field at the end of the input after a delimiter. It ends its row (`hitEOL`), so the row loop needs one more
turn than there are unread bytes. -/

/-- a loaded state, its cursor inside the buffer, with `k` bytes unread -/
def Unread (s : St) (k : Nat) : Prop := s.future = [] ∧ s.cursor + k = s.data.length

/-- On a loaded buffer the quoted loop returns: `quoted_eq_qscan` says what. -/
theorem quoted_total (delim : Byte) (fuel : Nat) (s : St) {k : Nat} (h : Unread s k) (hfu : k < fuel) :
    ∃ r s' k', quoted delim fuel s s.cursor s.cursor 0 = some (r, s') ∧ Unread s' k' ∧ k' ≤ k := by
  obtain ⟨s', a1, a2, a3, a4, a5, _⟩ := quoted_eq_qscan delim fuel s s.cursor s.cursor 0 [] (s.data[s.cursor]?.getD 0) h.1
    (Nat.le_refl _) (Nat.le_refl _) (by have := h.2; omega) (by simp) (fun hlt => by simp [hlt]) (by have := h.2; omega)
  exact ⟨_, s', _, a1, ⟨a2, by rw [a4]; exact a3⟩, by have := h.2; omega⟩

theorem unq_total (delim : Byte) : ∀ (fuel : Nat) (fs : FS) (k : Nat), Unread fs.st k → k < fuel →
    ∃ fs' k', unq delim fuel fs = some (fs', true) ∧ Unread fs'.st k' ∧ k' ≤ k ∧ (0 < k → k' < k) := by
  intro fuel
  induction fuel with
  | zero => intro fs k _ h; omega
  | succ n ih =>
    intro fs k ⟨hf, hk⟩ hfu
    rw [unq_loaded _ _ _ hf]
    by_cases hc : fs.st.cursor ≥ fs.st.data.length
    · rw [if_pos hc]
      exact ⟨_, k, rfl, ⟨hf, hk⟩, Nat.le_refl _, fun _ => by omega⟩
    · rw [if_neg hc, List.getElem?_eq_getElem (by omega)]
      have adv : Unread { fs.st with cursor := fs.st.cursor + 1 } (k - 1) :=
        ⟨hf, by show fs.st.cursor + 1 + (k - 1) = fs.st.data.length; omega⟩
      dsimp only
      split
      · exact ⟨_, _, rfl, adv, by omega, fun _ => by omega⟩
      · split
        · exact ⟨_, _, rfl, adv, by omega, fun _ => by omega⟩
        · obtain ⟨fs', k', b1, b2, b3, _⟩ := ih { fs with st := { fs.st with cursor := fs.st.cursor + 1 } } (k - 1) adv (by omega)
          exact ⟨fs', k', b1, b2, by omega, fun _ => by omega⟩

/-- one call of `fields.next`: it returns; when it reports a field, it has consumed at least one byte —
or it is the empty field at the end of the input after a delimiter (repaired code), which ends the row -/
theorem fnext_total (delim : Byte) (fuel : Nat) (fs : FS) {k : Nat} (h : Unread fs.st k) (hfu : k < fuel) :
    ∃ fs' ok k', fnext delim fuel fs = some (fs', ok) ∧ Unread fs'.st k' ∧ k' ≤ k ∧
      (ok = true → k' < k ∨ (0 < fs.fieldStart ∧ fs'.hitEOL = true)) := by
  obtain ⟨hf, hk⟩ := h
  rw [fnext_loaded _ _ _ hf]
  split
  · exact ⟨fs, false, k, rfl, ⟨hf, hk⟩, Nat.le_refl _, by simp⟩
  · split
    · split
      · rename_i hfs0
        exact ⟨_, true, k, rfl, ⟨hf, hk⟩, Nat.le_refl _, fun _ => Or.inr ⟨hfs0, rfl⟩⟩
      · exact ⟨_, false, k, rfl, ⟨hf, hk⟩, Nat.le_refl _, by simp⟩
    · rename_i hc
      rw [List.getElem?_eq_getElem (by omega)]
      dsimp only
      split
      · obtain ⟨r, s', k', b1, b2, b3⟩ := quoted_total delim fuel { fs.st with cursor := fs.st.cursor + 1 } (k := k - 1)
          ⟨hf, by show fs.st.cursor + 1 + (k - 1) = fs.st.data.length; omega⟩ (by omega)
        rw [b1]
        exact ⟨_, true, k', rfl, b2, by omega, fun _ => Or.inl (by omega)⟩
      · obtain ⟨fs', k', b1, b2, b3, b4⟩ := unq_total delim fuel fs k ⟨hf, hk⟩ hfu
        exact ⟨fs', true, k', b1, b2, b3, fun _ => Or.inl (b4 (by omega))⟩

theorem rowLoop_eol (delim : Byte) (fuel n : Nat) (fs : FS) (acc : List (List Byte)) (h : fs.hitEOL = true) :
    rowLoop delim fuel (n + 1) fs acc = some (fs, acc) := by
  simp [rowLoop, fnext, h]

/-- the row loop returns when `n` exceeds the number of unread bytes by two: every field consumes at
least one byte, except (repaired code) the empty field at the end of the input after a delimiter, the last of its row. -/
theorem rowLoop_total (delim : Byte) (fuel : Nat) : ∀ (n : Nat) (fs : FS) (acc : List (List Byte)) (k : Nat),
    Unread fs.st k → k < fuel → k + 1 < n →
    ∃ fs' row k', rowLoop delim fuel n fs acc = some (fs', row) ∧ Unread fs'.st k' ∧ k' ≤ k ∧
      (fs.fieldStart = 0 → row = acc ∨ k' < k) := by
  intro n
  induction n with
  | zero => intro fs acc k _ _ h; omega
  | succ n ih =>
    intro fs acc k h hfu hn
    obtain ⟨fs1, ok, k1, a1, a2, a3, a4⟩ := fnext_total delim fuel fs h hfu
    unfold rowLoop
    rw [a1]
    cases ok with
    | false => exact ⟨fs1, acc, k1, rfl, a2, a3, fun _ => Or.inl rfl⟩
    | true =>
      rcases a4 rfl with hlt | ⟨hpos, heol⟩
      · obtain ⟨fs', row, k', b1, b2, b3, _⟩ := ih fs1 (acc ++ [fs1.field]) k1 a2 (by omega) (by omega)
        exact ⟨fs', row, k', b1, b2, by omega, fun _ => Or.inr (by omega)⟩
      · obtain ⟨m, rfl⟩ : ∃ m, n = m + 1 := ⟨n - 1, by omega⟩
        exact ⟨fs1, acc ++ [fs1.field], k1, rowLoop_eol delim fuel m fs1 _ heol, a2, a3, fun h0 => by omega⟩

theorem trimCR_nil : trimCR [] = [] := rfl

theorem readerNext_total (delim : Byte) (fuel : Nat) (fs : FS) {k : Nat} (h : Unread fs.st k) (hfu : k + 1 < fuel) :
    ∃ fs' row ok k', readerNext delim fuel fs = some (fs', row, ok) ∧ Unread fs'.st k' ∧ k' ≤ k ∧ (ok = true → k' < k) := by
  unfold readerNext
  split
  · exact ⟨fs, [], false, k, rfl, h, Nat.le_refl _, by simp⟩
  · obtain ⟨fs1, row, k1, a1, a2, a3, a4⟩ := rowLoop_total delim fuel fuel
      { fs with st := fs.st.reset, field := [], fieldStart := 0, hitEOL := false } [] k
      ⟨h.1, by show 0 + k = (fs.st.data.drop fs.st.cursor).length; rw [List.length_drop]; have := h.2; omega⟩ (by omega) hfu
    rw [a1]
    dsimp only
    split
    · exact ⟨_, [], false, k1, rfl, a2, a3, by simp⟩
    · rename_i hemp
      refine ⟨fs1, trimCR row, true, k1, rfl, a2, a3, fun _ => (a4 rfl).resolve_left ?_⟩
      rintro rfl
      exact hemp rfl

theorem readAll_total_loaded (delim : Byte) (fuel : Nat) : ∀ (n : Nat) (fs : FS) (acc : List (List (List Byte))) (k : Nat),
    Unread fs.st k → k + 1 < fuel → k < n → ∃ res, readAll delim fuel n fs acc = some res := by
  intro n
  induction n with
  | zero => intro fs acc k _ _ h; omega
  | succ n ih =>
    intro fs acc k h hfu hn
    obtain ⟨fs1, row, ok, k1, a1, a2, a3, a4⟩ := readerNext_total delim fuel fs h hfu
    unfold readAll
    rw [a1]
    cases ok with
    | false => exact ⟨_, rfl⟩
    | true =>
      have := a4 rfl
      exact ih fs1 _ k1 a2 (by omega) (by omega)

def total (s : St) : Nat := s.data.length + s.future.length

/-- the reader returns, whatever the schedule, with `fuel` above the number of unread bytes by two -/
theorem readAll_total (delim : Byte) (fuel : Nat) : ∀ (n : Nat) (fs : FS) (acc : List (List (List Byte))),
    fs.st.cursor ≤ fs.st.data.length →
    total fs.st - fs.st.cursor + 1 < fuel → total fs.st - fs.st.cursor < n →
    ∃ res, readAll delim fuel n fs acc = some res := by
  intro n fs acc hcl hfu hn
  rw [readAll_twin delim fuel n fs { fs with st := fs.st.loaded } acc ⟨⟨rfl, rfl, rfl⟩, rfl, rfl, rfl, rfl⟩ hcl]
  exact readAll_total_loaded delim fuel n _ acc (total fs.st - fs.st.cursor)
    ⟨rfl, by show fs.st.cursor + _ = (fs.st.data ++ fs.st.future).length; rw [List.length_append]; unfold total; omega⟩ hfu hn

/-! ## §6 main theorems -/

theorem RowOk'.core {delim : Byte} {r : List (Bool × List Byte)} (h : RowOk' delim r) :
    QF.Props.C13.RowOkCore delim r := ⟨h.nonempty, h.quoted⟩

/-- `RowOk` of C13 (which forbids CR in every field) is a special case of `RowOk'` -/
theorem _root_.QF.Props.C13.RowOk.toOk' {delim : Byte} {r : List (Bool × List Byte)} (h : RowOk delim r) : RowOk' delim r :=
  ⟨h.nonempty, h.quoted, lastNoCR_of_noCR h.noCR⟩

theorem rowOk_fields {delim : Byte} {r : List (Bool × List Byte)} (h : RowOk delim r) :
    r ≠ [] ∧ ∀ p ∈ r, FieldOk delim p :=
  ⟨h.nonempty, fun p hp => ⟨h.quoted p hp, h.noCR p hp⟩⟩

/-- the hypotheses of `read_render_core` as stated before the repair are a special case of `RowOk'` -/
theorem rowOk'_of_fields {delim : Byte} {r : List (Bool × List Byte)} (h : r ≠ [] ∧ ∀ p ∈ r, FieldOk delim p) :
    RowOk' delim r :=
  ⟨h.1, fun p hp => (h.2 p hp).1, lastNoCR_of_noCR (fun p hp => (h.2 p hp).2)⟩

/-- Any schedule, explicit fuel, minimal hypotheses (`RowOk'`: every row has a field, every field
that must be quoted is quoted — quoted fields may contain CR —, the last field of a row does not end
with CR): with `fuel` and `n` larger than the document, the reader mirror returns exactly the table and
then `eof` — whatever the sizes of the reads. -/
theorem read_render_core' (delim : Byte) (hd : delim ≠ 34 ∧ delim ≠ 10 ∧ delim ≠ 13)
    (rows : List (List (Bool × List Byte))) (h : ∀ r ∈ rows, RowOk' delim r)
    (sched : List Nat) (fuel n : Nat)
    (hfu : (renderDoc delim rows).length < fuel) (hn' : rows.length < n) :
    readAll delim fuel n (initFS (renderDoc delim rows) sched) [] = some (rows.map (·.map (·.2)), some .eof) := by
  have d := C13.Doc.nil.ofRows (delim := delim) rows h
  rw [List.append_nil, List.append_nil] at d
  exact d.read_sched hd sched fuel n hfu (by simpa using hn')

/-- `read_render_core'` under the hypotheses used before the repair (no field contains CR) -/
theorem read_render_core (delim : Byte) (hd : delim ≠ 34 ∧ delim ≠ 10 ∧ delim ≠ 13)
    (rows : List (List (Bool × List Byte))) (h : ∀ r ∈ rows, r ≠ [] ∧ ∀ p ∈ r, FieldOk delim p)
    (sched : List Nat) (fuel n : Nat)
    (hfu : (renderDoc delim rows).length < fuel) (hn : (renderDoc delim rows).length < n) (hn' : rows.length < n) :
    readAll delim fuel n (initFS (renderDoc delim rows) sched) [] = some (rows.map (·.map (·.2)), some .eof) :=
  read_render_core' delim hd rows (fun r hr => rowOk'_of_fields (h r hr)) sched fuel n hfu hn'

/-- **C12 on rendered documents (repaired reader).** For every table rendered with an admissible quoting
choice — quoted fields may contain line breaks, CR LF included; only the last field of a row must not
END with CR, because `Reader.Next` trims it — the reader mirror returns the table and then `eof`, for
every read schedule. -/
theorem read_render' (delim : Byte) (hd : delim ≠ 34 ∧ delim ≠ 10 ∧ delim ≠ 13)
    (rows : List (List (Bool × List Byte))) (h : ∀ r ∈ rows, RowOk' delim r) (sched : List Nat) :
    ∃ fuel n, readAll delim fuel n (initFS (renderDoc delim rows) sched) []
      = some (rows.map (·.map (·.2)), some .eof) :=
  ⟨(renderDoc delim rows).length + 1, (renderDoc delim rows).length + rows.length + 1,
    read_render_core' delim hd rows h sched _ _ (by omega) (by omega)⟩

/-- **C12 on rendered documents** as stated before the repair (`RowOk` includes "no field contains CR"). -/
theorem read_render (delim : Byte) (hd : delim ≠ 34 ∧ delim ≠ 10 ∧ delim ≠ 13)
    (rows : List (List (Bool × List Byte))) (h : ∀ r ∈ rows, RowOk delim r) (sched : List Nat) :
    ∃ fuel n, readAll delim fuel n (initFS (renderDoc delim rows) sched) []
      = some (rows.map (·.map (·.2)), some .eof) :=
  read_render' delim hd rows (fun r hr => (h r hr).toOk') sched

/-- the same with the bounds spelled out: any `fuel`, `n` above the document's size will do -/
theorem read_render_fuel' (delim : Byte) (hd : delim ≠ 34 ∧ delim ≠ 10 ∧ delim ≠ 13)
    (rows : List (List (Bool × List Byte))) (h : ∀ r ∈ rows, RowOk' delim r) (sched : List Nat) (fuel n : Nat)
    (hfu : (renderDoc delim rows).length < fuel) (hn : (renderDoc delim rows).length + rows.length < n) :
    readAll delim fuel n (initFS (renderDoc delim rows) sched) [] = some (rows.map (·.map (·.2)), some .eof) :=
  read_render_core' delim hd rows h sched fuel n hfu (by omega)

theorem read_render_fuel (delim : Byte) (hd : delim ≠ 34 ∧ delim ≠ 10 ∧ delim ≠ 13)
    (rows : List (List (Bool × List Byte))) (h : ∀ r ∈ rows, RowOk delim r) (sched : List Nat) (fuel n : Nat)
    (hfu : (renderDoc delim rows).length < fuel) (hn : (renderDoc delim rows).length + rows.length < n) :
    readAll delim fuel n (initFS (renderDoc delim rows) sched) [] = some (rows.map (·.map (·.2)), some .eof) :=
  read_render_fuel' delim hd rows (fun r hr => (h r hr).toOk') sched fuel n hfu hn

/-- **Reader mirror = specification** on rendered documents (repaired reader): the rows the reader mirror
returns are `rfcParse` of the document, for every read schedule — line breaks inside quotes included. -/
theorem read_eq_spec' (delim : Byte) (hd : delim ≠ 34 ∧ delim ≠ 10 ∧ delim ≠ 13)
    (rows : List (List (Bool × List Byte))) (h : ∀ r ∈ rows, RowOk' delim r) (sched : List Nat) :
    ∃ fuel n, readAll delim fuel n (initFS (renderDoc delim rows) sched) []
      = some (rfcParse delim (renderDoc delim rows), some .eof) := by
  rw [QF.Props.C13.parse_render_core delim hd rows (fun r hr => (h r hr).core)]
  exact read_render' delim hd rows h sched

theorem read_eq_spec (delim : Byte) (hd : delim ≠ 34 ∧ delim ≠ 10 ∧ delim ≠ 13)
    (rows : List (List (Bool × List Byte))) (h : ∀ r ∈ rows, RowOk delim r) (sched : List Nat) :
    ∃ fuel n, readAll delim fuel n (initFS (renderDoc delim rows) sched) []
      = some (rfcParse delim (renderDoc delim rows), some .eof) :=
  read_eq_spec' delim hd rows (fun r hr => (h r hr).toOk') sched

/-- and whenever the reader mirror returns at all (any fuel, any schedule), it returns the specification's rows -/
theorem read_eq_spec_of_some' (delim : Byte) (hd : delim ≠ 34 ∧ delim ≠ 10 ∧ delim ≠ 13)
    (rows : List (List (Bool × List Byte))) (h : ∀ r ∈ rows, RowOk' delim r) (sched : List Nat) (fuel n : Nat)
    (hfu : (renderDoc delim rows).length < fuel) (hn : rows.length < n)
    (res : List (List (List Byte)) × Option RErr)
    (hres : readAll delim fuel n (initFS (renderDoc delim rows) sched) [] = some res) :
    res = (rfcParse delim (renderDoc delim rows), some .eof) := by
  have h1 := read_schedule_independent delim fuel n _ sched res hres
  have h2 := readAll_loaded delim hd.1 hd.2.1 rows h fuel n hfu hn
  rw [h1] at h2
  rw [QF.Props.C13.parse_render_core delim hd rows (fun r hr => (h r hr).core)]
  exact Option.some.inj h2

theorem read_eq_spec_of_some (delim : Byte) (hd : delim ≠ 34 ∧ delim ≠ 10 ∧ delim ≠ 13)
    (rows : List (List (Bool × List Byte))) (h : ∀ r ∈ rows, RowOk delim r) (sched : List Nat) (fuel n : Nat)
    (hfu : (renderDoc delim rows).length < fuel) (hn : rows.length < n)
    (res : List (List (List Byte)) × Option RErr)
    (hres : readAll delim fuel n (initFS (renderDoc delim rows) sched) [] = some res) :
    res = (rfcParse delim (renderDoc delim rows), some .eof) :=
  read_eq_spec_of_some' delim hd rows (fun r hr => (h r hr).toOk') sched fuel n hfu hn res hres

/-! ### The last row without line break; the trailing delimiter (repaired `fields.next`) -/

/-- Explicit fuel: a rendered table followed by a last row WITHOUT line break. The last row may end with
a quoted field, a non-empty unquoted field, or (repaired code) an empty unquoted field after a delimiter;
it must not be the single bare empty field, which renders to nothing. -/
theorem read_render_nfn_core (delim : Byte) (hd : delim ≠ 34 ∧ delim ≠ 10 ∧ delim ≠ 13)
    (rows : List (List (Bool × List Byte))) (last : List (Bool × List Byte))
    (h : ∀ r ∈ rows ++ [last], RowOk' delim r) (hl : last ≠ [(false, [])])
    (sched : List Nat) (fuel n : Nat)
    (hfu : (renderDoc delim rows ++ renderFields delim last).length + 1 < fuel)
    (hn' : rows.length + 1 < n) :
    readAll delim fuel n (initFS (renderDoc delim rows ++ renderFields delim last) sched) []
      = some ((rows ++ [last]).map (·.map (·.2)), some .eof) := by
  have d := (C13.Doc.last (delim := delim) last (h last (by simp)) hl).ofRows rows fun r hr => h r (by simp [hr])
  rw [List.map_append]
  exact d.read_sched hd sched fuel n hfu (by simpa using hn')

/-- **C12, last row without line break.** The reader mirror returns the table, last row included, for
every read schedule. -/
theorem read_render_no_final_newline (delim : Byte) (hd : delim ≠ 34 ∧ delim ≠ 10 ∧ delim ≠ 13)
    (rows : List (List (Bool × List Byte))) (last : List (Bool × List Byte))
    (h : ∀ r ∈ rows ++ [last], RowOk' delim r) (hl : last ≠ [(false, [])]) (sched : List Nat) :
    ∃ fuel n, readAll delim fuel n (initFS (renderDoc delim rows ++ renderFields delim last) sched) []
      = some ((rows ++ [last]).map (·.map (·.2)), some .eof) :=
  ⟨(renderDoc delim rows ++ renderFields delim last).length + 2,
    (renderDoc delim rows ++ renderFields delim last).length + rows.length + 2,
    read_render_nfn_core delim hd rows last h hl sched _ _ (by omega) (by omega)⟩

/-- … and this is what the specification says. -/
theorem read_eq_spec_no_final_newline (delim : Byte) (hd : delim ≠ 34 ∧ delim ≠ 10 ∧ delim ≠ 13)
    (rows : List (List (Bool × List Byte))) (last : List (Bool × List Byte))
    (h : ∀ r ∈ rows ++ [last], RowOk' delim r) (hl : last ≠ [(false, [])]) (sched : List Nat) :
    ∃ fuel n, readAll delim fuel n (initFS (renderDoc delim rows ++ renderFields delim last) sched) []
      = some (rfcParse delim (renderDoc delim rows ++ renderFields delim last), some .eof) := by
  rw [QF.Props.C13.parse_render_no_final_newline_core delim hd rows last (fun r hr => (h r hr).core) hl]
  exact read_render_no_final_newline delim hd rows last h hl sched

/-- a row that ends with an unquoted empty field after at least one other field: admissible, and not the bare empty field -/
theorem rowOk'_trailing {delim : Byte} {init : List (Bool × List Byte)} (hne : init ≠ [])
    (hq : ∀ p ∈ init, FieldOk' delim p) :
    RowOk' delim (init ++ [(false, [])]) ∧ init ++ [(false, [])] ≠ [(false, [])] := by
  refine ⟨⟨by simp, fun p hp => ?_, fun p hp => ?_⟩, ?_⟩
  · rcases List.mem_append.mp hp with hp | hp
    · exact hq p hp
    · obtain rfl := List.mem_singleton.mp hp
      exact fun hm => by simp [mustQuote] at hm
  · simp only [List.getLast?_append, List.getLast?_singleton, Option.some_or, Option.some.injEq] at hp
    subst hp
    simp
  · cases init with
    | nil => exact absurd rfl hne
    | cons x xs => cases xs <;> simp

/-- **C12, trailing delimiter (repaired `fields.next` / `nextQuotedField`).** A document whose last row
has no line break and ends with a delimiter — after an unquoted or after a quoted field — is read back
with the final empty field, for every read schedule. `init` are the fields before the final empty one. -/
theorem read_render_trailing_delim (delim : Byte) (hd : delim ≠ 34 ∧ delim ≠ 10 ∧ delim ≠ 13)
    (rows : List (List (Bool × List Byte))) (init : List (Bool × List Byte))
    (h : ∀ r ∈ rows, RowOk' delim r) (hne : init ≠ []) (hq : ∀ p ∈ init, FieldOk' delim p) (sched : List Nat) :
    ∃ fuel n, readAll delim fuel n (initFS (renderDoc delim rows ++ (renderFields delim init ++ [delim])) sched) []
      = some (rows.map (·.map (·.2)) ++ [init.map (·.2) ++ [[]]], some .eof) := by
  obtain ⟨hlast, hl⟩ := rowOk'_trailing hne hq
  have := read_render_no_final_newline delim hd rows (init ++ [(false, [])])
    (fun r hr => (List.mem_append.mp hr).elim (h r) (fun hr => List.mem_singleton.mp hr ▸ hlast)) hl sched
  rw [renderFields_trailing delim init hne] at this
  simpa using this

/-- … and this is what the specification says: the reader returns `rfcParse` of the document. -/
theorem read_eq_spec_trailing_delim (delim : Byte) (hd : delim ≠ 34 ∧ delim ≠ 10 ∧ delim ≠ 13)
    (rows : List (List (Bool × List Byte))) (init : List (Bool × List Byte))
    (h : ∀ r ∈ rows, RowOk' delim r) (hne : init ≠ []) (hq : ∀ p ∈ init, FieldOk' delim p) (sched : List Nat) :
    ∃ fuel n, readAll delim fuel n (initFS (renderDoc delim rows ++ (renderFields delim init ++ [delim])) sched) []
      = some (rfcParse delim (renderDoc delim rows ++ (renderFields delim init ++ [delim])), some .eof) := by
  obtain ⟨hlast, hl⟩ := rowOk'_trailing hne hq
  have := read_eq_spec_no_final_newline delim hd rows (init ++ [(false, [])])
    (fun r hr => (List.mem_append.mp hr).elim (h r) (fun hr => List.mem_singleton.mp hr ▸ hlast)) hl sched
  rw [renderFields_trailing delim init hne] at this
  exact this

/-! ## The hypotheses are satisfiable; the model agrees on the instance -/

open QF.Props.C13 (demo demo_ok) in
/-- `ab,"c,""d⏎",⏎""⏎,"x",y!⏎` read with the schedule 1, 2, 3, 1, 1, 5 -/
example : ∃ fuel n, readAll 44 fuel n (initFS (renderDoc 44 demo) [1, 2, 3, 1, 1, 5]) []
    = some (demo.map (·.map (·.2)), some .eof) :=
  read_render 44 (by decide) demo demo_ok [1, 2, 3, 1, 1, 5]

open QF.Props.C13 (demo demo_ok) in
example : ∃ fuel n, readAll 44 fuel n (initFS (renderDoc 44 demo) (List.replicate 100 1)) []
    = some (rfcParse 44 (renderDoc 44 demo), some .eof) :=
  read_eq_spec 44 (by decide) demo demo_ok _

#eval (readAll 44 30 30 (initFS (renderDoc 44 QF.Props.C13.demo) [1, 2, 3, 1, 1, 5]) []).map
  (fun r => (decide (r.1 = QF.Props.C13.demo.map (·.map (·.2))), r.2))

/-- a table with CR LF and a bare CR inside quoted fields -/
def demoCR : List (List (Bool × List Byte)) :=
  [ [(true, [97, 13, 10, 98]), (false, [99])],
    [(true, [13, 120]), (true, [13, 10])] ]

theorem demoCR_ok : ∀ r ∈ demoCR, RowOk' 44 r := by
  intro r hr
  simp only [demoCR, List.mem_cons, List.not_mem_nil, or_false] at hr
  rcases hr with rfl | rfl
  · exact ⟨by decide, by decide, by decide⟩
  · exact ⟨by decide, by decide, by decide⟩

/-- Not needed (`RowOk.noCR`; repaired `nextQuotedField`): CR inside a quoted field comes back from the reader
mirror, as `rfcParse` says — `"a␍⏎b",c⏎"␍x","␍⏎"⏎` read in pieces. -/
example : ∃ fuel n, readAll 44 fuel n (initFS (renderDoc 44 demoCR) [3, 1, 2, 1]) []
    = some (rfcParse 44 (renderDoc 44 demoCR), some .eof) :=
  read_eq_spec' 44 (by decide) demoCR demoCR_ok _

#eval (readAll 44 30 30 (initFS (renderDoc 44 demoCR) [3, 1, 2, 1]) []).map
  (fun r => (decide (r.1 = demoCR.map (·.map (·.2))), r.2))

/-- Needed (`RowOk'.lastNoCR`): `Reader.Next` drops a CR at the end of the last field of a row even when
the field was quoted, while `rfcParse` keeps it. -/
example : (readAll 44 20 5 (initFS (renderDoc 44 [[(false, [99]), (true, [97, 13])]]) []) []).map (·.1)
    ≠ some (rfcParse 44 (renderDoc 44 [[(false, [99]), (true, [97, 13])]])) := by decide

/-- Repaired `fields.next` / `nextQuotedField`: `a,⏎"b",` — the last row has no line break and ends with
a delimiter after a quoted field; it has two fields. -/
example : ∃ fuel n, readAll 44 fuel n (initFS (renderDoc 44 [[(false, [97]), (false, [])]] ++
      (renderFields 44 [(true, [98])] ++ [44])) [1, 1, 2]) []
    = some ([[[97], []]] ++ [[[98]] ++ [[]]], some .eof) :=
  read_render_trailing_delim 44 (by decide) [[(false, [97]), (false, [])]] [(true, [98])]
    (by
      intro r hr
      simp only [List.mem_cons, List.not_mem_nil, or_false] at hr
      subst hr
      exact ⟨by decide, by decide, by decide⟩)
    (by decide) (by decide) _

#eval (readAll 44 30 30 (initFS (renderDoc 44 [[(false, [97]), (false, [])]] ++
      (renderFields 44 [(true, [98])] ++ [44])) [1, 1, 2]) [])

/-- Not needed (`read_render_core`): `RowOk.single`. A bare empty line is read as the row of one empty field,
by the reader as by the specification. -/
example : ∃ fuel n, readAll 44 fuel n (initFS (renderDoc 44 [[(false, [])], [(true, [34, 10])]]) [2, 1]) []
    = some ([[[]], [[34, 10]]], some .eof) :=
  ⟨_, _, read_render_core 44 (by decide) _ (by
    intro r hr
    simp only [List.mem_cons, List.not_mem_nil, or_false] at hr
    rcases hr with rfl | rfl <;> exact ⟨by decide, by decide⟩) [2, 1] 20 20 (by decide) (by decide) (by decide)⟩

#print axioms quoted_eq_qscan
#print axioms qscan_content
#print axioms readerNext_row
#print axioms readerNext_fields
#print axioms readAll_loaded
#print axioms readAll_loaded_nfn
#print axioms readAll_total
#print axioms read_render_core'
#print axioms read_render_core
#print axioms read_render'
#print axioms read_render
#print axioms read_render_fuel'
#print axioms read_render_fuel
#print axioms read_eq_spec'
#print axioms read_eq_spec
#print axioms read_eq_spec_of_some'
#print axioms read_eq_spec_of_some
#print axioms read_render_nfn_core
#print axioms read_render_no_final_newline
#print axioms read_eq_spec_no_final_newline
#print axioms read_render_trailing_delim
#print axioms read_eq_spec_trailing_delim

end QF.Props.C12Read
