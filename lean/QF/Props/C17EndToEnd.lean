import QF.Props.C17Factory
import QF.Props.C17EnumRestGen
import QF.Props.C02Dispatch
import QF.Props.C03EndToEnd
/-!
# C17 — enum columns END TO END: from the regenerated factory to what the user observes (tie T1)

The pieces (each proved over the terms regenerated TODAY from /repo):

* `C17Factory.gen_factory_semantics` — `ecolumn.New` / `NewFactory` + the per-cell step (the CSV reader's `AppendByteString` is the
  same step: `gen_factory_bytes_step`; `New` of qframe.go takes this constructor: `gen_factory_is_ctor`) = the spec's `mkEnum`;
* `C17Enum` — `mkEnum_declared`, `mkEnum_derived`, `enum_order_declared`, `enum_null_distinct`, `enum_filter_undeclared`;
* `C17EnumRestGen` — `isNull` regenerated (`gen_isnull_semantics`);
* `C03Compare.gen_compare_semantics`, `C03EndToEnd.gen_sort_end_to_end` — the comparators and `Sort`, everything regenerated;
* `C02Dispatch.dispatch_enum_str` / `gen_enum_undeclared` — `ecolumn.filterBuiltIn` + tables + kernels on one column and one constant.

Here they are composed for ONE column: the column today's factory builds from `declared` values and `cells`
(`genNew declared cells = .ok σ`, observed as `colOf name σ`). `gen_enum_end_to_end`:

(e) `genNew` is never stuck; it is `.err` exactly when more than 255 values are declared, or a value outside a non-empty
    declaration occurs, or nothing is declared and more than 255 distinct values occur — a clean error;
otherwise it returns a column `σ` with (`EnumE2E`):
(a) at most 255 values; declared: the value list IS the declaration and the column is strict; derived: not strict and the value
    list is `FirstAppearance` (duplicate-free, exactly the non-null cells, in the order of their first appearance);
(b) every cell reads back as what was put in (`decode` of its code), a null cell has the code 255 that `isNull` tests and no value
    has it, and null is incomparable with every cell (`cmp6 … = (op == "!=")`);
(c) the comparator `Sort` uses orders two values by their position in the value list (reversed by `Reverse`), nulls first (last
    with `NullLast`), and `Sort` of today's source on any well-formed frame holding the column, by that column, returns a frame
    that is a sorted result for the spec in which the ranks never descend (never ascend with `Reverse`);
(d) `< <= > >= = !=` against a constant of the value list compare the POSITION of the cell's value with the constant's
    (null: only `!=` holds); against a constant outside the list: an error if the column is strict (always, if values were
    declared), else no row (`!=`: every row).
-/
set_option linter.unusedSimpArgs false
set_option linter.unusedVariables false
namespace QF.Props.C17EndToEnd
open QF QF.Props.C17Enum QF.Props.C17Factory
open QF.Props.C02Kernels (cellOk tys)

/-- the column as the user observes it: value table, strictness, one cell per code -/
def colOf (name : Bytes) (σ : FState) : LCol :=
  { name := name, ty := .enum, vals := σ.values, strict := σ.strict, cells := (σ.data.map (decode σ.values)).toArray }

theorem mem_cellOf {cells : List (Option Bytes)} {s : Bytes} : Cell.str (some s) ∈ cells.map cellOf ↔ some s ∈ cells := by
  simp [cellOf]

/-! ## (e) errors, (a) the value list, (b) the cells -/

/-- (e) today's `New` never gets stuck, and fails exactly in the three documented cases -/
theorem gen_enum_errors (declared : List Bytes) (cells : List (Option Bytes)) :
    genNew declared cells ≠ .stuck ∧
    (genNew declared cells = .err ↔
      (declared.length > 255 ∨ (declared ≠ [] ∧ ∃ s, some s ∈ cells ∧ s ∉ declared) ∨
       (declared = [] ∧ MoreDistinctThan 255 (cells.map cellOf)))) := by
  obtain ⟨h1, _, h3⟩ := gen_factory_reject_iff declared cells
  refine ⟨h3, ?_⟩
  rw [h1, mkEnum_eq_none_iff]
  simp only [mem_cellOf]
  exact or_congr_right or_comm

/-- more than 255 distinct values (declared or occurring): a clean error -/
theorem gen_enum_too_many (declared : List Bytes) (cells : List (Option Bytes)) :
    (declared.length > 255 → genNew declared cells = .err) ∧
    (declared = [] → MoreDistinctThan 255 (cells.map cellOf) → genNew declared cells = .err) :=
  ⟨fun h => (gen_enum_errors declared cells).2.2 (Or.inl h),
   fun h1 h2 => (gen_enum_errors declared cells).2.2 (Or.inr (Or.inr ⟨h1, h2⟩))⟩

/-- (a) the value list and its order -/
structure ValuesOk (declared : List Bytes) (cells : List (Option Bytes)) (σ : FState) : Prop where
  le255 : σ.values.length ≤ 255
  declaredVals : declared ≠ [] → σ.values = declared ∧ σ.strict = true
  derivedVals : declared = [] → σ.strict = false ∧ FirstAppearance σ.values (cells.map cellOf)
  spec : mkEnum declared (cells.map cellOf) = some (σ.values, σ.strict)

theorem gen_enum_values (declared : List Bytes) (cells : List (Option Bytes)) (σ : FState) (h : genNew declared cells = .ok σ) :
    ValuesOk declared cells σ := by
  have hm := (gen_factory_reject_iff declared cells).2.1 σ h
  obtain ⟨hlen, hcase⟩ := mkEnum_eq_some_iff.1 hm
  refine ⟨hlen, fun hne => ?_, fun he => ?_, hm⟩
  · rcases hcase with ⟨_, h', h'', _⟩ | ⟨he, _⟩
    · exact ⟨h', h''⟩
    · exact absurd he hne
  · rcases hcase with ⟨hne, _⟩ | ⟨_, h', h''⟩
    · exact absurd he hne
    · exact ⟨h'', h' ▸ derive_firstAppearance _⟩

/-- (b) the cells: they read back, null is the code 255 (what `isNull` tests), no value is null -/
structure CellsOk (declared : List Bytes) (cells : List (Option Bytes)) (σ : FState) : Prop where
  readBack : σ.data.map (decode σ.values) = cells.map cellOf
  codes : Forall2 (CodeOk σ.values) cells σ.data
  ranks : declared.Nodup → Forall2 (RankOk σ.values) cells σ.data
  isNull : ∀ code, C17EnumRestGen.genIsNull code = some (code == 255)
  valueNotNull : ∀ i, i < σ.values.length → i ≠ 255
  nullDistinct : ∀ (name : Bytes) (a : Cell) (op : String),
    cmp6 (colOf name σ) op (.str none) a = (op == "!=") ∧ cmp6 (colOf name σ) op a (.str none) = (op == "!=")

theorem gen_enum_cells (declared : List Bytes) (cells : List (Option Bytes)) (σ : FState) (h : genNew declared cells = .ok σ) :
    CellsOk declared cells σ := by
  rcases genNew_cases declared cells with ⟨he, _⟩ | ⟨σ', ho, hm, hc⟩
  · rw [he] at h; cases h
  rw [ho] at h
  cases h
  have hlen := (mkEnum_eq_some_iff.1 hm).1
  refine ⟨decode_codes hc, hc, fun hnd => rankOk_of_codeOk (mkEnum_nodup hm hnd) hc, C17EnumRestGen.gen_isnull_semantics,
    fun i hi => by omega, fun name a op => ?_⟩
  have := enum_null_distinct (colOf name σ) (.str none) a rfl
  exact ⟨this.2.2.1 op, this.2.2.2 op⟩

/-! ## the observed column -/

theorem mem_of_cellOk {vals : List Bytes} {s : Bytes} (h : cellOk .enum vals (.str (some s)) = true) : s ∈ vals := by
  obtain ⟨i, hi, _⟩ := enum_ok h
  exact enumRank_isSome_iff.1 (by rw [hi]; rfl)

theorem colOf_cells {declared : List Bytes} {cells : List (Option Bytes)} {σ : FState} (hc : CellsOk declared cells σ) (name : Bytes) :
    (colOf name σ).cells = (cells.map cellOf).toArray := by
  simp only [colOf, hc.readBack]

theorem colOf_cell {declared : List Bytes} {cells : List (Option Bytes)} {σ : FState} (hc : CellsOk declared cells σ) (name : Bytes)
    (r : Nat) (hr : r < cells.length) : (colOf name σ).cells[r]! = .str cells[r]! := by
  rw [colOf_cells hc]
  simp [hr, cellOf]

/-- every cell of the column is null or a value of the table: a cell of the column's type -/
theorem colOf_cellOk {declared : List Bytes} {cells : List (Option Bytes)} {σ : FState} (hv : ValuesOk declared cells σ)
    (hc : CellsOk declared cells σ) (name : Bytes) (r : Nat) (hr : r < cells.length) :
    cellOk .enum σ.values (colOf name σ).cells[r]! = true := by
  rw [colOf_cell hc name r hr]
  cases hcell : cells[r]! with
  | none => rfl
  | some s =>
    refine wtCell_enum_of_mem (mkEnum_mem hv.spec s (mem_cellOf.2 ?_)) hv.le255
    rw [← hcell, getElem!_pos cells r hr]
    exact List.getElem_mem hr

/-! ## (d) the six comparison filters against a constant -/

/-- the six comparators on a cell of an enum column against a value of the table: by position; a null cell: only `!=` -/
theorem cmp6_rank (c : LCol) (hty : c.ty = .enum) (hnd : c.vals.Nodup) (op : String) (j : Nat) (hj : j < c.vals.length) :
    (∀ i (hi : i < c.vals.length), cmp6 c op (.str (some c.vals[i])) (.str (some c.vals[j])) =
      (if op == "!=" then compare i j != .eq else ordOp op (compare i j))) ∧
    cmp6 c op (.str none) (.str (some c.vals[j])) = (op == "!=") :=
  ⟨fun i hi => enum_cmp6_declared c hty hnd i j hi hj op, (enum_null_distinct_str c c.vals[j] op).1⟩

/-- (d) `ecolumn.filterBuiltIn` of today's source (dispatcher, tables, kernels) on the column the factory built -/
structure FiltersOk (cells : List (Option Bytes)) (σ : FState) : Prop where
  /-- a constant of the value list: every row is compared with it, by position in the list -/
  declaredConst : ∀ (name : Bytes) (lo : LikeOracle) (f2i : UInt64 → Int) (i2f : Int → UInt64) (P : KParams) (op : String),
    isOrd6 op = true → ∀ (j : Nat) (hj : j < σ.values.length),
    ∃ u, (C02Dispatch.today lo f2i i2f P (colOf name σ) (.str op) (.str σ.values[j])).runBuiltIn (C02Dispatch.dispatchOf .enum) = .upd u ∧
      (∀ (r : Nat) (b : Bool), r < cells.length →
        u (colOf name σ).cells[r]! (colOf name σ).cells[r]! b =
          some (b || cmp6 (colOf name σ) op (colOf name σ).cells[r]! (.str (some σ.values[j])))) ∧
      (σ.values.Nodup → ∀ i (hi : i < σ.values.length),
        cmp6 (colOf name σ) op (.str (some σ.values[i])) (.str (some σ.values[j])) =
          (if op == "!=" then compare i j != .eq else ordOp op (compare i j))) ∧
      cmp6 (colOf name σ) op (.str none) (.str (some σ.values[j])) = (op == "!=")
  /-- a constant outside the value list: an error if strict, else every row for `!=` and no row otherwise -/
  undeclaredConst : ∀ (name : Bytes) (lo : LikeOracle) (f2i : UInt64 → Int) (i2f : Int → UInt64) (P : KParams) (op : String) (v : Bytes),
    isOrd6 op = true → v ∉ σ.values →
    (C02Dispatch.today lo f2i i2f P (colOf name σ) (.str op) (.str v)).runBuiltIn (C02Dispatch.dispatchOf .enum) =
      if σ.strict then .err else .upd (fun _ _ b => some (b || (op == "!=")))

theorem gen_enum_filters (declared : List Bytes) (cells : List (Option Bytes)) (σ : FState) (h : genNew declared cells = .ok σ) :
    FiltersOk cells σ := by
  have hv := gen_enum_values declared cells σ h
  have hc := gen_enum_cells declared cells σ h
  refine ⟨fun name lo f2i i2f P op hop j hj => ?_, fun name lo f2i i2f P op v hop hv' => ?_⟩
  · -- the dispatcher on one column and one constant decides what `route` decides; no frame is needed
    have hA := C02Dispatch.dispatch_enum_str lo f2i i2f P (colOf name σ) op rfl hv.le255 σ.values[j] (fun _ => True)
    have hr : (enumRank (colOf name σ).vals σ.values[j]).isSome = true := enumRank_isSome_iff.2 (List.getElem_mem hj)
    have hty : (colOf name σ).ty = .enum := rfl
    rw [← C02Dispatch.run_dispatchOf _ (show (colOf name σ).ty ∈ tys by rw [hty]; decide)] at hA
    simp only [C02Spec.route, hty, hop, hr, if_true, C02Dispatch.AgreesC] at hA
    obtain ⟨u, hu, hur⟩ := hA
    refine ⟨u, hu, fun r b hr => ?_, fun hnd i hi => ?_, ?_⟩
    · exact hur _ _ b (colOf_cellOk hv hc name r hr) trivial
    · exact (cmp6_rank (colOf name σ) rfl hnd op j hj).1 i hi
    · exact (enum_null_distinct_str (colOf name σ) σ.values[j] op).1
  · exact C02Dispatch.gen_enum_undeclared lo f2i i2f P (colOf name σ) op v rfl hop hv'

/-! ## (c) the comparator and `Sort` -/

/-- the spec's key order on two values of an enum column: by position in the value list, `Reverse` inverting it -/
theorem keyCmp_vals (c : LCol) (hty : c.ty = .enum) (o : Order) (x y : Bytes) (hx : x ∈ c.vals) (hy : y ∈ c.vals) :
    keyCmp c o (.str (some x)) (.str (some y)) =
      if o.reverse then compare (c.vals.idxOf y) (c.vals.idxOf x) else compare (c.vals.idxOf x) (c.vals.idxOf y) := by
  unfold keyCmp
  simp only [Cell.isNull, enum_order_declared' c hty x y hx hy, Option.getD_some]
  split
  · exact Nat.compare_swap _ _
  · rfl

/-- … and on a null cell against a value: null first, last with `NullLast`, `Reverse` inverting it -/
theorem keyCmp_null_val (c : LCol) (o : Order) (y : Bytes) :
    keyCmp c o (.str none) (.str (some y)) = (if o.nullLast != o.reverse then .gt else .lt) ∧
    keyCmp c o (.str (some y)) (.str none) = (if o.nullLast != o.reverse then .lt else .gt) := by
  unfold keyCmp
  cases o.nullLast <;> cases o.reverse <;> simp [Cell.isNull, Ordering.swap]

/-- (c1) `Comparable(reverse, equalNull, nullLast).Compare` of today's ecolumn on two values: `LessThan` iff the first stands
before the second in the value list (after it, with `Reverse`); on null against a value: by `NullLast` / `Reverse` only -/
theorem gen_enum_compare (c : LCol) (hty : c.ty = .enum) (hl : c.vals.length ≤ 255) (o : Order) (equalNull : Bool) (x y : Bytes)
    (hx : x ∈ c.vals) (hy : y ∈ c.vals) :
    (∃ r, C03Compare.genCompare .enum c.vals ⟨o.reverse, equalNull, o.nullLast⟩ (.str (some x)) (.str (some y)) = some r ∧
      (r = .lessThan ↔ if o.reverse then c.vals.idxOf y < c.vals.idxOf x else c.vals.idxOf x < c.vals.idxOf y) ∧
      (r = .greaterThan ↔ if o.reverse then c.vals.idxOf x < c.vals.idxOf y else c.vals.idxOf y < c.vals.idxOf x) ∧
      (r = .equal ↔ x = y)) ∧
    (∃ r, C03Compare.genCompare .enum c.vals ⟨o.reverse, equalNull, o.nullLast⟩ (.str none) (.str (some y)) = some r ∧
      (r = .lessThan ↔ o.nullLast = o.reverse) ∧ (r = .greaterThan ↔ o.nullLast ≠ o.reverse)) := by
  have hwx : wtCell c.ty c.vals (.str (some x)) = true := by rw [hty]; exact wtCell_enum_of_mem hx hl
  have hwy : wtCell c.ty c.vals (.str (some y)) = true := by rw [hty]; exact wtCell_enum_of_mem hy hl
  have hwn : wtCell c.ty c.vals (.str none) = true := by rw [hty]; rfl
  have hidx : c.vals.idxOf x = c.vals.idxOf y ↔ x = y := by
    constructor
    · intro e
      have h1 := List.getElem_idxOf (List.idxOf_lt_length_of_mem hx)
      have h2 := List.getElem_idxOf (List.idxOf_lt_length_of_mem hy)
      rw [← h1, ← h2]
      simp only [e]
    · rintro rfl; rfl
  constructor
  · obtain ⟨r, h1, h2, h3, h4, _⟩ := C03Compare.gen_compare_semantics c (by rw [hty]; decide) o equalNull _ _ hwx hwy
    rw [hty] at h1
    rw [keyCmp_vals c hty o x y hx hy] at h2 h3 h4
    refine ⟨r, h1, ?_, ?_, ?_⟩
    · rw [h2]
      cases o.reverse <;> exact Nat.compare_eq_lt
    · rw [h3]
      cases o.reverse <;> exact Nat.compare_eq_gt
    · rw [h4, ← hidx]
      simp only [Cell.isNull, Bool.false_eq_true, false_and, not_false_eq_true, and_true]
      cases o.reverse
      · exact Nat.compare_eq_eq
      · exact Nat.compare_eq_eq.trans eq_comm
  · obtain ⟨r, h1, h2, h3, _, _⟩ := C03Compare.gen_compare_semantics c (by rw [hty]; decide) o equalNull _ _ hwn hwy
    rw [hty] at h1
    refine ⟨r, h1, ?_, ?_⟩
    · rw [h2, (keyCmp_null_val c o y).1]
      cases o.nullLast <;> cases o.reverse <;> simp
    · rw [h3, (keyCmp_null_val c o y).1]
      cases o.nullLast <;> cases o.reverse <;> simp

open QF.Props.C03EndToEnd (genPrims Good absF SortedResult) in
open QF.Props.C03SortGlueGen (genSort) in
open QF.Props.C04GlueLink (WFrame logical) in
/-- (c2) **`Sort` of today's source (everything regenerated: `QFrame.Sort`, the comparators, `Sorter.Sort()`) by an enum column
orders the rows by the position of their value in the value list.** For every well-formed frame `F` that has not failed and has
the enum column `c`, every setting of Reverse / NullLast and every budget: a value `r` that `Sort` returns is `Good` (C03EndToEnd:
the columns of `F`, no error, a permutation of the index, `isSortedResult` of the spec) and along the result's index the
positions never descend (never ascend with `Reverse`); with `nullLast = reverse` no null row follows a non-null row, otherwise no
non-null row follows a null row. -/
theorem gen_enum_sort (F : GG.Frame) (L : Nat) (wf : WFrame F L) (he : F.err = false) (c : LCol) (hc : F.find? c.name = some c)
    (hty : c.ty = .enum) (rev nl : Bool) (fuel : Nat) (r : SG.SRes (Nat → Nat → Option CRes))
    (hr : genSort (genPrims fuel) F [⟨c.name, rev, nl⟩] = some r) :
    Good F L [⟨c.name, rev, nl⟩] r ∧
    ∀ k, k + 1 < r.frame.index.length →
      (∀ x y, c.cells[r.frame.index[k]!]! = .str (some x) → c.cells[r.frame.index[k + 1]!]! = .str (some y) →
        if rev then c.vals.idxOf y ≤ c.vals.idxOf x else c.vals.idxOf x ≤ c.vals.idxOf y) ∧
      (∀ x, c.cells[r.frame.index[k]!]! = .str (some x) → c.cells[r.frame.index[k + 1]!]! = .str none → nl ≠ rev) ∧
      (∀ y, c.cells[r.frame.index[k]!]! = .str none → c.cells[r.frame.index[k + 1]!]! = .str (some y) → nl = rev) := by
  have hknown : ∀ o ∈ [(⟨c.name, rev, nl⟩ : Order)], (F.find? o.col).isSome = true := by
    intro o ho
    simp only [List.mem_singleton] at ho
    subst ho
    simp [hc]
  have hgood : Good F L [⟨c.name, rev, nl⟩] r := by
    rcases ((C03EndToEnd.gen_sort_end_to_end F L wf _).2.2 he hknown).2 fuel with h | ⟨r', h, hg⟩
    · rw [h] at hr; cases hr
    · rw [h] at hr; cases hr; exact hg
  refine ⟨hgood, fun k hk => ?_⟩
  obtain ⟨keys, hkeys, _, _, _, hsorted⟩ := hgood.sorted
  -- the one key of the result: the column seen through the result's index
  have hfind : (absF r.frame).find? c.name = some (logical r.frame.index c) := by
    rw [C03EndToEnd.absF_find]
    have : r.frame.find? c.name = some c := by
      simp only [GG.Frame.find?, hgood.cols]; exact hc
    rw [this]; rfl
  have hk1 : keys = [(logical r.frame.index c, ⟨c.name, rev, nl⟩)] := by
    simp only [sortKeys, List.mapM_cons, List.mapM_nil, hfind, Option.map_some, Option.bind_eq_bind, Option.bind_some,
      Option.pure_def, Option.some.injEq] at hkeys
    exact hkeys.symm
  have hs := hsorted k hk
  rw [hk1] at hs
  simp only [rowLess, C03EndToEnd.keyCmp_logical, C04GlueLink.logical_cell r.frame.index c (k + 1) hk,
    C04GlueLink.logical_cell r.frame.index c k (by omega)] at hs
  have hnlt : keyCmp c ⟨c.name, rev, nl⟩ c.cells[r.frame.index[k + 1]!]! c.cells[r.frame.index[k]!]! ≠ .lt := by
    intro e; rw [e] at hs; cases hs
  -- the two rows are rows of the column, so their cells are null or values of the table
  have hcmem : c ∈ F.cols := List.mem_of_find?_eq_some hc
  have hin : ∀ p, p < r.frame.index.length → r.frame.index[p]! < L := by
    intro p hp
    apply hgood.wf.inRange
    rw [getElem!_pos _ p hp]
    exact List.getElem_mem hp
  have hmem : ∀ p, p < r.frame.index.length → ∀ x, c.cells[r.frame.index[p]!]! = .str (some x) → x ∈ c.vals := by
    intro p hp x hx
    have := (wf.cols c hcmem).typed _ (hin p hp)
    rw [hx, hty] at this
    exact mem_of_cellOk this
  refine ⟨fun x y hx hy => ?_, fun x hx hy => ?_, fun y hx hy => ?_⟩
  · rw [hx, hy, keyCmp_vals c hty _ y x (hmem _ hk y hy) (hmem _ (by omega) x hx)] at hnlt
    cases rev <;> exact Nat.compare_ne_lt.1 hnlt
  · rw [hx, hy, (keyCmp_null_val c _ x).1] at hnlt
    cases nl <;> cases rev <;> simp at hnlt ⊢
  · rw [hx, hy, (keyCmp_null_val c _ y).2] at hnlt
    cases nl <;> cases rev <;> simp at hnlt ⊢

/-! ## The combined statement -/

open QF.Props.C03EndToEnd (genPrims Good) in
open QF.Props.C03SortGlueGen (genSort) in
open QF.Props.C04GlueLink (WFrame) in
/-- what holds of the column `σ` today's factory returns for `declared` and `cells` -/
structure EnumE2E (declared : List Bytes) (cells : List (Option Bytes)) (σ : FState) : Prop where
  /-- (a) -/
  values : ValuesOk declared cells σ
  /-- (b) -/
  cellsOk : CellsOk declared cells σ
  /-- (c1) the comparator of `Sort` on the observed column -/
  compare : ∀ (name : Bytes) (o : Order) (equalNull : Bool) (x y : Bytes), x ∈ σ.values → y ∈ σ.values →
    (∃ r, C03Compare.genCompare .enum σ.values ⟨o.reverse, equalNull, o.nullLast⟩ (.str (some x)) (.str (some y)) = some r ∧
      (r = .lessThan ↔ if o.reverse then σ.values.idxOf y < σ.values.idxOf x else σ.values.idxOf x < σ.values.idxOf y) ∧
      (r = .greaterThan ↔ if o.reverse then σ.values.idxOf x < σ.values.idxOf y else σ.values.idxOf y < σ.values.idxOf x) ∧
      (r = .equal ↔ x = y)) ∧
    (∃ r, C03Compare.genCompare .enum σ.values ⟨o.reverse, equalNull, o.nullLast⟩ (.str none) (.str (some y)) = some r ∧
      (r = .lessThan ↔ o.nullLast = o.reverse) ∧ (r = .greaterThan ↔ o.nullLast ≠ o.reverse))
  /-- (c2) `Sort` by the column, on any well-formed frame that holds it -/
  sort : ∀ (name : Bytes) (F : GG.Frame) (L : Nat), WFrame F L → F.err = false → F.find? name = some (colOf name σ) →
    ∀ (rev nl : Bool) (fuel : Nat) (r : SG.SRes (Nat → Nat → Option CRes)),
    genSort (genPrims fuel) F [⟨name, rev, nl⟩] = some r →
    Good F L [⟨name, rev, nl⟩] r ∧
    ∀ k, k + 1 < r.frame.index.length →
      (∀ x y, (colOf name σ).cells[r.frame.index[k]!]! = .str (some x) → (colOf name σ).cells[r.frame.index[k + 1]!]! = .str (some y) →
        if rev then σ.values.idxOf y ≤ σ.values.idxOf x else σ.values.idxOf x ≤ σ.values.idxOf y) ∧
      (∀ x, (colOf name σ).cells[r.frame.index[k]!]! = .str (some x) → (colOf name σ).cells[r.frame.index[k + 1]!]! = .str none → nl ≠ rev) ∧
      (∀ y, (colOf name σ).cells[r.frame.index[k]!]! = .str none → (colOf name σ).cells[r.frame.index[k + 1]!]! = .str (some y) → nl = rev)
  /-- (d) -/
  filters : FiltersOk cells σ
  /-- (d) for a column built from a declaration: an undeclared constant is always an error -/
  filtersDeclared : declared ≠ [] →
    ∀ (name : Bytes) (lo : LikeOracle) (f2i : UInt64 → Int) (i2f : Int → UInt64) (P : KParams) (op : String) (v : Bytes),
    isOrd6 op = true → v ∉ declared →
    (C02Dispatch.today lo f2i i2f P (colOf name σ) (.str op) (.str v)).runBuiltIn (C02Dispatch.dispatchOf .enum) = .err
  /-- (d) for a derived column: a constant that does not occur matches nothing (`!=`: everything) -/
  filtersDerived : declared = [] →
    ∀ (name : Bytes) (lo : LikeOracle) (f2i : UInt64 → Int) (i2f : Int → UInt64) (P : KParams) (op : String) (v : Bytes),
    isOrd6 op = true → some v ∉ cells →
    (C02Dispatch.today lo f2i i2f P (colOf name σ) (.str op) (.str v)).runBuiltIn (C02Dispatch.dispatchOf .enum) =
      .upd (fun _ _ b => some (b || (op == "!=")))

/-- **`gen_enum_end_to_end`.** For every list of declared values and every list of cells, `ecolumn.New` of today's source (the
factory the constructors and the CSV reader use) never gets stuck; it fails exactly when more than 255 values are declared, a
value outside a non-empty declaration occurs, or nothing is declared and more than 255 distinct values occur; otherwise it
returns a column, and every column it returns satisfies (a)–(d) of `EnumE2E`. -/
theorem gen_enum_end_to_end (declared : List Bytes) (cells : List (Option Bytes)) :
    genNew declared cells ≠ .stuck ∧
    (genNew declared cells = .err ↔
      (declared.length > 255 ∨ (declared ≠ [] ∧ ∃ s, some s ∈ cells ∧ s ∉ declared) ∨
       (declared = [] ∧ MoreDistinctThan 255 (cells.map cellOf)))) ∧
    (genNew declared cells = .err ∨ ∃ σ, genNew declared cells = .ok σ) ∧
    (∀ σ, genNew declared cells = .ok σ → EnumE2E declared cells σ) := by
  refine ⟨(gen_enum_errors declared cells).1, (gen_enum_errors declared cells).2, ?_, fun σ h => ?_⟩
  · exact (genNew_cases declared cells).imp (·.1) fun ⟨σ, h, _⟩ => ⟨σ, h⟩
  · have hv := gen_enum_values declared cells σ h
    have hc := gen_enum_cells declared cells σ h
    have hf := gen_enum_filters declared cells σ h
    refine ⟨hv, hc, ?_, ?_, hf, ?_, ?_⟩
    · intro name o equalNull x y hx hy
      exact gen_enum_compare (colOf name σ) rfl hv.le255 o equalNull x y hx hy
    · intro name F L wf he hfind rev nl fuel r hr
      exact gen_enum_sort F L wf he (colOf name σ) hfind rfl rev nl fuel r hr
    · intro hne name lo f2i i2f P op v hop hv'
      obtain ⟨e1, e2⟩ := hv.declaredVals hne
      rw [hf.undeclaredConst name lo f2i i2f P op v hop (by rw [e1]; exact hv'), e2]
      rfl
    · intro he name lo f2i i2f P op v hop hv'
      obtain ⟨e1, e2⟩ := hv.derivedVals he
      rw [hf.undeclaredConst name lo f2i i2f P op v hop (by rw [e2.mem, mem_cellOf]; exact hv'), e1]
      rfl

/-! ## Concrete instances -/

section Examples
open QF.Props.C03EndToEnd (genPrims)
open QF.Props.C03SortGlueGen (genSort)
open QF.Props.C04GlueLink (WFrame)

/-- "b" before "a" is declared; the data use both values and null -/
def declBA : List Bytes := [[98], [97]]
def dataAB : List (Option Bytes) := [some [97], none, some [98], some [97]]

/-- today's factory, run by the kernel: the declaration as value list, strict, the codes 1, null, 0, 1 -/
example : (match genNew declBA dataAB with | .ok σ => some (σ.values, σ.strict, σ.data) | _ => none) =
    some (declBA, true, [1, 255, 0, 1]) := by decide +kernel
/-- nothing declared: the values in order of first appearance, not strict -/
example : (match genNew [] dataAB with | .ok σ => some (σ.values, σ.strict, σ.data) | _ => none) =
    some ([[97], [98]], false, [0, 255, 1, 0]) := by decide +kernel
/-- an undeclared value: the error -/
example : (match genNew declBA (dataAB ++ [some [99]]) with | .err => true | _ => false) = true := by decide +kernel

/-- (e) 256 distinct one-byte strings: declared, or occurring without a declaration — the error, run by the kernel; 255 are fine -/
def many (n : Nat) : List Bytes := (List.range n).map fun i => [UInt8.ofNat i]
example : (match genNew (many 256) [] with | .err => true | _ => false) = true := by decide +kernel
theorem many_nodup (n : Nat) (hn : n ≤ 256) : (many n).Nodup := nodup_bytes n hn
/-- the hypothesis `MoreDistinctThan 255` of (e) for the 256 strings as cells, hence the error -/
theorem many_distinct : MoreDistinctThan 255 (((many 256).map some).map cellOf) :=
  ⟨many 256, many_nodup 256 (by omega), fun s hs => by rw [mem_cellOf]; exact List.mem_map.2 ⟨s, hs, rfl⟩, by simp [many]⟩
example : genNew [] ((many 256).map some) = .err := (gen_enum_too_many [] _).2 rfl many_distinct

/-- the column of the first example as the user observes it -/
def colBA : LCol :=
  { name := [101], ty := .enum, vals := declBA, strict := true,
    cells := #[.str (some [97]), .str none, .str (some [98]), .str (some [97])] }
def frBA : GG.Frame := { cols := [colBA], index := [0, 1, 2, 3] }

/-- the hypotheses of clause (c2) for it: a well-formed frame that has not failed and finds the column -/
example : WFrame frBA 4 where
  nodup := by decide
  small := by decide
  inRange := by decide
  cols := by
    intro c hc
    simp only [frBA, List.mem_singleton] at hc
    subst hc
    exact ⟨by decide, rfl, by decide⟩
example : frBA.err = false ∧ frBA.find? colBA.name = some colBA := ⟨rfl, by simp [frBA, GG.Frame.find?]⟩
/-- `Sort` of today's source by the enum column: null first, then "b" (declared first), then the two "a" -/
example : (genSort (genPrims 40) frBA [⟨[101], false, false⟩]).map (fun r => r.frame.index.map fun p => colBA.cells[p]!) =
    some [Cell.str none, .str (some [98]), .str (some [97]), .str (some [97])] := by decide +kernel

/-- the hypotheses of clause (d): "<" is one of the six comparators, "c" is not declared; `e < "a"` keeps the rows with "b" -/
example : isOrd6 "<" = true ∧ ([99] : Bytes) ∉ declBA := by decide
example : cmp6 colBA "<" (.str (some [98])) (.str (some [97])) = true ∧ cmp6 colBA "<" (.str (some [97])) (.str (some [97])) = false ∧
    cmp6 colBA "<" (.str none) (.str (some [97])) = false := by decide

end Examples

end QF.Props.C17EndToEnd

#print axioms QF.Props.C17EndToEnd.gen_enum_errors
#print axioms QF.Props.C17EndToEnd.gen_enum_too_many
#print axioms QF.Props.C17EndToEnd.gen_enum_values
#print axioms QF.Props.C17EndToEnd.gen_enum_cells
#print axioms QF.Props.C17EndToEnd.gen_enum_filters
#print axioms QF.Props.C17EndToEnd.gen_enum_compare
#print axioms QF.Props.C17EndToEnd.gen_enum_sort
#print axioms QF.Props.C17EndToEnd.gen_enum_end_to_end
