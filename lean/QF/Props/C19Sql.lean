import QF.Core.SpecFacts
import QF.Spec.Sql
import QF.Core.ListFacts
/-!
# C19 — ToSQL / ReadSQL: the `Column.Scan` state machine, the round trip, the statement text

Core Lean only.

## Mirror of `internal/io/sql/column.go`
`Col` has the fields of the Go struct (`kind`, `nulls`, `ptr`, the four typed slices); `Col.null`, `Col.int`,
`Col.float`, `Col.string`, `Col.bool` follow the Go methods statement by statement; `scanPlain` is the type switch of
`Column.Scan`, `coerceInt64ToBool` / `coerceStringToFloat` are the closures of coerce.go (as of commit b0cd862: `StringToFloat`
forwards NULL to `c.Null()`, `Int64ToBool` rejects NULL), `scan` dispatches on `c.coerce`.  `Col.toLCol` is `Data()`
followed by `qframe.New`'s `createColumn` (`nil` data, i.e. `ptr == nil`, is the "unknown column data type" error).
Driver `string` and `[]uint8` are both `SqlVal.text`; `int(v)` of an `int64` is the identity on 64-bit Go;
`math.NaN()` is `F64.canonNaN = 0x7ff8000000000001`; `float.Fixed` and `strconv.ParseFloat` are parameters.

What the Go code does today with values "of another kind": **it does not report them.**  `Int/Float/String/Bool`
append to *their own* slice whatever `kind` is; only `ptr` decides which slice `Data()` returns.  So a value whose kind
differs from the column's is silently dropped from the column (`scan_other_kind_ignored`,
`scan_mixed_counterexample`), NULLs counted before the first value of an int/bool column are silently dropped
(`scan_leading_nulls_dropped`), a NULL *after* the first value of an int/bool column is the error
"non-nullable type" (`scan_null_nonnullable`), a column of NULLs only has `ptr == nil` (`scan_all_null`).

## Refinement `scan_refines_spec`
For `Int64ToBool` (non-empty list) and `StringToFloat` (any list) mirror and spec agree unconditionally, results and
errors.  Without coercion they agree iff the column is *typed* (`homogeneous`: every value is NULL or has the kind of
the first non-NULL value — true of every result set of a typed store, and of everything the harness generates) and no
NULL precedes the first value of an int/bool column (`noLeadingNullUnlessTextOrFloat`, implied by C19's
"NULLs occur in text or float columns", `nullsInTextOrFloat`).  The typedness hypothesis cannot be dropped:
`scan_mixed_counterexample`.  `run` is the closed form of the mirror that all of this is derived from; it rests on
`scan_value`: one `Scan` of a value is the block `if c.ptr == nil { … }` the four appenders share (`Col.opened`) followed
by an append of the spec's cell (`Col.app`).

## Round trip `readback`, `readback_frame`
`ToSQL` passes `ItemAt(i)` of every column: `int`, `float64` (a NaN is passed *as the float64 NaN*, not as NULL),
`bool`, `*string` (nil → NULL), enum cells as `*string`.  `argsToVals` is a store that returns what was written.
Reading the stored rows back with `sqlColumn` (no coercion, no precision) reproduces every column cell by cell —
floats bit for bit, NaN payload included — with enum columns as string columns.  Variant `cellToValNanNull` (a store
that keeps NaN as NULL, e.g. SQLite): NaNs come back as the canonical NaN (`readback_cells_nanNull`), and a float
column of NaNs only cannot be read back — the spec (and the code) report an untyped column
(`readback_allNaN_unreadable`).

## Statement text
`insertText_shape`, `placeholders_spec`, `placeholder_bytes` (`$k` is byte 36 followed by the decimal digits of k),
`escapeIdent_none/_wrap`, `intercalateB_split`, `columnList_split`, `placeholders_split`, `toSqlS_getElem`.
-/
namespace QF.Props.C19Sql
open QF

/-- `reflect.Kind` as far as `Column` uses it: `Invalid` (zero value), `Int`, `Float64`, `Bool`, `String`. -/
inductive Kind where
  | invalid | int | float | bool | string
  deriving DecidableEq, Repr, Inhabited

/-- `Column.coerce`: nil, or the closure built by `Int64ToBool` / `StringToFloat` (coerce.go). -/
inductive Coerce where
  | none | int64ToBool | stringToFloat
  deriving DecidableEq, Repr, Inhabited

/-- The encoding of the coercion in the spec (`sqlColumn`'s `coerce` argument). -/
def Coerce.toNat : Coerce → Nat
  | .none => 0 | .int64ToBool => 1 | .stringToFloat => 2

/-- What `ReadSQL` configures per column: the coercion, `conf.Precision`, and the two library functions the code
calls, as parameters: `fixedFn p f = float.Fixed(f, p)`, `pfloat s = strconv.ParseFloat(s, 64)` (`none` = error). -/
structure Cfg where
  coerce : Coerce
  precision : Nat
  fixedFn : Nat → UInt64 → UInt64
  pfloat : Bytes → Option UInt64

/-- `if c.precision > 0 { f = float.Fixed(f, c.precision) }` as a function: the spec's `fixed`. -/
def Cfg.fixed (cfg : Cfg) : UInt64 → UInt64 :=
  fun b => if cfg.precision > 0 then cfg.fixedFn cfg.precision b else b

/-- `sql.Column`.  `ptr` records which of the four slices `c.ptr` points to (`none` = nil pointer). -/
structure Col where
  kind : Kind := .invalid
  nulls : Nat := 0
  ptr : Option Kind := none
  ints : List Int := []
  floats : List UInt64 := []
  bools : List Bool := []
  strings : List (Option Bytes) := []
  deriving Repr, Inhabited

namespace Col

/-- `func (c *Column) Null() error` -/
def null (c : Col) : Option Col :=
  if c.kind = .invalid then some { c with nulls := c.nulls + 1 }
  else match c.kind with
    | .float => some { c with floats := c.floats ++ [F64.canonNaN] }
    | .string => some { c with strings := c.strings ++ [none] }
    | _ => none

/-- `func (c *Column) Int(i int)` -/
def int (c : Col) (i : Int) : Col :=
  let c := if c.ptr = none then { c with kind := .int, ptr := some .int } else c
  { c with ints := c.ints ++ [i] }

/-- `func (c *Column) Float(f float64)`; the back-fill loop appends `c.nulls` NaNs. -/
def float (cfg : Cfg) (c : Col) (f : UInt64) : Col :=
  let c := if c.ptr = none then
      let c := { c with kind := .float, ptr := some .float }
      if c.nulls > 0 then { c with floats := c.floats ++ List.replicate c.nulls F64.canonNaN, nulls := 0 } else c
    else c
  let f := if cfg.precision > 0 then cfg.fixedFn cfg.precision f else f
  { c with floats := c.floats ++ [f] }

/-- `func (c *Column) String(s string)`; the back-fill loop appends `c.nulls` nil pointers. -/
def string (c : Col) (s : Bytes) : Col :=
  let c := if c.ptr = none then
      let c := { c with kind := .string, ptr := some .string }
      if c.nulls > 0 then { c with strings := c.strings ++ List.replicate c.nulls none, nulls := 0 } else c
    else c
  { c with strings := c.strings ++ [some s] }

/-- `func (c *Column) Bool(b bool)` -/
def bool (c : Col) (b : Bool) : Col :=
  let c := if c.ptr = none then { c with kind := .bool, ptr := some .bool } else c
  { c with bools := c.bools ++ [b] }

end Col

/-- `Int64ToBool(c)`: anything but an int64 (NULL included) is an error. -/
def coerceInt64ToBool (c : Col) : SqlVal → Option Col
  | .int x => some (c.bool (x != 0))
  | _ => none

/-- `StringToFloat(c)`: NULL → `c.Null()`, a string is parsed and passed to `c.Float`, anything else is an error. -/
def coerceStringToFloat (cfg : Cfg) (c : Col) : SqlVal → Option Col
  | .null => c.null
  | .text s =>
    match cfg.pfloat s with
    | some f => some (c.float cfg f)
    | none => none
  | _ => none

/-- The type switch of `Column.Scan` (`string` and `[]uint8` are both `.text`); only `Null()` can fail. -/
def scanPlain (cfg : Cfg) (c : Col) : SqlVal → Option Col
  | .bool b => some (c.bool b)
  | .text s => some (c.string s)
  | .int i => some (c.int i)
  | .float f => some (c.float cfg f)
  | .null => c.null

/-- `func (c *Column) Scan(t interface{}) error`; `none` = an error is returned (ReadSQL stops). -/
def scan (cfg : Cfg) (c : Col) (v : SqlVal) : Option Col :=
  match cfg.coerce with
  | .int64ToBool => coerceInt64ToBool c v
  | .stringToFloat => coerceStringToFloat cfg c v
  | .none => scanPlain cfg c v

abbrev ScanResult := Option Col

/-- `rows.Scan` for every row of the result set, on a zero `Column`. -/
def scanAll (cfg : Cfg) (vals : List SqlVal) : ScanResult := vals.foldlM (scan cfg) {}

def Kind.ty : Kind → CType
  | .int => .int | .float => .float | .bool => .bool | .string => .string | .invalid => .undef

/-- The typed slice `k` as cells. -/
def Col.cellsOf (c : Col) : Kind → List Cell
  | .int => c.ints.map Cell.int
  | .float => c.floats.map Cell.float
  | .bool => c.bools.map Cell.bool
  | .string => c.strings.map Cell.str
  | .invalid => []

def mkCol (name : Bytes) (k : Kind) (cs : List Cell) : LCol := { name := name, ty := k.ty, cells := cs.toArray }

/-- `Data()` and then `createColumn`: the slice `ptr` points to; nil data is an error of `qframe.New`. -/
def Col.toLCol (c : Col) (name : Bytes) : Option LCol :=
  match c.ptr with
  | none => none
  | some k => some (mkCol name k (c.cellsOf k))

def ScanResult.toLCol (r : ScanResult) (name : Bytes) : Option LCol := r.bind (·.toLCol name)

/-- The kind a driver value gives to a fresh column. -/
def kindOf : SqlVal → Kind
  | .int _ => .int | .float _ => .float | .bool _ => .bool | .text _ => .string | .null => .invalid

/-- What the spec (`sqlColumn`, no coercion) makes of a value in a column of kind `k`. -/
def specCell (fixed : UInt64 → UInt64) : Kind → SqlVal → Option Cell
  | .int, .int x => some (.int x)
  | .bool, .bool b => some (.bool b)
  | .float, .float b => some (.float (fixed b))
  | .float, .null => some (.float F64.canonNaN)
  | .string, .text s => some (.str (some s))
  | .string, .null => some (.str none)
  | _, _ => none

/-- The per-value function of the spec for the configured coercion. -/
def cellM (cfg : Cfg) (k : Kind) (v : SqlVal) : Option Cell :=
  match cfg.coerce with
  | .none => specCell cfg.fixed k v
  | .int64ToBool => match v with | .int x => some (Cell.bool (x != 0)) | _ => none
  | .stringToFloat => match v with
    | .text s => (cfg.pfloat s).map (fun b => Cell.float (cfg.fixed b))
    | .null => some (Cell.float F64.canonNaN)
    | _ => none

/-- The kind of the slice a cell belongs to (a nil `*string` is a cell of a string column). -/
def cellKind : Cell → Kind
  | .int _ => .int | .float _ => .float | .bool _ => .bool | .str _ => .string

theorem specCell_kind {fixed : UInt64 → UInt64} {k : Kind} {v : SqlVal} {cell : Cell}
    (h : specCell fixed k v = some cell) : cellKind cell = k := by
  cases k <;> cases v <;> cases h <;> rfl

theorem kindOf_of_specCell {fixed : UInt64 → UInt64} {k : Kind} {v : SqlVal} {cell : Cell}
    (h : specCell fixed k v = some cell) (hv : v ≠ .null) : kindOf v = k := by
  cases k <;> cases v <;> first | rfl | exact absurd rfl hv | cases h

/-- every value but NULL has a cell in a column of its own kind -/
theorem specCell_own (fixed : UInt64 → UInt64) {v : SqlVal} (hv : v ≠ .null) :
    ∃ cell, specCell fixed (kindOf v) v = some cell := by
  cases v with
  | null => exact absurd rfl hv
  | _ => exact ⟨_, rfl⟩

/-! ### What the four appenders share -/

namespace Col

/-- `c.data.X = append(c.data.X, v)`: the statement every method ends with. -/
def app (c : Col) : Cell → Col
  | .int i => { c with ints := c.ints ++ [i] }
  | .float f => { c with floats := c.floats ++ [f] }
  | .bool b => { c with bools := c.bools ++ [b] }
  | .str s => { c with strings := c.strings ++ [s] }

/-- The block `if c.ptr == nil { … }` in front of it, in the method for values of kind `k`: kind and slice pointer are
set; `Float` / `String` back-fill the NULLs counted so far and reset the counter, `Int` / `Bool` leave them counted. -/
def opened (c : Col) (k : Kind) : Col :=
  if c.ptr = none then
    match k with
    | .float => { c with kind := .float, ptr := some .float, floats := c.floats ++ List.replicate c.nulls F64.canonNaN, nulls := 0 }
    | .string => { c with kind := .string, ptr := some .string, strings := c.strings ++ List.replicate c.nulls none, nulls := 0 }
    | k => { c with kind := k, ptr := some k }
  else c

theorem int_eq (c : Col) (i : Int) : c.int i = (c.opened .int).app (.int i) := rfl

theorem bool_eq (c : Col) (b : Bool) : c.bool b = (c.opened .bool).app (.bool b) := rfl

theorem float_eq (cfg : Cfg) (c : Col) (f : UInt64) : c.float cfg f = (c.opened .float).app (.float (cfg.fixed f)) := by
  obtain ⟨kind, nulls, ptr, ints, floats, bools, strings⟩ := c
  cases ptr with
  | some p => rfl
  | none => cases nulls <;> simp [Col.float, opened, app, Cfg.fixed]

theorem string_eq (c : Col) (s : Bytes) : c.string s = (c.opened .string).app (.str (some s)) := by
  obtain ⟨kind, nulls, ptr, ints, floats, bools, strings⟩ := c
  cases ptr with
  | some p => rfl
  | none => cases nulls <;> simp [Col.string, opened, app]

theorem opened_typed {c : Col} {k : Kind} (hp : c.ptr = some k) (k' : Kind) : c.opened k' = c := by
  simp [opened, hp]

theorem kind_app (c : Col) (cell : Cell) : (c.app cell).kind = c.kind := by cases cell <;> rfl

theorem ptr_app (c : Col) (cell : Cell) : (c.app cell).ptr = c.ptr := by cases cell <;> rfl

theorem cellsOf_app (c : Col) (cell : Cell) :
    (c.app cell).cellsOf (cellKind cell) = c.cellsOf (cellKind cell) ++ [cell] := by
  cases cell <;> simp [app, cellsOf, cellKind]

/-- … and the slices of the other kinds are left alone -/
theorem cellsOf_app_ne (c : Col) (cell : Cell) (k : Kind) (h : cellKind cell ≠ k) : (c.app cell).cellsOf k = c.cellsOf k := by
  cases cell <;> cases k <;> first | rfl | exact absurd rfl h

/-- `Null()` on a column whose kind is known: NaN / a nil pointer is appended, or the "non-nullable type" error. -/
theorem null_typed (fixed : UInt64 → UInt64) {c : Col} (hk : c.kind ≠ .invalid) :
    c.null = (specCell fixed c.kind .null).map c.app := by
  obtain ⟨kind, nulls, ptr, ints, floats, bools, strings⟩ := c
  cases kind <;> first | rfl | exact absurd rfl hk

end Col

def compat : Coerce → Kind → Prop
  | .none, k => k ≠ .invalid
  | .int64ToBool, k => k = .bool
  | .stringToFloat, k => k = .float

def okVal : Coerce → Kind → SqlVal → Prop
  | .none, k, v => kindOf v = k ∨ v = .null
  | _, _, _ => True

/-- the kind the first value gives to the column -/
def targetKind (co : Coerce) (v : SqlVal) : Kind :=
  match co with
  | .none => kindOf v
  | .int64ToBool => .bool
  | .stringToFloat => .float

theorem cellM_kind {cfg : Cfg} {k : Kind} {v : SqlVal} {cell : Cell} (hc : compat cfg.coerce k)
    (h : cellM cfg k v = some cell) : cellKind cell = k := by
  unfold cellM at h
  rcases hcc : cfg.coerce with _ | _ | _ <;> rw [hcc] at h hc
  · exact specCell_kind h
  · cases v <;> cases h
    exact hc.symm
  · cases v with
    | text s =>
      have h : (cfg.pfloat s).map (fun b => Cell.float (cfg.fixed b)) = some cell := h
      cases hp : cfg.pfloat s <;> rw [hp] at h <;> cases h
      exact hc.symm
    | null => cases h; exact hc.symm
    | _ => cases h

/-- **One `Scan` of a value that is not NULL** (under `Int64ToBool`: of any value), on ANY column state: the block
`if c.ptr == nil` of the method for the kind the coercion and the value select, then an append of the cell the spec makes
of the value in a column of that kind; an error exactly when the spec has no cell. -/
theorem scan_value (cfg : Cfg) (c : Col) (v : SqlVal) (hv : cfg.coerce = .int64ToBool ∨ v ≠ .null) :
    scan cfg c v = (cellM cfg (targetKind cfg.coerce v) v).map (c.opened (targetKind cfg.coerce v)).app := by
  unfold scan cellM targetKind
  rcases hcc : cfg.coerce with _ | _ | _ <;> rw [hcc] at hv
  · cases v with
    | null => simp at hv
    | int x => exact congrArg some (c.int_eq x)
    | bool b => exact congrArg some (c.bool_eq b)
    | float f => exact congrArg some (c.float_eq cfg f)
    | text s => exact congrArg some (c.string_eq s)
  · cases v with
    | int x => exact congrArg some (c.bool_eq _)
    | _ => rfl
  · cases v with
    | null => simp at hv
    | text s =>
      show (match cfg.pfloat s with | some f => some (c.float cfg f) | none => none) =
        ((cfg.pfloat s).map (fun b => Cell.float (cfg.fixed b))).map (c.opened .float).app
      cases cfg.pfloat s with
      | none => rfl
      | some f => exact congrArg some (c.float_eq cfg f)
    | _ => rfl

/-- One `Scan` on a column whose kind is already known agrees with the spec's per-value function (value of the
column's kind, or NULL): the cell is appended, or both report an error. -/
theorem scan_typed (cfg : Cfg) (c : Col) (k : Kind) (v : SqlVal) (hk : c.kind = k) (hp : c.ptr = some k)
    (hc : compat cfg.coerce k) (hv : okVal cfg.coerce k v) :
    scan cfg c v = (cellM cfg k v).map c.app := by
  by_cases hn : v = .null
  · subst hn hk
    unfold scan cellM
    rcases hcc : cfg.coerce with _ | _ | _ <;> rw [hcc] at hc
    · exact Col.null_typed cfg.fixed hc
    · rfl
    · have := Col.null_typed cfg.fixed (c := c) (by rw [hc]; exact Kind.noConfusion)
      rw [hc] at this
      exact this
  · have ht : targetKind cfg.coerce v = k := by
      unfold targetKind
      rcases hcc : cfg.coerce with _ | _ | _ <;> rw [hcc] at hc hv
      · exact hv.resolve_right hn
      · exact hc.symm
      · exact hc.symm
    rw [scan_value cfg c v (.inr hn), ht, Col.opened_typed hp]

/-- The rest of the result set, after the first value, and then `Data()`. -/
theorem fold_typed (cfg : Cfg) (k : Kind) (hc : compat cfg.coerce k) (name : Bytes) :
    ∀ (vs : List SqlVal) (c : Col), c.kind = k → c.ptr = some k → (∀ v ∈ vs, okVal cfg.coerce k v) →
    (vs.foldlM (scan cfg) c).bind (·.toLCol name) =
      (vs.mapM (cellM cfg k)).map (fun cs => mkCol name k (c.cellsOf k ++ cs))
  | [], c, _, hp, _ => by simp [Col.toLCol, hp]
  | v :: vs, c, hk, hp, hall => by
    rw [List.foldlM_cons, List.mapM_cons, scan_typed cfg c k v hk hp hc (hall v (List.mem_cons_self ..))]
    cases hcell : cellM cfg k v with
    | none => rfl
    | some cell =>
      have ih := fold_typed cfg k hc name vs (c.app cell) ((c.kind_app cell).trans hk) ((c.ptr_app cell).trans hp)
        (fun w hw => hall w (List.mem_cons_of_mem _ hw))
      have hcells := c.cellsOf_app cell
      rw [cellM_kind hc hcell] at hcells
      rw [hcells] at ih
      simp only [Option.map_some, Option.bind_eq_bind, Option.bind_some, ih]
      cases vs.mapM (cellM cfg k) <;> simp

/-- the state before the first non-NULL value: nothing but the NULL counter -/
def fresh (n : Nat) : Col := { nulls := n }

theorem nulls_phase (cfg : Cfg) (hc : cfg.coerce ≠ .int64ToBool) : ∀ (m n : Nat),
    (List.replicate m SqlVal.null).foldlM (scan cfg) (fresh n) = some (fresh (n + m)) := by
  intro m
  induction m with
  | zero => intro n; simp
  | succ m ih =>
    intro n
    have h1 : scan cfg (fresh n) .null = some (fresh (n + 1)) := by
      rcases hcc : cfg.coerce with _ | _ | _
      · simp [scan, hcc, scanPlain, Col.null, fresh]
      · exact absurd hcc hc
      · simp [scan, hcc, coerceStringToFloat, Col.null, fresh]
    rw [List.replicate_succ, List.foldlM_cons, h1]
    simp only [Option.bind_eq_bind, Option.bind_some]
    rw [ih (n + 1)]
    congr 2; omega

def nullCell : Kind → Cell
  | .float => .float F64.canonNaN
  | _ => .str none

/-- the cells `Float`/`String` back-fill for the NULLs counted so far; `Int`/`Bool` back-fill nothing -/
def backfill (k : Kind) (n : Nat) : List Cell :=
  if k = .float ∨ k = .string then List.replicate n (nullCell k) else []

theorem opened_fresh (k : Kind) (hk : k ≠ .invalid) (n : Nat) :
    ((fresh n).opened k).kind = k ∧ ((fresh n).opened k).ptr = some k ∧ ((fresh n).opened k).cellsOf k = backfill k n := by
  cases k <;> first | exact absurd rfl hk | simp [Col.opened, fresh, Col.cellsOf, backfill, nullCell]

theorem compat_target {co : Coerce} {v : SqlVal} (hv : co = .int64ToBool ∨ v ≠ .null) : compat co (targetKind co v) := by
  cases co with
  | none => cases v <;> first | exact Kind.noConfusion | simp at hv
  | _ => rfl

theorem compat_valid {co : Coerce} {k : Kind} (h : compat co k) : k ≠ .invalid := by
  cases co with
  | none => exact h
  | _ => rw [h]; exact Kind.noConfusion

theorem split_nulls : ∀ (vals : List SqlVal), ∃ m tail, vals = List.replicate m SqlVal.null ++ tail ∧
    (tail = [] ∨ ∃ v rest, tail = v :: rest ∧ v ≠ SqlVal.null) := by
  intro vals
  induction vals with
  | nil => exact ⟨0, [], by simp, .inl rfl⟩
  | cons w ws ih =>
    by_cases hw : w = .null
    · obtain ⟨m, tail, e, h⟩ := ih
      exact ⟨m + 1, tail, by rw [e, hw, List.replicate_succ]; simp, h⟩
    · exact ⟨0, w :: ws, by simp, .inr ⟨w, ws, rfl, hw⟩⟩

theorem find_nulls_none (m : Nat) : (List.replicate m SqlVal.null).find? (· != .null) = none := by
  simp

theorem find_first (m : Nat) (v : SqlVal) (rest : List SqlVal) (hv : v ≠ .null) :
    (List.replicate m SqlVal.null ++ v :: rest).find? (· != .null) = some v := by
  induction m with
  | zero => simp [hv]
  | succ m ih => simp [List.replicate_succ, ih]

/-- **Closed form of the mirror** on `m` leading NULLs, a first value `v` and a typed rest: the first value fixes the kind,
the leading NULLs are back-filled (text/float) or dropped (int/bool), the rest is mapped value by value; the first
error of the code is the first `none` of the spec's per-value function. -/
theorem run (cfg : Cfg) (m : Nat) (v : SqlVal) (rest : List SqlVal)
    (hv : cfg.coerce = .int64ToBool ∨ v ≠ .null) (hc : cfg.coerce ≠ .int64ToBool ∨ m = 0)
    (hall : ∀ w ∈ rest, okVal cfg.coerce (targetKind cfg.coerce v) w) (name : Bytes) :
    (scanAll cfg (List.replicate m .null ++ v :: rest)).toLCol name =
      ((v :: rest).mapM (cellM cfg (targetKind cfg.coerce v))).map
        (fun cs => mkCol name (targetKind cfg.coerce v) (backfill (targetKind cfg.coerce v) m ++ cs)) := by
  have hpre : scanAll cfg (List.replicate m .null ++ v :: rest) = (v :: rest).foldlM (scan cfg) (fresh m) := by
    unfold scanAll
    rcases hc with hc | hc
    · rw [List.foldlM_append]
      have := nulls_phase cfg hc m 0
      simp only [fresh, Nat.zero_add] at this
      rw [this]; rfl
    · subst hc; rfl
  have hcompat := compat_target hv
  obtain ⟨hk1, hp1, e1⟩ := opened_fresh _ (compat_valid hcompat) m
  rw [hpre, List.foldlM_cons, List.mapM_cons, scan_value cfg _ v hv]
  cases hcell : cellM cfg (targetKind cfg.coerce v) v with
  | none => rfl
  | some cell =>
    have h := fold_typed cfg _ hcompat name rest _ ((Col.kind_app _ cell).trans hk1) ((Col.ptr_app _ cell).trans hp1) hall
    have hcells := ((fresh m).opened (targetKind cfg.coerce v)).cellsOf_app cell
    rw [cellM_kind hcompat hcell, e1] at hcells
    rw [hcells] at h
    simp only [Option.map_some, Option.bind_eq_bind, Option.bind_some, ScanResult.toLCol] at h ⊢
    rw [h]
    cases rest.mapM (cellM cfg (targetKind cfg.coerce v)) <;> simp


theorem sqlColumn_plain_none (name : Bytes) (fixed : UInt64 → UInt64) (pfloat : Bytes → Option UInt64) (vals : List SqlVal)
    (h : vals.find? (· != .null) = none) : sqlColumn name 0 fixed pfloat vals = none := by
  unfold sqlColumn
  simp only [h]

theorem sqlColumn_plain (name : Bytes) (fixed : UInt64 → UInt64) (pfloat : Bytes → Option UInt64) (vals : List SqlVal)
    (v : SqlVal) (h : vals.find? (· != .null) = some v) (hv : v ≠ .null) :
    sqlColumn name 0 fixed pfloat vals = (vals.mapM (specCell fixed (kindOf v))).map (mkCol name (kindOf v)) := by
  unfold sqlColumn
  simp only [h]
  -- the spec's per-value function of each kind is `specCell` of that kind
  cases v <;> first | exact absurd rfl hv | (dsimp only; congr 2; funext w; cases w <;> rfl)


theorem mapM_nulls (f : SqlVal → Option Cell) (c : Cell) (hf : f .null = some c) (m : Nat) :
    (List.replicate m SqlVal.null).mapM f = some (List.replicate m c) := by
  induction m with
  | zero => simp
  | succ m ih => simp [List.replicate_succ, List.mapM_cons, hf, ih]

theorem specCell_nulls (fixed : UInt64 → UInt64) (k : Kind) (m : Nat) (h : m = 0 ∨ k = .float ∨ k = .string) :
    (List.replicate m SqlVal.null).mapM (specCell fixed k) = some (backfill k m) := by
  rcases h with h | h | h
  · subst h; simp [backfill]
  · subst h; rw [mapM_nulls _ (nullCell .float) rfl]; simp [backfill]
  · subst h; rw [mapM_nulls _ (nullCell .string) rfl]; simp [backfill]

def firstVal (vals : List SqlVal) : Option SqlVal := vals.find? (· != .null)

/-- The column is typed: every value is NULL or of the kind of the first non-NULL value. -/
def homogeneous (vals : List SqlVal) : Bool :=
  match firstVal vals with
  | none => true
  | some v => vals.all (fun w => w == .null || kindOf w == kindOf v)

def firstIsTextOrFloat (vals : List SqlVal) : Bool :=
  match firstVal vals with
  | some (.text _) => true
  | some (.float _) => true
  | _ => false

/-- C19's quantifier: NULLs occur only in text or float columns. -/
def nullsInTextOrFloat (vals : List SqlVal) : Bool := firstIsTextOrFloat vals || !vals.contains .null

/-- The weaker condition that suffices: no NULL *before the first value* of an int/bool column. -/
def noLeadingNullUnlessTextOrFloat (vals : List SqlVal) : Bool := firstIsTextOrFloat vals || vals.head? != some .null

theorem cellM_plain (cfg : Cfg) (hc : cfg.coerce = .none) (k : Kind) : cellM cfg k = specCell cfg.fixed k := by
  funext v; simp [cellM, hc]

theorem scanAll_nulls (cfg : Cfg) (hc : cfg.coerce ≠ .int64ToBool) (m : Nat) (name : Bytes) :
    (scanAll cfg (List.replicate m .null)).toLCol name = none := by
  have := nulls_phase cfg hc m 0
  simp only [fresh, Nat.zero_add] at this
  unfold scanAll
  rw [this]
  rfl

theorem sqlColumn_i2b (cfg : Cfg) (hc : cfg.coerce = .int64ToBool) (name : Bytes) (fixed : UInt64 → UInt64)
    (pfloat : Bytes → Option UInt64) (vals : List SqlVal) :
    sqlColumn name 1 fixed pfloat vals = (vals.mapM (cellM cfg .bool)).map (mkCol name .bool) := by
  have : cellM cfg .bool = (fun (v : SqlVal) => match v with | .int x => some (Cell.bool (x != 0)) | _ => none) := by
    funext v; cases v <;> simp [cellM, hc]
  rw [this]; rfl

theorem sqlColumn_s2f (cfg : Cfg) (hc : cfg.coerce = .stringToFloat) (name : Bytes) (vals : List SqlVal) :
    sqlColumn name 2 cfg.fixed cfg.pfloat vals =
      if vals.all (· == .null) then none else (vals.mapM (cellM cfg .float)).map (mkCol name .float) := by
  have : cellM cfg .float = (fun (v : SqlVal) => match v with
      | .text s => (cfg.pfloat s).map (fun b => Cell.float (cfg.fixed b))
      | .null => some (Cell.float F64.canonNaN) | _ => none) := by
    funext v; cases v <;> simp [cellM, hc]
  rw [this]; rfl

/-- `Int64ToBool`: unconditional for a result set with at least one row. -/
theorem scan_refines_spec_i2b (cfg : Cfg) (hc : cfg.coerce = .int64ToBool) (name : Bytes) (vals : List SqlVal)
    (hne : vals ≠ []) :
    (scanAll cfg vals).toLCol name = sqlColumn name 1 cfg.fixed cfg.pfloat vals := by
  cases vals with
  | nil => exact absurd rfl hne
  | cons v rest =>
    have hrest : ∀ w ∈ rest, okVal cfg.coerce (targetKind cfg.coerce v) w := by
      intro w _; simp [hc, okVal]
    have := run cfg 0 v rest (.inl hc) (.inr rfl) hrest name
    simp only [List.replicate_zero, List.nil_append] at this
    rw [this, sqlColumn_i2b cfg hc]
    have hk : targetKind cfg.coerce v = .bool := by simp [targetKind, hc]
    rw [hk]
    simp [backfill]

/-- `StringToFloat`: unconditional (an all-NULL column is untyped on both sides). -/
theorem scan_refines_spec_s2f (cfg : Cfg) (hc : cfg.coerce = .stringToFloat) (name : Bytes) (vals : List SqlVal) :
    (scanAll cfg vals).toLCol name = sqlColumn name 2 cfg.fixed cfg.pfloat vals := by
  obtain ⟨m, tail, e, h⟩ := split_nulls vals
  subst e
  rw [sqlColumn_s2f cfg hc]
  rcases h with rfl | ⟨v, rest, rfl, hv⟩
  · rw [List.append_nil, scanAll_nulls cfg (by simp [hc]) m name]
    simp
  · have hrest : ∀ w ∈ rest, okVal cfg.coerce (targetKind cfg.coerce v) w := by
      intro w _; simp [hc, okVal]
    rw [run cfg m v rest (.inr hv) (.inl (by simp [hc])) hrest name]
    have hk : targetKind cfg.coerce v = .float := by simp [targetKind, hc]
    have hall : (List.replicate m SqlVal.null ++ v :: rest).all (· == .null) = false := by
      simp [hv]
    rw [hk, hall, List.mapM_append, mapM_nulls _ (nullCell .float) (by simp [cellM, hc, nullCell])]
    cases hmm : List.mapM (cellM cfg .float) (v :: rest) <;> simp [backfill]


/-- The decidable precondition of `scan_refines_spec`. -/
def inScope (co : Coerce) (vals : List SqlVal) : Bool :=
  match co with
  | .none => homogeneous vals && noLeadingNullUnlessTextOrFloat vals
  | .int64ToBool => !vals.isEmpty
  | .stringToFloat => true

/-- The scope without coercion, given the first value that is not NULL: every value is NULL or of its kind, and a NULL in
front only if it is text or a float. -/
theorem inScope_plain_iff {vals : List SqlVal} {v : SqlVal} (hf : firstVal vals = some v) :
    inScope .none vals = true ↔
      (∀ w ∈ vals, w = .null ∨ kindOf w = kindOf v) ∧ (vals.head? = some .null → kindOf v = .float ∨ kindOf v = .string) := by
  simp only [inScope, homogeneous, noLeadingNullUnlessTextOrFloat, firstIsTextOrFloat, hf, Bool.and_eq_true]
  refine and_congr (by simp) ?_
  cases v <;> simp [kindOf]

/-- No coercion: typed column, no NULL before the first value of an int/bool column.  A NULL *after* the first value
of an int/bool column is inside this precondition: both sides report an error. -/
theorem scan_refines_spec_plain (cfg : Cfg) (hc : cfg.coerce = .none) (name : Bytes) (vals : List SqlVal)
    (h : inScope .none vals = true) :
    (scanAll cfg vals).toLCol name = sqlColumn name 0 cfg.fixed cfg.pfloat vals := by
  obtain ⟨m, tail, e, hs⟩ := split_nulls vals
  subst e
  rcases hs with rfl | ⟨v, rest, rfl, hv⟩
  · rw [List.append_nil, scanAll_nulls cfg (by simp [hc]) m name, sqlColumn_plain_none _ _ _ _ (find_nulls_none m)]
  · have hfind := find_first m v rest hv
    obtain ⟨hkind, hlead⟩ := (inScope_plain_iff hfind).1 h
    have hrest : ∀ w ∈ rest, okVal cfg.coerce (targetKind cfg.coerce v) w := fun w hw => by
      rw [hc]; exact (hkind w (by simp [hw])).symm
    have hm : m = 0 ∨ kindOf v = .float ∨ kindOf v = .string := by
      cases m with
      | zero => exact .inl rfl
      | succ m => exact .inr (hlead (by simp [List.replicate_succ]))
    rw [run cfg m v rest (.inr hv) (.inl (by simp [hc])) hrest name, sqlColumn_plain _ _ _ _ v hfind hv]
    have hk : targetKind cfg.coerce v = kindOf v := by simp [targetKind, hc]
    rw [hk, cellM_plain cfg hc, List.mapM_append, specCell_nulls _ _ _ hm]
    cases hmm : List.mapM (specCell cfg.fixed (kindOf v)) (v :: rest) <;> simp

/-- **Refinement.** In scope, mirror and spec agree — results *and* errors. -/
theorem scan_refines_spec (cfg : Cfg) (name : Bytes) (vals : List SqlVal) (h : inScope cfg.coerce vals = true) :
    (scanAll cfg vals).toLCol name = sqlColumn name cfg.coerce.toNat cfg.fixed cfg.pfloat vals := by
  rcases hc : cfg.coerce with _ | _ | _
  · exact scan_refines_spec_plain cfg hc name vals (hc ▸ h)
  · rw [hc] at h
    simp only [inScope] at h
    exact scan_refines_spec_i2b cfg hc name vals (by intro e; simp [e] at h)
  · exact scan_refines_spec_s2f cfg hc name vals

theorem nullsInTextOrFloat_noLeading (vals : List SqlVal) (h : nullsInTextOrFloat vals = true) :
    noLeadingNullUnlessTextOrFloat vals = true := by
  simp only [nullsInTextOrFloat, noLeadingNullUnlessTextOrFloat, Bool.or_eq_true] at *
  rcases h with h | h
  · exact .inl h
  · right
    cases vals with
    | nil => simp
    | cons w ws =>
      cases w <;> simp_all

/-- C19's own condition (`nullsInTextOrFloat` alone, no coercion) is **not enough** for the code as it is — see
`scan_mixed_counterexample` — so this is the `_partial` form: the added hypothesis is `homogeneous vals` (the column is
typed: all non-NULL values have the kind of the first one), because `Column.Scan` does not report a value of another
kind, it drops it.  `scan_refines_spec` above is the same theorem with a weaker NULL condition and all coercions. -/
theorem scan_refines_spec_partial (cfg : Cfg) (hc : cfg.coerce = .none) (name : Bytes) (vals : List SqlVal)
    (hn : nullsInTextOrFloat vals = true) (hh : homogeneous vals = true) :
    (scanAll cfg vals).toLCol name = sqlColumn name 0 cfg.fixed cfg.pfloat vals :=
  scan_refines_spec_plain cfg hc name vals (Bool.and_eq_true_iff.2 ⟨hh, nullsInTextOrFloat_noLeading vals hn⟩)

/-! ### outside the precondition -/

/-- Outside: a column of NULLs only is untyped — `Data()` is nil, `qframe.New` fails; the spec says error too. -/
theorem scan_all_null (cfg : Cfg) (hc : cfg.coerce ≠ .int64ToBool) (m : Nat) (name : Bytes) :
    (scanAll cfg (List.replicate m .null)).toLCol name = none ∧
    sqlColumn name cfg.coerce.toNat cfg.fixed cfg.pfloat (List.replicate m .null) = none := by
  refine ⟨scanAll_nulls cfg hc m name, ?_⟩
  rcases hcc : cfg.coerce with _ | _ | _
  · exact sqlColumn_plain_none _ _ _ _ (find_nulls_none m)
  · exact absurd hcc hc
  · show sqlColumn name 2 cfg.fixed cfg.pfloat _ = none
    rw [sqlColumn_s2f cfg hcc]; simp

/-- Outside: zero rows under `Int64ToBool`.  The column is untyped in the code; `sqlColumn` alone would give an empty
bool column — `readSqlS` never asks, it returns the empty frame for zero rows before looking at columns. -/
theorem scan_empty_i2b (cfg : Cfg) (name : Bytes) :
    (scanAll cfg []).toLCol name = none ∧
    sqlColumn name 1 cfg.fixed cfg.pfloat [] = some (mkCol name .bool []) := by
  constructor
  · rfl
  · rfl

/-- NULL in an int/bool column after its first value is the error "non-nullable type": outside C19's `nullsInTextOrFloat`, but
inside the precondition of `scan_refines_spec_plain` (the spec reports an error too). -/
theorem scan_null_nonnullable (cfg : Cfg) (hc : cfg.coerce = .none) (c : Col)
    (hk : c.kind = .int ∨ c.kind = .bool) : scan cfg c .null = none := by
  rcases hk with hk | hk <;> simp [scan, hc, scanPlain, Col.null, hk]

/-- Outside: a value of another kind than the column's is appended to its own slice, which `Data()` does not return:
the column silently loses the row.  No error. -/
theorem scan_other_kind_ignored (cfg : Cfg) (hc : cfg.coerce = .none) (c : Col) (k : Kind) (v : SqlVal)
    (hk : c.kind = k) (hp : c.ptr = some k) (hv : v ≠ .null) (hkv : kindOf v ≠ k) :
    ∃ c', scan cfg c v = some c' ∧ c'.kind = k ∧ c'.ptr = some k ∧ c'.cellsOf k = c.cellsOf k := by
  obtain ⟨cell, hcell⟩ := specCell_own cfg.fixed hv
  have hs := scan_value cfg c v (.inr hv)
  rw [hc] at hs
  rw [hs, cellM_plain cfg hc, Col.opened_typed hp]
  exact ⟨c.app cell, congrArg _ hcell, (c.kind_app cell).trans hk, (c.ptr_app cell).trans hp,
    c.cellsOf_app_ne cell k (specCell_kind hcell ▸ hkv)⟩

/-- Outside: NULLs before the first value of an int/bool column are counted and never back-filled: the code returns a
column that is `m` rows short, without error; the spec says error.  (DESIGN.md §0.4, outside C19's quantifier.) -/
theorem scan_leading_nulls_dropped (cfg : Cfg) (hc : cfg.coerce = .none) (name : Bytes) (m : Nat) (v : SqlVal)
    (rest : List SqlVal) (hm : 0 < m) (hk : kindOf v = .int ∨ kindOf v = .bool)
    (hrest : ∀ w ∈ rest, kindOf w = kindOf v) :
    ∃ cs, (scanAll cfg (List.replicate m .null ++ v :: rest)).toLCol name = some (mkCol name (kindOf v) cs) ∧
      cs.length = rest.length + 1 ∧
      sqlColumn name 0 cfg.fixed cfg.pfloat (List.replicate m .null ++ v :: rest) = none := by
  have hv : v ≠ .null := by rintro rfl; simp [kindOf] at hk
  have hok : ∀ w ∈ rest, okVal cfg.coerce (targetKind cfg.coerce v) w := by
    intro w hw; simp only [hc, okVal, targetKind]; exact .inl (hrest w hw)
  have hk' : targetKind cfg.coerce v = kindOf v := by simp [targetKind, hc]
  have hown : ∀ w ∈ v :: rest, ∃ b, specCell cfg.fixed (kindOf v) w = some b := fun w hw => by
    have hw' : kindOf w = kindOf v := by
      rcases List.mem_cons.1 hw with rfl | h
      · rfl
      · exact hrest w h
    have hn : w ≠ .null := by rintro rfl; rw [← hw'] at hk; simp [kindOf] at hk
    exact hw' ▸ specCell_own cfg.fixed hn
  obtain ⟨cs, e⟩ : ∃ cs, (v :: rest).mapM (specCell cfg.fixed (kindOf v)) = some cs := by
    cases e : (v :: rest).mapM (specCell cfg.fixed (kindOf v)) with
    | some cs => exact ⟨cs, rfl⟩
    | none =>
      obtain ⟨w, hw, hn⟩ := (ListFacts.mapM_eq_none_iff _ _).1 e
      obtain ⟨b, hb⟩ := hown w hw
      rw [hb] at hn; cases hn
  refine ⟨cs, ?_, by simpa using ListFacts.mapM_length e, ?_⟩
  · rw [run cfg m v rest (.inr hv) (.inl (by simp [hc])) hok name, hk', cellM_plain cfg hc, e]
    have : backfill (kindOf v) m = [] := by rcases hk with hk | hk <;> simp [backfill, hk]
    simp [this]
  · rw [sqlColumn_plain _ _ _ _ v (find_first m v rest hv) hv]
    obtain ⟨m', rfl⟩ : ∃ m', m = m' + 1 := ⟨m - 1, by omega⟩
    have : specCell cfg.fixed (kindOf v) .null = none := by rcases hk with hk | hk <;> simp [hk, specCell]
    simp [List.replicate_succ, List.mapM_cons, this]


/-! ## round trip -/

/-- What a store returns for a written argument: int → int, float → the same float64 (NaN included, payload kept),
bool → bool, string → text, nil `*string` → NULL.  Enum cells are written as their strings. -/
def cellToVal : Cell → SqlVal
  | .int v => .int v
  | .float b => .float b
  | .bool b => .bool b
  | .str (some s) => .text s
  | .str none => .null

/-- The stored row of an `Exec` argument list. -/
def argsToVals (args : List Cell) : List SqlVal := args.map cellToVal

def cellHasTy : CType → Cell → Bool
  | .int, .int _ => true
  | .float, .float _ => true
  | .bool, .bool _ => true
  | .string, .str _ => true
  | .enum, .str _ => true
  | _, _ => false

def tyKind : CType → Kind
  | .int => .int | .float => .float | .bool => .bool | .string => .string | .enum => .string | .undef => .invalid

theorem cellKind_of_hasTy {ty : CType} {c : Cell} (h : cellHasTy ty c = true) : cellKind c = tyKind ty := by
  cases ty <;> cases c <;> first | rfl | cases h

def isStrTy (ty : CType) : Bool := ty == .string || ty == .enum

theorem tyKind_string {ty : CType} (h : tyKind ty = .string) : isStrTy ty = true := by
  cases ty <;> first | rfl | cases h

/-- only the nil `*string` is stored as NULL -/
theorem cellToVal_eq_null {c : Cell} : cellToVal c = .null ↔ c = .str none := by
  cases c with
  | str s => cases s <;> simp [cellToVal]
  | _ => simp [cellToVal]

theorem specCell_cellToVal (c : Cell) : specCell id (cellKind c) (cellToVal c) = some c := by
  cases c with
  | str s => cases s <;> rfl
  | _ => rfl

section Stored
variable {α : Type} (st : α → SqlVal) (g : α → Cell) (k : Kind) (l : List α)
  (h : ∀ a ∈ l, specCell id k (st a) = some (g a)) (hex : ∃ a ∈ l, st a ≠ .null)
include h hex

/-- A column as a store keeps it (`st`: the stored value of a cell), every value with a cell `g` in a column of kind `k`
and not all of them NULL: the first value that is not NULL is of kind `k`. -/
theorem first_stored : ∃ v, (l.map st).find? (· != .null) = some v ∧ v ≠ .null ∧ kindOf v = k := by
  cases hf : (l.map st).find? (· != .null) with
  | none =>
    obtain ⟨a, ha, hn⟩ := hex
    have := List.find?_eq_none.1 hf (st a) (List.mem_map_of_mem ha)
    exact absurd (by simpa using this) hn
  | some v =>
    have hv : v ≠ .null := by simpa using List.find?_some hf
    obtain ⟨a, ha, rfl⟩ := List.mem_map.1 (List.mem_of_find?_eq_some hf)
    exact ⟨_, rfl, hv, kindOf_of_specCell (h a ha) hv⟩

/-- … and the spec reads it back as the column of kind `k` of these cells. -/
theorem sqlColumn_stored (name : Bytes) (pfloat : Bytes → Option UInt64) :
    sqlColumn name 0 id pfloat (l.map st) = some (mkCol name k (l.map g)) := by
  obtain ⟨v, hf, hv, hkv⟩ := first_stored st g k l h hex
  rw [sqlColumn_plain name id pfloat _ v hf hv, hkv,
    (ListFacts.mapM_eq_some_iff _ _ (l.map g)).2 (by rw [List.map_map, List.map_map]; exact List.map_congr_left h)]
  rfl

end Stored

section Cells
variable (k : Kind) (cells : List Cell) (hk : ∀ c ∈ cells, cellKind c = k) (hne : cells ≠ [])
  (hnn : k = .string → ∃ c ∈ cells, c ≠ Cell.str none)
include hk hne hnn

/-- a column of cells of one kind, a string column not entirely null: `ToSQL` hands over a value that is not NULL -/
theorem stored_value : ∃ c ∈ cells, cellToVal c ≠ .null := by
  by_cases hs : k = .string
  · obtain ⟨c, hc, hn⟩ := hnn hs
    exact ⟨c, hc, fun h => hn (cellToVal_eq_null.1 h)⟩
  · cases cells with
    | nil => exact absurd rfl hne
    | cons c cs =>
      refine ⟨c, List.mem_cons_self .., fun h => hs ?_⟩
      rw [← hk c (List.mem_cons_self ..), cellToVal_eq_null.1 h]
      rfl

/-- What `ToSQL` stores of it is in the scope of `scan_refines_spec`: typed, and a NULL in front of the first value only in
a text column. -/
theorem argsToVals_inScope : inScope .none (argsToVals cells) = true := by
  have h : ∀ c ∈ cells, specCell id k (cellToVal c) = some (id c) := fun c hc => hk c hc ▸ specCell_cellToVal c
  obtain ⟨v, hf, hv, hkv⟩ := first_stored cellToVal id k cells h (stored_value k cells hk hne hnn)
  refine (inScope_plain_iff hf).2 ⟨fun w hw => ?_, fun hhead => ?_⟩
  · obtain ⟨c, hc, rfl⟩ := List.mem_map.1 hw
    by_cases hn : cellToVal c = .null
    · exact .inl hn
    · exact .inr ((kindOf_of_specCell (h c hc) hn).trans hkv.symm)
  · cases cells with
    | nil => exact absurd rfl hne
    | cons c cs =>
      have hc : c = .str none := cellToVal_eq_null.1 (by simpa [argsToVals] using hhead)
      exact .inr (hkv.trans ((hk c (List.mem_cons_self ..)).symm.trans (by rw [hc]; rfl)))

theorem readback_cells (name : Bytes) (pfloat : Bytes → Option UInt64) :
    sqlColumn name 0 id pfloat (argsToVals cells) = some (mkCol name k cells) := by
  rw [argsToVals, sqlColumn_stored cellToVal id k cells (fun c hc => hk c hc ▸ specCell_cellToVal c)
    (stored_value k cells hk hne hnn), List.map_id]

end Cells

def readTy (ty : CType) : CType := if ty = .enum then .string else ty

theorem tyKind_ty (ty : CType) (hu : ty ≠ .undef) : (tyKind ty).ty = readTy ty := by
  cases ty <;> first | rfl | exact absurd rfl hu

/-- A column of `n` cells of its type; a string/enum column is not entirely null. -/
def ColWF (n : Nat) (c : LCol) : Prop :=
  c.ty ≠ .undef ∧ c.cells.size = n ∧ (∀ x ∈ c.cells.toList, cellHasTy c.ty x = true) ∧
    (isStrTy c.ty = true → ∃ x ∈ c.cells.toList, x ≠ Cell.str none)

/-- C19's quantifier on frames: at least one row, well-formed columns. -/
def FrameWF (f : LFrame) : Prop := 1 ≤ f.n ∧ ∀ c ∈ f.cols, ColWF f.n c

/-- The table after `ToSQL`: one stored row per executed statement, in execution order. -/
def storedRows (cfg : SqlCfg) (f : LFrame) : List (List SqlVal) := ((toSqlS cfg f).map (·.2)).map argsToVals

/-- Column `j` of a result set, as `readSqlS` extracts it. -/
def resultColumn (rows : List (List SqlVal)) (j : Nat) : List SqlVal := rows.map (fun r => r[j]!)

/-- What comes back: the same cells; an enum column as a plain string column (no value table, not strict). -/
def readCol (c : LCol) : LCol := { name := c.name, ty := readTy c.ty, cells := c.cells }

theorem resultColumn_stored (cfg : SqlCfg) (f : LFrame) (j : Nat) (hj : j < f.cols.length)
    (hsz : (f.cols[j]).cells.size = f.n) :
    resultColumn (storedRows cfg f) j = argsToVals (f.cols[j]).cells.toList := by
  unfold resultColumn storedRows toSqlS argsToVals
  rw [← ListFacts.range_map_getElem (f.cols[j]).cells.toList, Array.length_toList, hsz]
  simp only [List.map_map]
  apply List.map_congr_left
  intro r _
  simp [LFrame.row, hj, Array.getElem!_eq_getD, Array.getD_eq_getD_getElem?]

theorem cells_ne_nil {n : Nat} {c : LCol} (hsz : c.cells.size = n) (hn : 1 ≤ n) : c.cells.toList ≠ [] := by
  intro h
  have : c.cells.toList.length = 0 := by rw [h]; rfl
  rw [Array.length_toList] at this
  omega

/-- **Round trip, per column.** -/
theorem readback (cfg : SqlCfg) (f : LFrame) (hwf : FrameWF f) (pfloat : Bytes → Option UInt64)
    (j : Nat) (hj : j < f.cols.length) :
    sqlColumn (f.names[j]!) 0 id pfloat (resultColumn (storedRows cfg f) j) = some (readCol f.cols[j]) := by
  obtain ⟨hn, hcols⟩ := hwf
  obtain ⟨hu, hsz, hty, hnn⟩ := hcols f.cols[j] (List.getElem_mem hj)
  rw [resultColumn_stored cfg f j hj hsz]
  rw [readback_cells (tyKind (f.cols[j]).ty) _ (fun c hc => cellKind_of_hasTy (hty c hc))
    (cells_ne_nil hsz hn) (fun hs => hnn (tyKind_string hs)) _ pfloat]
  simp [readCol, mkCol, tyKind_ty _ hu, LFrame.names, hj]

theorem storedRows_length (cfg : SqlCfg) (f : LFrame) : (storedRows cfg f).length = f.n := by
  simp [storedRows, toSqlS]

theorem storedRows_isEmpty (cfg : SqlCfg) {f : LFrame} (hwf : FrameWF f) : (storedRows cfg f).isEmpty = false := by
  have hlen := storedRows_length cfg f
  cases h : storedRows cfg f with
  | nil => rw [h] at hlen; have := hwf.1; simp at hlen; omega
  | cons _ _ => rfl

/-- **Round trip, whole frame** through `readSqlS` (names legal and distinct, as in every frame). -/
theorem readback_frame (cfg : SqlCfg) (f : LFrame) (hwf : FrameWF f) (pfloat : Bytes → Option UInt64)
    (hlegal : f.names.all legalName = true) (hdistinct : f.names.eraseDups.length = f.names.length) :
    readSqlS f.names (List.replicate f.cols.length 0) id pfloat (storedRows cfg f) =
      .ok { cols := f.cols.map readCol, n := f.n } := by
  have hlen := storedRows_length cfg f
  have hne := storedRows_isEmpty cfg hwf
  have hcols : (List.range f.names.length).map (fun j =>
      sqlColumn f.names[j]! ((List.replicate f.cols.length 0)[j]!) id pfloat ((storedRows cfg f).map (fun r => r[j]!))) =
      (f.cols.map readCol).map some := by
    have hnl : f.names.length = f.cols.length := by simp [LFrame.names]
    rw [hnl]
    conv => rhs; rw [← ListFacts.range_map_getElem f.cols]
    simp only [List.map_map]
    apply List.map_congr_left
    intro j hj
    have hj' : j < f.cols.length := by simpa using hj
    have h0 : (List.replicate f.cols.length 0)[j]! = 0 := by simp [hj']
    rw [h0]
    have := readback cfg f hwf pfloat j hj'
    simp only [resultColumn] at this
    rw [this]
    simp [hj']
  unfold readSqlS
  simp only [hne, hcols, hlegal, hdistinct, hlen]
  simp


/-! ### variant: a store that keeps NaN as NULL -/

def cellToValNanNull : Cell → SqlVal
  | .float b => if F64.isNaN b then .null else .float b
  | c => cellToVal c

def canonCell : Cell → Cell
  | .float b => if F64.isNaN b then .float F64.canonNaN else .float b
  | c => c

def isFloatCell : Cell → Bool
  | .float _ => true
  | _ => false

def isNaNCell : Cell → Bool
  | .float b => F64.isNaN b
  | _ => false

/-- A store that keeps NaN as NULL: a float column with at least one non-NaN value comes back with its NaNs canonical. -/
theorem readback_cells_nanNull (name : Bytes) (pfloat : Bytes → Option UInt64) (cells : List Cell)
    (hty : ∀ c ∈ cells, isFloatCell c = true) (hex : ∃ c ∈ cells, isNaNCell c = false) :
    sqlColumn name 0 id pfloat (cells.map cellToValNanNull) =
      some { name := name, ty := .float, cells := (cells.map canonCell).toArray } := by
  refine sqlColumn_stored cellToValNanNull canonCell .float cells ?_ ?_ name pfloat
  · intro c hc
    cases c with
    | float b => by_cases hb : F64.isNaN b = true <;> simp [cellToValNanNull, canonCell, specCell, hb]
    | _ => exact absurd (hty _ hc) (by simp [isFloatCell])
  · obtain ⟨c, hc, hn⟩ := hex
    refine ⟨c, hc, ?_⟩
    cases c with
    | float b => simp_all [cellToValNanNull, isNaNCell]
    | _ => exact absurd (hty _ hc) (by simp [isFloatCell])

/-- A store that keeps NaN as NULL: a float column of NaNs only comes back as an untyped column — an error. -/
theorem readback_allNaN_unreadable (name : Bytes) (pfloat : Bytes → Option UInt64) (cells : List Cell)
    (hnan : ∀ c ∈ cells, isNaNCell c = true) :
    sqlColumn name 0 id pfloat (cells.map cellToValNanNull) = none := by
  apply sqlColumn_plain_none
  rw [List.find?_eq_none]
  intro v hv
  obtain ⟨c, hc, rfl⟩ := List.mem_map.1 hv
  have := hnan c hc
  cases c with
  | float b => simp_all [cellToValNanNull, isNaNCell]
  | _ => simp [isNaNCell] at this


/-! ## shape of the statement text -/

/-! ### `strBytes` of `"$" ++ toString k` -/

theorem strBytes_dollar : strBytes "$" = [36] := by decide +kernel

theorem dollar_bytes (k : Nat) :
    strBytes ("$" ++ toString k) = 36 :: (Nat.toDigits 10 k).map (fun c => UInt8.ofNat c.toNat) ∧
    (44 : UInt8) ∉ strBytes ("$" ++ toString k) := by
  obtain ⟨h2, hd⟩ := strBytes_nat k
  rw [strBytes_append, strBytes_dollar]
  refine ⟨by rw [h2]; rfl, ?_⟩
  simp only [List.singleton_append, List.mem_cons, not_or]
  exact ⟨by decide, fun h => absurd (hd 44 h).1 (by decide)⟩

/-- The parameter markers of `Insert`. -/
def placeholders (cfg : SqlCfg) (n : Nat) : List Bytes :=
  (List.range n).map (fun i => if cfg.incrementing then strBytes ("$" ++ toString (i + 1)) else [63])

/-- `INSERT INTO <table> (<escaped names, comma separated>) VALUES (<placeholders, comma separated>);` -/
theorem insertText_shape (cfg : SqlCfg) (names : List Bytes) :
    insertText cfg names =
      strBytes "INSERT INTO " ++ escapeIdent cfg cfg.table ++ strBytes " (" ++
      intercalateB [44] (names.map (escapeIdent cfg)) ++ strBytes ") VALUES (" ++
      intercalateB [44] (placeholders cfg names.length) ++ strBytes ");" := rfl

theorem placeholders_length (cfg : SqlCfg) (n : Nat) : (placeholders cfg n).length = n := by
  simp [placeholders]

theorem placeholders_spec (cfg : SqlCfg) (n i : Nat) (h : i < n) :
    (placeholders cfg n)[i]'(by rw [placeholders_length]; exact h) =
      if cfg.incrementing then strBytes ("$" ++ toString (i + 1)) else [63] := by
  simp [placeholders]

theorem placeholders_question (cfg : SqlCfg) (hi : cfg.incrementing = false) (n : Nat) :
    placeholders cfg n = List.replicate n [63] := by
  apply List.ext_getElem
  · simp [placeholders]
  · intro i h1 h2
    simp [placeholders, hi]

theorem escapeIdent_none (cfg : SqlCfg) (h : cfg.escape = 0) (s : Bytes) : escapeIdent cfg s = s := by
  simp [escapeIdent, h]

theorem escapeIdent_wrap (cfg : SqlCfg) (h : cfg.escape ≠ 0) (s : Bytes) :
    escapeIdent cfg s = Json.encodeRune cfg.escape ++ s ++ Json.encodeRune cfg.escape := by
  simp [escapeIdent, h]

theorem intercalateB_nil (sep : Bytes) : intercalateB sep [] = [] := rfl
theorem intercalateB_singleton (sep x : Bytes) : intercalateB sep [x] = x := rfl
theorem intercalateB_cons_cons (sep x y : Bytes) (ys : List Bytes) :
    intercalateB sep (x :: y :: ys) = x ++ sep ++ intercalateB sep (y :: ys) := rfl

/-- splitting at a separator byte (`bytes.Split`) -/
def splitB (sep : UInt8) : Bytes → List Bytes
  | [] => [[]]
  | b :: bs =>
    if b = sep then [] :: splitB sep bs
    else match splitB sep bs with
      | [] => [[b]]
      | x :: xs => (b :: x) :: xs

theorem splitB_noSep (sep : UInt8) : ∀ (x : Bytes), sep ∉ x → splitB sep x = [x] := by
  intro x
  induction x with
  | nil => intro _; rfl
  | cons b bs ih =>
    intro h
    have hb : b ≠ sep := by intro e; exact h (by simp [e])
    have hbs : sep ∉ bs := by intro e; exact h (by simp [e])
    simp [splitB, hb, ih hbs]

theorem splitB_append (sep : UInt8) (rest : Bytes) : ∀ (x : Bytes), sep ∉ x →
    splitB sep (x ++ sep :: rest) = x :: splitB sep rest := by
  intro x
  induction x with
  | nil => intro _; simp [splitB]
  | cons b bs ih =>
    intro h
    have hb : b ≠ sep := by intro e; exact h (by simp [e])
    have hbs : sep ∉ bs := by intro e; exact h (by simp [e])
    simp [splitB, hb, ih hbs]

/-- Joining with commas loses nothing: splitting at the commas returns the names, in order. -/
theorem intercalateB_split (sep : UInt8) : ∀ (names : List Bytes), names ≠ [] → (∀ n ∈ names, sep ∉ n) →
    splitB sep (intercalateB [sep] names) = names := by
  intro names
  induction names with
  | nil => intro h; exact absurd rfl h
  | cons x xs ih =>
    intro _ hall
    cases xs with
    | nil => simpa [intercalateB] using splitB_noSep sep x (hall x (by simp))
    | cons y ys =>
      rw [intercalateB_cons_cons]
      have := ih (by simp) (fun n hn => hall n (by simp [hn]))
      rw [List.append_assoc, List.singleton_append, splitB_append sep _ x (hall x (by simp)), this]

/-- The column list of the statement is exactly the escaped names in frame order. -/
theorem columnList_split (cfg : SqlCfg) (names : List Bytes) (hne : names ≠ [])
    (hesc : 44 ∉ Json.encodeRune cfg.escape) (hall : ∀ n ∈ names, (44 : UInt8) ∉ n) :
    splitB 44 (intercalateB [44] (names.map (escapeIdent cfg))) = names.map (escapeIdent cfg) := by
  apply intercalateB_split
  · simpa using hne
  · intro n hn
    obtain ⟨m, hm, rfl⟩ := List.mem_map.1 hn
    have := hall m hm
    unfold escapeIdent
    by_cases h0 : cfg.escape = 0 <;> simp [h0, this, hesc]

theorem toSqlS_length (cfg : SqlCfg) (f : LFrame) : (toSqlS cfg f).length = f.n := by
  simp [toSqlS]

/-- Statement `r` is the INSERT text with row `r` of the frame as arguments. -/
theorem toSqlS_getElem (cfg : SqlCfg) (f : LFrame) (r : Nat) (h : r < f.n) :
    (toSqlS cfg f)[r]'(by rw [toSqlS_length]; exact h) = (insertText cfg f.names, f.row r) := by
  simp [toSqlS]

theorem row_getElem (f : LFrame) (r j : Nat) (hj : j < f.cols.length) :
    (f.row r)[j]'(by simpa [LFrame.row] using hj) = (f.cols[j]).cells[r]! := by
  simp [LFrame.row]


/-! ## examples -/

def exCfg : Cfg := { coerce := .none, precision := 2, fixedFn := fun _ b => b + 1, pfloat := fun _ => none }
def exText : List SqlVal := [.null, .text [97], .null, .text [98]]
def exFloat : List SqlVal := [.null, .null, .float 5, .null]

example : inScope exCfg.coerce exText = true := by decide
example : inScope exCfg.coerce exFloat = true := by decide
example : homogeneous exText = true ∧ nullsInTextOrFloat exText = true := by decide
example : (scanAll exCfg exText).toLCol [120] =
    some { name := [120], ty := .string, cells := #[.str none, .str (some [97]), .str none, .str (some [98])] } := by rfl
example : (scanAll exCfg exFloat).toLCol [120] =
    some { name := [120], ty := .float,
           cells := #[.float F64.canonNaN, .float F64.canonNaN, .float 6, .float F64.canonNaN] } := by rfl
example : sqlColumn [120] 0 exCfg.fixed exCfg.pfloat exFloat =
    some { name := [120], ty := .float,
           cells := #[.float F64.canonNaN, .float F64.canonNaN, .float 6, .float F64.canonNaN] } := by rfl

/-- The typedness hypothesis of `scan_refines_spec` cannot be dropped: `[1, "a"]` satisfies C19's NULL condition,
the code returns the int column `[1]`, the spec an error. -/
theorem scan_mixed_counterexample :
    nullsInTextOrFloat [.int 1, .text [97]] = true ∧
    (scanAll exCfg [.int 1, .text [97]]).toLCol [120] = some (mkCol [120] .int [.int 1]) ∧
    sqlColumn [120] 0 exCfg.fixed exCfg.pfloat [.int 1, .text [97]] = none := by
  refine ⟨by decide, rfl, rfl⟩

theorem scan_leading_null_int_counterexample :
    (scanAll exCfg [.null, .int 7]).toLCol [120] = some (mkCol [120] .int [.int 7]) ∧
    sqlColumn [120] 0 exCfg.fixed exCfg.pfloat [.null, .int 7] = none := by
  refine ⟨rfl, rfl⟩

def exFrame : LFrame := { n := 2, cols := [
  { name := [105], ty := .int, cells := #[.int 1, .int (-2)] },
  { name := [102], ty := .float, cells := #[.float F64.canonNaN, .float 0x3ff0000000000000] },
  { name := [115], ty := .string, cells := #[.str none, .str (some [97])] },
  { name := [101], ty := .enum, vals := [[97], [98]], strict := true, cells := #[.str (some [98]), .str none] },
  { name := [98], ty := .bool, cells := #[.bool true, .bool false] } ] }

theorem exFrame_wf : FrameWF exFrame := by
  unfold FrameWF ColWF
  decide

example : exFrame.names.all legalName = true ∧ exFrame.names.eraseDups.length = exFrame.names.length := by decide

/-- the round trip theorem instantiated on the example frame -/
example : readSqlS exFrame.names (List.replicate exFrame.cols.length 0) id (fun _ => none)
    (storedRows ⟨34, true, [116]⟩ exFrame) = .ok { cols := exFrame.cols.map readCol, n := exFrame.n } :=
  readback_frame ⟨34, true, [116]⟩ exFrame exFrame_wf (fun _ => none) (by decide) (by decide)

example : inScope .int64ToBool [.int 1, .int 0] = true ∧ inScope .stringToFloat [.null, .text [49]] = true := by decide

example : storedRows ⟨34, true, [116]⟩ exFrame =
    [[.int 1, .float F64.canonNaN, .null, .text [98], .bool true],
     [.int (-2), .float 0x3ff0000000000000, .text [97], .null, .bool false]] := by decide


/-- the k-th placeholder: `?`, or `$` followed by the decimal digits of k+1 -/
theorem placeholder_bytes (cfg : SqlCfg) (n i : Nat) (h : i < n) :
    (placeholders cfg n)[i]'(by rw [placeholders_length]; exact h) =
      if cfg.incrementing then 36 :: (Nat.toDigits 10 (i + 1)).map (fun c => UInt8.ofNat c.toNat) else [63] := by
  rw [placeholders_spec cfg n i h, (dollar_bytes (i + 1)).1]

/-- the placeholder list splits back at the commas: exactly `n` placeholders, in order -/
theorem placeholders_split (cfg : SqlCfg) (n : Nat) (hn : 0 < n) :
    splitB 44 (intercalateB [44] (placeholders cfg n)) = placeholders cfg n := by
  apply intercalateB_split
  · intro h
    have := placeholders_length cfg n
    rw [h] at this
    simp at this
    omega
  · intro p hp
    simp only [placeholders, List.mem_map, List.mem_range] at hp
    obtain ⟨i, _, rfl⟩ := hp
    by_cases hi : cfg.incrementing = true
    · simp only [hi, if_true]; exact (dollar_bytes (i + 1)).2
    · simp [hi]

example : placeholders ⟨34, true, [116]⟩ 3 = [[36, 49], [36, 50], [36, 51]] := by decide +kernel
example : placeholders ⟨34, false, [116]⟩ 3 = [[63], [63], [63]] := by decide
example : insertText ⟨34, true, [116]⟩ [[97], [98]] = strBytes "INSERT INTO \"t\" (\"a\",\"b\") VALUES ($1,$2);" := by
  decide +kernel
example : insertText ⟨0, false, [116]⟩ [[97], [98]] = strBytes "INSERT INTO t (a,b) VALUES (?,?);" := by
  decide +kernel

#print axioms scan_refines_spec
#print axioms scan_refines_spec_partial
#print axioms run
#print axioms scan_all_null
#print axioms scan_leading_nulls_dropped
#print axioms scan_other_kind_ignored
#print axioms scan_mixed_counterexample
#print axioms readback
#print axioms readback_frame
#print axioms readback_cells_nanNull
#print axioms readback_allNaN_unreadable
#print axioms insertText_shape
#print axioms placeholders_spec
#print axioms placeholder_bytes
#print axioms placeholders_split
#print axioms escapeIdent_wrap
#print axioms intercalateB_split
#print axioms columnList_split
#print axioms toSqlS_getElem

end QF.Props.C19Sql
