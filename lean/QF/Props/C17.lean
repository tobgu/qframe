import QF.Props.Tie
import QF.Core.Small
/-!
# C17 — enum value sets: the 256-bit set used by `in`, `like`, `ilike`

`bitset_spec`: for all values `v, w < 256`: `isSet (set s v) w ⇔ w = v ∨ isSet s w`.
-/
namespace QF.Props.C17

theorem bitset_spec (s : Small.BitSet) (v w : Nat) (hv : v < 256) (hw : w < 256) :
    Small.bsIsSet (Small.bsSet s v) w = (decide (w = v) || Small.bsIsSet s w) :=
  Small.bitset_spec s v w hv hw

/-- T1: no function of this property is compared as text (the list is empty); each is regenerated as a term and proved, so
that a behaviour-changing edit makes a `gen_*_canon` theorem fail while renaming locals or reformatting changes nothing.
`maxCardinality`, `nullValue`, `New`, `NewConst`, `NewFactory`, `Factory.enumVal`, `Factory.appendString`,
`Factory.AppendByteString`, `Factory.AppendString`: `Gen.factoryInit` / `Gen.factoryMethods` / `Gen.factoryNew` /
`Gen.factoryNewConst` (east.go, constants resolved to their value), `C17Factory.gen_factory_canon`, `gen_factory_semantics`,
`gen_factory_const_semantics`. `Column.subset`: `Gen.subsetAst` (last.go), `C04LoopsGen.gen_subset_canon`,
`gen_subset_semantics`. The bitset, `isNull`, `compVal` and `subset`: `Gen.bitsetSet` / `bitsetIsSet` / `enumCompVal` /
`enumSubset` (C17EnumRestGen). `filterBuiltIn`, the kernels and the bitset builders: C02Kernels, C02Dispatch. -/
theorem tie : Tie.sameAll [] = true := by decide

/-- Today's limits as the source spells them: `maxCardinality = 255`, and the null marker `nullValue` is `maxCardinality`. -/
theorem gen_enum_constants :
    Gen.consts.lookup "ecolumn.maxCardinality" = some "255" ∧ Gen.consts.lookup "ecolumn.nullValue" = some "maxCardinality" := by decide +kernel

end QF.Props.C17
