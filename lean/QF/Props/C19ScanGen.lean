import QF.Props.C19Sql
import QF.Gen.Scan
/-!
# C19 — `Column.Scan` of today's source IS the mirror's `scan`; folded over a result-set column it is `scanAll` (tie T1)

`QF.Gen.scanAst`, `QF.Gen.scanMethods`, `QF.Gen.coerceAsts`, `QF.Gen.dataAst` (regenerated on every run by
go/cmd/extract/sast.go) hold `Column.Scan`, the helpers `Null` / `Int` / `Float` / `String` / `Bool`, the closures of
`Int64ToBool` / `StringToFloat` (coerce.go) and `Data` of /repo/internal/io/sql as decision trees `QF.SX`
(QF/Core/SExpr.lean: their Go meaning over the column struct; `float.Fixed` and `strconv.ParseFloat` are parameters).
This file proves, for the terms generated TODAY:

* `gen_scan_no_opaque`         — everything was found and translated completely
* `gen_scan_canon`             — the terms are the canonical ones
* `gen_method_semantics`       — each helper is the mirror's `Col.null` / `Col.int` / `Col.float` / `Col.string` / `Col.bool`
                                 on every column state: kind detection when the slice pointer is nil, back-fill of the
                                 counted NULLs (NaN / nil pointer) and reset of the counter, the precision, NULL
                                 counting, the "non-nullable" error
* `gen_step_semantics`         — one `Scan` of ANY driver value `t` on any column state is the mirror's `scan` of the
                                 `SqlVal` that `t` denotes (`DVal.toSql`: `string` and `[]uint8` both denote `.text`): the
                                 same error / the same next state; a value of any other dynamic type is an error.
                                 TOTAL since the repair a7b7122 "StringToFloat accepts text delivered as a byte slice":
                                 the closure of `StringToFloat` now has a `[]uint8` branch that converts the bytes and
                                 goes on like the `string` branch (before, it returned "type []uint8 is not string" while
                                 mirror and spec parse the text — regression witness `bytes_under_stringToFloat_fixed`)
* `gen_scan_semantics`         — folding today's `Scan` over ANY list of driver values from the zero column =
                                 `scanAll` of the denoted `SqlVal`s (an error as soon as a value has no denotation),
                                 for every coercion, precision, `float.Fixed` and `strconv.ParseFloat`; no hypotheses
* `gen_scan_semantics_ofSql`   — corollary: for every list of `SqlVal`s, delivered with text as `string` (`DVal.ofSql`) or
                                 as `[]uint8` (`DVal.ofSqlBytes`), today's fold = `scanAll cfg vals`
* `gen_scan_refines_spec`      — hence, in the scope of `scan_refines_spec`, `Data()` after today's fold over driver values
                                 that denote `vals` is the spec's `sqlColumn … vals`
* `gen_data_semantics`         — `Data` returns the slice the pointer field points to, nil when it is nil (`Col.toLCol`)

Witnesses at the end: plausible mutations violate the statements.
-/
namespace QF.Props.C19ScanGen
open QF QF.Props.C19Sql
attribute [local simp] SX.run SC.eval SVE.eval SDyn.bind

/-! ## Canonical terms -/

/-- `c.data.X = append(c.data.X, v)` and the end of the method -/
def push (s : SSlice) (v : SVE) : SX := .append s v .retNil

/-- an appender without back-fill: `if c.ptr == nil { c.kind = K; c.ptr = &c.data.X }; c.data.X = append(c.data.X, v)` -/
def plainAppender (kd : SKind) (s : SSlice) : SX :=
  .ifC .ptrNil (.setKind kd (.setPtr s (push s .arg))) (push s .arg)

/-- `if c.precision > 0 { f = float.Fixed(f, c.precision) }; c.data.Floats = append(c.data.Floats, f)` -/
def floatTail : SX := .ifC .precPos (.fixArg (push .floats .arg)) (push .floats .arg)

def strTail : SX := push .strings (.addrOf .arg)

/-- an appender with back-fill of the NULLs counted before the first value -/
def fillAppender (kd : SKind) (s : SSlice) (null : SVE) (tail : SX) : SX :=
  .ifC .ptrNil (.setKind kd (.setPtr s (.ifC .nullsPos (.backfill s null (.clearNulls tail)) tail))) tail

def canonNull : SX :=
  .ifC (.kindIs .invalid) (.incNulls .retNil)
    (.ifC (.kindIs .float) (push .floats .nan) (.ifC (.kindIs .string) (push .strings .nilPtr) .retErr))

def canonMethods : List (SMeth × SX) := [
  (.null, canonNull),
  (.int, plainAppender .int .ints),
  (.float, fillAppender .float .floats .nan floatTail),
  (.string, fillAppender .string .strings .nilPtr strTail),
  (.bool, plainAppender .bool .bools)]

/-- `c.<Method>(v); return nil` -/
def callRet (m : SMeth) (v : SVE) : SX := .call m v .retNil

/-- `err := c.Null(); if err != nil { return err }; return nil` / `return c.Null()` -/
def nullRet : SX := .callNull .retErr .retNil

def canonScan : SX :=
  .ifC .hasCoerce .retCoerce
    (.ifDyn .bool (callRet .bool .arg) (.ifDyn .string (callRet .string .arg) (.ifDyn .int64 (callRet .int (.intOf .arg))
      (.ifDyn .bytes (callRet .string (.stringOf .arg)) (.ifDyn .float64 (callRet .float .arg)
        (.ifDyn .null nullRet .retErr))))))

def canonI2B : SX := .ifDyn .int64 (callRet .bool (.neZero .arg)) .retErr

/-- `f, err := strconv.ParseFloat(v, 64); if err != nil { return error }; c.Float(f); return nil` -/
def parseTail : SX := .parseFloat .retErr (callRet .float .parsed)

/-- `v, ok := t.(string); if b, isBytes := t.([]uint8); isBytes { v, ok = string(b), true }; if !ok { return error }; …` -/
def canonS2F : SX :=
  .ifC .argNil nullRet (.ifDyn .string parseTail (.ifDyn .bytes (.bindArg (.stringOf .arg) parseTail) .retErr))

/-- the closure of `StringToFloat` before the repair a7b7122: only `t.(string)` -/
def preFixS2F : SX := .ifC .argNil nullRet (.ifDyn .string parseTail .retErr)

def canonData : SX := .ifC .ptrNil .retNoData .retPointee

theorem gen_scan_canon :
    Gen.scanMethods = canonMethods ∧ Gen.scanAst = canonScan ∧ Gen.dataAst = canonData ∧
    Gen.coerceAsts = [("Int64ToBool", canonI2B), ("StringToFloat", canonS2F)] := by decide

theorem gen_scan_no_opaque :
    Gen.scanMethods.map (·.1) = [.null, .int, .float, .string, .bool] ∧
    (∀ p ∈ Gen.scanMethods, p.2.hasOpaque = false) ∧ Gen.scanAst.hasOpaque = false ∧ Gen.dataAst.hasOpaque = false ∧
    Gen.coerceAsts.map (·.1) = ["Int64ToBool", "StringToFloat"] ∧ (∀ p ∈ Gen.coerceAsts, p.2.hasOpaque = false) := by decide

/-! ## The state of the column, the parameters, the program -/

def kindOfS : SKind → Kind
  | .invalid => .invalid | .int => .int | .float => .float | .bool => .bool | .string => .string

def sliceKind : SSlice → Kind
  | .ints => .int | .floats => .float | .bools => .bool | .strings => .string

/-- the mirror's `Col` of a column state -/
def toCol (c : SCol) : Col :=
  { kind := kindOfS c.kind, nulls := c.nulls, ptr := c.ptr.map sliceKind, ints := c.ints, floats := c.floats,
    bools := c.bools, strings := c.strings }

def params (cfg : Cfg) : SParams := { precision := cfg.precision, fixedFn := cfg.fixedFn, pfloat := cfg.pfloat }

/-- the program for a column with the coercion `co`, from the terms `ms`, `sc`, `cos` -/
def progOf (ms : List (SMeth × SX)) (sc : SX) (cos : List (String × SX)) (co : Coerce) : Option SProg :=
  match co with
  | .none => some { methods := ms, scan := sc, coerce := none }
  | .int64ToBool => (cos.lookup "Int64ToBool").map (fun b => { methods := ms, scan := sc, coerce := some b })
  | .stringToFloat => (cos.lookup "StringToFloat").map (fun b => { methods := ms, scan := sc, coerce := some b })

def canonProg (co : Coerce) : SProg :=
  { methods := canonMethods, scan := canonScan,
    coerce := match co with | .none => none | .int64ToBool => some canonI2B | .stringToFloat => some canonS2F }

theorem gen_prog (co : Coerce) : progOf Gen.scanMethods Gen.scanAst Gen.coerceAsts co = some (canonProg co) := by
  rw [gen_scan_canon.1, gen_scan_canon.2.1, gen_scan_canon.2.2.2]
  cases co <;> rfl

/-- the `SqlVal` a driver value denotes: `string` and `[]uint8` are both text; other dynamic types denote nothing -/
def DVal.toSql : DVal → Option SqlVal
  | .bool b => some (.bool b)
  | .str s => some (.text s)
  | .int i => some (.int i)
  | .bytes s => some (.text s)
  | .float f => some (.float f)
  | .null => some .null
  | .other => none

def toSqlAll : List DVal → Option (List SqlVal)
  | [] => some []
  | t :: ts =>
    match DVal.toSql t, toSqlAll ts with
    | some v, some vs => some (v :: vs)
    | _, _ => none

/-- a `SqlVal` delivered by a driver that hands out text as `string` -/
def DVal.ofSql : SqlVal → DVal
  | .bool b => .bool b
  | .text s => .str s
  | .int i => .int i
  | .float f => .float f
  | .null => .null

/-- a `SqlVal` delivered by a driver that hands out text as `[]uint8` -/
def DVal.ofSqlBytes : SqlVal → DVal
  | .bool b => .bool b
  | .text s => .bytes s
  | .int i => .int i
  | .float f => .float f
  | .null => .null

/-- what a call returns, in the mirror's types: `none` = no meaning, `some none` = an error -/
def view : SRes → Option (Option Col)
  | .ok c => some (some (toCol c))
  | .err => some none
  | .stuck => none

/-- one `Scan` of today's source: `none` = no meaning -/
def genStep (cfg : Cfg) (c : SCol) (t : DVal) : Option (Option SCol) :=
  match progOf Gen.scanMethods Gen.scanAst Gen.coerceAsts cfg.coerce with
  | some G => G.step (params cfg) c t
  | none => none

/-- today's `Scan` folded over the values of a result-set column, from the zero `Column` -/
def genScanAll (cfg : Cfg) (vals : List DVal) : Option (Option SCol) :=
  match progOf Gen.scanMethods Gen.scanAst Gen.coerceAsts cfg.coerce with
  | some G => G.scanAll (params cfg) vals {}
  | none => none

/-! ## The helpers -/

theorem lookup_null : canonMethods.lookup .null = some canonNull := by decide
theorem lookup_int : canonMethods.lookup .int = some (plainAppender .int .ints) := by decide
theorem lookup_float : canonMethods.lookup .float = some (fillAppender .float .floats .nan floatTail) := by decide
theorem lookup_string : canonMethods.lookup .string = some (fillAppender .string .strings .nilPtr strTail) := by decide
theorem lookup_bool : canonMethods.lookup .bool = some (plainAppender .bool .bools) := by decide

section Methods
variable (cfg : Cfg) (co : Coerce)

theorem method_null (c : SCol) :
    view ((canonProg co).method (params cfg) .null .none c) = some ((toCol c).null) := by
  obtain ⟨kind, nulls, ptr, ints, floats, bools, strings⟩ := c
  cases kind <;>
    simp [SProg.method, canonProg, lookup_null, canonNull, push, SCol.push, view, toCol, Col.null, kindOfS]

theorem method_int (c : SCol) (i : Int) :
    view ((canonProg co).method (params cfg) .int (.int i) c) = some (some ((toCol c).int i)) := by
  obtain ⟨kind, nulls, ptr, ints, floats, bools, strings⟩ := c
  cases ptr <;>
    simp [SProg.method, canonProg, lookup_int, plainAppender, push, SCol.push, view, toCol, Col.int, kindOfS, sliceKind]

theorem method_bool (c : SCol) (b : Bool) :
    view ((canonProg co).method (params cfg) .bool (.bool b) c) = some (some ((toCol c).bool b)) := by
  obtain ⟨kind, nulls, ptr, ints, floats, bools, strings⟩ := c
  cases ptr <;>
    simp [SProg.method, canonProg, lookup_bool, plainAppender, push, SCol.push, view, toCol, Col.bool, kindOfS, sliceKind]

theorem method_string (c : SCol) (s : Bytes) :
    view ((canonProg co).method (params cfg) .string (.str s) c) = some (some ((toCol c).string s)) := by
  obtain ⟨kind, nulls, ptr, ints, floats, bools, strings⟩ := c
  cases ptr with
  | some p =>
    simp [SProg.method, canonProg, lookup_string, fillAppender, strTail, push, SCol.push,
      view, toCol, Col.string, kindOfS, sliceKind]
  | none =>
    by_cases hn : nulls > 0 <;>
      simp [SProg.method, canonProg, lookup_string, fillAppender, strTail, push, SCol.push,
        view, toCol, Col.string, kindOfS, sliceKind, hn]

theorem method_float (c : SCol) (f : UInt64) :
    view ((canonProg co).method (params cfg) .float (.float f) c) = some (some ((toCol c).float cfg f)) := by
  obtain ⟨kind, nulls, ptr, ints, floats, bools, strings⟩ := c
  cases ptr with
  | some p =>
    by_cases hp : cfg.precision > 0 <;>
      simp [SProg.method, canonProg, lookup_float, fillAppender, floatTail, push, SCol.push,
        view, toCol, Col.float, kindOfS, sliceKind, params, hp]
  | none =>
    by_cases hn : nulls > 0 <;> by_cases hp : cfg.precision > 0 <;>
      simp [SProg.method, canonProg, lookup_float, fillAppender, floatTail, push, SCol.push,
        view, toCol, Col.float, kindOfS, sliceKind, params, hn, hp]

end Methods

/-! ## One `Scan` -/

section Step

theorem call_ret (P : SParams) (call : SMeth → SRV → SCol → SRes) (co : Option (DVal → SCol → SRes)) (ρ : SEnv) (c : SCol)
    (m : SMeth) (v : SVE) (x : Col) (hm : m ≠ .null) (h : view (call m (v.eval ρ) c) = some (some x)) :
    view ((callRet m v).run P call co ρ c) = some (some x) := by
  cases hr : call m (v.eval ρ) c with
  | ok c' => rw [hr] at h; cases m <;> first | exact absurd rfl hm | simpa [callRet, SX.run, hr, view] using h
  | err => rw [hr] at h; simp [view] at h
  | stuck => rw [hr] at h; simp [view] at h

theorem callNull_ret (P : SParams) (call : SMeth → SRV → SCol → SRes) (co : Option (DVal → SCol → SRes)) (ρ : SEnv) (c : SCol)
    (r : Option Col) (h : view (call .null .none c) = some r) :
    view (nullRet.run P call co ρ c) = some r := by
  cases hr : call .null .none c with
  | ok c' => rw [hr] at h; simpa [nullRet, SX.run, hr, view] using h
  | err => rw [hr] at h; simpa [nullRet, SX.run, hr, view] using h
  | stuck => rw [hr] at h; simp [view] at h

theorem step_view (G : SProg) (P : SParams) (c : SCol) (t : DVal) :
    (G.step P c t).map (fun r => r.map toCol) =
      view (G.scan.run P (G.method P)
        (G.coerce.map (fun b v c => b.run P (G.method P) none { arg := .dyn v } c)) { arg := .dyn t } c) := by
  unfold SProg.step
  simp only []
  cases G.scan.run P (G.method P) (G.coerce.map (fun b v c => b.run P (G.method P) none { arg := .dyn v } c))
    { arg := .dyn t } c <;> rfl

variable (cfg : Cfg)

/-- the type switch of `Scan` (no coercion) -/
theorem scan_plain (co : Coerce) (c : SCol) (t : DVal) :
    view (canonScan.run (params cfg) ((canonProg co).method (params cfg)) none { arg := .dyn t } c) =
      some ((DVal.toSql t).bind (scanPlain cfg (toCol c))) := by
  cases t <;> simp only [canonScan, SX.run, SC.eval, SDyn.bind, Option.isSome_none, DVal.toSql, Option.bind_some,
    Option.bind_none, scanPlain]
  · exact call_ret _ _ _ _ _ _ _ _ (by decide) (method_bool cfg co c _)
  · exact call_ret _ _ _ _ _ _ _ _ (by decide) (method_string cfg co c _)
  · exact call_ret _ _ _ _ _ _ _ _ (by decide) (method_int cfg co c _)
  · exact call_ret _ _ _ _ _ _ _ _ (by decide) (method_string cfg co c _)
  · exact call_ret _ _ _ _ _ _ _ _ (by decide) (method_float cfg co c _)
  · exact callNull_ret _ _ _ _ _ _ (method_null cfg co c)
  · rfl

/-- the closure of `Int64ToBool` -/
theorem coerce_i2b (co : Coerce) (c : SCol) (t : DVal) :
    view (canonI2B.run (params cfg) ((canonProg co).method (params cfg)) none { arg := .dyn t } c) =
      some ((DVal.toSql t).bind (coerceInt64ToBool (toCol c))) := by
  cases t with
  | int i =>
    simp only [canonI2B, SX.run, SDyn.bind, DVal.toSql, Option.bind_some, coerceInt64ToBool]
    exact call_ret _ _ _ _ _ _ _ _ (by decide) (method_bool cfg co c (i != 0))
  | _ => simp [canonI2B, DVal.toSql, view, coerceInt64ToBool]

/-- parsing the text `s` bound to the value variable and appending the float -/
theorem parseTail_run (co : Coerce) (c : SCol) (s : Bytes) (ρ : SEnv) (hρ : ρ.arg = .str s) :
    view (parseTail.run (params cfg) ((canonProg co).method (params cfg)) none ρ c) =
      some (match cfg.pfloat s with
        | some f => some ((toCol c).float cfg f)
        | none => none) := by
  simp only [parseTail, SX.run, hρ, params]
  cases hp : cfg.pfloat s with
  | none => simp [view]
  | some f =>
    simp only []
    exact call_ret _ _ _ _ _ _ _ _ (by decide) (method_float cfg co c f)

/-- the closure of `StringToFloat`, for every driver value -/
theorem coerce_s2f (co : Coerce) (c : SCol) (t : DVal) :
    view (canonS2F.run (params cfg) ((canonProg co).method (params cfg)) none { arg := .dyn t } c) =
      some ((DVal.toSql t).bind (coerceStringToFloat cfg (toCol c))) := by
  cases t with
  | null =>
    simp only [canonS2F, SX.run, SC.eval, DVal.toSql, Option.bind_some, coerceStringToFloat]
    exact callNull_ret _ _ _ _ _ _ (method_null cfg co c)
  | str s =>
    simp only [canonS2F, SX.run, SC.eval, SDyn.bind, DVal.toSql, Option.bind_some, coerceStringToFloat]
    rw [parseTail_run cfg co c s _ rfl]
    cases cfg.pfloat s <;> rfl
  | bytes s =>
    simp only [canonS2F, SX.run, SC.eval, SDyn.bind, SVE.eval, DVal.toSql, Option.bind_some, coerceStringToFloat]
    rw [parseTail_run cfg co c s _ rfl]
    cases cfg.pfloat s <;> rfl
  | _ => simp [canonS2F, DVal.toSql, view, coerceStringToFloat]

/-- **One `Scan` of the canonical program is the mirror's `scan`.** -/
theorem canon_step (c : SCol) (t : DVal) :
    ((canonProg cfg.coerce).step (params cfg) c t).map (fun r => r.map toCol) =
      some ((DVal.toSql t).bind (scan cfg (toCol c))) := by
  rw [step_view]
  unfold scan
  rcases hc : cfg.coerce with _ | _ | _
  · exact scan_plain cfg .none c t
  · simp only [canonProg, Option.map_some, canonScan, SX.run, SC.eval, Option.isSome_some]
    exact coerce_i2b cfg .int64ToBool c t
  · simp only [canonProg, Option.map_some, canonScan, SX.run, SC.eval, Option.isSome_some]
    exact coerce_s2f cfg .stringToFloat c t

end Step

/-! ## The fold -/

theorem toSqlAll_cons (t : DVal) (ts : List DVal) :
    toSqlAll (t :: ts) = (DVal.toSql t).bind (fun v => (toSqlAll ts).map (fun vs => v :: vs)) := by
  simp only [toSqlAll]
  cases DVal.toSql t <;> cases toSqlAll ts <;> rfl

/-- **The canonical `Scan` folded over a list of driver values is the mirror's fold of `scan`**, from any column state. -/
theorem canon_scanAll (cfg : Cfg) : ∀ (vals : List DVal) (c : SCol),
    ((canonProg cfg.coerce).scanAll (params cfg) vals c).map (fun r => r.map toCol) =
      some ((toSqlAll vals).bind (fun svs => svs.foldlM (scan cfg) (toCol c)))
  | [], c => by simp [SProg.scanAll, toSqlAll]
  | t :: ts, c => by
    obtain ⟨r, hs, hr⟩ := Option.map_eq_some_iff.1 (canon_step cfg c t)
    rw [toSqlAll_cons, SProg.scanAll, hs]
    cases hv : DVal.toSql t with
    | none =>
      rw [hv] at hr
      cases r with
      | none => rfl
      | some c' => cases hr
    | some sv =>
      rw [hv, Option.bind_some] at hr
      cases r with
      | none => cases toSqlAll ts <;> simp [List.foldlM_cons, ← hr]
      | some c' =>
        simp only []
        rw [canon_scanAll cfg ts c']
        cases toSqlAll ts <;> simp [List.foldlM_cons, ← hr]

/-! ## Today's source -/

/-- **Each helper of today's source is the mirror's method**, on every column state `c`: `Null` (`none` = the
"non-nullable type" error), `Int`, `Float` (precision and back-fill), `String` (back-fill), `Bool`. -/
theorem gen_method_semantics (cfg : Cfg) (c : SCol) :
    let G : SProg := { methods := Gen.scanMethods, scan := Gen.scanAst, coerce := none }
    view (G.method (params cfg) .null .none c) = some ((toCol c).null) ∧
    (∀ i, view (G.method (params cfg) .int (.int i) c) = some (some ((toCol c).int i))) ∧
    (∀ f, view (G.method (params cfg) .float (.float f) c) = some (some ((toCol c).float cfg f))) ∧
    (∀ s, view (G.method (params cfg) .string (.str s) c) = some (some ((toCol c).string s))) ∧
    (∀ b, view (G.method (params cfg) .bool (.bool b) c) = some (some ((toCol c).bool b))) := by
  simp only [gen_scan_canon.1, gen_scan_canon.2.1]
  exact ⟨method_null cfg .none c, method_int cfg .none c, method_float cfg .none c, method_string cfg .none c,
    method_bool cfg .none c⟩

/-- **One `Scan` of today's source is the mirror's `scan`.** For every configuration (coercion, precision,
`float.Fixed`, `strconv.ParseFloat`), every column state `c` and EVERY driver value `t`: the extracted `Scan` has a
meaning; it returns an error exactly when `t` denotes no `SqlVal` (a dynamic type the type switch does not know) or the
mirror's `scan` fails on the denoted value, and otherwise leaves the column in the state the mirror computes. -/
theorem gen_step_semantics (cfg : Cfg) (c : SCol) (t : DVal) :
    (genStep cfg c t).map (fun r => r.map toCol) = some ((DVal.toSql t).bind (scan cfg (toCol c))) := by
  unfold genStep
  rw [gen_prog]
  exact canon_step cfg c t

/-- **Folding today's `Scan` over any list of driver values is the mirror's `scanAll`** of the values they denote;
`toSqlAll vals = none` (some value has a dynamic type `Scan` does not know) gives an error. No hypotheses. -/
theorem gen_scan_semantics (cfg : Cfg) (vals : List DVal) :
    (genScanAll cfg vals).map (fun r => r.map toCol) = some ((toSqlAll vals).bind (scanAll cfg)) := by
  unfold genScanAll
  rw [gen_prog]
  exact canon_scanAll cfg vals {}

theorem toSqlAll_ofSql (vals : List SqlVal) : toSqlAll (vals.map DVal.ofSql) = some vals := by
  induction vals with
  | nil => rfl
  | cons v vs ih =>
    rw [List.map_cons, toSqlAll_cons, ih]
    cases v <;> rfl

theorem toSqlAll_ofSqlBytes (vals : List SqlVal) : toSqlAll (vals.map DVal.ofSqlBytes) = some vals := by
  induction vals with
  | nil => rfl
  | cons v vs ih =>
    rw [List.map_cons, toSqlAll_cons, ih]
    cases v <;> rfl

/-- … in particular for every list of `SqlVal`s, whether the driver delivers text as `string` or as `[]uint8`. -/
theorem gen_scan_semantics_ofSql (cfg : Cfg) (vals : List SqlVal) :
    (genScanAll cfg (vals.map DVal.ofSql)).map (fun r => r.map toCol) = some (scanAll cfg vals) ∧
    (genScanAll cfg (vals.map DVal.ofSqlBytes)).map (fun r => r.map toCol) = some (scanAll cfg vals) := by
  rw [gen_scan_semantics, gen_scan_semantics, toSqlAll_ofSql, toSqlAll_ofSqlBytes]
  exact ⟨rfl, rfl⟩

/-! ## `Data` -/

/-- `Data()` followed by `createColumn`, for the term `t` of `Data` -/
def dataOf (t : SX) (c : SCol) (name : Bytes) : Option LCol :=
  match t.runData c with
  | some (some s) => some (mkCol name (sliceKind s) ((toCol c).cellsOf (sliceKind s)))
  | _ => none

/-- **`Data` of today's source** returns the slice the pointer field points to (nil when it is nil): the mirror's
`Col.toLCol`. -/
theorem gen_data_semantics (c : SCol) (name : Bytes) :
    Gen.dataAst.runData c = some c.ptr ∧ dataOf Gen.dataAst c name = (toCol c).toLCol name := by
  rw [gen_scan_canon.2.2.1]
  obtain ⟨kind, nulls, ptr, ints, floats, bools, strings⟩ := c
  cases ptr <;> simp [canonData, SX.runData, dataOf, Col.toLCol, toCol]

/-- the column ReadSQL hands to `qframe.New`: today's `Scan` over the values, then today's `Data` -/
def genColumn (cfg : Cfg) (name : Bytes) (vals : List DVal) : Option LCol :=
  match genScanAll cfg vals with
  | some (some c) => dataOf Gen.dataAst c name
  | _ => none

/-- **Today's `Scan` and `Data` refine the spec** wherever the mirror does (`scan_refines_spec`): for driver values
`dvals` that denote `vals` (text as `string` or as `[]uint8`, in any mixture). -/
theorem gen_scan_refines_spec (cfg : Cfg) (name : Bytes) (dvals : List DVal) (vals : List SqlVal)
    (hd : toSqlAll dvals = some vals) (h : inScope cfg.coerce vals = true) :
    genColumn cfg name dvals = sqlColumn name cfg.coerce.toNat cfg.fixed cfg.pfloat vals := by
  rw [← scan_refines_spec cfg name vals h]
  have hs := gen_scan_semantics cfg dvals
  rw [hd] at hs
  obtain ⟨r, hg, hr⟩ := Option.map_eq_some_iff.1 hs
  unfold genColumn
  rw [hg, ← Option.bind_some (f := scanAll cfg), ← hr]
  cases r with
  | none => rfl
  | some c => exact (gen_data_semantics c name).2

/-! ## FINDING and witnesses -/

section Witnesses

private def one : Bytes := [49]
private def f1 : UInt64 := 0x3ff0000000000000

/-- a configuration for evaluation: "1" parses to 1.0, `float.Fixed(f, p)` is modelled by `f + p` (any visible change) -/
def cfgW (co : Coerce) (precision : Nat) : Cfg :=
  { coerce := co, precision := precision, fixedFn := fun p f => f + p.toUInt64,
    pfloat := fun s => if s = one then some f1 else none }

/-- one `Scan` with the coercion closures `cos` in place of today's -/
def stepW (cos : List (String × SX)) (cfg : Cfg) (c : SCol) (t : DVal) : Option (Option SCol) :=
  match progOf Gen.scanMethods Gen.scanAst cos cfg.coerce with
  | some G => G.step (params cfg) c t
  | none => none

/-- **Regression witness for the repaired `StringToFloat` coercion on `[]uint8` values** (fix a7b7122). Column with the
`StringToFloat` coercion, one row whose driver value is the `[]uint8` text "1" (what e.g. the MySQL driver delivers for
DECIMAL and text columns). The closure as it was BEFORE the repair (`preFixS2F`: it only asserts `t.(string)`) returns
an error ("type []uint8 is not string"), while the mirror's `scan` — for which `string` and `[]uint8` are the same
`SqlVal.text` — appends 1.0 and the spec's `sqlColumn` returns the float column `[1.0]`. TODAY's closure accepts the
bytes and leaves exactly the mirror's state, the same as for the `string` "1". -/
theorem bytes_under_stringToFloat_fixed :
    stepW [("Int64ToBool", canonI2B), ("StringToFloat", preFixS2F)] (cfgW .stringToFloat 0) {} (.bytes one) = some none ∧
    DVal.toSql (.bytes one) = some (.text one) ∧
    ((scan (cfgW .stringToFloat 0) {} (.text one)).map (·.floats)) = some [f1] ∧
    ((sqlColumn [97] 2 (cfgW .stringToFloat 0).fixed (cfgW .stringToFloat 0).pfloat [.text one]).map (·.cells.toList)) =
      some [.float f1] ∧
    genStep (cfgW .stringToFloat 0) {} (.bytes one) = some (some { kind := .float, ptr := some .floats, floats := [f1] }) ∧
    genStep (cfgW .stringToFloat 0) {} (.str one) = genStep (cfgW .stringToFloat 0) {} (.bytes one) ∧
    stepW Gen.coerceAsts (cfgW .stringToFloat 0) {} (.bytes one) = genStep (cfgW .stringToFloat 0) {} (.bytes one) ∧
    genStep (cfgW .none 0) {} (.bytes one) = some (some { kind := .string, ptr := some .strings, strings := [some one] }) := by
  decide

/-- a `[]uint8` branch that forgets to set `ok` (`v = string(b)` only) still rejects the bytes; one that does not convert
(`ok = true` only) has no text to parse — the pre-fix term and these are told apart from today's by `gen_step_semantics` -/
example : stepW [("Int64ToBool", canonI2B), ("StringToFloat", .ifC .argNil nullRet (.ifDyn .string parseTail
      (.ifDyn .bytes (.bindArg (.stringOf .arg) .retErr) .retErr)))] (cfgW .stringToFloat 0) {} (.bytes one) = some none ∧
    stepW [("Int64ToBool", canonI2B), ("StringToFloat", .ifC .argNil nullRet (.ifDyn .string parseTail
      (.ifDyn .bytes parseTail .retErr)))] (cfgW .stringToFloat 0) {} (.bytes one) = none := by decide

/-- run a program made of the given terms on a column of driver values (`none`: no meaning; `some none`: an error) -/
def runW (ms : List (SMeth × SX)) (sc : SX) (cfg : Cfg) (vals : List DVal) : Option (Option SCol) :=
  match progOf ms sc [("Int64ToBool", canonI2B), ("StringToFloat", canonS2F)] cfg.coerce with
  | some G => G.scanAll (params cfg) vals {}
  | none => none

/-- what is observed of a column: the slice `Data` returns and the slices -/
structure Obs where
  ptr : Option SSlice
  floats : List UInt64
  strings : List (Option Bytes)
  ints : List Int
  deriving DecidableEq, Repr

def mirrorW (cfg : Cfg) (vals : List SqlVal) : Option Obs :=
  (scanAll cfg vals).map (fun c => ⟨c.ptr.bind (fun k => match k with
    | .int => some .ints | .float => some .floats | .bool => some .bools | .string => some .strings | .invalid => none),
    c.floats, c.strings, c.ints⟩)

def obsW (r : Option (Option SCol)) : Option Obs :=
  match r with
  | some (some c) => some ⟨c.ptr, c.floats, c.strings, c.ints⟩
  | _ => none

def withMethod (m : SMeth) (t : SX) : List (SMeth × SX) := canonMethods.map (fun p => if p.1 = m then (m, t) else p)

/-- the canonical terms agree with the mirror on the inputs used below -/
example : obsW (runW canonMethods canonScan (cfgW .none 2) [.null, .null, .float f1]) =
      mirrorW (cfgW .none 2) [.null, .null, .float f1] ∧
    obsW (runW canonMethods canonScan (cfgW .none 0) [.null, .str one, .null]) = mirrorW (cfgW .none 0) [.null, .text one, .null] ∧
    obsW (runW canonMethods canonScan (cfgW .none 0) [.int 1, .null]) = mirrorW (cfgW .none 0) [.int 1, .null] := by decide

/-- `Float` without the back-fill loses the NULLs in front of the first value: -/
example : obsW (runW (withMethod .float (.ifC .ptrNil (.setKind .float (.setPtr .floats floatTail)) floatTail)) canonScan
      (cfgW .none 0) [.null, .null, .float f1]) = some ⟨some .floats, [f1], [], []⟩ ∧
    mirrorW (cfgW .none 0) [.null, .null, .float f1] = some ⟨some .floats, [F64.canonNaN, F64.canonNaN, f1], [], []⟩ := by decide

/-- `Float` that does not reset the counter is not visible in the column, but `Float` without the precision is: -/
example : obsW (runW (withMethod .float (fillAppender .float .floats .nan (push .floats .arg))) canonScan
      (cfgW .none 2) [.float f1]) = some ⟨some .floats, [f1], [], []⟩ ∧
    mirrorW (cfgW .none 2) [.float f1] = some ⟨some .floats, [f1 + 2], [], []⟩ := by decide

/-- `Null` that does not count the NULLs in front of the first value: -/
example : obsW (runW (withMethod .null (.ifC (.kindIs .invalid) .retNil
      (.ifC (.kindIs .float) (push .floats .nan) (.ifC (.kindIs .string) (push .strings .nilPtr) .retErr)))) canonScan
      (cfgW .none 0) [.null, .str one]) = some ⟨some .strings, [], [some one], []⟩ ∧
    mirrorW (cfgW .none 0) [.null, .text one] = some ⟨some .strings, [], [none, some one], []⟩ := by decide

/-- `Null` that accepts a NULL in an int column (no "non-nullable type" error): -/
example : obsW (runW (withMethod .null (.ifC (.kindIs .invalid) (.incNulls .retNil)
      (.ifC (.kindIs .float) (push .floats .nan) (.ifC (.kindIs .string) (push .strings .nilPtr) .retNil)))) canonScan
      (cfgW .none 0) [.int 1, .null]) = some ⟨some .ints, [], [], [1]⟩ ∧
    mirrorW (cfgW .none 0) [.int 1, .null] = none := by decide

/-- `String` that sets the kind but not the pointer: `Data()` stays nil -/
example : obsW (runW (withMethod .string (.ifC .ptrNil (.setKind .string strTail) strTail)) canonScan
      (cfgW .none 0) [.str one]) = some ⟨none, [], [some one], []⟩ ∧
    mirrorW (cfgW .none 0) [.text one] = some ⟨some .strings, [], [some one], []⟩ := by decide

/-- a type switch without the `[]uint8` clause rejects text delivered as bytes: -/
example : obsW (runW canonMethods (.ifC .hasCoerce .retCoerce (.ifDyn .bool (callRet .bool .arg) (.ifDyn .string (callRet .string .arg)
      (.ifDyn .int64 (callRet .int (.intOf .arg)) (.ifDyn .float64 (callRet .float .arg) (.ifDyn .null nullRet .retErr))))))
      (cfgW .none 0) [.bytes one]) = none ∧
    (toSqlAll [.bytes one]).bind (mirrorW (cfgW .none 0)) = some ⟨some .strings, [], [some one], []⟩ := by decide

/-- `Scan` that ignores the coercion field: -/
example : obsW (runW canonMethods (.ifDyn .int64 (callRet .int (.intOf .arg)) .retErr) (cfgW .int64ToBool 0) [.int 1]) =
      some ⟨some .ints, [], [], [1]⟩ ∧
    (scanAll (cfgW .int64ToBool 0) [.int 1]).map (fun c => (c.ptr, c.bools)) = some (some .bool, [true]) := by decide

end Witnesses

#print axioms gen_scan_canon
#print axioms gen_scan_no_opaque
#print axioms gen_method_semantics
#print axioms gen_step_semantics
#print axioms gen_scan_semantics
#print axioms gen_scan_semantics_ofSql
#print axioms gen_data_semantics
#print axioms gen_scan_refines_spec
#print axioms bytes_under_stringToFloat_fixed

end QF.Props.C19ScanGen
