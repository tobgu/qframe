import QF.Spec.Filter
import QF.Spec.Ops
import QF.Core.ListFacts
import QF.Props.C09Equals
/-!
# C10 — error discipline, on the specification

The replay driver relies on these facts about the spec functions of Ops.lean:

* `applyS` stops at the first failing instruction: `applyS_err_iff`, `firstFailing_le`,
  `applyS_stops_at_first_failing`, `applyS_append_err`;
* `filteredApplyS` errs when the clause is ill-formed: `filteredApplyS_err_iff`;
* `sliceS` / `selectS` / `dropS` / `copyS` reject exactly the invalid requests:
  `sliceS_err_iff`, `selectS_err_iff`, `dropS_err_iff`, `copyS_err_iff`;
* Sort / Distinct have no acceptable result exactly when a named column is unknown: `sortKeys_none_iff`,
  `isSortedResult_unknown`, `distinctKeys_none_iff`, `isDistinctResult_unknown`;
* `groupAggS` rejects unknown grouping columns, unknown aggregation columns, and — later — taken result names and
  functions not defined for the column type: `groupAggS_err_iff`;
* `applyInstr` reads an instruction by its number of source columns and rejects unknown ones: `instrArity`,
  `applyInstr_no_src1`, `applyInstr_unknown_src1`, `applyInstr_unknown_src2`;
* `equalsS` is false when the row counts or the column names differ: `equalsS_shape`.
-/
namespace QF.Props.C10Sticky
open QF

theorem res_ok_ne_err (f : LFrame) : Res.ok f ≠ Res.err := by intro h; cases h

/-! ## `applyS` -/

theorem firstFailing_le (up : UpperOracle) (f : LFrame) (m : Nat → Bool) (is : List Instr) :
    firstFailing up f m is ≤ is.length := by
  induction is generalizing f with
  | nil => simp [firstFailing]
  | cons i t ih =>
    unfold firstFailing
    cases h : applyInstr up f m i with
    | ok f' => have := ih f'; simp only [List.length_cons]; omega
    | err => simp

/-- `applyS` fails exactly when some instruction fails (on the frame built by its predecessors). -/
theorem applyS_err_iff (up : UpperOracle) (f : LFrame) (m : Nat → Bool) (is : List Instr) :
    applyS up f m false is = .err ↔ firstFailing up f m is < is.length := by
  induction is generalizing f with
  | nil => simp [applyS, firstFailing]
  | cons i t ih =>
    unfold applyS firstFailing
    cases h : applyInstr up f m i with
    | ok f' =>
      simp only [List.length_cons]
      rw [ih f']; omega
    | err => simp

theorem applyS_ok_iff (up : UpperOracle) (f : LFrame) (m : Nat → Bool) (is : List Instr) :
    (∃ g, applyS up f m false is = .ok g) ↔ firstFailing up f m is = is.length := by
  have h1 := applyS_err_iff up f m is
  have h2 := firstFailing_le up f m is
  constructor
  · rintro ⟨g, hg⟩
    have : ¬ firstFailing up f m is < is.length := by
      intro h; rw [← h1, hg] at h; cases h
    omega
  · intro h
    cases hg : applyS up f m false is with
    | ok g => exact ⟨g, rfl⟩
    | err => have := h1.1 hg; omega

/-- The instructions before the first failing one are all applied, and the next one fails on the frame
they built: the error is raised by that instruction and nothing after it is looked at. -/
theorem applyS_stops_at_first_failing (up : UpperOracle) (f : LFrame) (m : Nat → Bool) (is : List Instr) :
    ∃ g, applyS up f m false (is.take (firstFailing up f m is)) = .ok g ∧
      ∀ i, is[firstFailing up f m is]? = some i → applyInstr up g m i = .err := by
  induction is generalizing f with
  | nil => exact ⟨f, rfl, fun i h => by simp at h⟩
  | cons i t ih =>
    cases h : applyInstr up f m i with
    | ok f' =>
      have e : firstFailing up f m (i :: t) = firstFailing up f' m t + 1 := by
        conv => lhs; unfold firstFailing
        rw [h]; simp only []; omega
      obtain ⟨g, hg, hfail⟩ := ih f'
      refine ⟨g, ?_, ?_⟩
      · rw [e, List.take_succ_cons]
        unfold applyS
        rw [h]; exact hg
      · intro j hj
        rw [e, List.getElem?_cons_succ] at hj
        exact hfail j hj
    | err =>
      have e : firstFailing up f m (i :: t) = 0 := by
        conv => lhs; unfold firstFailing
        rw [h]
      refine ⟨f, by rw [e]; rfl, ?_⟩
      intro j hj
      rw [e] at hj
      simp only [List.getElem?_cons_zero, Option.some.injEq] at hj
      subst hj; exact h

/-- a list of instructions in two parts: the second part runs on what the first built -/
theorem applyS_append (up : UpperOracle) (f : LFrame) (m : Nat → Bool) (fillAll : Bool) (is js : List Instr) :
    applyS up f m fillAll (is ++ js) =
      match applyS up f m fillAll is with
      | .ok g => applyS up g m fillAll js
      | .err => .err := by
  induction is generalizing f with
  | nil => rfl
  | cons i t ih =>
    simp only [List.cons_append, applyS]
    cases applyInstr up f m i fillAll with
    | ok f' => exact ih f'
    | err => rfl

/-- What comes after a failing list is irrelevant (the error is sticky). -/
theorem applyS_append_err (up : UpperOracle) (f : LFrame) (m : Nat → Bool) (fillAll : Bool)
    (is js : List Instr) (h : applyS up f m fillAll is = .err) :
    applyS up f m fillAll (is ++ js) = .err := by
  rw [applyS_append, h]

theorem applyS_append_ok (up : UpperOracle) (f g : LFrame) (m : Nat → Bool) (fillAll : Bool)
    (is js : List Instr) (h : applyS up f m fillAll is = .ok g) :
    applyS up f m fillAll (is ++ js) = applyS up g m fillAll js := by
  rw [applyS_append, h]

/-! ## `filteredApplyS` -/

theorem filteredApplyS_err_iff (lo : LikeOracle) (up : UpperOracle) (f : LFrame) (c : Clause)
    (is : List Instr) (fillAll : Bool) :
    filteredApplyS lo up f c is fillAll = .err ↔
      c.wellFormed lo f = false ∨ applyS up f (c.sem lo f) fillAll is = .err := by
  unfold filteredApplyS
  cases h : c.wellFormed lo f <;> simp

theorem filteredApplyS_illformed (lo : LikeOracle) (up : UpperOracle) (f : LFrame) (c : Clause)
    (is : List Instr) (fillAll : Bool) (h : c.wellFormed lo f = false) :
    filteredApplyS lo up f c is fillAll = .err :=
  (filteredApplyS_err_iff lo up f c is fillAll).2 (.inl h)

/-- With the default fill mode: ill-formed clause, or some instruction fails on the frame built so far. -/
theorem filteredApplyS_err_iff' (lo : LikeOracle) (up : UpperOracle) (f : LFrame) (c : Clause)
    (is : List Instr) :
    filteredApplyS lo up f c is = .err ↔
      c.wellFormed lo f = false ∨ firstFailing up f (c.sem lo f) is < is.length := by
  rw [filteredApplyS_err_iff, applyS_err_iff]

/-! ## projections -/

theorem sliceS_err_iff (f : LFrame) (a b : Int) :
    sliceS f a b = .err ↔ a < 0 ∨ a > b ∨ b > f.n := by
  unfold sliceS
  split
  · next h => simp only [true_iff]; simpa [or_assoc] using h
  · next h =>
    constructor
    · intro e; cases e
    · intro h'; exact absurd (by simpa [or_assoc] using h') h

theorem not_all_has_iff (f : LFrame) (names : List Bytes) :
    names.all f.has = false ↔ ∃ n ∈ names, f.has n = false := by
  simp

theorem selectS_err_iff (f : LFrame) (names : List Bytes) :
    selectS f names = .err ↔ ∃ n ∈ names, f.has n = false := by
  rw [← not_all_has_iff]
  unfold selectS
  cases h : names.all f.has
  · simp
  · simp only [if_true]
    split <;> simp

theorem dropS_err_iff (f : LFrame) (names : List Bytes) :
    dropS f names = .err ↔ ∃ n ∈ names, f.has n = false := by
  rw [← not_all_has_iff]
  unfold dropS
  cases names with
  | nil => simp
  | cons n t =>
    simp only [List.isEmpty_cons, Bool.false_eq_true, if_false]
    cases h : (n :: t).all f.has
    · simp
    · simp only [Bool.not_true, Bool.false_eq_true, if_false]
      split <;> simp

theorem copyS_err_iff (f : LFrame) (dst src : Bytes) :
    copyS f dst src = .err ↔ f.has src = false ∨ (dst ≠ src ∧ legalName dst = false) := by
  unfold copyS LFrame.has
  cases h : f.find? src with
  | none => simp
  | some c =>
    simp only [Option.isSome_some, Bool.true_eq_false, false_or]
    by_cases hd : dst = src
    · simp [hd]
    · have : (dst == src) = false := beq_false_of_ne hd
      simp only [this, Bool.false_eq_true, if_false]
      cases hl : legalName dst <;> simp [hd]

/-! ## Sort, Distinct, GroupBy / Aggregate, Equals, Apply: which requests the spec rejects -/

theorem find?_none_iff (f : LFrame) (n : Bytes) : f.find? n = none ↔ f.has n = false := by
  unfold LFrame.has
  cases f.find? n <;> simp

theorem mapM_find_none_iff (f : LFrame) (names : List Bytes) :
    names.mapM f.find? = none ↔ ∃ n ∈ names, f.has n = false := by
  rw [ListFacts.mapM_eq_none_iff]
  constructor
  · rintro ⟨n, hn, h⟩; exact ⟨n, hn, (find?_none_iff f n).1 h⟩
  · rintro ⟨n, hn, h⟩; exact ⟨n, hn, (find?_none_iff f n).2 h⟩

/-- **Sort** has keys to sort by iff every order names a column of the frame. -/
theorem sortKeys_none_iff (f : LFrame) (os : List Order) :
    sortKeys f os = none ↔ ∃ o ∈ os, f.has o.col = false := by
  unfold sortKeys
  rw [ListFacts.mapM_eq_none_iff]
  constructor
  · rintro ⟨o, ho, h⟩
    refine ⟨o, ho, (find?_none_iff f o.col).1 ?_⟩
    cases hf : f.find? o.col with
    | none => rfl
    | some c => simp [hf] at h
  · rintro ⟨o, ho, h⟩
    refine ⟨o, ho, ?_⟩
    rw [(find?_none_iff f o.col).2 h]; rfl

theorem has_iff_mem_names (f : LFrame) (n : Bytes) : f.has n = true ↔ n ∈ f.names := by
  unfold LFrame.has LFrame.find? LFrame.names
  rw [List.find?_isSome]
  constructor
  · rintro ⟨c, hc, h⟩; exact List.mem_map.2 ⟨c, hc, eq_of_beq h⟩
  · intro h
    obtain ⟨c, hc, rfl⟩ := List.mem_map.1 h
    exact ⟨c, hc, beq_self_eq_true _⟩

theorem has_congr_names (f g : LFrame) (h : g.names = f.names) (n : Bytes) : g.has n = f.has n := by
  rw [Bool.eq_iff_iff, has_iff_mem_names, has_iff_mem_names, h]

/-- No frame is an acceptable result of `Sort` when an order names an unknown column: the spec's verdict is an error. -/
theorem isSortedResult_unknown (f out : LFrame) (os : List Order) (h : sortKeys f os = none) :
    isSortedResult f out os = false := by
  unfold isSortedResult
  cases hk : sortKeys out os with
  | none => rfl
  | some keys =>
    simp only []
    cases hn : out.names == f.names
    · simp
    · exfalso
      obtain ⟨o, ho, hu⟩ := (sortKeys_none_iff f os).1 h
      have : sortKeys out os = none :=
        (sortKeys_none_iff out os).2 ⟨o, ho, by rw [has_congr_names f out (eq_of_beq hn)]; exact hu⟩
      rw [this] at hk; cases hk

/-- The columns `Distinct` compares: the requested ones, or all. -/
def distinctKeys (f : LFrame) (keyNames : List Bytes) : Option (List LCol) :=
  (if keyNames.isEmpty then f.names else keyNames).mapM f.find?

/-- **Distinct** has key columns iff every requested name is a column of the frame. -/
theorem distinctKeys_none_iff (f : LFrame) (keyNames : List Bytes) :
    distinctKeys f keyNames = none ↔ ∃ n ∈ keyNames, f.has n = false := by
  unfold distinctKeys
  rw [mapM_find_none_iff]
  cases keyNames with
  | nil =>
    simp only [List.isEmpty_nil, if_true]
    constructor
    · rintro ⟨n, hn, h⟩
      rw [(has_iff_mem_names f n).2 hn] at h; cases h
    · rintro ⟨n, hn, _⟩; cases hn
  | cons k ks => simp

/-- … and without them no frame is an acceptable result. -/
theorem isDistinctResult_unknown (f out : LFrame) (gbNull : Bool) (keyNames : List Bytes)
    (h : distinctKeys f keyNames = none) : isDistinctResult f out gbNull keyNames = false := by
  unfold distinctKeys at h
  unfold isDistinctResult
  simp only [h]

/-! ### GroupBy / Aggregate -/

/-- the name of the column an aggregation produces -/
def aggName (a : Agg) : Bytes := if a.as.isEmpty then a.col else a.as

/-- `a` cannot be computed although its column exists: its result name is taken (a grouping column or an earlier
aggregate), or the function is not defined for the column's type -/
def aggLate (f : LFrame) (taken : List Bytes) (a : Agg) : Bool :=
  match f.find? a.col with
  | none => false
  | some c => taken.contains (aggName a) || (aggApply a.fn c.ty).isNone

/-- some aggregation fails late, given the names of the columns built before it -/
def aggsLate (f : LFrame) : List Bytes → List Agg → Bool
  | _, [] => false
  | taken, a :: as => aggLate f taken a || aggsLate f (taken ++ [aggName a]) as

theorem go_none_iff (f : LFrame) (gs : List (List Nat)) (acc : List LCol) (aggs : List Agg) :
    groupAggS.go f gs acc aggs = none ↔
      (∃ a ∈ aggs, f.has a.col = false) ∨ aggsLate f (acc.map (·.name)) aggs = true := by
  induction aggs generalizing acc with
  | nil => simp [groupAggS.go, aggsLate]
  | cons a as ih =>
    unfold groupAggS.go aggsLate aggLate
    cases hf : f.find? a.col with
    | none =>
      simp only [true_iff]
      exact .inl ⟨a, List.mem_cons_self, (find?_none_iff f a.col).1 hf⟩
    | some c =>
      have hk : f.has a.col = true := by unfold LFrame.has; rw [hf]; rfl
      simp only []
      rw [← ListFacts.contains_map_comm LCol.name]
      have hn : (if a.as.isEmpty = true then a.col else a.as) = aggName a := rfl
      rw [hn]
      cases ht : (acc.map (·.name)).contains (aggName a)
      · cases ha : aggApply a.fn c.ty with
        | none => simp
        | some p =>
          obtain ⟨rt, g⟩ := p
          simp only [Bool.false_eq_true, if_false, Option.isNone_some, Bool.or_false, Bool.false_or]
          rw [ih]
          simp only [List.map_append, List.map_cons, List.map_nil, List.mem_cons]
          constructor
          · rintro (⟨b, hb, h⟩ | h)
            · exact .inl ⟨b, .inr hb, h⟩
            · exact .inr h
          · rintro (⟨b, hb | hb, h⟩ | h)
            · subst hb; rw [hk] at h; cases h
            · exact .inl ⟨b, hb, h⟩
            · exact .inr h
      · simp

theorem find?_name (f : LFrame) (n : Bytes) (c : LCol) (h : f.find? n = some c) : c.name = n := by
  unfold LFrame.find? at h
  have := List.find?_some h
  exact eq_of_beq this

theorem map_name_with_cells (keys : List LCol) (g : LCol → Array Cell) :
    (keys.map (fun c => ({ c with cells := g c } : LCol))).map (·.name) = keys.map (·.name) := by
  induction keys with
  | nil => rfl
  | cons k ks ih => simp only [List.map_cons, ih]

theorem mapM_find_names (f : LFrame) (names : List Bytes) (ks : List LCol) (h : names.mapM f.find? = some ks) :
    ks.map (·.name) = names :=
  ListFacts.mapM_keys (·.name) (find?_name f) h

/-- **GroupBy(keys).Aggregate(aggs)** is rejected iff a grouping column is unknown, or an aggregation names an unknown
column, or — all columns known — an aggregation fails late: its result name is taken, or its function is not defined for
the type of its column. -/
theorem groupAggS_err_iff (f : LFrame) (gbNull : Bool) (keyNames : List Bytes) (aggs : List Agg) :
    groupAggS f gbNull keyNames aggs = .err ↔
      (∃ n ∈ keyNames, f.has n = false) ∨ (∃ a ∈ aggs, f.has a.col = false) ∨ aggsLate f keyNames aggs = true := by
  unfold groupAggS
  cases hk : keyNames.mapM f.find? with
  | none => simp only [true_iff]; exact .inl ((mapM_find_none_iff f keyNames).1 hk)
  | some keys =>
    have hno : ¬ ∃ n ∈ keyNames, f.has n = false := fun h => by
      rw [(mapM_find_none_iff f keyNames).2 h] at hk; cases hk
    simp only []
    split
    · next hg =>
      rw [go_none_iff, map_name_with_cells, mapM_find_names f keyNames keys hk] at hg
      simp only [true_iff]
      exact .inr hg
    · next cols hg =>
      constructor
      · intro h; cases h
      · rintro (h | h)
        · exact absurd h hno
        · exfalso
          rw [(go_none_iff f _ _ aggs).2 (by
            rw [map_name_with_cells, mapM_find_names f keyNames keys hk]
            exact h)] at hg
          cases hg

/-! ### Apply: how the spec reads an instruction -/

/-- the number of source columns of an instruction, as `applyInstr` reads it -/
def instrArity (ins : Instr) : Nat :=
  match ins.src1, ins.src2 with
  | none, _ => 0
  | some _, none => 1
  | some _, some _ => 2

/-- without a first source column the second one is not looked at -/
theorem applyInstr_no_src1 (up : UpperOracle) (f : LFrame) (m : Nat → Bool) (ins : Instr) (b : Bool)
    (h : ins.src1 = none) (x : Option Bytes) :
    applyInstr up f m { ins with src2 := x } b = applyInstr up f m { ins with src2 := none } b := by
  obtain ⟨dst, s1, s2, fn⟩ := ins
  simp only at h
  subst h
  rfl

/-- an unknown first source column is an error, whatever the function -/
theorem applyInstr_unknown_src1 (up : UpperOracle) (f : LFrame) (m : Nat → Bool) (ins : Instr) (b : Bool) (s : Bytes)
    (h : ins.src1 = some s) (hu : f.has s = false) : applyInstr up f m ins b = .err := by
  obtain ⟨dst, s1, s2, fn⟩ := ins
  simp only at h
  subst h
  have hf := (find?_none_iff f s).2 hu
  cases s2 with
  | none => simp only [applyInstr, hf]
  | some t => simp only [applyInstr, hf]

/-- an unknown second source column is an error, whatever the function -/
theorem applyInstr_unknown_src2 (up : UpperOracle) (f : LFrame) (m : Nat → Bool) (ins : Instr) (b : Bool) (s t : Bytes)
    (h1 : ins.src1 = some s) (h2 : ins.src2 = some t) (hu : f.has t = false) : applyInstr up f m ins b = .err := by
  obtain ⟨dst, s1, s2, fn⟩ := ins
  simp only at h1 h2
  subst h1 h2
  have hf := (find?_none_iff f t).2 hu
  cases hs : f.find? s <;> simp only [applyInstr, hf, hs]

/-! ### Equals: the shape checks -/

theorem equalsS_shape (a b : LFrame) (h : a.n ≠ b.n ∨ a.names ≠ b.names) : equalsS a b = false :=
  Bool.eq_false_iff.2 fun e => h.elim (· ((C09.equalsS_iff a b).1 e).1) (· ((C09.equalsS_iff a b).1 e).2.1)

/-! ## Concrete instances -/

section Examples

private def fr : LFrame :=
  { cols := [{ name := [120], ty := .int, cells := #[.int 1, .int 2, .int 3] }], n := 3 }

/-- `y := 7` succeeds, `z := copy of "nope"` fails, the third instruction is never reached. -/
private def prog : List Instr :=
  [ { dst := [121], src1 := none, src2 := none, fn := .const (.int 7) },
    { dst := [122], src1 := none, src2 := none, fn := .colCopy [110, 111, 112, 101] },
    { dst := [119], src1 := none, src2 := none, fn := .const (.bool true) } ]

example : firstFailing id fr (fun _ => true) prog = 1 := by decide
example : applyS id fr (fun _ => true) false prog = .err :=
  (applyS_err_iff id fr (fun _ => true) prog).2 (by decide)
example : ∃ g, applyS id fr (fun _ => true) false (prog.take 1) = .ok g :=
  (applyS_ok_iff id fr (fun _ => true) (prog.take 1)).2 (by decide)

private def noLike : LikeOracle := { valid := fun _ _ => false, isMatch := fun _ _ _ => false }

-- `And()` without sub-clauses is ill-formed
example : filteredApplyS noLike id fr (.and []) (prog.take 1) = .err :=
  filteredApplyS_illformed noLike id fr (.and []) _ false (by decide)

example : sliceS fr 2 1 = .err := (sliceS_err_iff fr 2 1).2 (by decide)
example : sliceS fr 1 4 = .err := (sliceS_err_iff fr 1 4).2 (by decide)
example : sliceS fr (-1) 2 = .err := (sliceS_err_iff fr (-1) 2).2 (by decide)
example : ¬ (sliceS fr 1 3 = .err) := fun h => absurd ((sliceS_err_iff fr 1 3).1 h) (by decide)
example : selectS fr [[120], [113]] = .err := (selectS_err_iff fr _).2 ⟨[113], by decide, by decide⟩
example : dropS fr [[113]] = .err := (dropS_err_iff fr _).2 ⟨[113], by decide, by decide⟩
example : copyS fr [36, 97] [120] = .err := (copyS_err_iff fr _ _).2 (.inr (by decide))
example : copyS fr [97] [113] = .err := (copyS_err_iff fr _ _).2 (.inl (by decide))
example : ¬ (copyS fr [97] [120] = .err) := fun h => absurd ((copyS_err_iff fr _ _).1 h) (by decide)

end Examples

#print axioms firstFailing_le
#print axioms applyS_err_iff
#print axioms applyS_ok_iff
#print axioms applyS_stops_at_first_failing
#print axioms applyS_append_err
#print axioms applyS_append_ok
#print axioms filteredApplyS_err_iff
#print axioms filteredApplyS_err_iff'
#print axioms sliceS_err_iff
#print axioms selectS_err_iff
#print axioms dropS_err_iff
#print axioms copyS_err_iff
#print axioms sortKeys_none_iff
#print axioms isSortedResult_unknown
#print axioms distinctKeys_none_iff
#print axioms isDistinctResult_unknown
#print axioms groupAggS_err_iff
#print axioms applyInstr_no_src1
#print axioms applyInstr_unknown_src1
#print axioms applyInstr_unknown_src2
#print axioms equalsS_shape

end QF.Props.C10Sticky
