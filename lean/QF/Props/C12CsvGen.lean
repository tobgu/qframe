import QF.Props.C12CsvQuoted
/-!
# C12 / C15 — the CSV reader regenerated from today's source is the hand mirror (tie T1)

`QF.Gen.csvFns` (go/cmd/extract/csvast.go, regenerated on every run) holds the functions of /repo/internal/fastcsv/csv.go as
terms of the imperative language `QF.CR` (QF/Core/CRExpr.lean, with its Go semantics: byte slices as views into the
buffer's array with len and cap, `copy`, slicing and indexing with their bounds checks, `for` / `break` / `continue` /
`return`, calls with several results, the `Read` of the underlying `io.Reader` as the abstract operation `CR.underRead`).
C12CsvCanon fixes the canonical terms and proves `gen_csv_no_opaque`, `gen_csv_canon` (today's extraction = the canonical
terms, by `decide`). C12CsvFns / C12CsvQuoted / this file compute the meaning of the canonical terms bottom-up along the
call graph and find the hand mirror `Csv` (QF/Core/Csv.lean, the L0 mirror the replay driver compares with the real reader):

    eofReaderWrapper.Read ∘ underRead = Src.read          call_wrapRead        gen_csv_wrapRead
    bufferedReader.more    = Buf.more                      call_more            gen_csv_more
    bufferedReader.reset   = Buf.reset                     call_bufReset        gen_csv_reset, gen_csv_fieldsReset
    fields.nextUnquotedField = nextUnquoted (exactly)      call_unquoted        gen_csv_unquoted
    nextQuotedField        = nextQuoted                    call_quoted          gen_csv_quoted_partial
    fields.next            = Fields.next                   call_fsNext          gen_csv_fieldsNext_partial
    Reader.Next            = Reader.next                   call_rdNext          gen_csv_readerNext_partial
    Reader.Read, Reader.Err, NewReader                     call_rdRead …        gen_csv_read_partial, gen_csv_err, gen_csv_newReader
    the caller's read-all loop = readAllLoop'              readAll_loop         gen_csv_semantics_partial

`gen_csv_semantics_partial`: for every document, read schedule, delimiter, buffer capacity, fault position (and the two flags of the
underlying reader) the interpretation of today's extracted functions returns what `Csv.readAll` returns — rows, final error,
final buffer and reader, or a panic of the same class. Corollary `gen_fail_iff_reached_partial` (C15).

Side conditions, all discharged inside: the invariant `fieldStart ≤ cursor ≤ len(data) ≤ cap(data)` (`FWF`), under which
Go's bounds checks and the mirror's agree, holds initially and is kept by every function of the mirror (`*_post`, C12CsvMirror).

What is excluded (`hnf`; in the `call_*` lemmas: `Refines`): runs on which the mirror gives up with `panic "fuel"`. The mirror has ONE
loop for `nextQuotedField` whose rounds are a `more` or a byte; the real function has two nested loops. Where the mirror's budget is
used up the nested loops, each with that budget, may still go on — nothing is claimed there. (The other loops —
`nextUnquotedField`, the row loop, the read-all loop — agree with the mirror's budgets exactly.) With reads ≥ 1 byte and a budget
above the measure `mu` nothing is excluded: the mirror does not give up then (`Post.nf` of the function's `*_post`, C12CsvMirror;
for the whole document `readAll_no_fuel`, which C12NoFuel applies to the `_partial` theorems).

What the terms abstract (see CRExpr.lean): a `[]byte` that leaves the buffer (`fs.field`, the elements of
`r.fieldsBuffer`) is the list of its bytes at that moment, as in the mirror; that the real slices alias the buffer and are
not overwritten within a row is what the replay against the real reader checks, not these theorems.
-/
namespace QF.Props.C12CsvGen
open QF QF.CR Csv
set_option linter.unusedSimpArgs false

/-! ## `fields.next` -/

/-- a result of the mirror as the result of a function body -/
def outF (h : Reader) (o : Csv.Out (Fields × Bool)) : CR.Out := retF h o

theorem readView_slice_length (b : Buf) (s w : Nat) : readView b.data s (b.slice s w).length = b.slice s w := by
  simp only [readView, Buf.slice, List.length_drop, List.length_take, Array.length_toList]
  by_cases h : s ≤ min w b.data.size
  · rw [Nat.add_sub_cancel' h, ← Array.length_toList, ← List.take_eq_take_min]
  · have h1 : min w b.data.size - s = 0 := by omega
    rw [h1, Nat.add_zero]
    rw [List.drop_eq_nil_of_le (by simp; omega), List.drop_eq_nil_of_le (by simp; omega)]

theorem go_part (fuel n : Nat) (h : Reader) (σ : Store) (hwf : FWF h.fs) :
    Refines (retF h) (C15Faults.nextGo fuel h.fs) ((S.block nextGoPart).exec (env fuel (n+3)) h σ) := by
  obtain ⟨w1, w2, w3⟩ := hwf
  unfold C15Faults.nextGo
  unfold nextGoPart
  by_cases hlt : h.fs.buf.cursor < h.fs.buf.len
  · rw [if_pos hlt]
    by_cases hq : h.fs.buf.data[h.fs.buf.cursor]! = QUOTE
    · rw [if_pos (beq_iff_eq.2 hq)]
      have cq := call_quoted fuel n h h.fs.delim hlt w3
      cases hr : nextQuoted fuel h.fs.buf h.fs.delim with
      | panic w =>
        rw [hr] at cq
        refine cq.panic_of fun hc => ?_
        exec_simp [hq, hlt, UInt8_ofNat_34, hc]
        simp only [callQ, andThen, retF]
      | ok p =>
        obtain ⟨f, eol, err, b⟩ := p
        rw [hr] at cq
        obtain ⟨⟨⟨w', (hw' : f = b.slice _ w')⟩, _⟩, _⟩ := (quotedLoop_post fuel { h.fs.buf with cursor := h.fs.buf.cursor + 1 } h.fs.delim
          (h.fs.buf.cursor + 1) (h.fs.buf.cursor + 1) 0 ⟨hlt, w3⟩).post _ hr
        have hrv : readView b.data (h.fs.buf.cursor + 1) f.length = f := by
          rw [hw']; exact readView_slice_length b _ _
        exec_simp [hq, hlt, UInt8_ofNat_34, cq nofun, callQ, withBuf, hrv]
        refine Refines.of_eq ?_
        cases err with
        | none => simp [retF, andThen]
        | some e => cases e <;> simp [retF, andThen]
    · rw [if_neg (mt beq_iff_eq.1 hq)]
      exec_simp [hq, hlt, UInt8_ofNat_34, call_unquoted fuel n _ ⟨w1, w2, w3⟩]
      exact Refines.of_eq (by cases nextUnquoted fuel h.fs h.fs.buf.cursor <;> rfl)
  · rw [if_neg hlt]
    exec_simp [hlt]
    exact Refines.of_eq (by simp only [retF, cls_first])

theorem exec_fsNextBody (Γ : Env) (h : Reader) (σ : Store) : fnFsNext.body.exec Γ h σ =
    (match (S.ite (E.fld Fld.hitEOL) (S.block [S.ret [E.bool false]]) (S.block [])).exec Γ h σ with
     | .next h1 σ1 =>
       (match nextMore.exec Γ h1 σ1 with
        | .next h2 σ2 => (S.block nextGoPart).exec Γ h2 σ2
        | r => r)
     | r => r) := rfl

/-- `fields.next` is the mirror's `Fields.next` wherever the mirror does not give up. -/
theorem call_fsNext (fuel n : Nat) (h : Reader) (hwf : FWF h.fs) :
    Refines (callF h) (h.fs.next fuel) (callAt canonFns fuel (n+4) .fsNext [] h) := by
  have hwf' := hwf
  obtain ⟨w1, w2, w3⟩ := hwf
  obtain ⟨ml, mc, hm, _⟩ := more_later h.fs.buf ⟨w2, w3⟩
  have fin : ∀ (fs0 : Fields) (o : Csv.Out (Fields × Bool)), toCall (retF { fs := fs0, row := h.row } o) = callF h o := by
    intro fs0 o
    cases o <;> rfl
  rw [callAt_succ _ _ .fsNext fnFsNext rfl, C15Faults.Fields_next_eq]
  unfold runFn
  simp only [List.length_nil, show fnFsNext.params = 0 from rfl, if_true, exec_fsNextBody, bindArgs]
  by_cases he : h.fs.hitEOL = true
  · exec_simp [he]
    exact Refines.of_eq rfl
  · have he' : h.fs.hitEOL = false := by simpa using he
    rw [if_neg he]
    unfold nextMore
    by_cases hge : h.fs.buf.cursor ≥ h.fs.buf.len
    · rw [if_pos hge]
      have hfs : h.fs.fieldStart ≤ h.fs.buf.more.1.data.size := by have := ml.wf.2; omega
      exec_simp [he', hge, call_more _ _ _ w3, withBuf]
      generalize h.fs.buf.more.2 = e
      rcases e with _ | (_ | _)
      · exec_simp []
        have := go_part fuel n (withBuf h h.fs.buf.more.1) (Store.empty.set 0 (Val.err none)) ⟨mc ▸ w1, ml.wf⟩
        simp only [withBuf, he'] at this
        exact this.map toCall (fin _)
      · by_cases hf0 : 0 < h.fs.fieldStart
        · exec_simp [hf0, hfs]
          exact Refines.of_eq (by simp only [callF, beq_self_eq_true, Bool.and_self, if_true, readView, Buf.slice, Nat.sub_self, Nat.add_zero])
        · exec_simp [hf0]
          exact Refines.of_eq (by simp only [callF, Bool.and_false, Bool.false_eq_true, if_false])
      · exec_simp []
        exact Refines.of_eq (by simp only [callF, (by decide : (RErr.fail == RErr.eof) = false), Bool.false_and, Bool.false_eq_true, if_false])
    · rw [if_neg hge]
      exec_simp [he', hge]
      exact (go_part fuel n h _ hwf').map toCall (fin h.fs)

/-! ## `Reader.Next` -/

theorem Store.set_set (σ : Store) (v : Var) (a b : Val) : (σ.set v a).set v b = σ.set v b := by
  funext w; simp only [Store.set]; split <;> rfl

/-- the result of the row loop: the state with the fields of the row, the loop variable false -/
def rowOut (σ : Store) : Csv.Out (Fields × List (List Byte)) → CR.Out
  | .ok (fs, row) => .next { fs := fs, row := row } (σ.set 0 (.bool false))
  | .panic w => .panic (cls w)

theorem rowOut_set (σ : Store) (x : Val) : rowOut (σ.set 0 x) = rowOut σ := by
  funext o
  cases o with
  | ok p => simp only [rowOut, Store.set_set]
  | panic w => rfl

theorem row_loop (fuel n : Nat) : ∀ (k : Nat) (h : Reader) (σ : Store), FWF h.fs →
    Refines (rowOut σ) (rowLoop fuel k h.fs h.row) (iter (stepOf (env fuel (n+4)) rowBody) k h σ) := by
  intro k
  induction k with
  | zero => intro h σ _; exact Refines.of_eq (by simp [iter, rowLoop, rowOut, cls_fuel_row])
  | succ k ih =>
    intro h σ hwf
    have cf := call_fsNext fuel n h hwf
    rw [iter_succ, stepOf, rowLoop]
    cases hr : h.fs.next fuel with
    | panic w =>
      rw [hr] at cf
      refine cf.panic_of fun hc => ?_
      exec_simp [hc]
      simp only [callF, andThen, contK, rowOut]
    | ok p =>
      obtain ⟨fs', b⟩ := p
      rw [hr] at cf
      cases b
      · exec_simp [cf nofun, callF]
        exact Refines.of_eq (by simp only [contK, rowOut])
      · exec_simp [cf nofun, callF]
        simp only [contK]
        have := ih { fs := fs', row := h.row ++ [fs'.field] } (σ.set 0 (.bool true)) (FWF.of_post ((Fields_next_post fuel h.fs hwf).post _ hr))
        rw [rowOut_set] at this
        exact this

theorem getLast?_eq_index {α} [Inhabited α] (l : List α) (h : 0 < l.length) : l.getLast? = some l[l.length - 1]! := by
  rw [List.getLast?_eq_getElem?, getElem!_pos l (l.length - 1) (by omega)]
  exact List.getElem?_eq_getElem (by omega)

theorem set_last_eq {α} (l : List α) (x : α) (h : 0 < l.length) : l.set (l.length - 1) x = l.dropLast ++ [x] := by
  rw [List.set_eq_take_append_cons_drop, if_pos (by omega), ← List.dropLast_eq_take, List.drop_of_length_le (by omega)]

theorem exec_trimPart (Γ : Env) (h : Reader) (σ : Store) :
    ∃ σ', trimPart.exec Γ h σ = .next { h with row := trimRow h.row } σ' := by
  unfold trimPart trimRow
  by_cases hr : 0 < h.row.length
  · have e1 : (h.row.length : Int) - 1 = ((h.row.length - 1 : Nat) : Int) := by omega
    have hn1 : h.row.length - 1 < h.row.length := by omega
    rw [getLast?_eq_index h.row hr]
    generalize hlast : h.row[h.row.length - 1]! = last
    simp only []
    by_cases hl : 0 < last.length
    · have e2 : (last.length : Int) - 1 = ((last.length - 1 : Nat) : Int) := by omega
      have hm1 : last.length - 1 < last.length := by omega
      rw [getLast?_eq_index last hl]
      by_cases hc : last[last.length - 1]! = Csv.CR
      · apply Exists.intro
        exec_simp [hr, e1, hn1, hlast, hl, e2, hm1, hc, UInt8_ofNat_13, Nat.sub_le]
        simp only [beq_self_eq_true, if_true, set_last_eq _ _ hr, ← List.dropLast_eq_take, List.drop_zero]
        rfl
      · apply Exists.intro
        exec_simp [hr, e1, hn1, hlast, hl, e2, hm1, hc, UInt8_ofNat_13]
        simp only [beq_iff_eq, Option.some.injEq, hc, if_false]
        rfl
    · obtain rfl : last = [] := List.eq_nil_of_length_eq_zero (by omega)
      apply Exists.intro
      exec_simp [hr, e1, hn1, hlast, Nat.lt_irrefl]
      rfl
  · obtain ⟨fs, row⟩ := h
    obtain rfl : row = [] := List.eq_nil_of_length_eq_zero (by simpa using hr)
    apply Exists.intro
    exec_simp [Nat.lt_irrefl]
    rfl

theorem exec_blankPart (Γ : Env) (h : Reader) (σ : Store) : blankPart.exec Γ h σ =
    if h.row.isEmpty then
      .ret { fs := if h.fs.err == none then { h.fs with err := some .eof } else h.fs, row := [] } [.bool false]
    else .next h σ := by
  unfold blankPart
  obtain ⟨fs, _ | ⟨f, row⟩⟩ := h
  · cases he : fs.err with
    | none => exec_simp [he, Int.natCast_eq_zero]; rfl
    | some e => exec_simp [he, Int.natCast_eq_zero]; rfl
  · exec_simp [Int.natCast_eq_zero, Nat.add_one_ne_zero]
    rfl

/-- what the mirror's `Reader.next` does after the row loop -/
def tailOut (h : Reader) : CR.Out :=
  if (trimRow h.row).isEmpty then
    .ret { fs := if h.fs.err == none then { h.fs with err := some .eof } else h.fs, row := [] } [.bool false]
  else .ret { fs := h.fs, row := trimRow h.row } [.bool true]

theorem rd_tail (fuel n : Nat) (h : Reader) (σ : Store) : (S.block rdTail).exec (env fuel n) h σ = tailOut h := by
  obtain ⟨σ', ht⟩ := exec_trimPart (env fuel n) h σ
  unfold rdTail tailOut
  simp only [exec_block_cons, ht, exec_blankPart]
  by_cases hem : (trimRow h.row).isEmpty = true
  · simp only [hem, if_true]
  · simp only [hem, Bool.false_eq_true, if_false]
    exec_simp []

/-- a result of the mirror's `Reader.next` as the result of a call -/
def callR : Csv.Out (Reader × Bool) → CallRes
  | .ok (r, b) => .ret r [.bool b]
  | .panic w => .panic (cls w)

theorem exec_rdNextBody (Γ : Env) (h : Reader) (σ : Store) : fnRdNext.body.exec Γ h σ =
    (match (S.ite (E.cmp COp.ne (E.fld Fld.err) E.nilErr) (S.block [S.ret [E.bool false]]) (S.block [])).exec Γ h σ with
     | .next h' σ' =>
       (match (S.call [] FnId.fsReset []).exec Γ h' σ' with
        | .next h' σ' =>
          (match (S.assign (L.fld Fld.row) (E.sliceTo (E.fld Fld.row) (E.int 0))).exec Γ h' σ' with
           | .next h' σ' =>
             (match (S.loop rowBody).exec Γ h' σ' with
              | .next h' σ' => (S.block rdTail).exec Γ h' σ'
              | r => r)
           | r => r)
        | r => r)
     | r => r) := rfl

/-- `Reader.Next` is the mirror's `Reader.next` wherever the mirror does not give up. -/
theorem call_rdNext (fuel n : Nat) (h : Reader) (hwf : FWF h.fs) :
    Refines callR (h.next fuel) (callAt canonFns fuel (n+5) .rdNext [] h) := by
  rw [callAt_succ _ _ .rdNext fnRdNext rfl]
  unfold runFn
  simp only [List.length_nil, show fnRdNext.params = 0 from rfl, if_true, exec_rdNextBody, bindArgs]
  rw [Reader_next_eq]
  cases he : h.fs.err with
  | some e =>
    exec_simp [he]
    exact Refines.of_eq (by simp [callR])
  | none =>
    simp only [bne_self_eq_false, Bool.false_eq_true, if_false]
    exec_simp [he, call_fsReset fuel (n+2) h hwf.2, List.take_zero, List.drop_nil]
    have := row_loop fuel n fuel { fs := { h.fs with buf := h.fs.buf.reset, field := [], fieldStart := 0, hitEOL := false }, row := [] }
      Store.empty (reset_wf h.fs hwf)
    simp only [he] at this
    cases hrl : rowLoop fuel fuel { buf := h.fs.buf.reset, delim := h.fs.delim } [] with
    | panic w =>
      rw [hrl] at this
      exact this.panic_of fun hc => by simp only [hc, rowOut, callR]
    | ok p =>
      obtain ⟨fs', row⟩ := p
      rw [hrl] at this
      refine Refines.of_eq ?_
      simp only [this nofun, rowOut, rd_tail, tailOut]
      by_cases hem : (trimRow row).isEmpty = true
      · simp only [hem, if_true, callR]
      · simp only [hem, if_false, callR, Bool.false_eq_true]

/-! ## `Reader.Read`, `Reader.Err`, `NewReader` -/

/-- `Reader.Read`: the row and nil, or nil and the sticky error -/
theorem call_rdRead (fuel n : Nat) (h : Reader) (hwf : FWF h.fs) (hnf : h.next fuel ≠ .panic "fuel") :
    callAt canonFns fuel (n+6) .rdRead [] h =
      (match h.next fuel with
       | .ok (r, true) => .ret r [.rows r.row, .err none]
       | .ok (r, false) => .ret r [.rows [], .err r.fs.err]
       | .panic w => .panic (cls w)) := by
  rw [callAt_succ _ _ .rdRead fnRdRead rfl]
  unfold runFn fnRdRead
  exec_simp [call_rdNext fuel n h hwf hnf]
  cases hr : h.next fuel with
  | panic w => simp only [callR, andThen]
  | ok p =>
    obtain ⟨r, b⟩ := p
    cases b
    · exec_simp [callR]
    · exec_simp [callR]

/-- `Reader.Err`: the sticky error unless it is `io.EOF` -/
theorem call_rdErr (fuel n : Nat) (h : Reader) :
    callAt canonFns fuel (n+1) .rdErr [] h = .ret h [.err (if h.fs.err = some .eof then none else h.fs.err)] := by
  rw [callAt_succ _ _ .rdErr fnRdErr rfl]
  unfold runFn fnRdErr
  by_cases he : h.fs.err = some .eof
  · exec_simp [he]
  · exec_simp [he]

/-- `NewReader(r, delim)` builds the initial state of the mirror with a buffer of capacity 1024 around the wrapped reader. -/
theorem call_newReader (s : Src) (delim : Byte) :
    CR.newReader canonFns s delim =
      some { fs := { buf := { data := Array.replicate 1024 0, len := 0, cursor := 0, src := { s with wrapEof := false } }, delim := delim } } := by
  unfold CR.newReader
  rw [callAt_succ _ _ .newReader fnNewReader rfl]
  unfold runFn fnNewReader
  exec_simp []
  rfl

/-! ## Reading a whole document -/

/-- a result of the mirror (rows, final error, final reader) as a result of the interpretation -/
def embed {α : Type} : Csv.Out α → Res α
  | .ok x => .ok x
  | .panic w => .panic (cls w)

theorem readAll_loop (fuel : Nat) : ∀ (n : Nat) (h : Reader) (acc : List (List (List Byte))), FWF h.fs →
    Refines embed (C15Faults.readAllLoop' fuel n h acc) (CR.readAllLoop canonFns fuel n h acc) := by
  intro n
  induction n with
  | zero => intro h acc _; exact Refines.of_eq (by simp [CR.readAllLoop, C15Faults.readAllLoop', embed, cls_fuel_all])
  | succ n ih =>
    intro h acc hwf
    rw [CR.readAllLoop, C15Faults.readAllLoop']
    cases hr : h.next fuel with
    | panic w =>
      intro hnf
      rw [show CR.depth = 0 + 6 from rfl, call_rdRead fuel 0 h hwf (hr ▸ panic_cast hnf), hr]
      rfl
    | ok p =>
      obtain ⟨r, b⟩ := p
      have h1 := (Reader_next_post fuel h hwf).post _ hr
      rw [show CR.depth = 0 + 6 from rfl, call_rdRead fuel 0 h hwf (hr ▸ nofun), hr]
      cases b
      · cases hre : r.fs.err with
        | none => exact absurd hre (h1.1.2.2 rfl)
        | some e => exact Refines.of_eq (by simp only [embed, hre])
      · exact ih r _ (FWF.of_post h1)

theorem initHeap_eq (doc : List Byte) (sched : List Nat) (delim : Byte) (cap : Nat) (failAt : Option Nat) (eofWD fwd : Bool) :
    CR.initHeap doc sched delim cap failAt eofWD fwd = C15Faults.initReader doc sched delim cap failAt eofWD fwd := rfl

theorem initHeap_wf (doc : List Byte) (sched : List Nat) (delim : Byte) (cap : Nat) (failAt : Option Nat) (eofWD fwd : Bool) :
    FWF (CR.initHeap doc sched delim cap failAt eofWD fwd).fs :=
  ⟨Nat.le_refl _, Nat.le_refl _, Nat.zero_le _⟩

theorem outMap_fuel {α β : Type} (f : α → β) (o : Csv.Out α) : C15Faults.outMap f o = .panic "fuel" ↔ o = .panic "fuel" := by
  cases o with
  | ok x => simp [C15Faults.outMap]
  | panic w => simp [C15Faults.outMap]

/-- the canonical terms read a document as the mirror does (final reader included) -/
theorem canon_readAll (doc : List Byte) (sched : List Nat) (delim : Byte) (cap : Nat) (failAt : Option Nat) (eofWD fwd : Bool)
    (hnf : Csv.readAll doc sched delim cap failAt eofWD fwd ≠ .panic "fuel") :
    CR.readAll canonFns doc sched delim cap failAt eofWD fwd = embed (C15Faults.readAll' doc sched delim cap failAt eofWD fwd) := by
  have hnf' : C15Faults.readAll' doc sched delim cap failAt eofWD fwd ≠ .panic "fuel" := by
    intro hh
    apply hnf
    rw [← C15Faults.readAll'_agree, hh]; rfl
  unfold CR.readAll C15Faults.readAll' at *
  exact readAll_loop _ _ _ _ (initHeap_wf ..) hnf'

/-! ## Today's extraction (`QF.Gen.csvFns`), function by function: the `call_*` lemmas through `gen_csv_canon` (table in the head) -/

theorem gen_csv_wrapRead (fuel n : Nat) (h : Reader) (off len cap : Nat) :
    callAt Gen.csvFns fuel (n+1) .wrapRead [.view off len cap] h =
      .ret (withBuf h { h.fs.buf with data := writeAll h.fs.buf.data off (h.fs.buf.src.read len).1, src := (h.fs.buf.src.read len).2.2 })
        [.int (h.fs.buf.src.read len).1.length, .err (h.fs.buf.src.read len).2.1] := by
  rw [gen_csv_canon]; exact call_wrapRead fuel n h off len cap

theorem gen_csv_more (fuel n : Nat) (h : Reader) (hwf : h.fs.buf.len ≤ h.fs.buf.data.size) :
    callAt Gen.csvFns fuel (n+2) .more [] h = .ret (withBuf h h.fs.buf.more.1) [.err h.fs.buf.more.2] := by
  rw [gen_csv_canon]; exact call_more fuel n h hwf

theorem gen_csv_reset (fuel n : Nat) (h : Reader) (hwf : WF h.fs.buf) :
    callAt Gen.csvFns fuel (n+1) .bufReset [] h = .ret (withBuf h h.fs.buf.reset) [] := by
  rw [gen_csv_canon]; exact call_bufReset fuel n h hwf

theorem gen_csv_fieldsReset (fuel n : Nat) (h : Reader) (hwf : WF h.fs.buf) :
    callAt Gen.csvFns fuel (n+2) .fsReset [] h =
      .ret { h with fs := { h.fs with buf := h.fs.buf.reset, field := [], fieldStart := 0, hitEOL := false } } [] := by
  rw [gen_csv_canon]; exact call_fsReset fuel n h hwf

/-- `fields.nextUnquotedField` as extracted today is the mirror's `nextUnquoted` — exactly, the budget included. -/
theorem gen_csv_unquoted (fuel n : Nat) (h : Reader) (hwf : FWF h.fs) :
    callAt Gen.csvFns fuel (n+3) .unquoted [] h = callF h (nextUnquoted fuel h.fs h.fs.buf.cursor) := by
  rw [gen_csv_canon]; exact call_unquoted fuel n h hwf

/-- `nextQuotedField` as extracted today is the mirror's `nextQuoted` wherever the mirror does not give up. -/
theorem gen_csv_quoted_partial (fuel n : Nat) (h : Reader) (delim : Byte)
    (hc : h.fs.buf.cursor < h.fs.buf.len) (hl : h.fs.buf.len ≤ h.fs.buf.data.size)
    (hnf : nextQuoted fuel h.fs.buf delim ≠ .panic "fuel") :
    callAt Gen.csvFns fuel (n+3) .quoted [.byte delim] h = callQ h (h.fs.buf.cursor + 1) (nextQuoted fuel h.fs.buf delim) := by
  rw [gen_csv_canon]; exact call_quoted fuel n h delim hc hl hnf

theorem gen_csv_fieldsNext_partial (fuel n : Nat) (h : Reader) (hwf : FWF h.fs) (hnf : h.fs.next fuel ≠ .panic "fuel") :
    callAt Gen.csvFns fuel (n+4) .fsNext [] h = callF h (h.fs.next fuel) := by
  rw [gen_csv_canon]; exact call_fsNext fuel n h hwf hnf

theorem gen_csv_readerNext_partial (fuel n : Nat) (h : Reader) (hwf : FWF h.fs) (hnf : h.next fuel ≠ .panic "fuel") :
    callAt Gen.csvFns fuel (n+5) .rdNext [] h = callR (h.next fuel) := by
  rw [gen_csv_canon]; exact call_rdNext fuel n h hwf hnf

/-- `Reader.Read` as extracted today: the row and nil, or nil and the sticky error. -/
theorem gen_csv_read_partial (fuel n : Nat) (h : Reader) (hwf : FWF h.fs) (hnf : h.next fuel ≠ .panic "fuel") :
    callAt Gen.csvFns fuel (n+6) .rdRead [] h =
      (match h.next fuel with
       | .ok (r, true) => .ret r [.rows r.row, .err none]
       | .ok (r, false) => .ret r [.rows [], .err r.fs.err]
       | .panic w => .panic (cls w)) := by
  rw [gen_csv_canon]; exact call_rdRead fuel n h hwf hnf

/-- `Reader.Err` as extracted today: the sticky error unless it is `io.EOF`. -/
theorem gen_csv_err (fuel n : Nat) (h : Reader) :
    callAt Gen.csvFns fuel (n+1) .rdErr [] h = .ret h [.err (if h.fs.err = some .eof then none else h.fs.err)] := by
  rw [gen_csv_canon]; exact call_rdErr fuel n h

/-- `NewReader` as extracted today builds the state the mirror's `readAll` starts from, with a buffer of capacity 1024 around
the wrapped reader. -/
theorem gen_csv_newReader (doc : List Byte) (sched : List Nat) (delim : Byte) (failAt : Option Nat) (eofWD fwd : Bool) :
    CR.newReader Gen.csvFns { rest := doc, sched := sched, failAt := failAt, eofWithData := eofWD, failWithData := fwd } delim =
      some (CR.initHeap doc sched delim 1024 failAt eofWD fwd) := by
  rw [gen_csv_canon, call_newReader]; rfl

/-! ## The whole reader -/

/-- what `Csv.readAll` returns of a run: the rows and the final error -/
def rowsErr : Res (List (List (List Byte)) × Option RErr × Reader) → Res (List (List (List Byte)) × Option RErr)
  | .ok x => .ok (x.1, x.2.1)
  | .panic c => .panic c
  | .stuck => .stuck

/-- **The CSV reader regenerated from today's source is the hand mirror.** For every document, read schedule, delimiter,
buffer capacity, fault position and the two flags of the underlying reader: interpreting today's extracted functions
(`Reader.Read` in the caller's loop, down to the `Read` of the underlying reader) yields exactly what the mirror yields —
the rows, the final error, the final state of buffer and reader (stale bytes and the number of `Read` calls included), or a
panic of the same class — provided the mirror does not give up (`panic "fuel"`: its ONE loop for `nextQuotedField` ran out
of budget; the two nested loops of the real function, each with that budget, may then still go on). In particular the
interpretation is never `stuck`. -/
theorem gen_csv_semantics_partial (doc : List Byte) (sched : List Nat) (delim : Byte) (cap : Nat) (failAt : Option Nat) (eofWD fwd : Bool)
    (hnf : Csv.readAll doc sched delim cap failAt eofWD fwd ≠ .panic "fuel") :
    CR.readAll Gen.csvFns doc sched delim cap failAt eofWD fwd = embed (C15Faults.readAll' doc sched delim cap failAt eofWD fwd) := by
  rw [gen_csv_canon]; exact canon_readAll doc sched delim cap failAt eofWD fwd hnf

/-- … in terms of `Csv.readAll` -/
theorem gen_csv_semantics_rows_partial (doc : List Byte) (sched : List Nat) (delim : Byte) (cap : Nat) (failAt : Option Nat) (eofWD fwd : Bool)
    (hnf : Csv.readAll doc sched delim cap failAt eofWD fwd ≠ .panic "fuel") :
    rowsErr (CR.readAll Gen.csvFns doc sched delim cap failAt eofWD fwd) = embed (Csv.readAll doc sched delim cap failAt eofWD fwd) := by
  rw [gen_csv_semantics_partial doc sched delim cap failAt eofWD fwd hnf, ← C15Faults.readAll'_agree]
  cases C15Faults.readAll' doc sched delim cap failAt eofWD fwd with
  | ok x => rfl
  | panic w => rfl

/-- C15 for the regenerated reader: a run of today's extracted functions ends with the failure of the underlying reader iff
the failing `Read` call was made: what the mirror's walk says of source and final error (the `Tracks` clause of `readAllLoop'_post`,
C12CsvMirror, from which `C15Faults.fail_iff_reached` is read as well), carried over by `gen_csv_semantics_partial`. -/
theorem gen_fail_iff_reached_partial (doc : List Byte) (sched : List Nat) (delim : Byte) (cap k : Nat) (eofWD fwd : Bool)
    (hnf : Csv.readAll doc sched delim cap (some k) eofWD fwd ≠ .panic "fuel")
    (rows : List (List (List Byte))) (e : Option RErr) (h : Reader)
    (hrun : CR.readAll Gen.csvFns doc sched delim cap (some k) eofWD fwd = .ok (rows, e, h)) :
    e = some .fail ↔ k < h.fs.buf.src.calls := by
  rw [gen_csv_semantics_partial doc sched delim cap (some k) eofWD fwd hnf] at hrun
  cases hr : C15Faults.readAll' doc sched delim cap (some k) eofWD fwd with
  | panic w => rw [hr] at hrun; cases hrun
  | ok x =>
    rw [hr] at hrun
    cases hrun
    exact (((readAllLoop'_post _ _ _ [] (initHeap_wf ..)).post _ hr).1 k ⟨rfl, fun hlt => absurd hlt (Nat.not_lt_zero k), nofun⟩).2.symm

/-! ## Witnesses: plausible other sources do not pass

Each mutant below is the term csvast.go produces for the changed Go text. `gen_csv_canon` fails for it (`≠ canonFns`), and a concrete run shows that it is a different reader. -/

def rowsOf : Res (List (List (List Byte)) × Option RErr × Reader) → Option (List (List (List Byte)) × Option RErr)
  | .ok x => some (x.1, x.2.1)
  | _ => none

def panicOf : Res (List (List (List Byte)) × Option RErr × Reader) → Option PCls
  | .panic c => some c
  | _ => none

/-- the canonical functions with one of them replaced -/
def withFn (f : FnId) (fn : Fn) : List (FnId × Fn) := canonFns.map fun p => if p.1 = f then (f, fn) else p

/-- `nextQuotedField` with another look-ahead statement and another `case '\r'` -/
def fnQuotedWith (ahead : S) (crCase : S) : Fn := { params := 1, body := S.block [
  S.incr (L.fld Fld.cursor),
  S.assign (L.var 1) (E.fld Fld.cursor),
  S.assign (L.var 2) (E.fld Fld.cursor),
  S.assign (L.var 3) (E.int 0),
  S.loop (S.seq ahead (S.block ([
    S.assign (L.var 5) (E.at (E.fld Fld.data) (E.fld Fld.cursor)),
    S.incr (L.fld Fld.cursor),
    S.ite (E.cmp COp.eq (E.var 5) (E.var 0))
      (S.block [S.ite qcOdd (S.block [S.ret [qField, E.bool false, E.nilErr]]) (S.block [])])
      (S.ite (E.cmp COp.eq (E.var 5) (E.byte 10))
        (S.block [S.ite qcOdd (S.block [S.ret [qField, E.bool true, E.nilErr]]) (S.block [])])
        (S.ite (E.cmp COp.eq (E.var 5) (E.byte 13))
          crCase
          (S.ite (E.cmp COp.eq (E.var 5) (E.byte 34))
            (S.block [S.incr (L.var 3), S.ite (E.cmp COp.eq (E.rem (E.var 3) (E.int 2)) (E.int 1)) (S.block [S.cont]) (S.block [])])
            (S.block []))))] ++ qKeep)))] }

/-- `case '\r': if quoteCount%2 != 0 { continue }` -/
def crTested : S := S.block [S.ite qcOdd (S.block [S.cont]) (S.block [])]

example : fnQuotedWith (S.loop aheadBody) crTested = fnQuoted := by decide

/-- `if buffer.cursor+1 >= len(buffer.data) { … }` instead of `for`: one `more()` at most before a byte is handled -/
def aheadIf : S :=
  S.ite (E.cmp COp.ge (E.add (E.fld Fld.cursor) (E.int 1)) (E.len (E.fld Fld.data)))
    (S.block [
      S.call [L.var 4] FnId.more [],
      S.ite (E.cmp COp.ne (E.var 4) E.nilErr)
        (S.block [
          S.ite eofDelim
            (S.block [S.incr (L.fld Fld.cursor), S.ret [qField, E.bool false, E.nilErr]])
            (S.block []),
          S.ret [qField, E.bool true, E.var 4]])
        (S.block [])])
    (S.block [])

/-- `"a""b"` LF -/
def docEscaped : List Byte := [34, 97, 34, 34, 98, 34, 10]

example : withFn .quoted (fnQuotedWith aheadIf crTested) ≠ canonFns := by decide

/-- a reader that delivers one byte per call, a buffer of 4 bytes: today's reader returns the row … -/
example : rowsOf (CR.readAll canonFns docEscaped [1, 1, 1, 1, 1, 1, 1, 1] 44 4 none false false) = some ([[[97, 34, 98]]], some .eof) := by
  decide +kernel

/-- … with `if` the byte after the cursor is not there yet when it is copied: `slice bounds out of range` -/
example : panicOf (CR.readAll (withFn .quoted (fnQuotedWith aheadIf crTested)) docEscaped [1, 1, 1, 1, 1, 1, 1, 1] 44 4 none false false) =
    some .slice := by
  decide +kernel

/-- `"a` CR `b"` LF -/
def docCR : List Byte := [34, 97, 13, 98, 34, 10]

example : withFn .quoted (fnQuotedWith (S.loop aheadBody) (S.block [S.cont])) ≠ canonFns := by decide

/-- a carriage return inside the quotes is content … -/
example : rowsOf (CR.readAll canonFns docCR [] 44 16 none false false) = some ([[[97, 13, 98]]], some .eof) := by decide +kernel

/-- … `case '\r': continue` without the `quoteCount%2` test loses it (and what follows it in the field) -/
example : rowsOf (CR.readAll (withFn .quoted (fnQuotedWith (S.loop aheadBody) (S.block [S.cont]))) docCR [] 44 16 none false false) =
    some ([[[97]]], some .eof) := by decide +kernel

/-- `reset` without `copy(b.data, b.data[b.cursor:])`: the unread bytes are not shifted to the front -/
def fnResetNoShift : Fn := { params := 0, body := S.block [
  S.assign (L.fld Fld.data) (E.sliceTo (E.fld Fld.data) (E.sub (E.len (E.fld Fld.data)) (E.fld Fld.cursor))),
  S.assign (L.fld Fld.cursor) (E.int 0)] }

/-- `a` LF `b` LF -/
def docTwoRows : List Byte := [97, 10, 98, 10]

example : withFn .bufReset fnResetNoShift ≠ canonFns := by decide

example : rowsOf (CR.readAll canonFns docTwoRows [] 44 16 none false false) = some ([[[97]], [[98]]], some .eof) := by decide +kernel

/-- … the second row is read from the bytes of the first -/
example : rowsOf (CR.readAll (withFn .bufReset fnResetNoShift) docTwoRows [] 44 16 none false false) =
    some ([[[97]], [[97]]], some .eof) := by decide +kernel

/-- a run with a fault: the third `Read` call fails with its bytes (the run of `C15Faults.ex_fail_run`) -/
example : rowsOf (CR.readAll canonFns C15Faults.exDoc [2, 2, 2, 2] 44 4 (some 2) false true) = some ([[[97], [98]]], some .fail) := by
  decide +kernel

end QF.Props.C12CsvGen
