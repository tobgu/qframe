import QF.Spec.Filter
/-!
# C02 — the laws of the row-wise Filter specification, proved on the spec itself

Everything here is about `QF.Spec.Filter` (`leafPred`, `Clause.sem`, `keptRows`, `filterS`) over logical
frames; no mirror model is involved.

A. Result shape: the kept rows are a sublist of `0 … n-1` (hence duplicate free and increasing), a row is kept
   iff it is a row of the frame that satisfies the clause, and the result frame has the same column names and
   types, `keptRows.length` rows, and its i-th row is the i-th kept row of the input.
B. Boolean structure: `And` = all, `Or` = any, `Not` = complement, `Null` = every row; append / permutation /
   flattening / De Morgan laws; `keptRows (.not c)` is the complement of `keptRows c` within the frame.
C. Null semantics of the comparators: whenever `cellCmp` is undefined (a null/NaN operand on either side, an
   enum cell or argument that is not in the value table, operands of different kinds) `cmp6` is `op == "!="`,
   i.e. false for every comparator except `!=`, for which it is true. `!=` is the complement of `=` on every
   pair of cells.
D. A leaf with a built-in comparator is `resolve` (the look-ups in the frame and the int/float promotion) followed by
   `route`, a function of the receiver's type, value table and strict flag, the comparator string and the kind of
   argument whose result looks at two cells (`leafPred_builtin`); `leafPred_p1` / `leafPred_p2` are the equations for the
   user's predicates. Leaves rejected for the kind of their argument alone: `argFits` (column type against kind of
   argument) and `opFits` (comparator against kind of argument); whatever fails either test is rejected.
E. The inverse pairs `= ↦ !=`, `isnull ↦ isnotnull`, `isnotnull ↦ isnull` are semantic complements at the level
   of `leafPred`, including acceptance (`leafPred_inverse_eq`): the leaf with the inverse comparator is accepted exactly
   when the leaf is, with the negated predicate.
-/
namespace QF.Props.C02Spec
open QF

-- `lo` and `f` are explicit arguments in sections A–C and E; the lemmas of section D take them implicitly.
variable (lo : LikeOracle) (f : LFrame)

/-! ## A. Result shape -/

theorem keptRows_sublist (c : Clause) : (keptRows lo f c).Sublist (List.range f.n) := by
  unfold keptRows; exact List.filter_sublist

theorem keptRows_nodup (c : Clause) : (keptRows lo f c).Nodup :=
  (keptRows_sublist lo f c).nodup List.nodup_range

/-- The kept rows are strictly increasing: original relative order. -/
theorem keptRows_increasing (c : Clause) : (keptRows lo f c).Pairwise (· < ·) :=
  List.Pairwise.sublist (keptRows_sublist lo f c) List.pairwise_lt_range

theorem keptRows_mem (c : Clause) (r : Nat) : r ∈ keptRows lo f c ↔ r < f.n ∧ c.sem lo f r = true := by
  simp [keptRows, List.mem_filter, List.mem_range]

theorem filterS_ok_iff (c : Clause) :
    (∃ g, filterS lo f c = .ok g) ↔ c.wellFormed lo f = true := by
  unfold filterS; split <;> simp_all

theorem filterS_eq (c : Clause) (g : LFrame) (h : filterS lo f c = .ok g) :
    g = f.pick (keptRows lo f c) := by
  unfold filterS at h; split at h
  · injection h with h; exact h.symm
  · cases h

theorem filterS_columns (c : Clause) (g : LFrame) (h : filterS lo f c = .ok g) :
    g.names = f.names ∧ g.cols.map (·.ty) = f.cols.map (·.ty) ∧ g.n = (keptRows lo f c).length := by
  rw [filterS_eq lo f c g h]
  simp [LFrame.pick, LFrame.names, List.map_map, Function.comp_def]

theorem pick_row (rs : List Nat) (i : Nat) (hi : i < rs.length) : (f.pick rs).row i = f.row rs[i] := by
  simp [LFrame.pick, LFrame.row, List.map_map, Function.comp_def, hi]

theorem filterS_rows (c : Clause) (g : LFrame) (h : filterS lo f c = .ok g) :
    g.rows = (keptRows lo f c).map f.row := by
  rw [filterS_eq lo f c g h]
  apply List.ext_getElem
  · simp [LFrame.rows, LFrame.pick]
  · intro i h1 h2
    simp [LFrame.rows, LFrame.pick] at h1
    simp [LFrame.rows]
    rw [pick_row _ _ _ h1]

/-! ## B. Boolean structure -/

theorem sem_and (cs : List Clause) (r : Nat) : (Clause.and cs).sem lo f r = cs.all (fun c => c.sem lo f r) := by
  rw [Clause.sem]
  induction cs with
  | nil => simp [semAll]
  | cons c cs ih => simp [semAll, ih]

theorem sem_or (cs : List Clause) (r : Nat) : (Clause.or cs).sem lo f r = cs.any (fun c => c.sem lo f r) := by
  rw [Clause.sem]
  induction cs with
  | nil => simp [semAny]
  | cons c cs ih => simp [semAny, ih]

theorem sem_not (c : Clause) (r : Nat) : (Clause.not c).sem lo f r = !(c.sem lo f r) := by
  simp [Clause.sem]

theorem sem_null (r : Nat) : Clause.null.sem lo f r = true := by simp [Clause.sem]

theorem sem_and_perm (cs ds : List Clause) (r : Nat) (h : cs.Perm ds) :
    (Clause.and cs).sem lo f r = (Clause.and ds).sem lo f r := by
  rw [sem_and, sem_and, h.all_eq]

theorem sem_or_perm (cs ds : List Clause) (r : Nat) (h : cs.Perm ds) :
    (Clause.or cs).sem lo f r = (Clause.or ds).sem lo f r := by
  rw [sem_or, sem_or, h.any_eq]

theorem sem_and_append (cs ds : List Clause) (r : Nat) :
    (Clause.and (cs ++ ds)).sem lo f r = ((Clause.and cs).sem lo f r && (Clause.and ds).sem lo f r) := by
  simp [sem_and]
theorem sem_or_append (cs ds : List Clause) (r : Nat) :
    (Clause.or (cs ++ ds)).sem lo f r = ((Clause.or cs).sem lo f r || (Clause.or ds).sem lo f r) := by
  simp [sem_or]

theorem sem_and_flatten (cs : List Clause) (d : Clause) (r : Nat) :
    (Clause.and [Clause.and cs, d]).sem lo f r = (Clause.and (cs ++ [d])).sem lo f r := by
  simp [sem_and]
theorem sem_or_flatten (cs : List Clause) (d : Clause) (r : Nat) :
    (Clause.or [Clause.or cs, d]).sem lo f r = (Clause.or (cs ++ [d])).sem lo f r := by
  simp [sem_or]

theorem de_morgan_and (cs : List Clause) (r : Nat) :
    (Clause.not (Clause.and cs)).sem lo f r = (Clause.or (cs.map Clause.not)).sem lo f r := by
  rw [sem_not, sem_and, sem_or]
  induction cs with
  | nil => simp
  | cons c cs ih => simp [sem_not, ← ih, Bool.not_and]

theorem de_morgan_or (cs : List Clause) (r : Nat) :
    (Clause.not (Clause.or cs)).sem lo f r = (Clause.and (cs.map Clause.not)).sem lo f r := by
  rw [sem_not, sem_and, sem_or]
  induction cs with
  | nil => simp
  | cons c cs ih => simp [sem_not, ← ih, Bool.not_or]

theorem keptRows_not (c : Clause) :
    keptRows lo f (.not c) = (List.range f.n).filter (fun r => r ∉ keptRows lo f c) := by
  unfold keptRows
  apply List.filter_congr
  intro r hr
  simp [sem_not, List.mem_filter, List.mem_range] at hr ⊢
  intro h; omega

/-! ## C. Null semantics of the six comparators

`cmp6` is defined through `cellCmp`, which is `none` ("not comparable") in exactly these situations: an operand
is null (`str none`) or NaN; the column is an enum column and an operand is a non-null string that is not in the
value table; the operands are of different kinds. In all of them the result is `op == "!="`. The two theorems
`cmp6_null_left/right` hold for every string `op`, one of the six comparators or not; the enum case is
`cmp6_enum_unknown_left/right`. -/

theorem cellCmp_null_left (c : LCol) (a b : Cell) (h : a.isNull = true) : cellCmp c a b = none := by
  cases a with
  | int v => simp [Cell.isNull] at h
  | bool v => simp [Cell.isNull] at h
  | float x =>
    simp only [Cell.isNull] at h
    cases b <;> simp [cellCmp, h]
  | str s =>
    cases s with
    | some x => simp [Cell.isNull] at h
    | none => cases b <;> simp [cellCmp]

theorem cellCmp_null_right (c : LCol) (a b : Cell) (h : b.isNull = true) : cellCmp c a b = none := by
  cases b with
  | int v => simp [Cell.isNull] at h
  | bool v => simp [Cell.isNull] at h
  | float x =>
    simp only [Cell.isNull] at h
    cases a <;> simp [cellCmp, h]
  | str s =>
    cases s with
    | some x => simp [Cell.isNull] at h
    | none => rcases a with v | v | v | _ | v <;> simp [cellCmp]

theorem cmp6_of_cellCmp_none (c : LCol) (op : String) (a b : Cell) (h : cellCmp c a b = none) :
    cmp6 c op a b = (op == "!=") := by
  simp [cmp6, h]

theorem cellCmp_enum_unknown_left (c : LCol) (x : Bytes) (b : Cell) (hty : c.ty = .enum)
    (hx : enumRank c.vals x = none) : cellCmp c (.str (some x)) b = none := by
  rcases b with v | v | v | _ | v <;> simp [cellCmp, hty, hx]

theorem cellCmp_enum_unknown_right (c : LCol) (a : Cell) (y : Bytes) (hty : c.ty = .enum)
    (hy : enumRank c.vals y = none) : cellCmp c a (.str (some y)) = none := by
  rcases a with v | v | v | _ | v <;> simp [cellCmp, hty, hy]

theorem cmp6_null_left (c : LCol) (op : String) (a b : Cell) (h : a.isNull = true) :
    cmp6 c op a b = (op == "!=") :=
  cmp6_of_cellCmp_none c op a b (cellCmp_null_left c a b h)

theorem cmp6_null_right (c : LCol) (op : String) (a b : Cell) (h : b.isNull = true) :
    cmp6 c op a b = (op == "!=") :=
  cmp6_of_cellCmp_none c op a b (cellCmp_null_right c a b h)

theorem cmp6_null_table (c : LCol) (a b : Cell) (h : a.isNull = true ∨ b.isNull = true) :
    cmp6 c "<" a b = false ∧ cmp6 c "<=" a b = false ∧ cmp6 c ">" a b = false ∧ cmp6 c ">=" a b = false ∧
    cmp6 c "=" a b = false ∧ cmp6 c "!=" a b = true := by
  have hn : cellCmp c a b = none := by
    rcases h with h | h
    · exact cellCmp_null_left c a b h
    · exact cellCmp_null_right c a b h
  simp [cmp6_of_cellCmp_none c _ a b hn]

theorem cmp6_enum_unknown_left (c : LCol) (op : String) (x : Bytes) (b : Cell) (hty : c.ty = .enum)
    (hx : enumRank c.vals x = none) : cmp6 c op (.str (some x)) b = (op == "!=") :=
  cmp6_of_cellCmp_none c op _ b (cellCmp_enum_unknown_left c x b hty hx)

theorem cmp6_enum_unknown_right (c : LCol) (op : String) (a : Cell) (y : Bytes) (hty : c.ty = .enum)
    (hy : enumRank c.vals y = none) : cmp6 c op a (.str (some y)) = (op == "!=") :=
  cmp6_of_cellCmp_none c op a _ (cellCmp_enum_unknown_right c a y hty hy)

/-- Not only nulls: an enum value outside the table is not even `<=` itself. -/
example : cmp6 { name := [], ty := .enum, vals := [[1]], cells := #[] } "<=" (.str (some [2])) (.str (some [2])) = false := by
  decide
/-- Not only nulls: cells of different kinds are `!=`. -/
example : cmp6 { name := [], ty := .int, cells := #[] } "!=" (.int 1) (.float 0) = true := by decide

theorem cmp6_neq_is_not_eq (c : LCol) (a b : Cell) : cmp6 c "!=" a b = !(cmp6 c "=" a b) := by
  unfold cmp6
  cases cellCmp c a b with
  | none => simp
  | some o => cases o <;> simp [ordOp]

/-- The other five are NOT complements of each other in the presence of nulls: `>` is not the complement of `<=`. -/
example : cmp6 { name := [], ty := .string, cells := #[] } ">" (.str none) (.str (some [])) = false ∧
          cmp6 { name := [], ty := .string, cells := #[] } "<=" (.str none) (.str (some [])) = false := by decide

/-! ## D. A leaf with a built-in comparator: look-ups in the frame, then a function of two cells

`leafPred` decides such a leaf on the receiver's type, value table and strict flag, the comparator string and the kind of
argument, and its row predicate looks at the two cells of the row only. `resolve` is the part that needs the frame,
`route` the rest; every law below is a law of `route`, carried to `leafPred` by `leafPred_builtin`.

`resolve` / `route` are not part of the trusted reading: they are a second presentation of the `.builtin` branch of
`leafPred` (QF/Spec/Filter.lean), tied to it by `leafPred_builtin`, and for that reason stand here and not in QF/Spec. -/

/-- The receiver and the column of the second operand of a leaf on column `c`: an argument column is looked up and an
int column compared with a float column replaced by its float image; any other argument leaves `c` alone. -/
def resolve (f : LFrame) (c : LCol) : Arg → Option (LCol × LCol)
  | .col an => (f.find? an).map fun ac =>
      if c.ty == .int && ac.ty == .float then (promote c, ac)
      else if c.ty == .float && ac.ty == .int then (c, promote ac) else (c, ac)
  | _ => some (c, c)

/-- `leafPred` for the built-in comparator `op` on one pair of cells: `x` of the receiver `c`, `y` of the column `ac` of
the second operand (looked at for a column argument only). -/
def route (lo : LikeOracle) (c : LCol) (op : String) (ac : LCol) : Arg → Option (Cell → Cell → Bool)
  | .bad => none
  | .col _ =>
    if c.ty != ac.ty then none
    else if c.ty == .enum && (c.vals != ac.vals) then none
    else if (if c.ty == .bool then op == "=" || op == "!=" else isOrd6 op) then some (cmp6 c op) else none
  | .nil =>
    if c.ty == .bool then none
    else if op == "isnull" then some (fun x _ => x.isNull)
    else if op == "isnotnull" then some (fun x _ => !x.isNull)
    else none
  | .ints vs => if c.ty == .int && op == "in" then some (fun x _ => match x with | .int a => vs.contains a | _ => false) else none
  | .strs vs =>
    if (c.ty == .string || c.ty == .enum) && op == "in" then
      some (fun x _ => match x with | .str (some u) => vs.contains u | _ => false) else none
  | .cell k =>
    match c.ty, k with
    | .int, .int v =>
      if isOrd6 op then some (fun x _ => cmp6 c op x k)
      else if op == "any_bits" then some (fun x _ => match x with
        | .int a => wrap64 (Int.ofNat (intBits a &&& intBits v)) > 0 | _ => false)
      else if op == "all_bits" then some (fun x _ => match x with
        | .int a => (intBits a &&& intBits v) == intBits v | _ => false)
      else none
    | .float, .float v =>
      if F64.isNaN v then none
      else if isOrd6 op then some (fun x _ => cmp6 c op x k) else none
    | .bool, .bool _ =>
      if op == "=" || op == "!=" then some (fun x _ => cmp6 c op x k) else none
    | .string, .str (some v) =>
      if isOrd6 op then some (fun x _ => cmp6 c op x k)
      else if op == "like" || op == "ilike" then
        if lo.valid v (op == "ilike") then
          some (fun x _ => match x with | .str (some u) => lo.isMatch v (op == "ilike") u | _ => false) else none
      else none
    | .enum, .str (some v) =>
      if isOrd6 op then
        if (enumRank c.vals v).isSome then some (fun x _ => cmp6 c op x k)
        else if c.strict then none
        else some (fun _ _ => op == "!=")
      else if op == "like" || op == "ilike" then
        if lo.valid v (op == "ilike") then
          some (fun x _ => match x with | .str (some u) => lo.isMatch v (op == "ilike") u | _ => false) else none
      else none
    | _, _ => none

def onRows (c ac : LCol) (q : Cell → Cell → Bool) : Nat → Bool := fun r => q c.cells[r]! ac.cells[r]!

section
variable {lo : LikeOracle} {f : LFrame} {l : Leaf} {c ac : LCol} {op : String} {a : Arg}

theorem leafPred_unknown_col (hc : f.find? l.col = none) : leafPred lo f l = none := by
  unfold leafPred; rw [hc]

theorem resolve_noncol (h : ∀ an, a ≠ .col an) : resolve f c a = some (c, c) := by
  cases a <;> first | rfl | exact absurd rfl (h _)

/-- **`leafPred` is `route` on the rows of the resolved columns.** -/
theorem leafPred_builtin (hc : f.find? l.col = some c) (hcmp : l.cmp = .builtin op) :
    leafPred lo f l = (resolve f c l.arg).bind fun p => (route lo p.1 op p.2 l.arg).map (onRows p.1 p.2) := by
  unfold leafPred
  rw [hc]; simp only [hcmp]
  cases l.arg with
  | col an =>
    simp only [resolve]
    cases f.find? an with
    | none => rfl
    | some ac =>
      simp only [Option.map_some, Option.bind_some]
      -- `split` on the pair costs twice as much
      generalize (if (c.ty == CType.int && ac.ty == CType.float) = true then (promote c, ac)
        else if (c.ty == CType.float && ac.ty == CType.int) = true then (c, promote ac) else (c, ac)) = pr
      obtain ⟨c', ac'⟩ := pr
      simp only [route, apply_ite (Option.map _), Option.map_some, Option.map_none]; rfl
  | cell k =>
    simp only [resolve, Option.bind_some, route]
    generalize c.ty = t
    rcases k with _ | _ | _ | (_ | _) <;> cases t <;> simp only [apply_ite (Option.map _), Option.map_some, Option.map_none] <;> rfl
  | bad => rfl
  | nil | ints vs | strs vs =>
    simp only [resolve, Option.bind_some, route, apply_ite (Option.map _), Option.map_some, Option.map_none]; rfl

theorem leafPred_some {p : Nat → Bool} (hc : f.find? l.col = some c) (hcmp : l.cmp = .builtin op) (hp : leafPred lo f l = some p) :
    ∃ c' ac' q, resolve f c l.arg = some (c', ac') ∧ route lo c' op ac' l.arg = some q ∧ p = onRows c' ac' q := by
  rw [leafPred_builtin hc hcmp] at hp
  obtain ⟨p', hr, hp⟩ := Option.bind_eq_some_iff.1 hp
  obtain ⟨q, hq, rfl⟩ := Option.map_eq_some_iff.1 hp
  exact ⟨p'.1, p'.2, q, hr, hq, rfl⟩

/-- what is true of `route` on every pair of columns is true of `leafPred` -/
theorem leafPred_of_route {P : Option (Nat → Bool) → Prop} (hcmp : l.cmp = .builtin op) (hn : P none)
    (h : ∀ c' ac', P ((route lo c' op ac' l.arg).map (onRows c' ac'))) : P (leafPred lo f l) := by
  cases hc : f.find? l.col with
  | none => rw [leafPred_unknown_col hc]; exact hn
  | some c =>
    rw [leafPred_builtin hc hcmp]
    cases resolve f c l.arg with
    | none => exact hn
    | some p => exact h p.1 p.2

/-! ### The user's predicates -/

/-- `okTy` of `leafPred`: the parameter type of the predicate `id` is the column's type -/
def p1Fits : String → CType → Bool
  | "odd", .int => true | "neg", .float => true | "id", .bool => true
  | "isnil", .string => true | "isnil", .enum => true
  | "len2", .string => true | "len2", .enum => true
  | _, _ => false

theorem leafPred_p1 {id : String} (hc : f.find? l.col = some c) (hcmp : l.cmp = .p1 id) :
    leafPred lo f l = if p1Fits id c.ty then some (fun r => (userP1 id c.cells[r]!).getD false) else none := by
  unfold leafPred
  rw [hc]; simp only [hcmp]; rfl

/-- A two-argument predicate needs an argument column of the same type after the promotion, which must not have
changed the receiver's type. -/
theorem leafPred_p2 (hc : f.find? l.col = some c) (hcmp : l.cmp = .p2) :
    leafPred lo f l = match l.arg with
      | .col _ => (resolve f c l.arg).bind fun p =>
          if p.1.ty == p.2.ty && c.ty == p.1.ty then some (onRows p.1 p.2 fun x y => (userP2 x y).getD false) else none
      | _ => none := by
  unfold leafPred
  rw [hc]; simp only [hcmp]
  cases l.arg with
  | col an =>
    simp only [resolve]
    cases f.find? an with
    | none => rfl
    | some ac =>
      simp only [Option.map_some, Option.bind_some]
      generalize (if (c.ty == CType.int && ac.ty == CType.float) = true then (promote c, ac)
        else if (c.ty == CType.float && ac.ty == CType.int) = true then (c, promote ac) else (c, ac)) = pr
      rfl
  | _ => rfl

/-! ### Which leaves are rejected outright, by kind of argument -/

/-- the kinds of argument a column of each of the five types is compared with -/
def argFits : CType → Arg → Bool
  | .int, .cell (.int _) | .float, .cell (.float _) | .bool, .cell (.bool _) => true
  | .string, .cell (.str (some _)) | .enum, .cell (.str (some _)) => true
  | .int, .ints _ | .string, .strs _ | .enum, .strs _ => true
  | t, .nil => t != .bool
  | _, .col _ => true
  | _, _ => false

theorem route_argMisfit (h : argFits c.ty a = false) : route lo c op ac a = none := by
  unfold route
  generalize c.ty = t at h
  -- every (type, kind) pair: either `argFits` holds, or `route` has no case for the pair
  rcases a with (_ | _ | _ | (_ | _)) | _ | _ | _ | _ | _ <;> cases t <;> first | rfl | contradiction

/-- An argument of a kind the column type does not take is rejected, whatever the comparator. -/
theorem leafPred_argMisfit (hc : f.find? l.col = some c) (hcmp : l.cmp = .builtin op) (h : argFits c.ty l.arg = false) :
    leafPred lo f l = none := by
  rw [leafPred_builtin hc hcmp]
  cases harg : l.arg with
  | col an => rw [harg] at h; generalize c.ty = t at h; cases t <;> cases h
  | _ => rw [harg] at h; simp only [resolve, Option.bind_some, route_argMisfit h, Option.map_none]

/-- the kinds of argument a comparator takes -/
def opFits (op : String) : Arg → Bool
  | .cell (.int _) => isOrd6 op || op == "any_bits" || op == "all_bits"
  | .cell (.str (some _)) => isOrd6 op || op == "like" || op == "ilike"
  | .cell _ | .col _ => isOrd6 op
  | .nil => op == "isnull" || op == "isnotnull"
  | .ints _ | .strs _ => op == "in"
  | .bad => false

theorem isOrd6_eq_or_ne (h : isOrd6 op = false) : (op == "=" || op == "!=") = false := by
  simp only [isOrd6, List.mem_cons, List.not_mem_nil, or_false, decide_eq_false_iff_not, not_or] at h
  simp [h]

theorem route_opMisfit (h : opFits op a = false) : route lo c op ac a = none := by
  unfold route
  cases a with
  | bad => rfl
  | nil => simp only [opFits, Bool.or_eq_false_iff] at h; simp [h.1, h.2]
  | ints vs | strs vs => simp only [opFits] at h; simp [h]
  | col an => simp only [opFits] at h; simp [h, isOrd6_eq_or_ne h]
  | cell k =>
    simp only
    split
    · simp only [opFits, Bool.or_eq_false_iff] at h; simp [h]
    · simp only [opFits] at h; simp [h]
    · simp only [opFits] at h; simp [isOrd6_eq_or_ne h]
    · simp only [opFits, Bool.or_eq_false_iff] at h; simp [h]
    · simp only [opFits, Bool.or_eq_false_iff] at h; simp [h]
    · rfl

/-- A comparator that does not take this kind of argument (in particular an unknown comparator) is rejected. -/
theorem leafPred_opMisfit (hcmp : l.cmp = .builtin op) (h : opFits op l.arg = false) : leafPred lo f l = none :=
  leafPred_of_route (P := (· = none)) hcmp rfl fun c' ac' => by rw [route_opMisfit h]; rfl

theorem opFits_null (hop : op = "isnull" ∨ op = "isnotnull") (hfit : opFits op a = true) : a = .nil := by
  rcases hop with rfl | rfl <;> rcases a with (_ | _ | _ | _ | _) | _ | _ | _ | _ | _ <;> first | rfl | cases hfit

theorem route_nullop {q : Cell → Cell → Bool} (hop : op = "isnull" ∨ op = "isnotnull") (h : route lo c op ac a = some q) :
    a = .nil ∧ c.ty ≠ .bool ∧ q = fun x _ => if op = "isnull" then x.isNull else !x.isNull := by
  have harg : a = .nil := opFits_null hop (by
    cases hf : opFits op a
    · rw [route_opMisfit hf] at h; cases h
    · rfl)
  subst harg
  refine ⟨rfl, ?_⟩
  unfold route at h
  rcases hop with rfl | rfl <;> simp at h ⊢ <;> exact ⟨h.1, h.2.symm⟩
end

/-! ## E. The inverse pairs are semantic complements -/

theorem route_neq (c ac : LCol) (a : Arg) : route lo c "!=" ac a = (route lo c "=" ac a).map fun q x y => !q x y := by
  have cmp6_neq : cmp6 c "!=" = fun x y => !cmp6 c "=" x y := by
    funext x y; exact cmp6_neq_is_not_eq c x y
  cases a with
  | cell k =>
    simp only [route]
    generalize c.ty = t
    rcases k with _ | _ | _ | (_ | _) <;> cases t <;> simp [isOrd6, apply_ite (Option.map _), cmp6_neq_is_not_eq]
  | _ => simp [route, isOrd6, apply_ite (Option.map _), cmp6_neq]

theorem route_isnotnull (c ac : LCol) (a : Arg) :
    route lo c "isnotnull" ac a = (route lo c "isnull" ac a).map fun q x y => !q x y := by
  by_cases ha : a = .nil
  · subst ha; simp [route, apply_ite (Option.map _)]
  · rw [route_opMisfit (Bool.eq_false_iff.2 fun h => ha (opFits_null (Or.inl rfl) h)),
      route_opMisfit (Bool.eq_false_iff.2 fun h => ha (opFits_null (Or.inr rfl) h))]; rfl

/-- The pairs of `filter.Inverse` whose comparators exist in the spec (`in`/`not in` have no spec-level `not in`). -/
def inversePairs : List (String × String) :=
  [("=", "!="), ("isnull", "isnotnull"), ("isnotnull", "isnull")]

theorem route_inverse {op inv : String} (hp : (op, inv) ∈ inversePairs) (c ac : LCol) (a : Arg) :
    route lo c inv ac a = (route lo c op ac a).map fun q x y => !q x y := by
  simp only [inversePairs, List.mem_cons, Prod.mk.injEq, List.mem_nil_iff, or_false] at hp
  rcases hp with ⟨rfl, rfl⟩ | ⟨rfl, rfl⟩ | ⟨rfl, rfl⟩
  · exact route_neq lo c ac a
  · exact route_isnotnull lo c ac a
  · rw [route_isnotnull, Option.map_map]
    cases route lo c "isnotnull" ac a <;> simp [Function.comp_def]

/-- **Replacing the comparator of a leaf by its inverse**: the leaf is accepted exactly when the original is, and its
predicate is the pointwise negation. This is what makes the inverse shortcut of the implementation (`QFrame.filter`
calls the column with `filter.Inverse[comparator]`) sound for the three pairs of `inversePairs`; `in` / `not in`, the
other two entries of `filter.Inverse`, are not covered. -/
theorem leafPred_inverse_eq (l : Leaf) (op inv : String) (hcmp : l.cmp = .builtin op) (hp : (op, inv) ∈ inversePairs) :
    leafPred lo f { l with cmp := .builtin inv } = (leafPred lo f l).map fun p r => !p r := by
  cases hc : f.find? l.col with
  | none => rw [leafPred_unknown_col hc, leafPred_unknown_col (l := { l with cmp := .builtin inv }) hc]; rfl
  | some c =>
    rw [leafPred_builtin hc hcmp, leafPred_builtin (l := { l with cmp := .builtin inv }) hc rfl]
    cases resolve f c l.arg with
    | none => rfl
    | some p => simp only [Option.bind_some, route_inverse lo hp, Option.map_map]; rfl

theorem leafPred_inverse (l : Leaf) (op inv : String) (p : Nat → Bool)
    (hcmp : l.cmp = .builtin op) (hp : (op, inv) ∈ inversePairs)
    (hl : leafPred lo f l = some p) :
    ∃ q, leafPred lo f { l with cmp := .builtin inv } = some q ∧ ∀ r, q r = !p r :=
  ⟨_, by rw [leafPred_inverse_eq lo f l op inv hcmp hp, hl]; rfl, fun _ => rfl⟩

theorem leafPred_eq_neq (i : Bool) (col : Bytes) (arg : Arg) (p : Nat → Bool)
    (hl : leafPred lo f ⟨i, col, .builtin "=", arg⟩ = some p) :
    ∃ q, leafPred lo f ⟨i, col, .builtin "!=", arg⟩ = some q ∧ ∀ r, q r = !p r :=
  leafPred_inverse lo f ⟨i, col, .builtin "=", arg⟩ "=" "!=" p rfl (by decide) hl

/-- `isnull`/`isnotnull` are accepted only with a nil argument on a non-bool column. -/
theorem leafPred_nullop (i : Bool) (col : Bytes) (arg : Arg) (op : String) (p : Nat → Bool)
    (hop : op = "isnull" ∨ op = "isnotnull")
    (hl : leafPred lo f ⟨i, col, .builtin op, arg⟩ = some p) :
    ∃ c, f.find? col = some c ∧ arg = .nil ∧ c.ty ≠ .bool ∧
      p = fun r => if op = "isnull" then c.cells[r]!.isNull else !c.cells[r]!.isNull := by
  cases hc : f.find? col with
  | none => rw [leafPred_unknown_col hc] at hl; cases hl
  | some c =>
    obtain ⟨c', ac', q, hr, hq, rfl⟩ := leafPred_some hc rfl hl
    obtain ⟨rfl, hty, rfl⟩ := route_nullop hop hq
    cases hr
    exact ⟨c, rfl, rfl, hty, rfl⟩

/-- Conversely such a leaf is accepted, with the null test (resp. its negation) as predicate. -/
theorem leafPred_isnull (i : Bool) (col : Bytes) (c : LCol) (hc : f.find? col = some c) (hty : c.ty ≠ .bool) :
    leafPred lo f ⟨i, col, .builtin "isnull", .nil⟩ = some (fun r => c.cells[r]!.isNull) := by
  rw [leafPred_builtin (l := ⟨i, col, .builtin "isnull", .nil⟩) hc rfl]
  simp [resolve, route, hty]; rfl

theorem leafPred_isnotnull (i : Bool) (col : Bytes) (c : LCol) (hc : f.find? col = some c) (hty : c.ty ≠ .bool) :
    leafPred lo f ⟨i, col, .builtin "isnotnull", .nil⟩ = some (fun r => !c.cells[r]!.isNull) := by
  rw [leafPred_builtin (l := ⟨i, col, .builtin "isnotnull", .nil⟩) hc rfl]
  simp [resolve, route, hty]; rfl

/-- Clause-level reading: an accepted leaf with the inverse comparator means `Not` of the leaf, on every row,
whatever the `inv` flag. (Hence also: inverse comparator + flipped flag = the original leaf.) -/
theorem sem_leaf_inverse (l : Leaf) (op inv : String) (r : Nat)
    (hcmp : l.cmp = .builtin op) (hp : (op, inv) ∈ inversePairs)
    (ht : (Clause.leaf l).typed lo f = true) :
    (Clause.leaf { l with cmp := .builtin inv }).sem lo f r = (Clause.not (Clause.leaf l)).sem lo f r := by
  simp only [Clause.typed] at ht
  obtain ⟨p, hl⟩ := Option.isSome_iff_exists.mp ht
  obtain ⟨q, hq, hqp⟩ := leafPred_inverse lo f l op inv p hcmp hp hl
  simp only [Clause.sem, hq, hl, hqp]
  cases l.inv <;> simp

theorem sem_leaf_inverse_flip (l : Leaf) (op inv : String) (r : Nat)
    (hcmp : l.cmp = .builtin op) (hp : (op, inv) ∈ inversePairs)
    (ht : (Clause.leaf l).typed lo f = true) :
    (Clause.leaf { l with cmp := .builtin inv, inv := !l.inv }).sem lo f r = (Clause.leaf l).sem lo f r := by
  simp only [Clause.typed] at ht
  obtain ⟨p, hl⟩ := Option.isSome_iff_exists.mp ht
  obtain ⟨q, hq, hqp⟩ := leafPred_inverse lo f l op inv p hcmp hp hl
  have hq' : leafPred lo f { l with cmp := .builtin inv, inv := !l.inv } = some q := by
    rw [← hq]; unfold leafPred; rfl
  simp only [Clause.sem, hq', hl, hqp]
  cases l.inv <;> simp

/- The statement is specific to these pairs: an ordering comparator and its arithmetic "inverse" are not
complements on a column with a null (`>` vs `<=`), see the example in section C. -/

/-! ## Concrete instances: the hypotheses are satisfiable and the laws are not vacuous -/

def lo0 : LikeOracle := ⟨fun _ _ => true, fun _ _ _ => false⟩
/-- a = [1, 2, 3] (int), b = [NaN, 0, 1] (float) -/
def f0 : LFrame :=
  { cols := [ { name := [97], ty := .int, cells := #[.int 1, .int 2, .int 3] },
              { name := [98], ty := .float, cells := #[.float F64.canonNaN, .float 0, .float 0x3ff0000000000000] } ],
    n := 3 }
def aGt1 : Leaf := ⟨false, [97], .builtin ">", .cell (.int 1)⟩
def bNull : Leaf := ⟨false, [98], .builtin "isnull", .nil⟩
def bEq0 : Leaf := ⟨false, [98], .builtin "=", .cell (.float 0)⟩
def c0 : Clause := .and [.leaf aGt1, .not (.leaf bNull)]

example : keptRows lo0 f0 c0 = [1, 2] := by decide
example : c0.wellFormed lo0 f0 = true := by decide
/-- `filterS_columns` / `filterS_rows`: the hypothesis `filterS … = .ok g` holds for a non-trivial clause. -/
example : ∃ g, filterS lo0 f0 c0 = .ok g ∧ g.n = 2 ∧ g.rows = [f0.row 1, f0.row 2] := by
  have h : filterS lo0 f0 c0 = .ok (f0.pick (keptRows lo0 f0 c0)) := by
    unfold filterS; rw [if_pos (by decide)]
  refine ⟨_, h, ?_, ?_⟩
  · rw [(filterS_columns lo0 f0 c0 _ h).2.2]; decide
  · rw [filterS_rows lo0 f0 c0 _ h]; decide
/-- `sem_and_perm`: a genuine permutation. -/
example : [Clause.leaf aGt1, .not (.leaf bNull)].Perm [.not (.leaf bNull), Clause.leaf aGt1] :=
  List.Perm.swap _ _ _
/-- `keptRows_not`: the NaN row is in the complement of `b = 0`, and it is also what `b != 0` keeps. -/
example : keptRows lo0 f0 (.leaf bEq0) = [1] ∧ keptRows lo0 f0 (.not (.leaf bEq0)) = [0, 2] ∧
    keptRows lo0 f0 (.leaf { bEq0 with cmp := .builtin "!=" }) = [0, 2] := by decide
/-- `cmp6_null_left`: a NaN cell is null. -/
example : (Cell.float F64.canonNaN).isNull = true := by decide
/-- `cmp6_enum_unknown_left`: an enum column and a value outside its table. -/
example : (⟨[], .enum, [[1]], false, #[]⟩ : LCol).ty = .enum ∧ enumRank (⟨[], .enum, [[1]], false, #[]⟩ : LCol).vals [2] = none := by
  decide
/-- `leafPred_inverse` / `sem_leaf_inverse`: accepted leaves with `=` and with `isnull`. -/
example : (leafPred lo0 f0 bEq0).isSome = true ∧ bEq0.cmp = .builtin "=" ∧ ("=", "!=") ∈ inversePairs := by
  refine ⟨by decide, rfl, by decide⟩
example : (leafPred lo0 f0 bNull).isSome = true ∧ ("isnull", "isnotnull") ∈ inversePairs := by
  refine ⟨by decide, by decide⟩
example : (Clause.leaf bEq0).typed lo0 f0 = true := by decide

end QF.Props.C02Spec

#print axioms QF.Props.C02Spec.keptRows_sublist
#print axioms QF.Props.C02Spec.keptRows_nodup
#print axioms QF.Props.C02Spec.keptRows_increasing
#print axioms QF.Props.C02Spec.keptRows_mem
#print axioms QF.Props.C02Spec.filterS_ok_iff
#print axioms QF.Props.C02Spec.filterS_columns
#print axioms QF.Props.C02Spec.filterS_rows
#print axioms QF.Props.C02Spec.sem_not
#print axioms QF.Props.C02Spec.sem_null
#print axioms QF.Props.C02Spec.sem_and
#print axioms QF.Props.C02Spec.sem_or
#print axioms QF.Props.C02Spec.sem_and_append
#print axioms QF.Props.C02Spec.sem_or_append
#print axioms QF.Props.C02Spec.sem_and_perm
#print axioms QF.Props.C02Spec.sem_or_perm
#print axioms QF.Props.C02Spec.sem_and_flatten
#print axioms QF.Props.C02Spec.sem_or_flatten
#print axioms QF.Props.C02Spec.de_morgan_and
#print axioms QF.Props.C02Spec.de_morgan_or
#print axioms QF.Props.C02Spec.keptRows_not
#print axioms QF.Props.C02Spec.cmp6_null_left
#print axioms QF.Props.C02Spec.cmp6_null_right
#print axioms QF.Props.C02Spec.cmp6_null_table
#print axioms QF.Props.C02Spec.cmp6_enum_unknown_left
#print axioms QF.Props.C02Spec.cmp6_enum_unknown_right
#print axioms QF.Props.C02Spec.cmp6_neq_is_not_eq
#print axioms QF.Props.C02Spec.leafPred_builtin
#print axioms QF.Props.C02Spec.leafPred_inverse_eq
#print axioms QF.Props.C02Spec.leafPred_eq_neq
#print axioms QF.Props.C02Spec.leafPred_nullop
#print axioms QF.Props.C02Spec.leafPred_inverse
#print axioms QF.Props.C02Spec.sem_leaf_inverse
#print axioms QF.Props.C02Spec.sem_leaf_inverse_flip
