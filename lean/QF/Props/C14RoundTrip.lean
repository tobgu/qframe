import QF.Props.C14EndToEnd
import QF.Props.C17Enum
import QF.Core.ListFacts
import QF.Core.F64Lemmas
/-!
# C14 — `ReadJSON ∘ ToJSON` end to end, WITHOUT hypotheses on formatter and parser; the configured reader

`C14EndToEnd.readjson_tojson_partial` / `gen_json_roundtrip_end_to_end_partial` take two hypotheses: `FrameOK fmt f` (the
formatter's text for the frame's floats is a JSON number token) and `ReadsBack pnum fmt` (the parser returns what the
numbers denote; in particular the int clause). Here both are proved for the concrete formatter of C16 and every correct
parser, which gives the two theorems without `_partial`:

* `ryuFmt` — what `ryu.AppendFloat64f` appends: `NaN` / `±Inf`, `0` / `-0`, else sign + `C16Link.positional` of
  `Ryu64.decimal`; `ryuFmt_is_appendF`: it IS the text `C16Link.appendF` appends (every buffer state).
* (a) `numTok_positionalL` — each of the three digit layouts of `dec64.appendF` (`C16Link.positionalL`, C16LinkText.lean: digits·zeros,
  `0.`zeros·digits, digits`.`digits) of an `L`-digit mantissa, with or without sign, is a JSON number token
  (`C14ToJson.NumTok`, by `numTok_digits` / `numTok_frac`); `ryuFmt_numTok` — so is the text for every finite float64
  (`C16Link.decimal_shortest`, `decimalLen64_spec57`); `frameOK_ryu` — `FrameOK ryuFmt f` for every frame without infinity.
* (b) `parseNumber_intText`, `ofDecimal_nat_finite`, `pnumS_intText`, `pnum_intText` — on the decimal text of an int64 the
  spec's parser `pnumS` (every `PnumCorrect` parser) returns `Num.ofDecimal (v<0) |v| 0`, the nearest-even float
  (`C16Round.ofDecimal_correct`), which is finite (`C16Round.ofDecimal_cases`: an overflow needs `|v| ≥ (2^54−1)·2^970`).
  `readsBack_ryu` — `ReadsBack pnum ryuFmt` on every cell (floats: `C16Link.ryu_text_is_shortest`; zeros directly).
* `readjson_tojson`, `gen_json_roundtrip_end_to_end` — the compositions for `fmt := ryuFmt`, `pnum` any correct parser
  (`readjson_tojson_pnumS`: the driver's). Hypotheses on the FRAME only: `JsonTyped`, `NoInf` (no infinity — `ToJSON` writes
  no JSON for it, `C14ToJson.inf_not_json`), `Int64Cells` (the ints are Go ints), and `FrameTyped` for the regenerated writer.
* `readjson_cfg_tojson` (abstract form `readjson_cfg_tojson_partial`) — the CONFIGURED reader the harness calls,
  `readJsonCfgS pnum doc f.names (enumsOf f)`, returns exactly the driver's `jsonReread f`: the two expectations
  `QF/Drv/Hist.lean` compares dynamically are equal by theorem, under `CfgOk` (names valid UTF-8; no value table and no strict flag on a
  non-enum column; enum values, as a JSON decoder returns them, declarable with the column's table). `exBadName` shows that
  the UTF-8 clause is necessary (the harness reads back only frames whose strings are all valid UTF-8).
-/
namespace QF.Props.C14RoundTrip
open QF QF.Json QF.Props.C14ToJson QF.Props.C14EndToEnd
open AF QF.Props.C16 QF.Props.C16Link QF.Ryu64 QF.Props.C16Core QF.Props.C16Round

/-! ## finite floats -/

/-- a float64 that is neither NaN nor an infinity is finite -/
theorem decode_of_finite (b : UInt64) (hn : F64.isNaN b = false)
    (hi : ((b &&& 0x7fffffffffffffff) == 0x7ff0000000000000) = false) : ∃ dy, Num.decode b = some dy := by
  rw [decode_of_parts b _ _ _ rfl rfl rfl]
  split
  · -- exponent field all ones: an infinity, since the fraction of a NaN is not zero
    rename_i hex
    exfalso
    have h0 : ¬ b.toNat % 2 ^ 52 ≠ 0 := fun h => by rw [(F64.isNaN_iff b).2 ⟨eq_of_beq hex, h⟩] at hn; cases hn
    rw [beq_eq_false_iff_ne, Ne, ← UInt64.toNat_inj, F64.mag_toNat,
      show (0x7ff0000000000000 : UInt64).toNat = 2047 * 2 ^ 52 from by decide] at hi
    have := eq_of_beq hex
    omega
  · split <;> exact ⟨_, rfl⟩

/-! ## (a) the Ryu text is a JSON number token -/

theorem all_of_allDigits {l : List UInt8} (h : AllDigits l) : l.all Json.isDigit = true :=
  List.all_eq_true.mpr h

/-- **the three digit layouts of `dec64.appendF` write a JSON number token** (with or without the sign): for an `L`-digit
mantissa `m` (`10^(L-1) ≤ m < 10^L`) and every decimal exponent `e`; the layouts are `ip ++ dotted fp` (`C16Link.positionalL_parts`) -/
theorem numTok_positionalL (L m : Nat) (e : Int) (hL : 1 ≤ L) (hlo : 10 ^ (L - 1) ≤ m) (hhi : m < 10 ^ L) :
    NumTok (positionalL L m e) ∧ NumTok (45 :: positionalL L m e) := by
  obtain ⟨ip, fp, htext, hne, hip, hfp, hz, -⟩ := positionalL_parts L m e hL hlo hhi
  have hz' : ip.length > 1 → ip.head? ≠ some 48 := fun hl => hz.resolve_left fun h => by rw [h] at hl; exact absurd hl (by decide)
  rw [htext]
  by_cases hf : fp = []
  · rw [hf, dotted_nil, List.append_nil]
    exact numTok_digits ip hne (all_of_allDigits hip) hz'
  · rw [dotted_of_ne_nil hf]
    exact numTok_frac ip fp hne (all_of_allDigits hip) hz' hf (all_of_allDigits hfp)

/-- the text for a finite float64 with the fields `dy`: `0` / `-0` for the zeros (`appendSpecialf`), else the sign and the
positional layout (`dec64.appendF`) of the decimal `m·10^e` -/
def finiteText (neg : Bool) (zero : Bool) (m : Nat) (e : Int) : Bytes :=
  if zero then (if neg then [45, 48] else [48]) else (if neg then [45] else []) ++ positional m e

/-- what `ryu.AppendFloat64f` appends for the float64 `b` (internal/ryu/ryu.go): `NaN`, `+Inf`, `-Inf` for the special
values, `0` / `-0` for the zeros (`appendSpecialf`), else the sign and the positional layout (`dec64.appendF`, mirrored by
`C16Link.appendF`: `ryuFmt_is_appendF`) of the decimal `Ryu64.decimal` computes (exact-integer fast path, else the general
algorithm) -/
def ryuFmt (b : UInt64) : Bytes :=
  match Num.decode b with
  | none => if mantOf b ≠ 0 then [78, 97, 78] else if b.toNat / 2 ^ 63 = 1 then [45, 73, 110, 102] else [43, 73, 110, 102]
  | some dy => finiteText dy.neg (dy.m == 0) (decimal (mantOf b) (expOf b)).1 (decimal (mantOf b) (expOf b)).2.1

theorem ryuFmt_finite (b : UInt64) (dy : Num.Dyadic) (hd : Num.decode b = some dy) :
    ryuFmt b = finiteText dy.neg (dy.m == 0) (decimal (mantOf b) (expOf b)).1 (decimal (mantOf b) (expOf b)).2.1 := by
  unfold ryuFmt
  rw [hd]

/-- `ryuFmt b` IS the text the mirror pipeline of C16 appends, for every state of the output buffer -/
theorem ryuFmt_is_appendF (b : UInt64) (dy : Num.Dyadic) (hd : Num.decode b = some dy) (h0 : dy.m ≠ 0)
    (buf : AF.Buf) (extraS extra0 extra : List AF.Byte) :
    (appendF buf dy.neg (decimal (mantOf b) (expOf b)).1 (decimal (mantOf b) (expOf b)).2.1 extraS extra0 extra).content
      = buf.content ++ ryuFmt b := by
  rw [ryu_text_eq b dy hd h0, ryuFmt_finite b dy hd]
  have : (dy.m == 0) = false := by rw [beq_eq_false_iff_ne]; exact h0
  rw [this]
  rfl

theorem finiteText_numTok (neg : Bool) (m : Nat) (e : Int) (zero : Bool) (h : zero = false → m ≠ 0 ∧ m < 2 ^ 57) :
    NumTok (finiteText neg zero m e) := by
  unfold finiteText
  cases zero
  · obtain ⟨h0, hlt⟩ := h rfl
    obtain ⟨hlo, hhi⟩ := decimalLen64_spec57 m h0 hlt
    have := numTok_positionalL _ _ e (decimalLen64_pos m h0 hlt) hlo hhi
    unfold positional
    cases neg
    · exact this.1
    · exact this.2
  · have := numTok_digits [48] (by simp) (by decide) (by simp)
    cases neg
    · exact this.1
    · exact this.2

/-- **(a) the text of the Ryu pipeline for a finite float64 is a JSON number token** -/
theorem ryuFmt_numTok (b : UInt64) (dy : Num.Dyadic) (hd : Num.decode b = some dy) : NumTok (ryuFmt b) := by
  rw [ryuFmt_finite b dy hd]
  refine finiteText_numTok _ _ _ _ fun hz => ?_
  have S := decimal_shortest b dy hd (by simpa using hz)
  exact ⟨by have := S.pos; omega, S.lt⟩

/-! ## (b) the decimal text of an int64 -/

theorem digitByte_facts : ∀ d, d < 10 →
    ((decide ((48 : UInt8) ≤ digitByte d) && decide (digitByte d ≤ 57)) = true ∧ (digitByte d).toNat - 48 = d) := by decide

theorem natDigits_allDigits (n : Nat) : AllDigits (natDigits n) := by
  intro c hc
  exact List.all_eq_true.mp (natDigits_spec n).2.1 c hc

theorem val_natDigits (n : Nat) : QF.Props.C16Link.val 0 (natDigits n) = n := by
  induction n using Nat.strongRecOn with
  | _ n ih =>
    by_cases h : n < 10
    · rw [natDigits_lt n h]
      simp [QF.Props.C16Link.val, (digitByte_facts n h).2]
    · have h10 : 10 ≤ n := by omega
      rw [natDigits_ge n h10, val_append, ih (n / 10) (by omega)]
      simp only [QF.Props.C16Link.val, List.foldl_cons, List.foldl_nil, (digitByte_facts (n % 10) (by omega)).2]
      omega

theorem parsePositional_natDigits (n : Nat) : Num.parsePositional (natDigits n) = some (false, n, 0) := by
  rw [parsePositional_int _ (natDigits_spec n).1 (natDigits_allDigits n), val_natDigits]

/-- the decimal text of an integer denotes it: sign, magnitude, exponent 0 -/
theorem parseNumber_intText (v : Int) : Num.parseNumber (intText v) = some (decide (v < 0), v.natAbs, 0) := by
  have key : Num.parsePositional (intText v) = some (decide (v < 0), v.natAbs, 0) := by
    rw [intText_eq]
    split
    · rename_i h
      rw [parsePositional_natDigits]
      have h1 : decide (v < 0) = false := by simp; omega
      have h2 : v.toNat = v.natAbs := by omega
      rw [h1, h2]
    · rename_i h
      rw [parsePositional_neg _ _ _ (parsePositional_natDigits _)]
      have h1 : decide (v < 0) = true := by simp; omega
      have h2 : (-v).toNat = v.natAbs := by omega
      rw [h1, h2]
  exact parseNumber_of_positional key

theorem not_inf_of_decode (x : UInt64) (dy : Num.Dyadic) (h : Num.decode x = some dy) :
    ((x &&& 0x7fffffffffffffff) == 0x7ff0000000000000) = false := by
  rw [beq_eq_false_iff_ne]
  intro he
  have h1 := congrArg UInt64.toNat he
  rw [F64.mag_toNat, show (0x7ff0000000000000 : UInt64).toNat = 2047 * 2 ^ 52 from by decide] at h1
  exact (decode_fields x dy h).1 (by omega)

set_option exponentiation.threshold 1000 in
/-- the float nearest to a natural number below `2^64` is finite -/
theorem ofDecimal_nat_finite (neg : Bool) (m : Nat) (hm : m < 2 ^ 64) :
    ((Num.ofDecimal neg m 0 &&& 0x7fffffffffffffff) == 0x7ff0000000000000) = false := by
  rcases ofDecimal_cases neg m 0 with ⟨M, E, hdec, _⟩ | ⟨_, hov⟩
  · exact not_inf_of_decode _ _ hdec
  · exfalso
    unfold Overflows decNum decDen at hov
    simp only [ge_iff_le, Int.le_refl, if_true, Int.toNat_zero, Nat.pow_zero, Nat.mul_one] at hov
    have h1 : 2 ^ 65 ≤ 2 ^ 971 := Nat.pow_le_pow_right (Nat.succ_pos 1) (by omega)
    have h2 : 2 ^ 971 ≤ (2 ^ 54 - 1) * 2 ^ 971 := Nat.le_mul_of_pos_left _ (by decide)
    generalize 2 ^ 971 = K at *
    omega

/-- **(b) the spec's number parser on the decimal text of an int64** returns the float nearest to it (`Num.ofDecimal` of sign
and magnitude, IEEE nearest-even by `C16Round.ofDecimal_correct`) — in particular it is in range -/
theorem pnumS_intText (v : Int) (hlo : -2 ^ 63 ≤ v) (hhi : v < 2 ^ 63) :
    pnumS (intText v) = some (Num.ofDecimal (v < 0) v.natAbs 0) := by
  unfold pnumS
  rw [parseNumber_intText]
  simp only [ofDecimal_nat_finite (decide (v < 0)) v.natAbs (by omega), Bool.false_eq_true, if_false]

/-- the same for every correct parser -/
theorem pnum_intText (pnum : Bytes → Option UInt64) (hp : PnumCorrect pnum) (v : Int) (hlo : -2 ^ 63 ≤ v) (hhi : v < 2 ^ 63) :
    pnum (intText v) = some (Num.ofDecimal (v < 0) v.natAbs 0) :=
  hp _ _ _ _ (parseNumber_intText v) (ofDecimal_nat_finite _ _ (by omega))

/-! ## The hypotheses of `readjson_tojson_partial` for the concrete formatter and parser -/

/-- no float cell of the frame is an infinity (`ToJSON` writes `+Inf` / `-Inf` for it, which is no JSON: `C14ToJson.inf_not_json`) -/
def NoInf (f : LFrame) : Prop :=
  ∀ c ∈ f.cols, ∀ r, r < f.n → ∀ b, c.cells[r]! = .float b → ((b &&& 0x7fffffffffffffff) == 0x7ff0000000000000) = false

/-- every int cell of the frame is an int64 (Go's `int`) -/
def Int64Cells (f : LFrame) : Prop :=
  ∀ c ∈ f.cols, ∀ r, r < f.n → ∀ v, c.cells[r]! = .int v → -2 ^ 63 ≤ v ∧ v < 2 ^ 63

/-- **(a) `FrameOK` for the Ryu text**: every float of a frame without infinities is written as a JSON number token -/
theorem frameOK_ryu (f : LFrame) (hfin : NoInf f) : FrameOK ryuFmt f := by
  intro c hc r hr b hb hn
  obtain ⟨dy, hd⟩ := decode_of_finite b hn (hfin c hc r hr b hb)
  exact ryuFmt_numTok b dy hd

/-- by `decode_inj`: the zero of that sign decodes to the same fields -/
theorem zero_of_decode (b : UInt64) (dy : Num.Dyadic) (hd : Num.decode b = some dy) (h0 : dy.m = 0) :
    b = if dy.neg then 0x8000000000000000 else 0 := by
  have he : dy = ⟨dy.neg, 0, -1074⟩ := by
    rcases decode_some hd with ⟨_, e⟩ | ⟨_, _, e⟩
    · rw [e] at h0 ⊢; simp only at h0; rw [h0]
    · rw [e] at h0; simp only at h0; omega
  refine decode_inj hd ?_
  rw [he]
  cases dy.neg <;> decide

/-- the text of the Ryu pipeline for a finite float64 denotes it (as a JSON number, under correct rounding) -/
theorem ryuFmt_denotes (b : UInt64) (dy : Num.Dyadic) (hd : Num.decode b = some dy) :
    ∃ neg m d, Num.parseNumber (ryuFmt b) = some (neg, m, d) ∧ Num.ofDecimal neg m d = b := by
  by_cases h0 : dy.m = 0
  · have hb := zero_of_decode b dy hd h0
    rw [ryuFmt_finite b dy hd]
    have : (dy.m == 0) = true := by rw [h0]; rfl
    rw [this]
    unfold finiteText
    cases hneg : dy.neg
    · rw [hneg] at hb
      simp only [if_true, Bool.false_eq_true, if_false]
      exact ⟨false, 0, 0, by decide, by rw [hb]; decide⟩
    · rw [hneg] at hb
      simp only [if_true]
      exact ⟨true, 0, 0, by decide, by rw [hb]; decide⟩
  · obtain ⟨text, h1, _, h3, _⟩ := ryu_text_is_shortest b dy hd h0 ⟨[], []⟩ [] [] []
    rw [ryuFmt_is_appendF b dy hd h0] at h1
    have ht : ryuFmt b = text := List.append_cancel_left h1
    rw [ht]
    obtain ⟨neg, m, d, hpp, hb⟩ := parsesTo_iff.1 h3
    exact ⟨neg, m, d, parseNumber_of_positional hpp, hb⟩

/-- **(b) `ReadsBack` for every correct parser and the Ryu text** on the cells of a frame without infinities whose ints are
int64 -/
theorem readsBack_ryu (pnum : Bytes → Option UInt64) (hp : PnumCorrect pnum) (f : LFrame) (hfin : NoInf f)
    (hint : Int64Cells f) : ∀ c ∈ f.cols, ∀ r, r < f.n → ReadsBack pnum ryuFmt c.cells[r]! := by
  intro c hc r hr
  cases hx : c.cells[r]! with
  | int v =>
    obtain ⟨h1, h2⟩ := hint c hc r hr v hx
    exact pnum_intText pnum hp v h1 h2
  | float b =>
    have hi := hfin c hc r hr b hx
    intro hn
    obtain ⟨dy, hd⟩ := decode_of_finite b hn hi
    exact float_reads_back pnum hp ryuFmt b hi (ryuFmt_denotes b dy hd) hn
  | bool _ => trivial
  | str _ => trivial

/-! ## The compositions, for the concrete formatter and every correct parser -/

/-- **`ReadJSON ∘ ToJSON` on the spec side, no hypothesis on formatter or parser.** For every frame `f` of the
read-back half of C14's quantifier (`JsonTyped`: at least one column and one row, every column `n` cells of its type, floats
not NaN … , names distinct and legal as a JSON decoder returns them) without an infinity (`NoInf`) and with int64 ints
(`Int64Cells`), the float formatter being the Ryu pipeline of C16 (`ryuFmt`, = what `C16Link.appendF` appends:
`ryuFmt_is_appendF`) and the float parser ANY correct IEEE parser (`PnumCorrect`; the driver's `pnumS` is one): the text
`ToJSON` writes parses (RFC 8259) to a document of which `readJsonS` makes, without error, `jsonUnconfigured (jsonReread f)`. -/
theorem readjson_tojson (pnum : Bytes → Option UInt64) (hp : PnumCorrect pnum) (f : LFrame) (ht : JsonTyped f)
    (hfin : NoInf f) (hint : Int64Cells f) :
    (Json.parse (toJSON ryuFmt f)).map (readJsonS pnum) = some (.ok (jsonUnconfigured (jsonReread f))) :=
  readjson_tojson_partial pnum ryuFmt f ht (frameOK_ryu f hfin) (readsBack_ryu pnum hp f hfin hint)

/-- … in particular for the spec's own parser `pnumS` -/
theorem readjson_tojson_pnumS (f : LFrame) (ht : JsonTyped f) (hfin : NoInf f) (hint : Int64Cells f) :
    (Json.parse (toJSON ryuFmt f)).map (readJsonS pnumS) = some (.ok (jsonUnconfigured (jsonReread f))) :=
  readjson_tojson pnumS pnumS_correct f ht hfin hint

/-- **`ReadJSON ∘ ToJSON` of today's source, end to end, no hypothesis on formatter or parser.** With the REGENERATED
writer (`C14WriterGen.genToJSON`, float cells through the Ryu pipeline `ryuFmt`) and the REGENERATED reader
(`C14ReadJsonGen.genReadJson`, any correct IEEE number parser, every iteration order of Go's maps): for every frame of the
read-back half of C14's quantifier whose cells are of their columns' types, without an infinity, ints int64: `ToJSON`
returns no error, the bytes it handed to `Write` are a JSON text, and `ReadJSON` of the document they denote returns, without
error, `jsonUnconfigured (jsonReread f)`. -/
theorem gen_json_roundtrip_end_to_end (pnum : Bytes → Option UInt64) (hp : PnumCorrect pnum)
    (iter : GoMap → GoMap) (hiter : ∀ m, (iter m).Perm m) (f : LFrame) (ht : JsonTyped f)
    (hf : C09Observe.FrameTyped f) (hfin : NoInf f) (hint : Int64Cells f) :
    ∃ ws doc, C14WriterGen.genToJSON ryuFmt f (fun _ => false) = some (ws, false) ∧ Json.parse ws.flatten = some doc ∧
      C14ReadJsonGen.genReadJson pnum iter doc = some (.ok (jsonUnconfigured (jsonReread f))) :=
  gen_json_roundtrip_end_to_end_partial pnum ryuFmt iter hiter f ht hf (frameOK_ryu f hfin) (readsBack_ryu pnum hp f hfin hint)

open QF.Props.C08Construct (specCol build_cons build_nil newS_after_prefix)
open QF.Props.C08Guards (specOrder newPrefixRejects)

/-! ## The configured reader: `ReadJSON(ColumnOrder(names…), Enums(values))` as the harness calls it -/

/-- the enum declarations the harness supplies: for every enum column its value table -/
def enumsOf (f : LFrame) : List (Bytes × List Bytes) :=
  f.cols.filterMap (fun c => if c.ty == .enum then some (c.name, c.vals) else none)

/-- the declaration the harness supplies for a column: its value table if it is an enum column, none otherwise -/
theorem find_enumsOf : ∀ (l : List LCol), (l.map (·.name)).Nodup → ∀ c ∈ l,
    (l.filterMap (fun c => if c.ty == .enum then some (c.name, c.vals) else none)).find? (·.1 == c.name) =
      if c.ty == .enum then some (c.name, c.vals) else none := by
  intro l
  induction l with
  | nil => intro _ c hc; cases hc
  | cons a t ih =>
    intro hnd c hc
    obtain ⟨ha, ht⟩ := List.nodup_cons.mp (show (a.name :: t.map (·.name)).Nodup from hnd)
    rw [List.filterMap_cons]
    rcases List.mem_cons.mp hc with rfl | hc'
    · by_cases hty : (c.ty == .enum) = true
      · simp [hty]
      · -- no later column has the name of `c`
        simp only [hty, Bool.false_eq_true, if_false]
        rw [List.find?_eq_none]
        intro p hp
        obtain ⟨y, hy, hyp⟩ := List.mem_filterMap.mp hp
        split at hyp
        · cases hyp
          exact fun e => ha (List.mem_map.mpr ⟨y, hy, eq_of_beq e⟩)
        · cases hyp
    · have hne : (a.name == c.name) = false := by
        rw [beq_eq_false_iff_ne]
        exact fun e => ha (e ▸ List.mem_map.mpr ⟨c, hc', rfl⟩)
      by_cases hty : (a.ty == .enum) = true
      · simp only [hty, if_true, List.find?_cons, hne]
        exact ih ht c hc'
      · simp only [hty, Bool.false_eq_true, if_false]
        exact ih ht c hc'

/-- what the configured round trip asks of the frame beyond `JsonTyped`: the names are valid UTF-8 (a JSON decoder returns
them unchanged — otherwise `ColumnOrder` names a column the document does not have), a column that is no enum column
carries no value table and no strict flag, and the values of an enum column AS A JSON DECODER RETURNS THEM can be declared with its value table
(at most 255 values; under a declared list every value a member) -/
structure CfgOk (f : LFrame) : Prop where
  utf8 : ∀ c ∈ f.cols, sanitize c.name = c.name
  plain : ∀ c ∈ f.cols, c.ty ≠ .enum → c.vals = [] ∧ c.strict = false
  enums : ∀ c ∈ f.cols, c.ty = .enum → (mkEnum c.vals (c.cells.map convCell).toList).isSome = true

theorem mkEnum_declared (decl : List Bytes) (cells : List Cell) (hne : decl.isEmpty = false) (v : List Bytes) (s : Bool)
    (h : mkEnum decl cells = some (v, s)) : v = decl ∧ s = true := by
  obtain ⟨_, ⟨_, rfl, rfl, _⟩ | ⟨rfl, _⟩⟩ := C17Enum.mkEnum_eq_some_iff.1 h
  · exact ⟨rfl, rfl⟩
  · cases hne

theorem mkEnum_free (cells : List Cell) (v : List Bytes) (s : Bool) (h : mkEnum [] cells = some (v, s)) : s = false := by
  obtain ⟨_, ⟨hne, _⟩ | ⟨_, _, rfl⟩⟩ := C17Enum.mkEnum_eq_some_iff.1 h
  · exact absurd rfl hne
  · rfl

open QF.Props.C08Construct (colS declFor declaredEnum_eq_isSome) in
open QF.Props.C08EndToEnd (declaredEnum) in
/-- **one column under the harness's declarations**: what `New` makes of the column `UnmarshalJSON` made -/
theorem colS_cfg (f : LFrame) (ht : JsonTyped f) (hk : CfgOk f) (hnd : (f.cols.map (·.name)).Nodup)
    (c : LCol) (hc : c ∈ f.cols) :
    colS (enumsOf f) (plainCol c).toNewCol = some (cfgCol c) ∧
      declaredEnum (enumsOf f) (plainCol c).toNewCol = (c.ty == .enum) := by
  -- the declaration found for the column: its value table if it is an enum column
  have hdecl : declFor (enumsOf f) (plainCol c).toNewCol = if c.ty == .enum then some (c.name, c.vals) else none := by
    rw [declFor_toNewCol]
    show (if plainTy c.ty == .string then (enumsOf f).find? (·.1 == sanitize c.name) else none) = _
    rw [hk.utf8 c hc, show (enumsOf f).find? (·.1 == c.name) = _ from find_enumsOf f.cols hnd c hc]
    cases c.ty <;> rfl
  refine ⟨?_, by rw [declaredEnum_eq_isSome, hdecl]; cases c.ty <;> rfl⟩
  rw [colS_toNewCol, hdecl]
  have hname := hk.utf8 c hc
  have hcells := cells_conv f ht c hc
  have hplain := hk.plain c hc
  have hen := hk.enums c hc
  have h0 := ht.typed c hc 0 ht.rows
  obtain ⟨name, ty, vals, strict, cells⟩ := c
  simp only [plainCol] at hname hcells hplain hen h0 ⊢
  rw [hname, ← hcells]
  cases ty with
  | enum =>
    replace hen : (mkEnum vals (cells.map rereadStr).toList).isSome = true := hcells ▸ hen rfl
    change (mkEnum vals (cells.map rereadStr).toList).map _ = _
    unfold cfgCol
    dsimp only
    cases hm : mkEnum vals (cells.map rereadStr).toList with
    | none => rw [hm] at hen; cases hen
    | some p =>
      obtain ⟨v, s⟩ := p
      cases vals with
      | nil => rw [hm]; obtain rfl := mkEnum_free _ v s hm; rfl
      | cons a t => obtain ⟨rfl, rfl⟩ := mkEnum_declared _ _ rfl v s hm; rfl
  | undef => cases hx : cells[0]! <;> rw [hx] at h0 <;> exact h0.elim
  | _ =>
    obtain ⟨rfl, rfl⟩ := hplain (by decide)
    first | rfl | simp [cfgCol, reread, plainTy]

open QF.Props.C08Construct (colS kindCells declFor newS_ok_iff) in
open QF.Props.C08NewIff (orderedCols firstLen isStrCol enumSrc) in
open QF.Props.C08EndToEnd (declaredEnum) in
/-- **`New` with the harness's `ColumnOrder` and `Enums` on the columns `UnmarshalJSON` made of what `ToJSON` wrote** -/
theorem newS_cfg (f : LFrame) (ht : JsonTyped f) (hk : CfgOk f) :
    newS ((f.cols.map plainCol).map LCol.toNewCol) f.names (enumsOf f) = .ok (jsonReread f) := by
  have hnames : (f.cols.map fun c => sanitize c.name) = f.cols.map (·.name) :=
    List.map_congr_left (fun c hc => hk.utf8 c hc)
  have hnd : (f.cols.map (·.name)).Nodup := by rw [← hnames]; exact ht.names
  have hkeys : ((f.cols.map plainCol).map LCol.toNewCol).map (·.name) = f.names := by
    rw [List.map_map, List.map_map]
    exact hnames
  have hne : f.names.isEmpty = false := by
    cases hcols : f.cols with
    | nil => exact absurd hcols ht.cols
    | cons a t => simp [LFrame.names, hcols]
  have hord : specOrder ((f.cols.map plainCol).map LCol.toNewCol) f.names = f.names := by
    unfold specOrder
    rw [hne]
    rfl
  rw [jsonReread_eq]
  refine newS_of_ordered _ _ (enumsOf f) f.n (fun c => (plainCol c).toNewCol) cfgCol f.cols ht.cols
    (not_prefixRejects _ _
      (fun c' hc' => by
        obtain ⟨c'', hc'', rfl⟩ := List.mem_map.mp hc'
        obtain ⟨c, hc, rfl⟩ := List.mem_map.mp hc''
        exact ht.legal c hc)
      (by rw [hord]; simp [LFrame.names]) (fun x hx => by rw [hord, ← hkeys] at hx; exact hx))
    ?_ (fun c hc => ⟨by simp [LCol.toNewCol, plainCol, ht.size c hc], (colS_cfg f ht hk hnd c hc).1⟩) ?_
  · unfold orderedCols
    rw [hord, show f.cols.map (fun c => (plainCol c).toNewCol) = (f.cols.map plainCol).map LCol.toNewCol from
      by rw [List.map_map]; rfl]
    have := ListFacts.filterMap_find?_key (fun x : NewCol => x.name) ((f.cols.map plainCol).map LCol.toNewCol)
      (by rw [hkeys]; exact hnd) ((f.cols.map plainCol).map LCol.toNewCol) (fun c hc => hc)
    rw [hkeys] at this
    exact this
  · intro e he
    obtain ⟨c, hc, hce⟩ := List.mem_filterMap.mp he
    by_cases hty : (c.ty == .enum) = true
    · simp only [hty, if_true, Option.some.injEq] at hce
      exact ⟨c, hc, by rw [← hce]; exact hk.utf8 c hc, by rw [(colS_cfg f ht hk hnd c hc).2, hty]⟩
    · simp [hty] at hce

/-- the configured reader on what `ToJSON` wrote, for any formatter / parser that fit on the frame's numbers (as
`readjson_tojson_partial`) -/
theorem readjson_cfg_tojson_partial (pnum : Bytes → Option UInt64) (fmt : UInt64 → List UInt8) (f : LFrame) (ht : JsonTyped f)
    (hok : FrameOK fmt f) (hr : ∀ c ∈ f.cols, ∀ r, r < f.n → ReadsBack pnum fmt c.cells[r]!) (hk : CfgOk f) :
    (Json.parse (toJSON fmt f)).map (fun doc => readJsonCfgS pnum doc f.names (enumsOf f)) = some (.ok (jsonReread f)) := by
  rw [tojson_parses_local fmt f hok, Option.map_some]
  unfold readJsonCfgS
  rw [doc_link pnum fmt f ht hr]
  simp only
  rw [newS_cfg f ht hk]

/-- **`readjson_cfg_tojson`: the driver's two expectations for `ReadJSON` of what `ToJSON` wrote are equal.** For every
frame of the read-back half of C14's quantifier (`JsonTyped`) without an infinity, with int64 ints, and meeting `CfgOk`
(names valid UTF-8, no value table on a non-enum column, the enum values as a JSON decoder returns them declarable with the
column's value table): the spec of the READER with the configuration the harness supplies — `readJsonCfgS`, i.e.
`ReadJSON(ColumnOrder(f.names…), Enums(value tables))` — applied to the document the written text denotes returns, without
error, exactly the frame `jsonReread f` the driver predicts from the frame alone. (`QF/Drv/Hist.lean` evaluates both and
compares them dynamically, `DRIVER-ERROR kind=expectations`.) Formatter: the Ryu pipeline; parser: any correct one. -/
theorem readjson_cfg_tojson (pnum : Bytes → Option UInt64) (hp : PnumCorrect pnum) (f : LFrame) (ht : JsonTyped f)
    (hfin : NoInf f) (hint : Int64Cells f) (hk : CfgOk f) :
    (Json.parse (toJSON ryuFmt f)).map (fun doc => readJsonCfgS pnum doc f.names (enumsOf f)) = some (.ok (jsonReread f)) :=
  readjson_cfg_tojson_partial pnum ryuFmt f ht (frameOK_ryu f hfin) (readsBack_ryu pnum hp f hfin hint) hk

/-! ## A concrete input that meets the hypotheses -/

section Example

/-- `s: ["x", null]` (string), `a: [1, -2]` (int), `x: [0.1, -3.0]` (float: general algorithm / exact-integer fast path),
`b: [true, false]`, `e: ["hi", "lo"]` (enum, declared `lo, hi`) -/
def exR : LFrame :=
  { n := 2
    cols := [{ name := [115], ty := .string, cells := #[.str (some [120]), .str none] },
             { name := [97], ty := .int, cells := #[.int 1, .int (-2)] },
             { name := [120], ty := .float, cells := #[.float 0x3FB999999999999A, .float 0xC008000000000000] },
             { name := [98], ty := .bool, cells := #[.bool true, .bool false] },
             { name := [101], ty := .enum, vals := [[108, 111], [104, 105]], strict := true,
               cells := #[.str (some [104, 105]), .str (some [108, 111])] }] }

/-- the texts the Ryu pipeline writes for the two floats: `0.1` and `-3` -/
example : ryuFmt 0x3FB999999999999A = [48, 46, 49] ∧ ryuFmt 0xC008000000000000 = [45, 51] := by decide +kernel

theorem exR_typed : JsonTyped exR := by
  letI := cellTypedDec
  exact ⟨by decide, by decide, by decide, by decide, by decide, by decide⟩

theorem exR_noInf : NoInf exR := by
  intro c hc r hr b hb
  simp only [exR, List.mem_cons, List.not_mem_nil, or_false] at hc
  have : r = 0 ∨ r = 1 := by simp only [exR] at hr; omega
  rcases hc with rfl | rfl | rfl | rfl | rfl <;> rcases this with rfl | rfl <;> simp at hb <;> subst hb <;> decide

theorem exR_int64 : Int64Cells exR := by
  intro c hc r hr v hv
  simp only [exR, List.mem_cons, List.not_mem_nil, or_false] at hc
  have : r = 0 ∨ r = 1 := by simp only [exR] at hr; omega
  rcases hc with rfl | rfl | rfl | rfl | rfl <;> rcases this with rfl | rfl <;> simp at hv <;> subst hv <;> decide

theorem exR_cfg : CfgOk exR := by
  refine ⟨?_, ?_, ?_⟩
  · intro c hc
    simp only [exR, List.mem_cons, List.not_mem_nil, or_false] at hc
    rcases hc with rfl | rfl | rfl | rfl | rfl <;> decide
  · intro c hc hty
    simp only [exR, List.mem_cons, List.not_mem_nil, or_false] at hc
    rcases hc with rfl | rfl | rfl | rfl | rfl <;> first | exact ⟨rfl, rfl⟩ | exact absurd rfl hty
  · intro c hc hty
    simp only [exR, List.mem_cons, List.not_mem_nil, or_false] at hc
    rcases hc with rfl | rfl | rfl | rfl | rfl <;> first | exact absurd hty (by decide) | decide +kernel

theorem exR_frameTyped : C09Observe.FrameTyped exR := by
  intro c hc
  simp only [exR, List.mem_cons, List.not_mem_nil, or_false] at hc
  rcases hc with rfl | rfl | rfl | rfl | rfl <;> exact ⟨by decide, by decide⟩

/-- `readjson_tojson`, `readjson_cfg_tojson` and `gen_json_roundtrip_end_to_end` instantiated at `exR` with the spec's parser -/
example : (Json.parse (toJSON ryuFmt exR)).map (readJsonS pnumS) = some (.ok (jsonUnconfigured (jsonReread exR))) :=
  readjson_tojson pnumS pnumS_correct exR exR_typed exR_noInf exR_int64
example : (Json.parse (toJSON ryuFmt exR)).map (fun doc => readJsonCfgS pnumS doc exR.names (enumsOf exR)) =
    some (.ok (jsonReread exR)) :=
  readjson_cfg_tojson pnumS pnumS_correct exR exR_typed exR_noInf exR_int64 exR_cfg
example := gen_json_roundtrip_end_to_end pnumS pnumS_correct id (fun _ => List.Perm.refl _) exR exR_typed exR_frameTyped
  exR_noInf exR_int64

/-- … and what comes back is not trivial: configured, the columns in the given order, the int column as floats, the enum
column with its value table; unconfigured, sorted by name with the enum column as strings -/
example : (jsonReread exR).cols.map (·.ty) = [.string, .float, .float, .bool, .enum] ∧
    (jsonUnconfigured (jsonReread exR)).names = [[97], [98], [101], [115], [120]] ∧
    (jsonUnconfigured (jsonReread exR)).cols.map (·.ty) = [.float, .bool, .string, .string, .float] := by
  decide

/-- `CfgOk.utf8` is necessary: a column name that is no valid UTF-8 (`0xFF`) is written as `�`, and `ColumnOrder` with
the frame's own name then names a column the document does not have — the spec of the reader rejects -/
def exBadName : LFrame := { n := 1, cols := [{ name := [0xFF], ty := .bool, cells := #[.bool true] }] }
example : ((Json.parse (toJSON ryuFmt exBadName)).map
    (fun doc => readJsonCfgS pnumS doc exBadName.names (enumsOf exBadName))).map
      (fun r => match r with | .err => true | .ok _ => false) = some true := by decide +kernel

end Example

end QF.Props.C14RoundTrip

#print axioms QF.Props.C14RoundTrip.numTok_positionalL
#print axioms QF.Props.C14RoundTrip.ryuFmt_is_appendF
#print axioms QF.Props.C14RoundTrip.ryuFmt_numTok
#print axioms QF.Props.C14RoundTrip.frameOK_ryu
#print axioms QF.Props.C14RoundTrip.pnumS_intText
#print axioms QF.Props.C14RoundTrip.readsBack_ryu
#print axioms QF.Props.C14RoundTrip.readjson_tojson
#print axioms QF.Props.C14RoundTrip.gen_json_roundtrip_end_to_end
#print axioms QF.Props.C14RoundTrip.newS_cfg
#print axioms QF.Props.C14RoundTrip.readjson_cfg_tojson
#print axioms QF.Props.C14RoundTrip.readjson_cfg_tojson_partial
