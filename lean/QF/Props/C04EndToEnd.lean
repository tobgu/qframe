import QF.Props.C04GlueLink
import QF.Props.C04LoopsGen
import QF.Props.C08CtorsGen
/-!
# C04 — `GroupBy(…).Aggregate(…)` and `GroupBy(…).QFrames()` of today's source, end to end (tie T1, composition)

`C04GlueLink.gen_groupby_partition` goes from the regenerated `QFrame.GroupBy` down to the regenerated hash table and
concludes the spec's groups up to order. This file does the same for what is done WITH the groups:

* `Grouper.Aggregate`'s glue (`C04GlueGen.gen_aggregate_glue_semantics`: closed form over `Subset`, `Column.Aggregate`,
  `icolumn.New`) is instantiated with the REGENERATED callees —
  - `Column.Subset`     : `C04LoopsGen.subsetOf` (`Gen.subsetAst`), the string column's on a byte blob behind pointers,
  - `Column.Aggregate`  : `C04LoopsGen.aggregateOf` (`Gen.aggregateAst`) with the built-ins `Gen.aggAst` (`pkgBuiltin`),
  - `icolumn.New`       : `C08CtorsGen.genNumNew .int` (`Gen.numCtors`)
  (`genAPrims`) — and chained through `C04LoopsGen.gen_aggregate_loops_semantics` (the built-ins: `C04Aggregations.builtin_entry`),
  `subset_heads`, `subset_heads_string` and `gen_subset_semantics` down to the spec's `groupAggS` (QF/Spec/Ops.lean).

* `aggregate_eq`             — `Grouper.Aggregate` on the physical rows of ANY non-empty groups `gsL` of rows of the frame is
  `groupAggWith … gsL …`, every column at its position (`number`); the permutation only enters with `GroupBy`'s groups.

* `gen_aggregate_structure`  — the regenerated `GroupBy(...).Aggregate(...)` returns exactly `groupAggWith … gsL …` (the spec's
  function with the groups taken in the order `gsL`) for a permutation `gsL` of the spec's groups; no callee panics.
* `groupAggWith_perm`        — `groupAggWith` on a permutation of the groups: the same error, or the same column names and
  types and the rows permuted.
* `gen_aggregate_end_to_end` — so: an error exactly where `groupAggS` has one, else its names, types and rows up to a
  permutation of the rows.
* `gen_qframes_end_to_end`   — `GroupBy(...).QFrames()`: the error for an unknown column, else one frame per group whose
  indices are, up to the order of the frames, the spec's groups.
-/
namespace QF.Props.C04EndToEnd
open QF QF.GG QF.GL QF.Props.C04GlueGen QF.Props.C04GlueLink QF.Props.C04GrouperGen QF.Props.C04Hash
open QF.Props.C04LoopsGen (subsetOf aggregateOf goAggVal pkgBuiltin physGroups blobCells BValid)
open QF.Props.C06LoopsGen (Sees ColOk observe ret2)

/-! ## The frame as the user sees it -/

/-- what a user sees of the physical frame `F`: every column through the index -/
def viewOf (F : Frame) : LFrame := { cols := F.cols.map (logical F.index), n := F.index.length }

/-- the physical column as the loops see it -/
def pcolOf (c : LCol) : PCol := { ty := c.ty, vals := c.vals, cells := c.cells.toList }

theorem sees (ix : List Nat) (c : LCol) : Sees ix (pcolOf c) (logical ix c) where
  ty := rfl
  vals := rfl
  cells := by
    simp only [logical, observe, pcolOf]
    congr 1
    apply List.map_congr_left
    intro r _
    exact Array.getElem!_toList.symm

theorem find_view (F : Frame) (n : Bytes) : (viewOf F).find? n = (F.find? n).map (logical F.index) := by
  unfold viewOf LFrame.find? Frame.find?
  rw [List.find?_map]
  rfl

theorem mapM_find_view (F : Frame) (names : List Bytes) :
    names.mapM (viewOf F).find? = (names.mapM F.find?).map (·.map (logical F.index)) := by
  rw [show (viewOf F).find? = fun n => (F.find? n).map (logical F.index) from funext (find_view F)]
  exact ListFacts.mapM_map_opt _ _ names

/-! ## The spec with the groups as a parameter -/

/-- `groupAggS` (QF/Spec/Ops.lean) with the list of groups handed in: the key columns hold each group's first row's key,
every aggregation one value per group, computed by `aggApply` on the cells of the group's rows in the group's order. -/
def groupAggWith (f : LFrame) (gs : List (List Nat)) (keyNames : List Bytes) (aggs : List Agg) : Res :=
  match keyNames.mapM f.find? with
  | none => .err
  | some keys =>
    match groupAggS.go f gs (keys.map fun c => { c with cells := (gs.map fun g => c.cells[g.head!]!).toArray }) aggs with
    | none => .err
    | some cols => .ok { cols := cols, n := gs.length }

/-- the groups `groupAggS` forms -/
def specGroupsOf (f : LFrame) (gbNull : Bool) (keyNames : List Bytes) : List (List Nat) :=
  match keyNames.mapM f.find? with
  | none => []
  | some keys => specGroups gbNull keys f.n

theorem groupAggS_eq (f : LFrame) (gbNull : Bool) (keyNames : List Bytes) (aggs : List Agg) :
    groupAggS f gbNull keyNames aggs = groupAggWith f (specGroupsOf f gbNull keyNames) keyNames aggs := by
  unfold groupAggS groupAggWith specGroupsOf specGroups
  cases keyNames.mapM f.find? with
  | none => rfl
  | some keys => rfl

/-! ## The order of the groups only permutes the rows -/

/-- a column of the result as a function of the group: name, type, value table, and the cell of a group -/
structure ColFn where
  name : Bytes
  ty : CType
  vals : List Bytes := []
  strict : Bool := false
  h : List Nat → Cell

/-- the column over the groups `gs`: one cell per group, in the order of `gs` -/
def ColFn.on (k : ColFn) (gs : List (List Nat)) : LCol :=
  { name := k.name, ty := k.ty, vals := k.vals, strict := k.strict, cells := (gs.map k.h).toArray }

/-- the key column of `groupAggS` as a function of the group: the key cell of its first row -/
def keyFn (c : LCol) : ColFn := { name := c.name, ty := c.ty, vals := c.vals, strict := c.strict, h := fun g => c.cells[g.head!]! }

/-- what one aggregation adds to `groupAggS.go`, as a function of the group, given the names of the columns so far;
`none`: an error. It does not see the groups, so a result column depends on them through `ColFn.on` only. -/
def aggFn (f : LFrame) (names : List Bytes) (a : Agg) : Option ColFn :=
  match f.find? a.col with
  | none => none
  | some c =>
    if names.any (· == (if a.as.isEmpty then a.col else a.as)) then none else
    match aggApply a.fn c.ty with
    | none => none
    | some (rt, g) => some { name := if a.as.isEmpty then a.col else a.as, ty := rt, h := fun grp => g (grp.map fun r => c.cells[r]!) }

theorem go_cons (f : LFrame) (gs : List (List Nat)) (acc : List LCol) (a : Agg) (as : List Agg) :
    groupAggS.go f gs acc (a :: as) =
      (aggFn f (acc.map (·.name)) a).bind fun k => groupAggS.go f gs (acc ++ [k.on gs]) as := by
  rw [groupAggS.go, aggFn]
  cases f.find? a.col with
  | none => rfl
  | some c =>
    simp only
    generalize (if a.as.isEmpty then a.col else a.as) = nm
    rw [show (acc.map (·.name)).any (· == nm) = acc.any (·.name == nm) by rw [List.any_map]; rfl]
    cases acc.any (·.name == nm) with
    | true => rfl
    | false => cases aggApply a.fn c.ty <;> rfl

/-- the aggregation loop of `groupAggS` without the groups -/
def goFns (f : LFrame) : List ColFn → List Agg → Option (List ColFn)
  | acc, [] => some acc
  | acc, a :: as => (aggFn f (acc.map (·.name)) a).bind fun k => goFns f (acc ++ [k]) as

theorem go_fns (f : LFrame) (gs : List (List Nat)) : ∀ (aggs : List Agg) (acc : List ColFn),
    groupAggS.go f gs (acc.map (·.on gs)) aggs = (goFns f acc aggs).map (·.map (·.on gs))
  | [], acc => by simp [groupAggS.go, goFns]
  | a :: as, acc => by
    rw [go_cons, goFns, show (acc.map (·.on gs)).map (·.name) = acc.map (·.name) by rw [List.map_map]; rfl]
    cases aggFn f (acc.map (·.name)) a with
    | none => rfl
    | some k => simpa using go_fns f gs as (acc ++ [k])

theorem groupAggWith_fns (f : LFrame) (gs : List (List Nat)) (keyNames : List Bytes) (aggs : List Agg) :
    groupAggWith f gs keyNames aggs =
      match keyNames.mapM f.find? with
      | none => .err
      | some keys =>
        match goFns f (keys.map keyFn) aggs with
        | none => .err
        | some ks => .ok { cols := ks.map (·.on gs), n := gs.length } := by
  unfold groupAggWith
  cases keyNames.mapM f.find? with
  | none => rfl
  | some keys =>
    simp only
    have : (keys.map fun c => ({ c with cells := (gs.map fun g => c.cells[g.head!]!).toArray } : LCol)) = (keys.map keyFn).map (·.on gs) := by
      rw [List.map_map]; rfl
    rw [this, go_fns]
    cases goFns f (keys.map keyFn) aggs <;> rfl

theorem rows_on (ks : List ColFn) (gs : List (List Nat)) :
    LFrame.rows { cols := ks.map (·.on gs), n := gs.length } = gs.map (fun grp => ks.map (·.h grp)) := by
  unfold LFrame.rows LFrame.row
  apply List.ext_getElem
  · simp
  · intro i h1 h2
    simp only [List.length_map, List.length_range] at h1
    simp only [List.getElem_map, List.getElem_range, List.map_map]
    apply List.map_congr_left
    intro k _
    simp [ColFn.on, h1]

/-- **The order of the groups only permutes the rows.** `groupAggWith` on a permutation of the groups: the same error, or
the same number of rows, column names, types, value tables, and the rows permuted. -/
theorem groupAggWith_perm (f : LFrame) (gs' gs : List (List Nat)) (hp : gs'.Perm gs) (keyNames : List Bytes) (aggs : List Agg) :
    match groupAggWith f gs' keyNames aggs, groupAggWith f gs keyNames aggs with
    | .err, .err => True
    | .ok a, .ok b => a.n = b.n ∧ a.names = b.names ∧ a.cols.map (·.ty) = b.cols.map (·.ty) ∧
        a.cols.map (·.vals) = b.cols.map (·.vals) ∧ a.cols.map (·.strict) = b.cols.map (·.strict) ∧ a.rows.Perm b.rows
    | _, _ => False := by
  rw [groupAggWith_fns, groupAggWith_fns]
  cases keyNames.mapM f.find? with
  | none => trivial
  | some keys =>
    simp only
    cases goFns f (keys.map keyFn) aggs with
    | none => trivial
    | some ks =>
      simp only
      refine ⟨hp.length_eq, ?_, ?_, ?_, ?_, ?_⟩
      · simp [LFrame.names, ColFn.on]
      · simp [ColFn.on]
      · simp [ColFn.on]
      · simp [ColFn.on]
      · rw [rows_on, rows_on]
        exact hp.map _

/-! ## What `Aggregate` calls, as regenerated -/

def keepsOf : LGSub → List String
  | .cells _ k => k
  | _ => []

/-- the new column of the receiver's package made of `cells`; `keeps`: the fields copied from the receiver -/
def colOfCells (c : LCol) (keeps : List String) (cells : List Cell) : LCol :=
  { name := c.name, ty := c.ty, vals := if keeps.contains "values" then c.vals else [],
    strict := if keeps.contains "strict" then c.strict else false, cells := cells.toArray }

/-- `<column>.Subset(index)` of today's source (`Gen.subsetAst`). A string column is stored as the byte blob `blobOf c`
behind pointers and its `subset` builds a new blob, read back cell by cell. `none`: a panic, or no meaning. -/
def genSubset (blobOf : LCol → BCol) (c : LCol) (ix : List Nat) : Option LCol :=
  match subsetOf c.ty with
  | .blob b =>
    match b.run (blobOf c) ix with
    | .ok B => some (colOfCells c [] (blobCells B))
    | _ => none
  | sub =>
    match sub.run (pcolOf c) (zeroCell c.ty) ix with
    | .ok cells => some (colOfCells c (keepsOf sub) cells)
    | _ => none

/-- `<column>.Aggregate(groups, fn)` of today's source (`Gen.aggregateAst`, the built-ins `Gen.aggAst`), `fn` the Go
value of the aggregation function for a column of this type -/
def aggOut (c : LCol) (groups : List (List Nat)) (afn : AggFn) : LGOut :=
  (aggregateOf c.ty).run { recv := pcolOf c, groups := groups, fn := goAggVal afn c.ty, builtin := pkgBuiltin c.ty }
    (zeroCell (fkind c.ty))

/-- the column `Aggregate` returns: of the receiver's package (`New(data)`) or a string column (`scolumn.New(data)`);
`none`: an error — or a panic / no meaning, which `gen_aggregate_structure` excludes separately -/
def colOfOut (c : LCol) : LGOut → Option LCol
  | .col .ownCol cells => some { name := c.name, ty := c.ty, cells := cells.toArray }
  | .col .strCol cells => some { name := c.name, ty := .string, cells := cells.toArray }
  | _ => none

/-- `icolumn.New(counts)` of today's source (`Gen.numCtors`) -/
def genIntCol (l : List Int) : LCol :=
  { name := [], ty := .int, cells := (((C08CtorsGen.genNumNew .int 0 l).getD []).map Cell.int).toArray }

/-- what `Grouper.Aggregate` calls, as regenerated -/
def genAPrims (blobOf : LCol → BCol) : APrims AggFn :=
  { subset := fun c ix => (genSubset blobOf c ix).getD { c with cells := #[] }
    aggregate := fun c groups afn => colOfOut c (aggOut c groups afn)
    intCol := genIntCol }

def fnNameOf : AggFn → Option String
  | .builtin n => some n
  | .user _ => none

/-- the `Aggregation{Fn, Column, As}` value of an aggregation of the catalogue -/
def reqOf (a : Agg) : AggReq AggFn := { fn := a.fn, fnName := fnNameOf a.fn, col := a.col, as := a.as }

/-- **`GroupBy(cfg…).Aggregate(aggs…)` of today's source**, everything it calls regenerated -/
def genGroupAgg (H : HashFn) (rnd : Bytes → Nat → UInt64) (fuel : Nat) (blobOf : LCol → BCol) (F : Frame) (C : Cfg)
    (aggs : List Agg) : Option ARes :=
  (genGroupBy (genPrims H rnd fuel) F C).bind fun g => genAggregate (genAPrims blobOf) g (aggs.map reqOf)

/-- what the user sees of the result -/
def viewOfRes : ARes → Res
  | .err => .err
  | .ok cols index => .ok (viewOf { cols := cols.map (·.col), index := index })

/-! ## Well-formed frames -/

/-- the columns that are not enums carry no value table -/
def Plain (F : Frame) : Prop := ∀ c ∈ F.cols, c.ty ≠ .enum → c.vals = [] ∧ c.strict = false

/-- `blobOf c` is a representation of every string column `c` of the frame: pointers inside the blob, read back as the
column's cells -/
def BlobsOk (blobOf : LCol → BCol) (F : Frame) : Prop :=
  ∀ c ∈ F.cols, c.ty = .string → BValid (blobOf c).ptrs (blobOf c).data ∧ c.cells.toList = blobCells (blobOf c)

/-! ## Lists -/

theorem range_logical (n : Nat) (c : LCol) (h : c.cells.size = n) : logical (List.range n) c = c := by
  unfold logical
  have : ((List.range n).map fun r => c.cells[r]!).toArray = c.cells := by
    apply Array.ext
    · simp [h]
    · intro i h1 h2
      simp only [List.size_toArray, List.length_map, List.length_range] at h1
      simp [h2]
  rw [this]

/-! ## One callee at a time -/

theorem colOk_of_keyOk {L : Nat} {c : LCol} (h : KeyOk L c) : ColOk (pcolOf c) := by
  refine ⟨h.ty, ?_⟩
  intro x hx
  obtain ⟨i, hi, rfl⟩ := List.mem_iff_getElem.mp hx
  have hi' : i < L := by simpa [pcolOf, h.size] using hi
  have := h.typed i hi'
  have e : c.cells[i]! = (pcolOf c).cells[i] := by
    have hi2 : i < c.cells.size := by simpa [pcolOf] using hi
    simp [pcolOf, hi2]
  rw [e] at this
  exact this

theorem firsts_eq (groups : List (List Nat)) (hne : ∀ g ∈ groups, g ≠ []) :
    groups.mapM (fun ix => ix[0]?) = some (groups.map (·.head!)) :=
  ListFacts.mapM_eq_some_map _ fun g hg => by
    cases g with
    | nil => exact absurd rfl (hne [] hg)
    | cons r rs => rfl

/-- the columns at their positions `i, i+1, …`: `pos` of a `namedColumn` of the result is its index in the list, so the
code's list is a function of the spec's -/
def number (i : Nat) (cols : List LCol) : List NCol := cols.mapIdx fun k c => { col := c, pos := i + k }

theorem number_cons (i : Nat) (c : LCol) (cols : List LCol) : number i (c :: cols) = { col := c, pos := i } :: number (i + 1) cols := by
  simp only [number, List.mapIdx_cons, Nat.add_zero]
  congr 2; funext k c; rw [Nat.add_right_comm, Nat.add_assoc]

theorem number_append (cols : List LCol) (c : LCol) : number 0 (cols ++ [c]) = number 0 cols ++ [{ col := c, pos := (number 0 cols).length }] := by
  simp [number, List.mapIdx_append]

theorem number_col (i : Nat) (cols : List LCol) : (number i cols).map (·.col) = cols := by
  apply List.ext_getElem <;> simp [number]

theorem number_pos (cols : List LCol) (k : Nat) (h : k < (number 0 cols).length) : (number 0 cols)[k].pos = k := by
  simp [number]

/-- the grouper `g` holds the frame's columns and, as physical rows, the non-empty groups `gsL` of rows of the frame -/
structure Grouped (F : Frame) (gsL : List (List Nat)) {σ : Type} (g : Grouper σ) : Prop where
  rows : ∀ grp ∈ gsL, grp ≠ [] ∧ ∀ r ∈ grp, r < F.index.length
  cols : g.cols = F.cols
  idx : g.indices = physGroups F.index gsL

section Callees
variable (blobOf : LCol → BCol) (F : Frame) (L : Nat) (gsL : List (List Nat))

/-- **a key column**: `Subset` of the first rows, as regenerated, is the key column of `groupAggS` over the groups `gsL` -/
theorem key_link (wf : WFrame F L) (hp : Plain F) (hb : BlobsOk blobOf F)
    (hgs : ∀ g ∈ gsL, g ≠ [] ∧ ∀ r ∈ g, r < F.index.length) (c : LCol) (hc : c ∈ F.cols) :
    genSubset blobOf c ((physGroups F.index gsL).map (·.head!)) = some ((keyFn (logical F.index c)).on gsL) := by
  have hk := wf.cols c hc
  have h0 : ∀ p ∈ F.index, p < c.cells.size := fun p hp' => hk.size ▸ wf.inRange p hp'
  -- the fields `Subset` does not copy are empty in a plain column
  have hcol : ∀ keeps cells, (c.ty = .enum → keeps = ["strict", "values"]) →
      colOfCells c keeps cells = { c with cells := cells.toArray } := by
    intro keeps cells hkeeps
    by_cases hen : c.ty = .enum
    · rw [hkeeps hen]; rfl
    · obtain ⟨h1, h2⟩ := hp c hc hen
      simp only [colOfCells, h1, h2, ite_self]
  by_cases hstr : c.ty = .string
  · -- a byte blob behind pointers
    obtain ⟨hv, hcells⟩ := hb c hc hstr
    have hlen : (blobOf c).ptrs.length = c.cells.size := by
      simpa [blobCells] using (congrArg List.length hcells).symm
    obtain ⟨b, B, h2, h3, _, h5⟩ := C04LoopsGen.subset_heads_string F.index (blobOf c) (logical F.index c) gsL hv
      (hcells ▸ (sees F.index c).cells) (fun p hp' => hlen ▸ h0 p hp') hgs
    simp only [genSubset, hstr, h2, h3, h5]
    rw [hcol _ _ fun e => nomatch hstr.symm.trans e]
    rfl
  · -- an array of values
    have htr : C04LoopsGen.subsetTranslated c.ty = true := by
      have hty := hk.ty
      revert hty hstr
      cases c.ty <;> first | exact fun _ _ => rfl | exact fun h _ => absurd rfl h | exact fun _ h => absurd h (by decide)
    have h2 : (subsetOf c.ty).run (pcolOf c) (zeroCell c.ty) ((physGroups F.index gsL).map (·.head!)) =
        .ok (gsL.map (fun g => (logical F.index c).cells[g.head!]!)) :=
      C04LoopsGen.subset_heads F.index (pcolOf c) (logical F.index c) gsL (sees F.index c) hk.ty htr
        (fun p hp' => by simpa [pcolOf] using h0 p hp') hgs (zeroCell c.ty)
    obtain ⟨s, hs⟩ := (C04LoopsGen.gen_subset_semantics (pcolOf c) hk.ty htr (zeroCell c.ty) [] nofun).2
    have hs' : subsetOf c.ty = .cells s (if c.ty = .enum then ["strict", "values"] else []) := hs
    rw [hs'] at h2
    simp only [genSubset, hs', h2, keepsOf]
    rw [hcol _ _ fun e => if_pos e]
    rfl

theorem fkind_of_ne_enum {ty : CType} (h : ty ≠ .enum) : fkind ty = ty := by
  cases ty <;> first | rfl | exact absurd rfl h

theorem aggApply_count (ty : CType) : aggApply (.builtin "count") ty = some (.int, fun vs => .int vs.length) := by
  cases ty <;> rfl

theorem aggApply_rt {afn : AggFn} {ty rt : CType} {g : List Cell → Cell} (h : aggApply afn ty = some (rt, g))
    (hc : afn ≠ .builtin "count") : rt = fkind ty :=
  ((C04Aggregations.aggApply_some h).resolve_left hc).1

/-- **an aggregation other than `"count"`**: `Column.Aggregate` as regenerated returns the column `groupAggS` builds, an
error exactly where `aggApply` is undefined, and neither panics nor is without meaning -/
theorem agg_link (wf : WFrame F L) (hgs : ∀ g ∈ gsL, g ≠ [] ∧ ∀ r ∈ g, r < F.index.length) (c : LCol) (hc : c ∈ F.cols)
    (afn : AggFn) (hcount : afn ≠ .builtin "count") (nm : Bytes) :
    (aggOut { c with name := nm } (physGroups F.index gsL) afn ≠ .panic ∧
     aggOut { c with name := nm } (physGroups F.index gsL) afn ≠ .stuck) ∧
    colOfOut { c with name := nm } (aggOut { c with name := nm } (physGroups F.index gsL) afn) =
      match aggApply afn c.ty with
      | some (rt, g) =>
        some { name := nm, ty := rt, cells := (gsL.map fun grp => g (grp.map fun r => (logical F.index c).cells[r]!)).toArray }
      | none => none := by
  have hk := wf.cols c hc
  have h0 : ∀ p ∈ F.index, p < (pcolOf c).cells.length := fun p hp' => by
    simp only [pcolOf, Array.length_toList, hk.size]; exact wf.inRange p hp'
  have hsem := C04LoopsGen.gen_aggregate_loops_semantics F.index (pcolOf c) (logical F.index c) gsL afn (sees F.index c)
    (colOk_of_keyOk hk) h0 hgs (fun n e hn => hcount (by rw [e, hn]))
  have hout : aggOut { c with name := nm } (physGroups F.index gsL) afn =
      match aggApply afn c.ty with
      | some (_, g) => .col (ret2 c.ty) (gsL.map fun grp => g (grp.map fun r => (logical F.index c).cells[r]!))
      | none => .err := hsem
  rw [hout]
  cases hag : aggApply afn c.ty with
  | none => exact ⟨⟨nofun, nofun⟩, rfl⟩
  | some p =>
    obtain ⟨rt, g⟩ := p
    refine ⟨⟨nofun, nofun⟩, ?_⟩
    cases aggApply_rt hag hcount
    by_cases hen : c.ty = .enum
    · rw [ret2, if_pos hen, hen]; rfl
    · rw [ret2, if_neg hen, fkind_of_ne_enum hen]; rfl

/-! ## The two loops of `Aggregate` -/

theorem fnName_count (afn : AggFn) : (fnNameOf afn == some "count") = true ↔ afn = .builtin "count" := by
  cases afn <;> simp [fnNameOf]

theorem intCol_eq (l : List Int) : genIntCol l = { name := [], ty := .int, cells := (l.map Cell.int).toArray } := by
  unfold genIntCol
  rw [(C08CtorsGen.gen_const_semantics .int (Or.inl rfl) 0 0 0 l).2]
  rfl

variable {σ : Type} (g : Grouper σ)

/-- one round of the aggregation loop is one round of `groupAggS.go` -/
theorem round_link (wf : WFrame F L) (G : Grouped F gsL g) (accN : List NCol) (seen names : List Bytes)
    (hseen : ∀ nm, seen.contains nm = names.any (· == nm)) (a : Agg) :
    aggRound (genAPrims blobOf) g accN seen (reqOf a) =
      (aggFn (viewOf F) names a).map fun k => ({ col := k.on gsL, pos := accN.length }, k.name) := by
  simp only [aggRound, aggFn, G.cols, hseen, find_view, Frame.find?]
  generalize hnm : resultName (reqOf a) = nm
  rw [show (if a.as.isEmpty then a.col else a.as) = nm from hnm]
  simp only [reqOf, genAPrims]
  cases hf : F.cols.find? (fun x => x.name == a.col) with
  | none => rfl
  | some c =>
    have hc : c ∈ F.cols := List.mem_of_find?_eq_some hf
    simp only [Option.map_some]
    cases names.any (· == nm) with
    | true => rfl
    | false =>
      simp only [Bool.false_eq_true, if_false]
      by_cases hcount : a.fn = .builtin "count"
      · simp only [hcount, fnNameOf, beq_self_eq_true, if_true, aggApply_count, intCol_eq, G.idx]
        simp [physGroups, Function.comp_def, ColFn.on]
      · simp only [Bool.eq_false_iff.mpr (mt (fnName_count _).mp hcount), Bool.false_eq_true, if_false, G.idx,
          (agg_link F L gsL wf G.rows c hc a.fn hcount nm).2]
        show _ = Option.map _ (match aggApply a.fn c.ty with | none => none | some (rt, gfn) => _)
        cases aggApply a.fn c.ty <;> rfl

/-- the aggregation loop of the closed form is `groupAggS.go`, the columns numbered -/
theorem loop_eq (wf : WFrame F L) (G : Grouped F gsL g) :
    ∀ (aggs : List Agg) (acc : List LCol) (seen : List Bytes), (∀ nm, seen.contains nm = (acc.map (·.name)).any (· == nm)) →
      specAggs (genAPrims blobOf) g (number 0 acc) seen (aggs.map reqOf) =
        (groupAggS.go (viewOf F) gsL acc aggs).map (number 0) := by
  intro aggs
  induction aggs with
  | nil => intro acc seen _; simp only [groupAggS.go, List.map_nil, specAggs, Option.map_some]
  | cons a as ih =>
    intro acc seen hseen
    rw [List.map_cons, specAggs_cons, round_link blobOf F L gsL g wf G (number 0 acc) seen _ hseen a, go_cons]
    cases aggFn (viewOf F) (acc.map (·.name)) a with
    | none => rfl
    | some k =>
      simp only [Option.map_some, Option.bind_some, ← number_append]
      refine ih _ _ fun x => ?_
      rw [List.contains_cons, hseen, List.map_append, List.any_append, Bool.or_comm]
      simp [BEq.comm (a := x), ColFn.on]

/-- the key loop: the key columns of `groupAggS` over the groups `gsL`, numbered from `i` -/
theorem keys_eq (wf : WFrame F L) (hp : Plain F) (hb : BlobsOk blobOf F) (G : Grouped F gsL g) :
    ∀ (names : List Bytes) (keys : List LCol) (i : Nat), names.mapM F.find? = some keys →
      specKeys (genAPrims blobOf) g ((physGroups F.index gsL).map (·.head!)) i names =
        some (number i (keys.map fun c => (keyFn (logical F.index c)).on gsL)) := by
  intro names
  induction names with
  | nil => intro keys i h; cases h; rfl
  | cons n ns ih =>
    intro keys i h
    rw [ListFacts.mapM_cons_opt] at h
    obtain ⟨c, hf, h⟩ := Option.bind_eq_some_iff.mp h
    obtain ⟨rest, hr, rfl⟩ := Option.map_eq_some_iff.mp h
    have hsub : (genAPrims blobOf).subset c ((physGroups F.index gsL).map (·.head!)) = (keyFn (logical F.index c)).on gsL := by
      show (genSubset blobOf c _).getD _ = _
      rw [key_link blobOf F L gsL wf hp hb G.rows c (List.mem_of_find?_eq_some hf)]; rfl
    simp only [specKeys, G.cols, show F.cols.find? (·.name == n) = some c from hf, ih rest (i + 1) hr, hsub, List.map_cons,
      number_cons]

end Callees

/-! ## `GroupBy(…).Aggregate(…)` -/

theorem specGroups_ok (gbNull : Bool) (keys : List LCol) (n : Nat) :
    ∀ g ∈ specGroups gbNull keys n, g ≠ [] ∧ ∀ r ∈ g, r < n := by
  intro g hg
  unfold specGroups at hg
  by_cases hn : n = 0
  · simp [hn] at hg
  · have hb : (n == 0) = false := by simpa using hn
    simp only [hb, Bool.false_eq_true, if_false] at hg
    cases hk : keys.isEmpty with
    | true =>
      simp only [hk, if_true, List.mem_singleton] at hg
      subst hg
      exact ⟨by intro e; exact hn (by simpa using e), fun r hr => List.mem_range.mp hr⟩
    | false =>
      simp only [hk, Bool.false_eq_true, if_false] at hg
      exact ⟨(C04Spec.groupsS_sorted gbNull keys n g hg).1, C04Spec.groupsS_bound gbNull keys n g hg⟩

theorem contains_reverse (l : List Bytes) (nm : Bytes) : l.reverse.contains nm = l.any (· == nm) := by
  rw [List.contains_reverse, List.contains_eq_any_beq]
  exact congrArg l.any (funext fun _ => BEq.comm)

theorem groupBy_unknown (H : HashFn) (rnd : Bytes → Nat → UInt64) (fuel : Nat) (F : Frame) (C : Cfg)
    (hknown : C.columns.all (fun n => (F.find? n).isSome) = false) :
    genGroupBy (genPrims H rnd fuel) F C = some { err := true } := by
  rw [← gen_groupby_err_iff]
  obtain ⟨n, hn, hx⟩ := List.all_eq_false.mp hknown
  exact .inr ⟨n, hn, by cases hf : F.find? n with | none => rfl | some _ => simp [hf] at hx⟩

/-- `gen_groupby_partition` with the groups written in LOGICAL rows: a permutation `gsL` of the spec's groups whose
physical rows are the grouper's groups -/
theorem groupBy_known (H : HashFn) (rnd : Bytes → Nat → UInt64) (fuel : Nat) (hF : 2 ^ 32 ≤ fuel) (F : Frame) (L : Nat)
    (wf : WFrame F L) (he : F.err = false) (C : Cfg) (hknown : C.columns.all (fun n => (F.find? n).isSome) = true) :
    ∃ g keys gsL, genGroupBy (genPrims H rnd fuel) F C = some g ∧ g.err = false ∧
      g.grouped = C.columns ∧ C.columns.mapM F.find? = some keys ∧
      gsL.Perm (specGroupsOf (viewOf F) C.gbNull C.columns) ∧ Grouped F gsL g := by
  obtain ⟨g, keys, hgb, hge, hcols, hgrouped, hkeys, hperm⟩ := gen_groupby_partition H rnd fuel hF F L wf he C hknown
  obtain ⟨gsL, hpermL, hmap⟩ := ListFacts.perm_map_inv (fun grp : List Nat => grp.map fun a => F.index[a]!) _ _ hperm
  have hsg : specGroupsOf (viewOf F) C.gbNull C.columns = specGroups C.gbNull (keys.map (logical F.index)) F.index.length := by
    unfold specGroupsOf
    rw [mapM_find_view, hkeys]
    rfl
  exact ⟨g, keys, gsL, hgb, hge, hgrouped, hkeys, hsg ▸ hpermL,
    fun grp hgrp => specGroups_ok _ _ _ grp (hpermL.subset hgrp), hcols, hmap.symm⟩

theorem genGroupAgg_eq (H : HashFn) (rnd : Bytes → Nat → UInt64) (fuel : Nat) (blobOf : LCol → BCol) {F : Frame} {C : Cfg}
    (aggs : List Agg) {g : Grouper GL.Stats} (hgb : genGroupBy (genPrims H rnd fuel) F C = some g) :
    genGroupAgg H rnd fuel blobOf F C aggs = specAggregate (genAPrims blobOf) g (aggs.map reqOf) := by
  unfold genGroupAgg
  rw [hgb]
  exact gen_aggregate_glue_semantics _ _ _

/-- **`Aggregate` on the physical rows of ANY groups of rows of the frame is `groupAggWith` on those groups**, the columns
numbered: for every grouper that holds the frame's columns and, as physical rows, a list `gsL` of non-empty groups of
rows of the frame. `hkeys`: on a grouped name that is no column the code panics where `groupAggWith` is an error. -/
theorem aggregate_eq (blobOf : LCol → BCol) (F : Frame) (L : Nat) (gsL : List (List Nat)) {σ : Type} (g : Grouper σ)
    (wf : WFrame F L) (hp : Plain F) (hb : BlobsOk blobOf F) (G : Grouped F gsL g)
    (hge : g.err = false) {keys : List LCol} (hkeys : g.grouped.mapM F.find? = some keys)
    (aggs : List Agg) :
    specAggregate (genAPrims blobOf) g (aggs.map reqOf) =
      some (match groupAggWith (viewOf F) gsL g.grouped aggs with
        | .err => .err
        | .ok out => .ok (number 0 out.cols) (List.range gsL.length)) := by
  have hseen : ∀ nm, g.grouped.reverse.contains nm =
      ((keys.map fun c => (keyFn (logical F.index c)).on gsL).map (·.name)).any (· == nm) := by
    rw [List.map_map,
      show (keys.map ((·.name) ∘ fun c => (keyFn (logical F.index c)).on gsL)) = g.grouped from (mapM_find_spec hkeys).1]
    exact contains_reverse _
  have hlen : g.indices.length = gsL.length := by rw [G.idx]; simp [physGroups]
  have hkeysL : (keys.map (logical F.index)).map (fun c => ({ c with cells := (gsL.map fun grp => c.cells[grp.head!]!).toArray } : LCol)) =
      keys.map fun c => (keyFn (logical F.index c)).on gsL := by rw [List.map_map]; rfl
  unfold specAggregate groupAggWith
  rw [G.idx, firsts_eq _ (C04LoopsGen.phys_nonempty G.rows)]
  simp only [hge, Bool.false_eq_true, if_false, keys_eq blobOf F L gsL g wf hp hb G g.grouped keys 0 hkeys,
    loop_eq blobOf F L gsL g wf G aggs _ _ hseen, mapM_find_view, hkeys, Option.map_some, hkeysL]
  rw [← G.idx, hlen]
  cases groupAggS.go (viewOf F) gsL _ aggs <;> rfl

theorem groupAggWith_n {f : LFrame} {gs : List (List Nat)} {keyNames : List Bytes} {aggs : List Agg} {out : LFrame}
    (h : groupAggWith f gs keyNames aggs = .ok out) : out.n = gs.length := by
  unfold groupAggWith at h
  split at h
  · cases h
  · split at h <;> cases h; rfl

/-- what the regenerated callees do not do on the groups `GroupBy` hands to `Aggregate`: panic, or lack a meaning -/
def NoPanic (blobOf : LCol → BCol) (F : Frame) (C : Cfg) (aggs : List Agg) (groups : List (List Nat)) : Prop :=
  (∀ n ∈ C.columns, ∀ c, F.find? n = some c → (genSubset blobOf c (groups.map (·.head!))).isSome = true) ∧
  (∀ a ∈ aggs, a.fn ≠ .builtin "count" → ∀ c, F.find? a.col = some c → ∀ nm,
    aggOut { c with name := nm } groups a.fn ≠ .panic ∧ aggOut { c with name := nm } groups a.fn ≠ .stuck)

/-- **`GroupBy(…).Aggregate(…)` of today's source is `groupAggS` with the groups in SOME order.** For every
`hash.HashBytes` `H`, whatever `rand.Uint64()` returns, every loop budget ≥ 2^32, every representation `blobOf` of the
string columns as byte blobs behind pointers (`BlobsOk`), every well-formed physical frame `F` (`WFrame`: a
duplicate-free index of at most 2^30 rows into columns of one length, cells of the columns' types; `Plain`: only enum
columns carry a value table) that has not failed, every configuration (key columns, Null setting) and every list of
aggregations of the catalogue: there is a list `gsL` of groups of logical rows — a PERMUTATION of the groups the spec
forms (`specGroupsOf`) — such that `GroupBy(…).Aggregate(…)` as regenerated returns
* an error where `groupAggWith (viewOf F) gsL …` — `groupAggS` with its groups taken in the order `gsL` — is an error
  (a key column or source column the frame does not have, a result name used twice, an aggregation `aggApply` does not
  define for the column type);
* otherwise exactly the columns of `groupAggWith (viewOf F) gsL …`, physically (key columns first: each group's first
  row's key; then one column per aggregation: `aggApply`'s function on the cells of the group's rows in frame order),
  each at the position `pos` it has in the list, over the index `0 … number of groups - 1`;
and no callee panics or is without meaning on the way (`NoPanic`). -/
theorem gen_aggregate_structure (H : HashFn) (rnd : Bytes → Nat → UInt64) (fuel : Nat) (hF : 2 ^ 32 ≤ fuel)
    (blobOf : LCol → BCol) (F : Frame) (L : Nat) (wf : WFrame F L) (hp : Plain F) (hb : BlobsOk blobOf F)
    (he : F.err = false) (C : Cfg) (aggs : List Agg) :
    ∃ gsL : List (List Nat), gsL.Perm (specGroupsOf (viewOf F) C.gbNull C.columns) ∧
      (match groupAggWith (viewOf F) gsL C.columns aggs with
       | .err => genGroupAgg H rnd fuel blobOf F C aggs = some .err
       | .ok out => ∃ colsN, genGroupAgg H rnd fuel blobOf F C aggs = some (.ok colsN (List.range gsL.length)) ∧
           colsN.map (·.col) = out.cols ∧ out.n = gsL.length ∧ ∀ k (h : k < colsN.length), colsN[k].pos = k) ∧
      ∀ g, genGroupBy (genPrims H rnd fuel) F C = some g → g.err = false → NoPanic blobOf F C aggs g.indices := by
  cases hknown : C.columns.all (fun n => (F.find? n).isSome) with
  | false =>
    -- an unknown key column
    have hnone : C.columns.mapM F.find? = none :=
      Option.not_isSome_iff_eq_none.mp (by rw [ListFacts.mapM_isSome, hknown]; exact Bool.false_ne_true)
    have hgb := groupBy_unknown H rnd fuel F C hknown
    refine ⟨[], ?_, ?_, ?_⟩
    · simp [specGroupsOf, mapM_find_view, hnone]
    · simp only [groupAggWith, mapM_find_view, hnone, Option.map_none]
      rw [genGroupAgg_eq H rnd fuel blobOf aggs hgb]
      rfl
    · intro g hg hge
      rw [hgb] at hg
      cases hg
      cases hge
  | true =>
    obtain ⟨g, keys, gsL, hgb, hge, hgrouped, hkeys, hpermL, G⟩ := groupBy_known H rnd fuel hF F L wf he C hknown
    refine ⟨gsL, hpermL, ?_, ?_⟩
    · -- the result
      rw [genGroupAgg_eq H rnd fuel blobOf aggs hgb,
        aggregate_eq blobOf F L gsL g wf hp hb G hge (hgrouped ▸ hkeys) aggs, hgrouped]
      cases hout : groupAggWith (viewOf F) gsL C.columns aggs with
      | err => rfl
      | ok out => exact ⟨_, rfl, number_col 0 out.cols, groupAggWith_n hout, number_pos out.cols⟩
    · -- no panic
      intro g' hg' _
      rw [hgb] at hg'
      cases hg'
      rw [G.idx]
      refine ⟨?_, ?_⟩
      · intro n _ c hc
        rw [key_link blobOf F L gsL wf hp hb G.rows c (List.mem_of_find?_eq_some hc)]
        rfl
      · intro a _ hcount c hc nm
        exact (agg_link F L gsL wf G.rows c (List.mem_of_find?_eq_some hc) a.fn hcount nm).1

theorem groupAggWith_view (f : LFrame) (gs : List (List Nat)) (keyNames : List Bytes) (aggs : List Agg) (a : LFrame)
    (h : groupAggWith f gs keyNames aggs = .ok a) : viewOf { cols := a.cols, index := List.range gs.length } = a := by
  rw [groupAggWith_fns] at h
  cases hk : keyNames.mapM f.find? with
  | none => rw [hk] at h; cases h
  | some keys =>
    rw [hk] at h
    simp only at h
    cases hg : goFns f (keys.map keyFn) aggs with
    | none => rw [hg] at h; cases h
    | some ks =>
      rw [hg] at h
      simp only [Res.ok.injEq] at h
      subst h
      simp only [viewOf, List.length_range, List.map_map]
      congr 1
      apply List.map_congr_left
      intro k _
      exact range_logical gs.length (k.on gs) (by simp [ColFn.on])

/-- **`GroupBy(…).Aggregate(…)` of today's source, end to end, against `groupAggS`** (QF/Spec/Ops.lean). Under the
hypotheses of `gen_aggregate_structure` — every hash function and random source, every representation of the string
columns, every well-formed physical frame that has not failed, every key list, Null setting and aggregation list of the
catalogue —: where the spec is an error (unknown key column, unknown source column, duplicate result name, aggregation
not defined for the column type) the regenerated code returns an error; where the spec is the frame `exp`, the code
returns columns at their positions over the index `0 … exp.n - 1` which the user sees as a frame `out` with `exp`'s
number of rows, column names, types, enum value tables and strictness, whose rows are a PERMUTATION of `exp`'s rows
(the order of the groups is not specified): for each group the key values of its first row, then one value per
aggregation computed on exactly that group's cells in frame order. -/
theorem gen_aggregate_end_to_end (H : HashFn) (rnd : Bytes → Nat → UInt64) (fuel : Nat) (hF : 2 ^ 32 ≤ fuel)
    (blobOf : LCol → BCol) (F : Frame) (L : Nat) (wf : WFrame F L) (hp : Plain F) (hb : BlobsOk blobOf F)
    (he : F.err = false) (C : Cfg) (aggs : List Agg) :
    match groupAggS (viewOf F) C.gbNull C.columns aggs with
    | .err => genGroupAgg H rnd fuel blobOf F C aggs = some .err
    | .ok exp => ∃ colsN out, genGroupAgg H rnd fuel blobOf F C aggs = some (.ok colsN (List.range exp.n)) ∧
        (∀ k (h : k < colsN.length), colsN[k].pos = k) ∧
        viewOfRes (.ok colsN (List.range exp.n)) = .ok out ∧
        out.n = exp.n ∧ out.names = exp.names ∧ out.cols.map (·.ty) = exp.cols.map (·.ty) ∧
        out.cols.map (·.vals) = exp.cols.map (·.vals) ∧ out.cols.map (·.strict) = exp.cols.map (·.strict) ∧
        out.rows.Perm exp.rows := by
  obtain ⟨gsL, hperm, hres, _⟩ := gen_aggregate_structure H rnd fuel hF blobOf F L wf hp hb he C aggs
  have hpm := groupAggWith_perm (viewOf F) gsL _ hperm C.columns aggs
  rw [groupAggS_eq]
  revert hres hpm
  cases hA : groupAggWith (viewOf F) gsL C.columns aggs with
  | err =>
    cases groupAggWith (viewOf F) (specGroupsOf (viewOf F) C.gbNull C.columns) C.columns aggs with
    | err => exact fun hres _ => hres
    | ok b => exact fun _ hpm => hpm.elim
  | ok a =>
    cases groupAggWith (viewOf F) (specGroupsOf (viewOf F) C.gbNull C.columns) C.columns aggs with
    | err => exact fun _ hpm => hpm.elim
    | ok b =>
      intro ⟨colsN, h1, h2, h3, h4⟩ ⟨p1, p2, p3, p4, p5, p6⟩
      have hn : b.n = gsL.length := by rw [← p1, h3]
      refine ⟨colsN, a, by rw [hn]; exact h1, h4, ?_, p1, p2, p3, p4, p5, p6⟩
      simp only [viewOfRes, h2, hn]
      rw [groupAggWith_view (viewOf F) gsL C.columns aggs a hA]

/-! ## `GroupBy(…).QFrames()` -/

theorem view_group (F : Frame) (grp : List Nat) (h : ∀ r ∈ grp, r < F.index.length) :
    viewOf { cols := F.cols, index := grp.map fun a => F.index[a]! } = (viewOf F).pick grp := by
  simp only [viewOf, LFrame.pick, List.length_map, List.map_map]
  congr 1
  apply List.map_congr_left
  intro c _
  simp only [Function.comp, logical, List.map_map]
  congr 2
  apply List.map_congr_left
  intro r hr
  simp [h r hr]

/-- **`GroupBy(…).QFrames()` of today's source, end to end.** For every well-formed physical frame that has not failed:
with a configured column the frame does not have, `QFrames` returns the error; otherwise it returns one frame per group
without error, each sharing the frame's columns, whose indices are — up to the order of the frames — the spec's groups
(`specGroupsOf`: `groupsS` over the key columns, all rows without key columns, no group without rows) written in physical
rows, so that the user sees in the `k`-th frame exactly the rows of the `k`-th group, in frame order (`LFrame.pick`). -/
theorem gen_qframes_end_to_end (H : HashFn) (rnd : Bytes → Nat → UInt64) (fuel : Nat) (hF : 2 ^ 32 ≤ fuel)
    (F : Frame) (L : Nat) (wf : WFrame F L) (he : F.err = false) (C : Cfg) :
    ∃ g, genGroupBy (genPrims H rnd fuel) F C = some g ∧
      if C.columns.all (fun n => (F.find? n).isSome) then
        ∃ (frames : List Frame) (gsL : List (List Nat)), genQFrames g = some (some frames) ∧ gsL.Perm (specGroupsOf (viewOf F) C.gbNull C.columns) ∧
          frames = gsL.map (fun grp => { cols := F.cols, index := grp.map fun a => F.index[a]!, err := false }) ∧
          frames.map viewOf = gsL.map (viewOf F).pick
      else genQFrames g = some none := by
  cases hknown : C.columns.all (fun n => (F.find? n).isSome) with
  | false =>
    have hgb := groupBy_unknown H rnd fuel F C hknown
    exact ⟨_, hgb, by simp [gen_qframes_semantics]⟩
  | true =>
    obtain ⟨g, _, gsL, hgb, hge, _, _, hpermL, G⟩ := groupBy_known H rnd fuel hF F L wf he C hknown
    refine ⟨g, hgb, ?_⟩
    simp only [if_true]
    refine ⟨_, gsL, by rw [gen_qframes_semantics, hge]; rfl, hpermL, ?_, ?_⟩
    · rw [G.idx, G.cols, physGroups, List.map_map]; rfl
    · rw [G.idx, G.cols, physGroups, List.map_map, List.map_map]
      exact List.map_congr_left fun grp hgrp => view_group F grp (G.rows grp hgrp).2

/-! ## A concrete input that meets the hypotheses -/

section Example

/-- five physical rows, of which the frame shows rows 4, 0, 2, 1 in that order (after a filter and a sort, say):
an int key `k`, a string column `s` (with a null and an empty string), an int column `v`, an enum column `e` (with a null) -/
def exF : Frame :=
  { cols := [{ name := [107], ty := .int, cells := #[.int 1, .int 2, .int 1, .int 2, .int 3] },
             { name := [115], ty := .string, cells := #[.str (some [97]), .str none, .str (some [98, 99]), .str (some []), .str (some [100])] },
             { name := [118], ty := .int, cells := #[.int 10, .int 20, .int 30, .int 40, .int 50] },
             { name := [101], ty := .enum, vals := [[108, 111], [104, 105]], strict := true,
               cells := #[.str (some [104, 105]), .str (some [108, 111]), .str none, .str (some [104, 105]), .str (some [108, 111])] }]
    index := [4, 0, 2, 1] }

/-- the string column as stored: "a" | null | "bc" | "" | "d" in the blob "abcd" -/
def exBlob : LCol → BCol := fun _ =>
  { ptrs := [⟨0, 1, false⟩, ⟨1, 0, true⟩, ⟨1, 2, false⟩, ⟨3, 0, false⟩, ⟨3, 1, false⟩], data := [97, 98, 99, 100] }

/-- `sum(v)`, `count(v) as n`, the user's `first(s)` and `first(e)` -/
def exAggs : List Agg :=
  [⟨.builtin "sum", [118], []⟩, ⟨.builtin "count", [118], [110]⟩, ⟨.user "first", [115], []⟩, ⟨.user "first", [101], [102]⟩]

/-- the hypotheses of `gen_aggregate_structure` / `gen_aggregate_end_to_end` / `gen_qframes_end_to_end` hold for it -/
example : WFrame exF 5 ∧ Plain exF ∧ BlobsOk exBlob exF ∧ exF.err = false := by
  refine ⟨⟨by decide, by decide, by decide, ?_⟩, ?_, ?_, rfl⟩
  · intro c hc
    simp only [exF, List.mem_cons, List.not_mem_nil, or_false] at hc
    rcases hc with rfl | rfl | rfl | rfl <;> exact ⟨by decide, rfl, by decide⟩
  · intro c hc hne
    simp only [exF, List.mem_cons, List.not_mem_nil, or_false] at hc
    rcases hc with rfl | rfl | rfl | rfl <;> first | exact ⟨rfl, rfl⟩ | exact absurd rfl hne
  · intro c hc hty
    simp only [exF, List.mem_cons, List.not_mem_nil, or_false] at hc
    rcases hc with rfl | rfl | rfl | rfl <;> first | cases hty | skip
    refine ⟨?_, by decide⟩
    intro p hp _
    simp only [exBlob, List.mem_cons, List.not_mem_nil, or_false] at hp
    rcases hp with rfl | rfl | rfl | rfl | rfl <;> decide

/-- … and the spec is not trivial on it: grouped by `k` the groups are the rows with keys 3, 1, 2 in frame order -/
theorem ex_groups : specGroupsOf (viewOf exF) false [[107]] = [[0], [1, 2], [3]] := by
  have : specGroupsOf (viewOf exF) false [[107]] = groupsS false [logical exF.index exF.cols[0]] 4 := by rfl
  rw [this, C04Spec.groupsS_eq_foldl_stepL]
  decide

example : (match groupAggS (viewOf exF) false [[107]] exAggs with
    | .ok f => some (f.names, f.rows)
    | .err => none) =
    some ([[107], [118], [110], [115], [102]],
      [[.int 3, .int 50, .int 1, .str (some [100]), .str (some [108, 111])],
       [.int 1, .int 40, .int 2, .str (some [97]), .str (some [104, 105])],
       [.int 2, .int 20, .int 1, .str none, .str (some [108, 111])]]) := by
  rw [groupAggS_eq, ex_groups]
  rfl

end Example

end QF.Props.C04EndToEnd

#print axioms QF.Props.C04EndToEnd.groupAggS_eq
#print axioms QF.Props.C04EndToEnd.groupAggWith_perm
#print axioms QF.Props.C04EndToEnd.gen_aggregate_structure
#print axioms QF.Props.C04EndToEnd.gen_aggregate_end_to_end
#print axioms QF.Props.C04EndToEnd.gen_qframes_end_to_end
