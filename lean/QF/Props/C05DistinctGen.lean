import QF.Props.C04GrouperGen
import QF.Props.C05Distinct
/-!
# C05 — the regenerated `Distinct` keeps the first row of every key class

`Distinct` runs the table with `collectIx = false` (`G.distinct`), the specification `C05.distinct_spec` speaks about
the first rows of the groups of `G.groupBy` (`collectIx = true`). This file closes the gap on the mirror —

* `groupIndex_strip` : the table built without collecting rows is the table built with collecting rows, with the rows of
  every entry dropped (same slots, same hashes, same first rows, same statistics): nothing in the probe, the growth
  check or the relocation reads `ix`;
* `HeadInv` : the rows of an entry (`G.members`) start with its first row — carried along in the same traversal
  (`insertNoGrow_sim`, `insertEntry_sim`, `foldlM_sim`);
* `distinct_eq_distinctOf` : `G.distinct = (G.groupBy).map C05.distinctOf` — for every hash function and key relation,

and states `C05.distinct_spec` for the programs extracted from today's source (`gen_distinct_spec`).
-/
namespace QF.Props.C04GrouperGen
open QF QF.GL G

/-! ## dropping the collected rows -/

def stripE (e : G.Entry) : G.Entry := { e with ix := [] }
def stripO (x : Option G.Entry) : Option G.Entry := x.map stripE
def stripS (a : Array (Option G.Entry)) : Array (Option G.Entry) := a.map stripO
def stripT (t : G.Tbl) : G.Tbl := { t with slots := stripS t.slots }

@[simp] theorem stripS_size (a : Array (Option G.Entry)) : (stripS a).size = a.size := by simp [stripS]
theorem stripS_get (a : Array (Option G.Entry)) (p : Nat) : (stripS a)[p]? = (a[p]?).map stripO := by simp [stripS]
@[simp] theorem stripE_hash (e : G.Entry) : (stripE e).hash = e.hash := rfl
@[simp] theorem stripE_firstPos (e : G.Entry) : (stripE e).firstPos = e.firstPos := rfl

theorem stripS_set (a : Array (Option G.Entry)) (p : Nat) (x : Option G.Entry) :
    stripS (a.setIfInBounds p x) = (stripS a).setIfInBounds p (stripO x) := by
  apply Array.ext_getElem?
  intro i
  simp only [stripS_get, Array.getElem?_setIfInBounds, stripS_size]
  by_cases h : p = i
  · subst h; by_cases hp : p < a.size <;> simp [hp]
  · simp [h]

/-- replacing an entry by one that differs only in its rows is invisible after stripping -/
theorem stripS_set_same (a : Array (Option G.Entry)) (p : Nat) (e e' : G.Entry) (h : a[p]? = some (some e)) (he : stripE e' = stripE e) :
    stripS (a.setIfInBounds p (some e')) = stripS a := by
  apply Array.ext_getElem?
  intro i
  rw [stripS_set]
  simp only [Array.getElem?_setIfInBounds, stripS_size]
  by_cases hi : p = i
  · subst hi
    have hp : p < a.size := lt_of_get h
    rw [if_pos rfl, if_pos hp, stripS_get, h]
    simp [stripO, he]
  · simp [hi]

theorem stripS_replicate (N : Nat) : stripS (Array.replicate N none) = Array.replicate N none := by
  apply Array.ext_getElem?
  intro i
  rw [stripS_get]
  simp only [Array.getElem?_replicate]
  split <;> rfl

variable (hash : Nat → Nat) (eqv : Nat → Nat → Bool)

theorem probe_strip (slots : Array (Option G.Entry)) (i h : Nat) : ∀ (f pos c : Nat),
    probe eqv (stripS slots) i h f pos c = probe eqv slots i h f pos c := by
  intro f
  induction f with
  | zero => intro pos c; rfl
  | succ f ih =>
    intro pos c
    rw [probe_succ, probe_succ, stripS_get, stripS_size]
    cases hv : slots[pos]? with
    | none => rfl
    | some o =>
      cases o with
      | none => rfl
      | some e => simp [stripO, ih]

def stripR (r : Option (Array (Option G.Entry) × Nat)) : Option (Array (Option G.Entry) × Nat) := r.map fun p => (stripS p.1, p.2)

theorem growStep_strip (N : Nat) (acc : Option (Array (Option G.Entry) × Nat)) (x : Option G.Entry) :
    growStep N (stripR acc) (stripO x) = stripR (growStep N acc x) := by
  cases acc with
  | none => cases x <;> rfl
  | some r =>
    have hh : (stripO x).elim 0 G.Entry.hash = x.elim 0 G.Entry.hash := by cases x <;> rfl
    show growStep N (some (stripS r.1, r.2)) (stripO x) = _
    rw [growStep_probe, growStep_probe, probe_strip, hh, stripR, Option.map_map]
    congr 1; funext pc
    cases x <;> simp [setX, stripO, stripS_set]

theorem growFold_strip (N : Nat) : ∀ (l : List (Option G.Entry)) (acc : Option (Array (Option G.Entry) × Nat)),
    (l.map stripO).foldl (growStep N) (stripR acc) = stripR (l.foldl (growStep N) acc) := by
  intro l
  induction l with
  | nil => intro acc; rfl
  | cons x l ih => intro acc; simp only [List.map_cons, List.foldl_cons, growStep_strip, ih]

theorem grow_strip (t : G.Tbl) : grow {} (stripT t) = (grow {} t).map stripT := by
  rw [grow_eq, grow_eq]
  have hl : (stripT t).slots.toList = t.slots.toList.map stripO := by simp [stripT, stripS]
  have hs : (stripT t).slots.size = t.slots.size := by simp [stripT]
  have hinit : (some (Array.replicate (2 * t.slots.size) none, (stripT t).relocCollisions) : Option (Array (Option G.Entry) × Nat)) =
      stripR (some (Array.replicate (2 * t.slots.size) none, t.relocCollisions)) := by
    simp [stripR, stripS_replicate, stripT]
  rw [hl, hs, hinit, growFold_strip]
  cases List.foldl (growStep (2 * t.slots.size)) (some (Array.replicate (2 * t.slots.size) none, t.relocCollisions)) t.slots.toList with
  | none => rfl
  | some r => rfl

theorem growIfNeeded_strip (t : G.Tbl) : growIfNeeded {} (stripT t) = (growIfNeeded {} t).map stripT := by
  unfold growIfNeeded
  have h1 : (stripT t).lfNum = t.lfNum := rfl
  have h2 : (stripT t).lfDen = t.lfDen := rfl
  rw [h1, h2]
  split
  · exact grow_strip t
  · rfl

/-! ## the rows of an entry start with its first row -/

def HeadOk (e : G.Entry) : Prop := (members e).head? = some e.firstPos

def HeadInv (a : Array (Option G.Entry)) : Prop := ∀ (s : Nat) (e : G.Entry), a[s]? = some (some e) → HeadOk e

theorem HeadInv_set (a : Array (Option G.Entry)) (p : Nat) (e : G.Entry) (h : HeadInv a) (he : HeadOk e) :
    HeadInv (a.setIfInBounds p (some e)) := by
  intro s e' hs
  rw [Array.getElem?_setIfInBounds] at hs
  by_cases hp : p = s
  · subst hp
    by_cases hlt : p < a.size
    · simp [hlt] at hs; subst hs; exact he
    · simp [hlt] at hs
  · simp only [hp, ↓reduceIte] at hs; exact h s e' hs

theorem HeadInv_replicate (N : Nat) : HeadInv (Array.replicate N none) :=
  fun s e h => absurd h (not_occ_replicate N s e)

/-- growth re-places the old entries as they are -/
theorem grow_head (t t' : G.Tbl) (hinv : HeadInv t.slots) (hg : grow {} t = some t') : HeadInv t'.slots := by
  obtain ⟨ns', c', hg', ri⟩ := grow_RI t
  rw [hg] at hg'; cases hg'
  intro s e h
  obtain ⟨s0, h0⟩ := (mem_toList_iff_occ _ e).mp (ri.sub s e h)
  exact hinv s0 e h0

/-! ## the two runs side by side

Each step is stated for both at once: without collecting rows on the stripped table it is the step with collecting rows,
stripped; and the step with collecting rows keeps `HeadInv`. -/

theorem insertNoGrow_sim (t : G.Tbl) (i : Nat) (hinv : HeadInv t.slots) :
    insertNoGrow hash eqv (stripT t) i false = (insertNoGrow hash eqv t i true).map stripT ∧
      ∀ t', insertNoGrow hash eqv t i true = some t' → HeadInv t'.slots := by
  unfold insertNoGrow
  have hs : (stripT t).slots = stripS t.slots := rfl
  rw [hs, probe_strip, stripS_size]
  cases hpr : probe eqv t.slots i (hash i % 2 ^ 32) (t.slots.size + 1) (hash i % 2 ^ 32 % t.slots.size) 0 with
  | none => exact ⟨rfl, fun _ h => by cases h⟩
  | some r =>
    obtain ⟨p, c⟩ := r
    simp only [stripS_get]
    cases hv : t.slots[p]? with
    | none => exact ⟨rfl, fun _ h => by cases h⟩
    | some o =>
      cases o with
      | none =>
        refine ⟨?_, fun t' h => ?_⟩
        · simp only [Option.map_some, stripO, Option.map_none]
          simp only [stripT, stripS_set, stripO, Option.map_some, stripE]
        · rw [← Option.some.inj h]
          exact HeadInv_set _ _ _ hinv rfl
      | some e =>
        refine ⟨?_, fun t' h => ?_⟩
        · simp only [Option.map_some, stripO, Bool.false_eq_true, ↓reduceIte]
          have : stripS (t.slots.setIfInBounds p (some (if e.ix.isEmpty then { e with ix := [e.firstPos, i] } else { e with ix := e.ix ++ [i] }))) = stripS t.slots := by
            apply stripS_set_same _ _ e _ hv
            split <;> rfl
          simp only [stripT, this]
        · simp only [↓reduceIte] at h
          rw [← Option.some.inj h]
          refine HeadInv_set _ _ _ hinv ?_
          -- the new row goes to the end of the rows of the entry, which start with its first row
          rw [HeadOk, members_addRow, firstPos_addRow, List.head?_append, hinv p e hv]
          rfl

theorem insertEntry_sim (t : G.Tbl) (i : Nat) (hinv : HeadInv t.slots) :
    insertEntry {} hash eqv (stripT t) i false = (insertEntry {} hash eqv t i true).map stripT ∧
      ∀ t', insertEntry {} hash eqv t i true = some t' → HeadInv t'.slots := by
  unfold insertEntry
  rw [growIfNeeded_strip]
  cases hgr : growIfNeeded {} t with
  | none => exact ⟨rfl, fun _ h => by cases h⟩
  | some t1 =>
    have hinv1 : HeadInv t1.slots := by
      unfold growIfNeeded at hgr
      split at hgr
      · exact grow_head t t1 hinv hgr
      · cases hgr; exact hinv
    exact insertNoGrow_sim hash eqv t1 i hinv1

theorem foldlM_sim : ∀ (ix : List Nat) (t : G.Tbl), HeadInv t.slots →
    ix.foldlM (fun t i => insertEntry {} hash eqv t i false) (stripT t) = (ix.foldlM (fun t i => insertEntry {} hash eqv t i true) t).map stripT ∧
      ∀ t', ix.foldlM (fun t i => insertEntry {} hash eqv t i true) t = some t' → HeadInv t'.slots := by
  intro ix
  induction ix with
  | nil => intro t hinv; exact ⟨rfl, fun t' h => by cases h; exact hinv⟩
  | cons i ix ih =>
    intro t hinv
    obtain ⟨h1, h2⟩ := insertEntry_sim hash eqv t i hinv
    simp only [List.foldlM_cons, Option.bind_eq_bind]
    rw [h1]
    cases h : insertEntry {} hash eqv t i true with
    | none => exact ⟨rfl, fun _ h => by cases h⟩
    | some t1 => exact ih t1 (h2 t1 h)

/-- the table of `Distinct` is the table of `GroupBy` without the collected rows, and the rows of every entry of the latter
start with its first row -/
theorem groupIndex_strip (ix : List Nat) : groupIndex {} hash eqv ix false = (groupIndex {} hash eqv ix true).map stripT ∧
    ∀ t, groupIndex {} hash eqv ix true = some t → HeadInv t.slots := by
  unfold groupIndex
  have h0 : ({ slots := Array.replicate (2 ^ initialSizeExp ix.length) none } : G.Tbl) =
      stripT { slots := Array.replicate (2 ^ initialSizeExp ix.length) none } := by
    simp [stripT, stripS_replicate]
  rw [h0]
  exact h0 ▸ foldlM_sim hash eqv ix _ (HeadInv_replicate _)

/-! ## `G.distinct` is the list of first rows of `G.groupBy` -/

theorem firstsOf_strip (l : List (Option G.Entry)) : firstsOf (l.map stripO) = firstsOf l := by
  induction l with
  | nil => rfl
  | cons x l ih =>
    cases x with
    | none => simpa [firstsOf, stripO] using ih
    | some e => simpa [firstsOf, stripO] using ih

theorem distinctOf_groupsOf (l : List (Option G.Entry)) (h : ∀ e, some e ∈ l → HeadOk e) :
    C05.distinctOf (groupsOf l) = firstsOf l := by
  induction l with
  | nil => rfl
  | cons x l ih =>
    have ih' := ih (fun e he => h e (List.mem_cons_of_mem _ he))
    cases x with
    | none => simpa [groupsOf, firstsOf, C05.distinctOf] using ih'
    | some e =>
      have hok : (members e).head? = some e.firstPos := h e (by simp)
      simp only [groupsOf, firstsOf, C05.distinctOf, List.filterMap_cons, Option.map_some] at ih' ⊢
      rw [show (if e.ix.isEmpty then [e.firstPos] else e.ix) = members e from rfl, hok, ih']

/-- For every hash function and key relation: `Distinct`'s table gives the first rows of `GroupBy`'s groups, in the same
(slot) order. -/
theorem distinct_eq_distinctOf (ix : List Nat) :
    G.distinct {} hash eqv ix = (G.groupBy {} hash eqv ix).map C05.distinctOf := by
  obtain ⟨hstrip, hhead⟩ := groupIndex_strip hash eqv ix
  unfold G.distinct G.groupBy
  rw [hstrip]
  cases hg : groupIndex {} hash eqv ix true with
  | none => rfl
  | some t =>
    simp only [Option.map_some]
    have h1 : (stripT t).slots.toList = t.slots.toList.map stripO := by simp [stripT, stripS]
    have h2 := distinctOf_groupsOf t.slots.toList (fun e he => by
      obtain ⟨s, hs⟩ := (mem_toList_iff_occ _ e).mp he
      exact hhead t hg s e hs)
    have h3 := firstsOf_strip t.slots.toList
    rw [h1]
    change some (firstsOf (t.slots.toList.map stripO)) = some (C05.distinctOf (groupsOf t.slots.toList))
    rw [h3, h2]

/-- **C05 for the regenerated code**: for a key relation that is an equivalence respected by the hash, reflexive on the rows
of a duplicate-free index of at most 2^30 rows, the `Distinct` extracted from today's source returns each key's FIRST row
exactly once. -/
theorem gen_distinct_spec (hash : Nat → Nat) (eqv : Nat → Nat → Bool) (kr : G.KeyRel hash eqv) (ix : List Nat) (hnd : ix.Nodup)
    (hrefl : ∀ a ∈ ix, eqv a a = true) (hlen : ix.length ≤ 2 ^ 30) (F : Nat) (hF : 2 ^ 32 ≤ F) :
    ∃ d, interpDistinct Gen.grouperFns F [cmpOf hash eqv] ix = some d ∧
      d.Nodup ∧ (∀ r ∈ d, r ∈ ix) ∧ (∀ j ∈ ix, ∃ r ∈ d, eqv r j = true) ∧
      (∀ r1 ∈ d, ∀ r2 ∈ d, r1 ≠ r2 → eqv r1 r2 = false) ∧
      (∀ r ∈ d, ∀ j ∈ ix, eqv r j = true → ix.idxOf r ≤ ix.idxOf j) := by
  obtain ⟨gs, hgs, h1, h2, h3, h4, h5⟩ := C05.distinct_spec hash eqv kr ix hnd hrefl
  have hd := (gen_grouper_semantics_abs hash eqv ix hlen F hF).2.2.2
  rw [distinct_eq_distinctOf, hgs] at hd
  exact ⟨C05.distinctOf gs, hd, h1, h2, h3, h4, h5⟩

end QF.Props.C04GrouperGen
