import QF.Props.C03SortGlueGen
import QF.Props.C03SorterLink
import QF.Props.C03Compare
import QF.Props.C03RowOrder
import QF.Props.C03SortRows
import QF.Props.C04GlueLink
/-!
# C03 — `Sort` of today's source, with everything it calls regenerated, returns what the spec calls sorted (tie T1)

`C03SortGlueGen.gen_sort_glue_semantics` gives `QFrame.Sort` for ANY meaning of `Comparable` and `Sorter.Sort()`. Here the
callees are the regenerated ones:

* `Sorter.Sort()`        — the programs `Gen.sorterFns` run by `C03SorterGen.interp` (gen_sorter_semantics: = the mirror
                            `Sorter.sort` of the comparison function `Less` computes, for EVERY comparison function),
* `Comparable(…).Compare` — `C03Compare.genCompare` (= the spec's `keyCmp`: gen_compare_semantics; `Sorter.Less` over these
                            comparators = the spec's `rowLess`: sorter_less_eq_rowLess),

and the conclusion is about the SPEC (QF/Spec/Ops.lean): `gen_sort_end_to_end` — for every well-formed physical frame
(`C04GlueLink.WFrame`: a duplicate-free index of at most `2^30` rows below `L` into columns of `L` cells of their types; the
bound `WFrame.small` is what the grouper of C04 needs, here it is only handed on to the result) and every list of
orders:

* a failed receiver comes back as it is, an order that names a column the frame does not have gives the receiver with an
  error — for every budget of the interpreter, nothing is sorted;
* otherwise (all columns known), for every budget that suffices (and some budget does; with less the interpreter runs out
  of fuel and there is no value — never another one): the result has the receiver's columns and no error, its index is a
  permutation of the receiver's index (so it is well-formed again), the receiver's own index array holds what it held, and
  the LOGICAL frame of the result (cell `i` of a column = the physical cell at row `index[i]`) is an acceptable result of
  sorting the logical frame of the receiver by these orders: `isSortedResult` of QF/Spec/Ops.lean — the same number of
  rows, the same column names, the same multiset of rows, and no consecutive pair of rows descends under the spec's `rowLess`
  for the keys (the columns the orders name, each with its Reverse / NullLast).

`isSortedResult` says "the same multiset of rows" as `sortRows f.rows == sortRows out.rows`, where `sortRows` is
`Array.qsort` of the Lean core library under the row order `rowCmp`. `SortedResult` below says it directly — `out.rows` is
a permutation of `f.rows` —, and `C03SortRows.sortRows_perm_invariant` (a proof that `Array.qsort` returns a sorted
permutation for every strict weak order, and that `rowCmp` is a linear order) turns that into `isSortedResult … = true`
(`isSortedResult_of_SortedResult`).

A row outside the columns (no row of a well-formed frame) is a run-time panic in Go; the comparators here
(`genSortComparable`) place such a row after every row of the column — some total answer is needed because the theorems
about the sorter quantify over all row numbers, and this one keeps the comparison a strict weak order.
-/
namespace QF.Props.C03EndToEnd
open QF QF.SG QF.Props.C03Compare QF.Props.C03SorterGen QF.Props.C03SortGlueGen QF.Props.C03RowOrder
open QF.GG (Frame)
open QF.Props.C04GlueLink (WFrame KeyOk logical)
set_option linter.unusedSimpArgs false

/-! ## The regenerated callees -/

/-- `<column>.Comparable(reverse, equalNull, nullLast)` of today's source as the sorter sees it: `Compare(i, j)` is the
regenerated comparator on the cells at the two rows. A row outside the column is a run-time panic in Go; here it compares
after every row of the column and equal to every other such row. -/
def genSortComparable (c : LCol) (rev eqNull nullLast : Bool) : Nat → Nat → Option CRes := fun i j =>
  if i < c.cells.size then
    if j < c.cells.size then genCompare c.ty c.vals ⟨rev, eqNull, nullLast⟩ c.cells[i]! c.cells[j]!
    else some .lessThan
  else if j < c.cells.size then some .greaterThan else some .equal

/-- `Sorter.Sort()` of today's source (`Gen.sorterFns`, interpreted with `fuel` levels) on an index array with the
comparators; `none`: the interpreter ran out of fuel (or the program has no value) -/
def genSorterSort (fuel : Nat) (rows : List Nat) (cols : SL.Cols) : Option (List Nat) :=
  match interp Gen.sorterFns cols fuel rows.toArray with
  | .ok r => some r.toList
  | _ => none

/-- what `Sort` calls, as regenerated -/
def genPrims (fuel : Nat) : Prims (Nat → Nat → Option CRes) :=
  { comparable := genSortComparable, sort := genSorterSort fuel }

/-- the comparators `Sort` builds of the keys -/
def colsOfKeys (keys : List (LCol × Order)) : SL.Cols := cmpsOfKeys genSortComparable keys

/-! ## `Less` over the regenerated comparators is `physLess` -/

theorem keyTyped_of_keyOk {L : Nat} {c : LCol} (h : KeyOk L c) : KeyTyped L c := ⟨h.ty, h.typed⟩

/-- `Sorter.Less` over comparators that each answer as a chain of three-way comparisons is the whole chain -/
theorem sorterLess_eq_lex {κ : Type} (c : κ → Nat → Nat → Option CRes) (o : κ → List (Nat → Nat → Ordering)) (i j : Nat) :
    ∀ ks : List κ, (∀ k ∈ ks, (c k i j).map resOrd = some (lexCmp (o k) i j)) →
      sorterLess (ks.map c) i j = some (lexCmp (ks.flatMap o) i j == .lt)
  | [], _ => rfl
  | k :: ks, h => by
    rw [List.forall_mem_cons] at h
    obtain ⟨r, hr, hro⟩ := Option.map_eq_some_iff.mp h.1
    simp only [List.map_cons, sorterLess, hr, List.flatMap_cons, lexCmp_append, ← hro, sorterLess_eq_lex c o i j ks h.2]
    cases r <;> rfl

/-- a comparison that stands in front of a chain need not be repeated inside it -/
theorem lexCmp_flatMap_cons {α κ : Type} (s : α → α → Ordering) (f : κ → List (α → α → Ordering)) (a b : α) (k : κ) (ks : List κ) :
    lexCmp ((k :: ks).flatMap fun k => s :: f k) a b = lexCmp (s :: (k :: ks).flatMap f) a b := by
  cases h : s a b
  case eq =>
    simp only [lexCmp, h]
    generalize k :: ks = l
    induction l with
    | nil => rfl
    | cons k ks ih => simp only [List.flatMap_cons, List.cons_append, lexCmp, h, lexCmp_append, ih]
  all_goals simp only [List.flatMap_cons, List.cons_append, lexCmp, h]

/-- the comparator `Sort` builds for a key of a well-formed frame answers as `sideCmp` followed by the three ranks of the
key: two rows of the column by the spec's `keyCmp` (`gen_compare_eq_spec`, `comps_eq_keyCmp`), a row outside after them -/
theorem comparable_eq_side_comps (L : Nat) (k : LCol × Order) (hk : KeyOk L k.1) (i j : Nat) :
    (genSortComparable k.1 k.2.reverse false k.2.nullLast i j).map resOrd = some (lexCmp (sideCmp L :: comps L k) i j) := by
  unfold genSortComparable
  rw [hk.size]
  by_cases hi : i < L <;> by_cases hj : j < L <;> simp only [hi, hj, if_true, if_false, Option.map_some, lexCmp, sideCmp]
  · rw [gen_compare_eq_spec k.1 hk.ty k.2 false _ _ (hk.typed i hi) (hk.typed j hj), Option.map_some, specRes_ord,
      comps_eq_keyCmp L k (keyTyped_of_keyOk hk) i j hi hj]
    rfl
  · rfl
  · rfl
  · simp only [comps, lexCmp, hi, hj, if_false, int_cmp_self, bytesCmp_nil, sw]
    cases k.2.reverse <;> rfl

/-- **`Sorter.Less` over the comparators today's `Sort` builds is `physLess`** (for at least one key): every comparator is
`sideCmp` and then the ranks of its key, and the repeated `sideCmp` changes nothing. On two rows of the columns `physLess`
is the spec's `rowLess` on the keys (`physLess_eq_rowLess`). -/
theorem lessIs_physLess (L : Nat) (keys : List (LCol × Order)) (hk : ∀ k ∈ keys, KeyOk L k.1) (hne : keys ≠ []) :
    LessIs (colsOfKeys keys) (physLess L keys) := by
  intro i j
  obtain ⟨k, ks, rfl⟩ := List.exists_cons_of_ne_nil hne
  rw [lessOf_eq_sorterLess, colsOfKeys, cmpsOfKeys,
    sorterLess_eq_lex _ (fun k => sideCmp L :: comps L k) i j _ fun k h => comparable_eq_side_comps L k (hk k h) i j,
    lexCmp_flatMap_cons]
  rfl

/-! ## The regenerated sorter on these comparators -/

/-- what the regenerated `Sorter.Sort()` leaves in the index array -/
def sortedRows (L : Nat) (keys : List (LCol × Order)) (rows : List Nat) : List Nat :=
  (Sorter.sort (physLess L keys) rows.toArray).toList

theorem genSorterSort_cases (L : Nat) (keys : List (LCol × Order)) (hk : ∀ k ∈ keys, KeyOk L k.1) (hne : keys ≠ []) (rows : List Nat) :
    (∃ N, ∀ fuel, N ≤ fuel → genSorterSort fuel rows (colsOfKeys keys) = some (sortedRows L keys rows)) ∧
    (∀ fuel, genSorterSort fuel rows (colsOfKeys keys) = none ∨ genSorterSort fuel rows (colsOfKeys keys) = some (sortedRows L keys rows)) := by
  obtain ⟨⟨N, hN⟩, hall⟩ := gen_sorter_semantics (colsOfKeys keys) (physLess L keys) (lessIs_physLess L keys hk hne) rows.toArray
  refine ⟨⟨N, fun fuel hf => ?_⟩, fun fuel => ?_⟩
  · simp only [genSorterSort, hN fuel hf, sortedRows]
  · rcases hall fuel with h | h
    · left; simp only [genSorterSort, h]
    · right; simp only [genSorterSort, h, sortedRows]

theorem sortedRows_perm (L : Nat) (keys : List (LCol × Order)) (rows : List Nat) : (sortedRows L keys rows).Perm rows := by
  have := (Sorter.sort_perm (physLess L keys) rows.toArray).toList
  simpa [sortedRows] using this

/-- no row of the sorted index is less than an earlier one -/
theorem sortedRows_sorted (L : Nat) (keys : List (LCol × Order)) (rows : List Nat) (i j : Nat) (hij : i < j)
    (hj : j < (sortedRows L keys rows).length) :
    physLess L keys (sortedRows L keys rows)[j]! (sortedRows L keys rows)[i]! = false := by
  have hs := Sorter.sort_sorted_full (physLess L keys) (physLess_swo L keys) rows.toArray
  have hlen : (sortedRows L keys rows).length = rows.length := (sortedRows_perm L keys rows).length_eq
  have := hs i j (Nat.zero_le _) hij (by simpa [hlen] using hj)
  have e : ∀ (a : Array Nat) (k : Nat), (a.toList)[k]! = a[k]! := fun a k => by
    simp [Array.getElem!_eq_getD, Array.getD_eq_getD_getElem?]
  unfold sortedRows
  rw [e, e]
  exact this

/-! ## Physical frames and logical frames -/

/-- the logical frame of a physical frame: cell `i` of a column is the physical cell at row `index[i]` -/
def absF (F : Frame) : LFrame := { cols := F.cols.map (logical F.index), n := F.index.length }

/-- the physical row `p` as the list of its cells in column order -/
def physRow (F : Frame) (p : Nat) : List Cell := F.cols.map fun c => c.cells[p]!

theorem absF_rows (F : Frame) : (absF F).rows = F.index.map (physRow F) := by
  unfold LFrame.rows absF
  apply List.ext_getElem
  · simp
  · intro r h1 h2
    simp only [List.length_map, List.length_range] at h1
    simp only [List.getElem_map, List.getElem_range, LFrame.row, physRow, List.map_map]
    apply List.map_congr_left
    intro c _
    simp [logical, h1]

theorem absF_names (F : Frame) (ix : List Nat) : (absF { F with index := ix }).names = (absF F).names := by
  simp [absF, LFrame.names, logical, Function.comp_def]

theorem absF_find (F : Frame) (n : Bytes) : (absF F).find? n = (F.find? n).map (logical F.index) := by
  unfold LFrame.find? Frame.find? absF
  rw [List.find?_map]
  rfl

/-- the keys of the logical frame: the physical keys seen through the index -/
theorem sortKeys_abs (F : Frame) (os : List Order) :
    sortKeys (absF F) os = (keysOf F os).map (List.map fun k => (logical F.index k.1, k.2)) := by
  rw [keysOf_eq_mapM, ← ListFacts.mapM_map_opt]
  unfold sortKeys
  congr
  funext o
  rw [absF_find]
  cases F.find? o.col <;> rfl

theorem keyCmp_logical (ix : List Nat) (c : LCol) (o : Order) (x y : Cell) : keyCmp (logical ix c) o x y = keyCmp c o x y := rfl

theorem rowLess_logical (f g : LFrame) (ix : List Nat) (keys : List (LCol × Order)) (a b : Nat) (ha : a < ix.length) (hb : b < ix.length) :
    rowLess f (keys.map fun k => (logical ix k.1, k.2)) a b = rowLess g keys ix[a]! ix[b]! := by
  induction keys with
  | nil => rfl
  | cons k ks ih =>
    obtain ⟨c, o⟩ := k
    simp only [List.map_cons, rowLess, keyCmp_logical, C04GlueLink.logical_cell ix c a ha, C04GlueLink.logical_cell ix c b hb, ih]

/-! ## What the spec calls a sorted result -/

/-- `isSortedResult f out os` (QF/Spec/Ops.lean) with "the same multiset of rows" said directly: the rows of `out` are a
permutation of the rows of `f`. -/
def SortedResult (f out : LFrame) (os : List Order) : Prop :=
  ∃ keys, sortKeys out os = some keys ∧ out.n = f.n ∧ out.names = f.names ∧ out.rows.Perm f.rows ∧
    ∀ r, r + 1 < out.n → rowLess out keys (r + 1) r = false

theorem isSortedResult_of_SortedResult (f out : LFrame) (os : List Order) (h : SortedResult f out os) : isSortedResult f out os = true := by
  obtain ⟨keys, h1, h2, h3, h4, h5⟩ := h
  unfold isSortedResult
  rw [h1]
  simp only [h2, h3, beq_self_eq_true, Bool.true_and, Bool.and_eq_true, List.all_eq_true, List.mem_range, Bool.not_eq_true']
  exact ⟨C03SortRows.sameRowMultiset_of_perm _ _ h4.symm, fun r hr => h5 r (by omega)⟩

/-- what `Sort` returns for orders that all name known columns -/
structure Good (F : Frame) (L : Nat) (os : List Order) (r : SRes (Nat → Nat → Option CRes)) : Prop where
  cols : r.frame.cols = F.cols
  noErr : r.frame.err = false
  recvKept : r.recvIndex = F.index
  perm : r.frame.index.Perm F.index
  wf : WFrame r.frame L
  sorted : SortedResult (absF F) (absF r.frame) os
  spec : isSortedResult (absF F) (absF r.frame) os = true

theorem wframe_of_perm {F : Frame} {L : Nat} (wf : WFrame F L) {ix : List Nat} (hp : ix.Perm F.index) : WFrame { F with index := ix } L where
  nodup := hp.nodup_iff.mpr wf.nodup
  small := by rw [hp.length_eq]; exact wf.small
  inRange := fun r hr => wf.inRange r (hp.mem_iff.mp hr)
  cols := wf.cols

theorem keysOf_mem {F : Frame} {os : List Order} {keys : List (LCol × Order)} (h : keysOf F os = some keys) :
    ∀ k ∈ keys, k.1 ∈ F.cols := by
  intro k hk
  have := ((keysOf_spec F os keys).1 h).2 k hk
  exact List.mem_of_find?_eq_some this

/-- the frame with the sorted index is what the spec calls a sorted result -/
theorem sorted_good (F : Frame) (L : Nat) (wf : WFrame F L) (he : F.err = false) (os : List Order) (keys : List (LCol × Order))
    (hkeys : keysOf F os = some keys) :
    Good F L os { frame := { F with index := sortedRows L keys F.index }, recvIndex := F.index,
                  call := some (F.index, colsOfKeys keys) } := by
  have hperm := sortedRows_perm L keys F.index
  have hkok : ∀ k ∈ keys, KeyOk L k.1 := fun k hk => wf.cols k.1 (keysOf_mem hkeys k hk)
  suffices hs : SortedResult (absF F) (absF { F with index := sortedRows L keys F.index }) os from
    ⟨rfl, he, rfl, hperm, wframe_of_perm wf hperm, hs, isSortedResult_of_SortedResult _ _ os hs⟩
  let out : Frame := { F with index := sortedRows L keys F.index }
  have hkeys' : keysOf out os = some keys := by rw [keysOf_eq_mapM] at hkeys ⊢; exact hkeys
  refine ⟨_, by rw [sortKeys_abs, hkeys']; rfl, ?_, absF_names F _, ?_, ?_⟩
  · show (sortedRows L keys F.index).length = F.index.length
    exact hperm.length_eq
  · rw [absF_rows, absF_rows]
    exact hperm.map _
  · intro r hr
    have hr' : r + 1 < (sortedRows L keys F.index).length := hr
    rw [rowLess_logical (absF out) LFrame.empty (sortedRows L keys F.index) keys (r + 1) r hr' (by omega)]
    have hs := sortedRows_sorted L keys F.index r (r + 1) (Nat.lt_succ_self r) hr'
    have hin : ∀ p, p < (sortedRows L keys F.index).length → (sortedRows L keys F.index)[p]! < L := by
      intro p hp
      apply wf.inRange
      apply hperm.mem_iff.mp
      rw [getElem!_pos _ p hp]
      exact List.getElem_mem hp
    rw [physLess_eq_rowLess LFrame.empty L keys (fun k hk => keyTyped_of_keyOk (hkok k hk)) _ _ (hin _ hr') (hin _ (by omega))] at hs
    exact hs

/-! ## The main statement -/

/-- **`gen_sort_end_to_end`: `QFrame.Sort` of today's source, everything it calls regenerated, sorts as the spec says.** For
every well-formed physical frame `F` (`WFrame F L`) and every list of orders `os`:
1. `F` has failed: for every budget the receiver comes back unchanged, nothing is sorted.
2. `F` has not failed and an order names a column `F` does not have: for every budget the receiver comes back with an
   error (same columns, same index), nothing is sorted.
3. `F` has not failed and every order names a column of `F`: there is a budget from which on `Sort` has a value, with ANY
   budget it has that value or none (the interpreter out of fuel), and every value `r` is `Good`: the columns of `F`, no
   error, an index that is a permutation of `F`'s (hence a well-formed frame again), the receiver's own index array as it
   was, and the logical frame of `r` is a sorted result of the logical frame of `F` for `os`:
   `isSortedResult (absF F) (absF r.frame) os = true` (QF/Spec/Ops.lean) — the same number of rows, the same names, the same
   multiset of rows (`SortedResult`: a permutation of the rows), no consecutive descent under the spec's `rowLess` for the
   keys `sortKeys` finds. -/
theorem gen_sort_end_to_end (F : Frame) (L : Nat) (wf : WFrame F L) (os : List Order) :
    (F.err = true → ∀ fuel, genSort (genPrims fuel) F os = some { frame := F, recvIndex := F.index, call := none }) ∧
    (F.err = false → (∃ o ∈ os, F.find? o.col = none) →
      ∀ fuel, genSort (genPrims fuel) F os = some { frame := { F with err := true }, recvIndex := F.index, call := none }) ∧
    (F.err = false → (∀ o ∈ os, (F.find? o.col).isSome = true) →
      (∃ N, ∀ fuel, N ≤ fuel → ∃ r, genSort (genPrims fuel) F os = some r ∧ Good F L os r) ∧
      (∀ fuel, genSort (genPrims fuel) F os = none ∨ ∃ r, genSort (genPrims fuel) F os = some r ∧ Good F L os r)) := by
  refine ⟨fun he fuel => ?_, fun he hunk fuel => ?_, fun he hknown => ?_⟩
  · rw [gen_sort_glue_semantics]; simp [specSort, he]
  · have hne : os ≠ [] := by obtain ⟨o, ho, _⟩ := hunk; exact List.ne_nil_of_mem ho
    exact (gen_sort_cmps_semantics (genPrims fuel) F os he hne).2 ((keysOf_eq_none_iff F os).2 hunk)
  · -- all columns known
    have hkeys : ∃ keys, keysOf F os = some keys := by
      cases hk : keysOf F os with
      | some keys => exact ⟨keys, rfl⟩
      | none =>
        obtain ⟨o, ho, hf⟩ := (keysOf_eq_none_iff F os).1 hk
        have := hknown o ho
        rw [hf] at this
        cases this
    obtain ⟨keys, hkeys⟩ := hkeys
    cases os with
    | nil =>
      -- no orders: the receiver itself, which is trivially sorted
      have hgood : Good F L [] { frame := F, recvIndex := F.index, call := none } := by
        have hs : SortedResult (absF F) (absF F) [] := ⟨[], rfl, rfl, rfl, List.Perm.refl _, fun r _ => rfl⟩
        exact ⟨rfl, he, rfl, List.Perm.refl _, wf, hs, isSortedResult_of_SortedResult _ _ [] hs⟩
      have hrun : ∀ fuel, genSort (genPrims fuel) F [] = some { frame := F, recvIndex := F.index, call := none } := by
        intro fuel; rw [gen_sort_glue_semantics]; simp [specSort, he]
      exact ⟨⟨0, fun fuel _ => ⟨_, hrun fuel, hgood⟩⟩, fun fuel => Or.inr ⟨_, hrun fuel, hgood⟩⟩
    | cons o os' =>
      have hne : keys ≠ [] := by
        intro e
        have := keysOf_length hkeys
        rw [e] at this
        simp at this
      have hkok : ∀ k ∈ keys, KeyOk L k.1 := fun k hk => wf.cols k.1 (keysOf_mem hkeys k hk)
      obtain ⟨⟨N, hN⟩, hall⟩ := genSorterSort_cases L keys hkok hne F.index
      have hrun : ∀ fuel, genSort (genPrims fuel) F (o :: os') =
          (genSorterSort fuel F.index (colsOfKeys keys)).map fun sorted =>
            { frame := { F with index := sorted }, recvIndex := F.index, call := some (F.index, colsOfKeys keys) } := by
        intro fuel
        exact (gen_sort_cmps_semantics (genPrims fuel) F (o :: os') he (by simp)).1 keys hkeys
      have hgood := sorted_good F L wf he (o :: os') keys hkeys
      refine ⟨⟨N, fun fuel hf => ⟨_, ?_, hgood⟩⟩, fun fuel => ?_⟩
      · rw [hrun fuel, hN fuel hf]; rfl
      · rcases hall fuel with h | h
        · left; rw [hrun fuel, h]; rfl
        · right; exact ⟨_, by rw [hrun fuel, h]; rfl, hgood⟩

/-- … read for one value: whatever today's `Sort` returns on a well-formed frame without error for orders naming known
columns — with whatever budget — satisfies `isSortedResult`, has the receiver's columns, no error, a permutation of the
receiver's index, and has left the receiver's index array alone. -/
theorem gen_sort_isSortedResult (F : Frame) (L : Nat) (wf : WFrame F L) (he : F.err = false) (os : List Order)
    (hknown : ∀ o ∈ os, (F.find? o.col).isSome = true) (fuel : Nat) (r : SRes (Nat → Nat → Option CRes))
    (hr : genSort (genPrims fuel) F os = some r) :
    isSortedResult (absF F) (absF r.frame) os = true ∧ r.frame.cols = F.cols ∧ r.frame.err = false ∧
      r.frame.index.Perm F.index ∧ r.recvIndex = F.index := by
  rcases ((gen_sort_end_to_end F L wf os).2.2 he hknown).2 fuel with h | ⟨r', h, hg⟩
  · rw [h] at hr; cases hr
  · rw [h] at hr
    cases hr
    exact ⟨hg.spec, hg.cols, hg.noErr, hg.perm, hg.recvKept⟩

/-! ## A concrete instance -/

section Example

/-- an int column `a` = 3, 1, 3, 2 and a string column `b` = "x", null, "a", "m"; the index reads the rows 3, 0, 2, 1 -/
def exF : Frame :=
  { cols := [{ name := [97], ty := .int, cells := #[.int 3, .int 1, .int 3, .int 2] },
             { name := [98], ty := .string, cells := #[.str (some [120]), .str none, .str (some [97]), .str (some [109])] }],
    index := [3, 0, 2, 1] }

/-- `a` descending, then `b` with nulls last -/
def exOs : List Order := [⟨[97], true, false⟩, ⟨[98], false, true⟩]

/-- the hypotheses of `gen_sort_end_to_end` hold for the instance: the frame is well-formed … -/
example : WFrame exF 4 where
  nodup := by decide
  small := by decide
  inRange := by decide
  cols := by
    intro c hc
    simp only [exF, List.mem_cons, List.mem_nil_iff, or_false] at hc
    rcases hc with rfl | rfl
    · exact ⟨by decide, rfl, by decide⟩
    · exact ⟨by decide, rfl, by decide⟩

/-- … has not failed, and every order names a column of it -/
example : exF.err = false ∧ ∀ o ∈ exOs, (exF.find? o.col).isSome = true := by decide

/-- today's `Sort` on it, everything regenerated, run by the kernel: the rows with `a` = 3 first (`b` = "a" before "x"),
then `a` = 2, then `a` = 1; the receiver's index untouched -/
example : (genSort (genPrims 40) exF exOs).map (fun r => (r.frame.index, r.recvIndex, r.frame.err)) =
    some ([2, 0, 3, 1], [3, 0, 2, 1], false) := by decide +kernel

end Example

end QF.Props.C03EndToEnd

#print axioms QF.Props.C03EndToEnd.lessIs_physLess
#print axioms QF.Props.C03EndToEnd.gen_sort_end_to_end
#print axioms QF.Props.C03EndToEnd.gen_sort_isSortedResult
