import QF.Core.Csv
/-! # C15 (faults): a failure of the underlying reader is always reported

Proved on the L0 mirror `Csv` of internal/fastcsv/csv.go:

* `more_fail` (+ `read_bytes`, `read_fail_nodata`): a failing `Src.read` makes `Buf.more` return `.fail`.
* `Tracks`, the one relation between source and reported error that every reader function maintains (`more_tracks`; for
  the functions it is a clause of their `*_post` in C12CsvMirror.lean, where `fail_iff_reached`, `fail_reported` and
  `clean_end_not_reached` are read off it), with `readAll'` threading the final reader state and `readAll'_agree`.
* `Reader_next_sticky`, `readAllLoop_sticky`: once `fs.err = some .fail` nothing is read again and the
  final error is `.fail`.
* `nextUnquoted_more_fail`, `quotedLoop_more_fail`, `Fields_next_more_fail`, `Fields_next_quoted_fail`:
  every `more` call site propagates `.fail` into `Fields.err`.
-/
namespace QF.Props.C15Faults
open Csv

/-! ## `more` and a failing read -/

/-- The buffer after the optional growth step of `more()` (cap := 2*len+1). -/
def growBuf (b : Buf) : Buf :=
  if b.len == b.data.size then { b with data := b.data ++ Array.replicate (b.len + 1) 0 } else b

/-- The room offered to the underlying reader by `more()`. -/
def roomOf (b : Buf) : Nat := (growBuf b).data.size - b.len

theorem more_eq (b : Buf) :
    b.more =
      ({ growBuf b with
          data := writeAll (growBuf b).data b.len (b.src.read (roomOf b)).1,
          len := b.len + (b.src.read (roomOf b)).1.length,
          src := (b.src.read (roomOf b)).2.2 },
       (b.src.read (roomOf b)).2.1) := by
  unfold Buf.more roomOf growBuf
  split <;> rfl

/-- 1. If the underlying read fails, `more` returns `.fail`; the bytes delivered by the
    failing call (if any) are appended at `len`. -/
theorem more_fail (b : Buf) (bytes : List Byte) (s' : Src)
    (h : b.src.read (roomOf b) = (bytes, some .fail, s')) :
    b.more =
      ({ growBuf b with data := writeAll (growBuf b).data b.len bytes,
                        len := b.len + bytes.length, src := s' }, some .fail) := by
  rw [more_eq, h]

/-- The four outcomes of a read: nothing once the wrapper has seen EOF, the failure without data, EOF on an
    empty rest, and the first `min want room` bytes of a non-empty rest, `want` being the scheduled size if there is one
    (with the failure, if this is the failing call and it delivers data). -/
theorem read_elim {motive : List Byte × Option RErr × Src → Prop} (s : Src) (room : Nat)
    (wrapped : motive ([], some .eof, s))
    (fail : s.failAt = some s.calls → s.failWithData = false ∨ s.rest = [] →
      motive ([], some .fail, { s with calls := s.calls + 1 }))
    (eof : s.failAt ≠ some s.calls → motive ([], some .eof, { s with calls := s.calls + 1 }))
    (data : ∀ (want : Nat) (w : Bool) (e : Option RErr), want = s.rest.length ∨ want ∈ s.sched → s.rest ≠ [] →
      (e = some .fail ↔ s.failAt = some s.calls) → (s.failAt = some s.calls → s.failWithData = true) →
      motive (s.rest.take (min (min want room) s.rest.length), e,
        { s with rest := s.rest.drop (min (min want room) s.rest.length), sched := s.sched.drop 1, calls := s.calls + 1,
                 wrapEof := w })) :
    motive (s.read room) := by
  have hcond : (s.failAt == some s.calls && !(s.failWithData && !s.rest.isEmpty)) = true ↔
      s.failAt = some s.calls ∧ (s.failWithData = false ∨ s.rest = []) := by
    cases s.failWithData <;> simp
  unfold Src.read
  refine iteInduction (fun _ => wrapped) fun _ => iteInduction (fun h => fail (hcond.1 h).1 (hcond.1 h).2) fun h =>
    iteInduction (fun he => eof fun hf => h (hcond.2 ⟨hf, .inr (List.isEmpty_iff.1 he)⟩)) fun hr => ?_
  refine data _ _ _ ?_ (fun he => hr (List.isEmpty_iff.2 he))
    ⟨fun he => ?_, fun hf => if_pos (beq_iff_eq.2 hf)⟩ fun hf => ?_
  · cases s.sched with
    | nil => exact .inl rfl
    | cons k ks => exact .inr List.mem_cons_self
  · split at he
    · exact eq_of_beq ‹_›
    · cases he
  · cases hw : s.failWithData
    · exact absurd (hcond.2 ⟨hf, .inl hw⟩) h
    · rfl

/-- Every read delivers a prefix of the remaining document and leaves the rest. -/
theorem read_bytes (s : Src) (room : Nat) :
    (s.read room).1 ++ (s.read room).2.2.rest = s.rest ∧ (s.read room).1.length ≤ room := by
  refine read_elim (motive := fun r => r.1 ++ r.2.2.rest = s.rest ∧ r.1.length ≤ room) s room
    ⟨rfl, Nat.zero_le _⟩ (fun _ _ => ⟨rfl, Nat.zero_le _⟩) (fun _ => ⟨rfl, Nat.zero_le _⟩) ?_
  intro want w e _ _ _ _
  exact ⟨List.take_append_drop _ s.rest, Nat.le_trans (List.length_take_le _ _)
    (Nat.le_trans (Nat.min_le_left _ _) (Nat.min_le_right _ _))⟩

/-- A failing read without `failWithData` (or with nothing left) delivers no bytes. -/
theorem read_fail_nodata (s : Src) (room : Nat) (h : (s.read room).2.1 = some .fail)
    (hn : s.failWithData = false ∨ s.rest = []) : (s.read room).1 = [] := by
  revert h
  refine read_elim (motive := fun r => r.2.1 = some .fail → r.1 = []) s room (fun _ => rfl) (fun _ _ _ => rfl)
    (fun _ _ => rfl) ?_
  intro want w e _ hr he hd hf
  rcases hn with hn | hn
  · rw [hd (he.1 hf)] at hn; cases hn
  · exact absurd hn hr

/-! ## Fault bookkeeping

Every reader function touches the source only through `Buf.more`, and hands the error `more` reports on
unchanged or replaces it by another that is not the failure. So all of them maintain one relation between
the source and the error reported so far (shown function by function in C12CsvMirror.lean), and both directions of
`fail_iff_reached` are read off it. -/

/-- The fault position of `s` is `k`, and call number `k` has been made iff the error reported so far is `.fail`. -/
def Tracks (k : Nat) (s : Src) (e : Option RErr) : Prop :=
  s.failAt = some k ∧ (k < s.calls ↔ e = some .fail)

theorem Tracks.of_ne {k : Nat} {s : Src} {e e' : Option RErr} (h : Tracks k s e) (he : e ≠ some .fail)
    (he' : e' ≠ some .fail) : Tracks k s e' :=
  ⟨h.1, fun hlt => absurd (h.2.1 hlt) he, fun hf => absurd hf he'⟩

theorem read_tracks {k : Nat} {s : Src} {e : Option RErr} (h : Tracks k s e) (hne : e ≠ some .fail) (room : Nat) :
    Tracks k (s.read room).2.2 (s.read room).2.1 := by
  have hc : s.calls ≤ k := Nat.le_of_not_lt fun hlt => hne (h.2.1 hlt)
  have called : ∀ {e : Option RErr}, (e = some .fail ↔ s.failAt = some s.calls) →
      (k < s.calls + 1 ↔ e = some .fail) := by
    intro e he
    rw [he, h.1, Option.some_inj]
    omega
  exact read_elim (motive := fun r => Tracks k r.2.2 r.2.1) s room (h.of_ne hne nofun)
    (fun hf _ => ⟨h.1, called ⟨fun _ => hf, fun _ => rfl⟩⟩)
    (fun hf => ⟨h.1, called ⟨nofun, fun h => absurd h hf⟩⟩)
    (fun _ _ _ _ _ he _ => ⟨h.1, called he⟩)

theorem more_tracks {k : Nat} {b : Buf} {e : Option RErr} (h : Tracks k b.src e) (hne : e ≠ some .fail) :
    Tracks k b.more.1.src b.more.2 := by
  rw [more_eq]
  exact read_tracks h hne _

/-! ## The scanners -/

/-- `unqStep`, `qKeep`, `qBody` (with its byte switch `qSw`), `nextGo` are the branches of `Csv.nextUnquoted`, `Csv.quotedLoop`, `Csv.Fields.next` after the
refill, cut out word for word so that `nextUnquoted_succ`, `quotedLoop_succ`, `Fields_next_eq` hold by `rfl`. -/
def unqStep (fuel cursor : Nat) (fs : Fields) : Out (Fields × Bool) :=
  if h : cursor < fs.buf.data.size then
    if cursor < fs.buf.len then
      let ch := fs.buf.data[cursor]
      let fs1 : Fields := { fs with buf := { fs.buf with cursor := cursor + 1 } }
      if ch == fs.delim then
        .ok ({ fs1 with field := fs1.buf.slice fs.fieldStart cursor, fieldStart := cursor + 1 }, true)
      else if ch == LF then
        .ok ({ fs1 with field := fs1.buf.slice fs.fieldStart cursor, hitEOL := true }, true)
      else nextUnquoted fuel fs1 (cursor + 1)
    else .panic "index out of range (len)"
  else .panic "index out of range (cap)"

theorem nextUnquoted_succ (fuel : Nat) (fs : Fields) (cursor : Nat) :
    nextUnquoted (fuel + 1) fs cursor =
      if cursor ≥ fs.buf.len then
        match fs.buf.more.2 with
        | some .eof => .ok ({ fs with buf := fs.buf.more.1, field := fs.buf.more.1.slice fs.fieldStart cursor,
                                      hitEOL := true, err := some .eof }, true)
        | some .fail => .ok ({ fs with buf := fs.buf.more.1, err := some .fail }, false)
        | none => unqStep fuel cursor { fs with buf := fs.buf.more.1 }
      else unqStep fuel cursor fs := by
  rfl

def qKeep (fuel : Nat) (delim : Byte) (start writeCursor : Nat) (b : Buf) :
    Out (List Byte × Bool × Option RErr × Buf) :=
  let w := writeCursor + 1
  if w != b.cursor then
    if b.cursor + 1 ≤ b.data.size ∧ w + 1 ≤ b.data.size then
      quotedLoop fuel { b with data := b.data.setIfInBounds w b.data[b.cursor]! } delim start w 0
    else .panic "slice bounds out of range"
  else quotedLoop fuel b delim start w 0

/-- the case distinction on the byte `ch` read, the cursor already advanced (`b1`) -/
def qSw (fuel : Nat) (delim : Byte) (start writeCursor quoteCount : Nat) (ch : Byte) (b1 : Buf) :
    Out (List Byte × Bool × Option RErr × Buf) :=
  if ch == delim then
    if quoteCount % 2 != 0 then .ok (b1.slice start writeCursor, false, none, b1)
    else qKeep fuel delim start writeCursor b1
  else if ch == LF then
    if quoteCount % 2 != 0 then .ok (b1.slice start writeCursor, true, none, b1)
    else qKeep fuel delim start writeCursor b1
  else if ch == CR then
    if quoteCount % 2 != 0 then quotedLoop fuel b1 delim start writeCursor quoteCount
    else qKeep fuel delim start writeCursor b1
  else if ch == QUOTE then
    if (quoteCount + 1) % 2 == 1 then quotedLoop fuel b1 delim start writeCursor (quoteCount + 1)
    else qKeep fuel delim start writeCursor b1
  else qKeep fuel delim start writeCursor b1

def qBody (fuel : Nat) (delim : Byte) (start writeCursor quoteCount : Nat) (b : Buf) :
    Out (List Byte × Bool × Option RErr × Buf) :=
  if b.cursor < b.len then qSw fuel delim start writeCursor quoteCount b.data[b.cursor]! { b with cursor := b.cursor + 1 }
  else .panic "index out of range (quoted)"

theorem quotedLoop_succ (fuel : Nat) (b : Buf) (delim : Byte) (start w q : Nat) :
    quotedLoop (fuel + 1) b delim start w q =
      if b.cursor + 1 ≥ b.len then
        match b.more.2 with
        | some err =>
          if err == .eof && q % 2 != 0 && b.more.1.cursor < b.more.1.len
              && b.more.1.data[b.more.1.cursor]! == delim then
            .ok (({ b.more.1 with cursor := b.more.1.cursor + 1 } : Buf).slice start w, false, none,
                 { b.more.1 with cursor := b.more.1.cursor + 1 })
          else .ok (b.more.1.slice start w, true, some err, b.more.1)
        | none => quotedLoop fuel b.more.1 delim start w q
      else qBody fuel delim start w q b := by
  rfl

/-! ## Fields.next -/

def nextGo (fuel : Nat) (fs : Fields) : Out (Fields × Bool) :=
  if fs.buf.cursor < fs.buf.len then
    if fs.buf.data[fs.buf.cursor]! == QUOTE then
      match nextQuoted fuel fs.buf fs.delim with
      | .panic w => .panic w
      | .ok (f, eol, err, b) =>
        .ok ({ fs with field := f, hitEOL := eol, err := err, buf := b, fieldStart := b.cursor },
             err == none || err == some .eof)
    else nextUnquoted fuel fs fs.buf.cursor
  else .panic "index out of range (first)"

theorem Fields_next_eq (fuel : Nat) (fs : Fields) :
    fs.next fuel =
      if fs.hitEOL then .ok (fs, false) else
      if fs.buf.cursor ≥ fs.buf.len then
        match fs.buf.more.2 with
        | some err =>
          if err == .eof && fs.fieldStart > 0 then
            .ok ({ fs with buf := fs.buf.more.1, err := some err,
                           field := fs.buf.more.1.slice fs.fieldStart fs.fieldStart, hitEOL := true }, true)
          else .ok ({ fs with buf := fs.buf.more.1, err := some err }, false)
        | none => nextGo fuel { fs with buf := fs.buf.more.1 }
      else nextGo fuel fs := by
  rfl

/-! ## readAll with the final reader state threaded out -/

def outMap {α β : Type} (f : α → β) : Out α → Out β
  | .ok a => .ok (f a)
  | .panic w => .panic w

/-- `readAllLoop`, additionally returning the final `Reader`. -/
def readAllLoop' (fuel n : Nat) (r : Reader) (acc : List (List (List Byte))) :
    Out (List (List (List Byte)) × Option RErr × Reader) :=
  match n with
  | 0 => .panic "fuel(all)"
  | n + 1 =>
    match r.next fuel with
    | .panic w => .panic w
    | .ok (r, true) => readAllLoop' fuel n r (acc ++ [r.row])
    | .ok (r, false) => .ok (acc, r.fs.err, r)

/-- The initial reader built by `readAll`. -/
def initReader (doc : List Byte) (sched : List Nat) (delim : Byte) (cap : Nat) (failAt : Option Nat)
    (eofWithData failWithData : Bool) : Reader :=
  { fs := { buf := { data := Array.replicate cap 0, len := 0, cursor := 0,
                     src := { rest := doc, sched := sched, failAt := failAt, eofWithData := eofWithData,
                              failWithData := failWithData } }, delim := delim } }

/-- `readAll`, additionally returning the final `Reader` (hence the final `Src.calls`). -/
def readAll' (doc : List Byte) (sched : List Nat) (delim : Byte) (cap : Nat) (failAt : Option Nat)
    (eofWithData failWithData : Bool) : Out (List (List (List Byte)) × Option RErr × Reader) :=
  let fuel := 8 * doc.length + 64
  readAllLoop' fuel fuel (initReader doc sched delim cap failAt eofWithData failWithData) []

theorem readAllLoop'_agree (fuel n : Nat) : ∀ (r : Reader) (acc : List (List (List Byte))),
    outMap (fun x => (x.1, x.2.1)) (readAllLoop' fuel n r acc) = readAllLoop fuel n r acc := by
  induction n with
  | zero => intro r acc; rfl
  | succ n ih =>
    intro r acc
    unfold readAllLoop' readAllLoop
    cases hn : r.next fuel with
    | panic w => rfl
    | ok x =>
      obtain ⟨r1, fl⟩ := x
      cases fl
      · rfl
      · exact ih _ _

/-- `readAll'` agrees with `readAll` on the first two components. -/
theorem readAll'_agree (doc : List Byte) (sched : List Nat) (delim : Byte) (cap : Nat) (failAt : Option Nat)
    (eofWD fwd : Bool) :
    outMap (fun x => (x.1, x.2.1)) (readAll' doc sched delim cap failAt eofWD fwd)
      = readAll doc sched delim cap failAt eofWD fwd :=
  readAllLoop'_agree _ _ _ _

theorem readAll'_of_readAll {doc sched delim cap failAt eofWD fwd rows e}
    (h : readAll doc sched delim cap failAt eofWD fwd = .ok (rows, e)) :
    ∃ r, readAll' doc sched delim cap failAt eofWD fwd = .ok (rows, e, r) := by
  rw [← readAll'_agree] at h
  cases h' : readAll' doc sched delim cap failAt eofWD fwd with
  | panic w => rw [h'] at h; cases h
  | ok x =>
    rw [h'] at h
    cases h
    exact ⟨_, rfl⟩

/-- The failing call number `k` was made during the run: the final `Src.calls` exceeds `k`. -/
def reached (doc : List Byte) (sched : List Nat) (delim : Byte) (cap k : Nat) (eofWD fwd : Bool) : Prop :=
  ∃ rows e r, readAll' doc sched delim cap (some k) eofWD fwd = .ok (rows, e, r) ∧ k < r.fs.buf.src.calls

/-! ## Stickiness of the error -/

/-- Once the sticky error is `.fail`, `Reader.next` returns `false` and the reader (in particular
    the source and its call counter) is unchanged: nothing is read again. -/
theorem Reader_next_sticky (fuel : Nat) (r : Reader) (h : r.fs.err = some .fail) :
    r.next fuel = .ok (r, false) := by
  unfold Reader.next
  simp [h]

/-- ... and `readAllLoop` ends with final error `.fail` (for any positive loop fuel). -/
theorem readAllLoop_sticky (fuel n : Nat) (r : Reader) (acc : List (List (List Byte)))
    (h : r.fs.err = some .fail) : readAllLoop fuel (n + 1) r acc = .ok (acc, some .fail) := by
  unfold readAllLoop
  rw [Reader_next_sticky fuel r h]
  dsimp only
  rw [h]

theorem readAllLoop'_sticky (fuel n : Nat) (r : Reader) (acc : List (List (List Byte)))
    (h : r.fs.err = some .fail) : readAllLoop' fuel (n + 1) r acc = .ok (acc, some .fail, r) := by
  unfold readAllLoop'
  rw [Reader_next_sticky fuel r h]
  dsimp only
  rw [h]

/-- A `Reader.next` that ends with `.fail` (whether or not it still delivers a row) makes the rest of
    `readAllLoop` stop with `.fail` after at most one more (non-reading) call. -/
theorem readAllLoop_after_fail (fuel n : Nat) (r r' : Reader) (flag : Bool) (acc : List (List (List Byte)))
    (hn : r.next fuel = .ok (r', flag)) (h : r'.fs.err = some .fail) :
    ∃ acc', readAllLoop fuel (n + 2) r acc = .ok (acc', some .fail) := by
  cases flag with
  | false => exact ⟨acc, by rw [readAllLoop, hn]; dsimp only; rw [h]⟩
  | true => exact ⟨acc ++ [r'.row], by rw [readAllLoop, hn]; exact readAllLoop_sticky fuel n r' _ h⟩

/-! ## Every `more` call site propagates `.fail` -/

/-- Unquoted scanner: the `more` call of this step fails ⇒ `err = .fail`, result `false`. -/
theorem nextUnquoted_more_fail (fuel : Nat) (fs : Fields) (cursor : Nat)
    (hc : cursor ≥ fs.buf.len) (hm : fs.buf.more.2 = some .fail) :
    nextUnquoted (fuel + 1) fs cursor = .ok ({ fs with buf := fs.buf.more.1, err := some .fail }, false) := by
  rw [nextUnquoted_succ, if_pos hc, hm]

/-- Quoted scanner: the `more` call of this step fails ⇒ returned error is `.fail`. -/
theorem quotedLoop_more_fail (fuel : Nat) (b : Buf) (delim : Byte) (start w q : Nat)
    (hc : b.cursor + 1 ≥ b.len) (hm : b.more.2 = some .fail) :
    quotedLoop (fuel + 1) b delim start w q = .ok (b.more.1.slice start w, true, some .fail, b.more.1) := by
  rw [quotedLoop_succ, if_pos hc, hm]
  rfl

/-- `Fields.next`: its own `more` call fails ⇒ `err = .fail`, result `false`. -/
theorem Fields_next_more_fail (fuel : Nat) (fs : Fields) (hE : fs.hitEOL = false)
    (hc : fs.buf.cursor ≥ fs.buf.len) (hm : fs.buf.more.2 = some .fail) :
    fs.next fuel = .ok ({ fs with buf := fs.buf.more.1, err := some .fail }, false) := by
  rw [Fields_next_eq, hE, if_pos hc, hm]
  rfl

/-- `Fields.next`: an error `.fail` coming out of the quoted scanner is stored in `Fields.err`, result `false`. -/
theorem Fields_next_quoted_fail (fuel : Nat) (fs : Fields) (hE : fs.hitEOL = false)
    (hc : fs.buf.cursor < fs.buf.len) (hq : (fs.buf.data[fs.buf.cursor]! == QUOTE) = true)
    (f : List Byte) (eol : Bool) (b : Buf)
    (hn : nextQuoted fuel fs.buf fs.delim = .ok (f, eol, some .fail, b)) :
    fs.next fuel =
      .ok ({ fs with field := f, hitEOL := eol, err := some .fail, buf := b, fieldStart := b.cursor }, false) := by
  rw [Fields_next_eq, hE]
  have : ¬ fs.buf.cursor ≥ fs.buf.len := by omega
  simp only [Bool.false_eq_true, if_false, if_neg this]
  unfold nextGo
  rw [if_pos hc, if_pos hq, hn]
  rfl

/-- `Fields.next`: likewise for the unquoted scanner: its result is the result of `Fields.next`. -/
theorem Fields_next_unquoted (fuel : Nat) (fs : Fields) (hE : fs.hitEOL = false)
    (hc : fs.buf.cursor < fs.buf.len) (hq : (fs.buf.data[fs.buf.cursor]! == QUOTE) = false) :
    fs.next fuel = nextUnquoted fuel fs fs.buf.cursor := by
  rw [Fields_next_eq, hE]
  have : ¬ fs.buf.cursor ≥ fs.buf.len := by omega
  simp only [Bool.false_eq_true, if_false, if_neg this]
  unfold nextGo
  rw [if_pos hc, hq]
  rfl

/-! ## Concrete instances (hypotheses are satisfiable)

The runs are evaluated by the kernel (`decide +kernel` on Boolean checkers; no axioms, no native code). -/

/-- Boolean form of `reached`. -/
def reachedB (doc : List Byte) (sched : List Nat) (delim : Byte) (cap k : Nat) (eofWD fwd : Bool) : Bool :=
  match readAll' doc sched delim cap (some k) eofWD fwd with
  | .ok (_, _, r) => decide (k < r.fs.buf.src.calls)
  | .panic _ => false

theorem reached_iff_reachedB (doc : List Byte) (sched : List Nat) (delim : Byte) (cap k : Nat) (eofWD fwd : Bool) :
    reached doc sched delim cap k eofWD fwd ↔ reachedB doc sched delim cap k eofWD fwd = true := by
  unfold reached reachedB
  constructor
  · rintro ⟨rows, e, r, h, hlt⟩
    rw [h]; simpa using hlt
  · intro h
    split at h
    · rename_i rows e r hr
      exact ⟨rows, e, r, hr, by simpa using h⟩
    · cases h

instance (doc : List Byte) (sched : List Nat) (delim : Byte) (cap k : Nat) (eofWD fwd : Bool) :
    Decidable (reached doc sched delim cap k eofWD fwd) :=
  decidable_of_iff _ (reached_iff_reachedB doc sched delim cap k eofWD fwd).symm

def okIs (o : Out (List (List (List Byte)) × Option RErr)) (rows : List (List (List Byte)))
    (e : Option RErr) : Bool :=
  match o with
  | .ok (r, e') => r == rows && e' == e
  | .panic _ => false

theorem okIs_eq {o rows e} (h : okIs o rows e = true) : o = .ok (rows, e) := by
  unfold okIs at h
  split at h
  · simp at h; rw [h.1, h.2]
  · cases h

/-- `a,b⏎"c",d⏎` -/
def exDoc : List Byte := [97, 44, 98, 10, 34, 99, 34, 44, 100, 10]

/-- Chunks of 2 bytes, capacity 4, call number 2 fails while still delivering data: the first row is
    returned, the failing call is reached, `.fail` is reported. -/
theorem ex_fail_run : readAll exDoc [2, 2, 2, 2] 44 4 (some 2) false true = .ok ([[[97], [98]]], some .fail) :=
  okIs_eq (by decide +kernel)

theorem ex_fail_reached : reached exDoc [2, 2, 2, 2] 44 4 2 false true := by decide +kernel

/-- Same run with the fault after the end of input (call 9 is never made): clean EOF, both rows. -/
theorem ex_clean_run : readAll exDoc [2, 2, 2, 2] 44 4 (some 9) false true
    = .ok ([[[97], [98]], [[99], [100]]], some .eof) :=
  okIs_eq (by decide +kernel)

/-- Hypothesis of `more_fail` / item 3 on the initial buffer with the very first call failing;
    hypothesis of the stickiness theorems after that. -/
example : ∃ bytes s', (initReader exDoc [] 44 4 (some 0) false false).fs.buf.src.read
      (roomOf (initReader exDoc [] 44 4 (some 0) false false).fs.buf) = (bytes, some .fail, s') :=
  ⟨_, _, rfl⟩

example : ∃ fs', (initReader exDoc [] 44 4 (some 0) false false).fs.next 100 = .ok (fs', false)
    ∧ fs'.err = some .fail :=
  ⟨_, Fields_next_more_fail 100 _ rfl (Nat.le_refl 0) (by decide +kernel), rfl⟩

#print axioms more_fail
#print axioms read_bytes
#print axioms read_fail_nodata
#print axioms Reader_next_sticky
#print axioms readAllLoop_sticky
#print axioms readAllLoop_after_fail
#print axioms nextUnquoted_more_fail
#print axioms quotedLoop_more_fail
#print axioms Fields_next_more_fail
#print axioms Fields_next_quoted_fail
#print axioms Fields_next_unquoted
#print axioms readAll'_agree
#print axioms ex_fail_run
#print axioms ex_fail_reached
#print axioms ex_clean_run
end QF.Props.C15Faults
