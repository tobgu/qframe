import QF.Props.C04GrouperGrow
/-!
# C04 / C05 — the mirror table never fails, for ANY hash function and key relation

`G.groupIndex` returns `none` when a probe runs out of fuel (the Go loop would not end) — `G.groupBy_partition` excludes
that for key relations respected by the hash. Here, without any assumption on `hash` and `eqv` (no `KeyRel`): the load
factor keeps a free slot in the table, so every probe and every relocation ends (`G.probe_stops`, `G.grow_total`), the size
stays a power of two, and for at most 2^30 rows it stays at most 2^31, the doubled size of a table that grows included
(`TInv`). `insertEntry_total` says this of one insertion phase by phase — growth check, probe, slot found, table written —
which is what `call_insertEntry` (C04GrouperInsert) needs of the mirror: its side conditions are fields of `TInv`.
-/
namespace QF.Props.C04GrouperGen
open QF QF.GL G
set_option linter.unusedSimpArgs false

/-! ## one insertion -/

/-- the invariant of the table after `m` rows: the counters of `G.CInv`, a power of two as size, a positive load-factor
denominator, at most `m` groups, and a size that is still far from 2^32 -/
structure TInv (t : G.Tbl) (m : Nat) : Prop where
  ci : CInv t
  pow : ∃ k, t.slots.size = 2 ^ k
  gc : t.groupCount ≤ m
  den : 0 < t.lfDen
  sz : t.slots.size ≤ 2 ^ 31
  /-- the load factor is a dyadic fraction (so that `float64` holds it exactly) -/
  dyadic : ∃ j, t.lfDen = 2 ^ j

theorem pow2_le_of_lt {a j : Nat} (k : Nat) (ha : a = 2 ^ k) (h : a < 2 ^ (j + 1)) : a ≤ 2 ^ j := by
  subst ha
  have : k < j + 1 := (Nat.pow_lt_pow_iff_right (by omega)).mp h
  exact Nat.pow_le_pow_right (by omega) (by omega)

theorem growIfNeeded_total (t : G.Tbl) (m : Nat) (inv : TInv t m) (hm : m ≤ 2 ^ 30) :
    ∃ t1, growIfNeeded {} t = some t1 ∧ TInv t1 m ∧ 2 * t1.groupCount ≤ t1.slots.size := by
  obtain ⟨t1, hg, ci1, hroom, hcase⟩ := growIfNeeded_room t inv.ci
  refine ⟨t1, hg, ?_, hroom⟩
  rcases hcase with rfl | ⟨hgr, hhalf⟩
  · exact inv
  · obtain ⟨t', hg', hs, _, hgc, _, hld⟩ := grow_total t
    rw [hgr] at hg'; cases hg'
    obtain ⟨k, hk⟩ := inv.pow
    obtain ⟨j, hj⟩ := inv.dyadic
    -- a table that grows has fewer than `2 * groupCount ≤ 2^31` slots, so its doubled size is still a `uint32`
    have hle : t.slots.size ≤ 2 ^ 30 := pow2_le_of_lt k hk (by have := inv.gc; omega)
    exact ⟨ci1, ⟨k + 1, by rw [hs, hk, Nat.pow_succ]; omega⟩, by rw [hgc]; exact inv.gc, by rw [hld]; have := inv.den; omega,
      by rw [hs]; omega, ⟨j + 1, by rw [hld, hj, Nat.pow_succ]⟩⟩

/-- One insertion succeeds and keeps the invariant — for every `hash` and `eqv` — phase by phase: the growth check gives `t1`,
the probe from the home slot of row `i` ends at slot `p` after `k` steps (whatever count it starts from), slot `p` holds `o`. -/
theorem insertEntry_total (hash : Nat → Nat) (eqv : Nat → Nat → Bool) (t : G.Tbl) (m : Nat) (inv : TInv t m) (hm : m ≤ 2 ^ 30)
    (i : Nat) (collect : Bool) :
    ∃ t1 p k o t', growIfNeeded {} t = some t1 ∧ TInv t1 m ∧
      (∀ c0, probe eqv t1.slots i (hash i % 2 ^ 32) (t1.slots.size + 1) (hash i % 2 ^ 32 % t1.slots.size) c0 = some (p, c0 + k)) ∧
      t1.slots[p]? = some o ∧ insertEntry {} hash eqv t i collect = some t' ∧ TInv t' (m + 1) := by
  obtain ⟨t1, hg, inv1, hload⟩ := growIfNeeded_total t m inv hm
  have ci1 := inv1.ci
  have hn : 0 < t1.slots.size := by have := ci1.big; omega
  have hcount : countOcc t1.slots < t1.slots.size := by rw [← ci1.cnt]; have := ci1.big; omega
  have hhome : hash i % 2 ^ 32 % t1.slots.size < t1.slots.size := Nat.mod_lt _ hn
  obtain ⟨k, hk, hpr, _⟩ := probe_stops eqv t1.slots i (hash i % 2 ^ 32) _ hhome (exists_empty_of_count _ hcount)
  have hplt := walk_lt t1.slots.size k _ hhome
  generalize walk t1.slots.size k _ = p at hpr hplt
  have hget : t1.slots[p]? = some t1.slots[p] := by simp [hplt]
  refine ⟨t1, p, k, t1.slots[p], ?_⟩
  suffices h : ∃ t', insertEntry {} hash eqv t i collect = some t' ∧ TInv t' (m + 1) from h.elim fun t' h => ⟨t', hg, inv1, hpr, hget, h⟩
  have hpr0 := hpr 0
  rw [Nat.zero_add] at hpr0
  unfold insertEntry
  simp only [hg, Option.bind_some]
  unfold insertNoGrow
  simp only [hpr0]
  cases hv : t1.slots[p] with
  | none =>
    have hemp : t1.slots[p]? = some none := by rw [hget, hv]
    simp only [hemp]
    refine ⟨_, rfl, ⟨⟨by simp only; rw [countOcc_set_empty _ _ _ hemp, ci1.cnt], rfl, Or.inr (by simp),
      by simpa using ci1.big, by simp only [Array.size_setIfInBounds]; omega⟩, by simpa using inv1.pow,
      by simp only; have := inv1.gc; omega, by simp only; omega, by simpa using inv1.sz, by simpa using inv1.pow⟩⟩
  | some e =>
    have ho : t1.slots[p]? = some (some e) := by rw [hget, hv]
    simp only [ho]
    cases collect
    · simp only [Bool.false_eq_true, ↓reduceIte]
      exact ⟨_, rfl, ⟨⟨ci1.cnt, ci1.lfn, ci1.lfd, ci1.big, ci1.load⟩, inv1.pow, by simp only; have := inv1.gc; omega, inv1.den, inv1.sz, inv1.dyadic⟩⟩
    · simp only [↓reduceIte]
      refine ⟨_, rfl, ⟨⟨by simp only; rw [countOcc_set_occ _ _ e _ ho]; exact ci1.cnt, ci1.lfn, by simpa using ci1.lfd,
        by simpa using ci1.big, by simpa using ci1.load⟩, by simpa using inv1.pow, by simp only; have := inv1.gc; omega,
        inv1.den, by simpa using inv1.sz, inv1.dyadic⟩⟩

/-! ## the initial table -/

theorem initialSizeExp_le (n : Nat) (hn : n ≤ 2 ^ 30) : initialSizeExp n ≤ 31 := by
  unfold initialSizeExp
  by_cases h0 : n / 4 = 0
  · simp [h0]
  · simp only [h0, ↓reduceIte]
    have : Nat.log2 (n / 4) < 30 := (Nat.log2_lt h0).mpr (by omega)
    omega

theorem init_TInv (n : Nat) (hn : n ≤ 2 ^ 30) : TInv { slots := Array.replicate (2 ^ initialSizeExp n) none } 0 :=
  ⟨(init_inv (fun _ => 0) (fun _ _ => false) n).2, ⟨initialSizeExp n, by simp⟩, Nat.le_refl _, by simp,
    by simp only [Array.size_replicate]; exact Nat.pow_le_pow_right (by omega) (initialSizeExp_le n hn), ⟨0, rfl⟩⟩

/-- the whole fold succeeds and keeps the invariant -/
theorem foldlM_total (hash : Nat → Nat) (eqv : Nat → Nat → Bool) (collect : Bool) :
    ∀ (rest : List Nat) (m : Nat) (t : G.Tbl), TInv t m → m + rest.length ≤ 2 ^ 30 →
      ∃ t', rest.foldlM (fun t i => insertEntry {} hash eqv t i collect) t = some t' ∧ TInv t' (m + rest.length) := by
  intro rest
  induction rest with
  | nil => intro m t inv _; exact ⟨t, rfl, inv⟩
  | cons i rest ih =>
    intro m t inv hm
    simp only [List.length_cons] at hm
    obtain ⟨_, _, _, _, t1, _, _, _, _, h1, inv1⟩ := insertEntry_total hash eqv t m inv (by omega) i collect
    obtain ⟨t2, h2, inv2⟩ := ih (m + 1) t1 inv1 (by omega)
    refine ⟨t2, by simp only [List.foldlM_cons, h1, Option.bind_eq_bind, Option.bind_some]; exact h2, ?_⟩
    simp only [List.length_cons]
    rw [show m + (rest.length + 1) = m + 1 + rest.length by omega]; exact inv2

/-- `G.groupIndex` is total on indexes of at most 2^30 rows, for every hash function and key relation; the final load
factor is a dyadic fraction with a numerator of at most 2^30 (every intermediate one as well: `TInv` is an invariant), so
the `float64` of the code holds it exactly -/
theorem groupIndex_total (hash : Nat → Nat) (eqv : Nat → Nat → Bool) (ix : List Nat) (hlen : ix.length ≤ 2 ^ 30) (collect : Bool) :
    ∃ t, groupIndex {} hash eqv ix collect = some t ∧ (∃ j, t.lfDen = 2 ^ j) ∧ t.lfNum ≤ 2 ^ 30 ∧ ∃ k, t.slots.size = 2 ^ k := by
  unfold groupIndex
  obtain ⟨t, h, inv⟩ := foldlM_total hash eqv collect ix 0 _ (init_TInv ix.length hlen) (by omega)
  refine ⟨t, h, inv.dyadic, ?_, inv.pow⟩
  have := inv.gc; have := inv.ci.lfn; omega

end QF.Props.C04GrouperGen
