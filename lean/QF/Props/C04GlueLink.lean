import QF.Props.C04GlueGen
import QF.Props.C04GrouperGen
import QF.Props.C05Distinct
import QF.Props.C05DistinctGen
import QF.Props.C03Compare
import QF.Props.C04Hash
import QF.Props.C04Spec
import QF.Core.ListFacts
/-!
# C04 — `GroupBy` of today's source, with everything it calls regenerated, partitions the rows as `groupsS` says (tie T1)

`C04GlueGen.gen_groupby_semantics` gives `QFrame.GroupBy` for ANY meaning of `Comparable` and `grouper.GroupBy`. Here the
callees are the regenerated ones:

* `grouper.GroupBy`  — the programs `Gen.grouperFns` run by `interpGroupBy` (C04GrouperGen.gen_grouper_semantics: = the mirror `G`),
* `Comparable(…).Compare` — `C03Compare.genCompare` (= the spec's `keyCmp` / `keyEq`: gen_compare_keyEq),
* `Comparable(…).Hash`    — `C04Hash.genHash` (rows that compare Equal hash equal: gen_hash_respects_keyEq),

and the conclusion is about the SPEC: `gen_groupby_partition` — for every well-formed frame (`WFrame`), every list of
known column names and either Null setting, `GroupBy` returns a `Grouper` whose groups are, up to the ORDER of the groups,
the groups of the spec — `[]` for a frame without rows, all rows for no columns, else `groupsS gbNull keys n` over the
frame's LOGICAL key columns (cell `i` = the physical cell at row `index[i]`) — with every logical row number `a` replaced
by the physical row `index[a]` (the rows inside a group are in frame order). That is the `gs` of `groupAggS`
(QF/Spec/Ops.lean) — `specGroups`.
-/
namespace QF.Props.C04GlueLink
open QF QF.GG QF.GL QF.Props.C03Compare QF.Props.C04Hash QF.Props.C04GrouperGen QF.Props.C04Spec QF.Props.C04GlueGen

/-! ## Lists -/

theorem eq_of_sorted_of_mem_iff (l1 l2 : List Nat) (h1 : l1.Pairwise (· < ·)) (h2 : l2.Pairwise (· < ·))
    (h : ∀ x, x ∈ l1 ↔ x ∈ l2) : l1 = l2 :=
  List.Perm.eq_of_pairwise (le := (· < ·)) (fun a b _ _ hab hba => by omega) h1 h2
    ((List.perm_ext_iff_of_nodup (h1.imp Nat.ne_of_lt) (h2.imp Nat.ne_of_lt)).mpr h)

theorem nodup_of_flatten {L : List (List Nat)} (hf : L.flatten.Nodup) (hne : ∀ g ∈ L, g ≠ []) : L.Nodup := by
  rw [List.Nodup, List.pairwise_iff_getElem]
  intro i j hi hj hij heq
  have hgi : L[i] ≠ [] := hne _ (List.getElem_mem hi)
  cases hg : L[i] with
  | nil => exact hgi hg
  | cons x t =>
    have h1 : x ∈ L[i] := by rw [hg]; simp
    have h2 : x ∈ L[j] := by rw [← heq]; exact h1
    have := unique_idx_of_nodup_flatten hf hi hj h1 h2
    omega

/-! ## Partitions into key classes are unique up to the order of the classes -/

section Classes
variable (eqv : Nat → Nat → Bool)

theorem cls_filter_eq (hs : ∀ a b, eqv a b = true → eqv b a = true) (ht : ∀ a b c, eqv a b = true → eqv b c = true → eqv a c = true)
    (ix : List Nat) (f f' : Nat) (h : G.cls eqv f' f = true) : ix.filter (G.cls eqv f) = ix.filter (G.cls eqv f') :=
  List.filter_congr fun _ _ => Bool.eq_iff_iff.2 ⟨C05.cls_trans ht h, C05.cls_trans ht (C05.cls_symm hs h)⟩

/-- `gs` lists, each once, the key classes of the rows `ix` (a class in the order of `ix`) and leaves no row out -/
structure Classes (ix : List Nat) (gs : List (List Nat)) : Prop where
  nodup : gs.Nodup
  cls : ∀ g ∈ gs, ∃ f ∈ ix, g = ix.filter (G.cls eqv f)
  cover : ∀ j ∈ ix, ∃ g ∈ gs, j ∈ g

end Classes

/-- the members of `gs` are exactly the classes of the rows: the class of a row is the group that covers it -/
theorem Classes.mem_iff {eqv : Nat → Nat → Bool} (hs : ∀ a b, eqv a b = true → eqv b a = true)
    (ht : ∀ a b c, eqv a b = true → eqv b c = true → eqv a c = true) {ix : List Nat} {gs : List (List Nat)}
    (h : Classes eqv ix gs) {g : List Nat} : g ∈ gs ↔ ∃ f ∈ ix, g = ix.filter (G.cls eqv f) := by
  refine ⟨h.cls g, ?_⟩
  rintro ⟨f, hf, rfl⟩
  obtain ⟨g', hg', hfg'⟩ := h.cover f hf
  obtain ⟨f', _, rfl⟩ := h.cls g' hg'
  rwa [cls_filter_eq eqv hs ht ix f f' (List.mem_filter.mp hfg').2]

/-- the classes of a symmetric and transitive relation are determined up to their order -/
theorem classes_perm {eqv : Nat → Nat → Bool} (hs : ∀ a b, eqv a b = true → eqv b a = true)
    (ht : ∀ a b c, eqv a b = true → eqv b c = true → eqv a c = true) {ix : List Nat} {A B : List (List Nat)}
    (hA : Classes eqv ix A) (hB : Classes eqv ix B) : A.Perm B :=
  (List.perm_ext_iff_of_nodup hA.nodup hB.nodup).mpr fun _ => (hA.mem_iff hs ht).trans (hB.mem_iff hs ht).symm

/-- the groups of the hash table -/
theorem Classes.of_groupBy (hash : Nat → Nat) (eqv : Nat → Nat → Bool) (kr : G.KeyRel hash eqv) (ix : List Nat) (hnd : ix.Nodup) :
    ∃ gs, G.groupBy { } hash eqv ix = some gs ∧ Classes eqv ix gs := by
  obtain ⟨gs, h1, h2, h3, _⟩ := C04.groupBy_partition hash eqv kr ix hnd
  obtain ⟨gs', h1', hnod⟩ := C05.groupBy_nodup hash eqv kr ix hnd
  cases Option.some.inj (h1.symm.trans h1')
  exact ⟨gs, h1, hnod, h2, h3⟩


/-! ## The groups of `groupsS` are the key classes -/

section Spec
variable (gbNull : Bool) (keys : List LCol) (n : Nat)

theorem groupsS_class {g : List Nat} (hg : g ∈ groupsS gbNull keys n) {h : Nat} (hh : g.head? = some h) :
    g = (List.range n).filter (G.cls (rowKeyEq gbNull keys) h) := by
  apply eq_of_sorted_of_mem_iff
  · exact (groupsS_sorted gbNull keys n g hg).2
  · exact List.Pairwise.filter _ List.pairwise_lt_range
  intro x
  rw [List.mem_filter, List.mem_range]
  constructor
  · intro hx
    exact ⟨groupsS_bound gbNull keys n g hg x hx,
      C05.cls_iff.2 ((groupsS_same_key gbNull keys n hg hh hx).symm.imp Eq.symm rowKeyEq_symm')⟩
  · rintro ⟨hxn, hc⟩
    rcases C05.cls_iff.1 hc with rfl | h1
    · exact List.mem_of_mem_head? hh
    · -- x has the key of h: it is in some group, which must be g
      obtain ⟨g', hg', hxg'⟩ := groupsS_cover gbNull keys n x hxn
      obtain ⟨i, hi, rfl⟩ := List.mem_iff_getElem.mp hg
      obtain ⟨j, hj, rfl⟩ := List.mem_iff_getElem.mp hg'
      by_cases hij : i = j
      · subst hij; exact hxg'
      · exfalso
        have hne := (groupsS_sorted gbNull keys n _ hg').1
        cases hgj : (groupsS gbNull keys n)[j] with
        | nil => exact hne hgj
        | cons h' t =>
          have hh' : (groupsS gbNull keys n)[j].head? = some h' := by rw [hgj]; rfl
          have hd := groupsS_heads_differ gbNull keys n hi hj hij hh hh'
          have hk : rowKeyEq gbNull keys h h' = true := by
            rcases groupsS_same_key gbNull keys n hg' hh' hxg' with h2 | h2
            · exact rowKeyEq_trans (rowKeyEq_symm' h1) (rowKeyEq_symm' h2)
            · subst h2; exact rowKeyEq_symm' h1
          rw [hk] at hd; cases hd

end Spec

/-- the spec's groups, with the rows renamed by an injection that carries `rowKeyEq` to `eqv` -/
theorem Classes.of_groupsS (gbNull : Bool) (keys : List LCol) (ix : List Nat) (hnd : ix.Nodup) (eqv : Nat → Nat → Bool)
    (hE : ∀ a b, a < ix.length → b < ix.length → rowKeyEq gbNull keys a b = eqv ix[a]! ix[b]!) :
    Classes eqv ix ((groupsS gbNull keys ix.length).map fun g => g.map fun a => ix[a]!) := by
  have hflat : (((groupsS gbNull keys ix.length).map (List.map fun a => ix[a]!)).flatten).Perm ix := by
    have := (groupsS_disjoint gbNull keys ix.length).map fun a => ix[a]!
    rwa [ListFacts.range_map_getElem, List.map_flatten] at this
  refine ⟨nodup_of_flatten (hflat.nodup_iff.mpr hnd) fun g hg => ?_, fun g hg => ?_,
    fun j hj => List.mem_flatten.mp (hflat.mem_iff.mpr hj)⟩
  · obtain ⟨g0, hg0, rfl⟩ := List.mem_map.mp hg
    exact fun e => (groupsS_sorted gbNull keys _ g0 hg0).1 (List.map_eq_nil_iff.mp e)
  · obtain ⟨g0, hg0, rfl⟩ := List.mem_map.mp hg
    cases hgc : g0 with
    | nil => exact absurd hgc (groupsS_sorted gbNull keys _ g0 hg0).1
    | cons h t =>
      have hh : g0.head? = some h := by rw [hgc]; rfl
      have hhn : h < ix.length := groupsS_bound gbNull keys _ g0 hg0 h (by rw [hgc]; simp)
      refine ⟨ix[h]!, ListFacts.getElem!_mem hhn, ?_⟩
      rw [← hgc, groupsS_class gbNull keys _ hg0 hh,
        show ix.filter (G.cls eqv ix[h]!) = ((List.range ix.length).map fun j => ix[j]!).filter (G.cls eqv ix[h]!) by
          rw [ListFacts.range_map_getElem], List.filter_map]
      congr 1
      apply List.filter_congr
      intro x hx
      have hxn : x < ix.length := List.mem_range.mp hx
      simp only [Function.comp, G.cls, hE x h hxn hhn]
      congr 1
      rw [Bool.eq_iff_iff]
      simp only [beq_iff_eq, getElem!_pos, hxn, hhn]
      exact (List.getElem_inj hnd).symm

/-! ## The regenerated comparables -/

/-- the four values of `column.CompareResult`, as the grouper's language names them -/
def toGL : QF.CRes → GL.CRes
  | .lessThan => .lessThan
  | .greaterThan => .greaterThan
  | .equal => .equal
  | .notEqual => .notEqual

theorem toGL_equal (r : QF.CRes) : (toGL r == GL.CRes.equal) = (r == QF.CRes.equal) := by cases r <;> rfl

/-- `<column>.Comparable(reverse, equalNull, nullLast)` of today's source as the grouper sees it: `Compare(i, j)` is the
regenerated comparator on the cells at the two rows, `Hash(i, seed)` the regenerated hash function on the cell at the row
(`rnd i`: what `rand.Uint64()` returns when the row is hashed). A row outside the column is a run-time panic in Go; here it
compares NotEqual and hashes to 0 (no row of a well-formed frame is outside its columns). -/
def genComparable (H : HashFn) (rnd : Nat → UInt64) (c : LCol) (rev eqNull nullLast : Bool) : GL.Cmp :=
  { compare := fun i j =>
      if i < c.cells.size ∧ j < c.cells.size then
        toGL ((genCompare c.ty c.vals ⟨rev, eqNull, nullLast⟩ c.cells[i]! c.cells[j]!).getD .notEqual)
      else .notEqual
    hash := fun i s =>
      if i < c.cells.size then ((genHash H (rnd i) c.ty c.vals ⟨rev, eqNull, nullLast⟩ c.cells[i]! (UInt64.ofNat s)).getD 0).toNat
      else 0 }

/-- what `GroupBy` calls, as regenerated: `H` is `hash.HashBytes`, `rnd name row` the random value drawn when that row of
that column is hashed, `fuel` the loop budget of the interpreter of the grouper -/
def genPrims (H : HashFn) (rnd : Bytes → Nat → UInt64) (fuel : Nat) : Prims GL.Cmp GL.Stats :=
  { comparable := fun c r e n => genComparable H (rnd c.name) c r e n
    groupBy := fun ix cs => interpGroupBy Gen.grouperFns fuel cs ix }

/-- the comparables of the key columns, as `GroupBy` builds them -/
def cmpsOf (H : HashFn) (rnd : Bytes → Nat → UInt64) (gbNull : Bool) (keys : List LCol) : List GL.Cmp :=
  keys.map fun c => genComparable H (rnd c.name) c false gbNull false

/-- a key column of a well-formed frame: a Go column type, `L` cells, all of the type -/
structure KeyOk (L : Nat) (c : LCol) : Prop where
  ty : c.ty ∈ tys
  size : c.cells.size = L
  typed : ∀ r < L, wtCell c.ty c.vals c.cells[r]! = true

theorem cmp_equal_iff (H : HashFn) (rnd : Nat → UInt64) (gbNull : Bool) (L : Nat) (c : LCol) (hc : KeyOk L c) (i j : Nat) :
    ((genComparable H rnd c false gbNull false).compare i j == GL.CRes.equal) =
      (decide (i < L ∧ j < L) && keyEq gbNull c c.cells[i]! c.cells[j]!) := by
  unfold genComparable
  simp only [hc.size]
  by_cases hr : i < L ∧ j < L
  · obtain ⟨r, h1, h2⟩ := gen_compare_keyEq c hc.ty gbNull c.cells[i]! c.cells[j]! (hc.typed i hr.1) (hc.typed j hr.2)
    simp only [hr, and_self, if_true, h1, Option.getD_some, decide_true, Bool.true_and, toGL_equal]
    rw [Bool.eq_iff_iff]
    simp only [beq_iff_eq]
    exact h2
  · simp [hr]

section Comparables
variable {H : HashFn} {rnd : Bytes → Nat → UInt64} {gbNull : Bool} {L : Nat} {keys : List LCol} (hk : ∀ c ∈ keys, KeyOk L c)
include hk

theorem eqvOf_spec (i j : Nat) :
    eqvOf (cmpsOf H rnd gbNull keys) i j = ((keys.all fun _ => decide (i < L ∧ j < L)) && rowKeyEq gbNull keys i j) := by
  unfold eqvOf cmpsOf rowKeyEq
  induction keys with
  | nil => rfl
  | cons c cs ih =>
    have := cmp_equal_iff H (rnd c.name) gbNull L c (hk c (by simp)) i j
    simp only [List.map_cons, List.all_cons, this, ih (fun k hk' => hk k (by simp [hk']))]
    cases decide (i < L ∧ j < L) <;> cases keyEq gbNull c c.cells[i]! c.cells[j]! <;> simp

/-- on rows of the columns the comparables are the spec's relation … -/
theorem eqvOf_inRange {i j : Nat} (hi : i < L) (hj : j < L) :
    eqvOf (cmpsOf H rnd gbNull keys) i j = rowKeyEq gbNull keys i j := by
  simp [eqvOf_spec hk, hi, hj]

/-- … and, when there is a key column, they relate no other rows -/
theorem eqvOf_iff (hne : keys ≠ []) {i j : Nat} :
    eqvOf (cmpsOf H rnd gbNull keys) i j = true ↔ i < L ∧ j < L ∧ rowKeyEq gbNull keys i j = true := by
  refine ⟨fun h => ?_, fun ⟨hi, hj, h⟩ => (eqvOf_inRange hk hi hj).trans h⟩
  rw [eqvOf_spec hk] at h
  cases keys with
  | nil => exact absurd rfl hne
  | cons c cs =>
    simp only [List.all_cons, Bool.and_eq_true, decide_eq_true_eq] at h
    exact ⟨h.1.1.1, h.1.1.2, h.2⟩

theorem hash_fold_eq {a b : Nat} (ha : a < L) (hb : b < L) (he : rowKeyEq gbNull keys a b = true) (s : Nat) :
    (cmpsOf H rnd gbNull keys).foldl (fun h c => c.hash a h % M64) s = (cmpsOf H rnd gbNull keys).foldl (fun h c => c.hash b h % M64) s := by
  induction keys generalizing s with
  | nil => rfl
  | cons c cs ih =>
    have hc := hk c (by simp)
    simp only [rowKeyEq, List.all_cons, Bool.and_eq_true] at he
    obtain ⟨h, h1, h2⟩ := gen_hash_respects_keyEq c hc.ty gbNull H (UInt64.ofNat s) (rnd c.name a) (rnd c.name b) _ _
      (hc.typed a ha) (hc.typed b hb) he.1
    have e : (genComparable H (rnd c.name) c false gbNull false).hash a s = (genComparable H (rnd c.name) c false gbNull false).hash b s := by
      simp only [genComparable, hc.size, ha, hb, if_true, h1, h2]
    simp only [cmpsOf, List.map_cons, List.foldl_cons, e]
    exact ih (fun k hk' => hk k (by simp [hk'])) (by simpa [rowKeyEq] using he.2) _

end Comparables

theorem keyRel (H : HashFn) (rnd : Bytes → Nat → UInt64) (gbNull : Bool) (L : Nat) (keys : List LCol)
    (hk : ∀ c ∈ keys, KeyOk L c) (hne : keys ≠ []) :
    G.KeyRel (hashOf (cmpsOf H rnd gbNull keys)) (eqvOf (cmpsOf H rnd gbNull keys)) where
  symm a b := by
    rw [eqvOf_iff hk hne, eqvOf_iff hk hne]
    exact fun ⟨ha, hb, he⟩ => ⟨hb, ha, rowKeyEq_symm' he⟩
  trans a b c := by
    rw [eqvOf_iff hk hne, eqvOf_iff hk hne, eqvOf_iff hk hne]
    exact fun ⟨ha, _, h1⟩ ⟨_, hc, h2⟩ => ⟨ha, hc, rowKeyEq_trans h1 h2⟩
  hashOk a b h := by
    obtain ⟨ha, hb, he⟩ := (eqvOf_iff hk hne).1 h
    unfold hashOf
    rw [hash_fold_eq hk ha hb he 0]

/-! ## Physical rows and logical rows -/

/-- the column as the frame shows it: cell `i` is the physical cell at row `ix[i]` -/
def logical (ix : List Nat) (c : LCol) : LCol := { c with cells := (ix.map fun r => c.cells[r]!).toArray }

theorem logical_cell (ix : List Nat) (c : LCol) (a : Nat) (ha : a < ix.length) : (logical ix c).cells[a]! = c.cells[ix[a]!]! := by
  simp [logical, ha]

theorem rowKeyEq_logical (gbNull : Bool) (ix : List Nat) (keys : List LCol) (a b : Nat) (ha : a < ix.length) (hb : b < ix.length) :
    rowKeyEq gbNull (keys.map (logical ix)) a b = rowKeyEq gbNull keys ix[a]! ix[b]! := by
  unfold rowKeyEq
  induction keys with
  | nil => rfl
  | cons c cs ih =>
    simp only [List.map_cons, List.all_cons, ih, logical_cell ix c a ha, logical_cell ix c b hb]
    rfl

/-- the groups the spec forms (`gs` of `groupAggS`, QF/Spec/Ops.lean) -/
def specGroups (gbNull : Bool) (keys : List LCol) (n : Nat) : List (List Nat) :=
  if n == 0 then [] else if keys.isEmpty then [List.range n] else groupsS gbNull keys n

/-- A frame the operations of the library produce: no row twice in the index, at most 2^30 rows, all columns of one
length `L` that every row of the index is below, every column of a Go column type with cells of that type. -/
structure WFrame (F : Frame) (L : Nat) : Prop where
  nodup : F.index.Nodup
  small : F.index.length ≤ 2 ^ 30
  inRange : ∀ r ∈ F.index, r < L
  cols : ∀ c ∈ F.cols, KeyOk L c

theorem mapM_find_spec {F : Frame} {names : List Bytes} {keys : List LCol} (h : names.mapM F.find? = some keys) :
    keys.map (·.name) = names ∧ ∀ c ∈ keys, c ∈ F.cols :=
  ⟨ListFacts.mapM_keys (·.name) (fun n _ hf => eq_of_beq (List.find?_some (p := fun x : LCol => x.name == n) hf)) h,
    fun c hc => let ⟨_, _, hf⟩ := ListFacts.mapM_mem h c hc; List.mem_of_find?_eq_some hf⟩

/-! ## The main statement -/

/-- the physical groups the regenerated grouper returns are the spec's groups with the rows looked up in the index, up to
the order of the groups -/
theorem grouper_groups_perm (H : HashFn) (rnd : Bytes → Nat → UInt64) (gbNull : Bool) (L : Nat) (keys : List LCol)
    (hk : ∀ c ∈ keys, KeyOk L c) (hne : keys ≠ []) (ix : List Nat) (hnd : ix.Nodup) (hlen : ix.length ≤ 2 ^ 30)
    (hr : ∀ r ∈ ix, r < L) (fuel : Nat) (hF : 2 ^ 32 ≤ fuel) :
    ∃ gs st, interpGroupBy Gen.grouperFns fuel (cmpsOf H rnd gbNull keys) ix = some (gs, st) ∧
      gs.Perm ((groupsS gbNull (keys.map (logical ix)) ix.length).map fun g => g.map fun a => ix[a]!) := by
  have kr := keyRel H rnd gbNull L keys hk hne
  obtain ⟨gs, h1, hcl⟩ := Classes.of_groupBy _ _ kr ix hnd
  have hsem := (gen_grouper_semantics (cmpsOf H rnd gbNull keys) ix hlen fuel hF).2.2.1
  rw [h1] at hsem
  cases hi : interpGroupBy Gen.grouperFns fuel (cmpsOf H rnd gbNull keys) ix with
  | none => rw [hi] at hsem; cases hsem
  | some r =>
    rw [hi] at hsem
    cases Option.some.inj hsem
    refine ⟨r.1, r.2, rfl, classes_perm kr.symm kr.trans hcl (Classes.of_groupsS gbNull _ ix hnd _ fun a b ha hb => ?_)⟩
    have hm : ∀ a, a < ix.length → ix[a]! < L := fun a ha => hr _ (ListFacts.getElem!_mem ha)
    rw [rowKeyEq_logical gbNull ix keys a b ha hb, eqvOf_inRange hk (hm a ha) (hm b hb)]

/-- **`QFrame.GroupBy` of today's source, everything it calls regenerated, forms the spec's groups.** For every
`hash.HashBytes` `H`, whatever `rand.Uint64()` returns (`rnd`), every loop budget ≥ 2^32, every well-formed frame `F`
(`WFrame`: a duplicate-free index of at most 2^30 rows into columns of one length, cells of the columns' types) that has
not failed, every list of configured column names the frame has and either Null setting: `GroupBy` returns a `Grouper`
without error that shares the frame's columns, remembers the configured columns, and whose groups are — up to the order of
the groups (`List.Perm`) — the groups `specGroups` the spec forms over the frame's logical key columns
(`[]` without rows, all rows without columns, else `groupsS`), every logical row `a` written as the physical row
`F.index[a]`, the rows of a group in frame order.
(The other cases — a failed frame, an unknown column — are `C04GlueGen.gen_groupby_err_iff`.) -/
theorem gen_groupby_partition (H : HashFn) (rnd : Bytes → Nat → UInt64) (fuel : Nat) (hF : 2 ^ 32 ≤ fuel)
    (F : Frame) (L : Nat) (wf : WFrame F L) (he : F.err = false) (C : Cfg)
    (hknown : C.columns.all (fun n => (F.find? n).isSome) = true) :
    ∃ g keys, genGroupBy (genPrims H rnd fuel) F C = some g ∧ g.err = false ∧ g.cols = F.cols ∧ g.grouped = C.columns ∧
      C.columns.mapM F.find? = some keys ∧
      g.indices.Perm ((specGroups C.gbNull (keys.map (logical F.index)) F.index.length).map fun grp => grp.map fun a => F.index[a]!) := by
  obtain ⟨keys, hkeys⟩ := Option.isSome_iff_exists.mp ((ListFacts.mapM_isSome F.find? C.columns).trans hknown)
  obtain ⟨hnames, hmem⟩ := mapM_find_spec hkeys
  rw [gen_groupby_semantics]
  unfold specGroupBy specGroups
  simp only [he, hknown, Bool.false_eq_true, if_false, Bool.true_eq_false]
  by_cases hlen : F.index.length = 0
  · exact ⟨{ cols := F.cols, grouped := C.columns }, keys, by simp [hlen], rfl, rfl, rfl, hkeys, by simp [hlen]⟩
  · simp only [hlen, if_false]
    by_cases hnil : C.columns = []
    · have hk0 : keys = [] := List.map_eq_nil_iff.mp (hnames.trans hnil)
      refine ⟨{ cols := F.cols, grouped := C.columns, indices := [F.index] }, keys, by simp [hnil], rfl, rfl, rfl, hkeys, ?_⟩
      have hb : (F.index.length == 0) = false := by simpa using hlen
      simp only [hk0, List.map_nil, List.isEmpty_nil, hb, if_true, Bool.false_eq_true, if_false, List.map_cons, ListFacts.range_map_getElem]
      exact List.Perm.refl _
    · have hkne : keys ≠ [] := fun e => hnil (by rw [← hnames, e]; rfl)
      have hkok : ∀ c ∈ keys, KeyOk L c := fun c hc => wf.cols c (hmem c hc)
      obtain ⟨gs, st, hrun, hperm⟩ := grouper_groups_perm H rnd C.gbNull L keys hkok hkne F.index wf.nodup wf.small wf.inRange fuel hF
      have hcs : (keys.map fun c => (genPrims H rnd fuel).comparable c false C.gbNull false) = cmpsOf H rnd C.gbNull keys := rfl
      have hb : (F.index.length == 0) = false := by simpa using hlen
      have hke : (keys.map (logical F.index)).isEmpty = false := by
        cases keys with
        | nil => exact absurd rfl hkne
        | cons _ _ => rfl
      refine ⟨({ cols := F.cols, grouped := C.columns, indices := gs, stats := some st } : Grouper GL.Stats), keys, ?_, rfl, rfl, rfl, hkeys, ?_⟩
      · have hrun' : (genPrims H rnd fuel).groupBy F.index (cmpsOf H rnd C.gbNull keys) = some (gs, st) := hrun
        simp only [hnil, if_false, hkeys, hcs, hrun']
      · simp only [hb, hke, Bool.false_eq_true, if_false]
        exact hperm

/-! ## `Distinct` (C05) -/

theorem keyRel_nil (H : HashFn) (rnd : Bytes → Nat → UInt64) (gbNull : Bool) :
    G.KeyRel (hashOf (cmpsOf H rnd gbNull [])) (eqvOf (cmpsOf H rnd gbNull [])) :=
  ⟨fun _ _ _ => rfl, fun _ _ _ _ _ => rfl, fun _ _ _ => rfl⟩

/-- **`QFrame.Distinct` of today's source, everything it calls regenerated, keeps the first row of every key.** For a
well-formed frame and configured columns the frame has (or none: then all columns), the index `grouper.Distinct` returns
for the comparables `Distinct` builds has no row twice, only rows of the frame, a representative with the same key
(`rowKeyEq` on the key columns, physical rows) for every row, no two representatives with the same key, and every
representative is the first row of its key in frame order. -/
theorem gen_distinct_rows (H : HashFn) (rnd : Bytes → Nat → UInt64) (fuel : Nat) (hF : 2 ^ 32 ≤ fuel)
    (F : Frame) (L : Nat) (wf : WFrame F L) (C : Cfg) (keys : List LCol)
    (hkeys : (if C.columns.isEmpty then F.cols.map LCol.name else C.columns).mapM F.find? = some keys) :
    ∃ d, genDistinctIx (genPrims H rnd fuel).comparable (fun ix cs => interpDistinct Gen.grouperFns fuel cs ix) F C = some d ∧
      d.Nodup ∧ (∀ r ∈ d, r ∈ F.index) ∧
      (∀ j ∈ F.index, ∃ r ∈ d, r = j ∨ rowKeyEq C.gbNull keys r j = true) ∧
      (∀ r1 ∈ d, ∀ r2 ∈ d, r1 ≠ r2 → rowKeyEq C.gbNull keys r1 r2 = false) ∧
      (∀ r ∈ d, ∀ j ∈ F.index, rowKeyEq C.gbNull keys r j = true → F.index.idxOf r ≤ F.index.idxOf j) := by
  have hkok : ∀ c ∈ keys, KeyOk L c := fun c hc => wf.cols c ((mapM_find_spec hkeys).2 c hc)
  let cs := cmpsOf H rnd C.gbNull keys
  have kr : G.KeyRel (hashOf cs) (eqvOf cs) := by
    by_cases hne : keys = []
    · subst hne; exact keyRel_nil H rnd C.gbNull
    · exact keyRel H rnd C.gbNull L keys hkok hne
  obtain ⟨gs, hgs, h1, h2, h3, h4, h5⟩ := C05.distinct_spec_core (hashOf cs) (eqvOf cs) kr F.index wf.nodup
  have hsem := (gen_grouper_semantics cs F.index wf.small fuel hF).2.2.2
  rw [distinct_eq_distinctOf, hgs] at hsem
  have heq : ∀ a b, a ∈ F.index → b ∈ F.index → eqvOf cs a b = rowKeyEq C.gbNull keys a b := fun a b ha hb =>
    eqvOf_inRange hkok (wf.inRange a ha) (wf.inRange b hb)
  refine ⟨C05.distinctOf gs, ?_, h1, h2, ?_, ?_, ?_⟩
  · rw [gen_distinct_cmps_semantics, hkeys]
    exact hsem
  · intro j hj
    obtain ⟨r, hr, h⟩ := h3 j hj
    exact ⟨r, hr, h.imp id (fun e => by rw [← heq r j (h2 r hr) hj]; exact e)⟩
  · intro r1 hr1 r2 hr2 hne
    rw [← heq r1 r2 (h2 r1 hr1) (h2 r2 hr2)]
    exact h4 r1 hr1 r2 hr2 hne
  · intro r hr j hj he
    exact h5 r hr j hj (by rw [heq r j (h2 r hr) hj]; exact he)

end QF.Props.C04GlueLink

#print axioms QF.Props.C04GlueLink.gen_distinct_rows
#print axioms QF.Props.C04GlueLink.classes_perm
#print axioms QF.Props.C04GlueLink.groupsS_class
#print axioms QF.Props.C04GlueLink.keyRel
#print axioms QF.Props.C04GlueLink.grouper_groups_perm
#print axioms QF.Props.C04GlueLink.gen_groupby_partition
