import QF.Props.Tie
/-! # C07 -/
namespace QF.Props.C07

-- No function of this property is tied by its source text (the list below is empty).
-- The decoder (`newExpr` and the constructors it calls, among them `newColConstExpr`) and `Expr`: regenerated as `Gen.newExprAst` / `Gen.exprFoldAst` and
-- proved equal to the spec's reading in `QF.Props.C07Decode.gen_expr_decode_semantics` / `gen_expr_fold`.
-- The execution (`Eval`, `tempColName`, `getFunc` and the `execute` methods of all expression structs): regenerated as `Gen.evalFns` / `Gen.tempColNameAst` and
-- proved equal to the hand mirror `C07Eval.eval'` / `execute'` in `QF.Props.C07EvalGen.gen_eval_semantics` / `gen_eval_bookkeeping`.
-- `missingCol` (the check of the column references `Eval` makes before it executes anything): `Gen.missingColAst`, `gen_missingcol_semantics`.
-- The link to the denotational spec is `QF.Props.C07EndToEnd.gen_eval_end_to_end_partial`.
theorem tie : Tie.sameAll [] = true := by decide

/-- The default evaluation context (operand type, arity, name ↦ function) is the one the spec's `evalUnary` /
`evalBinary` were written against. -/
theorem gen_eval_context_same : Gen.evalCtxHash = Expected.evalCtxHash := by decide

end QF.Props.C07
