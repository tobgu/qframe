/-!
# C16 — the arithmetic behind Ryu's precision lemma

Pure number theory, no tables.

* `farey_lo` / `farey_hi`: let `k1/m1 ≤ a/b < k2/m2` be neighbours in the Stern–Brocot tree (`k2·m1 − k1·m2 = 1`) with residues
  `d1 = m1·a − k1·b ≥ 0` and `d2 = k2·b − m2·a > 0`. Then for EVERY multiplier `1 ≤ m < m1 + m2` the residue `m·a mod b` is
  `x·d1 + y·d2` with `x ≥ 1`, `y ≥ 0`, `x·m1 = m + y·m2`, and its complement `b − m·a mod b` is `x·d1 + y·d2` with `y ≥ 1`, `x ≥ 0`,
  `y·m2 = m + x·m1`. In particular `d1 ≤ m·a mod b ≤ b − d2` (the bounds Ulf Adams' `minmax_euclid` computes), and the
  multipliers whose residue is within a small multiple of the bound are explicitly known (`m1, 2·m1, …` resp. `m2, 2·m2, …`).
  A pair `(m1, k1, m2, k2)` is a certificate that is checked with four multiplications; how it was found is irrelevant.
* `floor_up` / `floor_down`: `⌊m·μ/P⌋ = ⌊m·N/D⌋` if `μ/P` approximates `N/D` from above (below) and the accumulated error
  `m·|μ·D − N·P|` is smaller than the distance of `m·N` to the next (previous) multiple of `D`, times `P`.
* `certOk` / `certOk_sound`: the check of one certificate for one scale `N/D`, multiplier `μ`, `P = 2^shift` and all `m < 2^55`:
  either the error bound alone suffices, or the only multipliers that can violate it are the first three multiples of `m1`
  (`m2`), which are then tested directly or are listed exceptions.
-/
namespace QF.Props.C16Core

/-! ## neighbours in the Stern–Brocot tree bound the residues `m·a mod b` -/

/-- The one argument, over `Int`: `r` is the residue of `m·a` after `k` multiples of `b` (`a`, `k` of any sign). `b·x = m·d2 + m2·r` is
positive, so `x ≥ 1`; and `y < 0` would make `m = x·m1 + (−y)·m2 ≥ m1 + m2`. -/
theorem farey_core (a b m1 k1 m2 k2 m k r d1 d2 : Int)
    (hdet : k2 * m1 - k1 * m2 = 1) (hm1 : 0 ≤ m1) (hm2 : 0 ≤ m2)
    (e1 : m1 * a = k1 * b + d1) (e2 : k2 * b = m2 * a + d2) (hb : 0 < b)
    (hr : m * a = b * k + r) (hpos : 0 < m * d2 + m2 * r) (hlt : m < m1 + m2) :
    ∃ x y : Int, 1 ≤ x ∧ 0 ≤ y ∧ x * m1 = m + y * m2 ∧ r = x * d1 + y * d2 := by
  have hx : 1 ≤ k2 * m - m2 * k := by
    have h1 : b * (k2 * m - m2 * k) = m * d2 + m2 * r := by grind
    apply Classical.byContradiction; intro hx
    have h4 : b * (k2 * m - m2 * k) ≤ 0 := Int.mul_nonpos_of_nonneg_of_nonpos (by omega) (by omega)
    omega
  refine ⟨k2 * m - m2 * k, k1 * m - m1 * k, hx, ?_, by grind, by grind⟩
  apply Classical.byContradiction; intro hy
  have h1 : m = (k2 * m - m2 * k) * m1 + (m1 * k - k1 * m) * m2 := by grind
  have h2 : 0 ≤ (k2 * m - m2 * k - 1) * m1 := Int.mul_nonneg (by omega) hm1
  have h3 : 0 ≤ (m1 * k - k1 * m - 1) * m2 := Int.mul_nonneg (by omega) hm2
  have h4 : (k2 * m - m2 * k - 1) * m1 = (k2 * m - m2 * k) * m1 - m1 := by grind
  have h5 : (m1 * k - k1 * m - 1) * m2 = (m1 * k - k1 * m) * m2 - m2 := by grind
  omega

/-- Residues from below: with `k1/m1 ≤ a/b < k2/m2`, `k2·m1 = k1·m2 + 1`, `d1 = m1·a − k1·b`, `d2 = k2·b − m2·a > 0`, every
`1 ≤ m < m1 + m2` has `m·a mod b = x·d1 + y·d2` with `x ≥ 1` and `x·m1 = m + y·m2` (so `m·a mod b ≥ d1`). -/
theorem farey_lo (a b m1 k1 m2 k2 d1 d2 m : Nat)
    (hdet : k2 * m1 = k1 * m2 + 1) (e1 : m1 * a = k1 * b + d1) (e2 : k2 * b = m2 * a + d2)
    (hd2 : 0 < d2) (hb : 0 < b) (hm : 1 ≤ m) (hlt : m < m1 + m2) :
    ∃ x y : Nat, 1 ≤ x ∧ x * m1 = m + y * m2 ∧ m * a % b = x * d1 + y * d2 := by
  have hr := Nat.div_add_mod (m * a) b
  obtain ⟨x, y, hx, hy, h1, h2⟩ := farey_core (a : Int) b m1 k1 m2 k2 m ((m * a / b : Nat) : Int)
    ((m * a % b : Nat) : Int) d1 d2 (by omega)
    (by omega) (by omega) (by omega) (by omega) (by omega) (by omega)
    (Int.add_pos_of_pos_of_nonneg (Int.mul_pos (by omega) (by omega)) (Int.mul_nonneg (by omega) (by omega))) (by omega)
  obtain ⟨x', rfl⟩ := Int.eq_ofNat_of_zero_le (by omega : 0 ≤ x)
  obtain ⟨y', rfl⟩ := Int.eq_ofNat_of_zero_le hy
  exact ⟨x', y', by omega, by exact_mod_cast h1, by exact_mod_cast h2⟩

/-- Residues from above: under the same hypotheses (`d2 = 0` allowed) every `1 ≤ m < m1 + m2` has
`b − m·a mod b = x·d1 + y·d2` with `y ≥ 1` and `y·m2 = m + x·m1` (so `m·a mod b ≤ b − d2`). -/
theorem farey_hi (a b m1 k1 m2 k2 d1 d2 m : Nat)
    (hdet : k2 * m1 = k1 * m2 + 1) (e1 : m1 * a = k1 * b + d1) (e2 : k2 * b = m2 * a + d2)
    (hb : 0 < b) (hm : 1 ≤ m) (hlt : m < m1 + m2) :
    ∃ x y : Nat, 1 ≤ y ∧ y * m2 = m + x * m1 ∧ m * a % b + (x * d1 + y * d2) = b := by
  have hr := Nat.div_add_mod (m * a) b
  have hlt' := Nat.mod_lt (m * a) hb
  have hm1 : 0 < m1 := Nat.pos_of_ne_zero fun h => by subst h; simp at hdet
  have hk : m * a + (b - m * a % b) = b * (m * a / b + 1) := by rw [Nat.mul_add, Nat.mul_one]; omega
  -- the mirror image: `−k2/m2 < −a/b ≤ −k1/m1` are neighbours too, with the residues exchanged, and the complement of the
  -- residue of `m·a` is the residue of `m·(−a)`
  obtain ⟨y, x, hy, hx, h1, h2⟩ := farey_core (-(a : Int)) b m2 (-(k2 : Int)) m1 (-(k1 : Int)) m (-((m * a / b + 1 : Nat) : Int))
    ((b - m * a % b : Nat) : Int) d2 d1 (by rw [Int.neg_mul, Int.neg_mul]; omega) (by omega) (by omega)
    (by rw [Int.mul_neg, Int.neg_mul]; omega) (by rw [Int.mul_neg, Int.neg_mul]; omega) (by omega)
    (by rw [Int.mul_neg, Int.mul_neg]; omega)
    (Int.add_pos_of_nonneg_of_pos (Int.mul_nonneg (by omega) (by omega)) (Int.mul_pos (by omega) (by omega))) (by omega)
  obtain ⟨x', rfl⟩ := Int.eq_ofNat_of_zero_le hx
  obtain ⟨y', rfl⟩ := Int.eq_ofNat_of_zero_le (by omega : 0 ≤ y)
  refine ⟨x', y', by omega, by exact_mod_cast h1, ?_⟩
  have : b - m * a % b = y' * d2 + x' * d1 := by exact_mod_cast h2
  omega

/-- the classical bounds (what `minmax_euclid` of the Ryu sources computes): `d1 ≤ m·a mod b ≤ b − d2` for `1 ≤ m < m1 + m2` -/
theorem farey_bounds (a b m1 k1 m2 k2 d1 d2 m : Nat)
    (hdet : k2 * m1 = k1 * m2 + 1) (e1 : m1 * a = k1 * b + d1) (e2 : k2 * b = m2 * a + d2)
    (hd2 : 0 < d2) (hb : 0 < b) (hm : 1 ≤ m) (hlt : m < m1 + m2) :
    d1 ≤ m * a % b ∧ m * a % b + d2 ≤ b := by
  obtain ⟨x, y, hx, _, h⟩ := farey_lo a b m1 k1 m2 k2 d1 d2 m hdet e1 e2 hd2 hb hm hlt
  obtain ⟨x', y', hy', _, h'⟩ := farey_hi a b m1 k1 m2 k2 d1 d2 m hdet e1 e2 hb hm hlt
  have h1 : d1 ≤ x * d1 := Nat.le_mul_of_pos_left d1 hx
  have h2 : d2 ≤ y' * d2 := Nat.le_mul_of_pos_left d2 hy'
  omega

/-! ## two floors agree when the accumulated error is below the distance to the next multiple -/

/-- `m·μ·D` is off `m·N·P` by `t − s`; the floors agree while that stays inside the cell of `m·N` between two multiples of `D` -/
theorem floor_eq (m μ P N D s t : Nat) (hD : 0 < D) (h : m * μ * D + s = m * N * P + t)
    (h1 : s ≤ m * N % D * P + t) (h2 : m * N % D * P + t < D * P + s) : m * μ / P = m * N / D := by
  have hdm := Nat.div_add_mod (m * N) D
  generalize m * N / D = K at *
  generalize m * N % D = ρ at *
  have h3 : m * N * P = D * K * P + ρ * P := by rw [← hdm, Nat.add_mul]
  apply Nat.div_eq_of_lt_le
  · apply Nat.le_of_mul_le_mul_right _ hD
    have h4 : K * P * D = D * K * P := by grind
    omega
  · apply Nat.lt_of_mul_lt_mul_right (a := D)
    have h4 : (K + 1) * P * D = D * K * P + D * P := by grind
    omega

/-- approximation from above: `μ/P ≥ N/D`, error `δ = μ·D − N·P`; the floors agree if `m·δ < (D − m·N mod D)·P` -/
theorem floor_up (m μ P N D δ ρ' : Nat) (hD : 0 < D)
    (hδ : μ * D = N * P + δ) (hρ : m * N % D + ρ' = D) (herr : m * δ < ρ' * P) :
    m * μ / P = m * N / D := by
  have : D * P = m * N % D * P + ρ' * P := by rw [← Nat.add_mul, hρ]
  exact floor_eq m μ P N D 0 (m * δ) hD (by rw [Nat.mul_assoc, hδ]; grind) (Nat.zero_le _) (by omega)

/-- approximation from below: `μ/P ≤ N/D`, error `δ = N·P − μ·D`; the floors agree if `m·δ ≤ (m·N mod D)·P` -/
theorem floor_down (m μ P N D δ : Nat) (hD : 0 < D) (hP : 0 < P)
    (hδ : μ * D + δ = N * P) (herr : m * δ ≤ (m * N % D) * P) :
    m * μ / P = m * N / D := by
  have := Nat.mul_lt_mul_of_pos_right (Nat.mod_lt (m * N) hD) hP
  exact floor_eq m μ P N D (m * δ) 0 hD (by rw [Nat.mul_assoc m N, ← hδ]; grind) (by omega) (by omega)

/-! ## the certificate check for one exponent -/

/-- a candidate multiplier is harmless: out of range, a listed exception, or the two floors agree at it -/
def candOk (N D μ P : Nat) (exc : Nat → Bool) (c : Nat) : Bool :=
  decide (2 ^ 55 ≤ c) || exc c || (c * μ / P == c * N / D)

/-- Check of the certificate `(m1, k1, m2, k2)` for the scale `N/D`, the multiplier `μ`, `P = 2^shift` and all `m < 2^55`.
The pair must be Stern–Brocot neighbours around `N/D` with `m1 + m2 ≥ 2^55`. With `T = (2^55 − 1)·|μ·D − N·P|` (the largest
accumulated error): approximation from above needs `T < d2·P`, from below `T ≤ d1·P`. If that fails, the weaker
`T < (d1 + d2)·P` and `T < 4·d2·P` (resp. `4·d1·P`) leave only `m2, 2·m2, 3·m2` (resp. multiples of `m1`) as possible
violations, and these are tested one by one (`candOk`). -/
def certOk (N D μ P : Nat) (exc : Nat → Bool) (m1 k1 m2 k2 : Nat) : Bool :=
  let d1 := m1 * N - k1 * D
  let d2 := k2 * D - m2 * N
  k2 * m1 == k1 * m2 + 1 && decide (k1 * D ≤ m1 * N) && decide (m2 * N < k2 * D) && decide (2 ^ 55 ≤ m1 + m2) &&
  decide (0 < D) && decide (0 < P) &&
  (if N * P ≤ μ * D then
     let T := (2 ^ 55 - 1) * (μ * D - N * P)
     decide (T < d2 * P) ||
     (decide (T < (d1 + d2) * P) && decide (T < 4 * d2 * P) &&
       candOk N D μ P exc m2 && candOk N D μ P exc (2 * m2) && candOk N D μ P exc (3 * m2))
   else
     let T := (2 ^ 55 - 1) * (N * P - μ * D)
     decide (T ≤ d1 * P) ||
     (decide (T < (d1 + d2) * P) && decide (T < 4 * d1 * P) &&
       candOk N D μ P exc m1 && candOk N D μ P exc (2 * m1) && candOk N D μ P exc (3 * m1)))

theorem candOk_use {N D μ P : Nat} {exc : Nat → Bool} {c : Nat} (h : candOk N D μ P exc c = true)
    (hc : c < 2 ^ 55) (hx : exc c = false) : c * μ / P = c * N / D := by
  unfold candOk at h
  simp only [Bool.or_eq_true, decide_eq_true_eq, beq_iff_eq] at h
  rcases h with (h | h) | h
  · omega
  · rw [hx] at h; cases h
  · exact h

/-- a residue `S = u·du + v·dv` with `u ≥ 1` that stays below `du + dv` and below `4·du` (all scaled by `P`) is `du`, `2·du` or `3·du` -/
theorem small_coeffs {u v du dv S P T : Nat} (hu : 1 ≤ u) (hS : S = u * du + v * dv) (hT : S * P ≤ T)
    (c1 : T < (du + dv) * P) (c2 : T < 4 * du * P) : v = 0 ∧ u < 4 := by
  subst hS
  have hud : du ≤ u * du := Nat.le_mul_of_pos_left du hu
  constructor
  · apply Classical.byContradiction; intro hv
    have : dv ≤ v * dv := Nat.le_mul_of_pos_left dv (by omega)
    have : (du + dv) * P ≤ (u * du + v * dv) * P := Nat.mul_le_mul_right P (by omega)
    omega
  · apply Nat.lt_of_not_le; intro h4
    have : 4 * du ≤ u * du := Nat.mul_le_mul_right du h4
    have : 4 * du * P ≤ (u * du + v * dv) * P := Nat.mul_le_mul_right P (by omega)
    omega

/-- the three candidates `c, 2·c, 3·c` cover every `m = u·c` with `1 ≤ u < 4` -/
theorem cand3 {N D μ P : Nat} {exc : Nat → Bool} {c u m : Nat} (h1 : candOk N D μ P exc c = true)
    (h2 : candOk N D μ P exc (2 * c) = true) (h3 : candOk N D μ P exc (3 * c) = true) (hu1 : 1 ≤ u) (hu4 : u < 4)
    (hm : m = u * c) (hm55 : m < 2 ^ 55) (hx : exc m = false) : m * μ / P = m * N / D := by
  subst hm
  have : u = 1 ∨ u = 2 ∨ u = 3 := by omega
  rcases this with rfl | rfl | rfl
  · rw [Nat.one_mul] at hm55 hx ⊢; exact candOk_use h1 hm55 hx
  · exact candOk_use h2 hm55 hx
  · exact candOk_use h3 hm55 hx

/-- A certificate that passes `certOk` proves the floor identity for every `m < 2^55` that is not a listed exception. -/
theorem certOk_sound (N D μ P : Nat) (exc : Nat → Bool) (m1 k1 m2 k2 : Nat)
    (h : certOk N D μ P exc m1 k1 m2 k2 = true) (m : Nat) (hm : m < 2 ^ 55) (hx : exc m = false) :
    m * μ / P = m * N / D := by
  by_cases hm0 : m = 0
  · subst hm0; simp
  unfold certOk at h
  simp only [Bool.and_eq_true, beq_iff_eq, decide_eq_true_eq] at h
  obtain ⟨⟨⟨⟨⟨⟨hdet, h1⟩, h2⟩, hM⟩, hD⟩, hP⟩, hcase⟩ := h
  have e1 : m1 * N = k1 * D + (m1 * N - k1 * D) := by omega
  have e2 : k2 * D = m2 * N + (k2 * D - m2 * N) := by omega
  have hd2 : 0 < k2 * D - m2 * N := by omega
  generalize m1 * N - k1 * D = d1 at *
  generalize k2 * D - m2 * N = d2 at *
  have hmT : ∀ δ, m * δ ≤ (2 ^ 55 - 1) * δ := fun δ => Nat.mul_le_mul_right δ (by omega)
  split at hcase
  · -- approximation from above
    rename_i hge
    have hδ : μ * D = N * P + (μ * D - N * P) := by omega
    generalize μ * D - N * P = δ at *
    obtain ⟨x, y, hy, hxy, hρ⟩ := farey_hi N D m1 k1 m2 k2 d1 d2 m hdet e1 e2 hD (by omega) (by omega)
    by_cases herr : m * δ < (x * d1 + y * d2) * P
    · exact floor_up m μ P N D δ _ hD hδ hρ herr
    · have hT := hmT δ
      simp only [Bool.or_eq_true, Bool.and_eq_true, decide_eq_true_eq] at hcase
      rcases hcase with hc | ⟨⟨⟨⟨c1, c2⟩, c3⟩, c4⟩, c5⟩
      · have : d2 * P ≤ (x * d1 + y * d2) * P :=
          Nat.mul_le_mul_right P (Nat.le_trans (Nat.le_mul_of_pos_left d2 hy) (Nat.le_add_left _ _))
        omega
      · obtain ⟨hx0, hy4⟩ := small_coeffs hy (Nat.add_comm (x * d1) (y * d2)) (by omega) (Nat.add_comm d1 d2 ▸ c1) c2
        subst hx0
        exact cand3 c3 c4 c5 hy hy4 (by omega) hm hx
  · -- approximation from below
    rename_i hlt
    have hδ : μ * D + (N * P - μ * D) = N * P := by omega
    generalize N * P - μ * D = δ at *
    obtain ⟨x, y, hx1, hxy, hρ⟩ := farey_lo N D m1 k1 m2 k2 d1 d2 m hdet e1 e2 hd2 hD (by omega) (by omega)
    by_cases herr : m * δ ≤ (m * N % D) * P
    · exact floor_down m μ P N D δ hD hP hδ herr
    · rw [hρ] at herr
      have hT := hmT δ
      simp only [Bool.or_eq_true, Bool.and_eq_true, decide_eq_true_eq] at hcase
      rcases hcase with hc | ⟨⟨⟨⟨c1, c2⟩, c3⟩, c4⟩, c5⟩
      · have : d1 * P ≤ (x * d1 + y * d2) * P :=
          Nat.mul_le_mul_right P (Nat.le_trans (Nat.le_mul_of_pos_left d1 hx1) (Nat.le_add_right _ _))
        omega
      · obtain ⟨hy0, hx4⟩ := small_coeffs (v := y) hx1 rfl (by omega) c1 c2
        subst hy0
        exact cand3 c3 c4 c5 hx1 hx4 (by omega) hm hx

end QF.Props.C16Core
