import QF.Core.Eval
import QF.Props.C08Project
import QF.Core.ListFacts
/-!
# C07 — Eval bookkeeping: temp columns, leaf `execute`s, column/constant, the Copy-then-Drop epilogue

Bookkeeping part of the property "Eval stores the value in `dst` and leaves no trace of temporaries; all
other columns keep name, position, type and values", on the frame mirror `Fr.Frame` (QF/Core/Frame.lean), the
expression mirror QF/Core/Eval.lean and the faithful `Drop`/`Copy` mirrors of QF/Props/C08Project.lean.  Which value
`dst` receives is not said here (`∃ x` in `eval'_bookkeeping`): that is `C07EndToEnd.eval'_eq_evalS_partial`.

**Relation to QF/Core/Eval.lean.**  Its `Ex`, `newExpr`, `execute`, `eval`, `dropCols` follow the Go code as it was before
three repairs of the library: (1) `Ex.colConst` has no `constFirst` and `execute` always passes (column, constant);
(2) `eval` drops the temp column whenever `!contains f c` (without `&& c != dst`); (3) `dropCols` has no `checkColumns`.
The mirror of the current /repo/expression.go and `QFrame.Eval` is defined here (section 6): `Ex'`,
`newExpr'`, `execColConst`, `execute'`, `evalEpilogue`, `missing`, `eval'`; it uses `C08.drop` / `C08.copy`.  `eval'` has the
guard of `QFrame.Eval`: `missingCol(expr, qf)` — a column reference that is not a column of the frame `Eval` is
called on is an error before anything is executed (`missing`, `missing_eq_find`).  The leaf
functions `execConst`, `execUnary`, `execColCol` and `tempColName` of Eval.lean agree with the current Go code
and are used as they are.

**Contents.**
1. `tempColName_fresh` — the name is `prefix-temp-k` for the first free `k < 10000`, it is not a column, and with
   fewer than 10000 columns the failure value ("PANIC") does not occur.  (`tempColName_eq` is the equation all of this
   rests on, `firstFree` the same search over `List.range'`, for evaluation; `C07EndToEnd.IsTemp`: the names it can return.)
2. Leaf forms.  `execLeaf pre f c` = "pick temp name, `setColumn` the computed column `c`" is the common shape of the
   three leaf `execute`s; `execLeaf_plus` is the statement with the computed column as a parameter.  `Plus f g L t e`
   says: `g` is well-formed with unique names and no error, has the row index of `f`, and `g.abs = f.abs ++ [e]` with
   `e.1 = t`, `t` not a name of `f`.
3. `Ext f g L mid` (`f` plus the temporaries `mid`) and the Drop step `ext_finish`: one more column on top, then `Drop`
   of the names handed to `dropList`, leaves `f` plus that column; `leaf_out` is `execLeaf_plus` and `ext_finish` in one: the
   last step of every node that computes a column, used by both inductions (`execute'_shape` here, `exec_den` in
   C07EndToEnd through `leaf_sem`).  `colConst_plus`: the column/constant form with the two columns as parameters.
4. Eval epilogue: `evalEpilogue_plus` (`execute` returned `f` plus temp `t`), as the equation
   `abs = absSet f.abs (position of dst in f) (dst, cells)`; `epilogue_list` is its list form, from `absSet_find_cons`
   (`absSet` at `findIdx?` writes at the first hit, else appends).
5. Eval.lean's leaves are instances of `execLeaf` (`execConst_eq`, `execUnary_eq`, `execColCol_eq`, with the columns
   `constCol`, `applyFn1`, `col2`); `execConst_plus`, `execUnary_plus`, `execColCol_plus` are `execLeaf_plus` for them.
6. The mirror of the current code, `Ex'` … `eval'`.
7. `execute'_shape`: by induction on the expression (nested `exprExpr1/2` with their Drop rules included) a successful
   `execute'` yields `f` or `f` plus exactly the returned column; `execColConst_plus` is the column/constant case (both
   operand orders, stated for a successful run); `need e`: the free column slots the evaluation asks for.
8. `eval'_bookkeeping`: the resulting statement for `Eval` on every expression (`evalEpilogue_same`: `execute` returned
   `f` itself); `absSet_names/other/dst/no_trace` spell out what the `abs` equation says.
9. A concrete frame and expressions: the hypotheses are satisfiable, the mirror computes.

`UniqueNames f` (C08) is a hypothesis throughout: `Drop` re-fetches the remaining columns through the name map,
so on a frame with duplicate names (`Select("a","a")`) the old columns do *not* all survive; `WF` does not
exclude such frames.  `physLen f = L` says the length Go reads off the first column is the common length (it
follows from `WF` when there is a column, `physLen_eq`; for a frame without columns it forces `L = 0`).
Which function is applied to which cells is not the subject here (C07EndToEndSteps: `applyFn1_cells`, `col2_cells`,
`CtxOK`); computed columns enter either as parameters or as the concrete `constCol`, `applyFn1`, `col2`.
-/
namespace QF.Props.C07Eval
open Fr
open QF.Props.C08

/-! ## 1. `tempColName` -/

theorem checkName_of_head (s : String) (c : Char) (r : List Char) (h : s.toList = c :: r)
    (h1 : c ≠ '$') (h2 : c ≠ '\'') (h3 : c ≠ '"') : checkName s = true := by
  have e : s.isEmpty = false := by
    rw [String.isEmpty_eq_false_iff]
    intro h0
    subst h0
    simp at h
  have a : s.startsWith "$" = false := by
    rw [String.startsWith_string_eq_false_iff, h]; simp [Ne.symm h1]
  have b : s.startsWith "'" = false := by
    rw [String.startsWith_string_eq_false_iff, h]; simp [Ne.symm h2]
  have d : s.startsWith "\"" = false := by
    rw [String.startsWith_string_eq_false_iff, h]; simp [Ne.symm h3]
  simp [checkName, e, a, b, d]

def GoodPrefix (pre : String) : Prop :=
  ∃ c r, pre.toList = c :: r ∧ c ≠ '$' ∧ c ≠ '\'' ∧ c ≠ '"'

def tempName (pre : String) (k : Nat) : String := pre ++ "-temp-" ++ natStr k

theorem tempName_inj (pre : String) (i j : Nat) (h : tempName pre i = tempName pre j) : i = j := by
  unfold tempName at h
  exact ListFacts.toString_nat_inj ((String.append_right_inj _).mp h)

theorem checkName_tempName (pre : String) (hp : GoodPrefix pre) (k : Nat) : checkName (tempName pre k) = true := by
  obtain ⟨c, r, h, h1, h2, h3⟩ := hp
  apply checkName_of_head _ c (r ++ "-temp-".toList ++ (natStr k).toList) _ h1 h2 h3
  simp [tempName, String.toList_append, h]

theorem goodPrefix_const : GoodPrefix "const" := ⟨'c', "onst".toList, by decide, by decide, by decide, by decide⟩
theorem goodPrefix_unary : GoodPrefix "unary" := ⟨'u', "nary".toList, by decide, by decide, by decide, by decide⟩
theorem goodPrefix_colcol : GoodPrefix "colcol" := ⟨'c', "olcol".toList, by decide, by decide, by decide, by decide⟩

theorem goodPrefix_of {pre : String} (h : pre = "const" ∨ pre = "unary" ∨ pre = "colcol") : GoodPrefix pre := by
  rcases h with rfl | rfl | rfl
  · exact goodPrefix_const
  · exact goodPrefix_unary
  · exact goodPrefix_colcol

/-- pigeonhole: otherwise the `n` different names `tempName pre k` are all among the fewer than `n` column names -/
theorem exists_free (f : Frame) (L : Nat) (wf : WF f L) (pre : String) (n : Nat) (hlt : f.cols.length < n) :
    ∃ k, k < n ∧ f.byName (tempName pre k) = none := by
  apply Classical.byContradiction
  intro hno
  have hnd : ((List.range n).map (tempName pre)).Nodup := by
    rw [List.Nodup, List.pairwise_map]
    exact List.Pairwise.imp (fun hne h => hne (tempName_inj pre _ _ h)) (List.nodup_range (n := n))
  have hsub : (List.range n).map (tempName pre) ⊆ f.cols.map (·.name) := by
    intro t ht
    obtain ⟨k, hk, rfl⟩ := List.mem_map.mp ht
    cases hb : f.byName (tempName pre k) with
    | none => exact absurd ⟨k, List.mem_range.mp hk, hb⟩ hno
    | some c => exact List.mem_map.mpr ⟨c, byName_mem wf hb, (wf.mapOk _ c hb).2⟩
  have := hnd.length_le_of_subset hsub
  simp at this
  omega

/-- The one place where `tempColName` meets its body: comparing the two, the kernel unfolds the `match` first and builds
all of `List.range 10000` to reduce it. Every other fact about `tempColName` goes through this equation. -/
theorem tempColName_eq (f : Frame) (pre : String) :
    tempColName f pre =
      (((List.range 10000).find? fun i => (f.byName (tempName pre i)).isNone).map (tempName pre)).getD "PANIC" := by
  unfold tempColName tempName
  cases (List.range 10000).find? _ <;> rfl

theorem tempColName_of_find (f : Frame) (pre : String) (k : Nat)
    (h : (List.range 10000).find? (fun i => (f.byName (tempName pre i)).isNone) = some k) :
    tempColName f pre = tempName pre k := by
  rw [tempColName_eq, h]; rfl

/-- For evaluation: `tempColName` as written costs the kernel the 10000-element list at every call (`List.range` builds it from the
end); `List.range'` yields its head before its tail. A concrete statement in which `tempColName` shows is rewritten with
`tempColName_eq_firstFree` before `decide`. -/
def firstFree (f : Frame) (pre : String) : String :=
  (((List.range' 0 10000).find? fun k => (f.byName (tempName pre k)).isNone).map (tempName pre)).getD "PANIC"

theorem tempColName_eq_firstFree : tempColName = firstFree := by
  funext f pre
  rw [tempColName_eq, firstFree, List.range_eq_range']

theorem not_mem_names_of_byName_none {f : Frame} {L : Nat} (wf : WF f L) {t : String} (h : f.byName t = none) :
    t ∉ f.cols.map (·.name) := by
  intro hm
  obtain ⟨c, hc, hcn⟩ := List.mem_map.mp hm
  have := wf.mapTotal c hc
  rw [hcn, h] at this
  cases this

theorem tempColName_fresh (f : Frame) (L : Nat) (wf : WF f L) (pre : String) (hlt : f.cols.length < 10000) :
    ∃ k, k < 10000 ∧
      (List.range 10000).find? (fun i => (f.byName (tempName pre i)).isNone) = some k ∧
      tempColName f pre = tempName pre k ∧
      f.byName (tempColName f pre) = none ∧
      (∀ j, j < k → (f.byName (tempName pre j)).isSome = true) ∧
      tempColName f pre ∉ f.cols.map (·.name) := by
  cases hf : (List.range 10000).find? (fun i => (f.byName (tempName pre i)).isNone) with
  | none =>
    obtain ⟨k, hk, hb⟩ := exists_free f L wf pre 10000 hlt
    have := List.find?_range_eq_none.mp hf k hk
    simp [hb] at this
  | some k =>
    obtain ⟨h1, h2, h3⟩ := List.find?_range_eq_some.mp hf
    have hn : f.byName (tempName pre k) = none := by simpa using h1
    rw [tempColName_of_find f pre k hf]
    exact ⟨k, List.mem_range.mp h2, rfl, rfl, hn, fun j hj => by simpa using h3 j hj,
      not_mem_names_of_byName_none wf hn⟩

end QF.Props.C07Eval

/- `IsTemp` belongs to the vocabulary of C07EndToEnd (`NoCapture`, `Sem`, `Opd`) and has its namespace; it stands here because
`leaf_out` below states it of the name it returns. -/
namespace QF.Props.C07EndToEnd
open Fr QF.Props.C07Eval

/-- a name `tempColName` can return -/
def IsTemp (t : String) : Prop := ∃ pre, (pre = "const" ∨ pre = "unary" ∨ pre = "colcol") ∧ ∃ k, t = tempName pre k

theorem isTemp_tempColName (g : Frame) (L : Nat) (wf : WF g L) (hlen : g.cols.length < 10000) (pre : String)
    (hpre : pre = "const" ∨ pre = "unary" ∨ pre = "colcol") : IsTemp (tempColName g pre) := by
  obtain ⟨k, _, _, hk, _⟩ := tempColName_fresh g L wf pre hlen
  exact ⟨pre, hpre, k, hk⟩

theorem absLookup_append_fresh (l : List C08.Entry) (e : C08.Entry) (t : String) (ht : e.1 = t) (h : t ∉ l.map (·.1)) :
    C08.absLookup (l ++ [e]) t = some e := by
  subst ht
  unfold C08.absLookup
  rw [List.find?_append]
  have : l.find? (fun x => x.1 == e.1) = none := by
    rw [List.find?_eq_none]
    intro x hx hxe
    exact h (List.mem_map.mpr ⟨x, hx, by simpa using hxe⟩)
  rw [this]; simp

end QF.Props.C07EndToEnd

namespace QF.Props.C07Eval
open Fr
open QF.Props.C08

/-! ## 2. leaf forms -/

def colEntry (ix : List Nat) (n : String) (c : Col) : Entry := (n, c.ty, ix.map fun p => c.data[p]?)

theorem abs_names (f : Frame) : f.abs.map (·.1) = f.cols.map (·.name) := by
  simp [Frame.abs]

/-- `g` = `f` plus one column `e`, named `t`, appended last -/
structure Plus (f g : Frame) (L : Nat) (t : String) (e : Entry) : Prop where
  wf : WF g L
  uniq : UniqueNames g
  err : g.err = none
  index : g.index = f.index
  abs : g.abs = f.abs ++ [e]
  name : e.1 = t
  fresh : f.byName t = none

/-- the common shape of the three leaf `execute`s: pick the temp name on the incoming frame, then `Apply`
    (= compute a column `c`, then `setColumn`). -/
def execLeaf (pre : String) (f : Frame) (c : Col) : Frame × String :=
  (setColumn f (tempColName f pre) c, tempColName f pre)

theorem execLeaf_fst (pre : String) (f : Frame) (c : Col) :
    (execLeaf pre f c).1 = setColumn f (tempColName f pre) c := by simp only [execLeaf]
theorem execLeaf_snd (pre : String) (f : Frame) (c : Col) :
    (execLeaf pre f c).2 = tempColName f pre := by simp only [execLeaf]

theorem setColumn_fresh_cols (f : Frame) (t : String) (c : Col) (hn : checkName t = true) (hb : f.byName t = none) :
    (setColumn f t c).cols = f.cols ++ [⟨t, f.cols.length, c⟩] ∧
    (setColumn f t c).byName = (fun k => if k = t then some ⟨t, f.cols.length, c⟩ else f.byName k) := by
  simp [setColumn, hn, hb]

theorem setColumn_fresh_plus (f : Frame) (L : Nat) (wf : WF f L) (u : UniqueNames f) (he : f.err = none)
    (t : String) (c : Col) (hc : c.data.length = L) (hn : checkName t = true) (hb : f.byName t = none) :
    Plus f (setColumn f t c) L t (colEntry f.index t c) := by
  obtain ⟨h1, h2, h3⟩ := setColumn_abs f L wf t c hn
  refine ⟨setColumn_wf f L wf t c hc hn, setColumn_unique f L wf u t c, h3.trans he, h2, ?_, rfl, hb⟩
  rw [h1, hb]; rfl

theorem execLeaf_plus (f : Frame) (L : Nat) (wf : WF f L) (u : UniqueNames f) (he : f.err = none)
    (hlt : f.cols.length < 10000) (pre : String) (hp : GoodPrefix pre) (c : Col) (hc : c.data.length = L) :
    (execLeaf pre f c).2 = tempColName f pre ∧
    Plus f (execLeaf pre f c).1 L (tempColName f pre) (colEntry f.index (tempColName f pre) c) ∧
    (execLeaf pre f c).1.cols = f.cols ++ [⟨tempColName f pre, f.cols.length, c⟩] := by
  obtain ⟨k, _, _, hk, hb, _, _⟩ := tempColName_fresh f L wf pre hlt
  have hn : checkName (tempColName f pre) = true := by rw [hk]; exact checkName_tempName pre hp k
  rw [execLeaf_fst, execLeaf_snd]
  exact ⟨rfl, setColumn_fresh_plus f L wf u he _ c hc hn hb, (setColumn_fresh_cols f _ c hn hb).1⟩

theorem contains_iff {f : Frame} {L : Nat} (wf : WF f L) (k : String) :
    (f.byName k).isSome = true ↔ k ∈ f.abs.map (·.1) := by
  rw [abs_names]
  constructor
  · intro h
    cases hb : f.byName k with
    | none => rw [hb] at h; cases h
    | some c =>
      have := byName_mem wf hb
      exact List.mem_map.mpr ⟨c, this, (wf.mapOk k c hb).2⟩
  · exact fun hm => Option.isSome_iff_ne_none.mpr fun h => not_mem_names_of_byName_none wf h hm

theorem none_iff {f : Frame} {L : Nat} (wf : WF f L) (k : String) :
    f.byName k = none ↔ k ∉ f.abs.map (·.1) := by
  rw [← contains_iff wf k]
  cases f.byName k <;> simp

theorem Plus.names {f g : Frame} {L : Nat} {t : String} {e : Entry} (P : Plus f g L t e) :
    g.abs.map (·.1) = f.abs.map (·.1) ++ [t] := by
  rw [P.abs, List.map_append, List.map_cons, P.name]; rfl

theorem Plus.fresh_names {f g : Frame} {L : Nat} {t : String} {e : Entry} (wf : WF f L) (P : Plus f g L t e) :
    t ∉ f.abs.map (·.1) := (none_iff wf t).mp P.fresh

theorem Plus.has_t {f g : Frame} {L : Nat} {t : String} {e : Entry} (P : Plus f g L t e) :
    (g.byName t).isSome = true := by
  rw [contains_iff P.wf, P.names]; simp

theorem Plus.cols_length {f g : Frame} {L : Nat} {t : String} {e : Entry} (P : Plus f g L t e) :
    g.cols.length = f.cols.length + 1 := by
  have := congrArg List.length P.abs
  simpa [Frame.abs] using this

/-! ## 3. `f` plus temporaries, and the Drop step -/

theorem physLen_eq {f : Frame} {L : Nat} (wf : WF f L) (h : f.cols ≠ []) : physLen f = L := by
  unfold physLen
  cases hc : f.cols with
  | nil => exact absurd hc h
  | cons c cs => exact wf.len c (by rw [hc]; exact List.mem_cons_self)

/-- `g` is `f` followed by the columns `mid`, whose names are not names of `f` -/
structure Ext (f g : Frame) (L : Nat) (mid : List Entry) : Prop where
  wf : WF g L
  uniq : UniqueNames g
  err : g.err = none
  index : g.index = f.index
  abs : g.abs = f.abs ++ mid
  fresh : ∀ m, m ∈ mid → f.byName m.1 = none

theorem Ext.refl {f : Frame} {L : Nat} (wf : WF f L) (u : UniqueNames f) (he : f.err = none) : Ext f f L [] :=
  ⟨wf, u, he, rfl, by simp, by simp⟩

theorem Plus.toExt {f g : Frame} {L : Nat} {t : String} {e : Entry} (P : Plus f g L t e) : Ext f g L [e] := by
  refine ⟨P.wf, P.uniq, P.err, P.index, P.abs, ?_⟩
  intro m hm
  rw [List.mem_singleton] at hm
  subst hm
  rw [P.name]
  exact P.fresh

theorem Ext.toPlus {f g : Frame} {L : Nat} {e : Entry} (E : Ext f g L [e]) : Plus f g L e.1 e :=
  ⟨E.wf, E.uniq, E.err, E.index, E.abs, rfl, E.fresh e (by simp)⟩

theorem Ext.names {f g : Frame} {L : Nat} {mid : List Entry} (E : Ext f g L mid) :
    g.abs.map (·.1) = f.abs.map (·.1) ++ mid.map (·.1) := by
  rw [E.abs, List.map_append]

theorem Ext.cols_length {f g : Frame} {L : Nat} {mid : List Entry} (E : Ext f g L mid) :
    g.cols.length = f.cols.length + mid.length := by
  have := congrArg List.length E.abs
  simpa [Frame.abs] using this

theorem Ext.trans {f g h : Frame} {L : Nat} {m1 m2 : List Entry} (wf : WF f L)
    (E1 : Ext f g L m1) (E2 : Ext g h L m2) : Ext f h L (m1 ++ m2) := by
  refine ⟨E2.wf, E2.uniq, E2.err, E2.index.trans E1.index, by rw [E2.abs, E1.abs, List.append_assoc], ?_⟩
  intro m hm
  rcases List.mem_append.mp hm with h1 | h2
  · exact E1.fresh m h1
  · have := (none_iff E1.wf m.1).mp (E2.fresh m h2)
    rw [E1.names] at this
    exact (none_iff wf m.1).mpr fun hh => this (List.mem_append_left _ hh)

theorem Ext.physLen {f g : Frame} {L : Nat} {mid : List Entry} (E : Ext f g L mid) (hL : physLen f = L) :
    physLen g = L := by
  by_cases hg : g.cols = []
  · have hlen := E.cols_length
    rw [hg] at hlen
    have hf : f.cols = [] := by
      cases hc : f.cols with
      | nil => rfl
      | cons a l => rw [hc] at hlen; simp at hlen; omega
    rw [← hL]
    simp [Fr.physLen, hg, hf]
  · exact physLen_eq E.wf hg

/-- the list handed to `Drop` by `exprExpr1/2.execute`: the intermediate names not present in the original frame -/
def dropList (f : Frame) (names : List String) : List String := names.filter fun s => !contains f s

/-- the one-name case is Go's `if !qf.Contains(tempColName) { result = result.Drop(tempColName) }` -/
theorem drop_dropList_single (f g : Frame) (c : String) :
    drop g (dropList f [c]) = if !contains f c then drop g [c] else g := by
  cases h : contains f c <;> simp [dropList, h, drop_nil]

/-- `D` = the names of `mid` (`hD1`, `hD2`), as sets -/
theorem ext_finish {f g2 g3 : Frame} {L : Nat} {mid : List Entry} {t3 : String} {e3 : Entry} (wf : WF f L)
    (E : Ext f g2 L mid) (P3 : Plus g2 g3 L t3 e3) (D : List String)
    (hD1 : ∀ d, d ∈ D → d ∈ mid.map (·.1)) (hD2 : ∀ m, m ∈ mid → m.1 ∈ D) :
    Plus f (drop g3 D) L t3 e3 := by
  have hn3 : t3 ∉ g2.abs.map (·.1) := P3.fresh_names E.wf
  rw [E.names] at hn3
  have h3D : t3 ∉ D := fun h => hn3 (List.mem_append_right _ (hD1 t3 h))
  have hf3 : t3 ∉ f.abs.map (·.1) := fun h => hn3 (List.mem_append_left _ h)
  have hc : checkColumns g3 D = true := by
    rw [checkColumns_iff]
    intro n hn
    rw [contains_iff P3.wf, P3.names, E.names]
    exact List.mem_append_left _ (List.mem_append_right _ (hD1 n hn))
  obtain ⟨d1, d2, d3⟩ := drop_abs g3 L P3.wf P3.uniq D P3.err hc
  have habs : absDrop g3.abs D = f.abs ++ [e3] := by
    rw [P3.abs, E.abs]
    unfold absDrop
    rw [List.filter_append, List.filter_append]
    have h1 : f.abs.filter (fun e => !D.contains e.1) = f.abs := by
      rw [List.filter_eq_self]
      intro e hm
      have : e.1 ∉ D := by
        intro hd
        obtain ⟨m, hm1, hm2⟩ := List.mem_map.mp (hD1 _ hd)
        have := (none_iff wf m.1).mp (E.fresh m hm1)
        rw [hm2] at this
        exact this (List.mem_map.mpr ⟨e, hm, rfl⟩)
      simpa using this
    have h2 : mid.filter (fun e => !D.contains e.1) = [] := by
      rw [List.filter_eq_nil_iff]
      intro m hm
      simpa using hD2 m hm
    rw [h1, h2]
    simp [P3.name, h3D]
  refine ⟨drop_wf g3 L P3.wf D, drop_unique g3 L P3.wf P3.uniq D, d3, ?_, by rw [d1, habs], P3.name,
    (none_iff wf t3).mpr hf3⟩
  rw [d2, habs, P3.index, E.index]; simp

/-- The last step of every node that computes a column: the column `c` is stored under a fresh temp name on `g2` (`f` plus the
operands' temporaries `mid`), then exactly those temporaries are dropped: `f` plus that one column, under a temp name. -/
theorem leaf_out {f g2 : Frame} {L : Nat} {mid : List Entry} (wf : WF f L) (E : Ext f g2 L mid)
    (hlen : g2.cols.length < 10000) (pre : String) (hpre : pre = "const" ∨ pre = "unary" ∨ pre = "colcol")
    (c : Col) (hc : c.data.length = L) (D : List String) (hD1 : ∀ d, d ∈ D → d ∈ mid.map (·.1))
    (hD2 : ∀ m, m ∈ mid → m.1 ∈ D) :
    Plus f (drop (execLeaf pre g2 c).1 D) L (execLeaf pre g2 c).2 (colEntry g2.index (tempColName g2 pre) c) ∧
      C07EndToEnd.IsTemp (execLeaf pre g2 c).2 := by
  have A := execLeaf_plus g2 L E.wf E.uniq E.err hlen pre (goodPrefix_of hpre) c hc
  rw [A.1]
  exact ⟨ext_finish wf E A.2.1 D hD1 hD2, C07EndToEnd.isTemp_tempColName g2 L E.wf hlen pre hpre⟩

theorem dropList_sub {f g : Frame} {L : Nat} {mid : List Entry} (wf : WF f L) (E : Ext f g L mid)
    (names : List String) (hall : ∀ n, n ∈ names → (g.byName n).isSome = true) :
    ∀ d, d ∈ dropList f names → d ∈ mid.map (·.1) := by
  intro d hd
  obtain ⟨h1, h2⟩ := List.mem_filter.mp hd
  have hg := (contains_iff E.wf d).mp (hall d h1)
  rw [E.names] at hg
  rcases List.mem_append.mp hg with h | h
  · have := (contains_iff wf d).mpr h
    simp [contains, this] at h2
  · exact h

theorem dropList_sup {f g : Frame} {L : Nat} {mid : List Entry} (E : Ext f g L mid)
    (names : List String) (hm : ∀ m, m ∈ mid → m.1 ∈ names) :
    ∀ m, m ∈ mid → m.1 ∈ dropList f names := by
  intro m h
  refine List.mem_filter.mpr ⟨hm m h, ?_⟩
  simp [contains, E.fresh m h]

/-! ### column/constant form -/

theorem colConst_plus (f : Frame) (L : Nat) (wf : WF f L) (u : UniqueNames f) (he : f.err = none)
    (hlt : f.cols.length + 1 < 10000) (c1 c2 : Col) (h1 : c1.data.length = L) (h2 : c2.data.length = L) :
    Plus f (drop (execLeaf "colcol" (execLeaf "const" f c1).1 c2).1 [(execLeaf "const" f c1).2]) L
      (execLeaf "colcol" (execLeaf "const" f c1).1 c2).2
      (colEntry f.index (execLeaf "colcol" (execLeaf "const" f c1).1 c2).2 c2) := by
  have A := execLeaf_plus f L wf u he (by omega) "const" goodPrefix_const c1 h1
  have P1 := A.2.1
  have hl1 : (execLeaf "const" f c1).1.cols.length < 10000 := by rw [P1.cols_length]; exact hlt
  have := (leaf_out wf P1.toExt hl1 "colcol" (.inr (.inr rfl)) c2 h2 [tempColName f "const"] (by simp [P1.name])
    (by simp [P1.name])).1
  rw [P1.index, ← execLeaf_snd "colcol" _ c2, ← A.1] at this
  exact this

/-! ## 4. Eval epilogue -/

theorem filter_fresh (l : List Entry) (t : String) (ht : t ∉ l.map (·.1)) :
    absDrop l [t] = l := by
  unfold absDrop
  rw [List.filter_eq_self]
  intro e he
  have : e.1 ≠ t := fun h => ht (List.mem_map.mpr ⟨e, he, h⟩)
  simp [this]

/-- `absSet` at `findIdx?` writes at the first hit and appends when there is none: the equation the facts about it come from -/
theorem absSet_find_cons (p : Entry → Bool) (a : Entry) (l : List Entry) (e : Entry) :
    absSet (a :: l) ((a :: l).findIdx? p) e = if p a then e :: l else a :: absSet l (l.findIdx? p) e := by
  rw [List.findIdx?_cons]
  cases p a
  · cases l.findIdx? p <;> rfl
  · rfl

theorem absDrop_cons (a : Entry) (l : List Entry) (t : String) :
    absDrop (a :: l) [t] = if a.1 = t then absDrop l [t] else a :: absDrop l [t] := by
  by_cases h : a.1 = t <;> simp [absDrop, h]

/-- pure list form of the Eval epilogue, `dst ≠ t`: Copy(dst, t) then Drop(t) on `l ++ [(t, x)]` -/
theorem epilogue_list (l : List Entry) (t dst : String) (x : Ty × List (Option Val))
    (ht : t ∉ l.map (·.1)) (hne : dst ≠ t) :
    absDrop (absCopy (l ++ [(t, x)]) dst t) [t] = absSet l (l.findIdx? (·.1 == dst)) (dst, x) := by
  unfold absCopy
  rw [C07EndToEnd.absLookup_append_fresh l (t, x) t rfl ht]
  simp only
  induction l with
  | nil => simp [absSet, absDrop, hne, Ne.symm hne]
  | cons a l ih =>
    simp only [List.map_cons, List.mem_cons, not_or] at ht
    rw [List.cons_append, absSet_find_cons, absSet_find_cons]
    split
    · rw [absDrop_cons, if_neg hne, ← filter_fresh l t ht.2]
      simp [absDrop]
    · rw [absDrop_cons, if_neg (Ne.symm ht.1), ih ht.2]

/-- qframe.go `Eval`, after `expr.execute`: `result.Copy(dstCol, colName)`, then
    `if !qf.Contains(colName) && colName != dstCol { result = result.Drop(colName) }` (current Go code) -/
def evalEpilogue (f : Frame) (dst : String) (r : Frame) (c : String) : Frame :=
  let r' := copy r dst c
  if !contains f c && c != dst then drop r' [c] else r'

theorem setColumn_keeps {f : Frame} (n : String) (c : Col) (k : String) (h : (f.byName k).isSome = true) :
    ((setColumn f n c).byName k).isSome = true := by
  unfold setColumn
  split
  · exact h
  · -- overwrite or append: either way the new name map answers `n` with the new column and any other name as before
    split <;> (simp only; split <;> simp [h])

theorem absSet_nonempty (l : List Entry) (q : Entry → Bool) (v : Entry) :
    (absSet l (l.findIdx? q) v).isEmpty = false := by
  cases l with
  | nil => rfl
  | cons a l => rw [absSet_find_cons]; split <;> rfl

/-- `hn` asks for a legal `dst` only where Go checks it: `Copy(dst, dst)` returns the frame as it is, whatever the name -/
theorem evalEpilogue_plus (f g : Frame) (L : Nat) (wf : WF f L) (t : String) (e : Entry)
    (P : Plus f g L t e) (dst : String) (hn : dst ≠ t → checkName dst = true) :
    (evalEpilogue f dst g t).abs = absSet f.abs (f.abs.findIdx? (·.1 == dst)) (dst, e.2) ∧
    (evalEpilogue f dst g t).index = f.index ∧
    (evalEpilogue f dst g t).err = none ∧
    WF (evalEpilogue f dst g t) L ∧ UniqueNames (evalEpilogue f dst g t) := by
  have hft : t ∉ f.abs.map (·.1) := P.fresh_names wf
  have hcf : contains f t = false := by simp [contains, P.fresh]
  have he : e = (t, e.2) := by rw [← P.name]
  by_cases hd : dst = t
  · subst hd
    have : evalEpilogue f dst g dst = g := by
      simp [evalEpilogue, copy_self g dst P.has_t]
    rw [this]
    refine ⟨?_, P.index, P.err, P.wf, P.uniq⟩
    have : f.abs.findIdx? (fun x => x.1 == dst) = none := by
      rw [List.findIdx?_eq_none_iff]
      intro x hx
      have : x.1 ≠ dst := fun h => hft (List.mem_map.mpr ⟨x, hx, h⟩)
      simpa using this
    rw [this, P.abs]
    simp only [absSet]
    rw [he]
  · have hne : (t != dst) = true := by simpa using Ne.symm hd
    have hev : evalEpilogue f dst g t = drop (copy g dst t) [t] := by
      simp [evalEpilogue, hcf, hne]
    rw [hev]
    have hck := hn hd
    cases hb : g.byName t with
    | none => have := P.has_t; rw [hb] at this; cases this
    | some c =>
      obtain ⟨_, ci, ce⟩ := copy_abs g L P.wf dst t c P.err hb hd hck
      have ca := copy_abs_pure g L P.wf P.uniq dst t P.err P.has_t hd hck
      have cwf := copy_wf g L P.wf dst t
      have cu := copy_unique g L P.wf P.uniq dst t
      have hc : checkColumns (copy g dst t) [t] = true := by
        rw [checkColumns_iff]
        intro n hn
        simp only [List.mem_singleton] at hn
        subst hn
        have : copy g dst n = setColumn g dst c.col := by simp [copy, P.err, hb, hd]
        rw [this]
        exact setColumn_keeps dst c.col n P.has_t
      obtain ⟨d1, d2, d3⟩ := drop_abs (copy g dst t) L cwf cu [t] ce hc
      have habs : absDrop (copy g dst t).abs [t] = absSet f.abs (f.abs.findIdx? (·.1 == dst)) (dst, e.2) := by
        rw [ca, P.abs, he]
        exact epilogue_list f.abs t dst e.2 hft hd
      refine ⟨by rw [d1, habs], ?_, d3, drop_wf _ L cwf [t], drop_unique _ L cwf cu [t]⟩
      rw [d2, habs, absSet_nonempty, ci, P.index]; simp

/-! ## 5. the leaves of QF/Core/Eval.lean as instances of `execLeaf` -/

/-- the column `apply0` builds for a constant (Go: `ConstInt{Val, Count: colLen}` etc.) -/
def constCol (f : Frame) (v : Val) : Col := { ty := tyOf v, data := List.replicate (physLen f) v }

/-- the column `apply2` builds (Eval.lean `apply2`) -/
def col2 (f : Frame) (x y : NCol) (fn : Val → Val → Val) : Col :=
  { ty := x.col.ty, data := (List.range (physLen f)).map fun p =>
      if p ∈ f.index then (match x.col.data[p]?, y.col.data[p]? with | some u, some v => fn u v | _, _ => x.col.ty.zero)
      else x.col.ty.zero }

theorem constCol_length (f : Frame) (v : Val) : (constCol f v).data.length = physLen f := by simp [constCol]
theorem applyFn1_length (f : Frame) (L : Nat) (fn : Val → Val) (rty : Ty) (src : Col) :
    (applyFn1 f L fn rty src).data.length = L := by simp [applyFn1]
theorem col2_length (f : Frame) (x y : NCol) (fn : Val → Val → Val) : (col2 f x y fn).data.length = physLen f := by
  simp [col2]

theorem execConst_eq (v : Val) (f : Frame) (he : f.err = none) :
    execConst v f = execLeaf "const" f (constCol f v) := by
  simp only [execConst, he, Option.isSome_none, Bool.false_eq_true, ↓reduceIte, applyConst, execLeaf, constCol]

theorem execUnary_eq (ctx : Ctx) (op src : String) (f : Frame) (he : f.err = none) (s : NCol)
    (hs : f.byName src = some s) (rty : Ty) (fn : Val → Val) (hf : ctx.fn1 s.col.ty op = some (rty, fn)) :
    execUnary ctx op src f = execLeaf "unary" f (applyFn1 f (physLen f) fn rty s.col) := by
  simp only [execUnary, he, Option.isSome_none, Bool.false_eq_true, ↓reduceIte, hs, hf, apply1, execLeaf]

theorem execColCol_eq (ctx : Ctx) (op a b : String) (f : Frame) (he : f.err = none) (x y : NCol)
    (ha : f.byName a = some x) (hb : f.byName b = some y) (hty : x.col.ty = y.col.ty)
    (fn : Val → Val → Val) (hf : ctx.fn2 x.col.ty op = some fn) :
    execColCol ctx op a b f = execLeaf "colcol" f (col2 f x y fn) := by
  have hf' := hf
  rw [hty] at hf'
  simp only [execColCol, he, Option.isSome_none, Bool.false_eq_true, ↓reduceIte, ha, hb, hf', apply2, execLeaf,
    col2, hty, bne_self_eq_false]
  congr 3

/-- `constExpr.execute` (Eval.lean `execConst`) -/
theorem execConst_plus (v : Val) (f : Frame) (L : Nat) (wf : WF f L) (u : UniqueNames f) (he : f.err = none)
    (hL : physLen f = L) (hlt : f.cols.length < 10000) :
    (execConst v f).2 = tempColName f "const" ∧
    Plus f (execConst v f).1 L (tempColName f "const") (colEntry f.index (tempColName f "const") (constCol f v)) ∧
    (execConst v f).1.cols = f.cols ++ [⟨tempColName f "const", f.cols.length, constCol f v⟩] := by
  rw [execConst_eq v f he]
  exact execLeaf_plus f L wf u he hlt "const" goodPrefix_const _ (by rw [constCol_length, hL])

/-- `unaryExpr.execute` (Eval.lean `execUnary`); `s`, `rty`, `fn` are what `getFunc` found -/
theorem execUnary_plus (ctx : Ctx) (op src : String) (f : Frame) (L : Nat) (wf : WF f L) (u : UniqueNames f)
    (he : f.err = none) (hL : physLen f = L) (hlt : f.cols.length < 10000) (s : NCol)
    (hs : f.byName src = some s) (rty : Ty) (fn : Val → Val) (hf : ctx.fn1 s.col.ty op = some (rty, fn)) :
    (execUnary ctx op src f).2 = tempColName f "unary" ∧
    Plus f (execUnary ctx op src f).1 L (tempColName f "unary")
      (colEntry f.index (tempColName f "unary") (applyFn1 f (physLen f) fn rty s.col)) ∧
    (execUnary ctx op src f).1.cols =
      f.cols ++ [⟨tempColName f "unary", f.cols.length, applyFn1 f (physLen f) fn rty s.col⟩] := by
  rw [execUnary_eq ctx op src f he s hs rty fn hf]
  exact execLeaf_plus f L wf u he hlt "unary" goodPrefix_unary _ (by rw [applyFn1_length, hL])

/-- `colColExpr.execute` (Eval.lean `execColCol`) -/
theorem execColCol_plus (ctx : Ctx) (op a b : String) (f : Frame) (L : Nat) (wf : WF f L) (u : UniqueNames f)
    (he : f.err = none) (hL : physLen f = L) (hlt : f.cols.length < 10000) (x y : NCol)
    (ha : f.byName a = some x) (hb : f.byName b = some y) (hty : x.col.ty = y.col.ty)
    (fn : Val → Val → Val) (hf : ctx.fn2 x.col.ty op = some fn) :
    (execColCol ctx op a b f).2 = tempColName f "colcol" ∧
    Plus f (execColCol ctx op a b f).1 L (tempColName f "colcol")
      (colEntry f.index (tempColName f "colcol") (col2 f x y fn)) ∧
    (execColCol ctx op a b f).1.cols = f.cols ++ [⟨tempColName f "colcol", f.cols.length, col2 f x y fn⟩] := by
  rw [execColCol_eq ctx op a b f he x y ha hb hty fn hf]
  exact execLeaf_plus f L wf u he hlt "colcol" goodPrefix_colcol _ (by rw [col2_length, hL])


/-! ## 6. mirror of expression.go / `QFrame.Eval` (current Go code) -/

/-- `Ex` with the repaired `colConstExpr`: the node remembers whether the constant was the left operand -/
inductive Ex'
  | col (n : String)
  | const (v : Val)
  | unary (op : String) (src : String)
  | colConst (op : String) (src : String) (v : Val) (constFirst : Bool)
  | colCol (op : String) (a b : String)
  | ex1 (op : String) (e : Ex')
  | ex2 (op : String) (l r : Ex')
  | error

/-- `newExpr` with the repaired `newColConstExpr` (`constFirst := true` exactly when the flipped order matched) -/
def newExpr' (fuel : Nat) (d : Dyn) : Ex' :=
  match fuel with
  | 0 => .error
  | fuel + 1 =>
  match colOf d with
  | some n => .col n
  | none =>
  match constOf d with
  | some v => .const v
  | none =>
  match d with
  | .list [o, a] =>
    (match opOf o, colOf a with
     | some op, some c => .unary op c
     | some op, none => (match newExpr' fuel a with | .error => .error | e => .ex1 op e)
     | none, _ => .error)
  | .list [o, a, b] =>
    match opOf o with
    | none => .error
    | some op =>
      match colOf a, constOf b, colOf b, constOf a with
      | some c, some v, _, _ => .colConst op c v false
      | _, _, some c, some v => .colConst op c v true
      | some c1, _, some c2, _ => .colCol op c1 c2
      | _, _, _, _ =>
        match newExpr' fuel a, newExpr' fuel b with
        | .error, _ => .error
        | _, .error => .error
        | l, r => .ex2 op l r
  | _ => .error

/-- `colConstExpr.execute` (current Go code): operands in the order written; `Drop` is the faithful
    `C08.drop` (with `checkColumns`) -/
def execColConst (ctx : Ctx) (op src : String) (v : Val) (constFirst : Bool) (f : Frame) : Frame × String :=
  if f.err.isSome then (f, "") else
  let rc := execConst v f
  let rn := if constFirst then execColCol ctx op rc.2 src rc.1 else execColCol ctx op src rc.2 rc.1
  (drop rn.1 [rc.2], rn.2)

def execute' (ctx : Ctx) : Ex' → Frame → Frame × String
  | .col n, f => (f, n)
  | .const v, f => execConst v f
  | .unary op src, f => execUnary ctx op src f
  | .colCol op a b, f => execColCol ctx op a b f
  | .colConst op src v cf, f => execColConst ctx op src v cf f
  | .ex1 op e, f =>
      let rt := execute' ctx e f
      let rn := execUnary ctx op rt.2 rt.1
      -- Go: `if !qf.Contains(tempColName) { result = result.Drop(tempColName) }`; `Drop()` of nothing is the identity
      (drop rn.1 (dropList f [rt.2]), rn.2)
  | .ex2 op l r, f =>
      let x := execute' ctx l f
      let y := execute' ctx r x.1
      let z := execColCol ctx op x.2 y.2 y.1
      (drop z.1 (dropList f [x.2, y.2]), z.2)
  | .error, f => if f.err.isSome then (f, "") else ({ f with err := some .other }, "")

def refs : Ex' → List String
  | .col n => [n]
  | .const _ => []
  | .unary _ s => [s]
  | .colConst _ s _ _ => [s]
  | .colCol _ a b => [a, b]
  | .ex1 _ e => refs e
  | .ex2 _ l r => refs l ++ refs r
  | .error => []

/-- expression.go `missingCol` (current Go code): the column fields of the struct are collected and the first one that is
    not a column of the frame is returned; nested expressions are searched operand by operand, left before right;
    constants and the error expression refer to no column -/
def missing : Ex' → Frame → Option String
  | .col n, f => [n].find? fun c => !contains f c
  | .const _, _ => none
  | .unary _ s, f => [s].find? fun c => !contains f c
  | .colConst _ s _ _, f => [s].find? fun c => !contains f c
  | .colCol _ a b, f => [a, b].find? fun c => !contains f c
  | .ex1 _ e, f => missing e f
  | .ex2 _ l r, f => match missing l f with
    | some c => some c
    | none => missing r f
  | .error, _ => none

theorem missing_eq_find (e : Ex') (f : Frame) : missing e f = (refs e).find? fun c => !contains f c := by
  induction e with
  | ex1 op e ih => simpa [missing, refs] using ih
  | ex2 op l r ihl ihr =>
    simp only [missing, refs, List.find?_append, ihl, ihr]
    cases (refs l).find? fun c => !contains f c <;> rfl
  | _ => rfl

theorem missing_none_iff (e : Ex') (f : Frame) : missing e f = none ↔ ∀ n, n ∈ refs e → (f.byName n).isSome = true := by
  rw [missing_eq_find, List.find?_eq_none]
  constructor
  · intro h n hn
    have := h n hn
    cases hb : f.byName n with
    | none => simp [contains, hb] at this
    | some c => rfl
  · intro h n hn
    simp [contains, h n hn]

/-- `QFrame.Eval` (current Go code): a frame with an error is returned as it is; a column reference that is not a column of
    the frame is an error before anything is executed -/
def eval' (ctx : Ctx) (f : Frame) (dst : String) (e : Ex') : Frame :=
  if f.err.isSome then f else
  if (missing e f).isSome then withErr f .other else
  evalEpilogue f dst (execute' ctx e f).1 (execute' ctx e f).2

/-! ## 7. every expression: `execute'` leaves `f` plus at most one temporary

### success of an `execute` step determines its shape -/

theorem execUnary_ok (ctx : Ctx) (op src : String) (g : Frame) (h : (execUnary ctx op src g).1.err = none) :
    g.err = none ∧ ∃ s rty fn, g.byName src = some s ∧ ctx.fn1 s.col.ty op = some (rty, fn) := by
  cases he : g.err with
  | some x => simp [execUnary, he] at h
  | none =>
    cases hs : g.byName src with
    | none => simp [execUnary, he, hs] at h
    | some s =>
      cases hf : ctx.fn1 s.col.ty op with
      | none => simp [execUnary, he, hs, hf] at h
      | some p => exact ⟨rfl, s, p.1, p.2, rfl, hf⟩

theorem execColCol_ok (ctx : Ctx) (op a b : String) (g : Frame) (h : (execColCol ctx op a b g).1.err = none) :
    g.err = none ∧ ∃ x y fn, g.byName a = some x ∧ g.byName b = some y ∧ x.col.ty = y.col.ty ∧
      ctx.fn2 x.col.ty op = some fn := by
  cases he : g.err with
  | some x => simp [execColCol, he] at h
  | none =>
    cases ha : g.byName a with
    | none => simp [execColCol, he, ha] at h
    | some x =>
      cases hf : ctx.fn2 x.col.ty op with
      | none => simp [execColCol, he, ha, hf] at h
      | some fn =>
        cases hb : g.byName b with
        | none => simp [execColCol, he, ha, hf, apply2, hb] at h
        | some y =>
          by_cases hty : x.col.ty = y.col.ty
          · exact ⟨rfl, x, y, fn, rfl, rfl, hty, hf⟩
          · simp [execColCol, he, ha, hf, apply2, hb, hty] at h

/-- the `*_of_err` lemmas, contraposed -/
theorem err_none_of_fixed {g g' : Frame} (hfix : g.err.isSome = true → g' = g) (h : g'.err = none) : g.err = none := by
  cases he : g.err with
  | none => rfl
  | some x => rw [hfix (by simp [he]), he] at h; cases h

theorem drop_err_none (g : Frame) (D : List String) (h : (drop g D).err = none) : g.err = none :=
  err_none_of_fixed (drop_of_err g D) h

theorem execUnary_of_err (ctx : Ctx) (op src : String) (g : Frame) (h : g.err.isSome = true) :
    (execUnary ctx op src g).1 = g := by simp [execUnary, h]

theorem execColCol_of_err (ctx : Ctx) (op a b : String) (g : Frame) (h : g.err.isSome = true) :
    (execColCol ctx op a b g).1 = g := by simp [execColCol, h]

theorem execute'_of_err (ctx : Ctx) (e : Ex') (f : Frame) (h : f.err.isSome = true) : (execute' ctx e f).1 = f := by
  induction e generalizing f with
  | col n => rfl
  | const v => simp [execute', execConst, h]
  | unary op src => exact execUnary_of_err ctx op src f h
  | colConst op src v cf => simp [execute', execColConst, h]
  | colCol op a b => exact execColCol_of_err ctx op a b f h
  | ex1 op e ih =>
    simp only [execute']
    rw [ih f h, execUnary_of_err ctx op _ f h, drop_of_err f _ h]
  | ex2 op l r ihl ihr =>
    simp only [execute']
    rw [ihl f h, ihr f h, execColCol_of_err ctx op _ _ f h, drop_of_err f _ h]
  | error => simp [execute', h]

theorem step_unary {f g2 : Frame} {L : Nat} {mid : List Entry} (wf : WF f L) (E : Ext f g2 L mid)
    (hL : physLen g2 = L) (hlen : g2.cols.length < 10000) (ctx : Ctx) (op src : String) (names : List String)
    (hsub : ∀ n, n ∈ names → n = src) (hcov : ∀ m, m ∈ mid → m.1 ∈ names)
    (h : (drop (execUnary ctx op src g2).1 (dropList f names)).err = none) :
    ∃ e3, Plus f (drop (execUnary ctx op src g2).1 (dropList f names)) L (execUnary ctx op src g2).2 e3 := by
  obtain ⟨he, s, rty, fn, hs, hf⟩ := execUnary_ok ctx op src g2 (drop_err_none _ _ h)
  rw [execUnary_eq ctx op src g2 he s hs rty fn hf]
  exact ⟨_, (leaf_out wf E hlen "unary" (.inr (.inl rfl)) _ (by rw [applyFn1_length, hL]) _
    (dropList_sub wf E names fun n hn => by simp [hsub n hn, hs]) (dropList_sup E names hcov)).1⟩

theorem step_colcol {f g2 : Frame} {L : Nat} {mid : List Entry} (wf : WF f L) (E : Ext f g2 L mid)
    (hL : physLen g2 = L) (hlen : g2.cols.length < 10000) (ctx : Ctx) (op a b : String) (names : List String)
    (hsub : ∀ n, n ∈ names → n = a ∨ n = b) (hcov : ∀ m, m ∈ mid → m.1 ∈ names)
    (h : (drop (execColCol ctx op a b g2).1 (dropList f names)).err = none) :
    ∃ e3, Plus f (drop (execColCol ctx op a b g2).1 (dropList f names)) L (execColCol ctx op a b g2).2 e3 := by
  obtain ⟨he, x, y, fn, ha, hb, hty, hf⟩ := execColCol_ok ctx op a b g2 (drop_err_none _ _ h)
  rw [execColCol_eq ctx op a b g2 he x y ha hb hty fn hf]
  exact ⟨_, (leaf_out wf E hlen "colcol" (.inr (.inr rfl)) _ (by rw [col2_length, hL]) _
    (dropList_sub wf E names fun n hn => by rcases hsub n hn with rfl | rfl <;> simp [ha, hb])
    (dropList_sup E names hcov)).1⟩

/-- `colConstExpr.execute` after the constant's leaf: the function on (constant, column) or (column, constant), then
`Drop` of the constant's column `tc`; `g1` is `f` plus that column -/
theorem colConst_step {f g1 : Frame} {L : Nat} {tc : String} {e1 : Entry} (wf : WF f L) (P1 : Plus f g1 L tc e1)
    (hL1 : physLen g1 = L) (hlen1 : g1.cols.length < 10000) (ctx : Ctx) (op src : String) (cf : Bool)
    (h : (drop (if cf then execColCol ctx op tc src g1 else execColCol ctx op src tc g1).1 [tc]).err = none) :
    ∃ e3, Plus f (drop (if cf then execColCol ctx op tc src g1 else execColCol ctx op src tc g1).1 [tc]) L
      (if cf then execColCol ctx op tc src g1 else execColCol ctx op src tc g1).2 e3 := by
  have hD : dropList f [tc] = [tc] := by simp [dropList, contains, P1.fresh]
  rw [← hD] at h ⊢
  cases cf with
  | true => exact step_colcol wf P1.toExt hL1 hlen1 ctx op tc src _ (by simp) (by simp [P1.name]) h
  | false => exact step_colcol wf P1.toExt hL1 hlen1 ctx op src tc _ (by simp) (by simp [P1.name]) h

theorem execColConst_eq (ctx : Ctx) (op src : String) (v : Val) (cf : Bool) (f : Frame) (he : f.err = none) :
    execColConst ctx op src v cf f =
      (drop (if cf then execColCol ctx op (execLeaf "const" f (constCol f v)).2 src (execLeaf "const" f (constCol f v)).1
             else execColCol ctx op src (execLeaf "const" f (constCol f v)).2 (execLeaf "const" f (constCol f v)).1).1
         [(execLeaf "const" f (constCol f v)).2],
       (if cf then execColCol ctx op (execLeaf "const" f (constCol f v)).2 src (execLeaf "const" f (constCol f v)).1
             else execColCol ctx op src (execLeaf "const" f (constCol f v)).2 (execLeaf "const" f (constCol f v)).1).2) := by
  simp only [execColConst, he, Option.isSome_none, Bool.false_eq_true, ↓reduceIte, execConst_eq v f he]

/-- **Column/constant form** (`colConstExpr.execute`, current Go code, either operand order): on success the
    constant's temp column is gone again; the result is `f` plus exactly the one result column. -/
theorem execColConst_plus (ctx : Ctx) (op src : String) (v : Val) (cf : Bool) (f : Frame) (L : Nat) (wf : WF f L)
    (u : UniqueNames f) (he : f.err = none) (hL : physLen f = L) (hlt : f.cols.length + 2 ≤ 10000)
    (h : (execColConst ctx op src v cf f).1.err = none) :
    ∃ e3, Plus f (execColConst ctx op src v cf f).1 L (execColConst ctx op src v cf f).2 e3 := by
  have A := execLeaf_plus f L wf u he (by omega) "const" goodPrefix_const (constCol f v)
    (by rw [constCol_length, hL])
  have P1 := A.2.1
  rw [← A.1] at P1
  rw [execColConst_eq ctx op src v cf f he] at h ⊢
  exact colConst_step wf P1 (P1.toExt.physLen hL) (by rw [P1.cols_length]; omega) ctx op src cf h

/-- How many free column slots below Go's 10000-name limit the evaluation of `e` asks for: each `tempColName` call must see
fewer than 10000 columns. `ex1`: the operand's temporary and the result; `ex2`: the left temporary is there while the right
operand runs (+1), then left, right and result (3). -/
def need : Ex' → Nat
  | .col _ => 0
  | .const _ => 1
  | .unary _ _ => 1
  | .colCol _ _ _ => 1
  | .colConst _ _ _ _ => 2
  | .ex1 _ e => max (need e) 2
  | .ex2 _ l r => max (need l) (max (need r + 1) 3)
  | .error => 0

theorem Plus.shape {f g : Frame} {L : Nat} {t : String} {e : Entry} (P : Plus f g L t e) :
    ∃ mid, Ext f g L mid ∧ mid.length ≤ 1 ∧ ∀ m, m ∈ mid → m.1 = t :=
  ⟨[e], P.toExt, Nat.le_refl 1, by simp [P.name]⟩

/-- **Every expression.** A successful `execute'` returns `f` itself (column expressions) or `f` plus exactly
    one column — the one it names — appended last; all intermediate temporaries are gone. -/
theorem execute'_shape (ctx : Ctx) (e : Ex') :
    ∀ (f : Frame) (L : Nat), WF f L → UniqueNames f → f.err = none → physLen f = L →
      f.cols.length + need e ≤ 10000 → (execute' ctx e f).1.err = none →
      ∃ mid, Ext f (execute' ctx e f).1 L mid ∧ mid.length ≤ 1 ∧ ∀ m, m ∈ mid → m.1 = (execute' ctx e f).2 := by
  induction e with
  | col n =>
    intro f L wf u he _ _ _
    exact ⟨[], Ext.refl wf u he, by simp, by simp⟩
  | error =>
    intro f L wf u he _ _ h
    simp [execute', he] at h
  | const v =>
    intro f L wf u he hL hlt _
    simp only [need] at hlt
    simp only [execute']
    exact (execConst_plus v f L wf u he hL (by omega)).2.1.shape.imp fun mid hm => by
      rwa [(execConst_plus v f L wf u he hL (by omega)).1]
  | unary op src =>
    intro f L wf u he hL hlt h
    simp only [need] at hlt
    simp only [execute'] at h ⊢
    rw [← drop_nil (execUnary ctx op src f).1] at h ⊢
    obtain ⟨e3, P⟩ := step_unary wf (Ext.refl wf u he) hL (by omega) ctx op src [] (by simp) (by simp) h
    exact P.shape
  | colCol op a b =>
    intro f L wf u he hL hlt h
    simp only [need] at hlt
    simp only [execute'] at h ⊢
    rw [← drop_nil (execColCol ctx op a b f).1] at h ⊢
    obtain ⟨e3, P⟩ := step_colcol wf (Ext.refl wf u he) hL (by omega) ctx op a b [] (by simp) (by simp) h
    exact P.shape
  | colConst op src v cf =>
    intro f L wf u he hL hlt h
    simp only [need] at hlt
    obtain ⟨e3, P⟩ := execColConst_plus ctx op src v cf f L wf u he hL hlt h
    exact P.shape
  | ex1 op e ih =>
    intro f L wf u he hL hlt h
    simp only [need] at hlt
    simp only [execute'] at h ⊢
    have h1 := (execUnary_ok ctx op _ _ (drop_err_none _ _ h)).1
    obtain ⟨mid, E, hlen, hnm⟩ := ih f L wf u he hL (by omega) h1
    have hl : (execute' ctx e f).1.cols.length < 10000 := by rw [E.cols_length]; omega
    obtain ⟨e3, P⟩ := step_unary wf E (E.physLen hL) hl ctx op _ [(execute' ctx e f).2] (by simp)
      (fun m hm => by simp [hnm m hm]) h
    exact P.shape
  | ex2 op l r ihl ihr =>
    intro f L wf u he hL hlt h
    simp only [need] at hlt
    simp only [execute'] at h ⊢
    have h2 := (execColCol_ok ctx op _ _ _ (drop_err_none _ _ h)).1
    have h1 := err_none_of_fixed (execute'_of_err ctx r _) h2
    obtain ⟨m1, E1, hlen1, hnm1⟩ := ihl f L wf u he hL (by omega) h1
    obtain ⟨m2, E2, hlen2, hnm2⟩ := ihr (execute' ctx l f).1 L E1.wf E1.uniq E1.err (E1.physLen hL)
      (by rw [E1.cols_length]; omega) h2
    have E := E1.trans wf E2
    have hl : (execute' ctx r (execute' ctx l f).1).1.cols.length < 10000 := by
      rw [E.cols_length, List.length_append]; omega
    obtain ⟨e3, P⟩ := step_colcol wf E (E.physLen hL) hl ctx op _ _
      [(execute' ctx l f).2, (execute' ctx r (execute' ctx l f).1).2] (by simp)
      (fun m hm => by rcases List.mem_append.mp hm with hm | hm <;> simp [hnm1, hnm2, hm]) h
    exact P.shape

/-! ## 8. `Eval` on every expression, and what the `abs` equation says -/

theorem evalEpilogue_err (f g : Frame) (dst c : String) (h : g.err.isSome = true) : evalEpilogue f dst g c = g := by
  unfold evalEpilogue
  simp only [copy_of_err g dst c h, drop_of_err g _ h, ite_self]

/-- the epilogue when `execute` returned the frame unchanged and names one of its columns (`colExpr`) -/
theorem evalEpilogue_same (f g : Frame) (L : Nat) (wf : WF f L) (E : Ext f g L []) (c dst : String)
    (hn : checkName dst = true) (h : (evalEpilogue f dst g c).err = none) :
    ∃ x, (evalEpilogue f dst g c).abs = absSet f.abs (f.abs.findIdx? (·.1 == dst)) (dst, x) ∧
      (evalEpilogue f dst g c).index = f.index ∧
      WF (evalEpilogue f dst g c) L ∧ UniqueNames (evalEpilogue f dst g c) := by
  have hga : g.abs = f.abs := by rw [E.abs]; simp
  cases hb : g.byName c with
  | none =>
    exfalso
    have h1 : copy g dst c = withErr g .unknownCol := by simp [copy, E.err, hb]
    have hs : (withErr g Err.unknownCol).err.isSome = true := rfl
    have : evalEpilogue f dst g c = withErr g .unknownCol := by
      unfold evalEpilogue
      simp only [h1, drop_of_err _ _ hs, ite_self]
    rw [this] at h
    cases h
  | some cc =>
    have hcs : (g.byName c).isSome = true := by simp [hb]
    have hcf : contains f c = true := by
      unfold contains
      rw [contains_iff wf, ← hga, ← contains_iff E.wf]
      exact hcs
    have hev : evalEpilogue f dst g c = copy g dst c := by simp [evalEpilogue, hcf]
    rw [hev]
    refine ⟨(entry g.index cc).2, ?_, ?_, copy_wf g L E.wf dst c, copy_unique g L E.wf E.uniq dst c⟩
    · by_cases hd : dst = c
      · subst hd
        rw [copy_self g dst hcs, ← hga, ← pos_eq_findIdx g L E.wf E.uniq dst, hb]
        simp only [Option.map_some, absSet]
        obtain ⟨m1, m2⟩ := E.wf.mapOk dst cc hb
        symm
        apply ListFacts.set_self
        rw [abs_eq, List.getElem?_map, m1]
        simp [entry, m2]
      · rw [copy_abs_pure g L E.wf E.uniq dst c E.err hcs hd hn, hga]
        have hl : absLookup f.abs c = some (entry g.index cc) := by
          rw [← hga, ← lookup_eq_absLookup g L E.wf E.uniq c]
          simp [lookup, hb]
        simp only [absCopy, hl]
    · by_cases hd : dst = c
      · subst hd
        rw [copy_self g dst hcs]; exact E.index
      · rw [(copy_abs g L E.wf dst c cc E.err hb hd hn).2.1]; exact E.index

/-- **Eval, every expression** (`eval'`).  If `Eval(dst, e)` succeeds, its logical content is
    that of `f` with one entry named `dst` written at `dst`'s old position, or appended last when `dst` is new;
    the row index is unchanged; the result is well-formed with unique names. -/
theorem eval'_bookkeeping (ctx : Ctx) (f : Frame) (L : Nat) (wf : WF f L) (u : UniqueNames f) (hL : physLen f = L)
    (dst : String) (e : Ex') (hlt : f.cols.length + need e ≤ 10000) (hn : checkName dst = true)
    (h : (eval' ctx f dst e).err = none) :
    ∃ x, (eval' ctx f dst e).abs = absSet f.abs (f.abs.findIdx? (·.1 == dst)) (dst, x) ∧
      (eval' ctx f dst e).index = f.index ∧
      WF (eval' ctx f dst e) L ∧ UniqueNames (eval' ctx f dst e) := by
  cases he : f.err with
  | some x =>
    exfalso
    have : eval' ctx f dst e = f := by simp [eval', he]
    rw [this, he] at h
    cases h
  | none =>
    have hm : (missing e f).isSome = false := by
      cases hm : (missing e f).isSome with
      | false => rfl
      | true =>
        exfalso
        have : eval' ctx f dst e = withErr f .other := by simp [eval', he, hm]
        rw [this] at h
        cases h
    have hev : eval' ctx f dst e = evalEpilogue f dst (execute' ctx e f).1 (execute' ctx e f).2 := by
      simp [eval', he, hm]
    rw [hev] at h ⊢
    obtain ⟨mid, E, hlen, hnm⟩ := execute'_shape ctx e f L wf u he hL hlt
      (err_none_of_fixed (evalEpilogue_err f _ dst _) h)
    match mid, E, hlen, hnm with
    | [], E, _, _ => exact evalEpilogue_same f _ L wf E _ dst hn h
    | [e1], E, _, hnm =>
      have P := E.toPlus
      rw [hnm e1 (by simp)] at P
      obtain ⟨a, b, _, c, d⟩ := evalEpilogue_plus f _ L wf _ e1 P dst (fun _ => hn)
      exact ⟨e1.2, a, b, c, d⟩
    | _ :: _ :: _, _, hlen, _ => simp at hlen

/-! ### reading the `abs` equation -/

/-- the column names afterwards: the old ones in the old order, plus `dst` last if it is new -/
theorem absSet_names (l : List Entry) (dst : String) (x : Ty × List (Option Val)) :
    (absSet l (l.findIdx? (·.1 == dst)) (dst, x)).map (·.1) =
      if dst ∈ l.map (·.1) then l.map (·.1) else l.map (·.1) ++ [dst] := by
  induction l with
  | nil => rfl
  | cons a l ih =>
    rw [absSet_find_cons]
    by_cases h : a.1 = dst
    · simp [h]
    · have h' : ¬ dst = a.1 := fun hh => h hh.symm
      simp only [beq_iff_eq, h, if_false, List.map_cons, ih, List.mem_cons, h', false_or]
      split <;> rfl

/-- every column other than `dst` keeps its position, name, type and cells -/
theorem absSet_other (l : List Entry) (dst : String) (x : Ty × List (Option Val)) (i : Nat) (y : Entry)
    (hy : l[i]? = some y) (hne : y.1 ≠ dst) :
    (absSet l (l.findIdx? (·.1 == dst)) (dst, x))[i]? = some y := by
  induction l generalizing i with
  | nil => simp at hy
  | cons a l ih =>
    rw [absSet_find_cons]
    cases i with
    | zero =>
      simp only [List.getElem?_cons_zero, Option.some.injEq] at hy
      subst hy
      simp [hne]
    | succ i =>
      simp only [List.getElem?_cons_succ] at hy
      split
      · simpa using hy
      · simpa using ih i hy

theorem absSet_dst (l : List Entry) (dst : String) (x : Ty × List (Option Val)) :
    absLookup (absSet l (l.findIdx? (·.1 == dst)) (dst, x)) dst = some (dst, x) := by
  unfold absLookup
  induction l with
  | nil => simp [absSet]
  | cons a l ih =>
    rw [absSet_find_cons]
    by_cases h : a.1 = dst
    · simp [h]
    · simp [h, ih]

/-- no trace of a temporary: a name that was not a column of `f` can only be `dst` -/
theorem absSet_no_trace (l : List Entry) (dst t : String) (x : Ty × List (Option Val)) (ht : t ∉ l.map (·.1))
    (hm : t ∈ (absSet l (l.findIdx? (·.1 == dst)) (dst, x)).map (·.1)) : t = dst := by
  rw [absSet_names] at hm
  split at hm
  · exact absurd hm ht
  · rcases List.mem_append.mp hm with h | h
    · exact absurd h ht
    · simpa using h

/-! ## 9. concrete instance: the hypotheses are satisfiable, the mirror computes

`C08.exF`: columns `a` (int 10,11,12) and `b` (bool), physical length 3, rows in the order 2,0,1. -/

/-- `10 - a`: constant first (the repaired `constFirst` path) -/
def exE : Ex' := newExpr' 10 (.list [.str "-", .const (.int 10), .col "a"])
/-- `(a + 10) + (a - a)`: nested, two intermediate temporaries -/
def exN : Ex' := newExpr' 10 (.list [.str "+", .list [.str "+", .col "a", .const (.int 10)],
  .list [.str "-", .col "a", .col "a"]])
def exC : Col := { ty := .int, data := [.int 7, .int 8, .int 9] }

theorem exE_eq : exE = .colConst "-" "a" (.int 10) true := rfl
example : exE = .colConst "-" "a" (.int 10) true := exE_eq

#eval showF (eval' intCtx exF "y" exE)                 -- y = 10 - a  (Go, repaired)
#eval showF (eval' intCtx exF "a" exE)                 -- dst existing: stays in place
#eval showF (eval' intCtx exF "colcol-temp-0" (.colCol "+" "a" "a"))   -- dst = temp name: kept (repaired)
#eval showF (eval' intCtx exF "y" exN)

-- hypotheses of `tempColName_fresh`
example : WF exF 3 ∧ exF.cols.length < 10000 := ⟨exF_wf, by decide⟩
example : tempColName exF "const" = "const-temp-0" := by rw [tempColName_eq_firstFree]; decide +kernel
-- hypotheses of `execLeaf_plus` / `colConst_plus`
example : WF exF 3 ∧ UniqueNames exF ∧ exF.err = none ∧ exF.cols.length + 1 < 10000 ∧ GoodPrefix "const" ∧
    exC.data.length = 3 := ⟨exF_wf, exF_unique, rfl, by decide, goodPrefix_const, rfl⟩
example : (execLeaf "const" exF exC).1.abs.map (·.1) = ["a", "b", "const-temp-0"] := by
  unfold execLeaf; rw [tempColName_eq_firstFree]; decide +kernel
example : (drop (execLeaf "colcol" (execLeaf "const" exF exC).1 exC).1 [(execLeaf "const" exF exC).2]).abs.map (·.1) =
    ["a", "b", "colcol-temp-0"] := by
  unfold execLeaf; rw [tempColName_eq_firstFree]; decide +kernel
-- hypotheses of `execConst_plus`, `execUnary_plus` (with a context that knows `neg`), `execColCol_plus`
example : physLen exF = 3 := by decide +kernel
def negFn : Val → Val
  | .int x => .int (-x)
  | _ => .int 0
def negCtx : Ctx :=
  { fn1 := fun t op => if t == .int && op == "neg" then some (.int, negFn) else none, fn2 := fun _ _ => none }
example : exF.byName "a" = some exA ∧ negCtx.fn1 exA.col.ty "neg" = some (.int, negFn) :=
  ⟨by decide +kernel, by simp [negCtx, exA]⟩
example : (execUnary negCtx "neg" "a" exF).1.abs.map (·.1) = ["a", "b", "unary-temp-0"] := by
  unfold execUnary; rw [tempColName_eq_firstFree]; decide +kernel
example : exF.byName "a" = some exA ∧ exA.col.ty = exA.col.ty ∧ (intCtx.fn2 exA.col.ty "+").isSome = true :=
  ⟨by decide +kernel, rfl, by decide +kernel⟩
-- hypotheses of `execColConst_plus`
example : exF.cols.length + 2 ≤ 10000 ∧ (execColConst intCtx "-" "a" (.int 10) true exF).1.err = none :=
  ⟨by decide, by
    rw [execColConst_eq _ _ _ _ _ _ rfl]
    unfold execLeaf execColCol
    rw [tempColName_eq_firstFree]
    decide +kernel⟩
-- hypotheses of `evalEpilogue_plus`: a `Plus` instance comes from `execLeaf_plus`; `dst` legal
example : Plus exF (execLeaf "const" exF exC).1 3 (tempColName exF "const")
    (colEntry exF.index (tempColName exF "const") exC) ∧ checkName "y" = true :=
  ⟨(execLeaf_plus exF 3 exF_wf exF_unique rfl (by decide) "const" goodPrefix_const exC rfl).2.1, by decide +kernel⟩
/- Where an example below does not evaluate as it stands, the calls of `tempColName` are brought to the surface (`eval'`,
`execute'` by their equations, the column/constant form by `execColConst_eq`, the leaves by unfolding) and replaced by the
lazy search before the kernel runs. For the nested `exN` the unfolded term is larger than what that spares. -/

-- hypotheses of `execute'_shape` / `eval'_bookkeeping`
example : exF.cols.length + need exN ≤ 10000 ∧ (execute' intCtx exN exF).1.err = none ∧
    (eval' intCtx exF "y" exN).err = none := by decide +kernel
example : exF.cols.length + need exE ≤ 10000 ∧ (eval' intCtx exF "y" exE).err = none := by
  rw [exE_eq]
  simp only [eval', execute']
  rw [execColConst_eq _ _ _ _ _ _ rfl]
  unfold execLeaf execColCol
  rw [tempColName_eq_firstFree]
  decide +kernel
-- and the mirror computes what the theorems say: new `dst` appended, existing `dst` in place, no temporaries
example : (eval' intCtx exF "y" exE).abs =
    [("a", .int, [some (.int 12), some (.int 10), some (.int 11)]),
     ("b", .bool, [some (.bool true), some (.bool true), some (.bool false)]),
     ("y", .int, [some (.int (-2)), some (.int 0), some (.int (-1))])] := by
  rw [exE_eq]
  simp only [eval', execute']
  rw [execColConst_eq _ _ _ _ _ _ rfl]
  unfold execLeaf execColCol; rw [tempColName_eq_firstFree]; decide +kernel
example : (eval' intCtx exF "a" exE).abs =
    [("a", .int, [some (.int (-2)), some (.int 0), some (.int (-1))]),
     ("b", .bool, [some (.bool true), some (.bool true), some (.bool false)])] := by
  rw [exE_eq]
  simp only [eval', execute']
  rw [execColConst_eq _ _ _ _ _ _ rfl]
  unfold execLeaf execColCol; rw [tempColName_eq_firstFree]; decide +kernel
example : (eval' intCtx exF "y" exN).abs.map (·.1) = ["a", "b", "y"] := by decide +kernel
example : (eval' intCtx exF "colcol-temp-0" (.colCol "+" "a" "a")).abs.map (·.1) = ["a", "b", "colcol-temp-0"] := by
  simp only [eval', execute']
  unfold execColCol; rw [tempColName_eq_firstFree]; decide +kernel

#print axioms tempColName_fresh
#print axioms execLeaf_plus
#print axioms execConst_plus
#print axioms execUnary_plus
#print axioms execColCol_plus
#print axioms colConst_plus
#print axioms execColConst_plus
#print axioms evalEpilogue_plus
#print axioms evalEpilogue_same
#print axioms execute'_shape
#print axioms eval'_bookkeeping
#print axioms absSet_names
#print axioms absSet_other
#print axioms absSet_dst
#print axioms absSet_no_trace

end QF.Props.C07Eval
