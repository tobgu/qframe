import QF.Props.C08ProjectGen
/-!
# C08 — `Slice` / `Select` / `Drop` / `Copy` of today's source, end to end (tie T1, composition)

`C08Guards.gen_*_outcome` say what the regenerated guard chains do with every request, `C08ProjectGen.gen_project_semantics`
what the regenerated work does with a request the guards let through (the spec's logical frame, a well-formed physical
frame); `C08ProjectGen.slice_whole` … `copy_whole` put chain and work together, per operation and for ALL arguments, as the
relation `Whole` (rejected, or done). `gen_project_total` reads the logical frame off it; here it is read in full:

* `gen_project_end_to_end` — on every heap, for every well-formed physical frame without error and with pairwise different
  column names, and every `Slice(a, b)` / `Select(names…)` / `Drop(names…)` / `Copy(dst, src)` (valid or not): the whole
  operation as regenerated (guard chain, then the work) has a value; the frame it returns carries an error EXACTLY when the
  spec function (`sliceS` / `selectS` / `dropS` / `copyS` on the logical frame of the receiver) returns `.err` — then it is
  the receiver itself with the error set, on the same heap, with no write at all —; otherwise its logical frame is the
  spec's; and in every case it is again well-formed (`PWF`) with pairwise different names (`Select`: if the requested
  names are pairwise different — `Select("a", "a")` builds a frame with two columns `a`, in the code and in the spec).
* `gen_project_err_iff`    — … read as "rejects iff", spelled out: `Slice` iff `a < 0 ∨ a > b ∨ b > n`, `Select` / `Drop` iff a
  requested name is not a column, `Copy` iff `src` is not a column or `dst ≠ src` is not a legal name.
No hypothesis restricts the requests; `PWF`, `UniqueNames` and `f.err = false` describe the receiver and are preserved
(so the statement applies again to the result; a receiver WITH an error comes back as it is: `gen_project_sticky`).
-/
namespace QF.Props.C08ProjectIff
open QF QF.Props.C08Guards QF.Props.C08ProjectGen

/-- The result `o` of a whole operation on the receiver `f` against the spec's result `spec`: there is one; it is
well-formed (and has pairwise different names if `uniq`); it carries an error exactly when the spec rejects, and then it is
the receiver with the error set, the heap as it was and nothing written; otherwise its logical frame is the spec's. -/
def EndToEnd (h : Heap) (f : PFrame) (L : Nat) (uniq : Prop) (spec : Res) (o : Option POut) : Prop :=
  ∃ f' h' w, o = some (.frame f', h', w) ∧ PWF h' f' L ∧ (uniq → UniqueNames h' f') ∧
    (spec = .err ↔ f'.err = true) ∧
    match spec with
    | .ok l => f'.err = false ∧ f'.abs h' = l
    | .err => f' = { f with err := true } ∧ h' = h ∧ w = []

theorem _root_.QF.Props.C08ProjectGen.Whole.endToEnd {h : Heap} {f : PFrame} {L : Nat} {uniq : Prop} {spec : Res} {o : Option POut}
    (e : Whole h f L uniq spec o) : EndToEnd h f L uniq spec o := by
  cases e with
  | rejected wf u ho =>
    exact ⟨_, h, [], ho, ⟨wf.ixValid, wf.colsIn, wf.mapIn, wf.pos, wf.mapOk, wf.mapTotal, wf.hasCol, wf.ixLt⟩, fun _ => u,
      ⟨fun _ => rfl, fun _ => rfl⟩, rfl, rfl, rfl⟩
  | done ho hs wf' hu he =>
    subst hs
    exact ⟨_, _, _, ho, wf', hu, ⟨nofun, fun x => (by rw [he] at x; cases x)⟩, he, rfl⟩


/-- **`Slice`, `Select`, `Drop`, `Copy` of today's source, end to end.** For every heap `h`, every physical frame `f` on it
that is well-formed (`PWF`), has pairwise different column names and carries no error, and ALL arguments (valid or not): the
whole operation as regenerated — the guard chain `QF.Gen.guardAst` (`C08Guards`), then the work `QF.Gen.projectAst`
(`C08ProjectGen`; `Drop` ends in today's whole `Select`) — returns a frame (`EndToEnd`)
* that carries an error EXACTLY when `sliceS` / `selectS` / `dropS` / `copyS` of the logical frame `f.abs h` is `.err`, and is
  then the receiver itself with the error set, on the unchanged heap, with no write;
* whose logical frame is otherwise exactly the spec's (`Slice`: rows `a … b-1` of every column in the index's order;
  `Select`: the requested columns in the requested order; `Drop`: the remaining columns in the original order; `Copy`: the
  source's cells under the new name, replacing the column of that name in its place or appended last);
* and that is in every case well-formed again, with pairwise different names (`Select`: if the requested names are
  pairwise different).
Nothing is excluded: the hypotheses describe the receiver only, every operation re-establishes them, `New`'s frames have
them, and a receiver that carries an error comes back as it is (`C08ProjectGen.gen_project_sticky`). (Go's `int` is 64 bit,
`a`, `b` here are unbounded: that only restricts the requests.) -/
theorem gen_project_end_to_end (X : Ext) (h : Heap) (f : PFrame) (L : Nat) (wf : PWF h f L) (u : UniqueNames h f)
    (he : f.err = false) :
    (∀ a b : Int, EndToEnd h f L True (sliceS (f.abs h) a b)
      (genFull "Slice" { physReq h f with start := a, stop := b } { genEnv X f with start := a, stop := b } h)) ∧
    (∀ names : List Bytes, EndToEnd h f L names.Nodup (selectS (f.abs h) names)
      (genFull "Select" { physReq h f with columns := names } { genEnv X f with names := names } h)) ∧
    (∀ names : List Bytes, EndToEnd h f L True (dropS (f.abs h) names)
      (genFull "Drop" { physReq h f with columns := names } { genEnv X f with names := names } h)) ∧
    (∀ dst src : Bytes, EndToEnd h f L True (copyS (f.abs h) dst src)
      (genFull "Copy" { physReq h f with dst := dst, src := src } { genEnv X f with dst := dst, src := src } h)) :=
  ⟨fun a b => (slice_whole X h f L wf u he a b).endToEnd, fun ns => (select_whole X h f L wf u he ns).endToEnd,
   fun ns => (drop_whole X h f L wf u he ns).endToEnd, fun d s => (copy_whole X h f L wf u he d s).endToEnd⟩

/-- does the result of an operation carry an error? (`none`: no result) -/
def errOf : Option POut → Option Bool
  | some (.frame f', _, _) => some f'.err
  | _ => none

theorem errOf_of {h : Heap} {f : PFrame} {L : Nat} {uniq : Prop} {spec : Res} {o : Option POut}
    (e : EndToEnd h f L uniq spec o) : ∃ b, errOf o = some b ∧ (b = true ↔ spec = .err) := by
  obtain ⟨f', h', w, ho, _, _, hi, _⟩ := e
  exact ⟨f'.err, by rw [ho]; rfl, hi.symm⟩

/-- **… read as "rejects iff"**, with the conditions spelled out (`C10Sticky`): the whole regenerated operation returns a
frame, and the frame carries an error iff — `Slice(a, b)`: `a < 0 ∨ a > b ∨ b > n`; `Select` / `Drop`: a requested name is
not a column (`Drop()` of nothing never); `Copy(dst, src)`: `src` is not a column, or `dst ≠ src` and `dst` is not a legal
name. -/
theorem gen_project_err_iff (X : Ext) (h : Heap) (f : PFrame) (L : Nat) (wf : PWF h f L) (u : UniqueNames h f)
    (he : f.err = false) :
    (∀ a b : Int, ∃ e, errOf (genFull "Slice" { physReq h f with start := a, stop := b }
        { genEnv X f with start := a, stop := b } h) = some e ∧
      (e = true ↔ a < 0 ∨ a > b ∨ b > (f.abs h).n)) ∧
    (∀ names : List Bytes, ∃ e, errOf (genFull "Select" { physReq h f with columns := names }
        { genEnv X f with names := names } h) = some e ∧
      (e = true ↔ ∃ n ∈ names, (f.abs h).has n = false)) ∧
    (∀ names : List Bytes, ∃ e, errOf (genFull "Drop" { physReq h f with columns := names }
        { genEnv X f with names := names } h) = some e ∧
      (e = true ↔ ∃ n ∈ names, (f.abs h).has n = false)) ∧
    (∀ dst src : Bytes, ∃ e, errOf (genFull "Copy" { physReq h f with dst := dst, src := src }
        { genEnv X f with dst := dst, src := src } h) = some e ∧
      (e = true ↔ (f.abs h).has src = false ∨ (dst ≠ src ∧ legalName dst = false))) := by
  obtain ⟨t1, t2, t3, t4⟩ := gen_project_end_to_end X h f L wf u he
  refine ⟨fun a b => ?_, fun names => ?_, fun names => ?_, fun dst src => ?_⟩
  · obtain ⟨e, h1, h2⟩ := errOf_of (t1 a b)
    exact ⟨e, h1, h2.trans (C10Sticky.sliceS_err_iff _ a b)⟩
  · obtain ⟨e, h1, h2⟩ := errOf_of (t2 names)
    exact ⟨e, h1, h2.trans (C10Sticky.selectS_err_iff _ names)⟩
  · obtain ⟨e, h1, h2⟩ := errOf_of (t3 names)
    exact ⟨e, h1, h2.trans (C10Sticky.dropS_err_iff _ names)⟩
  · obtain ⟨e, h1, h2⟩ := errOf_of (t4 dst src)
    exact ⟨e, h1, h2.trans (C10Sticky.copyS_err_iff _ dst src)⟩

/-! ## A concrete instance -/

section Example

/-- the frame of `C08ProjectGen` (columns `a: int`, `b: bool`, physical length 3, rows in the order 2, 0, 1) meets the
hypotheses … -/
example : PWF exH exF 3 ∧ UniqueNames exH exF ∧ exF.err = false := ⟨exF_wf, exF_unique, rfl⟩

/-- … and the whole operations compute on it: valid requests give the spec's cells, invalid ones (`Slice(2, 4)` on three
rows, `Select("z")`, `Drop("z")`, `Copy("$x", "a")`, `Copy("c", "z")`) give an error. -/
example :
    shown (genFull "Slice" { physReq exH exF with start := 1, stop := 3 } { genEnv exX exF with start := 1, stop := 3 } exH) =
      some [([97], [.int 10, .int 11]), ([98], [.bool true, .bool false])] ∧
    errOf (genFull "Slice" { physReq exH exF with start := 2, stop := 4 } { genEnv exX exF with start := 2, stop := 4 } exH) =
      some true ∧
    errOf (genFull "Select" { physReq exH exF with columns := [[122]] } { genEnv exX exF with names := [[122]] } exH) =
      some true ∧
    shown (genFull "Drop" { physReq exH exF with columns := [[97]] } { genEnv exX exF with names := [[97]] } exH) =
      some [([98], [.bool true, .bool true, .bool false])] ∧
    errOf (genFull "Drop" { physReq exH exF with columns := [[122]] } { genEnv exX exF with names := [[122]] } exH) =
      some true ∧
    errOf (genFull "Copy" { physReq exH exF with dst := [36, 120], src := [97] }
      { genEnv exX exF with dst := [36, 120], src := [97] } exH) = some true ∧
    errOf (genFull "Copy" { physReq exH exF with dst := [99], src := [122] }
      { genEnv exX exF with dst := [99], src := [122] } exH) = some true ∧
    errOf (genFull "Copy" { physReq exH exF with dst := [99], src := [97] }
      { genEnv exX exF with dst := [99], src := [97] } exH) = some false := by
  refine ⟨?_, ?_, ?_, ?_, ?_, ?_, ?_, ?_⟩ <;> decide +kernel

end Example

end QF.Props.C08ProjectIff

#print axioms QF.Props.C08ProjectIff.gen_project_end_to_end
#print axioms QF.Props.C08ProjectIff.gen_project_err_iff
