import QF.Props.C09Observe
import QF.Spec.Render
import QF.Gen.Writers
/-!
# C13 (C15) — the records today's `QFrame.ToCSV` hands to the csv writer are `C13Write.tocsvRows` (tie T1, by semantics)

`QF.Gen.toCsvAst` (regenerated on every run by go/cmd/extract/wast.go) is the body of `QFrame.ToCSV` after the configuration
is fetched and the frame's error is checked, as a record program `QF.CW` (QF/Core/WExpr.lean): the column selection
(`conf.Columns` resolved through the name map, with its two rejections, or the frame's columns), the names of the selection,
their second resolution through the name map, the csv writer, the header record when `conf.Header`, one record per row with
`col.StringAt(qf.index[i], "")` over the resolved columns, `w.Flush()`, `return w.Error()`. `CW.run` is its Go meaning. This
file proves, for the term generated TODAY:

* `gen_tocsv_no_opaque`, `gen_tocsv_canon` — the function was translated completely and the term is the canonical one
* `gen_tocsv_default`     — no column list: on every frame with distinct column names the records handed to the writer are
                            `C13Write.tocsvRows fmt hdr f` (cut after a failing `w.Write`)
* `gen_tocsv_given`       — a column list of the right length whose names all exist (in particular a permutation of the
                            names): the records are `tocsvRows fmt hdr { f with cols := cs }` for the columns `cs` it names
* `gen_tocsv_reject`      — a list of another length, or with an unknown name: an error, nothing is handed to the writer
* `gen_tocsv_semantics`   — the three cases in terms of the spec's `csvColumns f cols`
* `gen_tocsv_error`       — (no column list) the final error is the writer's: when no `w.Write` fails the writer is flushed and `w.Error()` is
                            returned; a failing `w.Write` number `k` ends `ToCSV` after `k + 1` records, without `Flush`
* `gen_tocsv_read`        — (no column list) so `C13Write.tocsv_rows` is a statement about the records of today's code:
                            the RFC 4180 scanner reads them back from the csv writer's bytes.

The cell strings are those of today's `StringAt(·, "")` (`C09Observe.genStringAt`, `gen_stringAt_semantics`).
-/
namespace QF.Props.C13WriterGen
open QF QF.Props.C13Write

-- `simp` below runs the interpreter; its equations are derived in its own module (QF/Core/WExpr.lean, `CW.run_done`)
attribute [local simp] CW.run

/-! ## The canonical program -/

def cellsBody : CW := .recPush (.cellString []) .done

def canonRowBody : CW := .recReset (.forResolved cellsBody (.writeRec .done))

def canonTail3 : CW := .newWriter (.ifHeader (.writeRec .done) (.forRows canonRowBody (.flush .retWriterErr)))

def resolveBody : CW := .colsPush .recLookup .done

def canonTail2 : CW := .colsNew (.forRec resolveBody canonTail3)

def namesBody : CW := .recPush .selName .done

def canonTail : CW := .recNew (.forSel namesBody canonTail2)

def canonGivenBody : CW := .lookupGiven .retErr (.selSet .done) .done

def canonToCSV : CW :=
  .ifGiven (.rejectIfLenNe (.selAlloc (.forGiven canonGivenBody .done))) (.selFrame .done) canonTail

theorem gen_tocsv_no_opaque : Gen.toCsvAst.hasOpaque = false := by decide

theorem gen_tocsv_canon : Gen.toCsvAst = canonToCSV := by decide

/-! ## Generic facts -/

/-- a column found under a name has that name, is a column of the frame, and is found again under its own name -/
theorem find_spec (f : LFrame) (nm : Bytes) (c : LCol) (h : f.find? nm = some c) :
    c ∈ f.cols ∧ c.name = nm ∧ f.find? c.name = some c := by
  unfold LFrame.find? at h
  have hm := List.mem_of_find?_eq_some h
  have hp := List.find?_some h
  have hn : c.name = nm := by simpa using hp
  exact ⟨hm, hn, by rw [hn]; exact h⟩

/-- with distinct names every column is the one its name finds -/
theorem find_of_nodup (cols : List LCol) (hnd : (cols.map (·.name)).Nodup) :
    ∀ c ∈ cols, cols.find? (·.name == c.name) = some c :=
  ListFacts.find?_key_of_mem (·.name) cols hnd

/-! ## The loops of the canonical program, once and for all -/

section loops
variable (E : CWEnv) (c : CWCtx)

/-- `for _, s := range sel { rec = append(rec, s.name) }` -/
theorem loop_names : ∀ (l : List (Option LCol)) (j : Nat) (σ : CWSt), σ.ret = none →
    loopIdx (fun _ s σ => namesBody.run E { c with s := some s } σ) (fun σ => σ.ret.isSome) j l σ
      = some { σ with recd := σ.recd ++ l.map (fun s => (s.map (·.name)).getD []) }
  | [], _, σ, _ => by simp [loopIdx]
  | s :: l, j, σ, h => by
    rw [loopIdx_cons _ _ _ _ _ _ (by rw [h]; rfl)]
    exact (loop_names l _ { σ with recd := σ.recd ++ [(s.map (·.name)).getD []] } h).trans (by simp)

/-- `for _, name := range rec { cols = append(cols, qf.columnsByName[name]) }` -/
theorem loop_resolve : ∀ (l : List Bytes) (j : Nat) (σ : CWSt), σ.ret = none →
    loopIdx (fun _ nm σ => resolveBody.run E { c with nm := some nm } σ) (fun σ => σ.ret.isSome) j l σ
      = some { σ with cols := σ.cols ++ l.map E.f.find? }
  | [], _, σ, _ => by simp [loopIdx]
  | nm :: l, j, σ, h => by
    rw [loopIdx_cons _ _ _ _ _ _ (by rw [h]; rfl)]
    exact (loop_resolve l _ { σ with cols := σ.cols ++ [E.f.find? nm] } h).trans (by simp)

/-- `for _, col := range cols { rec = append(rec, col.StringAt(qf.index[i], "")) }` -/
theorem loop_cells (fmt : UInt64 → Bytes) (i : Nat) : ∀ (cs : List LCol) (j : Nat) (σ : CWSt), σ.ret = none →
    (∀ x ∈ cs, E.strAt x [] x.cells[i]! = some (cellString fmt x.cells[i]!)) →
    loopIdx (fun _ col σ => cellsBody.run E { c with row := some i, col := some col } σ)
        (fun σ => σ.ret.isSome) j (cs.map some) σ
      = some { σ with recd := σ.recd ++ cs.map (fun x => cellString fmt x.cells[i]!) }
  | [], _, σ, _, _ => by simp [loopIdx]
  | x :: cs, j, σ, h, hs => by
    have hstep : cellsBody.run E { c with row := some i, col := some (some x) } σ
        = some { σ with recd := σ.recd ++ [cellString fmt x.cells[i]!] } := by
      simp only [cellsBody, CW.run, hs x (by simp)]
    rw [List.map_cons, loopIdx_cons _ _ _ _ _ _ (by rw [h]; rfl), hstep]
    exact (loop_cells fmt i cs _ { σ with recd := σ.recd ++ [cellString fmt x.cells[i]!] } h
      (fun y hy => hs y (by simp [hy]))).trans (by simp)

end loops

/-- the record of row `i` over the columns `cs` -/
def recOf (fmt : UInt64 → Bytes) (cs : List LCol) (i : Nat) : List Bytes := cs.map (fun x => cellString fmt x.cells[i]!)

/-- one row: the record is reset, filled from the resolved columns and handed to the writer -/
theorem canon_row (E : CWEnv) (c : CWCtx) (fmt : UInt64 → Bytes) (cs : List LCol) (i : Nat)
    (h : ∀ x ∈ cs, E.strAt x [] x.cells[i]! = some (cellString fmt x.cells[i]!))
    (σ : CWSt) (hc : σ.cols = cs.map some) (hw : σ.writer = true) (hr : σ.ret = none) :
    canonRowBody.run E { c with row := some i } σ
      = some { σ with recd := recOf fmt cs i, recs := σ.recs ++ [recOf fmt cs i],
                      ret := if E.wfail σ.recs.length then some .writeErr else none } := by
  obtain ⟨sel, recd, cols, writer, recs, flushed, ret⟩ := σ
  cases hc; cases hw; cases hr
  simp only [canonRowBody, CW.run]
  rw [loop_cells E c fmt i cs 0 _ rfl h]
  by_cases hf : E.wfail recs.length = true <;> simp [hf, recOf]

/-- what the caller sees when the records `rows` are handed to the writer one by one: the records up to the first failing
`Write`; the writer is flushed iff none failed; the error is the failing `Write`'s, else `w.Error()` -/
def csvResult (E : CWEnv) (rows : List (List Bytes)) : List (List Bytes) × Bool × CWRet :=
  ((cutWrites E.wfail 0 rows).1, !(cutWrites E.wfail 0 rows).2,
    if (cutWrites E.wfail 0 rows).2 then .writeErr else if E.ferr then .writerErr else .nil)

/-- what the caller sees of a final state -/
def out (σ : CWSt) : Option (List (List Bytes) × Bool × CWRet) := σ.ret.map (fun r => (σ.recs, σ.flushed, r))

theorem output_eq (E : CWEnv) (p : CW) : p.output E = (p.run E {} {}).bind out := by
  unfold CW.output out
  cases p.run E {} {} <;> rfl

/-- the writer part: the header record if asked for, one record per row, `Flush`, `w.Error()` -/
theorem canon_tail3 (E : CWEnv) (fmt : UInt64 → Bytes) (cs : List LCol)
    (hstr : ∀ i, i < E.f.n → ∀ x ∈ cs, E.strAt x [] x.cells[i]! = some (cellString fmt x.cells[i]!))
    (c : CWCtx) (sel : List (Option LCol)) (wr : Bool) :
    (canonTail3.run E c { sel := sel, recd := cs.map (·.name), cols := cs.map some, writer := wr }).bind out
      = some (csvResult E (tocsvRows fmt E.hdr { cols := cs, n := E.f.n })) := by
  -- the row loop: one record per row, until a `w.Write` fails
  have hrows := loopIdx_writes (fun _ i σ => canonRowBody.run E { c with row := some i } σ) CWSt.ret E.wfail
    (fun r w e => { sel := sel, recd := r, cols := cs.map some, writer := true, recs := w, ret := e }) .writeErr (recOf fmt cs)
    (fun _ _ _ => rfl) (List.range E.f.n)
    (fun i hi _ _ _ => ⟨_, canon_row E c fmt cs i (hstr i (List.mem_range.1 hi)) _ rfl rfl rfl⟩) 0 (cs.map (·.name))
  simp only [canonTail3, CW.run, if_true]
  rw [show tocsvRows fmt E.hdr { cols := cs, n := E.f.n } = _ ++ (List.range E.f.n).map (recOf fmt cs) from tocsvRows_eq ..]
  cases hh : E.hdr
  · -- no header
    obtain ⟨r', h1⟩ := hrows []
    simp only [Bool.false_eq_true, if_false]
    rw [h1]
    simp only [List.length_nil, List.nil_append, csvResult]
    by_cases hc : (cutWrites E.wfail 0 ((List.range E.f.n).map (recOf fmt cs))).2 = true <;> simp [out, hc]
  · -- the header record first
    simp only [if_true, List.length_nil]
    cases h0 : E.wfail 0
    · obtain ⟨r', h1⟩ := hrows [cs.map (·.name)]
      simp only [Bool.false_eq_true, if_false, Option.isSome_none, List.nil_append]
      rw [h1]
      simp only [List.length_cons, List.length_nil, Nat.zero_add, csvResult, if_true, List.cons_append,
        List.nil_append, cutWrites, h0, Bool.false_eq_true, if_false]
      by_cases hc : (cutWrites E.wfail 1 ((List.range E.f.n).map (recOf fmt cs))).2 = true <;> simp [out, hc]
    · simp [csvResult, cutWrites, out, h0]

/-- **Everything after the selection**: with the selection `cs` (every column of which is found under its own name) the
records handed to the writer are the header (if asked for) and one record per row. -/
theorem canon_tail (E : CWEnv) (fmt : UInt64 → Bytes) (cs : List LCol)
    (hres : ∀ x ∈ cs, E.f.find? x.name = some x)
    (hstr : ∀ i, i < E.f.n → ∀ x ∈ cs, E.strAt x [] x.cells[i]! = some (cellString fmt x.cells[i]!))
    (c : CWCtx) (r0 : List Bytes) (c0 : List (Option LCol)) :
    (canonTail.run E c { sel := cs.map some, recd := r0, cols := c0 }).bind out
      = some (csvResult E (tocsvRows fmt E.hdr { cols := cs, n := E.f.n })) := by
  have hn : (cs.map some).map (fun s => (s.map (·.name)).getD []) = cs.map (·.name) := by
    simp [Function.comp_def]
  have hr : (cs.map (·.name)).map E.f.find? = cs.map some := by
    rw [List.map_map]
    exact List.map_congr_left hres
  simp only [canonTail, canonTail2, CW.run]
  rw [loop_names E c (cs.map some) 0 _ rfl, hn]
  simp only [Option.isSome_none, Bool.false_eq_true, if_false, List.nil_append]
  rw [loop_resolve E c (cs.map (·.name)) 0 _ rfl, hr]
  simp only [Option.isSome_none, Bool.false_eq_true, if_false, List.nil_append]
  exact canon_tail3 E fmt cs hstr c _ _

/-! ## The selection -/

/-- `for i := range conf.Columns { … iterCols[i] = col }`: the selection is filled from the left with the columns the names
find; the first name that finds none ends `ToCSV` with its error. -/
theorem given_loop (E : CWEnv) (c : CWCtx) (r : List Bytes) (cl : List (Option LCol)) : ∀ (rest : List Bytes) (done : List LCol),
    ∃ sel', loopIdx (fun i nm σ => canonGivenBody.run E { c with g := some (i, nm) } σ) (fun σ => σ.ret.isSome) done.length rest
        { sel := done.map some ++ List.replicate rest.length none, recd := r, cols := cl }
      = some (match optMap E.f.find? rest with
          | some cs' => { sel := (done ++ cs').map some, recd := r, cols := cl }
          | none => { sel := sel', recd := r, cols := cl, ret := some .reject })
  | [], done => ⟨[], by simp [loopIdx, optMap]⟩
  | nm :: rest, done => by
    rw [loopIdx_cons _ _ _ _ _ _ rfl, optMap]
    cases hf : E.f.find? nm with
    | none =>
      refine ⟨done.map some ++ List.replicate (nm :: rest).length none, ?_⟩
      simp only [canonGivenBody, CW.run, hf]
      exact loopIdx_stop _ _ _ _ _ rfl
    | some x =>
      obtain ⟨sel', ih⟩ := given_loop E c r cl rest (done ++ [x])
      have hset : (done.map some ++ List.replicate (nm :: rest).length (none : Option LCol)).set done.length (some x)
          = (done ++ [x]).map some ++ List.replicate rest.length none := by
        simp [List.replicate_succ]
      have hlt : done.length < (done.map some ++ List.replicate (nm :: rest).length (none : Option LCol)).length := by simp
      simp only [canonGivenBody, CW.run, hf, hlt, if_true, hset]
      rw [List.length_append, List.length_singleton] at ih
      refine ⟨sel', ih.trans ?_⟩
      cases optMap E.f.find? rest <;> simp

/-! ## The canonical program on every request -/

/-- the cell strings are `cellString fmt` on the frame's cells -/
def EnvOK (fmt : UInt64 → Bytes) (E : CWEnv) : Prop :=
  ∀ x ∈ E.f.cols, ∀ i, i < E.f.n → E.strAt x [] x.cells[i]! = some (cellString fmt x.cells[i]!)

theorem canon_default (E : CWEnv) (fmt : UInt64 → Bytes) (hE : EnvOK fmt E) (hg : E.given = none)
    (hnd : E.f.names.Nodup) :
    canonToCSV.output E = some (csvResult E (tocsvRows fmt E.hdr E.f)) := by
  have h1 := canon_tail E fmt E.f.cols (find_of_nodup E.f.cols hnd) (fun i hi x hx => hE x hx i hi) {} [] []
  rw [output_eq]
  unfold canonToCSV
  simp only [CW.run, hg, Option.isSome_none, Bool.false_eq_true, if_false]
  exact h1

theorem canon_given (E : CWEnv) (fmt : UInt64 → Bytes) (hE : EnvOK fmt E) (g : List Bytes) (cs : List LCol)
    (hg : E.given = some g) (hl : g.length = E.f.cols.length) (hcs : optMap E.f.find? g = some cs) :
    canonToCSV.output E = some (csvResult E (tocsvRows fmt E.hdr { cols := cs, n := E.f.n })) := by
  obtain ⟨hlen, hmem⟩ := optMap_mem _ _ _ hcs
  have hfind : ∀ x ∈ cs, x ∈ E.f.cols ∧ E.f.find? x.name = some x := by
    intro x hx
    obtain ⟨nm, _, e⟩ := hmem x hx
    exact ⟨(find_spec E.f nm x e).1, (find_spec E.f nm x e).2.2⟩
  have h1 := canon_tail E fmt cs (fun x hx => (hfind x hx).2) (fun i hi x hx => hE x (hfind x hx).1 i hi) {} [] []
  obtain ⟨_, hsel⟩ := given_loop E {} [] [] g []
  rw [hcs] at hsel
  simp only [List.map_nil, List.nil_append, List.length_nil] at hsel
  rw [output_eq]
  unfold canonToCSV
  simp only [CW.run, hg, Option.isSome_some, if_true, hl, ne_eq, not_true_eq_false, if_false, Option.getD_some]
  rw [← hl, hsel]
  simp only [Option.isSome_none, Bool.false_eq_true, if_false]
  exact h1

theorem canon_reject_len (E : CWEnv) (g : List Bytes) (hg : E.given = some g) (hl : g.length ≠ E.f.cols.length) :
    canonToCSV.output E = some ([], false, .reject) := by
  unfold CW.output canonToCSV
  simp [CW.run, hg, hl]

theorem canon_reject_unknown (E : CWEnv) (g : List Bytes) (hg : E.given = some g) (hl : g.length = E.f.cols.length)
    (hcs : optMap E.f.find? g = none) :
    canonToCSV.output E = some ([], false, .reject) := by
  obtain ⟨sel', h⟩ := given_loop E {} [] [] g []
  rw [hcs] at h
  simp only [List.map_nil, List.nil_append, List.length_nil] at h
  unfold CW.output canonToCSV
  simp only [CW.run, hg, Option.isSome_some, if_true, hl, ne_eq, not_true_eq_false, if_false, Option.getD_some]
  rw [← hl, h]
  simp

/-! ## Today's `ToCSV` -/

/-- the environment of today's source: a cell string is what today's extracted `StringAt` of the column's package returns
(`fmt` = `strconv.FormatFloat(·, 'f', -1, 64)`) -/
def genEnv (fmt : UInt64 → Bytes) (f : LFrame) (given : Option (List Bytes)) (hdr : Bool) (wfail : Nat → Bool) (ferr : Bool) :
    CWEnv where
  f := f
  given := given
  hdr := hdr
  strAt := fun c naRep x =>
    match C09Observe.genStringAt ⟨fmt, fmt, C14.appendQuoted⟩ c.ty c.vals naRep [] x with
    | some (.str b) => some b
    | _ => none
  wfail := wfail
  ferr := ferr

/-- what a caller of today's `ToCSV` sees: the records handed to `csv.Writer.Write`, whether `Flush` was called, the return -/
def genToCSV (fmt : UInt64 → Bytes) (f : LFrame) (given : Option (List Bytes)) (hdr : Bool) (wfail : Nat → Bool)
    (ferr : Bool) : Option (List (List Bytes) × Bool × CWRet) :=
  Gen.toCsvAst.output (genEnv fmt f given hdr wfail ferr)

theorem genEnv_ok (fmt : UInt64 → Bytes) (f : LFrame) (given : Option (List Bytes)) (hdr : Bool) (wfail : Nat → Bool)
    (ferr : Bool) (hf : C09Observe.FrameTyped f) : EnvOK fmt (genEnv fmt f given hdr wfail ferr) := by
  intro x hx i hi
  have ht := hf x hx
  simp only [genEnv]
  rw [C09Observe.gen_stringAt_semantics ht.1 fmt x.vals _ (ht.2 i hi) fmt C14.appendQuoted []]

/-- the writer does not fail -/
def noFault : Nat → Bool := fun _ => false

theorem csvResult_nofault (E : CWEnv) (h : E.wfail = noFault) (rows : List (List Bytes)) :
    csvResult E rows = (rows, true, if E.ferr then .writerErr else .nil) := by
  have := cutWrites_nofail E.wfail (fun k => by rw [h]; rfl) rows 0
  simp [csvResult, this]

/-- **No column list** (`conf.Columns == nil`): on every frame with distinct column names whose cells are of their column's
type, today's `ToCSV` hands to the csv writer exactly `C13Write.tocsvRows fmt hdr f` — the names if `hdr`, then per row the
strings `StringAt(qf.index[i], "")` of today's column code in column order —, flushes, and returns `w.Error()`. -/
theorem gen_tocsv_default (fmt : UInt64 → Bytes) (f : LFrame) (hf : C09Observe.FrameTyped f) (hnd : f.names.Nodup)
    (hdr ferr : Bool) :
    genToCSV fmt f none hdr noFault ferr = some (tocsvRows fmt hdr f, true, if ferr then .writerErr else .nil) := by
  rw [genToCSV, gen_tocsv_canon, canon_default _ fmt (genEnv_ok fmt f none hdr noFault ferr hf) rfl hnd, csvResult_nofault _ rfl]
  rfl

/-- **A column list** of the frame's length whose names all exist — in particular a permutation of the column names —:
the records are those of the frame with the columns `cs` the list names, in the list's order. -/
theorem gen_tocsv_given (fmt : UInt64 → Bytes) (f : LFrame) (hf : C09Observe.FrameTyped f) (cols : List Bytes)
    (cs : List LCol) (hl : cols.length = f.cols.length) (hcs : cols.mapM f.find? = some cs) (hdr ferr : Bool) :
    genToCSV fmt f (some cols) hdr noFault ferr =
      some (tocsvRows fmt hdr { f with cols := cs }, true, if ferr then .writerErr else .nil) := by
  rw [← optMap_eq_mapM] at hcs
  rw [genToCSV, gen_tocsv_canon, canon_given _ fmt (genEnv_ok fmt f _ hdr noFault ferr hf) cols cs rfl hl hcs,
    csvResult_nofault _ rfl]
  rfl

/-- **Rejections**: a list of another length, or with a name the frame does not have: `ToCSV` returns its own error and no
record has been handed to a writer. -/
theorem gen_tocsv_reject (fmt : UInt64 → Bytes) (f : LFrame) (cols : List Bytes)
    (h : cols.length ≠ f.cols.length ∨ cols.mapM f.find? = none) (hdr ferr : Bool) (wfail : Nat → Bool) :
    genToCSV fmt f (some cols) hdr wfail ferr = some ([], false, .reject) := by
  rw [genToCSV, gen_tocsv_canon]
  by_cases hl : cols.length = f.cols.length
  · rcases h with h | h
    · exact absurd hl h
    · rw [← optMap_eq_mapM] at h
      exact canon_reject_unknown _ cols rfl hl h
  · exact canon_reject_len _ cols rfl hl

/-- **Today's `ToCSV` against the spec's column selection** (`csvColumns`; the harness passes nil for an empty list): the
request is rejected iff `csvColumns f cols = none`; otherwise the records handed to the writer are `tocsvRows` of the
frame with the selected columns `cs` (`cs = f.cols` for the default order, the permuted columns for a permutation). -/
theorem gen_tocsv_semantics (fmt : UInt64 → Bytes) (f : LFrame) (hf : C09Observe.FrameTyped f) (hnd : f.names.Nodup)
    (cols : List Bytes) (hdr ferr : Bool) :
    genToCSV fmt f (if cols.isEmpty then none else some cols) hdr noFault ferr =
      match csvColumns f cols with
      | some cs => some (tocsvRows fmt hdr { f with cols := cs }, true, if ferr then .writerErr else .nil)
      | none => some ([], false, .reject) := by
  unfold csvColumns
  cases cols with
  | nil => exact gen_tocsv_default fmt f hf hnd hdr ferr
  | cons a as =>
    simp only [List.isEmpty_cons, Bool.false_eq_true, if_false]
    by_cases hl : (a :: as).length = f.cols.length
    · have : ((a :: as).length != f.cols.length) = false := by simp [hl]
      rw [this]
      simp only [Bool.false_eq_true, if_false]
      cases hcs : (a :: as).mapM f.find? with
      | none => exact gen_tocsv_reject fmt f _ (.inr hcs) hdr ferr _
      | some cs => exact gen_tocsv_given fmt f hf _ cs hl hcs hdr ferr
    · have : ((a :: as).length != f.cols.length) = true := by simpa using hl
      rw [this]
      exact gen_tocsv_reject fmt f _ (.inl hl) hdr ferr _

/-- **The final error is the writer's.** Without a column list: if `w.Write` number `k` is the first to return an error,
`ToCSV` returns that error after exactly `k + 1` records, without calling `Flush`; if none fails, the writer is flushed and
`w.Error()` is what `ToCSV` returns (nil or not). -/
theorem gen_tocsv_error (fmt : UInt64 → Bytes) (f : LFrame) (hf : C09Observe.FrameTyped f) (hnd : f.names.Nodup)
    (hdr ferr : Bool) (wfail : Nat → Bool) :
    genToCSV fmt f none hdr wfail ferr =
      some ((cutWrites wfail 0 (tocsvRows fmt hdr f)).1, !(cutWrites wfail 0 (tocsvRows fmt hdr f)).2,
        if (cutWrites wfail 0 (tocsvRows fmt hdr f)).2 then .writeErr else if ferr then .writerErr else .nil) := by
  rw [genToCSV, gen_tocsv_canon, canon_default _ fmt (genEnv_ok fmt f none hdr wfail ferr hf) rfl hnd]
  rfl

/-- **`tocsv_rows` is a statement about today's code**: the bytes Go's csv writer makes of the records today's `ToCSV`
hands to it are read back by the RFC 4180 scanner as exactly these records (frame with at least one column). -/
theorem gen_tocsv_read (fmt : UInt64 → Bytes) (f : LFrame) (hf : C09Observe.FrameTyped f) (hnd : f.names.Nodup)
    (hc : f.cols ≠ []) (hdr : Bool) :
    ∃ recs, genToCSV fmt f none hdr noFault false = some (recs, true, .nil) ∧ rfcParse 44 (csvWrite recs) = recs := by
  refine ⟨tocsvRows fmt hdr f, gen_tocsv_default fmt f hf hnd hdr false, ?_⟩
  exact tocsv_rows fmt hdr f hc

/-! ## Witnesses: the statements tell wrong record programs apart -/

def wFmt : UInt64 → Bytes := fun _ => [48]

/-- the cell strings of the witnesses: `naRep` for a null cell, else `cellString` -/
def wEnv (f : LFrame) (given : Option (List Bytes)) (hdr : Bool) : CWEnv :=
  { f := f, given := given, hdr := hdr, strAt := fun _ naRep x => some (if x.isNull then naRep else cellString wFmt x),
    wfail := fun _ => false, ferr := false }

/-- columns `a` (bool) and `b` (string, second cell null), two rows -/
def wFrame : LFrame :=
  { cols := [{ name := [97], ty := .bool, cells := #[.bool true, .bool false] },
             { name := [98], ty := .string, cells := #[.str (some [120]), .str none] }],
    n := 2 }

/-- the canonical program: header, `true,x`, `false,` — and `b,a` order for the list `[b, a]` -/
example : canonToCSV.output (wEnv wFrame none true) =
      some ([[[97], [98]], [[116, 114, 117, 101], [120]], [[102, 97, 108, 115, 101], []]], true, .nil) ∧
    canonToCSV.output (wEnv wFrame (some [[98], [97]]) false) =
      some ([[[120], [116, 114, 117, 101]], [[], [102, 97, 108, 115, 101]]], true, .nil) ∧
    tocsvRows wFmt true wFrame = [[[97], [98]], [[116, 114, 117, 101], [120]], [[102, 97, 108, 115, 101], []]] := by
  decide +kernel

/-- `StringAt(·, "null")` instead of `StringAt(·, "")`: the null cell is written as `null`, not as the empty field
`tocsvRows` has (and `ReadCSV` would read back as null). -/
def naRepNull : CW :=
  .ifGiven (.rejectIfLenNe (.selAlloc (.forGiven canonGivenBody .done))) (.selFrame .done)
    (.recNew (.forSel namesBody (.colsNew (.forRec resolveBody (.newWriter (.ifHeader (.writeRec .done)
      (.forRows (.recReset (.forResolved (.recPush (.cellString [110, 117, 108, 108]) .done) (.writeRec .done)))
        (.flush .retWriterErr))))))))

example : (naRepNull.output (wEnv wFrame none false)).map (·.1) =
      some [[[116, 114, 117, 101], [120]], [[102, 97, 108, 115, 101], [110, 117, 108, 108]]] ∧
    tocsvRows wFmt false wFrame = [[[116, 114, 117, 101], [120]], [[102, 97, 108, 115, 101], []]] := by
  decide +kernel

/-- Without `row = row[:0]` every record repeats the ones before it. -/
def noReset : CW :=
  .ifGiven (.rejectIfLenNe (.selAlloc (.forGiven canonGivenBody .done))) (.selFrame .done)
    (.recNew (.forSel namesBody (.colsNew (.forRec resolveBody (.newWriter (.ifHeader (.writeRec .done)
      (.forRows (.forResolved cellsBody (.writeRec .done)) (.flush .retWriterErr))))))))

example : (noReset.output (wEnv wFrame none false)).map (·.1) =
    some [[[97], [98], [116, 114, 117, 101], [120]],
          [[97], [98], [116, 114, 117, 101], [120], [102, 97, 108, 115, 101], []]] := by
  decide +kernel

/-- A column list that is ignored (the frame's order is always used) writes `a,b` where `b,a` was asked for. -/
def ignoreGiven : CW := .selFrame canonTail

example : (ignoreGiven.output (wEnv wFrame (some [[98], [97]]) true)).map (fun r => r.1.head?) = some (some [[97], [98]]) ∧
    (tocsvRows wFmt true { wFrame with cols := wFrame.cols.reverse }).head? = some [[98], [97]] := by
  decide +kernel

/-- Without `w.Flush()` the caller sees an unflushed writer (the tail of the document is still in its buffer). -/
def noFlush : CW :=
  .ifGiven (.rejectIfLenNe (.selAlloc (.forGiven canonGivenBody .done))) (.selFrame .done)
    (.recNew (.forSel namesBody (.colsNew (.forRec resolveBody (.newWriter (.ifHeader (.writeRec .done)
      (.forRows canonRowBody .retWriterErr)))))))

example : (noFlush.output (wEnv wFrame none true)).map (·.2.1) = some false ∧
    (canonToCSV.output (wEnv wFrame none true)).map (·.2.1) = some true := by
  decide +kernel

/-- A `w.Write` that fails (call 1, the first data record): two records were handed over, no `Flush`, its error returned. -/
example : canonToCSV.output { wEnv wFrame none true with wfail := fun k => k == 1 } =
    some ([[[97], [98]], [[116, 114, 117, 101], [120]]], false, .writeErr) := by
  decide +kernel

#print axioms gen_tocsv_no_opaque
#print axioms gen_tocsv_canon
#print axioms canon_tail
#print axioms canon_default
#print axioms canon_given
#print axioms gen_tocsv_default
#print axioms gen_tocsv_given
#print axioms gen_tocsv_reject
#print axioms gen_tocsv_semantics
#print axioms gen_tocsv_error
#print axioms gen_tocsv_read

end QF.Props.C13WriterGen
