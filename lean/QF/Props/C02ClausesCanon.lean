import QF.Gen.Clauses
import QF.Core.CLExpr
/-!
# C02 — the clause evaluation of Filter in today's source: canonical terms (tie T1)

`QF.Gen.clauseFns` (regenerated on every run by go/cmd/extract/clast.go) holds the bodies of `QFrame.Filter`,
`QFrame.filter`, the `filter` / `Err` methods and constructors of the five clause types, `anyFilterErr`, `orFrames`,
`withErr`, `withIndex`, `index.NewBool`, `Int.Len`, `Bool.Len`, `Int.Filter` and `integer.Max` as terms of the imperative
language `QF.CL` (QF/Core/CLExpr.lean). This file fixes the canonical terms (`canonFns`: today's translation, variables
numbered by declaration order; loop bodies and the two cursor tests have names so that the lemmas about them can be
stated) and proves by evaluation that today's extraction is complete (`gen_clauses_no_opaque`, `decide`) and equal to them
(`gen_clauses_canon`, `rfl`: the two closed terms unfold to the same term). The meaning of the canonical terms is computed in C02ClausesFns / C02ClausesGen.
-/
namespace QF.Props.C02ClausesGen
open QF QF.CL F

/-! ## `QFrame.Filter`, `QFrame.filter` -/

/-- `if qf.Err != nil { return qf }` for the frame variable `v` -/
def retIfFailed (v : Var) : S := S.ite (E.notNil (E.frameErr (E.var v))) (S.block [S.ret (E.var v)]) (S.block [])

/-- `return qf.withErr(<a new error>)` -/
def retNewErr : S := S.ret (E.call2 FnId.withErr (E.var 0) E.newErr)

def fnPublicFilter : Fn := { params := 2, body := S.block [retIfFailed 0, S.ret (E.callFilter (E.var 1) (E.var 0))] }

/-- `for i, x := range bIndex { if !x { bIndex[i] = !invBIndex[i] } }` -/
abbrev fallbackBody : S :=
  S.block [S.ite (E.not (E.var 15)) (S.block [S.setAt 2 (E.var 14) (E.not (E.at (E.var 13) (E.var 14)))]) (S.block [])]

/-- the look-ups in front of the kernel call: the column, and the column a `types.ColumnName` argument names -/
def leafPrefix : List S := [
  S.lookupColumn 4 5 (E.var 0) (E.var 3),
  S.ite (E.not (E.var 5)) (S.block [retNewErr]) (S.block []),
  S.ifArgIsColumn 3 6 (S.block [
    S.lookupArgColumn 7 8 (E.var 0) 6,
    S.ite (E.not (E.var 8)) (S.block [retNewErr]) (S.block []),
    S.promote [PRule.mk PTy.int PTy.float PSide.column PTy.float, PRule.mk PTy.float PTy.int PSide.arg PTy.float] 4 7,
    S.setArg 3 7])]

/-- the shortcut: `if sComp, ok := f.Comparator.(string); ok { if inverse, ok := filter.Inverse[sComp]; ok { err = s.Filter(qf.index,
inverse, f.Arg, bIndex); if err == nil { done = true } } }` -/
def shortcutPart : S :=
  S.ifCmpIsString 3 11 (S.block [
    S.ifInverseEntry 11 12 (S.block [
      S.kernel 9 4 (E.frameIndex (E.var 0)) (KCmp.inverseVia 12) 3 2,
      S.ite (E.isNil (E.var 9)) (S.block [S.assign 10 (E.bool true)]) (S.block [])])])

/-- the fallback: `if !done { invBIndex := index.NewBool(bIndex.Len()); err = s.Filter(qf.index, f.Comparator, f.Arg, invBIndex);
if err == nil { <complement into the entries of bIndex that are still false> } }` -/
def fallbackPart : S :=
  S.ite (E.not (E.var 10))
    (S.block [
      S.define 13 (E.call1 FnId.newBool (E.call1 FnId.maskLen (E.var 2))),
      S.kernel 9 4 (E.frameIndex (E.var 0)) KCmp.own 3 13,
      S.ite (E.isNil (E.var 9)) (S.block [S.rangeLive 2 (some 14) (some 15) fallbackBody]) (S.block [])])
    (S.block [])

/-- `if f.Inverse { done := false; <shortcut>; <fallback> } else { err = s.Filter(qf.index, f.Comparator, f.Arg, bIndex) }` -/
def leafKernel : S :=
  S.ite (E.inverseFlag (E.var 3))
    (S.block [S.define 10 (E.bool false), shortcutPart, fallbackPart])
    (S.block [S.kernel 9 4 (E.frameIndex (E.var 0)) KCmp.own 3 2])

/-- `var err error; <the kernel calls>; if err != nil { return qf.withErr(…) }` -/
def leafTail : List S := [
  S.define 9 E.nilErr,
  leafKernel,
  S.ite (E.notNil (E.var 9)) (S.block [retNewErr]) (S.block [])]

/-- the body of `for _, f := range filters` -/
abbrev leafBody : S := S.block (leafPrefix ++ leafTail)

def fnLeaves : Fn := { params := 2, body := S.block [
  retIfFailed 0,
  S.define 2 (E.call1 FnId.newBool (E.call1 FnId.ixLen (E.frameIndex (E.var 0)))),
  S.range (E.var 1) none (some 3) leafBody,
  S.ret (E.call2 FnId.withIndex (E.var 0) (E.call2 FnId.ixFilter (E.frameIndex (E.var 0)) (E.var 2)))] }

/-! ## the `filter` methods -/

/-- `if c.Err() != nil { return qf.withErr(c.Err()) }` in a method of the clause type -/
def retIfClauseErr (ty : DynTy) : S :=
  S.ite (E.notNil (E.call1 (FnId.errM ty) (E.var 0)))
    (S.block [S.ret (E.call2 FnId.withErr (E.var 1) (E.call1 (FnId.errM ty) (E.var 0)))]) (S.block [])

def fnFilterLeaf : Fn := { params := 2, body := S.block [S.ret (E.call2 FnId.leaves (E.var 1) (E.single (E.var 0)))] }

/-- `newQf := c.filter(*filteredQf); filteredQf = &newQf` -/
abbrev andBody : S := S.block [S.define 4 (E.callFilter (E.var 3) (E.deref (E.var 2))), S.assign 2 (E.addr (E.var 4))]

def fnFilterAnd : Fn := { params := 2, body := S.block [
  retIfFailed 1,
  retIfClauseErr .and,
  S.define 2 (E.addr (E.var 1)),
  S.range (E.subClauses (E.var 0)) none (some 3) andBody,
  S.ret (E.deref (E.var 2))] }

/-- `newQf := qf.filter(filters...); filteredQf = orFrames(&qf, filteredQf, &newQf)` with the new frame in variable `v` -/
def flush (v : Var) : List S := [
  S.define v (E.call2 FnId.leaves (E.var 1) (E.var 2)),
  S.assign 3 (E.call3 FnId.orFrames (E.addr (E.var 1)) (E.var 3) (E.addr (E.var v)))]

abbrev orClauseBody : S :=
  S.block [S.ifIs (E.var 4) DynTy.filter 5
    (S.block [S.assign 2 (E.snoc (E.var 2) (E.var 5))])
    (S.block [
      S.ite (E.cmp COp.gt (E.len (E.var 2)) (E.int 0)) (S.block (flush 6 ++ [S.assign 2 (E.truncate (E.var 2) (E.int 0))])) (S.block []),
      S.define 7 (E.callFilter (E.var 4) (E.var 1)),
      S.assign 3 (E.call3 FnId.orFrames (E.addr (E.var 1)) (E.var 3) (E.addr (E.var 7)))])]

def fnFilterOr : Fn := { params := 2, body := S.block [
  retIfFailed 1,
  retIfClauseErr .or,
  S.define 2 E.emptyLeaves,
  S.define 3 E.nilPtr,
  S.range (E.subClauses (E.var 0)) none (some 4) orClauseBody,
  S.ite (E.cmp COp.gt (E.len (E.var 2)) (E.int 0)) (S.block (flush 8)) (S.block []),
  S.ret (E.deref (E.var 3))] }

/-- `newQfI < newQf.index.Len() && newQf.index[newQfI] == ix` -/
def notCond : E :=
  E.and (E.cmp COp.lt (E.var 6) (E.call1 FnId.ixLen (E.frameIndex (E.var 4))))
    (E.cmp COp.eq (E.at (E.frameIndex (E.var 4)) (E.var 6)) (E.var 7))

abbrev notBody : S := S.block [S.ite notCond (S.block [S.incr 6]) (S.block [S.assign 5 (E.snoc (E.var 5) (E.var 7))])]

def fnFilterNot : Fn := { params := 2, body := S.block [
  retIfFailed 1,
  retIfClauseErr .not,
  S.ifIs (E.subClause (E.var 0)) DynTy.filter 2
    (S.block [
      S.define 3 (E.var 2),
      S.setInverse 3 (E.not (E.inverseFlag (E.var 3))),
      S.ret (E.call2 FnId.leaves (E.var 1) (E.single (E.var 3)))])
    (S.block []),
  S.define 4 (E.callFilter (E.subClause (E.var 0)) (E.var 1)),
  retIfFailed 4,
  S.define 5 (E.makeIx (E.sub (E.call1 FnId.ixLen (E.frameIndex (E.var 1))) (E.call1 FnId.ixLen (E.frameIndex (E.var 4))))),
  S.define 6 (E.int 0),
  S.range (E.frameIndex (E.var 1)) none (some 7) notBody,
  S.ret (E.call2 FnId.withIndex (E.var 1) (E.var 5))] }

def fnFilterNull : Fn := { params := 2, body := S.block [S.ret (E.var 1)] }

/-! ## `Err()`, the constructors, `anyFilterErr` -/

def fnErrLeaf : Fn := { params := 1, body := S.block [S.ret E.nilErr] }
def fnErrCombo : Fn := { params := 1, body := S.block [S.ret (E.errField (E.var 0))] }
def fnErrNot : Fn := { params := 1, body := S.block [S.ret (E.callErr (E.subClause (E.var 0)))] }
def fnErrNull : Fn := { params := 1, body := S.block [S.ret E.nilErr] }

def fnCtorCombo (ty : DynTy) : Fn := { params := 1, body := S.block [
  S.ite (E.cmp COp.eq (E.len (E.var 0)) (E.int 0)) (S.block [S.ret (E.mkCombo ty E.noSubs E.newErr)]) (S.block []),
  S.ret (E.mkCombo ty (E.var 0) (E.call1 FnId.anyErr (E.var 0)))] }
def fnCtorNot : Fn := { params := 1, body := S.block [S.ret (E.mkNot (E.var 0))] }
def fnCtorNull : Fn := { params := 0, body := S.block [S.ret E.mkNull] }

abbrev anyErrBody : S := S.block [S.ite (E.notNil (E.callErr (E.var 1))) (S.block [S.ret (E.callErr (E.var 1))]) (S.block [])]
def fnAnyErr : Fn := { params := 1, body := S.block [S.range (E.var 0) none (some 1) anyErrBody, S.ret E.nilErr] }

/-! ## `orFrames` -/

/-- `cursor < len(p.index) && p.index[cursor] == x` for a frame pointer `p` -/
def hitCond (c p x : Var) : E :=
  E.and (E.cmp COp.lt (E.var c) (E.len (E.frameIndex (E.deref (E.var p)))))
    (E.cmp COp.eq (E.at (E.frameIndex (E.deref (E.var p))) (E.var c)) (E.var x))

abbrev orBody : S := S.block [
  S.define 7 (E.bool false),
  S.ite (hitCond 4 1 6) (S.block [S.assign 7 (E.bool true), S.incr 4]) (S.block []),
  S.ite (hitCond 5 2 6) (S.block [S.assign 7 (E.bool true), S.incr 5]) (S.block []),
  S.ite (E.var 7) (S.block [S.assign 3 (E.snoc (E.var 3) (E.var 6))]) (S.block [])]

def fnOrFrames : Fn := { params := 3, body := S.block [
  S.ite (E.isNil (E.var 1)) (S.block [S.ret (E.var 2)]) (S.block []),
  S.ite (E.notNil (E.frameErr (E.deref (E.var 1)))) (S.block [S.ret (E.var 1)]) (S.block []),
  S.ite (E.notNil (E.frameErr (E.deref (E.var 2)))) (S.block [S.ret (E.var 2)]) (S.block []),
  S.define 3 (E.makeIx (E.call2 FnId.max (E.len (E.frameIndex (E.deref (E.var 1)))) (E.len (E.frameIndex (E.deref (E.var 2)))))),
  S.define 4 (E.int 0),
  S.define 5 (E.int 0),
  S.range (E.frameIndex (E.deref (E.var 0))) none (some 6) orBody,
  S.define 8 (E.call2 FnId.withIndex (E.deref (E.var 0)) (E.var 3)),
  S.ret (E.addr (E.var 8))] }

/-! ## `withErr`, `withIndex`, internal/index, `integer.Max` -/

def fnWithErr : Fn := { params := 2, body := S.block [S.ret (E.mkFrame (E.var 1) (E.frameIndex (E.var 0)))] }
def fnWithIndex : Fn := { params := 2, body := S.block [S.ret (E.mkFrame (E.frameErr (E.var 0)) (E.var 1))] }
def fnNewBool : Fn := { params := 1, body := S.block [S.ret (E.makeMask (E.var 0))] }
def fnIxLen : Fn := { params := 1, body := S.block [S.ret (E.len (E.var 0))] }
def fnMaskLen : Fn := { params := 1, body := S.block [S.ret (E.len (E.var 0))] }

abbrev ixCountBody : S := S.block [S.ite (E.var 3) (S.block [S.incr 2]) (S.block [])]
abbrev ixCollectBody : S :=
  S.block [S.ite (E.var 6) (S.block [S.assign 4 (E.snoc (E.var 4) (E.at (E.var 0) (E.var 5)))]) (S.block [])]

def fnIxFilter : Fn := { params := 2, body := S.block [
  S.define 2 (E.int 0),
  S.range (E.var 1) none (some 3) ixCountBody,
  S.define 4 (E.makeIx (E.var 2)),
  S.range (E.var 1) (some 5) (some 6) ixCollectBody,
  S.ret (E.var 4)] }

def fnMax : Fn := { params := 2, body := S.block [
  S.ite (E.cmp COp.gt (E.var 0) (E.var 1)) (S.block [S.ret (E.var 0)]) (S.block []),
  S.ret (E.var 1)] }

def canonFns : List (FnId × Fn) := [
  (FnId.publicFilter, fnPublicFilter),
  (FnId.leaves, fnLeaves),
  (FnId.filter DynTy.filter, fnFilterLeaf),
  (FnId.filter DynTy.and, fnFilterAnd),
  (FnId.filter DynTy.or, fnFilterOr),
  (FnId.filter DynTy.not, fnFilterNot),
  (FnId.filter DynTy.null, fnFilterNull),
  (FnId.errM DynTy.filter, fnErrLeaf),
  (FnId.errM DynTy.and, fnErrCombo),
  (FnId.errM DynTy.or, fnErrCombo),
  (FnId.errM DynTy.not, fnErrNot),
  (FnId.errM DynTy.null, fnErrNull),
  (FnId.ctor DynTy.and, fnCtorCombo .and),
  (FnId.ctor DynTy.or, fnCtorCombo .or),
  (FnId.ctor DynTy.not, fnCtorNot),
  (FnId.ctor DynTy.null, fnCtorNull),
  (FnId.anyErr, fnAnyErr),
  (FnId.orFrames, fnOrFrames),
  (FnId.withErr, fnWithErr),
  (FnId.withIndex, fnWithIndex),
  (FnId.newBool, fnNewBool),
  (FnId.ixLen, fnIxLen),
  (FnId.maskLen, fnMaskLen),
  (FnId.ixFilter, fnIxFilter),
  (FnId.max, fnMax)]

theorem gen_clauses_no_opaque : ∀ p ∈ Gen.clauseFns, p.2.body.hasOpaque = false := by decide +kernel

theorem gen_clauses_canon : Gen.clauseFns = canonFns := rfl

/-- The preamble of `QFrame.filter` as extracted today replaces exactly: an int column compared with a float column by its
float image, and the int argument column of a float column by its float image — the two promotions the hand-written
`C02Dispatch.prep` models (and `Drv.mirrorLeaf` follows when it picks the kernel). -/
theorem gen_promote_rules : (Gen.clauseFns.lookup .leaves).map (fun fn => fn.body.promoteRules) =
    some [⟨.int, .float, .column, .float⟩, ⟨.float, .int, .arg, .float⟩] := by decide

end QF.Props.C02ClausesGen
