import Lean
import QF.Props.C03RowOrder
/-!
# `sortRows` of the spec returns the same list for two permutations of one list

The spec says "the same multiset of rows" as `sortRows a == sortRows b` (QF/Spec/Basic.lean: `sameRowMultiset`), where
`sortRows` sorts with `Array.qsort` of the Lean core library under the total order `rowCmp`. The core library proves
nothing about `Array.qsort`, and its two recursive helpers are private to their module. This file

* gives them names (`sortV`, `loopV`: the private constants `Array.qsort.sort`, `Array.qpartition.loop`, reached through
  their mangled names; `sortV_eq`, `loopV_eq` are their defining equations as the core library states them, `qsort_eq`
  unfolds `Array.qsort` to `sortV`),
* proves `Array.qsort` correct for every comparison `lt` that is asymmetric with a transitive "not less" (`LtOrd`):
  `qsort_perm` (a permutation of the input), `qsort_sorted` (no later element is less than an earlier one) — by the
  usual argument: the partition loop keeps "less than the pivot / not less than the pivot / not looked at" apart and, thanks
  to the median of three, always leaves an element that is not less than the pivot in front of it, so the branch that
  returns without sorting is never taken on two or more elements,
* proves that `rowCmp` is a linear order on rows (`rowCmp_tp`, `rowCmp_eq`),
* and concludes `sortRows_perm_invariant`: two sorted permutations of one list under a linear order are the same list;
  `sameRowMultiset_of_perm`.
-/
namespace QF.Props.C03SortRows
open QF QF.Props.C03RowOrder QF.Props.C03Compare
set_option linter.unusedSimpArgs false

/-! ## The private helpers of `Array.qsort`, named -/

section Names
open Lean Elab Term Meta

/-- The prefix private names of `Init.Data.Array.QSort.Basic` carry in toolchain 4.33.0. It follows the module's path and
the way this Lean version mangles private names: if either moves, `getConstInfo` below fails with "unknown constant" at the
four `elab` uses and nothing after them builds. -/
def privBase : Name := Name.mkNum `_private.Init.Data.Array.QSort.Basic 0

def privConst (suffix : Name) : TermElabM Expr := do
  let n := privBase ++ suffix
  let ci ← getConstInfo n
  let lvls ← mkFreshLevelMVars ci.levelParams.length
  return mkConst n lvls

elab "qs_sort%" : term => privConst `Array.qsort.sort
elab "qs_sort_eq%" : term => privConst `Array.qsort.sort.eq_def
elab "qs_loop%" : term => privConst `Array.qpartition.loop
elab "qs_loop_eq%" : term => privConst `Array.qpartition.loop.eq_def

end Names

section QSort
variable {α : Type}

/-- `Array.qsort.sort` of the core library -/
def sortV (lt : α → α → Bool) {n : Nat} (as : Vector α n) (lo hi : Nat) (w : lo ≤ hi) (hlo : lo < n) (hhi : hi < n) : Vector α n :=
  qs_sort% lt as lo hi w hlo hhi

/-- `Array.qpartition.loop` of the core library -/
def loopV {n : Nat} (lt : α → α → Bool) (lo hi : Nat) (hhi : hi < n) (pivot : α) (as : Vector α n) (i k : Nat)
    (ilo : lo ≤ i) (ik : i ≤ k) (w : k ≤ hi) : { m // lo ≤ m ∧ m ≤ hi } × Vector α n :=
  qs_loop% lt lo hi hhi pivot as i k ilo ik w

theorem loopV_eq {n : Nat} (lt : α → α → Bool) (lo hi : Nat) (hhi : hi < n) (pivot : α) (as : Vector α n) (i k : Nat)
    (ilo : lo ≤ i) (ik : i ≤ k) (w : k ≤ hi) :
    loopV lt lo hi hhi pivot as i k ilo ik w =
      if h : k < hi then
        if lt (as[k]'(Nat.lt_trans h hhi)) pivot = true then
          loopV lt lo hi hhi pivot (as.swap i k (Nat.lt_of_le_of_lt ik (Nat.lt_trans h hhi)) (Nat.lt_trans h hhi)) (i + 1) (k + 1)
            (Nat.le_succ_of_le ilo) (Nat.succ_le_succ ik) h
        else loopV lt lo hi hhi pivot as i (k + 1) ilo (Nat.le_succ_of_le ik) h
      else (⟨i, ilo, Nat.le_trans ik w⟩, as.swap i hi (Nat.lt_of_le_of_lt (Nat.le_trans ik w) hhi) hhi) :=
  qs_loop_eq% lt lo hi hhi pivot as i k ilo ik w

theorem sortV_eq (lt : α → α → Bool) {n : Nat} (as : Vector α n) (lo hi : Nat) (w : lo ≤ hi) (hlo : lo < n) (hhi : hi < n) :
    sortV lt as lo hi w hlo hhi =
      if h₁ : lo < hi then
        let p := Array.qpartition as lt lo hi w hlo hhi
        if h₂ : p.1.1 ≥ hi then p.2
        else sortV lt (sortV lt p.2 lo p.1.1 p.1.2.1 hlo (by omega)) (p.1.1 + 1) hi (by omega) (by omega) hhi
      else as :=
  qs_sort_eq% lt as lo hi w hlo hhi

theorem qsort_eq (as : Array α) (lt : α → α → Bool) :
    as.qsort lt = if h : as.size = 0 then as else (sortV lt as.toVector 0 (as.size - 1) (by omega) (by omega) (by omega)).toArray := by
  unfold Array.qsort sortV
  split
  · rfl
  · simp

def cswap {n : Nat} (c : Bool) (as : Vector α n) (i j : Nat) (hin : i < n) (hjn : j < n) : Vector α n :=
  if c then as.swap i j hin hjn else as

-- `w` is used, by the `omega` calls that bound `(lo + hi) / 2`
set_option linter.unusedVariables false in
/-- the three conditional swaps in front of the partition loop: the median of `as[lo]`, `as[mid]`, `as[hi]` goes to `hi` -/
def median3 (lt : α → α → Bool) {n : Nat} (as : Vector α n) (lo hi : Nat) (hlo : lo < n) (hhi : hi < n) (w : lo ≤ hi) : Vector α n :=
  let a1 := cswap (lt (as[(lo + hi) / 2]'(by omega)) as[lo]) as lo ((lo + hi) / 2) hlo (by omega)
  let a2 := cswap (lt a1[hi] a1[lo]) a1 lo hi hlo hhi
  cswap (lt (a2[(lo + hi) / 2]'(by omega)) a2[hi]) a2 ((lo + hi) / 2) hi (by omega) hhi

theorem qpartition_eq (lt : α → α → Bool) {n : Nat} (as : Vector α n) (lo hi : Nat) (w : lo ≤ hi) (hlo : lo < n) (hhi : hi < n) :
    Array.qpartition as lt lo hi w hlo hhi =
      loopV lt lo hi hhi (median3 lt as lo hi hlo hhi w)[hi] (median3 lt as lo hi hlo hhi w) lo lo (Nat.le_refl _) (Nat.le_refl _) w := by
  unfold Array.qpartition loopV median3 cswap
  rfl

end QSort

/-! ## Swaps inside a range -/

section Swaps
variable {α : Type} {n : Nat}

/-- `bs` arises from `as` by swaps of positions within `[lo, hi]` -/
inductive SwapsIn (lo hi : Nat) : Vector α n → Vector α n → Prop
  | refl (as : Vector α n) : SwapsIn lo hi as as
  | swap {as bs : Vector α n} (i j : Nat) (hin : i < n) (hjn : j < n) (h1 : lo ≤ i) (h2 : i ≤ hi) (h3 : lo ≤ j) (h4 : j ≤ hi) :
      SwapsIn lo hi as bs → SwapsIn lo hi as (bs.swap i j hin hjn)

theorem SwapsIn.trans {lo hi : Nat} {as bs cs : Vector α n} (h1 : SwapsIn lo hi as bs) (h2 : SwapsIn lo hi bs cs) : SwapsIn lo hi as cs := by
  induction h2 with
  | refl => exact h1
  | swap i j hin hjn a b c d _ ih => exact .swap i j hin hjn a b c d ih

theorem SwapsIn.mono {lo hi lo' hi' : Nat} (hl : lo' ≤ lo) (hh : hi ≤ hi') {as bs : Vector α n} (h : SwapsIn lo hi as bs) : SwapsIn lo' hi' as bs := by
  induction h with
  | refl => exact .refl _
  | swap i j hin hjn a b c d _ ih => exact .swap i j hin hjn (by omega) (by omega) (by omega) (by omega) ih

theorem SwapsIn.one {lo hi : Nat} (as : Vector α n) (i j : Nat) (hin : i < n) (hjn : j < n) (h1 : lo ≤ i) (h2 : i ≤ hi) (h3 : lo ≤ j) (h4 : j ≤ hi) :
    SwapsIn lo hi as (as.swap i j hin hjn) := .swap i j hin hjn h1 h2 h3 h4 (.refl as)

/-- a position outside the range holds what it held -/
theorem SwapsIn.outside {lo hi : Nat} {as bs : Vector α n} (h : SwapsIn lo hi as bs) (p : Nat) (hp : p < lo ∨ hi < p) : bs[p]? = as[p]? := by
  induction h with
  | refl => rfl
  | swap i j hin hjn a b c d _ ih =>
    rw [Vector.getElem?_swap]
    have e1 : ¬ j = p := by omega
    have e2 : ¬ i = p := by omega
    simp only [e1, e2, if_false]
    exact ih

/-- what holds for every element inside the range still does -/
theorem SwapsIn.forall_in {lo hi : Nat} {as bs : Vector α n} (h : SwapsIn lo hi as bs) (P : α → Prop)
    (hP : ∀ p x, lo ≤ p → p ≤ hi → as[p]? = some x → P x) : ∀ p x, lo ≤ p → p ≤ hi → bs[p]? = some x → P x := by
  induction h with
  | refl => exact hP
  | swap i j hin hjn a b c d _ ih =>
    intro p x h1 h2 hx
    rw [Vector.getElem?_swap] at hx
    by_cases e1 : j = p
    · simp only [e1, if_true, Option.some.injEq] at hx
      exact ih i x a b (by rw [Vector.getElem?_eq_getElem hin, hx])
    · by_cases e2 : i = p
      · simp only [e1, e2, if_false, if_true, Option.some.injEq] at hx
        exact ih j x c d (by rw [Vector.getElem?_eq_getElem hjn, hx])
      · simp only [e1, e2, if_false] at hx
        exact ih p x h1 h2 hx

theorem SwapsIn.perm {lo hi : Nat} {as bs : Vector α n} (h : SwapsIn lo hi as bs) : bs.toArray.toList.Perm as.toArray.toList := by
  induction h with
  | refl => exact List.Perm.refl _
  | swap i j hin hjn a b c d _ ih =>
    rw [Vector.toArray_swap]
    exact (Array.swap_perm _ _).toList.trans ih

end Swaps

/-! ## The partition loop -/

/-- a comparison that is asymmetric and whose "not less" is transitive (a strict weak order) -/
structure LtOrd {α : Type} (lt : α → α → Bool) : Prop where
  asymm : ∀ a b, lt a b = true → lt b a = false
  le_trans : ∀ a b c, lt b a = false → lt c b = false → lt c a = false

theorem LtOrd.irrefl {α : Type} {lt : α → α → Bool} (h : LtOrd lt) (a : α) : lt a a = false := by
  cases e : lt a a with
  | false => rfl
  | true => have := h.asymm a a e; rw [e] at this; cases this

section Partition
variable {α : Type} {n : Nat} (lt : α → α → Bool)

theorem get_some (as : Vector α n) (p : Nat) (hp : p < n) : as[p]? = some as[p] := Vector.getElem?_eq_getElem hp

theorem get_inj {as : Vector α n} {p : Nat} {x y : α} (h1 : as[p]? = some x) (h2 : as[p]? = some y) : x = y := by
  rw [h1] at h2; exact Option.some.inj h2

/-- every row of `[a, b)` satisfies `P` -/
def AllIn (as : Vector α n) (a b : Nat) (P : α → Prop) : Prop := ∀ p x, a ≤ p → p < b → as[p]? = some x → P x

/-- after a swap the rows of `[a, b)` other than `i`, `j` hold what they held, row `j` what `i` held, row `i` what `j` held -/
theorem AllIn.swap {as : Vector α n} {a b i j : Nat} {P : α → Prop} (hin : i < n) (hjn : j < n)
    (h : ∀ p x, a ≤ p → p < b → p ≠ i → p ≠ j → as[p]? = some x → P x)
    (hj : a ≤ j → j < b → P as[i]) (hi : a ≤ i → i < b → P as[j]) : AllIn (as.swap i j hin hjn) a b P := by
  intro p x h1 h2 hx
  rw [Vector.getElem?_swap] at hx
  by_cases e1 : j = p
  · simp only [e1, if_true, Option.some.injEq] at hx
    subst e1
    exact hx ▸ hj h1 h2
  · by_cases e2 : i = p
    · simp only [e1, e2, if_false, if_true, Option.some.injEq] at hx
      subst e2
      exact hx ▸ hi h1 h2
    · simp only [e1, e2, if_false] at hx
      exact h p x h1 h2 (Ne.symm e2) (Ne.symm e1) hx

/-- what a partition of `[lo, hi]` around `pivot` leaves: the pivot at `m < hi`, the rows before it less than it, the rows
after it (up to `hi`) not less, everything by swaps inside the range -/
structure Parted (lo hi : Nat) (pivot : α) (as : Vector α n) (m : Nat) (bs : Vector α n) : Prop where
  swaps : SwapsIn lo hi as bs
  le : lo ≤ m
  lt_hi : m < hi
  piv : bs[m]? = some pivot
  left : AllIn bs lo m (lt · pivot = true)
  right : AllIn bs (m + 1) (hi + 1) (lt · pivot = false)

/-- the loop of `qpartition`: rows `[lo, i)` are less than the pivot, rows `[i, k)` are not, the pivot sits at `hi`, and some
row of `[i, hi)` is not less than the pivot (so the loop ends with `i < hi`). -/
theorem loop_spec (lo hi : Nat) (hhi : hi < n) (pivot : α) :
    ∀ (d : Nat) (as : Vector α n) (i k : Nat) (ilo : lo ≤ i) (ik : i ≤ k) (w : k ≤ hi), hi - k = d →
      as[hi]? = some pivot →
      AllIn as lo i (lt · pivot = true) → AllIn as i k (lt · pivot = false) →
      (∃ p x, i ≤ p ∧ p < hi ∧ as[p]? = some x ∧ lt x pivot = false) →
      Parted lt lo hi pivot as (loopV lt lo hi hhi pivot as i k ilo ik w).1.1 (loopV lt lo hi hhi pivot as i k ilo ik w).2 := by
  intro d
  induction d with
  | zero =>
    intro as i k ilo ik w hd hpiv hleft hmid hwit
    have hk : k = hi := Nat.le_antisymm w (Nat.le_of_sub_eq_zero hd)
    subst hk
    obtain ⟨p, x, hp1, hp2, hpx, hpl⟩ := hwit
    have hik : i < k := Nat.lt_of_le_of_lt hp1 hp2
    have hin : i < n := Nat.lt_trans hik hhi
    rw [loopV_eq]
    simp only [Nat.lt_irrefl, dite_false]
    refine ⟨SwapsIn.one as i k hin hhi ilo ik (Nat.le_trans ilo ik) (Nat.le_refl _), ilo, hik, ?_, ?_, ?_⟩
    · rw [Vector.getElem?_swap, if_neg (by omega), if_pos rfl, ← get_some, hpiv]
    · exact AllIn.swap hin hhi (fun q y h1 h2 _ _ => hleft q y h1 h2) (fun _ h2 => by omega) (fun _ h2 => by omega)
    · exact AllIn.swap hin hhi (fun q y h1 h2 _ e => hmid q y (by omega) (by omega))
        (fun _ _ => hmid i _ (Nat.le_refl _) hik (get_some as i hin)) (fun h1 _ => by omega)
  | succ d ih =>
    intro as i k ilo ik w hd hpiv hleft hmid hwit
    have hk : k < hi := Nat.lt_of_sub_eq_succ hd
    have hkn : k < n := Nat.lt_trans hk hhi
    have hin : i < n := Nat.lt_of_le_of_lt ik hkn
    rw [loopV_eq]
    simp only [hk, dite_true]
    by_cases hlt : lt as[k] pivot = true
    · simp only [hlt, if_true]
      have hs := ih (as.swap i k hin hkn) (i + 1) (k + 1) (Nat.le_succ_of_le ilo) (Nat.succ_le_succ ik) hk (by omega)
        (by rw [Vector.getElem?_swap, if_neg (by omega), if_neg (by omega)]; exact hpiv)
        (AllIn.swap hin hkn (fun q y h1 h2 e _ => hleft q y h1 (by omega))
          (fun _ h2 => by have : i = k := by omega
                          subst this; exact hlt)
          (fun _ _ => hlt))
        (AllIn.swap hin hkn (fun q y h1 h2 _ e => hmid q y (by omega) (by omega))
          (fun h1 _ => hmid i _ (Nat.le_refl _) (by omega) (get_some as i hin)) (fun h1 _ => by omega))
        (by
          obtain ⟨p, x, hp1, hp2, hpx, hpl⟩ := hwit
          by_cases e1 : p = k
          · subst e1
            rw [get_inj hpx (get_some as p hkn), hlt] at hpl; cases hpl
          · by_cases e2 : p = i
            · subst e2
              refine ⟨k, x, by omega, hk, ?_, hpl⟩
              rw [Vector.getElem?_swap, if_pos rfl, ← get_some as p hin]; exact hpx
            · refine ⟨p, x, by omega, hp2, ?_, hpl⟩
              rw [Vector.getElem?_swap, if_neg (Ne.symm e1), if_neg (Ne.symm e2)]; exact hpx)
      exact { hs with swaps := (SwapsIn.one as i k hin hkn ilo (Nat.le_trans ik w) (Nat.le_trans ilo ik) w).trans hs.swaps }
    · simp only [hlt, if_false]
      exact ih as i (k + 1) ilo (Nat.le_succ_of_le ik) hk (by omega) hpiv hleft
        (fun q y h1 h2 hy => by
          by_cases e : q = k
          · subst e
            rw [get_inj hy (get_some as q hkn)]; simpa using hlt
          · exact hmid q y h1 (by omega) hy)
        hwit

variable {lt}

theorem median_last (h : LtOrd lt) (as : Vector α n) (mid hi : Nat) (hmid : mid < n) (hhi : hi < n) (hne : mid ≠ hi) :
    lt (cswap (lt as[mid] as[hi]) as mid hi hmid hhi)[mid] (cswap (lt as[mid] as[hi]) as mid hi hmid hhi)[hi] = false := by
  unfold cswap
  by_cases c : lt as[mid] as[hi] = true
  · simp only [c, if_true, Vector.getElem_swap, hne, Ne.symm hne, if_false]
    exact h.asymm _ _ c
  · simp only [c, if_false]
    simpa using c

theorem swapsIn_cswap (c : Bool) (as : Vector α n) (lo hi i j : Nat) (hin : i < n) (hjn : j < n) (h1 : lo ≤ i) (h2 : i ≤ hi) (h3 : lo ≤ j) (h4 : j ≤ hi) :
    SwapsIn lo hi as (cswap c as i j hin hjn) := by
  unfold cswap
  cases c
  · exact .refl _
  · exact SwapsIn.one as i j hin hjn h1 h2 h3 h4

theorem median3_swaps (as : Vector α n) (lo hi : Nat) (hlo : lo < n) (hhi : hi < n) (w : lo ≤ hi) :
    SwapsIn lo hi as (median3 lt as lo hi hlo hhi w) := by
  unfold median3
  exact ((swapsIn_cswap _ as lo hi lo ((lo + hi) / 2) hlo (by omega) (Nat.le_refl _) w (by omega) (by omega)).trans
    (swapsIn_cswap _ _ lo hi lo hi hlo hhi (Nat.le_refl _) w w (Nat.le_refl _))).trans
    (swapsIn_cswap _ _ lo hi ((lo + hi) / 2) hi (by omega) hhi (by omega) (by omega) w (Nat.le_refl _))

theorem median3_witness (h : LtOrd lt) (as : Vector α n) (lo hi : Nat) (hlo : lo < n) (hhi : hi < n) (w : lo < hi) :
    lt ((median3 lt as lo hi hlo hhi (Nat.le_of_lt w))[(lo + hi) / 2]'(by omega)) (median3 lt as lo hi hlo hhi (Nat.le_of_lt w))[hi] = false := by
  unfold median3
  exact median_last h _ ((lo + hi) / 2) hi (by omega) hhi (by omega)

/-- `qpartition` on a range of at least two rows -/
theorem partition_spec (h : LtOrd lt) (as : Vector α n) (lo hi : Nat) (w : lo ≤ hi) (hlt : lo < hi) (hlo : lo < n) (hhi : hi < n) :
    ∃ pivot, Parted lt lo hi pivot as (Array.qpartition as lt lo hi w hlo hhi).1.1 (Array.qpartition as lt lo hi w hlo hhi).2 := by
  rw [qpartition_eq]
  have hs := loop_spec lt lo hi hhi (median3 lt as lo hi hlo hhi w)[hi] (hi - lo)
    (median3 lt as lo hi hlo hhi w) lo lo (Nat.le_refl _) (Nat.le_refl _) w rfl
    (get_some _ hi hhi) (fun p x h1 h2 _ => by omega) (fun p x h1 h2 _ => by omega)
    ⟨(lo + hi) / 2, _, by omega, by omega, get_some _ _ (by omega), median3_witness h as lo hi hlo hhi hlt⟩
  exact ⟨_, { hs with swaps := (median3_swaps as lo hi hlo hhi w).trans hs.swaps }⟩

/-- no row of `[lo, hi]` is less than an earlier row of `[lo, hi]` -/
def SortedOn (lt : α → α → Bool) (lo hi : Nat) (v : Vector α n) : Prop :=
  ∀ p q x y, lo ≤ p → p < q → q ≤ hi → v[p]? = some x → v[q]? = some y → lt y x = false

/-- partitioned around the pivot at `m`, then `[lo, m]` sorted, then `[m + 1, hi]` sorted: `[lo, hi]` is sorted -/
theorem sort_combine (h : LtOrd lt) {as bs L R : Vector α n} {lo m hi : Nat} {pivot : α}
    (hP : Parted lt lo hi pivot as m bs) (sL : SwapsIn lo m bs L) (oL : SortedOn lt lo m L)
    (sR : SwapsIn (m + 1) hi L R) (oR : SortedOn lt (m + 1) hi R) : SwapsIn lo hi as R ∧ SortedOn lt lo hi R := by
  obtain ⟨hsw, hm, hmlt, hbm, hl, hr⟩ := hP
  refine ⟨hsw.trans ((sL.mono (Nat.le_refl _) (Nat.le_of_lt hmlt)).trans (sR.mono (Nat.le_succ_of_le hm) (Nat.le_refl _))), ?_⟩
  -- every row of L in [lo, m] is not greater than the pivot, every row of R in [m+1, hi] is not less
  have hA : ∀ p x, lo ≤ p → p ≤ m → L[p]? = some x → lt pivot x = false := by
    apply sL.forall_in (fun x => lt pivot x = false)
    intro p x h1 h2 hx
    by_cases e : p = m
    · subst e
      rw [get_inj hx hbm]; exact h.irrefl pivot
    · exact h.asymm _ _ (hl p x h1 (by omega) hx)
  have hB : ∀ q y, m + 1 ≤ q → q ≤ hi → R[q]? = some y → lt y pivot = false := by
    apply sR.forall_in (fun y => lt y pivot = false)
    intro q y h1 h2 hy
    rw [sL.outside q (Or.inr (by omega))] at hy
    exact hr q y (by omega) (by omega) hy
  intro p q x y h1 h2 h3 hx hy
  by_cases hq : q ≤ m
  · -- both in the left part, which R leaves alone
    rw [sR.outside p (Or.inl (by omega))] at hx
    rw [sR.outside q (Or.inl (by omega))] at hy
    exact oL p q x y h1 h2 hq hx hy
  · by_cases hp : m + 1 ≤ p
    · exact oR p q x y hp h2 h3 hx hy
    · rw [sR.outside p (Or.inl (by omega))] at hx
      exact h.le_trans x pivot y (hA p x h1 (by omega) hx) (hB q y (by omega) h3 hy)

/-- **`Array.qsort.sort` of the core library sorts its range**, by swaps inside the range. The two recursive results reach
`sort_combine` by unification with the goal, so the value of `qpartition` is never named. -/
theorem sort_spec (h : LtOrd lt) : ∀ (d : Nat) (as : Vector α n) (lo hi : Nat) (w : lo ≤ hi) (hlo : lo < n) (hhi : hi < n), hi - lo ≤ d →
    SwapsIn lo hi as (sortV lt as lo hi w hlo hhi) ∧ SortedOn lt lo hi (sortV lt as lo hi w hlo hhi) := by
  intro d
  induction d with
  | zero =>
    intro as lo hi w hlo hhi hd
    rw [sortV_eq, dif_neg (by omega)]
    exact ⟨.refl _, fun p q x y h1 h2 h3 _ _ => by omega⟩
  | succ d ih =>
    intro as lo hi w hlo hhi hd
    rw [sortV_eq]
    by_cases hlt : lo < hi
    · obtain ⟨pivot, hP⟩ := partition_spec h as lo hi w hlt hlo hhi
      have hm := hP.le
      have hmlt := hP.lt_hi
      simp only [dif_pos hlt, dif_neg (Nat.not_le_of_gt hmlt)]
      refine sort_combine h hP ?_ ?_ (ih _ _ _ _ _ _ (by omega)).1 (ih _ _ _ _ _ _ (by omega)).2
      · exact (ih _ _ _ _ _ _ (by omega)).1
      · exact (ih _ _ _ _ _ _ (by omega)).2
    · rw [dif_neg hlt]
      exact ⟨.refl _, fun p q x y h1 h2 h3 _ _ => by omega⟩

end Partition

/-! ## `Array.qsort` -/

section Top
variable {α : Type} {lt : α → α → Bool}

theorem qsort_perm (h : LtOrd lt) (as : Array α) : (as.qsort lt).toList.Perm as.toList := by
  rw [qsort_eq]
  by_cases h0 : as.size = 0
  · simp [h0]
  · simp only [h0, dite_false]
    exact (sort_spec h _ as.toVector 0 (as.size - 1) (by omega) (by omega) (by omega) (Nat.le_refl _)).1.perm

/-- in what `Array.qsort` returns no later element is less than an earlier one -/
theorem qsort_sorted (h : LtOrd lt) (as : Array α) : (as.qsort lt).toList.Pairwise (fun x y => lt y x = false) := by
  rw [qsort_eq]
  by_cases h0 : as.size = 0
  · have : as = #[] := Array.eq_empty_of_size_eq_zero h0
    subst this
    simp
  · simp only [h0, dite_false]
    have hs := (sort_spec h _ as.toVector 0 (as.size - 1) (by omega) (by omega) (by omega) (Nat.le_refl _)).2
    generalize sortV lt as.toVector 0 (as.size - 1) (by omega) (by omega) (by omega) = v at hs
    rw [List.pairwise_iff_getElem]
    intro i j hi hj hij
    have hsz : v.toArray.toList.length = as.size := by simp
    rw [hsz] at hi hj
    apply hs i j _ _ (Nat.zero_le _) hij (by omega)
    · rw [get_some v i hi]; simp
    · rw [get_some v j hj]; simp

/-- **two permutations of one list are sorted by `Array.qsort` to the same list**, for a linear order: a strict weak order
whose incomparable elements are equal -/
theorem qsort_perm_invariant (h : LtOrd lt) (hanti : ∀ a b, lt a b = false → lt b a = false → a = b) (a b : List α) (hp : a.Perm b) :
    (a.toArray.qsort lt).toList = (b.toArray.qsort lt).toList := by
  apply List.Perm.eq_of_pairwise (le := fun x y => lt y x = false)
  · intro x y _ _ h1 h2
    exact hanti x y h2 h1
  · exact qsort_sorted h _
  · exact qsort_sorted h _
  · exact (qsort_perm h a.toArray).trans (hp.trans (qsort_perm h b.toArray).symm)

end Top

/-! ## `rowCmp` is a linear order on rows -/

/-- the ranks of a cell under `Cell.totalCmp`: the constructor, the number, null-ness of a string, the string -/
def tagRank (x : Cell) : Int := (x.tag : Int)
def valRank : Cell → Int
  | .int v => v
  | .float b => (b.toNat : Int)
  | .bool b => (b.toNat : Int)
  | .str _ => 0
def someRank : Cell → Int
  | .str (some _) => 1
  | _ => 0
def bytesRank : Cell → Bytes
  | .str (some s) => s
  | _ => []

def cellComps : List (Cell → Cell → Ordering) :=
  [fun a b => compare (tagRank a) (tagRank b), fun a b => compare (valRank a) (valRank b),
   fun a b => compare (someRank a) (someRank b), fun a b => bytesCmp (bytesRank a) (bytesRank b)]

theorem c00 : compare (0 : Int) 0 = .eq := by decide
theorem c11 : compare (1 : Int) 1 = .eq := by decide
theorem c22 : compare (2 : Int) 2 = .eq := by decide
theorem c33 : compare (3 : Int) 3 = .eq := by decide

/-- `Cell.totalCmp` compares the four ranks one after the other. Cells of different shape differ in a closed rank; for two
cells of one shape all ranks but one are equal constants, and the chain collapses to the comparison of that one. -/
theorem totalCmp_eq_lex (a b : Cell) : a.totalCmp b = lexCmp cellComps a b := by
  rcases a with x | x | x | (_ | x) <;> rcases b with y | y | y | (_ | y)
  case int.int => exact (collapse (compare x y)).symm
  case float.float => exact (ListFacts.compare_natCast x.toNat y.toNat).symm.trans (collapse _).symm
  case bool.bool => exact (ListFacts.compare_natCast x.toNat y.toNat).symm.trans (collapse _).symm
  case str.some.str.some => exact (collapse (bytesCmp x y)).symm
  all_goals rfl

theorem totalCmp_tp : TP Cell.totalCmp := by
  have h : TP (lexCmp cellComps) := by
    apply lexCmp_tp
    intro c hc
    simp only [cellComps, List.mem_cons, List.mem_nil_iff, or_false] at hc
    rcases hc with rfl | rfl | rfl | rfl
    · exact tp_int _
    · exact tp_int _
    · exact tp_int _
    · exact tp_bytes _
  have e : Cell.totalCmp = lexCmp cellComps := by funext a b; exact totalCmp_eq_lex a b
  rw [e]; exact h

theorem totalCmp_eq (a b : Cell) (h : a.totalCmp b = .eq) : a = b := by
  rcases a with x | x | x | (_ | x) <;> rcases b with y | y | y | (_ | y) <;> simp only [Cell.totalCmp, Cell.tag] at h
  -- two cells of different shape differ in their tags, and `h` compares two different numerals
  all_goals try exact absurd h (by decide)
  -- left are the five pairs of one shape: int, float, bool, two nulls, two strings
  · rw [Int.compare_eq_eq.mp h]
  · rw [UInt64.toNat_inj.mp (Nat.compare_eq_eq.mp h)]
  · have := Nat.compare_eq_eq.mp h
    cases x <;> cases y <;> first | rfl | (simp at this)
  · rfl
  · rw [(bytesCmp_eq_iff x y).1 h]

theorem rowCmp_eq_listCmp : ∀ a b : List Cell, rowCmp a b = listCmp Cell.totalCmp a b
  | [], [] => rfl
  | [], _ :: _ => rfl
  | _ :: _, [] => rfl
  | x :: xs, y :: ys => by
    simp only [rowCmp, listCmp, rowCmp_eq_listCmp xs ys]
    cases x.totalCmp y <;> rfl

theorem rowCmp_tp : TP rowCmp := by
  have e : rowCmp = listCmp Cell.totalCmp := by funext a b; exact rowCmp_eq_listCmp a b
  rw [e]
  exact listCmp_tp totalCmp_tp

theorem rowCmp_eq : ∀ a b : List Cell, rowCmp a b = .eq → a = b :=
  fun a b h => listCmp_eq totalCmp_eq a b (rowCmp_eq_listCmp a b ▸ h)

/-! ## `sortRows` -/

theorem rowLt_ord : LtOrd (fun a b : List Cell => rowCmp a b == .lt) :=
  ⟨fun a b h => tp_lt_asymm rowCmp_tp a b h, fun a b c h1 h2 => tp_lt_le_trans rowCmp_tp a b c h1 h2⟩

/-- **`sortRows` returns the same list for two permutations of one list.** -/
theorem sortRows_perm_invariant (a b : List (List Cell)) (hp : a.Perm b) : sortRows a = sortRows b := by
  unfold sortRows
  apply qsort_perm_invariant rowLt_ord _ a b hp
  intro x y h1 h2
  apply rowCmp_eq
  have s := rowCmp_tp.swap x y
  revert h1 h2 s
  cases rowCmp x y <;> cases rowCmp y x <;> simp [Ordering.swap]

/-- "the same multiset of rows" of the spec holds for two lists of rows that are permutations of each other -/
theorem sameRowMultiset_of_perm (a b : List (List Cell)) (hp : a.Perm b) : sameRowMultiset a b = true := by
  unfold sameRowMultiset
  rw [sortRows_perm_invariant a b hp]
  exact beq_self_eq_true _

/-- the hypothesis of `sortRows_perm_invariant` / `sameRowMultiset_of_perm` on a concrete pair: three rows (an int and a
nullable string each) in two orders -/
example : [[Cell.int 2, .str none], [.int 1, .str (some [120])], [.int 2, .str (some [97])]].Perm
    [[Cell.int 1, .str (some [120])], [.int 2, .str (some [97])], [.int 2, .str none]] :=
  (List.Perm.swap _ _ _).trans (List.Perm.cons _ (List.Perm.swap _ _ _))

/-- `rowCmp` on them: by the int, then null before any string -/
example : rowCmp [Cell.int 1, .str (some [120])] [.int 2, .str none] = .lt ∧ rowCmp [Cell.int 2, .str none] [.int 2, .str (some [97])] = .lt := by
  decide

end QF.Props.C03SortRows

#print axioms QF.Props.C03SortRows.sortV_eq
#print axioms QF.Props.C03SortRows.qsort_perm
#print axioms QF.Props.C03SortRows.qsort_sorted
#print axioms QF.Props.C03SortRows.qsort_perm_invariant
#print axioms QF.Props.C03SortRows.rowCmp_tp
#print axioms QF.Props.C03SortRows.sortRows_perm_invariant
#print axioms QF.Props.C03SortRows.sameRowMultiset_of_perm
