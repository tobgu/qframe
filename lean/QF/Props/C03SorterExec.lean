import QF.Props.C03SorterCanon
import QF.Core.ExecAttr
import QF.Core.SorterSorted
import QF.Core.ListFacts
/-!
# C03 — symbolic execution of `QF.SL` terms in the limit semantics

The equations of the statement forms (`x_*`, from `SL.execLim_eq`: no fuel anywhere), of expressions (`ev_*`), of calls
(`callLim_eq`) and of the operators on values, and the `simp` set `sl_simp` that runs straight-line code and expressions
with them (loops and calls stay folded) and keeps integers in the form of casts of the mirror's naturals (section Casts),
and the two counting loop forms once for any program (`count_down`, `count_up`).
The continuations of the interpreter's `bind`s have names (`defK`, `iteK`,
`binK`, …: the same functions as in `SL.step` / `SL.E.eval`, every equation here is `rfl`) and an equation only for a
VALUE as argument, so that `simp` evaluates in the order of the interpreter and never looks at a branch that is not
taken.
-/
namespace QF.Props.C03SorterGen
open QF QF.SL
set_option linter.unusedSimpArgs false

/-! ## Continuations of expression evaluation -/
section evalK
variable (call : Call) (cols : Cols) (σ : Store)

def unK (op : UOp) : Val × Ix → R (Val × Ix) := fun r => (op.apply r.2 r.1).bind fun v => .ok (v, r.2)
def binK2 (op : BOp) (vx : Val) : Val × Ix → R (Val × Ix) := fun s => (op.apply s.2 vx s.1).bind fun v => .ok (v, s.2)
def binK (op : BOp) (y : E) : Val × Ix → R (Val × Ix) := fun r =>
  (y.eval call cols σ r.2).bind fun s => (op.apply s.2 r.1 s.1).bind fun v => .ok (v, s.2)
def boolK : Val × Ix → R (Val × Ix) := fun s => match s.1 with | .bool b => .ok (.bool b, s.2) | _ => .stuck
def andK (y : E) : Val × Ix → R (Val × Ix) := fun r =>
  match r.1 with
  | .bool false => .ok (.bool false, r.2)
  | .bool true => (y.eval call cols σ r.2).bind fun s => (match s.1 with | .bool b => .ok (.bool b, s.2) | _ => .stuck)
  | _ => .stuck
def orK (y : E) : Val × Ix → R (Val × Ix) := fun r =>
  match r.1 with
  | .bool true => .ok (.bool true, r.2)
  | .bool false => (y.eval call cols σ r.2).bind fun s => (match s.1 with | .bool b => .ok (.bool b, s.2) | _ => .stuck)
  | _ => .stuck
def call1K (f : Nat) : Val × Ix → R (Val × Ix) := fun r => call f [r.1] r.2
def call2K2 (f : Nat) (v1 : Val) : Val × Ix → R (Val × Ix) := fun s => call f [v1, s.1] s.2
def call2K (f : Nat) (y : E) : Val × Ix → R (Val × Ix) := fun r => (y.eval call cols σ r.2).bind fun s => call f [r.1, s.1] s.2
def call3K3 (f : Nat) (v1 v2 : Val) : Val × Ix → R (Val × Ix) := fun t => call f [v1, v2, t.1] t.2
def call3K2 (f : Nat) (z : E) (v1 : Val) : Val × Ix → R (Val × Ix) := fun s =>
  (z.eval call cols σ s.2).bind fun t => call f [v1, s.1, t.1] t.2
def call3K (f : Nat) (y z : E) : Val × Ix → R (Val × Ix) := fun r =>
  (y.eval call cols σ r.2).bind fun s => (z.eval call cols σ s.2).bind fun t => call f [r.1, s.1, t.1] t.2
def call4K4 (f : Nat) (v1 v2 v3 : Val) : Val × Ix → R (Val × Ix) := fun u => call f [v1, v2, v3, u.1] u.2
def call4K3 (f : Nat) (w : E) (v1 v2 : Val) : Val × Ix → R (Val × Ix) := fun t =>
  (w.eval call cols σ t.2).bind fun u => call f [v1, v2, t.1, u.1] u.2
def call4K2 (f : Nat) (z w : E) (v1 : Val) : Val × Ix → R (Val × Ix) := fun s =>
  (z.eval call cols σ s.2).bind fun t => (w.eval call cols σ t.2).bind fun u => call f [v1, s.1, t.1, u.1] u.2
def call4K (f : Nat) (y z w : E) : Val × Ix → R (Val × Ix) := fun r =>
  (y.eval call cols σ r.2).bind fun s => (z.eval call cols σ s.2).bind fun t =>
    (w.eval call cols σ t.2).bind fun u => call f [r.1, s.1, t.1, u.1] u.2

variable (a : Ix)
theorem ev_var (v : Var) : (E.var v).eval call cols σ a = (match σ[v]? with | some x => .ok (x, a) | none => .stuck) := rfl
theorem ev_int (n : Int) : (E.int n).eval call cols σ a = .ok (.int n, a) := rfl
theorem ev_bool (b : Bool) : (E.bool b).eval call cols σ a = .ok (.bool b, a) := rfl
theorem ev_un (op : UOp) (x : E) : (E.un op x).eval call cols σ a = (x.eval call cols σ a).bind (unK op) := rfl
theorem ev_bin (op : BOp) (x y : E) :
    (E.bin op x y).eval call cols σ a = (x.eval call cols σ a).bind (binK call cols σ op y) := rfl
theorem ev_and (x y : E) : (E.and x y).eval call cols σ a = (x.eval call cols σ a).bind (andK call cols σ y) := rfl
theorem ev_or (x y : E) : (E.or x y).eval call cols σ a = (x.eval call cols σ a).bind (orK call cols σ y) := rfl
theorem ev_call0 (f : Nat) : (E.call0 f).eval call cols σ a = call f [] a := rfl
theorem ev_call1 (f : Nat) (x : E) : (E.call1 f x).eval call cols σ a = (x.eval call cols σ a).bind (call1K call f) := rfl
theorem ev_call2 (f : Nat) (x y : E) :
    (E.call2 f x y).eval call cols σ a = (x.eval call cols σ a).bind (call2K call cols σ f y) := rfl
theorem ev_call3 (f : Nat) (x y z : E) :
    (E.call3 f x y z).eval call cols σ a = (x.eval call cols σ a).bind (call3K call cols σ f y z) := rfl
theorem ev_call4 (f : Nat) (x y z w : E) :
    (E.call4 f x y z w).eval call cols σ a = (x.eval call cols σ a).bind (call4K call cols σ f y z w) := rfl
theorem ev_compare (c x y : E) : (E.compare c x y).eval call cols σ a =
    (c.eval call cols σ a).bind fun rc => (x.eval call cols σ rc.2).bind fun rx => (y.eval call cols σ rx.2).bind fun ry =>
      match rc.1, rx.1, ry.1 with
      | .col k, .row i, .row j =>
        (match cols[k]? with
         | some f => (match f i j with | some r => .ok (.res r, ry.2) | none => .stuck)
         | none => .stuck)
      | _, _, _ => .stuck := rfl

theorem unK_eq (op : UOp) (x : Val) : unK op (x, a) = (op.apply a x).bind fun v => .ok (v, a) := rfl
theorem binK_eq (op : BOp) (y : E) (x : Val) : binK call cols σ op y (x, a) = (y.eval call cols σ a).bind (binK2 op x) := rfl
theorem binK2_eq (op : BOp) (x y : Val) : binK2 op x (y, a) = (op.apply a x y).bind fun v => .ok (v, a) := rfl
theorem boolK_eq (b : Bool) : boolK (.bool b, a) = .ok (.bool b, a) := rfl
theorem andK_false (y : E) : andK call cols σ y (.bool false, a) = .ok (.bool false, a) := rfl
theorem andK_true (y : E) : andK call cols σ y (.bool true, a) = (y.eval call cols σ a).bind boolK := rfl
theorem orK_true (y : E) : orK call cols σ y (.bool true, a) = .ok (.bool true, a) := rfl
theorem orK_false (y : E) : orK call cols σ y (.bool false, a) = (y.eval call cols σ a).bind boolK := rfl
theorem call1K_eq (f : Nat) (x : Val) : call1K call f (x, a) = call f [x] a := rfl
theorem call2K_eq (f : Nat) (y : E) (x : Val) :
    call2K call cols σ f y (x, a) = (y.eval call cols σ a).bind (call2K2 call f x) := rfl
theorem call2K2_eq (f : Nat) (x y : Val) : call2K2 call f x (y, a) = call f [x, y] a := rfl
theorem call3K_eq (f : Nat) (y z : E) (x : Val) :
    call3K call cols σ f y z (x, a) = (y.eval call cols σ a).bind (call3K2 call cols σ f z x) := rfl
theorem call3K2_eq (f : Nat) (z : E) (x y : Val) :
    call3K2 call cols σ f z x (y, a) = (z.eval call cols σ a).bind (call3K3 call f x y) := rfl
theorem call3K3_eq (f : Nat) (x y z : Val) : call3K3 call f x y (z, a) = call f [x, y, z] a := rfl
theorem call4K_eq (f : Nat) (y z w : E) (x : Val) :
    call4K call cols σ f y z w (x, a) = (y.eval call cols σ a).bind (call4K2 call cols σ f z w x) := rfl
theorem call4K2_eq (f : Nat) (z w : E) (x y : Val) :
    call4K2 call cols σ f z w x (y, a) = (z.eval call cols σ a).bind (call4K3 call cols σ f w x y) := rfl
theorem call4K3_eq (f : Nat) (w : E) (x y z : Val) :
    call4K3 call cols σ f w x y (z, a) = (w.eval call cols σ a).bind (call4K4 call f x y z) := rfl
theorem call4K4_eq (f : Nat) (x y z w : Val) : call4K4 call f x y z (w, a) = call f [x, y, z, w] a := rfl
end evalK

/-! ## Continuations of statements -/
section stmtK
variable (rec : S → St → R Ctl) (σ : Store)

def defK (v : Var) : Val × Ix → R Ctl := fun r => .ok (.next (σ.set v r.1, r.2))
def def2K (v w : Var) : Val × Ix → R Ctl := fun r =>
  match r.1 with
  | .pair x y => .ok (.next ((σ.set v (.int x)).set w (.int y), r.2))
  | _ => .stuck
def exprK : Val × Ix → R Ctl := fun r => .ok (.next (σ, r.2))
def iteK (t e : S) : Val × Ix → R Ctl := fun r =>
  match r.1 with
  | .bool true => rec t (σ, r.2)
  | .bool false => rec e (σ, r.2)
  | _ => .stuck
def loopK (l post body : S) : Val × Ix → R Ctl := fun r =>
  match r.1 with
  | .bool true => (rec body (σ, r.2)).bind (bodyK rec l post)
  | .bool false => .ok (.next (σ, r.2))
  | _ => .stuck
def retSK : Val × Ix → R Ctl := fun r => .ok (.ret r.1 r.2)
def ret2K2 (vx : Val) : Val × Ix → R Ctl := fun s =>
  match vx, s.1 with
  | .int p, .int q => .ok (.ret (.pair p q) s.2)
  | _, _ => .stuck
def ret2K (call : Call) (cols : Cols) (y : E) : Val × Ix → R Ctl := fun r =>
  (y.eval call cols σ r.2).bind fun s =>
    match r.1, s.1 with
    | .int p, .int q => .ok (.ret (.pair p q) s.2)
    | _, _ => .stuck

variable (a : Ix)
theorem defK_eq (v : Var) (x : Val) : defK σ v (x, a) = .ok (.next (σ.set v x, a)) := rfl
theorem def2K_eq (v w : Var) (x y : Int) : def2K σ v w (.pair x y, a) = .ok (.next ((σ.set v (.int x)).set w (.int y), a)) := rfl
theorem exprK_eq (x : Val) : exprK σ (x, a) = .ok (.next (σ, a)) := rfl
theorem iteK_true (t e : S) : iteK rec σ t e (.bool true, a) = rec t (σ, a) := rfl
theorem iteK_false (t e : S) : iteK rec σ t e (.bool false, a) = rec e (σ, a) := rfl
theorem loopK_true (l post body : S) :
    loopK rec σ l post body (.bool true, a) = (rec body (σ, a)).bind (bodyK rec l post) := rfl
theorem loopK_false (l post body : S) : loopK rec σ l post body (.bool false, a) = .ok (.next (σ, a)) := rfl
theorem retSK_eq (x : Val) : retSK (x, a) = .ok (.ret x a) := rfl
theorem ret2K_eq (call : Call) (cols : Cols) (y : E) (x : Val) :
    ret2K σ call cols y (x, a) = (y.eval call cols σ a).bind (ret2K2 x) := rfl
theorem ret2K2_eq (p q : Int) : ret2K2 (.int p) (.int q, a) = .ok (.ret (.pair p q) a) := rfl
end stmtK

/-! ## The equations of the statement forms in the limit semantics (no fuel) -/
section equations
variable (P : Prog) (cols : Cols) (σ : Store) (a : Ix)

theorem x_skip : execLim P cols .skip (σ, a) = .ok (.next (σ, a)) := by rw [execLim_eq]; rfl
theorem x_block_nil : execLim P cols (S.block []) (σ, a) = .ok (.next (σ, a)) := by rw [S.block, execLim_eq]; rfl
theorem x_seq (s b : S) :
    execLim P cols (.seq s b) (σ, a) = (execLim P cols s (σ, a)).bind (seqK (execLim P cols) b) := by rw [execLim_eq]; rfl
theorem x_block_cons (s : S) (ss : List S) :
    execLim P cols (S.block (s :: ss)) (σ, a) = (execLim P cols s (σ, a)).bind (seqK (execLim P cols) (S.block ss)) := by
  rw [S.block, x_seq]
theorem x_define (v : Var) (e : E) : execLim P cols (.define v e) (σ, a) =
    (e.eval (callLim P cols) cols σ a).bind (defK σ v) := by rw [execLim_eq]; rfl
theorem x_assign (v : Var) (e : E) : execLim P cols (.assign v e) (σ, a) =
    (e.eval (callLim P cols) cols σ a).bind (defK σ v) := by rw [execLim_eq]; rfl
theorem x_incr (v : Var) : execLim P cols (.incr v) (σ, a) =
    (match σ[v]? with | some (.int n) => .ok (.next (σ.set v (.int (n + 1)), a)) | _ => .stuck) := by
  rw [execLim_eq]; rfl
theorem x_decr (v : Var) : execLim P cols (.decr v) (σ, a) =
    (match σ[v]? with | some (.int n) => .ok (.next (σ.set v (.int (n - 1)), a)) | _ => .stuck) := by
  rw [execLim_eq]; rfl
theorem x_define2 (v w : Var) (e : E) : execLim P cols (.define2 v w e) (σ, a) =
    (e.eval (callLim P cols) cols σ a).bind (def2K σ v w) := by rw [execLim_eq]; rfl
theorem x_expr (e : E) : execLim P cols (.expr e) (σ, a) = (e.eval (callLim P cols) cols σ a).bind (exprK σ) := by
  rw [execLim_eq]; rfl
theorem x_ite (c : E) (t e : S) : execLim P cols (.ite c t e) (σ, a) =
    (c.eval (callLim P cols) cols σ a).bind (iteK (execLim P cols) σ t e) := by rw [execLim_eq]; rfl
theorem x_loop (c : E) (post body : S) : execLim P cols (.loop c post body) (σ, a) =
    (c.eval (callLim P cols) cols σ a).bind (loopK (execLim P cols) σ (.loop c post body) post body) := by
  rw [execLim_eq]; rfl
theorem x_rangeCols (recv : E) (v : Var) (body : S) : execLim P cols (.rangeCols recv v body) (σ, a) =
    (recv.eval (callLim P cols) cols σ a).bind fun r =>
      match r.1 with
      | .sorter => colLoop (fun k st' => execLim P cols body (st'.1.set v (.col k), st'.2)) (List.range cols.length) (σ, r.2)
      | _ => .stuck := by rw [execLim_eq]; rfl
theorem x_brk : execLim P cols .brk (σ, a) = .ok (.brk (σ, a)) := by rw [execLim_eq]; rfl
theorem x_cont : execLim P cols .cont (σ, a) = .ok (.cont (σ, a)) := by rw [execLim_eq]; rfl
theorem x_ret0 : execLim P cols .ret0 (σ, a) = .ok (.ret .unit a) := by rw [execLim_eq]; rfl
theorem x_ret (e : E) : execLim P cols (.ret e) (σ, a) = (e.eval (callLim P cols) cols σ a).bind retSK := by
  rw [execLim_eq]; rfl
theorem x_ret2 (x y : E) : execLim P cols (.ret2 x y) (σ, a) =
    (x.eval (callLim P cols) cols σ a).bind (ret2K σ (callLim P cols) cols y) := by rw [execLim_eq]; rfl
theorem x_setIx2 (recv i j x y : E) : execLim P cols (.setIx2 recv i j x y) (σ, a) =
    (recv.eval (callLim P cols) cols σ a).bind fun r0 => (i.eval (callLim P cols) cols σ r0.2).bind fun r1 =>
    (j.eval (callLim P cols) cols σ r1.2).bind fun r2 => (x.eval (callLim P cols) cols σ r2.2).bind fun r3 =>
    (y.eval (callLim P cols) cols σ r3.2).bind fun r4 =>
      match r0.1, r1.1, r2.1, r3.1, r4.1 with
      | .sorter, .int i, .int j, .row x, .row y =>
        if 0 ≤ i ∧ i < (r4.2.size : Int) ∧ 0 ≤ j ∧ j < (r4.2.size : Int) then
          .ok (.next (σ, (r4.2.setIfInBounds i.toNat x).setIfInBounds j.toNat y))
        else .stuck
      | _, _, _, _, _ => .stuck := by rw [execLim_eq]; rfl

/-- a call runs the body on the arguments -/
theorem callLim_eq (f : Nat) (fn : Fn) (h : P[f]? = some fn) (args : List Val) (hl : args.length = fn.params)
    (σ' : Store) (hσ : args ++ List.replicate (fn.vars - fn.params) .unit = σ') :
    callLim P cols f args a = (execLim P cols fn.body (σ', a)).bind wrapRet := by
  simp only [callLim, callOf, h, hl, ↓reduceIte, hσ]

end equations

theorem bind_ok {α β : Type} (x : α) (k : α → R β) : (R.ok x).bind k = k x := rfl
theorem bind_stuck {α β : Type} (k : α → R β) : (R.stuck : R α).bind k = .stuck := rfl
theorem bind_timeout {α β : Type} (k : α → R β) : (R.timeout : R α).bind k = .timeout := rfl

/-! the operators on values -/
section ops
variable (a : Ix)
theorem uop_not (b : Bool) : UOp.apply a .not (.bool b) = .ok (.bool (!b)) := rfl
theorem uop_toUint (n : Int) : UOp.apply a .toUint (.int n) = if 0 ≤ n then .ok (.int n) else .stuck := rfl
theorem uop_toInt (n : Int) : UOp.apply a .toInt (.int n) = .ok (.int n) := rfl
theorem uop_lenIx : UOp.apply a .lenIx .sorter = .ok (.int a.size) := rfl
theorem uop_resIs (c r : CRes) : UOp.apply a (.resIs c) (.res r) = .ok (.bool (r == c)) := rfl
theorem bop_add (x y : Int) : BOp.apply a .add (.int x) (.int y) = .ok (.int (x + y)) := rfl
theorem bop_sub (x y : Int) : BOp.apply a .sub (.int x) (.int y) = .ok (.int (x - y)) := rfl
theorem bop_mul (x y : Int) : BOp.apply a .mul (.int x) (.int y) = .ok (.int (x * y)) := rfl
theorem bop_div (x y : Int) : BOp.apply a .div (.int x) (.int y) = if y = 0 then .stuck else .ok (.int (x.tdiv y)) := rfl
theorem bop_shr (x k : Int) : BOp.apply a .shr (.int x) (.int k) = if k < 0 then .stuck else .ok (.int (x / 2 ^ k.toNat)) := rfl
theorem bop_lt (x y : Int) : BOp.apply a (.cmp .lt) (.int x) (.int y) = .ok (.bool (decide (x < y))) := rfl
theorem bop_le (x y : Int) : BOp.apply a (.cmp .le) (.int x) (.int y) = .ok (.bool (decide (x ≤ y))) := rfl
theorem bop_gt (x y : Int) : BOp.apply a (.cmp .gt) (.int x) (.int y) = .ok (.bool (decide (x > y))) := rfl
theorem bop_ge (x y : Int) : BOp.apply a (.cmp .ge) (.int x) (.int y) = .ok (.bool (decide (x ≥ y))) := rfl
theorem bop_eq (x y : Int) : BOp.apply a (.cmp .eq) (.int x) (.int y) = .ok (.bool (x == y)) := rfl
theorem bop_ne (x y : Int) : BOp.apply a (.cmp .ne) (.int x) (.int y) = .ok (.bool (x != y)) := rfl
/-- an index within the array -/
theorem bop_ixAt (i : Int) (h : 0 ≤ i ∧ i < a.size) : BOp.apply a .ixAt .sorter (.int i) = .ok (.row a[i.toNat]!) := by
  have h1 : ¬ i < 0 := by omega
  have h2 : i.toNat < a.size := by omega
  rw [getElem!_pos a _ h2]
  simp only [BOp.apply, h1, ↓reduceIte, Array.getElem?_eq_getElem h2]
end ops

theorem seqK_next (rec : S → St → R Ctl) (b : S) (st : St) : seqK rec b (.next st) = rec b st := rfl
theorem seqK_brk (rec : S → St → R Ctl) (b : S) (st : St) : seqK rec b (.brk st) = .ok (.brk st) := rfl
theorem seqK_cont (rec : S → St → R Ctl) (b : S) (st : St) : seqK rec b (.cont st) = .ok (.cont st) := rfl
theorem seqK_ret (rec : S → St → R Ctl) (b : S) (v : Val) (a : Ix) : seqK rec b (.ret v a) = .ok (.ret v a) := rfl
theorem postK_next (rec : S → St → R Ctl) (l : S) (st : St) : postK rec l (.next st) = rec l st := rfl
theorem bodyK_next (rec : S → St → R Ctl) (l post : S) (st : St) :
    bodyK rec l post (.next st) = (rec post st).bind (postK rec l) := rfl
theorem bodyK_cont (rec : S → St → R Ctl) (l post : S) (st : St) :
    bodyK rec l post (.cont st) = (rec post st).bind (postK rec l) := rfl
theorem bodyK_brk (rec : S → St → R Ctl) (l post : S) (st : St) : bodyK rec l post (.brk st) = .ok (.next st) := rfl
theorem bodyK_ret (rec : S → St → R Ctl) (l post : S) (v : Val) (a : Ix) :
    bodyK rec l post (.ret v a) = .ok (.ret v a) := rfl
theorem wrapRet_next (st : St) : wrapRet (.next st) = .ok (.unit, st.2) := rfl
theorem wrapRet_ret (v : Val) (a : Ix) : wrapRet (.ret v a) = .ok (v, a) := rfl

/-! ## Casts

The program computes positions in `Int`, the mirror in `Nat`: an integer that stands for a position is shown as the cast
of the mirror's natural. The facts below (and `cast_two_mul`, `cast_succ_sub_one` of QF/Core/ListFacts.lean) are in the set of `sl_simp`: casts are pulled outward (`↑a + ↑b`, `↑a + 3`,
`2 * ↑a`, `↑a / 2`), a comparison of casts becomes the comparison of the naturals, and `Int.toNat`, which the call lemmas
apply to their arguments, goes through a subtraction (it commutes with the mirror's truncated subtraction without a side
condition). Where a truncated difference is stored or compared, its bound is given at the call: `← Int.natCast_sub h`,
`cast_pred h`. (`no_index`: a numeral with a variable for its value is not found by `simp`'s index.) -/
theorem cast_add_lit (n k : Nat) : (n : Int) + (no_index (OfNat.ofNat k) : Int) = ↑(n + OfNat.ofNat k) := rfl
theorem lit_lt_cast (k n : Nat) : (no_index (OfNat.ofNat k) : Int) < ↑n ↔ OfNat.ofNat k < n := Int.ofNat_lt
theorem cast_lt_lit (n k : Nat) : (n : Int) < (no_index (OfNat.ofNat k) : Int) ↔ n < OfNat.ofNat k := Int.ofNat_lt
theorem cast_tdiv_lit (n k : Nat) : (n : Int).tdiv (no_index (OfNat.ofNat k) : Int) = ↑(n / OfNat.ofNat k) := rfl
theorem cast_div_lit (n k : Nat) : (n : Int) / (no_index (OfNat.ofNat k) : Int) = ↑(n / OfNat.ofNat k) := rfl
/-- the mirror's `c - 1` where it is stored, not consumed by a call: the cursor is positive there -/
theorem cast_pred {c : Nat} (h : 0 < c) : (c : Int) - 1 = ↑(c - 1) := (Int.natCast_sub h).symm
theorem toNat_sub_lit (a : Int) (k : Nat) : (a - (no_index (OfNat.ofNat k) : Int)).toNat = a.toNat - OfNat.ofNat k := Int.toNat_sub' a k

/-! ## Loops that count

The two loop forms `for ; cnd; v-- { body }` and `for ; cnd; v++ { body }` of any program, once: the store is a function of
the cursor, the array goes through `f` in every round, `Inv` is what the body needs of the array and keeps. A loop of the
canonical program is an instance by three facts: its condition, its body and its post statement at cursor `i`. -/

theorem range_succ_reverse (k : Nat) : (List.range (k + 1)).reverse = k :: (List.range k).reverse := by
  rw [List.range_succ, List.reverse_append]; rfl

/-- the cursor counts `m-1, …, 0` and ends at `-1`; the body leaves the store alone -/
theorem count_down (P : Prog) (cols : Cols) (cnd : E) (v : Var) (body : S) (f : Ix → Nat → Ix) (Inv : Ix → Prop)
    (σ : Int → Store) (M : Nat)
    (hcnd : ∀ (i : Int) a, cnd.eval (callLim P cols) cols (σ i) a = .ok (.bool (decide (i ≥ 0)), a))
    (hbody : ∀ (i : Nat) a, i < M → Inv a → execLim P cols body (σ i, a) = .ok (.next (σ i, f a i)) ∧ Inv (f a i))
    (hdec : ∀ (i : Int) a, execLim P cols (S.decr v) (σ i, a) = .ok (.next (σ (i - 1), a))) :
    ∀ (m : Nat) a, m ≤ M → Inv a →
      execLim P cols (S.loop cnd (S.block [S.decr v]) body) (σ ((m : Int) - 1), a)
        = .ok (.next (σ (-1), (List.range m).reverse.foldl f a)) ∧ Inv ((List.range m).reverse.foldl f a) := by
  intro m
  induction m with
  | zero =>
    intro a _ ha
    rw [x_loop, hcnd]
    exact ⟨rfl, ha⟩
  | succ m ih =>
    intro a hm ha
    have p : decide ((m : Int) ≥ 0) = true := decide_eq_true (Int.natCast_nonneg m)
    rw [ListFacts.cast_succ_sub_one, x_loop, hcnd, p, bind_ok, loopK_true, (hbody m a hm ha).1, bind_ok, bodyK_next, x_block_cons, hdec, bind_ok, seqK_next,
      x_block_nil, bind_ok, postK_next, range_succ_reverse, List.foldl_cons]
    exact ih _ (Nat.le_of_lt hm) (hbody m a hm ha).2

/-- the cursor counts `i, …, n-1`; `p` is a slot of the store that the body may change -/
theorem count_up (P : Prog) (cols : Cols) (cnd : E) (v : Var) (body : S) (f : Ix → Nat → Ix) (Inv : Nat → Ix → Prop)
    (σ : Nat → Val → Store) (n : Nat)
    (hcnd : ∀ i p a, cnd.eval (callLim P cols) cols (σ i p) a = .ok (.bool (decide (i < n)), a))
    (hbody : ∀ i p a, i < n → Inv i a →
      ∃ p', execLim P cols body (σ i p, a) = .ok (.next (σ i p', f a i)) ∧ Inv (i + 1) (f a i))
    (hinc : ∀ i p a, execLim P cols (S.incr v) (σ i p, a) = .ok (.next (σ (i + 1) p, a))) :
    ∀ (k i : Nat) p a, n - i = k → Inv i a →
      ∃ i' p', execLim P cols (S.loop cnd (S.block [S.incr v]) body) (σ i p, a)
        = .ok (.next (σ i' p', (List.range' i k).foldl f a)) ∧ Inv i' ((List.range' i k).foldl f a) := by
  intro k
  induction k with
  | zero =>
    intro i p a hk ha
    have : ¬ i < n := by omega
    rw [x_loop, hcnd, decide_eq_false this]
    exact ⟨_, _, rfl, ha⟩
  | succ k ih =>
    intro i p a hk ha
    have hi : i < n := by omega
    obtain ⟨p', hb, ha'⟩ := hbody i p a hi ha
    rw [x_loop, hcnd, decide_eq_true hi, bind_ok, loopK_true, hb, bind_ok, bodyK_next, x_block_cons, hinc, bind_ok, seqK_next,
      x_block_nil, bind_ok, postK_next, List.range'_succ, List.foldl_cons]
    exact ih (i + 1) p' _ (by omega) ha'

/-- side conditions of the call lemmas: an index within the array, `0 ≤ x ∧ x < a.size` (fails at once on anything else).
It splits ONE conjunction and gives each half to `omega`, so a call lemma that `sl_simp` is to use as a rewrite rule states
its side condition as a pair of linear facts: hence `(… ∧ … ∧ …) ∧ (… ∧ …)` in `call_siftDown`. -/
macro "sl_disch" : tactic =>
  `(tactic| (apply And.intro; (try simp only [Sorter.sw_size]); omega; (try simp only [Sorter.sw_size]); omega))

/- the equations of the interpreter in the limit semantics (tried before the subterms, `↓`) and the operations on values: the simp set `sl_exec` -/
attribute [sl_exec ↓] x_skip x_block_nil x_seq x_block_cons x_define x_assign x_incr x_decr x_define2 x_expr x_ite x_brk x_cont x_ret0 x_ret
  x_ret2 seqK_next seqK_brk seqK_cont seqK_ret postK_next bodyK_next bodyK_cont bodyK_brk bodyK_ret wrapRet_next
  wrapRet_ret bind_ok bind_stuck bind_timeout ev_var ev_int ev_bool ev_un ev_bin ev_and ev_or ev_call0 ev_call1 ev_call2
  ev_call3 ev_call4 unK_eq binK_eq binK2_eq boolK_eq andK_false andK_true orK_true orK_false call1K_eq call2K_eq
  call2K2_eq call3K_eq call3K2_eq call3K3_eq call4K_eq call4K2_eq call4K3_eq call4K4_eq defK_eq def2K_eq exprK_eq
  iteK_true iteK_false loopK_true loopK_false retSK_eq ret2K_eq ret2K2_eq
attribute [sl_exec] uop_not uop_toUint uop_toInt uop_lenIx uop_resIs bop_add bop_sub bop_mul bop_div bop_shr bop_lt bop_le bop_gt bop_ge
  bop_eq bop_ne bop_ixAt Store.set List.getElem?_cons_zero List.getElem?_cons_succ List.length_cons List.length_nil

attribute [sl_exec] cast_add_lit ListFacts.cast_two_mul cast_tdiv_lit cast_div_lit Int.ofNat_lt Int.ofNat_le lit_lt_cast cast_lt_lit Int.toNat_natCast Int.toNat_sub' toNat_sub_lit
  ListFacts.cast_succ_sub_one
attribute [sl_exec ←] Int.natCast_add

/-- symbolic execution of straight-line code and of expressions (loops and calls stay folded) -/
macro "sl_simp" " [" ts:Lean.Parser.Tactic.simpLemma,* "]" : tactic =>
  `(tactic| simp (disch := sl_disch) only [sl_exec, Int.reduceLT, Int.reduceLE, Int.reduceGT, Int.reduceGE, Int.reduceToNat, Int.reducePow,
      Int.reduceNeg, Int.reduceEq, Int.reduceNe, ↓reduceIte, $ts,*])

/-- the canonical program in the limit semantics: statements and calls -/
scoped notation "X" => execLim canonFns
scoped notation "C" => callLim canonFns

end QF.Props.C03SorterGen
