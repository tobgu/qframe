import QF.Props.C07DecodeCanon
/-!
# C07 — the expression DECODER of today's expression.go reads raw trees as the spec does (tie T1, by semantics)

`QF.Gen.newExprAst` (regenerated on every run by go/cmd/extract/xast.go) is the body of the function `Val` delegates to
(`newExpr`) with every constructor it calls inlined (`newColExpr`, `newConstExpr`, `newUnaryExpr`, `newColConstExpr`,
`newColColExpr`, `newExprExpr`, `opIdentifier`, `colIdentifier`), as ONE decision tree `QF.XT` (QF/Core/XExpr.lean) over
the raw argument; `QF.Gen.exprFoldAst` is `Expr(name, args...)` as a term of `QF.XF`. `XT.decode` / `XF.run` are the Go
meaning of such terms on raw values `RawExpr` (strings, column names, int / float64 / bool / string / *string constants,
nil, `[]interface{}` lists, `Expression` values built earlier, anything else). Proved here, over the terms generated TODAY:

* `gen_decoder_canon_atom/_len/2/3` (QF/Props/C07DecodeCanon.lean) — finite `decide`: for every SHAPE of the argument
  (its kind; for a list its length 0, 1, 2, 3, ≥ 4 and, for 2 and 3 elements, per element (kind, "its decoding is an
  error")) the tree reaches the leaf the hand-written `canonNode` names. Insensitive to names, to the order of harmless
  tests, to how the constructors are split into functions; sensitive to the order of the attempts where it matters
  (col-const before col-col before nested), to the lengths accepted, to every type test and every field.
* `gen_expr_fold_canon` — `Expr` is `canonFold` (tests on `len(args)`, fresh slice, tail call).
* `gen_expr_decode_semantics` — on EVERY raw tree the decoder terminates with a struct value `d`; `d.Err() != nil`
  exactly when the spec's reading `read x : EArg` (QF/Spec/Ops.lean) contains a malformed part, otherwise `d` stands for
  exactly `read x` (`XDec.toEArg`: `unaryExpr{op, c}` ↦ `.x op [.col c]`, `colConstExpr{op, c, v, constFirst}` ↦
  `.x op [.col c, .val v]` or `.x op [.val v, .col c]`, …). `den_hasBad`: a malformed part makes `EArg.den` `none` on
  every frame; `gen_expr_decode_den`: so `d` and `read x` have the same denotation.
* `gen_expr_fold` — `Expr(name, a₀, a₁, a₂, …)` returns the LEFT fold `((a₀ name a₁) name a₂) …` (`foldE`), an error
  exactly when an argument is malformed or there is none, and the contents of the caller's slice afterwards are what
  they were (the extracted body copies; `inPlaceFold` below: a variant that writes into `args` builds the same
  expression and leaves the slice changed). `den_foldE`: the left fold denotes what the spec's n-ary `EArg.x op args`
  denotes; `gen_expr_fold_den` puts the two together.

`wf x`: every `Expression` value inside the raw tree is one the decoder can have built (`XDec.proper`: no operand of a
nested expression is the error struct) — what `Val` / `Expr` return, by the `proper` conjunct of the theorems.
Not modelled: user types implementing `Expression` (the interface has an unexported method, so there are none outside
the package), `[]string` or other slice types as list (they are `other`: rejected, as in the code).
-/
namespace QF.Props.C07Decode
open QF

/-! ## the decoder's interpreter, by cases of the argument

`XT.decode` is defined in an imported module; unfolding it by name inside a proof derives its equations anew each
time, so the two forms that are used are stated here. -/

theorem decode_list (t : XT) (l : List RawExpr) : t.decode (.list l) = (t.decodeL l).bind (t.run (.list l)) := by
  rw [XT.decode]; cases t.decodeL l <;> rfl

theorem decode_atom (t : XT) {x : RawExpr} (h : x.kind ≠ .list) : t.decode x = t.run x [] := by
  cases x <;> first | rfl | exact absurd rfl h

theorem decodeL_nil (t : XT) : t.decodeL [] = some [] := by rw [XT.decodeL]

theorem decodeL_cons {t : XT} {a : RawExpr} {r : List RawExpr} {d : XDec} {ds : List XDec} (hd : t.decode a = some d)
    (hds : t.decodeL r = some ds) : t.decodeL (a :: r) = some (d :: ds) := by rw [XT.decodeL, hd, hds]

/-! ## the spec's reading of a raw tree -/

/-- the expression a decoded struct stands for (`nm`: the operation name as the spec's `String`) -/
def _root_.QF.XDec.toEArg (nm : Bytes → String) : XDec → EArg
  | .col n => .col n
  | .const c => .val c
  | .unary op s => .x (nm op) [.col s]
  | .colConst op s c false => .x (nm op) [.col s, .val c]
  | .colConst op s c true => .x (nm op) [.val c, .col s]
  | .colCol op a b => .x (nm op) [.col a, .col b]
  | .ex1 op e => .x (nm op) [e.toEArg nm]
  | .ex2 op l r => .x (nm op) [l.toEArg nm, r.toEArg nm]
  | .error => .bad

/-- no operand of a nested expression is the error struct (`newExprExpr` never builds such a value) -/
def _root_.QF.XDec.proper : XDec → Bool
  | .ex1 _ e => !e.isErr && e.proper
  | .ex2 _ l r => !l.isErr && l.proper && (!r.isErr && r.proper)
  | _ => true

mutual
/-- The spec's reading of a raw Go value as an expression (QF/Spec/Ops.lean `EArg`): a column name is a column, a
constant of type int / float64 / bool / string / *string a value, nil the null string, a two- or three-element list whose
head is a string an application, an `Expression` built earlier what it was built from; everything else is `.bad`. -/
def read (nm : Bytes → String) : RawExpr → EArg
  | .expr d => d.toEArg nm
  | .col n => .col n
  | .str s => .val (.str (some s))
  | .int v => .val (.int v)
  | .float b => .val (.float b)
  | .bool b => .val (.bool b)
  | .pstr p => .val (.str p)
  | .nil => .val (.str none)
  | .other => .bad
  | .list l =>
    match l.head?, readL nm l with
    | some (.str op), [_, a] => .x (nm op) [a]
    | some (.str op), [_, a, b] => .x (nm op) [a, b]
    | _, _ => .bad
def readL (nm : Bytes → String) : List RawExpr → List EArg
  | [] => []
  | a :: r => read nm a :: readL nm r
end

mutual
/-- does the expression contain a malformed part? (the spec's `EArg.den` is `none` then, whatever the frame) -/
def hasBad : EArg → Bool
  | .bad => true
  | .x _ args => hasBadL args
  | _ => false
def hasBadL : List EArg → Bool
  | [] => false
  | a :: r => hasBad a || hasBadL r
end

mutual
/-- every `Expression` value inside the raw tree is one the decoder can have built -/
def wf : RawExpr → Bool
  | .expr d => d.proper
  | .list l => wfL l
  | _ => true
def wfL : List RawExpr → Bool
  | [] => true
  | a :: r => wf a && wfL r
end

theorem wfL_cons {a : RawExpr} {r : List RawExpr} : wfL (a :: r) = true ↔ wf a = true ∧ wfL r = true := by
  simp [wfL]

/-- `d` stands for the expression `e` -/
def GoodE (nm : Bytes → String) (e : EArg) (d : XDec) : Prop :=
  d.proper = true ∧ d.isErr = hasBad e ∧ (d.isErr = false → d.toEArg nm = e)

/-- the decoder's answer `d` for the raw tree `x` is the spec's reading -/
def Good (nm : Bytes → String) (x : RawExpr) (d : XDec) : Prop :=
  d.proper = true ∧ d.isErr = hasBad (read nm x) ∧ (d.isErr = false → d.toEArg nm = read nm x)

theorem read_list2 (nm : Bytes → String) (op : Bytes) (a : RawExpr) :
    read nm (.list [.str op, a]) = .x (nm op) [read nm a] := by simp [read, readL]

theorem read_list3 (nm : Bytes → String) (op : Bytes) (a b : RawExpr) :
    read nm (.list [.str op, a, b]) = .x (nm op) [read nm a, read nm b] := by simp [read, readL]

theorem read_head_not_str (nm : Bytes → String) (a : RawExpr) (r : List RawExpr) (h : a.kind ≠ .str) :
    read nm (.list (a :: r)) = .bad := by
  cases a <;> first | exact absurd rfl h | simp [read]

theorem hasBad_x1 (op : String) (a : EArg) : hasBad (.x op [a]) = hasBad a := by simp [hasBad, hasBadL]

theorem hasBad_x2 (op : String) (a b : EArg) : hasBad (.x op [a, b]) = (hasBad a || hasBad b) := by
  simp [hasBad, hasBadL]

theorem proper_noBad (nm : Bytes → String) (d : XDec) (hp : d.proper = true) (he : d.isErr = false) :
    hasBad (d.toEArg nm) = false := by
  induction d with
  | ex1 op e ih =>
    simp only [XDec.proper, Bool.and_eq_true, Bool.not_eq_true'] at hp
    rw [XDec.toEArg, hasBad_x1, ih hp.2 hp.1]
  | ex2 op l r ihl ihr =>
    simp only [XDec.proper, Bool.and_eq_true, Bool.not_eq_true'] at hp
    rw [XDec.toEArg, hasBad_x2, ihl hp.1.2 hp.1.1, ihr hp.2.2 hp.2.1]; rfl
  | colConst op s c cf => cases cf <;> rfl
  | error => cases he
  | _ => rfl

theorem isErr_error : XDec.error.isErr = true := rfl

/-- the error struct stands for every expression with a malformed part -/
theorem goodE_error (nm : Bytes → String) (e : EArg) (h : hasBad e = true) : GoodE nm e .error :=
  ⟨rfl, h.symm, fun h => nomatch h⟩

/-- a proper struct other than the error struct stands for the expression it is translated to -/
theorem goodE_ok {nm : Bytes → String} {e : EArg} {d : XDec} (hp : d.proper = true) (he : d.isErr = false)
    (ht : d.toEArg nm = e) : GoodE nm e d :=
  ⟨hp, by rw [he, ← ht, proper_noBad nm d hp he], fun _ => ht⟩

/-- either `d` is a struct for `e` itself, or it is the error struct and `e` has a malformed part -/
theorem GoodE.elim {nm : Bytes → String} {e : EArg} {d : XDec} (h : GoodE nm e d) :
    (d.isErr = false ∧ d.proper = true ∧ d.toEArg nm = e) ∨ (d = .error ∧ hasBad e = true) := by
  obtain ⟨hp, hb, ht⟩ := h
  cases d with
  | error => exact .inr ⟨rfl, hb.symm⟩
  | _ => exact .inl ⟨rfl, hp, ht rfl⟩

theorem Good.goodE {nm : Bytes → String} {x : RawExpr} {d : XDec} {e : EArg} (h : Good nm x d) (hr : read nm x = e) :
    GoodE nm e d := by
  subst hr; exact h

/-- expressions with a malformed part are all stood for by the same struct, the error struct -/
theorem GoodE.of_bad {nm : Bytes → String} {e e' : EArg} {d : XDec} (h : GoodE nm e d) (he : hasBad e = true)
    (he' : hasBad e' = true) : GoodE nm e' d :=
  ⟨h.1, by rw [h.2.1, he, he'], fun hd => by rw [h.2.1, he] at hd; cases hd⟩

theorem good_expr (nm : Bytes → String) (d : XDec) (hp : d.proper = true) : Good nm (.expr d) d := by
  cases hd : d.isErr
  · exact goodE_ok hp hd rfl
  · cases d <;> first | exact goodE_error nm _ rfl | cases hd

/-! ## today's tree on an argument: the canonical leaf of its shape -/

theorem shape_atom (x : RawExpr) (h : x.kind ≠ .list) : shapeOf x [] = { kind := x.kind } := by
  cases x <;> first | rfl | exact absurd rfl h

/-- on an argument that is not a list -/
theorem run_canon_atom (x : RawExpr) (h : x.kind ≠ .list) :
    Gen.newExprAst.run x [] = (canonNode { kind := x.kind }).build x [] :=
  XT.run_flatten x [] _ _ (shape_atom x h ▸ gen_decoder_canon_atom x.kind h)

/-! ## lists -/

def GoodL (nm : Bytes → String) : List RawExpr → List XDec → Prop
  | [], [] => True
  | a :: r, d :: ds => Good nm a d ∧ GoodL nm r ds
  | _, _ => False

theorem good_consistent {nm : Bytes → String} {a : RawExpr} {d : XDec} (h : Good nm a d) :
    consistent (a.kind, d.isErr) = true := by
  obtain ⟨_, he, _⟩ := h
  cases a <;> first | rfl | (rw [he]; rfl)

theorem GoodL.length {nm : Bytes → String} : ∀ {l : List RawExpr} {subs : List XDec}, GoodL nm l subs → subs.length = l.length
  | [], [], _ => rfl
  | a :: r, d :: ds, h => by simp [GoodL.length h.2]

theorem kind_str {a : RawExpr} (h : a.kind = .str) : ∃ s, a = .str s := by
  cases a <;> first | exact ⟨_, rfl⟩ | cases h

theorem kind_col {a : RawExpr} (h : a.kind = .col) : ∃ s, a = .col s := by
  cases a <;> first | exact ⟨_, rfl⟩ | cases h

/-- a constant `c` found at `w`: the cell the leaf stores (nil becomes the null string) is the value the spec reads -/
theorem const_cell (nm : Bytes → String) {c : RawExpr} (h : isConstKind c.kind = true) (x : RawExpr) (w : XV)
    (hw : w.get x = some c) : ∃ v, (kOf c.kind w).cell x = some v ∧ read nm c = .val v := by
  cases c <;> first | exact ⟨_, by simp [kOf, RawExpr.kind, XK.cell, hw], rfl⟩ | cases h

theorem build_colConst {x : RawExpr} {subs : List XDec} {op src : XV} {k : XK} {o s : Bytes} {c : Cell} (cf : Bool)
    (ho : op.str x = some o) (hs : src.col x = some s) (hc : k.cell x = some c) :
    (XN.colConst op src k cf).build x subs = some (.colConst o s c cf) := by
  simp only [XN.build, ho, hs, hc]

theorem good2 (nm : Bytes → String) (a b : RawExpr) (da db : XDec) (hb : Good nm b db) :
    ∃ d, (canonNode (shapeOf (.list [a, b]) [da, db])).build (.list [a, b]) [da, db] = some d ∧
      Good nm (.list [a, b]) d := by
  have hs : shapeOf (.list [a, b]) [da, db] =
      { kind := .list, len := 2, elems := [(a.kind, da.isErr), (b.kind, db.isErr)] } := rfl
  rw [hs]; simp only [canonNode]
  by_cases ha : a.kind = .str
  · obtain ⟨op, rfl⟩ := kind_str ha
    rw [if_neg (not_not_intro ha)]
    by_cases hbk : b.kind = .col
    · obtain ⟨n, rfl⟩ := kind_col hbk
      rw [if_pos hbk]
      exact ⟨.unary op n, rfl, goodE_ok rfl rfl (read_list2 nm op (.col n)).symm⟩
    · rw [if_neg hbk]
      rcases GoodE.elim hb with ⟨hd, hp, ht⟩ | ⟨rfl, hbad⟩
      · rw [hd]
        exact ⟨.ex1 op db, rfl, goodE_ok (by simp [XDec.proper, hp, hd]) rfl (by rw [read_list2, ← ht]; rfl)⟩
      · exact ⟨.error, rfl, goodE_error nm _ (by rw [read_list2, hasBad_x1, hbad])⟩
  · rw [if_pos ha]
    exact ⟨.error, rfl, goodE_error nm _ (by rw [read_head_not_str nm a [b] ha]; rfl)⟩

theorem good3 (nm : Bytes → String) (a b c : RawExpr) (da db dc : XDec) (hb : Good nm b db) (hc : Good nm c dc) :
    ∃ d, (canonNode (shapeOf (.list [a, b, c]) [da, db, dc])).build (.list [a, b, c]) [da, db, dc] = some d ∧
      Good nm (.list [a, b, c]) d := by
  have hs : shapeOf (.list [a, b, c]) [da, db, dc] =
      { kind := .list, len := 3, elems := [(a.kind, da.isErr), (b.kind, db.isErr), (c.kind, dc.isErr)] } := rfl
  rw [hs]; simp only [canonNode]
  by_cases ha : a.kind = .str
  · obtain ⟨op, rfl⟩ := kind_str ha
    rw [if_neg (not_not_intro ha)]
    by_cases h1 : b.kind = .col ∧ isConstKind c.kind = true
    · rw [if_pos h1]
      obtain ⟨n, rfl⟩ := kind_col h1.1
      obtain ⟨v, hk, hv⟩ := const_cell nm h1.2 (.list [.str op, .col n, c]) (.elem 2) rfl
      exact ⟨.colConst op n v false, build_colConst false rfl rfl hk, goodE_ok rfl rfl (by rw [read_list3, hv]; rfl)⟩
    rw [if_neg h1]
    by_cases h2 : c.kind = .col ∧ isConstKind b.kind = true
    · rw [if_pos h2]
      obtain ⟨n, rfl⟩ := kind_col h2.1
      obtain ⟨v, hk, hv⟩ := const_cell nm h2.2 (.list [.str op, b, .col n]) (.elem 1) rfl
      exact ⟨.colConst op n v true, build_colConst true rfl rfl hk, goodE_ok rfl rfl (by rw [read_list3, hv]; rfl)⟩
    rw [if_neg h2]
    by_cases h3 : b.kind = .col ∧ c.kind = .col
    · rw [if_pos h3]
      obtain ⟨n, rfl⟩ := kind_col h3.1
      obtain ⟨m, rfl⟩ := kind_col h3.2
      exact ⟨.colCol op n m, rfl, goodE_ok rfl rfl (read_list3 nm op (.col n) (.col m)).symm⟩
    rw [if_neg h3]
    rcases GoodE.elim hb with ⟨hdb, hpb, htb⟩ | ⟨rfl, hbad⟩
    · rw [hdb]
      rcases GoodE.elim hc with ⟨hdc, hpc, htc⟩ | ⟨rfl, hbad⟩
      · rw [hdc]
        exact ⟨.ex2 op db dc, rfl, goodE_ok (by simp [XDec.proper, hpb, hpc, hdb, hdc]) rfl
          (by rw [read_list3, ← htb, ← htc]; rfl)⟩
      · exact ⟨.error, rfl, goodE_error nm _ (by rw [read_list3, hasBad_x2, hbad, Bool.or_true])⟩
    · exact ⟨.error, rfl, goodE_error nm _ (by rw [read_list3, hasBad_x2, hbad, Bool.true_or])⟩
  · rw [if_pos ha]
    exact ⟨.error, rfl, goodE_error nm _ (by rw [read_head_not_str nm a [b, c] ha]; rfl)⟩

/-- a list: from the elements to the list. A list of four or more elements shows the tree no elements. -/
theorem list_good (nm : Bytes → String) : ∀ (l : List RawExpr) (subs : List XDec), GoodL nm l subs →
    ∃ d, Gen.newExprAst.run (.list l) subs = some d ∧ Good nm (.list l) d
  | [], [], _ => ⟨.error, XT.run_flatten (.list []) [] _ _ (gen_decoder_canon_len 0 (by decide)), goodE_error nm _ rfl⟩
  | [a], [da], _ =>
    ⟨.error, XT.run_flatten (.list [a]) [da] _ _ (gen_decoder_canon_len 1 (by decide)),
      goodE_error nm _ (by simp [read, readL, hasBad])⟩
  | [a, b], [da, db], h => by
    obtain ⟨d, hd, hg⟩ := good2 nm a b da db h.2.1
    exact ⟨d, (XT.run_flatten (.list [a, b]) [da, db] _ _ (gen_decoder_canon2 _ _)).trans hd, hg⟩
  | [a, b, c], [da, db, dc], h => by
    obtain ⟨d, hd, hg⟩ := good3 nm a b c da db dc h.2.1 h.2.2.1
    exact ⟨d, (XT.run_flatten (.list [a, b, c]) [da, db, dc] _ _ (gen_decoder_canon3 _ (mem_goodPairs _ (good_consistent h.1))
      _ (mem_goodPairs _ (good_consistent h.2.1)) _ (mem_goodPairs _ (good_consistent h.2.2.1)))).trans hd, hg⟩
  | a :: b :: c :: d :: r, subs, h => by
    have h4 : shapeOf (.list (a :: b :: c :: d :: r)) subs = { kind := .list, len := 4 } := by
      simp [shapeOf]
    exact ⟨.error, XT.run_flatten _ subs _ .error (h4 ▸ gen_decoder_canon_len 4 (by decide)),
      goodE_error nm _ (by simp [read, readL, hasBad])⟩

/-- an argument that is not a list: the leaf of its kind -/
theorem atom_good (nm : Bytes → String) (x : RawExpr) (hk : x.kind ≠ .list) (h : wf x = true) :
    ∃ d, Gen.newExprAst.decode x = some d ∧ Good nm x d := by
  rw [decode_atom _ hk, run_canon_atom x hk]
  cases x with
  | list l => exact absurd rfl hk
  | expr d => exact ⟨d, rfl, good_expr nm d h⟩
  | other => exact ⟨.error, rfl, goodE_error nm _ rfl⟩
  | _ => exact ⟨_, rfl, rfl, rfl, fun _ => rfl⟩

/-! ## the statement -/

mutual
/-- Today's decoder accepts exactly the raw trees the spec's reading accepts and classifies them to the same
expression. -/
theorem decode_good (nm : Bytes → String) : ∀ (x : RawExpr), wf x = true →
    ∃ d, Gen.newExprAst.decode x = some d ∧ Good nm x d
  | .list l, h => by
    obtain ⟨subs, hsubs, hg⟩ := decodeL_good nm l h
    obtain ⟨d, hd, hgood⟩ := list_good nm l subs hg
    exact ⟨d, by rw [decode_list, hsubs, Option.bind_some, hd], hgood⟩
  | .expr d, h => atom_good nm _ nofun h
  | .col n, h => atom_good nm _ nofun h
  | .str s, h => atom_good nm _ nofun h
  | .int v, h => atom_good nm _ nofun h
  | .float b, h => atom_good nm _ nofun h
  | .bool b, h => atom_good nm _ nofun h
  | .pstr p, h => atom_good nm _ nofun h
  | .nil, h => atom_good nm _ nofun h
  | .other, h => atom_good nm _ nofun h
theorem decodeL_good (nm : Bytes → String) : ∀ (l : List RawExpr), wfL l = true →
    ∃ subs, Gen.newExprAst.decodeL l = some subs ∧ GoodL nm l subs
  | [], _ => ⟨[], decodeL_nil _, trivial⟩
  | a :: r, h => by
    obtain ⟨d, hd, hg⟩ := decode_good nm a (wfL_cons.1 h).1
    obtain ⟨ds, hds, hgs⟩ := decodeL_good nm r (wfL_cons.1 h).2
    exact ⟨d :: ds, decodeL_cons hd hds, hg, hgs⟩
end

/-- On every raw expression tree `x` (a Go value handed to `Val` / `Expr` / `newExpr`:
strings, column names, int / float64 / bool / string / *string constants, nil, `[]interface{}` lists of any length and
nesting, `Expression` values built earlier, anything else) the decoder extracted from today's expression.go
* terminates with a struct value `d` (no panic, nothing untranslated),
* reports an error (`d.Err() != nil`) exactly when the spec's reading `read x` of the tree contains a malformed part
  (on which `EArg.den` is `none` for every frame: `den_hasBad`),
* and otherwise `d` stands for exactly the expression `read x`. -/
theorem gen_expr_decode_semantics (nm : Bytes → String) (x : RawExpr) (h : wf x = true) :
    ∃ d, Gen.newExprAst.decode x = some d ∧
      d.isErr = hasBad (read nm x) ∧ (d.isErr = false → d.toEArg nm = read nm x) ∧ d.proper = true := by
  obtain ⟨d, hd, hp, he, ht⟩ := decode_good nm x h
  exact ⟨d, hd, he, ht, hp⟩


/-! ## `Expr(name, args...)`: the left fold, on a copy -/

/-- the spec's reading of `Expr(op, a₀, a₁, a₂, …)`: `((a₀ op a₁) op a₂) …`; no argument is malformed -/
def foldE (op : String) : List EArg → EArg
  | [] => .bad
  | [a] => .x op [a]
  | a :: b :: rest => rest.foldl (fun acc c => .x op [acc, c]) (.x op [a, b])

/-- one activation of the canonical `Expr`: no argument is an error, one or two are decoded as `[name, a]` /
`[name, a, b]`, with more the first two are decoded and the call is repeated on a fresh slice; the caller's slice is
returned as it was -/
theorem canonFold_step (t : XT) (name : Bytes) (self : List RawExpr → Option (XDec × List RawExpr)) :
    ∀ args : List RawExpr, XF.step t name self args canonFold =
      match args with
      | [] => some (.error, args)
      | [a] => (t.decode (.list [.str name, a])).map (·, args)
      | [a, b] => (t.decode (.list [.str name, a, b])).map (·, args)
      | a :: b :: c :: rest =>
        (t.decode (.list [.str name, a, b])).bind fun e => (self (.expr e :: c :: rest)).map fun r => (r.1, args)
  | [] => rfl
  | [a] => rfl
  | [a, b] => rfl
  | a :: b :: c :: rest => by
    simp only [XF.step, canonFold, List.length_cons, XFR.eval, XFV.getAll, XFV.get, List.getElem?_cons_zero,
      List.getElem?_cons_succ]
    cases t.decode (.list [.str name, a, b]) <;> simp

theorem run_succ (t : XT) (f : XF) (name : Bytes) (fuel : Nat) (args : List RawExpr) :
    f.run t name (fuel + 1) args = XF.step t name (f.run t name fuel) args f := rfl

/-- `Expr(name, a, b, rest…)` when the first argument stands for `A` (a raw first argument for its reading, `.expr e` for
the expression built so far): the left fold from `A`, with any fuel above the number of tail calls. Induction on the fuel;
the first activation decodes `[name, a, b]` to `e`, the next one starts from `.expr e`, which stands for `.x name [A, b]`
also when `e` is the error struct (both have a malformed part). -/
theorem fold_from (nm : Bytes → String) (name : Bytes) : ∀ (fuel : Nat) (rest : List RawExpr) (a b : RawExpr) (A : EArg),
    rest.length < fuel → wf a = true → wf b = true → wfL rest = true →
    (∀ {B : EArg} {d : XDec}, GoodE nm (.x (nm name) [read nm a, B]) d → GoodE nm (.x (nm name) [A, B]) d) →
    ∃ d, canonFold.run Gen.newExprAst name fuel (a :: b :: rest) = some (d, a :: b :: rest) ∧
      GoodE nm ((readL nm (b :: rest)).foldl (fun acc c => .x (nm name) [acc, c]) A) d
  | fuel + 1, rest, a, b, A, hf, ha, hb, hr, hA => by
    obtain ⟨e, hd, hg⟩ := decode_good nm (.list [.str name, a, b]) (by simp [wf, wfL, ha, hb])
    have hg' : GoodE nm (.x (nm name) [A, read nm b]) e := hA (hg.goodE (read_list3 nm name a b))
    rw [run_succ, canonFold_step]
    match rest, hf, hr with
    | [], _, _ => exact ⟨e, by simp only [hd, Option.map_some], hg'⟩
    | c :: r, hf, hr =>
      obtain ⟨d, hrun, hgd⟩ := fold_from nm name fuel r (.expr e) c (.x (nm name) [A, read nm b])
        (Nat.lt_of_succ_lt_succ hf) hg'.1 (wfL_cons.1 hr).1 (wfL_cons.1 hr).2 fun {B d} h => by
          rcases hg'.elim with ⟨_, _, ht⟩ | ⟨rfl, hbad⟩
          · exact ht ▸ h
          · exact h.of_bad (by rw [hasBad_x2]; rfl) (by rw [hasBad_x2, hbad]; rfl)
      exact ⟨d, by simp only [hd, Option.bind_some, hrun, Option.map_some], hgd⟩

/-- `Expr(name, a₀, a₁, a₂, …)` of today's expression.go
* returns the expression of the LEFT fold `((a₀ name a₁) name a₂) …` of the spec's readings of its arguments (an error
  exactly when that reading contains a malformed part; `Expr(name)` without arguments is an error),
* and leaves the slice it was called with as it was (second component: the contents of the caller's slice afterwards). -/
theorem gen_expr_fold (nm : Bytes → String) (name : Bytes) (args : List RawExpr) (h : wfL args = true) :
    ∃ d, Gen.exprFoldAst.run Gen.newExprAst name (args.length + 1) args = some (d, args) ∧
      GoodE nm (foldE (nm name) (readL nm args)) d := by
  rw [gen_expr_fold_canon]
  match args, h with
  | [], _ => exact ⟨.error, rfl, goodE_error nm _ rfl⟩
  | [a], h =>
    obtain ⟨d, hd, hg⟩ := decode_good nm (.list [.str name, a]) (by simpa [wf, wfL] using h)
    exact ⟨d, by rw [run_succ, canonFold_step]; simp only [hd, Option.map_some], hg.goodE (read_list2 nm name a)⟩
  | a :: b :: rest, h =>
    have h' : (wf a = true ∧ wf b = true) ∧ wfL rest = true := by simpa [wfL, ← and_assoc] using h
    exact fold_from nm name _ rest a b _ (by simp only [List.length_cons]; omega) h'.1.1 h'.1.2 h'.2 id


/-! ## what the two readings mean in the spec (QF/Spec/Ops.lean)

`EArg.den`, `denExpr`, `denFold` by cases, stated once as for `XT.decode` above. -/

theorem den_x (ctx : String) (f : LFrame) (op : String) (args : List EArg) :
    (EArg.x op args).den ctx f = denExpr ctx f op args := by rw [EArg.den]

theorem denExpr_of_den_none (ctx : String) (f : LFrame) (op : String) {a : EArg} (rest : List EArg)
    (h : a.den ctx f = none) : denExpr ctx f op (a :: rest) = none := by
  cases rest <;> simp only [denExpr, h]

theorem denExpr_cons2 (ctx : String) (f : LFrame) (op : String) (a b : EArg) (rest : List EArg) :
    denExpr ctx f op (a :: b :: rest) = (a.den ctx f).bind fun v => denFold ctx f op v (b :: rest) := by
  simp only [denExpr]; cases a.den ctx f <;> rfl

theorem denFold_of_den_none (ctx : String) (f : LFrame) (op : String) (acc : Val) {b : EArg} (rest : List EArg)
    (h : b.den ctx f = none) : denFold ctx f op acc (b :: rest) = none := by
  rw [denFold, h]

/-- the fold goes on from the value of its first step -/
theorem denFold_cons (ctx : String) (f : LFrame) (op : String) (v : Val) (b : EArg) (rest : List EArg) :
    denFold ctx f op v (b :: rest) = (denFold ctx f op v [b]).bind (fun v' => denFold ctx f op v' rest) := by
  rw [denFold, denFold]
  cases b.den ctx f with
  | none => rfl
  | some w =>
    simp only
    split
    · rfl
    · cases evalBinary ctx op v.ty with
      | none => rfl
      | some g => simp [denFold]

mutual
/-- a malformed part makes the spec's denotation an error, on every frame -/
theorem den_hasBad (ctx : String) (f : LFrame) : ∀ e : EArg, hasBad e = true → e.den ctx f = none
  | .bad, _ => by rw [EArg.den]
  | .x op args, h => by
    rw [den_x]
    exact denExpr_hasBad ctx f op args (by simpa [hasBad] using h)
theorem denExpr_hasBad (ctx : String) (f : LFrame) (op : String) : ∀ args : List EArg, hasBadL args = true →
    denExpr ctx f op args = none
  | [a], h => denExpr_of_den_none ctx f op [] (den_hasBad ctx f a (by simpa [hasBadL] using h))
  | a :: b :: rest, h => by
    cases ha : hasBad a
    · rw [denExpr_cons2]
      cases a.den ctx f with
      | none => rfl
      | some v => exact denFold_hasBad ctx f op (b :: rest) v (by simpa [hasBadL, ha] using h)
    · exact denExpr_of_den_none ctx f op _ (den_hasBad ctx f a ha)
theorem denFold_hasBad (ctx : String) (f : LFrame) (op : String) : ∀ (rest : List EArg) (acc : Val),
    hasBadL rest = true → denFold ctx f op acc rest = none
  | b :: rest, acc, h => by
    cases hb : hasBad b
    · rw [denFold_cons]
      cases denFold ctx f op acc [b] with
      | none => rfl
      | some v => exact denFold_hasBad ctx f op rest v (by simpa [hasBadL, hb] using h)
    · exact denFold_of_den_none ctx f op acc rest (den_hasBad ctx f b hb)
end

theorem den_foldl (ctx : String) (f : LFrame) (op : String) : ∀ (rest : List EArg) (E : EArg),
    (rest.foldl (fun acc c => EArg.x op [acc, c]) E).den ctx f =
      (E.den ctx f).bind (fun v => denFold ctx f op v rest)
  | [], E => by cases h : E.den ctx f <;> simp [denFold, h]
  | c :: r, E => by
    rw [List.foldl_cons, den_foldl ctx f op r, den_x, denExpr_cons2]
    cases E.den ctx f with
    | none => rfl
    | some v => simp only [Option.bind_some]; rw [denFold_cons ctx f op v c r]

/-- The spec's n-ary `Expr(op, a₀, a₁, …)` (`EArg.x op args`, `denExpr` / `denFold`) denotes what the nested binary
applications of the left fold denote: the tree `gen_expr_fold` shows the code to build is the one the spec evaluates. -/
theorem den_foldE (ctx : String) (f : LFrame) (op : String) (args : List EArg) :
    (foldE op args).den ctx f = (EArg.x op args).den ctx f := by
  match args with
  | [] => rw [foldE, den_x, EArg.den, denExpr]
  | [a] => rfl
  | a :: b :: rest =>
    -- `foldE op (a :: b :: rest)` is the fold of `b :: rest` from `a`
    rw [den_x, denExpr_cons2, ← den_foldl]; rfl

/-- a struct and the expression it stands for denote the same, on every frame and in every evaluation context (an
error for both when the expression has a malformed part) -/
theorem GoodE.den {nm : Bytes → String} {e : EArg} {d : XDec} (h : GoodE nm e d) (ctx : String) (f : LFrame) :
    (d.toEArg nm).den ctx f = e.den ctx f := by
  rcases h.elim with ⟨_, _, rfl⟩ | ⟨rfl, hbad⟩
  · rfl
  · rw [den_hasBad ctx f e hbad]; rfl

/-- the decoder's answer denotes, on every frame and in every evaluation context, what the spec's reading denotes
(an error for both when the tree is malformed) -/
theorem gen_expr_decode_den (nm : Bytes → String) (x : RawExpr) (h : wf x = true) (ctx : String) (f : LFrame) :
    ∃ d, Gen.newExprAst.decode x = some d ∧ (d.toEArg nm).den ctx f = (read nm x).den ctx f := by
  obtain ⟨d, hd, hg⟩ := decode_good nm x h
  exact ⟨d, hd, GoodE.den hg ctx f⟩

/-- `Expr(name, args...)` denotes what the spec's n-ary `EArg.x name args` denotes -/
theorem gen_expr_fold_den (nm : Bytes → String) (name : Bytes) (args : List RawExpr) (h : wfL args = true)
    (ctx : String) (f : LFrame) :
    ∃ d, Gen.exprFoldAst.run Gen.newExprAst name (args.length + 1) args = some (d, args) ∧
      (d.toEArg nm).den ctx f = (EArg.x (nm name) (readL nm args)).den ctx f := by
  obtain ⟨d, hd, hg⟩ := gen_expr_fold nm name args h
  exact ⟨d, hd, (hg.den ctx f).trans (den_foldE ctx f _ _)⟩

/-! ## examples -/

def nmU (b : Bytes) : String := (String.fromUTF8? (ByteArray.mk b.toArray)).getD "?"

/-- `["+", ColumnName("a"), 1]`, `["+", 1, ColumnName("a")]` (constant first), `["abs", ["+", a, b]]` -/
example : Gen.newExprAst.decode (.list [.str [43], .col [97], .int 1]) = some (.colConst [43] [97] (.int 1) false) := by
  decide +kernel
example : Gen.newExprAst.decode (.list [.str [43], .int 1, .col [97]]) = some (.colConst [43] [97] (.int 1) true) := by
  decide +kernel
example : Gen.newExprAst.decode (.list [.str [97, 98, 115], .list [.str [43], .col [97], .col [98]]]) =
    some (.ex1 [97, 98, 115] (.colCol [43] [97] [98])) := by decide +kernel
/-- a raw list of four elements is rejected (only `Expr` folds), so is a list whose head is not a string, so is a
nested malformed operand -/
example : Gen.newExprAst.decode (.list [.str [43], .int 1, .int 2, .int 3]) = some .error := by decide +kernel
example : Gen.newExprAst.decode (.list [.col [43], .int 1, .int 2]) = some .error := by decide +kernel
example : Gen.newExprAst.decode (.list [.str [43], .int 1, .list [.str [43], .other, .int 2]]) = some .error := by
  decide +kernel
/-- `Expr("+", a, b, c)` = `(a + b) + c`, the slice untouched -/
example : Gen.exprFoldAst.run Gen.newExprAst [43] 4 [.col [97], .col [98], .col [99]] =
    some (.ex2 [43] (.colCol [43] [97] [98]) (.col [99]), [.col [97], .col [98], .col [99]]) := by rfl

/-- The model tells a copying `Expr` from one that writes into its argument: the in-place variant
`args[1] = newExpr([name, args[0], args[1]]); return Expr(name, args[1:]...)` builds the same expression but leaves
the caller's slice changed — `gen_expr_fold` is false for it. -/
def inPlaceFold : XF :=
  .ifLen 0 .error (.ifLen 1 (.decode [.name, .arg 0]) (.ifLen 2 (.decode [.name, .arg 0, .arg 1])
    (.foldInPlace 1 (.decode [.name, .arg 0, .arg 1]))))

example : inPlaceFold.run Gen.newExprAst [43] 4 [.col [97], .col [98], .col [99]] =
    some (.ex2 [43] (.colCol [43] [97] [98]) (.col [99]), [.col [97], .expr (.colCol [43] [97] [98]), .col [99]]) := by
  rfl

#print axioms gen_decoder_canon_atom
#print axioms gen_decoder_canon_len
#print axioms gen_decoder_canon2
#print axioms gen_decoder_canon3
#print axioms gen_expr_fold_canon
#print axioms gen_expr_decode_semantics
#print axioms gen_expr_fold
#print axioms gen_expr_decode_den
#print axioms gen_expr_fold_den
#print axioms den_hasBad
#print axioms den_foldE

end QF.Props.C07Decode
