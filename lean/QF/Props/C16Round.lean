import QF.Spec.Num
/-
C16Round — `Num.ofDecimal` (the oracle "correctly rounded float64 bits of the decimal m·10^d")
is proved correct against a declarative specification, so that it does not belong to the
trusted base of properties C13, C14 and C16.

Everything is stated on natural numbers.  A rational `a/b` is compared with `c/d` by cross
multiplication.  The power `2^E` for an integer `E` is the fraction `P E / Q E` with
`P E = 2^E.toNat` and `Q E = 2^(-E).toNat` (one of the two is always `1`).
-/
namespace QF.Props.C16Round
open QF.Num

/-! ## 1. Exact values as fractions -/

/-- numerator of `2^E` -/
def P (e : Int) : Nat := 2 ^ e.toNat
/-- denominator of `2^E` -/
def Q (e : Int) : Nat := 2 ^ (-e).toNat

/-- numerator of the decimal `m·10^d` (the pair used inside `ofDecimal`) -/
def decNum (m : Nat) (d : Int) : Nat := if d ≥ 0 then m * 10 ^ d.toNat else m
/-- denominator of the decimal `m·10^d` -/
def decDen (d : Int) : Nat := if d ≥ 0 then 1 else 10 ^ (-d).toNat

/-- numerator of the dyadic `M·2^E` -/
def dyNum (M : Nat) (E : Int) : Nat := if E ≥ 0 then M * 2 ^ E.toNat else M
/-- denominator of the dyadic `M·2^E` -/
def dyDen (E : Int) : Nat := if E ≥ 0 then 1 else 2 ^ (-E).toNat

/-- `a/b ≤ c/d` by cross multiplication -/
def ratLe (a b c d : Nat) : Prop := a * d ≤ c * b
/-- `a/b = c/d` by cross multiplication -/
def ratEq (a b c d : Nat) : Prop := a * d = c * b

theorem P_pos (e : Int) : 0 < P e := Nat.two_pow_pos _
theorem Q_pos (e : Int) : 0 < Q e := Nat.two_pow_pos _

theorem Q_of_nonneg {e : Int} (h : 0 ≤ e) : Q e = 1 := by
  unfold Q; have : (-e).toNat = 0 := by omega
  rw [this]
theorem P_of_neg {e : Int} (h : e < 0) : P e = 1 := by
  unfold P; have : e.toNat = 0 := by omega
  rw [this]

theorem dyNum_eq (M : Nat) (E : Int) : dyNum M E = M * P E := by
  unfold dyNum; split
  · rfl
  · rw [P_of_neg (by omega), Nat.mul_one]
theorem dyDen_eq (E : Int) : dyDen E = Q E := by
  unfold dyDen; split
  · rw [Q_of_nonneg (by omega)]
  · rfl

/-- The upper half-step condition of `IsNearest` below, `num/den ≤ (2M+1)·2^E / 2`, written with
the value pairs and cross-multiplied comparison. -/
theorem upper_iff_ratLe (num den M : Nat) (E : Int) :
    2 * (num * Q E) ≤ (2 * M + 1) * (den * P E) ↔
      ratLe (2 * num) den (dyNum (2 * M + 1) E) (dyDen E) := by
  unfold ratLe
  rw [dyNum_eq, dyDen_eq, Nat.mul_assoc 2 num, Nat.mul_assoc (2 * M + 1), Nat.mul_comm (P E) den]

theorem decDen_pos (d : Int) : 0 < decDen d := by
  unfold decDen; split
  · exact Nat.one_pos
  · exact Nat.pow_pos (by decide)

theorem decNum_pos {m : Nat} (d : Int) (h : 0 < m) : 0 < decNum m d := by
  unfold decNum; split
  · exact Nat.mul_pos h (Nat.pow_pos (by decide))
  · exact h

/-- `B^e = B^j · B^e1` when `e = e1 + j`, the powers of an integer exponent written as fractions `B^e.toNat / B^(-e).toNat` -/
theorem pow_shift (B : Nat) (e1 e : Int) (j : Nat) (h : e = e1 + j) :
    B ^ e.toNat * B ^ (-e1).toNat = B ^ j * (B ^ e1.toNat * B ^ (-e).toNat) := by
  rw [← Nat.pow_add, ← Nat.pow_add, ← Nat.pow_add]
  congr 1; omega

theorem pq_shift (e1 e : Int) (j : Nat) (h : e = e1 + j) : P e * Q e1 = 2 ^ j * (P e1 * Q e) :=
  pow_shift 2 e1 e j h

/-- `2^e = 2^a / 2^b` when `e = a - b`, as fractions. -/
theorem pq_ratio (a b : Nat) (e : Int) (h : e = (a : Int) - (b : Int)) :
    2 ^ a * Q e = 2 ^ b * P e := by
  unfold P Q
  rw [← Nat.pow_add, ← Nat.pow_add]
  congr 1; omega

/-- two comparisons that differ by positive factors -/
theorem le_iff_of_mul_eq {x y X Y c d : Nat} (hc : 0 < c) (hd : 0 < d) (h1 : x * c = X * d) (h2 : y * c = Y * d) :
    x ≤ y ↔ X ≤ Y := by
  rw [← Nat.mul_le_mul_right_iff hc, h1, h2, Nat.mul_le_mul_right_iff hd]

theorem cmp_scale {a b a' b' G1 G2 : Nat} (hG1 : 0 < G1) (hG2 : 0 < G2) (ha : a * G1 = a' * G2) (hb : b * G1 = b' * G2) :
    (a ≤ b ↔ a' ≤ b') ∧ (a < b ↔ a' < b') := by
  have h1 := le_iff_of_mul_eq hG1 hG2 ha hb
  have h2 := le_iff_of_mul_eq hG1 hG2 hb ha
  exact ⟨h1, by omega⟩

/-- a linear comparison between a value `N` and a unit `u` depends only on the ratio `N : u` -/
theorem lin_le_congr {N u N' u' : Nat} (hu : 0 < u) (hu' : 0 < u') (h : N * u' = N' * u) (X Y Z W : Nat) :
    X * N + Y * u ≤ Z * N + W * u ↔ X * N' + Y * u' ≤ Z * N' + W * u' :=
  le_iff_of_mul_eq hu' hu (by grind) (by grind)

theorem lin_eq_congr {N u N' u' : Nat} (hu : 0 < u) (hu' : 0 < u') (h : N * u' = N' * u) (X Y Z W : Nat) :
    X * N + Y * u = Z * N + W * u ↔ X * N' + Y * u' = Z * N' + W * u' := by
  have h1 := lin_le_congr hu hu' h X Y Z W
  have h2 := lin_le_congr hu hu' h Z W X Y
  omega

/-- `num/den` in units of `2^e1` is `2^j` times `num/den` in units of `2^e`, `e = e1 + j`: value `num·Q` against unit `den·P` -/
theorem ratio_shift (num den : Nat) (e1 e : Int) (j : Nat) (h : e = e1 + j) :
    num * Q e1 * (den * P e) = num * Q e * (2 ^ j * (den * P e1)) := by
  have := pq_shift e1 e j h
  grind

/-- Changing the exponent from `e1` to `e = e1 + j`: `2^e1 ≤ a/(c·d) ↔ 2^e ≤ 2^j·a/(c·d)`. -/
theorem scale_ge' (e1 e : Int) (j : Nat) (h : e = e1 + j) (a c d : Nat) :
    c * (d * P e1) ≤ a * Q e1 ↔ c * (d * P e) ≤ 2 ^ j * (a * Q e) := by
  have := pq_shift e1 e j h
  exact le_iff_of_mul_eq (Nat.mul_pos (Nat.two_pow_pos j) (Q_pos e)) (Q_pos e1) (by grind) (by grind)

theorem scale_lt' (e1 e : Int) (j : Nat) (h : e = e1 + j) (a c d : Nat) :
    a * Q e1 < c * (d * P e1) ↔ 2 ^ j * (a * Q e) < c * (d * P e) := by
  have := scale_ge' e1 e j h a c d
  omega

/-! ## 2. `ofDecimal` split into its stages -/

def signBit (neg : Bool) : Nat := if neg then 2 ^ 63 else 0

def qAt (num den : Nat) (e : Int) : Nat :=
  if e ≥ 0 then num / (den * 2 ^ e.toNat) else (num * 2 ^ (-e).toNat) / den

def adjust (q0 : Nat) (e0 : Int) : Int :=
  if q0 ≥ 2 ^ 53 then e0 + 1 else if q0 < 2 ^ 52 then e0 - 1 else e0

def clamp (e1 : Int) : Int := if e1 < -1074 then -1074 else e1

def estE (num den : Nat) : Int := (Nat.log2 num : Int) - (Nat.log2 den : Int) - 52

/-- the binary exponent chosen by `ofDecimal` -/
def chooseE (num den : Nat) : Int := clamp (adjust (qAt num den (estE num den)) (estE num den))

/-- round-half-even division, as in `ofDecimal` -/
def roundDiv (n2 d2 : Nat) : Nat :=
  let qq := n2 / d2
  let rem := n2 % d2
  let up := 2 * rem > d2 || (2 * rem == d2 && qq % 2 == 1)
  if up then qq + 1 else qq

/-- final encoding stage of `ofDecimal` -/
def pack (sign mant : Nat) (e : Int) : UInt64 :=
  if mant == 0 then UInt64.ofNat sign
  else if mant < 2 ^ 52 then UInt64.ofNat (sign + mant)
  else
    let biased : Int := e + 1075
    if biased ≥ 2047 then UInt64.ofNat (sign + 2047 * 2 ^ 52)
    else UInt64.ofNat (sign + biased.toNat * 2 ^ 52 + (mant - 2 ^ 52))

theorem n2_eq (num : Nat) (e : Int) :
    (if e ≥ 0 then num else num * 2 ^ (-e).toNat) = num * Q e := by
  split
  · rw [Q_of_nonneg (by omega), Nat.mul_one]
  · rfl

theorem d2_eq (den : Nat) (e : Int) :
    (if e ≥ 0 then den * 2 ^ e.toNat else den) = den * P e := by
  split
  · rfl
  · rw [P_of_neg (by omega), Nat.mul_one]

theorem ofDecimal_unfold0 (neg : Bool) (m : Nat) (d : Int) :
    ofDecimal neg m d =
      if m = 0 then UInt64.ofNat (signBit neg) else
      let e := chooseE (decNum m d) (decDen d)
      let mant := roundDiv (if e ≥ 0 then decNum m d else decNum m d * 2 ^ (-e).toNat)
        (if e ≥ 0 then decDen d * 2 ^ e.toNat else decDen d)
      if mant ≥ 2 ^ 53 then pack (signBit neg) (mant / 2) (e + 1) else pack (signBit neg) mant e := by
  unfold ofDecimal
  extract_lets sign num den ln ld e0 q e1 e n2 d2 qq rem up mant e' mant'
  have he : e' = e := rfl
  have hm : mant' = mant := rfl
  have hs : signBit neg = sign := rfl
  rw [he, hm, hs]
  clear_value mant e sign
  by_cases h : m = 0
  · simp [h]
  · simp only [beq_iff_eq, h, if_false]
    split <;> simp only [pack, beq_iff_eq]

/-- `ofDecimal` as the composition of its stages. -/
theorem ofDecimal_unfold (neg : Bool) (m : Nat) (d : Int) :
    ofDecimal neg m d =
      if m = 0 then UInt64.ofNat (signBit neg) else
      if roundDiv (decNum m d * Q (chooseE (decNum m d) (decDen d)))
          (decDen d * P (chooseE (decNum m d) (decDen d))) ≥ 2 ^ 53 then
        pack (signBit neg) (roundDiv (decNum m d * Q (chooseE (decNum m d) (decDen d)))
          (decDen d * P (chooseE (decNum m d) (decDen d))) / 2) (chooseE (decNum m d) (decDen d) + 1)
      else pack (signBit neg) (roundDiv (decNum m d * Q (chooseE (decNum m d) (decDen d)))
          (decDen d * P (chooseE (decNum m d) (decDen d)))) (chooseE (decNum m d) (decDen d)) := by
  rw [ofDecimal_unfold0]
  simp only [n2_eq, d2_eq]

theorem qAt_eq (num den : Nat) (e : Int) : qAt num den e = (num * Q e) / (den * P e) := by
  unfold qAt
  split
  · rw [Q_of_nonneg (by omega), Nat.mul_one]; rfl
  · rw [P_of_neg (by omega), Nat.mul_one]; rfl

/-! ## 3. The exponent choice -/

theorem upper_of_log {num den ln ld : Nat} (e : Int) (c : Nat)
    (h : e = (ln : Int) + 1 - (ld : Int) - (c : Int))
    (hnu : num < 2 ^ (ln + 1)) (hdl : 2 ^ ld ≤ den) :
    num * Q e < 2 ^ c * (den * P e) := by
  have hr := pq_ratio (ln + 1) (ld + c) e (by omega)
  calc num * Q e < 2 ^ (ln + 1) * Q e := Nat.mul_lt_mul_of_pos_right hnu (Q_pos e)
    _ = 2 ^ (ld + c) * P e := hr
    _ = 2 ^ c * (2 ^ ld * P e) := by rw [Nat.pow_add]; grind
    _ ≤ 2 ^ c * (den * P e) := Nat.mul_le_mul_left _ (Nat.mul_le_mul_right _ hdl)

theorem lower_of_log {num den ln ld : Nat} (e : Int) (c : Nat)
    (h : e = (ln : Int) - (ld : Int) - 1 - (c : Int))
    (hnl : 2 ^ ln ≤ num) (hdu : den < 2 ^ (ld + 1)) :
    2 ^ c * (den * P e) < num * Q e := by
  have hr := pq_ratio ln (ld + 1 + c) e (by omega)
  calc 2 ^ c * (den * P e) < 2 ^ c * (2 ^ (ld + 1) * P e) :=
        (Nat.mul_lt_mul_left (Nat.two_pow_pos c)).2 (Nat.mul_lt_mul_of_pos_right hdu (P_pos e))
    _ = 2 ^ (ld + 1 + c) * P e := by rw [Nat.pow_add 2 (ld + 1) c]; grind
    _ = 2 ^ ln * Q e := hr.symm
    _ ≤ num * Q e := Nat.mul_le_mul_right _ hnl

theorem adjust_spec (num den : Nat) (hn : 0 < num) (hd : 0 < den) :
    ∃ e1, adjust (qAt num den (estE num den)) (estE num den) = e1 ∧
      num * Q e1 < 2 ^ 53 * (den * P e1) ∧ 2 ^ 52 * (den * P e1) ≤ num * Q e1 := by
  have hnl : 2 ^ num.log2 ≤ num := Nat.log2_self_le (by omega)
  have hnu : num < 2 ^ (num.log2 + 1) := Nat.lt_log2_self
  have hdl : 2 ^ den.log2 ≤ den := Nat.log2_self_le (by omega)
  have hdu : den < 2 ^ (den.log2 + 1) := Nat.lt_log2_self
  have hup0 := upper_of_log (estE num den) 53 (by unfold estE; omega) hnu hdl
  have hpos0 : 0 < den * P (estE num den) := Nat.mul_pos hd (P_pos _)
  unfold adjust
  rw [qAt_eq]
  split
  · rename_i h
    exfalso
    have := (Nat.div_lt_iff_lt_mul hpos0).2 hup0
    omega
  · split
    · rename_i h
      refine ⟨_, rfl, ?_, ?_⟩
      · have h' := (Nat.div_lt_iff_lt_mul hpos0).1 h
        exact (scale_lt' (estE num den - 1) (estE num den) 1 (by omega) num (2 ^ 53) den).2 (by
          rw [Nat.pow_one]; omega)
      · exact Nat.le_of_lt (lower_of_log (estE num den - 1) 52 (by unfold estE; omega) hnl hdu)
    · rename_i h
      refine ⟨_, rfl, hup0, ?_⟩
      exact (Nat.le_div_iff_mul_le hpos0).1 (by omega)

/-- The exponent chosen by `ofDecimal`: the scaled quotient is below `2^53`, and at least `2^52`
unless the exponent was clamped at `-1074`. -/
theorem chooseE_spec (num den : Nat) (hn : 0 < num) (hd : 0 < den) :
    -1074 ≤ chooseE num den ∧
    num * Q (chooseE num den) < 2 ^ 53 * (den * P (chooseE num den)) ∧
    (chooseE num den = -1074 ∨
      2 ^ 52 * (den * P (chooseE num den)) ≤ num * Q (chooseE num den)) := by
  obtain ⟨e1, he1, hu, hl⟩ := adjust_spec num den hn hd
  unfold chooseE clamp
  rw [he1]
  split
  · rename_i h
    refine ⟨Int.le_refl _, ?_, Or.inl rfl⟩
    have h1 := (scale_lt' e1 (-1074) (-1074 - e1).toNat (by omega) num (2 ^ 53) den).1 hu
    have h2 : num * Q (-1074) ≤ 2 ^ (-1074 - e1).toNat * (num * Q (-1074)) :=
      Nat.le_mul_of_pos_left _ (Nat.two_pow_pos _)
    omega
  · exact ⟨by omega, hu, Or.inr hl⟩

/-! ## 4. The rounding step -/

/-- Round half to even: `M = roundDiv n d` satisfies `|n/d − M| ≤ 1/2`, with `M` even on ties. -/
theorem roundDiv_spec (n d : Nat) (hd : 0 < d) :
    2 * n ≤ (2 * roundDiv n d + 1) * d ∧
    (2 * n = (2 * roundDiv n d + 1) * d → roundDiv n d % 2 = 0) ∧
    2 * roundDiv n d * d ≤ 2 * n + d ∧
    (2 * roundDiv n d * d = 2 * n + d → roundDiv n d % 2 = 0) ∧
    n / d ≤ roundDiv n d ∧ roundDiv n d ≤ n / d + 1 := by
  have hdm := Nat.div_add_mod n d
  have hlt := Nat.mod_lt n hd
  unfold roundDiv
  simp only [Bool.or_eq_true, decide_eq_true_eq, Bool.and_eq_true, beq_iff_eq]
  generalize hq : n / d = qq at *
  generalize hr : n % d = rem at *
  generalize ha : d * qq = a at hdm
  split
  · rename_i h
    have e1 : (2 * (qq + 1) + 1) * d = 2 * a + 3 * d := by rw [← ha]; grind
    have e2 : 2 * (qq + 1) * d = 2 * a + 2 * d := by rw [← ha]; grind
    rw [e1, e2]
    refine ⟨by omega, by omega, by omega, ?_, by omega, by omega⟩
    intro; omega
  · rename_i h
    have e1 : (2 * qq + 1) * d = 2 * a + d := by rw [← ha]; grind
    have e2 : 2 * qq * d = 2 * a := by rw [← ha]; grind
    rw [e1, e2]
    refine ⟨by omega, ?_, by omega, by omega, by omega, by omega⟩
    intro; omega

theorem roundDiv_le (n d c : Nat) (hd : 0 < d) (h : n < c * d) : roundDiv n d ≤ c := by
  have := (roundDiv_spec n d hd).2.2.2.2.2
  have := (Nat.div_lt_iff_lt_mul hd).2 h
  omega

theorem roundDiv_ge (n d c : Nat) (hd : 0 < d) (h : c * d ≤ n) : c ≤ roundDiv n d := by
  have := (roundDiv_spec n d hd).2.2.2.2.1
  have := (Nat.le_div_iff_mul_le hd).2 h
  omega

/-! ## 5. Encoding / decoding round trip -/

theorem decode_of_parts (w : UInt64) (sg ex fr : Nat) (h1 : w.toNat / 2 ^ 63 = sg)
    (h2 : w.toNat / 2 ^ 52 % 2048 = ex) (h3 : w.toNat % 2 ^ 52 = fr) :
    decode w = if ex == 2047 then none
      else if ex == 0 then some ⟨sg == 1, fr, -1074⟩
      else some ⟨sg == 1, fr + 2 ^ 52, Int.ofNat ex - 1075⟩ := by
  subst h1 h2 h3; rfl

theorem signBit_true : signBit true = 2 ^ 63 := rfl
theorem signBit_false : signBit false = 0 := rfl

/-- `decode` of a word assembled from sign, biased exponent and fraction -/
theorem decode_bits (neg : Bool) (b f : Nat) (hb : b < 2048) (hf : f < 2 ^ 52) :
    decode (UInt64.ofNat (signBit neg + b * 2 ^ 52 + f)) =
      if b == 2047 then none else if b == 0 then some ⟨neg, f, -1074⟩ else some ⟨neg, f + 2 ^ 52, Int.ofNat b - 1075⟩ := by
  have key : ∀ S, S = 0 ∨ S = 2 ^ 63 → (S + b * 2 ^ 52 + f) % 2 ^ 64 / 2 ^ 63 = S / 2 ^ 63 ∧
      (S + b * 2 ^ 52 + f) % 2 ^ 64 / 2 ^ 52 % 2048 = b ∧ (S + b * 2 ^ 52 + f) % 2 ^ 64 % 2 ^ 52 = f := by
    intro S hS; omega
  obtain ⟨k1, k2, k3⟩ := key (signBit neg) (by cases neg <;> simp [signBit])
  rw [decode_of_parts _ (signBit neg / 2 ^ 63) b f (by rw [UInt64.toNat_ofNat']; exact k1)
    (by rw [UInt64.toNat_ofNat']; exact k2) (by rw [UInt64.toNat_ofNat']; exact k3)]
  cases neg <;> rfl

theorem decode_sub (neg : Bool) (mant : Nat) (h : mant < 2 ^ 52) :
    decode (UInt64.ofNat (signBit neg + mant)) = some ⟨neg, mant, -1074⟩ := by
  have := decode_bits neg 0 mant (by decide) h
  rwa [Nat.zero_mul, Nat.add_zero] at this

theorem decode_norm (neg : Bool) (b mant : Nat) (hb1 : 1 ≤ b) (hb2 : b ≤ 2046)
    (hm1 : 2 ^ 52 ≤ mant) (hm2 : mant < 2 ^ 53) :
    decode (UInt64.ofNat (signBit neg + b * 2 ^ 52 + (mant - 2 ^ 52))) =
      some ⟨neg, mant, (b : Int) - 1075⟩ := by
  rw [decode_bits neg b _ (by omega) (by omega), if_neg (by simp; omega), if_neg (by simp; omega),
    Nat.sub_add_cancel hm1]
  rfl

theorem decode_inf (neg : Bool) :
    decode (UInt64.ofNat (signBit neg + 2047 * 2 ^ 52)) = none := by
  cases neg <;> decide

theorem pack_small (neg : Bool) (mant : Nat) (e : Int) (h : mant < 2 ^ 52) :
    decode (pack (signBit neg) mant e) = some ⟨neg, mant, -1074⟩ := by
  unfold pack
  by_cases h0 : mant = 0
  · subst h0
    exact decode_sub neg 0 (by decide)
  · simp only [beq_iff_eq, h0, if_false, h, if_true]
    exact decode_sub neg mant h

theorem pack_norm (neg : Bool) (mant : Nat) (e : Int) (h1 : 2 ^ 52 ≤ mant) (h2 : mant < 2 ^ 53)
    (he1 : -1074 ≤ e) (he2 : e ≤ 971) :
    decode (pack (signBit neg) mant e) = some ⟨neg, mant, e⟩ := by
  unfold pack
  have h0 : ¬ mant = 0 := by omega
  have h3 : ¬ mant < 2 ^ 52 := by omega
  have h4 : ¬ e + 1075 ≥ 2047 := by omega
  simp only [beq_iff_eq, h0, if_false, h3, h4]
  rw [decode_norm neg (e + 1075).toNat mant (by omega) (by omega) h1 h2]
  have : ((e + 1075).toNat : Int) - 1075 = e := by omega
  rw [this]

theorem pack_inf (neg : Bool) (mant : Nat) (e : Int) (h1 : 2 ^ 52 ≤ mant) (he : 972 ≤ e) :
    pack (signBit neg) mant e = UInt64.ofNat (signBit neg + 2047 * 2 ^ 52) := by
  unfold pack
  have h0 : ¬ mant = 0 := by omega
  have h3 : ¬ mant < 2 ^ 52 := by omega
  have h4 : e + 1075 ≥ 2047 := by omega
  simp only [beq_iff_eq, h0, if_false, h3, h4, if_true]

/-! ## 6. The declarative specification -/

/-- `M·2^E` is a float64-representable value nearest to `num/den`, ties to even.

With `2^E = P E / Q E` the distance condition `2·|num/den − M·2^E| ≤ 2^E` reads, cross multiplied,
`|2·num·Q − 2·M·den·P| ≤ den·P`; it is split into the upper and the lower half so that no natural
subtraction is needed.  Ties must pick the even mantissa.  At the bottom of a binade
(`M = 2^52`, not the subnormal binade) the lower neighbour `(2^53−1)·2^(E−1)` is only half a step
away, so the value must be within a *quarter* of `2^E` from below (`lower_binade`); a tie there
goes to `2^52` (even) and is therefore allowed. -/
structure IsNearest (num den M : Nat) (E : Int) : Prop where
  mant_lt : M < 2 ^ 53
  exp_ge : -1074 ≤ E
  exp_le : E ≤ 971
  normal : 2 ^ 52 ≤ M ∨ E = -1074
  /-- `num/den ≤ (M + 1/2)·2^E` -/
  upper : 2 * (num * Q E) ≤ (2 * M + 1) * (den * P E)
  upper_tie : 2 * (num * Q E) = (2 * M + 1) * (den * P E) → M % 2 = 0
  /-- `(M − 1/2)·2^E ≤ num/den` -/
  lower : 2 * M * (den * P E) ≤ 2 * (num * Q E) + den * P E
  lower_tie : 2 * M * (den * P E) = 2 * (num * Q E) + den * P E → M % 2 = 0
  /-- `(M − 1/4)·2^E ≤ num/den` at the bottom of a normal binade -/
  lower_binade : M = 2 ^ 52 → E ≠ -1074 → 4 * M * (den * P E) ≤ 4 * (num * Q E) + den * P E

/-- `num/den ≥ (2^53 − 1/2)·2^971`: the value rounds to infinity. -/
def Overflows (num den : Nat) : Prop := (2 ^ 54 - 1) * (2 ^ 971 * den) ≤ 2 * num

theorem P_971 : P 971 = 2 ^ 971 := by
  unfold P; rw [show (971 : Int).toNat = 971 from by decide]
theorem Q_971 : Q 971 = 1 := Q_of_nonneg (by decide)

theorem overflow_of (num den : Nat) (e : Int) (j : Nat) (he : e = 971 + j)
    (h : (2 ^ 54 - 1) * (den * P e) ≤ 2 ^ j * (2 * num * Q e)) : Overflows num den := by
  have := (scale_ge' 971 e j he (2 * num) (2 ^ 54 - 1) den).2 h
  rw [P_971, Q_971, Nat.mul_one, Nat.mul_comm den] at this
  exact this

/-- The half-step conditions in common units (`N` against `M·u`); `sub` says "subnormal binade". -/
structure NearK (N u M : Nat) (sub : Prop) : Prop where
  mant_lt : M < 2 ^ 53
  normal : 2 ^ 52 ≤ M ∨ sub
  upper : 2 * N ≤ (2 * M + 1) * u
  upper_tie : 2 * N = (2 * M + 1) * u → M % 2 = 0
  lower : 2 * M * u ≤ 2 * N + u
  lower_tie : 2 * M * u = 2 * N + u → M % 2 = 0
  lower_binade : M = 2 ^ 52 → ¬ sub → 4 * M * u ≤ 4 * N + u

theorem isNearest_iff_nearK {num den M : Nat} {E : Int} :
    IsNearest num den M E ↔ -1074 ≤ E ∧ E ≤ 971 ∧ NearK (num * Q E) (den * P E) M (E = -1074) :=
  ⟨fun h => ⟨h.exp_ge, h.exp_le, ⟨h.mant_lt, h.normal, h.upper, h.upper_tie, h.lower, h.lower_tie, h.lower_binade⟩⟩,
    fun ⟨h1, h2, k⟩ => ⟨k.mant_lt, h1, h2, k.normal, k.upper, k.upper_tie, k.lower, k.lower_tie, k.lower_binade⟩⟩

/-- `NearK` speaks of the ratio `N : u` only (and a weaker `sub` may take the place of a stronger one) -/
theorem NearK.congr {N u N' u' M : Nat} {s s' : Prop} (hu : 0 < u) (hu' : 0 < u') (h : N * u' = N' * u) (hs : s → s')
    (k : NearK N u M s) : NearK N' u' M s' := by
  have c := lin_le_congr hu hu' h
  have ce := lin_eq_congr hu hu' h
  exact
    { mant_lt := k.mant_lt
      normal := k.normal.imp id hs
      upper := by
        have := (c 2 0 0 (2 * M + 1)).1 (by have := k.upper; omega)
        omega
      upper_tie := fun ht => k.upper_tie (by
        have := (ce 2 0 0 (2 * M + 1)).2 (by omega)
        omega)
      lower := by
        have := (c 0 (2 * M) 2 1).1 (by have := k.lower; omega)
        omega
      lower_tie := fun ht => k.lower_tie (by
        have := (ce 0 (2 * M) 2 1).2 (by omega)
        omega)
      lower_binade := fun hM hn => by
        have := (c 0 (4 * M) 4 1).1 (by have := k.lower_binade hM (fun x => hn (hs x)); omega)
        omega }

/-! ## 7. Assembling the stages -/

/-- the word `w` is a finite float of sign `neg` that is a nearest-even rounding of `num/den`, or the infinity of that sign
for a value at or above the overflow threshold -/
def RoundsTo (neg : Bool) (num den : Nat) (w : UInt64) : Prop :=
  (∃ M E, decode w = some ⟨neg, M, E⟩ ∧ IsNearest num den M E) ∨
  (w = UInt64.ofNat (signBit neg + 2047 * 2 ^ 52) ∧ Overflows num den)

/-- the rounded quotient is `NearK` in the unit of the division, or it carried to `2^53`, which is `2^52` in twice the unit -/
theorem roundDiv_nearK (n d : Nat) (hd : 0 < d) (s s' : Prop) (h53 : n < 2 ^ 53 * d) (hlo : s ∨ 2 ^ 52 * d ≤ n) :
    (roundDiv n d < 2 ^ 53 ∧ NearK n d (roundDiv n d) s) ∨ (roundDiv n d = 2 ^ 53 ∧ NearK n (2 * d) (2 ^ 52) s') := by
  obtain ⟨ru, rut, rl, rlt, -, -⟩ := roundDiv_spec n d hd
  have hle := roundDiv_le n d (2 ^ 53) hd h53
  by_cases hc : roundDiv n d < 2 ^ 53
  · exact Or.inl ⟨hc, hc, hlo.symm.imp (roundDiv_ge n d (2 ^ 52) hd) id, ru, rut, rl, rlt,
      fun hM hs => by rw [hM]; have := hlo.resolve_left hs; omega⟩
  · have hM : roundDiv n d = 2 ^ 53 := by omega
    rw [hM] at rl
    exact Or.inr ⟨hM, by decide, Or.inl (Nat.le_refl _), by omega, fun _ => by decide, by omega, fun _ => by decide,
      fun _ _ => by omega⟩

/-- a `NearK` mantissa at a binary exponent `e ≥ −1074`, packed: a nearest-even float, or the infinity when `e > 971` (the
value is then at least `(2^53 − 1/2)·2^e`, by `lower` or, at `M = 2^52`, `lower_binade`) -/
theorem roundsTo_of_nearK (neg : Bool) {num den M : Nat} {e : Int} (hge : -1074 ≤ e)
    (k : NearK (num * Q e) (den * P e) M (e = -1074)) : RoundsTo neg num den (pack (signBit neg) M e) := by
  by_cases hs : M < 2 ^ 52
  · obtain rfl : e = -1074 := k.normal.resolve_left (by omega)
    exact Or.inl ⟨M, _, pack_small neg M _ hs, isNearest_iff_nearK.mpr ⟨by omega, by omega, k⟩⟩
  · by_cases ho : 972 ≤ e
    · refine Or.inr ⟨pack_inf neg _ _ (by omega) ho, overflow_of num den e (e - 971).toNat (by omega) ?_⟩
      have hj : 2 ^ 1 ≤ 2 ^ (e - 971).toNat := Nat.pow_le_pow_right (by decide) (by omega)
      have := Nat.mul_le_mul_right (2 * num * Q e) hj
      rw [Nat.mul_assoc 2 num] at this ⊢
      have hl := k.lower
      have hb := k.lower_binade
      generalize den * P e = u at *
      by_cases hM : M = 2 ^ 52
      · have := hb hM (by omega); subst hM; omega
      · have : (2 ^ 52 + 1) * u ≤ M * u := Nat.mul_le_mul_right _ (by omega)
        rw [Nat.mul_assoc 2 M] at hl
        omega
    · exact Or.inl ⟨M, e, pack_norm neg M e (by omega) k.mant_lt hge (by omega),
        isNearest_iff_nearK.mpr ⟨hge, by omega, k⟩⟩

/-- All stages together, for a positive value `num/den`: the result is either a finite float that
is a nearest-even rounding, or the infinity of the right sign and the value is at or above the
overflow threshold. -/
theorem round_core (neg : Bool) (num den : Nat) (hn : 0 < num) (hd : 0 < den)
    (e : Int) (he : e = chooseE num den) (M0 : Nat) (hM : M0 = roundDiv (num * Q e) (den * P e)) :
    RoundsTo neg num den (if M0 ≥ 2 ^ 53 then pack (signBit neg) (M0 / 2) (e + 1) else pack (signBit neg) M0 e) := by
  obtain ⟨hge, hup, hlo⟩ := chooseE_spec num den hn hd
  rw [← he] at hge hup hlo
  have hd2 : 0 < den * P e := Nat.mul_pos hd (P_pos e)
  rcases roundDiv_nearK _ _ hd2 (e = -1074) (e + 1 = -1074) hup hlo with ⟨hlt, k⟩ | ⟨heq, k⟩
  · rw [hM, if_neg (by omega)]
    exact roundsTo_of_nearK neg hge k
  · -- the carry: `2^53` units of `2^e` are `2^52` units of `2^(e+1)`
    rw [hM, heq, if_pos (Nat.le_refl _)]
    have r := ratio_shift num den e (e + 1) 1 (by omega)
    rw [Nat.pow_one] at r
    exact roundsTo_of_nearK neg (by omega) (k.congr (Nat.mul_pos (by decide) hd2) (Nat.mul_pos hd (P_pos _)) r id)

/-! ## 8. `ofDecimal` in case form -/

theorem P_m1074 : P (-1074) = 1 := P_of_neg (by decide)
theorem Q_m1074 : Q (-1074) = 2 ^ 1074 := by
  unfold Q; rw [show (-(-1074 : Int)).toNat = 1074 from by decide]

/-- a value of at most half the least subnormal rounds to zero (the tie goes to the even mantissa `0`) -/
theorem isNearest_tiny {num den : Nat} (h : 2 * (num * Q (-1074)) ≤ den) : IsNearest num den 0 (-1074) :=
  { mant_lt := by decide
    exp_ge := by decide
    exp_le := by decide
    normal := Or.inr rfl
    upper := by rw [P_m1074]; omega
    upper_tie := fun _ => rfl
    lower := by omega
    lower_tie := fun _ => rfl
    lower_binade := fun _ h => absurd rfl h }

/-- `ofDecimal neg 0 d` is the signed zero. -/
theorem ofDecimal_zero (neg : Bool) (d : Int) :
    ofDecimal neg 0 d = UInt64.ofNat (signBit neg) := by
  rw [ofDecimal_unfold]; rfl

/-- Case form of correctness, for every `m` (including `0`): the result is a finite float of sign
`neg` which is a nearest-even rounding of `m·10^d`, or it is the infinity of sign `neg` and
`m·10^d` is at or above the overflow threshold. -/
theorem ofDecimal_cases (neg : Bool) (m : Nat) (d : Int) :
    (∃ M E, decode (ofDecimal neg m d) = some ⟨neg, M, E⟩ ∧
        IsNearest (decNum m d) (decDen d) M E) ∨
    (ofDecimal neg m d = UInt64.ofNat (signBit neg + 2047 * 2 ^ 52) ∧
        Overflows (decNum m d) (decDen d)) := by
  by_cases hm : m = 0
  · subst hm
    left
    refine ⟨0, -1074, ?_, ?_⟩
    · rw [ofDecimal_zero]; exact decode_sub neg 0 (by decide)
    · have : decNum 0 d = 0 := by unfold decNum; split <;> simp
      rw [this]; exact isNearest_tiny (by rw [Nat.zero_mul]; omega)
  · rw [ofDecimal_unfold, if_neg hm]
    exact round_core neg (decNum m d) (decDen d) (decNum_pos d (by omega)) (decDen_pos d)
      _ rfl _ rfl

/-! ## 9. Uniqueness: `IsNearest` determines the float -/

theorem IsNearest.toK {num den M : Nat} {E : Int} (hd : 0 < den) (h : IsNearest num den M E) :
    NearK (num * Q (-1074)) (den * 2 ^ (E + 1074).toNat) M (E = -1074) := by
  obtain ⟨hE, _, k⟩ := isNearest_iff_nearK.mp h
  refine k.congr (Nat.mul_pos hd (P_pos E)) (Nat.mul_pos hd (Nat.two_pow_pos _)) ?_ id
  have := ratio_shift num den (-1074) E (E + 1074).toNat (by omega)
  rw [P_m1074] at this
  grind

theorem odd_mul (M u : Nat) : (2 * M + 1) * u = 2 * (M * u) + u := by grind

theorem NearK.not_lt {N u M1 M2 : Nat} {s1 s2 : Prop} (hu : 0 < u)
    (h1 : NearK N u M1 s1) (h2 : NearK N u M2 s2) : ¬ M1 < M2 := by
  intro hlt
  have hm : (M1 + 1) * u ≤ M2 * u := Nat.mul_le_mul_right u hlt
  have e1 : (2 * M1 + 1) * u = 2 * (M1 * u) + u := by grind
  have e2 : 2 * M2 * u = 2 * (M2 * u) := Nat.mul_assoc _ _ _
  have e3 : (M1 + 1) * u = M1 * u + u := by grind
  have hu1 := h1.upper
  have hl2 := h2.lower
  have t1 := h1.upper_tie
  have t2 := h2.lower_tie
  rw [e1] at hu1 t1
  rw [e2] at hl2 t2
  rw [e3] at hm
  have hmm : M2 * u = (M1 + 1) * u := by rw [e3]; omega
  have := Nat.eq_of_mul_eq_mul_right hu hmm
  have := t1 (by omega)
  have := t2 (by omega)
  omega

theorem NearK.unique_same {N u M1 M2 : Nat} {s1 s2 : Prop} (hu : 0 < u)
    (h1 : NearK N u M1 s1) (h2 : NearK N u M2 s2) : M1 = M2 := by
  have := NearK.not_lt hu h1 h2
  have := NearK.not_lt hu h2 h1
  omega

theorem cross_arith1 (N a1 u1 w : Nat) (hw : u1 ≤ w)
    (hq : 4 * 2 ^ 52 * (2 * w) ≤ 4 * N + 2 * w)
    (hu1 : 2 * N ≤ 2 * a1 + u1) (ha1 : a1 ≤ (2 ^ 53 - 1) * u1) :
    a1 = (2 ^ 53 - 1) * u1 ∧ 2 * N = 2 * a1 + u1 := by
  omega

theorem cross_arith2 (N a1 u1 w a2 : Nat) (hu : 0 < u1) (hw : u1 ≤ w)
    (ha2 : (2 ^ 52 + 1) * (2 * w) ≤ a2) (hl2 : 2 * a2 ≤ 2 * N + 2 * w)
    (hu1 : 2 * N ≤ 2 * a1 + u1) (ha1 : a1 ≤ (2 ^ 53 - 1) * u1) : False := by
  omega

/-- A value at least `(2^52 − 1/4)·2w` is not nearest to anything in a unit `u1 ≤ w`: the top `(2^53−1)·u1` of that binade is
odd and at best ties. -/
theorem NearK.not_below {N u1 w M1 : Nat} {s1 : Prop} (hu : 0 < u1) (hw : u1 ≤ w) (h1 : NearK N u1 M1 s1)
    (hq : 4 * 2 ^ 52 * (2 * w) ≤ 4 * N + 2 * w) : False := by
  have hM1 := h1.mant_lt
  have ha1 : M1 * u1 ≤ (2 ^ 53 - 1) * u1 := Nat.mul_le_mul_right u1 (by omega)
  have hu1 := h1.upper
  rw [odd_mul] at hu1
  obtain ⟨ha, hN⟩ := cross_arith1 N (M1 * u1) u1 w hw hq hu1 ha1
  have hev := h1.upper_tie (by rw [odd_mul]; exact hN)
  rw [Nat.eq_of_mul_eq_mul_right hu ha] at hev
  exact absurd hev (by decide)

/-- Two candidates in different binades (`u2 = 2w ≥ 2·u1`) cannot both be nearest: the bottom of the upper binade needs
quarter-step closeness (`not_below`), anything above it is more than half a step away. -/
theorem NearK.not_cross {N u1 w M1 M2 : Nat} {s1 s2 : Prop} (hu : 0 < u1) (hw : u1 ≤ w)
    (hs2 : ¬ s2) (h1 : NearK N u1 M1 s1) (h2 : NearK N (2 * w) M2 s2) : False := by
  have hM2 : 2 ^ 52 ≤ M2 := h2.normal.resolve_right hs2
  by_cases hb : M2 = 2 ^ 52
  · exact h1.not_below hu hw (hb ▸ h2.lower_binade hb hs2)
  · have hM1 := h1.mant_lt
    have ha1 : M1 * u1 ≤ (2 ^ 53 - 1) * u1 := Nat.mul_le_mul_right u1 (by omega)
    have hu1 := h1.upper
    rw [odd_mul] at hu1
    have ha2 : (2 ^ 52 + 1) * (2 * w) ≤ M2 * (2 * w) := Nat.mul_le_mul_right _ (by omega)
    have hl2 := h2.lower
    rw [Nat.mul_assoc 2 M2] at hl2
    exact cross_arith2 N (M1 * u1) u1 w (M2 * (2 * w)) hu hw ha2 hl2 hu1 ha1

theorem pow_split {k k' : Nat} (h : k < k') : 2 ^ k' = 2 * (2 ^ k * 2 ^ (k' - k - 1)) := by
  rw [← Nat.pow_add, ← Nat.pow_succ']
  congr 1; omega

theorem unit_split (D : Nat) {k k' : Nat} (h : k < k') :
    D * 2 ^ k' = 2 * (D * 2 ^ k * 2 ^ (k' - k - 1)) := by
  rw [pow_split h]; grind

/-- **Uniqueness.**  Two float64 values that are both nearest-even roundings of the same
`num/den` have the same mantissa and exponent.  (Ties are resolved by evenness; at a binade
boundary by the quarter-step condition.) -/
theorem isNearest_unique {num den M1 M2 : Nat} {E1 E2 : Int} (hd : 0 < den)
    (h1 : IsNearest num den M1 E1) (h2 : IsNearest num den M2 E2) : M1 = M2 ∧ E1 = E2 := by
  have k1 := h1.toK hd
  have k2 := h2.toK hd
  have hE1 := h1.exp_ge
  have hE2 := h2.exp_ge
  have cross : ∀ {Ma Mb : Nat} {Ea Eb : Int}, -1074 ≤ Ea → Ea < Eb →
      NearK (num * Q (-1074)) (den * 2 ^ (Ea + 1074).toNat) Ma (Ea = -1074) →
      NearK (num * Q (-1074)) (den * 2 ^ (Eb + 1074).toNat) Mb (Eb = -1074) → False := by
    intro Ma Mb Ea Eb ha hab ka kb
    have hu := unit_split den (show (Ea + 1074).toNat < (Eb + 1074).toNat by omega)
    rw [hu] at kb
    exact NearK.not_cross (Nat.mul_pos hd (Nat.two_pow_pos _))
      (Nat.le_mul_of_pos_right _ (Nat.two_pow_pos _)) (by omega) ka kb
  rcases Int.lt_trichotomy E1 E2 with hlt | heq | hgt
  · exact (cross hE1 hlt k1 k2).elim
  · subst heq
    exact ⟨NearK.unique_same (Nat.mul_pos hd (Nat.two_pow_pos _)) k1 k2, rfl⟩
  · exact (cross hE2 hgt k2 k1).elim

/-- A nearest-even result has mantissa `0` exactly when the value is at most half the smallest
subnormal `2^(-1074)`: by uniqueness, since `0` is then nearest. -/
theorem isNearest_zero_iff {num den M : Nat} {E : Int} (hd : 0 < den)
    (h : IsNearest num den M E) : M = 0 ↔ 2 * (num * 2 ^ 1074) ≤ den := by
  refine ⟨fun hM => ?_, fun hz => (isNearest_unique hd h (isNearest_tiny (by rw [Q_m1074]; exact hz))).1⟩
  subst hM
  obtain rfl : E = -1074 := h.normal.resolve_left (by decide)
  have := h.upper
  rw [P_m1074, Q_m1074] at this
  omega

/-- A value at or above the overflow threshold has no finite nearest-even float: the threshold is the quarter point below
`2^52·2^972` (`NearK.not_below`; the candidate `(2^53−1)·2^971` has an odd mantissa, so the tie goes to infinity). -/
theorem isNearest_not_overflow {num den M : Nat} {E : Int} (hd : 0 < den)
    (h : IsNearest num den M E) : ¬ Overflows num den := by
  intro ho
  unfold Overflows at ho
  have hE := h.exp_le
  have h1 := (scale_ge' E 971 (971 - E).toNat (by omega) (2 * num) (2 ^ 54 - 1) den).2 (by
    rw [P_971, Q_971, Nat.mul_one, Nat.mul_comm den]
    exact Nat.le_trans ho (Nat.le_mul_of_pos_left _ (Nat.two_pow_pos _)))
  rw [Nat.mul_assoc 2 num] at h1
  exact (isNearest_iff_nearK.1 h).2.2.not_below (Nat.mul_pos hd (P_pos E)) (Nat.le_refl _) (by omega)

/-! ## 10. `decode` is injective on finite floats -/

theorem decode_some {w : UInt64} {dy : Num.Dyadic} (h : decode w = some dy) :
    (w.toNat / 2 ^ 52 % 2048 = 0 ∧ dy = ⟨w.toNat / 2 ^ 63 == 1, w.toNat % 2 ^ 52, -1074⟩) ∨
    (w.toNat / 2 ^ 52 % 2048 ≠ 0 ∧ w.toNat / 2 ^ 52 % 2048 ≠ 2047 ∧
      dy = ⟨w.toNat / 2 ^ 63 == 1, w.toNat % 2 ^ 52 + 2 ^ 52,
        Int.ofNat (w.toNat / 2 ^ 52 % 2048) - 1075⟩) := by
  rw [decode_of_parts w _ _ _ rfl rfl rfl] at h
  split at h
  · exact absurd h (by simp)
  · rename_i h1
    split at h
    · rename_i h2
      left
      injection h with h
      exact ⟨by simpa using h2, h.symm⟩
    · rename_i h2
      right
      injection h with h
      exact ⟨by simpa using h2, by simpa using h1, h.symm⟩

theorem bits_split (n : Nat) (h : n < 2 ^ 64) :
    n = (n / 2 ^ 63) * 2 ^ 63 + (n / 2 ^ 52 % 2048) * 2 ^ 52 + n % 2 ^ 52 ∧ n / 2 ^ 63 < 2 := by
  omega

/-- the bits of a finite float from its decoded value -/
theorem toNat_of_decode {w : UInt64} {dy : Num.Dyadic} (h : decode w = some dy) :
    w.toNat = signBit dy.neg + (if dy.m < 2 ^ 52 then dy.m else (dy.e + 1075).toNat * 2 ^ 52 + (dy.m - 2 ^ 52)) := by
  have b := bits_split w.toNat (UInt64.toNat_lt w)
  have l : w.toNat % 2 ^ 52 < 2 ^ 52 := Nat.mod_lt _ (by decide)
  have c := decode_some h
  generalize w.toNat / 2 ^ 63 = s at *
  generalize w.toNat / 2 ^ 52 % 2048 = x at *
  generalize w.toNat % 2 ^ 52 = f at *
  have hs : signBit (s == 1) = s * 2 ^ 63 := by
    have : s = 0 ∨ s = 1 := by omega
    rcases this with rfl | rfl <;> rfl
  rcases c with ⟨z, rfl⟩ | ⟨z, -, rfl⟩
  · dsimp only
    rw [hs, if_pos l]; omega
  · dsimp only
    rw [hs, if_neg (by omega), Int.ofNat_eq_natCast]
    omega

/-- Distinct finite bit patterns decode to distinct `(sign, mantissa, exponent)` triples. -/
theorem decode_inj {w1 w2 : UInt64} {dy : Num.Dyadic} (h1 : decode w1 = some dy)
    (h2 : decode w2 = some dy) : w1 = w2 :=
  UInt64.toNat_inj.1 ((toNat_of_decode h1).trans (toNat_of_decode h2).symm)

/-! ## 11. The sign -/

theorem pack_sign (neg : Bool) (mant : Nat) (e : Int) :
    pack (signBit neg) mant e = pack 0 mant e + UInt64.ofNat (signBit neg) := by
  unfold pack
  simp only [Nat.zero_add]
  split
  · rw [show UInt64.ofNat 0 = 0 from rfl, UInt64.zero_add]
  · split
    · rw [UInt64.ofNat_add, UInt64.add_comm]
    · split
      · rw [UInt64.ofNat_add, UInt64.add_comm]
      · rw [Nat.add_assoc, UInt64.ofNat_add, UInt64.add_comm]

/-- The sign only contributes bit 63: the bits for `neg` are the bits of the positive result plus
`signBit neg` (`2^63` or `0`), and the positive result is below `2^63`. -/
theorem ofDecimal_neg (neg : Bool) (m : Nat) (d : Int) :
    ofDecimal neg m d = ofDecimal false m d + UInt64.ofNat (signBit neg) ∧
    (ofDecimal false m d).toNat < 2 ^ 63 := by
  constructor
  · rw [ofDecimal_unfold neg, ofDecimal_unfold false, signBit_false]
    split
    · rw [show UInt64.ofNat 0 = 0 from rfl, UInt64.zero_add]
    · split
      · exact pack_sign neg _ _
      · exact pack_sign neg _ _
  · rcases ofDecimal_cases false m d with ⟨M, E, hdec, hN⟩ | ⟨hbits, -⟩
    · have := hN.mant_lt
      have := hN.exp_le
      rw [toNat_of_decode hdec, signBit_false]
      dsimp only
      split <;> omega
    · rw [hbits, UInt64.toNat_ofNat', signBit_false]
      decide

/-! ## 12. `ofDecimal` on finite floats: the characterisation and its corollaries -/

/-- `ofDecimal neg m d` is the finite float `b` exactly when `b` has the sign `neg` and is the nearest-even rounding of `m·10^d`
(`ofDecimal_cases` one way, `isNearest_unique` and `isNearest_not_overflow` the other); also for `m = 0` -/
theorem ofDecimal_eq_iff {b : UInt64} {dy : Num.Dyadic} (hd : decode b = some dy) (neg : Bool) (m : Nat) (d : Int) :
    ofDecimal neg m d = b ↔ dy.neg = neg ∧ IsNearest (decNum m d) (decDen d) dy.m dy.e := by
  rcases ofDecimal_cases neg m d with ⟨M, E, hdec, hN⟩ | ⟨hbits, hov⟩
  · constructor
    · rintro rfl
      obtain rfl := Option.some.inj (hdec.symm.trans hd)
      exact ⟨rfl, hN⟩
    · rintro ⟨rfl, hn⟩
      obtain ⟨rfl, rfl⟩ := isNearest_unique (decDen_pos d) hn hN
      exact decode_inj hdec hd
  · constructor
    · rintro rfl
      rw [hbits, decode_inf] at hd
      cases hd
    · exact fun h => absurd hov (isNearest_not_overflow (decDen_pos d) h.2)

/-- **Main theorem.**  For `m > 0`:
* if the result decodes to the finite float `(s, M, E)` then `s = neg`, `M·2^E` is a nearest-even
  rounding of `m·10^d`, and `M = 0` exactly when `m·10^d ≤ 2^(-1075)` (half the least subnormal);
* if the result does not decode (infinity/NaN pattern) then it is exactly the infinity of sign
  `neg` and `m·10^d ≥ (2^53 − 1/2)·2^971`. -/
theorem ofDecimal_correct (neg : Bool) (m : Nat) (d : Int) (_hm : 0 < m) :
    (∀ s M E, decode (ofDecimal neg m d) = some ⟨s, M, E⟩ →
      s = neg ∧ IsNearest (decNum m d) (decDen d) M E ∧
      (M = 0 ↔ 2 * (decNum m d * 2 ^ 1074) ≤ decDen d)) ∧
    (decode (ofDecimal neg m d) = none →
      ofDecimal neg m d = UInt64.ofNat (signBit neg + 2047 * 2 ^ 52) ∧
      Overflows (decNum m d) (decDen d)) := by
  refine ⟨fun s M E h => ?_, fun h => ?_⟩
  · obtain ⟨h1, h2⟩ := (ofDecimal_eq_iff h neg m d).mp rfl
    exact ⟨h1, h2, isNearest_zero_iff (decDen_pos d) h2⟩
  · rcases ofDecimal_cases neg m d with ⟨M, E, hdec, -⟩ | r
    · rw [hdec] at h; cases h
    · exact r

/-- In disjunctive form: `M = 0` below half the least subnormal, or nearest. -/
theorem ofDecimal_correct_disj (neg : Bool) (m : Nat) (d : Int) (hm : 0 < m) (s : Bool) (M : Nat)
    (E : Int) (h : decode (ofDecimal neg m d) = some ⟨s, M, E⟩) :
    s = neg ∧ ((M = 0 ∧ 2 * (decNum m d * 2 ^ 1074) ≤ decDen d) ∨
      IsNearest (decNum m d) (decDen d) M E) :=
  let ⟨h1, h2, _⟩ := (ofDecimal_correct neg m d hm).1 s M E h
  ⟨h1, Or.inr h2⟩

theorem parsesTo_iff {bits : UInt64} {text : List UInt8} :
    parsesTo bits text = true ↔ ∃ neg m d, parsePositional text = some (neg, m, d) ∧ ofDecimal neg m d = bits := by
  unfold parsesTo
  split
  · rename_i neg m d hp
    rw [beq_iff_eq]
    exact ⟨fun h => ⟨neg, m, d, hp, h⟩, fun ⟨_, _, _, h1, h2⟩ => by cases hp.symm.trans h1; exact h2⟩
  · rename_i hn
    exact ⟨fun h => absurd h (by simp), fun ⟨_, _, _, h1, _⟩ => by cases hn.symm.trans h1⟩

/-- **Corollary (soundness of the round-trip check).**  If `parsesTo bits text` holds and `bits`
is finite, then `text` is a positional decimal `±m·10^d` and `bits` is a nearest-even float64 of
it, with the sign of the text. -/
theorem parsesTo_sound {bits : UInt64} {text : List UInt8} {dy : Num.Dyadic}
    (h : parsesTo bits text = true) (hd : decode bits = some dy) :
    ∃ neg m d, parsePositional text = some (neg, m, d) ∧ dy.neg = neg ∧
      IsNearest (decNum m d) (decDen d) dy.m dy.e :=
  let ⟨neg, m, d, hp, hb⟩ := parsesTo_iff.mp h
  ⟨neg, m, d, hp, (ofDecimal_eq_iff hd neg m d).mp hb⟩

/-- **Corollary (a correct IEEE parser returns exactly `bits`).**  If `parsesTo bits text` holds,
then every finite float64 `bits'` of the text's sign that is a nearest-even rounding of the
decimal denoted by `text` is `bits` itself; in particular `bits` is then finite. -/
theorem parsesTo_unique {bits bits' : UInt64} {text : List UInt8} {neg : Bool} {m : Nat} {d : Int}
    {dy' : Num.Dyadic} (h : parsesTo bits text = true) (hp : parsePositional text = some (neg, m, d))
    (hd' : decode bits' = some dy') (hs : dy'.neg = neg)
    (hn : IsNearest (decNum m d) (decDen d) dy'.m dy'.e) : bits' = bits := by
  obtain ⟨_, _, _, hp', hb⟩ := parsesTo_iff.mp h
  cases hp.symm.trans hp'
  exact ((ofDecimal_eq_iff hd' neg m d).mpr ⟨hs, hn⟩).symm.trans hb

/-! ## 13. `IsNearest` means "closest representable value, ties to even"

This is the lemma that makes the half-step formulation the right notion: a value satisfying
`IsNearest` is at least as close to `num/den` as *every* float64-representable value, and whenever
another representable value is equally close, the chosen mantissa is even. -/

/-- `|a − b|` on naturals -/
def absDiff (a b : Nat) : Nat := (a - b) + (b - a)

/-- `M·2^E` is a finite float64 value in normalised form. -/
def Representable (M : Nat) (E : Int) : Prop :=
  M < 2 ^ 53 ∧ -1074 ≤ E ∧ E ≤ 971 ∧ (2 ^ 52 ≤ M ∨ E = -1074)

theorem absDiff_of_le {x y : Nat} (h : x ≤ y) : absDiff x y = y - x := by unfold absDiff; omega
theorem absDiff_of_ge {x y : Nat} (h : y ≤ x) : absDiff x y = x - y := by unfold absDiff; omega

theorem close_far_arith (N u a a' : Nat) (hup : 2 * N ≤ 2 * a + u) (hlo : 2 * a ≤ 2 * N + u)
    (h : a + u ≤ a' ∨ a' + u ≤ a) :
    absDiff N a ≤ absDiff N a' ∧
    (absDiff N a = absDiff N a' → 2 * N = 2 * a + u ∨ 2 * a = 2 * N + u) := by
  -- `N` is within `u/2` of `a`, so the far value lies beyond `N`
  rcases h with h | h
  · rw [absDiff_of_le (show N ≤ a' by omega)]
    rcases Nat.le_total N a with g | g
    · rw [absDiff_of_le g]; omega
    · rw [absDiff_of_ge g]; omega
  · rw [absDiff_of_ge (show a' ≤ N by omega)]
    rcases Nat.le_total N a with g | g
    · rw [absDiff_of_le g]; omega
    · rw [absDiff_of_ge g]; omega

theorem close_quarter_arith (N w u' a' : Nat) (hw : u' ≤ w)
    (hq : 4 * 2 ^ 52 * (2 * w) ≤ 4 * N + 2 * w)
    (ha' : a' ≤ (2 ^ 53 - 1) * u') :
    absDiff N (2 ^ 52 * (2 * w)) ≤ absDiff N a' := by
  rw [absDiff_of_ge (show a' ≤ N by omega)]
  unfold absDiff; omega

theorem up_arith (u w a a' : Nat) (hw : u ≤ w) (ha : a + u ≤ 2 ^ 53 * u)
    (ha' : 2 ^ 52 * (2 * w) ≤ a') : a + u ≤ a' := by omega

theorem down_arith (u' w a a' : Nat) (hw : u' ≤ w) (ha : (2 ^ 52 + 1) * (2 * w) ≤ a)
    (ha' : a' ≤ (2 ^ 53 - 1) * u') : a' + 2 * w ≤ a := by omega

/-- Any value at least one step `u` away from `M·u` is no closer, and equally close only at a
tie, where `M` is even. -/
theorem NearK.closest_far {N u M a' : Nat} {s : Prop} (h : NearK N u M s)
    (hfar : M * u + u ≤ a' ∨ a' + u ≤ M * u) :
    absDiff N (M * u) ≤ absDiff N a' ∧ (absDiff N (M * u) = absDiff N a' → M % 2 = 0) := by
  have hup := h.upper
  have hlo := h.lower
  rw [odd_mul] at hup
  rw [Nat.mul_assoc 2 M] at hlo
  obtain ⟨c1, c2⟩ := close_far_arith N u (M * u) a' hup hlo hfar
  refine ⟨c1, fun he => ?_⟩
  rcases c2 he with t | t
  · exact h.upper_tie (by rw [odd_mul]; exact t)
  · exact h.lower_tie (by rw [Nat.mul_assoc 2 M]; exact t)

/-- Closest-value property in common units. -/
theorem closestK {N D M k M' k' : Nat} {s : Prop} (hD : 0 < D) (hs : s → k = 0)
    (h : NearK N (D * 2 ^ k) M s) (hM' : M' < 2 ^ 53) (hn' : 2 ^ 52 ≤ M' ∨ k' = 0) :
    absDiff N (M * (D * 2 ^ k)) ≤ absDiff N (M' * (D * 2 ^ k')) ∧
    (absDiff N (M * (D * 2 ^ k)) = absDiff N (M' * (D * 2 ^ k')) → ¬ (M = M' ∧ k = k') →
      M % 2 = 0) := by
  have hM := h.mant_lt
  rcases Nat.lt_trichotomy k k' with hlt | heq | hgt
  · -- the other value lies in a higher binade
    have hM'2 : 2 ^ 52 ≤ M' := by omega
    have hu := unit_split D hlt
    have hw : D * 2 ^ k ≤ D * 2 ^ k * 2 ^ (k' - k - 1) :=
      Nat.le_mul_of_pos_right _ (Nat.two_pow_pos _)
    rw [hu]
    generalize D * 2 ^ k * 2 ^ (k' - k - 1) = w at *
    have ha : M * (D * 2 ^ k) + D * 2 ^ k ≤ 2 ^ 53 * (D * 2 ^ k) := by
      have := Nat.mul_le_mul_right (D * 2 ^ k) (show M + 1 ≤ 2 ^ 53 by omega)
      rw [Nat.add_mul, Nat.one_mul] at this; exact this
    have ha' : 2 ^ 52 * (2 * w) ≤ M' * (2 * w) := Nat.mul_le_mul_right _ hM'2
    obtain ⟨c1, c2⟩ := h.closest_far (a' := M' * (2 * w)) (Or.inl (up_arith _ _ _ _ hw ha ha'))
    exact ⟨c1, fun he _ => c2 he⟩
  · subst heq
    have hu : 0 < D * 2 ^ k := Nat.mul_pos hD (Nat.two_pow_pos _)
    rcases Nat.lt_trichotomy M M' with h1 | h1 | h1
    · have := Nat.mul_le_mul_right (D * 2 ^ k) (show M + 1 ≤ M' by omega)
      rw [Nat.add_mul, Nat.one_mul] at this
      obtain ⟨c1, c2⟩ := h.closest_far (Or.inl this)
      exact ⟨c1, fun he _ => c2 he⟩
    · subst h1
      exact ⟨Nat.le_refl _, fun _ hne => absurd ⟨rfl, rfl⟩ hne⟩
    · have := Nat.mul_le_mul_right (D * 2 ^ k) (show M' + 1 ≤ M by omega)
      rw [Nat.add_mul, Nat.one_mul] at this
      obtain ⟨c1, c2⟩ := h.closest_far (Or.inr this)
      exact ⟨c1, fun he _ => c2 he⟩
  · -- the other value lies in a lower binade
    have hns : ¬ s := fun hh => by have := hs hh; omega
    have hM2 : 2 ^ 52 ≤ M := h.normal.resolve_right hns
    have hu := unit_split D hgt
    have hw : D * 2 ^ k' ≤ D * 2 ^ k' * 2 ^ (k - k' - 1) :=
      Nat.le_mul_of_pos_right _ (Nat.two_pow_pos _)
    rw [hu] at h ⊢
    generalize D * 2 ^ k' * 2 ^ (k - k' - 1) = w at *
    have ha' : M' * (D * 2 ^ k') ≤ (2 ^ 53 - 1) * (D * 2 ^ k') :=
      Nat.mul_le_mul_right _ (by omega)
    by_cases hb : M = 2 ^ 52
    · have hq := h.lower_binade hb hns
      subst hb
      exact ⟨close_quarter_arith N w _ _ hw hq ha', fun _ _ => by decide⟩
    · have ha : (2 ^ 52 + 1) * (2 * w) ≤ M * (2 * w) := Nat.mul_le_mul_right _ (by omega)
      obtain ⟨c1, c2⟩ := h.closest_far (a' := M' * (D * 2 ^ k'))
        (Or.inr (down_arith _ _ _ _ hw ha ha'))
      exact ⟨c1, fun he _ => c2 he⟩

/-- a distance after a change of units -/
theorem absDiff_scale' {a b a' b' G1 G2 : Nat} (ha : a * G1 = a' * G2) (hb : b * G1 = b' * G2) :
    absDiff a b * G1 = absDiff a' b' * G2 := by
  unfold absDiff
  rw [Nat.add_mul, Nat.add_mul, Nat.sub_mul, Nat.sub_mul, Nat.sub_mul, Nat.sub_mul, ha, hb]

/-- Distances at exponent `E`, over any further factor `q`, expressed in units of `2^(-1074)`. -/
theorem absDiff_scale (num den M : Nat) (E : Int) (hE : -1074 ≤ E) (q : Nat) :
    absDiff (num * Q E) (M * (den * P E)) * q * Q (-1074) =
      absDiff (num * Q (-1074)) (M * (den * 2 ^ (E + 1074).toNat)) * (Q E * q) := by
  have h := pq_shift (-1074) E (E + 1074).toNat (by omega)
  rw [P_m1074, Nat.one_mul] at h
  rw [Nat.mul_right_comm, absDiff_scale' (a' := num * Q (-1074)) (b' := M * (den * 2 ^ (E + 1074).toNat)) (G2 := Q E)
    (by grind) (by grind), Nat.mul_assoc]

/-- **Closest value.**  If `M·2^E` satisfies `IsNearest` for `num/den`, then for every
representable `M'·2^E'` we have `|num/den − M·2^E| ≤ |num/den − M'·2^E'|` (cross multiplied:
`|num·Q − M·den·P| / (den·Q)` against the same with primes), and if the two distances are equal
for a different float then `M` is even. -/
theorem isNearest_closest {num den M M' : Nat} {E E' : Int} (hd : 0 < den)
    (h : IsNearest num den M E) (hr : Representable M' E') :
    absDiff (num * Q E) (M * (den * P E)) * Q E' ≤
      absDiff (num * Q E') (M' * (den * P E')) * Q E ∧
    (absDiff (num * Q E) (M * (den * P E)) * Q E' =
      absDiff (num * Q E') (M' * (den * P E')) * Q E → ¬ (M = M' ∧ E = E') → M % 2 = 0) := by
  obtain ⟨hM', hE'1, -, hn'⟩ := hr
  have hE := h.exp_ge
  obtain ⟨c1, c2⟩ := closestK (k' := (E' + 1074).toNat) hd (fun hs => by omega) (h.toK hd) hM'
    (hn'.imp id (fun hh => by omega))
  -- both sides in units of `2^(-1074)`, over the common factor `Q E * Q E'`
  obtain ⟨hle, hlt⟩ := cmp_scale (Q_pos (-1074)) (Nat.mul_pos (Q_pos E) (Q_pos E')) (absDiff_scale num den M E hE (Q E'))
    ((absDiff_scale num den M' E' hE'1 (Q E)).trans (congrArg _ (Nat.mul_comm _ _)))
  exact ⟨hle.2 c1, fun he hne => c2 (by omega) (fun hh => hne ⟨hh.1, by omega⟩)⟩

/-! ## 14. Sanity checks of the specification on concrete values, and satisfiability -/

-- 1 ↦ 0x3FF0000000000000, 1.5, 1e23 (the classic near-tie), 2^53+1 (tie to even, down),
-- 2^53+3 (tie to even, up), 5e-324 (least subnormal), 2e-324 (below half of it: zero),
-- 1.7976931348623157e308 (largest finite), 1.7976931348623159e308 (overflow), -(2^53-1)
example : ofDecimal false 1 0 = 0x3FF0000000000000 := by decide
example : ofDecimal false 15 (-1) = 0x3FF8000000000000 := by decide
example : ofDecimal false 1 23 = 0x44B52D02C7E14AF6 := by decide
example : ofDecimal false 9007199254740993 0 = 0x4340000000000000 := by decide
example : ofDecimal false 9007199254740995 0 = 0x4340000000000002 := by decide
example : ofDecimal false 5 (-324) = 1 := by decide +kernel
example : ofDecimal false 2 (-324) = 0 := by decide +kernel
example : ofDecimal false 17976931348623157 292 = 0x7FEFFFFFFFFFFFFF := by decide +kernel
example : ofDecimal false 17976931348623159 292 = 0x7FF0000000000000 := by decide +kernel
example : ofDecimal true 9007199254740991 0 = 0xC33FFFFFFFFFFFFF := by decide

/-- `ofDecimal_correct`, finite branch, instantiated at 1e23: the hypotheses are satisfiable and
the conclusion is the expected non-trivial fact. -/
example : IsNearest (decNum 1 23) (decDen 23) 5960464477539062 24 :=
  ((ofDecimal_correct false 1 23 (by decide)).1 false 5960464477539062 24 (by decide)).2.1

/-- `ofDecimal_correct`, overflow branch, instantiated at 2e308. -/
example : Overflows (decNum 2 308) (decDen 308) :=
  ((ofDecimal_correct false 2 308 (by decide)).2 (by decide +kernel)).2

/-- `IsNearest` is inhabited directly: 1.5 = 3·2^51·2^(-52), and 2^53+1 ties to the even `2^52·2^1`. -/
example : IsNearest 3 2 (3 * 2 ^ 51) (-52) := by constructor <;> decide
example : IsNearest (2 ^ 53 + 1) 1 (2 ^ 52) 1 := by constructor <;> decide

/-- `isNearest_unique` on a tie: the odd neighbour `(2^52+1)·2^1` of `2^53+1` is rejected. -/
example (M : Nat) (E : Int) (h : IsNearest (2 ^ 53 + 1) 1 M E) : M = 2 ^ 52 ∧ E = 1 :=
  isNearest_unique (by decide) h (by constructor <;> decide)
example : ¬ IsNearest (2 ^ 53 + 1) 1 (2 ^ 52 + 1) 1 := fun h => by
  have := (isNearest_unique (by decide) h (by constructor <;> decide : IsNearest (2 ^ 53 + 1) 1 (2 ^ 52) 1)).1
  exact absurd this (by decide)

/-- `isNearest_closest` instantiated: 1e23 is at least as close to its float as to the next float
up. -/
example : absDiff (decNum 1 23 * Q 24) (5960464477539062 * (decDen 23 * P 24)) * Q 24 ≤
    absDiff (decNum 1 23 * Q 24) (5960464477539063 * (decDen 23 * P 24)) * Q 24 :=
  (isNearest_closest (decDen_pos 23)
    ((ofDecimal_correct false 1 23 (by decide)).1 false 5960464477539062 24 (by decide)).2.1
    (by unfold Representable; decide)).1

/-- `parsesTo_sound` / `parsesTo_unique` instantiated at the text `0.1`. -/
example : ∃ neg m d, parsePositional [48, 46, 49] = some (neg, m, d) ∧ false = neg ∧
    IsNearest (decNum m d) (decDen d) 7205759403792794 (-56) :=
  parsesTo_sound (bits := 0x3FB999999999999A) (text := [48, 46, 49])
    (dy := ⟨false, 7205759403792794, -56⟩) (by decide) (by decide)

example (bits' : UInt64) (hd' : decode bits' = some ⟨false, 7205759403792794, -56⟩) :
    bits' = 0x3FB999999999999A :=
  parsesTo_unique (text := [48, 46, 49]) (neg := false) (m := 1) (d := -1) (by decide) (by decide)
    hd' rfl ((ofDecimal_correct false 1 (-1) (by decide)).1 false 7205759403792794 (-56)
      (by decide)).2.1

/-- `isNearest_not_overflow`: no finite float is nearest to 2e308. -/
example (M : Nat) (E : Int) : ¬ IsNearest (decNum 2 308) (decDen 308) M E := fun h =>
  isNearest_not_overflow (decDen_pos 308) h
    ((ofDecimal_correct false 2 308 (by decide)).2 (by decide +kernel)).2

#print axioms ofDecimal_unfold
#print axioms chooseE_spec
#print axioms roundDiv_spec
#print axioms decode_norm
#print axioms ofDecimal_cases
#print axioms ofDecimal_correct
#print axioms ofDecimal_correct_disj
#print axioms ofDecimal_zero
#print axioms ofDecimal_neg
#print axioms isNearest_zero_iff
#print axioms isNearest_unique
#print axioms isNearest_not_overflow
#print axioms decode_inj
#print axioms parsesTo_sound
#print axioms parsesTo_unique
#print axioms isNearest_closest

end QF.Props.C16Round
