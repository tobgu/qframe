import QF.Gen.GroupGlue
/-!
# C04 / C05 — the grouping glue of today's source: `GroupBy`, `QFrames`, `Aggregate` (tie T1)

`QF.Gen.groupByAst`, `groupByConfigFns`, `qframesAst`, `aggregateGlueAst` (regenerated on every run by
go/cmd/extract/grpgast.go) hold `QFrame.GroupBy` (with `checkColumns`, `Len`, `orders`, `comparables` inlined),
the configuration functions of /repo/config/groupby, `Grouper.QFrames` (with `withIndex` inlined) and `Grouper.Aggregate`
as terms of `QF.GG` (QF/Core/GroupGlue.lean). What the glue calls — `grouper.GroupBy`, the columns' `Comparable`,
`Subset`, `Aggregate` — is regenerated elsewhere and is a parameter here (`Prims`, `APrims`); `QF.Props.C04GlueLink`
instantiates `GroupBy` with the regenerated grouper and comparators and arrives at the spec's `groupsS`.

* `gen_glue_no_opaque`, `gen_glue_canon` — today's extraction is complete and equal to the canonical terms (`decide`).
* `gen_config_semantics`     — `groupby.Columns(cs…)` sets the columns, `groupby.Null(b)` the Null flag; the last call wins.
* `gen_groupby_semantics`    — `GroupBy` = `specGroupBy`, for every frame, configuration and meaning of the callees.
* `gen_groupby_err_iff`      — … read as "fails iff".
* `gen_distinct_cmps_semantics` — (C05) what `Distinct` hands to `grouper.Distinct`.
* `gen_qframes_semantics`    — `QFrames()`: the grouper's error, or one frame per group.
* `gen_aggregate_glue_semantics` — `Aggregate` = `specAggregate`, the structure of `groupAggS` (QF/Spec/Ops.lean).
* witnesses: `index.NewAscending(len)` for the frame's index in the no-columns branch, the Null flag not passed on, the
  empty-frame test dropped, the group's index not used in `QFrames`, the duplicate check dropped in `Aggregate`.
-/
namespace QF.Props.C04GlueGen
open QF QF.GG

/-! ## Canonical terms -/

def canonGroupBy : GB :=
  .ifRecvErr (.retErr .recvErr)
    (.newConfig
      (.checkColumns (.retErr .localErr)
        (.mkGrouper .recvColumns .recvNames .cfgColumns
          (.ifLenZero .retGrouper
            (.ifNoColumns (.setOneGroup .recvIndex .retGrouper)
              (.comparables (.lit false) .cfgNull (.lit false)
                (.callGrouper .recvIndex (.setIndices (.setStats .retGrouper)))))))))

/-- `columns := qf.columnsOrAll(config.Columns); orders := qf.orders(columns);
comparables := qf.comparables(columns, orders, config.GroupByNull); newIx := grouper.Distinct(qf.index, comparables)` -/
def canonDistinctCmps : DK := .comparables .cfgColumnsOrAll (.lit false) .cfgNull (.lit false) .recvIndex

def canonConfigFns : List (String × CF) := [("(...string)", .setColumns), ("(bool)", .setNull)]

def canonQFrames : QS :=
  .ifGrouperErr (.base .grpColumns .grpNames .zero (.makeResult (.rangeStore .grpColumns .grpNames .group .zero .retResult)))

def canonKeyBody : List AS := [.lookupGrouped, .setPosI, .subsetFirst, .putGrouped, .appendCol]
def canonAggBody : List AS :=
  [.lookupAggOrErr, .nameFromColumn, .nameFromAsIfSet, .setName, .setPosLen, .rejectIfPresent, .compute "count", .putNamed, .appendCol]
def canonAggregate : List AT :=
  [.ifGrouperErr, .firstRows 0, .alloc, .keyLoop canonKeyBody, .declErr, .aggLoop canonAggBody, .retFrame]

theorem gen_glue_canon :
    Gen.groupByAst = canonGroupBy ∧ Gen.groupByConfigFns = canonConfigFns ∧ Gen.qframesAst = canonQFrames ∧
    Gen.aggregateGlueAst = canonAggregate ∧ Gen.distinctCmpsAst = canonDistinctCmps := by decide

theorem gen_glue_no_opaque :
    Gen.groupByAst.hasOpaque = false ∧ (∀ e ∈ Gen.groupByConfigFns, e.2.hasOpaque = false) ∧
    Gen.qframesAst.hasOpaque = false ∧ (∀ t ∈ Gen.aggregateGlueAst, t.hasOpaque = false) ∧
    Gen.distinctCmpsAst.hasOpaque = false := by decide

/-! ## Today's functions, run -/

def genGroupBy {κ σ : Type} (P : Prims κ σ) (F : Frame) (C : Cfg) : Option (Grouper σ) := Gen.groupByAst.run P F C {}
def genQFrames {σ : Type} (g : Grouper σ) : Option (Option (List Frame)) := Gen.qframesAst.run g none none
def genAggregate {σ φ : Type} (P : APrims φ) (g : Grouper σ) (aggs : List (AggReq φ)) : Option ARes :=
  AT.run P g aggs Gen.aggregateGlueAst {}

/-- today's `groupby.Columns` / `groupby.Null` -/
def genColumns : CF := (Gen.groupByConfigFns.lookup "(...string)").getD (.opaque "missing")
def genNull : CF := (Gen.groupByConfigFns.lookup "(bool)").getD (.opaque "missing")

/-! ## The configuration -/

/-- **`groupby.Columns` and `groupby.Null` of today's source**: run on a configuration, the one sets the column list and
leaves the flag, the other sets the flag and leaves the columns (so the last call of each kind wins, and `GroupBy()` without
arguments has no columns and the flag off). -/
theorem gen_config_semantics (fns : List (CF × List Bytes × Bool)) (cols : List Bytes) (b : Bool) (C : Cfg)
    (h : applyCfg fns = some C) :
    applyCfg [] = some {} ∧
    applyCfg (fns ++ [(genColumns, cols, b)]) = some { C with columns := cols } ∧
    applyCfg (fns ++ [(genNull, cols, b)]) = some { C with gbNull := b } := by
  have e1 : genColumns = .setColumns := by unfold genColumns; rw [gen_glue_canon.2.1]; rfl
  have e2 : genNull = .setNull := by unfold genNull; rw [gen_glue_canon.2.1]; rfl
  rw [e1, e2]
  unfold applyCfg at h ⊢
  refine ⟨rfl, ?_, ?_⟩ <;> simp [List.foldlM_append, h]

/-! ## `GroupBy` -/

/-- what `GroupBy` returns, in closed form: a function of the CODE's callees `P`, not a definition of QF/Spec (the link to the
spec's `groupsS` is C04GlueLink) -/
def specGroupBy {κ σ : Type} (P : Prims κ σ) (F : Frame) (C : Cfg) : Option (Grouper σ) :=
  if F.err then some { err := true }
  else if C.columns.all (fun n => (F.find? n).isSome) = false then some { err := true }
  else if F.index.length = 0 then some { cols := F.cols, grouped := C.columns }
  else if C.columns = [] then some { cols := F.cols, grouped := C.columns, indices := [F.index] }
  else
    match C.columns.mapM F.find? with
    | none => none
    | some keys =>
      match P.groupBy F.index (keys.map fun c => P.comparable c false C.gbNull false) with
      | some (gs, st) => some { cols := F.cols, grouped := C.columns, indices := gs, stats := some st }
      | none => none

theorem canon_groupBy_run {κ σ : Type} (P : Prims κ σ) (F : Frame) (C : Cfg) :
    canonGroupBy.run P F C {} = specGroupBy P F C := by
  simp only [canonGroupBy, GB.run, specGroupBy, Src.index, BArg.eval]
  cases F.err
  · cases C.columns.all (fun n => (F.find? n).isSome)
    · rfl
    · simp only [Bool.false_eq_true, if_false, if_true, Bool.not_false, Bool.true_and, beq_iff_eq, Bool.true_eq_false,
        List.isEmpty_iff]
      cases C.columns.mapM F.find? with
      | none => rfl
      | some keys =>
        simp only
        rcases P.groupBy F.index (keys.map fun c => P.comparable c false C.gbNull false) with _ | ⟨gs, st⟩ <;> rfl
  · rfl
/-- **`QFrame.GroupBy` of today's source**, for every frame `F` (columns, index, error), every configuration `C` (column
list, Null flag) and every meaning `P` of `Comparable` and `grouper.GroupBy`: the result is `specGroupBy P F C` —
* a failed frame, or a configured column the frame does not have: a `Grouper` carrying an error and nothing else;
* otherwise a `Grouper` with the frame's columns (and name map) and the configured columns as its grouped columns, and
  - no groups when the frame has no rows,
  - else, when no columns are configured, ONE group: the frame's index (not the rows 0 … n-1 of the arrays),
  - else the groups and statistics `grouper.GroupBy(F.index, comparables)` returns, where `comparables` are, for the
    configured names IN THE GIVEN ORDER, `<the column of that name>.Comparable(false, C.gbNull, false)`.
`none` (no value) only where `grouper.GroupBy` has none. -/
theorem gen_groupby_semantics {κ σ : Type} (P : Prims κ σ) (F : Frame) (C : Cfg) :
    genGroupBy P F C = specGroupBy P F C := by
  unfold genGroupBy
  rw [gen_glue_canon.1]
  exact canon_groupBy_run P F C

theorem specGroupBy_ok {κ σ : Type} (P : Prims κ σ) (F : Frame) (C : Cfg) (he : F.err = false)
    (hall : C.columns.all (fun n => (F.find? n).isSome) = true) (g : Grouper σ) (h : specGroupBy P F C = some g) :
    g.err = false := by
  simp only [specGroupBy, he, hall, Bool.false_eq_true, if_false, Bool.true_eq_false] at h
  -- every remaining branch builds a `Grouper` without setting `err`
  split at h
  · cases h; rfl
  split at h
  · cases h; rfl
  split at h
  · cases h
  split at h
  · cases h; rfl
  · cases h

/-- `GroupBy` fails exactly on a failed frame or an unknown column (whatever the callees do), and then carries nothing. -/
theorem gen_groupby_err_iff {κ σ : Type} (P : Prims κ σ) (F : Frame) (C : Cfg) :
    (F.err = true ∨ ∃ n ∈ C.columns, F.find? n = none) ↔ genGroupBy P F C = some { err := true } := by
  rw [gen_groupby_semantics]
  constructor
  · rintro (h | ⟨n, hn, hf⟩)
    · simp [specGroupBy, h]
    · cases he : F.err
      · have : C.columns.all (fun n => (F.find? n).isSome) = false := by
          rw [List.all_eq_false]; exact ⟨n, hn, by simp [hf]⟩
        simp [specGroupBy, this, he]
      · simp [specGroupBy, he]
  · intro h
    cases he : F.err
    · right
      cases hall : C.columns.all (fun n => (F.find? n).isSome)
      · rw [List.all_eq_false] at hall
        obtain ⟨n, hn, hx⟩ := hall
        exact ⟨n, hn, by cases hf : F.find? n with | none => rfl | some _ => simp [hf] at hx⟩
      · have := specGroupBy_ok P F C he hall _ h
        cases this
    · exact Or.inl rfl

/-! ## `Distinct` (C05): the comparables are built by the same helpers -/

/-- what today's `Distinct` gets from `grouper.Distinct` -/
def genDistinctIx {κ : Type} (comparable : LCol → Bool → Bool → Bool → κ) (distinct : List Nat → List κ → Option (List Nat))
    (F : Frame) (C : Cfg) : Option (List Nat) := Gen.distinctCmpsAst.run comparable distinct F C

/-- **The call of `grouper.Distinct` in today's `QFrame.Distinct`** (between its guard prefix, C10Guards, and its tail,
C08ProjectGen): the frame's index and, for the configured columns in the given order — or, when none are configured, ALL
columns of the frame in column order —, the comparables `Comparable(false, <Null flag>, false)`. -/
theorem gen_distinct_cmps_semantics {κ : Type} (comparable : LCol → Bool → Bool → Bool → κ)
    (distinct : List Nat → List κ → Option (List Nat)) (F : Frame) (C : Cfg) :
    genDistinctIx comparable distinct F C =
      match (if C.columns.isEmpty then F.cols.map LCol.name else C.columns).mapM F.find? with
      | some keys => distinct F.index (keys.map fun c => comparable c false C.gbNull false)
      | none => none := by
  unfold genDistinctIx
  rw [gen_glue_canon.2.2.2.2]
  simp only [canonDistinctCmps, DK.run, Src.index, BArg.eval]
  cases (if C.columns.isEmpty then F.cols.map LCol.name else C.columns).mapM F.find? <;> rfl

/-! ## `QFrames` -/

/-- **`Grouper.QFrames` of today's source**: the grouper's error, or one frame per group, in group order, each sharing the
grouper's columns (and name map), with the group as its index and no error. -/
theorem gen_qframes_semantics {σ : Type} (g : Grouper σ) :
    genQFrames g = some (if g.err then none else some (g.indices.map fun ix => { cols := g.cols, index := ix, err := false })) := by
  unfold genQFrames
  rw [gen_glue_canon.2.2.1]
  cases he : g.err <;> simp [canonQFrames, QS.run, he]

/-! ## `Aggregate` -/

section Aggregate
variable {σ φ : Type} (P : APrims φ) (g : Grouper σ)

/-- the key columns: for each grouped name the column of that name, restricted to the first rows, at its position.
`none`: a grouped name the grouper's columns do not have (a method call on a nil `Column`). -/
def specKeys (first : List Nat) : Nat → List Bytes → Option (List NCol)
  | _, [] => some []
  | i, n :: ns =>
    match g.cols.find? (·.name == n), specKeys first (i + 1) ns with
    | some c, some rest => some ({ col := P.subset c first, pos := i } :: rest)
    | _, _ => none

/-- the name of the result of an aggregation -/
def resultName (a : AggReq φ) : Bytes := if a.as.isEmpty then a.col else a.as

/-- the aggregations, one after the other: `acc` the columns so far, `seen` the names put into the name map. `none`: an error. -/
def specAggs : List NCol → List Bytes → List (AggReq φ) → Option (List NCol)
  | acc, _, [] => some acc
  | acc, seen, a :: as =>
    match g.cols.find? (·.name == a.col) with
    | none => none
    | some c =>
      if seen.contains (resultName a) then none
      else
        let r : Option LCol :=
          if a.fnName == some "count" then some (P.intCol (g.indices.map fun ix => (ix.length : Int)))
          else P.aggregate { c with name := resultName a } g.indices a.fn
        match r with
        | none => none
        | some col => specAggs (acc ++ [{ col := { col with name := resultName a }, pos := acc.length }]) (resultName a :: seen) as

/-- what `Aggregate` returns, in closed form (again over the callees `P`; the spec's `groupAggS` is reached in C04EndToEnd) -/
def specAggregate (aggs : List (AggReq φ)) : Option ARes :=
  if g.err then some .err
  else
    match g.indices.mapM (fun ix => ix[0]?) with
    | none => none
    | some first =>
      match specKeys P g first 0 g.grouped with
      | none => none
      | some keys =>
        match specAggs P g keys g.grouped.reverse aggs with
        | none => some .err
        | some cols => some (.ok cols (List.range g.indices.length))

theorem key_round (first : List Nat) (i : Nat) (n : Bytes) (s : ASt) (acc : List NCol) (hf : s.first = some first)
    (hc : s.cols = some acc) :
    runBody P g i (some n) none canonKeyBody { s with col := none, name := none } =
      match g.cols.find? (·.name == n) with
      | some c => .next { s with col := some (some { col := P.subset c first, pos := i }), name := none,
                                 cols := some (acc ++ [{ col := P.subset c first, pos := i }]), inMap := n :: s.inMap }
      | none => .stuck := by
  cases hfind : g.cols.find? (·.name == n) with
  | none => simp [canonKeyBody, runBody, AS.run, hfind]
  | some c => simp [canonKeyBody, runBody, AS.run, hfind, hf, hc]

theorem key_loop (first : List Nat) (names : List Bytes) :
    ∀ (i : Nat) (s : ASt) (acc : List NCol), s.first = some first → s.cols = some acc →
      match specKeys P g first i names with
      | some ks => ∃ s', runKeyLoop P g canonKeyBody i names s = .next s' ∧ s'.first = some first ∧
          s'.cols = some (acc ++ ks) ∧ s'.inMap = names.reverse ++ s.inMap
      | none => runKeyLoop P g canonKeyBody i names s = .stuck := by
  induction names with
  | nil => intro i s acc hf hc; exact ⟨s, rfl, hf, by simp [hc], by simp⟩
  | cons n ns ih =>
    intro i s acc hf hc
    simp only [specKeys, runKeyLoop, key_round P g first i n s acc hf hc]
    cases hfind : g.cols.find? (·.name == n) with
    | none => simp
    | some c =>
      simp only
      have := ih (i + 1) { s with col := some (some { col := P.subset c first, pos := i }), name := none,
                                  cols := some (acc ++ [{ col := P.subset c first, pos := i }]), inMap := n :: s.inMap }
        (acc ++ [{ col := P.subset c first, pos := i }]) hf rfl
      cases hk : specKeys P g first (i + 1) ns with
      | none => rw [hk] at this; simpa using this
      | some rest =>
        rw [hk] at this
        obtain ⟨s', h1, h2, h3, h4⟩ := this
        exact ⟨s', h1, h2, by simp [h3], by simp [h4]⟩

/-- what one round of the aggregation loop does -/
def aggRound (acc : List NCol) (seen : List Bytes) (a : AggReq φ) : Option (NCol × Bytes) :=
  match g.cols.find? (·.name == a.col) with
  | none => none
  | some c =>
    if seen.contains (resultName a) then none
    else
      let r : Option LCol :=
        if a.fnName == some "count" then some (P.intCol (g.indices.map fun ix => (ix.length : Int)))
        else P.aggregate { c with name := resultName a } g.indices a.fn
      match r with
      | none => none
      | some col => some ({ col := { col with name := resultName a }, pos := acc.length }, resultName a)

theorem specAggs_cons (acc : List NCol) (seen : List Bytes) (a : AggReq φ) (as : List (AggReq φ)) :
    specAggs P g acc seen (a :: as) =
      match aggRound P g acc seen a with
      | none => none
      | some (c, nm) => specAggs P g (acc ++ [c]) (nm :: seen) as := by
  simp only [specAggs, aggRound]
  cases g.cols.find? (·.name == a.col) with
  | none => rfl
  | some c =>
    simp only
    cases hs : seen.contains (resultName a)
    · simp only [Bool.false_eq_true, if_false]
      split <;> rfl
    · simp

theorem agg_round (a : AggReq φ) (s : ASt) (acc : List NCol) (hc : s.cols = some acc) :
    runBody P g 0 none (some a) canonAggBody { s with col := none, name := none } =
      match aggRound P g acc s.inMap a with
      | some (c, nm) => .next { s with col := some (some c), name := some nm, cols := some (acc ++ [c]), inMap := nm :: s.inMap }
      | none => .err := by
  obtain ⟨fst, _, inMap, _, _⟩ := s
  cases hc
  unfold aggRound
  cases hfind : g.cols.find? (·.name == a.col) with
  | none => simp only [canonAggBody, runBody, AS.run, hfind]
  | some c =>
    -- up to the duplicate test: the column found, under the result's name, at the next position
    have hpre : ∀ rest, runBody P g 0 none (some a)
        (.lookupAggOrErr :: .nameFromColumn :: .nameFromAsIfSet :: .setName :: .setPosLen :: rest)
          { first := fst, cols := some acc, inMap := inMap } =
        runBody P g 0 none (some a) rest
          { first := fst, cols := some acc, inMap := inMap, name := some (resultName a)
            col := some (some { col := { c with name := resultName a }, pos := acc.length }) } := by
      intro rest
      unfold resultName
      cases he : a.as.isEmpty <;> simp only [runBody, AS.run, hfind, he, if_true, Bool.false_eq_true, if_false]
    rw [canonAggBody, hpre]
    simp only [runBody, AS.run]
    cases inMap.contains (resultName a)
    · simp only [Bool.false_eq_true, if_false]
      cases a.fnName == some "count"
      · simp only [Bool.false_eq_true, if_false]
        cases P.aggregate { c with name := resultName a } g.indices a.fn <;> rfl
      · rfl
    · rfl

theorem agg_loop (aggs : List (AggReq φ)) :
    ∀ (s : ASt) (acc : List NCol), s.cols = some acc →
      match specAggs P g acc s.inMap aggs with
      | some cols => ∃ s', runAggLoop P g canonAggBody aggs s = .next s' ∧ s'.cols = some cols
      | none => runAggLoop P g canonAggBody aggs s = .err := by
  induction aggs with
  | nil => intro s acc hc; exact ⟨s, rfl, hc⟩
  | cons a as ih =>
    intro s acc hc
    rw [specAggs_cons]
    simp only [runAggLoop, agg_round P g a s acc hc]
    cases aggRound P g acc s.inMap a with
    | none => rfl
    | some p =>
      obtain ⟨c, nm⟩ := p
      exact ih { s with col := some (some c), name := some nm, cols := some (acc ++ [c]), inMap := nm :: s.inMap } _ rfl

theorem canon_aggregate_run (aggs : List (AggReq φ)) :
    AT.run P g aggs canonAggregate {} = specAggregate P g aggs := by
  unfold specAggregate
  cases he : g.err
  · simp only [canonAggregate, AT.run, he, Bool.false_eq_true, if_false]
    cases hfirst : g.indices.mapM (fun ix => ix[0]?) with
    | none => rfl
    | some first =>
      simp only
      have hk := key_loop P g first g.grouped 0 { first := some first, cols := some [], inMap := [] } [] rfl rfl
      cases hkeys : specKeys P g first 0 g.grouped with
      | none => rw [hkeys] at hk; simp only at hk; simp only [hk]
      | some keys =>
        rw [hkeys] at hk
        obtain ⟨s', h1, _, h3, h4⟩ := hk
        simp only [h1]
        have ha := agg_loop P g aggs s' keys (by simpa using h3)
        simp only [List.append_nil] at h4
        rw [h4] at ha
        cases haggs : specAggs P g keys g.grouped.reverse aggs with
        | none => rw [haggs] at ha; simp only at ha; simp only [ha]
        | some cols =>
          rw [haggs] at ha
          obtain ⟨s'', g1, g2⟩ := ha
          simp only [g1, g2]
  · simp [canonAggregate, AT.run, he]

/-- **`Grouper.Aggregate` of today's source**, for every grouper, every list of aggregations and every meaning of
`Column.Subset`, `Column.Aggregate` and `icolumn.New`: the result is `specAggregate` —
the grouper's error; else the key columns (`specKeys`: the column of every grouped name restricted by `Subset` to the first
row of every group, `pos` = its position among the grouped columns), followed, for the aggregations in order
(`specAggs`), by: error if the source column is unknown; the result's name is `As` when that is set, else the source
column's; error if that name is a grouped column or the result of an earlier aggregation; the cells are the group sizes
for `Fn == "count"`, else `Column.Aggregate(groups, Fn)` (its error is the error of `Aggregate`); `pos` = the number of
columns in front; and the index of the result is `0 … number of groups - 1`.
`none` (a panic) exactly for an empty group or a grouped name that is not a column (neither is produced by `GroupBy`). -/
theorem gen_aggregate_glue_semantics (aggs : List (AggReq φ)) :
    genAggregate P g aggs = specAggregate P g aggs := by
  unfold genAggregate
  rw [gen_glue_canon.2.2.2.1]
  exact canon_aggregate_run P g aggs

end Aggregate

/-! ## Witnesses: plausible mutations are different terms and violate the statements -/

section Witnesses

/-- callees for the samples: a comparable remembers its flags, the grouper puts every row in its own group -/
def wP : Prims (Bytes × Bool × Bool × Bool) Nat :=
  { comparable := fun c r e n => (c.name, r, e, n), groupBy := fun ix cs => some (ix.map fun r => [r], cs.length) }

/-- a frame of two columns whose index is `[5, 2, 7]` (after a filter and a sort, say) -/
def wF : Frame :=
  { cols := [{ name := [97], ty := .int, cells := #[] }, { name := [98], ty := .int, cells := #[] }], index := [5, 2, 7] }

-- today's term on samples
example : (canonGroupBy.run wP wF {} {}).map (·.indices) = some [[5, 2, 7]] := by decide
example : (canonGroupBy.run wP wF { columns := [[98], [97]], gbNull := true } {}).map (·.indices) = some [[5], [2], [7]] := by decide

/-- `g.indices = []index.Int{index.NewAscending(uint32(qf.Len()))}`: a new ascending index instead of the frame's index in
the no-columns branch -/
def groupByAscending : GB :=
  .ifRecvErr (.retErr .recvErr) (.newConfig (.checkColumns (.retErr .localErr) (.mkGrouper .recvColumns .recvNames .cfgColumns
    (.ifLenZero .retGrouper (.ifNoColumns (.setOneGroup .ascendingLen .retGrouper)
      (.comparables (.lit false) .cfgNull (.lit false) (.callGrouper .recvIndex (.setIndices (.setStats .retGrouper)))))))))
example : groupByAscending ≠ canonGroupBy := by decide
/-- … the one group holds the rows 0, 1, 2 of the arrays — not the rows 5, 2, 7 of the frame -/
example : (groupByAscending.run wP wF {} {}).map (·.indices) = some [[0, 1, 2]] := by decide

/-- `qf.comparables(config.Columns, orders, false)`: the Null flag not passed on -/
def groupByNoNull : GB :=
  .ifRecvErr (.retErr .recvErr) (.newConfig (.checkColumns (.retErr .localErr) (.mkGrouper .recvColumns .recvNames .cfgColumns
    (.ifLenZero .retGrouper (.ifNoColumns (.setOneGroup .recvIndex .retGrouper)
      (.comparables (.lit false) (.lit false) (.lit false) (.callGrouper .recvIndex (.setIndices (.setStats .retGrouper)))))))))
example : groupByNoNull ≠ canonGroupBy := by decide

/-- callees that report the comparables the grouper is handed (as its "statistics") -/
def wP2 : Prims (Bytes × Bool × Bool × Bool) (List (Bytes × Bool × Bool × Bool)) :=
  { comparable := fun c r e n => (c.name, r, e, n), groupBy := fun _ cs => some ([], cs) }

/-- … with `Null(true)` the grouper gets comparables that tell nulls apart -/
example : (groupByNoNull.run wP2 wF { columns := [[97]], gbNull := true } {}).map (·.stats) =
    some (some [([97], false, false, false)]) := by decide
example : (canonGroupBy.run wP2 wF { columns := [[97]], gbNull := true } {}).map (·.stats) =
    some (some [([97], false, true, false)]) := by decide

/-- the test `qf.Len() == 0` dropped: an empty frame without columns gets one (empty) group, and `Aggregate` panics on `ix[0]` -/
def groupByNoLenTest : GB :=
  .ifRecvErr (.retErr .recvErr) (.newConfig (.checkColumns (.retErr .localErr) (.mkGrouper .recvColumns .recvNames .cfgColumns
    (.ifNoColumns (.setOneGroup .recvIndex .retGrouper)
      (.comparables (.lit false) .cfgNull (.lit false) (.callGrouper .recvIndex (.setIndices (.setStats .retGrouper))))))))
example : groupByNoLenTest ≠ canonGroupBy := by decide
example : (groupByNoLenTest.run wP { wF with index := [] } {} {}).map (·.indices) = some [[]] ∧
    (canonGroupBy.run wP { wF with index := [] } {} {}).map (·.indices) = some [] := by decide

/-- the columns in the grouper's order of the frame instead of the given order cannot be written in the language; the order
of the comparables is the order of `config.Columns`: -/
example : (canonGroupBy.run wP2 wF { columns := [[98], [97]] } {}).map (·.stats) =
    some (some [([98], false, false, false), ([97], false, false, false)]) := by decide

/-- `QFrames` with `withIndex` ignoring its argument: `index: qf.index` -/
def qframesNoIndex : QS :=
  .ifGrouperErr (.base .grpColumns .grpNames .zero (.makeResult (.rangeStore .grpColumns .grpNames .zero .zero .retResult)))
example : qframesNoIndex ≠ canonQFrames := by decide
example : ((qframesNoIndex.run ({ indices := [[5], [2, 7]] } : Grouper Nat) none none).map fun r => r.map fun fs => fs.map (·.index)) = some (some [[], []]) ∧
    ((canonQFrames.run ({ indices := [[5], [2, 7]] } : Grouper Nat) none none).map fun r => r.map fun fs => fs.map (·.index)) = some (some [[5], [2, 7]]) := by
  decide

/-- `Aggregate` without the duplicate check -/
def aggregateNoDupCheck : List AT :=
  [.ifGrouperErr, .firstRows 0, .alloc, .keyLoop canonKeyBody, .declErr,
   .aggLoop [.lookupAggOrErr, .nameFromColumn, .nameFromAsIfSet, .setName, .setPosLen, .compute "count", .putNamed, .appendCol], .retFrame]
example : aggregateNoDupCheck ≠ canonAggregate := by decide

def wA : APrims Unit :=
  { subset := fun c _ => c, aggregate := fun c _ _ => some c, intCol := fun l => { name := [], ty := .int, cells := (l.map Cell.int).toArray } }
def wG : Grouper Nat := { indices := [[5], [2, 7]], grouped := [[97]], cols := wF.cols }
def names : Option ARes → Option (List (Bytes × Nat)) := fun r => r.bind fun r => match r with | .ok cs _ => some (cs.map fun c => (c.col.name, c.pos)) | .err => none

/-- … an aggregation named like the key column gives a frame with two columns "a" -/
example : names (AT.run wA wG [{ fn := (), fnName := none, col := [98], as := [97] }] aggregateNoDupCheck {}) = some [([97], 0), ([97], 1)] ∧
    names (AT.run wA wG [{ fn := (), fnName := none, col := [98], as := [97] }] canonAggregate {}) = none := by decide

/-- today's term: key column first, then "count" under the name given by `As` -/
example : (match AT.run wA wG [{ fn := (), fnName := some "count", col := [98], as := [110] }] canonAggregate {} with
    | some (.ok cs ix) => some (cs.map fun c => (c.col.name, c.pos, c.col.cells.toList), ix)
    | _ => none) = some ([([97], 0, []), ([110], 1, [.int 1, .int 2])], [0, 1]) := by decide

end Witnesses

end QF.Props.C04GlueGen

#print axioms QF.Props.C04GlueGen.gen_glue_canon
#print axioms QF.Props.C04GlueGen.gen_glue_no_opaque
#print axioms QF.Props.C04GlueGen.gen_config_semantics
#print axioms QF.Props.C04GlueGen.gen_groupby_semantics
#print axioms QF.Props.C04GlueGen.gen_groupby_err_iff
#print axioms QF.Props.C04GlueGen.gen_distinct_cmps_semantics
#print axioms QF.Props.C04GlueGen.gen_qframes_semantics
#print axioms QF.Props.C04GlueGen.gen_aggregate_glue_semantics
