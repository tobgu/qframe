import QF.Props.C12CsvFns
import QF.Core.CsvFull
/-!
# C12 — the array-level mirror `Csv` (L0) against the list-level proof model `Full` (bridge)

`Csv.readAll` (QF/Core/Csv.lean) is the mirror the regenerated reader is proved equal to (`C12CsvGen`) and the replay driver
compares with the real reader: a byte ARRAY with capacity and stale bytes beyond `len`, growth `cap := 2·len+1`, `reset`
shifting the unread bytes to the front, an underlying reader that delivers `min (k, room, rest)` bytes per call.
`Full.readAll` (QF/Core/CsvFull.lean) is the model the theorems of C12Read are about: the loaded bytes as a LIST, `reset` =
drop the consumed prefix, no capacity. This file relates the two:

* §1  the underlying reader and `more` / `reset` / one-byte writes on the abstraction `view b = b.data.toList.take b.len`
* §2  lock-step simulation (against `Full.quoted_loaded`, `Full.unq_loaded`, `Full.fnext_loaded`: one round of `Full` on a
      LOADED state, `future = []`), function by function: whenever the loaded `Full` machine returns, the `Csv` machine — on ANY
      schedule of reads ≥ 1, ANY capacity, either EOF mode — returns the same field / row / rows / error, with the state
      relation `Rel`: "`Full`'s data = `Csv`'s loaded bytes ++ the bytes not yet delivered, same cursor". A refill (`more`)
      of `Csv` is a stutter step; the budget of `Csv` covers the stutter steps (`F + rest.length ≤ fuel`).
* §3  `readAll_bridge`: `Full.readAll … (loadedFS doc) = some res → Csv.readAll doc sched … = .ok res`.

The totality of `Full` (`C12Read.readAll_total`) then gives `C12EndToEnd.csv_eq_full_total`: `Csv.readAll` always returns, and
returns what `Full.readAll` returns. (That it never gives up for lack of fuel also with a failing underlying reader is
`C12NoFuel.readAll_no_fuel`.)
-/
namespace QF.Props.C12Bridge
open Csv QF.Props.C12CsvGen
set_option linter.unusedSimpArgs false

/-! ## §1 the underlying reader, `more`, `reset` -/

/-- the loaded bytes -/
def view (b : Buf) : List Byte := b.data.toList.take b.len

/-- A fault-free underlying reader whose reads deliver at least one byte: no failure position, every scheduled size ≥ 1,
and once the wrapper has seen EOF together with data nothing is left. -/
structure SrcOK (s : Src) : Prop where
  nofail : s.failAt = none
  sched : ∀ k ∈ s.sched, 1 ≤ k
  wrap : s.wrapEof = true → s.rest = []

structure BufOK (b : Buf) : Prop where
  cur : b.cursor ≤ b.len
  len : b.len ≤ b.data.size
  src : SrcOK b.src

theorem view_length (b : Buf) (h : b.len ≤ b.data.size) : (view b).length = b.len := by
  simp [view, List.length_take]; omega

/-- the size the schedule asks for -/
def want (s : Src) : Nat := match s.sched with | [] => s.rest.length | k :: _ => k
/-- the number of bytes one `Read` delivers -/
def nRead (s : Src) (room : Nat) : Nat := min (min (want s) room) s.rest.length

theorem read_eq (s : Src) (room : Nat) (h1 : s.failAt = none) (hw : s.wrapEof = false) (hne : s.rest ≠ []) :
    s.read room = (s.rest.take (nRead s room), none,
      { s with rest := s.rest.drop (nRead s room), sched := s.sched.drop 1, calls := s.calls + 1,
               wrapEof := s.eofWithData && nRead s room == s.rest.length && decide (nRead s room > 0) }) := by
  have he : s.rest.isEmpty = false := by cases h : s.rest with | nil => exact absurd h hne | cons => rfl
  unfold Src.read
  simp only [hw, h1, he, Bool.false_eq_true, ↓reduceIte]
  unfold nRead want
  cases s.sched <;> simp

theorem read_nil (s : Src) (room : Nat) (h1 : s.failAt = none) (hr : s.rest = []) :
    (s.read room).1 = [] ∧ (s.read room).2.1 = some .eof ∧ (s.read room).2.2.rest = [] ∧
    (s.read room).2.2.failAt = none ∧ (s.read room).2.2.sched = s.sched := by
  unfold Src.read
  by_cases hw : s.wrapEof = true
  · simp [hw, hr, h1]
  · simp [hw, hr, h1]

/-- What one `Read` of a fault-free reader does. -/
theorem read_ok (s : Src) (hs : SrcOK s) (room : Nat) (hroom : 1 ≤ room) :
    SrcOK (s.read room).2.2 ∧ (s.read room).1 ++ (s.read room).2.2.rest = s.rest ∧ (s.read room).1.length ≤ room ∧
    ((s.rest = [] ∧ (s.read room).1 = [] ∧ (s.read room).2.1 = some .eof) ∨
     (s.rest ≠ [] ∧ 1 ≤ (s.read room).1.length ∧ (s.read room).2.1 = none)) := by
  obtain ⟨h1, h2, h3⟩ := hs
  have hb := C15Faults.read_bytes s room
  by_cases hr : s.rest = []
  · obtain ⟨a1, a2, a3, a4, a5⟩ := read_nil s room h1 hr
    exact ⟨⟨a4, by rw [a5]; exact h2, fun _ => a3⟩, hb.1, hb.2, Or.inl ⟨hr, a1, a2⟩⟩
  · have hw : s.wrapEof = false := by
      cases h : s.wrapEof with
      | false => rfl
      | true => exact absurd (h3 h) hr
    have hpos : 1 ≤ s.rest.length := List.length_pos_iff.mpr hr
    have hwant : 1 ≤ want s := by
      unfold want
      cases hsch : s.sched with
      | nil => exact hpos
      | cons k ks => exact h2 k (by simp [hsch])
    have hn : 1 ≤ nRead s room ∧ nRead s room ≤ s.rest.length := by unfold nRead; omega
    rw [read_eq s room h1 hw hr] at hb ⊢
    refine ⟨⟨h1, fun k hk => h2 k (List.mem_of_mem_drop hk), ?_⟩, hb.1, hb.2, Or.inr ⟨hr, ?_, rfl⟩⟩
    · intro hwe
      simp only [Bool.and_eq_true, beq_iff_eq, decide_eq_true_eq] at hwe
      apply List.length_eq_zero_iff.mp
      show (s.rest.drop (nRead s room)).length = 0
      rw [List.length_drop]; omega
    · show 1 ≤ (s.rest.take (nRead s room)).length
      rw [List.length_take]; omega

/-- the buffer after the growth step of `more()` -/
theorem grow_facts (b : Buf) (h2 : b.len ≤ b.data.size) :
    (C15Faults.growBuf b).len = b.len ∧ (C15Faults.growBuf b).cursor = b.cursor ∧ (C15Faults.growBuf b).src = b.src ∧
    (C15Faults.growBuf b).data.toList.take b.len = view b ∧ b.len + 1 ≤ (C15Faults.growBuf b).data.size := by
  unfold C15Faults.growBuf view
  split
  · rename_i he
    have : b.len = b.data.size := by simpa using he
    refine ⟨rfl, rfl, rfl, ?_, ?_⟩
    · simp only [Array.toList_append]
      rw [List.take_append_of_le_length (by simpa using h2)]
    · simp only [Array.size_append, Array.size_replicate]; omega
  · rename_i he
    have : b.len ≠ b.data.size := by simpa using he
    exact ⟨rfl, rfl, rfl, rfl, by omega⟩

/-- What `more()` does to the buffer of a fault-free reader: the loaded bytes grow by what was read, the unread document
shrinks by it, cursor untouched; either EOF (nothing was left, nothing changes) or at least one byte more. -/
theorem more_ok (b : Buf) (hb : BufOK b) :
    BufOK b.more.1 ∧ b.more.1.cursor = b.cursor ∧
    (∃ bytes, view b.more.1 = view b ++ bytes ∧ bytes ++ b.more.1.src.rest = b.src.rest ∧
      b.more.1.len = b.len + bytes.length ∧
      ((b.src.rest = [] ∧ bytes = [] ∧ b.more.2 = some .eof) ∨ (b.src.rest ≠ [] ∧ 1 ≤ bytes.length ∧ b.more.2 = none))) := by
  obtain ⟨h1, h2, h3⟩ := hb
  obtain ⟨g1, g2, g3, g4, g5⟩ := grow_facts b h2
  have hroom : 1 ≤ C15Faults.roomOf b := by unfold C15Faults.roomOf; omega
  obtain ⟨r1, r2, r3, r4⟩ := read_ok b.src h3 (C15Faults.roomOf b) hroom
  have hgsz : b.len + (b.src.read (C15Faults.roomOf b)).1.length ≤ (C15Faults.growBuf b).data.size := by
    have : C15Faults.roomOf b = (C15Faults.growBuf b).data.size - b.len := rfl
    omega
  rw [C15Faults.more_eq]
  generalize b.src.read (C15Faults.roomOf b) = rd at r1 r2 r3 r4 hgsz
  obtain ⟨bytes, e, s'⟩ := rd
  simp only at r1 r2 r3 r4 hgsz ⊢
  refine ⟨⟨?_, by rw [size_writeAll]; exact hgsz, r1⟩, g2, bytes, ?_, r2, rfl, r4⟩
  · show (C15Faults.growBuf b).cursor ≤ b.len + bytes.length
    omega
  · show (writeAll _ _ _).toList.take (b.len + bytes.length) = _
    rw [toList_writeAll _ _ _ hgsz, g4,
      List.take_append_of_le_length (by rw [List.length_append, view_length b h2]; omega),
      List.take_of_length_le (by rw [List.length_append, view_length b h2]; omega)]

/-- `reset()` drops the consumed prefix of the loaded bytes. -/
theorem reset_ok (b : Buf) (hb : BufOK b) :
    BufOK b.reset ∧ view b.reset = (view b).drop b.cursor ∧ b.reset.src = b.src ∧ b.reset.cursor = 0 := by
  obtain ⟨h1, h2, h3⟩ := hb
  have hlen : ((b.data.toList.take b.len).drop b.cursor).length = b.len - b.cursor := by
    simp [List.length_drop, List.length_take]; omega
  refine ⟨⟨Nat.zero_le _, ?_, h3⟩, ?_, rfl, rfl⟩
  · show b.len - b.cursor ≤ (writeAll _ _ _).size
    rw [size_writeAll]; omega
  · show (writeAll _ _ _).toList.take (b.len - b.cursor) = _
    rw [toList_writeAll _ _ _ (by rw [hlen]; omega)]
    simp only [List.take_zero, List.nil_append, view]
    rw [List.take_append_of_le_length (by rw [hlen]; exact Nat.le_refl _), List.take_of_length_le (by rw [hlen]; exact Nat.le_refl _)]

/-- a loaded byte, read from the array -/
theorem view_get (b : Buf) (h : b.len ≤ b.data.size) (i : Nat) (hi : i < b.len) : (view b)[i]? = some b.data[i]! := by
  have hs : i < b.data.size := by omega
  simp only [view, List.getElem?_take, hi, ↓reduceIte]
  rw [getElem!_pos b.data i hs, List.getElem?_eq_getElem (by simpa using hs)]
  simp

/-- overwriting a loaded byte -/
theorem view_set (b : Buf) (w : Nat) (x : Byte) :
    view { b with data := b.data.setIfInBounds w x } = (view b).set w x := by
  simp [view, List.take_set]

/-- a slice of the buffer below `len` is a slice of the loaded bytes -/
theorem slice_view (b : Buf) (i j : Nat) (hj : j ≤ b.len) : b.slice i j = ((view b).take j).drop i := by
  simp only [Buf.slice, view, List.take_take]
  rw [Nat.min_eq_left hj]

/-! ### The state relation -/

/-- `t` is the loaded twin of `b`: all bytes, delivered or not, same cursor. -/
structure Rel (b : Buf) (t : Full.St) : Prop where
  data : t.data = view b ++ b.src.rest
  fut : t.future = []
  cur : t.cursor = b.cursor

/-- errors: the fault-free reader knows only EOF -/
def cv (e : Option Full.RErr) : Option RErr := e.map (fun _ => RErr.eof)

@[simp] theorem cv_none : cv none = none := rfl
@[simp] theorem cv_eof : cv (some .eof) = some .eof := rfl
theorem cv_some (e : Full.RErr) : cv (some e) = some .eof := rfl

theorem Rel.len {b : Buf} {t : Full.St} (r : Rel b t) (h : b.len ≤ b.data.size) :
    t.data.length = b.len + b.src.rest.length := by
  rw [r.data, List.length_append, view_length b h]

theorem Rel.get {b : Buf} {t : Full.St} (r : Rel b t) (h : b.len ≤ b.data.size) (i : Nat) (hi : i < b.len) :
    t.data[i]? = some b.data[i]! := by
  rw [r.data, List.getElem?_append_left (by rw [view_length b h]; exact hi)]
  exact view_get b h i hi

theorem Rel.slice {b : Buf} {t : Full.St} (r : Rel b t) (h : b.len ≤ b.data.size) (i j : Nat) (hj : j ≤ b.len) :
    t.slice i j = b.slice i j := by
  rw [slice_view b i j hj, Full.St.slice, r.data, List.take_append_of_le_length (by rw [view_length b h]; exact hj)]

/-- A refill of a buffer related to `t`: again a related buffer, same cursor; either the input was exhausted and no byte
came (`eof`), or at least one byte came and less is left. -/
theorem Rel.more_cases {b : Buf} {t : Full.St} (rel : Rel b t) (hb : BufOK b) :
    BufOK b.more.1 ∧ Rel b.more.1 t ∧ b.more.1.cursor = b.cursor ∧
    ((b.more.2 = some .eof ∧ b.more.1.len = b.len ∧ t.data.length = b.len ∧
        b.more.1.src.rest.length ≤ b.src.rest.length) ∨
     (b.more.2 = none ∧ b.len < b.more.1.len ∧ b.more.1.src.rest.length < b.src.rest.length)) := by
  obtain ⟨hb', hcur, bytes, hv, hr, hl, hcase⟩ := more_ok b hb
  have hlen := congrArg List.length hr
  rw [List.length_append] at hlen
  refine ⟨hb', ⟨by rw [rel.data, hv, List.append_assoc, hr], rel.fut, by rw [rel.cur, hcur]⟩, hcur, ?_⟩
  rcases hcase with ⟨hrest, hbytes, he⟩ | ⟨hrest, hbl, he⟩
  · exact Or.inl ⟨he, by rw [hl, hbytes]; rfl, by rw [rel.len hb.len, hrest]; rfl, by omega⟩
  · exact Or.inr ⟨he, by omega, by omega⟩

theorem Rel.reset {b : Buf} {t : Full.St} (r : Rel b t) (hb : BufOK b) : Rel b.reset t.reset := by
  obtain ⟨_, hv, hs, hc⟩ := reset_ok b hb
  refine ⟨?_, r.fut, by rw [hc]; rfl⟩
  show t.data.drop t.cursor = _
  rw [r.data, r.cur, hv, hs, List.drop_append_of_le_length (by rw [view_length b hb.len]; exact hb.cur)]

theorem Rel.cursor {b : Buf} {t : Full.St} (r : Rel b t) (c : Nat) :
    Rel { b with cursor := c } { t with cursor := c } := ⟨r.data, r.fut, rfl⟩


/-! ## §2 the simulation -/

/-- outcome of the quoted loop of `Csv` started from `b`, against the outcome `(r, t')` of `Full` -/
def QRes (b : Buf) (r : Full.Res) (t' : Full.St) (o : Out (List Byte × Bool × Option RErr × Buf)) : Prop :=
  ∃ b', o = .ok (r.field, r.hitEOL, cv r.err, b') ∧ BufOK b' ∧ Rel b' t' ∧ b'.src.rest.length ≤ b.src.rest.length

theorem QRes.mono {b1 b : Buf} {r t' o} (h : QRes b1 r t' o) (hl : b1.src.rest.length ≤ b.src.rest.length) : QRes b r t' o := by
  obtain ⟨b', h1, h2, h3, h4⟩ := h
  exact ⟨b', h1, h2, h3, Nat.le_trans h4 hl⟩

/-- the body of `quotedLoop` is the byte switch of `Full.quoted` -/
theorem qBody_eq (fuel : Nat) (delim : Byte) (start w qc : Nat) (b : Buf) (h : b.cursor < b.len) :
    C15Faults.qBody fuel delim start w qc b =
      Full.switch delim b.data[b.cursor]! qc
        (fun eol => .ok (({ b with cursor := b.cursor + 1 } : Buf).slice start w, eol, none, { b with cursor := b.cursor + 1 }))
        (fun qc' => quotedLoop fuel { b with cursor := b.cursor + 1 } delim start w qc')
        (C15Faults.qKeep fuel delim start w { b with cursor := b.cursor + 1 }) := by
  unfold C15Faults.qBody
  rw [if_pos h]
  rfl

theorem quotedLoop_sim (delim : Byte) : ∀ (fuel : Nat) (b : Buf) (t : Full.St) (start w qc F : Nat) (r : Full.Res) (t' : Full.St),
    BufOK b → Rel b t → w ≤ b.cursor →
    Full.quoted delim F t start w qc = some (r, t') → F + b.src.rest.length ≤ fuel →
    QRes b r t' (quotedLoop fuel b delim start w qc) := by
  intro fuel
  induction fuel with
  | zero =>
    intro b t start w qc F r t' _ _ _ h hF
    have : F = 0 := by omega
    subst this
    simp [Full.quoted] at h
  | succ fuel ih =>
    intro b t start w qc F r t' hb rel hw h hF
    rw [C15Faults.quotedLoop_succ]
    have hT := rel.len hb.len
    by_cases hc : b.cursor + 1 ≥ b.len
    · simp only [hc, ↓reduceIte]
      obtain ⟨hb', rel', hcur, ⟨he, hl', hT', hrest'⟩ | ⟨he, _, hlt⟩⟩ := rel.more_cases hb
      · -- EOF
        rw [he]
        simp only
        obtain ⟨F, rfl⟩ : ∃ F', F = F' + 1 := by
          cases F with
          | zero => simp [Full.quoted] at h
          | succ F' => exact ⟨F', rfl⟩
        rw [Full.quoted_loaded _ _ _ _ _ _ rel.fut] at h
        rw [if_pos (by rw [rel.cur, hT']; exact hc)] at h
        unfold Full.atEof at h
        have hsl : ∀ c, ({ b.more.1 with cursor := c } : Buf).slice start w = t.slice start w := by
          intro c
          exact (Rel.slice (rel'.cursor c) hb'.len start w (by show w ≤ b.more.1.len; rw [hl']; have := hb.cur; omega)).symm
        have hcond : (RErr.eof == RErr.eof && qc % 2 != 0 && decide (b.more.1.cursor < b.more.1.len)
              && b.more.1.data[b.more.1.cursor]! == delim) =
            (qc % 2 != 0 && decide (t.cursor < t.data.length) && t.data[t.cursor]? == some delim) := by
          rw [hcur, hl', rel.cur, hT']
          by_cases hlt : b.cursor < b.len
          · have hg := rel'.get hb'.len b.cursor (by rw [hl']; exact hlt)
            rw [hg]
            simp [hlt]
          · simp [hlt]
        rw [hcond]
        by_cases hcd : (qc % 2 != 0 && decide (t.cursor < t.data.length) && t.data[t.cursor]? == some delim) = true
        · simp only [hcd, ↓reduceIte, Option.some.injEq, Prod.mk.injEq] at h ⊢
          obtain ⟨h1, h2⟩ := h
          subst h1; subst h2
          refine ⟨{ b.more.1 with cursor := b.more.1.cursor + 1 }, ?_, ⟨?_, hb'.len, hb'.src⟩, ?_, hrest'⟩
          · rw [hsl]; rfl
          · show b.more.1.cursor + 1 ≤ b.more.1.len
            simp only [Bool.and_eq_true, decide_eq_true_eq] at hcd
            rw [hcur, hl']; have := hcd.1.2; rw [rel.cur, hT'] at this; omega
          · exact ⟨rel'.data, rel'.fut, by show t.cursor + 1 = b.more.1.cursor + 1; rw [hcur, rel.cur]⟩
        · simp only [hcd, Bool.false_eq_true, ↓reduceIte, Option.some.injEq, Prod.mk.injEq] at h ⊢
          obtain ⟨h1, h2⟩ := h
          subst h1; subst h2
          refine ⟨_, ?_, hb', rel', hrest'⟩
          have := hsl b.more.1.cursor
          rw [← this]; rfl
      · -- a refill: stutter step
        rw [he]
        simp only
        exact (ih b.more.1 t start w qc F r t' hb' rel' (by rw [hcur]; exact hw) h (by omega)).mono (Nat.le_of_lt hlt)
    · -- a byte
      simp only [hc, ↓reduceIte]
      obtain ⟨F, rfl⟩ : ∃ F', F = F' + 1 := by
        cases F with
        | zero => simp [Full.quoted] at h
        | succ F' => exact ⟨F', rfl⟩
      rw [Full.quoted_loaded _ _ _ _ _ _ rel.fut] at h
      have hlt : b.cursor + 1 < b.len := by omega
      have hcl : b.cursor < b.len := by omega
      rw [if_neg (by rw [rel.cur, hT]; omega)] at h
      unfold Full.body at h
      rw [rel.cur, rel.get hb.len b.cursor hcl] at h
      rw [qBody_eq _ _ _ _ _ _ hcl]
      -- the successor states
      have hb1 : BufOK { b with cursor := b.cursor + 1 } := ⟨by show b.cursor + 1 ≤ b.len; omega, hb.len, hb.src⟩
      have rel1 : Rel { b with cursor := b.cursor + 1 } { t with cursor := b.cursor + 1 } := rel.cursor _
      have hrec : ∀ (b2 : Buf) (t2 : Full.St) (w' qc' : Nat), BufOK b2 → Rel b2 t2 → b2.cursor = b.cursor + 1 → b2.src = b.src →
          w' ≤ b.cursor + 1 → Full.quoted delim F t2 start w' qc' = some (r, t') →
          QRes b r t' (quotedLoop fuel b2 delim start w' qc') := by
        intro b2 t2 w' qc' hb2 rel2 hc2 hs2 hw' hh
        exact (ih b2 t2 start w' qc' F r t' hb2 rel2 (by omega) hh (by rw [hs2]; omega)).mono (by rw [hs2]; exact Nat.le_refl _)
      refine Full.switch_rel (fun a o => a = some (r, t') → QRes b r t' o) delim _ qc ?_ ?_ ?_ h
      · intro eol _ hh
        injection hh with hh
        injection hh with h1 h2
        subst h1 h2
        refine ⟨_, ?_, hb1, rel1, Nat.le_refl _⟩
        rw [← Rel.slice rel1 hb.len start w (by show w ≤ b.len; omega)]; rfl
      · intro qc' hh
        exact hrec _ _ w qc' hb1 rel1 rfl rfl (by omega) hh
      · intro hh
        unfold Full.keep at hh
        unfold C15Faults.qKeep
        dsimp only at hh ⊢
        by_cases hne : (w + 1 != b.cursor + 1) = true
        · rw [if_pos hne] at hh ⊢
          rw [rel.get hb.len (b.cursor + 1) hlt] at hh
          rw [if_pos (by have := hb.len; omega)]
          have hwlt : w + 1 < b.len := by
            have : w + 1 ≠ b.cursor + 1 := by simpa using hne
            omega
          refine hrec { b with cursor := b.cursor + 1, data := b.data.setIfInBounds (w + 1) b.data[b.cursor + 1]! }
            { t with cursor := b.cursor + 1, data := t.data.set (w + 1) b.data[b.cursor + 1]! } (w + 1) 0
            ⟨by show b.cursor + 1 ≤ b.len; omega, by show b.len ≤ (b.data.setIfInBounds _ _).size; simpa using hb.len, hb.src⟩
            ⟨?_, rel.fut, rfl⟩ rfl rfl (by omega) hh
          show t.data.set (w + 1) _ = view _ ++ b.src.rest
          rw [view_set { b with cursor := b.cursor + 1 }, rel.data]
          exact List.set_append_left _ _ (by rw [view_length b hb.len]; exact hwlt)
        · rw [if_neg hne] at hh ⊢
          exact hrec _ _ (w + 1) 0 hb1 rel1 rfl rfl (by omega) hh


/-! ### the unquoted field -/

structure RelF (fs : Fields) (a : Full.FS) : Prop where
  st : Rel fs.buf a.st
  start : a.fieldStart = fs.fieldStart
  eol : a.hitEOL = fs.hitEOL
  fld : a.field = fs.field
  err : cv a.err = fs.err

structure FOK (fs : Fields) : Prop where
  start : fs.fieldStart ≤ fs.buf.cursor
  buf : BufOK fs.buf

/-- outcome of a field function of `Csv` started from `fs`, against the outcome `(a', ok)` of `Full` -/
def FRes (fs : Fields) (a' : Full.FS) (ok : Bool) (o : Out (Fields × Bool)) : Prop :=
  ∃ fs', o = .ok (fs', ok) ∧ FOK fs' ∧ RelF fs' a' ∧ fs'.delim = fs.delim ∧
    fs'.buf.src.rest.length ≤ fs.buf.src.rest.length

theorem FRes.mono {f1 fs : Fields} {a' ok o} (h : FRes f1 a' ok o) (hd : f1.delim = fs.delim)
    (hl : f1.buf.src.rest.length ≤ fs.buf.src.rest.length) : FRes fs a' ok o := by
  obtain ⟨fs', h1, h2, h3, h4, h5⟩ := h
  exact ⟨fs', h1, h2, h3, h4.trans hd, Nat.le_trans h5 hl⟩

/-- a refill inside a field function: `Rel.more_cases` for the fields state -/
theorem RelF.more_cases {fs : Fields} {a : Full.FS} (rel : RelF fs a) (hok : FOK fs) :
    FOK { fs with buf := fs.buf.more.1 } ∧ RelF { fs with buf := fs.buf.more.1 } a ∧
    ((fs.buf.more.2 = some .eof ∧ fs.buf.more.1.len = fs.buf.len ∧ a.st.data.length = fs.buf.len ∧
        fs.buf.more.1.src.rest.length ≤ fs.buf.src.rest.length) ∨
     (fs.buf.more.2 = none ∧ fs.buf.more.1.cursor < fs.buf.more.1.len ∧
        fs.buf.more.1.src.rest.length < fs.buf.src.rest.length)) := by
  obtain ⟨hb', rel', hcur, hcase⟩ := rel.st.more_cases hok.buf
  refine ⟨⟨by show fs.fieldStart ≤ fs.buf.more.1.cursor; rw [hcur]; exact hok.start, hb'⟩,
    ⟨rel', rel.start, rel.eol, rel.fld, rel.err⟩, hcase.imp id fun ⟨he, hl, hlt⟩ => ⟨he, ?_, hlt⟩⟩
  rw [hcur]
  exact Nat.lt_of_le_of_lt hok.buf.cur hl

theorem nextUnquoted_sim (delim : Byte) : ∀ (fuel : Nat) (fs : Fields) (a : Full.FS) (F : Nat) (a' : Full.FS) (ok : Bool),
    FOK fs → RelF fs a → fs.delim = delim → Full.unq delim F a = some (a', ok) → F ≤ fuel →
    FRes fs a' ok (nextUnquoted fuel fs fs.buf.cursor) := by
  intro fuel
  induction fuel with
  | zero =>
    intro fs a F a' ok _ _ _ h hF
    have : F = 0 := by omega
    subst this
    simp [Full.unq] at h
  | succ fuel ih =>
    intro fs a F a' ok hok rel hd h hF
    obtain ⟨F, rfl⟩ : ∃ F', F = F' + 1 := by
      cases F with
      | zero => simp [Full.unq] at h
      | succ F' => exact ⟨F', rfl⟩
    rw [Full.unq_loaded _ _ _ rel.st.fut, show Full.LF = LF from rfl] at h
    rw [C15Faults.nextUnquoted_succ]
    -- one byte, on a buffer that has it
    have step : ∀ (fs0 : Fields), FOK fs0 → RelF fs0 a → fs0.delim = delim → fs0.buf.cursor < fs0.buf.len →
        fs0.buf.src.rest.length ≤ fs.buf.src.rest.length →
        FRes fs a' ok (C15Faults.unqStep fuel fs0.buf.cursor fs0) := by
      intro fs0 hok0 rel0 hd0 hlt0 hrest0
      have hT := rel0.st.len hok0.buf.len
      have hge : ¬ a.st.cursor ≥ a.st.data.length := by rw [rel0.st.cur, hT]; omega
      simp only [hge, ↓reduceIte] at h
      rw [rel0.st.cur, rel0.st.get hok0.buf.len _ hlt0] at h
      simp only at h
      have hsz : fs0.buf.cursor < fs0.buf.data.size := by have := hok0.buf.len; omega
      unfold C15Faults.unqStep
      simp only [hsz, hlt0, ↓reduceDIte, ↓reduceIte]
      rw [← getElem!_pos fs0.buf.data fs0.buf.cursor hsz, hd0]
      generalize fs0.buf.data[fs0.buf.cursor]! = ch at h ⊢
      have hb1 : BufOK { fs0.buf with cursor := fs0.buf.cursor + 1 } :=
        ⟨by show fs0.buf.cursor + 1 ≤ fs0.buf.len; omega, hok0.buf.len, hok0.buf.src⟩
      have rel1 : Rel { fs0.buf with cursor := fs0.buf.cursor + 1 } { a.st with cursor := fs0.buf.cursor + 1 } :=
        rel0.st.cursor _
      have hsl : a.st.slice a.fieldStart fs0.buf.cursor =
          ({ fs0.buf with cursor := fs0.buf.cursor + 1 } : Buf).slice fs0.fieldStart fs0.buf.cursor := by
        rw [rel0.start]
        exact Rel.slice rel1 hok0.buf.len _ _ (by show fs0.buf.cursor ≤ fs0.buf.len; omega)
      by_cases c1 : (ch == delim) = true
      · simp only [c1, ↓reduceIte, Option.some.injEq, Prod.mk.injEq] at h ⊢
        obtain ⟨h1, h2⟩ := h
        subst h1; subst h2
        exact ⟨_, rfl, ⟨Nat.le_refl _, hb1⟩, ⟨rel1, rfl, rel0.eol, hsl, rel0.err⟩, hd.symm, hrest0⟩
      · simp only [c1, Bool.false_eq_true, ↓reduceIte] at h ⊢
        by_cases c2 : (ch == LF) = true
        · simp only [c2, ↓reduceIte, Option.some.injEq, Prod.mk.injEq] at h ⊢
          obtain ⟨h1, h2⟩ := h
          subst h1; subst h2
          exact ⟨_, rfl, ⟨by show fs0.fieldStart ≤ fs0.buf.cursor + 1; have := hok0.start; omega, hb1⟩,
            ⟨rel1, rel0.start, rfl, hsl, rel0.err⟩, hd.symm, hrest0⟩
        · simp only [c2, Bool.false_eq_true, ↓reduceIte] at h ⊢
          have := ih { fs0 with buf := { fs0.buf with cursor := fs0.buf.cursor + 1 }, delim := delim }
            { a with st := { a.st with cursor := fs0.buf.cursor + 1 } } F a' ok
            ⟨by show fs0.fieldStart ≤ fs0.buf.cursor + 1; have := hok0.start; omega, hb1⟩
            ⟨rel1, rel0.start, rel0.eol, rel0.fld, rel0.err⟩ rfl h (by omega)
          exact this.mono hd.symm hrest0
    by_cases hc : fs.buf.cursor ≥ fs.buf.len
    · simp only [hc, ↓reduceIte]
      obtain ⟨hok', rel', ⟨he, hl', hT', hrest'⟩ | ⟨he, hlt', hlt⟩⟩ := rel.more_cases hok
      · rw [he]
        simp only
        have hge : a.st.cursor ≥ a.st.data.length := by rw [rel.st.cur, hT']; exact hc
        simp only [hge, ↓reduceIte, Option.some.injEq, Prod.mk.injEq] at h
        obtain ⟨h1, h2⟩ := h
        subst h1; subst h2
        refine ⟨_, rfl, ⟨hok'.start, hok'.buf⟩, ⟨rel'.st, rel.start, rfl, ?_, rfl⟩, rfl, hrest'⟩
        show a.st.slice a.fieldStart a.st.cursor = fs.buf.more.1.slice fs.fieldStart fs.buf.cursor
        rw [rel.start, rel.st.cur]
        exact Rel.slice rel'.st hok'.buf.len _ _ (by show fs.buf.cursor ≤ fs.buf.more.1.len; rw [hl']; exact hok.buf.cur)
      · rw [he]
        simp only
        have := step _ hok' rel' hd hlt' (Nat.le_of_lt hlt)
        rw [show ({ fs with buf := fs.buf.more.1 } : Fields).buf.cursor = fs.buf.cursor from (rel.st.more_cases hok.buf).2.2.1] at this
        exact this
    · simp only [hc, ↓reduceIte]
      exact step fs hok rel hd (by omega) (Nat.le_refl _)


/-! ### `fields.next` -/

theorem fnext_sim (delim : Byte) (fuel : Nat) (fs : Fields) (a : Full.FS) (F : Nat) (a' : Full.FS) (ok : Bool)
    (hok : FOK fs) (rel : RelF fs a) (hd : fs.delim = delim) (h : Full.fnext delim F a = some (a', ok))
    (hF : F + fs.buf.src.rest.length ≤ fuel) :
    FRes fs a' ok (fs.next fuel) := by
  rw [Full.fnext_loaded _ _ _ rel.st.fut, show Full.QUOTE = QUOTE from rfl] at h
  rw [C15Faults.Fields_next_eq]
  rw [rel.eol] at h
  by_cases heol : fs.hitEOL = true
  · rw [if_pos heol] at h ⊢
    simp only [Option.some.injEq, Prod.mk.injEq] at h
    obtain ⟨h1, h2⟩ := h
    subst h1; subst h2
    exact ⟨fs, rfl, hok, rel, rfl, Nat.le_refl _⟩
  · rw [if_neg heol] at h ⊢
    -- the first byte of a field, on a buffer that has it
    have go : ∀ (fs0 : Fields), FOK fs0 → RelF fs0 a → fs0.delim = delim → fs0.buf.cursor < fs0.buf.len →
        fs0.buf.src.rest.length ≤ fs.buf.src.rest.length →
        FRes fs a' ok (C15Faults.nextGo fuel fs0) := by
      intro fs0 hok0 rel0 hd0 hlt0 hrest0
      have hT := rel0.st.len hok0.buf.len
      have hge : ¬ a.st.cursor ≥ a.st.data.length := by rw [rel0.st.cur, hT]; omega
      simp only [hge, ↓reduceIte] at h
      rw [rel0.st.cur, rel0.st.get hok0.buf.len _ hlt0] at h
      simp only at h
      unfold C15Faults.nextGo
      simp only [hlt0, ↓reduceIte]
      by_cases cq : (fs0.buf.data[fs0.buf.cursor]! == QUOTE) = true
      · simp only [cq, ↓reduceIte] at h ⊢
        cases hq : Full.quoted delim F { a.st with cursor := fs0.buf.cursor + 1 } (fs0.buf.cursor + 1) (fs0.buf.cursor + 1) 0 with
        | none => rw [hq] at h; simp at h
        | some rs =>
          obtain ⟨r, st'⟩ := rs
          rw [hq] at h
          simp only [Option.some.injEq, Prod.mk.injEq] at h
          obtain ⟨h1, h2⟩ := h
          subst h1; subst h2
          have hb1 : BufOK { fs0.buf with cursor := fs0.buf.cursor + 1 } :=
            ⟨by show fs0.buf.cursor + 1 ≤ fs0.buf.len; omega, hok0.buf.len, hok0.buf.src⟩
          obtain ⟨b', q1, q2, q3, q4⟩ := quotedLoop_sim delim fuel { fs0.buf with cursor := fs0.buf.cursor + 1 }
            { a.st with cursor := fs0.buf.cursor + 1 } (fs0.buf.cursor + 1) (fs0.buf.cursor + 1) 0 F r st' hb1
            (rel0.st.cursor _) (Nat.le_refl _) hq (by show F + fs0.buf.src.rest.length ≤ fuel; omega)
          unfold nextQuoted
          simp only
          rw [hd0, q1]
          simp only
          refine ⟨{ fs0 with field := r.field, hitEOL := r.hitEOL, err := cv r.err, buf := b', fieldStart := b'.cursor,
                             delim := delim }, ?_,
            ⟨Nat.le_refl _, q2⟩, ⟨q3, q3.cur, rfl, rfl, rfl⟩, hd.symm,
            Nat.le_trans (show b'.src.rest.length ≤ fs0.buf.src.rest.length from q4) hrest0⟩
          cases r.err with
          | none => rfl
          | some e => rfl
      · simp only [cq, Bool.false_eq_true, ↓reduceIte] at h ⊢
        exact (nextUnquoted_sim delim fuel fs0 a F a' ok hok0 rel0 hd0 h (by omega)).mono (hd0.trans hd.symm) hrest0
    by_cases hc : fs.buf.cursor ≥ fs.buf.len
    · simp only [hc, ↓reduceIte]
      obtain ⟨hok', rel', ⟨he, _, hT', hrest'⟩ | ⟨he, hlt', hlt⟩⟩ := rel.more_cases hok
      · rw [he]
        simp only
        have hge : a.st.cursor ≥ a.st.data.length := by rw [rel.st.cur, hT']; exact hc
        simp only [hge, ↓reduceIte] at h
        rw [rel.start] at h
        by_cases hfs0 : fs.fieldStart > 0
        · simp only [hfs0, ↓reduceIte, Option.some.injEq, Prod.mk.injEq] at h
          obtain ⟨h1, h2⟩ := h
          subst h1; subst h2
          have : (RErr.eof == RErr.eof && decide (fs.fieldStart > 0)) = true := by simp [hfs0]
          simp only [this, ↓reduceIte]
          refine ⟨_, rfl, ⟨hok'.start, hok'.buf⟩, ⟨rel'.st, rfl, rfl, ?_, rfl⟩, rfl, hrest'⟩
          show a.st.slice fs.fieldStart fs.fieldStart = fs.buf.more.1.slice fs.fieldStart fs.fieldStart
          simp [Full.St.slice, Buf.slice]
        · simp only [hfs0, ↓reduceIte, Option.some.injEq, Prod.mk.injEq] at h
          obtain ⟨h1, h2⟩ := h
          subst h1; subst h2
          have : (RErr.eof == RErr.eof && decide (fs.fieldStart > 0)) = false := by simp [hfs0]
          simp only [this, Bool.false_eq_true, ↓reduceIte]
          exact ⟨_, rfl, ⟨hok'.start, hok'.buf⟩, ⟨rel'.st, rfl, rfl, rel.fld, rfl⟩, rfl, hrest'⟩
      · rw [he]
        simp only
        exact go _ hok' rel' hd hlt' (Nat.le_of_lt hlt)
    · simp only [hc, ↓reduceIte]
      exact go fs hok rel hd (by omega) (Nat.le_refl _)

/-! ### the row loop, `Reader.Next`, the whole document -/

theorem rowLoop_sim (delim : Byte) (fuel F : Nat) : ∀ (n n' : Nat) (fs : Fields) (a : Full.FS) (acc : List (List Byte))
    (a' : Full.FS) (row : List (List Byte)),
    FOK fs → RelF fs a → fs.delim = delim → Full.rowLoop delim F n a acc = some (a', row) → n ≤ n' →
    F + fs.buf.src.rest.length ≤ fuel →
    ∃ fs', rowLoop fuel n' fs acc = .ok (fs', row) ∧ FOK fs' ∧ RelF fs' a' ∧ fs'.delim = delim ∧
      fs'.buf.src.rest.length ≤ fs.buf.src.rest.length := by
  intro n
  induction n with
  | zero => intro n' fs a acc a' row _ _ _ h; simp [Full.rowLoop] at h
  | succ n ih =>
    intro n' fs a acc a' row hok rel hd h hn hF
    obtain ⟨m, rfl⟩ : ∃ m, n' = m + 1 := ⟨n' - 1, by omega⟩
    unfold Full.rowLoop at h
    unfold rowLoop
    cases hf : Full.fnext delim F a with
    | none => rw [hf] at h; simp at h
    | some p =>
      obtain ⟨a1, ok⟩ := p
      rw [hf] at h
      obtain ⟨fs1, q1, q2, q3, q4, q5⟩ := fnext_sim delim fuel fs a F a1 ok hok rel hd hf hF
      rw [q1]
      cases ok with
      | true =>
        simp only at h ⊢
        rw [← q3.fld]
        obtain ⟨fs', r1, r2, r3, r4, r5⟩ := ih m fs1 a1 _ a' row q2 q3 (q4.trans hd) h (by omega) (by omega)
        exact ⟨fs', r1, r2, r3, r4, Nat.le_trans r5 q5⟩
      | false =>
        simp only [Option.some.injEq, Prod.mk.injEq] at h ⊢
        obtain ⟨h1, h2⟩ := h
        subst h1; subst h2
        exact ⟨fs1, rfl, q2, q3, q4.trans hd, q5⟩

theorem readerNext_sim (delim : Byte) (fuel F : Nat) (r : Reader) (a a' : Full.FS) (row : List (List Byte)) (ok : Bool)
    (hok : FOK r.fs) (rel : RelF r.fs a) (hd : r.fs.delim = delim)
    (h : Full.readerNext delim F a = some (a', row, ok)) (hF : F + r.fs.buf.src.rest.length ≤ fuel) :
    ∃ r', r.next fuel = .ok (r', ok) ∧ (ok = true → r'.row = row) ∧ FOK r'.fs ∧ RelF r'.fs a' ∧ r'.fs.delim = delim ∧
      r'.fs.buf.src.rest.length ≤ r.fs.buf.src.rest.length := by
  unfold Full.readerNext at h
  rw [Reader_next_eq, show trimRow = Full.trimCR from rfl]
  by_cases he : a.err.isSome = true
  · have he' : (r.fs.err != none) = true := by
      rw [← rel.err]
      cases hx : a.err with
      | none => rw [hx] at he; simp at he
      | some e => simp [cv]
    simp only [he, ↓reduceIte, Option.some.injEq, Prod.mk.injEq] at h
    obtain ⟨h1, h2, h3⟩ := h
    subst h1; subst h2; subst h3
    simp only [he', ↓reduceIte]
    exact ⟨r, rfl, by simp, hok, rel, hd, Nat.le_refl _⟩
  · have he' : (r.fs.err != none) = false := by
      rw [← rel.err]
      cases hx : a.err with
      | none => simp [cv]
      | some e => rw [hx] at he; simp at he
    simp only [he, Bool.false_eq_true, ↓reduceIte] at h
    simp only [he', Bool.false_eq_true, ↓reduceIte]
    obtain ⟨hbr, hv, hs, hc0⟩ := reset_ok r.fs.buf hok.buf
    cases hr : Full.rowLoop delim F F { a with st := a.st.reset, field := [], fieldStart := 0, hitEOL := false } [] with
    | none => rw [hr] at h; simp at h
    | some p =>
      obtain ⟨a1, row1⟩ := p
      rw [hr] at h
      obtain ⟨fs1, q1, q2, q3, q4, q5⟩ := rowLoop_sim delim fuel F F fuel
        { r.fs with buf := r.fs.buf.reset, field := [], fieldStart := 0, hitEOL := false }
        { a with st := a.st.reset, field := [], fieldStart := 0, hitEOL := false } [] a1 row1
        ⟨Nat.zero_le _, hbr⟩ ⟨rel.st.reset hok.buf, rfl, rfl, rfl, rel.err⟩ hd hr (by omega)
        (by show F + r.fs.buf.reset.src.rest.length ≤ fuel; rw [hs]; exact hF)
      have q5' : fs1.buf.src.rest.length ≤ r.fs.buf.src.rest.length := by
        have : ({ r.fs with buf := r.fs.buf.reset, field := [], fieldStart := 0, hitEOL := false } : Fields).buf.src = r.fs.buf.src := hs
        rw [this] at q5; exact q5
      rw [q1]
      simp only at h ⊢
      by_cases hemp : (Full.trimCR row1).isEmpty = true
      · simp only [hemp, ↓reduceIte, Option.some.injEq, Prod.mk.injEq] at h ⊢
        obtain ⟨h1, h2, h3⟩ := h
        subst h1; subst h2; subst h3
        have herr : fs1.err = cv a1.err := q3.err.symm
        cases hx : a1.err with
        | none =>
          have h0 : fs1.err = none := by rw [herr, hx]; rfl
          have hc : (fs1.err == none) = true := by rw [h0]; rfl
          exact ⟨{ fs := { fs1 with err := some .eof }, row := [] }, by rw [if_pos hc], by simp, ⟨q2.start, q2.buf⟩,
            ⟨q3.st, q3.start, q3.eol, q3.fld, rfl⟩, q4, q5'⟩
        | some e =>
          have h0 : fs1.err = some .eof := by rw [herr, hx]; rfl
          have hc : ¬ (fs1.err == none) = true := by rw [h0]; simp
          exact ⟨{ fs := fs1, row := [] }, by rw [if_neg hc], by simp, q2,
            ⟨q3.st, q3.start, q3.eol, q3.fld, h0.symm⟩, q4, q5'⟩
      · simp only [hemp, Bool.false_eq_true, ↓reduceIte, Option.some.injEq, Prod.mk.injEq] at h ⊢
        obtain ⟨h1, h2, h3⟩ := h
        subst h1; subst h2; subst h3
        exact ⟨_, rfl, fun _ => rfl, q2, q3, q4, q5'⟩

theorem readAllLoop_sim (delim : Byte) (fuel F : Nat) : ∀ (n n' : Nat) (r : Reader) (a : Full.FS) (acc : List (List (List Byte)))
    (res : List (List (List Byte)) × Option Full.RErr),
    FOK r.fs → RelF r.fs a → r.fs.delim = delim → Full.readAll delim F n a acc = some res → n ≤ n' →
    F + r.fs.buf.src.rest.length ≤ fuel →
    readAllLoop fuel n' r acc = .ok (res.1, cv res.2) := by
  intro n
  induction n with
  | zero => intro n' r a acc res _ _ _ h; simp [Full.readAll] at h
  | succ n ih =>
    intro n' r a acc res hok rel hd h hn hF
    obtain ⟨m, rfl⟩ : ∃ m, n' = m + 1 := ⟨n' - 1, by omega⟩
    unfold Full.readAll at h
    unfold readAllLoop
    cases hr : Full.readerNext delim F a with
    | none => rw [hr] at h; simp at h
    | some p =>
      obtain ⟨a1, row, ok⟩ := p
      rw [hr] at h
      obtain ⟨r1, q1, q2, q3, q4, q5, q6⟩ := readerNext_sim delim fuel F r a a1 row ok hok rel hd hr hF
      rw [q1]
      cases ok with
      | true =>
        simp only at h ⊢
        rw [q2 rfl]
        exact ih m r1 a1 _ res q3 q4 q5 h (by omega) (by omega)
      | false =>
        simp only [Option.some.injEq] at h ⊢
        subst h
        simp only [q4.err]

/-! ## §3 the bridge -/

/-- **`Csv.readAll` against `Full.readAll`.** Whenever the list-level model, started with the whole document in its
buffer, returns (budgets `F`, `n` within what `Csv.readAll` gives itself), the array-level mirror returns the same rows and
the same final error — for every read schedule with reads ≥ 1, every initial capacity, either way of reporting EOF. -/
theorem readAll_bridge (doc : List Byte) (sched : List Nat) (delim : Byte) (cap : Nat) (eofWD fwd : Bool)
    (hs : ∀ k ∈ sched, 1 ≤ k) (F n : Nat) (res : List (List (List Byte)) × Option Full.RErr)
    (hF : F + doc.length ≤ 8 * doc.length + 64) (hn : n ≤ 8 * doc.length + 64)
    (h : Full.readAll delim F n (Full.loadedFS doc) [] = some res) :
    Csv.readAll doc sched delim cap none eofWD fwd = .ok (res.1, cv res.2) := by
  unfold Csv.readAll
  refine readAllLoop_sim delim _ F n _ _ (Full.loadedFS doc) [] res ?_ ?_ rfl h hn hF
  · exact ⟨Nat.le_refl _, ⟨Nat.le_refl _, Nat.zero_le _, ⟨rfl, hs, fun h => by cases h⟩⟩⟩
  · exact ⟨⟨by simp [view, Full.loadedFS], rfl, rfl⟩, rfl, rfl, rfl, rfl⟩

#print axioms readAll_bridge

end QF.Props.C12Bridge
