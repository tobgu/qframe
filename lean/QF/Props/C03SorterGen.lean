import QF.Props.C03SorterPivot
/-!
# C03 — the sorter of today's source IS the hand mirror (tie T1)

`QF.Gen.sorterFns` — `Sorter.Sort`, `Len`, `Swap`, `Less`, `quickSort`, `maxDepth`, `heapSort`, `doPivot`, `insertionSort`,
`siftDown`, `medianOfThree` of /repo/internal/sort/sorter.go, translated statement by statement on every run
(go/cmd/extract/sortast.go) into the imperative language `QF.SL` (QF/Core/SLExpr.lean) — is interpreted by `SL.exec`
(Go semantics: integer variables, `for` with `break` / `continue` / `return`, calls and recursion, an index out of range
is a panic) and proved equal to the hand mirror QF/Core/Sorter.lean, function by function, each by induction following
the mirror's own recursion:

    call_len, call_swap, call_less, call_maxDepth, call_median, call_insertionSort, call_siftDown, call_heapSort   (C03SorterFns)
    call_doPivot                                                                                                   (C03SorterPivot)
    call_quickSort, call_sort                                                                                      (here)

* `gen_sorter_no_opaque`, `gen_sorter_canon` (C03SorterCanon): today's extraction is complete and is the canonical program.
* `gen_sorter_semantics`: for every index array and every list of comparators whose `Less` is `less`, interpreting
  TODAY'S `Sort` with enough fuel returns exactly `Sorter.sort less ix` — and with less fuel it runs out of fuel, it
  never returns anything else. In particular the code never indexes outside the array (for ANY comparison function,
  consistent or not) and always terminates.
* `gen_sorter_semantics_less`: the same for every comparison function `less : Nat → Nat → Bool` on row numbers.
* `gen_less_semantics` (C03SorterLink): the regenerated `Less` is `sorterLess` of C03Compare (whose comparators are regenerated there).
* `gen_sorter_sorted_perm`: hence the regenerated sorter returns a sorted permutation for every strict weak order.
* witnesses: `hi-c < (hi-lo)>>1` for `/4`, a child index off by one in `siftDown`, a dropped `!` — the canonical check
  fails for all three, and for the first two the interpreted result differs on a concrete array.

C03SorterCanon, C03SorterExec, C03SorterFns, C03SorterPivot, C03SorterLink and this file share the namespace `QF.Props.C03SorterGen`.
-/
namespace QF.Props.C03SorterGen
open QF QF.SL
set_option linter.unusedSimpArgs false

/-! ## `quickSort` -/

theorem quickSort_size (less : Nat → Nat → Bool) (fuel : Nat) (a : Ix) (lo hi d : Nat) :
    (Sorter.quickSort less fuel a lo hi d).size = a.size :=
  (Sorter.quickSort_perm less fuel a lo hi d).size_eq

theorem two_log2_lt : ∀ n : Nat, 5 ≤ n → 2 * Nat.log2 n < n := by
  intro n
  induction n using Nat.strongRecOn with
  | _ n ih =>
    intro h
    by_cases h10 : 10 ≤ n
    · have := ih (n / 2) (by omega) (by omega)
      rw [Nat.log2_def n]
      have h2 : 2 ≤ n := by omega
      simp only [h2, ↓reduceIte]
      omega
    · have : n = 5 ∨ n = 6 ∨ n = 7 ∨ n = 8 ∨ n = 9 := by omega
      rcases this with rfl | rfl | rfl | rfl | rfl <;> decide

/-- the depth limit is below the fuel the mirror gives itself -/
theorem maxDepth_lt (n : Nat) (h : 12 < n) : Sorter.maxDepth n < n + 2 := by
  have := two_log2_lt n (by omega)
  have h0 : n ≠ 0 := by omega
  simp only [Sorter.maxDepth, h0, ↓reduceIte]
  omega

section withLess
variable {cols : Cols} {less : Nat → Nat → Bool} (hl : LessIs cols less)
include hl

/-- the part of `quickSort` after its loop: ShellSort pass with gap 6 and insertion sort for at most 12 elements -/
theorem qs_tail (lo hi : Nat) (v3 p4 p5 p6 : Val) (a : Ix) (hlh : lo ≤ hi) (hsz : hi ≤ a.size) :
    ∃ σ', X cols qsTail ([.sorter, .int lo, .int hi, v3, p4, p5, p6], a) =
      .ok (.next (σ', if hi - lo > 1 then
        Sorter.insertionSort less ((List.range' (lo + 6) (hi - (lo + 6))).foldl
          (fun a i => if Sorter.lt less a i (i - 6) then Sorter.sw a i (i - 6) else a) a) lo hi else a)) := by
  simp only [qsTail]
  by_cases h : hi - lo > 1
  · sl_simp [← Int.natCast_sub hlh, h, decide_true]
    obtain ⟨i', p', hs, -, hss⟩ := count_up canonFns cols (lt (v 6) (v 2)) 6
      (S.block [S.ite (C03SorterGen.less (v 6) (sub (v 6) (lit 6))) (S.block [swap (v 6) (sub (v 6) (lit 6))]) nop])
      (fun a i => if Sorter.lt less a i (i - 6) then Sorter.sw a i (i - 6) else a) (fun i a => lo + 6 ≤ i ∧ hi ≤ a.size)
      (fun i _ => [.sorter, .int lo, .int hi, v3, p4, p5, .int i]) hi
      (fun i p a => by sl_simp [Int.ofNat_lt])
      (fun i p a hi' ha => by
        refine ⟨p, ?_, by split <;> (try rw [Sorter.sw_size]) <;> omega⟩
        sl_simp [call_less' hl]
        cases Sorter.lt less a i (i - 6)
        · sl_simp [Bool.false_eq_true]
        · sl_simp [call_swap])
      (fun i p a => by sl_simp []) (hi - (lo + 6)) (lo + 6) .unit a rfl ⟨Nat.le_refl _, hsz⟩
    rw [qsShellLoop, hs]
    sl_simp []
    rw [call_insertionSort hl _ lo hi hss]
    sl_simp []
    exact ⟨_, rfl⟩
  · sl_simp [← Int.natCast_sub hlh, h, decide_false]
    exact ⟨_, rfl⟩

/-- a call of `quickSort` runs its body -/
theorem qs_call {a a' : Ix} {lo hi d : Nat}
    (h : ∃ c, X cols (S.block [qsLoop, qsTail]) ([.sorter, .int lo, .int hi, .int d, .unit, .unit, .unit], a) = .ok c ∧ Done a' c) :
    C cols fQuickSort [.sorter, .int lo, .int hi, .int d] a = .ok (.unit, a') := by
  obtain ⟨c, e, dn⟩ := h
  rw [callLim_eq canonFns cols _ fQuickSort fnQuickSort rfl _ rfl [.sorter, .int lo, .int hi, .int d, .unit, .unit, .unit] rfl]
  simp only [fnQuickSort]
  rw [e]
  sl_simp [done_wrap dn]

/-- the body of `quickSort` is the mirror's `quickSort`, for every fuel of the mirror that exceeds the depth limit -/
theorem qs_body : ∀ (fuel : Nat) (a : Ix) (lo hi d : Nat) (p4 p5 p6 : Val), 1 ≤ fuel → (hi - lo > 12 → d < fuel) → lo ≤ hi →
    hi ≤ a.size →
    ∃ c, X cols (S.block [qsLoop, qsTail]) ([.sorter, .int lo, .int hi, .int d, p4, p5, p6], a) = .ok c ∧
      Done (Sorter.quickSort less fuel a lo hi d) c := by
  intro fuel
  induction fuel with
  | zero => intro a lo hi d p4 p5 p6 h1; omega
  | succ fuel ih =>
    intro a lo hi d p4 p5 p6 _ hd hlh hsz
    rw [x_block_cons, qsLoop, x_loop]
    simp only [Sorter.quickSort]
    by_cases h12 : hi - lo > 12
    · simp only [qsLoopBody]
      sl_simp [← Int.natCast_sub hlh, h12, decide_true]
      by_cases h0 : d = 0
      · subst h0
        sl_simp [beq_self_eq_true, Int.natCast_zero]
        rw [call_heapSort hl a lo hi hlh hsz]
        sl_simp []
        exact ⟨_, rfl, .inr rfl⟩
      · have h0' : ((d : Int) == 0) = false := by simp; omega
        obtain ⟨e, db⟩ := call_doPivot hl a lo hi (by omega) hsz
        sl_simp [h0, h0']
        rw [e]
        generalize Sorter.doPivot less a lo hi = r at db ⊢
        obtain ⟨a1, mlo, mhi⟩ := r
        simp only at db ⊢
        sl_simp []
        have hdd := cast_pred (Nat.pos_of_ne_zero h0)
        -- both parts lie within the array, and one level of the depth limit is spent
        have ⟨hf, hm, hs⟩ : (1 ≤ fuel ∧ d - 1 < fuel) ∧ mlo ≤ a1.size ∧ hi ≤ a1.size := by omega
        by_cases hc : mlo - lo < hi - mhi
        · sl_simp [← Int.natCast_sub db.2.1, ← Int.natCast_sub db.2.2.2, hc, decide_true, hdd]
          rw [qs_call hl (ih a1 lo mlo (d - 1) .unit .unit .unit hf.1 (fun _ => hf.2) db.2.1 hm)]
          sl_simp []
          rw [← qsLoopBody, ← qsLoop, ← x_block_cons]
          exact ih _ mhi hi (d - 1) _ _ _ hf.1 (fun _ => hf.2) db.2.2.2 (by rw [quickSort_size]; exact hs)
        · sl_simp [← Int.natCast_sub db.2.1, ← Int.natCast_sub db.2.2.2, hc, decide_false, hdd]
          rw [qs_call hl (ih a1 mhi hi (d - 1) .unit .unit .unit hf.1 (fun _ => hf.2) db.2.2.2 hs)]
          sl_simp []
          rw [← qsLoopBody, ← qsLoop, ← x_block_cons]
          exact ih _ lo mlo (d - 1) _ _ _ hf.1 (fun _ => hf.2) db.2.1 (by rw [quickSort_size]; exact hm)
    · sl_simp [← Int.natCast_sub hlh, h12, decide_false]
      obtain ⟨σ', ht⟩ := qs_tail hl lo hi (.int d) p4 p5 p6 a hlh hsz
      rw [ht]
      sl_simp []
      exact ⟨_, rfl, .inl ⟨_, rfl⟩⟩

/-- `quickSort(data, lo, hi, d)` is the mirror's `quickSort` -/
theorem call_quickSort (fuel : Nat) (a : Ix) (lo hi d : Nat) (hf : 1 ≤ fuel) (hd : hi - lo > 12 → d < fuel) (hlh : lo ≤ hi)
    (hsz : hi ≤ a.size) :
    C cols fQuickSort [.sorter, .int lo, .int hi, .int d] a = .ok (.unit, Sorter.quickSort less fuel a lo hi d) :=
  qs_call hl (qs_body hl fuel a lo hi d .unit .unit .unit hf hd hlh hsz)

/-- `s.Sort()` is the mirror's `sort` -/
theorem call_sort (a : Ix) : C cols fSort [.sorter] a = .ok (.unit, Sorter.sort less a) := by
  rw [callLim_eq canonFns cols _ fSort fnSort rfl _ rfl [.sorter, .unit] rfl]
  simp only [fnSort, Sorter.sort]
  sl_simp [call_len, call_maxDepth]
  rw [show (0 : Int) = ((0 : Nat) : Int) from rfl,
    call_quickSort hl (a.size + 2) a 0 a.size (Sorter.maxDepth a.size) (by omega)
      (fun h => maxDepth_lt a.size (by omega)) (by omega) (by omega)]
  sl_simp []

end withLess

/-! ## The theorems about today's source -/

/-- `s.Sort()` of the program `P` on the index `ix` with `n` levels of fuel: the index afterwards -/
def interp (P : Prog) (cols : Cols) (n : Nat) (ix : Ix) : R Ix :=
  (callAt P cols n fSort [.sorter] ix).bind fun r => .ok r.2

/-- a list of comparators whose `Less` is the given comparison function -/
def colsOf (less : Nat → Nat → Bool) : Cols := [fun i j => some (if less i j then .lessThan else .equal)]

theorem lessIs_colsOf (less : Nat → Nat → Bool) : LessIs (colsOf less) less := by
  intro i j
  simp only [colsOf, lessOf]
  cases less i j <;> simp

/-- **Today's sorter is the mirror.** For every index array and all comparators (`Less` over them being `less`):
interpreting today's extracted `Sort` with enough fuel returns exactly `Sorter.sort less ix`; with less fuel the
interpreter runs out of fuel — it never returns anything else, and the program never panics. -/
theorem gen_sorter_semantics (cols : Cols) (less : Nat → Nat → Bool) (hl : LessIs cols less) (ix : Ix) :
    (∃ N, ∀ n, N ≤ n → interp Gen.sorterFns cols n ix = .ok (Sorter.sort less ix)) ∧
    (∀ n, interp Gen.sorterFns cols n ix = .timeout ∨ interp Gen.sorterFns cols n ix = .ok (Sorter.sort less ix)) := by
  rw [gen_sorter_canon]
  have h := call_sort hl ix
  refine ⟨?_, fun n => ?_⟩
  · obtain ⟨N, hN⟩ := callLim_ok canonFns cols h
    exact ⟨N, fun n hn => by simp only [interp, hN n hn, bind_ok]⟩
  · rcases callAt_cases canonFns cols h n with q | q
    · left; simp only [interp, q, bind_timeout]
    · right; simp only [interp, q, bind_ok]

/-- … for every comparison function on row numbers, exactly as QF/Core/Sorter.lean abstracts `Less`. -/
theorem gen_sorter_semantics_less (less : Nat → Nat → Bool) (ix : Ix) :
    (∃ N, ∀ n, N ≤ n → interp Gen.sorterFns (colsOf less) n ix = .ok (Sorter.sort less ix)) ∧
    (∀ n, interp Gen.sorterFns (colsOf less) n ix = .timeout ∨
      interp Gen.sorterFns (colsOf less) n ix = .ok (Sorter.sort less ix)) :=
  gen_sorter_semantics (colsOf less) less (lessIs_colsOf less) ix

/-- Whatever today's `Sort` returns (with whatever fuel) is a sorted permutation of the index, for every strict weak
order (`sort_perm`, `sort_sorted_full` of the mirror). -/
theorem gen_sorter_sorted_perm (cols : Cols) (less : Nat → Nat → Bool) (hl : LessIs cols less) (sw0 : Sorter.SWO less)
    (ix r : Ix) (n : Nat) (h : interp Gen.sorterFns cols n ix = .ok r) :
    r.Perm ix ∧ Sorter.Sorted less r 0 ix.size := by
  rcases (gen_sorter_semantics cols less hl ix).2 n with q | q
  · rw [q] at h; cases h
  · rw [q] at h
    cases h
    exact ⟨Sorter.sort_perm less ix, Sorter.sort_sorted_full less sw0 ix⟩

/-- … and it does return (for all sufficiently large fuel). -/
theorem gen_sorter_terminates (cols : Cols) (less : Nat → Nat → Bool) (hl : LessIs cols less) (ix : Ix) :
    ∃ N r, ∀ n, N ≤ n → interp Gen.sorterFns cols n ix = .ok r :=
  let ⟨N, h⟩ := (gen_sorter_semantics cols less hl ix).1
  ⟨N, _, h⟩

/-- The functions of today's source one by one, in the limit semantics (`callLim`: all the fuel that is asked for), for
all arguments within the array: each IS the function of the mirror. -/
theorem gen_sorter_functions (cols : Cols) (less : Nat → Nat → Bool) (hl : LessIs cols less) (a : Ix) :
    (callLim Gen.sorterFns cols fLen [.sorter] a = .ok (.int a.size, a)) ∧
    (∀ x y : Int, 0 ≤ x ∧ x < a.size → 0 ≤ y ∧ y < a.size →
      callLim Gen.sorterFns cols fSwap [.sorter, .int x, .int y] a = .ok (.unit, Sorter.sw a x.toNat y.toNat)) ∧
    (∀ x y : Int, 0 ≤ x ∧ x < a.size → 0 ≤ y ∧ y < a.size →
      callLim Gen.sorterFns cols fLess [.sorter, .int x, .int y] a = .ok (.bool (Sorter.lt less a x.toNat y.toNat), a)) ∧
    (∀ n : Nat, callLim Gen.sorterFns cols fMaxDepth [.int n] a = .ok (.int (Sorter.maxDepth n : Nat), a)) ∧
    (∀ m1 m0 m2 : Int, 0 ≤ m1 ∧ m1 < a.size → 0 ≤ m0 ∧ m0 < a.size → 0 ≤ m2 ∧ m2 < a.size →
      callLim Gen.sorterFns cols fMedianOfThree [.sorter, .int m1, .int m0, .int m2] a =
        .ok (.unit, Sorter.medianOfThree less a m1.toNat m0.toNat m2.toNat)) ∧
    (∀ lo hi : Nat, hi ≤ a.size →
      callLim Gen.sorterFns cols fInsertionSort [.sorter, .int lo, .int hi] a = .ok (.unit, Sorter.insertionSort less a lo hi)) ∧
    (∀ (fuel lo hi first : Nat), hi ≤ fuel + lo → first + hi ≤ a.size →
      callLim Gen.sorterFns cols fSiftDown [.sorter, .int lo, .int hi, .int first] a =
        .ok (.unit, Sorter.siftDown less fuel a lo hi first)) ∧
    (∀ lo hi : Nat, lo ≤ hi → hi ≤ a.size →
      callLim Gen.sorterFns cols fHeapSort [.sorter, .int lo, .int hi] a = .ok (.unit, Sorter.heapSort less a lo hi)) ∧
    (∀ lo hi : Nat, lo + 12 < hi → hi ≤ a.size →
      callLim Gen.sorterFns cols fDoPivot [.sorter, .int lo, .int hi] a =
        .ok (.pair ↑(Sorter.doPivot less a lo hi).2.1 ↑(Sorter.doPivot less a lo hi).2.2, (Sorter.doPivot less a lo hi).1)) ∧
    (∀ fuel lo hi d : Nat, 1 ≤ fuel → (hi - lo > 12 → d < fuel) → lo ≤ hi → hi ≤ a.size →
      callLim Gen.sorterFns cols fQuickSort [.sorter, .int lo, .int hi, .int d] a =
        .ok (.unit, Sorter.quickSort less fuel a lo hi d)) ∧
    (callLim Gen.sorterFns cols fSort [.sorter] a = .ok (.unit, Sorter.sort less a)) := by
  rw [gen_sorter_canon]
  refine ⟨call_len cols a, fun x y hx hy => call_swap cols a x y hx hy, fun x y hx hy => call_less' hl a x y hx hy,
    fun n => call_maxDepth cols a n, fun m1 m0 m2 h1 h0 h2 => call_median hl a m1 m0 m2 h1 h0 h2,
    fun lo hi h => call_insertionSort hl a lo hi h, fun fuel lo hi first h1 h2 => call_siftDown hl fuel a lo hi first ⟨h1, h2⟩,
    fun lo hi h1 h2 => call_heapSort hl a lo hi h1 h2, fun lo hi h1 h2 => (call_doPivot hl a lo hi h1 h2).1,
    fun fuel lo hi d h1 h2 h3 h4 => call_quickSort hl fuel a lo hi d h1 h2 h3 h4, call_sort hl a⟩

/-! ## Witnesses: plausible mutations of the source violate the statements

Each mutant is the canonical program with one function changed the way the translator would render the changed source.
`gen_sorter_canon` fails for it (the terms differ), and the interpreted function differs from the mirror on a concrete
array (kernel evaluation of the interpreter with explicit fuel). -/
section witnesses

/-- `hi-c < (hi-lo)>>1` for `hi-c < (hi-lo)/4` in `doPivot` -/
def dpDupsMut : S := S.ite (E.and (not' (v 9)) (lt (sub (v 2) (v 7)) (E.bin BOp.shr (sub (v 2) (v 1)) (lit 1))))
  (S.block [
    S.define 10 (lit 0),
    S.ite (not' (less (v 5) (sub (v 2) (lit 1)))) (S.block [swap (v 7) (sub (v 2) (lit 1)), S.incr 7, S.incr 10]) nop,
    S.ite (not' (less (sub (v 8) (lit 1)) (v 5))) (S.block [S.decr 8, S.incr 10]) nop,
    S.ite (not' (less (v 3) (v 5))) (S.block [swap (v 3) (sub (v 8) (lit 1)), S.decr 8, S.incr 10]) nop,
    S.assign 9 (gt (v 10) (lit 1))])
  nop

def fnDoPivotMut : Fn := { fnDoPivot with body := S.block [
  S.define 3 (E.un UOp.toInt (E.bin BOp.shr (E.un UOp.toUint (add (v 1) (v 2))) (lit 1))),
  dpNinther,
  median (v 1) (v 3) (sub (v 2) (lit 1)),
  S.define 5 (v 1),
  S.define 6 (add (v 1) (lit 1)),
  S.define 7 (sub (v 2) (lit 1)),
  dpScanA,
  S.define 8 (v 6),
  dpPartLoop,
  S.define 9 (lt (sub (v 2) (v 7)) (lit 5)),
  dpDupsMut,
  S.ite (v 9) (S.block [dpProtLoop]) nop,
  swap (v 5) (sub (v 8) (lit 1)),
  S.ret2 (sub (v 8) (lit 1)) (v 7)] }

def mutQuarter : Prog := canonFns.set fDoPivot fnDoPivotMut

/-- `child := 2*root + 2` for `child := 2*root + 1` in `siftDown` -/
def fnSiftDownMut : Fn := { fnSiftDown with body := S.block [S.define 4 (v 1), S.loop (E.bool true) nop (S.block [
  S.define 5 (add (mul (lit 2) (v 4)) (lit 2)),
  S.ite (ge (v 5) (v 2)) (S.block [S.brk]) nop,
  S.ite (E.and (lt (add (v 5) (lit 1)) (v 2)) (less (add (v 3) (v 5)) (add (add (v 3) (v 5)) (lit 1)))) (S.block [S.incr 5]) nop,
  S.ite (not' (less (add (v 3) (v 4)) (add (v 3) (v 5)))) (S.block [S.ret0]) nop,
  swap (add (v 3) (v 4)) (add (v 3) (v 5)),
  S.assign 4 (v 5)])] }

def mutChild : Prog := canonFns.set fSiftDown fnSiftDownMut

/-- `b < c && data.Less(pivot, b)` for `b < c && !data.Less(pivot, b)` in the partition loop of `doPivot` (only the term check) -/
def mutNot : Prog := canonFns.set fDoPivot { fnDoPivot with body := S.block [
  S.define 3 (E.un UOp.toInt (E.bin BOp.shr (E.un UOp.toUint (add (v 1) (v 2))) (lit 1))),
  dpNinther,
  median (v 1) (v 3) (sub (v 2) (lit 1)),
  S.define 5 (v 1),
  S.define 6 (add (v 1) (lit 1)),
  S.define 7 (sub (v 2) (lit 1)),
  dpScanA,
  S.define 8 (v 6),
  S.loop (E.bool true) nop (S.block [
    S.loop (E.and (lt (v 8) (v 7)) (less (v 5) (v 8))) (S.block [S.incr 8]) nop,
    dpScanC,
    S.ite (ge (v 8) (v 7)) (S.block [S.brk]) nop,
    swap (v 8) (sub (v 7) (lit 1)),
    S.incr 8,
    S.decr 7]),
  S.define 9 (lt (sub (v 2) (v 7)) (lit 5)),
  dpDups,
  S.ite (v 9) (S.block [dpProtLoop]) nop,
  swap (v 5) (sub (v 8) (lit 1)),
  S.ret2 (sub (v 8) (lit 1)) (v 7)] }

example : mutQuarter ≠ canonFns := by decide
example : mutChild ≠ canonFns := by decide
example : mutNot ≠ canonFns := by decide

/-- fifteen rows with the keys 2 1 0 4 3 2 1 0 4 3 2 1 0 4 3 -/
def witKeys : Array Nat := #[2, 1, 0, 4, 3, 2, 1, 0, 4, 3, 2, 1, 0, 4, 3]
def witLess : Nat → Nat → Bool := fun i j => witKeys[i]! < witKeys[j]!

/-- today's `doPivot` on these rows: the mirror's result (with explicit fuel) … -/
example : callAt canonFns (colsOf witLess) 120 fDoPivot [.sorter, .int 0, .int 15] (Array.range 15) =
    .ok (.pair ↑(Sorter.doPivot witLess (Array.range 15) 0 15).2.1 ↑(Sorter.doPivot witLess (Array.range 15) 0 15).2.2,
      (Sorter.doPivot witLess (Array.range 15) 0 15).1) := by decide +kernel
/-- … but not with `>>1` for `/4` -/
example : callAt mutQuarter (colsOf witLess) 120 fDoPivot [.sorter, .int 0, .int 15] (Array.range 15) ≠
    .ok (.pair ↑(Sorter.doPivot witLess (Array.range 15) 0 15).2.1 ↑(Sorter.doPivot witLess (Array.range 15) 0 15).2.2,
      (Sorter.doPivot witLess (Array.range 15) 0 15).1) := by decide +kernel

/-- three rows with the keys 1 5 3: `siftDown(data, 0, 3, 0)` lifts the greater child … -/
def heapLess : Nat → Nat → Bool := fun i j => #[1, 5, 3][i]! < #[1, 5, 3][j]!
example : callAt canonFns (colsOf heapLess) 40 fSiftDown [.sorter, .int 0, .int 3, .int 0] #[0, 1, 2] =
    .ok (.unit, Sorter.siftDown heapLess 4 #[0, 1, 2] 0 3 0) := by decide +kernel
/-- … but not with the child index off by one -/
example : callAt mutChild (colsOf heapLess) 40 fSiftDown [.sorter, .int 0, .int 3, .int 0] #[0, 1, 2] ≠
    .ok (.unit, Sorter.siftDown heapLess 4 #[0, 1, 2] 0 3 0) := by decide +kernel

/-- and the whole `Sort` of today's source on the fifteen rows is the mirror's, by evaluation -/
example : interp Gen.sorterFns (colsOf witLess) 200 (Array.range 15) = .ok (Sorter.sort witLess (Array.range 15)) := by
  decide +kernel

end witnesses

end QF.Props.C03SorterGen
