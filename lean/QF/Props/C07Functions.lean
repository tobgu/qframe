import QF.Gen.Facts
import QF.Gen.Functions
/-!
# C07 — the functions of the default evaluation context in today's source mean what the spec says (tie T1, by semantics)

`QFrame.Eval` (and built-in `Apply`) take the function for an operator from `eval.NewDefaultCtx()`. The extractor
regenerates on every run

* `QF.Gen.evalCtx`     — the table operand type × arity × operator name ↦ function (go/cmd/extract/gen.go), and
* `QF.Gen.functionAst` — the body of every function of package `function` as a term of `QF.FE`
                         (go/cmd/extract/fast.go; `FE.eval`, QF/Core/FExpr.lean, is the Go meaning of such a term).

The spec of Eval, `denExpr` (QF/Spec/Ops.lean), applies `evalUnary "d" op t` / `evalBinary "d" op t` to the cells
("d" = the default context). This file proves, over the data generated TODAY:

* `gen_ctx_functions_known` — every function of package `function` the context names has a term; `gen_ctx_external`
                              lists the entries of the context that are not in package `function` (they stay parameters)
* `gen_ctx_no_opaque`       — those terms were translated completely (both, and `gen_ctx_arity`, are read off the one
                              finite check `gen_ctx_terms`)
* `gen_function_semantics`  — for every operand type `t` and operator `op` for which the spec has a function `g`
                              (`evalUnary "d" op t = some (rt, g)` / `evalBinary "d" op t = some g`): the context maps
                              (t, op) to a function F, `functionAst` has a term for F, and on ALL cells of the operand type
                              the term evaluates to `g` — and the result is a cell of the result type (`Implements1/2`).
                              The one exception is stated in the theorem: float `abs` is `math.Abs`, not in package function.
* `gen_ctx_covered`, `spec_gaps` — every entry of the context is one of the above or one of the seven entries for which the
                              spec deliberately has no function (`specGaps`: division, int→float, float→int, float→string,
                              upper, lower); for those nothing is proved against the spec, `gap_terms_meaning` records what
                              the extracted terms mean under `FE.eval`.

Method as in C02Kernels: `decide` shows that each generated term IS the expected term (`gen_*_canon`: finite, re-checked
whenever the source changes); on a cell of its kind an expected term and the spec's function both compute (`rfl` in
`gen_function_semantics_unary` / `_binary`; `absI_sem` where the range matters).

"Cells of the operand type" (`cellIn`): an int cell holding a Go `int` (64 bit: `int64 v`), a float, a bool, a nullable
string for string and enum columns (enum columns take the string functions: `fkind`). The range matters: the spec
writes `wrap64 (if x < 0 then -x else x)` for abs where the code returns `x` itself for `x ≥ 0`.

The spec and today's terms agree also at the edges: 64-bit wrap-around of `+ - *`, `abs MinInt64 = MinInt64`,
nil handling of `ConcatS` (nil is the neutral element: `nil + y = y`, `x + nil = x`, so `nil + nil = nil`).
-/
namespace QF.Props.C07Functions
open QF

/-! ## Looking a function up through the context -/

abbrev Ctx := List (String × String × String × String)
abbrev FList := List (String × FE)

/-- the context's name of the operand kind (`types.FunctionType…`); enum columns are `FunctionTypeString` -/
def ctxTyK : CType → String
  | .int => "Int" | .float => "Float" | .bool => "Bool" | .string => "String" | .enum => "String" | .undef => "Undefined"

/-- the function a context maps (operand type, arity, operator) to -/
def ctxFnIn (ctx : Ctx) (ty arity op : String) : Option String :=
  (ctx.find? (fun e => e.1 == ty && e.2.1 == arity && e.2.2.1 == op)).map (·.2.2.2)
/-- the term of a function in a list of translated functions -/
def termIn (l : FList) (F : String) : Option FE := l.lookup F
def genTermIn (ctx : Ctx) (l : FList) (ty arity op : String) : Option FE := (ctxFnIn ctx ty arity op).bind (termIn l)

/-- today's context and terms -/
def ctxFn (ty arity op : String) : Option String := ctxFnIn Gen.evalCtx ty arity op
def fnTerm (F : String) : Option FE := termIn Gen.functionAst F
def genTerm (ty arity op : String) : Option FE := genTermIn Gen.evalCtx Gen.functionAst ty arity op

theorem genTerm_eq (ty arity op : String) : genTerm ty arity op = (ctxFn ty arity op).bind fnTerm := rfl

theorem genTerm_eq_some {ty arity op : String} {e : FE} :
    genTerm ty arity op = some e ↔ ∃ F, ctxFn ty arity op = some F ∧ fnTerm F = some e :=
  Option.bind_eq_some_iff

def pkgChars : List Char → List Char
  | [] => []
  | c :: cs => if c = '.' then [] else c :: pkgChars cs
/-- the package of a qualified name `pkg.Name` -/
def pkgOfFn (F : String) : String := String.ofList (pkgChars F.toList)

/-! ## The context's functions are known -/

/-- The finite check of today's table against today's terms. The three statements about the table that follow are
read off it, so that each function is looked up once: every function the context names, `math.Abs` aside, has a term
in `Gen.functionAst`; no term has a part the translator did not understand; the term of a one-argument entry does not
mention the second parameter. -/
theorem gen_ctx_terms : ∀ e ∈ Gen.evalCtx,
    (e.2.2.2 ≠ "math.Abs" → (fnTerm e.2.2.2).isSome = true) ∧
    (fnTerm e.2.2.2).all (fun t => !t.hasOpaque && (e.2.1 != "singleArgs" || !t.usesY)) = true := by
  decide +kernel

theorem pkgOfFn_mathAbs : pkgOfFn "math.Abs" ≠ "function" := by decide +kernel

/-- Every function of package `function` named in today's default context has a term in `Gen.functionAst`. -/
theorem gen_ctx_functions_known :
    ∀ e ∈ Gen.evalCtx, pkgOfFn e.2.2.2 = "function" → (fnTerm e.2.2.2).isSome = true :=
  fun e he hp => (gen_ctx_terms e he).1 fun h => pkgOfFn_mathAbs (h ▸ hp)

/-- The entries of the context that are NOT in package `function`: float `abs` is `math.Abs`. It stays a parameter of
the model (the spec's float `abs` clears the sign bit). `strings.ToUpper` / `strings.ToLower` occur inside the terms of
`function.UpperS` / `function.LowerS` (`FE.ext`, parameter `FParams.strFn`). -/
theorem gen_ctx_external :
    Gen.evalCtx.filter (fun e => pkgOfFn e.2.2.2 != "function") = [("Float", "singleArgs", "abs", "math.Abs")] := by
  decide +kernel

/-- None of the context's functions translates to (a term containing) `.opaque`. -/
theorem gen_ctx_no_opaque :
    ∀ e ∈ Gen.evalCtx, pkgOfFn e.2.2.2 = "function" → (fnTerm e.2.2.2).any (fun t => !t.hasOpaque) = true := by
  intro e he hp
  obtain ⟨t, ht⟩ := Option.isSome_iff_exists.1 (gen_ctx_functions_known e he hp)
  have h := (gen_ctx_terms e he).2
  rw [ht, Option.all_some, Bool.and_eq_true] at h
  rw [ht]
  exact h.1

/-- Arity: the terms of the one-argument functions do not mention the second parameter. -/
theorem gen_ctx_arity :
    ∀ e ∈ Gen.evalCtx, e.2.1 = "singleArgs" → (fnTerm e.2.2.2).all (fun t => !t.usesY) = true := by
  intro e he ha
  refine (Option.all_eq_true _ _).2 fun t ht => ?_
  have h := (Option.all_eq_true _ _).1 (gen_ctx_terms e he).2 t ht
  rw [ha, bne_self_eq_false, Bool.false_or, Bool.and_eq_true] at h
  exact h.2

/-! ## Today's terms are the expected ones (finite checks over `QF.Gen`, redone on every run) -/

theorem gen_int_canon :
    genTerm "Int" "singleArgs" "abs" = some (.ite (.cmp "<" .x (.intLit 0)) (.neg .x) .x) ∧
    genTerm "Int" "singleArgs" "str" = some (.addr (.itoa .x)) ∧
    genTerm "Int" "singleArgs" "bool" = some (.cmp "!=" .x (.intLit 0)) ∧
    genTerm "Int" "doubleArgs" "+" = some (.add .x .y) ∧
    genTerm "Int" "doubleArgs" "-" = some (.sub .x .y) ∧
    genTerm "Int" "doubleArgs" "*" = some (.mul .x .y) := by
  decide +kernel

theorem gen_float_canon :
    ctxFn "Float" "singleArgs" "abs" = some "math.Abs" ∧
    genTerm "Float" "doubleArgs" "+" = some (.add .x .y) ∧
    genTerm "Float" "doubleArgs" "-" = some (.sub .x .y) ∧
    genTerm "Float" "doubleArgs" "*" = some (.mul .x .y) := by
  decide +kernel

theorem gen_bool_canon :
    genTerm "Bool" "singleArgs" "!" = some (.not .x) ∧
    genTerm "Bool" "singleArgs" "str" = some (.addr (.formatBool .x)) ∧
    genTerm "Bool" "singleArgs" "int" = some (.ite .x (.intLit 1) (.intLit 0)) ∧
    genTerm "Bool" "doubleArgs" "&" = some (.and .x .y) ∧
    genTerm "Bool" "doubleArgs" "|" = some (.or .x .y) ∧
    genTerm "Bool" "doubleArgs" "!=" = some (.or (.and .x (.not .y)) (.and (.not .x) .y)) ∧
    genTerm "Bool" "doubleArgs" "nand" = some (.not (.and .x .y)) := by
  decide +kernel

theorem gen_string_canon :
    genTerm "String" "singleArgs" "str" = some .x ∧
    genTerm "String" "singleArgs" "len" = some (.ite (.cmp "==" .x .nil) (.intLit 0) (.strLen (.deref .x))) ∧
    genTerm "String" "doubleArgs" "+" =
      some (.ite (.cmp "==" .x .nil) .y (.ite (.cmp "==" .y .nil) .x (.addr (.add (.deref .x) (.deref .y))))) := by
  decide +kernel

/-- the entries of the context for which the spec has no function -/
theorem gen_gap_canon :
    genTerm "Int" "doubleArgs" "/" = some (.div .x .y) ∧
    genTerm "Int" "singleArgs" "float" = some (.toFloat .x) ∧
    genTerm "Float" "doubleArgs" "/" = some (.div .x .y) ∧
    genTerm "Float" "singleArgs" "int" = some (.toInt .x) ∧
    genTerm "Float" "singleArgs" "str" = some (.addr (.sprintf "%f" .x)) ∧
    genTerm "String" "singleArgs" "upper" = some (.ite (.cmp "==" .x .nil) .nil (.addr (.ext "strings.ToUpper" (.deref .x)))) ∧
    genTerm "String" "singleArgs" "lower" = some (.ite (.cmp "==" .x .nil) .nil (.addr (.ext "strings.ToLower" (.deref .x)))) := by
  decide +kernel

/-! ## Cells of the operand type -/

/-- Go's `int` -/
def int64 (v : Int) : Prop := -9223372036854775808 ≤ v ∧ v < 9223372036854775808
instance (v : Int) : Decidable (int64 v) := by unfold int64; infer_instance

/-- cells of an operand kind -/
def cellInK : CType → Cell → Prop
  | .int, .int v => int64 v
  | .float, .float _ => True
  | .bool, .bool _ => True
  | .string, .str _ => True
  | _, _ => False

/-- cells of a column type, as a function of the context sees them -/
def cellIn (t : CType) (x : Cell) : Prop := cellInK (fkind t) x

theorem wrap64_int64 (v : Int) : int64 (wrap64 v) := by
  simp only [wrap64, int64]; split <;> omega

theorem wrap64_id {v : Int} (h : int64 v) : wrap64 v = v := by
  simp only [wrap64, int64] at *; split <;> omega

/-- The term `k` is there and computes the one-argument function `g` on every cell of kind `t`, with results of type `rt`. -/
def Implements1 (k : Option FE) (t rt : CType) (g : Cell → Cell) : Prop :=
  ∃ e, k = some e ∧ ∀ (P : FParams) (x y : Cell), cellInK t x → e.eval P x y = some (g x) ∧ cellType (g x) = rt

/-- The term `k` is there and computes the two-argument function `g` on every pair of cells of kind `t`, with results
of the same type. -/
def Implements2 (k : Option FE) (t : CType) (g : Cell → Cell → Cell) : Prop :=
  ∃ e, k = some e ∧ ∀ (P : FParams) (x y : Cell), cellInK t x → cellInK t y → e.eval P x y = some (g x y) ∧ cellType (g x y) = t

/-- `AbsI`: `-x` wraps, so `abs MinInt64 = MinInt64`; for `x ≥ 0` the code returns `x` unchanged, which is the spec's
`wrap64 x` on 64-bit ints only. -/
theorem absI_sem (P : FParams) (v : Int) (hv : int64 v) (y : Cell) :
    (FE.ite (.cmp "<" .x (.intLit 0)) (.neg .x) .x).eval P (.int v) y = some (.int (wrap64 (if v < 0 then -v else v))) := by
  by_cases h : v < 0
  · simp [FE.eval, FE.evalV, FV.ofCell, FV.toCell, fcmpV, fcmpInt, h]
  · simp [FE.eval, FE.evalV, FV.ofCell, FV.toCell, fcmpV, fcmpInt, h, wrap64_id hv]

/-! ## From the cells of a kind to `Implements1` / `Implements2`

A cell of a kind is built with the kind's constructor (`cellInK` is `False` on the others, which closes their cases). -/

theorem cellInK_int {x : Cell} (h : cellInK .int x) : ∃ v, x = .int v := match x, h with | .int v, _ => ⟨v, rfl⟩
theorem cellInK_float {x : Cell} (h : cellInK .float x) : ∃ b, x = .float b := match x, h with | .float b, _ => ⟨b, rfl⟩
theorem cellInK_bool {x : Cell} (h : cellInK .bool x) : ∃ b, x = .bool b := match x, h with | .bool b, _ => ⟨b, rfl⟩
theorem cellInK_str {x : Cell} (h : cellInK .string x) : ∃ s, x = .str s := match x, h with | .str s, _ => ⟨s, rfl⟩

section Lift
variable {α : Type} {K : α → Cell} {t : CType} (inv : ∀ {x}, cellInK t x → ∃ a, x = K a)
  {k : Option FE} {e : FE} (hk : k = some e)
include inv hk

/-- the cells of kind `t` are the `K a`: a term that computes `g` on those implements it on the kind -/
theorem impl1_of {rt : CType} {g : Cell → Cell}
    (h : ∀ (P : FParams) (a : α) (y : Cell), e.eval P (K a) y = some (g (K a)) ∧ cellType (g (K a)) = rt) :
    Implements1 k t rt g :=
  ⟨e, hk, fun P x y hx => by obtain ⟨a, rfl⟩ := inv hx; exact h P a y⟩

theorem impl2_of {g : Cell → Cell → Cell}
    (h : ∀ (P : FParams) (a b : α), e.eval P (K a) (K b) = some (g (K a) (K b)) ∧ cellType (g (K a) (K b)) = t) :
    Implements2 k t g :=
  ⟨e, hk, fun P x y hx hy => by obtain ⟨a, rfl⟩ := inv hx; obtain ⟨b, rfl⟩ := inv hy; exact h P a b⟩

end Lift

/-! ## The theorem -/

theorem noUser : ctxHasUser "d" = false := by decide

/-- One-argument operators: wherever the spec of Eval has a function for (operand type, operator) in the default context,
the context's function — found through today's `Gen.evalCtx`, with the body extracted from today's source — computes it
on all cells of the type. Exception: float `abs`, which the context maps to `math.Abs` (not in package `function`). -/
theorem gen_function_semantics_unary (t : CType) (op : String) (rt : CType) (g : Cell → Cell)
    (h : evalUnary "d" op t = some (rt, g)) :
    (fkind t = .float ∧ op = "abs" ∧ ctxFn (ctxTyK (fkind t)) "singleArgs" op = some "math.Abs") ∨
    Implements1 (genTerm (ctxTyK (fkind t)) "singleArgs" op) (fkind t) rt g := by
  unfold evalUnary evalUnaryBase at h
  simp only [noUser, Bool.false_and, Bool.false_eq_true, ↓reduceIte, Bool.not_false, Bool.and_true] at h
  generalize fkind t = k at h ⊢
  split at h
  · cases h
  -- the cases of the spec's table, in its order; the operators "my…" belong to the user contexts
  rename_i hmy
  split at h <;> cases h
  · exact .inr ⟨_, gen_int_canon.1, fun P x y hx => match x, hx with | .int v, hv => ⟨absI_sem P v hv y, rfl⟩⟩
  · exact .inr (impl1_of cellInK_int gen_int_canon.2.1 fun P v y => ⟨rfl, rfl⟩)
  · exact .inr (impl1_of cellInK_int gen_int_canon.2.2.1 fun P v y => ⟨rfl, rfl⟩)
  · exact absurd (by decide +kernel) hmy
  · exact .inl ⟨rfl, rfl, gen_float_canon.1⟩
  · exact absurd (by decide +kernel) hmy
  · exact .inr (impl1_of cellInK_bool gen_bool_canon.1 fun P b y => ⟨rfl, rfl⟩)
  · exact .inr (impl1_of cellInK_bool gen_bool_canon.2.1 fun P b y => ⟨rfl, rfl⟩)
  · exact .inr (impl1_of cellInK_bool gen_bool_canon.2.2.1 fun P b y => by cases b <;> exact ⟨rfl, rfl⟩)
  · exact .inr (impl1_of cellInK_str gen_string_canon.1 fun P s y => ⟨rfl, rfl⟩)
  -- `LenS`: 0 for nil, the number of bytes otherwise
  · exact .inr (impl1_of cellInK_str gen_string_canon.2.1 fun P s y => by cases s <;> exact ⟨rfl, rfl⟩)
  · exact absurd (by decide +kernel) hmy
  · exact absurd (by decide +kernel) hmy

/-- Two-argument operators: wherever the spec of Eval has a function for (operand type, operator) in the default context,
the context's function computes it on all pairs of cells of the type — with 64-bit wrap-around for int `+ - *`, on the
bit patterns for float `+ - *`, and with nil as the neutral element of string `+`. -/
theorem gen_function_semantics_binary (t : CType) (op : String) (g : Cell → Cell → Cell)
    (h : evalBinary "d" op t = some g) :
    Implements2 (genTerm (ctxTyK (fkind t)) "doubleArgs" op) (fkind t) g := by
  unfold evalBinary evalBinaryBase at h
  simp only [noUser, Bool.false_and, Bool.false_eq_true, ↓reduceIte, Bool.not_false, Bool.and_true] at h
  generalize fkind t = k at h ⊢
  split at h
  · cases h
  rename_i hmy
  split at h
  · rename_i ho
    simp at ho
  split at h <;> cases h
  · exact impl2_of cellInK_int gen_int_canon.2.2.2.1 fun P a b => ⟨rfl, rfl⟩
  · exact impl2_of cellInK_int gen_int_canon.2.2.2.2.1 fun P a b => ⟨rfl, rfl⟩
  · exact absurd (by decide +kernel) hmy
  · exact impl2_of cellInK_int gen_int_canon.2.2.2.2.2 fun P a b => ⟨rfl, rfl⟩
  · exact impl2_of cellInK_float gen_float_canon.2.1 fun P a b => ⟨rfl, rfl⟩
  · exact impl2_of cellInK_float gen_float_canon.2.2.1 fun P a b => ⟨rfl, rfl⟩
  · exact impl2_of cellInK_float gen_float_canon.2.2.2 fun P a b => ⟨rfl, rfl⟩
  · exact impl2_of cellInK_bool gen_bool_canon.2.2.2.1 fun P a b => by cases a <;> exact ⟨rfl, rfl⟩
  · exact impl2_of cellInK_bool gen_bool_canon.2.2.2.2.1 fun P a b => by cases a <;> exact ⟨rfl, rfl⟩
  -- `XorB`: `(x && !y) || (!x && y)` is `x != y`
  · exact impl2_of cellInK_bool gen_bool_canon.2.2.2.2.2.1 fun P a b => by cases a <;> cases b <;> exact ⟨rfl, rfl⟩
  -- `NandB`: `!AndB(x, y)` with `AndB`'s body for the call
  · exact impl2_of cellInK_bool gen_bool_canon.2.2.2.2.2.2 fun P a b => by cases a <;> exact ⟨rfl, rfl⟩
  -- `ConcatS`: nil is neutral on both sides (so nil + nil = nil), otherwise the bytes are concatenated
  · exact impl2_of cellInK_str gen_string_canon.2.2 fun P s t => by cases s <;> cases t <;> exact ⟨rfl, rfl⟩

/-- **The functions of today's default context compute the spec's functions.** For every operand type `t` and operator
`op` for which the spec of Eval has an entry in the default context — `evalUnary "d" op t = some (rt, g)`, resp.
`evalBinary "d" op t = some g` — the context extracted from today's source maps (t, op) to a function whose body, extracted
from today's source, evaluates to `g` on ALL cells of the operand type (`Implements1`, `Implements2`; int cells hold a
64-bit Go `int`). Float `abs` is the one entry that is not a function of package `function` (`math.Abs`). -/
theorem gen_function_semantics :
    (∀ (t : CType) (op : String) (rt : CType) (g : Cell → Cell), evalUnary "d" op t = some (rt, g) →
      (fkind t = .float ∧ op = "abs" ∧ ctxFn (ctxTyK (fkind t)) "singleArgs" op = some "math.Abs") ∨
      Implements1 (genTerm (ctxTyK (fkind t)) "singleArgs" op) (fkind t) rt g) ∧
    (∀ (t : CType) (op : String) (g : Cell → Cell → Cell), evalBinary "d" op t = some g →
      Implements2 (genTerm (ctxTyK (fkind t)) "doubleArgs" op) (fkind t) g) :=
  ⟨gen_function_semantics_unary, gen_function_semantics_binary⟩

/-- The same, unfolded: the named function exists in the context and in the term list, and its term agrees with the spec
on every cell of the operand type. -/
theorem gen_function_semantics_binary' (t : CType) (op : String) (g : Cell → Cell → Cell) (h : evalBinary "d" op t = some g) :
    ∃ F e, ctxFn (ctxTyK (fkind t)) "doubleArgs" op = some F ∧ fnTerm F = some e ∧
      ∀ (P : FParams) (x y : Cell), cellIn t x → cellIn t y → e.eval P x y = some (g x y) := by
  obtain ⟨e, hk, hs⟩ := gen_function_semantics_binary t op g h
  obtain ⟨F, hF, he⟩ := genTerm_eq_some.1 hk
  exact ⟨F, e, hF, he, fun P x y hx hy => (hs P x y hx hy).1⟩

theorem gen_function_semantics_unary' (t : CType) (op : String) (rt : CType) (g : Cell → Cell)
    (h : evalUnary "d" op t = some (rt, g)) (hne : ¬ (fkind t = .float ∧ op = "abs")) :
    ∃ F e, ctxFn (ctxTyK (fkind t)) "singleArgs" op = some F ∧ fnTerm F = some e ∧
      ∀ (P : FParams) (x y : Cell), cellIn t x → e.eval P x y = some (g x) := by
  rcases gen_function_semantics_unary t op rt g h with ⟨h1, h2, _⟩ | ⟨e, hk, hs⟩
  · exact absurd ⟨h1, h2⟩ hne
  obtain ⟨F, hF, he⟩ := genTerm_eq_some.1 hk
  exact ⟨F, e, hF, he, fun P x y hx => (hs P x y hx).1⟩

/-- Integer results stay in Go's `int`: what the terms of `+ - *` and `abs` return is again a cell of the type. -/
theorem int_ops_in_range (P : FParams) (a b : Int) (y : Cell) :
    (∃ v, (FE.add .x .y).eval P (.int a) (.int b) = some (.int v) ∧ int64 v) ∧
    (∃ v, (FE.sub .x .y).eval P (.int a) (.int b) = some (.int v) ∧ int64 v) ∧
    (∃ v, (FE.mul .x .y).eval P (.int a) (.int b) = some (.int v) ∧ int64 v) ∧
    (int64 a → ∃ v, (FE.ite (.cmp "<" .x (.intLit 0)) (.neg .x) .x).eval P (.int a) y = some (.int v) ∧ int64 v) :=
  ⟨⟨_, rfl, wrap64_int64 _⟩, ⟨_, rfl, wrap64_int64 _⟩, ⟨_, rfl, wrap64_int64 _⟩,
   fun h => ⟨_, absI_sem P a h y, wrap64_int64 _⟩⟩

/-- `abs` of MinInt64 is MinInt64 — in the term (`-x` wraps) and in the spec alike. -/
theorem abs_minInt64 (P : FParams) (y : Cell) :
    (FE.ite (.cmp "<" .x (.intLit 0)) (.neg .x) .x).eval P (.int (-9223372036854775808)) y = some (.int (-9223372036854775808)) := by
  rw [absI_sem P _ (by decide) y]; decide

/-! ## Where the spec is silent

The context has seven entries for which `evalUnary` / `evalBinary` deliberately have no function in the default context
(the replay driver treats an expression using them as outside the spec). Nothing is proved about them against the
spec; `gen_ctx_covered` makes sure that there are no others, `gap_terms_meaning` records what today's terms mean. -/

/-- (operand type, arity, operator) of the context's entries the spec has no function for -/
def specGaps : List (String × String × String) :=
  [("Int", "doubleArgs", "/"), ("Int", "singleArgs", "float"),
   ("Float", "doubleArgs", "/"), ("Float", "singleArgs", "int"), ("Float", "singleArgs", "str"),
   ("String", "singleArgs", "upper"), ("String", "singleArgs", "lower")]

/-- (operand type, arity, operator) of the entries treated by `gen_function_semantics` -/
def specEntries : List (String × String × String) :=
  [("Int", "singleArgs", "abs"), ("Int", "singleArgs", "str"), ("Int", "singleArgs", "bool"),
   ("Int", "doubleArgs", "+"), ("Int", "doubleArgs", "-"), ("Int", "doubleArgs", "*"),
   ("Float", "singleArgs", "abs"), ("Float", "doubleArgs", "+"), ("Float", "doubleArgs", "-"), ("Float", "doubleArgs", "*"),
   ("Bool", "singleArgs", "!"), ("Bool", "singleArgs", "str"), ("Bool", "singleArgs", "int"),
   ("Bool", "doubleArgs", "&"), ("Bool", "doubleArgs", "|"), ("Bool", "doubleArgs", "!="), ("Bool", "doubleArgs", "nand"),
   ("String", "singleArgs", "str"), ("String", "singleArgs", "len"), ("String", "doubleArgs", "+")]

/-- Every entry of today's context is treated by `gen_function_semantics` or is one of the seven listed gaps: an entry
added to the context without a spec is noticed. -/
theorem gen_ctx_covered : ∀ e ∈ Gen.evalCtx, (e.1, e.2.1, e.2.2.1) ∈ specEntries ++ specGaps := by
  decide +kernel

/-- The spec has no function for the gaps. -/
theorem spec_gaps :
    evalBinary "d" "/" .int = none ∧ evalUnary "d" "float" .int = none ∧
    evalBinary "d" "/" .float = none ∧ evalUnary "d" "int" .float = none ∧ evalUnary "d" "str" .float = none ∧
    evalUnary "d" "upper" .string = none ∧ evalUnary "d" "lower" .string = none := by
  simp only [← Option.isNone_iff_eq_none]
  decide +kernel

/-- What today's terms of the gap entries mean under `FE.eval`: int `/` panics (no value) on a zero divisor and
truncates otherwise (MinInt64 / -1 wraps); `float` is the conversion `fOfInt`; float `/` is `fDiv`; float→int and
float→string are the parameters `f2i`, `sprintf "%f"`; upper keeps null and applies the external function (lower has the same term
with `strings.ToLower` and is not restated). -/
theorem gap_terms_meaning (P : FParams) (a b : Int) (u v : UInt64) (s : Option Bytes) (y : Cell) :
    (FE.div .x .y).eval P (.int a) (.int b) = (if b = 0 then none else some (.int (wrap64 (Int.tdiv a b)))) ∧
    (FE.toFloat .x).eval P (.int a) y = some (.float (fOfInt a)) ∧
    (FE.div .x .y).eval P (.float u) (.float v) = some (.float (fDiv u v)) ∧
    (FE.toInt .x).eval P (.float u) y = some (.int (P.f2i u)) ∧
    (FE.addr (.sprintf "%f" .x)).eval P (.float u) y = some (.str (some (P.sprintf "%f" u))) ∧
    (FE.ite (.cmp "==" .x .nil) .nil (.addr (.ext "strings.ToUpper" (.deref .x)))).eval P (.str s) y
      = some (.str (s.map (P.strFn "strings.ToUpper"))) := by
  refine ⟨?_, rfl, rfl, rfl, rfl, by cases s <;> rfl⟩
  show ((goDivInt a b).map FV.int).bind FV.toCell = _
  unfold goDivInt
  split <;> rfl

/-! ## The statement is not vacuous -/

section Examples

/-- the spec's int `+`, `-` (what `evalBinary "d"` returns, see `spec_int_plus_minus`) -/
def specPlusI : Cell → Cell → Cell := fun a b => match a, b with | .int x, .int y => .int (wrap64 (x + y)) | x, _ => x
def specMinusI : Cell → Cell → Cell := fun a b => match a, b with | .int x, .int y => .int (wrap64 (x - y)) | x, _ => x

theorem spec_int_plus_minus : evalBinary "d" "+" .int = some specPlusI ∧ evalBinary "d" "-" .int = some specMinusI :=
  ⟨rfl, rfl⟩

/-- today's list with `x + y` replaced by `x - y` in `PlusI` (what the extractor produces for that change) -/
def mutatedPlus : FList :=
  Gen.functionAst.map (fun k => if k.1 = "function.PlusI" then (k.1, FE.sub .x .y) else k)
/-- today's list with the operands of `-` swapped in `MinusI` (`return y - x`) -/
def mutatedMinus : FList :=
  Gen.functionAst.map (fun k => if k.1 = "function.MinusI" then (k.1, FE.sub .y .x) else k)

theorem mutatedPlus_term : genTermIn Gen.evalCtx mutatedPlus "Int" "doubleArgs" "+" = some (.sub .x .y) := by
  decide +kernel
theorem mutatedMinus_term : genTermIn Gen.evalCtx mutatedMinus "Int" "doubleArgs" "-" = some (.sub .y .x) := by
  decide +kernel

/-- the finite checks fail on the mutated lists … -/
example : genTermIn Gen.evalCtx mutatedPlus "Int" "doubleArgs" "+" ≠ some (.add .x .y) := by
  rw [mutatedPlus_term]; decide
example : genTermIn Gen.evalCtx mutatedMinus "Int" "doubleArgs" "-" ≠ some (.sub .x .y) := by
  rw [mutatedMinus_term]; decide

/-- … and so does the statement itself: `1 + 1` is 2, the mutated `PlusI` returns 0. -/
example : ¬ Implements2 (genTermIn Gen.evalCtx mutatedPlus "Int" "doubleArgs" "+") .int specPlusI := by
  rintro ⟨e, hk, hs⟩
  cases mutatedPlus_term.symm.trans hk
  have : (FE.sub .x .y).eval {} (.int 1) (.int 1) = some (specPlusI (.int 1) (.int 1)) :=
    (hs {} (.int 1) (.int 1) (by decide : int64 1) (by decide : int64 1)).1
  exact absurd this (by decide)

/-- swapped operands of `-`: `3 - 1` is 2, `MinusI` with `y - x` returns -2. -/
example : ¬ Implements2 (genTermIn Gen.evalCtx mutatedMinus "Int" "doubleArgs" "-") .int specMinusI := by
  rintro ⟨e, hk, hs⟩
  cases mutatedMinus_term.symm.trans hk
  have : (FE.sub .y .x).eval {} (.int 3) (.int 1) = some (specMinusI (.int 3) (.int 1)) :=
    (hs {} (.int 3) (.int 1) (by decide : int64 3) (by decide : int64 1)).1
  exact absurd this (by decide)

/-- wrap-around matters: a `PlusI` that did not wrap (unbounded `x + y`) would differ from the spec at MaxInt64 + 1 -/
example : specPlusI (.int 9223372036854775807) (.int 1) = .int (-9223372036854775808) := by decide

/-- `abs` without the wrap of `-x` (unbounded negation) would differ at MinInt64 -/
example : (FE.ite (.cmp "<" .x (.intLit 0)) (.neg .x) .x).eval {} (.int (-9223372036854775808)) (.int 0)
    ≠ some (.int 9223372036854775808) := by
  rw [abs_minInt64]; decide

/-- a `ConcatS` that returned nil as soon as one side is nil (SQL style) is not the spec's: "a" + nil = "a" -/
example : (FE.ite (.or (.cmp "==" .x .nil) (.cmp "==" .y .nil)) .nil (.addr (.add (.deref .x) (.deref .y)))).eval {}
      (.str (some [97])) (.str none) = some (.str none) := by
  simp [FE.eval, FE.evalV, FV.ofCell, FV.toCell, fcmpV, fcmpPtr]

/-- an untranslated body has no meaning: nothing is implemented -/
example : ¬ Implements2 (some (FE.opaque "{ return f(x, y) }")) .int specPlusI := by
  rintro ⟨e, hk, hs⟩
  cases hk
  exact absurd (hs {} (.int 0) (.int 0) (by decide : int64 0) (by decide : int64 0)).1 (by decide)

end Examples

end QF.Props.C07Functions
