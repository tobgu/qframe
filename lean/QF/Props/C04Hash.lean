import QF.Props.C03Compare
import QF.Props.C04Spec
import QF.Core.F64Lemmas
import QF.Gen.Hash
/-!
# C04 / C05 — the row hashes of today's source agree on rows that compare Equal (tie T1, by semantics)

GroupBy and Distinct find the group of a row in a hash table (internal/grouper): `table.hash` folds `Comparable.Hash`
over the key columns, `insertEntry` probes the entries with that hash and `equals` (C03Compare:
`grouper_equals_eq_rowKeyEq`) decides. The table is only correct if rows that `equals` identifies hash equal — otherwise
two equal keys land in different probe sequences and open two groups.

`QF.Gen.hashAst` (regenerated on every run by go/cmd/extract/hast.go) holds `Comparable.Hash` of each of the five column
packages as a term of `QF.HE`; `HE.eval` (QF/Core/HExpr.lean) is its Go meaning, with `hash.HashBytes` an arbitrary
function `H` of (bytes, seed) and every `rand.Uint64()` an arbitrary value. This file proves, for the terms generated
TODAY:

* `gen_hash_no_opaque`           — `Hash` of every package was translated completely
* `gen_hash_total`               — it returns a value on every cell of the column's type
* `gen_hash_respects_equality`   — for every column type, both settings of `equalNull`, every `H`, seed and random values,
                                   and ALL cells `x`, `y` of the type: if today's comparator `Comparable(false, equalNull,
                                   false)` (what GroupBy / Distinct use) says `Equal` for (`x`, `y`), the two hashes are
                                   the same value
* `grouper_hash_respects_rowKeyEq` — grouper.go's `table.hash` over today's hash functions of the key columns gives the
                                   same value on two rows with `rowKeyEq`

Method (as in C03Compare): `decide` shows that each generated term IS the canonical term of its type (`gen_hash_canon`);
`canon_hash_val` gives their value on every cell of the type (`HashBytes` of bytes that depend on the cell only, or the
random value), `canon_hash_eq` that cells with the spec's key equality yield the same bytes. The `random` branch is
reached only for a null cell under ¬equalNull, which compares `Equal` to nothing.
-/
namespace QF.Props.C04Hash
open QF QF.Props.C03Compare

abbrev HashFn := List UInt8 → UInt64 → UInt64

/-- `Comparable(fl).Hash(i, seed)` for the given translations, on the cell `x` at `i` -/
def hashIn (asts : List (String × HE)) (progs : List (String × List FStmt)) (H : HashFn) (rnd : UInt64) (ty : CType)
    (vals : List Bytes) (fl : CFlags) (x : Cell) (seed : UInt64) : Option UInt64 :=
  match asts.lookup (pkgOf ty), (progs.lookup (pkgOf ty)).bind (fun p => runFields p fl) with
  | some h, some F => h.eval H rnd ty vals F x seed
  | _, _ => none

/-- … for today's source -/
def genHash (H : HashFn) (rnd : UInt64) (ty : CType) (vals : List Bytes) (fl : CFlags) (x : Cell) (seed : UInt64) :
    Option UInt64 :=
  hashIn Gen.hashAst Gen.comparableFields H rnd ty vals fl x seed

/-! ## Canonical terms -/

/-- `c.equalNullValue == column.NotEqual` -/
def nullsDiffer : HCond := .fieldEq .equalNull .notEqual

def canonHash : CType → HE
  | .int => .hashBytes .rawInt
  | .float => .ite (.and .isNaN nullsDiffer) .random (.hashBytes (.floatBits true true))
  | .bool => .ite .isTrue (.hashBytes (.oneByte 1)) (.hashBytes (.oneByte 0))
  | .string => .ite .isNull (.ite nullsDiffer .random (.hashBytes (.oneByte 0))) (.hashBytes .strBytes)
  | .enum => .hashBytes .enumCode
  | .undef => .opaque ""

/-! ## Today's terms are the canonical ones (finite checks over `QF.Gen`, redone on every run) -/

theorem gen_hash_canon : ∀ ty ∈ tys, Gen.hashAst.lookup (pkgOf ty) = some (canonHash ty) := by
  decide

/-- `Hash` of each of the five packages was found and does not translate to (a term containing) `.opaque`. -/
theorem gen_hash_no_opaque :
    Gen.hashAst.map (·.1) = tys.map pkgOf ∧ (∀ p ∈ Gen.hashAst, p.2.hasOpaque = false) := by
  decide

theorem genHash_eq_canon {ty : CType} (hty : ty ∈ tys) (H : HashFn) (rnd : UInt64) (vals : List Bytes) (e : Bool)
    (x : Cell) (seed : UInt64) :
    genHash H rnd ty vals ⟨false, e, false⟩ x seed =
      (canonHash ty).eval H rnd ty vals (canonFields ⟨false, e, false⟩) x seed := by
  have hb : ∀ b : Bool, b ∈ [false, true] := by intro b; cases b <;> simp
  have h1 := gen_hash_canon ty hty
  have h2 := gen_fields_canon ty hty false (hb _) e (hb _) false (hb _)
  unfold genHash hashIn
  rw [h1, h2]

/-! ## The meaning of the canonical terms, once and for all -/

theorem canonFloat_nan {a : UInt64} (h : F64.isNaN a = true) : canonFloat true true a = F64.canonNaN := by
  simp [canonFloat, F64.eq, h]

/-- non-NaN floats with the same order key (equal, or the two zeros) have the same canonical bits -/
theorem canonFloat_key {a b : UInt64} (ha : F64.isNaN a = false) (hb : F64.isNaN b = false) (h : F64.key a = F64.key b) :
    canonFloat true true a = canonFloat true true b := by
  have hz : F64.isNaN 0 = false := by decide
  by_cases h0 : F64.key a = 0
  · have h0' : F64.key b = 0 := by rw [← h]; exact h0
    simp [canonFloat, F64.eq, ha, hb, hz, F64.key_zero, h0, h0']
  · have := F64.key_inj h h0
    subst this
    rfl

theorem res_eq_ne : (CRes.equal == CRes.notEqual) = false := by decide

theorem bool_toNat_inj {a b : Bool} (h : a.toNat = b.toNat) : a = b := by
  cases a <;> cases b <;> simp_all

/-- the bytes today's `Hash` hands to `hash.HashBytes` for a cell of a column of type `ty` -/
def hbytes (ty : CType) (vals : List Bytes) : Cell → List UInt8
  | .int v => le8 (intBits v)
  | .float b => le8 (canonFloat true true b).toNat
  | .bool b => [if b then 1 else 0]
  | .str none => [if ty == .enum then 255 else 0]
  | .str (some s) => if ty == .enum then [UInt8.ofNat ((enumRank vals s).getD 0)] else s

theorem canon_hash_val (ty : CType) (hty : ty ∈ tys) (vals : List Bytes) (e : Bool) (H : HashFn) (seed rnd : UInt64)
    (x : Cell) (hx : wtCell ty vals x = true) :
    (canonHash ty).eval H rnd ty vals (canonFields ⟨false, e, false⟩) x seed =
      some (if (x.isNull && !e && ty != .enum) = true then rnd else H (hbytes ty vals x) seed) := by
  cases ty
  · cases x <;> simp [wtCell, cellVal] at hx
    simp [canonHash, HE.eval, HB.eval, hbytes, Cell.isNull]
  · cases x <;> simp [wtCell, cellVal] at hx
    rename_i a
    cases ha : F64.isNaN a <;> cases e <;>
    simp [canonHash, nullsDiffer, HE.eval, HCond.eval, HB.eval, nanOf, canonFields, CFields.get, res_eq_ne, ha, hbytes, Cell.isNull]
  · cases x <;> simp [wtCell, cellVal] at hx
    rename_i a
    cases a <;> simp [canonHash, HE.eval, HCond.eval, HB.eval, trueOf, hbytes, Cell.isNull]
  · rcases x with _ | _ | _ | (_ | u) <;> simp [wtCell, cellVal] at hx
    · cases e <;> simp [canonHash, nullsDiffer, HE.eval, HCond.eval, HB.eval, nullOf, canonFields, CFields.get, res_eq_ne, hbytes, Cell.isNull]
    · simp [canonHash, HE.eval, HCond.eval, HB.eval, nullOf, hbytes, Cell.isNull]
  · rcases x with _ | _ | _ | (_ | u)
    · simp [wtCell, cellVal] at hx
    · simp [wtCell, cellVal] at hx
    · simp [wtCell, cellVal] at hx
    · simp [canonHash, HE.eval, HB.eval, cellVal, hbytes, enumNull]
    · obtain ⟨i, hi, hil⟩ := enum_ok hx
      simp [canonHash, HE.eval, HB.eval, cellVal, enumNull, hi, hil, hbytes]
  · simp [tys] at hty
/-- The canonical hash terms give the same value on two cells of the type that the spec's key equality identifies. -/
theorem canon_hash_eq (c : LCol) (hty : c.ty ∈ tys) (e : Bool) (H : HashFn) (seed rx ry : UInt64) (x y : Cell)
    (hx : wtCell c.ty c.vals x = true) (hy : wtCell c.ty c.vals y = true) (hk : keyEq e c x y = true) :
    ∃ h, (canonHash c.ty).eval H rx c.ty c.vals (canonFields ⟨false, e, false⟩) x seed = some h ∧
         (canonHash c.ty).eval H ry c.ty c.vals (canonFields ⟨false, e, false⟩) y seed = some h := by
  rw [canon_hash_val c.ty hty c.vals e H seed rx x hx, canon_hash_val c.ty hty c.vals e H seed ry y hy]
  rw [C04Spec.keyEq_true_iff] at hk
  -- no random value: the cells are not null, or nulls are equal
  have hr : (x.isNull && !e) = false ∧ (y.isNull && !e) = false := by
    rcases hk with ⟨_, _, rfl⟩ | ⟨h1, h2, _⟩
    · simp
    · rw [h1, h2]; exact ⟨rfl, rfl⟩
  simp only [hr.1, hr.2, Bool.false_and, Bool.false_eq_true, if_false]
  suffices hb : hbytes c.ty c.vals x = hbytes c.ty c.vals y from ⟨_, rfl, by rw [hb]⟩
  -- cells of one column have one constructor; equal keys give equal bytes
  rcases hk with ⟨hnx, hny, _⟩ | ⟨hnx, hny, hc⟩
  · -- two nulls of the column's type: two NaNs, or two null strings
    rcases x with _ | a | _ | (_ | _) <;> try cases hnx
    all_goals rcases y with _ | b | _ | (_ | _) <;> try cases hny
    · simp only [hbytes, canonFloat_nan hnx, canonFloat_nan hny]
    · revert hx hy; cases c.ty <;> intro hx hy <;> cases hx <;> cases hy
    · revert hx hy; cases c.ty <;> intro hx hy <;> cases hx <;> cases hy
    · rfl
  · obtain ⟨k, h1, h2⟩ := (C04Spec.cellCmp_eq_iff c x y).mp hc
    have ht := (C04Spec.ckey_tag h1).symm.trans (C04Spec.ckey_tag h2)
    have hk : C04Spec.ckey c y = C04Spec.ckey c x := h2.trans h1.symm
    rw [← hk] at h1
    clear h2
    rcases x with a | a | a | (_ | a) <;> rcases y with b | b | b | (_ | b) <;> try cases ht
    all_goals simp only [C04Spec.ckey, Cell.isNull] at hk h1 hnx hny
    · cases Sum.inl.inj (Prod.mk.inj (Option.some.inj hk)).2; rfl
    · simp only [hnx, hny, Bool.false_eq_true, if_false] at hk
      simp only [hbytes, canonFloat_key hny hnx (Sum.inl.inj (Prod.mk.inj (Option.some.inj hk)).2)]
    · cases bool_toNat_inj (C04Spec.natInl_inj _ _ (Prod.mk.inj (Option.some.inj hk)).2); rfl
    · cases hnx
    · cases hnx
    · cases hny
    · cases he : c.ty == .enum <;> simp only [he, Bool.false_eq_true, if_false, if_true] at hk h1
      · cases Sum.inr.inj (Prod.mk.inj (Option.some.inj hk)).2; rfl
      · cases hrb : enumRank c.vals b <;> simp only [hrb] at hk h1
        · cases h1
        · cases hra : enumRank c.vals a <;> simp only [hra] at hk
          · cases hk
          · cases C04Spec.natInl_inj _ _ (Prod.mk.inj (Option.some.inj hk)).2
            simp only [hbytes, he, hra, hrb, if_true]

/-! ## Today's hash functions -/

/-- Today's `Hash` returns a value on every cell of the column's type (it has a meaning in the model; in Go: no index
out of range, no nil dereference). -/
theorem gen_hash_total (ty : CType) (hty : ty ∈ tys) (vals : List Bytes) (equalNull : Bool) (H : HashFn)
    (seed rnd : UInt64) (x : Cell) (hx : wtCell ty vals x = true) :
    (genHash H rnd ty vals ⟨false, equalNull, false⟩ x seed).isSome = true := by
  rw [genHash_eq_canon hty, canon_hash_val ty hty vals equalNull H seed rnd x hx]
  rfl

/-- Cells with the spec's key equality hash equal. -/
theorem gen_hash_respects_keyEq (c : LCol) (hty : c.ty ∈ tys) (gbNull : Bool) (H : HashFn) (seed rx ry : UInt64)
    (x y : Cell) (hx : wtCell c.ty c.vals x = true) (hy : wtCell c.ty c.vals y = true)
    (hk : keyEq gbNull c x y = true) :
    ∃ h, genHash H rx c.ty c.vals ⟨false, gbNull, false⟩ x seed = some h ∧
         genHash H ry c.ty c.vals ⟨false, gbNull, false⟩ y seed = some h := by
  rw [genHash_eq_canon hty, genHash_eq_canon hty]
  exact canon_hash_eq c hty gbNull H seed rx ry x y hx hy hk

/-- **Rows that compare Equal hash equal.** For every column type, both settings of `equalNull`, every `hash.HashBytes`
(`H`), every seed, whatever `rand.Uint64()` returns in the two calls (`rx`, `ry`), and ALL cells `x`, `y` of the type: if
today's `Comparable(false, equalNull, false).Compare` returns `Equal` on (`x`, `y`), today's `Hash` returns the same value
for `x` and for `y`. -/
theorem gen_hash_respects_equality (c : LCol) (hty : c.ty ∈ tys) (equalNull : Bool) (H : HashFn) (seed rx ry : UInt64)
    (x y : Cell) (hx : wtCell c.ty c.vals x = true) (hy : wtCell c.ty c.vals y = true)
    (heq : genCompare c.ty c.vals ⟨false, equalNull, false⟩ x y = some .equal) :
    ∃ h, genHash H rx c.ty c.vals ⟨false, equalNull, false⟩ x seed = some h ∧
         genHash H ry c.ty c.vals ⟨false, equalNull, false⟩ y seed = some h := by
  obtain ⟨r, hr, hiff⟩ := gen_compare_keyEq c hty equalNull x y hx hy
  rw [heq] at hr
  exact gen_hash_respects_keyEq c hty equalNull H seed rx ry x y hx hy (hiff.mp (Option.some.inj hr).symm)

/-! ## grouper.go: `table.hash` -/

/-- internal/grouper/grouper.go, `table.hash` before the truncation to `uint32` (`s` starts at 0; `rnd j` is what
`rand.Uint64()` yields if the `j`-th key column's `Hash` calls it):

    hashVal := uint64(0)
    for _, c := range t.comparables { hashVal = c.Hash(i, hashVal) }                       -/
def tableHash (H : HashFn) (gbNull : Bool) (rnd : Nat → UInt64) (i : Nat) : List LCol → Nat → UInt64 → Option UInt64
  | [], _, s => some s
  | c :: cs, j, s =>
    match genHash H (rnd j) c.ty c.vals ⟨false, gbNull, false⟩ c.cells[i]! s with
    | some s' => tableHash H gbNull rnd i cs (j + 1) s'
    | none => none

/-- grouper.go's `table.hash` over today's hash functions of the key columns returns the same value for two rows with
the spec's `rowKeyEq` (the rows `equals` identifies: `grouper_equals_eq_rowKeyEq`), whatever the random values. -/
theorem grouper_hash_respects_rowKeyEq (H : HashFn) (gbNull : Bool) (rx ry : Nat → UInt64) (keys : List LCol)
    (r1 r2 : Nat) (hk : ∀ c ∈ keys, rowsOk c r1 r2) (he : rowKeyEq gbNull keys r1 r2 = true) (j : Nat) (s : UInt64) :
    ∃ h, tableHash H gbNull rx r1 keys j s = some h ∧ tableHash H gbNull ry r2 keys j s = some h := by
  induction keys generalizing j s with
  | nil => exact ⟨s, rfl, rfl⟩
  | cons c cs ih =>
    have hc := hk c (by simp)
    simp only [rowKeyEq, List.all_cons, Bool.and_eq_true] at he
    obtain ⟨h, h1, h2⟩ := gen_hash_respects_keyEq c hc.1 gbNull H s (rx j) (ry j) _ _ hc.2.1 hc.2.2 he.1
    obtain ⟨h', h1', h2'⟩ := ih (fun k hk' => hk k (by simp [hk'])) (by simpa [rowKeyEq] using he.2) (j + 1) h
    exact ⟨h', by simp only [tableHash, h1, h1'], by simp only [tableHash, h2, h2']⟩

/-! ## Witnesses: the statement tells wrong hash functions apart -/

/-- a `HashBytes` that tells byte strings apart by their last byte -/
def lastByte : HashFn := fun bs _ => (bs.getLast?.getD 0).toUInt64

def posZero : UInt64 := 0
def negZero : UInt64 := 0x8000000000000000
def nan1 : UInt64 := 0x7ff8000000000001
def nan2 : UInt64 := 0x7ff80000000000ff

/-- `fcolumn`'s `Hash` without `if f == 0 { f = 0 }` hashes the raw bits … -/
def noZeroCanon : HE := .ite (.and .isNaN nullsDiffer) .random (.hashBytes (.floatBits false true))

/-- … +0.0 and -0.0 compare `Equal` (IEEE `==`) but differ in the sign bit, hence in the last byte hashed: a GroupBy on
such a column opens two groups for the key 0. -/
example :
    let c : LCol := { name := [], ty := .float, cells := #[] }
    let F := canonFields ⟨false, false, false⟩
    genCompare .float [] ⟨false, false, false⟩ (.float posZero) (.float negZero) = some .equal ∧
    keyEq false c (.float posZero) (.float negZero) = true ∧
    noZeroCanon.eval lastByte 0 .float [] F (.float posZero) 0 = some 0 ∧
    noZeroCanon.eval lastByte 0 .float [] F (.float negZero) 0 = some 0x80 := by
  decide

/-- Dropping `if math.IsNaN(f) { f = math.NaN() }` instead: … -/
def noNaNCanon : HE := .ite (.and .isNaN nullsDiffer) .random (.hashBytes (.floatBits true false))

/-- … under `equalNull` (GroupBy with `groupByNull`) all NaNs compare `Equal`, but NaNs with different payloads hash
their own bits. -/
example :
    let c : LCol := { name := [], ty := .float, cells := #[] }
    let F := canonFields ⟨false, true, false⟩
    genCompare .float [] ⟨false, true, false⟩ (.float nan1) (.float nan2) = some .equal ∧
    keyEq true c (.float nan1) (.float nan2) = true ∧
    noNaNCanon.eval (fun bs _ => (bs.headD 0).toUInt64) 0 .float [] F (.float nan1) 0 = some 0x01 ∧
    noNaNCanon.eval (fun bs _ => (bs.headD 0).toUInt64) 0 .float [] F (.float nan2) 0 = some 0xff := by
  decide

/-- What the translator emits when it does not understand the bytes hashed (say `[]byte(fmt.Sprint(f))`): the term is
reported by `hasOpaque` and has no value, so `gen_hash_total` / `gen_hash_respects_equality` fail on it. -/
example : (HE.hashBytes (.opaque "[]byte(fmt.Sprint(f))")).hasOpaque = true ∧
    (HE.hashBytes (.opaque "[]byte(fmt.Sprint(f))")).eval lastByte 0 .float [] (canonFields ⟨false, false, false⟩) (.float 0) 0 = none := by
  decide

end QF.Props.C04Hash
