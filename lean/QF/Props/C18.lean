import QF.Props.Tie
import QF.Core.Upper
/-!
# C18 — ilike's upper-casing

`toUpper_spec`: the custom `ToUpper` (first loop to the first changed rune, copying loop with the single-byte
shortcut and buffer growth) returns `encode (map up s)` for every string, every case mapping `up` and every
buffer size. The mirror follows the code after the repair `r < utf8.RuneSelf`; with the original `<=` the theorem
needed the hypothesis that no rune's upper case is U+0080 (that was the defect).
-/
namespace QF.Props.C18

theorem toUpper_spec (up : Char → Char) (bufLen : Nat) (s : List Char) : U.toUpper up bufLen s = U.spec up s :=
  U.toUpper_spec' up bufLen s

/-- T1: no function of this property is compared as text (the list is empty). `strings.NewMatcher` and the `Matches` methods
are regenerated as `Gen.newMatcher` and proved equal to the mirror (`QF.Props.C18Matcher.gen_newmatcher_semantics`);
`scolumn.regexFilter`, `ecolumn.filterLike` as `Gen.kernelAst` (`C02Kernels.gen_like_canon`, `gen_kernel_semantics_like_string`,
`gen_kernel_semantics_like_enum`); the package's `ToUpper` in `Gen.stringsFns` (`C18UpperGen.gen_toUpper_semantics`). A
behaviour-changing edit of one of them makes a `gen_*_canon` theorem fail; renaming locals or reformatting changes nothing. -/
theorem tie : Tie.sameAll [] = true := by decide

end QF.Props.C18
