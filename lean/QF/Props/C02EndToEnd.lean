import QF.Props.C02ClausesLink
import QF.Props.C02Dispatch
/-!
# C02 — Filter end to end: the regenerated clause evaluation WITH the regenerated leaves = the spec's `keptRows`

`C02ClausesGen.gen_clause_filter_semantics` proves the clause evaluation extracted today (`Gen.clauseFns`) equal to the
hand mirror for every behaviour `O : F.Leaf → LeafCalls` of the calls made for a leaf that `F.Leaf` abstracts.
`C02Dispatch.gen_leaf_semantics_filter_partial` / `gen_custom1_semantics` / `gen_custom2_semantics_partial` prove the
extracted `Column.Filter` → `filterBuiltIn` / `filterCustom1` / `filterCustom2` → kernel of a leaf equal to the spec's
`leafPred`. Here the two are composed:

* `genLeafCalls`            — what the calls `QFrame.filter` makes for ONE `filter.Filter` return, computed from today's
                              source: the look-ups in the frame, the preamble with the promotion rules regenerated into
                              `Gen.clauseFns` (`prepWith promGen`, `prepGen_eq`), `filter.Inverse` (`Gen.inverse`), and
                              `Column.Filter` run through the extracted dispatcher, tables and kernels (`genRes`).
* `genLeaf` / `genClause`   — the `F.Leaf` / `F.Clause` these calls define (no spec inside).
* `genLeafCalls_abstracts`  — `(genLeafCalls … l).Abstracts (genLeaf … l)`, in the scope `LeafScope`.
* `genO`, `genO_abstracts`  — an instance `F.Leaf → LeafCalls` that answers with regenerated calls on every leaf of a
                              `genClause` and satisfies `∀ fl, (genO fl).Abstracts fl`.
* `genCall_eq`              — per leaf, as an equation: `kernelOf` of the regenerated call is `leafPred`'s outcome, a predicate
                              `p` as the guarded kernel that has `p` on the rows of the frame (`onFrame`); `genCall_spec` says
                              the same without `onFrame`; no call is stuck (`gen_leaf_not_stuck`). `genLeaf_shortcut`: the call
                              through `filter.Inverse` is `onFrame` of `leafPred`'s predicate for the entry of the comparator
                              (`invPred`), which is `none` or the negation of the leaf's own (`invPred_cases`). `genLeaf_eq`:
                              the `F.Leaf` the calls define, in these terms; `genLeaf_err` / `_sem` / `_ok` read it off.
* `gen_filter_end_to_end_partial` — for every well-typed frame, every clause tree in scope and every `O` abstracting the
                              leaves: the regenerated `Filter` on the regenerated leaves returns an error exactly when
                              the spec's clause is not well formed and otherwise exactly `keptRows`.
* `gen_filter_inv_end_to_end_partial` — the same for one `Filter{Inverse: true}`: the rows where the predicate is false.
* `gen_kernel_loop`          — the RAW per-entry loop of a regenerated `.upd u` over any index inside the frame (`rawLoop`) is
                              `F.runKernel .guarded` of the predicate `kernelOf` reads off `u`, whatever the completion `out`
                              (`gen_kernel_loop_out`); `gen_kernel_loop_agrees`: for every call that `Agrees` with a predicate.
* `c02_9_swapped_promotion_keeps_wrong_rows` — the concrete witness of seeded defect C02-9 (F = [1.5], I = [2], `F < I`).
* two findings (spec and code disagree; both confirmed on the real code), excluded from the scope:
  `Not(Filter{"not in"})` and a one-argument custom predicate with a `ColumnName` argument.
-/
namespace QF.Props.C02EndToEnd
open QF QF.CL QF.Props.C02Kernels QF.Props.C02Dispatch
set_option linter.unusedSimpArgs false
set_option linter.unusedVariables false
set_option linter.unusedSectionVars false

/-! ## The preamble of `QFrame.filter`, from the regenerated promotion rules -/

def ctyOf : PTy → CType
  | .int => .int | .float => .float | .bool => .bool | .string => .string | .enum => .enum | .other => .undef

/-- `<to>.New(<column>.FloatSlice())` -/
def promoteTo (to : PTy) (c : LCol) : LCol := if to = .float then promote c else c

/-- the `if … else if …` chain on the dynamic type of the filtered column, each arm testing the argument column -/
def applyRules (rules : List PRule) (c ac : LCol) : LCol × LCol :=
  match rules.find? (fun r => decide (ctyOf r.recv = c.ty)) with
  | none => (c, ac)
  | some r =>
    if ctyOf r.arg = ac.ty then
      (match r.side with
       | .column => (promoteTo r.to c, ac)
       | .arg => (c, promoteTo r.to ac))
    else (c, ac)

/-- `C02Dispatch.prep` with the promotion as a parameter -/
def prepWith (prom : LCol → LCol → LCol × LCol) (f : LFrame) (c : LCol) : Arg → Option (LCol × DArg × LCol)
  | .col an =>
    match f.find? an with
    | none => none
    | some ac => some ((prom c ac).1, .col (prom c ac).2.ty (prom c ac).2.vals (prom c ac).2.cells.size, (prom c ac).2)
  | a => prep f c a

/-- the rules found in today's `QFrame.filter` -/
def todayRules : List PRule := ((Gen.clauseFns.lookup .leaves).map (fun fn => fn.body.promoteRules)).getD []

def promGen : LCol → LCol → LCol × LCol := applyRules todayRules

theorem todayRules_eq : todayRules = [⟨.int, .float, .column, .float⟩, ⟨.float, .int, .arg, .float⟩] := by
  simp only [todayRules, C02ClausesGen.gen_promote_rules, Option.getD_some]

theorem promGen_eq (c ac : LCol) :
    promGen c ac = (if c.ty == .int && ac.ty == .float then promote c else c, if c.ty == .float && ac.ty == .int then promote ac else ac) := by
  simp only [promGen, todayRules_eq, applyRules]
  cases hc : c.ty <;> simp [List.find?, ctyOf, promoteTo]
  -- left: an int and a float column, each against the type of the argument column
  all_goals cases ac.ty <;> simp

/-- **The hand-written preamble `C02Dispatch.prep` is what today's promotion rules do.** -/
theorem prepGen_eq (f : LFrame) (c : LCol) (a : Arg) : prepWith promGen f c a = prep f c a := by
  cases a with
  | col an =>
    simp only [prepWith, prep]
    cases f.find? an with
    | none => rfl
    | some ac => simp only [promGen_eq]
  | _ => rfl

/-! ## The calls made for one leaf, from the regenerated dispatcher and kernels -/

/-- the comparator as the Go value the harness passes: a string, or a predicate on the element type -/
def dcmpOf (c : LCol) : Cmp → DCmp
  | .builtin op => .str op
  | .p1 id => (match p1Ty id with | some t => .fn1 t | none => .other)
  | .p2 => .fn2 (fnTy c.ty)
  | .bad => .other

def paramsOf : Cmp → KParams
  | .p1 id => { fn1 := fun x => (userP1 id x).getD false }
  | .p2 => { fn2 := fun x y => (userP2 x y).getD false }
  | _ => {}

section calls
variable (prom : LCol → LCol → LCol × LCol) (lo : LikeOracle) (f2i : UInt64 → Int) (i2f : Int → UInt64)

/-- `s.Filter(qf.index, cmp, f.Arg, ·)` as `QFrame.filter` calls it for the leaf `l` with the comparator `cmp`: the result
of the extracted `Column.Filter`, the receiver and the column that supplies the second operand -/
def genRes (f : LFrame) (l : Leaf) (cmp : Cmp) : DRes × LCol × LCol :=
  match f.find? l.col with
  | none => (.err, default, default)
  | some c =>
    match prepWith prom f c l.arg with
    | none => (.err, c, c)
    | some (c', arg, ac') => ((today lo f2i i2f (paramsOf cmp) c' (dcmpOf c cmp) arg).runFilter, c', ac')

/-- The per-entry update of a kernel as the pair `LeafCalls` wants: every extracted kernel in scope accumulates, so it is
the guarded kernel of "the entry `false` becomes `true`". Positions outside the frame (never in an index) are completed
by `out`; `gen_kernel_loop` shows that no run can see the completion. -/
def kernelOf (n : Nat) (out : Bool) : DRes × LCol × LCol → Option (F.KShape × (Nat → Bool))
  | (.upd u, c', ac') => some (.guarded, fun r => if r < n then u c'.cells[r]! ac'.cells[r]! false == some true else out)
  | _ => none

def genLeafCalls (f : LFrame) (l : Leaf) : LeafCalls :=
  { colKnown := (f.find? l.col).isSome
    argIsCol := (match l.arg with | .col _ => true | _ => false)
    argColKnown := (match l.arg with | .col an => (f.find? an).isSome | _ => false)
    cmpIsString := (match l.cmp with | .builtin _ => true | _ => false)
    hasInverse := (match l.cmp with | .builtin op => (Gen.inverse.lookup op).isSome | _ => false)
    direct := kernelOf f.n false (genRes prom lo f2i i2f f l l.cmp)
    inverse := (match l.cmp with
      | .builtin op =>
        (match Gen.inverse.lookup op with
         | some iop => kernelOf f.n true (genRes prom lo f2i i2f f l (.builtin iop))
         | none => none)
      | _ => none) }

theorem genLeafCalls_direct (f : LFrame) (l : Leaf) :
    (genLeafCalls prom lo f2i i2f f l).direct = kernelOf f.n false (genRes prom lo f2i i2f f l l.cmp) := rfl

/-- the shortcut through `filter.Inverse` as `QFrame.filter` can take it -/
def shortcutOf (k : LeafCalls) : Option (F.KShape × (Nat → Bool)) :=
  if k.cmpIsString && k.hasInverse then k.inverse else none

/-- the `F.Leaf` the calls define -/
def genLeaf (f : LFrame) (l : Leaf) : F.Leaf :=
  match (genLeafCalls prom lo f2i i2f f l).direct with
  | none => { shape := .guarded, pred := fun _ => false, err := true, inverse := l.inv }
  | some (sh, p) => { shape := sh, pred := p, inv := shortcutOf (genLeafCalls prom lo f2i i2f f l), inverse := l.inv }

mutual
def genClause (f : LFrame) : Clause → F.Clause
  | .leaf l => .leaf (genLeaf prom lo f2i i2f f l)
  | .null => .null
  | .not c => .not (genClause f c)
  | .and cs => .and (genClauses f cs)
  | .or cs => .or (genClauses f cs)
def genClauses (f : LFrame) : List Clause → List F.Clause
  | [] => []
  | c :: cs => genClause f c :: genClauses f cs
end

/-- "a failing `Column.Filter` is not rescued by the entry of `filter.Inverse`" — what `LeafCalls.Abstracts` demands of a
leaf with `err`; false for the comparator "not in" (finding 1) -/
def NoRescue (f : LFrame) (l : Leaf) : Prop :=
  (genLeafCalls prom lo f2i i2f f l).direct = none → shortcutOf (genLeafCalls prom lo f2i i2f f l) = none

theorem genRes_unknown_col (f : LFrame) (l : Leaf) (cmp : Cmp) (h : f.find? l.col = none) :
    kernelOf f.n b (genRes prom lo f2i i2f f l cmp) = none := by
  simp [genRes, h, kernelOf]

theorem genRes_unknown_arg (f : LFrame) (l : Leaf) (cmp : Cmp) (an : Bytes) (ha : l.arg = .col an) (h : f.find? an = none) :
    kernelOf f.n b (genRes prom lo f2i i2f f l cmp) = none := by
  unfold genRes
  cases f.find? l.col with
  | none => rfl
  | some c => simp [ha, prepWith, h, kernelOf]

/-- **The regenerated calls are abstracted by the leaf they define** (whenever a failing call is not rescued). -/
theorem genLeafCalls_abstracts_of (f : LFrame) (l : Leaf) (h : NoRescue prom lo f2i i2f f l) :
    (genLeafCalls prom lo f2i i2f f l).Abstracts (genLeaf prom lo f2i i2f f l) := by
  have err_of : (genLeafCalls prom lo f2i i2f f l).direct = none → (genLeaf prom lo f2i i2f f l).err = true :=
    fun hd => by simp [genLeaf, hd]
  refine ⟨?_, ?_, ?_, ?_⟩
  · intro (hk : (f.find? l.col).isSome = false)
    exact err_of (genRes_unknown_col prom lo f2i i2f f l l.cmp (by simpa using hk))
  · intro (h1 : (match l.arg with | .col _ => true | _ => false) = true)
      (h2 : (match l.arg with | .col an => (f.find? an).isSome | _ => false) = false)
    cases ha : l.arg with
    | col an =>
      simp only [ha] at h2
      exact err_of (genRes_unknown_arg prom lo f2i i2f f l l.cmp an ha (by simpa using h2))
    | _ => simp [ha] at h1
  · unfold genLeaf
    cases hd : (genLeafCalls prom lo f2i i2f f l).direct with
    | none => simp
    | some sp => obtain ⟨sh, p⟩ := sp; simp
  · unfold genLeaf
    cases hd : (genLeafCalls prom lo f2i i2f f l).direct with
    | none => simpa [shortcutOf] using h hd
    | some sp => obtain ⟨sh, p⟩ := sp; simp [shortcutOf]

end calls

/-! ## Scope -/

/-- the logical frame is well typed: every column has one of the five types, `f.n` cells of that type, an enum column at
most 255 values (in particular an int column holds no null: `C02Mirror.IntColsNonNull` on the rows of the frame) -/
structure FrameWT (f : LFrame) : Prop where
  ty : ∀ c ∈ f.cols, c.ty ∈ tys
  enumLen : ∀ c ∈ f.cols, c.ty = .enum → c.vals.length ≤ 255
  size : ∀ c ∈ f.cols, c.cells.size = f.n
  cells : ∀ c ∈ f.cols, ∀ r, r < f.n → cellOk c.ty c.vals c.cells[r]! = true

/-- the scope of the leaf theorems of C02Dispatch, plus finding 2 -/
structure LeafScope (f : LFrame) (l : Leaf) : Prop where
  /-- an int constant is a Go `int` -/
  goInt : ∀ v, l.arg = .cell (.int v) → int64 v
  /-- excluded by `gen_leaf_semantics_partial`: a `float64` constant for an int column (the code truncates it, the spec rejects it) -/
  noFloatOnInt : ∀ c, f.find? l.col = some c → ¬ (c.ty = .int ∧ ∃ b, l.arg = .cell (.float b))
  /-- excluded by `gen_custom2_semantics_partial`: a two-argument predicate on two enum columns with different value tables -/
  enum2 : l.cmp = .p2 → ∀ c an ac, f.find? l.col = some c → l.arg = .col an → f.find? an = some ac → c.ty = .enum → ac.ty = .enum → ac.vals = c.vals
  /-- finding 2: a one-argument predicate with a `ColumnName` argument (the code looks the column up and promotes, the spec ignores it) -/
  p1NoCol : ∀ id, l.cmp = .p1 id → ∀ an, l.arg ≠ .col an

section leaf
variable (lo : LikeOracle) (f2i : UInt64 → Int) (i2f : Int → UInt64)

theorem runFilter_other {P : KParams} {c : LCol} {arg : DArg} (hdef : c.ty ∈ tys) :
    (today lo f2i i2f P c .other arg).runFilter = .err := by
  rw [runFilter_today hdef]

theorem prep_noncol (f : LFrame) (c : LCol) (a : Arg) (h : ∀ an, a ≠ .col an) : ∃ d, prep f c a = some (c, d, c) := by
  cases a with
  | col an => exact absurd rfl (h an)
  | cell k => rcases k with v | b | b | (_ | s) <;> exact ⟨_, rfl⟩
  | _ => exact ⟨_, rfl⟩

theorem leafPred_p1_unknown (f : LFrame) (l : Leaf) (c : LCol) (id : String) (hc : f.find? l.col = some c) (hcmp : l.cmp = .p1 id)
    (hid : p1Ty id = none) : leafPred lo f l = none := by
  rw [C02Spec.leafPred_p1 hc hcmp]
  -- by the accepted (name, type) pairs: each names a predicate `p1Ty` knows
  unfold C02Spec.p1Fits
  split <;> first | exact absurd hid (by decide) | rfl

/-- the three leaf theorems of C02Dispatch as one statement about `genRes` -/
theorem genRes_agrees (f : LFrame) (hf : FrameWT f) (l : Leaf) (hs : LeafScope f l) :
    Agrees (genRes promGen lo f2i i2f f l l.cmp).1 (genRes promGen lo f2i i2f f l l.cmp).2.1
      (genRes promGen lo f2i i2f f l l.cmp).2.2 (leafPred lo f l) := by
  cases hc : f.find? l.col with
  | none =>
    have : leafPred lo f l = none := C02Spec.leafPred_unknown_col hc
    simp [genRes, hc, this, Agrees]
  | some c =>
    have hmem : c ∈ f.cols := List.mem_of_find?_eq_some hc
    have hdef := hf.ty c hmem
    cases hcmp : l.cmp with
    | builtin op =>
      have hwt : LeafWT f l c := ⟨hdef, hf.enumLen c hmem, hs.goInt, fun an ac ha hac => by
        rw [hf.size ac (List.mem_of_find?_eq_some hac), hf.size c hmem]⟩
      have := gen_leaf_semantics_filter_partial lo f2i i2f {} f l c op hc hcmp hwt (hs.noFloatOnInt c hc)
      have e : genRes promGen lo f2i i2f f l (.builtin op) = goLeafFilter lo f2i i2f {} f c op l.arg := by
        simp only [genRes, hc, prepGen_eq, goLeafFilter, paramsOf, dcmpOf]
        cases prep f c l.arg <;> rfl
      rw [e]; exact this
    | p2 =>
      have := gen_custom2_semantics_partial lo f2i i2f f l c hc hcmp hdef (fun an ac ha hac => hs.enum2 hcmp c an ac hc ha hac)
      have e : genRes promGen lo f2i i2f f l .p2 = goCustom2 lo f2i i2f f c l.arg := by
        simp only [genRes, hc, prepGen_eq, goCustom2, paramsOf, dcmpOf]
        cases prep f c l.arg <;> rfl
      rw [e]; exact this
    | p1 id =>
      obtain ⟨d, hd⟩ := prep_noncol f c l.arg (hs.p1NoCol id hcmp)
      cases hid : p1Ty id with
      | some tyF =>
        have := gen_custom1_semantics lo f2i i2f f l c id tyF d hc hcmp hdef hid
        simpa only [genRes, hc, prepGen_eq, hd, paramsOf, dcmpOf, hid] using this
      | none =>
        rw [leafPred_p1_unknown lo f l c id hc hcmp hid]
        simp only [genRes, hc, prepGen_eq, hd, paramsOf, dcmpOf, hid, runFilter_other lo f2i i2f hdef]
        exact agrees_err
    | bad =>
      have : leafPred lo f l = none := by unfold leafPred; simp [hc, hcmp]
      rw [this]
      simp only [genRes, hc, prepGen_eq, paramsOf, dcmpOf]
      cases hp : prep f c l.arg with
      | none => exact agrees_err
      | some x =>
        obtain ⟨c', d, ac'⟩ := x
        simp only [runFilter_other lo f2i i2f (prep_ty hp hdef)]
        exact agrees_err

/-! ### the rows of the prepared columns are typed -/

theorem promote_rows (c : LCol) (n : Nat) (hsz : c.cells.size = n) (h : ∀ r, r < n → cellOk c.ty c.vals c.cells[r]! = true) :
    ∀ r, r < n → cellOk (promote c).ty (promote c).vals (promote c).cells[r]! = true := by
  intro r hr
  unfold promote
  by_cases hty : c.ty = .int
  · have h0 := h r hr
    have hlt : r < c.cells.size := by omega
    simp only [hty, beq_self_eq_true, if_true]
    have e1 : ∀ (a : Array Cell) (h : r < a.size), a[r]! = a[r] := fun a h => getElem!_pos a r h
    rw [e1 _ (by simpa using hlt)]
    rw [e1 _ hlt, hty] at h0
    simp only [Array.getElem_map]
    cases hx : c.cells[r] <;> rw [hx] at h0 <;> simp [cellOk, cellVal] at h0 ⊢
  · have : (c.ty == CType.int) = false := by simpa using hty
    simp only [this, Bool.false_eq_true, if_false]
    exact h r hr

theorem resolve_rows (f : LFrame) (hf : FrameWT f) (c : LCol) (hmem : c ∈ f.cols) (a : Arg) (p : LCol × LCol)
    (h : C02Spec.resolve f c a = some p) :
    ∀ r, r < f.n → cellOk p.1.ty p.1.vals p.1.cells[r]! = true ∧ cellOk p.2.ty p.2.vals p.2.cells[r]! = true := by
  have hcr := hf.cells c hmem
  cases a with
  | col an =>
    simp only [C02Spec.resolve, Option.map_eq_some_iff] at h
    obtain ⟨ac, hac, rfl⟩ := h
    have hmem2 : ac ∈ f.cols := List.mem_of_find?_eq_some hac
    have har := hf.cells ac hmem2
    intro r hr
    split
    · exact ⟨promote_rows c f.n (hf.size c hmem) hcr r hr, har r hr⟩
    · split
      · exact ⟨hcr r hr, promote_rows ac f.n (hf.size ac hmem2) har r hr⟩
      · exact ⟨hcr r hr, har r hr⟩
  | _ => cases h; exact fun r hr => ⟨hcr r hr, hcr r hr⟩

/-- the kernel of a predicate of the spec as `kernelOf` reads it: guarded, the predicate on the rows of a frame of `n` rows,
`out` elsewhere -/
def onFrame (n : Nat) (out : Bool) (p : Nat → Bool) : F.KShape × (Nat → Bool) := (.guarded, fun r => if r < n then p r else out)

theorem kernelOf_agrees {n : Nat} {out : Bool} {r : DRes} {c' ac' : LCol} {p? : Option (Nat → Bool)} (h : Agrees r c' ac' p?)
    (hv : ∀ i, i < n → cellOk c'.ty c'.vals c'.cells[i]! = true ∧ cellOk ac'.ty ac'.vals ac'.cells[i]! = true) :
    kernelOf n out (r, c', ac') = p?.map (onFrame n out) := by
  cases p? with
  | none => rw [agrees_none h]; rfl
  | some p =>
    obtain ⟨u, rfl, hu⟩ := agrees_some h
    simp only [kernelOf, onFrame, Option.map_some, Option.some.injEq, Prod.mk.injEq, true_and]
    funext i
    split
    · rename_i hi
      rw [hu i false (hv i hi).1 (hv i hi).2]
      cases p i <;> rfl
    · rfl

/-! ### the raw loop of a call is `F.runKernel` of `kernelOf` -/

/-- the RAW loop of a column's `Filter` over an index: `for i, x := range index { bIndex[i] = <update of entry i> }` with the
per-entry update `u` of a regenerated `.upd u` (cell of the receiver, cell of the operand column, the entry before); `none`:
some update has no meaning. Written by hand after the common shape of the kernels' loops; no theorem ties it to the source. -/
def rawLoop (u : Cell → Cell → Bool → Option Bool) (c' ac' : LCol) : List Nat → List Bool → Option (List Bool)
  | i :: ix, b :: bs =>
    match u c'.cells[i]! ac'.cells[i]! b, rawLoop u c' ac' ix bs with
    | some q, some r => some (q :: r)
    | _, _ => none
  | _, _ => some []

/-- a kernel looks at its predicate on the positions of the index only -/
theorem runKernel_congr (sh : F.KShape) (p q : Nat → Bool) : ∀ (ix : List Nat) (mask : List Bool), (∀ i ∈ ix, p i = q i) →
    F.runKernel sh p ix mask = F.runKernel sh q ix mask := by
  intro ix
  induction ix with
  | nil => intro mask _; cases mask <;> rfl
  | cons i ix ih =>
    intro mask h
    cases mask with
    | nil => rfl
    | cons b bs =>
      simp only [F.runKernel, h i (List.mem_cons_self ..), ih bs (fun j hj => h j (List.mem_cons_of_mem _ hj))]

/-- **`gen_kernel_loop`**: the raw per-entry loop of a regenerated `.upd u` over ANY index whose rows are inside the frame and
any mask is `F.runKernel .guarded` of the predicate `kernelOf` reads off `u` — provided `u` accumulates on these rows
(`u x y b = b || u x y false`, what `Agrees` gives for every kernel in scope: `gen_kernel_loop_agrees`). The completion
`out` of `kernelOf` for positions outside the frame is never looked at: the statement holds for both values. -/
theorem gen_kernel_loop (u : Cell → Cell → Bool → Option Bool) (c' ac' : LCol) (n : Nat) (out : Bool) :
    ∃ p, kernelOf n out (.upd u, c', ac') = some (.guarded, p) ∧
      ∀ (ix : List Nat) (mask : List Bool), (∀ i ∈ ix, i < n) →
        (∀ i ∈ ix, ∀ b, ∃ q, u c'.cells[i]! ac'.cells[i]! false = some q ∧ u c'.cells[i]! ac'.cells[i]! b = some (b || q)) →
        rawLoop u c' ac' ix mask = some (F.runKernel .guarded p ix mask) := by
  refine ⟨_, rfl, ?_⟩
  intro ix
  induction ix with
  | nil => intro mask _ _; cases mask <;> rfl
  | cons i ix ih =>
    intro mask hin hacc
    cases mask with
    | nil => rfl
    | cons b bs =>
      have hi : i < n := hin i (List.mem_cons_self ..)
      obtain ⟨q, hq0, hqb⟩ := hacc i (List.mem_cons_self ..) b
      have ih' := ih bs (fun j hj => hin j (List.mem_cons_of_mem _ hj)) (fun j hj => hacc j (List.mem_cons_of_mem _ hj))
      simp only [rawLoop, hqb, ih', F.runKernel, hi, if_true, hq0]
      cases b <;> cases q <;> rfl

/-- … and `out` plays no role on an index inside the frame -/
theorem gen_kernel_loop_out (u : Cell → Cell → Bool → Option Bool) (c' ac' : LCol) (n : Nat) (ix : List Nat) (mask : List Bool)
    (hin : ∀ i ∈ ix, i < n) (p q : Nat → Bool)
    (hp : kernelOf n false (.upd u, c', ac') = some (.guarded, p)) (hq : kernelOf n true (.upd u, c', ac') = some (.guarded, q)) :
    F.runKernel .guarded p ix mask = F.runKernel .guarded q ix mask := by
  simp only [kernelOf, Option.some.injEq, Prod.mk.injEq, true_and] at hp hq
  subst hp; subst hq
  exact runKernel_congr _ _ _ ix mask (fun i hi => by simp only [hin i hi, if_true])

/-- the hypothesis of `gen_kernel_loop` for a call that `Agrees` with a predicate (every leaf in scope, `genRes_agrees`) on
rows whose cells are well formed -/
theorem gen_kernel_loop_agrees {r : DRes} {c' ac' : LCol} {p : Nat → Bool} (h : Agrees r c' ac' (some p)) (n : Nat) (out : Bool)
    (hv : ∀ i, i < n → cellOk c'.ty c'.vals c'.cells[i]! = true ∧ cellOk ac'.ty ac'.vals ac'.cells[i]! = true) :
    ∃ u q, r = .upd u ∧ kernelOf n out (r, c', ac') = some (.guarded, q) ∧
      ∀ (ix : List Nat) (mask : List Bool), (∀ i ∈ ix, i < n) →
        rawLoop u c' ac' ix mask = some (F.runKernel .guarded q ix mask) ∧
        F.runKernel .guarded q ix mask = F.runKernel .guarded p ix mask := by
  obtain ⟨u, rfl, hu⟩ := agrees_some h
  obtain ⟨q, hq, hloop⟩ := gen_kernel_loop u c' ac' n out
  have e := hq
  rw [kernelOf_agrees h hv] at e
  cases e
  refine ⟨u, _, rfl, hq, fun ix mask hin => ⟨hloop ix mask hin (fun i hi b => ⟨p i, ?_, ?_⟩),
    runKernel_congr _ _ p ix mask fun i hi => if_pos (hin i hi)⟩⟩
  · simpa using hu i false (hv i (hin i hi)).1 (hv i (hin i hi)).2
  · exact hu i b (hv i (hin i hi)).1 (hv i (hin i hi)).2

/-- the hypotheses of `gen_kernel_loop` on a concrete update ("the entry becomes true where the two cells are equal") over the
permuted index [1, 0] of a two-row column, and the loop it describes, run by the kernel -/
example : let u : Cell → Cell → Bool → Option Bool := fun x y b => some (b || x == y)
    let c : LCol := { name := [97], ty := .int, cells := #[.int 1, .int 2] }
    let d : LCol := { name := [98], ty := .int, cells := #[.int 1, .int 3] }
    (∀ i ∈ [1, 0], i < 2) ∧
    (∀ i ∈ [1, 0], ∀ b, ∃ q, u c.cells[i]! d.cells[i]! false = some q ∧ u c.cells[i]! d.cells[i]! b = some (b || q)) ∧
    rawLoop u c d [1, 0] [false, false] = some [false, true] := by
  refine ⟨by decide, fun i _ b => ⟨_, rfl, by simp⟩, by decide⟩

/-- **One call of `Column.Filter` as `QFrame.filter` makes it, end to end**, as `kernelOf` reads it: `leafPred`'s outcome,
a predicate as the guarded kernel that has it on the rows of the frame. -/
theorem genCall_eq (f : LFrame) (hf : FrameWT f) (l : Leaf) (hs : LeafScope f l) (out : Bool) :
    kernelOf f.n out (genRes promGen lo f2i i2f f l l.cmp) = (leafPred lo f l).map (onFrame f.n out) := by
  have hA := genRes_agrees lo f2i i2f f hf l hs
  cases hc : f.find? l.col with
  | none => rw [C02Spec.leafPred_unknown_col hc, genRes_unknown_col _ _ _ _ f l l.cmp hc]; rfl
  | some c =>
    simp only [genRes, hc, prepGen_eq, prep_eq] at hA ⊢
    cases hr : C02Spec.resolve f c l.arg with
    | none =>
      simp only [hr, Option.map_none] at hA ⊢
      cases hp : leafPred lo f l with
      | none => rfl
      | some p => rw [hp] at hA; exact hA.elim
    | some p =>
      simp only [hr, Option.map_some] at hA ⊢
      exact kernelOf_agrees hA (resolve_rows f hf c (List.mem_of_find?_eq_some hc) l.arg p hr)

/-- it fails exactly when `leafPred` rejects the leaf, otherwise it is (on the rows of the frame) the guarded accumulate of
`leafPred`'s predicate -/
theorem genCall_spec (f : LFrame) (hf : FrameWT f) (l : Leaf) (hs : LeafScope f l) (out : Bool) :
    match leafPred lo f l with
    | none => kernelOf f.n out (genRes promGen lo f2i i2f f l l.cmp) = none
    | some p => ∃ q, kernelOf f.n out (genRes promGen lo f2i i2f f l l.cmp) = some (.guarded, q) ∧
        (∀ i, i < f.n → q i = p i) ∧ (∀ i, ¬ i < f.n → q i = out) := by
  rw [genCall_eq lo f2i i2f f hf l hs out]
  cases leafPred lo f l with
  | none => rfl
  | some p => exact ⟨_, rfl, fun i hi => if_pos hi, fun i hi => if_neg hi⟩

/-- no call made for a leaf in scope is stuck (no panic, nothing the translator did not understand) -/
theorem gen_leaf_not_stuck (f : LFrame) (hf : FrameWT f) (l : Leaf) (hs : LeafScope f l) :
    (match (genRes promGen lo f2i i2f f l l.cmp).1 with | .stuck => False | _ => True) := by
  have hA := genRes_agrees lo f2i i2f f hf l hs
  generalize (genRes promGen lo f2i i2f f l l.cmp).1 = r at hA
  cases r with
  | stuck => cases h : leafPred lo f l <;> simp [h, Agrees] at hA
  | _ => trivial

end leaf

/-! ## The leaf the calls define, against the spec -/

section leafFacts
variable (lo : LikeOracle) (f2i : UInt64 → Int) (i2f : Int → UInt64)

theorem shortcut_eq (prom : LCol → LCol → LCol × LCol) (f : LFrame) (l : Leaf) :
    shortcutOf (genLeafCalls prom lo f2i i2f f l) =
      match l.cmp with
      | .builtin op =>
        (match Gen.inverse.lookup op with
         | some iop => kernelOf f.n true (genRes prom lo f2i i2f f l (.builtin iop))
         | none => none)
      | _ => none := by
  unfold shortcutOf genLeafCalls
  cases l.cmp with
  | builtin op => cases h : Gen.inverse.lookup op <;> simp [h]
  | _ => simp

/-- the leaf with the comparator replaced is in scope when the leaf is -/
theorem scope_cmp {f : LFrame} {l : Leaf} (hs : LeafScope f l) (iop : String) : LeafScope f { l with cmp := .builtin iop } :=
  ⟨hs.goInt, hs.noFloatOnInt, (fun h => by cases h), (fun id h => by cases h)⟩

/-- the spec's predicate behind the entry of `filter.Inverse` for the leaf's comparator, if there is one -/
def invPred (f : LFrame) (l : Leaf) : Option (Nat → Bool) :=
  match l.cmp with
  | .builtin op => (Gen.inverse.lookup op).bind fun iop => leafPred lo f { l with cmp := .builtin iop }
  | _ => none

/-- nothing accepts "not in"; every other entry of `filter.Inverse` is the complement -/
theorem invPred_cases (f : LFrame) (l : Leaf) (hni : l.cmp ≠ .builtin "not in") :
    invPred lo f l = none ∨ invPred lo f l = (leafPred lo f l).map fun p r => !p r := by
  unfold invPred
  cases hcmp : l.cmp with
  | builtin op =>
    simp only []
    cases hlk : Gen.inverse.lookup op with
    | none => exact Or.inl rfl
    | some iop =>
      rcases C02Mirror.inverse_today op iop hlk with hpair | hn | hn
      · exact Or.inr (C02Spec.leafPred_inverse_eq lo f l op iop hcmp hpair)
      · exact absurd (hcmp.trans (by rw [hn])) hni
      · subst hn; exact Or.inl (C02Mirror.leafPred_notin lo f _ rfl)
  | _ => exact Or.inl rfl

variable (f : LFrame) (hf : FrameWT f) (l : Leaf) (hs : LeafScope f l)
include hf hs

theorem genLeaf_direct : (genLeafCalls promGen lo f2i i2f f l).direct = (leafPred lo f l).map (onFrame f.n false) :=
  genCall_eq lo f2i i2f f hf l hs false

/-- the call through `filter.Inverse` -/
theorem genLeaf_shortcut : shortcutOf (genLeafCalls promGen lo f2i i2f f l) = (invPred lo f l).map (onFrame f.n true) := by
  rw [shortcut_eq, invPred]
  cases hcmp : l.cmp with
  | builtin op =>
    simp only []
    cases hlk : Gen.inverse.lookup op with
    | none => rfl
    | some iop => exact genCall_eq lo f2i i2f f hf { l with cmp := .builtin iop } (scope_cmp hs iop) true
  | _ => rfl

/-- **the leaf the regenerated calls define, in the spec's terms** -/
theorem genLeaf_eq : genLeaf promGen lo f2i i2f f l =
    match leafPred lo f l with
    | none => { shape := .guarded, pred := fun _ => false, err := true, inverse := l.inv }
    | some p => { shape := .guarded, pred := (onFrame f.n false p).2, inv := (invPred lo f l).map (onFrame f.n true), inverse := l.inv } := by
  unfold genLeaf
  rw [genLeaf_direct lo f2i i2f f hf l hs, genLeaf_shortcut lo f2i i2f f hf l hs]
  cases leafPred lo f l <;> rfl

theorem genLeaf_err : (genLeaf promGen lo f2i i2f f l).err = !(leafPred lo f l).isSome := by
  rw [genLeaf_eq lo f2i i2f f hf l hs]
  cases leafPred lo f l <;> rfl

theorem genLeaf_sem (p : Nat → Bool) (hp : leafPred lo f l = some p) (r : Nat) (hr : r < f.n) :
    (genLeaf promGen lo f2i i2f f l).sem r = (if l.inv then !p r else p r) := by
  rw [genLeaf_eq lo f2i i2f f hf l hs, hp]
  simp [onFrame, F.Leaf.sem, hr]

theorem genLeaf_noRescue (hni : l.cmp ≠ .builtin "not in") : NoRescue promGen lo f2i i2f f l := by
  intro hd
  rw [genLeaf_direct lo f2i i2f f hf l hs, Option.map_eq_none_iff] at hd
  rw [genLeaf_shortcut lo f2i i2f f hf l hs]
  rcases invPred_cases lo f l hni with h | h
  · rw [h]; rfl
  · rw [h, hd]; rfl

/-- **`(genLeafCalls l).Abstracts (genLeaf l)`** in the scope of the leaf theorems. -/
theorem genLeafCalls_abstracts (hni : l.cmp ≠ .builtin "not in") :
    (genLeafCalls promGen lo f2i i2f f l).Abstracts (genLeaf promGen lo f2i i2f f l) :=
  genLeafCalls_abstracts_of promGen lo f2i i2f f l (genLeaf_noRescue lo f2i i2f f hf l hs hni)

/-- both kernels are guarded; the one behind `filter.Inverse` has the negated predicate on the rows (`invPred_cases`) and `true`
for `false` outside them -/
theorem genLeaf_ok : C02Mirror.LeafOk (genLeaf promGen lo f2i i2f f l) := by
  rw [genLeaf_eq lo f2i i2f f hf l hs]
  cases hp : leafPred lo f l with
  | none => exact ⟨Or.inl rfl, by intro sh p hI; cases hI⟩
  | some p =>
    refine ⟨Or.inl rfl, ?_⟩
    intro sh q hI
    have hni : l.cmp ≠ .builtin "not in" := by
      intro h; rw [C02Mirror.leafPred_notin lo f l h] at hp; cases hp
    rcases invPred_cases lo f l hni with h | h
    · simp [h] at hI
    · simp only [h, hp, Option.map_some, onFrame, Option.some.injEq, Prod.mk.injEq] at hI
      obtain ⟨rfl, rfl⟩ := hI
      exact ⟨Or.inl rfl, fun x => by simp only [onFrame]; split <;> rfl⟩

end leafFacts

/-! ## The clause tree -/

mutual
def leavesOf : Clause → List Leaf
  | .leaf l => [l]
  | .null => []
  | .not c => leavesOf c
  | .and cs => leavesOfs cs
  | .or cs => leavesOfs cs
def leavesOfs : List Clause → List Leaf
  | [] => []
  | c :: cs => leavesOf c ++ leavesOfs cs
end

/-- every `filter.Filter` of the clause is in the scope of the leaf theorems, and none uses the comparator "not in" (finding 1) -/
def ClauseScope (f : LFrame) (c : Clause) : Prop := ∀ l ∈ leavesOf c, LeafScope f l ∧ l.cmp ≠ .builtin "not in"

section clause
variable (lo : LikeOracle) (f2i : UInt64 → Int) (i2f : Int → UInt64) (f : LFrame) (hf : FrameWT f)

theorem genClauses_isEmpty (cs : List Clause) : (genClauses promGen lo f2i i2f f cs).isEmpty = cs.isEmpty := by
  cases cs <;> simp [genClauses]

include hf

mutual
theorem gen_wt (c : Clause) (hs : ∀ l ∈ leavesOf c, LeafScope f l) :
    (genClause promGen lo f2i i2f f c).wellTyped = (c.constructOk && c.typed lo f) := by
  match c with
  | .leaf l => simp [genClause, Clause.constructOk, Clause.typed, genLeaf_err lo f2i i2f f hf l (hs l (by simp [leavesOf]))]
  | .null => simp [genClause, Clause.constructOk, Clause.typed, F.Clause.wellTyped]
  | .not c => simpa [genClause, Clause.constructOk, Clause.typed] using gen_wt c (by simpa [leavesOf] using hs)
  | .and cs | .or cs =>
    simp only [genClause, Clause.constructOk, Clause.typed, F.wt_and, F.wt_or, gen_wts cs (by simpa [leavesOf] using hs), genClauses_isEmpty]
    cases cs.isEmpty <;> cases constructOkAll cs <;> simp
theorem gen_wts (cs : List Clause) (hs : ∀ l ∈ leavesOfs cs, LeafScope f l) :
    (genClauses promGen lo f2i i2f f cs).all (·.wellTyped) = (constructOkAll cs && typedAll lo f cs) := by
  match cs with
  | [] => simp [genClauses, constructOkAll, typedAll]
  | c :: cs =>
    simp only [genClauses, constructOkAll, typedAll, List.all_cons,
      gen_wt c (fun l h => hs l (by simp [leavesOfs, h])), gen_wts cs (fun l h => hs l (by simp [leavesOfs, h]))]
    cases c.constructOk <;> cases c.typed lo f <;> cases constructOkAll cs <;> simp
end

mutual
theorem gen_sem (c : Clause) (hs : ∀ l ∈ leavesOf c, LeafScope f l) (ht : c.typed lo f = true) (r : Nat) (hr : r < f.n) :
    (genClause promGen lo f2i i2f f c).sem r = c.sem lo f r := by
  match c with
  | .leaf l =>
    simp only [Clause.typed] at ht
    obtain ⟨p, hp⟩ := Option.isSome_iff_exists.mp ht
    simp only [genClause, F.sem_leaf, Clause.sem, hp]
    exact genLeaf_sem lo f2i i2f f hf l (hs l (by simp [leavesOf])) p hp r hr
  | .null => simp [genClause, Clause.sem]
  | .not c =>
    simp only [Clause.typed] at ht
    simp [genClause, Clause.sem, gen_sem c (by simpa [leavesOf] using hs) ht r hr]
  | .and cs =>
    simp only [Clause.typed] at ht
    simp only [genClause, F.sem_and, Clause.sem]
    exact gen_semAll cs (by simpa [leavesOf] using hs) ht r hr
  | .or cs =>
    simp only [Clause.typed] at ht
    simp only [genClause, F.sem_or, Clause.sem]
    exact gen_semAny cs (by simpa [leavesOf] using hs) ht r hr
theorem gen_semAll (cs : List Clause) (hs : ∀ l ∈ leavesOfs cs, LeafScope f l) (ht : typedAll lo f cs = true) (r : Nat) (hr : r < f.n) :
    (genClauses promGen lo f2i i2f f cs).all (·.sem r) = semAll lo f cs r := by
  match cs with
  | [] => simp [genClauses, semAll]
  | c :: cs =>
    simp only [typedAll, Bool.and_eq_true] at ht
    simp only [genClauses, semAll, List.all_cons, gen_sem c (fun l h => hs l (by simp [leavesOfs, h])) ht.1 r hr,
      gen_semAll cs (fun l h => hs l (by simp [leavesOfs, h])) ht.2 r hr]
theorem gen_semAny (cs : List Clause) (hs : ∀ l ∈ leavesOfs cs, LeafScope f l) (ht : typedAll lo f cs = true) (r : Nat) (hr : r < f.n) :
    (genClauses promGen lo f2i i2f f cs).any (·.sem r) = semAny lo f cs r := by
  match cs with
  | [] => simp [genClauses, semAny]
  | c :: cs =>
    simp only [typedAll, Bool.and_eq_true] at ht
    simp only [genClauses, semAny, List.any_cons, gen_sem c (fun l h => hs l (by simp [leavesOfs, h])) ht.1 r hr,
      gen_semAny cs (fun l h => hs l (by simp [leavesOfs, h])) ht.2 r hr]
end

mutual
theorem gen_ok (c : Clause) (hs : ∀ l ∈ leavesOf c, LeafScope f l) : C02Mirror.ClauseOk (genClause promGen lo f2i i2f f c) := by
  match c with
  | .leaf l => simp only [genClause, C02Mirror.ok_leaf]; exact genLeaf_ok lo f2i i2f f hf l (hs l (by simp [leavesOf]))
  | .null => simp [genClause, C02Mirror.ClauseOk]
  | .not c => simp only [genClause, C02Mirror.ok_not]; exact gen_ok c (by simpa [leavesOf] using hs)
  | .and cs | .or cs => simp only [genClause, C02Mirror.ok_and, C02Mirror.ok_or]; exact gen_oks cs (by simpa [leavesOf] using hs)
theorem gen_oks (cs : List Clause) (hs : ∀ l ∈ leavesOfs cs, LeafScope f l) :
    ∀ c' ∈ genClauses promGen lo f2i i2f f cs, C02Mirror.ClauseOk c' := by
  match cs with
  | [] => simp [genClauses]
  | c :: cs =>
    intro c' hc'
    simp only [genClauses, List.mem_cons] at hc'
    rcases hc' with rfl | hc'
    · exact gen_ok c (fun l h => hs l (by simp [leavesOfs, h]))
    · exact gen_oks cs (fun l h => hs l (by simp [leavesOfs, h])) c' hc'
end

/-- the mirror `F.Clause.filter` on the clause built from the regenerated leaves = the spec -/
theorem genClause_filter_eq_spec (c : Clause) (hs : ∀ l ∈ leavesOf c, LeafScope f l) :
    (let r := (genClause promGen lo f2i i2f f c).filter { index := List.range f.n }
     if r.err then none else some r.index) = if c.wellFormed lo f then some (keptRows lo f c) else none :=
  C02Mirror.filter_eq_spec_of lo f c _ (gen_ok lo f2i i2f f hf c hs) (gen_wt lo f2i i2f f hf c hs)
    fun hw => gen_sem lo f2i i2f f hf c hs (Bool.and_eq_true_iff.1 hw).2

end clause

/-! ## End to end -/

section e2e
variable (lo : LikeOracle) (f2i : UInt64 → Int) (i2f : Int → UInt64)

/-- `qf.Filter(clause)` by the functions extracted today (`Gen.clauseFns`) on the clause whose leaves are the calls of the
extracted `Column.Filter` / dispatchers / kernels (`genClause`), `O` answering the calls; read as the driver reads it -/
def genFilterE2E (O : F.Leaf → LeafCalls) (f : LFrame) (c : Clause) : Option (List Nat) :=
  match interp Gen.clauseFns O (genClause promGen lo f2i i2f f c) { index := List.range f.n } with
  | some r => if r.err then none else some r.index
  | none => none

/-- **Filter end to end.** For every well-typed logical frame, every clause tree — `And` / `Or` / `Not` / `Null` nested
at will, leaves with any comparator string of any column type, constants, value sets, nil, column arguments (with the
int/float promotion regenerated from `QFrame.filter`), custom predicates, like / ilike relative to the matcher oracle
`lo`, with or without `Inverse` — and every behaviour `O` of the leaf calls that the leaves abstract (e.g. `genO` below,
which answers with the regenerated calls): the regenerated `Filter` has a meaning, returns an error exactly when the
spec's clause is not well formed, and otherwise exactly `keptRows` (the rows satisfying the clause, in frame order).

Full statement (NOT proved): the same with `ClauseScope` replaced by `∀ l ∈ leavesOf c, ∀ v, l.arg = .cell (.int v) → int64 v`.
Excluded here (hence `_partial`), per leaf: (1) a `float64` constant on an int column (`gen_leaf_semantics_partial`:
the code truncates, the spec rejects); (2) a two-argument custom predicate on two enum columns with different value
tables (`gen_custom2_semantics_partial`, a limit of the kernel model); (3) finding 1 — the comparator "not in";
(4) finding 2 — a one-argument custom predicate with a `ColumnName` argument. Parameters: `lo` (regexp / unicode of
like / ilike), `f2i` / `i2f` (Go's float→int / int→float conversions inside the dispatchers; unused in scope). -/
theorem gen_filter_end_to_end_partial (O : F.Leaf → LeafCalls) (hO : ∀ fl, (O fl).Abstracts fl) (f : LFrame) (hf : FrameWT f)
    (c : Clause) (hs : ClauseScope f c) :
    genFilterE2E lo f2i i2f O f c = if c.wellFormed lo f then some (keptRows lo f c) else none := by
  unfold genFilterE2E
  rw [C02ClausesGen.gen_clause_filter_semantics O hO]
  exact genClause_filter_eq_spec lo f2i i2f f hf c (fun l h => (hs l h).1)

/-- **`Filter{Inverse: true}` end to end**: an accepted leaf with the `Inverse` flag keeps exactly the rows on which its
predicate is false (through the entry of `filter.Inverse` where the extracted call succeeds, else through the fallback
`bIndex[i] = !invBIndex[i]`), a rejected one is an error. Same exclusions as `gen_filter_end_to_end_partial`. -/
theorem gen_filter_inv_end_to_end_partial (O : F.Leaf → LeafCalls) (hO : ∀ fl, (O fl).Abstracts fl) (f : LFrame) (hf : FrameWT f)
    (l : Leaf) (hinv : l.inv = true) (hs : LeafScope f l) (hni : l.cmp ≠ .builtin "not in") :
    genFilterE2E lo f2i i2f O f (.leaf l) =
      match leafPred lo f l with
      | some p => some ((List.range f.n).filter (fun r => !p r))
      | none => none := by
  rw [gen_filter_end_to_end_partial lo f2i i2f O hO f hf (.leaf l) (by intro l' h; simp [leavesOf] at h; subst h; exact ⟨hs, hni⟩)]
  cases hp : leafPred lo f l with
  | none => simp [Clause.wellFormed, Clause.constructOk, Clause.typed, hp]
  | some p =>
    simp only [Clause.wellFormed, Clause.constructOk, Clause.typed, hp, Option.isSome_some, Bool.and_self, if_true, keptRows,
      Option.some.injEq]
    apply List.filter_congr
    intro r _
    simp [Clause.sem, hp, hinv]

/-! ### an instance of `O` that answers with the regenerated calls -/

/-- the same leaf up to the `Inverse` flag (which `NotClause.filter` flips) -/
def sameLeaf (a b : F.Leaf) : Prop := ({ a with inverse := false } : F.Leaf) = { b with inverse := false }

open Classical in
/-- On every `F.Leaf` that is the image of a spec leaf whose regenerated calls it abstracts, the regenerated calls of such
a leaf; elsewhere the simplest calls. -/
noncomputable def genO (f : LFrame) (fl : F.Leaf) : LeafCalls :=
  if h : ∃ l : Leaf, sameLeaf (genLeaf promGen lo f2i i2f f l) fl ∧
      (genLeafCalls promGen lo f2i i2f f l).Abstracts (genLeaf promGen lo f2i i2f f l)
  then genLeafCalls promGen lo f2i i2f f (Classical.choose h) else LeafCalls.ofLeaf fl

theorem abstracts_sameLeaf {k : LeafCalls} {a b : F.Leaf} (h : sameLeaf a b) (ha : k.Abstracts a) : k.Abstracts b := by
  have h' : ({ a with inverse := false } : F.Leaf) = { b with inverse := false } := h
  simp only [F.Leaf.mk.injEq, true_and, and_true] at h'
  obtain ⟨e2, e3, e4, e1⟩ := h'
  simpa only [LeafCalls.Abstracts, e1, e2, e3, e4] using ha

theorem genO_abstracts (f : LFrame) (fl : F.Leaf) : (genO lo f2i i2f f fl).Abstracts fl := by
  unfold genO
  split
  · rename_i h
    exact abstracts_sameLeaf (Classical.choose_spec h).1 (Classical.choose_spec h).2
  · exact LeafCalls.ofLeaf_abstracts fl

/-- on the leaves of a `genClause` in scope (whatever the `Inverse` flag has become) `genO` IS the regenerated calls of a
spec leaf that defines the same `F.Leaf` -/
theorem genO_gen (f : LFrame) (hf : FrameWT f) (l : Leaf) (hs : LeafScope f l) (hni : l.cmp ≠ .builtin "not in") (b : Bool) :
    ∃ l' : Leaf, genO lo f2i i2f f { genLeaf promGen lo f2i i2f f l with inverse := b } = genLeafCalls promGen lo f2i i2f f l' ∧
      sameLeaf (genLeaf promGen lo f2i i2f f l') (genLeaf promGen lo f2i i2f f l) := by
  have h : ∃ l' : Leaf, sameLeaf (genLeaf promGen lo f2i i2f f l') { genLeaf promGen lo f2i i2f f l with inverse := b } ∧
      (genLeafCalls promGen lo f2i i2f f l').Abstracts (genLeaf promGen lo f2i i2f f l') :=
    ⟨l, rfl, genLeafCalls_abstracts lo f2i i2f f hf l hs hni⟩
  refine ⟨Classical.choose h, ?_, (Classical.choose_spec h).1⟩
  unfold genO
  rw [dif_pos h]

/-- **Filter end to end, with the regenerated calls as the leaves' behaviour.** -/
theorem gen_filter_end_to_end_genO_partial (f : LFrame) (hf : FrameWT f) (c : Clause) (hs : ClauseScope f c) :
    genFilterE2E lo f2i i2f (genO lo f2i i2f f) f c = if c.wellFormed lo f then some (keptRows lo f c) else none :=
  gen_filter_end_to_end_partial lo f2i i2f _ (genO_abstracts lo f2i i2f f) f hf c hs

end e2e

/-! ## The hypotheses are satisfiable, the statement is not vacuous -/

section Witnesses
open C02Spec (f0 aGt1 bEq0 c0)

/-- a = [1, 2, 3] (int), b = [NaN, 0, 1] (float): a well-typed frame -/
theorem f0_wt : FrameWT f0 := ⟨(by decide), (by decide), (by decide), (by decide)⟩

/-- leaves with a constant in range, nil or a column argument and a comparator string other than "not in" are in scope -/
theorem scope_builtin (f : LFrame) (l : Leaf) (op : String) (hcmp : l.cmp = .builtin op) (hop : op ≠ "not in")
    (hint : ∀ v, l.arg = .cell (.int v) → int64 v) (hflt : ∀ b, l.arg ≠ .cell (.float b) ∨ ∀ c, f.find? l.col = some c → c.ty ≠ .int) :
    LeafScope f l ∧ l.cmp ≠ .builtin "not in" := by
  refine ⟨⟨hint, ?_, (by rw [hcmp]; intro h; cases h), (by rw [hcmp]; intro id h; cases h)⟩, (by rw [hcmp]; intro h; injection h with h; exact hop h)⟩
  rintro c hc ⟨hty, b, hb⟩
  rcases hflt b with h | h
  · exact h hb
  · exact h c hc hty

def c1 : Clause := .not (.or [.leaf aGt1, .not (.leaf { bEq0 with inv := true }), .null, c0])

/-- `And(a > 1, Not(b isnull))`, `Or(a > 1, Not(b = 0), Null)` and `Not(Or(…))` on `f0` are in scope -/
theorem c1_scope : ClauseScope f0 c1 := by
  intro l hl
  simp only [c1, c0, leavesOf, leavesOfs, List.mem_append, List.mem_singleton, List.mem_nil_iff, or_false, List.append_nil] at hl
  rcases hl with rfl | rfl | h | rfl | rfl
  · exact scope_builtin f0 _ ">" rfl (by decide) (by intro v h; cases h; unfold int64; omega) (fun b => Or.inl (by intro h; cases h))
  · exact scope_builtin f0 _ "=" rfl (by decide) (by intro v h; cases h) (fun b => Or.inr (by intro c hc; cases hc; decide))
  · exact h.elim
  · exact scope_builtin f0 _ ">" rfl (by decide) (by intro v h; cases h; unfold int64; omega) (fun b => Or.inl (by intro h; cases h))
  · exact scope_builtin f0 _ "isnull" rfl (by decide) (by intro v h; cases h) (fun b => Or.inl (by intro h; cases h))

/-- the headline theorem on this input: the regenerated Filter with the regenerated leaves and calls keeps no row
(`Null` is inside the `Or`), without error -/
example (f2i : UInt64 → Int) (i2f : Int → UInt64) : genFilterE2E C02Spec.lo0 f2i i2f (genO C02Spec.lo0 f2i i2f f0) f0 c1 = some [] := by
  rw [gen_filter_end_to_end_genO_partial C02Spec.lo0 f2i i2f f0 f0_wt c1 c1_scope]; decide
/-- `Filter{b = 0, Inverse: true}`: the rows where b = 0 is false, the NaN row included -/
example (f2i : UInt64 → Int) (i2f : Int → UInt64) :
    genFilterE2E C02Spec.lo0 f2i i2f (genO C02Spec.lo0 f2i i2f f0) f0 (.leaf { bEq0 with inv := true }) = some [0, 2] := by
  rw [gen_filter_inv_end_to_end_partial C02Spec.lo0 f2i i2f _ (genO_abstracts C02Spec.lo0 f2i i2f f0) f0 f0_wt _ rfl
    (scope_builtin f0 _ "=" rfl (by decide) (by intro v h; cases h) (fun b => Or.inr (by intro c hc; cases hc; decide))).1
    (by intro h; injection h with h; revert h; decide)]
  decide

/-! ### Finding 1: `Not(Filter{"not in"})` -/

/-- a = [1, 2, 3]; `a not in [2, 3]` -/
def notIn : Leaf := ⟨false, [97], .builtin "not in", .ints [2, 3]⟩

/-- **Finding 1.** Input: int column A = [1, 2, 3], `Filter{Column: "A", Comparator: "not in", Arg: []int{2, 3}, Inverse: true}`
(equally `Not(Filter{… "not in" …})`; string and enum columns with a `[]string` likewise). The spec rejects the leaf
(`leafPred = none`: no column implements "not in", so `Filter` must return an error — as it does without `Inverse`).
Today's code does not: `filter.Inverse["not in"] = "in"`, the call with "in" succeeds and `QFrame.filter` is `done` — no
error, rows [2, 3] (confirmed on the real code). In the terms regenerated today: the direct call fails, the call through
`filter.Inverse` succeeds — `NoRescue` is false, so these calls are not abstracted by any `F.Leaf` with `err`. -/
theorem not_in_is_rescued (f2i : UInt64 → Int) (i2f : Int → UInt64) :
    leafPred C02Spec.lo0 f0 notIn = none ∧ (genLeafCalls promGen C02Spec.lo0 f2i i2f f0 notIn).direct = none ∧
    (shortcutOf (genLeafCalls promGen C02Spec.lo0 f2i i2f f0 notIn)).isSome = true ∧ ¬ NoRescue promGen C02Spec.lo0 f2i i2f f0 notIn := by
  have hs : LeafScope f0 notIn := ⟨(by intro v h; cases h), (by rintro c hc ⟨_, b, hb⟩; cases hb), (by intro h; cases h), (by intro id h; cases h)⟩
  have h1 : leafPred C02Spec.lo0 f0 notIn = none := C02Mirror.leafPred_notin C02Spec.lo0 f0 notIn rfl
  have h2 : (genLeafCalls promGen C02Spec.lo0 f2i i2f f0 notIn).direct = none := by
    rw [genLeaf_direct C02Spec.lo0 f2i i2f f0 f0_wt notIn hs, h1]; rfl
  have h3 : (shortcutOf (genLeafCalls promGen C02Spec.lo0 f2i i2f f0 notIn)).isSome = true := by
    rw [genLeaf_shortcut C02Spec.lo0 f2i i2f f0 f0_wt notIn hs, Option.isSome_map]; decide
  refine ⟨h1, h2, h3, ?_⟩
  intro h
  rw [h h2] at h3
  cases h3

/-! ### Finding 2: a one-argument custom predicate with a `ColumnName` argument -/

/-- **Finding 2.** Input: int column A = [1, 2, 3] (and a float column B), `Filter{Column: "A", Comparator: func(int) bool
odd, Arg: types.ColumnName("nosuch")}`. The spec ignores the argument of a one-argument predicate (`leafPred` accepts the
leaf: rows [0, 2]); today's `QFrame.filter` looks every `ColumnName` argument up before it calls `Column.Filter` and
returns `unknown argument column` (confirmed on the real code; with `ColumnName("B")`, B a float column, the int column
is promoted and `filterCustom1` rejects `func(int) bool`). In the regenerated terms: -/
theorem custom1_with_column_arg (f2i : UInt64 → Int) (i2f : Int → UInt64) :
    (leafPred C02Spec.lo0 f0 ⟨false, [97], .p1 "odd", .col [122]⟩).isSome = true ∧
    (genLeafCalls promGen C02Spec.lo0 f2i i2f f0 ⟨false, [97], .p1 "odd", .col [122]⟩).direct = none := by
  refine ⟨by decide, ?_⟩
  exact genRes_unknown_arg (b := false) promGen C02Spec.lo0 f2i i2f f0 ⟨false, [97], .p1 "odd", .col [122]⟩ (.p1 "odd") [122] rfl (by decide)

/-! ### Seeded defect C02-9: the operands of the float-vs-int promotion come back swapped -/

/-- the preamble of the seeded change: for a float column against an int column `promoteIntFloat` returns
(promoted argument, column) -/
def promSwapped (c ac : LCol) : LCol × LCol :=
  if c.ty == .float && ac.ty == .int then (promote ac, c) else promGen c ac

/-- today's rules are not the swapped preamble's (`prepGen_eq`: `prepWith promGen = prep`, operand order included;
`gen_promote_rules` fails on any change of the rules) -/
example : promSwapped { name := [70], ty := .float, cells := #[] } { name := [73], ty := .int, cells := #[] } ≠
    promGen { name := [70], ty := .float, cells := #[] } { name := [73], ty := .int, cells := #[] } := by
  rw [promGen_eq]
  simp [promSwapped, promote]

/-! The concrete violation. Lean's kernel cannot evaluate `Float.ofInt`, so the witness is stated relative to
`intToF64Bits 2 = 0x4000000000000000` (`float64(2)` has the bits of 2.0; `#eval (Float.ofInt 2).toBits` prints
4611686018427387904 = 0x4000000000000000). -/

/-- F = [1.5] (float), I = [2] (int); the leaf `F < I` -/
def colF : LCol := { name := [70], ty := .float, cells := #[.float 0x3FF8000000000000] }
def colI : LCol := { name := [73], ty := .int, cells := #[.int 2] }
/-- `I` promoted, given `float64(2)` = 2.0 -/
def colI2 : LCol := { name := [73], ty := .float, cells := #[.float 0x4000000000000000] }
def fFI : LFrame := { cols := [colF, colI], n := 1 }
def lFI : Leaf := ⟨false, [70], .builtin "<", .col [73]⟩

theorem promote_colI (h2 : intToF64Bits 2 = 0x4000000000000000) : promote colI = colI2 := by
  simp [promote, colI, colI2, h2]

theorem find_F : fFI.find? [70] = some colF := by simp [fFI, LFrame.find?, colF, colI]
theorem find_I : fFI.find? [73] = some colI := by simp [fFI, LFrame.find?, colF, colI]

theorem call_today (lo : LikeOracle) (f2i : UInt64 → Int) (i2f : Int → UInt64) (h2 : intToF64Bits 2 = 0x4000000000000000) :
    genRes promGen lo f2i i2f fFI lFI (.builtin "<") =
      ((today lo f2i i2f {} colF (.str "<") (.col .float [] 1)).runFilter, colF, colI2) := by
  simp only [genRes, lFI, find_F, find_I, prepWith, promGen_eq, promote_colI h2, paramsOf, dcmpOf]
  rfl

theorem call_swapped (lo : LikeOracle) (f2i : UInt64 → Int) (i2f : Int → UInt64) (h2 : intToF64Bits 2 = 0x4000000000000000) :
    genRes promSwapped lo f2i i2f fFI lFI (.builtin "<") =
      ((today lo f2i i2f {} colI2 (.str "<") (.col .float [] 1)).runFilter, colI2, colF) := by
  simp only [genRes, lFI, find_F, find_I, prepWith, promSwapped, promote_colI h2, paramsOf, dcmpOf]
  rfl

theorem colI2_eq : colI2.cells = #[.float 0x4000000000000000] ∧ colF.cells = #[.float 0x3FF8000000000000] := ⟨rfl, rfl⟩

/-- `Column.Filter("<")` of today's fcolumn on a float receiver `c` against a float column `ac` of one row: the guarded
accumulate of `c[0] < ac[0]` -/
theorem float_lt_call (lo : LikeOracle) (f2i : UInt64 → Int) (i2f : Int → UInt64) (c ac : LCol) (hc : c.ty = .float) (ha : ac.ty = .float)
    (hv : ac.vals = []) (hn1 : c.cells.size = 1) (hn2 : ac.cells.size = 1)
    (hok : cellOk c.ty c.vals c.cells[0]! = true ∧ cellOk ac.ty ac.vals ac.cells[0]! = true) (out : Bool) :
    ∃ q, kernelOf 1 out ((today lo f2i i2f {} c (.str "<") (.col .float [] 1)).runFilter, c, ac) = some (.guarded, q) ∧
      q 0 = cmp6 c "<" c.cells[0]! ac.cells[0]! := by
  have hdef : c.ty ∈ tys := by rw [hc]; decide
  have h := agrees_onRows (dispatch_col lo f2i i2f {} c "<" hdef ac [] (by rw [hn1, hn2]))
  rw [show C02Spec.route lo c "<" ac (.col []) = some (cmp6 c "<") by simp [C02Spec.route, hc, ha, isOrd6]] at h
  rw [ha, hv, hn2, ← run_dispatchOf _ hdef, ← gen_filter_builtin lo f2i i2f {} c "<" _ hdef] at h
  exact ⟨_, kernelOf_agrees (n := 1) (out := out) h (fun i hi => by
    have : i = 0 := by omega
    subst this; exact hok), rfl⟩

/-- **Seeded defect C02-9, the concrete violation** (relative to `float64(2)` having the bits of 2.0, which Lean's kernel
cannot compute from `Float.ofInt`): on the frame F = [1.5] (float), I = [2] (int) and the leaf `F < I`
* the spec keeps row 0 (1.5 < 2.0);
* today's regenerated call (`genLeafCalls promGen`: the receiver is F, the operand the promoted I) is the guarded kernel of a
  predicate that is TRUE at row 0;
* with the swapped preamble (`promSwapped`: the promoted argument comes back as the receiver, the column as the operand) the
  regenerated call runs the float kernel `<` on (2.0, 1.5): its predicate is FALSE at row 0 — the row the spec keeps is dropped. -/
theorem c02_9_swapped_promotion_keeps_wrong_rows (lo : LikeOracle) (f2i : UInt64 → Int) (i2f : Int → UInt64)
    (h2 : intToF64Bits 2 = 0x4000000000000000) :
    (∃ p, leafPred lo fFI lFI = some p ∧ p 0 = true) ∧
    (∃ q, (genLeafCalls promGen lo f2i i2f fFI lFI).direct = some (.guarded, q) ∧ q 0 = true) ∧
    (∃ q, (genLeafCalls promSwapped lo f2i i2f fFI lFI).direct = some (.guarded, q) ∧ q 0 = false) := by
  refine ⟨?_, ?_, ?_⟩
  · refine ⟨fun r => cmp6 colF "<" colF.cells[r]! colI2.cells[r]!, ?_, by decide⟩
    unfold leafPred
    simp only [lFI, find_F, find_I]
    simp [colF, colI, promote, h2, isOrd6, colI2]
  · obtain ⟨q, hq, h0⟩ := float_lt_call lo f2i i2f colF colI2 rfl rfl rfl rfl rfl (by decide) false
    refine ⟨q, ?_, by rw [h0]; decide⟩
    rw [genLeafCalls_direct, show lFI.cmp = .builtin "<" from rfl, call_today lo f2i i2f h2]
    exact hq
  · obtain ⟨q, hq, h0⟩ := float_lt_call lo f2i i2f colI2 colF rfl rfl rfl rfl rfl (by decide) false
    refine ⟨q, ?_, by rw [h0]; decide⟩
    rw [genLeafCalls_direct, show lFI.cmp = .builtin "<" from rfl, call_swapped lo f2i i2f h2]
    exact hq

/-- the remaining hypotheses of the witness are met by the frame: one row, float cells -/
example : fFI.n = 1 ∧ cellOk colF.ty colF.vals colF.cells[0]! = true ∧ cellOk colI2.ty colI2.vals colI2.cells[0]! = true := by decide

/-! ### Seeded defect C02-10: `Null()` skipped inside `Or` -/

/-- `OrClause.filter` of the seeded change: `if _, ok := c.(NullClause); ok { continue }` in the loop and
`if filteredQf == nil { return qf }` at the end -/
def mutOrSkipNull : CL.Fn := { params := 2, body := S.block [
  C02ClausesGen.retIfFailed 1, C02ClausesGen.retIfClauseErr .or, S.define 2 E.emptyLeaves, S.define 3 E.nilPtr,
  S.range (E.subClauses (E.var 0)) none (some 4) (S.block [S.ifIs (E.var 4) DynTy.null 9 (S.block [])
    (S.block [S.ifIs (E.var 4) DynTy.filter 5
      (S.block [S.assign 2 (E.snoc (E.var 2) (E.var 5))])
      (S.block (S.ite (E.cmp COp.gt (E.len (E.var 2)) (E.int 0))
        (S.block (C02ClausesGen.flush 6 ++ [S.assign 2 (E.truncate (E.var 2) (E.int 0))])) (S.block []) :: C02ClausesGen.nestedCall))])]),
  S.ite (E.cmp COp.gt (E.len (E.var 2)) (E.int 0)) (S.block (C02ClausesGen.flush 8)) (S.block []),
  S.ite (E.isNil (E.var 3)) (S.block [S.ret (E.var 1)]) (S.block []),
  S.ret (E.deref (E.var 3))] }

/-- the leaf `a > 1` on a = [1, 2, 3] as the regenerated calls define it, with the kernel's predicate read off by `decide` -/
def gt1Leaf : F.Leaf := { shape := .guarded, pred := fun r => r == 1 || r == 2 }

/-- On `Or(a > 1, Null())` over three rows the changed term keeps rows [1, 2]; the statement (`keptRows`: every row — `Null`
is absorbing in an `Or`) is violated; today's term keeps [0, 1, 2]. -/
example : interp (C02ClausesGen.withFn (.filter .or) mutOrSkipNull) LeafCalls.ofLeaf (.or [.leaf gt1Leaf, .null]) { index := [0, 1, 2] } =
    some { index := [1, 2] } := by decide +kernel
example : interp C02ClausesGen.canonFns LeafCalls.ofLeaf (.or [.leaf gt1Leaf, .null]) { index := [0, 1, 2] } = some { index := [0, 1, 2] } := by decide +kernel
example : keptRows C02Spec.lo0 f0 (.or [.leaf aGt1, .null]) = [0, 1, 2] := by decide +kernel
example : C02ClausesGen.withFn (.filter .or) mutOrSkipNull ≠ C02ClausesGen.canonFns := by decide +kernel

end Witnesses

#print axioms prepGen_eq
#print axioms genLeafCalls_abstracts
#print axioms genO_abstracts
#print axioms genO_gen
#print axioms genCall_spec
#print axioms gen_leaf_not_stuck
#print axioms genClause_filter_eq_spec
#print axioms gen_filter_end_to_end_partial
#print axioms gen_filter_inv_end_to_end_partial
#print axioms gen_filter_end_to_end_genO_partial
#print axioms not_in_is_rescued
#print axioms custom1_with_column_arg
#print axioms gen_kernel_loop
#print axioms gen_kernel_loop_out
#print axioms gen_kernel_loop_agrees
#print axioms c02_9_swapped_promotion_keeps_wrong_rows

end QF.Props.C02EndToEnd
