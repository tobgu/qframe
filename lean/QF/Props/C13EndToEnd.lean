import QF.Props.C12EndToEnd
import QF.Core.ListFacts
import QF.Props.C13WriterGen
import QF.Props.C16LinkFinal
import QF.Props.C17Enum
/-!
# C13 — ToCSV ∘ ReadCSV end to end: what today's `ToCSV` writes, read back by today's `ReadCSV`, is the frame

Pieces (proved elsewhere, for the terms regenerated from today's source): `C13WriterGen.gen_tocsv_semantics` (the records
today's `QFrame.ToCSV` hands to the csv writer are `C13Write.tocsvRows` of the selected columns; the cell strings are those of
today's `StringAt`), `C13Write.csvWrite` (byte-exact mirror of `encoding/csv.Writer`), `C12EndToEnd.gen_readcsv_end_to_end`
(today's reader ∘ glue ∘ type conversion ∘ root entry = `readCsvS`, every read schedule), `C16Link.ryu_text_is_shortest`
(the shortest round-trip text parses back to the identical float64). This file adds the spec-level computation and
chains everything:

* `readCell_cellString`, `csvColumn_declared` — the text written for one cell, read as a cell of a column declared with its
                        type (`readCell`), is `rrCell` of the cell; a column with a declared type is its texts read one by one
* `csvColumn_reread`  — hence a column of the frame's type, read from its own cell texts with its type (and enum values) declared,
                        is the column again (`rereadCol`: identical ints, bools, strings and enum values; non-NaN floats
                        bit-identical, NaN ↦ the canonical NaN; a null string ↦ `""`, or `""` ↦ null under EmptyNull)
* `csvGlueS_tocsv`, `readCsvS_tocsv` — hence `readCsvS` on the bytes of `tocsv` is the frame of the re-read columns
* `gen_csv_roundtrip_end_to_end` — the statement, for every read schedule with reads ≥ 1, capacity, EOF mode;
  `gen_csv_roundtrip_spec` — … and the frame is the spec's `csvReread` (`specRereadCol_eq`)
* `FloatText`, `floatText_roundTrip` — the float part of `RoundTrip` follows from "the text written for a finite float
  parses back to it (`Num.parsesTo`), the parser rounds correctly, the infinities come back"; `ryuText_parses` — the text
  of C16 (`ryu_text_is_shortest`) meets the first clause for finite NON-ZERO floats. No instance of `FloatText` is built:
  the zeros and the infinities are not covered by a theorem.

Hypotheses: `CellRT` on every cell written, i.e. `Atoi ∘ FormatInt = id`, `ParseBool ∘ FormatBool = id`,
`ParseFloat ∘ FormatFloat = id` on the non-NaN floats of the frame — the standard library is not modelled. `RoundTrip` is
the same for all values (`RoundTrip.cell`); its float part is reduced to correct rounding by `floatText_roundTrip`.
-/
namespace QF.Props.C13EndToEnd
open QF QF.Props.C13Write QF.Props.C12EndToEnd QF.Props.C12GlueGen
set_option linter.unusedSimpArgs false

/-- the name under which `ReadCSV`'s `Types` option declares a column type -/
def typeName : CType → String
  | .int => "int" | .float => "float" | .bool => "bool" | .string => "string" | .enum => "enum" | .undef => ""

/-- parse ∘ format = id for every int, bool and non-NaN float; `fne`: the reader takes an empty float cell for NaN
without calling the parser (`C12Infer.gFloat`) -/
structure RoundTrip (po : ParseOracle) (fmt : UInt64 → Bytes) : Prop where
  atoi : ∀ v : Int, po.atoi (intStr v) = some v
  ptrue : po.pbool [116, 114, 117, 101] = some true
  pfalse : po.pbool [102, 97, 108, 115, 101] = some false
  fne : ∀ b, F64.isNaN b = false → fmt b ≠ []
  pfloat : ∀ b, F64.isNaN b = false → po.pfloat (fmt b) = some b

/-- the same for one cell: all that the theorems below use of the standard library is parse ∘ format = id on the cells that
are actually written -/
def CellRT (po : ParseOracle) (fmt : UInt64 → Bytes) : Cell → Prop
  | .int v => po.atoi (intStr v) = some v
  | .float b => F64.isNaN b = false → fmt b ≠ [] ∧ po.pfloat (fmt b) = some b
  | .bool b => po.pbool (if b then [116, 114, 117, 101] else [102, 97, 108, 115, 101]) = some b
  | .str _ => True

theorem RoundTrip.cell {po : ParseOracle} {fmt : UInt64 → Bytes} (H : RoundTrip po fmt) : ∀ x, CellRT po fmt x
  | .int v => H.atoi v
  | .float b => fun hn => ⟨H.fne b hn, H.pfloat b hn⟩
  | .bool true => H.ptrue
  | .bool false => H.pfalse
  | .str _ => trivial

instance (po : ParseOracle) (fmt : UInt64 → Bytes) (x : Cell) : Decidable (CellRT po fmt x) := by
  cases x <;> unfold CellRT <;> infer_instance

/-- what a cell of a column of type `ty` is after `ToCSV` and `ReadCSV`: NaN ↦ the canonical NaN; a null string is written as
the empty text, which comes back as `""`, or as null under EmptyNull (then `""` comes back as null too) -/
def rrCell (emptyNull : Bool) : CType → Cell → Cell
  | .float, .float b => if F64.isNaN b then .float F64.canonNaN else .float b
  | .string, .str none => if emptyNull then .str none else .str (some [])
  | .enum, .str none => if emptyNull then .str none else .str (some [])
  | .string, .str (some s) => if s.isEmpty && emptyNull then .str none else .str (some s)
  | .enum, .str (some s) => if s.isEmpty && emptyNull then .str none else .str (some s)
  | _, x => x

def rrCells (n : Nat) (emptyNull : Bool) (c : LCol) : List Cell := (List.range n).map (fun r => rrCell emptyNull c.ty c.cells[r]!)

/-- the column read back. `| none => c` is not reached under the hypothesis `hmk` of the theorems (the enum values fit). -/
def rereadCol (n : Nat) (emptyNull : Bool) (c : LCol) : LCol :=
  match c.ty with
  | .enum =>
    match mkEnum c.vals (rrCells n emptyNull c) with
    | some (vals, strict) => { name := c.name, ty := .enum, vals := vals, strict := strict, cells := (rrCells n emptyNull c).toArray }
    | none => c
  | ty => { name := c.name, ty := ty, cells := (rrCells n emptyNull c).toArray }

/-- the cell texts of the first `n` rows of a column -/
def strsOf (fmt : UInt64 → Bytes) (n : Nat) (c : LCol) : List Bytes := (List.range n).map (fun r => cellString fmt c.cells[r]!)

/-- how `csvColumn` reads one cell text of a column declared with type `ty` -/
def readCell (po : ParseOracle) (e : Bool) : CType → Bytes → Option Cell
  | .int, t => (po.atoi t).map Cell.int
  | .float, t => if t.isEmpty then some (Cell.float F64.canonNaN) else (po.pfloat t).map Cell.float
  | .bool, t => (po.pbool t).map Cell.bool
  | .string, t | .enum, t => some (if t.isEmpty && e then Cell.str none else Cell.str (some t))
  | .undef, _ => none

/-- **One cell, written and read back**: the text `ToCSV` writes for a cell of a column of type `ty`, read as `ReadCSV` reads
a cell of a column declared with that type, is `rrCell` of the cell. -/
theorem readCell_cellString (po : ParseOracle) (fmt : UInt64 → Bytes) (e : Bool) {ty : CType} {vals : List Bytes} {x : Cell}
    (hx : wtCell ty vals x = true) (H : CellRT po fmt x) :
    readCell po e ty (cellString fmt x) = some (rrCell e ty x) := by
  refine C09Observe.wtCell_elim hx (P := fun ty x => CellRT po fmt x → readCell po e ty (cellString fmt x) = some (rrCell e ty x))
    ?_ ?_ ?_ ?_ ?_ H
  · intro v H; simp only [readCell, cellString, rrCell, show po.atoi (intStr v) = some v from H, Option.map_some]
  · intro b H
    cases hn : F64.isNaN b with
    | true => simp [readCell, cellString, rrCell, hn]
    | false => simp [readCell, cellString, rrCell, hn, (H hn).1, (H hn).2]
  · intro b H
    show (po.pbool (if b then _ else _)).map Cell.bool = _
    rw [show po.pbool _ = some b from H]; rfl
  · intro s _; cases s with
    | none => cases e <;> rfl
    | some s => cases e <;> cases s <;> rfl
  · intro s _ _; cases s with
    | none => cases e <;> rfl
    | some s => cases e <;> cases s <;> rfl

/-- **A column with a declared type is its cell texts read one by one** (and, for an enum column, `mkEnum` of the cells). -/
theorem csvColumn_declared (po : ParseOracle) (cfg : CsvCfg) (name : Bytes) (texts : List Bytes) {ty : CType}
    (hty : ty ∈ C03Compare.tys) (htype : (cfg.types.find? (·.1 == name)).map (·.2) = some (typeName ty)) :
    csvColumn po cfg name texts =
      match texts.mapM (readCell po cfg.emptyNull ty) with
      | none => (none, false)
      | some cs =>
        if ty = .enum then
          match mkEnum (((cfg.enums.find? (·.1 == name)).map (·.2)).getD []) cs with
          | some (vals, strict) =>
            (some { name := name, ty := .enum, vals := vals, strict := strict, cells := cs.toArray }, cfg.enums.any (·.1 == name))
          | none => (none, true)
        else (some { name := name, ty := ty, cells := cs.toArray }, false) := by
  have hstr : ∀ g : Bytes → Cell, texts.mapM (fun t => some (g t)) = some (texts.map g) := fun g =>
    ListFacts.mapM_eq_some_map g fun _ _ => rfl
  unfold csvColumn
  rw [htype]
  cases ty with
  | undef => exact absurd hty (by decide)
  | int =>
    show ((texts.mapM (readCell po cfg.emptyNull .int)).bind _, false) = _
    cases texts.mapM (readCell po cfg.emptyNull .int) <;> rfl
  | float =>
    show ((texts.mapM (readCell po cfg.emptyNull .float)).bind _, false) = _
    cases texts.mapM (readCell po cfg.emptyNull .float) <;> rfl
  | bool =>
    show ((texts.mapM (readCell po cfg.emptyNull .bool)).bind _, false) = _
    cases texts.mapM (readCell po cfg.emptyNull .bool) <;> rfl
  | string => rw [show readCell po cfg.emptyNull .string = fun t => some _ from rfl, hstr]; rfl
  | enum => rw [show readCell po cfg.emptyNull .enum = fun t => some _ from rfl, hstr]; rfl

theorem csvColumn_reread (po : ParseOracle) (fmt : UInt64 → Bytes) (cfg : CsvCfg) (c : LCol) (n : Nat)
    (H : ∀ r, r < n → CellRT po fmt c.cells[r]!)
    (hty : C09Observe.ColTyped n c)
    (htype : (cfg.types.find? (·.1 == c.name)).map (·.2) = some (typeName c.ty))
    (henum : c.ty = .enum → ((cfg.enums.find? (·.1 == c.name)).map (·.2)).getD [] = c.vals ∧ cfg.enums.any (·.1 == c.name) = true)
    (hmk : c.ty = .enum → (mkEnum c.vals (rrCells n cfg.emptyNull c)).isSome = true) :
    csvColumn po cfg c.name (strsOf fmt n c) = (some (rereadCol n cfg.emptyNull c), c.ty == .enum) := by
  have hcells : (strsOf fmt n c).mapM (readCell po cfg.emptyNull c.ty) = some (rrCells n cfg.emptyNull c) := by
    rw [ListFacts.mapM_eq_some_iff, strsOf, rrCells, List.map_map, List.map_map]
    exact List.map_congr_left fun r hr =>
      readCell_cellString po fmt _ (hty.2 r (List.mem_range.1 hr)) (H r (List.mem_range.1 hr))
  rw [csvColumn_declared po cfg c.name _ hty.1 htype, hcells]
  unfold rereadCol
  by_cases he : c.ty = .enum
  · obtain ⟨h1, h2⟩ := henum he
    have hm := hmk he
    simp only [he, if_true, h1, h2, beq_self_eq_true]
    cases hme : mkEnum c.vals (rrCells n cfg.emptyNull c) with
    | none => rw [hme] at hm; cases hm
    | some p => rfl
  · simp only [he, if_false, beq_eq_false_iff_ne.2 he]

/-! ## the glue of the spec on records of the right width -/

theorem rows_keep (cfg : CsvCfg) (headers : List Bytes) (hig : cfg.ignoreEmpty = false) :
    ∀ (body acc : List (List Bytes)), (∀ r ∈ body, r.length = headers.length) →
      readCsvS.rows cfg headers acc body = some (acc.reverse ++ body)
  | [], acc, _ => by simp [readCsvS.rows]
  | r :: rs, acc, hw => by
    have hr : (r.length != headers.length) = false := by simp [hw r (by simp)]
    rw [readCsvS.rows]
    simp only [hr, hig, Bool.and_false, Bool.false_eq_true, ↓reduceIte]
    rw [rows_keep cfg headers hig rs (r :: acc) (fun x hx => hw x (by simp [hx]))]
    simp

theorem range_map_eq {α β : Type} (cs : List α) (G : Nat → β) (F : α → β) (h : ∀ i (hi : i < cs.length), G i = F cs[i]) :
    (List.range cs.length).map G = cs.map F := by
  apply List.ext_getElem
  · simp
  · intro i h1 h2
    simp only [List.length_map, List.length_range] at h1
    simp [h i h1]

/-- the glue of the spec when nothing is dropped, aliased or renamed: the header `cs.map name` (the first record, or the
configured one) over records `body` of its width; if the texts at position `i` make the column `col cs[i]` (consuming an enum
declaration iff `isE cs[i]`) and every declaration is consumed, the columns are `cs.map col` -/
theorem csvGlueS_cols {γ : Type} (po : ParseOracle) (cfg : CsvCfg) (recs body : List (List Bytes)) (cs : List γ)
    (name : γ → Bytes) (col : γ → LCol) (isE : γ → Bool)
    (hh : cfg.headers.isEmpty = true ∧ recs = cs.map name :: body ∨
      cfg.headers.isEmpty = false ∧ cs.map name = cfg.headers ∧ body = recs)
    (hig : cfg.ignoreEmpty = false) (hal : cfg.«alias» = []) (hrn : cfg.rename = false)
    (hw : ∀ r ∈ body, r.length = cs.length) (hnd : (cs.map name).Nodup)
    (hcol : ∀ i (hi : i < cs.length), csvColumn po cfg (name cs[i]) (body.map (·[i]!)) = (some (col cs[i]), isE cs[i]))
    (hen : ∀ e ∈ cfg.enums, ∃ c ∈ cs, isE c = true ∧ name c = e.1) :
    csvGlueS po cfg recs = some (cs.map name, cs.map col, body.length) := by
  have hed : ((cs.map name).eraseDups.length != (cs.map name).length) = false := by
    cases h : ((cs.map name).eraseDups.length != (cs.map name).length) with
    | false => rfl
    | true => exact absurd hnd ((ListFacts.eraseDups_ne_iff _).mp h)
  have hrows := rows_keep cfg (cs.map name) hig body [] (by simpa using hw)
  -- the spec's list of results, one per position
  have hK : (List.range (cs.map name).length).map (fun i => csvColumn po cfg ((cs.map name)[i]!) (body.map (·[i]!))) =
      cs.map fun c => (some (col c), isE c) := by
    rw [List.length_map]
    exact range_map_eq cs _ _ fun i hi => by rw [← hcol i hi]; simp [getElem!_pos, hi]
  have hused : cfg.enums.all (fun e => ((List.zip (cs.map name) (cs.map fun c => ((some (col c) : Option LCol), isE c))).filterMap
      (fun (h, c) => if c.2 then some h else none)).contains e.1) = true := by
    rw [List.all_eq_true]
    intro e he
    obtain ⟨c, hc, h1, h2⟩ := hen e he
    rw [List.zip_map', List.filterMap_map, List.contains_iff_mem]
    exact List.mem_filterMap.mpr ⟨c, hc, by simp [h1, h2]⟩
  have hsome : (cs.map fun c => ((some (col c) : Option LCol), isE c)).any (·.1.isNone) = false := by simp
  have hfm : (cs.map fun c => ((some (col c) : Option LCol), isE c)).filterMap (·.1) = cs.map col := by
    simp [List.filterMap_map, Function.comp_def]
  unfold csvGlueS
  rcases hh with ⟨he, rfl⟩ | ⟨he, hc, rfl⟩
  · simp only [he, hrows, List.reverse_nil, List.nil_append, hal, hrn, List.isEmpty_nil, ↓reduceIte, Bool.false_eq_true, hK,
      hused, hed, Bool.not_true, hfm, hsome]
  · simp only [he, Bool.false_eq_true, ↓reduceIte]
    simp only [← hc, hrows, List.reverse_nil, List.nil_append, hal, hrn, List.isEmpty_nil, ↓reduceIte, Bool.false_eq_true, hK,
      hused, hed, Bool.not_true, hfm, hsome]

/-! ## reading back the records of a frame -/

/-- the configuration with which the property reads the bytes back: the column types (and the enum values) declared, the
names supplied when no header row was written, `EmptyNull` as chosen; everything else at its default -/
def rereadCfg (cs : List LCol) (hdr emptyNull : Bool) : CsvCfg :=
  { emptyNull := emptyNull, headers := if hdr then [] else cs.map (·.name),
    types := cs.map (fun c => (c.name, typeName c.ty)),
    enums := (cs.filter (fun c => c.ty == .enum)).map (fun c => (c.name, c.vals)) }

theorem find_by_name {β : Type} (g : LCol → β) (cs : List LCol) (hnd : (cs.map (·.name)).Nodup) (c : LCol) (hc : c ∈ cs) :
    (cs.map (fun c => (c.name, g c))).find? (fun x => x.1 == c.name) = some (c.name, g c) :=
  ListFacts.find?_key_of_mem (fun x : Bytes × β => x.1) (cs.map (fun c => (c.name, g c))) (by rw [List.map_map]; exact hnd)
    (c.name, g c) (List.mem_map_of_mem hc)

theorem csvGlueS_tocsv (po : ParseOracle) (fmt : UInt64 → Bytes) (cs : List LCol) (n : Nat) (hdr emptyNull : Bool)
    (H : ∀ c ∈ cs, ∀ r, r < n → CellRT po fmt c.cells[r]!)
    (hne : cs ≠ []) (hnd : (cs.map (·.name)).Nodup) (hty : ∀ c ∈ cs, C09Observe.ColTyped n c)
    (hmk : ∀ c ∈ cs, c.ty = .enum → (mkEnum c.vals (rrCells n emptyNull c)).isSome = true) :
    csvGlueS po (rereadCfg cs hdr emptyNull) (tocsvRows fmt hdr { cols := cs, n := n }) =
      some (cs.map (·.name), cs.map (rereadCol n emptyNull), n) := by
  rw [tocsvRows_eq]
  generalize hbody : (List.range n).map (fun r => cs.map (fun c => cellString fmt c.cells[r]!)) = body
  have key := csvGlueS_cols po (rereadCfg cs hdr emptyNull) ((if hdr then [cs.map (·.name)] else []) ++ body) body cs (·.name)
    (rereadCol n emptyNull) (·.ty == .enum)
    (by cases hdr with
      | true => exact .inl ⟨rfl, rfl⟩
      | false => exact .inr ⟨by cases cs <;> first | exact absurd rfl hne | rfl, rfl, rfl⟩)
    rfl rfl rfl (fun r hr => by rw [← hbody] at hr; obtain ⟨i, _, rfl⟩ := List.mem_map.mp hr; simp) hnd
    (fun i hi => ?_) (fun e he => ?_)
  · rw [key, ← hbody, List.length_map, List.length_range]
  · -- position `i` of the records holds the texts of column `i`, whose type and enum values `rereadCfg` declares
    have hci : cs[i] ∈ cs := List.getElem_mem hi
    have hcol : body.map (·[i]!) = strsOf fmt n cs[i] := by
      rw [← hbody, List.map_map]
      exact List.map_congr_left fun r _ => by simp [hi]
    rw [hcol]
    refine csvColumn_reread po fmt (rereadCfg cs hdr emptyNull) cs[i] n (H _ hci) (hty _ hci) ?_ (fun he => ?_) (hmk _ hci)
    · show ((cs.map (fun c => (c.name, typeName c.ty))).find? (fun x => x.1 == cs[i].name)).map (·.2) = _
      rw [find_by_name _ cs hnd _ hci]; rfl
    · have hf : cs[i] ∈ cs.filter (fun c => c.ty == .enum) := List.mem_filter.mpr ⟨hci, by simp [he]⟩
      constructor
      · show ((((cs.filter (fun c => c.ty == .enum)).map (fun c => (c.name, c.vals))).find? (fun x => x.1 == cs[i].name)).map (·.2)).getD [] = _
        rw [find_by_name _ _ (hnd.sublist ((List.filter_sublist).map _)) _ hf]; rfl
      · exact List.any_eq_true.2 ⟨(cs[i].name, cs[i].vals), List.mem_map.mpr ⟨_, hf, rfl⟩, by simp⟩
  · obtain ⟨c, hc, rfl⟩ := List.mem_map.mp (show e ∈ (cs.filter (fun c => c.ty == .enum)).map (fun c => (c.name, c.vals)) from he)
    exact ⟨c, (List.mem_filter.mp hc).1, (List.mem_filter.mp hc).2, rfl⟩

/-- **The specification on the bytes of `tocsv`.** For columns `cs` (at least one, distinct legal names, cells of their
types) and `n` rows: `readCsvS`, with the types declared, reads from what `tocsv` writes the frame of the re-read columns. -/
theorem readCsvS_tocsv (po : ParseOracle) (fmt : UInt64 → Bytes) (cs : List LCol) (n : Nat) (hdr emptyNull : Bool)
    (H : ∀ c ∈ cs, ∀ r, r < n → CellRT po fmt c.cells[r]!)
    (hne : cs ≠ []) (hnd : (cs.map (·.name)).Nodup) (hlegal : (cs.map (·.name)).all legalName = true)
    (hty : ∀ c ∈ cs, C09Observe.ColTyped n c)
    (hmk : ∀ c ∈ cs, c.ty = .enum → (mkEnum c.vals (rrCells n emptyNull c)).isSome = true) :
    readCsvS po (rereadCfg cs hdr emptyNull) (tocsv fmt hdr { cols := cs, n := n }) =
      .ok { cols := cs.map (rereadCol n emptyNull), n := n } := by
  rw [readCsvS_eq]
  have hd : (rereadCfg cs hdr emptyNull).delim = 44 := rfl
  rw [hd, tocsv_rows fmt hdr { cols := cs, n := n } hne, csvGlueS_tocsv po fmt cs n hdr emptyNull H hne hnd hty hmk]
  simp only [hlegal, Bool.not_true, Bool.false_eq_true, ↓reduceIte]

/-! ## the bytes of the csv writer are an RFC 4180 document -/

theorem rfcDoc_csvWrite (rows : List (List Bytes)) (h : ∀ r ∈ rows, r ≠ []) (hcr : ∀ r ∈ rows, LastFieldNoCR r) :
    RfcDoc 44 (csvWrite rows) rows := by
  have := RfcDoc.lf (delim := 44) (rows.map (·.map (fun f => (needsQuotes f, f)))) (by
    intro r hr
    obtain ⟨r0, hr0, rfl⟩ := List.mem_map.mp hr
    exact rowOk'_tag (h r0 hr0) (hcr r0 hr0))
  rw [← csvWrite_eq_render, rows_tag_snd] at this
  exact this

/-! ## (c) the statement -/

/-- the columns `csvColumns` selects are columns of the frame -/
theorem csvColumns_mem (f : LFrame) (cols : List Bytes) (cs : List LCol) (h : csvColumns f cols = some cs) : ∀ c ∈ cs, c ∈ f.cols := by
  unfold csvColumns at h
  split at h
  · injection h with h; subst h; exact fun c hc => hc
  · split at h
    · cases h
    · intro c hc
      have hm : some c ∈ cols.map f.find? := (ListFacts.mapM_eq_some_iff f.find? cols cs).1 h ▸ List.mem_map_of_mem hc
      obtain ⟨nm, _, e⟩ := List.mem_map.1 hm
      exact (C13WriterGen.find_spec f nm c e).1

/-- **(c) ToCSV ∘ ReadCSV, end to end.** For every frame `f` whose cells are of their columns' types and whose column names
are distinct, every column selection `cols` (`Columns(order)`; empty = the frame's order) that `csvColumns` accepts with
columns `cs` — at least one, distinct (a permutation), legal names —, with or without the header row, either `EmptyNull`
setting, every read schedule with reads ≥ 1, every buffer capacity, either EOF mode:

* today's `ToCSV` hands records `recs` to the csv writer, flushes and returns nil, and
* today's `ReadCSV`, given the bytes the writer makes of them (`csvWrite recs`) with the column types and enum values
  declared (`rereadCfg`), returns the frame whose columns are the re-read columns `rereadCol` in the same order, with the
  same number of rows: identical ints, bools, strings and enum values, non-NaN floats bit-identical, NaN ↦ NaN, null strings
  ↦ `""` (all `""` ↦ null under EmptyNull).

Hypotheses besides the quantifier: `H` — the standard library's parse ∘ format = id on the cells that are written (`CellRT`;
implied by `RoundTrip po fmt`: `RoundTrip.cell`; see `floatText_roundTrip` for the float part); `hcr`: no record ends with a field ending in CR (the property excludes CR in strings;
`tocsvRows_lastNoCR` reduces it to the last column); `hmk`: an enum column's values can be declared (`mkEnum`: ≤ 255 values
and, when values are declared, every cell text among them — what `csvRereadOk` of the spec requires). -/
theorem gen_csv_roundtrip_end_to_end (po : ParseOracle) (fmt : UInt64 → Bytes)
    (f : LFrame) (hf : C09Observe.FrameTyped f) (hnd : f.names.Nodup)
    (cols : List Bytes) (cs : List LCol) (hcs : csvColumns f cols = some cs) (hne : cs ≠ [])
    (hnd' : (cs.map (·.name)).Nodup) (hlegal : (cs.map (·.name)).all legalName = true)
    (H : ∀ c ∈ cs, ∀ r, r < f.n → CellRT po fmt c.cells[r]!)
    (hdr emptyNull hintBig : Bool) (cap : Nat) (eofWD : Bool)
    (hcr : ∀ r ∈ tocsvRows fmt hdr { cols := cs, n := f.n }, LastFieldNoCR r)
    (hmk : ∀ c ∈ cs, c.ty = .enum → (mkEnum c.vals (rrCells f.n emptyNull c)).isSome = true)
    (sched : List Nat) (hs : ∀ k ∈ sched, 1 ≤ k) :
    ∃ recs, C13WriterGen.genToCSV fmt f (if cols.isEmpty then none else some cols) hdr C13WriterGen.noFault false =
        some (recs, true, .nil) ∧
      genReadCsvFrame po (rereadCfg cs hdr emptyNull) hintBig cap eofWD (csvWrite recs) sched =
        some (.ok { cols := cs.map (rereadCol f.n emptyNull), n := f.n }) := by
  refine ⟨tocsvRows fmt hdr { cols := cs, n := f.n }, ?_, ?_⟩
  · rw [C13WriterGen.gen_tocsv_semantics fmt f hf hnd cols hdr false, hcs]
    rfl
  · have hdoc := rfcDoc_csvWrite _ (tocsvRows_nonempty fmt hdr { cols := cs, n := f.n } hne) hcr
    rw [gen_readcsv_end_to_end po (rereadCfg cs hdr emptyNull) hintBig cap eofWD (show (44 : UInt8) ≠ 34 ∧ (44 : UInt8) ≠ 10 ∧ (44 : UInt8) ≠ 13 by decide) _ _ hdoc sched hs]
    have hty : ∀ c ∈ cs, C09Observe.ColTyped f.n c := fun c hc => hf c (csvColumns_mem f cols cs hcs c hc)
    exact congrArg some (readCsvS_tocsv po fmt cs f.n hdr emptyNull H hne hnd' hlegal hty hmk)

/-- … and the result does not depend on the fragmentation of the stream. -/
theorem gen_csv_roundtrip_schedule_independent (po : ParseOracle) (cfg : CsvCfg) (hintBig : Bool) (cap1 cap2 : Nat) (e1 e2 : Bool)
    (recs : List (List Bytes)) (h : ∀ r ∈ recs, r ≠ []) (hcr : ∀ r ∈ recs, LastFieldNoCR r) (hd : cfg.delim = 44)
    (s1 s2 : List Nat) (h1 : ∀ k ∈ s1, 1 ≤ k) (h2 : ∀ k ∈ s2, 1 ≤ k) :
    genReadCsvFrame po cfg hintBig cap1 e1 (csvWrite recs) s1 = genReadCsvFrame po cfg hintBig cap2 e2 (csvWrite recs) s2 :=
  gen_readcsv_schedule_independent po cfg hintBig cap1 cap2 e1 e2 (by rw [hd]; decide) _ _ (hd ▸ rfcDoc_csvWrite recs h hcr) s1 s2 h1 h2

/-! ## when the enum values can be declared -/

theorem mkEnum_declared (vals : List Bytes) (cells : List Cell) (h255 : vals.length ≤ 255) (hne : vals ≠ [])
    (hall : ∀ x ∈ cells, match x with | .str (some s) => s ∈ vals | _ => True) : mkEnum vals cells = some (vals, true) :=
  C17Enum.mkEnum_eq_some_iff.2 ⟨h255, .inl ⟨hne, rfl, rfl, fun _ hs => hall _ hs⟩⟩

/-- the hypothesis `hmk` of the theorems above for an enum column with declared values: at most 255 of them, and — unless
EmptyNull is set — the empty string among them if the column has a null or empty cell (what `csvRereadOk` of the spec asks) -/
theorem enum_declarable (n : Nat) (e : Bool) (c : LCol) (hty : C09Observe.ColTyped n c) (hc : c.ty = .enum)
    (hne : c.vals ≠ []) (h255 : c.vals.length ≤ 255)
    (hnull : e = false → ∀ r, r < n → c.cells[r]! = .str none → [] ∈ c.vals) :
    (mkEnum c.vals (rrCells n e c)).isSome = true := by
  rw [mkEnum_declared c.vals _ h255 hne]; · rfl
  intro x hx
  unfold rrCells at hx
  obtain ⟨r, hr, rfl⟩ := List.mem_map.mp hx
  have hr' := List.mem_range.mp hr
  have hw := hty.2 r hr'
  rw [hc] at hw ⊢
  cases hcell : c.cells[r]! with
  | str s =>
    rw [hcell] at hw
    cases s with
    | none =>
      cases e with
      | true => simp [rrCell]
      | false => simpa [rrCell] using hnull rfl r hr' hcell
    | some s =>
      have hmem : s ∈ c.vals := by
        simp only [wtCell, cellVal] at hw
        cases hrk : enumRank c.vals s with
        | none => rw [hrk] at hw; simp at hw
        | some i => exact enumRank_isSome_iff.1 (by rw [hrk]; rfl)
      by_cases hs : (s.isEmpty && e) = true
      · simp [rrCell, hs]
      · simp [rrCell, hs, hmem]
  | int v => simp [rrCell]
  | float b => simp [rrCell]
  | bool b => simp [rrCell]

/-! ## the frame the spec expects -/

/-- the column `csvReread` (QF/Spec/Render.lean: what the replay driver expects `ReadCSV` to return for the written bytes)
makes of a column of the frame -/
def specRereadCol (emptyNull : Bool) (c : LCol) : LCol :=
  match c.ty with
  | .string => { c with cells := c.cells.map (fun x => match x with
      | .str none => if emptyNull then .str none else .str (some [])
      | .str (some []) => if emptyNull then .str none else .str (some [])
      | y => y) }
  | .enum =>
    let cells := c.cells.map (fun x => match x with
      | .str none => if emptyNull then Cell.str none else .str (some [])
      | .str (some []) => if emptyNull then .str none else .str (some [])
      | y => y)
    if c.vals.isEmpty then
      match mkEnum [] cells.toList with
      | some (vals, _) => { c with cells := cells, vals := vals, strict := false }
      | none => { c with cells := cells }
    else { c with cells := cells, strict := true }
  | .float => { c with cells := c.cells.map (fun x => match x with
      | .float b => if F64.isNaN b then .float F64.canonNaN else .float b
      | y => y) }
  | _ => c

theorem csvReread_eq (f : LFrame) (cols : List Bytes) (emptyNull : Bool) :
    csvReread f cols emptyNull = (csvColumns f cols).map (fun cs => { n := f.n, cols := cs.map (specRereadCol emptyNull) }) := rfl

theorem rrCells_toArray (n : Nat) (e : Bool) (c : LCol) (h : c.cells.size = n) :
    (rrCells n e c).toArray = c.cells.map (rrCell e c.ty) := by
  apply Array.ext'
  simp only [rrCells, Array.toList_map, List.toList_toArray]
  apply List.ext_getElem
  · simp [h]
  · intro i h1 h2
    simp only [List.length_map, List.length_range] at h1
    simp [getElem!_pos, h ▸ h1]

/-- **`rereadCol` is what the spec's `csvReread` expects**, for a column with exactly `n` cells that carries a value table
only if it is an enum column (and whose enum values can be declared) -/
theorem specRereadCol_eq (n : Nat) (e : Bool) (c : LCol) (hsz : c.cells.size = n)
    (hplain : c.ty ≠ .enum → c.vals = [] ∧ c.strict = false)
    (hmk : c.ty = .enum → (mkEnum c.vals (rrCells n e c)).isSome = true) :
    specRereadCol e c = rereadCol n e c := by
  have hc := rrCells_toArray n e c hsz
  have hl : rrCells n e c = (c.cells.map (rrCell e c.ty)).toList := by rw [← hc]
  obtain ⟨name, ty, vals, strict, cells⟩ := c
  simp only at hplain hmk hc hl
  -- whatever cell map `specRereadCol` writes out for a column of type `ty`: it is `rrCell e ty`, cell by cell
  have hcell : ∀ g : Cell → Cell, (∀ x, g x = rrCell e ty x) → cells.map g = cells.map (rrCell e ty) := fun g h => by
    rw [funext h]
  cases ty with
  | enum =>
    have hm := hmk rfl
    simp only [specRereadCol, rereadCol, hc]
    rw [hcell _ fun x => by rcases x with _ | _ | _ | _ | _ | _ <;> cases e <;> rfl]
    rw [hl] at hm ⊢
    cases hme : mkEnum vals (cells.map (rrCell e .enum)).toList with
    | none => rw [hme] at hm; cases hm
    | some p =>
      obtain ⟨vs, st⟩ := p
      rcases (C17Enum.mkEnum_eq_some_iff.1 hme).2 with ⟨hne, rfl, rfl, _⟩ | ⟨rfl, _, rfl⟩
      · have hv : vs.isEmpty = false := by cases vs <;> first | rfl | exact absurd rfl hne
        simp [hv]
      · simp only [List.isEmpty_nil, ↓reduceIte, hme]
  | int | bool | undef =>
    obtain ⟨rfl, rfl⟩ := hplain (by simp)
    simp only [specRereadCol, rereadCol, hc]
    rw [← hcell id fun x => by cases x <;> rfl, Array.map_id]
  | float | string =>
    obtain ⟨rfl, rfl⟩ := hplain (by simp)
    simp only [specRereadCol, rereadCol, hc]
    rw [hcell _ fun x => by rcases x with _ | _ | _ | _ | _ | _ <;> cases e <;> rfl]

/-- **(c) in the words of the spec.** … and that frame is `csvReread f cols emptyNull` — what the replay driver expects
`ReadCSV` to return for the bytes written (QF/Spec/Render.lean) — when every selected column has exactly `f.n` cells and only
enum columns carry a value table. -/
theorem gen_csv_roundtrip_spec (po : ParseOracle) (fmt : UInt64 → Bytes)
    (f : LFrame) (hf : C09Observe.FrameTyped f) (hnd : f.names.Nodup)
    (cols : List Bytes) (cs : List LCol) (hcs : csvColumns f cols = some cs) (hne : cs ≠ [])
    (hnd' : (cs.map (·.name)).Nodup) (hlegal : (cs.map (·.name)).all legalName = true)
    (H : ∀ c ∈ cs, ∀ r, r < f.n → CellRT po fmt c.cells[r]!)
    (hsz : ∀ c ∈ cs, c.cells.size = f.n) (hplain : ∀ c ∈ cs, c.ty ≠ .enum → c.vals = [] ∧ c.strict = false)
    (hdr emptyNull hintBig : Bool) (cap : Nat) (eofWD : Bool)
    (hcr : ∀ r ∈ tocsvRows fmt hdr { cols := cs, n := f.n }, LastFieldNoCR r)
    (hmk : ∀ c ∈ cs, c.ty = .enum → (mkEnum c.vals (rrCells f.n emptyNull c)).isSome = true)
    (sched : List Nat) (hs : ∀ k ∈ sched, 1 ≤ k) :
    ∃ recs g, C13WriterGen.genToCSV fmt f (if cols.isEmpty then none else some cols) hdr C13WriterGen.noFault false =
        some (recs, true, .nil) ∧
      csvReread f cols emptyNull = some g ∧
      genReadCsvFrame po (rereadCfg cs hdr emptyNull) hintBig cap eofWD (csvWrite recs) sched = some (.ok g) := by
  obtain ⟨recs, h1, h2⟩ := gen_csv_roundtrip_end_to_end po fmt f hf hnd cols cs hcs hne hnd' hlegal H hdr emptyNull hintBig cap eofWD
    hcr hmk sched hs
  refine ⟨recs, { n := f.n, cols := cs.map (specRereadCol emptyNull) }, h1, by rw [csvReread_eq, hcs]; rfl, ?_⟩
  rw [h2]
  have : cs.map (specRereadCol emptyNull) = cs.map (rereadCol f.n emptyNull) :=
    List.map_congr_left (fun c hc => specRereadCol_eq f.n emptyNull c (hsz c hc) (hplain c hc) (hmk c hc))
  rw [this]

/-! ## the float hypothesis: shortest round-trip text and a correctly rounding parser -/

/-- What the property needs of `strconv.FormatFloat(·, 'f', -1, 64)` and `strconv.ParseFloat(·, 64)`: a finite float is
written as a positional decimal that denotes it exactly under IEEE nearest-even rounding (`Num.parsesTo`, whose oracle
`Num.ofDecimal` is proved correctly rounded in C16Round); the parser rounds every positional decimal correctly; the
infinities are written as something the parser maps back to them. -/
structure FloatText (fmt : UInt64 → Bytes) (pf : Bytes → Option UInt64) : Prop where
  finite : ∀ b dy, Num.decode b = some dy → Num.parsesTo b (fmt b) = true
  parser : ∀ text neg m d, Num.parsePositional text = some (neg, m, d) → pf text = some (Num.ofDecimal neg m d)
  inf : ∀ b, Num.decode b = none → F64.isNaN b = false → fmt b ≠ [] ∧ pf (fmt b) = some b

/-- `ParseFloat ∘ FormatFloat = id` on every non-NaN float64, from `FloatText` -/
theorem floatText_roundTrip {fmt : UInt64 → Bytes} {pf : Bytes → Option UInt64} (h : FloatText fmt pf) (b : UInt64)
    (hn : F64.isNaN b = false) : fmt b ≠ [] ∧ pf (fmt b) = some b := by
  cases hd : Num.decode b with
  | none => exact h.inf b hd hn
  | some dy =>
    obtain ⟨neg, m, d, hpp, hb⟩ := parsesTo_iff.1 (h.finite b dy hd)
    refine ⟨?_, by rw [h.parser _ _ _ _ hpp, hb]⟩
    intro he
    rw [he] at hpp
    simp [Num.parsePositional] at hpp

/-- `RoundTrip` from its integer and bool parts and `FloatText` -/
theorem roundTrip_of_floatText (po : ParseOracle) (fmt : UInt64 → Bytes)
    (hi : ∀ v : Int, po.atoi (intStr v) = some v) (ht : po.pbool [116, 114, 117, 101] = some true)
    (hfa : po.pbool [102, 97, 108, 115, 101] = some false) (hfl : FloatText fmt po.pfloat) : RoundTrip po fmt :=
  ⟨hi, ht, hfa, fun b hn => (floatText_roundTrip hfl b hn).1, fun b hn => (floatText_roundTrip hfl b hn).2⟩

open QF.Props.C16Link QF.Ryu64 QF.Props.C16Core in
/-- the text of C16 for a finite non-zero float64: the sign and the positional layout of the shortest decimal -/
def ryuText (b : UInt64) (neg : Bool) : Bytes :=
  (if neg then [45] else []) ++ positional (decimal (mantOf b) (expOf b)).1 (decimal (mantOf b) (expOf b)).2.1

open QF.Props.C16Link QF.Ryu64 QF.Props.C16Core in
/-- **The shortest round-trip text meets `FloatText.finite`** (`C16Link.ryu_text_is_shortest`): for every finite non-zero
float64 the text the mirror of the Ryu pipeline writes parses back to exactly that float — and is the shortest such. -/
theorem ryuText_parses (b : UInt64) (dy : Num.Dyadic) (hd : Num.decode b = some dy) (h0 : dy.m ≠ 0) :
    Num.parsesTo b (ryuText b dy.neg) = true ∧ Num.isShortestRoundTrip b (ryuText b dy.neg) = true := by
  obtain ⟨text, h1, h2, h3, _⟩ := ryu_text_is_shortest b dy hd h0 ⟨[], []⟩ [] [] []
  rw [ryu_text_eq b dy hd h0 ⟨[], []⟩ [] [] []] at h1
  have : text = ryuText b dy.neg := (List.append_cancel_left h1).symm
  rw [← this]
  exact ⟨h3, h2⟩

/-! ## The hypotheses are satisfiable -/

/-- an int, a float (with a NaN) and a string column (a null, and a cell with comma, quote and line break), three rows -/
def rtFrame : LFrame :=
  { n := 3,
    cols := [ { name := [105], ty := .int, cells := #[.int 1, .int (-20), .int 0] },
              { name := [102], ty := .float, cells := #[.float 0x3FF8000000000000, .float F64.canonNaN, .float 0x3FF8000000000000] },
              { name := [115], ty := .string, cells := #[.str (some [97, 44, 34, 10]), .str none, .str (some [98])] } ] }

/-- a toy standard library that satisfies `CellRT` on the cells of `rtFrame`: the formatter writes `1.5` for every float -/
def rtFmt : UInt64 → Bytes := fun _ => [49, 46, 53]
def rtOracle : ParseOracle :=
  { atoi := fun s => if s == [49] then some 1 else if s == [45, 50, 48] then some (-20) else if s == [48] then some 0 else none,
    pfloat := fun s => if s == [49, 46, 53] then some 0x3FF8000000000000 else none,
    pbool := fun s => if s == [116, 114, 117, 101] then some true else if s == [102, 97, 108, 115, 101] then some false else none }

/-- 0.1 through the pipeline of C16: -/
example : Num.parsesTo 0x3FB999999999999A (ryuText 0x3FB999999999999A false) = true :=
  (ryuText_parses 0x3FB999999999999A ⟨false, 7205759403792794, -56⟩ (by decide) (by decide)).1

example : tocsv rtFmt true rtFrame =
    [105, 44, 102, 44, 115, 10, 49, 44, 49, 46, 53, 44, 34, 97, 44, 34, 34, 10, 34, 10, 45, 50, 48, 44, 44, 10, 48, 44, 49, 46, 53, 44, 98, 10] := by
  decide +kernel

theorem rtFrame_typed : C09Observe.FrameTyped rtFrame := by
  intro c hc
  simp only [rtFrame, List.mem_cons, List.not_mem_nil, or_false] at hc
  rcases hc with rfl | rfl | rfl <;> exact ⟨by decide, by decide⟩

theorem rtFrame_rt : ∀ c ∈ rtFrame.cols, ∀ r, r < rtFrame.n → CellRT rtOracle rtFmt c.cells[r]! := by
  intro c hc
  simp only [rtFrame, List.mem_cons, List.not_mem_nil, or_false] at hc
  rcases hc with rfl | rfl | rfl <;> decide +kernel

/-- the frame, written with its header by today's `ToCSV` and read back two bytes, one byte, three bytes … at a time into a
16-byte buffer with EmptyNull set: the int and float columns come back as they are (the NaN as NaN), the null string as null -/
example : ∃ recs, C13WriterGen.genToCSV rtFmt rtFrame none true C13WriterGen.noFault false = some (recs, true, .nil) ∧
    genReadCsvFrame rtOracle (rereadCfg rtFrame.cols true true) false 16 false (csvWrite recs) [2, 1, 3, 1, 1, 4] =
      some (.ok { cols := rtFrame.cols.map (rereadCol 3 true), n := 3 }) :=
  gen_csv_roundtrip_end_to_end rtOracle rtFmt rtFrame rtFrame_typed (by decide +kernel) [] rtFrame.cols rfl (by decide +kernel) (by decide +kernel) (by decide +kernel)
    rtFrame_rt true true false 16 false (by decide +kernel) (by decide +kernel) [2, 1, 3, 1, 1, 4] (by decide +kernel)

example : ∃ recs g, C13WriterGen.genToCSV rtFmt rtFrame none false C13WriterGen.noFault false = some (recs, true, .nil) ∧
    csvReread rtFrame [] false = some g ∧
    genReadCsvFrame rtOracle (rereadCfg rtFrame.cols false false) true 1024 true (csvWrite recs) (List.replicate 60 1) = some (.ok g) :=
  gen_csv_roundtrip_spec rtOracle rtFmt rtFrame rtFrame_typed (by decide +kernel) [] rtFrame.cols rfl (by decide +kernel) (by decide +kernel) (by decide +kernel)
    rtFrame_rt (by decide +kernel) (by decide +kernel) false false true 1024 true (by decide +kernel) (by decide +kernel) _ (by decide +kernel)

example : (rtFrame.cols.map (rereadCol 3 true)).map (·.cells.toList) =
    [[.int 1, .int (-20), .int 0], [.float 0x3FF8000000000000, .float F64.canonNaN, .float 0x3FF8000000000000],
     [.str (some [97, 44, 34, 10]), .str none, .str (some [98])]] := by decide +kernel

#print axioms csvColumn_reread
#print axioms csvGlueS_tocsv
#print axioms readCsvS_tocsv
#print axioms rfcDoc_csvWrite
#print axioms gen_csv_roundtrip_end_to_end
#print axioms gen_csv_roundtrip_schedule_independent
#print axioms enum_declarable
#print axioms specRereadCol_eq
#print axioms gen_csv_roundtrip_spec
#print axioms floatText_roundTrip
#print axioms ryuText_parses

end QF.Props.C13EndToEnd
