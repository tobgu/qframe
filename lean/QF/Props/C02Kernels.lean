import QF.Core.SpecFacts
import QF.Gen.Facts
import QF.Gen.Kernels
import QF.Core.OrderFacts
import QF.Core.DExpr
import QF.Core.CellFacts
import QF.Props.C02Spec
/-!
# C02 — the filter kernels of today's source mean what the spec says (tie T1, by semantics)

`QF.Gen.kernelAst` (regenerated on every run by go/cmd/extract/kast.go) holds, for every filter kernel of the five column
packages, its loop shape and the assigned expression as a term of `QF.KE`; `KE.eval` (QF/Core/KExpr.lean) is the Go
meaning of such a term on one cell. This file proves, for the terms generated TODAY:

* `gen_no_opaque`        — every kernel a comparator table refers to was translated completely (`gen_no_opaque_all`: so
                           was every other function that takes the mask; a check of the generated list that no proof uses)
* `gen_kernel_semantics` — for every column type, every comparator of the package's tables (`Gen.tables`) and ALL
                           cells, the kernel found through the table leaves `b || p` in a mask entry that held `b`,
                           where `p` is what the spec's `leafPred` (QF/Spec/Filter.lean) computes for that leaf on that cell:
                           `cmp6 col op x k` for the six comparators (constant and column–column), `Cell.isNull` for
                           isnull / isnotnull, the bit tests, like / ilike on a string column. `in`, like / ilike on an
                           enum column and the user's predicates are the separate theorems `gen_kernel_semantics_in_*`,
                           `gen_kernel_semantics_like_enum`, `gen_kernel_semantics_custom1` / `_custom2`.

Method: kernel evaluation (`decide +kernel`) shows that each generated term IS the canonical term for (type, comparator)
(`gen_*_canon`: finite, re-checked whenever the source changes), and lemmas proved once and for all (`canon*_sem`) give the meaning of the
canonical terms on every cell. `tab0_sem` / `tab2_sem` / `tabIn_*` state the same per comparator TABLE and for every
comparator string against `C02Spec.route`, the spec of a leaf on cells (a missing entry where the spec rejects); `tab1_sem`
against the right-hand side of `route_const`, which is `route` for a constant of the column's type. Through
`C02Spec.leafPred_builtin` that is a statement about `leafPred` itself: `leaf_kernel_*` for the six comparisons, isnull /
isnotnull and the bit tests; every kind of leaf, with the dispatch in front of the kernel, is
`C02Dispatch.gen_leaf_semantics_partial`.

"Cells of that type" (`cellOk`): an int / float / bool cell for such a column, a nullable string for a string column,
and for an enum column null or a member of the value table with rank < 255 (the representation invariant of
`ecolumn.Column`: `data[i]` is `nullValue` = 255 or an index into `values`). The constant (`constOk`) is never null
and, for an enum, is in the table (`filterBuiltIn` looks its rank up and does not run the kernel otherwise).
-/
namespace QF.Props.C02Kernels
open QF

/-! ## Finding a kernel through the comparator tables -/

def pkgOf : CType → String
  | .int => "icolumn" | .float => "fcolumn" | .bool => "bcolumn" | .string => "scolumn" | .enum => "ecolumn" | .undef => ""

abbrev KList := List (String × String × String × KE)

/-- the kernel function a comparator table of a package maps `op` to -/
def tableFn (pkg tab op : String) : Option String :=
  (Gen.tables.find? (fun t => t.1 == pkg && t.2.1 == tab)).bind (fun t => t.2.2.lookup op)
/-- (shape, term) of a function in a list of translated kernels -/
def kernelIn (l : KList) (pkg fn : String) : Option (String × KE) :=
  (l.find? (fun k => k.1 == pkg && k.2.1 == fn)).map (fun k => k.2.2)
def genKernelIn (l : KList) (pkg tab op : String) : Option (String × KE) := (tableFn pkg tab op).bind (kernelIn l pkg)
/-- today's kernels -/
def kernelOf (pkg fn : String) : Option (String × KE) := kernelIn Gen.kernelAst pkg fn
def genKernel (pkg tab op : String) : Option (String × KE) := genKernelIn Gen.kernelAst pkg tab op

/-- constant-argument table of a package -/
def tab1 : CType → String
  | .int => "filterFuncs" | .bool => "filterFuncs" | _ => "filterFuncs1"
def tab2 : String := "filterFuncs2"
def tab0 : String := "filterFuncs0"
def tabIn : String := "multiInputFilterFuncs"

def tys : List CType := [.int, .float, .bool, .string, .enum]
/-- the filter package's name of a comparator ↦ the Go operator -/
def goOp (op : String) : String := if op = "=" then "==" else op
def ops6 : List String := ["<", "<=", ">", ">=", "=", "!="]
/-- the comparison operators of a type (`leafPred`: `isOrd6`, for bool only `=` and `!=`) -/
def cmpOps : CType → List String
  | .bool => ["=", "!="] | .undef => [] | _ => ops6

/-- One mask entry under the kernel `k` = (shape, term): an entry that held `b` holds `b || p` afterwards. -/
def Computes (k : Option (String × KE)) (ty : CType) (vals : List Bytes) (P : KParams) (x y c : Cell) (p : Bool) : Prop :=
  ∃ sh ast, k = some (sh, ast) ∧ ∀ b : Bool, kstep sh (ast.eval ty vals P x y c) b = some (b || p)

theorem computes_guarded {k : Option (String × KE)} {sh : String} {ast : KE} {ty vals P x y c p}
    (hk : k = some (sh, ast)) (he : ast.eval ty vals P x y c = some p)
    (hsh : sh = "guarded" ∨ sh = "guarded+pre" := by decide) : Computes k ty vals P x y c p :=
  ⟨sh, ast, hk, by intro b; cases b <;> simp [kstep, hsh, he]⟩

/-- The same test as `QF.wtCell` (QF/Core/CExpr.lean): `wtCell_shape` and `enum_ok` apply to it by unfolding. -/
def cellOk (ty : CType) (vals : List Bytes) (x : Cell) : Bool := (cellVal ty vals x).isSome
/-- constants the dispatcher hands to a kernel of the type -/
def constOk (ty : CType) (vals : List Bytes) (k : Cell) : Bool := (constVal ty vals k).isSome

/-! ## Canonical terms -/

def canon1 : CType → String → KE
  | .string, op => if op = "!=" then .or .isNull (.cmp "!=" .cell .const) else .and (.not .isNull) (.cmp (goOp op) .cell .const)
  | .enum, op => if op = "!=" then .or (.nullTest .cell) (.cmp "!=" (.rank .cell) (.rank .const))
                 else .and (.not (.nullTest .cell)) (.cmp (goOp op) (.rank .cell) (.rank .const))
  | .undef, _ => .skip
  | _, op => .cmp (goOp op) .cell .const

def canon2 : CType → String → KE
  | .string, op => if op = "!=" then .or (.or .isNull .isNull2) (.cmp "!=" .cell .cell2)
                   else .and (.and (.not .isNull) (.not .isNull2)) (.cmp (goOp op) .cell .cell2)
  | .enum, op => if op = "!=" then .or (.or (.nullTest .cell) (.nullTest .cell2)) (.cmp "!=" (.rank .cell) (.rank .cell2))
                 else .and (.and (.not (.nullTest .cell)) (.not (.nullTest .cell2))) (.cmp (goOp op) (.rank .cell) (.rank .cell2))
  | .undef, _ => .skip
  | _, op => .cmp (goOp op) .cell .cell2

/-- isnull / isnotnull: (shape, term) -/
def canon0 : CType → String → String × KE
  | .int, op => if op = "isnull" then ("noop", .skip) else ("unguarded", .lit true)
  | .float, op => if op = "isnull" then ("guarded", .isNaN .cell) else ("guarded", .not (.isNaN .cell))
  | .string, op => if op = "isnull" then ("guarded", .isNull) else ("guarded", .not .isNull)
  | .enum, op => if op = "isnull" then ("guarded", .nullTest .cell) else ("guarded", .not (.nullTest .cell))
  | _, _ => ("opaque", .skip)

def nullTys : List CType := [.int, .float, .string, .enum]
def nullOps : List String := ["isnull", "isnotnull"]

/-! ## Today's terms are the canonical ones (finite checks over `QF.Gen`, redone on every run) -/

theorem gen_cmp1_canon : ∀ ty ∈ tys, ∀ op ∈ cmpOps ty, genKernel (pkgOf ty) (tab1 ty) op = some ("guarded", canon1 ty op) := by
  decide +kernel
theorem gen_cmp2_canon : ∀ ty ∈ tys, ∀ op ∈ cmpOps ty, genKernel (pkgOf ty) tab2 op = some ("guarded", canon2 ty op) := by
  decide +kernel
theorem gen_null_canon : ∀ ty ∈ nullTys, ∀ op ∈ nullOps, genKernel (pkgOf ty) tab0 op = some (canon0 ty op) := by
  decide +kernel
theorem gen_bits_canon :
    genKernel "icolumn" "filterFuncs" "any_bits" = some ("guarded", .cmp ">" (.band .cell .const) (.num 0)) ∧
    genKernel "icolumn" "filterFuncs" "all_bits" = some ("guarded", .cmp "==" (.band .cell .const) .const) := by
  decide +kernel
theorem gen_in_canon :
    genKernel "icolumn" tabIn "in" = some ("guarded", .contains .cell) ∧
    genKernel "scolumn" tabIn "in" = some ("guarded", .and (.not .isNull) (.contains .cell)) ∧
    genKernel "ecolumn" tabIn "in" = some ("bitset", .contains .cell) ∧
    kernelOf "ecolumn" "Column.filterWithBitset" = some ("guarded", .bitset .cell) := by
  decide +kernel
theorem gen_like_canon :
    genKernel "scolumn" "filterFuncs1" "like" = some ("guarded+pre", .and (.not .isNull) (.matches .const (.lit true) .cell)) ∧
    genKernel "scolumn" "filterFuncs1" "ilike" = some ("guarded+pre", .and (.not .isNull) (.matches .const (.lit false) .cell)) ∧
    genKernel "ecolumn" "multiFilterFuncs" "like" = some ("bitset+pre", .matches .const (.lit true) .cell) ∧
    genKernel "ecolumn" "multiFilterFuncs" "ilike" = some ("bitset+pre", .matches .const (.lit false) .cell) := by
  decide +kernel
/-- the loops of `filterCustom1` / `filterCustom2`: the predicate is applied to the cell as a value of the package's
element type (`*string` for string and enum columns) -/
def c1ke : CType → KE
  | .string => .custom1 (.ptr .cell .isNull) | .enum => .custom1 .cellPtr | _ => .custom1 .cell
def c2ke : CType → KE
  | .string => .custom2 (.ptr .cell .isNull) (.ptr .cell2 .isNull2) | .enum => .custom2 .cellPtr .cellPtr2 | _ => .custom2 .cell .cell2
theorem gen_custom_canon : ∀ ty ∈ tys,
    kernelOf (pkgOf ty) "Column.filterCustom1" = some ("guarded", c1ke ty) ∧
    kernelOf (pkgOf ty) "Column.filterCustom2" = some ("guarded+pre", c2ke ty) := by
  decide +kernel

def tableOps (pkg tab : String) : List String :=
  ((Gen.tables.find? (fun t => t.1 == pkg && t.2.1 == tab)).map (fun t => t.2.2.map (·.1))).getD []
/-- The comparators of the tables are among the ones treated below: a comparator added to a table without a
semantics here is noticed. -/
theorem gen_tables_covered :
    (∀ ty ∈ tys, ∀ op ∈ tableOps (pkgOf ty) (tab1 ty), op ∈ cmpOps ty ++ (if ty = .int then ["any_bits", "all_bits"] else if ty = .string then ["like", "ilike"] else [])) ∧
    (∀ ty ∈ tys, ∀ op ∈ tableOps (pkgOf ty) tab2, op ∈ cmpOps ty) ∧
    (∀ ty ∈ tys, ∀ op ∈ tableOps (pkgOf ty) tab0, op ∈ nullOps) ∧
    (∀ ty ∈ tys, ∀ op ∈ tableOps (pkgOf ty) tabIn, op = "in") ∧
    (∀ op ∈ tableOps "ecolumn" "multiFilterFuncs", op ∈ ["like", "ilike"]) ∧
    (∀ t ∈ Gen.tables, t.2.1 ∈ ["filterFuncs", "filterFuncs0", "filterFuncs1", "filterFuncs2", "multiInputFilterFuncs", "multiFilterFuncs"]) := by
  decide +kernel

/-- No kernel a comparator table refers to translates to (a term containing) `.opaque`, and every table entry names a
function of `Gen.kernelAst` (the `.any` on the `Option`). -/
theorem gen_no_opaque :
    ∀ t ∈ Gen.tables, ∀ e ∈ t.2.2, (kernelOf t.1 e.2).any (fun k => k.1 != "opaque" && !k.2.hasOpaque) = true := by
  decide +kernel

/-- … and neither does any other function that takes the mask (custom predicates, `regexFilter`, `filterWithBitset`). -/
theorem gen_no_opaque_all : ∀ k ∈ Gen.kernelAst, (k.2.2.1 != "opaque" && !k.2.2.2.hasOpaque) = true := by
  decide +kernel

/-! ## The meaning of the canonical terms, once and for all -/

-- `==` / `!=` on the constructors of `Ordering`, for `simp` in `tri_int`
@[simp] theorem beq_lt_lt : (Ordering.lt == Ordering.lt) = true := by decide
@[simp] theorem bne_lt_lt : (Ordering.lt != Ordering.lt) = false := by decide
@[simp] theorem beq_lt_eq : (Ordering.lt == Ordering.eq) = false := by decide
@[simp] theorem bne_lt_eq : (Ordering.lt != Ordering.eq) = true := by decide
@[simp] theorem beq_lt_gt : (Ordering.lt == Ordering.gt) = false := by decide
@[simp] theorem bne_lt_gt : (Ordering.lt != Ordering.gt) = true := by decide
@[simp] theorem beq_eq_lt : (Ordering.eq == Ordering.lt) = false := by decide
@[simp] theorem bne_eq_lt : (Ordering.eq != Ordering.lt) = true := by decide
@[simp] theorem beq_eq_eq : (Ordering.eq == Ordering.eq) = true := by decide
@[simp] theorem bne_eq_eq : (Ordering.eq != Ordering.eq) = false := by decide
@[simp] theorem beq_eq_gt : (Ordering.eq == Ordering.gt) = false := by decide
@[simp] theorem bne_eq_gt : (Ordering.eq != Ordering.gt) = true := by decide
@[simp] theorem beq_gt_lt : (Ordering.gt == Ordering.lt) = false := by decide
@[simp] theorem bne_gt_lt : (Ordering.gt != Ordering.lt) = true := by decide
@[simp] theorem beq_gt_eq : (Ordering.gt == Ordering.eq) = false := by decide
@[simp] theorem bne_gt_eq : (Ordering.gt != Ordering.eq) = true := by decide
@[simp] theorem beq_gt_gt : (Ordering.gt == Ordering.gt) = true := by decide
@[simp] theorem bne_gt_gt : (Ordering.gt != Ordering.gt) = false := by decide

theorem mem_ops6 {op : String} (h : op ∈ ops6) : op = "<" ∨ op = "<=" ∨ op = ">" ∨ op = ">=" ∨ op = "=" ∨ op = "!=" := by
  simpa [ops6] using h

/-- `cmp6` on two cells whose order is `o` -/
def ord6 (op : String) (o : Ordering) : Bool := if op == "!=" then o != .eq else ordOp op o
/-- The six Go comparison operators on operands whose `<`, `<=`, `>`, `>=`, `==` have the given truth values: the
common shape of `cmpInt`, `cmpFlt` and `cmpStr`. -/
def cmpBy (lt le gt ge eq : Bool) (op : String) : Option Bool :=
  match op with
  | "<" => some lt | "<=" => some le | ">" => some gt | ">=" => some ge | "==" => some eq | "!=" => some (!eq) | _ => none
theorem cmpFlt_by (op : String) (a b : UInt64) : cmpFlt op a b = cmpBy (F64.lt a b) (F64.le a b) (F64.lt b a) (F64.le b a) (F64.eq a b) op := rfl
/-- the five truth values are those of a three-way comparison with outcome `o` -/
structure Tri (lt le gt ge eq : Bool) (o : Ordering) : Prop where
  lt : lt = (o == .lt)
  le : le = (o != .gt)
  gt : gt = (o == .gt)
  ge : ge = (o != .lt)
  eq : eq = (o == .eq)
/-- The one place where the comparator strings are looked at: the spec's names `ops6` against Go's operators. -/
theorem cmpBy_ops6 {lt le gt ge eq : Bool} {o : Ordering} (h : Tri lt le gt ge eq o) {op : String} (hop : op ∈ ops6) :
    cmpBy lt le gt ge eq (goOp op) = some (ord6 op o) := by
  obtain ⟨rfl, rfl, rfl, rfl, rfl⟩ := h
  rcases mem_ops6 hop with rfl | rfl | rfl | rfl | rfl | rfl <;> rfl
theorem tri_int (a b : Int) : Tri (a < b) (a ≤ b) (b < a) (b ≤ a) (a = b) (compare a b) := by
  cases h : compare a b
  · have := Int.compare_eq_lt.1 h; constructor <;> simp <;> omega
  · have := Int.compare_eq_eq.1 h; constructor <;> simp <;> omega
  · have := Int.compare_eq_gt.1 h; constructor <;> simp <;> omega
theorem tri_str (a b : Bytes) :
    Tri (bytesCmp a b == .lt) (bytesCmp a b != .gt) (bytesCmp a b == .gt) (bytesCmp a b != .lt) (a = b) (bytesCmp a b) :=
  ⟨rfl, rfl, rfl, rfl, by rw [Bool.eq_iff_iff]; simp [bytesCmp_eq_iff]⟩

theorem tri_flt {a b : UInt64} (ha : F64.isNaN a = false) (hb : F64.isNaN b = false) :
    Tri (F64.lt a b) (F64.le a b) (F64.lt b a) (F64.le b a) (F64.eq a b) (compare (F64.key a) (F64.key b)) := by
  obtain ⟨h1, h2, h3, h4, h5⟩ := tri_int (F64.key a) (F64.key b)
  exact ⟨by simp [F64.lt, ha, hb, ← h1], by simp [F64.le, ha, hb, ← h2], by simp [F64.lt, ha, hb, ← h3],
    by simp [F64.le, ha, hb, ← h4], by simp [F64.eq, ha, hb, ← h5, Bool.beq_eq_decide_eq]⟩

/-- with a NaN on either side every Go comparison is false, except `!=` -/
theorem cmpFlt_nan {op : String} (hop : op ∈ ops6) {a b : UInt64} (h : (F64.isNaN a || F64.isNaN b) = true) :
    cmpFlt (goOp op) a b = some (op == "!=") := by
  have hn : (!F64.isNaN a && !F64.isNaN b) = false := by simpa [← Bool.not_or] using h
  have hn' : (!F64.isNaN b && !F64.isNaN a) = false := by rw [Bool.and_comm]; exact hn
  simp only [cmpFlt_by, F64.lt, F64.le, F64.eq, hn, hn', Bool.false_and]
  rcases mem_ops6 hop with rfl | rfl | rfl | rfl | rfl | rfl <;> rfl

theorem cmpFlt_cmp6 (col : LCol) {op : String} (hop : op ∈ ops6) (a b : UInt64) :
    cmpFlt (goOp op) a b = some (cmp6 col op (.float a) (.float b)) := by
  simp only [cmp6, cellCmp]
  by_cases h : (F64.isNaN a || F64.isNaN b) = true
  · rw [cmpFlt_nan hop h, if_pos h]
  · rw [if_neg h]
    simp only [Bool.or_eq_true, not_or, Bool.not_eq_true] at h
    exact cmpBy_ops6 (tri_flt h.1 h.2) hop

/-! ### evaluation of the connectives, from the values of the parts -/
section
variable {ty : CType} {vals : List Bytes} {P : KParams} {x y c : Cell}

theorem evalV_of_eval {e : KE} {b : Bool} (h : e.eval ty vals P x y c = some b) :
    e.evalV ⟨ty, vals, P, x, y, c⟩ = some (.bool b) := by
  unfold KE.eval at h
  split at h
  · rename_i b' hb; rw [hb]; simpa using h
  · cases h

theorem eval_cmp {a b : KE} {u v : KV} (op : String) (ha : a.evalV ⟨ty, vals, P, x, y, c⟩ = some u)
    (hb : b.evalV ⟨ty, vals, P, x, y, c⟩ = some v) : (KE.cmp op a b).eval ty vals P x y c = cmpV op u v := by
  simp only [KE.eval, KE.evalV, ha, hb]; cases cmpV op u v <;> rfl

theorem eval_and {a b : KE} {u v : Bool} (ha : a.eval ty vals P x y c = some u) (hb : b.eval ty vals P x y c = some v) :
    (KE.and a b).eval ty vals P x y c = some (u && v) := by
  simp only [KE.eval, KE.evalV, evalV_of_eval ha, evalV_of_eval hb]

theorem eval_or {a b : KE} {u v : Bool} (ha : a.eval ty vals P x y c = some u) (hb : b.eval ty vals P x y c = some v) :
    (KE.or a b).eval ty vals P x y c = some (u || v) := by
  simp only [KE.eval, KE.evalV, evalV_of_eval ha, evalV_of_eval hb]

theorem eval_not {a : KE} {u : Bool} (ha : a.eval ty vals P x y c = some u) : (KE.not a).eval ty vals P x y c = some (!u) := by
  simp only [KE.eval, KE.evalV, evalV_of_eval ha]

/-- The comparison kernels of nullable cells: `nul || a != b` for `!=`, `!nul && a op b` for the other five. A null
operand makes every comparison false except `!=`. -/
theorem eval_nullGuard {g ng a b : KE} {n r : Bool} {op : String} (hg : g.eval ty vals P x y c = some n)
    (hng : ng.eval ty vals P x y c = some (!n)) (hc : (KE.cmp (goOp op) a b).eval ty vals P x y c = some r) :
    (if op = "!=" then KE.or g (.cmp "!=" a b) else .and ng (.cmp (goOp op) a b)).eval ty vals P x y c =
      some (if n then op == "!=" else r) := by
  by_cases h : op = "!="
  · subst h; rw [if_pos rfl, eval_or hg (show (KE.cmp "!=" a b).eval ty vals P x y c = some r from hc)]; cases n <;> rfl
  · rw [if_neg h, eval_and hng hc]; cases n <;> simp [h]
end

/-- the constants of each column type (for the cells: `QF.wtCell_shape`) -/
theorem constOk_cases {ty : CType} {vals : List Bytes} {k : Cell} (h : constOk ty vals k = true) :
    match ty with
    | .int => ∃ a, k = .int a | .float => ∃ a, k = .float a | .bool => ∃ a, k = .bool a
    | .string | .enum => ∃ v, k = .str (some v) | .undef => False := by
  cases ty <;> rcases k with _ | _ | _ | (_ | _) <;> simp [constOk, constVal] at h ⊢

theorem enum_const_ok {vals : List Bytes} {s : Bytes} (h : constOk .enum vals (.str (some s)) = true) :
    ∃ i, enumRank vals s = some i ∧ i < 255 := by
  apply enum_ok
  simpa [constOk, constVal, cellVal, wtCell] using h

theorem enum_cell {vals : List Bytes} {s : Option Bytes} (hx : cellOk .enum vals (.str s) = true) :
    ∃ e, cellVal .enum vals (.str s) = some (.enum e) ∧
      match s with | none => e = enumNull | some u => enumRank vals u = some e ∧ e < enumNull := by
  cases s with
  | none => exact ⟨_, rfl, rfl⟩
  | some u => obtain ⟨i, hi, hil⟩ := enum_ok hx; exact ⟨i, by simp [cellVal, hi, enumNull, hil], hi, hil⟩

theorem enum_const {vals : List Bytes} {v : Bytes} (hk : constOk .enum vals (.str (some v)) = true) :
    ∃ j, constVal .enum vals (.str (some v)) = some (.enum j) ∧ enumRank vals v = some j ∧ j < enumNull := by
  obtain ⟨j, hj, hjl⟩ := enum_const_ok hk; exact ⟨j, by simp [constVal, hj, enumNull, hjl], hj, hjl⟩

section
variable {ty : CType} {vals : List Bytes} {P : KParams} {x y c : Cell}
theorem eval_nullTest {a : KE} {e : Nat} (ha : a.evalV ⟨ty, vals, P, x, y, c⟩ = some (.enum e)) :
    (KE.nullTest a).eval ty vals P x y c = some (e == enumNull) := by
  simp only [KE.eval, KE.evalV, ha]
theorem evalV_rank {a : KE} {e : Nat} (ha : a.evalV ⟨ty, vals, P, x, y, c⟩ = some (.enum e)) :
    (KE.rank a).evalV ⟨ty, vals, P, x, y, c⟩ = some (.int (if e = enumNull then -1 else (e : Int))) := by
  simp only [KE.evalV, ha]
end

/-! ### column against column -/

theorem canon2_sem (col : LCol) (op : String) (hop : op ∈ cmpOps col.ty) (x y : Cell)
    (hx : cellOk col.ty col.vals x = true) (hy : cellOk col.ty col.vals y = true) (P : KParams) (c : Cell) :
    (canon2 col.ty op).eval col.ty col.vals P x y c = some (cmp6 col op x y) := by
  cases hty : col.ty <;> rw [hty] at hop hx hy
  · obtain ⟨a, rfl⟩ := wtCell_shape hx
    obtain ⟨b, rfl⟩ := wtCell_shape hy
    rw [show canon2 _ op = KE.cmp (goOp op) .cell .cell2 from rfl, eval_cmp (u := .int a) (v := .int b) _ rfl rfl]
    exact cmpBy_ops6 (tri_int a b) hop
  · obtain ⟨a, rfl⟩ := wtCell_shape hx
    obtain ⟨b, rfl⟩ := wtCell_shape hy
    rw [show canon2 _ op = KE.cmp (goOp op) .cell .cell2 from rfl, eval_cmp (u := .flt a) (v := .flt b) _ rfl rfl]
    exact cmpFlt_cmp6 col hop a b
  · obtain ⟨a, rfl⟩ := wtCell_shape hx
    obtain ⟨b, rfl⟩ := wtCell_shape hy
    rw [show canon2 _ op = KE.cmp (goOp op) .cell .cell2 from rfl, eval_cmp (u := .bool a) (v := .bool b) _ rfl rfl]
    simp only [cmpOps, List.mem_cons, List.not_mem_nil, or_false] at hop
    rcases hop with rfl | rfl <;> cases a <;> cases b <;> rfl
  · obtain ⟨s, rfl⟩ := wtCell_shape hx
    obtain ⟨t, rfl⟩ := wtCell_shape hy
    have hc : (KE.cmp (goOp op) .cell .cell2).eval .string col.vals P (.str s) (.str t) c = _ :=
      (eval_cmp (u := .str (s.getD [])) (v := .str (t.getD [])) _ rfl rfl).trans (cmpBy_ops6 (tri_str _ _) hop)
    rw [canon2, eval_nullGuard (n := s.isNone || t.isNone) (eval_or rfl rfl)
      (by rw [Bool.not_or]; exact eval_and (eval_not rfl) (eval_not rfl)) hc]
    cases s <;> cases t <;> simp [cmp6, cellCmp, hty, ord6]
  · obtain ⟨s, rfl⟩ := wtCell_shape hx
    obtain ⟨t, rfl⟩ := wtCell_shape hy
    obtain ⟨e, he, hs⟩ := enum_cell hx
    obtain ⟨j, hj, ht⟩ := enum_cell hy
    have hc : (KE.cmp (goOp op) (.rank .cell) (.rank .cell2)).eval .enum col.vals P (.str s) (.str t) c = _ :=
      (eval_cmp _ (evalV_rank (a := .cell) he) (evalV_rank (a := .cell2) hj)).trans (cmpBy_ops6 (tri_int _ _) hop)
    rw [canon2, eval_nullGuard (eval_or (eval_nullTest (a := .cell) he) (eval_nullTest (a := .cell2) hj))
      (by rw [Bool.not_or]; exact eval_and (eval_not (eval_nullTest (a := .cell) he)) (eval_not (eval_nullTest (a := .cell2) hj))) hc]
    rcases s with _ | u <;> rcases t with _ | v
    · subst hs; simp [cmp6, cellCmp]
    · subst hs; simp [cmp6, cellCmp]
    · subst ht; simp [cmp6, cellCmp]
    · have h1 : ¬ e = enumNull := by omega
      have h2 : ¬ j = enumNull := by omega
      simp [cmp6, cellCmp, hty, hs.1, ht.1, h1, h2, ord6, ListFacts.compare_natCast]
  · simp [cmpOps] at hop

/-! ### column against constant -/

theorem constVal_eq_cellVal {ty : CType} {vals : List Bytes} {k : Cell} (hk : constOk ty vals k = true) :
    constVal ty vals k = cellVal ty vals k := by
  cases ty <;> obtain ⟨v, rfl⟩ := constOk_cases hk <;> rfl

/-- A constant is a cell that is not null: the kernel against a constant evaluates as the kernel against a column does
on that cell. -/
theorem canon1_eval (ty : CType) (op : String) {vals : List Bytes} {x k : Cell} (hx : cellOk ty vals x = true)
    (hk : constOk ty vals k = true) (P : KParams) (y : Cell) :
    (canon1 ty op).eval ty vals P x y k = (canon2 ty op).eval ty vals P x k k := by
  have hc := constVal_eq_cellVal hk
  cases ty
  iterate 3 simp only [canon1, canon2, KE.eval, KE.evalV, hc]
  · obtain ⟨s, rfl⟩ := wtCell_shape hx
    obtain ⟨v, rfl⟩ := constOk_cases hk
    by_cases h : op = "!=" <;>
      simp only [canon1, canon2, h, if_true, if_false, KE.eval, KE.evalV, nullFlag, cellVal, constVal, Option.getD_some,
        Option.isNone_some, Bool.or_false, Bool.not_false, Bool.and_true]
  · obtain ⟨s, rfl⟩ := wtCell_shape hx
    obtain ⟨v, rfl⟩ := constOk_cases hk
    obtain ⟨e, he, _⟩ := enum_cell hx
    obtain ⟨j, hj, _, hjl⟩ := enum_const hk
    have hj' : cellVal .enum vals (.str (some v)) = some (.enum j) := hc ▸ hj
    have hn : (j == enumNull) = false := by simp; omega
    by_cases h : op = "!=" <;>
      simp only [canon1, canon2, h, if_true, if_false, KE.eval, KE.evalV, he, hj, hj', hn, Bool.or_false, Bool.not_false, Bool.and_true]
  · exact (wtCell_shape hx).elim

theorem canon1_sem (col : LCol) (op : String) (hop : op ∈ cmpOps col.ty) (x k : Cell)
    (hx : cellOk col.ty col.vals x = true) (hk : constOk col.ty col.vals k = true) (P : KParams) (y : Cell) :
    (canon1 col.ty op).eval col.ty col.vals P x y k = some (cmp6 col op x k) := by
  rw [canon1_eval col.ty op hx hk P y]
  exact canon2_sem col op hop x k hx (by rw [cellOk, ← constVal_eq_cellVal hk]; exact hk) P k

/-! ### isnull / isnotnull -/

/-- what `leafPred` computes for `isnull` / `isnotnull` -/
def specNull (op : String) (x : Cell) : Bool := if op = "isnull" then x.isNull else !x.isNull

/-- isnull / isnotnull: shape and term together leave `b || specNull op x` (the int kernels do not look at the cell: an
int cell is never null). -/
theorem canon0_sem (col : LCol) (hty : col.ty ∈ nullTys) (op : String) (hop : op ∈ nullOps) (x : Cell)
    (hx : cellOk col.ty col.vals x = true) (P : KParams) (y c : Cell) (b : Bool) :
    kstep (canon0 col.ty op).1 ((canon0 col.ty op).2.eval col.ty col.vals P x y c) b = some (b || specNull op x) := by
  simp only [nullOps, List.mem_cons, List.not_mem_nil, or_false] at hop
  cases h : col.ty <;> rw [h] at hty hx
  case bool | undef => simp [nullTys] at hty
  case int =>
    obtain ⟨a, rfl⟩ := wtCell_shape hx
    rcases hop with rfl | rfl <;> cases b <;> simp [canon0, kstep, specNull, Cell.isNull, KE.eval, KE.evalV]
  case float =>
    obtain ⟨a, rfl⟩ := wtCell_shape hx
    rcases hop with rfl | rfl <;> cases b <;> simp [canon0, kstep, specNull, Cell.isNull, KE.eval, KE.evalV, cellVal]
  case string =>
    obtain ⟨s, rfl⟩ := wtCell_shape hx
    rcases hop with rfl | rfl <;> cases b <;> cases s <;>
      simp [canon0, kstep, specNull, Cell.isNull, KE.eval, KE.evalV, nullFlag]
  case enum =>
    obtain ⟨s, rfl⟩ := wtCell_shape hx
    obtain ⟨e, he, hs⟩ := enum_cell hx
    have hn : (KE.nullTest .cell).eval .enum col.vals P (.str s) y c = some (Cell.str s).isNull := by
      rw [eval_nullTest (a := .cell) he]
      cases s with
      | none => rw [hs]; rfl
      | some u => have := hs.2; simp [Cell.isNull]; omega
    rcases hop with rfl | rfl <;> cases b <;> simp [canon0, kstep, specNull, hn, eval_not hn]

/-! ### any_bits / all_bits (int) -/

/-- what `leafPred` computes for the bit tests of an int column against the constant `v` -/
def specBits (op : String) (x : Cell) (v : Int) : Bool :=
  if op = "any_bits" then (match x with | .int a => wrap64 (Int.ofNat (intBits a &&& intBits v)) > 0 | _ => false)
  else (match x with | .int a => (intBits a &&& intBits v) == intBits v | _ => false)

/-- A Go `int` on a 64-bit target. The kernels need it for all_bits only: `x&c == c` compares with the constant itself. -/
def int64 (v : Int) : Prop := -9223372036854775808 ≤ v ∧ v < 9223372036854775808

theorem anyBits_sem (vals : List Bytes) (a v : Int) (P : KParams) (y : Cell) :
    (KE.cmp ">" (.band .cell .const) (.num 0)).eval .int vals P (.int a) y (.int v) = some (specBits "any_bits" (.int a) v) := by
  simp [KE.eval, KE.evalV, cellVal, constVal, cmpV, cmpInt, specBits]

theorem allBits_arith (a v : Int) (hv : int64 v) :
    decide (wrap64 ((intBits a &&& intBits v : Nat) : Int) = v) = ((intBits a &&& intBits v) == intBits v) := by
  have hle : intBits a &&& intBits v ≤ intBits v := Nat.and_le_right
  generalize intBits a &&& intBits v = n at *
  have hm : intBits v < 18446744073709551616 := by unfold intBits; omega
  have : wrap64 (n : Int) = v ↔ n = intBits v := by
    unfold wrap64 intBits int64 at *
    simp only
    split <;> omega
  rw [Bool.eq_iff_iff]; simp [this]

/-- `column[index[i]]&comp == comp` in Go's 64-bit arithmetic is the spec's test on the bit patterns, for every
constant that is a Go `int`. -/
theorem allBits_sem (vals : List Bytes) (a v : Int) (hv : int64 v) (P : KParams) (y : Cell) :
    (KE.cmp "==" (.band .cell .const) .const).eval .int vals P (.int a) y (.int v) = some (specBits "all_bits" (.int a) v) := by
  simp [KE.eval, KE.evalV, cellVal, constVal, cmpV, cmpInt, specBits, allBits_arith a v hv]

/-! ### in -/

theorem inInt_sem (vals : List Bytes) (a : Int) (P : KParams) (y c : Cell) :
    (KE.contains .cell).eval .int vals P (.int a) y c = some (P.ints.contains a) := by
  simp [KE.eval, KE.evalV, cellVal]

/-- what `leafPred` computes for `in` on a string / enum column -/
def specInStr (vs : List Bytes) (x : Cell) : Bool := match x with | .str (some u) => vs.contains u | _ => false

theorem inStr_sem (vals : List Bytes) (s : Option Bytes) (P : KParams) (y c : Cell) :
    (KE.and (.not .isNull) (.contains .cell)).eval .string vals P (.str s) y c = some (specInStr P.strs (.str s)) := by
  cases s <;> simp [KE.eval, KE.evalV, cellVal, nullFlag, specInStr]

/-! ### like / ilike -/

/-- what `leafPred` computes for like / ilike with pattern `v` -/
def specLike (lo : LikeOracle) (op : String) (v : Bytes) (x : Cell) : Bool :=
  match x with | .str (some u) => lo.isMatch v (op == "ilike") u | _ => false

theorem likeStr_sem (vals : List Bytes) (cs : Bool) (s : Option Bytes) (v : Bytes) (P : KParams) (y : Cell) :
    (KE.and (.not .isNull) (.matches .const (.lit cs) .cell)).eval .string vals P (.str s) y (.str (some v)) =
      some (match s with | some u => P.lo.isMatch v (!cs) u | none => false) := by
  cases s <;> simp [KE.eval, KE.evalV, cellVal, constVal, nullFlag]

/-- like / ilike in their two tables: the same call of `NewMatcher`, `caseSensitive` being true for like and false for ilike -/
theorem like_canon {op : String} (hl : op = "like" ∨ op = "ilike") : ∃ cs, (!cs) = (op == "ilike") ∧
    genKernel "scolumn" "filterFuncs1" op = some ("guarded+pre", .and (.not .isNull) (.matches .const (.lit cs) .cell)) ∧
    genKernel "ecolumn" "multiFilterFuncs" op = some ("bitset+pre", .matches .const (.lit cs) .cell) := by
  rcases hl with rfl | rfl
  · exact ⟨true, by decide, gen_like_canon.1, gen_like_canon.2.2.1⟩
  · exact ⟨false, by decide, gen_like_canon.2.1, gen_like_canon.2.2.2⟩

/-! ### enum columns: `in`, like, ilike go through a bitset over the value table -/

/-- The bitset the builder `for i, v := range values { if e(v) { bset.set(enumVal(i)) } }` returns, read with `isSet`:
position `i` is set iff `i` is a position of the table and the builder's condition holds for the string there. The
builder's loop variable `v` plays the role of `.cell` of a STRING column with an empty value table
(`builder.eval .string []`). -/
def bsetOf (vals : List Bytes) (P : KParams) (c : Cell) (builder : KE) : Nat → Bool := fun i =>
  match vals[i]? with
  | some v => (builder.eval .string [] P (.str (some v)) (.str none) c).getD false
  | none => false

theorem bitset_sem (vals : List Bytes) (hlen : vals.length ≤ 255) (P : KParams) (builder : KE) (q : Bytes → Bool) (k : Cell)
    (hb : ∀ v, builder.eval .string [] P (.str (some v)) (.str none) k = some (q v))
    (s : Option Bytes) (hx : cellOk .enum vals (.str s) = true) (y : Cell) :
    (KE.bitset .cell).eval .enum vals { P with bset := bsetOf vals P k builder } (.str s) y k =
      some (match s with | some u => q u | none => false) := by
  cases s with
  | none =>
    have : vals[255]? = none := by simp; omega
    simp [KE.eval, KE.evalV, cellVal, enumNull, bsetOf, this]
  | some u =>
    obtain ⟨i, hi, hil⟩ := enum_ok hx
    obtain ⟨hlt, hget, _⟩ := enumRank_eq_some_iff.1 hi
    have : vals[i]? = some u := by simp [hlt, hget]
    have hb' : bsetOf vals P k builder i = q u := by simp only [bsetOf, this, hb, Option.getD_some]
    simp [KE.eval, KE.evalV, cellVal, enumNull, hi, hil, hb']

/-! ### custom predicates -/

theorem ptr_enum (vals : List Bytes) (s : Option Bytes) (hx : cellOk .enum vals (.str s) = true) :
    cellPtrVal .enum vals (.str s) = some (.ptr s) := by
  cases s with
  | none => simp [cellPtrVal]
  | some u => simp only [cellOk] at hx; simp [cellPtrVal, hx]

theorem custom1_sem (ty : CType) (hty : ty ∈ tys) (vals : List Bytes) (x : Cell) (hx : cellOk ty vals x = true)
    (P : KParams) (y c : Cell) : (c1ke ty).eval ty vals P x y c = some (P.fn1 x) := by
  cases ty <;> simp [tys] at hty
  · obtain ⟨a, rfl⟩ := wtCell_shape hx; rfl
  · obtain ⟨a, rfl⟩ := wtCell_shape hx; rfl
  · obtain ⟨a, rfl⟩ := wtCell_shape hx; rfl
  · obtain ⟨s, rfl⟩ := wtCell_shape hx; cases s <;> rfl
  · obtain ⟨s, rfl⟩ := wtCell_shape hx
    simp [c1ke, KE.eval, KE.evalV, ptr_enum vals s hx, KV.toCell]

theorem custom2_sem (ty : CType) (hty : ty ∈ tys) (vals : List Bytes) (x y : Cell) (hx : cellOk ty vals x = true)
    (hy : cellOk ty vals y = true) (P : KParams) (c : Cell) : (c2ke ty).eval ty vals P x y c = some (P.fn2 x y) := by
  cases ty <;> simp [tys] at hty
  · obtain ⟨a, rfl⟩ := wtCell_shape hx; obtain ⟨b, rfl⟩ := wtCell_shape hy; rfl
  · obtain ⟨a, rfl⟩ := wtCell_shape hx; obtain ⟨b, rfl⟩ := wtCell_shape hy; rfl
  · obtain ⟨a, rfl⟩ := wtCell_shape hx; obtain ⟨b, rfl⟩ := wtCell_shape hy; rfl
  · obtain ⟨s, rfl⟩ := wtCell_shape hx; obtain ⟨t, rfl⟩ := wtCell_shape hy; cases s <;> cases t <;> rfl
  · obtain ⟨s, rfl⟩ := wtCell_shape hx; obtain ⟨t, rfl⟩ := wtCell_shape hy
    simp [c2ke, KE.eval, KE.evalV, ptr_enum vals s hx, ptr_enum vals t hy, KV.toCell]

/-! ## Today's kernels compute the spec's leaf predicates -/

theorem cmpOps_ty {ty : CType} {op : String} (h : op ∈ cmpOps ty) : ty ∈ tys := by
  cases ty <;> simp [tys, cmpOps] at h ⊢

/-- `in` on int and string columns (tables `multiInputFilterFuncs`). -/
theorem gen_kernel_semantics_in_int (vals : List Bytes) (a : Int) (P : KParams) (y c : Cell) :
    Computes (genKernel "icolumn" tabIn "in") .int vals P (.int a) y c (P.ints.contains a) :=
  computes_guarded gen_in_canon.1 (inInt_sem vals a P y c)

theorem gen_kernel_semantics_in_string (vals : List Bytes) (s : Option Bytes) (P : KParams) (y c : Cell) :
    Computes (genKernel "scolumn" tabIn "in") .string vals P (.str s) y c (specInStr P.strs (.str s)) :=
  computes_guarded gen_in_canon.2.1 (inStr_sem vals s P y c)

/-- `in` on an enum column: the bitset built by `in` of the table `multiInputFilterFuncs`, read by `filterWithBitset`. -/
theorem gen_kernel_semantics_in_enum (vals : List Bytes) (hlen : vals.length ≤ 255) (s : Option Bytes)
    (hx : cellOk .enum vals (.str s) = true) (P : KParams) (y c : Cell) :
    ∃ B, genKernel "ecolumn" tabIn "in" = some ("bitset", B) ∧
      Computes (kernelOf "ecolumn" "Column.filterWithBitset") .enum vals { P with bset := bsetOf vals P c B } (.str s) y c
        (specInStr P.strs (.str s)) := by
  refine ⟨_, gen_in_canon.2.2.1, computes_guarded gen_in_canon.2.2.2 ?_⟩
  rw [bitset_sem vals hlen P _ (fun u => P.strs.contains u) c (fun v => by simp [KE.eval, KE.evalV, cellVal]) s hx y]
  cases s <;> rfl

/-- like / ilike on a string column (table `filterFuncs1`; both forward to `regexFilter`, whose term is used with the
caller's arguments). -/
theorem gen_kernel_semantics_like_string (vals : List Bytes) (op : String) (hop : op ∈ ["like", "ilike"]) (s : Option Bytes)
    (v : Bytes) (P : KParams) (y : Cell) :
    Computes (genKernel "scolumn" "filterFuncs1" op) .string vals P (.str s) y (.str (some v)) (specLike P.lo op v (.str s)) := by
  obtain ⟨cs, hcs, hcan, _⟩ := like_canon (by simpa using hop)
  refine computes_guarded hcan ?_
  rw [likeStr_sem]; cases s <;> simp [specLike, hcs]

/-- like / ilike on an enum column: the bitset built by `like` / `ilike` of `multiFilterFuncs` (both forward to
`filterLike`), read by `filterWithBitset`. -/
theorem gen_kernel_semantics_like_enum (vals : List Bytes) (hlen : vals.length ≤ 255) (op : String) (hop : op ∈ ["like", "ilike"])
    (s : Option Bytes) (hx : cellOk .enum vals (.str s) = true) (v : Bytes) (P : KParams) (y : Cell) :
    ∃ B, genKernel "ecolumn" "multiFilterFuncs" op = some ("bitset+pre", B) ∧
      Computes (kernelOf "ecolumn" "Column.filterWithBitset") .enum vals { P with bset := bsetOf vals P (.str (some v)) B }
        (.str s) y (.str (some v)) (specLike P.lo op v (.str s)) := by
  obtain ⟨cs, hcs, _, hcan⟩ := like_canon (by simpa using hop)
  refine ⟨_, hcan, computes_guarded gen_in_canon.2.2.2 ?_⟩
  rw [bitset_sem vals hlen P _ (fun u => P.lo.isMatch v (!cs) u) _ (fun w => by simp [KE.eval, KE.evalV, cellVal, constVal]) s hx y]
  cases s <;> simp [specLike, hcs]

/-- The user's one-argument predicate is applied to the cell as the user sees it (`filterCustom1` of every package). -/
theorem gen_kernel_semantics_custom1 (ty : CType) (hty : ty ∈ tys) (vals : List Bytes) (x : Cell) (hx : cellOk ty vals x = true)
    (P : KParams) (y c : Cell) :
    Computes (kernelOf (pkgOf ty) "Column.filterCustom1") ty vals P x y c (P.fn1 x) :=
  computes_guarded (gen_custom_canon ty hty).1 (custom1_sem ty hty vals x hx P y c)

/-- The user's two-argument predicate is applied to the two cells (`filterCustom2` of every package). -/
theorem gen_kernel_semantics_custom2 (ty : CType) (hty : ty ∈ tys) (vals : List Bytes) (x y : Cell) (hx : cellOk ty vals x = true)
    (hy : cellOk ty vals y = true) (P : KParams) (c : Cell) :
    Computes (kernelOf (pkgOf ty) "Column.filterCustom2") ty vals P x y c (P.fn2 x y) :=
  computes_guarded (gen_custom_canon ty hty).2 (custom2_sem ty hty vals x y hx hy P c)

/-- **The kernels of today's source compute the spec's predicates.** For every column type, every built-in comparator
of the package's constant-argument and column-argument tables, and ALL cells of the type: the kernel the table names,
with the shape and the expression extracted from the source, turns a mask entry `b` into `b || p`, `p` being the
value `leafPred` uses for that leaf (`cmp6 col op …`; `specNull`, `specBits`, `specLike` are the other right-hand sides
of `leafPred`: `leaf_kernel_*` below). -/
theorem gen_kernel_semantics :
    -- column against constant, the six comparators (`=`, `!=` only for bool)
    (∀ (col : LCol) (op : String), op ∈ cmpOps col.ty → ∀ x k : Cell, cellOk col.ty col.vals x = true →
      constOk col.ty col.vals k = true → ∀ (P : KParams) (y : Cell),
      Computes (genKernel (pkgOf col.ty) (tab1 col.ty) op) col.ty col.vals P x y k (cmp6 col op x k)) ∧
    -- column against column
    (∀ (col : LCol) (op : String), op ∈ cmpOps col.ty → ∀ x y : Cell, cellOk col.ty col.vals x = true →
      cellOk col.ty col.vals y = true → ∀ (P : KParams) (c : Cell),
      Computes (genKernel (pkgOf col.ty) tab2 op) col.ty col.vals P x y c (cmp6 col op x y)) ∧
    -- isnull / isnotnull
    (∀ (col : LCol), col.ty ∈ nullTys → ∀ op ∈ nullOps, ∀ x : Cell, cellOk col.ty col.vals x = true →
      ∀ (P : KParams) (y c : Cell), Computes (genKernel (pkgOf col.ty) tab0 op) col.ty col.vals P x y c (specNull op x)) ∧
    -- the remaining entries of the constant-argument tables: bit tests (int), like / ilike (string)
    (∀ (vals : List Bytes) (op : String) (a v : Int), (op = "any_bits" ∨ (op = "all_bits" ∧ int64 v)) → ∀ (P : KParams) (y : Cell),
      Computes (genKernel "icolumn" "filterFuncs" op) .int vals P (.int a) y (.int v) (specBits op (.int a) v)) ∧
    (∀ (vals : List Bytes), ∀ op ∈ ["like", "ilike"], ∀ (s : Option Bytes) (v : Bytes) (P : KParams) (y : Cell),
      Computes (genKernel "scolumn" "filterFuncs1" op) .string vals P (.str s) y (.str (some v)) (specLike P.lo op v (.str s))) :=
  ⟨fun col op hop x k hx hk P y =>
      computes_guarded (gen_cmp1_canon _ (cmpOps_ty hop) op hop) (canon1_sem col op hop x k hx hk P y),
   fun col op hop x y hx hy P c =>
      computes_guarded (gen_cmp2_canon _ (cmpOps_ty hop) op hop) (canon2_sem col op hop x y hx hy P c),
   fun col hty op hop x hx P y c =>
      ⟨(canon0 col.ty op).1, (canon0 col.ty op).2, gen_null_canon _ hty op hop, fun b => canon0_sem col hty op hop x hx P y c b⟩,
   fun vals op a v hop P y => by
      rcases hop with rfl | ⟨rfl, hv⟩
      · exact computes_guarded gen_bits_canon.1 (anyBits_sem vals a v P y)
      · exact computes_guarded gen_bits_canon.2 (allBits_sem vals a v hv P y),
   gen_kernel_semantics_like_string⟩

/-! ## The comparator tables against `route`, for every comparator string

`C02Spec.route` is the spec of a leaf on cells. A comparator table of a package, read as a function of the comparator
STRING, is `route` for the kind of argument the table serves: an entry where `route` accepts, computing `route`'s
function (`gen_kernel_semantics_*`), no entry (`gen_tables_covered`) or an entry whose `NewMatcher` fails where it
rejects. `TabSem` is that relation, `tab0_sem` / `tab1_sem` / `tab2_sem` / `tabIn_int` / `tabIn_string` are the tables.
`tab1_sem` is stated against the right-hand side of `route_const` (the comparisons of the type, else `extra1`), which is
`route` for a non-null constant of the column's type; the constant-argument table of ecolumn holds the comparisons only. -/

open C02Spec (route resolve onRows leafPred_some)

theorem isOrd6_mem {op : String} (h : isOrd6 op = true) : op ∈ ops6 := by
  simpa [isOrd6, ops6] using h

/-- the comparators of a type, as `route` tests for them -/
theorem cmpOps_iff {ty : CType} {op : String} (hty : ty ∈ tys) :
    (if ty == .bool then op == "=" || op == "!=" else isOrd6 op) = true ↔ op ∈ cmpOps ty := by
  cases ty <;> simp [tys] at hty <;> simp [cmpOps, ops6, isOrd6]

theorem tableFn_none {pkg tab op : String} (h : op ∉ tableOps pkg tab) : tableFn pkg tab op = none := by
  unfold tableFn tableOps at *
  cases hf : Gen.tables.find? (fun t => t.1 == pkg && t.2.1 == tab) with
  | none => rfl
  | some t =>
    simp only [hf, Option.map_some, Option.getD_some, List.mem_map, not_exists, not_and] at h
    simp only [Option.bind_some, List.lookup_eq_none_iff]
    intro p hp
    simp only [bne_iff_ne, ne_eq]
    exact fun e => h p hp e.symm

theorem genKernel_miss {pkg tab op : String} (h : op ∉ tableOps pkg tab) : genKernel pkg tab op = none := by
  unfold genKernel genKernelIn; rw [tableFn_none h]; rfl

/-- The entry `k?` of a comparator table against the spec `q?` of the comparator on cells: no entry, or an entry whose
statements in front of the loop fail (and whose error the caller returns: `ret`), where the spec rejects; an entry that
leaves `b || q x y` in a mask entry that held `b` where the spec accepts with `q`. `Y`: the cells of the second column. -/
def TabSem (lo : LikeOracle) (ret : Bool) (ty : CType) (vals : List Bytes) (P : KParams) (k : Cell) (Y : Cell → Prop) :
    Option (String × KE) → Option (Cell → Cell → Bool) → Prop
  | none, none => True
  | some (sh, ke), none => ret = true ∧ preOk lo sh ke k = some false
  | some (sh, ke), some q => preOk lo sh ke k = some true ∧
      ∀ x y b, cellOk ty vals x = true → Y y → kstep sh (ke.eval ty vals P x y k) b = some (b || q x y)
  | none, some _ => False

section
variable {lo : LikeOracle} {ret : Bool} {ty : CType} {vals : List Bytes} {P : KParams} {k : Cell} {Y : Cell → Prop}

theorem tabSem_guarded {ke : KE} {q : Cell → Cell → Bool}
    (h : ∀ x y, cellOk ty vals x = true → Y y → ke.eval ty vals P x y k = some (q x y)) :
    TabSem lo ret ty vals P k Y (some ("guarded", ke)) (some q) :=
  ⟨by simp [preOk, hasPre], fun x y b hx hy => by cases b <;> simp [kstep, h x y hx hy]⟩

theorem TabSem.computes {k? : Option (String × KE)} {q : Cell → Cell → Bool} (h : TabSem lo ret ty vals P k Y k? (some q))
    {x y : Cell} (hx : cellOk ty vals x = true) (hy : Y y) : Computes k? ty vals P x y k (q x y) := by
  cases k? with
  | none => exact h.elim
  | some p => exact ⟨p.1, p.2, rfl, fun b => h.2 x y b hx hy⟩
end

theorem cellOk_vals {ty : CType} (h : ty ≠ .enum) (v1 v2 : List Bytes) (x : Cell) : cellOk ty v1 x = cellOk ty v2 x := by
  cases ty <;> cases x <;> simp [cellOk, cellVal] at h ⊢

/-- column against column: the table `filterFuncs2` of every package -/
theorem tab2_sem (lo : LikeOracle) (ret : Bool) {c : LCol} (hdef : c.ty ∈ tys) (op : String) (P : KParams) (k : Cell)
    {ac : LCol} (an : Bytes) (hty : c.ty = ac.ty) (hv : c.ty = .enum → c.vals = ac.vals) :
    TabSem lo ret c.ty c.vals P k (fun y => cellOk ac.ty ac.vals y = true) (genKernel (pkgOf c.ty) tab2 op) (route lo c op ac (.col an)) := by
  have h1 : (c.ty != ac.ty) = false := by simpa using hty
  have h2 : (c.ty == .enum && (c.vals != ac.vals)) = false := by
    by_cases he : c.ty = .enum <;> simp [he, hv]
  simp only [route, h1, h2, Bool.false_eq_true, if_false]
  by_cases hok : (if c.ty == .bool then op == "=" || op == "!=" else isOrd6 op) = true
  · have hop := (cmpOps_iff hdef).1 hok
    rw [if_pos hok, gen_cmp2_canon c.ty hdef op hop]
    refine tabSem_guarded fun x y hx hy => canon2_sem c op hop x y hx ?_ P k
    rw [← hty] at hy
    by_cases he : c.ty = .enum
    · rw [hv he]; exact hy
    · rw [cellOk_vals he c.vals ac.vals]; exact hy
  · rw [if_neg hok, genKernel_miss fun hm => hok ((cmpOps_iff hdef).2 (gen_tables_covered.2.1 _ hdef _ hm))]
    trivial

/-- isnull / isnotnull: the table `filterFuncs0` -/
theorem tab0_sem (lo : LikeOracle) (ret : Bool) {c : LCol} (hty : c.ty ∈ nullTys) (op : String) (P : KParams) (k : Cell) (Y : Cell → Prop) :
    TabSem lo ret c.ty c.vals P k Y (genKernel (pkgOf c.ty) tab0 op) (route lo c op c .nil) := by
  have hnb : (c.ty == .bool) = false := by cases h : c.ty <;> simp [h, nullTys] at hty ⊢
  simp only [route, hnb, Bool.false_eq_true, if_false]
  by_cases hn : op ∈ nullOps
  · rw [gen_null_canon c.ty hty op hn]
    have hpre : preOk lo (canon0 c.ty op).1 (canon0 c.ty op).2 k = some true := by
      simp only [nullOps, List.mem_cons, List.not_mem_nil, or_false] at hn
      cases h : c.ty <;> simp [h, nullTys] at hty <;> rcases hn with rfl | rfl <;> simp [canon0, preOk, hasPre]
    have hsem := fun x y b hx => canon0_sem c hty op hn x hx P y k b
    simp only [nullOps, List.mem_cons, List.not_mem_nil, or_false] at hn
    rcases hn with rfl | rfl
    · exact ⟨hpre, fun x y b hx _ => hsem x y b hx⟩
    · exact ⟨hpre, fun x y b hx _ => hsem x y b hx⟩
  · rw [genKernel_miss fun hm => hn (gen_tables_covered.2.2.1 c.ty (by revert hty; cases c.ty <;> decide) op hm)]
    simp only [nullOps, List.mem_cons, List.not_mem_nil, or_false, not_or] at hn
    simp only [beq_iff_eq, hn.1, hn.2, if_false]
    trivial

/-- What a leaf with a constant computes besides the comparisons: the bit tests of an int column, like / ilike of a
string or enum column. -/
def extra1 (lo : LikeOracle) (ty : CType) (op : String) : Cell → Option (Cell → Cell → Bool)
  | .int v => if ty = .int ∧ (op = "any_bits" ∨ op = "all_bits") then some (fun x _ => specBits op x v) else none
  | .str (some v) =>
    if (ty = .string ∨ ty = .enum) ∧ (op = "like" ∨ op = "ilike") ∧ lo.valid v (op == "ilike") = true then
      some (fun x _ => specLike lo op v x) else none
  | _ => none

theorem extra1_ord6 {lo : LikeOracle} {ty : CType} {op : String} {k : Cell} (hop : isOrd6 op = true) : extra1 lo ty op k = none := by
  rcases k with v | _ | _ | (_ | v) <;> simp only [extra1]
  · exact if_neg fun h => by rcases h.2 with rfl | rfl <;> cases hop
  · exact if_neg fun h => by rcases h.2.1 with rfl | rfl <;> cases hop

/-- `route` for a constant of the column's type (declared, for an enum column): the comparisons of the type, else `extra1`. -/
theorem route_const (lo : LikeOracle) {c : LCol} (op : String) (ac : LCol) {k : Cell} (hk : constOk c.ty c.vals k = true) :
    route lo c op ac (.cell k) =
      if k.isNull then none else if op ∈ cmpOps c.ty then some (fun x _ => cmp6 c op x k) else extra1 lo c.ty op k := by
  have h6 : isOrd6 op = decide (op ∈ ops6) := rfl
  have hr : ∀ v, k = .str (some v) → c.ty = .enum → (enumRank c.vals v).isSome = true := by
    intro v hv he
    rw [hv, he] at hk
    obtain ⟨i, hi, _⟩ := enum_const_ok hk
    rw [hi]; rfl
  cases h : c.ty <;> rw [h] at hk <;> obtain ⟨v, rfl⟩ := constOk_cases hk
  · by_cases hop : op ∈ ops6
    · simp [route, h, cmpOps, h6, hop, Cell.isNull]
    · by_cases ha : op = "any_bits"
      · subst ha
        simp [route, h, cmpOps, h6, hop, extra1, specBits, Cell.isNull]
        -- `route`'s function and `specBits` match on the cell in different places
        funext x _
        cases x <;> rfl
      · by_cases hb : op = "all_bits"
        · subst hb
          simp [route, h, cmpOps, h6, hop, extra1, specBits, Cell.isNull]
          funext x _
          cases x <;> rfl
        · simp [route, h, cmpOps, h6, hop, extra1, ha, hb, Cell.isNull]
  · by_cases hop : op ∈ ops6 <;> simp [route, h, cmpOps, h6, hop, extra1, Cell.isNull]
  · by_cases hop : op ∈ ["=", "!="]
    · have : (op == "=" || op == "!=") = true := by simpa using hop
      simp [route, h, cmpOps, hop, this, Cell.isNull]
    · have : (op == "=" || op == "!=") = false := by simpa using hop
      simp [route, h, cmpOps, hop, this, extra1, Cell.isNull]
  -- string, enum: a declared constant of an enum column passes `route`'s search in the value table
  iterate 2
    by_cases hop : op ∈ ops6
    · simp [route, h, cmpOps, h6, hop, Cell.isNull, hr v rfl]
    · by_cases hl : op = "like" ∨ op = "ilike"
      · have hlb : (op == "like" || op == "ilike") = true := by simpa using hl
        by_cases hv : lo.valid v (op == "ilike") = true
        · simp [route, h, cmpOps, h6, hop, extra1, hl, hlb, hv, specLike, Cell.isNull]
          funext x _
          rcases x with _ | _ | _ | (_ | _) <;> rfl
        · simp [route, h, cmpOps, h6, hop, extra1, hl, hlb, hv, Cell.isNull]
      · have hlb : (op == "like" || op == "ilike") = false := by simpa using hl
        simp [route, h, cmpOps, h6, hop, extra1, hl, hlb, Cell.isNull]

theorem miss_tab1 {ty : CType} {op : String} (hty : ty ∈ tys) (h6 : op ∉ cmpOps ty)
    (hx : op ∉ (if ty = .int then ["any_bits", "all_bits"] else if ty = .string then ["like", "ilike"] else [])) :
    op ∉ tableOps (pkgOf ty) (tab1 ty) :=
  fun hm => (List.mem_append.1 (gen_tables_covered.1 ty hty op hm)).elim h6 hx

/-- column against constant: the table `filterFuncs` / `filterFuncs1` of every package (like / ilike of an enum column
are in a table of their own). The six comparisons once for all five types, then the extras type by type. -/
theorem tab1_sem {c : LCol} (hdef : c.ty ∈ tys) (op : String) (P : KParams) {k : Cell} (hk : constOk c.ty c.vals k = true)
    (hint : ∀ v, k = .int v → int64 v) (Y : Cell → Prop) :
    TabSem P.lo (c.ty == .string) c.ty c.vals P k Y (genKernel (pkgOf c.ty) (tab1 c.ty) op)
      (if op ∈ cmpOps c.ty then some (fun x _ => cmp6 c op x k) else if c.ty = .enum then none else extra1 P.lo c.ty op k) := by
  by_cases hop : op ∈ cmpOps c.ty
  · rw [if_pos hop, gen_cmp1_canon c.ty hdef op hop]
    exact tabSem_guarded fun x y hx _ => canon1_sem c op hop x k hx hk _ y
  · rw [if_neg hop]
    simp only [tys, List.mem_cons, List.not_mem_nil, or_false] at hdef
    rcases hdef with h | h | h | h | h <;> rw [h] at hk hop ⊢ <;> obtain ⟨v, rfl⟩ := constOk_cases hk
    · -- int: any_bits, all_bits
      by_cases ha : op = "any_bits"
      · subst ha
        rw [show genKernel (pkgOf .int) (tab1 .int) "any_bits" = _ from gen_bits_canon.1]
        exact tabSem_guarded fun x y hx _ => by obtain ⟨a, rfl⟩ := wtCell_shape hx; exact anyBits_sem c.vals a v _ y
      · by_cases hb : op = "all_bits"
        · subst hb
          rw [show genKernel (pkgOf .int) (tab1 .int) "all_bits" = _ from gen_bits_canon.2]
          exact tabSem_guarded fun x y hx _ => by obtain ⟨a, rfl⟩ := wtCell_shape hx; exact allBits_sem c.vals a v (hint v rfl) _ y
        · rw [genKernel_miss (miss_tab1 (ty := .int) (by decide) hop (by simp [ha, hb]))]
          simp [extra1, ha, hb, TabSem]
    · rw [genKernel_miss (miss_tab1 (ty := .float) (by decide) hop (by simp))]; trivial
    · rw [genKernel_miss (miss_tab1 (ty := .bool) (by decide) hop (by simp))]; trivial
    · -- string: like, ilike, with `NewMatcher` in front of the loop
      by_cases hl : op = "like" ∨ op = "ilike"
      · obtain ⟨cs, hcs, hcan, _⟩ := like_canon hl
        have hpre : preOk P.lo "guarded+pre" (.and (.not .isNull) (.matches .const (.lit cs) .cell)) (.str (some v)) =
            some (P.lo.valid v (op == "ilike")) := by simp [preOk, hasPre, KE.matcher, hcs]
        rw [show genKernel (pkgOf .string) (tab1 .string) op = _ from hcan]
        by_cases hv : P.lo.valid v (op == "ilike") = true
        · simp only [extra1, hl, hv, reduceCtorEq, if_false, true_or, and_self, if_true]
          refine ⟨by rw [hpre, hv], fun x y b hx _ => ?_⟩
          obtain ⟨s, rfl⟩ := wtCell_shape hx
          obtain ⟨sh, ke, he, hb⟩ := gen_kernel_semantics_like_string c.vals op (by simpa using hl) s v P y
          rw [hcan] at he; cases he; exact hb b
        · simp only [extra1, hl, hv, reduceCtorEq, if_false, and_false]
          exact ⟨rfl, by rw [hpre]; simpa using hv⟩
      · rw [genKernel_miss (miss_tab1 (ty := .string) (by decide) hop (by simpa using hl))]
        simp [extra1, hl, TabSem]
    · rw [genKernel_miss (miss_tab1 (ty := .enum) (by decide) hop (by simp))]; simp [TabSem]

/-- `in` on an int column: the table `multiInputFilterFuncs` of icolumn -/
theorem tabIn_int (lo : LikeOracle) (ret : Bool) {c : LCol} (hty : c.ty = .int) (op : String) (P : KParams) (k : Cell) (Y : Cell → Prop) :
    TabSem lo ret .int c.vals P k Y (genKernel "icolumn" tabIn op) (route lo c op c (.ints P.ints)) := by
  simp only [route, hty]
  by_cases hin : op = "in"
  · subst hin
    rw [gen_in_canon.1]
    refine tabSem_guarded fun x y hx _ => ?_
    obtain ⟨a, rfl⟩ := wtCell_shape hx
    exact inInt_sem c.vals a P y k
  · rw [genKernel_miss (pkg := "icolumn") fun hm => hin (gen_tables_covered.2.2.2.1 .int (by decide) _ hm), if_neg (by simpa using hin)]
    trivial

/-- `in` on a string column: the table `multiInputFilterFuncs` of scolumn -/
theorem tabIn_string (lo : LikeOracle) (ret : Bool) {c : LCol} (hty : c.ty = .string) (op : String) (P : KParams) (k : Cell) (Y : Cell → Prop) :
    TabSem lo ret .string c.vals P k Y (genKernel "scolumn" tabIn op) (route lo c op c (.strs P.strs)) := by
  simp only [route, hty]
  by_cases hin : op = "in"
  · subst hin
    rw [gen_in_canon.2.1]
    refine tabSem_guarded fun x y hx _ => ?_
    obtain ⟨s, rfl⟩ := wtCell_shape hx
    exact inStr_sem c.vals s P y k
  · rw [genKernel_miss (pkg := "scolumn") fun hm => hin (gen_tables_covered.2.2.2.1 .string (by decide) _ hm), if_neg (by simpa using hin)]
    trivial

/-! ## `leafPred` itself

`leafPred lo f l` (QF/Spec/Filter.lean) is `route` on the rows of the columns `resolve` finds (`C02Spec.leafPred_builtin`);
`leaf_kernel_*` combine that with the tables: whenever the spec accepts the leaf, the kernel today's source runs for it
computes the spec's row predicate on every row. Stated here for a comparison with a constant (`leaf_kernel_cell`) or a
column (`leaf_kernel_col`), isnull / isnotnull (`leaf_kernel_nil`) and the bit tests (`leaf_kernel_bits`). For `in` only
the spec's half stands here (`leafPred_ints` / `leafPred_strs`: what an accepted leaf computes; the kernels' half is
`gen_kernel_semantics_in_*`), for like / ilike nothing; all kinds of leaf are joined to their kernels in
`C02Dispatch.gen_leaf_semantics_partial`. -/

theorem leafPred_noncol {lo : LikeOracle} {f : LFrame} {l : Leaf} {c : LCol} {op : String} {p : Nat → Bool} (hc : f.find? l.col = some c) (hcmp : l.cmp = .builtin op) (harg : ∀ an, l.arg ≠ .col an)
    (hp : leafPred lo f l = some p) : ∃ q, route lo c op c l.arg = some q ∧ p = onRows c c q := by
  obtain ⟨c', ac', q, hr, hq, rfl⟩ := leafPred_some hc hcmp hp
  rw [C02Spec.resolve_noncol harg] at hr
  cases hr
  exact ⟨q, hq, rfl⟩

/-- A comparison against a constant: the kernel today's source runs for the leaf computes exactly the leaf's row
predicate (for an enum column the constant is in the value table — otherwise Go does not run a kernel at all). -/
theorem leaf_kernel_cell {lo : LikeOracle} {f : LFrame} {l : Leaf} {c : LCol} {op : String} {k : Cell} {p : Nat → Bool}
    (hc : f.find? l.col = some c) (hcmp : l.cmp = .builtin op) (harg : l.arg = .cell k) (hop : isOrd6 op = true)
    (hk : constOk c.ty c.vals k = true) (hp : leafPred lo f l = some p)
    (r : Nat) (hx : cellOk c.ty c.vals c.cells[r]! = true) (P : KParams) (y : Cell) :
    Computes (genKernel (pkgOf c.ty) (tab1 c.ty) op) c.ty c.vals P c.cells[r]! y k (p r) := by
  obtain ⟨q, hq, rfl⟩ := leafPred_noncol hc hcmp (by rw [harg]; intro an h; cases h) hp
  rw [harg, route_const lo op c hk, extra1_ord6 hop] at hq
  split at hq
  · cases hq
  · split at hq
    · rename_i h1
      cases hq
      exact gen_kernel_semantics.1 c op h1 _ k hx hk P y
    · cases hq

/-- A comparison against a column of the same type (int against float is promoted by the dispatcher and then handled by
the float kernels). -/
theorem leaf_kernel_col {lo : LikeOracle} {f : LFrame} {l : Leaf} {c ac : LCol} {op : String} {an : Bytes} {p : Nat → Bool}
    (hc : f.find? l.col = some c) (hcmp : l.cmp = .builtin op) (harg : l.arg = .col an) (hac : f.find? an = some ac)
    (hty : c.ty = ac.ty) (hdef : c.ty ∈ tys) (hp : leafPred lo f l = some p)
    (r : Nat) (hx : cellOk c.ty c.vals c.cells[r]! = true) (hy : cellOk ac.ty ac.vals ac.cells[r]! = true) (P : KParams) (k : Cell) :
    Computes (genKernel (pkgOf c.ty) tab2 op) c.ty c.vals P c.cells[r]! ac.cells[r]! k (p r) := by
  obtain ⟨c', ac', q, hr, hq, rfl⟩ := leafPred_some hc hcmp hp
  have hA : (c.ty == .int && ac.ty == .float) = false := by rw [← hty]; cases c.ty <;> rfl
  have hB : (c.ty == .float && ac.ty == .int) = false := by rw [← hty]; cases c.ty <;> rfl
  simp only [harg, resolve, hac, Option.map_some, hA, hB, Bool.false_eq_true, if_false, Option.some.injEq, Prod.mk.injEq] at hr
  obtain ⟨rfl, rfl⟩ := hr
  rw [harg] at hq
  have hv : c.ty = .enum → c.vals = ac.vals := fun he => by
    apply Classical.byContradiction
    intro hne
    simp [route, ← hty, he, hne] at hq
  have := tab2_sem lo false hdef op P k an hty hv
  rw [hq] at this
  exact this.computes hx hy

theorem route_nil {lo : LikeOracle} {c ac : LCol} {op : String} {q : Cell → Cell → Bool} (h : route lo c op ac .nil = some q) :
    c.ty ≠ .bool ∧ op ∈ nullOps ∧ q = fun x _ => specNull op x := by
  have hop : op = "isnull" ∨ op = "isnotnull" := by
    cases hf : C02Spec.opFits op .nil
    · rw [C02Spec.route_opMisfit hf] at h; cases h
    · simpa [C02Spec.opFits] using hf
  obtain ⟨_, hty, rfl⟩ := C02Spec.route_nullop hop h
  exact ⟨hty, by simpa [nullOps] using hop, rfl⟩

theorem leaf_kernel_nil {lo : LikeOracle} {f : LFrame} {l : Leaf} {c : LCol} {op : String} {p : Nat → Bool}
    (hc : f.find? l.col = some c) (hcmp : l.cmp = .builtin op) (harg : l.arg = .nil) (hdef : c.ty ∈ tys)
    (hp : leafPred lo f l = some p) (r : Nat) (hx : cellOk c.ty c.vals c.cells[r]! = true) (P : KParams) (y k : Cell) :
    Computes (genKernel (pkgOf c.ty) tab0 op) c.ty c.vals P c.cells[r]! y k (p r) := by
  obtain ⟨q, hq, rfl⟩ := leafPred_noncol hc hcmp (by rw [harg]; intro an h; cases h) hp
  rw [harg] at hq
  obtain ⟨hnb, hop, rfl⟩ := route_nil hq
  have hn : c.ty ∈ nullTys := by
    cases h : c.ty <;> rw [h] at hdef hnb <;> simp [tys, nullTys] at hdef hnb ⊢
  exact gen_kernel_semantics.2.2.1 c hn op hop _ hx P y k

/-- The bit tests of an int column; for all_bits the constant must be a Go `int`. -/
theorem leaf_kernel_bits {lo : LikeOracle} {f : LFrame} {l : Leaf} {c : LCol} {op : String} {v : Int} {p : Nat → Bool}
    (hc : f.find? l.col = some c) (hcmp : l.cmp = .builtin op) (harg : l.arg = .cell (.int v)) (hty : c.ty = .int)
    (hop : op = "any_bits" ∨ op = "all_bits") (hv : int64 v) (hp : leafPred lo f l = some p)
    (r : Nat) (hx : cellOk c.ty c.vals c.cells[r]! = true) (P : KParams) (y : Cell) :
    Computes (genKernel "icolumn" "filterFuncs" op) .int c.vals P c.cells[r]! y (.int v) (p r) := by
  obtain ⟨q, hq, rfl⟩ := leafPred_noncol hc hcmp (by rw [harg]; intro an h; cases h) hp
  have hno : op ∉ cmpOps c.ty := by rw [hty]; rcases hop with rfl | rfl <;> decide
  rw [harg, route_const lo op c (by rw [hty]; rfl), if_neg (by simp [Cell.isNull]), if_neg hno] at hq
  simp only [extra1, hty, hop, and_self, if_true, Option.some.injEq] at hq
  subst hq
  rw [hty] at hx
  obtain ⟨a, ha⟩ := wtCell_shape hx
  simp only [onRows, ha]
  exact gen_kernel_semantics.2.2.2.1 c.vals op a v (hop.imp id (fun h => ⟨h, hv⟩)) P y

theorem leafPred_ints {lo : LikeOracle} {f : LFrame} {l : Leaf} {c : LCol} {op : String} {vs : List Int} {p : Nat → Bool}
    (hc : f.find? l.col = some c) (hcmp : l.cmp = .builtin op) (harg : l.arg = .ints vs) (hp : leafPred lo f l = some p) :
    c.ty = .int ∧ op = "in" ∧ ∀ r, p r = (match c.cells[r]! with | .int x => vs.contains x | _ => false) := by
  obtain ⟨q, hq, rfl⟩ := leafPred_noncol hc hcmp (by rw [harg]; intro an h; cases h) hp
  simp [harg, route] at hq
  obtain ⟨⟨h1, h2⟩, rfl⟩ := hq
  exact ⟨h1, h2, fun r => by simp only [onRows]; generalize c.cells[r]! = x; cases x <;> simp⟩

theorem leafPred_strs {lo : LikeOracle} {f : LFrame} {l : Leaf} {c : LCol} {op : String} {vs : List Bytes} {p : Nat → Bool}
    (hc : f.find? l.col = some c) (hcmp : l.cmp = .builtin op) (harg : l.arg = .strs vs) (hp : leafPred lo f l = some p) :
    (c.ty = .string ∨ c.ty = .enum) ∧ op = "in" ∧ ∀ r, p r = specInStr vs c.cells[r]! := by
  obtain ⟨q, hq, rfl⟩ := leafPred_noncol hc hcmp (by rw [harg]; intro an h; cases h) hp
  simp [harg, route] at hq
  obtain ⟨⟨h1, h2⟩, rfl⟩ := hq
  exact ⟨h1, h2, fun r => by simp only [onRows, specInStr]; generalize c.cells[r]! = x; rcases x with _ | _ | _ | (_ | _) <;> simp⟩

/-! ## The statement is not vacuous -/

section Examples

/-- today's list with `<` replaced by `<=` in `lt` of icolumn (what the extractor produces for that change) -/
def mutatedLt : KList :=
  Gen.kernelAst.map (fun k => if k.1 = "icolumn" ∧ k.2.1 = "lt" then (k.1, k.2.1, k.2.2.1, KE.cmp "<=" .cell .const) else k)

/-- the finite check fails on the mutated list … -/
example : genKernelIn mutatedLt "icolumn" "filterFuncs" "<" ≠ some ("guarded", canon1 .int "<") := by decide

def intCol : LCol := { name := [], ty := .int, cells := #[] }

/-- … and so does the statement itself: on the cell 0 and the constant 0 the mutated kernel sets the entry, the spec
does not. -/
example : ¬ ∀ (x k : Cell), cellOk .int [] x = true → constOk .int [] k = true →
    Computes (genKernelIn mutatedLt "icolumn" "filterFuncs" "<") .int [] {} x (.int 0) k (cmp6 intCol "<" x k) := by
  intro h
  obtain ⟨sh, ast, hk, hb⟩ := h (.int 0) (.int 0) rfl rfl
  have hm : genKernelIn mutatedLt "icolumn" "filterFuncs" "<" = some ("guarded", KE.cmp "<=" .cell .const) := by decide
  rw [hm] at hk
  simp only [Option.some.injEq, Prod.mk.injEq] at hk
  obtain ⟨rfl, rfl⟩ := hk
  exact absurd (hb false) (by decide)

def strCol : LCol := { name := [], ty := .string, cells := #[] }

/-- dropping the null test of the string `lt`: a null cell reads as `""`, which is smaller than `"a"` -/
example : (KE.cmp "<" .cell .const).eval .string [] {} (.str none) (.str none) (.str (some [97]))
    ≠ some (cmp6 strCol "<" (.str none) (.str (some [97]))) := by decide

/-- swapping the operands of the float `lt` -/
example : (KE.cmp "<" .const .cell).eval .float [] {} (.float 0) (.float 0) (.float 0x3ff0000000000000)
    ≠ some (cmp6 { strCol with ty := .float } "<" (.float 0) (.float 0x3ff0000000000000)) := by decide

/-- comparing the raw `enumVal`s instead of `compVal()` without the null test: null (255) is above every rank -/
example : (KE.cmp ">" .cell .const).eval .enum [[97]] {} (.str none) (.str none) (.str (some [97]))
    ≠ some (cmp6 { strCol with ty := .enum, vals := [[97]] } ">" (.str none) (.str (some [97]))) := by decide

/-- an untranslated kernel has no meaning: nothing is `Computes`d -/
example : ¬ Computes (some ("guarded", KE.opaque "f(x)")) .int [] {} (.int 0) (.int 0) (.int 0) true := by
  rintro ⟨sh, ast, hk, hb⟩
  simp only [Option.some.injEq, Prod.mk.injEq] at hk
  obtain ⟨rfl, rfl⟩ := hk
  exact absurd (hb false) (by decide)

/-- the overwriting int `isnull` kernel the source had before its repair (`for i := range bIndex { bIndex[i] = false }`) would not pass:
it clears entries set by earlier filters of an OR group -/
example : kstep "unguarded" ((KE.lit false).eval .int [] {} (.int 0) (.int 0) (.int 0)) true ≠ some (true || specNull "isnull" (.int 0)) := by
  decide

end Examples

end QF.Props.C02Kernels
