import QF.Spec.Num
import QF.Props.C16Layouts
/-!
# C16 — link between the formatter's text layouts and the decimal spec (`QF.Num`)

`positionalL L m e` is the byte text produced by the three layouts of `dec64.appendF`
(`AF.layoutInt_spec`, `C16.layoutFrac_spec`, `C16.layoutMixed_spec`) for an `L`-digit mantissa `m`
and decimal exponent `e`. Each layout is an integer part followed by nothing or by `'.'` and a fraction part
(`positionalL_parts`: `ip ++ dotted fp`); for such a text the spec-side reader `parsePositional` returns the number
`ip fp` with `fp.length` decimals (`parsePositional_dotted`) and `canonicalForm` looks at the head of `ip` and the end of `fp`
(`canonicalForm_dotted`). So `parsePositional` reads back exactly `(m, e)` (up to the trailing zeros of the integer layout,
removed again by `normalize`), and the text is in `canonicalForm`.
-/
namespace QF.Props.C16Link
open AF QF.Num QF.Props.C16

/-- the positional text that `dec64.appendF` writes for the decimal `m·10^e` whose mantissa has `L` digits -/
def positionalL (L m : Nat) (e : Int) : List UInt8 :=
  if e ≥ 0 then digitsN L m ++ zeros e.toNat
  else if (-e).toNat ≥ L then [48, 46] ++ zeros ((-e).toNat - L) ++ digitsN L m
  else digitsN (L - (-e).toNat) (m / 10 ^ (-e).toNat) ++ [46] ++ digitsN (-e).toNat (m % 10 ^ (-e).toNat)

theorem byte_facts : ∀ r : Nat, r < 10 →
    ((decide ((48 : UInt8) ≤ (48 + r).toUInt8) && decide ((48 + r).toUInt8 ≤ 57)) = true ∧
      (48 + r).toUInt8 ≠ 46 ∧ (48 + r).toUInt8 ≠ 45 ∧ ((48 + r).toUInt8).toNat - 48 = r ∧
      ((48 + r).toUInt8 = 48 ↔ r = 0)) := by decide

theorem digit_isDigit (d : Nat) : (decide ((48 : UInt8) ≤ digit d) && decide (digit d ≤ 57)) = true :=
  (byte_facts (d % 10) (Nat.mod_lt _ (by decide))).1

theorem digit_val (d : Nat) : (digit d).toNat - 48 = d % 10 :=
  (byte_facts (d % 10) (Nat.mod_lt _ (by decide))).2.2.2.1

theorem digit_eq_48 (d : Nat) : digit d = 48 ↔ d % 10 = 0 :=
  (byte_facts (d % 10) (Nat.mod_lt _ (by decide))).2.2.2.2

theorem isDigit_ne (c : UInt8) (h : (decide ((48 : UInt8) ≤ c) && decide (c ≤ 57)) = true) :
    c ≠ 46 ∧ c ≠ 45 := by
  simp only [Bool.and_eq_true, decide_eq_true_eq] at h
  have h1 := UInt8.le_iff_toNat_le.mp h.1
  constructor <;> (intro heq; subst heq; revert h1; decide)

/-- all bytes are ASCII digits (in the exact form `parsePositional` unfolds to) -/
def AllDigits (l : List UInt8) : Prop := ∀ c ∈ l, (decide ((48 : UInt8) ≤ c) && decide (c ≤ 57)) = true

theorem allDigits_nil : AllDigits [] := by intro c h; cases h

theorem allDigits_append {a b : List UInt8} (ha : AllDigits a) (hb : AllDigits b) : AllDigits (a ++ b) := by
  intro c h
  rcases List.mem_append.mp h with h | h
  · exact ha c h
  · exact hb c h

theorem allDigits_digitsN : ∀ (k m : Nat), AllDigits (digitsN k m) := by
  intro k
  induction k with
  | zero => intro m; exact allDigits_nil
  | succ k ih =>
    intro m
    simp only [digitsN]
    refine allDigits_append (ih _) ?_
    intro c h
    rw [List.mem_singleton] at h
    subst h
    exact digit_isDigit m

theorem allDigits_zeros (k : Nat) : AllDigits (zeros k) := by
  rw [← digitsN_zero]; exact allDigits_digitsN k 0

/-- the value fold of `parsePositional` -/
def val (a : Nat) (l : List UInt8) : Nat := l.foldl (fun acc c => acc * 10 + (c.toNat - 48)) a

theorem val_append (a : Nat) (l l' : List UInt8) : val a (l ++ l') = val (val a l) l' := by
  simp only [val, List.foldl_append]

theorem val_digitsN : ∀ (k m a : Nat), val a (digitsN k m) = a * 10 ^ k + m % 10 ^ k := by
  intro k
  induction k with
  | zero => intro m a; simp [val, digitsN, Nat.mod_one]
  | succ k ih =>
    intro m a
    simp only [digitsN, val_append, ih]
    simp only [val, List.foldl_cons, List.foldl_nil, digit_val]
    rw [Nat.pow_succ', Nat.mod_mul, Nat.add_mul, Nat.mul_assoc, Nat.mul_comm (10 ^ k) 10,
      Nat.mul_comm (m / 10 % 10 ^ k) 10]
    omega

theorem val_zeros (k a : Nat) : val a (zeros k) = a * 10 ^ k := by
  rw [← digitsN_zero, val_digitsN, Nat.zero_mod, Nat.add_zero]

/-- "cons" form of `digitsN` -/
theorem digitsN_succ_cons : ∀ (k m : Nat), digitsN (k + 1) m = digit (m / 10 ^ k) :: digitsN k m := by
  intro k
  induction k with
  | zero => intro m; simp [digitsN]
  | succ k ih =>
    intro m
    rw [digitsN, ih (m / 10), Nat.div_div_eq_div_mul, ← Nat.pow_succ']
    rfl

theorem digitsN_head? (k m : Nat) : (digitsN (k + 1) m).head? = some (digit (m / 10 ^ k)) := by
  rw [digitsN_succ_cons]; rfl

theorem digitsN_getLast? (k m : Nat) : (digitsN (k + 1) m).getLast? = some (digit m) := by
  simp [digitsN]

theorem digitsN_ne_nil (k m : Nat) (hk : 1 ≤ k) : digitsN k m ≠ [] := by
  intro h
  have := congrArg List.length h
  rw [digitsN_length] at this
  simp at this; omega

/-- the leading digit of an `L`-digit number is not `'0'` -/
theorem lead_digit_ne (L m : Nat) (hL : 1 ≤ L) (hlo : 10 ^ (L - 1) ≤ m) (hhi : m < 10 ^ L) :
    digit (m / 10 ^ (L - 1)) ≠ 48 := by
  rw [Ne, digit_eq_48]
  have hp : 0 < 10 ^ (L - 1) := Nat.pow_pos (by decide)
  have h1 : 1 ≤ m / 10 ^ (L - 1) := (Nat.le_div_iff_mul_le hp).mpr (by omega)
  have h2 : m / 10 ^ (L - 1) < 10 := by
    rw [Nat.div_lt_iff_lt_mul hp, Nat.mul_comm, ← Nat.pow_succ, Nat.succ_eq_add_one]
    have : L - 1 + 1 = L := by omega
    rw [this]; exact hhi
  omega

theorem mod_pow_mod_ten (m p : Nat) (hp : 1 ≤ p) : m % 10 ^ p % 10 = m % 10 := by
  obtain ⟨q, rfl⟩ : ∃ q, p = q + 1 := ⟨p - 1, by omega⟩
  rw [Nat.pow_succ', Nat.mod_mul_right_mod]

/-- `'.'` and the fraction digits, or nothing: every text of `dec64.appendF` is `ip ++ dotted fp` -/
def dotted (fp : List UInt8) : List UInt8 := if fp = [] then [] else 46 :: fp

theorem dotted_nil : dotted [] = [] := rfl
theorem dotted_of_ne_nil {fp : List UInt8} (h : fp ≠ []) : dotted fp = 46 :: fp := if_neg h

/-- a scan for bytes satisfying `p` (all of `ip`, not `'.'`) over `ip ++ dotted fp` stops after `ip` -/
theorem scan_dotted (p : UInt8 → Bool) (ip fp : List UInt8) (hp : ∀ c ∈ ip, p c = true) (h46 : p 46 = false) :
    (ip ++ dotted fp).takeWhile p = ip ∧ (ip ++ dotted fp).dropWhile p = dotted fp := by
  rw [List.takeWhile_append_of_pos hp, List.dropWhile_append_of_pos hp]
  by_cases h : fp = []
  · rw [h, dotted_nil]; exact ⟨List.append_nil _, rfl⟩
  · rw [dotted_of_ne_nil h, List.takeWhile_cons_of_neg (by rw [h46]; decide), List.dropWhile_cons_of_neg (by rw [h46]; decide)]
    exact ⟨List.append_nil _, rfl⟩

theorem not_neg_of_digits {ip : List UInt8} (hne : ip ≠ []) (hd : AllDigits ip) (rest r : List UInt8) :
    ip ++ rest = 45 :: r → False := by
  cases ip with
  | nil => exact absurd rfl hne
  | cons c t =>
    intro h
    injection h with h1 _
    subst h1
    exact (isDigit_ne 45 (hd 45 (List.mem_cons_self ..))).2 rfl

/-- `ip[.fp]` with all-digit parts, `ip` non-empty, reads as the number `ip fp` with `fp.length` decimals -/
theorem parsePositional_dotted (ip fp : List UInt8) (hne : ip ≠ []) (hd : AllDigits ip) (hfd : AllDigits fp) :
    parsePositional (ip ++ dotted fp) = some (false, val 0 (ip ++ fp), -(fp.length : Int)) := by
  have hs := not_neg_of_digits hne hd (dotted fp)
  obtain ⟨htw, hdw⟩ := scan_dotted (fun c => decide ((48 : UInt8) ≤ c) && decide (c ≤ 57)) ip fp hd (by decide)
  unfold parsePositional
  simp only []
  rw [htw, hdw]
  by_cases h : fp = []
  · subst h; simp [hne, val, dotted_nil]
  · rw [dotted_of_ne_nil h]
    simp only [List.all_eq_true.mpr hfd]
    simp [hne, h, val]

theorem parsePositional_int (ip : List UInt8) (hne : ip ≠ []) (hd : AllDigits ip) :
    parsePositional ip = some (false, val 0 ip, 0) := by
  have := parsePositional_dotted ip [] hne hd allDigits_nil
  rwa [dotted_nil, List.append_nil] at this

theorem allDigits_ne46 {s : List UInt8} (hs : AllDigits s) : ∀ c ∈ s, (c != 46) = true := by
  intro c hc
  exact bne_iff_ne.mpr (isDigit_ne c (hs c hc)).1

/-- `ip[.fp]` is canonical when `ip` is `0` or has no leading `'0'` and `fp` does not end in `'0'` -/
theorem canonicalForm_dotted (ip fp : List UInt8) (hne : ip ≠ []) (hd : AllDigits ip)
    (hip : ip = [48] ∨ ip.head? ≠ some 48) (hl : fp.getLast? ≠ some 48) : canonicalForm (ip ++ dotted fp) = true := by
  have hs := not_neg_of_digits hne hd (dotted fp)
  obtain ⟨htw, _⟩ := scan_dotted (fun x => x != 46) ip fp (allDigits_ne46 hd) (by decide)
  unfold canonicalForm
  simp only []
  rw [htw]
  have h1 : (ip == [48] || ip.head? != some 48) = true := by
    rcases hip with h | h
    · subst h; rfl
    · simp [h]
  rw [h1, Bool.true_and]
  by_cases h : fp = []
  · have hc : ip.contains 46 = false :=
      Bool.eq_false_iff.mpr fun h => (isDigit_ne 46 (hd 46 (List.contains_iff_mem.mp h))).1 rfl
    rw [h, dotted_nil, List.append_nil, hc]; rfl
  · have hlast : (ip ++ 46 :: fp).getLast? = fp.getLast? := by
      cases fp with
      | nil => exact absurd rfl h
      | cons x t => rw [List.getLast?_append, List.getLast?_cons_cons, List.getLast?_cons]; rfl
    rw [dotted_of_ne_nil h, hlast]
    simp [hl]

/-- bounds of the integer part in the `Y.XZ` layout -/
theorem div_pow_bounds (p j m : Nat) (hlo : 10 ^ (p + j) ≤ m) (hhi : m < 10 ^ (p + j + 1)) :
    10 ^ j ≤ m / 10 ^ p ∧ m / 10 ^ p < 10 ^ (j + 1) := by
  have hp : 0 < 10 ^ p := Nat.pow_pos (by decide)
  constructor
  · rw [Nat.le_div_iff_mul_le hp, ← Nat.pow_add, Nat.add_comm]; exact hlo
  · rw [Nat.div_lt_iff_lt_mul hp, ← Nat.pow_add]
    have : j + 1 + p = p + j + 1 := by omega
    rw [this]; exact hhi

/-- the three layouts as `ip ++ dotted fp`: integer (`fp` empty, the zeros in `ip`), `0.XYZ` (`ip = "0"`), `Y.XZ`; with what the
reader and the canonical-form test need to know of the parts -/
theorem positionalL_parts (L m : Nat) (e : Int) (hL : 1 ≤ L) (hlo : 10 ^ (L - 1) ≤ m) (hhi : m < 10 ^ L) :
    ∃ ip fp, positionalL L m e = ip ++ dotted fp ∧ ip ≠ [] ∧ AllDigits ip ∧ AllDigits fp ∧
      (ip = [48] ∨ ip.head? ≠ some 48) ∧ (m % 10 ≠ 0 → fp.getLast? ≠ some 48) ∧
      val 0 (ip ++ fp) = (if e ≥ 0 then m * 10 ^ e.toNat else m) ∧ -(fp.length : Int) = (if e ≥ 0 then 0 else e) := by
  unfold positionalL
  by_cases he : e ≥ 0
  · rw [if_pos he, if_pos he, if_pos he]
    obtain ⟨k, rfl⟩ : ∃ k, L = k + 1 := ⟨L - 1, by omega⟩
    refine ⟨digitsN (k + 1) m ++ zeros e.toNat, [], by rw [dotted_nil, List.append_nil], ?_,
      allDigits_append (allDigits_digitsN _ _) (allDigits_zeros _), allDigits_nil, Or.inr ?_, fun _ => by simp, ?_, rfl⟩
    · rw [digitsN_succ_cons]; exact List.cons_ne_nil _ _
    · rw [digitsN_succ_cons, List.cons_append, List.head?_cons]
      intro h; injection h with h; exact lead_digit_ne (k + 1) m hL hlo hhi h
    · rw [List.append_nil, val_append, val_digitsN, val_zeros, Nat.mod_eq_of_lt hhi, Nat.zero_mul, Nat.zero_add]
  · rw [if_neg he, if_neg he, if_neg he]
    generalize hp : (-e).toNat = p
    have hpe : -(p : Int) = e := by omega
    by_cases hge : p ≥ L
    · rw [if_pos hge]
      obtain ⟨k, rfl⟩ : ∃ k, L = k + 1 := ⟨L - 1, by omega⟩
      have hfne : zeros (p - (k + 1)) ++ digitsN (k + 1) m ≠ [] := by
        rw [digitsN_succ_cons]; exact List.append_ne_nil_of_right_ne_nil _ (List.cons_ne_nil _ _)
      refine ⟨[48], zeros (p - (k + 1)) ++ digitsN (k + 1) m, by rw [dotted_of_ne_nil hfne]; rfl, List.cons_ne_nil _ _,
        fun c h => by rw [List.mem_singleton.mp h]; decide, allDigits_append (allDigits_zeros _) (allDigits_digitsN _ _),
        Or.inl rfl, fun h10 => ?_, ?_, ?_⟩
      · rw [List.getLast?_append, digitsN_getLast?]
        intro h; injection h with h; exact h10 ((digit_eq_48 m).mp h)
      · rw [val_append, val_append, val_zeros, val_digitsN, Nat.mod_eq_of_lt hhi, show val 0 [48] = 0 from rfl,
          Nat.zero_mul, Nat.zero_mul, Nat.zero_add]
      · rw [List.length_append, digitsN_length, zeros, List.length_replicate, ← hpe]; omega
    · rw [if_neg hge]
      obtain ⟨j, rfl⟩ : ∃ j, L = p + j + 1 := ⟨L - p - 1, by omega⟩
      obtain ⟨q, rfl⟩ : ∃ q, p = q + 1 := ⟨p - 1, by omega⟩
      rw [Nat.add_sub_cancel] at hlo
      obtain ⟨b1, b2⟩ := div_pow_bounds (q + 1) j m hlo hhi
      rw [show q + 1 + j + 1 - (q + 1) = j + 1 by omega, List.append_assoc, List.singleton_append]
      refine ⟨_, _, by rw [dotted_of_ne_nil (digitsN_ne_nil _ _ (Nat.succ_pos q))], digitsN_ne_nil _ _ (Nat.succ_pos j),
        allDigits_digitsN _ _, allDigits_digitsN _ _, Or.inr ?_, fun h10 => ?_, ?_, ?_⟩
      · rw [digitsN_head?]
        intro h; injection h with h
        exact lead_digit_ne (j + 1) _ (Nat.succ_pos j) b1 b2 h
      · rw [digitsN_getLast?]
        intro h; injection h with h
        rw [digit_eq_48, mod_pow_mod_ten _ _ (Nat.succ_pos q)] at h
        exact h10 h
      · rw [val_append, val_digitsN, val_digitsN, Nat.mod_eq_of_lt b2, Nat.mod_mod, Nat.zero_mul, Nat.zero_add,
          Nat.div_add_mod']
      · rw [digitsN_length, hpe]

theorem canonicalForm_positionalL (L m : Nat) (e : Int) (hL : 1 ≤ L) (hlo : 10 ^ (L - 1) ≤ m) (hhi : m < 10 ^ L)
    (h10 : m % 10 ≠ 0) : canonicalForm (positionalL L m e) = true := by
  obtain ⟨ip, fp, h, hne, hd, _, hip, hl, _⟩ := positionalL_parts L m e hL hlo hhi
  rw [h]
  exact canonicalForm_dotted ip fp hne hd hip (hl h10)

theorem parsePositional_positionalL (L m : Nat) (e : Int) (hL : 1 ≤ L) (hlo : 10 ^ (L - 1) ≤ m) (hhi : m < 10 ^ L) :
    parsePositional (positionalL L m e) =
      some (false, (if e ≥ 0 then m * 10 ^ e.toNat else m), (if e ≥ 0 then 0 else e)) := by
  obtain ⟨ip, fp, h, hne, hd, hfd, _, _, hv, hlen⟩ := positionalL_parts L m e hL hlo hhi
  rw [h, parsePositional_dotted ip fp hne hd hfd, hv, hlen]

theorem normalize_go_zero (m : Nat) (d : Int) : normalize.go 0 m d = (m, d) := rfl
theorem normalize_go_succ (fuel m : Nat) (d : Int) :
    normalize.go (fuel + 1) m d = if (m != 0 && m % 10 == 0) = true then normalize.go fuel (m / 10) (d + 1) else (m, d) :=
  rfl

theorem normalize_go_pow : ∀ (fuel j m : Nat) (d : Int), j ≤ fuel → m ≠ 0 → m % 10 ≠ 0 →
    normalize.go fuel (m * 10 ^ j) d = (m, d + j) := by
  intro fuel
  induction fuel with
  | zero =>
    intro j m d hj _ _
    obtain rfl : j = 0 := Nat.le_zero.mp hj
    rw [normalize_go_zero, Nat.pow_zero, Nat.mul_one, Int.natCast_zero, Int.add_zero]
  | succ fuel ih =>
    intro j m d hj hm h10
    rw [normalize_go_succ]
    cases j with
    | zero =>
      have hc : (m * 10 ^ 0 != 0 && m * 10 ^ 0 % 10 == 0) = false := by
        rw [Nat.pow_zero, Nat.mul_one, beq_false_of_ne h10, Bool.and_false]
      rw [hc, if_neg Bool.false_ne_true, Nat.pow_zero, Nat.mul_one, Int.natCast_zero, Int.add_zero]
    | succ j =>
      have h2 : m * 10 ^ j * 10 ≠ 0 :=
        Nat.mul_ne_zero (Nat.mul_ne_zero hm (Nat.ne_of_gt (Nat.pow_pos (by decide)))) (by decide)
      have hc : (m * 10 ^ j * 10 != 0 && m * 10 ^ j * 10 % 10 == 0) = true := by
        rw [bne_iff_ne.mpr h2, Nat.mul_mod_left, Bool.true_and]; rfl
      rw [Nat.pow_succ, ← Nat.mul_assoc, if_pos hc, Nat.mul_div_cancel _ (by decide), ih j m (d + 1) (by omega) hm h10,
        Int.natCast_succ, Int.add_assoc, Int.add_comm 1]

theorem normalize_positional (m : Nat) (e : Int) (hm : m ≠ 0) (h10 : m % 10 ≠ 0) (he : e ≤ 400) :
    normalize (if e ≥ 0 then m * 10 ^ e.toNat else m) (if e ≥ 0 then 0 else e) = (m, e) := by
  unfold normalize
  split
  · rename_i h
    rw [normalize_go_pow 400 e.toNat m 0 (by omega) hm h10]
    congr 1
    omega
  · have := normalize_go_pow 400 0 m e (by omega) hm h10
    simpa using this

-- "1234500", "0.0012345", "123.45"
example : positionalL 5 12345 2 = [49, 50, 51, 52, 53, 48, 48] := by decide
example : positionalL 5 12345 (-7) = [48, 46, 48, 48, 49, 50, 51, 52, 53] := by decide
example : positionalL 5 12345 (-2) = [49, 50, 51, 46, 52, 53] := by decide
example : parsePositional (positionalL 5 12345 (-2)) = some (false, 12345, -2) :=
  parsePositional_positionalL 5 12345 (-2) (by decide) (by decide) (by decide)
-- `h10` cannot be dropped from `canonicalForm_positionalL`: "123.50" is not canonical
example : canonicalForm (positionalL 5 12350 (-2)) = false := by decide
-- `hlo` cannot be dropped from `canonicalForm_positionalL`: "01235" is not canonical
example : canonicalForm (positionalL 5 1235 0) = false := by decide

#print axioms canonicalForm_positionalL
#print axioms parsePositional_positionalL
#print axioms normalize_positional
end QF.Props.C16Link
