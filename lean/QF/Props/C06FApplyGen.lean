import QF.Props.C06FApplyUpper
import QF.Props.C10Guards
import QF.Gen.Project
/-!
# C06 / C01 — the REST of Apply in today's source: `FilteredApply`, `WithRowNums`, the built-in `ToUpper` (tie T1, by semantics)

`QF.Gen.fapplyAst`, `QF.Gen.rowNumsFnAst`, `QF.Gen.supperTable`, `QF.Gen.eupperTable`, `QF.Gen.builtinCallArgs`
(QF/Gen/FApply.lean, regenerated on every run by go/cmd/extract/faast.go) hold, as terms of QF/Core/FAExpr.lean,

* `QFrame.FilteredApply` and `QFrame.WithRowNums` of /repo/qframe.go as statements on frame VALUES (the calls of `Filter`
  and `Apply`, the copy of the frame struct, the assignment of its index field, the closure over the counter);
* the functions `Column.Apply1` of the string and the enum column hand a `string` function value to — found through the
  package-level map the `case string:` consults, whatever they are called — on the STORED representation (pointer array
  and byte blob; code array and value table), with the source's arrays part of the state.

Proved here, over the data generated TODAY (the canonical terms and their once-and-for-all meaning: C06FApplyUpper):

* `gen_fapply_no_opaque`, `gen_fapply_canon` — everything was translated, and is the canonical term (finite `decide`);
  `gen_builtin_keys`: the keys of the two tables are the keys `Apply1`'s look-up knows (`C06LoopsGen.gen_builtin_entries`).
* `gen_supper_semantics` — string `toUpper` on the stored representation, for every stored column and every index in range:
  the rows of the index upper-cased, null kept, in fresh arrays of the full physical length; the source is not written (C01).
* `gen_eupper_semantics` — enum `toUpper`, for every stored column whose codes are null or inside the value table: the
  deduplicated upper-cased value table and the remapped codes; the source's `data` is not written (C01 — what seeded
  change C06-8 broke).
* `gen_fapply_run`, `gen_rownums_run` — the plumbing, for ANY `Filter` and `Apply`: `FilteredApply` returns what `Filter`
  returns if that has an error; else `Apply` run on the receiver's columns with the FILTERED index, and the result carries
  the receiver's ORIGINAL index. `WithRowNums` is `Apply` of one instruction without source columns whose function is a
  counter closure starting at 0.
* `gen_fapply_semantics` — … with `Apply` = today's dispatch (`QF.Gen.applyAst`) over today's helper loops (`apply0Ast`,
  `apply1Ast`, `apply2Ast`, C06LoopsGen), `Copy` and the two `toUpper`, on PHYSICAL columns (`XCol`): for every frame,
  clause and instruction list, read through the original index the result is `filteredApplyS … (fillAll := true)` — rows
  outside the filter hold the zero value of the freshly allocated columns, EXCEPT that a `ColumnName` copy shares the whole
  source column and the enum `ToUpper` converts the whole column: the recorded open finding KF-C06-fapply-fill, here a
  proved statement (`gen_fapply_copy_fills_all`, with the input on which `fillAll := false` differs).
* `gen_rownums_semantics` — `WithRowNums` = `rowNumsS`: the column 0 … n-1 in index order.
* `gen_copy_shares_column` — read off today's `Copy` / `setColumn` terms (QF/Gen/Project.lean): the element stored under the
  destination is the source's `column.Column` value itself and the index is passed through — what `copyX` / `setX` say.
* `hypotheses_satisfiable` — a `Filter` as `FilterOK` wants it and a stored representation of every well-typed string / enum
  column exist (`specFilter`, `sOf`, `eOf`), so the theorems above are not vacuous.
* witnesses: restoring `filteredQf.index`, no index swap, `Apply` on `filteredQf` (a different term, the same meaning for
  every `Filter` that keeps the columns: `fapplyOnFiltered_equiv`), `newData := s.data[:0]` (enum) and `data :=
  source.data[:0]` (string) overwrite the source, `pointers := source.pointers` writes into it, pointers of `len(ix)` panic,
  the null flag dropped, the code taken after the append, null codes remapped; `i := 0` in `WithRowNums` numbers from 1.

Scope. Instructions are those of the catalogue of QF/Spec/Ops.lean (`GoInstr`, as everywhere in C06 / C10), minus a Go `string`
function value WITHOUT source column (`InScope`): Go reads it as a constant string, the spec's tag `Fn.builtin` does not
denote one (C06LoopsGen `gen_apply0_string_const`); the harness never generates it. Physical frames: all columns of one
physical length, cells of the column's type, enum tables of at most 255 values (`ColsOK`), a duplicate-free index in range
(the hypotheses `nd`, `h0` of the theorems) — what `New` and every operation produce: C08Construct, C08ProjectGen `PWF`.
The column list and the name map are read at list level (`setX` = `setCol`: replace in place or append); their heap-level
behaviour is C08ProjectGen.
-/
namespace QF.Props.C06FApplyGen
open QF QF.Props.C02Kernels QF.Props.C04LoopsGen QF.Props.C06LoopsGen QF.Props.C10Guards

/-! ## Today's terms -/

def canonFApply : List FAStm := [
  .decl (.filter .recv),
  .retIfErr (.loc 0) (.loc 0),
  .decl .recv,
  .setIndex 1 (.loc 0),
  .assign 1 (.applyParam (.loc 1)),
  .setIndex 1 .recv,
  .ret (.loc 1)]

/-- `i := -1; … Instruction{DstCol: colName, Fn: func() int { i++; return i }}` -/
def counterLit : FAInstr := { dst := .param, src1 := .unset, src2 := .unset, fn := .counter (-1) .int [.inc, .ret] }

def canonRowNums : List FAStm := [.ret (.applyLits .recv [counterLit])]

def missingS : SUFn := { canonSUpper with ptrInit := .opaque "missing", ret := .opaque "missing" }
def missingE : EUFn := { canonEUpper with ret := .opaque "missing" }

/-- the built-in of the string / enum column `Apply1` finds under a key -/
def supperOf (key : Bytes) : SUFn := ((Gen.supperTable.find? (fun e => strBytes e.1 == key)).map (·.2)).getD missingS
def eupperOf (key : Bytes) : EUFn := ((Gen.eupperTable.find? (fun e => strBytes e.1 == key)).map (·.2)).getD missingE

theorem gen_fapply_no_opaque :
    (∀ s ∈ Gen.fapplyAst, s.hasOpaque = false) ∧ (∀ s ∈ Gen.rowNumsFnAst, s.hasOpaque = false) ∧
    (∀ e ∈ Gen.supperTable, e.2.hasOpaque = false) ∧ (∀ e ∈ Gen.eupperTable, e.2.hasOpaque = false) := by decide +kernel

/-- `Gen.builtinCallArgs`: the call in `case string:` of `Apply1` passes the index and the receiver, in this order — the
reading `LBody.lookup` and `upperX` assume. Nothing else uses the table. -/
theorem gen_fapply_canon :
    Gen.fapplyAst = canonFApply ∧ Gen.rowNumsFnAst = canonRowNums ∧
    Gen.supperTable = [("ToUpper", canonSUpper)] ∧ Gen.eupperTable = [("ToUpper", canonEUpper)] ∧
    Gen.builtinCallArgs = [("scolumn", "ix,recv"), ("ecolumn", "ix,recv")] := by decide +kernel

/-- the keys of the two tables are exactly the keys the look-up in `Apply1` knows (QF/Gen/Loops.lean), and no other column
package has such a table -/
theorem gen_builtin_keys :
    (lookupsOf (apply1Of .string)).map (fun e => e.1.map (·.1)) = [Gen.supperTable.map (·.1)] ∧
    (lookupsOf (apply1Of .enum)).map (fun e => e.1.map (·.1)) = [Gen.eupperTable.map (·.1)] ∧
    (∀ ty ∈ tys, hasBuiltins ty = false → lookupsOf (apply1Of ty) = []) := by decide +kernel

theorem supperOf_upper : supperOf (strBytes "ToUpper") = canonSUpper := by
  unfold supperOf
  rw [gen_fapply_canon.2.2.1]
  simp

theorem eupperOf_upper : eupperOf (strBytes "ToUpper") = canonEUpper := by
  unfold eupperOf
  rw [gen_fapply_canon.2.2.2.1]
  simp

/-! ## The two `toUpper` -/

/-- **The string `toUpper` of today's source** (C06, C01). For every stored string column `B` whose pointers lie inside
its blob, every index `ix` of rows in range and every `ToUpper` (`up`):
* the run has a value, does not write a single element of the source's pointer array or byte of its data (`src = B`,
  `writes = 0`);
* an empty column is returned as it is; otherwise both arrays of the result are fresh allocations;
* the result has the FULL physical length and its pointers lie inside its blob;
* a row of the index holds `up` of the source cell, the null flag kept;
* every other row holds the zero pointer: the empty string, not null. -/
theorem gen_supper_semantics (up : Bytes → Bytes) (B : BCol) (ix : List Nat) (hv : BValid B.ptrs B.data)
    (hix : ∀ r ∈ ix, r < B.ptrs.length) :
    ∃ R, (supperOf (strBytes "ToUpper")).run up B ix = .ok R ∧ R.src = B ∧ R.writes = 0 ∧
      (B.ptrs = [] → R.shared = true ∧ R.res = B) ∧
      (B.ptrs ≠ [] → R.shared = false ∧ R.ptrsFresh = true ∧ R.dataFresh = true) ∧
      R.res.ptrs.length = B.ptrs.length ∧ BValid R.res.ptrs R.res.data ∧
      (∀ r ∈ ix, R.res.cell r = (B.cell r).map (Option.map up)) ∧
      (∀ r, r < B.ptrs.length → r ∉ ix → R.res.ptrs[r]? = some ⟨0, 0, false⟩) := by
  rw [supperOf_upper]
  exact canonSUpper_run up B ix hv hix

/-- **The enum `toUpper` of today's source** (C06, C01). For every stored enum column whose codes are null or inside its
value table and every `ToUpper`:
* the run has a value and does not write the source's `data` (`src = E`, `writes = 0`); the index is not looked at;
* the new value table is `dedup (map up values)`, the column is no longer strict;
* every code is remapped: null stays null, any other becomes the position of its upper-cased value in the new table;
* `data` is the source's array exactly when no two values merged — and then it is unchanged; otherwise it is a fresh
  array. -/
theorem gen_eupper_semantics (up : Bytes → Bytes) (E : ECol) (hc : ∀ c ∈ E.data, c = euNull ∨ c < E.values.length) :
    (eupperOf (strBytes "ToUpper")).ixUsed = false ∧
    ∃ R, (eupperOf (strBytes "ToUpper")).run up E = .ok R ∧ R.src = E ∧ R.writes = 0 ∧
      R.values = dedup (E.values.map up) ∧ R.strict = false ∧
      R.data = E.data.map (remapCode up E.values) ∧
      (R.dataShared = true ↔ (dedup (E.values.map up)).length = E.values.length) ∧
      (R.dataShared = true → R.data = E.data) := by
  rw [eupperOf_upper]
  exact ⟨rfl, canonEUpper_run up E hc⟩

/-! ## The plumbing of `FilteredApply` and `WithRowNums`, for any `Filter` and `Apply` -/

/-- **`FilteredApply`**, for ANY meaning of `Filter` and `Apply`: what `qf.Filter(clause)` returns if that carries an error;
otherwise `Apply(instructions...)` run on the frame made of the receiver's columns and the FILTERED index, with the
receiver's ORIGINAL index put back into the result. -/
theorem gen_fapply_run {γ : Type} (E : FAEnv γ) :
    runFA E Gen.fapplyAst [] =
      match E.filter E.recv with
      | none => none
      | some fq =>
        if fq.err then some fq
        else (E.applyParam { E.recv with index := fq.index }).map (fun r => { r with index := E.recv.index }) := by
  rw [gen_fapply_canon.1]
  cases hf : E.filter E.recv with
  | none => simp [canonFApply, runFA, FAFr.eval, hf]
  | some fq =>
    cases he : fq.err with
    | true => simp [canonFApply, runFA, FAFr.eval, hf, he]
    | false =>
      cases ha : E.applyParam { E.recv with index := fq.index } with
      | none => simp [canonFApply, runFA, FAFr.eval, hf, he, ha]
      | some r => simp [canonFApply, runFA, FAFr.eval, hf, he, ha]

/-- the instruction value `WithRowNums` builds: no source columns; a closure whose `k`-th call returns `k` -/
def counterInstr (name : Bytes) : XInstr :=
  { dst := name, fn := .fn0 .int (fun v => (.int (v + 1), v + 1)), s0 := -1 }

theorem counterLit_val (name : Bytes) : counterLit.val name = some (counterInstr name) := by
  simp [counterLit, FAInstr.val, FAFnLit.val, FACStm.run, FAName.val, counterInstr]

/-- **`WithRowNums`**, for any meaning of `Apply`: `qf.Apply(i)` for the one instruction `counterInstr colName`. -/
theorem gen_rownums_run {γ : Type} (E : FAEnv γ) :
    runFA E Gen.rowNumsFnAst [] = E.applyLits E.recv [counterInstr E.colName] := by
  rw [gen_fapply_canon.2.1]
  simp [canonRowNums, runFA, FAFr.eval, counterLit_val]

/-! ## Physical frames

A column is its cells over PHYSICAL rows (`PCol`, as in C06LoopsGen: a cell is what the observation functions of C09 see at
that row); a frame value is the list of its named columns, its row index and its error flag. `viewFr ix0` is what a user
sees of the columns through the index `ix0`. The column list and name map themselves (`setColumn`, `Copy` on a heap of
backing arrays) are C08ProjectGen; here `setX` / `copyX` are their list-level reading (`setCol` / `copyS`). -/

structure XCol where
  name : Bytes
  col : PCol
  strict : Bool := false

def XCol.view (ix0 : List Nat) (c : XCol) : LCol :=
  { name := c.name, ty := c.col.ty, vals := c.col.vals, strict := c.strict, cells := observe ix0 c.col.cells }

def viewFr (ix0 : List Nat) (cols : List XCol) : LFrame := { cols := cols.map (XCol.view ix0), n := ix0.length }

/-- `setColumn(name, col)`: replace the column of that name where it stands, or append -/
def setX (cols : List XCol) (c : XCol) : List XCol :=
  if cols.any (fun o => o.name == c.name) then cols.map (fun o => if o.name == c.name then c else o) else cols ++ [c]

def findX (cols : List XCol) (n : Bytes) : Option XCol := cols.find? (fun o => o.name == n)

/-- `Copy(dst, src)`: the SAME stored column under another name (`none`: an error) -/
def copyX (cols : List XCol) (dst src : Bytes) : Option (List XCol) :=
  match findX cols src with
  | none => none
  | some c => if dst == src then some cols else if legalName dst then some (setX cols { c with name := dst }) else none

/-- `qf.columns[0].Len()`, 0 without columns -/
def firstLen : List XCol → Nat
  | [] => 0
  | c :: _ => c.col.cells.length

theorem view_find (ix0 : List Nat) (cols : List XCol) (n : Bytes) :
    (viewFr ix0 cols).find? n = (findX cols n).map (XCol.view ix0) := by
  unfold viewFr LFrame.find? findX
  simp only
  rw [List.find?_map]
  rfl

theorem view_has (ix0 : List Nat) (cols : List XCol) (n : Bytes) :
    (viewFr ix0 cols).has n = cols.any (fun o => o.name == n) := by
  unfold LFrame.has
  rw [view_find, Option.isSome_map]
  exact List.isSome_find?

theorem view_setX (ix0 : List Nat) (cols : List XCol) (c : XCol) :
    viewFr ix0 (setX cols c) = setCol (viewFr ix0 cols) (c.view ix0) := by
  unfold setCol setX
  rw [view_has]
  have hn : (c.view ix0).name = c.name := rfl
  rw [hn]
  cases h : cols.any (fun o => o.name == c.name) with
  | true =>
    simp only [↓reduceIte, viewFr, List.map_map]
    congr 1
    apply List.map_congr_left
    intro o _
    simp only [Function.comp]
    have : (o.view ix0).name = o.name := rfl
    rw [this]
    split <;> rfl
  | false => simp [viewFr]

theorem findX_setX_self (cols : List XCol) (c : XCol) : findX (setX cols c) c.name = some c := by
  unfold findX setX
  induction cols with
  | nil => simp
  | cons a as ih =>
    by_cases ha : a.name = c.name
    · simp [ha]
    · have hb : (a.name == c.name) = false := by simpa using ha
      cases hany : as.any (fun o => o.name == c.name) <;>
        simp only [hany, List.any_cons, hb, Bool.false_or, Bool.false_eq_true, ↓reduceIte, List.map_cons, List.cons_append,
          List.find?_cons] at ih ⊢ <;> exact ih

/-- where the result array of a helper goes, on physical columns (`toRes` of C06LoopsGen, before the frame is looked at):
`some none` an error, `none` no meaning -/
def placeX (cols : List XCol) (dst : Bytes) (recvTy : CType) : LOutcome Int → Option (Option (List XCol))
  | .err => some none
  | .arr ret ty cells _ =>
    let col : Option (CType × Bool) :=
      match ret with
      | .slice => (Gen.apply1WrapAst.slices.lookup ty).map (fun t => (t, Gen.apply1WrapAst.setsDst))
      | .ownCol => some (recvTy, apply2Sets)
      | .strCol => some (.string, apply2Sets)
      | .create => some (ty, true)
      | .opaque _ => none
    col.map (fun t => if t.2 && legalName dst then some (setX cols { name := dst, col := { ty := t.1, cells := cells } }) else none)
  | _ => none

/-- a result on physical columns, read through `ix0` -/
def resOf (ix0 : List Nat) : Option (List XCol) → Res
  | some c => .ok (viewFr ix0 c)
  | none => .err

theorem toRes_placeX (ix0 : List Nat) (cols : List XCol) (dst : Bytes) (recvTy : CType) (out : LOutcome Int) :
    toRes Gen.apply1WrapAst apply2Sets (viewFr ix0 cols) dst ix0 recvTy out = (placeX cols dst recvTy out).map (resOf ix0) := by
  cases out with
  | err => rfl
  | arr ret ty cells s =>
    simp only [toRes, placeX, Option.map_map]
    congr 1
    funext t
    simp only [Function.comp]
    split
    · simp only [resOf, view_setX]; rfl
    · rfl
  | builtin h => rfl
  | copy n => rfl
  | panic => rfl
  | stuck => rfl

/-! ## How the string and enum columns are stored -/

/-- the stored string column `B` stands for the cells of `P` -/
structure StrRep (B : BCol) (P : PCol) : Prop where
  valid : BValid B.ptrs B.data
  cells : P.cells = blobCells B

/-- the cells a stored enum column shows -/
def enumCells (E : ECol) : List Cell := E.data.map (fun c => if c = euNull then Cell.str none else Cell.str E.values[c]?)

structure EnumRep (E : ECol) (P : PCol) : Prop where
  codes : ∀ c ∈ E.data, c = euNull ∨ c < E.values.length
  vals : E.values = P.vals
  cells : P.cells = enumCells E

/-- a choice of stored representation for every column (ANY choice that shows the column's cells will do) -/
structure Reps where
  s : PCol → BCol
  e : PCol → ECol

def Reps.OK (R : Reps) : Prop :=
  ∀ P, ColOk P → (P.ty = .string → StrRep (R.s P) P) ∧ (P.ty = .enum → EnumRep (R.e P) P)

/-! ## `Apply` on physical columns: the helpers and the dispatch -/

/-- the built-in of a string / enum column found under `key`, run on the stored column: the new column and its strict flag -/
def upperX (R : Reps) (up : UpperOracle) (key : Bytes) (P : PCol) (ix : List Nat) : Option (PCol × Bool) :=
  match P.ty with
  | .string =>
    match (supperOf key).run up (R.s P) ix with
    | .ok o => some ({ ty := .string, cells := blobCells o.res }, false)
    | _ => none
  | .enum =>
    match (eupperOf key).run up (R.e P) with
    | .ok o => some ({ ty := .enum, vals := o.values, cells := enumCells ⟨o.data, o.values, o.strict⟩ }, o.strict)
    | _ => none
  | _ => none

/-- One helper call of `Apply` on physical columns: helper `k` (= its number of source columns) with the destination and
source names, the function value and the initial state of a closure; `ix` is the index of the frame it is called on.
`some none`: the helper returns an error; `none`: no meaning (a panic, an untranslated part).
* `apply0`: today's loop (`Gen.apply0Ast`) with `qf.columns[0].Len()`; a `types.ColumnName` goes to `Copy`;
* `apply1`: unknown source column → error (its guard prefix, C10Guards); today's `Column.Apply1` of the column's package;
  a built-in name goes to the function of the package's table (`upperX`), whose column is stored as it is. The entry is found
  under the same KEY (`gen_builtin_keys`); the hash carried by `.builtin _` is not used here;
* `apply2`: both sources must be known; today's `Column.Apply2`. -/
def helperX (R : Reps) (up : UpperOracle) (cols : List XCol) (ix : List Nat) :
    Nat → Bytes → Bytes → Bytes → LVal Int → Int → Option (Option (List XCol))
  | 0, dst, _, _, fn, s0 =>
    match Gen.apply0Ast.run { recv := noCol, other := noCol, ix := ix, firstColLen := firstLen cols, fn := fn, s0 := s0 } with
    | .copy n => some (copyX cols dst n)
    | out => placeX cols dst .undef out
  | 1, dst, s1, _, fn, s0 =>
    match findX cols s1 with
    | none => some none
    | some c =>
      match (apply1Of c.col.ty).run { recv := c.col, other := c.col, ix := ix, firstColLen := c.col.cells.length, fn := fn, s0 := s0 } with
      | .builtin _ =>
        match fn with
        | .str key =>
          (upperX R up key c.col ix).map (fun p =>
            if Gen.apply1WrapAst.passesColumn && Gen.apply1WrapAst.setsDst && legalName dst then
              some (setX cols { name := dst, col := p.1, strict := p.2 })
            else none)
        | _ => none
      | out => placeX cols dst c.col.ty out
  | 2, dst, s1, s2, fn, s0 =>
    match findX cols s1, findX cols s2 with
    | some c, some d =>
      placeX cols dst c.col.ty
        ((apply2Of c.col.ty).run { recv := c.col, other := d.col, ix := ix, firstColLen := c.col.cells.length, fn := fn, s0 := s0 })
    | _, _ => some none
  | _, _, _, _, _, _ => none

/-- an instruction VALUE of the catalogue -/
def _root_.QF.XInstr.of (g : GoInstr) : XInstr := { dst := g.dst, src1 := g.src1, src2 := g.src2, fn := goVal g.fn, s0 := goState g.fn }

/-- the names of an instruction value, for the dispatch (which does not look at the function) -/
def _root_.QF.XInstr.shadow (g : XInstr) : GoInstr := { dst := g.dst, src1 := g.src1, src2 := g.src2, fn := .bad }

def _root_.QF.XInstr.field (g : XInstr) (f : IField) : Bytes := (g.shadow.nameOf f).getD []

abbrev PFr := XFr (List XCol)

/-- a helper call on a frame value: a frame with an error comes back as it is (the first guard of `apply0/1/2`,
`C10Guards.gen_sticky_all`); an error leaves columns and index alone (`withErr`); parameter 1 of the helper is the
destination, parameters 2 and 3 the sources (`C10Guards.callInstr`) -/
def helperFr (R : Reps) (up : UpperOracle) (k : Nat) (args : List IField) (g : XInstr) (X : PFr) : Option PFr :=
  if X.err then some X
  else
    (helperX R up X.cols X.index k (((args[1]?).map g.field).getD []) (((args[2]?).map g.field).getD [])
        (((args[3]?).map g.field).getD []) g.fn g.s0).map (fun r =>
      match r with
      | some c => { X with cols := c }
      | none => { X with err := true })

/-- **`Apply` on physical frames**: today's loop and dispatch (`QF.Gen.applyAst`) over the helpers -/
def applyX (R : Reps) (up : UpperOracle) : PFr → List XInstr → Option PFr
  | X, [] => if Gen.applyAst.accFromRecv && Gen.applyAst.returnsAcc then some X else none
  | X, g :: gs =>
    match Gen.applyAst.disp.eval g.shadow with
    | some (k, args) => (helperFr R up k args g X).bind (fun X' => applyX R up X' gs)
    | none => none

/-- The instructions in scope: a Go `string` function value WITHOUT a source column is a constant (C06LoopsGen
`gen_apply0_string_const`), which the spec's tag `Fn.builtin` does not denote. -/
def InScope (g : GoInstr) : Prop := g.src1 = [] → ∀ n, g.fn ≠ .builtin n

/-- the helper an instruction value goes to: the number of its source columns -/
def arityX (x : XInstr) : Nat := if x.src1.isEmpty then 0 else if x.src2.isEmpty then 1 else 2

/-- the helper call `Apply`'s dispatch makes for an instruction of the catalogue -/
def stepX (R : Reps) (up : UpperOracle) (cols : List XCol) (ix : List Nat) (g : GoInstr) : Option (Option (List XCol)) :=
  helperX R up cols ix (arityX (.of g)) g.dst g.src1 g.src2 (goVal g.fn) (goState g.fn)

/-! ## Well-formed physical columns -/

structure ColsOK (cols : List XCol) : Prop where
  len : ∀ c ∈ cols, c.col.cells.length = firstLen cols
  ok : ∀ c ∈ cols, ColOk c.col
  /-- an enum column has at most 255 values (the factory, C17) -/
  enum : ∀ c ∈ cols, c.col.ty = .enum → c.col.vals.length ≤ 255

theorem colsOK_setX {cols : List XCol} (h : ColsOK cols) (c : XCol) (hl : c.col.cells.length = firstLen cols)
    (hok : ColOk c.col) (he : c.col.ty = .enum → c.col.vals.length ≤ 255) :
    ColsOK (setX cols c) ∧ firstLen (setX cols c) = firstLen cols := by
  have hfl : firstLen (setX cols c) = firstLen cols := by
    unfold setX
    split
    · cases cols with
      | nil => rfl
      | cons a as =>
        simp only [List.map_cons, firstLen]
        split
        · exact hl
        · rfl
    · cases cols with
      | nil => simpa [firstLen] using hl
      | cons a as => rfl
  have hmem : ∀ x ∈ setX cols c, x = c ∨ x ∈ cols := by
    intro x hx
    unfold setX at hx
    split at hx
    · obtain ⟨o, ho, rfl⟩ := List.mem_map.mp hx
      split
      · exact .inl rfl
      · exact .inr ho
    · rcases List.mem_append.mp hx with h | h
      · exact .inr h
      · exact .inl (by simpa using h)
  refine ⟨⟨fun x hx => ?_, fun x hx => ?_, fun x hx => ?_⟩, hfl⟩
  · rw [hfl]; rcases hmem x hx with rfl | h'
    · exact hl
    · exact h.len x h'
  · rcases hmem x hx with rfl | h'
    · exact hok
    · exact h.ok x h'
  · rcases hmem x hx with rfl | h'
    · exact he
    · exact h.enum x h'

theorem cellOk_kind {ty : CType} {vals : List Bytes} {x : Cell} (h : cellOk ty vals x = true) : cellType x = fkind ty := by
  unfold cellOk at h
  cases ty <;> cases x <;> simp_all [cellVal, cellType, fkind]

theorem kind_cellOk {rt : CType} {x : Cell} (hrt : rt ∈ resTys) (h : cellType x = rt) : cellOk rt [] x = true := by
  unfold cellOk
  simp only [resTys, List.mem_cons, List.not_mem_nil, or_false] at hrt
  rcases hrt with rfl | rfl | rfl | rfl <;> cases x <;> simp_all [cellVal, cellType]

theorem zero_kind {r : CType} (h : r ∈ resTys) : cellType (zeroCell r) = r := by
  simp only [resTys, List.mem_cons, List.not_mem_nil, or_false] at h
  rcases h with rfl | rfl | rfl | rfl <;> rfl

theorem resTys_tys {r : CType} (h : r ∈ resTys) : r ∈ tys := by
  simp only [resTys, List.mem_cons, List.not_mem_nil, or_false] at h
  rcases h with rfl | rfl | rfl | rfl <;> decide +kernel

theorem colOk_of_kind {r : CType} (hr : r ∈ resTys) {cells : List Cell} (h : ∀ x ∈ cells, cellType x = r) :
    ColOk { ty := r, cells := cells } :=
  ⟨resTys_tys hr, fun x hx => kind_cellOk hr (h x hx)⟩

theorem rowsOf_kind {r : CType} (L : Nat) (ix : List Nat) {z : Cell} (hz : cellType z = r) (G : Nat → Cell)
    (hG : ∀ p, p < L → cellType (G p) = r) : ∀ x ∈ rowsOf L ix z G, cellType x = r := by
  intro x hx
  unfold rowsOf at hx
  obtain ⟨p, hp, rfl⟩ := List.mem_map.mp hx
  split
  · exact hG p (List.mem_range.mp hp)
  · exact hz

theorem nthVal_kind {σ : Type} {r : CType} (next : σ → Cell × σ) (h : ∀ s, cellType (next s).1 = r) (s : σ) (k : Nat) :
    cellType (nthVal next s k) = r := by
  induction k generalizing s with
  | zero => exact h s
  | succ k ih => exact ih _

/-! ## Well-formed result arrays -/

/-- the function value returns cells of its declared result type on cells of its declared argument types -/
def ValTyped : LVal Int → Prop
  | .fn0 r next => ∀ s, cellType (next s).1 = r
  | .fn1 a r g => ∀ x, cellType x = a → cellType (g x) = r
  | .fn2 a b r g => ∀ x y, cellType x = a → cellType y = b → cellType (g x y) = r
  | _ => True

theorem f0Cell_kind (kind : String) (z : Cell) (h : f0Cell kind 0 = some z) (i : Int) :
    cellType ((f0Cell kind i).getD z) = cellType z := by
  unfold f0Cell at h ⊢
  split at h
  · cases h; simp only [Option.getD_some, cellType]
  · cases h
  · cases h; simp only [Option.getD_some, cellType]
  · cases h; simp only [Option.getD_some, cellType]
  · simp at h
    subst h
    simp only [Option.getD_some]
    split <;> rfl
  · cases h

theorem goVal_typed (fn : Fn) : ValTyped (goVal fn) := by
  cases fn with
  | f0 kind seed =>
    unfold goVal
    by_cases hk : kind = "f0r"
    · simp only [hk, ↓reduceIte, ValTyped]; intro s; rfl
    · simp only [hk, ↓reduceIte]
      cases hz : f0Cell kind 0 with
      | none => trivial
      | some z => intro s; exact f0Cell_kind kind z hz s
  | f1 id =>
    cases h : fn1 id with
    | none => simp only [goVal, h]; trivial
    | some t => obtain ⟨a, r, g⟩ := t; simp only [goVal, h]; exact (fn1_typed h).2
  | f2 id =>
    cases h : fn2 id with
    | none => simp only [goVal, h]; trivial
    | some t => obtain ⟨a, g⟩ := t; simp only [goVal, h]; exact (fn2_typed h).2
  | _ => trivial

theorem rowsOf_length (L : Nat) (ix : List Nat) (z : Cell) (G : Nat → Cell) : (rowsOf L ix z G).length = L := by
  simp [rowsOf]

/-- what a result array must be like to be stored as a column next to `L`-row columns -/
def ArrOK (L : Nat) (recvTy : CType) : LOutcome Int → Prop
  | .arr ret ty cells _ =>
    cells.length = L ∧ ty ∈ resTys ∧ (∀ x ∈ cells, cellType x = ty) ∧
      (ret = .slice ∨ ret = .create ∨ (ret = .ownCol ∧ recvTy = ty) ∨ (ret = .strCol ∧ ty = .string))
  | _ => True

theorem expect0_arr (E : LEnv Int) (ht : ValTyped E.fn) : ArrOK E.firstColLen .undef (expect0 E) := by
  unfold expect0
  cases hfn : E.fn with
  | fn0 r next =>
    rw [hfn] at ht
    simp only
    split
    · rename_i hr
      exact ⟨rowsOf_length _ _ _ _, hr, rowsOf_kind _ _ (zero_kind hr) _ (fun _ _ => nthVal_kind next ht _ _), .inr (.inl rfl)⟩
    · trivial
  | const c =>
    exact ⟨rowsOf_length _ _ _ _, cellType_mem c, rowsOf_kind _ _ (zero_kind (cellType_mem c)) _ (fun _ _ => rfl), .inr (.inl rfl)⟩
  | str b => exact ⟨rowsOf_length _ _ _ _, by decide, rowsOf_kind (r := .string) _ _ rfl _ (fun _ _ => rfl), .inr (.inl rfl)⟩
  | _ => trivial

theorem expect1_arr (E : LEnv Int) (hok : ColOk E.recv) (ht : ValTyped E.fn) :
    ArrOK E.recv.cells.length E.recv.ty (expect1 E) := by
  unfold expect1
  cases hfn : E.fn with
  | fn1 a r g =>
    rw [hfn] at ht
    simp only
    split
    · rename_i hc
      refine ⟨rowsOf_length _ _ _ _, hc.2, rowsOf_kind _ _ (zero_kind hc.2) _ (fun p hp => ?_), .inl rfl⟩
      apply ht
      rw [hc.1]
      exact cellOk_kind (hok.get hp).2
    · trivial
  | str b => simp only; split <;> trivial
  | _ => trivial

theorem fkind_resTys {ty : CType} (h : ty ∈ tys) : fkind ty ∈ resTys := by
  simp only [tys, List.mem_cons, List.not_mem_nil, or_false] at h
  rcases h with rfl | rfl | rfl | rfl | rfl <;> decide +kernel

theorem expect2_arr (E : LEnv Int) (hok : ColOk E.recv) (hok2 : ColOk E.other) (hlen : E.other.cells.length = E.recv.cells.length)
    (ht : ValTyped E.fn) : ArrOK E.recv.cells.length E.recv.ty (expect2 E) := by
  unfold expect2
  split
  · rename_i hty
    cases hfn : E.fn with
    | fn2 a b r g =>
      rw [hfn] at ht
      simp only
      split
      · rename_i hc
        have hr := fkind_resTys hok.1
        refine ⟨rowsOf_length _ _ _ _, hr, rowsOf_kind _ _ (zero_kind hr) _ (fun p hp => ?_), ?_⟩
        · have h1 := cellOk_kind (hok.get hp).2
          have h2 := cellOk_kind (hok2.get (by omega : p < E.other.cells.length)).2
          rw [hty] at h2
          have := ht _ _ (by rw [hc.1]; exact h1) (by rw [hc.2.1]; exact h2)
          rw [hc.2.2] at this
          exact this
        · exact (ret2_cases E.recv.ty).elim (fun h => .inr (.inr (.inl ⟨h.1, h.2.symm⟩))) (fun h => .inr (.inr (.inr h)))
      · trivial
    | _ => trivial
  · trivial

theorem placeX_arr (cols : List XCol) (dst : Bytes) {L : Nat} {recvTy : CType} {ret : LRet} {ty : CType} {cells : List Cell} {s : Int}
    (h : ArrOK L recvTy (.arr ret ty cells s)) :
    placeX cols dst recvTy (.arr ret ty cells s) =
      some (if legalName dst then some (setX cols { name := dst, col := { ty := ty, cells := cells } }) else none) := by
  obtain ⟨_, hr, _, rfl | rfl | ⟨rfl, rfl⟩ | ⟨rfl, rfl⟩⟩ := h <;>
    simp [placeX, wrap_lookup _ hr, wrap_sets.1, apply2Sets_true]

theorem place_ok {cols : List XCol} (hcols : ColsOK cols) (dst : Bytes) (recvTy : CType) (out : LOutcome Int)
    (hout : ArrOK (firstLen cols) recvTy out) (c' : List XCol) (h : placeX cols dst recvTy out = some (some c')) :
    ColsOK c' ∧ firstLen c' = firstLen cols := by
  cases out with
  | arr ret ty cells s =>
    rw [placeX_arr cols dst hout] at h
    obtain ⟨hl, hr, hk, _⟩ := hout
    split at h
    · cases h
      exact colsOK_setX hcols _ hl (colOk_of_kind hr hk) (fun e => by simp only at e; subst e; simp [resTys] at hr)
    · cases h
  | _ => simp [placeX] at h

/-! ## The cells of the two `toUpper` results -/

/-- `ToUpper` on a cell: null stays null -/
def upc (up : UpperOracle) : Cell → Cell
  | .str (some s) => .str (some (up s))
  | x => x

theorem blobCells_length (B : BCol) : (blobCells B).length = B.ptrs.length := by simp [blobCells]

/-- the cells of the string result: `ToUpper` of the source cell on the rows of the index, the EMPTY string elsewhere -/
theorem blob_upper_cells (up : UpperOracle) (B B' : BCol) (ix : List Nat) (hl : B'.ptrs.length = B.ptrs.length)
    (h1 : ∀ r ∈ ix, B'.cell r = (B.cell r).map (Option.map up))
    (h2 : ∀ r, r < B.ptrs.length → r ∉ ix → B'.ptrs[r]? = some ⟨0, 0, false⟩) :
    blobCells B' = rowsOf B.ptrs.length ix (.str (some [])) (fun p => upc up ((blobCells B)[p]!)) := by
  unfold blobCells rowsOf
  rw [hl]
  apply List.map_congr_left
  intro p hp
  have hpl : p < B.ptrs.length := List.mem_range.mp hp
  by_cases hm : p ∈ ix
  · simp only [hm, ↓reduceIte, h1 p hm]
    have : ((List.range B.ptrs.length).map (fun i => Cell.str ((B.cell i).getD none)))[p]! = Cell.str ((B.cell p).getD none) := by
      simp [hpl]
    rw [this]
    have hc : B.cell p = some (ptrCell B.data B.ptrs[p]) := by simp [BCol.cell, hpl]
    rw [hc]
    cases ptrCell B.data B.ptrs[p] <;> rfl
  · simp only [hm, ↓reduceIte]
    have := h2 p hpl hm
    simp [BCol.cell, this, ptrCell]

/-- for a code inside the value table: the new code IS the position of the upper-cased value in the new table -/
theorem remapCode_pos (up : UpperOracle) (vals : List Bytes) (c : Nat) (hc : c < vals.length) (hne : c ≠ euNull) :
    ∃ j, posOf (dedup (vals.map up)) (up vals[c]) = some j ∧ remapCode up vals c = j ∧ (dedup (vals.map up))[j]? = some (up vals[c]) := by
  have hmem : up (vals[c]) ∈ vals.map up := List.mem_map_of_mem (List.getElem_mem hc)
  obtain ⟨j, hj, _, hjv⟩ := posOf_some_of_mem (List.contains_iff_mem.mp (dedup_contains _ _ hmem))
  refine ⟨j, hj, ?_, hjv⟩
  unfold remapCode upVals
  simp [hne, List.getElem?_eq_getElem hc, hj]

theorem enumCells_upper (up : UpperOracle) (E : ECol) (hc : ∀ c ∈ E.data, c = euNull ∨ c < E.values.length)
    (hv : E.values.length ≤ 255) (s : Bool) :
    enumCells ⟨E.data.map (remapCode up E.values), dedup (E.values.map up), s⟩ = (enumCells E).map (upc up) := by
  simp only [enumCells, List.map_map]
  apply List.map_congr_left
  intro c hcm
  simp only [Function.comp]
  rcases hc c hcm with h | h
  · simp [h, remapCode, upc]
  · have hne : c ≠ euNull := by unfold euNull; omega
    obtain ⟨j, _, hr, hjv⟩ := remapCode_pos up E.values c h hne
    have hjn : j ≠ euNull := by
      have := dedup_length_le (E.values.map up)
      have hjl : j < (dedup (E.values.map up)).length := (List.getElem?_eq_some_iff.1 hjv).1
      simp only [List.length_map] at this
      unfold euNull; omega
    simp [hr, hjn, hne, hjv, List.getElem?_eq_getElem h, upc]

theorem enumCells_ok (E : ECol) (hv : E.values.length ≤ 255) : ∀ x ∈ enumCells E, cellOk .enum E.values x = true := by
  intro x hx
  unfold enumCells at hx
  obtain ⟨c, _, rfl⟩ := List.mem_map.mp hx
  split
  · rfl
  · cases hg : E.values[c]? with
    | none => rfl
    | some v =>
      have hm : v ∈ E.values := List.mem_of_getElem? hg
      obtain ⟨j, hj, hjl, _⟩ := posOf_some_of_mem hm
      have : enumRank E.values v = some j := hj
      have hlt : j < enumNull := by unfold enumNull; omega
      simp [cellOk, cellVal, this, hlt]

/-! ## The two built-ins on the cells of a column -/

theorem upc_kind (up : UpperOracle) {x : Cell} (h : cellType x = .string) : cellType (upc up x) = .string := by
  cases x with
  | str o => cases o <;> rfl
  | _ => cases h

theorem rowsOf_all (L : Nat) (z : Cell) (G : Cell → Cell) (cells : List Cell) (h : cells.length = L) :
    cells.map G = rowsOf L (List.range L) z (fun p => G (cells[p]!)) := by
  subst h
  unfold rowsOf
  apply List.ext_getElem (by simp)
  intro i h1 h2
  have hi : i < cells.length := by simpa using h1
  simp [hi]

/-- **The string `ToUpper` on cells**, whatever the stored representation: the result of a loop over `ix` with `ToUpper` of the
cell as right-hand side and the EMPTY string as fill value. -/
theorem upperX_string (R : Reps) (hR : R.OK) (up : UpperOracle) (P : PCol) (hok : ColOk P) (hty : P.ty = .string)
    (ix : List Nat) (hix : ∀ r ∈ ix, r < P.cells.length) :
    upperX R up (strBytes "ToUpper") P ix =
      some ({ ty := .string, cells := rowsOf P.cells.length ix (.str (some [])) (fun p => upc up (P.cells[p]!)) }, false) := by
  have srep := (hR P hok).1 hty
  have hBl : (R.s P).ptrs.length = P.cells.length := by rw [← blobCells_length, ← srep.cells]
  obtain ⟨Rr, r1, _, _, _, _, r6, _, r8, r9⟩ := gen_supper_semantics up (R.s P) ix srep.valid
    (fun r hr => by rw [hBl]; exact hix r hr)
  simp only [upperX, hty, r1]
  rw [blob_upper_cells up (R.s P) Rr.res ix r6 r8 r9, hBl, ← srep.cells]

/-- **The enum `ToUpper` on cells**, whatever the stored representation: the value table upper-cased and deduplicated,
`ToUpper` on EVERY cell — the index is not looked at (KF-C06-fapply-fill) —, a well-typed column again. -/
theorem upperX_enum (R : Reps) (hR : R.OK) (up : UpperOracle) (P : PCol) (hok : ColOk P) (hty : P.ty = .enum)
    (hv : P.vals.length ≤ 255) (ix : List Nat) :
    upperX R up (strBytes "ToUpper") P ix =
        some ({ ty := .enum, vals := dedup (P.vals.map up), cells := P.cells.map (upc up) }, false) ∧
      ColOk { ty := .enum, vals := dedup (P.vals.map up), cells := P.cells.map (upc up) } ∧
      (dedup (P.vals.map up)).length ≤ 255 := by
  have erep := (hR P hok).2 hty
  have hv' : (R.e P).values.length ≤ 255 := by rw [erep.vals]; exact hv
  obtain ⟨_, Rr, r1, _, _, r4, r5, r6, _, _⟩ := gen_eupper_semantics up (R.e P) erep.codes
  have hvl : (dedup (P.vals.map up)).length ≤ 255 := by
    have := dedup_length_le (P.vals.map up)
    simp only [List.length_map] at this
    omega
  have hcells : enumCells ⟨Rr.data, Rr.values, Rr.strict⟩ = P.cells.map (upc up) := by
    rw [r4, r5, r6, enumCells_upper up (R.e P) erep.codes hv', ← erep.cells]
  refine ⟨?_, ⟨(by decide : CType.enum ∈ tys), ?_⟩, hvl⟩
  · simp only [upperX, hty, r1]
    rw [hcells, r4, r5, erep.vals]
  · rw [← hcells, r4, erep.vals]
    exact enumCells_ok ⟨Rr.data, dedup (P.vals.map up), Rr.strict⟩ hvl

/-! ## `fillAll` only matters for a `ColumnName` copy and the enum `ToUpper` -/

theorem applyInstr_fillAll (up : UpperOracle) (f : LFrame) (m : Nat → Bool) (ins : Instr)
    (h1 : ∀ n, ins.fn ≠ .colCopy n) (h2 : ∀ n, ins.fn ≠ .builtin n) :
    applyInstr up f m ins true = applyInstr up f m ins false := by
  obtain ⟨dst, s1, s2, fn⟩ := ins
  cases fn with
  | colCopy n => exact absurd rfl (h1 n)
  | builtin n => exact absurd rfl (h2 n)
  | _ => rfl

theorem applyInstr_fillAll2 (up : UpperOracle) (f : LFrame) (m : Nat → Bool) (dst s1 s2 : Bytes) (fn : Fn) :
    applyInstr up f m ⟨dst, some s1, some s2, fn⟩ true = applyInstr up f m ⟨dst, some s1, some s2, fn⟩ false := by
  cases fn <;> rfl

theorem applyInstr_fillAll1 (up : UpperOracle) (f : LFrame) (m : Nat → Bool) (dst s1 : Bytes) (fn : Fn) (c : LCol)
    (hc : f.find? s1 = some c) (hu : isUpperCall fn c.ty = false) :
    applyInstr up f m ⟨dst, some s1, none, fn⟩ true = applyInstr up f m ⟨dst, some s1, none, fn⟩ false := by
  cases fn with
  | builtin n =>
    rw [isUpperCall_builtin, Bool.or_eq_false_iff] at hu
    simp [applyInstr, hc, hu.1, hu.2]
  | _ => rfl

/-! ## One helper call on physical columns is `applyInstr` read through the original index -/

section helpers
variable (R : Reps) (up : UpperOracle) (cols : List XCol) (ix0 : List Nat) (keep mask : Nat → Bool)

/-- from `toRes` (on the frame read through `ix0`) to `placeX` (on the physical columns) -/
theorem place_spec (hok : ColsOK cols) {dst : Bytes} {ty : CType} {out : LOutcome Int} {res : Res}
    (hsem : toRes Gen.apply1WrapAst apply2Sets (viewFr ix0 cols) dst ix0 ty out = some res)
    (harr : ArrOK (firstLen cols) ty out) :
    ∃ r, placeX cols dst ty out = some r ∧ resOf ix0 r = res ∧
      (∀ c', r = some c' → ColsOK c' ∧ firstLen c' = firstLen cols) := by
  rw [toRes_placeX] at hsem
  cases hr : placeX cols dst ty out with
  | none => rw [hr] at hsem; cases hsem
  | some r =>
    rw [hr] at hsem
    exact ⟨r, rfl, Option.some.inj hsem, fun c' hc' => place_ok hok dst ty out harr c' (hc' ▸ hr)⟩

/-- no `ColumnName`, no built-in name. `s2` and `src2` are unrelated: helper 0 ignores its source names, `applyInstr` without
`src1` ignores `src2`. -/
theorem helper0_spec (hok : ColsOK cols) (h0 : ∀ p ∈ ix0, p < firstLen cols) (nd : ix0.Nodup)
    (hm : ∀ r, r < ix0.length → mask r = keep (ix0[r]!)) (dst s1 s2 : Bytes) (src2 : Option Bytes) (fn : Fn)
    (hnb : ∀ n, fn ≠ .builtin n) (hnc : ∀ n, fn ≠ .colCopy n) :
    ∃ r, helperX R up cols (ix0.filter keep) 0 dst s1 s2 (goVal fn) (goState fn) = some r ∧
      resOf ix0 r = applyInstr up (viewFr ix0 cols) mask { dst := dst, src1 := none, src2 := src2, fn := fn } true ∧
      (∀ c', r = some c' → ColsOK c' ∧ firstLen c' = firstLen cols) := by
  let E0 := envOf noCol noCol (ix0.filter keep) (firstLen cols) fn
  have hix : ∀ p ∈ E0.ix, p < E0.firstColLen := fun p hp => h0 p (List.mem_filter.mp hp).1
  have hrun : Gen.apply0Ast.run E0 = expect0 E0 := (gen_apply_loops_physical E0).2.2 hix (nd.filter _)
  obtain ⟨r, hr, hres, hk⟩ := place_spec cols ix0 hok
    (gen_apply0_semantics up (viewFr ix0 cols) ix0 keep mask (firstLen cols) dst src2 fn rfl h0 nd hm hnb hnc)
    (hrun ▸ expect0_arr E0 (goVal_typed fn))
  refine ⟨r, ?_, by rw [hres, applyInstr_fillAll up _ mask _ (fun n => hnc n) (fun n => hnb n)], hk⟩
  simp only [helperX]
  split
  · rename_i n h
    have e : Gen.apply0Ast.run E0 = .copy n := h
    rw [e] at hr
    cases hr
  · exact hr

theorem findX_mem {n : Bytes} {c : XCol} (h : findX cols n = some c) : c ∈ cols := List.mem_of_find?_eq_some h

theorem helper2_spec (hok : ColsOK cols) {ix : List Nat} (S : Sel ix0 ix mask (firstLen cols)) (dst s1 s2 : Bytes) (fn : Fn)
    (c d : XCol) (hc : findX cols s1 = some c) (hd : findX cols s2 = some d) :
    ∃ r, helperX R up cols ix 2 dst s1 s2 (goVal fn) (goState fn) = some r ∧
      resOf ix0 r = applyInstr up (viewFr ix0 cols) mask { dst := dst, src1 := some s1, src2 := some s2, fn := fn } true ∧
      (∀ c', r = some c' → ColsOK c' ∧ firstLen c' = firstLen cols) := by
  have hcl := hok.len c (findX_mem cols hc)
  have hdl := hok.len d (findX_mem cols hd)
  have hcok := hok.ok c (findX_mem cols hc)
  have hdok := hok.ok d (findX_mem cols hd)
  have hlen : d.col.cells.length = c.col.cells.length := by omega
  rw [← hcl] at S
  let E := envOf c.col d.col ix c.col.cells.length fn
  have hrun : (apply2Of c.col.ty).run E = expect2 E := (gen_apply_loops_physical E).2.1 hcok hdok hlen S.visited
  obtain ⟨r, hr, hres, hk⟩ := place_spec cols ix0 hok
    (gen_apply2_semantics up (viewFr ix0 cols) ix0 ix mask c.col d.col (c.view ix0) (d.view ix0) dst s1 s2 fn rfl
      (by rw [view_find, hc]; rfl) (by rw [view_find, hd]; rfl) ⟨rfl, rfl, rfl⟩ ⟨rfl, rfl, rfl⟩ hcok hdok hlen S)
    (hrun ▸ hcl ▸ expect2_arr E hcok hdok hlen (goVal_typed fn))
  refine ⟨r, ?_, by rw [hres, applyInstr_fillAll2], hk⟩
  simp only [helperX, hc, hd]
  exact hr

/-- anything but the built-in `ToUpper` of a string / enum column -/
theorem helper1_spec (hok : ColsOK cols) {ix : List Nat} (S : Sel ix0 ix mask (firstLen cols)) (dst s1 s2 : Bytes) (fn : Fn)
    (c : XCol) (hc : findX cols s1 = some c) (hu : isUpperCall fn c.col.ty = false) :
    ∃ r, helperX R up cols ix 1 dst s1 s2 (goVal fn) (goState fn) = some r ∧
      resOf ix0 r = applyInstr up (viewFr ix0 cols) mask { dst := dst, src1 := some s1, src2 := none, fn := fn } true ∧
      (∀ c', r = some c' → ColsOK c' ∧ firstLen c' = firstLen cols) := by
  have hcl := hok.len c (findX_mem cols hc)
  have hcok := hok.ok c (findX_mem cols hc)
  rw [← hcl] at S
  let E := envOf c.col c.col ix c.col.cells.length fn
  have hrun : (apply1Of c.col.ty).run E = expect1 E := (gen_apply_loops_physical E).1 hcok S.visited
  have hfind : (viewFr ix0 cols).find? s1 = some (c.view ix0) := by rw [view_find, hc]; rfl
  obtain ⟨r, hr, hres, hk⟩ := place_spec cols ix0 hok
    ((gen_apply1_semantics up (viewFr ix0 cols) ix0 ix mask c.col (c.view ix0) dst s1 fn rfl
      hfind ⟨rfl, rfl, rfl⟩ hcok S).2 hu)
    (hrun ▸ hcl ▸ expect1_arr E hcok (goVal_typed fn))
  refine ⟨r, ?_, by rw [hres, applyInstr_fillAll1 up _ mask dst s1 fn (c.view ix0) hfind hu], hk⟩
  simp only [helperX, hc]
  split
  · rename_i n h
    have e : (apply1Of c.col.ty).run E = .builtin n := h
    rw [e] at hr
    cases hr
  · exact hr

theorem stored_placed (hok : ColsOK cols) (dst : Bytes) (P' : PCol) (st : Bool) (res : Res)
    (hlen : P'.cells.length = firstLen cols) (hP : ColOk P') (he : P'.ty = .enum → P'.vals.length ≤ 255)
    (herr : legalName dst = false → res = .err)
    (hset : legalName dst = true →
      .ok (setCol (viewFr ix0 cols) (XCol.view ix0 { name := dst, col := P', strict := st })) = res) :
    resOf ix0 (if legalName dst then some (setX cols { name := dst, col := P', strict := st }) else none) = res ∧
      (∀ c', (if legalName dst then some (setX cols { name := dst, col := P', strict := st }) else none) = some c' →
        ColsOK c' ∧ firstLen c' = firstLen cols) := by
  cases hl : legalName dst with
  | false => exact ⟨(herr hl).symm, fun c' h => by cases h⟩
  | true =>
    refine ⟨by rw [← hset hl]; simp only [↓reduceIte, resOf, view_setX], fun c' h => ?_⟩
    cases h
    exact colsOK_setX hok _ hlen hP he

/-- a `ColumnName` goes to `Copy`: the SAME stored column under the new name — every row of it, whatever the index -/
theorem helper0_copy (hok : ColsOK cols) (ix : List Nat) (dst s1 s2 : Bytes) (src2 : Option Bytes) (n : Bytes) :
    ∃ r, helperX R up cols ix 0 dst s1 s2 (goVal (.colCopy n)) (goState (.colCopy n)) = some r ∧
      r = copyX cols dst n ∧
      resOf ix0 r = applyInstr up (viewFr ix0 cols) mask { dst := dst, src1 := none, src2 := src2, fn := .colCopy n } true ∧
      (∀ c', r = some c' → ColsOK c' ∧ firstLen c' = firstLen cols) := by
  have hrun := gen_apply0_copy ix (firstLen cols) n
  have hx : helperX R up cols ix 0 dst s1 s2 (goVal (.colCopy n)) (goState (.colCopy n)) = some (copyX cols dst n) := by
    simp only [helperX]
    have : Gen.apply0Ast.run { recv := noCol, other := noCol, ix := ix, firstColLen := firstLen cols, fn := goVal (.colCopy n), s0 := goState (.colCopy n) } = .copy n := hrun
    rw [this]
  refine ⟨_, hx, rfl, ?_⟩
  unfold copyX
  cases hf : findX cols n with
  | none => exact ⟨by simp [applyInstr, view_find, hf, resOf], fun c' h => by cases h⟩
  | some x =>
    have hx' := findX_mem cols hf
    by_cases hd : dst = n
    · refine ⟨by simp [applyInstr, view_find, hf, hd, resOf], fun c' h => ?_⟩
      simp only [hd, BEq.rfl, ↓reduceIte, Option.some.injEq] at h
      exact h ▸ ⟨hok, rfl⟩
    · have hb : (dst == n) = false := by simpa using hd
      simp only [hb, Bool.false_eq_true, ↓reduceIte]
      refine stored_placed cols ix0 hok dst x.col x.strict _ (hok.len x hx') (hok.ok x hx') (hok.enum x hx')
        (fun hl => ?_) (fun hl => ?_)
      · simp [applyInstr, view_find, hf, hb, hl]
      · simp only [applyInstr, view_find, hf, Option.map_some, hb, hl, Bool.false_eq_true, ↓reduceIte, Bool.not_true,
          Res.ok.injEq]
        congr 1
        simp only [XCol.view, viewFr]
        congr 1
        -- with `fillAll` the spec's mask is constantly true: its cells are the observed cells re-read by position
        exact observe_reread ix0 _

/-- **apply1 with the built-in `ToUpper`** of a string or enum column: the function of the package's table, run on the column
as it is stored, is a loop on its cells (`upperX_string`, `upperX_enum`). String: over the rows of the loop's index, all
others hold the empty string. Enum: over EVERY row (`fillAll`). -/
theorem helper1_upper (hR : R.OK) (hok : ColsOK cols) {ix : List Nat} (S : Sel ix0 ix mask (firstLen cols)) (dst s1 s2 : Bytes)
    (fn : Fn) (c : XCol) (hc : findX cols s1 = some c) (hu : isUpperCall fn c.col.ty = true) :
    ∃ r, helperX R up cols ix 1 dst s1 s2 (goVal fn) (goState fn) = some r ∧
      resOf ix0 r = applyInstr up (viewFr ix0 cols) mask { dst := dst, src1 := some s1, src2 := none, fn := fn } true ∧
      (∀ c', r = some c' → ColsOK c' ∧ firstLen c' = firstLen cols) := by
  have hcl := hok.len c (findX_mem cols hc)
  have hcok := hok.ok c (findX_mem cols hc)
  rw [← hcl] at S
  have hfind : (viewFr ix0 cols).find? s1 = some (c.view ix0) := by rw [view_find, hc]; rfl
  have hrun := (gen_apply1_semantics up (viewFr ix0 cols) ix0 ix mask c.col (c.view ix0) dst s1 fn rfl
    hfind ⟨rfl, rfl, rfl⟩ hcok S).1 hu
  cases fn with
  | builtin n =>
    simp only [isUpperCall, Bool.and_eq_true, beq_iff_eq] at hu
    obtain ⟨hn, hb⟩ := hu
    subst hn
    have hx : helperX R up cols ix 1 dst s1 s2 (goVal (.builtin (strBytes "ToUpper"))) (goState (.builtin (strBytes "ToUpper"))) =
        (upperX R up (strBytes "ToUpper") c.col ix).map (fun p =>
          if legalName dst then some (setX cols { name := dst, col := p.1, strict := p.2 }) else none) := by
      simp only [helperX, hc]
      have e : (apply1Of c.col.ty).run { recv := c.col, other := c.col, ix := ix, firstColLen := c.col.cells.length, fn := goVal (.builtin (strBytes "ToUpper")), s0 := goState (.builtin (strBytes "ToUpper")) } = .builtin (upperHash c.col.ty) := hrun
      rw [e]
      simp only [goVal, wrap_sets.1, wrap_sets.2, Bool.true_and]
    rw [hx]
    have hty : c.col.ty = .string ∨ c.col.ty = .enum := by
      cases h : c.col.ty <;> simp [h, hasBuiltins] at hb ⊢
    -- the cells of the source as the frame shows them
    have hsee : ∀ r, r < ix0.length → upc up ((observe ix0 c.col.cells)[r]!) = upc up (c.col.cells[ix0[r]!]!) :=
      fun r hr => by rw [observe_get _ _ _ hr]
    rcases hty with hty | hty
    · have hbe : (strBytes "ToUpper" == strBytes "ToUpper" && (c.view ix0).ty == CType.enum) = false := by
        show (_ && c.col.ty == CType.enum) = false
        rw [hty]; simp
      have hbs : (strBytes "ToUpper" == strBytes "ToUpper" && (c.view ix0).ty == CType.string) = true := by
        show (_ && c.col.ty == CType.string) = true
        rw [hty]; simp
      rw [upperX_string R hR up c.col hcok hty _ S.visited]
      refine ⟨_, rfl, stored_placed cols ix0 hok dst _ _ _ (by simp only [rowsOf_length, hcl])
        (colOk_of_kind (r := .string) (by decide) (rowsOf_kind _ _ rfl _ (fun p hp => by
          have := cellOk_kind (hcok.get hp).2
          rw [hty] at this
          exact upc_kind up this))) (fun e => by cases e) (fun hl => ?_) (fun hl => ?_)⟩
      · simp [applyInstr, hfind, hl]
      · simp only [applyInstr, hfind, hbe, hbs, hl, ↓reduceIte, Bool.false_eq_true, Res.ok.injEq]
        congr 1
        simp only [XCol.view]
        congr 1
        rw [S.observe_rowsOf (.str (some [])) _ _ hsee]
        rfl
    · have hbe : (strBytes "ToUpper" == strBytes "ToUpper" && (c.view ix0).ty == CType.enum) = true := by
        show (_ && c.col.ty == CType.enum) = true
        rw [hty]; simp
      obtain ⟨e, hP', hvl⟩ := upperX_enum R hR up c.col hcok hty (hok.enum c (findX_mem cols hc) hty) ix
      rw [e]
      refine ⟨_, rfl, stored_placed cols ix0 hok dst _ _ _ (by simp only [List.length_map, hcl]) hP' (fun _ => hvl)
        (fun hl => ?_) (fun hl => ?_)⟩
      · simp [applyInstr, hfind, hl]
      · simp only [applyInstr, hfind, hbe, hl, ↓reduceIte, Res.ok.injEq]
        congr 1
        simp only [XCol.view]
        congr 1
        rw [rowsOf_all c.col.cells.length (.str none) (upc up) c.col.cells rfl,
          (Sel.all S.shown).observe_rowsOf (.str none) _ _ hsee]
        rfl
  | _ => simp [isUpperCall] at hu

theorem has_false_of_find {n : Bytes} (h : findX cols n = none) : (viewFr ix0 cols).has n = false := by
  unfold LFrame.has
  rw [view_find, h]
  rfl

/-- **One instruction**: the helper the dispatch picks, run on the physical columns with the index `ix0.filter keep`, read
through `ix0`, is `applyInstr … (fillAll := true)` — and leaves the columns well-formed. -/
theorem stepX_spec (hR : R.OK) (hok : ColsOK cols) (h0 : ∀ p ∈ ix0, p < firstLen cols) (nd : ix0.Nodup)
    (hm : ∀ r, r < ix0.length → mask r = keep (ix0[r]!)) (g : GoInstr) (hs : InScope g) :
    ∃ r, stepX R up cols (ix0.filter keep) g = some r ∧
      resOf ix0 r = applyInstr up (viewFr ix0 cols) mask (toInstr g) true ∧
      (∀ c', r = some c' → ColsOK c' ∧ firstLen c' = firstLen cols) := by
  obtain ⟨dst, s1, s2, fn⟩ := g
  unfold stepX arityX XInstr.of toInstr
  cases h1 : s1.isEmpty with
  | true =>
    have e1 : s1 = [] := List.isEmpty_iff.mp h1
    simp only [↓reduceIte]
    cases fn with
    | colCopy n =>
      obtain ⟨r, a, _, b, c⟩ := helper0_copy R up cols ix0 mask hok (ix0.filter keep) dst s1 s2 (if s2.isEmpty then none else some s2) n
      exact ⟨r, a, b, c⟩
    | builtin n => exact absurd rfl (hs e1 n)
    | _ => exact helper0_spec R up cols ix0 keep mask hok h0 nd hm dst s1 s2 _ _ (by intro n; simp) (by intro n; simp)
  | false =>
    simp only [Bool.false_eq_true, ↓reduceIte]
    cases h2 : s2.isEmpty with
    | true =>
      simp only [↓reduceIte]
      cases hc : findX cols s1 with
      | none =>
        refine ⟨none, by simp [helperX, hc], ?_, fun c' h => by cases h⟩
        rw [C10Sticky.applyInstr_unknown_src1 up _ mask _ true s1 rfl (has_false_of_find cols ix0 hc)]
        rfl
      | some c =>
        cases hu : isUpperCall fn c.col.ty with
        | true => exact helper1_upper R up cols ix0 mask hR hok (.filter h0 hm) dst s1 s2 fn c hc hu
        | false => exact helper1_spec R up cols ix0 mask hok (.filter h0 hm) dst s1 s2 fn c hc hu
    | false =>
      simp only [Bool.false_eq_true, ↓reduceIte]
      cases hc : findX cols s1 with
      | none =>
        refine ⟨none, by simp [helperX, hc], ?_, fun c' h => by cases h⟩
        rw [C10Sticky.applyInstr_unknown_src1 up _ mask _ true s1 rfl (has_false_of_find cols ix0 hc)]
        rfl
      | some c =>
        cases hd : findX cols s2 with
        | none =>
          refine ⟨none, by simp [helperX, hc, hd], ?_, fun c' h => by cases h⟩
          rw [C10Sticky.applyInstr_unknown_src2 up _ mask _ true s1 s2 rfl rfl (has_false_of_find cols ix0 hd)]
          rfl
        | some d => exact helper2_spec R up cols ix0 mask hok (.filter h0 hm) dst s1 s2 fn c d hc hd

end helpers

/-! ## `Apply` on physical frames -/

/-- a frame value read through `ix0` -/
def resFr (ix0 : List Nat) (X : PFr) : Res := if X.err then .err else .ok (viewFr ix0 X.cols)

theorem applyX_cons (R : Reps) (up : UpperOracle) (X : PFr) (x : XInstr) (xs : List XInstr) :
    applyX R up X (x :: xs) =
      if X.err then applyX R up X xs
      else (helperX R up X.cols X.index (arityX x) x.dst x.src1 x.src2 x.fn x.s0).bind (fun r =>
        applyX R up (match r with | some c => { X with cols := c } | none => { X with err := true }) xs) := by
  rw [applyX, gen_apply_dispatch.2.2.1 x.shadow]
  unfold toInstr specDispatch helperFr arityX
  cases he : X.err
  · cases h1 : x.src1.isEmpty <;> cases h2 : x.src2.isEmpty <;>
      simp only [h1, h2, XInstr.field, XInstr.shadow, GoInstr.nameOf, List.getElem?_cons_succ, List.getElem?_cons_zero,
        List.getElem?_nil, Option.map_some, Option.map_none, Option.getD_some, Option.getD_none, Bool.false_eq_true, ↓reduceIte,
        Option.bind_map] <;> rfl
  · simp

theorem applyX_err (R : Reps) (up : UpperOracle) (X : PFr) (he : X.err = true) (gs : List GoInstr) :
    applyX R up X (gs.map XInstr.of) = some X := by
  induction gs with
  | nil => simp [applyX, gen_apply_flags]
  | cons g gs ih => rw [List.map_cons, applyX_cons, if_pos he]; exact ih

theorem applyX_one0 (R : Reps) (up : UpperOracle) (X : PFr) (x : XInstr) (h1 : x.src1 = []) :
    applyX R up X [x] =
      if X.err then some X
      else (helperX R up X.cols X.index 0 x.dst [] [] x.fn x.s0).map (fun r =>
        match r with
        | some c => { X with cols := c }
        | none => { X with err := true }) := by
  rw [applyX_cons]
  simp [arityX, h1, applyX, gen_apply_flags, helperX, Option.map_eq_bind, Function.comp_def]

/-- **Today's `Apply` on a physical frame whose index is a filtered part of `ix0`**, read through `ix0`, is `applyS` with
`fillAll := true`; the index is not touched; the loop stops at the first error (a failed frame comes back as it is). -/
theorem applyX_spec (R : Reps) (hR : R.OK) (up : UpperOracle) (ix0 : List Nat) (keep mask : Nat → Bool) (nd : ix0.Nodup)
    (hm : ∀ r, r < ix0.length → mask r = keep (ix0[r]!)) :
    ∀ (gs : List GoInstr) (X : PFr), X.err = false → X.index = ix0.filter keep → ColsOK X.cols →
      (∀ p ∈ ix0, p < firstLen X.cols) → (∀ g ∈ gs, InScope g) →
      ∃ X', applyX R up X (gs.map XInstr.of) = some X' ∧ X'.index = X.index ∧
        resFr ix0 X' = applyS up (viewFr ix0 X.cols) mask true (gs.map toInstr) ∧
        (X'.err = false → ColsOK X'.cols ∧ firstLen X'.cols = firstLen X.cols) := by
  intro gs
  induction gs with
  | nil =>
    intro X he _ hok _ _
    exact ⟨X, by simp [applyX, gen_apply_flags], rfl, by simp [resFr, he, applyS], fun _ => ⟨hok, rfl⟩⟩
  | cons g gs ih =>
    intro X he hix hok h0 hs
    obtain ⟨r, hr, hres, hkeep⟩ := stepX_spec R up X.cols ix0 keep mask hR hok h0 nd hm g (hs g List.mem_cons_self)
    unfold stepX at hr
    have happ : applyS up (viewFr ix0 X.cols) mask true ((g :: gs).map toInstr) =
        (match applyInstr up (viewFr ix0 X.cols) mask (toInstr g) true with
         | .ok f' => applyS up f' mask true (gs.map toInstr)
         | .err => .err) := rfl
    rw [← hix] at hr
    rw [happ, ← hres, List.map_cons, applyX_cons, he]
    simp only [Bool.false_eq_true, ↓reduceIte, XInstr.of] at hr ⊢
    rw [hr, Option.bind_some]
    cases r with
    | none =>
      exact ⟨_, applyX_err R up _ rfl gs, rfl, by simp [resFr, resOf], fun h => by cases h⟩
    | some c =>
      obtain ⟨hok', hfl⟩ := hkeep c rfl
      obtain ⟨X', a, b, d, e⟩ := ih ⟨c, X.index, false⟩ rfl hix hok' (by rw [hfl]; exact h0)
        (fun g' hg' => hs g' (List.mem_cons_of_mem _ hg'))
      exact ⟨X', a, b, by simpa [resOf] using d, fun h => by obtain ⟨x, y⟩ := e h; exact ⟨x, y.trans hfl⟩⟩

/-! ## `FilteredApply` -/

/-- What `qf.Filter(clause)` does to a physical frame, as far as `FilteredApply` needs it. It is proved of today's source
elsewhere: a failed frame comes back as it is (`C10Guards.gen_sticky_all`); the clause evaluation, regenerated statement by
statement, returns the receiver with an error exactly for the clauses that are not well formed, and otherwise the receiver
with the sub-index of the rows the clause's row-wise meaning keeps (`C02ClausesGen.gen_clause_filter_semantics`,
`gen_filter_eq_spec_today`; the columns come from `withIndex` / `withErr`: `C08ProjectGen.gen_project_canon`). -/
structure FilterOK (lo : LikeOracle) (c : Clause) (filt : PFr → Option PFr) (X : PFr) : Prop where
  sticky : X.err = true → filt X = some X
  bad : X.err = false → c.wellFormed lo (viewFr X.index X.cols) = false → ∃ Y, filt X = some Y ∧ Y.err = true
  good : X.err = false → c.wellFormed lo (viewFr X.index X.cols) = true →
    ∃ keep : Nat → Bool, filt X = some { X with index := X.index.filter keep } ∧
      ∀ r, r < X.index.length → c.sem lo (viewFr X.index X.cols) r = keep (X.index[r]!)

/-- the environment of `FilteredApply` / `WithRowNums` on physical frames: today's `Apply` -/
def physEnv (R : Reps) (up : UpperOracle) (X : PFr) (name : Bytes) (filt : PFr → Option PFr) (gs : List GoInstr) : FAEnv (List XCol) :=
  { recv := X, colName := name, filter := filt, applyParam := fun Y => applyX R up Y (gs.map XInstr.of), applyLits := applyX R up }

/-- **`FilteredApply` of today's source** (C06), for every well-formed physical frame `X` (columns of one physical length,
well-typed cells, a duplicate-free index in range), every stored representation of its string and enum columns, every
clause and EVERY list of instructions of the catalogue: with `Filter` as specified (`FilterOK`) and `Apply` = today's loop,
dispatch and helpers on physical columns (`applyX`), the regenerated body returns a frame `Y` such that
* a receiver with an error comes back as it is;
* otherwise `Y`, read through the receiver's ORIGINAL index, is exactly `filteredApplyS … (fillAll := true)`: Filter's error
  if the clause is not well formed; else the instructions applied to the rows the clause keeps, every other row of a new
  column holding the zero value of its type (the empty string for the string `ToUpper`) — except that a `ColumnName` copy
  and the enum `ToUpper` fill ALL rows (the open finding KF-C06-fapply-fill, `gen_fapply_copy_fills_all`);
* a result without error carries the receiver's original index. -/
theorem gen_fapply_semantics (R : Reps) (hR : R.OK) (lo : LikeOracle) (up : UpperOracle) (c : Clause) (gs : List GoInstr)
    (hs : ∀ g ∈ gs, InScope g) (X : PFr) (filt : PFr → Option PFr) (hF : FilterOK lo c filt X)
    (hok : ColsOK X.cols) (h0 : ∀ p ∈ X.index, p < firstLen X.cols) (nd : X.index.Nodup) :
    ∃ Y, runFA (physEnv R up X [] filt gs) Gen.fapplyAst [] = some Y ∧
      (X.err = true → Y = X) ∧
      (X.err = false →
        resFr X.index Y = filteredApplyS lo up (viewFr X.index X.cols) c (gs.map toInstr) true ∧
        (Y.err = false → Y.index = X.index)) := by
  rw [gen_fapply_run]
  obtain ⟨cols, index, err⟩ := X
  cases err with
  | true =>
    refine ⟨⟨cols, index, true⟩, ?_, fun _ => rfl, fun h => ?_⟩
    · simp [physEnv, hF.sticky rfl]
    · cases h
  | false =>
    cases hw : c.wellFormed lo (viewFr index cols) with
    | false =>
      obtain ⟨Y, hY, hYe⟩ := hF.bad rfl hw
      refine ⟨Y, ?_, fun h => ?_, fun _ => ⟨?_, fun h => ?_⟩⟩
      · simp [physEnv, hY, hYe]
      · cases h
      · simp [resFr, hYe, filteredApplyS, hw]
      · rw [hYe] at h; cases h
    | true =>
      obtain ⟨keep, hY, hk⟩ := hF.good rfl hw
      obtain ⟨X', a, b, d, _⟩ := applyX_spec R hR up index keep (c.sem lo (viewFr index cols)) nd hk gs
        ⟨cols, index.filter keep, false⟩ rfl rfl hok h0 hs
      refine ⟨{ X' with index := index }, ?_, fun h => ?_, fun _ => ⟨?_, fun _ => rfl⟩⟩
      · simp [physEnv, hY, a]
      · cases h
      · simp only [filteredApplyS, hw, ↓reduceIte]
        rw [← d]
        rfl

/-- **The finding, as a theorem** (KF-C06-fapply-fill): `FilteredApply(clause, Instruction{Fn: ColumnName(n), DstCol: dst})`
on a frame that has the column `n` (`dst` another, legal name; the clause well formed) returns the frame in which `dst` IS
the stored column `n` — shared, every physical row of it, whatever the clause keeps. Read through the index this is
`filteredApplyS … (fillAll := true)`; with `fillAll := false` the spec would show the zero value on the rows the clause
rejects (`fapply_copy_differs`). -/
theorem gen_fapply_copy_fills_all (R : Reps) (lo : LikeOracle) (up : UpperOracle) (c : Clause) (dst n : Bytes)
    (X : PFr) (filt : PFr → Option PFr) (hF : FilterOK lo c filt X) (he : X.err = false)
    (hw : c.wellFormed lo (viewFr X.index X.cols) = true) (x : XCol) (hx : findX X.cols n = some x) (hdn : dst ≠ n)
    (hl : legalName dst = true) (hok : ColsOK X.cols) :
    runFA (physEnv R up X [] filt [{ dst := dst, fn := .colCopy n }]) Gen.fapplyAst [] =
      some { X with cols := setX X.cols { x with name := dst } } ∧
    findX (setX X.cols { x with name := dst }) dst = some { x with name := dst } ∧
    Res.ok (viewFr X.index (setX X.cols { x with name := dst })) =
      filteredApplyS lo up (viewFr X.index X.cols) c [{ dst := dst, src1 := none, src2 := none, fn := .colCopy n }] true := by
  obtain ⟨cols, index, err⟩ := X
  simp only at he
  subst he
  obtain ⟨keep, hY, hk⟩ := hF.good rfl hw
  have hd : (dst == n) = false := by simpa using hdn
  have hcopy : copyX cols dst n = some (setX cols { x with name := dst }) := by
    simp only at hx
    simp [copyX, hx, hd, hl]
  obtain ⟨r, h1, h2, h3, _⟩ := helper0_copy R up cols index (c.sem lo (viewFr index cols)) hok (index.filter keep) dst [] [] none n
  rw [hcopy] at h2
  subst h2
  refine ⟨?_, findX_setX_self cols { x with name := dst }, ?_⟩
  · rw [gen_fapply_run]
    simp [physEnv, hY, XInstr.of, h1,
      applyX_one0 R up ⟨cols, index.filter keep, false⟩ { dst := dst, fn := goVal (.colCopy n), s0 := goState (.colCopy n) } rfl]
  · simp only [filteredApplyS, hw, ↓reduceIte, applyS]
    rw [← h3]
    rfl

/-! ## `WithRowNums` -/

theorem idxOf?_getElem_nodup (l : List Nat) (nd : l.Nodup) (r : Nat) (hr : r < l.length) : l.idxOf? l[r] = some r := by
  unfold List.idxOf?
  rw [List.findIdx?_eq_some_iff_getElem]
  refine ⟨hr, by simp, ?_⟩
  intro j hj
  simp only [beq_iff_eq]
  intro e
  have := (List.getElem_inj nd).mp e
  omega

/-- **`WithRowNums` of today's source** (C06): for every well-formed physical frame, `Apply` = today's loop, dispatch and
`apply0` — the regenerated body returns the frame with the column `0 … n-1` IN INDEX ORDER under the given name (an error for
an illegal name): `rowNumsS`. The closure `i := -1; func() int { i++; return i }` is called once per row of the index, in
index order, and its `k`-th value lands in the physical row `index[k]`. A receiver with an error comes back as it is. -/
theorem gen_rownums_semantics (R : Reps) (up : UpperOracle) (X : PFr) (name : Bytes) (hok : ColsOK X.cols)
    (h0 : ∀ p ∈ X.index, p < firstLen X.cols) (nd : X.index.Nodup) :
    ∃ Y, runFA (physEnv R up X name (fun _ => none) []) Gen.rowNumsFnAst [] = some Y ∧
      (X.err = true → Y = X) ∧
      (X.err = false → Y.index = X.index ∧ resFr X.index Y = rowNumsS (viewFr X.index X.cols) name) := by
  rw [gen_rownums_run]
  obtain ⟨cols, index, err⟩ := X
  show ∃ Y, applyX R up ⟨cols, index, err⟩ [counterInstr name] = some Y ∧ _
  rw [applyX_one0 R up _ _ rfl]
  cases err with
  | true => exact ⟨_, rfl, fun _ => rfl, fun h => (by cases h)⟩
  | false =>
    let next : Int → Cell × Int := fun v => (.int (v + 1), v + 1)
    let E0 : LEnv Int := { recv := noCol, other := noCol, ix := index, firstColLen := firstLen cols, fn := .fn0 .int next, s0 := -1 }
    have hrun : Gen.apply0Ast.run E0 =
        .arr .create .int (rowsOf (firstLen cols) index (.int 0) (valAt next (-1) index)) (iterState next (-1) index.length) :=
      ((gen_apply_loops_physical E0).2.2 h0 nd).trans (by simp [expect0, E0, resTys, zeroCell])
    have hx : helperX R up cols index 0 name [] [] (.fn0 .int next) (-1) =
        some (if legalName name then some (setX cols { name := name, col := { ty := .int, cells := rowsOf (firstLen cols) index (.int 0) (valAt next (-1) index) } }) else none) := by
      simp only [helperX]
      have : Gen.apply0Ast.run { recv := noCol, other := noCol, ix := index, firstColLen := firstLen cols, fn := .fn0 .int next, s0 := -1 } = _ := hrun
      rw [this]
      simp [placeX]
    have hcells : observe index (rowsOf (firstLen cols) index (.int 0) (valAt next (-1) index)) =
        ((List.range index.length).map (fun (r : Nat) => Cell.int (r : Int))).toArray := by
      have S : Sel index index (fun _ => true) (firstLen cols) := ⟨h0, h0, fun r hr => by simp [hr]⟩
      rw [S.observe_rowsOf (.int 0) _ (fun r => Cell.int (r : Int)) (fun r hr => ?_)]
      · simp
      · unfold valAt
        rw [getElem!_pos index r hr, idxOf?_getElem_nodup index nd r hr, Option.getD_some,
          nthVal_counter (fun i => Cell.int (i + 1)) (-1) r]
        congr 1
        omega
    simp only [counterInstr, Bool.false_eq_true, ↓reduceIte]
    rw [hx]
    cases hl : legalName name with
    | false => exact ⟨_, rfl, fun h => (by cases h), fun _ => ⟨rfl, by simp [resFr, rowNumsS, hl]⟩⟩
    | true =>
      refine ⟨_, rfl, fun h => (by cases h), fun _ => ⟨rfl, ?_⟩⟩
      simp only [↓reduceIte, resFr, Bool.false_eq_true, rowNumsS, hl, view_setX, Res.ok.injEq]
      congr 1
      simp only [XCol.view, hcells]
      rfl

/-! ## `copyX` / `setX` are what today's `Copy` / `setColumn` do to the column list (QF/Gen/Project.lean, C08ProjectGen) -/

/-- the statements of a translated function body -/
def pfStms : PF → List PStm
  | .seq ss => ss
  | .fork p _ t e => p ++ t ++ e
  | .opaque _ => []

/-- the column of every element a statement stores into a column list or a name map -/
def storedCols : PStm → List (Option PC)
  | .do (.colStore _ _ e) | .do (.mapPut _ _ e) | .do (.appendCol _ e) =>
    [match e with | .mk _ c _ => some c | _ => none]
  | _ => []

/-- what a `return`, conditional or not, returns -/
def retFrames : PStm → List PRet
  | .ret r => [r]
  | .retIf _ r => [r]
  | _ => []

/-- the look-ups `a, ok := m[k]` into register `a`: (map, key) -/
def lookupsA : PStm → List (PMp × PN)
  | .do (.lookup .a m k) => [(m, k)]
  | _ => []

/-- **Today's `Copy(dst, src)` shares the stored source column and passes the index through** (read off the regenerated
term, a finite check redone on every run): register `a` is the receiver's element under the SOURCE name; every element it
stores — in the new column list and in the new name map — is `namedColumn{dst, a.Column, ·}`: the same `column.Column`
value, no loop over rows, no index; the frame it returns has the receiver's index. `setColumn` stores its `column.Column`
parameter likewise. So under `FilteredApply` a `ColumnName` instruction cannot depend on the filtered index: `copyX`. -/
theorem gen_copy_shares_column :
    ((pfStms ((Gen.projectAst.lookup "Copy").getD (.opaque ""))).flatMap lookupsA = [(.recv, .src)]) ∧
    (∀ c ∈ (pfStms ((Gen.projectAst.lookup "Copy").getD (.opaque ""))).flatMap storedCols, c = some (.colOf (.reg .a))) ∧
    (∀ r ∈ (pfStms ((Gen.projectAst.lookup "Copy").getD (.opaque ""))).flatMap retFrames, r = .frame .new .new .recv .recv) ∧
    (∀ c ∈ (pfStms ((Gen.projectAst.lookup "setColumn").getD (.opaque ""))).flatMap storedCols, c = some .param) ∧
    (∀ r ∈ (pfStms ((Gen.projectAst.lookup "setColumn").getD (.opaque ""))).flatMap retFrames, r = .frame .new .new .recv .recv) := by
  decide +kernel

/-! ## The hypotheses can be met: a `Filter`, and a stored representation of every well-typed column -/

/-- `Filter` as the spec reads it, on physical frames -/
def specFilter (lo : LikeOracle) (c : Clause) (X : PFr) : Option PFr :=
  if X.err then some X
  else if c.wellFormed lo (viewFr X.index X.cols) then
    some { X with index := X.index.filter (fun p =>
      match X.index.idxOf? p with
      | some r => c.sem lo (viewFr X.index X.cols) r
      | none => false) }
  else some { X with err := true }

theorem specFilter_ok (lo : LikeOracle) (c : Clause) (X : PFr) (nd : X.index.Nodup) : FilterOK lo c (specFilter lo c) X := by
  obtain ⟨cols, index, err⟩ := X
  refine ⟨fun he => ?_, fun he hw => ?_, fun he hw => ?_⟩
  · simp only at he
    subst he
    simp [specFilter]
  · simp only at he
    subst he
    exact ⟨⟨cols, index, true⟩, by simp [specFilter, hw], rfl⟩
  simp only at he
  subst he
  refine ⟨fun p => match index.idxOf? p with | some r => c.sem lo (viewFr index cols) r | none => false, ?_, ?_⟩
  · simp [specFilter, hw]
  · intro r hr
    have e : index[r]! = index[r] := by simp [hr]
    simp only
    rw [e, idxOf?_getElem_nodup _ nd r hr]

/-- a stored enum column showing the cells of `P`: the code of a cell is the rank of its string in the value table -/
def eOf (P : PCol) : ECol :=
  { data := P.cells.map (fun c => match c with | .str (some s) => (enumRank P.vals s).getD euNull | _ => euNull)
    values := P.vals }

theorem eOf_rep (P : PCol) (hok : ColOk P) (hty : P.ty = .enum) : EnumRep (eOf P) P := by
  have hcell : ∀ x ∈ P.cells, x = .str none ∨ ∃ s i, x = .str (some s) ∧ enumRank P.vals s = some i ∧ i < 255 ∧ i < P.vals.length ∧ P.vals[i]? = some s := by
    intro x hx
    have h := hok.2 x hx
    rw [hty] at h
    cases x with
    | str o =>
      cases o with
      | none => exact .inl rfl
      | some s =>
        obtain ⟨i, hr, hlt⟩ := enum_ok h
        obtain ⟨hil, hb, _⟩ := enumRank_eq_some_iff.1 hr
        exact .inr ⟨s, i, rfl, hr, hlt, hil, by rw [List.getElem?_eq_getElem hil, hb]⟩
    | _ => simp [cellOk, cellVal] at h
  refine ⟨?_, rfl, ?_⟩
  · intro c hc
    simp only [eOf, List.mem_map] at hc
    obtain ⟨x, hx, rfl⟩ := hc
    rcases hcell x hx with rfl | ⟨s, i, rfl, hr, _, hil, _⟩
    · exact .inl rfl
    · right; simp only [hr, Option.getD_some]; exact hil
  · unfold enumCells eOf
    simp only [List.map_map]
    conv => lhs; rw [← List.map_id P.cells]
    apply List.map_congr_left
    intro x hx
    rcases hcell x hx with rfl | ⟨s, i, rfl, hr, hlt, hil, hv⟩
    · simp [euNull]
    · have hne : i ≠ euNull := by unfold euNull; omega
      simp [hr, hne, hv]

/-- one more cell at the end of the blob -/
def blobAdd (B : BCol) (c : Cell) : BCol :=
  match c with
  | .str (some s) => ⟨B.ptrs ++ [⟨B.data.length, s.length, false⟩], B.data ++ s⟩
  | _ => ⟨B.ptrs ++ [⟨B.data.length, 0, true⟩], B.data⟩

/-- a stored string column showing the cells of `P`: the strings one after the other in one blob -/
def sOf (P : PCol) : BCol := P.cells.foldl blobAdd ⟨[], []⟩

theorem blobAdd_spec (B : BCol) (hv : BValid B.ptrs B.data) (o : Option Bytes) :
    BValid (blobAdd B (.str o)).ptrs (blobAdd B (.str o)).data ∧ blobCells (blobAdd B (.str o)) = blobCells B ++ [.str o] := by
  cases o with
  | none => simpa [blobAdd] using blob_push B hv ⟨B.data.length, 0, true⟩ [] nofun
  | some s => simpa [blobAdd] using blob_push B hv ⟨B.data.length, s.length, false⟩ s fun _ => ⟨rfl, rfl⟩

theorem sOf_fold : ∀ (l : List Cell) (B : BCol), BValid B.ptrs B.data → (∀ x ∈ l, ∃ o, x = Cell.str o) →
    BValid (l.foldl blobAdd B).ptrs (l.foldl blobAdd B).data ∧ blobCells (l.foldl blobAdd B) = blobCells B ++ l := by
  intro l
  induction l with
  | nil => intro B hv _; exact ⟨hv, by simp⟩
  | cons x xs ih =>
    intro B hv hl
    obtain ⟨o, rfl⟩ := hl x List.mem_cons_self
    obtain ⟨h1, h2⟩ := blobAdd_spec B hv o
    obtain ⟨h3, h4⟩ := ih _ h1 (fun y hy => hl y (List.mem_cons_of_mem _ hy))
    exact ⟨h3, by rw [List.foldl_cons, h4, h2]; simp⟩

theorem sOf_rep (P : PCol) (hok : ColOk P) (hty : P.ty = .string) : StrRep (sOf P) P := by
  have hstr : ∀ x ∈ P.cells, ∃ o, x = Cell.str o := by
    intro x hx
    have h := hok.2 x hx
    rw [hty] at h
    cases x with
    | str o => exact ⟨o, rfl⟩
    | int v => simp [cellOk, cellVal] at h
    | float v => simp [cellOk, cellVal] at h
    | bool v => simp [cellOk, cellVal] at h
  obtain ⟨h1, h2⟩ := sOf_fold P.cells ⟨[], []⟩ (by intro p hp; cases hp) hstr
  exact ⟨h1, by rw [show sOf P = P.cells.foldl blobAdd ⟨[], []⟩ from rfl, h2]; simp [blobCells]⟩

/-- **The hypotheses of `gen_fapply_semantics` can be met**: there is a stored representation of every well-typed string and
enum column, and a `Filter` that does what `FilterOK` asks. -/
theorem hypotheses_satisfiable :
    (∃ R : Reps, R.OK) ∧ (∀ lo c (X : PFr), X.index.Nodup → ∃ filt, FilterOK lo c filt X) :=
  ⟨⟨⟨sOf, eOf⟩, fun P hok => ⟨sOf_rep P hok, eOf_rep P hok⟩⟩, fun lo c X nd => ⟨_, specFilter_ok lo c X nd⟩⟩

/-! ## Witnesses: the statements tell wrong code apart -/

section Witnesses

/-- the cells a result shows under a name -/
def cellsAt (r : Res) (n : Bytes) : Option (List Cell) :=
  match r with
  | .ok f => (f.find? n).map (·.cells.toList)
  | .err => none

private def noLike : LikeOracle := { valid := fun _ _ => false, isMatch := fun _ _ _ => false }
private def f3 : LFrame := { cols := [{ name := [120], ty := .int, cells := #[.int 1, .int 2, .int 3] }], n := 3 }
private def copyXY : Instr := { dst := [121], src1 := none, src2 := none, fn := .colCopy [120] }

/-- the finding on a concrete input: `FilteredApply(Not(Null), {Fn: ColumnName("x"), DstCol: "y"})` on `x = [1, 2, 3]` — the
clause keeps no row, the code (`fillAll := true`) fills `y = [1, 2, 3]`, the documented behaviour would be `[0, 0, 0]` -/
theorem fapply_copy_differs :
    (Clause.not Clause.null).wellFormed noLike f3 = true ∧
    cellsAt (filteredApplyS noLike id f3 (.not .null) [copyXY] true) [121] = some [.int 1, .int 2, .int 3] ∧
    cellsAt (filteredApplyS noLike id f3 (.not .null) [copyXY] false) [121] = some [.int 0, .int 0, .int 0] := by decide +kernel

/-- what a run of the plumbing shows: (columns, index, error) -/
private def shown (r : Option (XFr Nat)) : Option (Nat × List Nat × Bool) := r.map (fun x => (x.cols, x.index, x.err))

/-- a test bench: the "columns" are a number; `Filter` keeps row 2 (and may change the columns by `dc`); `Apply` adds, to the
columns, 10 times the length of the index it sees -/
private def bench (dc : Nat) : FAEnv Nat :=
  { recv := ⟨0, [0, 1, 2], false⟩
    filter := fun x => some { x with cols := x.cols + dc, index := [2] }
    applyParam := fun x => some { x with cols := x.cols + 10 * x.index.length }
    applyLits := fun x _ => some x }

-- today's term: `Apply` sees the filtered index (one row), the result carries the original one
example : shown (runFA (bench 0) Gen.fapplyAst []) = some (10, [0, 1, 2], false) := by decide +kernel

/-- `newQf.index = filteredQf.index` at the end instead of `qf.index` -/
def fapplyRestoreFiltered : List FAStm := [
  .decl (.filter .recv), .retIfErr (.loc 0) (.loc 0), .decl .recv, .setIndex 1 (.loc 0),
  .assign 1 (.applyParam (.loc 1)), .setIndex 1 (.loc 0), .ret (.loc 1)]

-- … the result keeps the FILTERED index: rows are lost
example : shown (runFA (bench 0) fapplyRestoreFiltered []) = some (10, [2], false) := by decide +kernel
example : fapplyRestoreFiltered ≠ canonFApply := by decide +kernel

/-- no `newQf.index = filteredQf.index`: `Apply` runs on the receiver's own index -/
def fapplyNoSwap : List FAStm := [
  .decl (.filter .recv), .retIfErr (.loc 0) (.loc 0), .decl .recv,
  .assign 1 (.applyParam (.loc 1)), .setIndex 1 .recv, .ret (.loc 1)]

-- … every row is computed, the clause is ignored
example : shown (runFA (bench 0) fapplyNoSwap []) = some (30, [0, 1, 2], false) := by decide +kernel

/-- `newQf = filteredQf.Apply(instructions...)`: `Apply` run on what `Filter` returned instead of the copy of the receiver with
the swapped index -/
def fapplyOnFiltered : List FAStm := [
  .decl (.filter .recv), .retIfErr (.loc 0) (.loc 0), .decl .recv, .setIndex 1 (.loc 0),
  .assign 1 (.applyParam (.loc 0)), .setIndex 1 .recv, .ret (.loc 1)]

-- a different term (`gen_fapply_canon` fails), and a different result as soon as `Filter` returns other columns than the
-- receiver's …
example : fapplyOnFiltered ≠ canonFApply := by decide +kernel
example : shown (runFA (bench 5) Gen.fapplyAst []) = some (10, [0, 1, 2], false) ∧
    shown (runFA (bench 5) fapplyOnFiltered []) = some (15, [0, 1, 2], false) := by decide +kernel

/-- … but the SAME result for every `Filter` that returns the receiver's columns and leaves a failed receiver alone — which
is what today's `Filter` does (`FilterOK`): this change is a restructuring, not a defect. -/
theorem fapplyOnFiltered_equiv {γ : Type} (E : FAEnv γ)
    (hF : ∀ Y, E.filter E.recv = some Y → Y.err = false → Y.cols = E.recv.cols ∧ E.recv.err = false) :
    runFA E fapplyOnFiltered [] = runFA E canonFApply [] := by
  cases hf : E.filter E.recv with
  | none => simp [fapplyOnFiltered, canonFApply, runFA, FAFr.eval, hf]
  | some fq =>
    cases he : fq.err with
    | true => simp [fapplyOnFiltered, canonFApply, runFA, FAFr.eval, hf, he]
    | false =>
      obtain ⟨h1, h2⟩ := hF fq hf he
      have : ({ E.recv with index := fq.index } : XFr γ) = fq := by
        obtain ⟨c, i, e⟩ := fq
        simp only at h1 he
        subst h1 he
        simp [h2]
      simp [fapplyOnFiltered, canonFApply, runFA, FAFr.eval, hf, he, this]

-- WithRowNums with `i := 0`: the numbers start at 1
example : (FAFnLit.counter 0 .int [.inc, .ret]).val.map (fun v => (nthVal (match v.1 with | .fn0 _ nx => nx | _ => fun s => (.int 0, s)) v.2 0)) =
    some (.int 1) := by decide +kernel
example : ((FAFnLit.counter (-1) .int [.inc, .ret]).val.map (fun v => (nthVal (match v.1 with | .fn0 _ nx => nx | _ => fun s => (.int 0, s)) v.2 0))) =
    some (.int 0) := by decide +kernel

/-! ### the two `toUpper` -/

/-- ASCII upper-casing of one letter, for the examples -/
private def upA : Bytes → Bytes := fun b => b.map (fun c => if c = 97 then 65 else if c = 98 then 66 else if c = 99 then 67 else c)

private def blobS : BCol := { ptrs := [⟨0, 1, false⟩, ⟨1, 0, true⟩, ⟨1, 2, false⟩], data := [97, 98, 99] }

/-- (the result's cells, the source's data afterwards, number of writes into the source) -/
private def shownS : LR SUOut → Option (List (Option (Option Bytes)) × Bytes × Nat)
  | .ok o => some ((List.range o.res.ptrs.length).map o.res.cell, o.src.data, o.writes)
  | _ => none

private def isPanic {α : Type} : LR α → Bool
  | .panic => true
  | _ => false

-- today's term on rows 2 and 0 of "a", null, "bc": full length, row 1 the empty string, the source untouched
example : shownS ((supperOf (strBytes "ToUpper")).run upA blobS [2, 0]) =
    some ([some (some [65]), some (some []), some (some [66, 67])], [97, 98, 99], 0) := by
  rw [supperOf_upper]; decide +kernel

/-- `pointers := make([]Pointer, len(ix))` -/
def supperShortPtrs : SUFn := { canonSUpper with ptrInit := .fresh .ixLen }

-- … the store at row 2 of a two-element array panics
example : isPanic (supperShortPtrs.run upA blobS [2, 0]) = true := by decide +kernel

/-- `data := source.data[:0]` instead of a fresh buffer -/
def supperReuseData : SUFn := { canonSUpper with dataInit := .sourcePrefix 0 }

-- … `append` writes the upper-cased bytes INTO the source's blob "abc": it now holds "BCB", the source column reads
-- "B", null, "CB" — and row 0 of the result is made from the overwritten byte ("B" instead of "A") (C01)
example : shownS (supperReuseData.run upA blobS [2, 0]) =
    some ([some (some [66]), some (some []), some (some [66, 67])], [66, 67, 66], 3) := by decide +kernel

/-- `pointers := source.pointers` -/
def supperReusePtrs : SUFn := { canonSUpper with ptrInit := .source }

example : (shownS (supperReusePtrs.run upA blobS [2, 0])).map (·.2.2) = some 2 := by decide +kernel

/-- the null flag dropped: `NewPointer(len(data), len(upper), false)` -/
def supperNoNull : SUFn :=
  { canonSUpper with body := [.setPtr .row .dataLen (.strLen upperOfCell) (.lit false), .appendStr upperOfCell] }

example : (shownS (supperNoNull.run upA blobS [1])).map (·.1) = some [some (some []), some (some []), some (some [])] := by decide +kernel
example : (shownS (canonSUpper.run upA blobS [1])).map (·.1) = some [some (some []), some none, some (some [])] := by decide +kernel

private def enumS : ECol := { data := [0, 1, 255, 2], values := [[97], [65], [98]], strict := true }

/-- (data, values, shares the source's data, the source's data afterwards, writes into it) -/
private def shownE : LR EUOut → Option (List Nat × List Bytes × Bool × List Nat × Nat)
  | .ok o => some (o.data, o.values, o.dataShared, o.src.data, o.writes)
  | _ => none

-- today's term: "a" and "A" merge; a fresh data array; the source untouched
example : shownE ((eupperOf (strBytes "ToUpper")).run upA enumS) =
    some ([0, 0, 255, 1], [[65], [66]], false, [0, 1, 255, 2], 0) := by
  rw [eupperOf_upper]; decide +kernel

-- nothing merges: the source's data is shared
example : shownE (canonEUpper.run upA { enumS with values := [[97], [99], [98]] }) =
    some ([0, 1, 255, 2], [[65], [67], [66]], true, [0, 1, 255, 2], 0) := by decide +kernel

/-- seeded change C06-8: `newData := s.data[:0]` and `newData = append(newData, e)` -/
def eupperReuseData : EUFn :=
  { canonEUpper with dataInit := .sourcePrefix 0
                     loop2 := [.when .regNotNull [.setReg (.mappingAt .reg)], .do (.appendData .reg)] }

-- … the same result, but written over the SOURCE's data: the earlier frame, which still has the old value table
-- ["a", "A", "b"], now reads its codes as a, a, null, A (C01)
example : shownE (eupperReuseData.run upA enumS) =
    some ([0, 0, 255, 1], [[65], [66]], true, [0, 0, 255, 1], 4) := by decide +kernel

/-- the code taken AFTER the append: `newValues = append(newValues, upper); e = enumVal(len(newValues))` -/
def eupperLateCode : EUFn :=
  { canonEUpper with loop1 := [.do (.bindStr (.upper .elem)), .do (.lookup .loc),
      .when .notFound [.pushVal .loc, .setReg .valsLen, .mapPut .loc .reg], .do (.storeMapping .reg)] }

example : (shownE (eupperLateCode.run upA enumS)).map (·.1) = some [1, 1, 255, 2] := by decide +kernel

/-- null codes remapped too: `mapping[255]` is out of range -/
def eupperNoNullTest : EUFn := { canonEUpper with loop2 := [.do (.setReg (.mappingAt .reg)), .do (.storeData .reg)] }

example : isPanic (eupperNoNullTest.run upA enumS) = true := by decide +kernel

end Witnesses

#print axioms gen_fapply_no_opaque
#print axioms gen_fapply_canon
#print axioms gen_builtin_keys
#print axioms gen_supper_semantics
#print axioms gen_eupper_semantics
#print axioms gen_fapply_run
#print axioms gen_rownums_run
#print axioms stepX_spec
#print axioms applyX_spec
#print axioms gen_fapply_semantics
#print axioms gen_fapply_copy_fills_all
#print axioms fapply_copy_differs
#print axioms gen_rownums_semantics
#print axioms fapplyOnFiltered_equiv
#print axioms hypotheses_satisfiable
#print axioms gen_copy_shares_column
#print axioms remapCode_pos

end QF.Props.C06FApplyGen
