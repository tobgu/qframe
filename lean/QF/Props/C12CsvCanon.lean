import QF.Gen.CsvFns
import QF.Core.CRExpr
/-!
# C12 / C15 — the CSV reader in today's source: canonical terms (tie T1)

`QF.Gen.csvFns` (regenerated on every run by go/cmd/extract/csvast.go) holds the bodies of `bufferedReader.more`,
`bufferedReader.reset`, `fields.reset`, `fields.nextUnquotedField`, `nextQuotedField`, `fields.next`, `Reader.Next`,
`Reader.Err`, `Reader.Read`, `eofReaderWrapper.Read` and `NewReader` of /repo/internal/fastcsv/csv.go as terms of the
imperative language `QF.CR` (QF/Core/CRExpr.lean). This file fixes the canonical terms (`canonFns`: today's translation,
variables numbered by declaration order; the loop bodies have names so that the lemmas about them can be stated) and
proves by finite `decide` that today's extraction is complete (`gen_csv_no_opaque`) and equal to them (`gen_csv_canon`).
The meaning of the canonical terms is computed in C12CsvFns / C12CsvQuoted / C12CsvGen, which continue this namespace.
-/
namespace QF.Props.C12CsvGen
open QF QF.CR

/-! ## `bufferedReader` -/

/-- `if len(b.data) == cap(b.data) { temp := make([]byte, len(b.data), 2*len(b.data)+1); copy(temp, b.data); b.data = temp }` -/
def growPart : S :=
  S.ite (E.cmp COp.eq (E.len (E.fld Fld.data)) (E.cap (E.fld Fld.data)))
    (S.block [
      S.assign (L.var 0) (E.make (E.len (E.fld Fld.data)) (E.add (E.mul (E.int 2) (E.len (E.fld Fld.data))) (E.int 1))),
      S.copyVar 0 (E.fld Fld.data),
      S.assign (L.fld Fld.data) (E.var 0)])
    (S.block [])

/-- `more`: grow, `n, err := b.r.Read(b.data[len(b.data):cap(b.data)])`, `b.data = b.data[:len(b.data)+n]`, `return err` -/
def fnMore : Fn := { params := 0, body := S.block [
  growPart,
  S.call [L.var 1, L.var 2] FnId.wrapRead [E.slice (E.fld Fld.data) (E.len (E.fld Fld.data)) (E.cap (E.fld Fld.data))],
  S.assign (L.fld Fld.data) (E.sliceTo (E.fld Fld.data) (E.add (E.len (E.fld Fld.data)) (E.var 1))),
  S.ret [E.var 2]] }

/-- `reset`: `copy(b.data, b.data[b.cursor:])`, `b.data = b.data[:len(b.data)-b.cursor]`, `b.cursor = 0` -/
def fnBufReset : Fn := { params := 0, body := S.block [
  S.copy (E.fld Fld.data) (E.sliceFrom (E.fld Fld.data) (E.fld Fld.cursor)),
  S.assign (L.fld Fld.data) (E.sliceTo (E.fld Fld.data) (E.sub (E.len (E.fld Fld.data)) (E.fld Fld.cursor))),
  S.assign (L.fld Fld.cursor) (E.int 0)] }

/-- `eofReaderWrapper.Read` -/
def fnWrapRead : Fn := { params := 1, body := S.block [
  S.ite (E.fld Fld.isEof) (S.block [S.ret [E.int 0, E.eof]]) (S.block []),
  S.rawRead (L.var 1) (L.var 2) (E.var 0),
  S.ite (E.and (E.cmp COp.eq (E.var 2) E.eof) (E.cmp COp.gt (E.var 1) (E.int 0)))
    (S.block [S.assign (L.var 2) E.nilErr, S.assign (L.fld Fld.isEof) (E.bool true)]) (S.block []),
  S.ret [E.var 1, E.var 2]] }

/-! ## `fields` -/

def fnFsReset : Fn := { params := 0, body := S.block [
  S.call [] FnId.bufReset [],
  S.assign (L.fld Fld.field) E.nilBytes,
  S.assign (L.fld Fld.fieldStart) (E.int 0),
  S.assign (L.fld Fld.hitEOL) (E.bool false)] }

/-- `if err := fs.buffer.more(); err != nil { if err == io.EOF { <the rest of the input is the field> return true }; fs.err = err; return false }` -/
def unqMore : S :=
  S.block [
    S.call [L.var 1] FnId.more [],
    S.ite (E.cmp COp.ne (E.var 1) E.nilErr)
      (S.block [
        S.ite (E.cmp COp.eq (E.var 1) E.eof)
          (S.block [
            S.assign (L.var 2) (E.fld Fld.fieldStart),
            S.assign (L.fld Fld.field) (E.slice (E.fld Fld.data) (E.var 2) (E.var 0)),
            S.assign (L.fld Fld.hitEOL) (E.bool true),
            S.assign (L.fld Fld.err) (E.var 1),
            S.ret [E.bool true]])
          (S.block []),
        S.assign (L.fld Fld.err) (E.var 1),
        S.ret [E.bool false]])
      (S.block [])]

/-- `switch ch { case fs.delimiter: …; case '\n': …; default: continue }` -/
def unqSwitch : S :=
  S.ite (E.cmp COp.eq (E.var 3) (E.fld Fld.delim))
    (S.block [
      S.assign (L.fld Fld.field) (E.slice (E.fld Fld.data) (E.fld Fld.fieldStart) (E.sub (E.var 0) (E.int 1))),
      S.assign (L.fld Fld.fieldStart) (E.var 0),
      S.ret [E.bool true]])
    (S.ite (E.cmp COp.eq (E.var 3) (E.byte 10))
      (S.block [
        S.assign (L.fld Fld.field) (E.slice (E.fld Fld.data) (E.fld Fld.fieldStart) (E.sub (E.var 0) (E.int 1))),
        S.assign (L.fld Fld.hitEOL) (E.bool true),
        S.ret [E.bool true]])
      (S.block [S.cont]))

/-- `ch := fs.buffer.data[cursor]; cursor++; fs.buffer.cursor = cursor; switch ch { … }` -/
def unqTail : List S := [
  S.assign (L.var 3) (E.at (E.fld Fld.data) (E.var 0)),
  S.incr (L.var 0),
  S.assign (L.fld Fld.cursor) (E.var 0),
  unqSwitch]

/-- the body of the loop of `nextUnquotedField` -/
abbrev unqBody : S := S.block (S.ite (E.cmp COp.ge (E.var 0) (E.len (E.fld Fld.data))) unqMore (S.block []) :: unqTail)

/-- variables: 0 `cursor`, 1 `err`, 2 `start`, 3 `ch` -/
def fnUnquoted : Fn := { params := 0, body := S.block [
  S.assign (L.var 0) (E.fld Fld.cursor),
  S.loop unqBody] }

/-- `quoteCount%2 != 0` -/
def qcOdd : E := E.cmp COp.ne (E.rem (E.var 3) (E.int 2)) (E.int 0)

/-- `buffer.data[start:writeCursor]` -/
def qField : E := E.slice (E.fld Fld.data) (E.var 1) (E.var 2)

/-- `err == io.EOF && quoteCount%2 != 0 && buffer.cursor < len(buffer.data) && buffer.data[buffer.cursor] == delimiter` -/
def eofDelim : E :=
  E.and (E.and (E.and (E.cmp COp.eq (E.var 4) E.eof) qcOdd) (E.cmp COp.lt (E.fld Fld.cursor) (E.len (E.fld Fld.data))))
    (E.cmp COp.eq (E.at (E.fld Fld.data) (E.fld Fld.cursor)) (E.var 0))

/-- the body of the look-ahead loop `for buffer.cursor+1 >= len(buffer.data) { if err := buffer.more(); err != nil { … } }` -/
abbrev aheadBody : S := S.block [
  S.ite (E.cmp COp.ge (E.add (E.fld Fld.cursor) (E.int 1)) (E.len (E.fld Fld.data))) S.skip S.brk,
  S.call [L.var 4] FnId.more [],
  S.ite (E.cmp COp.ne (E.var 4) E.nilErr)
    (S.block [
      S.ite eofDelim
        (S.block [S.incr (L.fld Fld.cursor), S.ret [qField, E.bool false, E.nilErr]])
        (S.block []),
      S.ret [qField, E.bool true, E.var 4]])
    (S.block [])]

/-- `switch ch { case delimiter: …; case '\n': …; case '\r': …; case '"': … }` -/
def qSwitch : S :=
  S.ite (E.cmp COp.eq (E.var 5) (E.var 0))
    (S.block [S.ite qcOdd (S.block [S.ret [qField, E.bool false, E.nilErr]]) (S.block [])])
    (S.ite (E.cmp COp.eq (E.var 5) (E.byte 10))
      (S.block [S.ite qcOdd (S.block [S.ret [qField, E.bool true, E.nilErr]]) (S.block [])])
      (S.ite (E.cmp COp.eq (E.var 5) (E.byte 13))
        (S.block [S.ite qcOdd (S.block [S.cont]) (S.block [])])
        (S.ite (E.cmp COp.eq (E.var 5) (E.byte 34))
          (S.block [S.incr (L.var 3), S.ite (E.cmp COp.eq (E.rem (E.var 3) (E.int 2)) (E.int 1)) (S.block [S.cont]) (S.block [])])
          (S.block []))))

/-- `quoteCount = 0; writeCursor++; if writeCursor != buffer.cursor { copy(data[writeCursor:writeCursor+1], data[cursor:cursor+1]) }` -/
def qKeep : List S := [
  S.assign (L.var 3) (E.int 0),
  S.incr (L.var 2),
  S.ite (E.cmp COp.ne (E.var 2) (E.fld Fld.cursor))
    (S.block [S.copy (E.slice (E.fld Fld.data) (E.var 2) (E.add (E.var 2) (E.int 1)))
                     (E.slice (E.fld Fld.data) (E.fld Fld.cursor) (E.add (E.fld Fld.cursor) (E.int 1)))])
    (S.block [])]

/-- what follows the look-ahead in a round of the loop of `nextQuotedField` -/
abbrev qRest : S := S.block ([
  S.assign (L.var 5) (E.at (E.fld Fld.data) (E.fld Fld.cursor)),
  S.incr (L.fld Fld.cursor),
  qSwitch] ++ qKeep)

/-- the body of the loop of `nextQuotedField` -/
abbrev qBody : S := S.seq (S.loop aheadBody) qRest

/-- variables: 0 `delimiter` (the parameter), 1 `start`, 2 `writeCursor`, 3 `quoteCount`, 4 `err`, 5 `ch` -/
def fnQuoted : Fn := { params := 1, body := S.block [
  S.incr (L.fld Fld.cursor),
  S.assign (L.var 1) (E.fld Fld.cursor),
  S.assign (L.var 2) (E.fld Fld.cursor),
  S.assign (L.var 3) (E.int 0),
  S.loop qBody] }

/-- `if fs.buffer.cursor >= len(fs.buffer.data) { if err := fs.buffer.more(); err != nil { … } }` of `fields.next` -/
def nextMore : S :=
  S.ite (E.cmp COp.ge (E.fld Fld.cursor) (E.len (E.fld Fld.data)))
    (S.block [
      S.call [L.var 0] FnId.more [],
      S.ite (E.cmp COp.ne (E.var 0) E.nilErr)
        (S.block [
          S.assign (L.fld Fld.err) (E.var 0),
          S.ite (E.and (E.cmp COp.eq (E.var 0) E.eof) (E.cmp COp.gt (E.fld Fld.fieldStart) (E.int 0)))
            (S.block [
              S.assign (L.fld Fld.field) (E.slice (E.fld Fld.data) (E.fld Fld.fieldStart) (E.fld Fld.fieldStart)),
              S.assign (L.fld Fld.hitEOL) (E.bool true),
              S.ret [E.bool true]])
            (S.block []),
          S.ret [E.bool false]])
        (S.block [])])
    (S.block [])

/-- `if first := fs.buffer.data[fs.buffer.cursor]; first == '"' { <quoted field> }; return fs.nextUnquotedField()` -/
def nextGoPart : List S := [
  S.assign (L.var 1) (E.at (E.fld Fld.data) (E.fld Fld.cursor)),
  S.ite (E.cmp COp.eq (E.var 1) (E.byte 34))
    (S.block [
      S.call [L.fld Fld.field, L.fld Fld.hitEOL, L.fld Fld.err] FnId.quoted [E.fld Fld.delim],
      S.assign (L.fld Fld.fieldStart) (E.fld Fld.cursor),
      S.ret [E.or (E.cmp COp.eq (E.fld Fld.err) E.nilErr) (E.cmp COp.eq (E.fld Fld.err) E.eof)]])
    (S.block []),
  S.retCall FnId.unquoted []]

def fnFsNext : Fn := { params := 0, body := S.block (
  S.ite (E.fld Fld.hitEOL) (S.block [S.ret [E.bool false]]) (S.block []) ::
  nextMore ::
  nextGoPart) }

/-! ## `Reader` -/

/-- the body of `for r.fields.next() { r.fieldsBuffer = append(r.fieldsBuffer, r.fields.field) }` -/
abbrev rowBody : S := S.block [
  S.call [L.var 0] FnId.fsNext [],
  S.ite (E.var 0) S.skip S.brk,
  S.assign (L.fld Fld.row) (E.snoc (E.fld Fld.row) (E.fld Fld.field))]

/-- the CRLF rule: a `\r` at the end of the last field is dropped -/
def trimPart : S :=
  S.ite (E.cmp COp.gt (E.len (E.fld Fld.row)) (E.int 0))
    (S.block [
      S.assign (L.var 1) (E.at (E.fld Fld.row) (E.sub (E.len (E.fld Fld.row)) (E.int 1))),
      S.ite (E.and (E.cmp COp.gt (E.len (E.var 1)) (E.int 0)) (E.cmp COp.eq (E.at (E.var 1) (E.sub (E.len (E.var 1)) (E.int 1))) (E.byte 13)))
        (S.block [
          S.assign (L.var 1) (E.sliceTo (E.var 1) (E.sub (E.len (E.var 1)) (E.int 1))),
          S.setRowAt (E.sub (E.len (E.fld Fld.row)) (E.int 1)) (E.var 1)])
        (S.block [])])
    (S.block [])

/-- `if len(r.fieldsBuffer) == 0 { if r.fields.err == nil { r.fields.err = io.EOF }; return false }` -/
def blankPart : S :=
  S.ite (E.cmp COp.eq (E.len (E.fld Fld.row)) (E.int 0))
    (S.block [
      S.ite (E.cmp COp.eq (E.fld Fld.err) E.nilErr) (S.block [S.assign (L.fld Fld.err) E.eof]) (S.block []),
      S.ret [E.bool false]])
    (S.block [])

/-- what follows the row loop in `Reader.Next` -/
def rdTail : List S := [trimPart, blankPart, S.ret [E.bool true]]

def fnRdNext : Fn := { params := 0, body := S.block (
  S.ite (E.cmp COp.ne (E.fld Fld.err) E.nilErr) (S.block [S.ret [E.bool false]]) (S.block []) ::
  S.call [] FnId.fsReset [] ::
  S.assign (L.fld Fld.row) (E.sliceTo (E.fld Fld.row) (E.int 0)) ::
  S.loop rowBody ::
  rdTail) }

def fnRdErr : Fn := { params := 0, body := S.block [
  S.ite (E.cmp COp.ne (E.fld Fld.err) E.eof) (S.block [S.ret [E.fld Fld.err]]) (S.block []),
  S.ret [E.nilErr]] }

def fnRdRead : Fn := { params := 0, body := S.block [
  S.call [L.var 0] FnId.rdNext [],
  S.ite (E.var 0) (S.block [S.ret [E.fld Fld.row, E.nilErr]]) (S.block []),
  S.ret [E.nilRows, E.fld Fld.err]] }

def fnNewReader : Fn := { params := 2, body := S.block [
  S.assign (L.var 0) (E.wrap (E.var 0)),
  S.ret [E.mkReader (E.var 0) (E.make (E.int 0) (E.int 1024)) (E.var 1) (E.makeRows (E.int 0) (E.int 16))]] }

def canonFns : List (FnId × Fn) := [
  (FnId.more, fnMore),
  (FnId.bufReset, fnBufReset),
  (FnId.fsReset, fnFsReset),
  (FnId.unquoted, fnUnquoted),
  (FnId.quoted, fnQuoted),
  (FnId.fsNext, fnFsNext),
  (FnId.rdNext, fnRdNext),
  (FnId.rdErr, fnRdErr),
  (FnId.rdRead, fnRdRead),
  (FnId.wrapRead, fnWrapRead),
  (FnId.newReader, fnNewReader)]

theorem gen_csv_no_opaque : ∀ p ∈ Gen.csvFns, p.2.body.hasOpaque = false := by decide

theorem gen_csv_canon : Gen.csvFns = canonFns := by decide

end QF.Props.C12CsvGen
