import QF.Gen.Ryu
/-!
# C16 — the Ryu multiplier tables extracted from internal/ryu/tables.go are correct

`pow5Split64[i]` must be the 121-bit truncation of 5^i and `pow5InvSplit64[i]` the 122-bit rounded-up reciprocal.
Both tables (326 + 292 entries of 128 bits) are checked completely inside the kernel, each in one pass (`sweep`); the
per-exponent checks of `C16PrecisionCheck` read the tables with the same pass.
-/
namespace QF.Props.C16
open QF.Gen

def bitlen (n : Nat) : Nat := if n = 0 then 0 else Nat.log2 n + 1
def val (p : Nat × Nat) : Nat := p.1 + p.2 * 2 ^ 64

def splitOk (i : Nat) : Bool := val pow5Split64[i]! == 5 ^ i * 2 ^ 121 / 2 ^ bitlen (5 ^ i)
def invOk (i : Nat) : Bool := val pow5InvSplit64[i]! == 2 ^ (bitlen (5 ^ i) - 1 + 122) / 5 ^ i + 1

/-- One pass over a table: `l` is the table from index `i` on, and for each of the `n` steps `e, e + 1, …` the entry with
index `f e` is handed to the check `p e`, together with two flags: the step before read the same entry, the step after will
(the last step is told so about a step that is not made).
The indices `f e` must not decrease: the pass moves on by `f e − i` entries and never looks back. (The kernel evaluates `t[i]`
by walking the list from its head; here a look-up costs the distance to the previous one.) -/
def sweep {α : Type} (p : Nat → Bool → Bool → α → Bool) (f : Nat → Nat) : List α → Nat → Nat → Nat → Bool
  | _, _, _, 0 => true
  | l, i, e, n + 1 =>
    match l.drop (f e - i) with
    | [] => false
    | a :: l' =>
      Nat.ble i (f e) && p e (Nat.blt 0 e && Nat.beq (f e) i) (Nat.beq (f (e + 1)) (f e)) a &&
        sweep p f (a :: l') (f e) (e + 1) n

theorem sweep_drop {α : Type} {p : Nat → Bool → Bool → α → Bool} {f : Nat → Nat} (t : List α) :
    ∀ n i e, (0 < e → i = f (e - 1)) → sweep p f (t.drop i) i e n = true → ∀ j, e ≤ j → j < e + n →
      ∃ a, t[f j]? = some a ∧
        p j (Nat.blt 0 j && Nat.beq (f j) (f (j - 1))) (Nat.beq (f (j + 1)) (f j)) a = true
  | 0, _, _, _, _, j, h1, h2 => by omega
  | n + 1, i, e, he, h, j, h1, h2 => by
    unfold sweep at h
    rw [List.drop_drop] at h
    split at h
    · cases h
    · rename_i a l' hd
      simp only [Bool.and_eq_true, Nat.ble_eq] at h
      obtain ⟨⟨hi, hp⟩, hrec⟩ := h
      rw [show i + (f e - i) = f e by omega] at hd
      by_cases hj : j = e
      · subst hj
        refine ⟨a, by rw [← List.head?_drop, hd]; rfl, ?_⟩
        have h1 : (Nat.blt 0 j && Nat.beq (f j) i) = (Nat.blt 0 j && Nat.beq (f j) (f (j - 1))) := by
          by_cases h0 : 0 < j
          · rw [he h0]
          · rw [show j = 0 by omega]; rfl
        rw [← h1]; exact hp
      · rw [← hd] at hrec
        exact sweep_drop t n (f e) (e + 1) (fun _ => by rw [Nat.add_sub_cancel]) hrec j (by omega) (by omega)

/-- what a successful pass over the whole table says about `Array.getD`, the look-up the model uses -/
theorem sweep_sound {α : Type} {p : Nat → Bool → Bool → α → Bool} {f : Nat → Nat} {t : Array α} {n : Nat} (d : α)
    (h : sweep p f t.toList 0 0 n = true) (j : Nat) (hj : j < n) :
    p j (Nat.blt 0 j && Nat.beq (f j) (f (j - 1))) (Nat.beq (f (j + 1)) (f j)) (t.getD (f j) d) = true := by
  obtain ⟨a, ha, hp⟩ := sweep_drop t.toList n 0 0 (fun h => absurd h (Nat.lt_irrefl 0)) h j (Nat.zero_le j) (by omega)
  rw [Array.getD_eq_getD_getElem?, ← Array.getElem?_toList, ha]
  exact hp

theorem tables_sizes : pow5Split64.size = 326 ∧ pow5InvSplit64.size = 292 := by decide +kernel

/-- `b` is the bit length of `n`, as two comparisons of literals (`Nat.log2` the kernel would have to unfold bit by bit) -/
def hasBits (n b : Nat) : Bool := Nat.ble (2 ^ (b - 1)) n && Nat.blt n (2 ^ b)

theorem bitlen_of_hasBits {n b : Nat} (h : hasBits n b = true) : bitlen n = b := by
  unfold hasBits at h
  simp only [Bool.and_eq_true, Nat.ble_eq, Nat.blt_eq] at h
  have hn : n ≠ 0 := by have := Nat.two_pow_pos (b - 1); omega
  have h1 := (Nat.le_log2 hn).mpr h.1
  have h2 := (Nat.log2_lt hn).mpr h.2
  unfold bitlen
  rw [if_neg hn]
  omega

/-- `⌊i · log2 5⌋ + 1` with the approximation of `log2 5` that ryu.go's `pow5Bits` uses: the bit length of `5^i` for the
indices of the tables, which the passes below confirm entry by entry (`hasBits`) -/
def bits5 (i : Nat) : Nat := i * 1217359 / 2 ^ 19 + 1

/-- every entry of `pow5Split64` is ⌊5^i · 2^121 / 2^bitlen(5^i)⌋ -/
theorem pow5Split64_correct : (List.range 326).all splitOk = true := by
  have h : sweep (fun i _ _ a => hasBits (5 ^ i) (bits5 i) && val a == 5 ^ i * 2 ^ 121 / 2 ^ bits5 i) id
      pow5Split64.toList 0 0 326 = true := by decide +kernel
  exact List.all_eq_true.mpr fun i hi => by
    have := sweep_sound default h i (List.mem_range.mp hi)
    simp only [Bool.and_eq_true] at this
    unfold splitOk
    rw [bitlen_of_hasBits this.1, Array.getElem!_eq_getD]
    exact this.2

/-- every entry of `pow5InvSplit64` is ⌊2^(bitlen(5^i) − 1 + 122) / 5^i⌋ + 1 -/
theorem pow5InvSplit64_correct : (List.range 292).all invOk = true := by
  have h : sweep (fun i _ _ a => hasBits (5 ^ i) (bits5 i) && val a == 2 ^ (bits5 i - 1 + 122) / 5 ^ i + 1) id
      pow5InvSplit64.toList 0 0 292 = true := by decide +kernel
  exact List.all_eq_true.mpr fun i hi => by
    have := sweep_sound default h i (List.mem_range.mp hi)
    simp only [Bool.and_eq_true] at this
    unfold invOk
    rw [bitlen_of_hasBits this.1, Array.getElem!_eq_getD]
    exact this.2

theorem bit_counts : pow5NumBits64 = "121" ∧ pow5InvNumBits64 = "122" := by decide

end QF.Props.C16
