import QF.Props.Tie
/-! # C09 -/
namespace QF.Props.C09

-- No function of this property is tied by its source text (the list below is empty). Each is regenerated on every run and a
-- behaviour-changing edit makes a `gen_*_canon` theorem fail (checked by bin/selftest-ties); renaming locals or reformatting changes nothing.
-- `QFrame.Equals`: `Gen.guardAst2`, `C10Guards.gen_guards2_canon` + `gen_equals_semantics`. `QFrame.Len`: `Gen.lenAst`, `C08Guards.gen_len_canon` + `gen_len_semantics`.
-- `Column.Equals` of the five column packages: `Gen.equalsAst`, `C09Observe.gen_equals_canon` + `gen_equals_eq_spec`.
-- The typed views: `Gen.view*Ast` (`C09ViewsGen.gen_view_semantics`).
theorem tie : Tie.sameAll [] = true := by decide

end QF.Props.C09
