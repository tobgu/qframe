import QF.Props.C16LinkScale
import QF.Props.C16LinkText
import QF.Props.C16CoreCheck
/-!
# C16 — the link: Ryu's decimal, laid out by `appendF`, satisfies `Num.isShortestRoundTrip`

The three ingredients proved separately —
* `C16Round`: `Num.ofDecimal` is IEEE round-to-nearest-even (`ofDecimal_correct`, `isNearest_unique`),
* `C16Core*`: the mirror of the Ryu core returns a decimal satisfying `Spec` (`ryu_shortest_partial`, `exactInt_spec`),
* `C16Layouts` / `AppendF`: the digit layouts of `dec64.appendF`,
are joined here into the statement of property C16 in its own words: the text written for a finite non-zero float64 passes
`Num.isShortestRoundTrip`, the executable check the replay driver applies to the implementation's output (canonical
positional form, parses back to the identical bits, no decimal with fewer digits does, closest among that length).

* `inInterval_iff_ofDecimal`, `interval_iff_roundtrip` (in `C16LinkInterval`): in the rounding interval ⇔ `ofDecimal` returns the float.
* `shortest_of_spec` (in `C16LinkScale`): `Spec` in units of `10^e10` ⇒ `Shortest` for the decimal `m·10^e`.
* `isShortest_of_shortest`: `Shortest` ⇒ `isShortestRoundTrip` of the positional text (clause by clause, `isShortest_intro`).
* `text_of_shortest`: the same for what `appendF` writes on any buffer, with `parsesTo` and its uniqueness; every statement
  about the pipeline below is this lemma applied to a proof of `Shortest` for the magnitude.
* `spec_implies_isShortest` (from `shortest_mag_of_spec`), `ryu_text_is_shortest_partial` (from `decimal_shortest_of`): the
  mirror pipeline `Ryu64.decimal` ∘ `appendF`, every sign, general algorithm (under the three exact-floor hypotheses of
  `ryu_shortest_partial`) and exact-integer fast path (`shortest_of_exactInt`, no hypothesis).
-/
namespace QF.Props.C16Link
open QF.Num QF.Ryu64 QF.Props.C16Round QF.Props.C16Core

/-! ## `isShortestRoundTrip`, clause by clause -/

theorem pair_eq (c : Nat) (sd : Int) :
    (if sd ≥ 0 then (c * 10 ^ sd.toNat, 1) else (c, 10 ^ (-sd).toNat)) = (decNum c sd, decDen sd) := by
  unfold decNum decDen; split <;> rfl
theorem vnum_eq (M : Nat) (E : Int) : (if E ≥ 0 then M * 2 ^ E.toNat else M) = dyNum M E := rfl
theorem vden_eq (E : Int) : (if E ≥ 0 then 1 else 2 ^ (-E).toNat) = dyDen E := rfl
theorem ite_absDiff (a b : Nat) : (if a ≥ b then a - b else b - a) = absDiff a b := by
  unfold absDiff; split <;> omega

theorem shorter_false (neg : Bool) (bits : UInt64) (p : Int) (hlo : ∀ lo, lo ≠ 0 → ofDecimal neg lo p ≠ bits) (lo : Nat) :
    ((lo != 0 && ofDecimal neg lo p == bits) || ofDecimal neg (lo + 1) p == bits) = false := by
  have h2 : (ofDecimal neg (lo + 1) p == bits) = false := by
    rw [beq_eq_false_iff_ne]; exact hlo _ (by omega)
  rw [h2, Bool.or_false]
  by_cases h : lo = 0
  · subst h; rfl
  · have h1 : (ofDecimal neg lo p == bits) = false := by
      rw [beq_eq_false_iff_ne]; exact hlo _ h
    rw [h1, Bool.and_false]

theorem closer_false (neg : Bool) (bits : UInt64) (dy : Num.Dyadic) (sm : Nat) (sd : Int)
    (hclose : ∀ c, ofDecimal neg c sd = bits → ¬ distNum dy c sd < distNum dy sm sd) (c : Nat) :
    (ofDecimal neg c sd == bits && decide (distNum dy c sd < distNum dy sm sd)) = false := by
  by_cases h : ofDecimal neg c sd = bits
  · have := hclose c h
    rw [decide_eq_false this, Bool.and_false]
  · have h1 : (ofDecimal neg c sd == bits) = false := by rw [beq_eq_false_iff_ne]; exact h
    rw [h1, Bool.false_and]

/-- `isShortestRoundTrip bits text` holds as soon as each of its clauses does: the text is canonical, it parses to
`(neg, m, d)`, `ofDecimal neg m d = bits`, and with `(sm, sd)` the digits without trailing zeros: no non-zero multiple of
`10^(sd+1)` parses back to `bits` (in particular not the two candidates `lo`, `hi` the check tries), and no `c·10^sd` that
parses back is strictly closer to the exact value than `sm·10^sd` (in particular not `sm ± 1`). -/
theorem isShortest_intro (neg : Bool) (bits : UInt64) (text : List UInt8) (dy : Num.Dyadic) (m : Nat) (d : Int) (sm : Nat)
    (sd : Int) (hc : canonicalForm text = true) (hp : parsePositional text = some (neg, m, d))
    (hd : decode bits = some dy) (ho : ofDecimal neg m d = bits) (h0 : dy.m ≠ 0) (hn : normalize m d = (sm, sd))
    (hlo : ∀ lo, lo ≠ 0 → ofDecimal neg lo (sd + 1) ≠ bits)
    (hclose : ∀ c, ofDecimal neg c sd = bits → ¬ distNum dy c sd < distNum dy sm sd) :
    isShortestRoundTrip bits text = true := by
  unfold isShortestRoundTrip
  rw [hc, hp, hd]
  have h0' : (dy.m == 0) = false := beq_eq_false_iff_ne.mpr h0
  simp only [Bool.true_and, ho, bne_self_eq_false, Bool.false_eq_true, if_false, hn, h0']
  -- `split` here would run `simp` over the whole zeta-expanded body
  by_cases hk : numDigits sm ≤ 1
  · exact if_pos hk
  rw [if_neg hk, shorter_false neg bits (sd + 1) hlo, if_neg Bool.false_ne_true]
  simp only [pair_eq, vnum_eq, vden_eq, ite_absDiff]
  rw [← distNum, ← distNum, ← distNum, closer_false neg bits dy sm sd hclose, closer_false neg bits dy sm sd hclose,
    Bool.and_false]
  rfl

/-- `decimalLen64 v` is the number of decimal digits of `v` for `0 < v < 2^57`; Ryu's output is below `2^57` (`Shortest.lt`) -/
theorem decimalLen64_spec57 (v : Nat) (h0 : v ≠ 0) (h : v < 2 ^ 57) :
    10 ^ (decimalLen64 v - 1) ≤ v ∧ v < 10 ^ decimalLen64 v :=
  decimalLen64_spec_lt57 v h0 h

theorem decimalLen64_pos (v : Nat) (h0 : v ≠ 0) (h : v < 2 ^ 57) : 1 ≤ decimalLen64 v := by
  obtain ⟨_, h2⟩ := decimalLen64_spec57 v h0 h
  apply Nat.pos_of_ne_zero; intro hz
  rw [hz] at h2; simp at h2; omega

/-- `ofDecimal` depends on the decimal only through its value `decNum / decDen` -/
theorem ofDecimal_congr (neg : Bool) (m m' : Nat) (d d' : Int) (h1 : decNum m d = decNum m' d')
    (h2 : decDen d = decDen d') (h3 : m = 0 ↔ m' = 0) : ofDecimal neg m d = ofDecimal neg m' d' := by
  rw [ofDecimal_unfold neg m d, ofDecimal_unfold neg m' d', h1, h2]
  by_cases h : m = 0
  · rw [if_pos h, if_pos (h3.mp h)]
  · rw [if_neg h, if_neg (fun h' => h (h3.mpr h'))]

/-- what `parsePositional` reads from the positional text (trailing zeros of the integer layout folded into the mantissa)
denotes the same value as `m·10^e` -/
theorem ofDecimal_repr (neg : Bool) (m : Nat) (e : Int) :
    ofDecimal neg (if e ≥ 0 then m * 10 ^ e.toNat else m) (if e ≥ 0 then 0 else e) = ofDecimal neg m e := by
  by_cases h : e ≥ 0
  · rw [if_pos h, if_pos h]
    apply ofDecimal_congr
    · unfold decNum; rw [if_pos h, if_pos (by decide)]
      show m * 10 ^ e.toNat * 10 ^ 0 = _
      rw [Nat.pow_zero, Nat.mul_one]
    · unfold decDen; rw [if_pos h, if_pos (by decide)]
    · have : 0 < 10 ^ e.toNat := Nat.pow_pos (by decide)
      constructor
      · intro hm; exact (Nat.mul_eq_zero.mp hm).resolve_right (by omega)
      · intro hm; rw [hm, Nat.zero_mul]
  · rw [if_neg h, if_neg h]

set_option exponentiation.threshold 2000 in
/-- a decimal `m·10^e`, `m > 0`, in the rounding interval of a finite float has `e ≤ 400`: from `10^401` on it is above the
overflow threshold -/
theorem inInterval_exp_le (b : UInt64) (dy : Num.Dyadic) (F : Fields b dy) (m : Nat) (e : Int) (hm : 0 < m)
    (h : InInterval b m e) : e ≤ 400 := by
  by_cases he : e ≤ 400
  · exact he
  refine absurd ?_ (isNearest_not_overflow (decDen_pos e) ((inInterval_iff_isNearest b dy F m e).mp h))
  unfold Overflows decNum decDen
  rw [if_pos (by omega), if_pos (by omega), Nat.mul_one]
  have h1 : 10 ^ 400 ≤ m * 10 ^ e.toNat :=
    Nat.le_trans (Nat.pow_le_pow_right (by decide) (by omega)) (Nat.le_mul_of_pos_left _ hm)
  have h2 : (2 ^ 54 - 1) * 2 ^ 971 ≤ 2 * 10 ^ 400 := by decide
  omega

/-! ## from `Shortest` to `isShortestRoundTrip` -/

/-- the positional text `dec64.appendF` writes for `m·10^e`: the digit count is `decimalLen64 m` -/
def positional (m : Nat) (e : Int) : List UInt8 := positionalL (decimalLen64 m) m e

/-! ### the sign -/

theorem ite_none_some {α : Type} (c : Prop) [Decidable c] (v w : α) (h : (if c then none else some v) = some w) :
    ¬ c ∧ v = w := by
  by_cases hc : c
  · rw [if_pos hc] at h; cases h
  · rw [if_neg hc] at h; exact ⟨hc, Option.some.inj h⟩

/-- a text that parses with positive sign does not start with `'-'` -/
theorem not_neg_of_parse (t : List UInt8) (m : Nat) (d : Int) (h : parsePositional t = some (false, m, d)) :
    ∀ r, t = 45 :: r → False := by
  intro r hr
  subst hr
  unfold parsePositional at h
  simp only [] at h
  have := (ite_none_some _ _ _ h).2
  injection this with h1 h2
  cases h1

theorem parsePositional_neg (t : List UInt8) (m : Nat) (d : Int) (h : parsePositional t = some (false, m, d)) :
    parsePositional (45 :: t) = some (true, m, d) := by
  have hs := not_neg_of_parse t m d h
  unfold parsePositional at h ⊢
  simp only [] at h ⊢
  obtain ⟨hc, hv⟩ := ite_none_some _ _ _ h
  rw [if_neg hc]
  injection hv with h1 h2
  rw [h2]

theorem canonicalForm_neg (t : List UInt8) (hs : ∀ r, t = 45 :: r → False) :
    canonicalForm (45 :: t) = canonicalForm t := by
  unfold canonicalForm
  simp only []

/-- the float without its sign bit -/
def magBits (b : UInt64) : UInt64 := UInt64.ofNat (b.toNat % 2 ^ 63)

theorem magBits_toNat (b : UInt64) : (magBits b).toNat = b.toNat % 2 ^ 63 := by
  unfold magBits; rw [UInt64.toNat_ofNat']; omega

theorem mantOf_magBits (b : UInt64) : mantOf (magBits b) = mantOf b := by
  unfold mantOf; rw [magBits_toNat]; exact Nat.mod_mod_of_dvd _ ⟨2 ^ 11, rfl⟩
theorem expOf_magBits (b : UInt64) : expOf (magBits b) = expOf b := by
  unfold expOf
  rw [magBits_toNat, show 2 ^ 63 = 2 ^ 52 * 2048 from rfl, Nat.mod_mul_right_div_self, Nat.mod_mod]

theorem decode_magBits (b : UInt64) (dy : Num.Dyadic) (h : decode b = some dy) :
    decode (magBits b) = some ⟨false, dy.m, dy.e⟩ := by
  have hs : (magBits b).toNat / 2 ^ 63 = 0 := by
    rw [magBits_toNat]; exact Nat.div_eq_of_lt (Nat.mod_lt _ (Nat.two_pow_pos 63))
  rw [decode_of_parts (magBits b) 0 (expOf b) (mantOf b) hs (expOf_magBits b) (mantOf_magBits b)]
  rcases decode_some h with ⟨h1, d⟩ | ⟨h1, h2, d⟩
  · rw [show expOf b = 0 from h1, d]; rfl
  · rw [beq_eq_false_iff_ne.mpr (show expOf b ≠ 2047 from h2), beq_eq_false_iff_ne.mpr (show expOf b ≠ 0 from h1), d]; rfl

/-- the sign bit is in neither field: `Shortest` for the magnitude is `Shortest` for the float -/
theorem shortest_mag_iff (b : UInt64) (dy : Num.Dyadic) (m : Nat) (e : Int) :
    Shortest (magBits b) ⟨false, dy.m, dy.e⟩ m e ↔ Shortest b dy m e := by
  have hI : ∀ n e, InInterval (magBits b) n e ↔ InInterval b n e := fun n e => by
    unfold InInterval; rw [mantOf_magBits, expOf_magBits]
  exact ⟨fun S => ⟨S.pos, S.nz, S.lt, (hI _ _).mp S.inI, fun n h => S.none_shorter n ((hI _ _).mpr h),
      fun n h => S.closest n ((hI _ _).mpr h)⟩,
    fun S => ⟨S.pos, S.nz, S.lt, (hI _ _).mpr S.inI, fun n h => S.none_shorter n ((hI _ _).mp h),
      fun n h => S.closest n ((hI _ _).mp h)⟩⟩

/-- **`Shortest` ⇒ `isShortestRoundTrip`**, for either sign: if `m·10^e` is in the rounding interval of the magnitude of the
finite non-zero float `b`, has no shorter competitor and no closer competitor of its length (`Shortest`), then the text
`[-]positional m e` passes the executable check `Num.isShortestRoundTrip b`, clause by clause: canonical form
(`canonicalForm_positionalL`), parse/layout round trip (`parsePositional_positionalL`, `normalize_positional`),
`ofDecimal = bits` (`inInterval_iff_ofDecimal`), the two shorter candidates, the closeness test. It also passes `parsesTo`. -/
theorem isShortest_of_shortest (b : UInt64) (dy : Num.Dyadic) (hd : decode b = some dy) (h0 : dy.m ≠ 0) (m : Nat) (e : Int)
    (S : Shortest (magBits b) ⟨false, dy.m, dy.e⟩ m e) :
    isShortestRoundTrip b ((if dy.neg then [45] else []) ++ positional m e) = true ∧
    parsesTo b ((if dy.neg then [45] else []) ++ positional m e) = true := by
  replace S := (shortest_mag_iff b dy m e).mp S
  have F := fields_of_decode b dy hd h0
  have hm0 : m ≠ 0 := by have := S.pos; omega
  obtain ⟨hlo, hhi⟩ := decimalLen64_spec57 m hm0 S.lt
  have hL := decimalLen64_pos m hm0 S.lt
  have iff := inInterval_iff_ofDecimal b dy hd h0
  have he := inInterval_exp_le b _ F m e S.pos S.inI
  have hc0 := canonicalForm_positionalL _ m e hL hlo hhi S.nz
  have hp0 := parsePositional_positionalL _ m e hL hlo hhi
  have hc : canonicalForm ((if dy.neg then [45] else []) ++ positional m e) = true := by
    cases dy.neg with
    | false => exact hc0
    | true => exact (canonicalForm_neg _ (not_neg_of_parse _ _ _ hp0)).trans hc0
  have hp : parsePositional ((if dy.neg then [45] else []) ++ positional m e) =
      some (dy.neg, (if e ≥ 0 then m * 10 ^ e.toNat else m), (if e ≥ 0 then 0 else e)) := by
    cases dy.neg with
    | false => exact hp0
    | true => exact parsePositional_neg _ _ _ hp0
  have ho : ofDecimal dy.neg (if e ≥ 0 then m * 10 ^ e.toNat else m) (if e ≥ 0 then 0 else e) = b := by
    rw [ofDecimal_repr]; exact (iff m e).mp S.inI
  refine ⟨?_, parsesTo_iff.mpr ⟨_, _, _, hp, ho⟩⟩
  apply isShortest_intro dy.neg b _ dy _ _ m e hc hp hd ho h0 (normalize_positional m e hm0 S.nz he)
  · intro lo _ hb
    exact S.none_shorter lo ((iff lo (e + 1)).mpr hb)
  · intro c hb
    exact Nat.not_lt.mpr (S.closest c ((iff c e).mpr hb))

/-! ## the mirror of `dec64.appendF` (`appendFMag`, `appendF`: defined in C16Layouts) -/

theorem appendFMag_content (buf : AF.Buf) (m : Nat) (e : Int) (extra0 extra : List AF.Byte)
    (hm : m < 10 ^ decimalLen64 m) :
    (appendFMag buf m e extra0 extra).content = buf.content ++ positional m e := by
  unfold appendFMag positional positionalL
  by_cases h : e ≥ 0
  · rw [if_pos h, if_pos h, AF.layoutInt_spec, List.append_assoc]
  · rw [if_neg h, if_neg h, C16.appendFNeg_spec _ _ _ _ _ _ hm]
    split
    · simp only [List.append_assoc]
    · simp only [List.append_assoc]

/-- what `appendF` writes behind the old content, for every buffer state: the sign and the positional text -/
theorem appendF_content (buf : AF.Buf) (neg : Bool) (m : Nat) (e : Int) (extraS extra0 extra : List AF.Byte)
    (hm : m < 10 ^ decimalLen64 m) :
    (appendF buf neg m e extraS extra0 extra).content =
      buf.content ++ ((if neg then [45] else []) ++ positional m e) := by
  unfold appendF
  rw [appendFMag_content _ _ _ _ _ hm]
  cases neg with
  | false => simp
  | true => simp [C16.appendBytes_content]

/-! ## `Spec` ⇒ `isShortestRoundTrip` -/

/-- a `Shortest` decimal for the magnitude of `b`, written by `appendF` with the sign of `b` on any buffer: the text passes both
checks, and (`C16Round.parsesTo_unique`) every finite float of the text's sign that is a nearest-even rounding of the number
it denotes is `b` -/
theorem text_of_shortest (b : UInt64) (dy : Num.Dyadic) (hd : decode b = some dy) (h0 : dy.m ≠ 0) (m : Nat) (e : Int)
    (S : Shortest (magBits b) ⟨false, dy.m, dy.e⟩ m e) (buf : AF.Buf) (extraS extra0 extra : List AF.Byte) :
    ∃ text, (appendF buf dy.neg m e extraS extra0 extra).content = buf.content ++ text ∧
      isShortestRoundTrip b text = true ∧ parsesTo b text = true ∧
      ∀ (bits' : UInt64) (dy' : Num.Dyadic) (neg : Bool) (m : Nat) (d : Int),
        parsePositional text = some (neg, m, d) → decode bits' = some dy' → dy'.neg = neg →
        IsNearest (decNum m d) (decDen d) dy'.m dy'.e → bits' = b := by
  have hm0 : m ≠ 0 := Nat.ne_of_gt S.pos
  obtain ⟨r1, r2⟩ := isShortest_of_shortest b dy hd h0 m e S
  exact ⟨_, appendF_content buf dy.neg m e extraS extra0 extra (decimalLen64_spec57 m hm0 S.lt).2, r1, r2,
    fun _ _ _ _ _ hp hd' hs hn => parsesTo_unique r2 hp hd' hs hn⟩

/-- `shortest_of_spec` for the magnitude, from `SpecOf b` (the sign bit is in neither field) -/
theorem shortest_mag_of_spec (b : UInt64) (dy : Num.Dyadic) (hd : decode b = some dy) (h0 : dy.m ≠ 0) (out k : Nat)
    (hS : SpecOf b out k) : Shortest (magBits b) ⟨false, dy.m, dy.e⟩ out (e10Of (expOf b) + (k : Int)) :=
  (shortest_mag_iff b dy _ _).mpr (shortest_of_spec b dy hd h0 out k hS)

/-- **`spec_implies_isShortest`.** Let `b` be a finite non-zero float64 (either sign) and `b0` its magnitude. If `Spec A B C D
incl out k` holds with `A, B, C, D, incl` as in `ryu_shortest_partial` for the fields of `b0` — `out·10^k`, in units of
`10^e10`, lies in the rounding interval `[A/D, C/D]`, no decimal with fewer digits does, none of that length is closer to
`B/D` — then the text `appendF` (the layout mirror of `C16Layouts` / `AppendF`, for every state of the output buffer) writes
for the sign of `b` and the decimal `(out, e10 + k)` satisfies `Num.isShortestRoundTrip b`. -/
theorem spec_implies_isShortest (b : UInt64) (dy : Num.Dyadic) (hd : decode b = some dy) (h0 : dy.m ≠ 0) (out k : Nat)
    (hS : Spec (mmOf (decodeM2 (mantOf b) (expOf b)) (mmShiftOf (mantOf b) (expOf b)) * scaleNum (expOf b))
      (mvOf (decodeM2 (mantOf b) (expOf b)) * scaleNum (expOf b))
      (mpOf (decodeM2 (mantOf b) (expOf b)) * scaleNum (expOf b)) (scaleDen (expOf b))
      (acceptBoundsOf (mantOf b) (expOf b)) out k)
    (buf : AF.Buf) (extraS extra0 extra : List AF.Byte) :
    ∃ text, (appendF buf dy.neg out (e10Of (expOf b) + (k : Int)) extraS extra0 extra).content = buf.content ++ text ∧
      isShortestRoundTrip b text = true ∧ parsesTo b text = true := by
  obtain ⟨text, h1, h2, h3, _⟩ :=
    text_of_shortest b dy hd h0 out _ (shortest_mag_of_spec b dy hd h0 out k hS) buf extraS extra0 extra
  exact ⟨text, h1, h2, h3⟩

/-! ## the exact-integer fast path -/

/-- when the unit `den·2^E` of the comparisons is 1 (an integer against a float with `E ≤ 0`, both counted in `2^E`s),
rounding to `M` is being equal to it -/
theorem isNearest_iff_eq_of_unit {num den M : Nat} {E : Int} (hm : M < 2 ^ 53) (h1 : -1074 ≤ E) (h2 : E ≤ 971)
    (hn : 2 ^ 52 ≤ M ∨ E = -1074) (hu : den * P E = 1) : IsNearest num den M E ↔ num * Q E = M := by
  constructor
  · intro h
    have hup := h.upper
    have hlo := h.lower
    rw [hu] at hup hlo
    omega
  · intro h
    refine
      { mant_lt := hm, exp_ge := h1, exp_le := h2, normal := hn
        upper := ?_, upper_tie := ?_, lower := ?_, lower_tie := ?_, lower_binade := ?_ }
    all_goals rw [hu, h]
    all_goals omega

/-- when `float64ToDecimalExactInt` answers, its decimal is the float's exact value (`exactInt_spec`), hence `Shortest` -/
theorem shortest_of_exactInt (b : UInt64) (dy : Num.Dyadic) (d : Dec64) (hd : decode b = some dy) (h0 : dy.m ≠ 0)
    (hx : float64ToDecimalExactInt (mantOf b) (expOf b) = (d, true)) : Shortest b dy d.m d.e := by
  obtain ⟨hE, hde, h10, hval⟩ := exactInt_decode b dy d hd hx
  have F := fields_of_decode b dy hd h0
  have hP : P dy.e = 1 := by unfold P; rw [Int.toNat_of_nonpos hE, Nat.pow_zero]
  -- a decimal `n·10^e` with `e = d.e + j` is an integer: over the unit 1, with numerator `n·10^(d.e+j)`
  have hden : ∀ e : Int, d.e ≤ e → decDen e * P dy.e = 1 := by
    intro e he; unfold decDen; rw [if_pos (by omega), hP]
  have hnum : ∀ (n j : Nat) (e : Int), e = d.e + j → decNum n e = n * 10 ^ (d.e.toNat + j) := by
    intro n j e he
    unfold decNum
    rw [if_pos (by omega), he, Int.toNat_add hde (Int.natCast_nonneg j), Int.toNat_natCast]
  -- so it is in the interval iff it equals the float's value (both counted in `2^dy.e`s)
  have near : ∀ (n j : Nat) (e : Int), e = d.e + j →
      (InInterval b n e ↔ n * 10 ^ (d.e.toNat + j) * Q dy.e = dy.m) := by
    intro n j e he
    rw [inInterval_iff_isNearest b dy F, isNearest_iff_eq_of_unit F.m_lt F.e_ge F.e_le F.normal (hden e (by omega)),
      hnum n j e he]
  have hval' : d.m * 10 ^ d.e.toNat * Q dy.e = dy.m := hval.symm
  refine
    { pos := ?_, nz := h10, lt := ?_, inI := (near d.m 0 d.e (by omega)).mpr hval', none_shorter := ?_, closest := ?_ }
  · exact Nat.pos_of_ne_zero fun hz => h0 (by rw [hval, hz, Nat.zero_mul, Nat.zero_mul])
  · have h1 := Nat.le_mul_of_pos_right d.m (Nat.mul_pos (Nat.pow_pos (n := d.e.toNat) (by decide : 0 < 10)) (Q_pos dy.e))
    rw [← Nat.mul_assoc, hval'] at h1
    exact Nat.lt_of_le_of_lt h1 (Nat.lt_trans F.m_lt (by decide))
  · intro n hn
    have h2 := Nat.eq_of_mul_eq_mul_right (Q_pos dy.e) (((near n 1 _ rfl).mp hn).trans hval'.symm)
    rw [Nat.pow_succ, ← Nat.mul_assoc, Nat.mul_right_comm] at h2
    have := Nat.eq_of_mul_eq_mul_right (Nat.pow_pos (by decide)) h2
    omega
  · intro n _
    have : distNum dy d.m d.e = 0 := by
      unfold distNum
      rw [dyNum_eq, dyDen_eq, Nat.mul_assoc, Nat.mul_comm (P dy.e), hden d.e (Int.le_refl _), Nat.mul_one,
        hnum d.m 0 d.e (by omega), Nat.add_zero, hval']
      unfold absDiff; omega
    omega

/-! ## the mirror pipeline -/

theorem decimal_of_exact {mant exp : Nat} {d : Dec64} (h : float64ToDecimalExactInt mant exp = (d, true)) :
    decimal mant exp = (d.m, d.e, true) := by
  unfold decimal; rw [h]; rfl

theorem decimal_of_general {mant exp : Nat} (h : (float64ToDecimalExactInt mant exp).2 = false) :
    decimal mant exp = ((float64ToDecimal mant exp).m, (float64ToDecimal mant exp).e, false) := by
  simp only [decimal, h, Bool.false_eq_true, if_false]

/-- the decimal the hook `decimal` returns for the fields of a finite non-zero float64 is `Shortest` for its magnitude, given
`SpecOf` for the result of the general algorithm whenever the fast path does not answer (`ryu_shortest_partial`,
`ryu_shortest`); the fast path needs nothing (`shortest_of_exactInt`) -/
theorem decimal_shortest_of (b : UInt64) (dy : Num.Dyadic) (hd : decode b = some dy) (h0 : dy.m ≠ 0)
    (gen : (float64ToDecimalExactInt (mantOf b) (expOf b)).2 = false → mantOf b < 2 ^ 52 → expOf b < 2047 →
      (mantOf b ≠ 0 ∨ expOf b ≠ 0) →
      ∃ k : Nat, (float64ToDecimal (mantOf b) (expOf b)).e = e10Of (expOf b) + (k : Int) ∧
        SpecOf b (float64ToDecimal (mantOf b) (expOf b)).m k) :
    Shortest (magBits b) ⟨false, dy.m, dy.e⟩ (decimal (mantOf b) (expOf b)).1 (decimal (mantOf b) (expOf b)).2.1 := by
  rw [shortest_mag_iff]
  cases hr : float64ToDecimalExactInt (mantOf b) (expOf b) with | mk d ok =>
  cases ok with
  | true =>
    rw [decimal_of_exact hr]
    exact shortest_of_exactInt b dy d hd h0 hr
  | false =>
    have hf : (float64ToDecimalExactInt (mantOf b) (expOf b)).2 = false := by rw [hr]
    have F := fields_of_decode b dy hd h0
    obtain ⟨k, hk, hS⟩ := gen hf F.mant_lt F.exp_lt F.nz
    rw [decimal_of_general hf]
    exact hk ▸ shortest_of_spec b dy hd h0 _ k hS

/-- **`ryu_text_is_shortest_partial`.** For every finite non-zero float64 `b` (either sign): the text the mirror pipeline
`Ryu64.decimal` (the exact-integer fast path, else `float64ToDecimal`) ∘ `appendF` (sign, `decimalLen64`, the three digit
layouts) writes behind the old content of the output buffer — whatever the buffer's stale spare capacity holds —
* passes `Num.isShortestRoundTrip b`: canonical positional notation, parses back to exactly `b` under correct rounding, no
  decimal with fewer significant digits does, and none of that length in the rounding interval is closer to the exact value;
* passes `Num.parsesTo b`, and therefore (`C16Round.parsesTo_unique`) every finite float64 of the text's sign that is an IEEE
  nearest-even rounding of the number the text denotes — i.e. what any correct parser returns — is `b` itself.

HYPOTHESIS (the one of `ryu_shortest_partial`, needed only when the fast path does not answer): the three `mulShift64` results
of step 3 are the exact floors of the scaled quantities.  On the exact-integer fast path (`exactInt_spec`) nothing is
assumed. -/
theorem ryu_text_is_shortest_partial (b : UInt64) (dy : Num.Dyadic) (hd : decode b = some dy) (h0 : dy.m ≠ 0)
    (Hfloors : (float64ToDecimalExactInt (mantOf b) (expOf b)).2 = false →
      mulShift64 (mvOf (decodeM2 (mantOf b) (expOf b))) (mulOf (expOf b)) (shiftOf (expOf b))
        = mvOf (decodeM2 (mantOf b) (expOf b)) * scaleNum (expOf b) / scaleDen (expOf b) ∧
      mulShift64 (mpOf (decodeM2 (mantOf b) (expOf b))) (mulOf (expOf b)) (shiftOf (expOf b))
        = mpOf (decodeM2 (mantOf b) (expOf b)) * scaleNum (expOf b) / scaleDen (expOf b) ∧
      mulShift64 (mmOf (decodeM2 (mantOf b) (expOf b)) (mmShiftOf (mantOf b) (expOf b))) (mulOf (expOf b)) (shiftOf (expOf b))
        = mmOf (decodeM2 (mantOf b) (expOf b)) (mmShiftOf (mantOf b) (expOf b)) * scaleNum (expOf b) / scaleDen (expOf b))
    (buf : AF.Buf) (extraS extra0 extra : List AF.Byte) :
    ∃ text,
      (appendF buf dy.neg (decimal (mantOf b) (expOf b)).1 (decimal (mantOf b) (expOf b)).2.1 extraS extra0 extra).content
        = buf.content ++ text ∧
      isShortestRoundTrip b text = true ∧ parsesTo b text = true ∧
      ∀ (bits' : UInt64) (dy' : Num.Dyadic) (neg : Bool) (m : Nat) (d : Int),
        parsePositional text = some (neg, m, d) → decode bits' = some dy' → dy'.neg = neg →
        IsNearest (decNum m d) (decDen d) dy'.m dy'.e → bits' = b :=
  text_of_shortest b dy hd h0 _ _
    (decimal_shortest_of b dy hd h0 fun hf hm he hnz =>
      ryu_shortest_partial _ _ hm he hnz (Hfloors hf).1 (Hfloors hf).2.1 (Hfloors hf).2.2)
    buf extraS extra0 extra

/-- the same with the hypothesis in its executable form `C16Core.floorsHold` -/
theorem ryu_text_is_shortest_of_check (b : UInt64) (dy : Num.Dyadic) (hd : decode b = some dy) (h0 : dy.m ≠ 0)
    (hc : (float64ToDecimalExactInt (mantOf b) (expOf b)).2 = false → floorsHold (mantOf b) (expOf b) = true)
    (buf : AF.Buf) (extraS extra0 extra : List AF.Byte) :
    ∃ text,
      (appendF buf dy.neg (decimal (mantOf b) (expOf b)).1 (decimal (mantOf b) (expOf b)).2.1 extraS extra0 extra).content
        = buf.content ++ text ∧
      isShortestRoundTrip b text = true ∧ parsesTo b text = true := by
  obtain ⟨text, h1, h2, h3, _⟩ := ryu_text_is_shortest_partial b dy hd h0 (fun hf => by
    have hc := hc hf
    unfold floorsHold at hc
    dsimp only at hc
    simp only [Bool.and_eq_true, beq_iff_eq] at hc
    exact ⟨hc.1.1, hc.1.2, hc.2⟩) buf extraS extra0 extra
  exact ⟨text, h1, h2, h3⟩

/-! ## sanity checks: the hypotheses are satisfiable and the conclusions are the expected facts on concrete floats -/

instance (b : UInt64) (m : Nat) (e : Int) : Decidable (InInterval b m e) := by unfold InInterval; infer_instance

-- 0.1 = 0x3FB999999999999A: the general algorithm; 3.0 = 0x4008000000000000: the fast path; -2.5 = 0xC004000000000000
example : decimal (mantOf 0x3FB999999999999A) (expOf 0x3FB999999999999A) = (1, -1, false) := by decide +kernel
example : positional 1 (-1) = [48, 46, 49] := by decide +kernel
example : isShortestRoundTrip 0x3FB999999999999A [48, 46, 49] = true := by decide +kernel
example : floorsHold (mantOf 0x3FB999999999999A) (expOf 0x3FB999999999999A) = true := by decide +kernel
example : decimal (mantOf 0x4008000000000000) (expOf 0x4008000000000000) = (3, 0, true) := by decide +kernel
example : InInterval 0x3FB999999999999A 1 (-1) := by decide +kernel
example : ¬ InInterval 0x3FB999999999999A 2 (-1) := by decide +kernel
example : ([45] ++ positional 25 (-1) : List UInt8) = [45, 50, 46, 53] := by decide +kernel
example : isShortestRoundTrip 0xC004000000000000 [45, 50, 46, 53] = true := by decide +kernel
example : magBits 0xC004000000000000 = 0x4004000000000000 := by decide

/-- `interval_iff_roundtrip` instantiated at 0.1: `1·10^-1` is in the interval, hence parses back -/
example : ofDecimal false 1 (-1) = 0x3FB999999999999A :=
  (interval_iff_roundtrip 0x3FB999999999999A ⟨false, 7205759403792794, -56⟩ (by decide) rfl (by decide) 1 (-1)
    (by decide)).mp (by decide +kernel)

/-- `ryu_text_is_shortest_of_check` instantiated at 0.1 (general algorithm: the floors hypothesis is decided) -/
example (buf : AF.Buf) (x y z : List AF.Byte) :=
  ryu_text_is_shortest_of_check 0x3FB999999999999A ⟨false, 7205759403792794, -56⟩ (by decide) (by decide)
    (fun _ => by decide +kernel) buf x y z

/-- `ryu_text_is_shortest_partial` instantiated at −3.0 (fast path: the floors hypothesis is vacuous) -/
example (buf : AF.Buf) (x y z : List AF.Byte) :=
  ryu_text_is_shortest_partial 0xC008000000000000 ⟨true, 6755399441055744, -51⟩ (by decide) (by decide)
    (fun h => absurd h (by decide +kernel)) buf x y z

#print axioms interval_iff_roundtrip
#print axioms shortest_of_spec
#print axioms isShortest_intro
#print axioms isShortest_of_shortest
#print axioms appendF_content
#print axioms spec_implies_isShortest
#print axioms shortest_of_exactInt
#print axioms ryu_text_is_shortest_partial
#print axioms ryu_text_is_shortest_of_check

end QF.Props.C16Link
