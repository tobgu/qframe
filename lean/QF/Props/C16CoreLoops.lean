import QF.Props.C16Core
/-!
# C16 — the Ryu core, step 4: the digit-removal loops and the final decision

* the loops of `QF.Ryu64.step4General` / `step4Common` in closed form (`loopGeneral1_eq`, `loopGeneral2_eq`,
  `loopCommon100_eq`, `loopCommon10_eq`, `rmN_*`; the state of the common case is a projection of the general one, `toCom`), with the proof that the fuel of the mirror is never the
  reason a loop stops (`cnt_spec`; `factorCount_spec` of `C16Core` for the second loop of the general case) and that the
  common case removes as many digits as the general case (`common_count`);
* the final decision (`finish`) at the level where the loops stopped is in the rounding interval and a closest
  admissible decimal of that length (`finish_correct`); no shorter decimal is admissible (`none_shorter`). A level is the grid
  of multiples of `X = D·10^k`: the admissible multiples are an integer range (`adm_iff`), the closer of the two neighbours of
  the value is closest of all (`grid_closest`), and the last removed digit says in which half of its cell the value lies
  (`digit_half`).

Everything is stated over exact naturals: the interval is `[A/D, C/D]` (open if the bounds are not acceptable), the exact
value is `B/D`, all in units of `10^e10`.
-/
namespace QF.Props.C16Core
open QF.Ryu64

/-! ## step 4: the digit-removal loops in closed form -/

theorem div_div_pow (x b j : Nat) : x / b / b ^ j = x / b ^ (j + 1) := by
  rw [Nat.div_div_eq_div_mul, Nat.pow_succ, Nat.mul_comm]

/-- one digit removed (the body of both loops of the general case) -/
def rm1 (s : Gen) : Gen :=
  { vmIsTrailingZeros := s.vmIsTrailingZeros && s.vm % 10 == 0
    vrIsTrailingZeros := s.vrIsTrailingZeros && s.lastRemovedDigit == 0
    lastRemovedDigit := s.vr % 10
    vr := s.vr / 10
    vp := s.vp / 10
    vm := s.vm / 10
    removed := s.removed + 1 }

def rmN : Nat → Gen → Gen
  | 0, s => s
  | j + 1, s => rmN j (rm1 s)

theorem rmN_succ (j : Nat) (s : Gen) : rmN (j + 1) s = rmN j (rm1 s) := rfl

theorem rmN_add : ∀ (i j : Nat) (s : Gen), rmN j (rmN i s) = rmN (i + j) s := by
  intro i
  induction i with
  | zero => intro j s; rw [Nat.zero_add]; rfl
  | succ i ih => intro j s; rw [show i + 1 + j = (i + j) + 1 by omega]; exact ih j (rm1 s)

/-- number of iterations of a loop `for vp/b > vm/b { vp /= b; vm /= b }` (`b = 10`: first loop of the general case and
one-digit loop of the common case; `b = 100`: two-digit loop of the common case) -/
def cnt (b : Nat) : Nat → Nat → Nat → Nat
  | 0, _, _ => 0
  | fuel + 1, vp, vm => if vp / b ≤ vm / b then 0 else cnt b fuel (vp / b) (vm / b) + 1

theorem loopGeneral1_eq : ∀ (fuel : Nat) (s : Gen), loopGeneral1 fuel s = rmN (cnt 10 fuel s.vp s.vm) s := by
  intro fuel
  induction fuel with
  | zero => intro s; rfl
  | succ fuel ih =>
    intro s
    unfold loopGeneral1 cnt
    dsimp only
    by_cases h : s.vp / 10 ≤ s.vm / 10
    · rw [if_pos h, if_pos h]; rfl
    · rw [if_neg h, if_neg h]
      exact ih (rm1 s)

/-- the second loop of the general case removes the trailing zeros of `vm` (`factorCount 10`) -/
theorem loopGeneral2_eq : ∀ (fuel : Nat) (s : Gen), loopGeneral2 fuel s = rmN (factorCount 10 fuel s.vm) s := by
  intro fuel
  induction fuel with
  | zero => intro s; rfl
  | succ fuel ih =>
    intro s
    unfold loopGeneral2 factorCount
    dsimp only
    by_cases h0 : s.vm % 10 = 0
    · rw [if_neg (by simp [h0]), if_pos h0]
      -- the loop leaves `vmIsTrailingZeros` alone: the digit of `vm` it removes is 0
      have : rm1 s = { vmIsTrailingZeros := s.vmIsTrailingZeros
                       vrIsTrailingZeros := s.vrIsTrailingZeros && s.lastRemovedDigit == 0
                       lastRemovedDigit := s.vr % 10
                       vr := s.vr / 10, vp := s.vp / 10, vm := s.vm / 10, removed := s.removed + 1 } := by
        unfold rm1; simp [h0]
      rw [← this, ih (rm1 s)]
      rfl
    · rw [if_pos (by simp [h0]), if_neg h0]; rfl

theorem rmN_vr : ∀ (j : Nat) (s : Gen), (rmN j s).vr = s.vr / 10 ^ j ∧ (rmN j s).vp = s.vp / 10 ^ j ∧
    (rmN j s).vm = s.vm / 10 ^ j ∧ (rmN j s).removed = s.removed + j := by
  intro j
  induction j with
  | zero => intro s; simp [rmN]
  | succ j ih =>
    intro s
    obtain ⟨h1, h2, h3, h4⟩ := ih (rm1 s)
    rw [rmN_succ, h1, h2, h3, h4]
    exact ⟨div_div_pow _ _ _, div_div_pow _ _ _, div_div_pow _ _ _, by show s.removed + 1 + (j : Int) = _; omega⟩

theorem rmN_vmTZ : ∀ (j : Nat) (s : Gen),
    ((rmN j s).vmIsTrailingZeros = true ↔ s.vmIsTrailingZeros = true ∧ 10 ^ j ∣ s.vm) := by
  intro j
  induction j with
  | zero => intro s; simp [rmN]
  | succ j ih =>
    intro s
    rw [rmN_succ, ih (rm1 s), pow_succ_dvd_iff 10 j _]
    show (s.vmIsTrailingZeros && s.vm % 10 == 0) = true ∧ 10 ^ j ∣ s.vm / 10 ↔ _
    simp only [Bool.and_eq_true, beq_iff_eq, and_assoc]

theorem rmN_last : ∀ (j : Nat) (s : Gen), (rmN (j + 1) s).lastRemovedDigit = s.vr / 10 ^ j % 10 := by
  intro j
  induction j with
  | zero => intro s; simp [rmN, rm1]
  | succ j ih =>
    intro s
    rw [rmN_succ, ih (rm1 s)]
    show s.vr / 10 / 10 ^ j % 10 = _
    rw [div_div_pow]

theorem rmN_vrTZ : ∀ (j : Nat) (s : Gen),
    ((rmN (j + 1) s).vrIsTrailingZeros = true ↔
      s.vrIsTrailingZeros = true ∧ s.lastRemovedDigit = 0 ∧ 10 ^ j ∣ s.vr) := by
  intro j
  induction j with
  | zero => intro s; simp [rmN, rm1]
  | succ j ih =>
    intro s
    rw [rmN_succ, ih (rm1 s), pow_succ_dvd_iff 10 j _]
    show (s.vrIsTrailingZeros && s.lastRemovedDigit == 0) = true ∧ s.vr % 10 = 0 ∧ 10 ^ j ∣ s.vr / 10 ↔ _
    simp only [Bool.and_eq_true, beq_iff_eq, and_assoc]


/-- `k` digits in base `b` are removed by the loop: a multiple of `b^(j+1)` lies in `(vm, vp]` for every `j < k`, none for `j = k` -/
def IsCnt (b vp vm k : Nat) : Prop :=
  (∀ j, j < k → vm / b ^ (j + 1) < vp / b ^ (j + 1)) ∧ vp / b ^ (k + 1) ≤ vm / b ^ (k + 1)

theorem div_pow_le_of_le (vp vm : Nat) {i j : Nat} (hij : i ≤ j) (h : vp / 10 ^ i ≤ vm / 10 ^ i) :
    vp / 10 ^ j ≤ vm / 10 ^ j := by
  obtain ⟨d, rfl⟩ : ∃ d, j = i + d := ⟨j - i, by omega⟩
  rw [Nat.pow_add, ← Nat.div_div_eq_div_mul, ← Nat.div_div_eq_div_mul]
  exact Nat.div_le_div_right h

theorem lt_div_pow_mono (vp vm : Nat) {i j : Nat} (hij : i ≤ j) (h : vm / 10 ^ j < vp / 10 ^ j) :
    vm / 10 ^ i < vp / 10 ^ i :=
  Nat.lt_of_not_le fun hle => Nat.not_le_of_lt h (div_pow_le_of_le vp vm hij hle)

theorem IsCnt.last {b vp vm k : Nat} (h : IsCnt b vp vm k) (hk : 1 ≤ k) : vm / b ^ k < vp / b ^ k := by
  have := h.1 (k - 1) (by omega)
  rwa [Nat.sub_add_cancel hk] at this

theorem IsCnt_unique {b vp vm k k' : Nat} (h : IsCnt b vp vm k) (h' : IsCnt b vp vm k') : k = k' := by
  apply Nat.le_antisymm
  · apply Nat.le_of_not_lt; intro hlt
    exact Nat.not_le_of_lt (h.1 k' hlt) h'.2
  · apply Nat.le_of_not_lt; intro hlt
    exact Nat.not_le_of_lt (h'.1 k hlt) h.2

/-- fuel: the loop stops because its condition fails (not because the fuel is used up) whenever `vp < b^fuel`;
in particular for every 64-bit `vp` with the mirror's fuel 20 -/
theorem cnt_spec (b : Nat) : ∀ (fuel vp vm : Nat), vp < b ^ fuel → IsCnt b vp vm (cnt b fuel vp vm) := by
  intro fuel
  induction fuel with
  | zero =>
    intro vp vm h
    have : vp = 0 := by rw [Nat.pow_zero] at h; omega
    subst this
    exact ⟨fun j hj => absurd hj (Nat.not_lt_zero _), by rw [Nat.zero_div]; exact Nat.zero_le _⟩
  | succ fuel ih =>
    intro vp vm h
    unfold cnt
    by_cases hc : vp / b ≤ vm / b
    · rw [if_pos hc]
      exact ⟨fun j hj => absurd hj (Nat.not_lt_zero _), by rwa [Nat.zero_add, Nat.pow_one]⟩
    · rw [if_neg hc]
      have hb : 0 < b := Nat.pos_of_ne_zero fun h0 => by subst h0; exact hc (by rw [Nat.div_zero]; exact Nat.zero_le _)
      obtain ⟨h1, h2⟩ := ih (vp / b) (vm / b) (by rw [Nat.div_lt_iff_lt_mul hb, ← Nat.pow_succ]; exact h)
      refine ⟨?_, ?_⟩
      · intro j hj
        cases j with
        | zero => rw [Nat.zero_add, Nat.pow_one]; exact Nat.lt_of_not_le hc
        | succ j =>
          have := h1 j (by omega)
          rwa [div_div_pow, div_div_pow] at this
      · rwa [div_div_pow, div_div_pow] at h2


/-! the common case: the two-digit loop followed by the one-digit loop removes the same number of digits -/

/-- the common case keeps of the general case's state only whether the last removed digit is at least 5 -/
def toCom (g : Gen) : Com :=
  { vr := g.vr, vp := g.vp, vm := g.vm, removed := g.removed, roundUp := decide (g.lastRemovedDigit ≥ 5) }

theorem toCom_rm1_rm1 (g : Gen) : toCom (rm1 (rm1 g)) =
    { roundUp := g.vr % 100 ≥ 50, vr := g.vr / 100, vp := g.vp / 100, vm := g.vm / 100, removed := g.removed + 2 } := by
  unfold toCom rm1
  have e : ∀ x : Nat, x / 10 / 10 = x / 100 := fun x => Nat.div_div_eq_div_mul x 10 10
  have r : decide (g.vr / 10 % 10 ≥ 5) = decide (g.vr % 100 ≥ 50) := by
    apply decide_eq_decide.mpr; omega
  simp only [e, r, Int.add_assoc]
  rfl

theorem loopCommon100_eq : ∀ (fuel : Nat) (g : Gen),
    loopCommon100 fuel (toCom g) = toCom (rmN (2 * cnt 100 fuel g.vp g.vm) g) := by
  intro fuel
  induction fuel with
  | zero => intro g; rfl
  | succ fuel ih =>
    intro g
    unfold loopCommon100 cnt
    show (if g.vp / 100 > g.vm / 100 then _ else _) = _
    by_cases h : g.vp / 100 ≤ g.vm / 100
    · rw [if_neg (Nat.not_lt_of_le h), if_pos h]; rfl
    · rw [if_pos (Nat.lt_of_not_le h), if_neg h, Nat.mul_succ, rmN_succ, rmN_succ]
      refine (congrArg (loopCommon100 fuel) (toCom_rm1_rm1 g)).symm.trans ((ih _).trans ?_)
      show toCom (rmN (2 * cnt 100 fuel (g.vp / 10 / 10) (g.vm / 10 / 10)) _) = _
      rw [Nat.div_div_eq_div_mul, Nat.div_div_eq_div_mul]

theorem loopCommon10_eq : ∀ (fuel : Nat) (g : Gen), loopCommon10 fuel (toCom g) = toCom (rmN (cnt 10 fuel g.vp g.vm) g) := by
  intro fuel
  induction fuel with
  | zero => intro g; rfl
  | succ fuel ih =>
    intro g
    unfold loopCommon10 cnt
    show (if g.vp / 10 > g.vm / 10 then _ else _) = _
    by_cases h : g.vp / 10 ≤ g.vm / 10
    · rw [if_neg (Nat.not_lt_of_le h), if_pos h]; rfl
    · rw [if_pos (Nat.lt_of_not_le h), if_neg h]
      exact ih (rm1 g)

/-- the common case removes exactly as many digits as the first loop of the general case would -/
theorem common_count (vp vm : Nat) (h : vp < 10 ^ 20) :
    2 * cnt 100 20 vp vm + cnt 10 20 (vp / 10 ^ (2 * cnt 100 20 vp vm)) (vm / 10 ^ (2 * cnt 100 20 vp vm)) = cnt 10 20 vp vm := by
  apply IsCnt_unique _ (cnt_spec 10 20 vp vm h)
  obtain ⟨a1, a2⟩ := cnt_spec 100 20 vp vm (Nat.lt_trans h (by decide))
  generalize cnt 100 20 vp vm = c at *
  have hlt : vp / 10 ^ (2 * c) < 10 ^ 20 := Nat.lt_of_le_of_lt (Nat.div_le_self _ _) h
  obtain ⟨b1, b2⟩ := cnt_spec 10 20 (vp / 10 ^ (2 * c)) (vm / 10 ^ (2 * c)) hlt
  generalize cnt 10 20 (vp / 10 ^ (2 * c)) (vm / 10 ^ (2 * c)) = d at *
  have e : ∀ x j : Nat, x / 10 ^ (2 * c) / 10 ^ j = x / 10 ^ (2 * c + j) := by
    intro x j; rw [Nat.div_div_eq_div_mul, Nat.pow_add]
  refine ⟨?_, ?_⟩
  · intro j hj
    by_cases hjc : j + 1 ≤ 2 * c
    · obtain ⟨c', rfl⟩ : ∃ c', c = c' + 1 := ⟨c - 1, by omega⟩
      have := a1 c' (by omega)
      rw [show (100 : Nat) = 10 ^ 2 from rfl, ← Nat.pow_mul] at this
      exact lt_div_pow_mono vp vm hjc this
    · have := b1 (j - 2 * c) (by omega)
      rw [e, e] at this
      rwa [show 2 * c + (j - 2 * c + 1) = j + 1 by omega] at this
  · rw [e, e] at b2
    rwa [show 2 * c + d + 1 = 2 * c + (d + 1) by omega]

/-! ## step 4: the final decision is correct -/

/-- the last digit removed after `k` removals (0 before the first) -/
def digitAt (vr k : Nat) : Nat := if k = 0 then 0 else vr / 10 ^ (k - 1) % 10

theorem digitAt_zero (vr : Nat) : digitAt vr 0 = 0 := rfl
theorem digitAt_succ (vr k : Nat) : digitAt vr (k + 1) = vr / 10 ^ k % 10 := rfl

/-- the final rounding decision of step 4 (both cases) from the state after the loops -/
def finish (vr vm : Nat) (incl vmTZ vrTZ : Bool) (last : Nat) : Nat :=
  let last' := if vrTZ && last == 5 && vr % 2 == 0 then 4 else last
  if (vr == vm && (!incl || !vmTZ)) || last' ≥ 5 then u64 (vr + 1) else vr

/-- lower end of the rounding interval in units of `1/D`: `A` if the bounds are acceptable, else just above -/
def loEnd (A : Nat) (incl : Bool) : Nat := A + if incl then 0 else 1
/-- upper end -/
def hiEnd (C : Nat) (incl : Bool) : Nat := C - if incl then 0 else 1

/-- `n · 10^j` (in units of `10^e10`) lies in the rounding interval `[A/D, C/D]` (open if `¬incl`) -/
def Adm (A C D : Nat) (incl : Bool) (n j : Nat) : Prop :=
  loEnd A incl ≤ n * (D * 10 ^ j) ∧ n * (D * 10 ^ j) ≤ hiEnd C incl

def dist (x y : Nat) : Nat := (x - y) + (y - x)

theorem hiEnd_facts (C : Nat) (incl : Bool) :
    hiEnd C incl ≤ C ∧ C ≤ hiEnd C incl + 1 ∧ (incl = true → hiEnd C incl = C) := by
  unfold hiEnd; cases incl <;> simp <;> omega

theorem adm_iff (A Cu X : Nat) (incl : Bool) (n : Nat) (hX : 0 < X) :
    (loEnd A incl ≤ n * X ∧ n * X ≤ Cu) ↔
    (n ≤ Cu / X ∧ (A / X < n ∨ (n = A / X ∧ incl = true ∧ X ∣ A))) := by
  rw [Nat.le_div_iff_mul_le hX]
  have hdm := Nat.div_add_mod A X
  have hml := Nat.mod_lt A hX
  constructor
  · rintro ⟨h1, h2⟩
    refine ⟨h2, ?_⟩
    by_cases hlt : A / X < n
    · exact Or.inl hlt
    · right
      have hle : n ≤ A / X := Nat.le_of_not_lt hlt
      have h3 : n * X ≤ A / X * X := Nat.mul_le_mul_right X hle
      have h4 : A / X * X ≤ A := Nat.div_mul_le_self A X
      cases incl with
      | false => unfold loEnd at h1; simp at h1; omega
      | true =>
        unfold loEnd at h1; simp at h1
        have h5 : n * X = A := by omega
        have h6 : A / X * X = A := by omega
        refine ⟨?_, rfl, ⟨n, by rw [Nat.mul_comm]; exact h5.symm⟩⟩
        have : n * X = A / X * X := by omega
        exact Nat.eq_of_mul_eq_mul_right hX this
  · rintro ⟨h2, h3⟩
    refine ⟨?_, h2⟩
    rcases h3 with h3 | ⟨h3, h4, h5⟩
    · have : A < n * X := (Nat.div_lt_iff_lt_mul hX).mp h3
      unfold loEnd; split <;> omega
    · subst h4
      unfold loEnd; simp
      rw [h3, Nat.div_mul_cancel h5]; exact Nat.le_refl _


/-- what the last removed digit says about where `B` lies in its cell of width `X = D·10^k`: digit ≥ 5 iff in the upper half;
digit 5 with all lower digits and the fraction zero is the exact middle; with no digit removed `B` is a grid point -/
theorem digit_half (B D k : Nat) (hD : 0 < D) (K6 : k = 0 → D ∣ B) :
    (5 ≤ digitAt (B / D) k → D * 10 ^ k ≤ 2 * (B % (D * 10 ^ k))) ∧
    (digitAt (B / D) k < 5 → 2 * (B % (D * 10 ^ k)) ≤ D * 10 ^ k) ∧
    (digitAt (B / D) k = 5 → D ∣ B → (k = 0 ∨ 10 ^ (k - 1) ∣ B / D) → 2 * (B % (D * 10 ^ k)) = D * 10 ^ k) := by
  cases k with
  | zero => simp [digitAt_zero, Nat.mod_eq_zero_of_dvd (K6 rfl)]
  | succ k =>
    have hdiv : D ∣ B → 10 ^ k ∣ B / D → B % (D * 10 ^ k) = 0 := fun h1 h2 =>
      Nat.mod_eq_zero_of_dvd (Nat.mul_dvd_of_dvd_div h1 h2)
    -- `B mod 10·Y = B mod Y + Y · digit` for `Y = D·10^k`
    rw [digitAt_succ, Nat.div_div_eq_div_mul, Nat.pow_succ, ← Nat.mul_assoc, Nat.mod_mul]
    have hml := Nat.mod_lt B (Nat.mul_pos hD (Nat.pow_pos (by decide : 0 < 10) (n := k)))
    generalize D * 10 ^ k = Y at *
    generalize B / Y % 10 = d
    refine ⟨fun h5 => ?_, fun h5 => ?_, fun h5 hd hz => ?_⟩
    · have := Nat.mul_le_mul_left Y h5; omega
    · have := Nat.mul_le_mul_left Y (Nat.le_of_lt_succ h5); omega
    · have := hdiv hd (hz.resolve_left (Nat.succ_ne_zero k)); subst h5; omega


theorem u64_of_lt (x : Nat) (h : x < 2 ^ 64) : u64 x = x := Nat.mod_eq_of_lt h

/-- no decimal with one digit fewer lies in the interval once the loops have stopped -/
theorem none_shorter (A C D k : Nat) (incl : Bool) (hD : 0 < D)
    (K1 : hiEnd C incl / (D * 10 ^ (k + 1)) ≤ A / (D * 10 ^ (k + 1)))
    (K2 : ¬ (incl = true ∧ D * 10 ^ (k + 1) ∣ A)) : ∀ n, ¬ Adm A C D incl n (k + 1) := by
  intro n h
  have hX : 0 < D * 10 ^ (k + 1) := Nat.mul_pos hD (Nat.pow_pos (by decide))
  obtain ⟨h1, h2⟩ := (adm_iff A _ _ incl n hX).mp h
  rcases h2 with h2 | ⟨_, h3, h4⟩
  · omega
  · exact K2 ⟨h3, h4⟩

theorem le_of_mul_lt_add (X a b : Nat) (h : X * a < X * b + X) : a ≤ b :=
  Nat.le_of_lt_succ (Nat.lt_of_mul_lt_mul_left (by rwa [Nat.mul_succ]))

theorem div_bounds (A X : Nat) (hX : 0 < X) : X * (A / X) ≤ A ∧ A < X * (A / X) + X := by
  have h1 := Nat.div_add_mod A X
  have h2 := Nat.mod_lt A hX
  omega

/-- a value `B/D` that is a half-integer whose double is a multiple of 5 cannot show the digits `50…0` of an exact tie: if the
removed digits of `⌊B/D⌋` are a 5 followed by zeros, then `B/D` is an integer after all -/
theorem half_int_tie (B D k : Nat) (hD : 0 < D) (h2 : D ∣ 2 * B) (h5 : 5 ∣ 2 * B / D) (hz : 10 ^ k ∣ B / D)
    (hd : B / D / 10 ^ k % 10 = 5) : D ∣ B := by
  obtain ⟨Y, hY⟩ := h2
  rw [hY, Nat.mul_div_cancel_left _ hD] at h5
  obtain ⟨w, hw⟩ := hz
  rw [hw, Nat.mul_div_cancel_left _ (Nat.pow_pos (by decide))] at hd
  have hv5 : B / D % 5 = 0 := by
    rw [hw]
    have : w = 5 * (2 * (w / 10) + 1) := by omega
    rw [this, ← Nat.mul_assoc, Nat.mul_comm (10 ^ k) 5, Nat.mul_assoc]; exact Nat.mul_mod_right _ _
  have hdm := Nat.div_add_mod B D
  have hml := Nat.mod_lt B hD
  generalize B / D = v at *
  generalize B % D = f at *
  -- D·Y = 2·D·v + 2·f with 2·f < 2·D, so Y = 2v or Y = 2v + 1
  have c1 := le_of_mul_lt_add D (2 * v) Y (by rw [← Nat.mul_assoc, Nat.mul_comm D 2, Nat.mul_assoc]; omega)
  have c2 := le_of_mul_lt_add D Y (2 * v + 1) (by rw [Nat.mul_add, ← Nat.mul_assoc, Nat.mul_comm D 2, Nat.mul_assoc]; omega)
  have hYv : Y = 2 * v ∨ Y = 2 * v + 1 := by omega
  rcases hYv with h | h
  · subst h
    have : f = 0 := by rw [← Nat.mul_assoc, Nat.mul_comm D 2, Nat.mul_assoc] at hY; omega
    subst this
    exact ⟨v, by omega⟩
  · subst h; omega

/-- the rounding decision as a proposition: one more than `vr` iff `vr` is below the interval (`vr = vm`, and `vm` is not an
included exact lower end) or the removed part is at least one half and not an exact tie at an even `vr` -/
theorem finish_eq (r m last : Nat) (incl fm fr : Bool) :
    finish r m incl fm fr last =
      if (r = m ∧ (incl = false ∨ fm = false)) ∨ (5 ≤ last ∧ ¬ (fr = true ∧ last = 5 ∧ r % 2 = 0)) then u64 (r + 1)
      else r := by
  unfold finish
  by_cases htie : fr = true ∧ last = 5 ∧ r % 2 = 0
  · obtain ⟨h1, h2, h3⟩ := htie
    simp [h1, h2, h3]
  · have : (fr && last == 5 && r % 2 == 0) = false := by
      simpa [and_assoc] using htie
    simp [this, htie]

/-- on the grid of multiples of `X`, `⌊B/X⌋` is at least as close to `B` as every smaller multiple, and as every multiple when
`B` lies in the lower half of its cell; `⌊B/X⌋ + 1` likewise for the larger multiples and the upper half -/
theorem grid_closest {X : Nat} (hX : 0 < X) (B o n : Nat)
    (h : (o = B / X ∧ (n ≤ B / X ∨ 2 * (B % X) ≤ X)) ∨ (o = B / X + 1 ∧ (B / X < n ∨ X ≤ 2 * (B % X)))) :
    dist (o * X) B ≤ dist (n * X) B := by
  have hdm := Nat.div_add_mod B X
  have hml := Nat.mod_lt B hX
  rw [Nat.mul_comm] at hdm
  generalize B / X = r at *
  generalize B % X = f at *
  -- the two neighbours of `B` on the grid against `n·X`
  have c : (n ≤ r ∧ n * X ≤ r * X) ∨ (r < n ∧ r * X + X ≤ n * X) :=
    (Nat.lt_or_ge r n).symm.imp (fun h => ⟨h, Nat.mul_le_mul_right X h⟩) fun h => ⟨h, by
      have := Nat.mul_le_mul_right X (Nat.succ_le_of_lt h); rwa [Nat.succ_mul] at this⟩
  unfold dist
  rcases h with ⟨rfl, h⟩ | ⟨rfl, h⟩
  · omega
  · rw [Nat.add_mul, Nat.one_mul]; omega

/-- when the removed part is at least half a unit, `vr + 1` is still at or below the upper end: the lower neighbour is never
farther away than the upper one -/
theorem incr_lt_of_half {A B Cu X : Nat} (hX : 0 < X) (C : Nat) (incl : Bool) (hmr : A / X ≤ B / X) (hrp : B / X ≤ Cu / X)
    (hCu : C ≤ Cu + 1 ∧ (incl = true → Cu = C)) (hgap : 2 * B ≤ A + C)
    (K3 : A / X < Cu / X ∨ (incl = true ∧ X ∣ A)) (hup : X ≤ 2 * (B % X)) : B / X < Cu / X := by
  apply Nat.lt_of_le_of_ne hrp
  intro hpr
  have hA := Nat.div_add_mod A X
  have hB := Nat.div_add_mod B X
  have hC := Nat.div_add_mod Cu X
  have hc := Nat.mod_lt Cu hX
  have ha := Nat.mod_lt A hX
  have hE : X ∣ A → A % X = 0 := Nat.mod_eq_zero_of_dvd
  rw [← hpr] at hC K3
  have hrm := le_of_mul_lt_add X (B / X) (A / X)
  generalize A / X = m at *
  generalize B / X = r at *
  have : r = m := Nat.le_antisymm (hrm (by omega)) hmr
  subst this
  rcases K3 with h3 | ⟨h3, h4⟩
  · omega
  · have := hCu.2 h3; have := hE h4; omega

/-- the decision at the level `X = D·10^k`: with `m`, `r`, `p` the floors of the lower end `A`, the value `B` and the upper end
`Cu`, the admissible multiples of `X` are those from `m` (if `A` is an included exact multiple) or `m + 1` up to `p` (`adm_iff`);
`finish` answers `r + 1` when `r` is below that range or `B` lies in the upper half of its cell (`grid_closest`), else `r` -/
theorem finish_level {A B Cu X : Nat} (hX : 0 < X) (hAB : A ≤ B) (hBC : B ≤ Cu) (C last : Nat) (incl fm fr : Bool)
    (hp64 : Cu / X < 2 ^ 64) (hCu : C ≤ Cu + 1 ∧ (incl = true → Cu = C)) (hgap : 2 * B ≤ A + C)
    (K3 : A / X < Cu / X ∨ (incl = true ∧ X ∣ A))
    (K4 : (fm = true → (incl = true ∧ X ∣ A)) ∧ ((incl = true ∧ X ∣ A) → fm = false → B / X ≠ A / X))
    (dg1 : 5 ≤ last → X ≤ 2 * (B % X)) (dg2 : last < 5 → 2 * (B % X) ≤ X)
    (dg3 : fr = true → last = 5 → 2 * (B % X) = X) :
    (loEnd A incl ≤ finish (B / X) (A / X) incl fm fr last * X ∧ finish (B / X) (A / X) incl fm fr last * X ≤ Cu) ∧
    ∀ n, (loEnd A incl ≤ n * X ∧ n * X ≤ Cu) →
      dist (finish (B / X) (A / X) incl fm fr last * X) B ≤ dist (n * X) B := by
  have hmr : A / X ≤ B / X := Nat.div_le_div_right hAB
  have hrp : B / X ≤ Cu / X := Nat.div_le_div_right hBC
  -- the code's test `vr == vm && (!acceptBounds || !vmIsTrailingZeros)` says that `vr` is below the admissible range
  have hlow : B / X = A / X → ((incl = false ∨ fm = false) ↔ ¬ (incl = true ∧ X ∣ A)) := by
    intro hrm
    constructor
    · rintro h hE
      rcases h with h | h
      · rw [hE.1] at h; cases h
      · exact K4.2 hE h hrm
    · intro hE
      cases hfm : fm with
      | false => exact Or.inr rfl
      | true => exact (hE (K4.1 hfm)).elim
  simp only [adm_iff A Cu X incl _ hX]
  rw [finish_eq]
  split
  · rename_i hup
    have hup' : (B / X = A / X ∧ ¬ (incl = true ∧ X ∣ A)) ∨ X ≤ 2 * (B % X) :=
      hup.imp (fun h => ⟨h.1, (hlow h.1).mp h.2⟩) (fun h => dg1 h.1)
    have hrp' : B / X < Cu / X := by
      rcases hup' with ⟨h1, h2⟩ | h
      · rw [h1]; exact K3.resolve_right h2
      · exact incr_lt_of_half hX C incl hmr hrp hCu hgap K3 h
    rw [u64_of_lt _ (Nat.lt_of_le_of_lt (Nat.succ_le_of_lt hrp') hp64)]
    refine ⟨⟨hrp', Or.inl (Nat.lt_succ_of_le hmr)⟩, fun n hn => grid_closest hX B _ n (Or.inr ⟨rfl, ?_⟩)⟩
    rcases hup' with ⟨h1, h2⟩ | h
    · rw [h1]; exact Or.inl (hn.2.resolve_right fun h => h2 h.2)
    · exact Or.inr h
  · rename_i hup
    rw [not_or] at hup
    refine ⟨⟨hrp, ?_⟩, fun n _ => grid_closest hX B _ n (Or.inl ⟨rfl, Or.inr ?_⟩)⟩
    · by_cases hrm : B / X = A / X
      · exact Or.inr ⟨hrm, Classical.not_not.mp fun hE => hup.1 ⟨hrm, (hlow hrm).mpr hE⟩⟩
      · exact Or.inl (Nat.lt_of_le_of_ne hmr (Ne.symm hrm))
    · by_cases h5 : 5 ≤ last
      · have := Classical.not_not.mp fun ht => hup.2 ⟨h5, ht⟩
        exact Nat.le_of_eq (dg3 this.1 this.2.1)
      · exact dg2 (Nat.lt_of_not_le h5)

/-- Step 4's decision at the level where the loops stopped (`k` digits removed): the output is in the rounding interval
and no admissible decimal with `k` digits removed is closer to the exact value. -/
theorem finish_correct (A B C D k : Nat) (incl fm fr : Bool)
    (hD : 0 < D) (hAB : A + D ≤ B) (hBC : B + D ≤ C) (hgap : B - A ≤ C - B)
    (hp64 : hiEnd C incl / D < 2 ^ 64)
    (K3 : 1 ≤ k → A / (D * 10 ^ k) < hiEnd C incl / (D * 10 ^ k) ∨ (incl = true ∧ D * 10 ^ k ∣ A))
    (K4 : (fm = true → (incl = true ∧ D * 10 ^ k ∣ A)) ∧
      ((incl = true ∧ D * 10 ^ k ∣ A) → fm = false → B / (D * 10 ^ k) ≠ A / (D * 10 ^ k)))
    (K5 : fr = true → ((D ∣ B ∨ (D ∣ 2 * B ∧ 5 ∣ 2 * B / D)) ∧ (k = 0 ∨ 10 ^ (k - 1) ∣ B / D)))
    (K6 : k = 0 → D ∣ B) :
    Adm A C D incl (finish (B / (D * 10 ^ k)) (A / (D * 10 ^ k)) incl fm fr (digitAt (B / D) k)) k ∧
    ∀ n, Adm A C D incl n k →
      dist (finish (B / (D * 10 ^ k)) (A / (D * 10 ^ k)) incl fm fr (digitAt (B / D) k) * (D * 10 ^ k)) B
        ≤ dist (n * (D * 10 ^ k)) B := by
  have hCu := hiEnd_facts C incl
  have hA : A ≤ B := by omega
  have hB : B ≤ hiEnd C incl := by omega
  have hg : 2 * B ≤ A + C := by omega
  have hw : A + D ≤ hiEnd C incl := by omega
  obtain ⟨dg1, dg2, dg3⟩ := digit_half B D k hD K6
  have hX : 0 < D * 10 ^ k := Nat.mul_pos hD (Nat.pow_pos (by decide))
  have hp64' : hiEnd C incl / (D * 10 ^ k) < 2 ^ 64 :=
    Nat.lt_of_le_of_lt (Nat.div_le_div_left (Nat.le_mul_of_pos_right D (Nat.pow_pos (by decide))) hD) hp64
  -- with no digit removed the interval still holds two multiples of `D`
  have K3' : A / (D * 10 ^ k) < hiEnd C incl / (D * 10 ^ k) ∨ (incl = true ∧ D * 10 ^ k ∣ A) := by
    cases k with
    | succ k => exact K3 (Nat.succ_le_succ (Nat.zero_le k))
    | zero =>
      left
      rw [Nat.pow_zero, Nat.mul_one]
      show A / D + 1 ≤ _
      rw [← Nat.add_div_right A hD]; exact Nat.div_le_div_right hw
  -- an exact tie shows the digits `50…0` only if `B/D` is an integer (`half_int_tie`)
  have d3 : fr = true → digitAt (B / D) k = 5 → 2 * (B % (D * 10 ^ k)) = D * 10 ^ k := fun hfr hl => by
    obtain ⟨ha, hb⟩ := K5 hfr
    refine dg3 hl (ha.elim id fun ha => ?_) hb
    cases k with
    | zero => cases hl
    | succ k' => exact half_int_tie B D k' hD ha.1 ha.2 (hb.resolve_left (Nat.succ_ne_zero k')) hl
  exact finish_level hX hA hB C _ incl fm fr hp64' ⟨hCu.2.1, hCu.2.2⟩ hg K3' K4 dg1 dg2 d3

end QF.Props.C16Core
