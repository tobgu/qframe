import QF.Props.C16Link
import QF.Props.C16Precision
/-!
# C16 — the unconditional statement: the text of the mirror pipeline is the shortest round-trip text

`ryu_text_is_shortest`: `ryu_text_is_shortest_partial` of `C16Link` without its hypothesis.  `decimal_shortest` feeds
`decimal_shortest_of` with `C16Core.ryu_shortest` (`C16Precision`: Ryu's precision lemma for the extracted tables, with the two
floats for which the per-float hypothesis of `ryu_shortest_partial` is false — `hypothesis_fails` — treated directly) where
`ryu_text_is_shortest_partial` uses `ryu_shortest_partial`; `text_of_shortest` does the rest.
-/
namespace QF.Props.C16Link
open QF.Num QF.Ryu64 QF.Props.C16Round QF.Props.C16Core

/-- the decimal the hook `decimal` returns for the fields of a finite non-zero float64 is `Shortest` for its magnitude: in
the rounding interval, no decimal with fewer digits is, none of that length is closer — no hypotheses
(fast path: `shortest_of_exactInt`; general algorithm: `ryu_shortest` + `shortest_of_spec`) -/
theorem decimal_shortest (b : UInt64) (dy : Num.Dyadic) (hd : decode b = some dy) (h0 : dy.m ≠ 0) :
    Shortest (magBits b) ⟨false, dy.m, dy.e⟩ (decimal (mantOf b) (expOf b)).1 (decimal (mantOf b) (expOf b)).2.1 :=
  decimal_shortest_of b dy hd h0 fun _ hm he hnz => ryu_shortest _ _ hm he hnz

/-- **`ryu_text_is_shortest` (C16, unconditional for the mirror pipeline).** For every finite non-zero float64 `b` (either
sign; `decode b = some dy`, `dy.m ≠ 0`) and every state of the output buffer (content, stale spare capacity, whatever a
reallocation leaves behind): the text that `appendF` — sign, `decimalLen64`, the three digit layouts — appends for the decimal
computed by `Ryu64.decimal` (exact-integer fast path, else `float64ToDecimal`)
* passes `Num.isShortestRoundTrip b`: plain positional notation in canonical form, parses back to exactly `b` under correct
  rounding (`Num.ofDecimal`, proved IEEE nearest-even in `C16Round`), no decimal with fewer significant digits does, and none
  of that length in the rounding interval is closer to the float's exact value;
* passes `Num.parsesTo b`, and every finite float64 of the text's sign that is an IEEE nearest-even rounding of the number the
  text denotes — what any correct parser returns — is `b` itself.
There is no hypothesis about the `mulShift64` products (`C16Core.ryu_shortest`). -/
theorem ryu_text_is_shortest (b : UInt64) (dy : Num.Dyadic) (hd : decode b = some dy) (h0 : dy.m ≠ 0)
    (buf : AF.Buf) (extraS extra0 extra : List AF.Byte) :
    ∃ text,
      (appendF buf dy.neg (decimal (mantOf b) (expOf b)).1 (decimal (mantOf b) (expOf b)).2.1 extraS extra0 extra).content
        = buf.content ++ text ∧
      isShortestRoundTrip b text = true ∧ parsesTo b text = true ∧
      ∀ (bits' : UInt64) (dy' : Num.Dyadic) (neg : Bool) (m : Nat) (d : Int),
        parsePositional text = some (neg, m, d) → decode bits' = some dy' → dy'.neg = neg →
        IsNearest (decNum m d) (decDen d) dy'.m dy'.e → bits' = b :=
  text_of_shortest b dy hd h0 _ _ (decimal_shortest b dy hd h0) buf extraS extra0 extra

/-- the text itself: the sign and `positional m e` for `(m, e, _) = decimal (mantOf b) (expOf b)` -/
theorem ryu_text_eq (b : UInt64) (dy : Num.Dyadic) (hd : decode b = some dy) (h0 : dy.m ≠ 0)
    (buf : AF.Buf) (extraS extra0 extra : List AF.Byte) :
    (appendF buf dy.neg (decimal (mantOf b) (expOf b)).1 (decimal (mantOf b) (expOf b)).2.1 extraS extra0 extra).content
      = buf.content ++ ((if dy.neg then [45] else []) ++
          positional (decimal (mantOf b) (expOf b)).1 (decimal (mantOf b) (expOf b)).2.1) := by
  have S := decimal_shortest b dy hd h0
  exact appendF_content _ _ _ _ _ _ _ (decimalLen64_spec57 _ (Nat.ne_of_gt S.pos) S.lt).2

/-- instantiated at 0.1 (general algorithm) and −3.0 (fast path): no side conditions beyond `decode` -/
example (buf : AF.Buf) (x y z : List AF.Byte) :=
  ryu_text_is_shortest 0x3FB999999999999A ⟨false, 7205759403792794, -56⟩ (by decide) (by decide) buf x y z
example (buf : AF.Buf) (x y z : List AF.Byte) :=
  ryu_text_is_shortest 0xC008000000000000 ⟨true, 6755399441055744, -51⟩ (by decide) (by decide) buf x y z

#print axioms decimal_shortest
#print axioms ryu_text_is_shortest
#print axioms ryu_text_eq

end QF.Props.C16Link
