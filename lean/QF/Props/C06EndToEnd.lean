import QF.Props.C06FApplyGen
import QF.Props.C03SortGlueGen
import QF.Props.C06GlueLink
import QF.Props.C10Sticky
/-!
# C06 end to end — `Apply`, `FilteredApply`, `WithRowNums` as regenerated = the spec on the logical frame

Composition of the T1 pieces of C06 into one statement per public operation, on PHYSICAL frames (`C06FApplyGen.PFr`: the
stored columns — every column with the cells of ALL physical rows —, the index, the error flag). The logical frame of the
spec is the stored columns read through the index (`viewFr X.index X.cols`).

* `gen_apply_end_to_end`  — for every well-formed physical frame (`PhysOK`) and every list of instructions in scope,
    `Apply` as regenerated (`applyX`: the loop and dispatch of `Gen.applyAst`, C10Guards.gen_apply_dispatch /
    gen_apply_loop; the helper loops `Gen.apply0Ast` / `apply1Ast` / `apply2Ast`, C06LoopsGen.gen_apply_loops_physical; `Copy`
    and `setColumn` at list level, C06FApplyGen.gen_copy_shares_column / C08ProjectGen; the built-in `ToUpper` tables) returns
    a frame that, read through the receiver's index, IS `applyS` of the logical frame (mask = all rows, `fillAll` plays no
    role: `applyS_all_fillAll`); the index is untouched; a result without error is again well-formed; a receiver with an
    error comes back as it is.
* what `applyS` says, as the property's text has it (spec-level lemmas, so that the statement can be read without the
  definition): `applyInstr_shape` + `setCol_*` — an instruction that succeeds leaves the frame as it is (a copy onto
  itself) or sets ONE column named `dst`: replaced IN ITS POSITION if the name exists, APPENDED LAST otherwise, every other
  column (and the number of rows) untouched; `applyInstr_f1_rowwise` / `_f2_rowwise` / `_const_rowwise` — the new cells are
  the function of the cells OF THE SAME ROW; `gen_apply_stops_at_first_failing` — the first failing instruction ends the call:
  the instructions before it are applied (regenerated `Apply` on that prefix succeeds), the failing one fails on the frame
  they built, and the whole call returns a frame with an error.
* `gen_fapply_end_to_end`, `gen_rownums_end_to_end` — the same packaging of C06FApplyGen.gen_fapply_semantics /
    gen_rownums_semantics with `PhysOK`.
* `gen_apply_glue` — `apply1` / `apply2` regenerated statement by statement (C03SortGlueGen.gen_apply12_semantics) for every
    meaning of the callees: which column receives `Apply1` / `Apply2`, the index argument, the destination of `setColumn`.
* `gen_apply_step_glue` (C06GlueLink.helperX_eq_genApply12) — COMPOSED: the helper calls `apply1` / `apply2` inside `applyX`
    (`helperFr` → `helperX`, which reads `findX cols src` … `placeX cols dst` by hand) ARE the regenerated glue: on a frame
    without error, whenever the helper call has a meaning, `genApply1` / `genApply2` of today's qframe.go — run with the
    callees `C06GlueLink.prims` (today's `Column.Apply1` / `Apply2` loop terms, the built-in table, `setX`) — return the very
    frame `helperFr` returns (columns, receiver's index, error flag). So `gen_apply_end_to_end` rests on regenerated terms
    at every level: loop + dispatch (`Gen.applyAst`), the frame methods (`Gen.sortGlue…`), the column loops (`Gen.apply?Ast`).

Scope (as in C06FApplyGen): instructions of the catalogue `GoInstr`, minus a Go `string` function value WITHOUT a source
column (`InScope`); `fillAll := true` in `gen_fapply_end_to_end` is the recorded open finding KF-C06-fapply-fill.
-/
set_option linter.unusedSimpArgs false
namespace QF.Props.C06EndToEnd
open QF QF.Props.C06FApplyGen QF.Props.C10Guards QF.Props.C06LoopsGen

/-! ## Well-formed physical frames -/

/-- a well-formed physical frame: all columns of one physical length, cells of the column's type, enum tables of at most
255 values (`ColsOK`), a duplicate-free index inside the columns — what `New` and every operation produce -/
structure PhysOK (X : PFr) : Prop where
  cols : ColsOK X.cols
  inRange : ∀ p ∈ X.index, p < firstLen X.cols
  nodup : X.index.Nodup

/-- the logical frame of a physical frame -/
def logical (X : PFr) : LFrame := viewFr X.index X.cols

/-- all rows -/
def allRows : Nat → Bool := fun _ => true

/-! ## With all rows selected `fillAll` plays no role -/

theorem applyInstr_all_fillAll (up : UpperOracle) (f : LFrame) (ins : Instr) :
    applyInstr up f allRows ins true = applyInstr up f allRows ins false := by
  obtain ⟨dst, s1, s2, fn⟩ := ins
  -- `fillAll` only chooses between `fun _ => true` and the mask, which here is `fun _ => true` too
  cases fn <;> rfl

theorem applyS_all_fillAll (up : UpperOracle) (f : LFrame) (is : List Instr) :
    applyS up f allRows true is = applyS up f allRows false is := by
  induction is generalizing f with
  | nil => rfl
  | cons i t ih =>
    unfold applyS
    rw [applyInstr_all_fillAll]
    cases applyInstr up f allRows i false with
    | ok f' => exact ih f'
    | err => rfl

/-! ## `Apply` -/

/-- **`Apply` of today's source, end to end.** For every well-formed physical frame `X` without error, every stored
representation of its string / enum columns and every list of instructions in scope, the regenerated `Apply` returns a
frame `X'` with the receiver's index which, read through that index, is exactly `applyS` of the logical frame: every
instruction in turn, each on the frame its predecessors built, all rows; `.err` as soon as one fails. A result without
error is well-formed again (so the next operation meets its hypotheses). -/
theorem gen_apply_end_to_end (R : Reps) (hR : R.OK) (up : UpperOracle) (gs : List GoInstr) (hs : ∀ g ∈ gs, InScope g)
    (X : PFr) (hX : PhysOK X) :
    ∃ X', applyX R up X (gs.map XInstr.of) = some X' ∧
      (X.err = true → X' = X) ∧
      (X.err = false →
        X'.index = X.index ∧
        resFr X.index X' = applyS up (logical X) allRows false (gs.map toInstr) ∧
        (X'.err = false → PhysOK X')) := by
  cases he : X.err with
  | true => exact ⟨X, applyX_err R up X he gs, fun _ => rfl, fun h => by cases h⟩
  | false =>
    have hf : X.index.filter allRows = X.index := List.filter_eq_self.mpr (fun _ _ => rfl)
    obtain ⟨X', a, b, d, e⟩ := applyX_spec R hR up X.index allRows allRows hX.nodup (fun _ _ => rfl) gs X he hf.symm
      hX.cols hX.inRange hs
    refine ⟨X', a, (fun h => by cases h), fun _ => ⟨b, ?_, fun h => ?_⟩⟩
    · rw [d, applyS_all_fillAll]; rfl
    · obtain ⟨h1, h2⟩ := e h
      exact ⟨h1, by rw [b, h2]; exact hX.inRange, by rw [b]; exact hX.nodup⟩

/-! ## What `applyS` says: one column set, in position or last; everything else untouched; row-wise values -/

theorem setCol_n (f : LFrame) (c : LCol) : (setCol f c).n = f.n := by
  unfold setCol; split <;> rfl

/-- an unknown destination is appended LAST -/
theorem setCol_append (f : LFrame) (c : LCol) (h : f.has c.name = false) : (setCol f c).cols = f.cols ++ [c] := by
  simp [setCol, h]

/-- a known destination is replaced IN ITS POSITION; the number of columns stays -/
theorem setCol_replace (f : LFrame) (c : LCol) (h : f.has c.name = true) (i : Nat) (o : LCol) (ho : f.cols[i]? = some o)
    (hn : o.name = c.name) : (setCol f c).cols[i]? = some c ∧ (setCol f c).cols.length = f.cols.length := by
  simp [setCol, h, ho, hn]

/-- every column with another name stays where it is, as it is -/
theorem setCol_others (f : LFrame) (c : LCol) (i : Nat) (o : LCol) (ho : f.cols[i]? = some o) (hn : o.name ≠ c.name) :
    (setCol f c).cols[i]? = some o := by
  have hb : (o.name == c.name) = false := by simpa using hn
  unfold setCol
  split
  · simp [ho, hb, hn]
  · have hi : i < f.cols.length := (List.getElem?_eq_some_iff.1 ho).1
    simp [List.getElem?_append_left hi, ho]

/-- a result that, if it is a frame, is `f` itself or `f` with one column named `dst` set -/
def Shape (f : LFrame) (dst : Bytes) (r : Res) : Prop :=
  ∀ f', r = .ok f' → f' = f ∨ ∃ c : LCol, c.name = dst ∧ f' = setCol f c

theorem Shape.err {f : LFrame} {dst : Bytes} : Shape f dst .err := fun _ h => by cases h

theorem Shape.self {f : LFrame} {dst : Bytes} : Shape f dst (.ok f) := fun _ h => by cases h; exact .inl rfl

theorem Shape.set {f : LFrame} {dst : Bytes} (c : LCol) (hc : c.name = dst) : Shape f dst (.ok (setCol f c)) :=
  fun _ h => by cases h; exact .inr ⟨c, hc, rfl⟩

theorem Shape.ite {f : LFrame} {dst : Bytes} {p : Prop} [Decidable p] {r1 r2 : Res} (h1 : Shape f dst r1)
    (h2 : Shape f dst r2) : Shape f dst (if p then r1 else r2) := by
  split <;> assumption

/-- Every leaf of `applyInstr` is an error, the frame, or `setCol` of a column named by the destination. The instruction is
taken apart first, so that `applyInstr` is unfolded on one form of instruction at a time and only the tests that are left
(a column look-up, the catalogue, a legal name) are split. -/
theorem applyInstr_shape_all (up : UpperOracle) (f : LFrame) (m : Nat → Bool) (ins : Instr) (b : Bool) :
    Shape f ins.dst (applyInstr up f m ins b) := by
  obtain ⟨dst, s1, s2, fn⟩ := ins
  cases s1 with
  | none =>
    cases fn with
    | const c => exact .ite (.set _ rfl) .err
    | colCopy n =>
      simp only [applyInstr]
      repeat' split
      all_goals first | exact .err | exact .self | exact .set _ rfl
    | f0 kind st =>
      simp only [applyInstr]
      repeat' split
      all_goals first | exact .err | exact .self | exact .set _ rfl
    | _ => exact .err
  | some s1 =>
    cases s2 <;> cases fn <;> simp only [applyInstr] <;> repeat' split
    all_goals first | exact .err | exact .set _ rfl

/-- **An instruction that succeeds changes one column**: the result is the frame itself (a `ColumnName` copy onto itself)
or `setCol f c` for ONE column `c` named by the destination. -/
theorem applyInstr_shape (up : UpperOracle) (f f' : LFrame) (m : Nat → Bool) (ins : Instr) (b : Bool)
    (h : applyInstr up f m ins b = .ok f') : f' = f ∨ ∃ c : LCol, c.name = ins.dst ∧ f' = setCol f c :=
  applyInstr_shape_all up f m ins b f' h

/-- a one-source function: cell `r` of the destination is the function of cell `r` of the source -/
theorem applyInstr_f1_rowwise (up : UpperOracle) (f : LFrame) (dst s1 : Bytes) (id : String) (c : LCol) (src rt : CType)
    (g : Cell → Cell) (hc : f.find? s1 = some c) (hf : fn1 id = some (src, rt, g)) (hk : fkind c.ty = src)
    (hl : legalName dst = true) :
    applyInstr up f allRows ⟨dst, some s1, none, .f1 id⟩ =
      .ok (setCol f { name := dst, ty := rt, cells := ((List.range f.n).map (fun r => g c.cells[r]!)).toArray }) := by
  simp [applyInstr, hc, hf, hk, hl, allRows]

/-- a two-source function: cell `r` of the destination is the function of the cells `r` of the two sources -/
theorem applyInstr_f2_rowwise (up : UpperOracle) (f : LFrame) (dst s1 s2 : Bytes) (id : String) (c1 c2 : LCol) (src : CType)
    (g : Cell → Cell → Cell) (h1 : f.find? s1 = some c1) (h2 : f.find? s2 = some c2) (hf : fn2 id = some (src, g))
    (ht : c1.ty = c2.ty) (hk : fkind c1.ty = src) (hl : legalName dst = true) :
    applyInstr up f allRows ⟨dst, some s1, some s2, .f2 id⟩ =
      .ok (setCol f { name := dst, ty := src,
                      cells := ((List.range f.n).map (fun r => g c1.cells[r]! c2.cells[r]!)).toArray }) := by
  have hk2 : fkind c2.ty = src := ht ▸ hk
  simp [applyInstr, h1, h2, hf, ht, hk, hk2, hl, allRows]

/-- a constant: every row holds it -/
theorem applyInstr_const_rowwise (up : UpperOracle) (f : LFrame) (dst : Bytes) (k : Cell) (hl : legalName dst = true) :
    applyInstr up f allRows ⟨dst, none, none, .const k⟩ =
      .ok (setCol f { name := dst, ty := cellType k, cells := ((List.range f.n).map (fun _ => k)).toArray }) := by
  simp [applyInstr, hl, allRows]

/-! ## The first failing instruction ends the call -/

/-- **The first failing instruction ends the call.** With `k` the position of the first instruction that fails (on the
frame its predecessors built; the length of the list if none fails): the regenerated `Apply` on the first `k` instructions
succeeds with a well-formed frame `Xk`; instruction `k`, if there is one, fails on the logical frame of `Xk`; and the
regenerated `Apply` on the WHOLE list then returns a frame with an error (whatever comes after `k`). -/
theorem gen_apply_stops_at_first_failing (R : Reps) (hR : R.OK) (up : UpperOracle) (gs : List GoInstr)
    (hs : ∀ g ∈ gs, InScope g) (X : PFr) (hX : PhysOK X) (he : X.err = false) :
    let k := firstFailing up (logical X) allRows (gs.map toInstr)
    ∃ Xk, applyX R up X ((gs.take k).map XInstr.of) = some Xk ∧ Xk.err = false ∧ Xk.index = X.index ∧ PhysOK Xk ∧
      (∀ g, gs[k]? = some g → applyInstr up (logical Xk) allRows (toInstr g) = .err) ∧
      (k < gs.length → ∃ X', applyX R up X (gs.map XInstr.of) = some X' ∧ X'.err = true) := by
  intro k
  obtain ⟨g0, hg0, hfail⟩ := C10Sticky.applyS_stops_at_first_failing up (logical X) allRows (gs.map toInstr)
  obtain ⟨Xk, a, _, b⟩ := gen_apply_end_to_end R hR up (gs.take k) (fun g hg => hs g (List.mem_of_mem_take hg)) X hX
  obtain ⟨hix, hres, hok⟩ := b he
  rw [List.map_take, hg0] at hres
  have hek : Xk.err = false := by
    cases h : Xk.err with
    | false => rfl
    | true => simp [resFr, h] at hres
  have hlog : logical Xk = g0 := by
    simp only [resFr, hek, Bool.false_eq_true, if_false, Res.ok.injEq] at hres
    rw [logical, hix]; exact hres
  refine ⟨Xk, a, hek, hix, hok hek, ?_, ?_⟩
  · intro g hg
    rw [hlog]
    apply hfail
    show (gs.map toInstr)[k]? = some (toInstr g)
    rw [List.getElem?_map, hg]; rfl
  · intro hk
    obtain ⟨X', a', _, b'⟩ := gen_apply_end_to_end R hR up gs hs X hX
    obtain ⟨_, hres', _⟩ := b' he
    have herr : applyS up (logical X) allRows false (gs.map toInstr) = .err :=
      (C10Sticky.applyS_err_iff up (logical X) allRows (gs.map toInstr)).2 (by simpa using hk)
    rw [herr] at hres'
    refine ⟨X', a', ?_⟩
    cases h : X'.err with
    | true => rfl
    | false => simp [resFr, h] at hres'

/-! ## `FilteredApply`, `WithRowNums` -/

/-- **`FilteredApply` of today's source, end to end**: the regenerated body (`Gen.fapplyAst`: Filter, the copy of the frame
value, the index swap, `Apply`, the index restored) over the regenerated `Apply`, for every well-formed physical frame,
clause and list of instructions in scope, with `Filter` as proved elsewhere (`FilterOK`; `hypotheses_satisfiable`): the
result read through the receiver's ORIGINAL index is `filteredApplyS … (fillAll := true)` of the logical frame, and carries
the original index; a receiver with an error comes back as it is. (`fillAll := true`: the open finding KF-C06-fapply-fill,
C06FApplyGen.gen_fapply_copy_fills_all.) -/
theorem gen_fapply_end_to_end (R : Reps) (hR : R.OK) (lo : LikeOracle) (up : UpperOracle) (c : Clause) (gs : List GoInstr)
    (hs : ∀ g ∈ gs, InScope g) (X : PFr) (filt : PFr → Option PFr) (hF : FilterOK lo c filt X) (hX : PhysOK X) :
    ∃ Y, runFA (physEnv R up X [] filt gs) Gen.fapplyAst [] = some Y ∧
      (X.err = true → Y = X) ∧
      (X.err = false →
        resFr X.index Y = filteredApplyS lo up (logical X) c (gs.map toInstr) true ∧
        (Y.err = false → Y.index = X.index)) :=
  gen_fapply_semantics R hR lo up c gs hs X filt hF hX.cols hX.inRange hX.nodup

/-- **`WithRowNums` of today's source, end to end**: the column `0 … n-1` in INDEX order under the given name, set like any
destination of `Apply` (`rowNumsS`); an illegal name gives an error; a receiver with an error comes back as it is. -/
theorem gen_rownums_end_to_end (R : Reps) (up : UpperOracle) (X : PFr) (name : Bytes) (hX : PhysOK X) :
    ∃ Y, runFA (physEnv R up X name (fun _ => none) []) Gen.rowNumsFnAst [] = some Y ∧
      (X.err = true → Y = X) ∧
      (X.err = false → Y.index = X.index ∧ resFr X.index Y = rowNumsS (logical X) name) :=
  gen_rownums_semantics R up X name hX.cols hX.inRange hX.nodup

/-- the glue `apply1` / `apply2` of today's source, for every meaning of the callees -/
theorem gen_apply_glue {φ : Type} (P : SG.APrims φ) (F : GG.Frame) (fn : φ) (dst src1 src2 : Bytes) :
    C03SortGlueGen.genApply1 P F fn dst src1 = some (C03SortGlueGen.specApply1 P F fn dst src1) ∧
    C03SortGlueGen.genApply2 P F fn dst src1 src2 = some (C03SortGlueGen.specApply2 P F fn dst src1 src2) :=
  C03SortGlueGen.gen_apply12_semantics P F fn dst src1 src2

/-- a physical frame value as a frame of the glue -/
def glueFr (X : PFr) : GG.Frame := { cols := X.cols.map C06GlueLink.toL, index := X.index, err := X.err }

/-- **the helper calls of `Apply` are the regenerated `apply1` / `apply2`** (the instantiation of `gen_apply_glue`): a step of
`applyX` — instruction `g`, dispatched by today's `Apply` to helper `k ∈ {1, 2}` with the argument fields `args` — on a frame
`X` without error that has a meaning `Y` (`helperFr … = some Y`): the regenerated frame method, given the destination and
source names the dispatch passes, the function value of the instruction and the callees `C06GlueLink.prims`, returns `Y`
(as a frame of the glue: same columns, the receiver's index, same error flag). -/
theorem gen_apply_step_glue (R : Reps) (up : UpperOracle) (X : PFr) (hX : X.err = false) (g : XInstr) (k : Nat)
    (args : List IField) (hk : k = 1 ∨ k = 2) (Y : PFr) (h : helperFr R up k args g X = some Y) :
    (if k = 1 then
       C03SortGlueGen.genApply1 (C06GlueLink.prims R up) (glueFr X) (g.fn, g.s0)
         (((args[1]?).map g.field).getD []) (((args[2]?).map g.field).getD [])
     else
       C03SortGlueGen.genApply2 (C06GlueLink.prims R up) (glueFr X) (g.fn, g.s0)
         (((args[1]?).map g.field).getD []) (((args[2]?).map g.field).getD []) (((args[3]?).map g.field).getD [])) =
      some (glueFr Y) ∧ Y.index = X.index := by
  unfold helperFr at h
  rw [hX] at h
  simp only [Bool.false_eq_true, if_false, Option.map_eq_some_iff] at h
  obtain ⟨r, hr, hY⟩ := h
  have hg : glueFr X = C06GlueLink.frameOf X.cols X.index := by simp [glueFr, C06GlueLink.frameOf, hX]
  have hres : glueFr Y = C06GlueLink.frameRes X.cols X.index r ∧ Y.index = X.index := by
    subst hY
    cases r <;> simp [glueFr, C06GlueLink.frameRes, hX]
  rw [hg, hres.1]
  exact ⟨C06GlueLink.helperFr_glue R up X hX _ _ _ g.fn g.s0 k hk r hr, hres.2⟩

/-! ## Example: a derived frame and a list with a replaced, an appended and a failing destination -/

/-- physical rows 0..3, the frame shows rows 3, 1 (filtered and reordered) -/
def exX : PFr :=
  { cols := [{ name := [97], col := { ty := .int, cells := [.int 10, .int 20, .int 30, .int 40] } },
             { name := [98], col := { ty := .int, cells := [.int 1, .int 2, .int 3, .int 4] } }],
    index := [3, 1], err := false }

theorem exX_ok : PhysOK exX := by
  refine ⟨⟨?_, ?_, ?_⟩, by decide, by decide⟩
  · intro c hc
    simp only [exX, List.mem_cons, List.not_mem_nil, or_false] at hc
    rcases hc with rfl | rfl <;> rfl
  · intro c hc
    simp only [exX, List.mem_cons, List.not_mem_nil, or_false] at hc
    rcases hc with rfl | rfl <;> exact ⟨by decide, by decide⟩
  · intro c hc hty
    simp only [exX, List.mem_cons, List.not_mem_nil, or_false] at hc
    rcases hc with rfl | rfl <;> cases hty

/-- constant 7 into the existing column `a` (replaced in position), a copy of `b` under the new name `c` (appended last),
then a copy of a column that does not exist (fails; the fourth instruction is never looked at) -/
def exGs : List GoInstr :=
  [{ dst := [97], fn := .const (.int 7) }, { dst := [99], fn := .colCopy [98] }, { dst := [100], fn := .colCopy [122] },
   { dst := [101], fn := .const (.int 1) }]

theorem exGs_scope : ∀ g ∈ exGs, InScope g := by
  intro g hg
  simp only [exGs, List.mem_cons, List.not_mem_nil, or_false] at hg
  rcases hg with rfl | rfl | rfl | rfl <;> intro _ n h <;> cases h

/-- the spec on the example: the first two instructions give a, b, c = [7, 7], [4, 2], [4, 2]; the third fails -/
example : firstFailing (fun b => b) (logical exX) allRows (exGs.map toInstr) = 2 ∧
    (match applyS (fun b => b) (logical exX) allRows false ((exGs.take 2).map toInstr) with
     | .ok f => f.cols.map (fun c => (c.name, c.cells.toList))
     | .err => []) = [([97], [.int 7, .int 7]), ([98], [.int 4, .int 2]), ([99], [.int 4, .int 2])] := by
  constructor <;> decide +kernel

example (R : Reps) (hR : R.OK) :=
  gen_apply_stops_at_first_failing R hR (fun b => b) exGs exGs_scope exX exX_ok rfl

#print axioms gen_apply_end_to_end
#print axioms gen_apply_stops_at_first_failing
#print axioms gen_fapply_end_to_end
#print axioms gen_rownums_end_to_end
#print axioms applyInstr_shape
#print axioms gen_apply_glue
#print axioms gen_apply_step_glue

end QF.Props.C06EndToEnd
