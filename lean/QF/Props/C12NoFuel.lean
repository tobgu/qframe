import QF.Props.C12CsvGen
/-!
# C12 / C15 — the theorems of C12CsvGen without `_partial`

`gen_csv_semantics_partial` (C12CsvGen) relates the regenerated reader to the mirror `Csv.readAll` wherever the mirror does
not end with `panic "fuel"` — the outcome of its two scanning loops at budget 0: the ONE loop it has for `nextQuotedField`, whose
rounds are a refill or a byte, and the loop of `nextUnquotedField` (the mirror's other budgets give `panic "fuel(row)"` /
`"fuel(all)"`, which are other outcomes). `readAll_no_fuel` (C12CsvMirror, a fact about the mirror alone) discharges that hypothesis
for EVERY document, delimiter, capacity, fault position and both flags of the underlying reader, provided every scheduled read
size is ≥ 1 (the io.Reader contract the replay driver's schedules obey). Hence
`gen_csv_semantics`, `gen_csv_semantics_rows`, `gen_fail_iff_reached`.
-/
namespace QF.Props.C12NoFuel
open QF QF.CR Csv QF.Props.C12CsvGen
set_option linter.unusedSimpArgs false

/-! ## The theorems of C12CsvGen without `_partial` -/

/-- **The CSV reader regenerated from today's source is the hand mirror**, for every document, delimiter, buffer capacity,
fault position and the two flags of the underlying reader, and every read schedule whose reads are ≥ 1 byte: interpreting
today's extracted functions yields exactly what the mirror yields — the rows, the final error, the final state of buffer and
reader, or a panic of the same class. (`gen_csv_semantics_partial` with its hypothesis discharged by `readAll_no_fuel`.) -/
theorem gen_csv_semantics (doc : List Byte) (sched : List Nat) (delim : Byte) (cap : Nat) (failAt : Option Nat) (eofWD fwd : Bool)
    (hs : ∀ k ∈ sched, 1 ≤ k) :
    CR.readAll Gen.csvFns doc sched delim cap failAt eofWD fwd = embed (C15Faults.readAll' doc sched delim cap failAt eofWD fwd) :=
  gen_csv_semantics_partial doc sched delim cap failAt eofWD fwd (readAll_no_fuel doc sched delim cap failAt eofWD fwd hs)

/-- … in terms of `Csv.readAll` -/
theorem gen_csv_semantics_rows (doc : List Byte) (sched : List Nat) (delim : Byte) (cap : Nat) (failAt : Option Nat) (eofWD fwd : Bool)
    (hs : ∀ k ∈ sched, 1 ≤ k) :
    rowsErr (CR.readAll Gen.csvFns doc sched delim cap failAt eofWD fwd) = embed (Csv.readAll doc sched delim cap failAt eofWD fwd) :=
  gen_csv_semantics_rows_partial doc sched delim cap failAt eofWD fwd (readAll_no_fuel doc sched delim cap failAt eofWD fwd hs)

/-- C15 for the regenerated reader, every schedule of reads ≥ 1: a run of today's extracted functions ends with the failure
of the underlying reader iff the failing `Read` call was made. -/
theorem gen_fail_iff_reached (doc : List Byte) (sched : List Nat) (delim : Byte) (cap k : Nat) (eofWD fwd : Bool)
    (hs : ∀ k ∈ sched, 1 ≤ k)
    (rows : List (List (List Byte))) (e : Option RErr) (h : Reader)
    (hrun : CR.readAll Gen.csvFns doc sched delim cap (some k) eofWD fwd = .ok (rows, e, h)) :
    e = some .fail ↔ k < h.fs.buf.src.calls :=
  gen_fail_iff_reached_partial doc sched delim cap k eofWD fwd (readAll_no_fuel doc sched delim cap (some k) eofWD fwd hs) rows e h hrun

/-- a document with a quoted field and a doubled quote, read one byte at a time into a 4-byte buffer, the 7th call failing
together with its data -/
example : CR.readAll Gen.csvFns C12CsvGen.docEscaped [1, 1, 1, 1, 1, 1, 1, 1] 44 4 (some 6) false true =
    embed (C15Faults.readAll' C12CsvGen.docEscaped [1, 1, 1, 1, 1, 1, 1, 1] 44 4 (some 6) false true) :=
  gen_csv_semantics _ _ _ _ _ _ _ (by decide)

#print axioms readAll_no_fuel
#print axioms gen_csv_semantics
#print axioms gen_csv_semantics_rows
#print axioms gen_fail_iff_reached

end QF.Props.C12NoFuel
