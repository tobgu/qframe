import QF.Props.C04GrouperTotal
/-!
# C04 / C05 — the meaning of the canonical grouper terms (3: `table.insertEntry`)

`call_insertEntry`: the translated `insertEntry` run on the Go table of a mirror table `t` that satisfies `TInv` (C04GrouperTotal:
its fields are the bounds the `uint32`/`uint64` arithmetic needs) yields the Go table of
`G.insertEntry {} (hashOf cs) (eqvOf cs) t i collect`, which satisfies `TInv` again:

* `growCheck_exec` — `if t.loadFactor > maxLoadFactor { t.grow() }` is `G.growIfNeeded` (the float comparison is the integer
  comparison `lfNum * 2 > 1 * lfDen` on the exact fractions);
* `probe_loop`     — `for pos := startPos; dstEntry == nil; pos = (pos + 1) & bitMask` is `G.probe` (stop at a free slot, or at
  an entry with the same stored hash whose first row `equals` row `i`; `InsertCollisions` counts the slots passed);
* the update of the entry found: a new entry (`hash`, `firstPos`, `occupied`, `groupCount + 1`, the new load factor
  `groupCount / len`), or the row appended to the rows of an existing entry when they are collected.
-/
namespace QF.Props.C04GrouperGen
open QF QF.GL
set_option linter.unusedSimpArgs false
set_option linter.unusedVariables false

/-- the table with another value of `InsertCollisions` -/
def withIC (T : Table) (c : Int) : Table := { T with stats := { T.stats with insertCollisions := c } }

/-! ## the growth check -/

theorem growCheck_exec (F n : Nat) (cs : List Cmp) (collect : Bool) (t t1 : G.Tbl) (m : Nat) (inv : TInv t m) (inv1 : TInv t1 m)
    (hF : M32 ≤ F) (hg : G.growIfNeeded {} t = some t1) (σ : Store) (h0 : σ 0 = some (.tbl (encTbl cs collect t))) :
    ∃ σ', growCheckPart.exec (env F (n+1)) σ = .next σ' ∧ σ' 0 = some (.tbl (encTbl cs collect t1)) ∧ σ' 1 = σ 1 := by
  have hd0 : ¬ (t.lfDen = 0) := Nat.pos_iff_ne_zero.mp inv.den
  have hlf : (encTbl cs collect t).lfNum = t.lfNum ∧ (encTbl cs collect t).lfDen = t.lfDen := ⟨rfl, rfl⟩
  rw [G.growIfNeeded_eq] at hg
  by_cases hc' : t.lfDen < t.lfNum * 2
  · simp only [hc', ↓reduceIte] at hg
    obtain ⟨k, hk⟩ := inv.pow
    -- the doubled size is the size of `t1`, which satisfies the invariant
    obtain ⟨t', hg', hs, _⟩ := G.grow_total t
    rw [hg] at hg'; cases hg'
    have hsz : 2 * t.slots.size < M32 := hs ▸ Nat.lt_of_le_of_lt inv1.sz (by decide)
    have hcall := call_grow F n cs collect t t1 k hk hsz inv.den (by omega) hg
    refine ⟨σ.set 0 (.tbl (encTbl cs collect t1)), ?_, by simp [set_apply], by simp [set_apply]⟩
    exec_simp [growCheckPart, h0, hlf.1, hlf.2, hd0, hc', hcall]
  · simp only [hc', ↓reduceIte] at hg
    cases hg
    exact ⟨σ, by exec_simp [growCheckPart, h0, hlf.1, hlf.2, hd0, hc'], h0, rfl⟩

/-! ## the probe loop -/

/-- the test at one slot: `!e.occupied || e.hash == hashSum && equals(t.comparables, i, e.firstPos)` -/
theorem probeCond_eval (F n : Nat) (σ : Store) (T : Table) (pos i h : Nat) (en : Entry)
    (h0 : σ 0 = some (.tbl T)) (h1 : σ 1 = some (.u32 i)) (h2 : σ 2 = some (.u32 h)) (h7 : σ 7 = some (.ptr (some (0, pos))))
    (hen : T.entries[pos]? = some en) :
    probeCond.eval (env F (n+1)) σ = some (.bool (!en.occupied || (en.hash == h && eqvOf T.cmps i en.firstPos))) := by
  have hcall := call_equals F n T.cmps i en.firstPos
  cases ho : en.occupied <;> cases hh : (en.hash == h)
  all_goals exec_simp [probeCond, h0, h1, h2, h7, hen, ho, hh, hcall]

theorem probe_loop (F n : Nat) (T : Table) (slots : Array (Option G.Entry)) (hT : T.entries = encSlots slots) (i h k : Nat)
    (hN : slots.size = 2 ^ k) (hlt : slots.size < M32) (p c' : Nat) :
    ∀ (f F' pos coll : Nat) (σ : Store), f + 1 ≤ F' → pos < slots.size →
      σ 0 = some (.tbl (withIC T coll)) → σ 1 = some (.u32 i) → σ 2 = some (.u32 h) → σ 3 = some (.u64 (slots.size - 1)) →
      σ 5 = some (.ptr none) → σ 6 = some (.u64 pos) →
      G.probe (eqvOf T.cmps) slots i h f pos coll = some (p, c') →
      ∃ σ', forLoop (condOf (env F (n+1)) (E.isNil (E.var 5))) (execOf (env F (n+1)) probeBody) (execOf (env F (n+1)) probePost) F' σ = .next σ' ∧
        σ' 0 = some (.tbl (withIC T c')) ∧ σ' 1 = some (.u32 i) ∧ σ' 2 = some (.u32 h) ∧ σ' 5 = some (.ptr (some (0, p))) := by
  intro f
  induction f with
  | zero => intro F' pos coll σ _ _ _ _ _ _ _ _ hpr; cases hpr
  | succ f ih =>
    intro F' pos coll σ hF' hp h0 h1 h2 h3 h5 h6 hpr
    obtain ⟨F1, rfl⟩ : ∃ F1, F' = F1 + 1 := ⟨F' - 1, by omega⟩
    obtain ⟨F2, rfl⟩ : ∃ F2, F1 = F2 + 1 := ⟨F1 - 1, by omega⟩
    have hget : slots[pos]? = some slots[pos] := by simp [hp]
    have hnn : ¬ ((pos : Int) < 0) := by omega
    have hlen : ¬ (((encSlots slots).length : Int) ≤ (pos : Int)) := by rw [encSlots_length]; omega
    have hen : (withIC T coll).entries[pos]? = some (encEntry slots[pos]) := by
      show T.entries[pos]? = _
      rw [hT, encSlots_getElem?, hget]; rfl
    have hcmps : (withIC T coll).cmps = T.cmps := rfl
    have hents : (withIC T coll).entries = encSlots slots := hT
    let σ7 := σ.set 7 (.ptr (some (0, pos)))
    have hcond := probeCond_eval F n σ7 (withIC T coll) pos i h (encEntry slots[pos]) (by simp [σ7, set_apply, h0])
      (by simp [σ7, set_apply, h1]) (by simp [σ7, set_apply, h2]) (by simp [σ7, set_apply]) hen
    rw [hcmps] at hcond
    simp only [σ7] at hcond
    rw [G.probe_succ, hget] at hpr
    have hstop : (!(encEntry slots[pos]).occupied || ((encEntry slots[pos]).hash == h && eqvOf T.cmps i (encEntry slots[pos]).firstPos)) = true →
        some (pos, coll) = some (p, c') → ∃ σ', forLoop (condOf (env F (n+1)) (E.isNil (E.var 5))) (execOf (env F (n+1)) probeBody) (execOf (env F (n+1)) probePost) (F2 + 1 + 1) σ = .next σ' ∧
        σ' 0 = some (.tbl (withIC T c')) ∧ σ' 1 = some (.u32 i) ∧ σ' 2 = some (.u32 h) ∧ σ' 5 = some (.ptr (some (0, p))) := by
      intro hb hres
      simp at hres
      rw [hb] at hcond
      refine ⟨((σ.set 7 (.ptr (some (0, pos)))).set 5 (.ptr (some (0, pos)))).set 6 (.u64 (((pos + 1) % M64) &&& (slots.size - 1))), ?_, ?_, ?_, ?_, ?_⟩
      · unfold forLoop
        simp only [condOf, execOf]
        unfold forLoop
        simp only [condOf, execOf]
        exec_simp [h0, h3, h5, h6, hents, hnn, hlen, hcond]
      · simp [set_apply, h0, hres.2]
      · simp [set_apply, h1]
      · simp [set_apply, h2]
      · simp [set_apply, hres.1]
    cases hv : slots[pos] with
    | none =>
      rw [hv] at hpr hcond
      simp only at hpr
      exact hstop (by rw [hv]; rfl) hpr
    | some e =>
      rw [hv] at hpr
      simp only at hpr
      cases hs : (e.hash == h && eqvOf T.cmps i e.firstPos) with
      | true =>
        rw [hs] at hpr
        simp only [↓reduceIte] at hpr
        exact hstop (by rw [hv]; simp [encEntry, hs]) hpr
      | false =>
        rw [hs] at hpr
        simp only [Bool.false_eq_true, ↓reduceIte] at hpr
        have hn : 0 < slots.size := by omega
        have hb : (!(encEntry slots[pos]).occupied || ((encEntry slots[pos]).hash == h && eqvOf T.cmps i (encEntry slots[pos]).firstPos)) = false := by
          rw [hv]; simp [encEntry]; simpa using hs
        rw [hb] at hcond
        have hnext : ((pos + 1) % M64) &&& (slots.size - 1) = (pos + 1) % slots.size := by
          rw [Nat.mod_eq_of_lt (by have := M32_le_M64; omega), mask_mod _ slots.size k hN]
        let σ1 := ((σ.set 7 (.ptr (some (0, pos)))).set 0 (.tbl (withIC T ((coll + 1 : Nat) : Int)))).set 6 (.u64 ((pos + 1) % slots.size))
        obtain ⟨σ', g1, g2, g3, g4, g5⟩ := ih (F2 + 1) ((pos + 1) % slots.size) (coll + 1) σ1 (by omega) (Nat.mod_lt _ hn)
          (by simp [σ1, set_apply]) (by simp [σ1, set_apply, h1]) (by simp [σ1, set_apply, h2]) (by simp [σ1, set_apply, h3])
          (by simp [σ1, set_apply, h5]) (by simp [σ1, set_apply]) hpr
        refine ⟨σ', ?_, g2, g3, g4, g5⟩
        rw [forLoop]
        simp only [condOf, execOf]
        simp only [σ1] at g1
        have hlen2 : ¬ (T.entries.length ≤ pos) := by rw [hT, encSlots_length]; omega
        exec_simp [h0, h3, h5, h6, hents, hnn, hlen, hlen2, hcond, hnext]
        simpa [withIC, Int.natCast_add, hT] using g1

/-! ## the update of the entry found -/

/-- the slot is free: the new entry, `groupCount + 1`, the new load factor -/
theorem update_new (Γ : Env) (σ : Store) (T : Table) (slots : Array (Option G.Entry)) (hT : T.entries = encSlots slots) (i h p : Nat)
    (h0 : σ 0 = some (.tbl T)) (h1 : σ 1 = some (.u32 i)) (h2 : σ 2 = some (.u32 h)) (h5 : σ 5 = some (.ptr (some (0, p))))
    (hslot : slots[p]? = some none) (hgc : T.groupCount + 1 < M32) :
    ∃ σ', updatePart.exec Γ σ = .next σ' ∧
      σ' 0 = some (.tbl { T with entries := encSlots (slots.setIfInBounds p (some { hash := h, firstPos := i, ix := [] })),
                                 groupCount := T.groupCount + 1, lfNum := T.groupCount + 1, lfDen := slots.size }) := by
  have hp : p < slots.size := G.lt_of_get hslot
  have hat : T.entries[p]? = some (encEntry none) := by rw [hT, encSlots_getElem?, hslot]; rfl
  have hlen : p < T.entries.length := by rw [hT, encSlots_length]; exact hp
  have hmod : (T.groupCount + 1) % M32 = T.groupCount + 1 := Nat.mod_eq_of_lt hgc
  have hsz : T.entries.length = slots.size := by rw [hT, encSlots_length]
  have hs0 : ¬ (slots.size = 0) := by omega
  have hset : T.entries.set p { ix := none, hash := h, firstPos := i, occupied := true } =
      encSlots (slots.setIfInBounds p (some { hash := h, firstPos := i, ix := [] })) := by
    rw [hT, ← encSlots_set]; rfl
  have hat' : T.entries[p]'hlen = encEntry none := by
    have := List.getElem?_eq_getElem hlen; rw [this] at hat; exact Option.some.inj hat
  have hgi : ¬ ((T.groupCount : Int) + 1 < 0) := by omega
  have hsi : ¬ ((slots.size : Int) < 0) := by omega
  exec_simp [updatePart, edenPart, h0, h1, h2, h5, hat, hat', encEntry, hlen, hp, hmod, hsz, hs0, hset, hgi, hsi, encSlots_length]

/-- the slot holds an entry: the row is appended to its rows when they are collected -/
theorem update_existing (Γ : Env) (σ : Store) (T : Table) (slots : Array (Option G.Entry)) (hT : T.entries = encSlots slots) (i h p : Nat)
    (e : G.Entry) (h0 : σ 0 = some (.tbl T)) (h1 : σ 1 = some (.u32 i)) (h5 : σ 5 = some (.ptr (some (0, p))))
    (hslot : slots[p]? = some (some e)) :
    ∃ σ', updatePart.exec Γ σ = .next σ' ∧
      σ' 0 = some (.tbl (if T.collectIx then
          { T with entries := encSlots (slots.setIfInBounds p (some (if e.ix.isEmpty then { e with ix := [e.firstPos, i] } else { e with ix := e.ix ++ [i] }))) }
        else T)) := by
  have hp : p < slots.size := G.lt_of_get hslot
  have hat : T.entries[p]? = some (encEntry (some e)) := by rw [hT, encSlots_getElem?, hslot]; rfl
  have hlen : p < T.entries.length := by rw [hT, encSlots_length]; exact hp
  have hat' : T.entries[p]'hlen = encEntry (some e) := by
    have := List.getElem?_eq_getElem hlen; rw [this] at hat; exact Option.some.inj hat
  cases hc : T.collectIx
  · exact ⟨σ, by exec_simp [updatePart, existingPart, h0, h1, h5, hat, hat', hlen, encEntry, hc], by simp [h0]⟩
  · cases he : e.ix.isEmpty
    · have hset : T.entries.set p { ix := some (e.ix ++ [i]), hash := e.hash, firstPos := e.firstPos, occupied := true } =
          encSlots (slots.setIfInBounds p (some { e with ix := e.ix ++ [i] })) := by
        rw [hT, ← encSlots_set]; simp [encEntry]
      exec_simp [updatePart, existingPart, h0, h1, h5, hat, hat', hlen, encEntry, hc, he, hset]
    · have hset : T.entries.set p { ix := some [e.firstPos, i], hash := e.hash, firstPos := e.firstPos, occupied := true } =
          encSlots (slots.setIfInBounds p (some { e with ix := [e.firstPos, i] })) := by
        rw [hT, ← encSlots_set]; simp [encEntry]
      exec_simp [updatePart, existingPart, h0, h1, h5, hat, hat', hlen, encEntry, hc, he, hset]

/-! ## `insertEntry` -/

/-- `t.insertEntry(i)` on the Go table of a mirror table `t` that satisfies the invariant: the mirror's insertion succeeds and
keeps the invariant, and the call yields the Go table of its result -/
theorem call_insertEntry (F n : Nat) (cs : List Cmp) (collect : Bool) (t : G.Tbl) (m i : Nat) (inv : TInv t m) (hm : m < 2 ^ 30)
    (hF : M32 ≤ F) :
    ∃ t', G.insertEntry {} (hashOf cs) (eqvOf cs) t i collect = some t' ∧ TInv t' (m + 1) ∧
      callAt canonFns F (n+2) .insertEntry [.tbl (encTbl cs collect t), .u32 i] = some (.unit, some (.tbl (encTbl cs collect t'))) := by
  obtain ⟨t1, p, c', o, t', hgr, inv1, hpr, hslot, hins, inv'⟩ :=
    insertEntry_total (hashOf cs) (eqvOf cs) t m inv (Nat.le_of_lt hm) i collect
  refine ⟨t', hins, inv', ?_⟩
  rw [callAt_succ F (n+1) _ _ look_insertEntry]
  obtain ⟨k1, hk1⟩ := inv1.pow
  have hpos1 : 0 < t1.slots.size := by rw [hk1]; exact Nat.two_pow_pos k1
  have hlt1 : t1.slots.size < M32 := Nat.lt_of_le_of_lt inv1.sz (by decide)
  let σ0 : Store := (Store.empty.set 0 (.tbl (encTbl cs collect t))).set 1 (.u32 i)
  obtain ⟨σ1, e1, e2, e3⟩ := growCheck_exec F n cs collect t t1 m inv inv1 hF hgr σ0 (by simp [σ0, set_apply])
  simp [σ0, set_apply] at e3
  -- the probe
  obtain ⟨h, hh⟩ : ∃ h, h = hashOf cs i % M32 := ⟨_, rfl⟩
  have h32 : hashOf cs i % 2 ^ 32 = h := by rw [← M32_pow, hh]
  have hh32 : h < M32 := by rw [hh]; exact Nat.mod_lt _ (by decide)
  rw [h32] at hpr
  let T1 := encTbl cs collect t1
  have hcall := call_hash F n T1 i
  have hcmps : T1.cmps = cs := rfl
  rw [hcmps, ← hh] at hcall
  have hmask := toU_pred (m := M64) hpos1 (Nat.le_of_lt (Nat.lt_of_lt_of_le hlt1 M32_le_M64))
  have hh64 := toU_ofNat (Nat.lt_of_lt_of_le hh32 M32_le_M64)
  have hstart : h &&& (t1.slots.size - 1) = h % t1.slots.size := mask_mod _ _ k1 hk1
  let σ6 : Store := ((((σ1.set 2 (.u32 h)).set 3 (.u64 (t1.slots.size - 1))).set 4 (.u64 (h % t1.slots.size))).set 5 (.ptr none)).set 6
    (.u64 (h % t1.slots.size))
  obtain ⟨σ7, g1, g2, g3, g4, g5⟩ := probe_loop F n T1 t1.slots rfl i h k1 hk1 hlt1 p (t1.insertCollisions + c')
    (t1.slots.size + 1) F (h % t1.slots.size) t1.insertCollisions σ6 (by rw [M32_pow] at hF; have := inv1.sz; omega) (Nat.mod_lt _ hpos1)
    (by simp only [σ6, set_apply]; simp [e2]; rfl) (by simp [σ6, set_apply, e3]) (by simp [σ6, set_apply])
    (by simp [σ6, set_apply]) (by simp [σ6, set_apply]) (by simp [σ6, set_apply]) (hpr _)
  simp only [σ6] at g1
  simp only [σ0] at e1
  simp only [T1] at hcall
  -- the body up to the update of the entry found, run once for the three cases below
  have hrun : ∀ (σ8 : Store) (T8 : Table), updatePart.exec (env F (n+1)) σ7 = .next σ8 → σ8 0 = some (.tbl T8) →
      runFn (env F (n+1)) fnInsertEntry [.tbl (encTbl cs collect t), .u32 i] = some (.unit, some (.tbl T8)) := by
    intro σ8 T8 u1 u2
    exec_simp [runFn, fnInsertEntry, e1, e2, e3, hcall, encSlots_length, hmask, hh64, hstart, probeLoop, g1, u1, u2]
  -- what the mirror has written
  have hpr0 := hpr 0
  rw [Nat.zero_add] at hpr0
  unfold G.insertEntry G.insertNoGrow at hins
  simp only [hgr, Option.bind_some, h32, hpr0, hslot] at hins
  cases o with
  | none =>
    simp only at hins
    obtain ⟨σ8, u1, u2⟩ := update_new (env F (n+1)) σ7 (withIC T1 ((t1.insertCollisions + c' : Nat) : Int)) t1.slots rfl i h p g2 g3 g4 g5 hslot
      (by show t1.groupCount + 1 < M32; rw [M32_pow]; have := inv1.gc; omega)
    rw [← Option.some.inj hins, hrun σ8 _ u1 u2]
    simp [withIC, T1, encTbl, encStats]
  | some e =>
    simp only at hins
    obtain ⟨σ8, u1, u2⟩ := update_existing (env F (n+1)) σ7 (withIC T1 ((t1.insertCollisions + c' : Nat) : Int)) t1.slots rfl i h p e g2 g3 g5 hslot
    have hci : (withIC T1 ((t1.insertCollisions + c' : Nat) : Int)).collectIx = collect := rfl
    rw [hci] at u2
    rw [hrun σ8 _ u1 u2]
    cases collect
    · simp only [Bool.false_eq_true, ↓reduceIte] at hins ⊢
      rw [← Option.some.inj hins]
      simp [withIC, T1, encTbl, encStats]
    · simp only [↓reduceIte] at hins ⊢
      rw [← Option.some.inj hins]
      simp [withIC, T1, encTbl, encStats]

end QF.Props.C04GrouperGen
