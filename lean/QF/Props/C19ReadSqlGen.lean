import QF.Props.C19ScanGen
import QF.Props.C08Construct
import QF.Core.SRExpr
import QF.Core.ListFacts
import QF.Gen.ReadSql
/-!
# C19 / C15 — `ReadSQL` of today's source: the loop over `rows.Next()`, folded over today's `Column.Scan` (tie T1, by semantics)

`QF.Gen.readSqlAst` (regenerated on every run by go/cmd/extract/sqlrast.go) holds the body of `ReadSQL` of
/repo/internal/io/sql/reader.go as one term of `QF.SR` (QF/Core/SRExpr.lean: its Go meaning over a scripted `*sql.Rows` —
the names `rows.Columns()` returns or its failure, the rows `Next` delivers as lists of driver values, whether `rows.Err()`
is non-nil afterwards; `Column.Scan` and `Data` are parameters). This file proves, for the term generated TODAY:

* `gen_readsql_no_opaque`     — everything was found and translated completely
* `gen_readsql_canon`         — the term is the canonical one (`canon`: the declaration of the two variables, the loop with
                                 the allocation at the first row — `rows.Columns()`, one `Column` per name with the
                                 precision and the coercion its name selects, `colNames = names`, the check of
                                 the coercion map — and `rows.Scan(columns...)`, the test of `rows.Err()`, the result map)
* `canon_run`                 — for every script and EVERY `Scan`, `Data` and coercion map that act on the view of a column
                                 (`viewCol`, `viewEntry`) as the mirror of `Column.Scan` of C19Sql does, the term is the closed
                                 form `readSqlM` (`SimV`: the run of the loop simulated by `foldlM (step2 P)`, the allocation
                                 entered at the first row only; `result_sim`: the result map)
* `gen_readsql_semantics`     — the instance for today's `Column.Scan` / `Data` (QF/Gen/Scan.lean, by `gen_step_semantics` and
                                 `gen_data_semantics` of C19ScanGen): the term is `readSqlM` over the mirror of
                                 `Column.Scan` of C19Sql, for EVERY scripted result set: no rows → no columns; else
                                 `rows.Columns()` must succeed, every row must have one value per column, every column is
                                 fed with its values column by column (`rows_transpose`, a case of `colsIdx_foldlM`: row by row = column by column),
                                 `rows.Err()` must be nil, and the result maps every name to `Data()` of its column; an
                                 error otherwise. No hypotheses.
* `gen_readsql_faults`, `gen_readsql_scan_fault` (C15) — a non-nil `rows.Err()` (the driver failed while fetching a row), a
                                 failing `rows.Columns()`, a failing `Scan` are returned as errors, never swallowed
* `gen_readsql_refines_spec`  — with `New(data, ColumnOrder(columns...))` taken from the spec (`newS`), the frame is
                                 `readSqlNamedS names cmap fixed pfloat rows` (the unknown-column rule included), for every result set in the scope in which
                                 `Column.Scan` refines the spec (`C19Sql.inScope` per column; outside it code and spec are
                                 known to differ: `scan_mixed_counterexample`, `scan_leading_nulls_dropped`), with at least
                                 one column (`names ≠ []`: for a result set WITHOUT columns the spec's frame has
                                 `rows.length` rows, the code's — having no column to take a length from — none) and a
                                 driver that does not fail
                                 (`refines_spec_denoted`: the same for ANY table of driver values that denotes the rows;
                                 `readSqlM_refines`: the closed form `readSqlM`, followed by `New`, against the spec)
* `gen_readsql_coerce_unknown` / `gen_readsql_coerce_known` — with at least one row, a key of the coercion map that is
                                 not a column name is an error; when all keys are column names the check passes
                                 (before the repair of `ReadSQL` the check was vacuous: witness at the end, `allocBlockOld`)

Witnesses at the end: plausible mutations (a dropped `rows.Err()` check, an ignored `Scan` error, …) violate the statements.
-/
namespace QF.Props.C19ReadSqlGen
open QF QF.Props.C19Sql QF.Props.C19ScanGen
attribute [local simp] SR.run

/-! ## The canonical term -/

/-- `if conf.CoerceMap != nil { fn, ok := conf.CoerceMap[name]; if ok { col.coerce = fn(col) } }; columns = append(columns, col)` -/
def coerceStep : SR := .ifCoerceMap (.lookupCoerce (.ifOk (.setCoerce .done) .done)) (.appendColumn .done)

/-- `col := &Column{precision: conf.Precision}; …` -/
def allocBody : SR := .newColumn coerceStep

/-- `for _, colName := range colNames { if name == colName { continue checkMap } }; return error` -/
def innerLoop : SR := .rangeColNames (.ifNameIsColName .continueOuter .done) .retErr

/-- `checkMap: for name := range conf.CoerceMap { for _, colName := range colNames { if name == colName { continue checkMap } };
return error }`: a key of the coercion map that is no column name is an error -/
def checkMap : SR := .rangeCoerceKeys innerLoop .done

/-- `names, err := rows.Columns(); if err != nil { return error }; for _, name := range names { … }; colNames = names;
if conf.CoerceMap != nil { checkMap … }` -/
def allocBlock : SR := .getColumns .retErr (.rangeNames allocBody (.setColNames (.ifCoerceMap checkMap .done)))

/-- the check as it was before the repair of the unknown-column rule: it ran before `colNames = names`, with the `return`
inside the inner loop -/
def checkMapOld : SR := .rangeCoerceKeys (.rangeColNames (.ifNameIsColName .continueOuter .retErr) .done) .done
def allocBlockOld : SR := .getColumns .retErr (.rangeNames allocBody (.ifCoerceMap checkMapOld (.setColNames .done)))

/-- `if columns == nil { … }; err := rows.Scan(columns...); if err != nil { return error }` -/
def rowBody : SR := .ifColumnsNil allocBlock (.scanRow .retErr .done)

/-- `if err := rows.Err(); err != nil { return error }; result := map…{}; for i, column := range columns { result[colNames[i]] = column.(*Column).Data() }; return result, colNames, nil` -/
def tail : SR := .checkRowsErr .retErr (.newResult (.rangeColumns (.setResult .done) .retResult))

def canon : SR := .declVars (.forNext rowBody tail)

theorem gen_readsql_canon : Gen.readSqlAst = canon := by decide

theorem gen_readsql_no_opaque : Gen.readSqlAst.hasOpaque = false := by decide

/-! ## The run of the term up to `rows.Scan`: the allocation and the check of the coercion map, for any environment -/

/-- the column `ReadSQL` allocates for the result column `n` -/
def newCol (E : SREnv) (n : Bytes) : SRColumn := { st := {}, co := E.coerceMap.bind (fun m => m.lookup n) }

/-- does the check of the coercion map return its error? Some key is not among the column names. -/
def checkFails (E : SREnv) (colNames : List Bytes) : Bool :=
  match E.coerceMap with
  | some m => m.any (fun e => !colNames.contains e.1)
  | none => false

section Run
variable (E : SREnv)

theorem allocBody_run (σ : SRSt) (n : Bytes) :
    ∃ σ', allocBody.run E { σ with name := n } = .next σ' ∧ σ'.columns = σ.columns ++ [newCol E n] ∧
      σ'.colNames = σ.colNames ∧ σ'.names = σ.names ∧ σ'.row = σ.row := by
  cases hm : E.coerceMap with
  | none =>
    have h : allocBody.run E { σ with name := n } =
        .next { σ with name := n, col := some {}, columns := σ.columns ++ [{}] } := by
      simp [allocBody, coerceStep, srIf, hm]
    exact ⟨_, h, by simp [newCol, hm], rfl, rfl, rfl⟩
  | some m =>
    cases hl : m.lookup n with
    | none =>
      have h : allocBody.run E { σ with name := n } =
          .next { σ with name := n, col := some {}, fn := none, ok := false, columns := σ.columns ++ [{}] } := by
        simp [allocBody, coerceStep, srIf, hm, hl]
      exact ⟨_, h, by simp [newCol, hm, hl], rfl, rfl, rfl⟩
    | some f =>
      have h : allocBody.run E { σ with name := n } =
          .next { σ with name := n, col := some { co := some f }, fn := some f, ok := true,
                         columns := σ.columns ++ [{ co := some f }] } := by
        simp [allocBody, coerceStep, srIf, hm, hl]
      exact ⟨_, h, by simp [newCol, hm, hl], rfl, rfl, rfl⟩

theorem names_loop : ∀ (ns : List Bytes) (σ : SRSt),
    ∃ σ', iterSR false (fun n τ => allocBody.run E { τ with name := n }) ns σ = .next σ' ∧
      σ'.columns = σ.columns ++ ns.map (newCol E) ∧ σ'.colNames = σ.colNames ∧ σ'.names = σ.names ∧ σ'.row = σ.row := by
  intro ns
  induction ns with
  | nil => intro σ; exact ⟨σ, rfl, by simp, rfl, rfl, rfl⟩
  | cons n ns ih =>
    intro σ
    obtain ⟨σ1, h1, hc1, hn1, hm1, hr1⟩ := allocBody_run E σ n
    obtain ⟨σ2, h2, hc2, hn2, hm2, hr2⟩ := ih σ1
    refine ⟨σ2, ?_, ?_, hn2.trans hn1, hm2.trans hm1, hr2.trans hr1⟩
    · simp only [iterSR, h1]; exact h2
    · rw [hc2, hc1]; simp

/-- what the check leaves alone -/
def Kept (σ' σ : SRSt) : Prop :=
  σ'.columns = σ.columns ∧ σ'.colNames = σ.colNames ∧ σ'.names = σ.names ∧ σ'.row = σ.row

/-- the inner loop of the check, with the state it ends in (it writes only `colName`): the key is among the column names —
`continue checkMap` — or the loop runs through -/
theorem inner_iter : ∀ (cs : List Bytes) (σ : SRSt),
    iterSR false (fun n τ => (SR.ifNameIsColName .continueOuter .done).run E { τ with colName := n }) cs σ =
      if cs.contains σ.name then .contOuter { σ with colName := σ.name }
      else .next { σ with colName := cs.getLast?.getD σ.colName }
  | [], σ => rfl
  | c :: cs, σ => by
    by_cases hk : σ.name = c
    · simp [iterSR, srIf, hk]
    · have hc : (σ.name == c) = false := by simp [hk]
      have := inner_iter cs { σ with colName := c }
      simp only [iterSR, SR.run, srIf, hc, Bool.false_eq_true, if_false, List.contains_cons, Bool.false_or] at this ⊢
      rw [this]
      cases cs <;> simp [List.getLast?]

theorem innerLoop_run (σ : SRSt) :
    innerLoop.run E σ = if σ.colNames.contains σ.name then .contOuter { σ with colName := σ.name } else .retErr := by
  have hu : innerLoop.run E σ =
      match iterSR false (fun n τ => (SR.ifNameIsColName .continueOuter .done).run E { τ with colName := n }) σ.colNames σ with
      | .next _ => .retErr
      | r => r := rfl
  rw [hu, inner_iter]
  cases σ.colNames.contains σ.name <;> rfl

/-- the loop over the keys of the coercion map (it writes only `name` and `colName`): the error unless every key is a column name -/
theorem keys_loop : ∀ (m : List (Bytes × String)) (σ : SRSt),
    iterSR true (fun e τ => innerLoop.run E { τ with name := e.1 }) m σ =
      if m.any (fun e => !σ.colNames.contains e.1) then .retErr
      else .next (m.foldl (fun τ e => { τ with name := e.1, colName := e.1 }) σ)
  | [], σ => rfl
  | e :: m, σ => by
    have := keys_loop m { σ with name := e.1, colName := e.1 }
    have hb := innerLoop_run E { σ with name := e.1 }
    simp only [] at hb
    by_cases hc : σ.colNames.contains e.1 = true
    · rw [if_pos hc] at hb
      simp only [iterSR, hb, List.any_cons, hc, List.foldl_cons, if_true, Bool.not_true, Bool.false_or]
      exact this
    · rw [if_neg hc] at hb
      have hc' : σ.colNames.contains e.1 = false := by simpa using hc
      simp only [iterSR, hb, List.any_cons, hc', Bool.not_false, Bool.true_or, if_true]

theorem kept_foldl : ∀ (m : List (Bytes × String)) (σ : SRSt),
    Kept (m.foldl (fun τ e => { τ with name := e.1, colName := e.1 }) σ) σ
  | [], _ => ⟨rfl, rfl, rfl, rfl⟩
  | e :: m, σ => kept_foldl m { σ with name := e.1, colName := e.1 }

theorem checkMap_unfold (σ : SRSt) :
    checkMap.run E σ =
      match iterSR true (fun e τ => innerLoop.run E { τ with name := e.1 }) (E.coerceMap.getD []) σ with
      | .next σ' => .next σ'
      | r => r := rfl

theorem checkMap_run (σ : SRSt) (m : List (Bytes × String)) (hm : E.coerceMap = some m) :
    if checkFails E σ.colNames then checkMap.run E σ = .retErr
    else ∃ σ', checkMap.run E σ = .next σ' ∧ Kept σ' σ := by
  rw [checkMap_unfold, hm, Option.getD_some, keys_loop]
  simp only [checkFails, hm]
  split
  · rfl
  · exact ⟨_, rfl, kept_foldl m σ⟩

/-- the block `if columns == nil { … }` entered -/
theorem allocBlock_run (σ : SRSt) :
    if E.columnsFail then allocBlock.run E σ = .retErr
    else if checkFails E E.names then allocBlock.run E σ = .retErr
    else ∃ σ', allocBlock.run E σ = .next σ' ∧ σ'.columns = σ.columns ++ E.names.map (newCol E) ∧
      σ'.colNames = E.names ∧ σ'.row = σ.row := by
  cases hf : E.columnsFail with
  | true => simp [allocBlock, hf]
  | false =>
    simp only [Bool.false_eq_true, if_false]
    obtain ⟨σ1, h1, hc1, hn1, hm1, hr1⟩ := names_loop E E.names { σ with names := E.names }
    simp only [] at hc1 hn1 hm1 hr1
    have hu : allocBlock.run E σ =
        match iterSR false (fun n τ => allocBody.run E { τ with name := n }) E.names { σ with names := E.names } with
        | .next σ' => srIf E.coerceMap.isSome (checkMap.run E) (SR.done.run E) { σ' with colNames := σ'.names }
        | r => r := by
      simp only [allocBlock, SR.run, hf, Bool.false_eq_true, if_false]
      rfl
    rw [hu, h1]
    simp only []
    cases hm : E.coerceMap with
    | none =>
      have hcf : checkFails E E.names = false := by simp [checkFails, hm]
      simp only [hcf, Bool.false_eq_true, if_false]
      exact ⟨{ σ1 with colNames := σ1.names }, by simp [srIf], hc1, hm1, hr1⟩
    | some m =>
      have hck := checkMap_run E { σ1 with colNames := σ1.names } m hm
      have hcn : ({ σ1 with colNames := σ1.names } : SRSt).colNames = E.names := hm1
      rw [hcn] at hck
      cases hcf : checkFails E E.names with
      | true =>
        simp only [hcf, if_true] at hck ⊢
        simp [srIf, hck]
      | false =>
        simp only [hcf, Bool.false_eq_true, if_false] at hck ⊢
        obtain ⟨σ2, h2, hk⟩ := hck
        refine ⟨σ2, by simp [srIf, h2], hk.1.trans hc1, hk.2.1.trans hcn, hk.2.2.2.trans hr1⟩

end Run

theorem tail_unfold (E : SREnv) (σ : SRSt) :
    tail.run E σ =
      if E.finalErr then .retErr
      else
        match iterIdxSR (fun i c τ => (SR.setResult .done).run E { τ with idx := i, column := some c }) 0 σ.columns
            { σ with result := some [] } with
        | .next σ' =>
          match σ'.result with
          | some m => .retOk m σ'.colNames
          | none => .stuck
        | r => r := by
  cases hf : E.finalErr
  · show tail.run E σ = _
    simp only [tail, SR.run, srIf, hf, Bool.false_eq_true, if_false]
    rfl
  · simp [tail, srIf, hf]

theorem canon_unfold (E : SREnv) :
    canon.run E {} =
      match iterSR false (fun r τ => rowBody.run E { τ with row := some r }) E.rows {} with
      | .next σ' => tail.run E σ'
      | r => r := rfl

/-! ## Today's `Column.Scan` and `Data` as the parameters -/

/-- `conf.Precision` and the two library functions -/
structure RParams where
  precision : Nat
  fixedFn : Nat → UInt64 → UInt64
  pfloat : Bytes → Option UInt64

def RParams.cfg (P : RParams) (co : Coerce) : Cfg :=
  { coerce := co, precision := P.precision, fixedFn := P.fixedFn, pfloat := P.pfloat }

/-- the functions a coercion map can hold (config/sql: `Int64ToBool`, `StringToFloat`) -/
inductive CoFn where
  | int64ToBool | stringToFloat
  deriving DecidableEq, Repr

def CoFn.name : CoFn → String
  | .int64ToBool => "Int64ToBool"
  | .stringToFloat => "StringToFloat"

def CoFn.coerce : CoFn → Coerce
  | .int64ToBool => .int64ToBool
  | .stringToFloat => .stringToFloat

/-- the coercion in the coercion field of a column, by the name of the function that made the closure -/
def coOf : Option String → Coerce
  | some "Int64ToBool" => .int64ToBool
  | some "StringToFloat" => .stringToFloat
  | _ => .none

theorem coOf_name (f : Option CoFn) : coOf (f.map CoFn.name) = (f.map CoFn.coerce).getD .none := by
  cases f with
  | none => rfl
  | some f => cases f <;> rfl

/-- today's `Column.Scan` for a column with the given coercion closure -/
def envScan (P : RParams) (co : Option String) (c : SCol) (t : DVal) : Option (Option SCol) := genStep (P.cfg (coOf co)) c t

/-- a scripted result set -/
structure Script where
  /-- `rows.Columns()` -/
  names : List Bytes
  columnsFail : Bool := false
  /-- the rows `Next` delivers -/
  rows : List (List DVal)
  /-- `rows.Err() != nil` once `Next` has returned false -/
  finalErr : Bool := false

def env (P : RParams) (cmap : Option (List (Bytes × CoFn))) (S : Script) : SREnv :=
  { names := S.names, columnsFail := S.columnsFail, rows := S.rows, finalErr := S.finalErr,
    coerceMap := cmap.map (fun m => m.map (fun e => (e.1, e.2.name))),
    scan := envScan P, data := Gen.dataAst.runData }

/-- `ReadSQL` of today's source, over today's `Column.Scan` and `Data` -/
def genReadSql (P : RParams) (cmap : Option (List (Bytes × CoFn))) (S : Script) :
    Option (Option (List (Bytes × SRData) × List Bytes)) :=
  runReadSql (env P cmap S) Gen.readSqlAst

/-! ## The mirror over `C19Sql.Col` -/

/-- a column of the mirror with its coercion -/
abbrev MCol := Col × Coerce

def viewCol (c : SRColumn) : MCol := (toCol c.st, coOf c.co)

/-- one `Scan`: the value must denote a `SqlVal` -/
def stepV (P : RParams) (co : Coerce) (c : Col) (v : DVal) : Option Col := (DVal.toSql v).bind (scan (P.cfg co) c)

/-- `rows.Scan(columns...)`: `none` = an error -/
def scanRowM (P : RParams) : List MCol → List DVal → Option (List MCol)
  | [], _ => some []
  | _ :: _, [] => none
  | c :: cs, v :: vs =>
    match stepV P c.2 c.1 v with
    | none => none
    | some c' => (scanRowM P cs vs).map ((c', c.2) :: ·)

/-- the coercion of result column `n` -/
def coerceOf (cmap : Option (List (Bytes × CoFn))) (n : Bytes) : Coerce :=
  ((cmap.bind (fun m => m.lookup n)).map CoFn.coerce).getD .none

theorem lookup_map {α β : Type} (f : α → β) (n : Bytes) : ∀ m : List (Bytes × α),
    (m.map (fun e => (e.1, f e.2))).lookup n = (m.lookup n).map f := by
  intro m
  induction m with
  | nil => rfl
  | cons e m ih =>
    obtain ⟨k, v⟩ := e
    simp only [List.map_cons, List.lookup_cons]
    cases n == k <;> simp [ih]

theorem viewCol_new (E : SREnv) (cmap : Option (List (Bytes × CoFn)))
    (hmap : E.coerceMap = cmap.map (fun m => m.map (fun e => (e.1, e.2.name)))) (n : Bytes) :
    viewCol (newCol E n) = ({}, coerceOf cmap n) := by
  unfold viewCol newCol coerceOf
  rw [hmap]
  cases cmap with
  | none => rfl
  | some m =>
    simp only [Option.map_some, Option.bind_some, lookup_map]
    rw [coOf_name]
    rfl

def checkFailsM (cmap : Option (List (Bytes × CoFn))) (colNames : List Bytes) : Bool :=
  match cmap with
  | some m => m.any (fun e => !colNames.contains e.1)
  | none => false

theorem checkFails_map (E : SREnv) (cmap : Option (List (Bytes × CoFn)))
    (hmap : E.coerceMap = cmap.map (fun m => m.map (fun e => (e.1, e.2.name)))) (cn : List Bytes) :
    checkFails E cn = checkFailsM cmap cn := by
  unfold checkFails checkFailsM
  rw [hmap]
  cases cmap with
  | none => rfl
  | some m => simp [List.any_map, Function.comp_def]

/-- one row into the columns, with the test of the number of destinations -/
def step2 (P : RParams) (cols : List MCol) (r : List DVal) : Option (List MCol) :=
  if r.length = cols.length then scanRowM P cols r else none

/-- the result map as `New` receives it: for every name the column `createColumn` makes of `Data()` (`none`: nil data) -/
abbrev MData := List (Bytes × Option LCol)

def mInsert : MData → Bytes → Option LCol → MData
  | [], k, d => [(k, d)]
  | e :: rest, k, d => if e.1 == k then (k, d) :: rest else e :: mInsert rest k d

/-- an entry of the result map: the slice `Data()` returned, as a column -/
def viewEntry (d : Bytes × SRData) : Bytes × Option LCol :=
  (d.1, match d.2.1 with
    | none => none
    | some s => some (mkCol d.1 (sliceKind s) ((toCol d.2.2).cellsOf (sliceKind s))))

theorem viewEntry_ptr (nm : Bytes) (st : SCol) : viewEntry (nm, (st.ptr, st)) = (nm, (toCol st).toLCol nm) := by
  unfold viewEntry Col.toLCol
  cases h : st.ptr <;> simp [toCol, h]

theorem mInsert_eq (m : MData) (k : Bytes) (d : Option LCol) : mInsert m k d = ListFacts.assocInsert m k d := by
  induction m with
  | nil => rfl
  | cons e rest ih => rw [mInsert, ListFacts.assocInsert, ih]

theorem view_insert (m : List (Bytes × SRData)) (nm : Bytes) (d : SRData) :
    (srInsert m nm d).map viewEntry = mInsert (m.map viewEntry) nm (viewEntry (nm, d)).2 := by
  have e : srInsert m nm d = ListFacts.assocInsert m nm d := by
    induction m with
    | nil => rfl
    | cons e rest ih => rw [srInsert, ListFacts.assocInsert, ih]
  rw [e, mInsert_eq]
  exact ListFacts.assocInsert_map (fun k x => (viewEntry (k, x)).2) m nm d

/-- the loop that builds the result map -/
def resultM (cn : List Bytes) : Nat → List MCol → MData → Option MData
  | _, [], m => some m
  | i, c :: cs, m =>
    match cn[i]? with
    | some nm => resultM cn (i + 1) cs (mInsert m nm (c.1.toLCol nm))
    | none => none

/-- the insertions of the loop over the columns -/
def insAll (L : MData) (acc : MData) : MData := L.foldl (fun a e => ListFacts.assocInsert a e.1 e.2) acc

theorem resultM_eq (cn : List Bytes) : ∀ (cols : List MCol) (i : Nat) (m : MData), i + cols.length ≤ cn.length →
    resultM cn i cols m = some (insAll (List.zipWith (fun nm c => (nm, c.1.toLCol nm)) (cn.drop i) cols) m) := by
  intro cols
  induction cols with
  | nil => intro i m _; simp [resultM, insAll]
  | cons c cs ih =>
    intro i m h
    simp only [List.length_cons] at h
    have hi : i < cn.length := by omega
    rw [List.drop_eq_getElem_cons hi]
    simp only [resultM, List.getElem?_eq_getElem hi, List.zipWith_cons_cons, insAll, List.foldl_cons, mInsert_eq]
    have := ih (i + 1) (ListFacts.assocInsert m cn[i] (c.1.toLCol cn[i])) (by omega)
    simpa [insAll] using this

def viewRes (r : List (Bytes × SRData) × List Bytes) : MData × List Bytes := (r.1.map viewEntry, r.2)

/-! ## Column by column -/

/-- all values of one result column into its `Column` -/
def colM (P : RParams) (c : MCol) (vals : List DVal) : Option MCol := (vals.foldlM (stepV P c.2) c.1).map (fun x => (x, c.2))

/-- a function of index and column applied to all columns: `none` as soon as one is -/
def colsIdx (f : Nat → MCol → Option MCol) : Nat → List MCol → Option (List MCol)
  | _, [] => some []
  | i, c :: cs =>
    match f i c, colsIdx f (i + 1) cs with
    | some c', some cs' => some (c' :: cs')
    | _, _ => none

theorem colsIdx_id : ∀ (cols : List MCol) (i : Nat), colsIdx (fun _ c => some c) i cols = some cols := by
  intro cols
  induction cols with
  | nil => intro i; rfl
  | cons c cs ih => intro i; simp [colsIdx, ih]

theorem colsIdx_length (f : Nat → MCol → Option MCol) : ∀ (cols : List MCol) (i : Nat) (m : List MCol),
    colsIdx f i cols = some m → m.length = cols.length := by
  intro cols
  induction cols with
  | nil => intro i m h; simp [colsIdx] at h; subst h; rfl
  | cons c cs ih =>
    intro i m h
    simp only [colsIdx] at h
    cases h1 : f i c with
    | none => simp [h1] at h
    | some c' =>
      cases h2 : colsIdx f (i + 1) cs with
      | none => simp [h1, h2] at h
      | some cs' =>
        simp only [h1, h2, Option.some.injEq] at h
        subst h
        simp [ih (i + 1) cs' h2]

theorem colsIdx_bind (f g : Nat → MCol → Option MCol) : ∀ (cols : List MCol) (i : Nat),
    (colsIdx f i cols).bind (colsIdx g i) = colsIdx (fun j c => (f j c).bind (g j)) i cols := by
  intro cols
  induction cols with
  | nil => intro i; rfl
  | cons c cs ih =>
    intro i
    simp only [colsIdx]
    rw [← ih (i + 1)]
    cases h1 : f i c with
    | none => simp
    | some c' =>
      cases h2 : colsIdx f (i + 1) cs with
      | none => cases g i c' <;> simp
      | some cs' => simp [colsIdx]

/-- one `Scan` of column `j` with its value of the row -/
def stepI (P : RParams) (j : Nat) (r : List DVal) (c : MCol) : Option MCol := (stepV P c.2 c.1 r[j]!).map (fun x => (x, c.2))

/-- `rows.Scan` of a row with as many values as columns, by index -/
theorem scanRowM_idx (P : RParams) (r : List DVal) : ∀ (cols : List MCol) (i : Nat), r.length = i + cols.length →
    scanRowM P cols (r.drop i) = colsIdx (fun j c => stepI P j r c) i cols := by
  intro cols
  induction cols with
  | nil => intro i _; rfl
  | cons c cs ih =>
    intro i h
    simp only [List.length_cons] at h
    have hi : i < r.length := by omega
    rw [List.drop_eq_getElem_cons hi]
    simp only [scanRowM, colsIdx]
    rw [ih (i + 1) (by omega)]
    have hg : stepI P i r c = (stepV P c.2 c.1 r[i]).map (fun x => (x, c.2)) := by simp [stepI, hi]
    rw [hg]
    cases stepV P c.2 c.1 r[i] with
    | none => rfl
    | some c' => cases colsIdx (fun j c => stepI P j r c) (i + 1) cs <;> rfl

theorem colM_cons (P : RParams) (c : MCol) (v : DVal) (vs : List DVal) :
    colM P c (v :: vs) = ((stepV P c.2 c.1 v).map (fun x => (x, c.2))).bind (fun c' => colM P c' vs) := by
  unfold colM
  simp only [List.foldlM_cons]
  cases stepV P c.2 c.1 v <;> rfl

theorem colM_rows (P : RParams) (j : Nat) : ∀ (rows : List (List DVal)) (c : MCol),
    colM P c (rows.map (fun r => r[j]!)) = rows.foldlM (fun c r => stepI P j r c) c := by
  intro rows
  induction rows with
  | nil => intro c; rfl
  | cons r rows ih =>
    intro c
    rw [List.map_cons, colM_cons, List.foldlM_cons]
    exact congrArg _ (funext ih)

/-- **Row by row is column by column**, for any step of a column that may look at the column's number: feeding the rows one
after the other to all columns is feeding every column with all rows. -/
theorem colsIdx_foldlM {β : Type} (step : Nat → β → MCol → Option MCol) : ∀ (rows : List β) (cols : List MCol) (i : Nat),
    rows.foldlM (fun cs r => colsIdx (fun j c => step j r c) i cs) cols =
      colsIdx (fun j c => rows.foldlM (fun c r => step j r c) c) i cols := by
  intro rows
  induction rows with
  | nil => intro cols i; exact (colsIdx_id cols i).symm
  | cons r rows ih =>
    intro cols i
    simp only [List.foldlM_cons, Option.bind_eq_bind]
    rw [← colsIdx_bind]
    congr 1
    funext cs
    exact ih cs i

theorem step2_idx (P : RParams) (cols : List MCol) (r : List DVal) :
    step2 P cols r = if r.length = cols.length then colsIdx (fun j c => stepI P j r c) 0 cols else none := by
  unfold step2
  split
  · next hl => exact scanRowM_idx P r cols 0 (by omega)
  · rfl

theorem step2_length (P : RParams) (cols : List MCol) (r : List DVal) (m : List MCol) (h : step2 P cols r = some m) :
    m.length = cols.length := by
  rw [step2_idx] at h
  split at h
  · exact colsIdx_length _ cols 0 m h
  · cases h

/-- the test of the number of destinations passes in every round, or fails in one -/
theorem foldlM_step2 (P : RParams) : ∀ (rows : List (List DVal)) (cols : List MCol),
    rows.foldlM (step2 P) cols =
      if rows.all (fun r => r.length == cols.length) then
        rows.foldlM (fun cs r => colsIdx (fun j c => stepI P j r c) 0 cs) cols
      else none := by
  intro rows
  induction rows with
  | nil => intro cols; rfl
  | cons r rows ih =>
    intro cols
    simp only [List.foldlM_cons, List.all_cons, step2_idx, Option.bind_eq_bind]
    by_cases hl : r.length = cols.length
    · simp only [hl, if_true, beq_self_eq_true, Bool.true_and]
      cases hs : colsIdx (fun j c => stepI P j r c) 0 cols with
      | none => simp
      | some cols' =>
        simp only [Option.bind_some]
        rw [ih cols', colsIdx_length _ cols 0 cols' hs]
    · simp [hl]

/-- **Row by row is column by column**: all rows into the columns = every column fed with its values. -/
theorem rows_transpose (P : RParams) : ∀ (rows : List (List DVal)) (cols : List MCol),
    rows.foldlM (step2 P) cols =
      if rows.all (fun r => r.length == cols.length) then colsIdx (fun j c => colM P c (rows.map (fun r => r[j]!))) 0 cols
      else none := by
  intro rows cols
  rw [foldlM_step2, colsIdx_foldlM]
  congr 2
  funext j c
  exact (colM_rows P j rows c).symm

/-- the columns `ReadSQL` allocates at the first row -/
def cols0 (cmap : Option (List (Bytes × CoFn))) (names : List Bytes) : List MCol :=
  names.map (fun n => (({} : Col), coerceOf cmap n))

/-- **The closed form of `ReadSQL`**: `none` = an error is returned. No rows: no columns are allocated (the error of
`rows.Err()` apart). Else `rows.Columns()` must succeed, every key of the coercion map must be a column name, every row
must have one value per column, every column — a zero `Column` with the coercion its name selects — is fed with its values
by `Column.Scan` (`colM`), `rows.Err()` must be nil, and the result maps every name to `Data()` of its column (the later
of two columns with the same name wins). -/
def readSqlM (P : RParams) (cmap : Option (List (Bytes × CoFn))) (S : Script) : Option (MData × List Bytes) :=
  match S.rows with
  | [] => if S.finalErr then none else some ([], [])
  | _ :: _ =>
    if S.columnsFail then none
    else if checkFailsM cmap S.names then none
    else if !(S.rows.all (fun r => r.length == S.names.length)) then none
    else
      match colsIdx (fun j c => colM P c (S.rows.map (fun r => r[j]!))) 0 (cols0 cmap S.names) with
      | none => none
      | some mcols => if S.finalErr then none else (resultM S.names 0 mcols []).map (fun m => (m, S.names))

/-- the closed form when there is a row -/
theorem readSqlM_cons (P : RParams) (cmap : Option (List (Bytes × CoFn))) (S : Script) (hrows : S.rows ≠ []) :
    readSqlM P cmap S =
      if S.columnsFail then none
      else if checkFailsM cmap S.names then none
      else if !(S.rows.all (fun r => r.length == S.names.length)) then none
      else
        match colsIdx (fun j c => colM P c (S.rows.map (fun r => r[j]!))) 0 (cols0 cmap S.names) with
        | none => none
        | some mcols => if S.finalErr then none else (resultM S.names 0 mcols []).map (fun m => (m, S.names)) := by
  unfold readSqlM
  cases hr : S.rows with
  | nil => exact absurd hr hrows
  | cons _ _ => rfl

/-- … row by row -/
theorem readSqlM_rows (P : RParams) (cmap : Option (List (Bytes × CoFn))) (S : Script) (hrows : S.rows ≠ []) :
    readSqlM P cmap S =
      if S.columnsFail then none
      else if checkFailsM cmap S.names then none
      else
        match S.rows.foldlM (step2 P) (cols0 cmap S.names) with
        | none => none
        | some mcols => if S.finalErr then none else (resultM S.names 0 mcols []).map (fun m => (m, S.names)) := by
  have hl : (cols0 cmap S.names).length = S.names.length := by simp [cols0]
  rw [readSqlM_cons P cmap S hrows, rows_transpose, hl]
  cases S.columnsFail <;> cases checkFailsM cmap S.names <;>
    cases S.rows.all (fun r => r.length == S.names.length) <;> rfl

/-! ## The term against the mirror, for any `Scan`, `Data` and coercion map that act on the view as the mirror's do -/

section Sim
variable (E : SREnv) (P : RParams)

/-- what a part of the loop did, against the mirror over `Col`: the error returned, or a next state whose columns are
viewed as the mirror's, under the names `rows.Columns()` returned -/
def SimV (out : SROut) : Option (List MCol) → Prop
  | none => out = .retErr
  | some m => ∃ σ', out = .next σ' ∧ σ'.columns.map viewCol = m ∧ σ'.colNames = E.names

theorem SimV_none {out : SROut} (h : SimV E out none) : out = .retErr := h

/-- `rows.Columns()` fails at the first row, or the check of the coercion map does: the error -/
theorem loop_fail (r : List DVal) (rows : List (List DVal)) (h : E.columnsFail = true ∨ checkFails E E.names = true) :
    iterSR false (fun r τ => rowBody.run E { τ with row := some r }) (r :: rows) {} = .retErr := by
  have ha := allocBlock_run E { ({} : SRSt) with row := some r }
  have hb : rowBody.run E { ({} : SRSt) with row := some r } = .retErr := by
    cases hf : E.columnsFail with
    | true => simp only [hf, if_true] at ha; simp [rowBody, srIf, ha]
    | false =>
      have hc : checkFails E E.names = true := h.resolve_left (by simp [hf])
      simp only [hf, hc, Bool.false_eq_true, if_false, if_true] at ha
      simp [rowBody, srIf, ha]
  simp only [iterSR, hb]

/-- the loop that builds the result map, against `resultM` over the viewed columns -/
theorem result_sim (hdata : ∀ st, E.data st = some st.ptr) (cn : List Bytes) :
    ∀ (cs : List SRColumn) (i : Nat) (σ : SRSt) (m : List (Bytes × SRData)), σ.result = some m → σ.colNames = cn →
    match resultM cn i (cs.map viewCol) (m.map viewEntry) with
    | none => iterIdxSR (fun i c τ => (SR.setResult .done).run E { τ with idx := i, column := some c }) i cs σ = .stuck
    | some m' => ∃ σ' mr, iterIdxSR (fun i c τ => (SR.setResult .done).run E { τ with idx := i, column := some c }) i cs σ =
        .next σ' ∧ σ'.result = some mr ∧ mr.map viewEntry = m' ∧ σ'.colNames = cn := by
  intro cs
  induction cs with
  | nil => intro i σ m hm hcn; exact ⟨σ, m, rfl, hm, rfl, hcn⟩
  | cons c cs ih =>
    intro i σ m hm hcn
    simp only [List.map_cons, resultM]
    cases hn : cn[i]? with
    | none => simp [iterIdxSR, hm, hcn, hn]
    | some nm =>
      simp only []
      have hstep : (SR.setResult .done).run E { σ with idx := i, column := some c } =
          .next { σ with idx := i, column := some c, result := some (srInsert m nm (c.st.ptr, c.st)) } := by
        simp [hm, hcn, hn, hdata c.st]
      have := ih (i + 1) { σ with idx := i, column := some c, result := some (srInsert m nm (c.st.ptr, c.st)) } _ rfl hcn
      rw [view_insert, viewEntry_ptr] at this
      simp only [iterIdxSR]
      rw [hstep]
      exact this

variable (hscan : ∀ (c : SRColumn) (v : DVal), (E.scan c.co c.st v).map (fun r => r.map toCol) = some (stepV P (coOf c.co) (toCol c.st) v))
include hscan

/-- `rows.Scan` is `scanRowM` on the view: it has a meaning, and fails exactly when `scanRowM` does -/
theorem scanCols_view : ∀ (cols : List SRColumn) (r : List DVal),
    (scanCols E.scan cols r).map (fun p => if p.2 then none else some (p.1.map viewCol)) =
      some (scanRowM P (cols.map viewCol) r)
  | [], _ => rfl
  | _ :: _, [] => rfl
  | c :: cs, v :: vs => by
    obtain ⟨x, hx, hv⟩ := Option.map_eq_some_iff.1 (hscan c v)
    have e : stepV P (viewCol c).2 (viewCol c).1 v = x.map toCol := hv.symm
    simp only [List.map_cons, scanRowM, scanCols, hx, e]
    cases x with
    | none => rfl
    | some st' =>
      obtain ⟨⟨cols', b⟩, hp, hm⟩ := Option.map_eq_some_iff.1 (scanCols_view cs vs)
      rw [hp, ← hm]
      cases b <;> rfl

/-- `err := rows.Scan(columns...); if err != nil { return error }` is `step2` on the view -/
theorem scanRow_sim (σ : SRSt) (r : List DVal) (hr : σ.row = some r) (hn : σ.colNames = E.names) :
    SimV E ((SR.scanRow .retErr .done).run E σ) (step2 P (σ.columns.map viewCol) r) := by
  unfold step2
  rw [List.length_map]
  by_cases hl : r.length = σ.columns.length
  · obtain ⟨p, hc, hv⟩ := Option.map_eq_some_iff.1 (scanCols_view E P hscan σ.columns r)
    obtain ⟨cols', b⟩ := p
    rw [if_pos hl, ← hv]
    cases b with
    | true => simp [SimV, hr, hl, hc]
    | false => exact ⟨{ σ with columns := cols' }, by simp [hr, hl, hc], rfl, hn⟩
  · simp [SimV, hr, hl]

variable (hcf : E.columnsFail = false) (hck : checkFails E E.names = false)
include hcf hck

/-- one round of `for rows.Next()`, once `rows.Columns()` has succeeded and the check has passed: before the allocation
against the fresh columns, after it against the columns there are -/
theorem rowBody_sim (σ : SRSt) (r : List DVal) (hr : σ.row = some r)
    (hn : σ.columns.isEmpty = false → σ.colNames = E.names) :
    SimV E (rowBody.run E σ)
      (step2 P (if σ.columns.isEmpty then (E.names.map (newCol E)).map viewCol else σ.columns.map viewCol) r) := by
  by_cases he : σ.columns.isEmpty = true
  · have ha := allocBlock_run E σ
    simp only [hcf, hck, Bool.false_eq_true, if_false] at ha
    obtain ⟨σ1, h1, hc1, hn1, hr1⟩ := ha
    have hs := scanRow_sim E P hscan σ1 r (hr1.trans hr) hn1
    have hrun : rowBody.run E σ = (SR.scanRow .retErr .done).run E σ1 := by
      simp [rowBody, srIf, he, h1]
    rw [hrun, if_pos he]
    rw [hc1, List.isEmpty_iff.1 he, List.nil_append] at hs
    exact hs
  · have hrun : rowBody.run E σ = (SR.scanRow .retErr .done).run E σ := by
      simp [rowBody, srIf, he]
    rw [hrun, if_neg he]
    exact scanRow_sim E P hscan σ r hr (hn (by simpa using he))

/-- the loop over at least one row, one `step2` per row: a round that finds no columns allocates them (the first; a later one
only when there are no columns to allocate) -/
theorem rows_sim : ∀ (rows : List (List DVal)) (σ : SRSt), rows ≠ [] →
    (σ.columns.isEmpty = false → σ.colNames = E.names ∧ σ.columns.length = E.names.length) →
    SimV E (iterSR false (fun r τ => rowBody.run E { τ with row := some r }) rows σ)
      (rows.foldlM (step2 P) (if σ.columns.isEmpty then (E.names.map (newCol E)).map viewCol else σ.columns.map viewCol))
  | [], _, h, _ => absurd rfl h
  | r :: rows, σ, _, hσ => by
    have hb := rowBody_sim E P hscan hcf hck { σ with row := some r } r rfl (fun h => (hσ h).1)
    have hl0 : (if σ.columns.isEmpty then (E.names.map (newCol E)).map viewCol else σ.columns.map viewCol).length =
        E.names.length := by
      split
      · simp
      · next he => rw [List.length_map]; exact (hσ (by simpa using he)).2
    rw [List.foldlM_cons, iterSR]
    simp only [] at hb
    cases hm : step2 P _ r with
    | none => rw [hm] at hb; rw [SimV_none E hb]; rfl
    | some m =>
      rw [hm] at hb
      obtain ⟨σ1, h1, hv, hn1⟩ := hb
      rw [h1]
      by_cases hr : rows = []
      · subst hr; exact ⟨σ1, rfl, hv, hn1⟩
      have hl1 : σ1.columns.length = E.names.length := by
        rw [← List.length_map viewCol, hv, step2_length P _ r m hm, hl0]
      have := rows_sim rows σ1 hr (fun _ => ⟨hn1, hl1⟩)
      -- `if columns == nil` is entered again only when there are no columns to allocate
      have hcols : (if σ1.columns.isEmpty then (E.names.map (newCol E)).map viewCol else σ1.columns.map viewCol) = m := by
        rw [← hv]
        split
        · next he =>
          have h1 : σ1.columns = [] := List.isEmpty_iff.1 he
          have h2 : E.names = [] := List.eq_nil_of_length_eq_zero (by rw [← hl1, h1]; rfl)
          rw [h1, h2]; rfl
        · rfl
      rwa [hcols] at this

end Sim

/-- **The canonical term is `readSqlM`** — for every script and every `Scan`, `Data` and coercion map that act on the view
as the mirror's do (today's: `gen_step_semantics`, `gen_data_semantics`): the function has a meaning, it returns an error exactly
when `readSqlM` is `none`, and otherwise the map (viewed) and the names of `readSqlM`. -/
theorem canon_run (E : SREnv) (P : RParams) (cmap : Option (List (Bytes × CoFn)))
    (hscan : ∀ (c : SRColumn) (v : DVal), (E.scan c.co c.st v).map (fun r => r.map toCol) = some (stepV P (coOf c.co) (toCol c.st) v))
    (hdata : ∀ st, E.data st = some st.ptr)
    (hmap : E.coerceMap = cmap.map (fun m => m.map (fun e => (e.1, e.2.name)))) :
    ∃ r, runReadSql E canon = some r ∧ r.map viewRes =
      readSqlM P cmap { names := E.names, columnsFail := E.columnsFail, rows := E.rows, finalErr := E.finalErr } := by
  unfold runReadSql
  rw [canon_unfold]
  cases hr : E.rows with
  | nil =>
    simp only [readSqlM, iterSR]
    rw [tail_unfold]
    cases E.finalErr
    · exact ⟨some ([], []), rfl, rfl⟩
    · exact ⟨none, rfl, rfl⟩
  | cons r rows =>
    rw [readSqlM_rows P cmap _ (List.cons_ne_nil r rows), ← checkFails_map E cmap hmap]
    simp only []
    by_cases hfail : E.columnsFail = true ∨ checkFails E E.names = true
    · rw [loop_fail E r rows hfail]
      refine ⟨none, rfl, ?_⟩
      rcases hfail with h | h
      · simp [h]
      · cases E.columnsFail <;> simp [h]
    · have hcf : E.columnsFail = false := by cases h : E.columnsFail <;> simp_all
      have hck : checkFails E E.names = false := by cases h : checkFails E E.names <;> simp_all
      have hl : SimV E _ ((r :: rows).foldlM (step2 P) ((E.names.map (newCol E)).map viewCol)) :=
        rows_sim E P hscan hcf hck (r :: rows) {} (List.cons_ne_nil r rows) (fun h => by cases h)
      have hcols : (E.names.map (newCol E)).map viewCol = cols0 cmap E.names := by
        simp [cols0, viewCol_new E cmap hmap]
      rw [hcols] at hl
      simp only [hcf, hck, Bool.false_eq_true, if_false]
      cases hm : (r :: rows).foldlM (step2 P) (cols0 cmap E.names) with
      | none =>
        rw [hm] at hl
        rw [SimV_none _ hl]
        exact ⟨none, rfl, rfl⟩
      | some mcols =>
        rw [hm] at hl
        obtain ⟨σ1, h1, hv, hn1⟩ := hl
        rw [h1]
        simp only []
        rw [tail_unfold]
        cases E.finalErr with
        | true => exact ⟨none, rfl, rfl⟩
        | false =>
          simp only [Bool.false_eq_true, if_false]
          have hlen : mcols.length = E.names.length := by
            rw [rows_transpose] at hm
            split at hm
            · rw [colsIdx_length _ _ _ _ hm]; simp [cols0]
            · cases hm
          have hres := result_sim E hdata E.names σ1.columns 0 { σ1 with result := some [] } [] rfl hn1
          rw [hv, List.map_nil, resultM_eq E.names mcols 0 [] (by omega)] at hres
          obtain ⟨σ2, mr, h2, hr2, hmr, hn2⟩ := hres
          rw [h2, resultM_eq E.names mcols 0 [] (by omega)]
          simp only [hr2, hn2]
          exact ⟨some (mr, E.names), rfl, by simp [viewRes, hmr]⟩


/-- **`ReadSQL` of today's source, over today's `Column.Scan` and `Data`, is `readSqlM`** — for EVERY scripted result
set (any names, any rows of any driver values, `rows.Columns()` failing or not, `rows.Err()` nil or not), every coercion
map, precision, `float.Fixed` and `strconv.ParseFloat`: the function has a meaning, it returns an error exactly when
`readSqlM` is `none`, and otherwise the map (viewed as the columns `New` makes of the `Data()` slices) and the names of
`readSqlM`. -/
theorem gen_readsql_semantics (P : RParams) (cmap : Option (List (Bytes × CoFn))) (S : Script) :
    ∃ r, genReadSql P cmap S = some r ∧ r.map viewRes = readSqlM P cmap S := by
  unfold genReadSql
  rw [gen_readsql_canon]
  exact canon_run (env P cmap S) P cmap (fun c v => gen_step_semantics (P.cfg (coOf c.co)) c.st v)
    (fun st => (gen_data_semantics st []).1) rfl

theorem readSqlM_none_error (P : RParams) (cmap : Option (List (Bytes × CoFn))) (S : Script)
    (h : readSqlM P cmap S = none) : genReadSql P cmap S = some none := by
  obtain ⟨r, hr, hv⟩ := gen_readsql_semantics P cmap S
  rw [hr, h] at *
  cases r with
  | none => rfl
  | some x => simp at hv

/-! ## The failing-row and `rows.Err` rules (C15) -/

/-- **A driver failure is never swallowed**: when `rows.Err()` is non-nil after the loop (the driver failed while
fetching a row, so `Next` returned false early), or `rows.Columns()` fails at the first row, `ReadSQL` returns an error —
whatever rows were delivered before. -/
theorem gen_readsql_faults (P : RParams) (cmap : Option (List (Bytes × CoFn))) (S : Script)
    (h : S.finalErr = true ∨ (S.columnsFail = true ∧ S.rows ≠ [])) : genReadSql P cmap S = some none := by
  apply readSqlM_none_error
  rcases h with h | ⟨h1, h2⟩
  · cases hr : S.rows with
    | nil => simp [readSqlM, hr, h]
    | cons r rows =>
      rw [readSqlM_rows P cmap S (by rw [hr]; exact List.cons_ne_nil _ _), h]
      cases S.columnsFail <;> cases checkFailsM cmap S.names <;>
        cases S.rows.foldlM (step2 P) (cols0 cmap S.names) <;> rfl
  · rw [readSqlM_rows P cmap S h2, h1]
    rfl

/-- … and a `Scan` that fails for some row (a value `Column.Scan` rejects, a row of another width) is an error too. -/
theorem gen_readsql_scan_fault (P : RParams) (cmap : Option (List (Bytes × CoFn))) (S : Script)
    (h : S.rows.foldlM (step2 P) (cols0 cmap S.names) = none) : genReadSql P cmap S = some none := by
  apply readSqlM_none_error
  have hrows : S.rows ≠ [] := by
    intro h0
    rw [h0] at h
    cases h
  rw [readSqlM_rows P cmap S hrows, h]
  cases S.columnsFail <;> cases checkFailsM cmap S.names <;> rfl

/-! ## The unknown-column rule of the coercion map -/

/-- the check fails exactly when some key of the coercion map is not a column name -/
theorem checkFailsM_iff (cmap : Option (List (Bytes × CoFn))) (names : List Bytes) :
    checkFailsM cmap names = true ↔ ∃ m, cmap = some m ∧ ∃ e ∈ m, e.1 ∉ names := by
  cases cmap with
  | none => simp [checkFailsM]
  | some m => simp [checkFailsM, List.any_eq_true]

/-- **A coercion for a column the result set does not have is reported**: for every scripted result set with at least one
row, if some key of the coercion map is not among the names `rows.Columns()` returns, `ReadSQL` of today's source returns
an error (at the first row, before any value is scanned) — whatever the rows hold. -/
theorem gen_readsql_coerce_unknown (P : RParams) (m : List (Bytes × CoFn)) (S : Script) (hrows : S.rows ≠ [])
    (k : Bytes) (hk : k ∈ m.map (·.1)) (hnot : k ∉ S.names) : genReadSql P (some m) S = some none := by
  apply readSqlM_none_error
  have hck : checkFailsM (some m) S.names = true := by
    rw [checkFailsM_iff]
    obtain ⟨e, he, rfl⟩ := List.mem_map.1 hk
    exact ⟨m, rfl, e, he, hnot⟩
  rw [readSqlM_cons P (some m) S hrows, hck]
  cases S.columnsFail <;> rfl

/-- … and conversely, when every key is a column name (or there is no map) the check passes: `ReadSQL` is what it is
without the check. -/
theorem gen_readsql_coerce_known (P : RParams) (cmap : Option (List (Bytes × CoFn))) (S : Script)
    (hall : ∀ m, cmap = some m → ∀ e ∈ m, e.1 ∈ S.names) :
    checkFailsM cmap S.names = false ∧
    readSqlM P cmap S =
      match S.rows with
      | [] => if S.finalErr then none else some ([], [])
      | _ :: _ =>
        if S.columnsFail then none
        else if !(S.rows.all (fun r => r.length == S.names.length)) then none
        else
          match colsIdx (fun j c => colM P c (S.rows.map (fun r => r[j]!))) 0 (cols0 cmap S.names) with
          | none => none
          | some mcols => if S.finalErr then none else (resultM S.names 0 mcols []).map (fun m => (m, S.names)) := by
  have hck : checkFailsM cmap S.names = false := by
    cases h : checkFailsM cmap S.names with
    | false => rfl
    | true =>
      obtain ⟨m, hm, e, he, hn⟩ := (checkFailsM_iff cmap S.names).1 h
      exact absurd (hall m hm e he) hn
  refine ⟨hck, ?_⟩
  unfold readSqlM
  cases S.rows with
  | nil => rfl
  | cons r rows => simp only [hck, Bool.false_eq_true, if_false]

/-! ## Against the spec: `New(data, ColumnOrder(colNames...))` of what `ReadSQL` returns is `readSqlNamedS` -/

/-- an entry of the result map as `New` sees it: nil data is a type `createColumn` does not know -/
def entryNewCol (e : Bytes × Option LCol) : NewCol :=
  match e.2 with
  | some lc => { name := e.1, kind := .cells lc.ty, count := lc.cells.size, cells := lc.cells.toList }
  | none => { name := e.1, kind := .unsupported, count := 0, cells := [] }

theorem entryNewCol_name (e : Bytes × Option LCol) : (entryNewCol e).name = e.1 := by
  unfold entryNewCol; cases e.2 <;> rfl

/-- `ReadSQLWithArgs`: the error, or `New(data, newqf.ColumnOrder(columns...))` as the spec has it -/
def frameOf : Option (MData × List Bytes) → Res
  | none => .err
  | some (m, ns) => newS (m.map entryNewCol) ns []

/-- the column `newS.build` makes of an entry of the result map: the data under its name; nil data cannot be made -/
theorem colS_entry (e : Bytes × Option LCol) :
    C08Construct.colS [] (entryNewCol e) =
      e.2.map (fun lc => ({ name := e.1, ty := lc.ty, cells := lc.cells.toList.toArray } : LCol)) := by
  unfold entryNewCol
  cases e.2 with
  | none => rfl
  | some lc => simp [C08Construct.colS, C08Construct.kindCells, C08Construct.declFor]

/-- … so of insertions, each non-nil `Data()` a column under its own name without enum attributes: the columns themselves,
unless some `Data()` is nil -/
theorem colS_entries : ∀ (L : MData), (∀ e ∈ L, ∀ lc, e.2 = some lc → lc.name = e.1 ∧ lc.vals = [] ∧ lc.strict = false) →
    (L.map entryNewCol).mapM (C08Construct.colS []) = if L.any (fun e => e.2.isNone) then none else some (L.filterMap (·.2))
  | [], _ => rfl
  | e :: L, hw => by
    rw [List.map_cons, ListFacts.mapM_cons_opt, colS_entry, colS_entries L (fun e' he' => hw e' (List.mem_cons_of_mem _ he')),
      List.any_cons, List.filterMap_cons]
    cases he : e.2 with
    | none => rfl
    | some lc =>
      obtain ⟨h1, h3, h4⟩ := hw e (List.mem_cons_self ..) lc he
      cases lc
      simp only [] at h1 h3 h4
      subst h1 h3 h4
      cases L.any (fun e => e.2.isNone) <;> simp

/-- **`New` of the map `ReadSQL` builds, in the order of the names.** `L`: the insertions `result[name] = Data()` in
order, every non-nil `Data()` a column of `k` cells. The frame is an error when some `Data()` is nil (a column of NULLs
only), a name is illegal, or two columns have the same name; else it has the columns in the order of the names. -/
theorem newS_of_inserts (k : Nat) (L : MData) (hne : L ≠ [])
    (hw : ∀ e ∈ L, ∀ lc, e.2 = some lc → lc.name = e.1 ∧ lc.cells.size = k ∧ lc.vals = [] ∧ lc.strict = false) :
    newS ((insAll L []).map entryNewCol) (L.map (·.1)) [] =
      if L.any (fun e => e.2.isNone) then .err
      else if !((L.map (·.1)).all legalName) || (L.map (·.1)).eraseDups.length != (L.map (·.1)).length then .err
      else .ok { cols := L.filterMap (·.2), n := k } := by
  obtain ⟨e0, L', rfl⟩ : ∃ e0 L', L = e0 :: L' := by
    cases L with
    | nil => exact absurd rfl hne
    | cons e0 L' => exact ⟨e0, L', rfl⟩
  generalize hL : e0 :: L' = L at *
  have hord : ∀ cols, C08Guards.specOrder cols (L.map (·.1)) = L.map (·.1) := by
    intro cols; subst hL; rfl
  have hnames : (L.map entryNewCol).map (·.name) = L.map (·.1) := by
    simp [List.map_map, Function.comp_def, entryNewCol_name]
  by_cases hnd : (L.map (·.1)).Nodup
  · -- distinct names: the map is the list of insertions
    have hM : insAll L [] = L := by simpa [insAll] using ListFacts.foldl_assocInsert_nodup L [] (by simpa using hnd)
    have hed : ((L.map (·.1)).eraseDups.length != (L.map (·.1)).length) = false :=
      Bool.eq_false_iff.2 fun h => (ListFacts.eraseDups_ne_iff _).1 h hnd
    have hall : (L.map entryNewCol).all (fun c => legalName c.name) = (L.map (·.1)).all legalName := by
      rw [← hnames]; simp [List.all_map, Function.comp_def]
    rw [hM, hed]
    cases hlegal : (L.map (·.1)).all legalName with
    | false =>
      rw [C08Guards.newS_prefix _ _ _ (.inl (hall.trans hlegal))]
      cases L.any (fun e => e.2.isNone) <;> rfl
    | true =>
      have hp : ¬ C08Guards.newPrefixRejects (L.map entryNewCol) (L.map (·.1)) := by
        rw [C08Guards.newPrefixRejects, hord, hall, hlegal]
        rintro (h | h | h)
        · cases h
        · exact h (by simp)
        · obtain ⟨n, hn, hl⟩ := List.all_eq_false.1 h
          obtain ⟨e, he, rfl⟩ := List.mem_map.1 hn
          exact hl (List.any_eq_true.2 ⟨entryNewCol e, List.mem_map_of_mem he, by simp [entryNewCol_name]⟩)
      have hordd : (L.map (·.1)).filterMap (fun n => (L.map entryNewCol).find? (fun c => c.name == n)) = L.map entryNewCol := by
        have := ListFacts.filterMap_find?_key (·.name) (L.map entryNewCol) (by rw [hnames]; exact hnd) _ (fun _ h => h)
        rwa [hnames] at this
      rw [C08Construct.newS_after_prefix _ _ _ hp, hord, hordd, C08Construct.build_eq,
        colS_entries L (fun e he lc h => ⟨(hw e he lc h).1, (hw e he lc h).2.2⟩)]
      cases hany : L.any (fun e => e.2.isNone) with
      | true =>
        -- some `Data()` is nil: that column cannot be made
        simp only [if_true, Option.map_none, ite_self]
      | false =>
        have hcount : ∀ c ∈ L.map entryNewCol, 0 ≤ c.count ∧ c.count = (k : Int) := by
          intro c hc
          obtain ⟨e, he, rfl⟩ := List.mem_map.1 hc
          cases h : e.2 with
          | none =>
            have : L.any (fun e => e.2.isNone) = true := List.any_eq_true.2 ⟨e, he, by simp [h]⟩
            rw [hany] at this; cases this
          | some lc => simp [entryNewCol, h, (hw e he lc h).2.1]
        subst hL
        have hc := (hcount _ (List.mem_map_of_mem (List.mem_cons_self ..))).2
        simp only [List.map_cons] at hcount ⊢
        rw [hc, (C08Construct.all_len_iff _ _).2 hcount]
        simp
  · -- a name twice: the map has fewer entries than there are names, whether or not the names are legal
    have hk := congrArg List.length (ListFacts.foldl_assocInsert_keys L [])
    rw [List.length_map] at hk
    rw [C08Guards.newS_prefix _ _ _ (.inr (.inl (by
      rw [hord, List.length_map, List.length_map]
      exact fun h => hnd ((ListFacts.eraseDups_length _).2.1 (by rw [List.length_map, h]; exact hk.symm))))),
      (ListFacts.eraseDups_ne_iff _).2 hnd]
    cases L.any (fun e => e.2.isNone) <;> simp

/-- a column of the spec: its name, one cell per value, no enum attributes -/
theorem sqlColumn_shape (name : Bytes) (co : Nat) (fixed : UInt64 → UInt64) (pfloat : Bytes → Option UInt64)
    (vals : List SqlVal) (lc : LCol) (h : sqlColumn name co fixed pfloat vals = some lc) :
    lc.name = name ∧ lc.cells.size = vals.length ∧ lc.vals = [] ∧ lc.strict = false := by
  have key : ∀ (f : SqlVal → Option Cell) (ty : CType),
      (vals.mapM f).map (fun (cs : List Cell) => ({ name := name, ty := ty, cells := cs.toArray } : LCol)) = some lc →
      lc.name = name ∧ lc.cells.size = vals.length ∧ lc.vals = [] ∧ lc.strict = false := by
    intro f ty hm
    cases hc : vals.mapM f with
    | none => simp [hc] at hm
    | some cs =>
      rw [hc] at hm
      simp only [Option.map_some, Option.some.injEq] at hm
      subst hm
      exact ⟨rfl, by simp [ListFacts.mapM_length hc], rfl, rfl⟩
  unfold sqlColumn at h
  split at h
  · exact key _ _ h
  · split at h
    · simp at h
    · exact key _ _ h
  · split at h
    · simp at h
    · exact key _ _ h
    · exact key _ _ h
    · exact key _ _ h
    · exact key _ _ h
    · simp at h

/-- `Column.Scan` sees a driver value only through what it denotes: the fold over driver values is a fold over their denotations -/
theorem foldlM_stepV (P : RParams) (co : Coerce) (vs : List DVal) (c : Col) :
    vs.foldlM (stepV P co) c = (vs.map DVal.toSql).foldlM (fun c o => o.bind (scan (P.cfg co) c)) c := by
  rw [List.foldlM_map]; rfl

/-- a zero column fed with column `j` of a table of driver values that denotes `rows` is the mirror's `scanAll` of column `j` of `rows` -/
theorem colM_denoted (P : RParams) (co : Coerce) (D : List (List DVal)) (rows : List (List SqlVal))
    (hD : D.map (List.map DVal.toSql) = rows.map (List.map some)) (j : Nat) (hj : ∀ r ∈ rows, j < r.length) :
    colM P (({} : Col), co) (D.map (fun r => r[j]!)) =
      (scanAll (P.cfg co) (rows.map (fun r => r[j]!))).map (fun x => (x, co)) := by
  have hcol : (D.map (fun r => r[j]!)).map DVal.toSql = (rows.map (fun r => r[j]!)).map some := by
    rw [ListFacts.column_map, hD, List.map_map, List.map_map]
    apply List.map_congr_left
    intro r hr
    simp [hj r hr]
  unfold colM scanAll
  rw [foldlM_stepV, hcol, List.foldlM_map]
  rfl

section Spec
variable (P : RParams) (cmap : Option (List (Bytes × CoFn))) (names : List Bytes) (rows : List (List SqlVal))

/-- column `j` of the spec -/
def specCol (j : Nat) : Option LCol :=
  sqlColumn names[j]! ((names.map (fun n => (coerceOf cmap n).toNat))[j]!) (P.cfg .none).fixed P.pfloat
    (rows.map (fun r => r[j]!))

/-- the columns after all rows, against the columns of the spec -/
theorem columns_spec (D : List (List DVal)) (hD : D.map (List.map DVal.toSql) = rows.map (List.map some))
    (harity : ∀ r ∈ rows, r.length = names.length)
    (hscope : ∀ j, j < names.length → inScope (coerceOf cmap names[j]!) (rows.map (fun r => r[j]!)) = true) :
    ∀ (ns : List Bytes) (i : Nat), names.drop i = ns →
    match colsIdx (fun j c => colM P c (D.map (fun r => r[j]!))) i (cols0 cmap ns) with
    | none => ((List.range' i ns.length).map (specCol P cmap names rows)).any (·.isNone) = true
    | some mcols => List.zipWith (fun nm (c : MCol) => (nm, c.1.toLCol nm)) ns mcols =
        (List.range' i ns.length).map (fun j => (names[j]!, specCol P cmap names rows j)) := by
  intro ns
  induction ns with
  | nil => intro i _; rfl
  | cons n ns ih =>
    intro i hdrop
    have hn? : names[i]? = some n := by simpa using congrArg List.head? hdrop
    obtain ⟨hi, -⟩ := List.getElem?_eq_some_iff.1 hn?
    have hn : names[i]! = n := by simp [hn?]
    have hdrop' : names.drop (i + 1) = ns := by rw [← List.tail_drop, hdrop]; rfl
    have hcol : colM P (({} : Col), coerceOf cmap n) (D.map (fun r => r[i]!)) =
        (scanAll (P.cfg (coerceOf cmap n)) (rows.map (fun r => r[i]!))).map (fun x => (x, coerceOf cmap n)) :=
      colM_denoted P _ D rows hD i (fun r hr => by rw [harity r hr]; exact hi)
    have hspec : specCol P cmap names rows i =
        (scanAll (P.cfg (coerceOf cmap n)) (rows.map (fun r => r[i]!))).toLCol n := by
      unfold specCol
      have hco : (names.map (fun n => (coerceOf cmap n).toNat))[i]! = (coerceOf cmap n).toNat := by
        rw [ListFacts.getElem!_map _ hi, hn]
      rw [hco, hn]
      have hs := hscope i hi
      rw [hn] at hs
      exact (scan_refines_spec (P.cfg (coerceOf cmap n)) n _ hs).symm
    have ih' := ih (i + 1) hdrop'
    simp only [cols0, List.map_cons, colsIdx, List.length_cons, List.range'_succ]
    rw [hcol]
    cases hA : scanAll (P.cfg (coerceOf cmap n)) (rows.map (fun r => r[i]!)) with
    | none =>
      simp only [Option.map_none]
      rw [hA] at hspec
      simp [hspec, ScanResult.toLCol]
    | some a =>
      simp only [Option.map_some]
      rw [hA] at hspec
      simp only [cols0] at ih'
      cases hc : colsIdx (fun j c => colM P c (D.map (fun r => r[j]!))) (i + 1)
          (ns.map (fun n => (({} : Col), coerceOf cmap n))) with
      | none =>
        rw [hc] at ih'
        simp only [] at ih'
        simp only [List.any_cons, ih', Bool.or_true]
      | some cs =>
        rw [hc] at ih'
        simp only [] at ih'
        simp only [List.zipWith_cons_cons, ih', hn, hspec]
        rfl

end Spec

/-- the coercion map as the spec has it: the column name and the number of the coercion -/
def specCmap (cmap : Option (List (Bytes × CoFn))) : List (Bytes × Nat) :=
  (cmap.getD []).map (fun e => (e.1, e.2.coerce.toNat))

theorem coerceOf_spec (cmap : Option (List (Bytes × CoFn))) (n : Bytes) :
    (coerceOf cmap n).toNat = (((specCmap cmap).find? (·.1 == n)).map (·.2)).getD 0 := by
  unfold coerceOf specCmap
  cases cmap with
  | none => rfl
  | some m =>
    simp only [Option.bind_some, Option.getD_some]
    induction m with
    | nil => rfl
    | cons e m ih =>
      obtain ⟨k, v⟩ := e
      by_cases hk : k = n
      · subst hk
        simp
      · have h1 : (n == k) = false := by simp; exact fun h => hk h.symm
        have h2 : (k == n) = false := by simp [hk]
        simp only [List.lookup_cons, h1, List.map_cons, List.find?_cons, h2]
        exact ih

theorem specCmap_any (cmap : Option (List (Bytes × CoFn))) (names : List Bytes) :
    (specCmap cmap).any (fun e => e.2 != 0 && !names.contains e.1) = checkFailsM cmap names := by
  unfold specCmap checkFailsM
  cases cmap with
  | none => rfl
  | some m =>
    simp only [Option.getD_some, List.any_map, Function.comp_def]
    induction m with
    | nil => rfl
    | cons e m ih =>
      simp only [List.any_cons, ih]
      cases e.2 <;> simp [CoFn.coerce, Coerce.toNat]

/-- **The closed form, followed by `New`, is the spec**, for any table `D` of driver values that denotes the rows. -/
theorem readSqlM_refines (P : RParams) (cmap : Option (List (Bytes × CoFn))) (names : List Bytes)
    (rows : List (List SqlVal)) (D : List (List DVal)) (hD : D.map (List.map DVal.toSql) = rows.map (List.map some)) (hn : names ≠ [])
    (harity : ∀ r ∈ rows, r.length = names.length)
    (hscope : ∀ j, j < names.length → inScope (coerceOf cmap names[j]!) (rows.map (fun r => r[j]!)) = true) :
    frameOf (readSqlM P cmap { names := names, rows := D }) =
      readSqlNamedS names (specCmap cmap) (P.cfg .none).fixed P.pfloat rows := by
  by_cases hr0 : rows = []
  · subst hr0
    obtain rfl : D = [] := List.map_eq_nil_iff.1 hD
    rfl
  have hD0 : D ≠ [] := fun h => hr0 (List.map_eq_nil_iff.1 (h ▸ hD).symm)
  have hall : (D.all fun r => r.length == names.length) = true := by
    rw [ListFacts.all_length_of_map _ _ D rows hD, List.all_eq_true]
    intro r hr
    simp [harity r hr]
  have hco : names.map (fun n => (((specCmap cmap).find? (·.1 == n)).map (·.2)).getD 0) =
      names.map (fun n => (coerceOf cmap n).toNat) :=
    List.map_congr_left fun n _ => (coerceOf_spec cmap n).symm
  have hcs := columns_spec P cmap names rows D hD harity hscope names 0 rfl
  -- both sides unfolded: the check of the coercion map, then the columns
  rw [readSqlM_cons P cmap _ hD0]
  unfold readSqlNamedS readSqlS
  simp only [specCmap_any, hco, List.isEmpty_eq_false_iff.2 hr0, hall, Bool.false_eq_true, if_false, Bool.not_true,
    List.range_eq_range']
  cases checkFailsM cmap names with
  | true => rfl
  | false =>
    simp only [Bool.false_eq_true, if_false]
    cases hc : colsIdx (fun j c => colM P c (D.map (fun r => r[j]!))) 0 (cols0 cmap names) with
    | none =>
      rw [hc] at hcs
      simp only [] at hcs
      unfold specCol at hcs
      simp only [frameOf, hcs, if_true]
    | some mcols =>
      rw [hc] at hcs
      simp only [] at hcs
      have hlen : mcols.length = names.length := by
        rw [colsIdx_length _ _ 0 mcols hc]; simp [cols0]
      show frameOf ((resultM names 0 mcols []).map (fun m => (m, names))) = _
      rw [resultM_eq names mcols 0 [] (by omega)]
      simp only [List.drop_zero, hcs, Option.map_some, frameOf]
      -- the insertions
      have hN := newS_of_inserts rows.length ((List.range' 0 names.length).map fun j => (names[j]!, specCol P cmap names rows j))
        (fun h => hn (by simpa using congrArg List.length h))
        (fun e he lc hlc => by
          obtain ⟨j, _, rfl⟩ := List.mem_map.1 he
          simpa using sqlColumn_shape _ _ _ _ _ lc hlc)
      rw [List.map_map, ← List.range_eq_range',
        show (fun x : Bytes × Option LCol => x.1) ∘ (fun j => (names[j]!, specCol P cmap names rows j)) = fun j => names[j]! from rfl,
        ListFacts.range_map_getElem] at hN
      rw [← List.range_eq_range', hN]
      simp only [List.any_map, List.filterMap_map, Function.comp_def, id, specCol]

/-- `gen_readsql_refines_spec` below for ANY table `D` of driver values that denotes the rows: text as `string` or as `[]uint8`,
cell by cell (`C19EndToEnd.Delivered`). -/
theorem refines_spec_denoted (P : RParams) (cmap : Option (List (Bytes × CoFn))) (names : List Bytes)
    (rows : List (List SqlVal)) (D : List (List DVal)) (hD : D.map (List.map DVal.toSql) = rows.map (List.map some)) (hn : names ≠ [])
    (harity : ∀ r ∈ rows, r.length = names.length)
    (hscope : ∀ j, j < names.length → inScope (coerceOf cmap names[j]!) (rows.map (fun r => r[j]!)) = true) :
    ∃ r, genReadSql P cmap { names := names, rows := D } = some r ∧
      frameOf (r.map viewRes) = readSqlNamedS names (specCmap cmap) (P.cfg .none).fixed P.pfloat rows := by
  obtain ⟨r, hr, hv⟩ := gen_readsql_semantics P cmap { names := names, rows := D }
  exact ⟨r, hr, hv ▸ readSqlM_refines P cmap names rows D hD hn harity hscope⟩

/-- **`ReadSQL` of today's source, followed by `New(data, ColumnOrder(columns...))`, is the spec's `readSqlNamedS`.**
For every result set `rows` of `SqlVal`s with one value per column (`names ≠ []`), delivered by the driver in any way
that denotes them (`δ`: text as `string` or as `[]uint8`), every coercion map, precision, `float.Fixed` and
`strconv.ParseFloat`, when every column is in the scope in which `Column.Scan` refines the spec
(`C19Sql.inScope`: a column without coercion is typed and has no NULL in front of the first value of an int / bool column;
an `Int64ToBool` column is not empty) and the driver does not fail: the frame is `readSqlNamedS`'s — an error when the
result set has a row and the coercion map names a column it does not have, when a `Scan` fails, a column has NULLs only,
a name is illegal or occurs twice; else the columns in the order of the names, each with the coercion its name selects,
with one row per row. -/
theorem gen_readsql_refines_spec (P : RParams) (cmap : Option (List (Bytes × CoFn))) (names : List Bytes)
    (rows : List (List SqlVal)) (δ : SqlVal → DVal) (hδ : ∀ v, DVal.toSql (δ v) = some v) (hn : names ≠ [])
    (harity : ∀ r ∈ rows, r.length = names.length)
    (hscope : ∀ j, j < names.length → inScope (coerceOf cmap names[j]!) (rows.map (fun r => r[j]!)) = true) :
    ∃ r, genReadSql P cmap { names := names, rows := rows.map (List.map δ) } = some r ∧
      frameOf (r.map viewRes) = readSqlNamedS names (specCmap cmap) (P.cfg .none).fixed P.pfloat rows :=
  refines_spec_denoted P cmap names rows _ (by simp [List.map_map, Function.comp_def, hδ]) hn harity hscope

/-! ## Witnesses: the statements tell wrong glue apart -/

section Witnesses

/-- what is observed of a returned column: the slice `Data()` points to and the slices -/
structure ObsCol where
  name : Bytes
  ptr : Option SSlice
  ints : List Int
  bools : List Bool
  strings : List (Option Bytes)
  deriving DecidableEq, Repr

inductive Obs where
  | noMeaning
  | error
  | ok (cols : List ObsCol) (names : List Bytes)
  deriving DecidableEq, Repr

def obsOf : Option (Option (List (Bytes × SRData) × List Bytes)) → Obs
  | none => .noMeaning
  | some none => .error
  | some (some (m, ns)) => .ok (m.map (fun e => ⟨e.1, e.2.1, e.2.2.ints, e.2.2.bools, e.2.2.strings⟩)) ns

private def PW : RParams := { precision := 0, fixedFn := fun _ f => f, pfloat := fun _ => none }
private def na : Bytes := [97]
private def nb : Bytes := [98]
private def sx : Bytes := [120]

/-- a term run over today's `Column.Scan` and `Data` -/
def runW (t : SR) (cmap : Option (List (Bytes × CoFn))) (S : Script) : Obs := obsOf (runReadSql (env PW cmap S) t)

def withTail (t : SR) : SR := .declVars (.forNext rowBody t)
def withRow (b : SR) : SR := .declVars (.forNext b tail)

example : canon = withTail tail ∧ canon = withRow rowBody := ⟨rfl, rfl⟩

/-- two rows of an int column and a text column: what today's term returns -/
example : runW canon none { names := [na, nb], rows := [[.int 1, .str sx], [.int 2, .null]] } =
    .ok [⟨na, some .ints, [1, 2], [], []⟩, ⟨nb, some .strings, [], [], [some sx, none]⟩] [na, nb] := by decide

/-- **a dropped `rows.Err()` check**: the driver fails after the first row (`Next` returns false, `Err()` is non-nil) —
the term without the check returns the truncated result without error, today's term the error -/
example : runW (withTail (.newResult (.rangeColumns (.setResult .done) .retResult))) none
      { names := [na], rows := [[.int 1]], finalErr := true } = .ok [⟨na, some .ints, [1], [], []⟩] [na] ∧
    runW canon none { names := [na], rows := [[.int 1]], finalErr := true } = .error := by decide

/-- the error of `rows.Scan` ignored (`if err != nil { }`): a value `Column.Scan` rejects is skipped -/
example : runW (withRow (.ifColumnsNil allocBlock (.scanRow .done .done))) none
      { names := [na], rows := [[.int 1], [.other], [.int 3]] } = .ok [⟨na, some .ints, [1, 3], [], []⟩] [na] ∧
    runW canon none { names := [na], rows := [[.int 1], [.other], [.int 3]] } = .error := by decide

/-- the columns allocated at every row (no `if columns == nil`): the second `Scan` has too many destinations -/
example : runW (withRow (.getColumns .retErr (.rangeNames allocBody (.setColNames (.scanRow .retErr .done))))) none
      { names := [na], rows := [[.int 1], [.int 2]] } = .error ∧
    runW canon none { names := [na], rows := [[.int 1], [.int 2]] } = .ok [⟨na, some .ints, [1, 2], [], []⟩] [na] := by decide

/-- without `colNames = names` the loop over the columns indexes an empty slice: no meaning (a panic) -/
example : runW (withRow (.ifColumnsNil (.getColumns .retErr (.rangeNames allocBody .done)) (.scanRow .retErr .done))) none
      { names := [na], rows := [[.int 1]] } = .noMeaning := by decide

/-- the coercion not installed (`col.coerce = fn(col)` missing): an `Int64ToBool` column stays an int column -/
example : runW (withRow (.ifColumnsNil (.getColumns .retErr (.rangeNames (.newColumn (.appendColumn .done))
        (.setColNames .done))) (.scanRow .retErr .done))) (some [(na, .int64ToBool)])
      { names := [na], rows := [[.int 1]] } = .ok [⟨na, some .ints, [1], [], []⟩] [na] ∧
    runW canon (some [(na, .int64ToBool)]) { names := [na], rows := [[.int 1]] } =
      .ok [⟨na, some .bools, [], [true], []⟩] [na] := by decide

/-- **the defect that was repaired**: in the OLD term (the check before `colNames = names`, the `return` inside the inner
loop) the inner loop has no rounds, so a map naming a column the result set does not have is accepted; today's term reports
it — and accepts a map whose keys are all column names, whatever their order -/
example : runW (withRow (.ifColumnsNil allocBlockOld (.scanRow .retErr .done))) (some [(nb, .int64ToBool)])
      { names := [na], rows := [[.int 1]] } = .ok [⟨na, some .ints, [1], [], []⟩] [na] ∧
    runW canon (some [(nb, .int64ToBool)]) { names := [na], rows := [[.int 1]] } = .error ∧
    runW canon (some [(nb, .int64ToBool)]) { names := [na, nb], rows := [[.int 1, .int 0]] } =
      .ok [⟨na, some .ints, [1], [], []⟩, ⟨nb, some .bools, [], [false], []⟩] [na, nb] ∧
    runW canon (some [(nb, .int64ToBool)]) { names := [na], rows := [] } = .ok [] [] := by
  decide

/-- the `return` left inside the inner loop (after `colNames = names`): a map naming the SECOND column is rejected -/
example : runW (withRow (.ifColumnsNil (.getColumns .retErr (.rangeNames allocBody (.setColNames (.ifCoerceMap checkMapOld .done))))
        (.scanRow .retErr .done))) (some [(nb, .int64ToBool)]) { names := [na, nb], rows := [[.int 1, .int 0]] } = .error := by
  decide

end Witnesses

#print axioms gen_readsql_canon
#print axioms gen_readsql_no_opaque
#print axioms canon_run
#print axioms gen_readsql_semantics
#print axioms gen_readsql_faults
#print axioms gen_readsql_scan_fault
#print axioms gen_readsql_refines_spec
#print axioms gen_readsql_coerce_unknown
#print axioms gen_readsql_coerce_known

end QF.Props.C19ReadSqlGen
