import QF.Props.C16LinkInterval
/-!
# C16 — link (second part): from `C16Core.Spec` (units of `10^e10`, scale `N/D = 2^e2/10^e10`) to statements about the
decimal `m·10^e` and the float's exact value

`Shortest b dy m e` says in the property's own terms what `Spec` says in Ryu's scaled integers: the decimal `m·10^e`
(`m > 0`, no trailing zero) lies in the rounding interval of `b`, no decimal `n·10^(e+1)` (one digit fewer) does, and no
`n·10^e` in the interval is closer to the exact value `dy.m·2^dy.e`.  `shortest_of_spec` is the translation.
-/
namespace QF.Props.C16Link
open QF.Num QF.Ryu64 QF.Props.C16Round QF.Props.C16Core

/-! ## decimal powers as fractions -/

/-- numerator of `10^e` -/
def P10 (e : Int) : Nat := 10 ^ e.toNat
/-- denominator of `10^e` -/
def Q10 (e : Int) : Nat := 10 ^ (-e).toNat

theorem P10_pos (e : Int) : 0 < P10 e := Nat.pow_pos (by decide)
theorem Q10_pos (e : Int) : 0 < Q10 e := Nat.pow_pos (by decide)

theorem decNum_eq (m : Nat) (d : Int) : decNum m d = m * P10 d := by
  unfold decNum P10; split
  · rfl
  · have : d.toNat = 0 := by omega
    rw [this, Nat.pow_zero, Nat.mul_one]
theorem decDen_eq (d : Int) : decDen d = Q10 d := by
  unfold decDen Q10; split
  · have : (-d).toNat = 0 := by omega
    rw [this, Nat.pow_zero]
  · rfl

/-- `10^e = 10^j · 10^e1` when `e = e1 + j`, as fractions -/
theorem p10_shift (e1 e : Int) (j : Nat) (h : e = e1 + j) : P10 e * Q10 e1 = 10 ^ j * (P10 e1 * Q10 e) :=
  pow_shift 10 e1 e j h

/-! ## comparing fractions after a change of units -/

theorem dist_eq_absDiff (x y : Nat) : C16Core.dist x y = absDiff x y := rfl

/-- the scale identity in the units of a decimal exponent `e = e10 + j` (`s'/t' = 10^e`, `K = 10^j`): `N/(D·K) = (p/q)/(s'/t')` -/
theorem key1 {N D p q s t s' t' K : Nat} (R1 : N * q * s = D * p * t) (R3 : s' * t = K * (s * t')) (hs : 0 < s)
    (ht : 0 < t) : N * s' * q = p * t' * D * K := by
  apply Nat.eq_of_mul_eq_mul_right (Nat.mul_pos hs ht)
  calc N * s' * q * (s * t) = (N * q * s) * (s' * t) := by ac_rfl
    _ = (D * p * t) * (K * (s * t')) := by rw [R1, R3]
    _ = p * t' * D * K * (s * t) := by ac_rfl

/-- the same at the binary exponent `E = e2 + 2` -/
theorem key2 {N D p q pE qE s' t' K : Nat} (k1 : N * s' * q = p * t' * D * K) (R2 : pE * q = 4 * (p * qE)) (hq : 0 < q) :
    4 * N * s' * qE = pE * t' * D * K := by
  apply Nat.eq_of_mul_eq_mul_right hq
  calc 4 * N * s' * qE * q = 4 * qE * (N * s' * q) := by ac_rfl
    _ = 4 * qE * (p * t' * D * K) := by rw [k1]
    _ = (4 * (p * qE)) * (t' * D * K) := by ac_rfl
    _ = pE * q * (t' * D * K) := by rw [R2]
    _ = pE * t' * D * K * q := by ac_rfl

/-- comparisons of an interval end `X·N` (units `1/D` of `10^e10`) with `n·10^K`, read as comparisons of `X·2^e2` with
`n·10^e` -/
theorem end_cmp {N D p q s' t' K : Nat} (k1 : N * s' * q = p * t' * D * K) (hs' : 0 < s') (hq : 0 < q) (hD : 0 < D)
    (hK : 0 < K) (X n : Nat) :
    (X * N ≤ n * (D * K) ↔ X * (t' * p) ≤ n * s' * q) ∧ (X * N < n * (D * K) ↔ X * (t' * p) < n * s' * q) ∧
    (n * (D * K) ≤ X * N ↔ n * s' * q ≤ X * (t' * p)) ∧ (n * (D * K) < X * N ↔ n * s' * q < X * (t' * p)) := by
  have hG1 : 0 < s' * q := Nat.mul_pos hs' hq
  have hG2 : 0 < D * K := Nat.mul_pos hD hK
  have ha : X * N * (s' * q) = X * (t' * p) * (D * K) := by
    calc X * N * (s' * q) = X * (N * s' * q) := by ac_rfl
      _ = X * (p * t' * D * K) := by rw [k1]
      _ = X * (t' * p) * (D * K) := by ac_rfl
  have hb : n * (D * K) * (s' * q) = n * s' * q * (D * K) := by ac_rfl
  obtain ⟨c1, c2⟩ := cmp_scale hG1 hG2 ha hb
  obtain ⟨c3, c4⟩ := cmp_scale hG1 hG2 hb ha
  exact ⟨c1, c2, c3, c4⟩

/-- the scale of a float (`C16Core.scale_meaning`: `N/D = 2^e2 / 10^e10`) in the units of the decimal exponent `e10 + j` -/
theorem scale_at (exp : Nat) (he : exp < 2047) (j : Nat) :
    scaleNum exp * P10 (e10Of exp + (j : Int)) * Q (decodeE2 exp) =
      P (decodeE2 exp) * Q10 (e10Of exp + (j : Int)) * scaleDen exp * 10 ^ j :=
  key1 (scale_meaning exp he) (p10_shift (e10Of exp) (e10Of exp + (j : Int)) j rfl) (P10_pos _) (Q10_pos _)

/-! ## `Shortest` -/

/-- numerator of `|c·10^e − dy.m·2^dy.e|` over the denominator `decDen e · dyDen dy.e` (the distance `isShortestRoundTrip`
computes) -/
def distNum (dy : Num.Dyadic) (c : Nat) (e : Int) : Nat :=
  absDiff (decNum c e * dyDen dy.e) (dyNum dy.m dy.e * decDen e)

/-- `m·10^e` is a shortest decimal that parses back to the float `b` (exact value `dy.m·2^dy.e`), and a closest one of
that length: the three clauses of C16 in the property's own words -/
structure Shortest (b : UInt64) (dy : Num.Dyadic) (m : Nat) (e : Int) : Prop where
  pos : 0 < m
  /-- no trailing zero -/
  nz : m % 10 ≠ 0
  lt : m < 2 ^ 57
  /-- in the rounding interval -/
  inI : InInterval b m e
  /-- no decimal with one digit fewer (a multiple of `10^(e+1)`) lies in the rounding interval -/
  none_shorter : ∀ n, ¬ InInterval b n (e + 1)
  /-- no decimal of the same length in the rounding interval is closer to the exact value -/
  closest : ∀ n, InInterval b n e → distNum dy m e ≤ distNum dy n e

theorem adm_iff_inInterval (b : UInt64) (dy : Num.Dyadic) (F : Fields b dy) (n j : Nat) :
    Adm (mmOf (decodeM2 (mantOf b) (expOf b)) (mmShiftOf (mantOf b) (expOf b)) * scaleNum (expOf b))
      (mpOf (decodeM2 (mantOf b) (expOf b)) * scaleNum (expOf b)) (scaleDen (expOf b))
      (acceptBoundsOf (mantOf b) (expOf b)) n j ↔ InInterval b n (e10Of (expOf b) + (j : Int)) := by
  obtain ⟨hD, hDN, _, _⟩ := scale_facts (expOf b) F.exp_lt
  have k1 := scale_at (expOf b) F.exp_lt j
  have hK : 0 < 10 ^ j := Nat.pow_pos (by decide)
  have hCpos : 0 < mpOf (decodeM2 (mantOf b) (expOf b)) * scaleNum (expOf b) := by
    rw [F.mp]; exact Nat.mul_pos (by omega) (by omega)
  obtain ⟨a1, a2, _, _⟩ := end_cmp k1 (P10_pos _) (Q_pos _) hD hK
    (mmOf (decodeM2 (mantOf b) (expOf b)) (mmShiftOf (mantOf b) (expOf b))) n
  obtain ⟨_, _, b3, b4⟩ := end_cmp k1 (P10_pos _) (Q_pos _) hD hK (mpOf (decodeM2 (mantOf b) (expOf b))) n
  unfold Adm InInterval loEnd hiEnd
  rw [decNum_eq, decDen_eq]
  by_cases hacc : acceptBoundsOf (mantOf b) (expOf b) = true
  · rw [if_pos hacc, hacc]
    simp only [if_true, Nat.add_zero, Nat.sub_zero]
    rw [a1, b3]
  · rw [if_neg hacc]
    have : acceptBoundsOf (mantOf b) (expOf b) = false := by
      cases h : acceptBoundsOf (mantOf b) (expOf b) with
      | true => exact absurd h hacc
      | false => rfl
    rw [this]
    simp only [Bool.false_eq_true, if_false]
    rw [← a2, ← b4]
    omega

theorem distNum_scale (b : UInt64) (dy : Num.Dyadic) (F : Fields b dy) (k : Nat) :
    ∃ G1 G2 : Nat, 0 < G1 ∧ 0 < G2 ∧ ∀ c : Nat,
      C16Core.dist (c * (scaleDen (expOf b) * 10 ^ k)) (mvOf (decodeM2 (mantOf b) (expOf b)) * scaleNum (expOf b)) * G1 =
        distNum dy c (e10Of (expOf b) + (k : Int)) * G2 := by
  obtain ⟨hD, _, _, _⟩ := scale_facts (expOf b) F.exp_lt
  have k1 := scale_at (expOf b) F.exp_lt k
  have R2 := pq_shift (decodeE2 (expOf b)) dy.e 2 (by rw [F.e2]; omega)
  rw [show (2 : Nat) ^ 2 = 4 from rfl] at R2
  have k2 := key2 k1 R2 (Q_pos _)
  refine ⟨P10 (e10Of (expOf b) + (k : Int)) * Q dy.e, scaleDen (expOf b) * 10 ^ k,
    Nat.mul_pos (P10_pos _) (Q_pos _), Nat.mul_pos hD (Nat.pow_pos (by decide)), fun c => ?_⟩
  unfold distNum
  rw [dist_eq_absDiff, F.mv, dyNum_eq, dyDen_eq, decNum_eq, decDen_eq]
  apply absDiff_scale'
  · ac_rfl
  · generalize scaleNum (expOf b) = N at *
    generalize scaleDen (expOf b) = D at *
    generalize P10 (e10Of (expOf b) + (k : Int)) = s' at *
    generalize Q10 (e10Of (expOf b) + (k : Int)) = t' at *
    generalize P dy.e = pE at *
    generalize Q dy.e = qE at *
    calc 4 * dy.m * N * (s' * qE) = dy.m * (4 * N * s' * qE) := by ac_rfl
      _ = dy.m * (pE * t' * D * 10 ^ k) := by rw [k2]
      _ = dy.m * pE * t' * (D * 10 ^ k) := by ac_rfl

/-- an interval `[A, C]` at least `3N` wide, whose upper end is below `2^55·N` and at least `2^57·X`, is more than ten `X`
wide: the multiple of `Y = 10·X` following `A` (`Z` the one at or below `A`) lies inside, also with the ends excluded -/
theorem gap_contains_multiple {A C N X Y Z lo hi : Nat} (hY : Y = 10 * X) (hlo : lo ≤ A + 1) (hhi : C - 1 ≤ hi)
    (hZ : Z ≤ A) (hA : A < Z + Y) (hX : 2 ^ 57 * X ≤ C) (hC : C < 2 ^ 55 * N) (hAC : A + 3 * N ≤ C) :
    lo ≤ Z + Y ∧ Z + Y ≤ hi := by omega

/-- `Spec` at the interval ends, the value, the unit and the inclusion flag that steps 1–3 compute from the fields of `b`: what
`ryu_shortest_partial` / `ryu_shortest` conclude -/
def SpecOf (b : UInt64) (out k : Nat) : Prop :=
  Spec (mmOf (decodeM2 (mantOf b) (expOf b)) (mmShiftOf (mantOf b) (expOf b)) * scaleNum (expOf b))
    (mvOf (decodeM2 (mantOf b) (expOf b)) * scaleNum (expOf b))
    (mpOf (decodeM2 (mantOf b) (expOf b)) * scaleNum (expOf b)) (scaleDen (expOf b))
    (acceptBoundsOf (mantOf b) (expOf b)) out k

/-- **`Spec` in the property's own words.** What `ryu_shortest_partial` concludes about `out·10^k` in units of `10^e10`
is `Shortest` for the decimal `out·10^(e10+k)`. -/
theorem shortest_of_spec (b : UInt64) (dy : Num.Dyadic) (hd : decode b = some dy) (h0 : dy.m ≠ 0) (out k : Nat)
    (hS : SpecOf b out k) : Shortest b dy out (e10Of (expOf b) + (k : Int)) := by
  have F := fields_of_decode b dy hd h0
  obtain ⟨hD, hDN, hN, hq⟩ := scale_facts (expOf b) F.exp_lt
  have hmp : mpOf (decodeM2 (mantOf b) (expOf b)) < 2 ^ 55 := by rw [F.mp]; have := F.m_lt; omega
  have hM1 := F.m_pos
  have hs := F.s_le
  have a1 : scaleDen (expOf b) ≤
      mmOf (decodeM2 (mantOf b) (expOf b)) (mmShiftOf (mantOf b) (expOf b)) * scaleNum (expOf b) := by
    rw [F.mm]
    exact Nat.le_trans hDN (Nat.le_mul_of_pos_left _ (by omega))
  have a2 : mmOf (decodeM2 (mantOf b) (expOf b)) (mmShiftOf (mantOf b) (expOf b)) * scaleNum (expOf b) +
      3 * scaleNum (expOf b) ≤ mpOf (decodeM2 (mantOf b) (expOf b)) * scaleNum (expOf b) := by
    rw [F.mm, F.mp, ← Nat.add_mul]
    exact Nat.mul_le_mul_right _ (by omega)
  obtain ⟨s1, s2, s3⟩ := hS
  have adm := adm_iff_inInterval b dy F
  generalize hA : mmOf (decodeM2 (mantOf b) (expOf b)) (mmShiftOf (mantOf b) (expOf b)) * scaleNum (expOf b) = A at *
  generalize hC : mpOf (decodeM2 (mantOf b) (expOf b)) * scaleNum (expOf b) = C at *
  generalize hacc : acceptBoundsOf (mantOf b) (expOf b) = incl at *
  generalize hDD : scaleDen (expOf b) = D at *
  have hX : 0 < D * 10 ^ k := Nat.mul_pos hD (Nat.pow_pos (by decide))
  have hlo : A ≤ loEnd A incl ∧ loEnd A incl ≤ A + 1 := by unfold loEnd; split <;> omega
  have hhi : C - 1 ≤ hiEnd C incl ∧ hiEnd C incl ≤ C := by unfold hiEnd; split <;> omega
  have e10 : D * 10 ^ (k + 1) = 10 * (D * 10 ^ k) := by rw [Nat.pow_succ]; ac_rfl
  have hpos : 0 < out := by
    apply Nat.pos_of_ne_zero; intro hz
    unfold Adm at s1; rw [hz, Nat.zero_mul] at s1; omega
  have hnz : out % 10 ≠ 0 := by
    intro hz
    apply s2 (out / 10)
    unfold Adm at s1 ⊢
    have : out / 10 * (D * 10 ^ (k + 1)) = out * (D * 10 ^ k) := by
      rw [e10, ← Nat.mul_assoc, Nat.div_mul_cancel (Nat.dvd_of_mod_eq_zero hz)]
    rw [this]; exact s1
  have hlt : out < 2 ^ 57 := by
    apply Nat.lt_of_not_le; intro hge
    have hY : 0 < D * 10 ^ (k + 1) := by rw [e10]; omega
    have hdm := div_bounds A (D * 10 ^ (k + 1)) hY
    apply s2 (A / (D * 10 ^ (k + 1)) + 1)
    unfold Adm
    rw [Nat.add_mul, Nat.one_mul, Nat.mul_comm (A / _)]
    exact gap_contains_multiple e10 hlo.2 hhi.1 hdm.1 hdm.2
      (Nat.le_trans (Nat.mul_le_mul_right _ hge) (Nat.le_trans s1.2 hhi.2))
      (by rw [← hC]; exact Nat.mul_lt_mul_of_pos_right hmp (by omega)) a2
  exact
    { pos := hpos, nz := hnz, lt := hlt
      inI := (adm out k).mp s1
      none_shorter := fun n h => by
        have e : e10Of (expOf b) + (k : Int) + 1 = e10Of (expOf b) + ((k + 1 : Nat) : Int) := by omega
        rw [e] at h
        exact s2 n ((adm n (k + 1)).mpr h)
      closest := fun n h => by
        have := s3 n ((adm n k).mpr h)
        obtain ⟨G1, G2, g1, g2, hG⟩ := distNum_scale b dy F k
        rw [hDD] at hG
        have := Nat.mul_le_mul_right G1 this
        rw [hG out, hG n] at this
        exact Nat.le_of_mul_le_mul_right this g2 }

#print axioms shortest_of_spec

end QF.Props.C16Link
