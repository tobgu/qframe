import QF.Core.GrouperMain
/-!
# C05 (Distinct) — Distinct keeps exactly the first row of every key class

`Distinct(columns)` uses the same open-addressing table as GroupBy and keeps the first row of
every group.  On the mirror model this is `distinctOf gs = gs.filterMap List.head?` applied to
the result of `G.groupBy`.  `distinct_spec` is a corollary of `G.groupBy_reps`: the groups are the
classes `ix.filter (G.cls eqv f)` of the representatives `f`, so the rows kept are, for every
representative, the first row of `ix` in its class (`ix.find? (G.cls eqv f)`).  `groupBy_nodup`
(no group occurs twice in the result list) is read off `G.groupBy_reps` in the same way.

Reflexivity: `G.KeyRel` has only symmetry, transitivity and hash-compatibility, **not**
reflexivity, and `G.cls eqv f j = (j == f || eqv j f)` makes a class contain its own first row
by row identity.  Only the clause "every key is represented" (`eqv r j = true`) needs
`eqv j j = true`, and only for rows of `ix`:
* `distinct_spec_core` — no reflexivity hypothesis; the clause reads `r = j ∨ eqv r j = true`.
* `distinct_spec` — the statement exactly as specified, with the explicit extra hypothesis
  `hrefl : ∀ a ∈ ix, eqv a a = true`.
* `refl_needed` — a concrete `KeyRel` without reflexivity where the clause as specified fails,
  so the hypothesis cannot be dropped.
-/
namespace QF.Props.C05

def distinctOf (gs : List (List Nat)) : List Nat := gs.filterMap List.head?

theorem idxOf_find_le (p : Nat → Bool) (l : List Nat) (r j : Nat) (hf : l.find? p = some r) (hp : p j = true) (hj : j ∈ l) :
    l.idxOf r ≤ l.idxOf j := by
  obtain ⟨hr, as, bs, rfl, hno⟩ := List.find?_eq_some_iff_append.1 hf
  -- neither `r` nor `j` stands before the first row that satisfies `p`
  have notin : ∀ x, p x = true → x ∉ as := fun x hx hm => by simpa [hx] using hno x hm
  rw [List.idxOf_append, List.idxOf_append, if_neg (notin r hr), if_neg (notin j hp), List.idxOf_cons_self]
  omega

/-! ## `G.cls eqv` is an equivalence relation

`G.cls eqv f a = (a == f || eqv a f)` is the reflexive closure of `eqv`; with `eqv` symmetric and transitive it is an
equivalence, and the group of a representative `f` is its class. -/

theorem cls_iff {eqv : Nat → Nat → Bool} {f a : Nat} : G.cls eqv f a = true ↔ a = f ∨ eqv a f = true := by
  simp [G.cls]

theorem cls_symm {eqv : Nat → Nat → Bool} (hs : ∀ a b, eqv a b = true → eqv b a = true) {f a : Nat}
    (h : G.cls eqv f a = true) : G.cls eqv a f = true :=
  cls_iff.2 ((cls_iff.1 h).imp Eq.symm (hs _ _))

theorem cls_trans {eqv : Nat → Nat → Bool} (ht : ∀ a b c, eqv a b = true → eqv b c = true → eqv a c = true) {f a b : Nat}
    (h1 : G.cls eqv f a = true) (h2 : G.cls eqv a b = true) : G.cls eqv f b = true := by
  rw [cls_iff] at *
  rcases h2 with rfl | h2
  · exact h1
  · rcases h1 with rfl | h1
    · exact .inr h2
    · exact .inr (ht _ _ _ h2 h1)

/-! ## no group is listed twice -/

/-- The groups returned by `groupBy` are pairwise different lists (different table slots hold
different, non-empty key classes). -/
theorem groupBy_nodup (hash : Nat → Nat) (eqv : Nat → Nat → Bool) (kr : G.KeyRel hash eqv)
    (ix : List Nat) (hnd : ix.Nodup) :
    ∃ gs, G.groupBy {} hash eqv ix = some gs ∧ gs.Nodup := by
  obtain ⟨fs, hgs, hfs, hsub, _, hsep⟩ := G.groupBy_reps hash eqv kr ix hnd
  refine ⟨_, hgs, ?_⟩
  unfold List.Nodup at hfs ⊢
  rw [List.pairwise_map]
  refine List.Pairwise.imp_of_mem ?_ hfs
  -- a representative is in its own class and not in the class of another one
  intro a b ha hb hne hEq
  have hin : a ∈ ix.filter (G.cls eqv b) := hEq ▸ List.mem_filter.mpr ⟨hsub a ha, by simp [G.cls]⟩
  have := (List.mem_filter.mp hin).2
  simp [G.cls, hne, hsep a ha b hb hne] at this

/-! ## Distinct -/

/-- Distinct, without any reflexivity assumption on `eqv`: the "represented" clause says the
representative is the row itself or `eqv`-related to it. -/
theorem distinct_spec_core (hash : Nat → Nat) (eqv : Nat → Nat → Bool) (kr : G.KeyRel hash eqv)
    (ix : List Nat) (hnd : ix.Nodup) :
    ∃ gs, G.groupBy {} hash eqv ix = some gs ∧
      let d := distinctOf gs
      d.Nodup ∧
      (∀ r ∈ d, r ∈ ix) ∧
      (∀ j ∈ ix, ∃ r ∈ d, r = j ∨ eqv r j = true) ∧
      (∀ r1 ∈ d, ∀ r2 ∈ d, r1 ≠ r2 → eqv r1 r2 = false) ∧
      (∀ r ∈ d, ∀ j ∈ ix, eqv r j = true → ix.idxOf r ≤ ix.idxOf j) := by
  obtain ⟨fs, hgs, hfs, _, hcov, hsep⟩ := G.groupBy_reps hash eqv kr ix hnd
  refine ⟨_, hgs, ?_⟩
  -- the rows kept: for every representative the first row of its class
  have hd : distinctOf (fs.map fun f => ix.filter (G.cls eqv f)) = fs.filterMap fun f => ix.find? (G.cls eqv f) := by
    unfold distinctOf
    rw [List.filterMap_map]
    exact congrArg (List.filterMap · fs) (funext fun f => List.head?_filter)
  have mem : ∀ {r}, r ∈ fs.filterMap (fun f => ix.find? (G.cls eqv f)) ↔ ∃ f ∈ fs, ix.find? (G.cls eqv f) = some r :=
    List.mem_filterMap
  have apart : ∀ {f1 f2 r1 r2}, f1 ∈ fs → f2 ∈ fs → f1 ≠ f2 → ix.find? (G.cls eqv f1) = some r1 →
      ix.find? (G.cls eqv f2) = some r2 → r1 ≠ r2 ∧ eqv r1 r2 = false := fun h1 h2 hne e1 e2 =>
    G.cls_apart hash eqv kr hne (hsep _ h1 _ h2 hne) (hsep _ h2 _ h1 (Ne.symm hne)) (List.find?_some e1) (List.find?_some e2)
  rw [hd]
  refine ⟨?_, ?_, ?_, ?_, ?_⟩
  · exact List.Pairwise.filterMap (R := fun f1 f2 => f1 ∈ fs ∧ f2 ∈ fs ∧ f1 ≠ f2) _
      (fun f1 f2 h r1 e1 r2 e2 => (apart h.1 h.2.1 h.2.2 e1 e2).1) (hfs.imp_of_mem fun h1 h2 hne => ⟨h1, h2, hne⟩)
  · intro r hr
    obtain ⟨f, _, e⟩ := mem.1 hr
    exact List.mem_of_find?_eq_some e
  · -- `j` is in the class of a representative `f`, whose first row `r` is then in the class of `j`
    intro j hj
    obtain ⟨f, hf, hc⟩ := hcov j hj
    obtain ⟨r, e⟩ := Option.isSome_iff_exists.1 (List.find?_isSome.2 ⟨j, hj, hc⟩)
    exact ⟨r, mem.2 ⟨f, hf, e⟩, cls_iff.1 (cls_trans kr.trans (cls_symm kr.symm hc) (List.find?_some e))⟩
  · intro r1 hr1 r2 hr2 hne
    obtain ⟨f1, hf1, e1⟩ := mem.1 hr1
    obtain ⟨f2, hf2, e2⟩ := mem.1 hr2
    exact (apart hf1 hf2 (fun h => hne (Option.some.inj ((h ▸ e1).symm.trans e2))) e1 e2).2
  · -- a row with the key of `r` is in the class `r` is the first row of
    intro r hr j hj hrj
    obtain ⟨f, _, e⟩ := mem.1 hr
    exact idxOf_find_le _ ix r j e (cls_trans kr.trans (List.find?_some e) (cls_iff.2 (.inr (kr.symm _ _ hrj)))) hj

/-- **Distinct**, as specified.  Extra explicit hypothesis `hrefl` (reflexivity of `eqv` on the
rows of `ix`): `G.KeyRel` does not contain reflexivity, and the third clause needs it (see
`refl_needed`); nothing else does (see `distinct_spec_core`). -/
theorem distinct_spec (hash : Nat → Nat) (eqv : Nat → Nat → Bool) (kr : G.KeyRel hash eqv)
    (ix : List Nat) (hnd : ix.Nodup) (hrefl : ∀ a ∈ ix, eqv a a = true) :
    ∃ gs, G.groupBy {} hash eqv ix = some gs ∧
      let d := distinctOf gs
      d.Nodup ∧                                   -- no row twice
      (∀ r ∈ d, r ∈ ix) ∧                         -- only input rows
      (∀ j ∈ ix, ∃ r ∈ d, eqv r j = true) ∧       -- every key is represented
      (∀ r1 ∈ d, ∀ r2 ∈ d, r1 ≠ r2 → eqv r1 r2 = false) ∧   -- exactly one representative per key
      (∀ r ∈ d, ∀ j ∈ ix, eqv r j = true → ix.idxOf r ≤ ix.idxOf j) := by  -- FIRST row of its class
  obtain ⟨gs, hgs, h1, h2, h3, h4, h5⟩ := distinct_spec_core hash eqv kr ix hnd
  refine ⟨gs, hgs, h1, h2, ?_, h4, h5⟩
  intro j hj
  obtain ⟨r, hr, h⟩ := h3 j hj
  refine ⟨r, hr, ?_⟩
  rcases h with rfl | h
  · exact hrefl _ hj
  · exact h

/-! ## examples -/

/-- keys 3,1,3,2,1,3 ; hashes collide for keys 3 and 1 -/
def exVals : Nat → Nat := fun i => [3, 1, 3, 2, 1, 3].getD i 0
def exHash : Nat → Nat := fun i => if exVals i = 2 then 16 else 8
def exEqv : Nat → Nat → Bool := fun i j => exVals i == exVals j

theorem exKeyRel : G.KeyRel exHash exEqv where
  symm := by intro a b h; simp only [exEqv, beq_iff_eq] at *; exact h.symm
  trans := by intro a b c h1 h2; simp only [exEqv, beq_iff_eq] at *; exact h1.trans h2
  hashOk := by intro a b h; simp only [exEqv, beq_iff_eq] at h; simp only [exHash, h]

/-- the hypotheses of `distinct_spec` hold on a concrete instance (rows given out of order),
and the distinct rows are 5 (key 3), 1 (key 1), 3 (key 2) — each the first row of its key in `ix`,
listed in table-slot order. -/
example : G.KeyRel exHash exEqv ∧ [5, 1, 0, 3, 4, 2].Nodup ∧ (∀ a ∈ [5, 1, 0, 3, 4, 2], exEqv a a = true) ∧
    (G.groupBy {} exHash exEqv [5, 1, 0, 3, 4, 2]).map distinctOf = some [5, 1, 3] :=
  ⟨exKeyRel, by decide, by decide, by decide⟩

example : ∃ gs, G.groupBy {} exHash exEqv [5, 1, 0, 3, 4, 2] = some gs ∧ distinctOf gs = [5, 1, 3] ∧
    (distinctOf gs).Nodup ∧ (∀ j ∈ [5, 1, 0, 3, 4, 2], ∃ r ∈ distinctOf gs, exEqv r j = true) := by
  obtain ⟨gs, hgs, h1, _, h3, _⟩ := distinct_spec exHash exEqv exKeyRel [5, 1, 0, 3, 4, 2] (by decide) (by decide)
  refine ⟨gs, hgs, ?_, h1, h3⟩
  have : G.groupBy {} exHash exEqv [5, 1, 0, 3, 4, 2] = some [[5, 0, 2], [1, 4], [3]] := by decide
  rw [this] at hgs; cases hgs; decide

/-- Reflexivity cannot be dropped from `distinct_spec`: the empty relation is a `KeyRel`
(symmetric, transitive, hash-compatible, all vacuously), every row is then its own group, and no
representative is `eqv`-related to row 0. -/
theorem refl_needed :
    G.KeyRel (fun _ => 0) (fun _ _ => false) ∧ [0].Nodup ∧
    ¬ ∃ gs, G.groupBy {} (fun _ => 0) (fun _ _ => false) [0] = some gs ∧
        ∀ j ∈ [0], ∃ r ∈ distinctOf gs, (fun _ _ => false : Nat → Nat → Bool) r j = true := by
  refine ⟨⟨fun _ _ h => Bool.noConfusion h, fun _ _ _ h => Bool.noConfusion h, fun _ _ h => Bool.noConfusion h⟩, by decide, ?_⟩
  rintro ⟨gs, _, h⟩
  obtain ⟨r, _, hr⟩ := h 0 (by simp)
  cases hr

end QF.Props.C05

#print axioms QF.Props.C05.groupBy_nodup
#print axioms QF.Props.C05.distinct_spec_core
#print axioms QF.Props.C05.distinct_spec
#print axioms QF.Props.C05.refl_needed
