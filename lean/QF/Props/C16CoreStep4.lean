import QF.Props.C16CoreLoops
/-!
# C16 — the Ryu core, step 4: step 4 is correct given what step 3 hands over

`step4_correct`: under `Sem` (the three numbers of step 3 are the exact floors of the scaled interval ends and value, the two
flags are sound) the decimal computed by step 4 — general or common case — is in the rounding interval (`Adm`), no
decimal with fewer digits is, and no admissible decimal of the same length is closer to the exact value (`Spec`).
-/
namespace QF.Props.C16Core
open QF.Ryu64

/-! ## step 4 as a whole -/

/-- number of digits removed by the general case -/
def kGeneral (s3 : Step3) : Nat :=
  cnt 10 20 s3.vp s3.vm +
    if (rmN (cnt 10 20 s3.vp s3.vm) (gen0 s3)).vmIsTrailingZeros then factorCount 10 20 (rmN (cnt 10 20 s3.vp s3.vm) (gen0 s3)).vm else 0

theorem step4General_eq (s3 : Step3) (incl : Bool) :
    step4General s3 incl =
      (finish (rmN (kGeneral s3) (gen0 s3)).vr (rmN (kGeneral s3) (gen0 s3)).vm incl
          (rmN (kGeneral s3) (gen0 s3)).vmIsTrailingZeros (rmN (kGeneral s3) (gen0 s3)).vrIsTrailingZeros
          (rmN (kGeneral s3) (gen0 s3)).lastRemovedDigit,
        (rmN (kGeneral s3) (gen0 s3)).removed) := by
  have h : (if (loopGeneral1 20 (gen0 s3)).vmIsTrailingZeros then loopGeneral2 20 (loopGeneral1 20 (gen0 s3))
      else loopGeneral1 20 (gen0 s3)) = rmN (kGeneral s3) (gen0 s3) := by
    unfold kGeneral
    rw [loopGeneral1_eq]
    show (if (rmN (cnt 10 20 s3.vp s3.vm) (gen0 s3)).vmIsTrailingZeros then _ else _) = _
    split
    · rw [loopGeneral2_eq, rmN_add]; rfl
    · rw [Nat.add_zero]; rfl
  unfold step4General finish
  unfold gen0 at h ⊢
  dsimp only
  rw [h]


theorem rmN_last' (k : Nat) (s3 : Step3) : (rmN k (gen0 s3)).lastRemovedDigit = digitAt s3.vr k := by
  cases k with
  | zero => rfl
  | succ k => rw [rmN_last, digitAt_succ]; rfl

/-- the two loops of the common case remove what the first loop of the general case removes -/
theorem step4Common_loops (s3 : Step3) (hvp : s3.vp < 10 ^ 20) :
    loopCommon10 20 (loopCommon100 20 (toCom (gen0 s3))) = toCom (rmN (cnt 10 20 s3.vp s3.vm) (gen0 s3)) := by
  rw [loopCommon100_eq, loopCommon10_eq, rmN_add]
  obtain ⟨_, h2, h3, _⟩ := rmN_vr (2 * cnt 100 20 (gen0 s3).vp (gen0 s3).vm) (gen0 s3)
  rw [h2, h3]
  show toCom (rmN (2 * cnt 100 20 s3.vp s3.vm + cnt 10 20 (s3.vp / 10 ^ (2 * cnt 100 20 s3.vp s3.vm))
    (s3.vm / 10 ^ (2 * cnt 100 20 s3.vp s3.vm))) _) = _
  rw [common_count s3.vp s3.vm hvp]

theorem step4Common_eq (s3 : Step3) (incl : Bool) (hvp : s3.vp < 10 ^ 20) (hvr : s3.vr < 2 ^ 64) :
    step4Common s3 =
      (finish (s3.vr / 10 ^ cnt 10 20 s3.vp s3.vm) (s3.vm / 10 ^ cnt 10 20 s3.vp s3.vm) incl false false
          (digitAt s3.vr (cnt 10 20 s3.vp s3.vm)),
        ((cnt 10 20 s3.vp s3.vm : Nat) : Int)) := by
  have h := step4Common_loops s3 hvp
  obtain ⟨h1, _, h3, h4⟩ := rmN_vr (cnt 10 20 s3.vp s3.vm) (gen0 s3)
  have h5 := rmN_last' (cnt 10 20 s3.vp s3.vm) s3
  change _ = s3.vr / _ at h1
  change _ = s3.vm / _ at h3
  change _ = (0 : Int) + _ at h4
  have h0 : ({ vr := s3.vr, vp := s3.vp, vm := s3.vm } : Com) = toCom (gen0 s3) := rfl
  unfold step4Common
  dsimp only
  rw [h0, h]
  dsimp only [toCom]
  rw [h1, h3, h4, h5]
  have hr64 : s3.vr / 10 ^ cnt 10 20 s3.vp s3.vm < 2 ^ 64 := Nat.lt_of_le_of_lt (Nat.div_le_self _ _) hvr
  generalize s3.vr / 10 ^ cnt 10 20 s3.vp s3.vm = r at *
  generalize s3.vm / 10 ^ cnt 10 20 s3.vp s3.vm = m at *
  generalize digitAt s3.vr (cnt 10 20 s3.vp s3.vm) = last at *
  unfold finish
  simp only [Bool.false_and, Bool.false_eq_true, if_false, Bool.not_false, Bool.or_true, Bool.and_true, Int.zero_add]
  by_cases hc : (r == m || decide (last ≥ 5)) = true
  · rw [if_pos hc, hc]; rfl
  · rw [if_neg hc]
    have : (r == m || decide (last ≥ 5)) = false := by simpa using hc
    rw [this]
    show (u64 (r + 0), _) = _
    rw [Nat.add_zero, u64_of_lt r hr64]


/-- What step 4 assumes about the result of step 3. `[A/D, C/D]` is the rounding interval and `B/D` the exact value, in units of
`10^e10` (`A`, `B`, `C`: numerators over the common denominator `D`); `incl` = the bounds are acceptable.
* `hvm`, `hvr`: `vm`, `vr` are the exact floors; `hvp`: so is `vp`, one less when the upper bound is an excluded integer — but
  only up to its last digit (step 4 never looks at the last digit of `vp`), so that a missing decrement is harmless when that
  integer is not a multiple of 10;
* `hfm1`: `vmIsTrailingZeros` is only set when the lower bound is an acceptable integer; `hfm2`: it may be left unset for such a
  bound only if that integer is not a multiple of 10; `hfr`: `vrIsTrailingZeros` is only ever set when the value is an integer,
  or a half-integer whose double is a multiple of 5 (which can never look like an exact tie, `half_int_tie`; the branch
  `e2 < 0`, `2 ≤ q < 63` of the code tests `q - 1` trailing zero bits and does set the flag for such values);
* the interval is at least two units wide around the value, the lower neighbour is not farther than the upper one, and either
  the value is an integer or the interval is wide enough to contain a multiple of 10 (so at least one digit is removed). -/
structure Sem (A B C D : Nat) (incl : Bool) (s3 : Step3) : Prop where
  hD : 0 < D
  hA : D ≤ A
  hAB : A + D ≤ B
  hBC : B + D ≤ C
  hgap : B - A ≤ C - B
  hwide : D ∣ B ∨ A + 10 * D + 1 ≤ C
  hvm : s3.vm = A / D
  hvr : s3.vr = B / D
  hvp : s3.vp / 10 = hiEnd C incl / D / 10
  hlt : hiEnd C incl / D < 2 ^ 64
  hfm1 : s3.vmIsTrailingZeros = true → (incl = true ∧ D ∣ A)
  hfm2 : incl = true → D ∣ A → s3.vmIsTrailingZeros = false → ¬ 10 ∣ A / D
  hfr : s3.vrIsTrailingZeros = true → (D ∣ B ∨ (D ∣ 2 * B ∧ 5 ∣ 2 * B / D))

theorem Sem.vp20 {A B C D : Nat} {incl : Bool} {s3 : Step3} (h : Sem A B C D incl s3) : s3.vp < 10 ^ 20 := by
  have h1 := h.hvp
  have h2 := h.hlt
  have h3 : hiEnd C incl / D / 10 ≤ hiEnd C incl / D := Nat.div_le_self _ _
  generalize hiEnd C incl / D = p at *
  omega

/-- what the loops establish when they stop after `k` removals with flags `fm` (`vmIsTrailingZeros`), `fr`
(`vrIsTrailingZeros`); `A`, `B`, `C` are the lower end, the value and the upper end in units `1/D`. K1: the exit — with one
more digit removed the upper end is not above the lower end; K2: nor is the lower end an included exact multiple of
`10^(k+1)` (K1, K2: no shorter decimal is admissible, `none_shorter`); K3: a digit was removed only while a multiple of
`10^k` was still admissible; K4: `fm` only if the lower end is included and exact at `10^k`, and if it is exact while `fm`
is false the value's quotient differs from the lower end's; K5: `fr` only if the value is exact or a half at the last
removed digit and the digits removed before it are 0; K6: nothing is removed only from an integer. K3–K6 are the premises
of `finish_correct`. -/
structure KF (A B C D : Nat) (incl : Bool) (k : Nat) (fm fr : Bool) : Prop where
  K1 : hiEnd C incl / (D * 10 ^ (k + 1)) ≤ A / (D * 10 ^ (k + 1))
  K2 : ¬ (incl = true ∧ D * 10 ^ (k + 1) ∣ A)
  K3 : 1 ≤ k → A / (D * 10 ^ k) < hiEnd C incl / (D * 10 ^ k) ∨ (incl = true ∧ D * 10 ^ k ∣ A)
  K4 : (fm = true → (incl = true ∧ D * 10 ^ k ∣ A)) ∧
    ((incl = true ∧ D * 10 ^ k ∣ A) → fm = false → B / (D * 10 ^ k) ≠ A / (D * 10 ^ k))
  K5 : fr = true → ((D ∣ B ∨ (D ∣ 2 * B ∧ 5 ∣ 2 * B / D)) ∧ (k = 0 ∨ 10 ^ (k - 1) ∣ B / D))
  K6 : k = 0 → D ∣ B

/-- the specification of step 4: `out · 10^k` is in the rounding interval, no decimal with fewer digits (a multiple of
`10^(k+1)`) is, and no admissible multiple of `10^k` is closer to the exact value -/
def Spec (A B C D : Nat) (incl : Bool) (out k : Nat) : Prop :=
  Adm A C D incl out k ∧ (∀ n, ¬ Adm A C D incl n (k + 1)) ∧
    ∀ n, Adm A C D incl n k → dist (out * (D * 10 ^ k)) B ≤ dist (n * (D * 10 ^ k)) B

theorem spec_of_KF {A B C D : Nat} {incl : Bool} {s3 : Step3} (h : Sem A B C D incl s3) {k : Nat} {fm fr : Bool}
    (kf : KF A B C D incl k fm fr) :
    Spec A B C D incl (finish (B / (D * 10 ^ k)) (A / (D * 10 ^ k)) incl fm fr (digitAt (B / D) k)) k := by
  obtain ⟨h1, h2⟩ := finish_correct A B C D k incl fm fr h.hD h.hAB h.hBC h.hgap h.hlt kf.K3 kf.K4 kf.K5 kf.K6
  exact ⟨h1, none_shorter A C D k incl h.hD kf.K1 kf.K2, h2⟩

theorem ex_split {A D : Nat} {incl : Bool} (j : Nat) :
    (incl = true ∧ D * 10 ^ j ∣ A) ↔ ((incl = true ∧ D ∣ A) ∧ 10 ^ j ∣ A / D) := by
  rw [mul_dvd_iff D (10 ^ j) A, and_assoc]

theorem wide_removes (A C D Cu : Nat) (hD : 0 < D) (hCu : C ≤ Cu + 1) (hw : A + 10 * D + 1 ≤ C) :
    ¬ (Cu / D / 10 ^ (0 + 1) ≤ A / D / 10 ^ (0 + 1)) := by
  rw [Nat.div_div_eq_div_mul, Nat.div_div_eq_div_mul]
  have hX : 0 < D * 10 ^ (0 + 1) := Nat.mul_pos hD (by decide)
  have : A / (D * 10 ^ (0 + 1)) + 1 ≤ Cu / (D * 10 ^ (0 + 1)) := by
    rw [← Nat.add_div_right A hX]; apply Nat.div_le_div_right
    show A + D * 10 ≤ Cu
    omega
  omega


/-- the loop facts in terms of the machine values `vm`, `vp`, `vr` give the facts about the exact quantities -/
theorem KF_of {A B C D : Nat} {incl : Bool} {s3 : Step3} (h : Sem A B C D incl s3) (k : Nat) (fm fr : Bool)
    (hk1 : cnt 10 20 s3.vp s3.vm ≤ k)
    (P2 : ¬ (s3.vmIsTrailingZeros = true ∧ 10 ^ (k + 1) ∣ s3.vm))
    (P3 : 1 ≤ k → s3.vm / 10 ^ k < s3.vp / 10 ^ k ∨ (s3.vmIsTrailingZeros = true ∧ 10 ^ k ∣ s3.vm))
    (P4 : fm = true ↔ (s3.vmIsTrailingZeros = true ∧ 10 ^ k ∣ s3.vm))
    (P5 : fr = true → (s3.vrIsTrailingZeros = true ∧ (k = 0 ∨ 10 ^ (k - 1) ∣ s3.vr)))
    (P6 : k = 0 → cnt 10 20 s3.vp s3.vm = 0) : KF A B C D incl k fm fr := by
  have hvp20 : s3.vp < 10 ^ 20 := h.vp20
  have hc := cnt_spec 10 20 s3.vp s3.vm hvp20
  have e : ∀ x j : Nat, x / D / 10 ^ j = x / (D * 10 ^ j) := fun x j => Nat.div_div_eq_div_mul _ _ _
  -- `vp` agrees with the exact floor from the second digit on
  have hvpj : ∀ j, s3.vp / 10 ^ (j + 1) = hiEnd C incl / (D * 10 ^ (j + 1)) := by
    intro j; rw [← div_div_pow, h.hvp, div_div_pow, e]
  -- an unreported exact lower bound has a non-zero last digit
  have hmiss : (incl = true ∧ D ∣ A) → s3.vmIsTrailingZeros = false → ∀ j, 10 ^ (j + 1) ∣ s3.vm → False := by
    intro hex hf j hd
    apply h.hfm2 hex.1 hex.2 hf
    rw [← h.hvm]
    exact Nat.dvd_trans (Nat.dvd_mul_left 10 (10 ^ j)) (by rwa [Nat.pow_succ] at hd)
  refine ⟨?_, ?_, ?_, ?_, ?_, ?_⟩
  · have := div_pow_le_of_le s3.vp s3.vm (Nat.succ_le_succ hk1) hc.2
    rwa [hvpj, h.hvm, e] at this
  · rw [ex_split, ← h.hvm]
    rintro ⟨hex, hd⟩
    cases hf : s3.vmIsTrailingZeros with
    | true => exact P2 ⟨hf, hd⟩
    | false => exact hmiss hex hf k hd
  · intro hk
    obtain ⟨k', rfl⟩ : ∃ k', k = k' + 1 := ⟨k - 1, by omega⟩
    rcases P3 hk with h3 | ⟨h3, h4⟩
    · left; rwa [hvpj, h.hvm, e] at h3
    · right; rw [ex_split, ← h.hvm]; exact ⟨h.hfm1 h3, h4⟩
  · constructor
    · intro hfm
      obtain ⟨h3, h4⟩ := P4.mp hfm
      rw [ex_split, ← h.hvm]; exact ⟨h.hfm1 h3, h4⟩
    · rw [ex_split, ← h.hvm]
      rintro ⟨hex, hd⟩ hfm
      have hf : s3.vmIsTrailingZeros = false := by
        cases hf : s3.vmIsTrailingZeros with
        | false => rfl
        | true => rw [P4.mpr ⟨hf, hd⟩] at hfm; cases hfm
      have hk0 : k = 0 := by
        cases k with
        | zero => rfl
        | succ k' => exact (hmiss hex hf k' hd).elim
      subst hk0
      rw [Nat.pow_zero, Nat.mul_one]
      have : A / D + 1 ≤ B / D := by
        rw [← Nat.add_div_right A h.hD]; exact Nat.div_le_div_right h.hAB
      omega
  · intro hfr
    obtain ⟨h1, h2⟩ := P5 hfr
    rw [← h.hvr]
    exact ⟨h.hfr h1, h2⟩
  · intro hk
    have hk1' := P6 hk
    rcases h.hwide with hw | hw
    · exact hw
    · exfalso
      have := hc.2
      rw [hk1', ← div_div_pow, h.hvp, div_div_pow, h.hvm] at this
      exact wide_removes A C D _ h.hD (hiEnd_facts C incl).2.1 hw this

theorem pow_add_dvd_iff (a b v : Nat) : 10 ^ (a + b) ∣ v ↔ 10 ^ a ∣ v ∧ 10 ^ b ∣ v / 10 ^ a := by
  rw [Nat.pow_add]; exact mul_dvd_iff (10 ^ a) (10 ^ b) v

theorem general_KF {A B C D : Nat} {incl : Bool} {s3 : Step3} (h : Sem A B C D incl s3) :
    KF A B C D incl (kGeneral s3) (rmN (kGeneral s3) (gen0 s3)).vmIsTrailingZeros
      (rmN (kGeneral s3) (gen0 s3)).vrIsTrailingZeros := by
  have hvp20 : s3.vp < 10 ^ 20 := h.vp20
  have hc := cnt_spec 10 20 s3.vp s3.vm hvp20
  have hv1 := rmN_vmTZ (cnt 10 20 s3.vp s3.vm) (gen0 s3)
  have hvm1 := (rmN_vr (cnt 10 20 s3.vp s3.vm) (gen0 s3)).2.2.1
  have hP4 := rmN_vmTZ (kGeneral s3) (gen0 s3)
  have hP5 : (rmN (kGeneral s3) (gen0 s3)).vrIsTrailingZeros = true →
      (s3.vrIsTrailingZeros = true ∧ (kGeneral s3 = 0 ∨ 10 ^ (kGeneral s3 - 1) ∣ s3.vr)) := by
    intro hfr
    cases hk : kGeneral s3 with
    | zero => rw [hk] at hfr; exact ⟨hfr, Or.inl rfl⟩
    | succ k' =>
      rw [hk] at hfr
      obtain ⟨a, _, c⟩ := (rmN_vrTZ k' (gen0 s3)).mp hfr
      exact ⟨a, Or.inr c⟩
  change (rmN _ _).vmIsTrailingZeros = true ↔ s3.vmIsTrailingZeros = true ∧ 10 ^ _ ∣ s3.vm at hv1 hP4
  change (rmN _ _).vm = s3.vm / _ at hvm1
  by_cases hg : (rmN (cnt 10 20 s3.vp s3.vm) (gen0 s3)).vmIsTrailingZeros = true
  · -- the second loop runs
    have hk : kGeneral s3 = cnt 10 20 s3.vp s3.vm + factorCount 10 20 (s3.vm / 10 ^ cnt 10 20 s3.vp s3.vm) := by
      unfold kGeneral; rw [if_pos hg, hvm1]
    obtain ⟨hf0, hd1⟩ := hv1.mp hg
    have hvmpos : 0 < s3.vm := by
      rw [h.hvm]; exact Nat.div_pos h.hA h.hD
    have hq0 : s3.vm / 10 ^ cnt 10 20 s3.vp s3.vm ≠ 0 :=
      Nat.ne_of_gt (Nat.div_pos (Nat.le_of_dvd hvmpos hd1) (Nat.pow_pos (by decide)))
    have hq20 : s3.vm / 10 ^ cnt 10 20 s3.vp s3.vm < 10 ^ 20 := by
      apply Nat.lt_of_le_of_lt (Nat.div_le_self _ _)
      rw [h.hvm]
      apply Nat.lt_of_le_of_lt _ (Nat.lt_trans h.hlt (by decide))
      apply Nat.div_le_div_right
      have := (hiEnd_facts C incl).2.1
      have := h.hAB; have := h.hBC; have := h.hD
      omega
    obtain ⟨hd2, hnd2⟩ := factorCount_spec 10 (by decide) 20 _ hq0 hq20
    rw [hk] at hP4 hP5 ⊢
    generalize factorCount 10 20 (s3.vm / 10 ^ cnt 10 20 s3.vp s3.vm) = k2 at *
    refine KF_of h (cnt 10 20 s3.vp s3.vm + k2) _ _ (Nat.le_add_right _ _) ?_ ?_ hP4 hP5 (fun h0 => by omega)
    · rintro ⟨_, hdd⟩
      rw [Nat.add_assoc, pow_add_dvd_iff] at hdd
      exact hnd2 hdd.2
    · intro _
      right
      exact ⟨hf0, (pow_add_dvd_iff _ k2 _).mpr ⟨hd1, hd2⟩⟩
  · have hk : kGeneral s3 = cnt 10 20 s3.vp s3.vm := by
      unfold kGeneral; rw [if_neg hg, Nat.add_zero]
    rw [hk] at hP4 hP5 ⊢
    refine KF_of h (cnt 10 20 s3.vp s3.vm) _ _ (Nat.le_refl _) ?_ ?_ hP4 hP5 (fun h => h)
    · rintro ⟨hf0, hdd⟩
      apply hg
      exact hv1.mpr ⟨hf0, Nat.dvd_trans (Nat.pow_dvd_pow 10 (Nat.le_succ _)) hdd⟩
    · exact fun hk1 => Or.inl (hc.last hk1)


theorem common_KF {A B C D : Nat} {incl : Bool} {s3 : Step3} (h : Sem A B C D incl s3)
    (hm : s3.vmIsTrailingZeros = false) (_hr : s3.vrIsTrailingZeros = false) :
    KF A B C D incl (cnt 10 20 s3.vp s3.vm) false false := by
  have hvp20 : s3.vp < 10 ^ 20 := h.vp20
  have hc := cnt_spec 10 20 s3.vp s3.vm hvp20
  refine KF_of h _ _ _ (Nat.le_refl _) ?_ ?_ ?_ ?_ (fun h => h)
  · rw [hm]; rintro ⟨h0, _⟩; cases h0
  · exact fun hk1 => Or.inl (hc.last hk1)
  · rw [hm]; simp
  · intro h0; cases h0

/-- Step 4 is correct: if step 3 hands over the exact floors of the scaled interval ends and value together with sound
flags (`Sem`), then the decimal `(out, removed)` computed by step 4 — general or common case, as the code chooses —
lies in the rounding interval, has the fewest digits of all decimals in the interval, and is a closest one of that
length to the exact value. -/
theorem step4_correct {A B C D : Nat} {incl : Bool} {s3 : Step3} (h : Sem A B C D incl s3) :
    ∃ k : Nat, (step4 s3 incl).2 = (k : Int) ∧ Spec A B C D incl (step4 s3 incl).1 k := by
  unfold step4
  have e : ∀ x j : Nat, x / D / 10 ^ j = x / (D * 10 ^ j) := fun x j => Nat.div_div_eq_div_mul _ _ _
  by_cases hf : (s3.vmIsTrailingZeros || s3.vrIsTrailingZeros) = true
  · rw [if_pos hf, step4General_eq]
    refine ⟨kGeneral s3, ?_, ?_⟩
    · show (rmN (kGeneral s3) (gen0 s3)).removed = _
      rw [(rmN_vr _ _).2.2.2]; show (0 : Int) + _ = _; omega
    · show Spec A B C D incl (finish _ _ _ _ _ _) _
      have hs := spec_of_KF h (general_KF h)
      rw [(rmN_vr _ _).1, (rmN_vr _ _).2.2.1, rmN_last']
      show Spec A B C D incl (finish (s3.vr / _) (s3.vm / _) _ _ _ _) _
      rw [h.hvr, h.hvm, e, e]
      exact hs
  · have hf' : s3.vmIsTrailingZeros = false ∧ s3.vrIsTrailingZeros = false := by
      cases h1 : s3.vmIsTrailingZeros <;> cases h2 : s3.vrIsTrailingZeros <;> simp [h1, h2] at hf ⊢
    rw [if_neg hf]
    have hvp20 : s3.vp < 10 ^ 20 := h.vp20
    have hvr64 : s3.vr < 2 ^ 64 := by
      rw [h.hvr]
      apply Nat.lt_of_le_of_lt _ h.hlt
      apply Nat.div_le_div_right
      have := (hiEnd_facts C incl).2.1
      have := h.hBC; have := h.hD
      omega
    rw [step4Common_eq s3 incl hvp20 hvr64]
    refine ⟨cnt 10 20 s3.vp s3.vm, rfl, ?_⟩
    have hs := spec_of_KF h (common_KF h hf'.1 hf'.2)
    show Spec A B C D incl (finish (s3.vr / _) (s3.vm / _) _ _ _ _) _
    generalize cnt 10 20 s3.vp s3.vm = k at hs ⊢
    rw [h.hvr, h.hvm, e, e]
    exact hs

end QF.Props.C16Core
