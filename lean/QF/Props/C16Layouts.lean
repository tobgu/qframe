import QF.Core.AppendF
import QF.Core.Ryu64
/-!
# C16 — float text: the formatter's two fractional layouts (`dE < 0`), and the mirror of `dec64.appendF`

Go source: `/repo/internal/ryu/ryu64.go`, `dec64.appendF`, branches `// 0.XYZ` and `// Y.XZ`.
Same buffer model as `AF.layoutInt`: a Go slice is visible `content` plus arbitrary stale `spare`
capacity; `sizeSlice` may expose stale bytes, which the digit loops must overwrite completely.

* `layoutMixed_spec` (`// Y.XZ`, `ePos < outLen`): old content ++ leading digits ++ "." ++ last `ePos` digits
* `layoutFrac_spec`  (`// 0.XYZ`, `ePos ≥ outLen`): old content ++ "0." ++ zeros ++ all digits
both for every buffer state. At the end of the file: the mirror of `dec64.appendF` as a whole (`C16Link.appendFMag`,
`C16Link.appendF`: the sign, `decimalLen64`, the integer layout `AF.layoutInt` or one of these two); its properties are in C16Link.
-/
namespace QF.Props.C16
open AF

/-! ## Go primitives -/

/-- `append(b, bs...)`: reuses the spare capacity when `cap(b)-len(b) ≥ len(bs)` (overwriting the stale
    bytes there), else a fresh array whose spare capacity is unspecified (`extra`). -/
def appendBytes (b : Buf) (bs extra : List Byte) : Buf :=
  if b.spare.length ≥ bs.length then ⟨b.content ++ bs, b.spare.drop bs.length⟩
  else ⟨b.content ++ bs, extra⟩

theorem appendBytes_content (b : Buf) (bs extra : List Byte) :
    (appendBytes b bs extra).content = b.content ++ bs := by
  unfold appendBytes; split <;> rfl

theorem sizeSlice_len (b : Buf) (n : Nat) (x : List Byte) : (sizeSlice b n x).content.length = b.content.length + n := by
  obtain ⟨junk, hj, hc⟩ := sizeSlice_content b n x
  rw [hc, List.length_append, hj]

/-- The Go digit loop with its loop-carried `out`:
    `for i := pos+k-1; i >= pos; i-- { b[i] = '0' + byte(out%10); out /= 10 }`
    returns the buffer AND the remaining `out` (needed by `// Y.XZ`, whose second loop continues
    with what the first loop left in `out`). -/
def digitLoop (l : List Byte) (pos : Nat) : Nat → Nat → List Byte × Nat
  | 0, out => (l, out)
  | k + 1, out => digitLoop (l.set (pos + k) (digit out)) pos k (out / 10)

theorem digitLoop_eq (pos : Nat) : ∀ (k : Nat) (l : List Byte) (out : Nat),
    digitLoop l pos k out = (writeDigits l pos k out, out / 10 ^ k) := by
  intro k
  induction k with
  | zero => intro l out; simp [digitLoop, writeDigits]
  | succ k ih =>
    intro l out
    simp only [digitLoop, writeDigits, ih]
    rw [Nat.div_div_eq_div_mul, Nat.pow_succ']

/-! ## The two layouts, transcribed from Go -/

/-- `// 0.XYZ` (`ePos ≥ outLen`):
```go
b := append(b, "0."...)
n := len(b)
b = sizeSlice(b, ePos)
for i := n + ePos - 1; i >= n; i-- { b[i] = '0' + byte(out%10); out /= 10 }
```
Note the Go code has no separate zero-fill loop: the leading zeros are produced by the digit loop
itself once `out` has reached 0. `outLen` does not occur in this branch at all. -/
def layoutFrac (b : Buf) (m ePos : Nat) (extra0 extra : List Byte) : Buf :=
  let b0 := appendBytes b [48, 46] extra0
  let n := b0.content.length
  let b1 := sizeSlice b0 ePos extra
  ⟨(digitLoop b1.content n ePos m).1, b1.spare⟩

/-- `// Y.XZ` (`ePos < outLen`):
```go
b = sizeSlice(b, outLen+1) // + "."
n := len(b)
i := n - 1
end := i - outLen
for ; ePos > 0; i-- { b[i] = '0' + byte(out%10); out /= 10; ePos-- }   // positions (i-ePos, i]
b[i] = '.'                                                              // position i-ePos
i--
for ; i >= end; i-- { b[i] = '0' + byte(out%10); out /= 10 }            // positions [end, i-ePos)
```
The fractional digits are written first (right to left), then the point, then the integer digits. -/
def layoutMixed (b : Buf) (m outLen ePos : Nat) (extra : List Byte) : Buf :=
  let b1 := sizeSlice b (outLen + 1) extra
  let n := b1.content.length
  let i := n - 1
  let end_ := i - outLen
  let r1 := digitLoop b1.content (i + 1 - ePos) ePos m
  let i1 := i - ePos
  let c2 := r1.1.set i1 46
  let r2 := digitLoop c2 end_ (i1 - end_) r1.2
  ⟨r2.1, b1.spare⟩

/-- the `dE < 0` part of `appendF` after the sign -/
def appendFNeg (b : Buf) (m outLen ePos : Nat) (extra0 extra : List Byte) : Buf :=
  if ePos ≥ outLen then layoutFrac b m ePos extra0 extra else layoutMixed b m outLen ePos extra

theorem digitsN_length : ∀ (k m : Nat), (digitsN k m).length = k := by
  intro k
  induction k with
  | zero => intro m; rfl
  | succ k ih => intro m; simp [digitsN, ih]

theorem digitsN_zero : ∀ k : Nat, digitsN k 0 = zeros k := by
  intro k
  induction k with
  | zero => rfl
  | succ k ih =>
    simp only [digitsN, Nat.zero_div, ih, zeros, List.replicate_succ']
    rfl

/-- only the `k` low digits matter -/
theorem digitsN_mod : ∀ (k m : Nat), digitsN k (m % 10 ^ k) = digitsN k m := by
  intro k
  induction k with
  | zero => intro m; rfl
  | succ k ih =>
    intro m
    simp only [digitsN]
    have h1 : m % 10 ^ (k + 1) / 10 = m / 10 % 10 ^ k := by
      rw [Nat.pow_succ', Nat.mod_mul_right_div_self]
    have h2 : digit (m % 10 ^ (k + 1)) = digit m := by
      unfold digit
      rw [Nat.pow_succ', Nat.mod_mul_right_mod]
    rw [h1, h2, ih]

/-- a number with at most `outLen` digits, printed with `outLen + j` digits, gets `j` leading zeros -/
theorem digitsN_add_of_lt : ∀ (outLen j m : Nat), m < 10 ^ outLen →
    digitsN (outLen + j) m = zeros j ++ digitsN outLen m := by
  intro outLen
  induction outLen with
  | zero =>
    intro j m h
    have : m = 0 := by simp at h; omega
    subst this
    simp [digitsN, digitsN_zero]
  | succ n ih =>
    intro j m h
    have e : n + 1 + j = (n + j) + 1 := by omega
    rw [e]
    simp only [digitsN]
    have hm : m / 10 < 10 ^ n := by
      rw [Nat.pow_succ] at h
      exact Nat.div_lt_of_lt_mul (by omega)
    rw [ih j (m / 10) hm, List.append_assoc]

theorem set_overwrites (pos : Nat) (v : Byte) : Overwrites (·.set pos v) pos 1 [v] := by
  intro pre mid post hpos hk
  obtain ⟨x, rfl⟩ := List.length_eq_one_iff.mp hk
  subst hpos
  simp [List.append_assoc]

/-- hypothesis-free form of the `// 0.XYZ` layout: "0." then the `ePos` low digits of `m` -/
theorem layoutFrac_raw (b : Buf) (m ePos : Nat) (extra0 extra : List Byte) :
    (layoutFrac b m ePos extra0 extra).content = b.content ++ [48, 46] ++ digitsN ePos m := by
  unfold layoutFrac
  simp only [digitLoop_eq]
  rw [sizeSlice_overwrite extra (writeDigits_overwrites _ ePos m), appendBytes_content]

/-- C16 (formatter, `0.XYZ` layout): for every buffer state, the output is the old content,
    "0.", `k - outLen` zeros and the `outLen` digits of `m`. `m < 10 ^ outLen` says that `m` has
    (at most) `outLen` decimal digits (`outLen = decimalLen64(m)` in Go). -/
theorem layoutFrac_spec (b : Buf) (m outLen k : Nat) (extra0 extra : List Byte)
    (hm : m < 10 ^ outLen) (hk : outLen ≤ k) :
    (layoutFrac b m k extra0 extra).content
      = b.content ++ [48, 46] ++ zeros (k - outLen) ++ digitsN outLen m := by
  rw [layoutFrac_raw]
  have e : k = outLen + (k - outLen) := by omega
  conv => lhs; rw [e]
  rw [digitsN_add_of_lt outLen (k - outLen) m hm]
  simp [List.append_assoc]

/-- the indices of `// Y.XZ` for `n = len(b)` after `sizeSlice(b, outLen+1)`, `outLen = a + k` -/
theorem mixed_positions (N a k : Nat) :
    N + (a + 1 + k) - 1 + 1 - k = N + (a + 1) ∧ N + (a + 1 + k) - 1 - k = N + a ∧ N + (a + 1 + k) - 1 - (a + k) = N ∧
      N + (a + 1 + k) - 1 - k - (N + (a + 1 + k) - 1 - (a + k)) = a := by
  omega

/-- C16 (formatter, `Y.XZ` layout): for every buffer state, the output is the old content, the
    leading `outLen - k` digits, '.', and the last `k` digits. (Go takes this branch when
    `0 < k < outLen`; the layout is correct for all `k ≤ outLen`.) -/
theorem layoutMixed_spec (b : Buf) (m outLen k : Nat) (extra : List Byte) (hk : k ≤ outLen) :
    (layoutMixed b m outLen k extra).content
      = b.content ++ digitsN (outLen - k) (m / 10 ^ k) ++ [46] ++ digitsN k (m % 10 ^ k) := by
  obtain ⟨a, rfl⟩ := Nat.exists_eq_add_of_le' hk
  -- right to left over the `a + 1 + k` exposed bytes: the fraction digits, the point, the integer digits (what the first loop left of `m`)
  have ow := ((writeDigits_overwrites b.content.length a (m / 10 ^ k)).before (set_overwrites _ 46)).before
    (writeDigits_overwrites _ k m)
  have hl : (sizeSlice b (a + k + 1) extra).content.length = b.content.length + (a + 1 + k) := by
    rw [sizeSlice_len]; omega
  obtain ⟨q1, q2, q3, q4⟩ := mixed_positions b.content.length a k
  unfold layoutMixed
  simp only [digitLoop_eq]
  rw [hl, q4, q1, q2, q3, digitsN_mod, Nat.add_sub_cancel, List.append_assoc, List.append_assoc, ← List.append_assoc _ [46],
    ← sizeSlice_overwrite extra ow, show a + k + 1 = a + 1 + k by omega]

/-- the whole `dE < 0` part of `appendF`, for a mantissa with `outLen` digits -/
theorem appendFNeg_spec (b : Buf) (m outLen k : Nat) (extra0 extra : List Byte) (hm : m < 10 ^ outLen) :
    (appendFNeg b m outLen k extra0 extra).content =
      if k ≥ outLen then b.content ++ [48, 46] ++ zeros (k - outLen) ++ digitsN outLen m
      else b.content ++ digitsN (outLen - k) (m / 10 ^ k) ++ [46] ++ digitsN k (m % 10 ^ k) := by
  unfold appendFNeg
  split
  · rename_i h; exact layoutFrac_spec b m outLen k extra0 extra hm h
  · rename_i h; exact layoutMixed_spec b m outLen k extra (by omega)

/-! ## Concrete instances: spare capacity full of '9' (57) bytes -/

/-- "ab" with 12 stale '9' bytes behind it -/
def nines : Buf := ⟨[97, 98], List.replicate 12 57⟩

-- (byte lists: [97,98,49,50,51,46,52,53] = "ab123.45", [97,98,48,46,48,48,49,50,51,52,53] = "ab0.0012345")
-- m = 12345, outLen = 5, e = -2  →  "ab123.45"; the 6 exposed '9' bytes are all overwritten
example : (layoutMixed nines 12345 5 2 []).content = [97, 98, 49, 50, 51, 46, 52, 53] := by decide
example : (layoutMixed nines 12345 5 2 []).spare = List.replicate 6 57 := by decide
-- m = 12345, outLen = 5, e = -7  →  "ab0.0012345"
example : (layoutFrac nines 12345 7 [] []).content = [97, 98, 48, 46, 48, 48, 49, 50, 51, 52, 53] := by decide
example : (appendFNeg nines 12345 5 2 [] []).content = [97, 98, 49, 50, 51, 46, 52, 53] := by decide
example : (appendFNeg nines 12345 5 7 [] []).content = [97, 98, 48, 46, 48, 48, 49, 50, 51, 52, 53] := by decide
-- too little spare capacity: the reallocating path gives the same content
example : (layoutMixed ⟨[97, 98], [57, 57]⟩ 12345 5 2 [1, 2, 3]).content = [97, 98, 49, 50, 51, 46, 52, 53] := by decide
example : (layoutFrac ⟨[97, 98], [57]⟩ 12345 7 [7, 7, 7] [1, 2, 3]).content = [97, 98, 48, 46, 48, 48, 49, 50, 51, 52, 53] := by
  decide

-- the hypotheses of the main theorems are satisfiable on these instances
example : (12345 : Nat) < 10 ^ 5 ∧ 5 ≤ 7 ∧ 2 ≤ 5 := by decide
example : (layoutMixed nines 12345 5 2 []).content
    = nines.content ++ digitsN (5 - 2) (12345 / 10 ^ 2) ++ [46] ++ digitsN 2 (12345 % 10 ^ 2) :=
  layoutMixed_spec nines 12345 5 2 [] (by decide)
example : (layoutFrac nines 12345 7 [] []).content
    = nines.content ++ [48, 46] ++ zeros (7 - 5) ++ digitsN 5 12345 :=
  layoutFrac_spec nines 12345 5 7 [] [] (by decide) (by decide)

-- the side conditions cannot be dropped: with m ≥ 10^outLen the `0.XYZ` loop prints more than outLen digits
example : (layoutFrac nines 123 3 [] []).content ≠ nines.content ++ [48, 46] ++ zeros (3 - 2) ++ digitsN 2 123 := by
  decide

#print axioms layoutMixed_spec
#print axioms layoutFrac_spec
#print axioms layoutFrac_raw
#print axioms appendFNeg_spec
end QF.Props.C16

/-! ## the mirror of `dec64.appendF` (its properties: C16Link) -/
namespace QF.Props.C16Link
open QF.Ryu64

/-- `dec64.appendF` after the sign: `outLen := decimalLen64(out)`, then the integer layout (`dE ≥ 0`, `AF.layoutInt`) or one of
the two fractional layouts (`C16.appendFNeg`: `0.XYZ`, `Y.XZ`), on a buffer with arbitrary stale spare capacity -/
def appendFMag (buf : AF.Buf) (m : Nat) (e : Int) (extra0 extra : List AF.Byte) : AF.Buf :=
  if e ≥ 0 then AF.layoutInt buf m (decimalLen64 m) e.toNat extra
  else C16.appendFNeg buf m (decimalLen64 m) (-e).toNat extra0 extra

/-- `func (d dec64) appendF(b []byte, neg bool) []byte`: `if neg { b = append(b, '-') }`, then the digits -/
def appendF (buf : AF.Buf) (neg : Bool) (m : Nat) (e : Int) (extraS extra0 extra : List AF.Byte) : AF.Buf :=
  appendFMag (if neg then C16.appendBytes buf [45] extraS else buf) m e extra0 extra

end QF.Props.C16Link
