import QF.Core.Frame
/-!
# C06 (continued) — apply0 / apply2 / WithRowNums / FilteredApply on an arbitrary physical index

Mirrors of `qframe.go` `apply0`, `apply1`, `apply2`, `WithRowNums`, `FilteredApply` and of
`internal/*column*/Apply1`, `Apply2`, written as the loops they are:

```go
result := make([]T, len(c.data))          // physical length, filled with the zero value
for _, i := range ix { result[i] = ... }   // written at the positions listed in the index
```

* `writeLoop`   — the loop with a pure right-hand side (`Apply1`, `Apply2`);
* `fillLoop`    — the loop whose right-hand side is a *stateful* zero-argument closure (`apply0` with
                  `func() T`): the closure is a state `σ` with `next : σ → Val × σ`, called once per
                  index entry, in index order;
* `applyFn2`, `applyFn0`, `applyIx1` — the result columns; `withRowNums`, `filteredApply1` — frames.

All theorems hold for every well-formed frame, whatever its physical index (`Fr.WF` contains
`ixLt` and `ixNodup`; `Nodup` is needed exactly for the stateful loop: "written at `index[k]`, read back
at `index[k]`").  An out-of-range `src.data[i]` / `result[i]` panics in Go; under `WF` it cannot happen,
and the mirrors (like `Fr.applyFn1`) give the fill value / leave the array alone there.
-/
namespace QF.Props.C06
open Fr

/-! ## The pure write loop -/

/-- `for _, i := range ix { res[i] = g i }` -/
def writeLoop (g : Nat → Val) : List Nat → List Val → List Val
  | [], res => res
  | i :: ix, res => writeLoop g ix (res.set i (g i))

theorem writeLoop_length (g : Nat → Val) (ix : List Nat) (res : List Val) :
    (writeLoop g ix res).length = res.length := by
  induction ix generalizing res with
  | nil => rfl
  | cons i ix ih => simp only [writeLoop, ih, List.length_set]

/-- closed form of the loop: positions listed in `ix` hold `g p`, the others are untouched
    (no `Nodup` needed: the right-hand side depends on the position only). -/
theorem writeLoop_getElem? (g : Nat → Val) (ix : List Nat) (res : List Val) (p : Nat) :
    (writeLoop g ix res)[p]? =
      if p ∈ ix then (if p < res.length then some (g p) else none) else res[p]? := by
  induction ix generalizing res with
  | nil => simp [writeLoop]
  | cons i ix ih =>
    rw [writeLoop, ih, List.length_set, List.getElem?_set]
    by_cases h1 : p ∈ ix
    · simp [h1]
    · by_cases h2 : i = p
      · simp [h1, h2]
      · simp [h1, h2, Ne.symm h2]

/-! ## 1. apply2 -/

/-- right-hand side of `result[i] = t(c.data[i], ss2.data[i])` -/
def cell2 (fn : Val → Val → Val) (zero : Val) (a b : List Val) (p : Nat) : Val :=
  match a[p]?, b[p]? with
  | some x, some y => fn x y
  | _, _ => zero

/-- `fn` on two cells that both exist -/
def opt2 (fn : Val → Val → Val) : Option Val → Option Val → Option Val
  | some x, some y => some (fn x y)
  | _, _ => none

/-- `Column.Apply2`: result allocated at physical length `L`, written at the index positions. -/
def applyFn2 (f : Frame) (L : Nat) (fn : Val → Val → Val) (rty : Ty) (src1 src2 : Col) : Col :=
  { ty := rty,
    data := writeLoop (cell2 fn rty.zero src1.data src2.data) f.index (List.replicate L rty.zero) }

theorem applyFn2_length (f : Frame) (L : Nat) (fn : Val → Val → Val) (rty : Ty) (src1 src2 : Col) :
    (applyFn2 f L fn rty src1 src2).data.length = L := by
  simp [applyFn2, writeLoop_length]

/-- every physical cell of the result -/
theorem applyFn2_cell (f : Frame) (L : Nat) (fn : Val → Val → Val) (rty : Ty) (src1 src2 : Col)
    (h1 : src1.data.length = L) (h2 : src2.data.length = L) (p : Nat) (hp : p < L) :
    (applyFn2 f L fn rty src1 src2).data[p]? =
      if p ∈ f.index then opt2 fn src1.data[p]? src2.data[p]? else some rty.zero := by
  simp only [applyFn2, writeLoop_getElem?, List.length_replicate, hp, ↓reduceIte]
  have a : p < src1.data.length := by omega
  have b : p < src2.data.length := by omega
  by_cases hm : p ∈ f.index
  · simp [hm, cell2, opt2, List.getElem?_eq_getElem a, List.getElem?_eq_getElem b]
  · simp [hm, hp]

/-- **apply2 is row-wise**: read back through the index, the result is `fn` applied row by row to
    the two sources. -/
theorem applyFn2_rowwise (f : Frame) (L : Nat) (wf : WF f L) (fn : Val → Val → Val) (rty : Ty)
    (src1 src2 : Col) (h1 : src1.data.length = L) (h2 : src2.data.length = L) :
    (f.index.map fun p => (applyFn2 f L fn rty src1 src2).data[p]?) =
      f.index.map fun p => opt2 fn src1.data[p]? src2.data[p]? := by
  apply List.map_congr_left
  intro p hp
  have hlt := wf.ixLt p hp
  rw [applyFn2_cell f L fn rty src1 src2 h1 h2 p hlt]
  simp [hp]

/-- the same, with the cells known to exist: row `k` of the result is `fn (src1 row k) (src2 row k)` -/
theorem applyFn2_rowwise_get (f : Frame) (L : Nat) (wf : WF f L) (fn : Val → Val → Val) (rty : Ty)
    (src1 src2 : Col) (h1 : src1.data.length = L) (h2 : src2.data.length = L)
    (p : Nat) (hp : p ∈ f.index) :
    ∃ x y, src1.data[p]? = some x ∧ src2.data[p]? = some y ∧
      (applyFn2 f L fn rty src1 src2).data[p]? = some (fn x y) := by
  have hlt := wf.ixLt p hp
  have a : p < src1.data.length := by omega
  have b : p < src2.data.length := by omega
  refine ⟨src1.data[p], src2.data[p], List.getElem?_eq_getElem a, List.getElem?_eq_getElem b, ?_⟩
  rw [applyFn2_cell f L fn rty src1 src2 h1 h2 p hlt]
  simp [hp, opt2, List.getElem?_eq_getElem a, List.getElem?_eq_getElem b]

theorem applyFn2_wf (f : Frame) (L : Nat) (wf : WF f L) (fn : Val → Val → Val) (rty : Ty)
    (src1 src2 : Col) (dst : String) (hn : checkName dst = true) :
    WF (setColumn f dst (applyFn2 f L fn rty src1 src2)) L :=
  Fr.setColumn_wf f L wf dst _ (applyFn2_length f L fn rty src1 src2) hn

/-! ## 2. apply0 with a stateful generator -/

section stateful
variable {σ : Type}

/-- `for _, i := range ix { res[i] = t() }` where the closure `t` has state `σ`:
    returns the array and the closure state after the loop. -/
def fillLoop (next : σ → Val × σ) : σ → List Nat → List Val → List Val × σ
  | s, [], res => (res, s)
  | s, i :: ix, res => fillLoop next (next s).2 ix (res.set i (next s).1)

/-- the first `n` values the closure produces from state `s` -/
def unfoldValues (next : σ → Val × σ) : σ → Nat → List Val
  | _, 0 => []
  | s, n + 1 => (next s).1 :: unfoldValues next (next s).2 n

/-- the closure state after `n` calls -/
def unfoldState (next : σ → Val × σ) : σ → Nat → σ
  | s, 0 => s
  | s, n + 1 => unfoldState next (next s).2 n

theorem unfoldValues_length (next : σ → Val × σ) (s : σ) (n : Nat) :
    (unfoldValues next s n).length = n := by
  induction n generalizing s with
  | zero => rfl
  | succ n ih => simp [unfoldValues, ih]

theorem fillLoop_length (next : σ → Val × σ) (s : σ) (ix : List Nat) (res : List Val) :
    (fillLoop next s ix res).1.length = res.length := by
  induction ix generalizing s res with
  | nil => rfl
  | cons i ix ih => simp only [fillLoop, ih, List.length_set]

/-- the closure is called exactly once per index entry -/
theorem fillLoop_state (next : σ → Val × σ) (s : σ) (ix : List Nat) (res : List Val) :
    (fillLoop next s ix res).2 = unfoldState next s ix.length := by
  induction ix generalizing s res with
  | nil => rfl
  | cons i ix ih => simp only [fillLoop, ih, List.length_cons, unfoldState]

/-- positions not listed in the index keep what the allocation put there -/
theorem fillLoop_not_mem (next : σ → Val × σ) (s : σ) (ix : List Nat) (res : List Val) (p : Nat)
    (hp : p ∉ ix) : (fillLoop next s ix res).1[p]? = res[p]? := by
  induction ix generalizing s res with
  | nil => rfl
  | cons i ix ih =>
    simp only [List.mem_cons, not_or] at hp
    simp only [fillLoop]
    rw [ih _ _ hp.2]
    exact List.getElem?_set_ne (fun e => hp.1 e.symm)

/-- the k-th produced value is written at `ix[k]` and stays there (needs `Nodup`) -/
theorem fillLoop_read (next : σ → Val × σ) (s : σ) (ix : List Nat) (res : List Val)
    (nd : ix.Nodup) (lt : ∀ p, p ∈ ix → p < res.length) :
    (ix.map fun p => (fillLoop next s ix res).1[p]?) = (unfoldValues next s ix.length).map some := by
  induction ix generalizing s res with
  | nil => rfl
  | cons i ix ih =>
    have ndc := List.nodup_cons.mp nd
    simp only [List.map_cons, fillLoop, List.length_cons, unfoldValues]
    congr 1
    · rw [fillLoop_not_mem next _ ix _ i ndc.1]
      have : i < res.length := lt i (List.mem_cons_self)
      simp [this]
    · apply ih
      · exact ndc.2
      · intro p hp
        rw [List.length_set]
        exact lt p (List.mem_cons_of_mem _ hp)

/-- `apply0` with `fn : func() T`: allocated at physical length `L`, the k-th value produced by the
    closure written at physical position `index[k]`. -/
def applyFn0 (f : Frame) (L : Nat) (next : σ → Val × σ) (s0 : σ) (rty : Ty) : Col :=
  { ty := rty, data := (fillLoop next s0 f.index (List.replicate L rty.zero)).1 }

theorem applyFn0_length (f : Frame) (L : Nat) (next : σ → Val × σ) (s0 : σ) (rty : Ty) :
    (applyFn0 f L next s0 rty).data.length = L := by
  simp [applyFn0, fillLoop_length]

/-- **apply0 is row-wise, in row order**: read back through the index, the new column is exactly the
    sequence of values the closure produced. -/
theorem applyFn0_rowwise (f : Frame) (L : Nat) (wf : WF f L) (next : σ → Val × σ) (s0 : σ) (rty : Ty) :
    (f.index.map fun p => (applyFn0 f L next s0 rty).data[p]?) =
      (unfoldValues next s0 f.index.length).map some := by
  simp only [applyFn0]
  apply fillLoop_read next s0 f.index _ wf.ixNodup
  intro p hp
  rw [List.length_replicate]
  exact wf.ixLt p hp

/-- cells outside the index hold the zero value of the result type -/
theorem applyFn0_outside (f : Frame) (L : Nat) (next : σ → Val × σ) (s0 : σ) (rty : Ty)
    (p : Nat) (hp : p ∉ f.index) (hl : p < L) :
    (applyFn0 f L next s0 rty).data[p]? = some rty.zero := by
  simp only [applyFn0]
  rw [fillLoop_not_mem next s0 f.index _ p hp]
  simp [hl]

theorem applyFn0_wf (f : Frame) (L : Nat) (wf : WF f L) (next : σ → Val × σ) (s0 : σ) (rty : Ty)
    (dst : String) (hn : checkName dst = true) :
    WF (setColumn f dst (applyFn0 f L next s0 rty)) L :=
  Fr.setColumn_wf f L wf dst _ (applyFn0_length f L next s0 rty) hn

end stateful

/-- `apply0` takes the physical length from the first column (`qf.columns[0].Len()`, 0 without columns) -/
def colLen (f : Frame) : Nat :=
  match f.cols with
  | [] => 0
  | c :: _ => c.col.data.length

theorem colLen_eq (f : Frame) (L : Nat) (wf : WF f L) (hne : f.cols ≠ []) : colLen f = L := by
  unfold colLen
  cases hc : f.cols with
  | nil => exact absurd hc hne
  | cons c cs => exact wf.len c (by rw [hc]; exact List.mem_cons_self)

/-- a frame without columns and without rows (`QFrame{}`, the only column-less frame the code builds)
    is well-formed at physical length 0 = `colLen` -/
theorem wf_zero_of_empty (f : Frame) (L : Nat) (wf : WF f L) (hc : f.cols = []) (hi : f.index = []) :
    WF f 0 ∧ colLen f = 0 := by
  refine ⟨⟨wf.pos, wf.mapOk, wf.mapTotal, ?_, ?_, wf.ixNodup⟩, ?_⟩
  · intro c h; rw [hc] at h; cases h
  · intro p h; rw [hi] at h; cases h
  · simp [colLen, hc]

/-! ## 3. WithRowNums -/

/-- `i := -1; func() int { i++; return i }` -/
def rowNumNext (i : Int) : Val × Int := (.int (i + 1), i + 1)

theorem unfoldValues_rowNum (s : Int) (n : Nat) :
    unfoldValues rowNumNext s n = (List.range n).map fun (k : Nat) => Val.int (s + 1 + (k : Int)) := by
  induction n generalizing s with
  | zero => rfl
  | succ n ih =>
    rw [List.range_succ_eq_map]
    simp only [unfoldValues, rowNumNext, ih, List.map_cons, List.map_map]
    congr 1
    · simp
    · apply List.map_congr_left
      intro k _
      simp only [Function.comp]
      congr 1
      omega

/-- `QFrame.WithRowNums`: `Apply` of one zero-argument instruction with the counting closure. -/
def withRowNums (f : Frame) (name : String) : Frame :=
  if f.err.isSome then f else
  setColumn f name (applyFn0 f (colLen f) rowNumNext (-1) .int)

/-- column level: read through the index the new column is `0, 1, …, n-1` -/
theorem withRowNums_col (f : Frame) (L : Nat) (wf : WF f L) :
    (f.index.map fun p => (applyFn0 f L rowNumNext (-1) .int).data[p]?) =
      (List.range f.index.length).map fun (k : Nat) => some (Val.int (k : Int)) := by
  rw [applyFn0_rowwise f L wf, unfoldValues_rowNum, List.map_map]
  apply List.map_congr_left
  intro k _
  simp only [Function.comp]
  congr 2
  omega

/-- **WithRowNums**: the frame gets (replaced in place, or appended last) an int column whose values
    in row order are `[0, 1, …, n-1]`; every other column, the index and `Err` are untouched; the
    result is well-formed. (`hL`: the frame has a column — `colLen_eq` — or is `QFrame{}` —
    `wf_zero_of_empty`.) -/
theorem withRowNums_spec (f : Frame) (L : Nat) (wf : WF f L) (hL : colLen f = L) (he : f.err = none)
    (name : String) (hn : checkName name = true) :
    (withRowNums f name).abs =
        absSet f.abs ((f.byName name).map (·.pos))
          (name, .int, (List.range f.index.length).map fun (k : Nat) => some (Val.int (k : Int))) ∧
      (withRowNums f name).index = f.index ∧ (withRowNums f name).err = f.err ∧
      WF (withRowNums f name) L := by
  simp only [withRowNums, he, Option.isSome_none, Bool.false_eq_true, ↓reduceIte, hL]
  obtain ⟨a, b, c⟩ := Fr.setColumn_abs f L wf name (applyFn0 f L rowNumNext (-1) .int) hn
  refine ⟨?_, b, by rw [c, he], applyFn0_wf f L wf rowNumNext (-1) .int name hn⟩
  rw [a, withRowNums_col f L wf]
  rfl

theorem withRowNums_err (f : Frame) (name : String) (he : f.err ≠ none) : withRowNums f name = f := by
  cases h : f.err with
  | none => exact absurd h he
  | some e => simp [withRowNums, h]

/-! ## 4. FilteredApply (one single-argument instruction) -/

/-- right-hand side of `result[i] = t(c.data[i])` -/
def cell1 (fn : Val → Val) (zero : Val) (a : List Val) (p : Nat) : Val :=
  match a[p]? with
  | some v => fn v
  | none => zero

/-- `Column.Apply1(fn, ix)` for an arbitrary index `ix`; `zero` is the fill value of the freshly
    allocated array. -/
def applyIx1 (ix : List Nat) (L : Nat) (fn : Val → Val) (zero : Val) (rty : Ty) (src : Col) : Col :=
  { ty := rty, data := writeLoop (cell1 fn zero src.data) ix (List.replicate L zero) }

theorem applyIx1_length (ix : List Nat) (L : Nat) (fn : Val → Val) (zero : Val) (rty : Ty) (src : Col) :
    (applyIx1 ix L fn zero rty src).data.length = L := by
  simp [applyIx1, writeLoop_length]

theorem applyIx1_cell (ix : List Nat) (L : Nat) (fn : Val → Val) (zero : Val) (rty : Ty) (src : Col)
    (hs : src.data.length = L) (p : Nat) (hp : p < L) :
    (applyIx1 ix L fn zero rty src).data[p]? =
      if p ∈ ix then (src.data[p]?).map fn else some zero := by
  simp only [applyIx1, writeLoop_getElem?, List.length_replicate, hp, ↓reduceIte]
  have a : p < src.data.length := by omega
  by_cases hm : p ∈ ix
  · simp [hm, cell1, List.getElem?_eq_getElem a]
  · simp [hm, hp]

/-- the loop mirror run with the frame's own index is the closed-form mirror `Fr.applyFn1` -/
theorem applyIx1_eq_applyFn1 (f : Frame) (L : Nat) (fn : Val → Val) (rty : Ty) (src : Col) :
    applyIx1 f.index L fn rty.zero rty src = applyFn1 f L fn rty src := by
  simp only [applyIx1, applyFn1, Col.mk.injEq, true_and]
  apply List.ext_getElem?
  intro p
  rw [writeLoop_getElem?, List.getElem?_map, List.length_replicate]
  by_cases hp : p < L
  · rw [List.getElem?_range hp]
    by_cases hm : p ∈ f.index
    · simp only [hm, hp, ↓reduceIte, Option.map_some, cell1]
      rfl
    · simp [hm, hp]
  · rw [List.getElem?_eq_none (by simp; omega : (List.range L).length ≤ p)]
    simp [hp]

/-- `FilteredApply(clause, Instruction{Fn, DstCol: dst, SrcCol1: src})`:
    `newQf := qf; newQf.index = ix'; newQf = newQf.apply1(...); newQf.index = qf.index`. -/
def filteredApply1 (f : Frame) (ix' : List Nat) (L : Nat) (fn : Val → Val) (zero : Val) (rty : Ty)
    (src : Col) (dst : String) : Frame :=
  let g : Frame := { f with index := ix' }
  let r : Frame := if g.err.isSome then g else setColumn g dst (applyIx1 g.index L fn zero rty src)
  { r with index := f.index }

/-- **FilteredApply is row-wise on the selected rows and zero elsewhere**: reading the result column
    through the ORIGINAL index, rows that are in the sub-index hold `fn (src cell)`, the others hold
    the zero value of the allocation. -/
theorem filteredApply1_rowwise (f : Frame) (L : Nat) (wf : WF f L) (ix' : List Nat)
    (_hsub : ix'.Sublist f.index) (fn : Val → Val) (zero : Val) (rty : Ty) (src : Col)
    (hs : src.data.length = L) :
    (f.index.map fun p => (applyIx1 ix' L fn zero rty src).data[p]?) =
      f.index.map fun p => if p ∈ ix' then (src.data[p]?).map fn else some zero := by
  apply List.map_congr_left
  intro p hp
  exact applyIx1_cell ix' L fn zero rty src hs p (wf.ixLt p hp)

/-- the filter form: `ix' = index.filter keep` -/
theorem filteredApply1_rowwise_filter (f : Frame) (L : Nat) (wf : WF f L) (keep : Nat → Bool)
    (fn : Val → Val) (zero : Val) (rty : Ty) (src : Col) (hs : src.data.length = L) :
    (f.index.map fun p => (applyIx1 (f.index.filter keep) L fn zero rty src).data[p]?) =
      f.index.map fun p => if keep p then (src.data[p]?).map fn else some zero := by
  rw [filteredApply1_rowwise f L wf _ List.filter_sublist fn zero rty src hs]
  apply List.map_congr_left
  intro p hp
  simp [List.mem_filter, hp]

/-- the index swap is invisible: `setColumn` carries the index along without looking at it, so the result is `setColumn` on
    the receiver itself, of the column computed over the sub-index -/
theorem filteredApply1_eq (f : Frame) (he : f.err = none) (ix' : List Nat) (L : Nat) (fn : Val → Val) (zero : Val) (rty : Ty)
    (src : Col) (dst : String) :
    filteredApply1 f ix' L fn zero rty src dst = setColumn f dst (applyIx1 ix' L fn zero rty src) := by
  have hg : ({ f with index := ix' } : Frame).err.isSome = false := by
    show f.err.isSome = false
    rw [he]; rfl
  simp only [filteredApply1, hg, Bool.false_eq_true, ↓reduceIte]
  unfold setColumn
  split
  · rfl
  · cases f.byName dst <;> rfl

/-- **FilteredApply, frame level**: the destination column is replaced in place / appended last with
    the row-wise-or-zero column; all other columns, the (original) index and `Err` are unchanged; the
    result is well-formed. -/
theorem filteredApply1_spec (f : Frame) (L : Nat) (wf : WF f L) (he : f.err = none) (ix' : List Nat)
    (hsub : ix'.Sublist f.index) (fn : Val → Val) (zero : Val) (rty : Ty) (src : Col)
    (hs : src.data.length = L) (dst : String) (hn : checkName dst = true) :
    (filteredApply1 f ix' L fn zero rty src dst).abs =
        absSet f.abs ((f.byName dst).map (·.pos))
          (dst, rty, f.index.map fun p => if p ∈ ix' then (src.data[p]?).map fn else some zero) ∧
      (filteredApply1 f ix' L fn zero rty src dst).index = f.index ∧
      (filteredApply1 f ix' L fn zero rty src dst).err = f.err ∧
      WF (filteredApply1 f ix' L fn zero rty src dst) L := by
  rw [filteredApply1_eq f he]
  obtain ⟨a, b, c⟩ := Fr.setColumn_abs f L wf dst (applyIx1 ix' L fn zero rty src) hn
  refine ⟨?_, b, c, Fr.setColumn_wf f L wf dst _ (applyIx1_length ix' L fn zero rty src) hn⟩
  rw [a, filteredApply1_rowwise f L wf ix' hsub fn zero rty src hs]
  rfl

/-! ## Concrete instances (hypotheses are satisfiable on a frame with a non-identity index) -/

namespace Demo

def colA : NCol := ⟨"a", 0, ⟨.int, [.int 10, .int 20, .int 30, .int 40]⟩⟩
def colB : NCol := ⟨"b", 1, ⟨.int, [.int 1, .int 2, .int 3, .int 4]⟩⟩

/-- two int columns, physical length 4, index `[3, 1, 0]` (a sorted / filtered view) -/
def fr : Frame :=
  { cols := [colA, colB],
    byName := fun n => if n = "a" then some colA else if n = "b" then some colB else none,
    index := [3, 1, 0] }

theorem fr_wf : WF fr 4 := by
  refine ⟨?_, ?_, ?_, ?_, ?_, by decide⟩
  · intro i c h
    match i with
    | 0 => simp [fr] at h; subst h; rfl
    | 1 => simp [fr] at h; subst h; rfl
    | i + 2 => simp [fr] at h
  · intro n c h
    simp only [fr] at h ⊢
    by_cases ha : n = "a"
    · simp [ha] at h; subst h; exact ⟨rfl, ha.symm⟩
    · by_cases hb : n = "b"
      · subst hb; simp at h; subst h; exact ⟨rfl, rfl⟩
      · simp [ha, hb] at h
  · intro c h
    simp [fr] at h
    rcases h with h | h <;> subst h <;> simp [fr, colA, colB]
  · intro c h
    simp [fr] at h
    rcases h with h | h <;> subst h <;> rfl
  · intro p h
    simp [fr] at h
    omega

def addV : Val → Val → Val
  | .int a, .int b => .int (a + b)
  | _, _ => .int 0

def negV : Val → Val
  | .int a => .int (-a)
  | v => v

theorem nameOk : checkName "r" = true := by simp [checkName]

example : (fr.index.map fun p => (applyFn2 fr 4 addV .int colA.col colB.col).data[p]?) =
    [some (.int 44), some (.int 22), some (.int 11)] := by decide
example : WF (setColumn fr "r" (applyFn2 fr 4 addV .int colA.col colB.col)) 4 :=
  applyFn2_wf fr 4 fr_wf addV .int colA.col colB.col "r" nameOk
example := applyFn2_rowwise fr 4 fr_wf addV .int colA.col colB.col rfl rfl

-- apply0 / WithRowNums: physical layout [2, 1, 0, 0] — row numbers follow the index, not the storage
example : (applyFn0 fr 4 rowNumNext (-1) .int).data = [.int 2, .int 1, .int 0, .int 0] := by decide
example : (fr.index.map fun p => (applyFn0 fr 4 rowNumNext (-1) .int).data[p]?) =
    [some (.int 0), some (.int 1), some (.int 2)] := by decide
example := withRowNums_spec fr 4 fr_wf rfl rfl "r" nameOk

-- FilteredApply with sub-index [3, 0] of [3, 1, 0]
example : (fr.index.map fun p => (applyIx1 [3, 0] 4 negV (.int 0) .int colA.col).data[p]?) =
    [some (.int (-40)), some (.int 0), some (.int (-10))] := by decide
example := filteredApply1_spec fr 4 fr_wf rfl [3, 0] (by decide) negV (.int 0) .int colA.col rfl "r" nameOk

end Demo

#print axioms applyFn2_rowwise
#print axioms applyFn2_wf
#print axioms applyFn0_rowwise
#print axioms applyFn0_wf
#print axioms fillLoop_state
#print axioms withRowNums_spec
#print axioms filteredApply1_rowwise
#print axioms filteredApply1_rowwise_filter
#print axioms filteredApply1_spec
#print axioms applyIx1_eq_applyFn1

end QF.Props.C06
