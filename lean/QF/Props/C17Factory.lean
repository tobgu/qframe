import QF.Props.C17Enum
import QF.Gen.Construct
/-!
# C17 / C12 — the enum factory of today's source builds exactly the table `mkEnum` specifies (tie T1, by semantics)

`QF.Gen.factoryInit`, `factoryMethods`, `factoryNew`, `factoryNewConst` (regenerated on every run by
go/cmd/extract/east.go) hold `NewFactory`, the methods of `*Factory` (calls of other methods inlined) and the two
constructors `ecolumn.New(data, values)` / `ecolumn.NewConst(val, count, values)` of /repo/internal/ecolumn/column.go as
terms of `QF.FI` / `QF.FT` / `QF.FL` (QF/Core/Factory.lean: the Go meaning of the terms over a state of value list,
strict flag, cells and look-up map). This file proves, for the terms generated TODAY:

* `gen_factory_no_opaque`   — everything was found and translated completely
* `gen_factory_canon`       — the terms are the canonical ones (finite `decide`, redone on every run)
* `gen_factory_init`        — `NewFactory(values, _)`: an error beyond 255 declared values, else the declaration as value
                              list, strict iff something is declared, no cells, a map that finds every declared value
* `gen_factory_step`        — the per-cell step: null → the null code 255; a string the map knows → its code; a new
                              string → error if strict, error if 255 values are there, else the next code, appended
* `gen_factory_semantics`   — folding the step over ANY list of cells from the initial state gives exactly
                              `mkEnum declared cells`: the same error cases, the same value list, the same strictness;
                              every code decodes to its cell (`CodeOk`: null ↔ 255, else a position < 255 of the value
                              list that holds the string), and for a duplicate-free declaration the codes are the ranks
                              (`enumRank`)
* `gen_factory_const_semantics` — the same for `NewConst(val, count, values)` against `mkEnum declared (val :: count × val)`
* `gen_factory_bytes_step`  — `AppendByteString` (the CSV reader's entry) is the same step as `AppendString`
* `gen_factory_is_ctor`     — … so today's `ecolumn.New` / `ecolumn.NewConst` satisfy, on string cells, the two enum equations
                              (`enumCells`, `enumConst`) of the assumption `Ctors.Spec` under which
                              `C08Construct.gen_new_semantics_partial` is stated (value table, strictness, observed cells)

Method: as in C08Guards / C02Dispatch. What one cell does to the factory and the code it gets (`codeStep`, shared by
`AppendString` and `enumVal`) is what one more cell does to `mkEnum` (`C17Enum.mkEnum_snoc_old`, `mkEnum_snoc_new`:
`codeStep_refines`), so the loop of `New` keeps the invariant "value list and strict flag are `mkEnum` of the cells done so far"
(`fold_refines`; a failure is final: `mkEnum_append_none`); `genNew_cases` is the result read from either side, and `NewConst`
is `codeStep_refines` for the first cell of an empty column.

OBSERVATION (outside the property's quantifier, which ranges over declared value SETS): a declaration with a duplicate,
e.g. `Enums{"e": {"a", "a", "b"}}`. The look-up map keeps the LAST position of a value (`valToEnum[v] = enumVal(i)`
overwrites), so cells get the code 1 for "a", while `enumRank` — and the filter's search of the value list for the
constant — answers the FIRST position 0. The cells still decode to the right string (`CodeOk` holds), but
`Filter{e = "a"}` on such a column selects nothing (observed on the real code). The rank statement therefore carries
`declared.Nodup` (`dup_declared_witness`).
-/
namespace QF.Props.C17Factory
open QF QF.Props.C17Enum

/-- the two lists have the same length and corresponding entries are related -/
inductive Forall2 {α β : Type} (R : α → β → Prop) : List α → List β → Prop
  | nil : Forall2 R [] []
  | cons {a : α} {b : β} {l₁ : List α} {l₂ : List β} : R a b → Forall2 R l₁ l₂ → Forall2 R (a :: l₁) (b :: l₂)

/-! ## Canonical terms -/

-- the equations of the interpreters are derived here once; without this line every `simp only [FT.run]` below derives them again
attribute [local simp] FT.run FL.run runInit

def canonInit : List FI := [.rejectIfLen .gt 255, .nilToEmpty, .mapFromValues 256, .build .gt 0]

/-- a string the map does not know -/
def canonFresh (k : FT) : FT :=
  .ifStrict .retErr (.ifCard .ge 255 .retErr (.letLen 256 (.appendValue (.mapPut .fresh k))))

def canonAppendNil : FT := .push (.lit 255) .retNil
def canonAppendEnum : FT := .push .param .retNil
def canonAppendString : FT := .ifSeen (.push .seen .retNil) (canonFresh (.push .fresh .retNil))
def canonEnumVal : FT := .ifNil (.retCode (.lit 255)) (.ifSeen (.retCode .seen) (canonFresh (.retCode .fresh)))

def canonNew : FL := .init (.forEachCell canonAppendNil canonAppendString .retColumn)
def canonNewConst : FL := .init (.codeOf canonEnumVal (.repeatPush canonAppendEnum .retColumn))

def canonMethods : List (String × FT) := [
  ("() → ()", canonAppendNil),
  ("(bytes) → (error)", canonAppendString),
  ("(code) → ()", canonAppendEnum),
  ("(ptr) → (code, error)", canonEnumVal),
  ("(str) → (code)", .letLen 256 (.appendValue (.mapPut .fresh (.retCode .fresh)))),
  ("(str) → (error)", canonAppendString),
  ("(str) → (error)", canonFresh (.push .fresh .retNil))]

/-! ## Today's terms are the canonical ones -/

theorem gen_factory_canon :
    Gen.factoryInit = canonInit ∧ Gen.factoryNew = canonNew ∧ Gen.factoryNewConst = canonNewConst ∧
    Gen.factoryMethods = canonMethods := by decide +kernel

theorem gen_factory_no_opaque :
    (∀ s ∈ Gen.factoryInit, s.hasOpaque = false) ∧ (∀ m ∈ Gen.factoryMethods, m.2.hasOpaque = false) ∧
    Gen.factoryNew.hasOpaque = false ∧ Gen.factoryNewConst.hasOpaque = false := by decide +kernel

/-- `ecolumn.New(cells, declared)` of today's source -/
def genNew (declared : List Bytes) (cells : List (Option Bytes)) : FOut :=
  Gen.factoryNew.run Gen.factoryInit { declared := declared, cells := cells } none none

/-- `ecolumn.NewConst(val, count, declared)` of today's source -/
def genNewConst (declared : List Bytes) (val : Option Bytes) (count : Nat) : FOut :=
  Gen.factoryNewConst.run Gen.factoryInit { declared := declared, val := val, count := count } none none

/-- `NewFactory(declared, _)` of today's source -/
def genInit (declared : List Bytes) : FOut := runInit declared Gen.factoryInit none

/-- the method of today's source `New` runs on a non-null cell / on a null cell -/
def genStepStr : FT := match Gen.factoryNew with | .init (.forEachCell _ s _) => s | _ => .opaque ""
def genStepNil : FT := match Gen.factoryNew with | .init (.forEachCell n _ _) => n | _ => .opaque ""

/-! ## The look-up map -/

/-- The map knows exactly the strings of the value list, and an entry is a position that holds its key. -/
structure MapOk (vals : List Bytes) (m : List (Bytes × Nat)) : Prop where
  sound : ∀ s c, m.lookup s = some c → vals[c]? = some s
  complete : ∀ s, s ∈ vals → ∃ c, m.lookup s = some c

theorem lt_of_getElem? {α} {l : List α} {i : Nat} {a : α} (h : l[i]? = some a) : i < l.length :=
  (List.getElem?_eq_some_iff.1 h).1

theorem getElem?_append_of_some {α} {l : List α} {i : Nat} {a : α} (h : l[i]? = some a) (e : List α) :
    (l ++ e)[i]? = some a := by
  rw [List.getElem?_append_left (lt_of_getElem? h), h]

theorem MapOk.extend {vals : List Bytes} {m : List (Bytes × Nat)} (h : MapOk vals m) (v : Bytes) :
    MapOk (vals ++ [v]) ((v, vals.length) :: m) := by
  constructor
  · intro s c hl
    rw [ListFacts.lookup_cons_ite] at hl
    split at hl
    · cases hl; simp [*]
    · exact getElem?_append_of_some (h.sound s c hl) _
  · intro s hs
    rw [ListFacts.lookup_cons_ite]
    by_cases hsv : s = v
    · exact ⟨_, if_pos hsv⟩
    · rw [if_neg hsv]
      exact h.complete s ((List.mem_append.1 hs).resolve_right (by simpa using hsv))

theorem MapOk.mem {vals : List Bytes} {m : List (Bytes × Nat)} (h : MapOk vals m) {s : Bytes} {c : Nat}
    (hl : m.lookup s = some c) : s ∈ vals :=
  List.mem_of_getElem? (h.sound s c hl)

theorem MapOk.none {vals : List Bytes} {m : List (Bytes × Nat)} (h : MapOk vals m) {s : Bytes}
    (hl : m.lookup s = none) : s ∉ vals := by
  intro hs
  obtain ⟨c, hc⟩ := h.complete s hs
  rw [hl] at hc; cases hc

theorem mapFrom_ok (P R : List Bytes) (m : List (Bytes × Nat)) (h : MapOk P m) (hlen : P.length + R.length ≤ 256) :
    MapOk (P ++ R) (mapFrom 256 R P.length m) := by
  induction R generalizing P m with
  | nil => simpa [mapFrom] using h
  | cons v vs ih =>
    have hl : P.length % 256 = P.length := Nat.mod_eq_of_lt (by simp at hlen; omega)
    have := ih (P ++ [v]) _ (h.extend v) (by simp at hlen ⊢; omega)
    simpa [mapFrom, hl] using this

/-! ## `NewFactory` -/

/-- what `NewFactory(declared, _)` returns when it does not fail -/
def initState (declared : List Bytes) : FState :=
  { values := declared, strict := decide (declared.length > 0), data := [], map := mapFrom 256 declared 0 [] }

theorem canon_init (declared : List Bytes) :
    runInit declared canonInit none = if declared.length > 255 then .err else .ok (initState declared) := by
  simp only [canonInit, runInit, FCmp.eval, initState]
  by_cases h : declared.length > 255 <;> simp [h]

theorem initState_ok (declared : List Bytes) (h : declared.length ≤ 255) : MapOk declared (initState declared).map := by
  simpa [initState] using mapFrom_ok [] declared [] ⟨fun s c hl => (nomatch hl), fun s hs => (nomatch hs)⟩ (by simp; omega)

/-- before any cell, the factory holds what `mkEnum` makes of no cells -/
theorem initState_spec (declared : List Bytes) (hl : declared.length ≤ 255) :
    mkEnum declared [] = some ((initState declared).values, (initState declared).strict) := by
  rw [mkEnum_eq, if_neg (by omega)]
  cases declared <;> rfl

theorem initState_strict (declared : List Bytes) : (initState declared).strict = !declared.isEmpty := by
  cases declared <;> simp [initState]

/-- **`NewFactory` of today's source**: more than 255 declared values are an error; otherwise the value list is the
declaration, the column is strict iff something is declared, there are no cells yet and the map finds exactly the
declared values, each at a position that holds it. -/
theorem gen_factory_init (declared : List Bytes) :
    (declared.length > 255 → genInit declared = .err) ∧
    (declared.length ≤ 255 → ∃ σ, genInit declared = .ok σ ∧ σ.values = declared ∧ σ.strict = !declared.isEmpty ∧
      σ.data = [] ∧ MapOk declared σ.map) := by
  unfold genInit
  rw [gen_factory_canon.1, canon_init]
  constructor
  · intro h; rw [if_pos h]
  · intro h
    rw [if_neg (by omega)]
    exact ⟨_, rfl, rfl, initState_strict declared, rfl, initState_ok declared h⟩

/-! ## The step -/

/-- the state after a string the map does not know has been registered -/
def _root_.QF.FState.register (σ : FState) (s : Bytes) : FState :=
  { σ with values := σ.values ++ [s], map := (s, σ.values.length % 256) :: σ.map }

def _root_.QF.FState.pushCode (σ : FState) (c : Nat) : FState := { σ with data := σ.data ++ [c] }

/-- What a cell does to the factory before its code is used, and the code; `none`: the error. A null cell has the null
code 255; a string the map knows has its entry; a string it does not know is an error if the column is strict or has 255
values, and is otherwise registered with the old length of the value list as its code. -/
def codeStep (σ : FState) : Option Bytes → Option (FState × Nat)
  | none => some (σ, 255)
  | some s =>
    match σ.map.lookup s with
    | some c => some (σ, c)
    | none =>
      if σ.strict then none
      else if σ.values.length ≥ 255 then none
      else some (σ.register s, σ.values.length % 256)

theorem canon_appendNil_run (E : FEnv) (σ : FState) : canonAppendNil.run E σ = .ok (σ.pushCode 255) := rfl

theorem canon_appendEnum_run (E : FEnv) (σ : FState) : canonAppendEnum.run E σ = .ok (σ.pushCode E.param) := rfl

/-- the part of `AppendString` and `enumVal` after the map has no entry; `k`: what is done with the new code -/
theorem canonFresh_run (k : FT) (s : Bytes) (σ : FState) (hl : σ.map.lookup s = none) :
    (canonFresh k).run { arg := some s } σ =
      match codeStep σ (some s) with
      | some (σ', c) => k.run { arg := some s, fresh := some c } σ'
      | none => .err := by
  simp only [canonFresh, FT.run, FCmp.eval, FCode.val, codeStep, hl, FState.register]
  cases σ.strict
  · by_cases h : σ.values.length ≥ 255 <;> simp [h]
  · rfl

theorem canon_appendString_run (σ : FState) (s : Bytes) :
    canonAppendString.run { arg := some s } σ =
      match codeStep σ (some s) with
      | some (σ', c) => .ok (σ'.pushCode c)
      | none => .err := by
  cases hl : σ.map.lookup s with
  | some c => simp only [canonAppendString, FT.run, codeStep, hl]; rfl
  | none =>
    simp only [canonAppendString, FT.run, hl, canonFresh_run _ s σ hl]
    cases codeStep σ (some s) <;> rfl

theorem canon_enumVal_run (σ : FState) (v : Option Bytes) :
    canonEnumVal.run { arg := v } σ =
      match codeStep σ v with
      | some (σ', c) => .code σ' c
      | none => .err := by
  cases v with
  | none => rfl
  | some s =>
    cases hl : σ.map.lookup s with
    | some c => simp only [canonEnumVal, FT.run, codeStep, hl]; rfl
    | none =>
      simp only [canonEnumVal, FT.run, hl, canonFresh_run _ s σ hl]
      cases codeStep σ (some s) <;> rfl

/-- **The per-cell step of today's source.** A null cell appends the null code 255. A string the look-up map knows
appends its entry. A string it does not know is an error if the column is strict, an error if the value list has
reached 255 entries, and otherwise it is appended to the value list, entered into the map with the old length of the list
as its code, and that code is appended to the cells. -/
theorem gen_factory_step (σ : FState) :
    genStepNil.run {} σ = .ok (σ.pushCode 255) ∧
    ∀ s, genStepStr.run { arg := some s } σ =
      match σ.map.lookup s with
      | some c => .ok (σ.pushCode c)
      | none =>
        if σ.strict then .err
        else if σ.values.length ≥ 255 then .err
        else .ok ((σ.register s).pushCode (σ.values.length % 256)) := by
  have e1 : genStepNil = canonAppendNil := by unfold genStepNil; rw [gen_factory_canon.2.1]; rfl
  have e2 : genStepStr = canonAppendString := by unfold genStepStr; rw [gen_factory_canon.2.1]; rfl
  rw [e1, e2]
  refine ⟨rfl, fun s => ?_⟩
  rw [canon_appendString_run]
  simp only [codeStep]
  cases σ.map.lookup s with
  | some c => rfl
  | none =>
    dsimp only
    cases σ.strict
    · by_cases h : σ.values.length ≥ 255 <;> simp [h]
    · rfl

/-- `AppendByteString` (the entry point of the CSV reader) and `AppendString` are the same step. -/
theorem gen_factory_bytes_step :
    Gen.factoryMethods.lookup "(bytes) → (error)" = some genStepStr := by decide

/-! ## The step and the loop against `mkEnum` of the cells done so far -/

def cellOf (c : Option Bytes) : Cell := .str c

/-- A code decodes to its cell: the null code 255 for a null cell, else a position below 255 of the value list that holds
the string (so no value is ever reported as a different string or as null). -/
def CodeOk (vals : List Bytes) (cell : Option Bytes) (code : Nat) : Prop :=
  match cell with
  | none => code = 255
  | some s => code < 255 ∧ vals[code]? = some s

theorem CodeOk.mono {vals : List Bytes} {cell : Option Bytes} {code : Nat} (h : CodeOk vals cell code) (e : List Bytes) :
    CodeOk (vals ++ e) cell code := by
  cases cell with
  | none => exact h
  | some s => exact ⟨h.1, getElem?_append_of_some h.2 e⟩

theorem forall₂_mono {vals : List Bytes} {cells : List (Option Bytes)} {codes : List Nat}
    (h : Forall2 (CodeOk vals) cells codes) (e : List Bytes) : Forall2 (CodeOk (vals ++ e)) cells codes := by
  induction h with
  | nil => exact .nil
  | cons h _ ih => exact .cons (h.mono e) ih

theorem Forall2.snoc {α β : Type} {R : α → β → Prop} {l₁ : List α} {l₂ : List β} {a : α} {b : β}
    (h : Forall2 R l₁ l₂) (hab : R a b) : Forall2 R (l₁ ++ [a]) (l₂ ++ [b]) := by
  induction h with
  | nil => exact .cons hab .nil
  | cons h _ ih => exact .cons h ih

/-- **One cell of today's factory does what one more cell does to `mkEnum`**, from any state whose value list and strict
flag are `mkEnum` of the cells `pre` done so far and whose map is right: it fails exactly when `mkEnum` of `pre ++ [c]` does,
and otherwise leaves the value list of `mkEnum` of `pre ++ [c]` (an extension of the old one), the strict flag and the cells
unchanged and a map that is right again, and yields a code that decodes to the cell. -/
theorem codeStep_refines {declared : List Bytes} {pre : List (Option Bytes)} {σ : FState}
    (h : mkEnum declared (pre.map cellOf) = some (σ.values, σ.strict)) (hm : MapOk σ.values σ.map) (c : Option Bytes) :
    (codeStep σ c = none ∧ mkEnum declared ((pre ++ [c]).map cellOf) = none) ∨
    ∃ V m code, codeStep σ c = some (⟨V, σ.strict, σ.data, m⟩, code) ∧
      mkEnum declared ((pre ++ [c]).map cellOf) = some (V, σ.strict) ∧ MapOk V m ∧ CodeOk V c code ∧ ∃ e, V = σ.values ++ e := by
  have hl := (mkEnum_eq_some_iff.1 h).1
  rw [List.map_append, List.map_singleton]
  cases c with
  | none => exact .inr ⟨_, _, _, rfl, mkEnum_snoc_old h (fun s e => by cases e), hm, rfl, [], by simp⟩
  | some s =>
    have hnew := mkEnum_snoc_new (s := s) h
    simp only [codeStep]
    cases hlk : σ.map.lookup s with
    | some code =>
      have := hm.sound s code hlk
      exact .inr ⟨_, _, _, rfl, mkEnum_snoc_old h (fun s' e => by cases e; exact hm.mem hlk), hm,
        ⟨by have := lt_of_getElem? this; omega, this⟩, [], by simp⟩
    | none =>
      have hnew := hnew (hm.none hlk)
      cases hst : σ.strict with
      | true => rw [hst] at hnew; exact .inl ⟨rfl, hnew⟩
      | false =>
        rw [hst, if_neg Bool.false_ne_true] at hnew
        by_cases hfull : σ.values.length ≥ 255
        · rw [if_pos hfull] at hnew ⊢; exact .inl ⟨rfl, hnew⟩
        · have hmod : σ.values.length % 256 = σ.values.length := Nat.mod_eq_of_lt (by omega)
          rw [if_neg hfull] at hnew ⊢
          exact .inr ⟨_, (s, σ.values.length) :: σ.map, σ.values.length, by simp [FState.register, hmod, hst], hnew, hm.extend s,
            ⟨by omega, by simp⟩, [s], rfl⟩

theorem foldCells_cons (σ : FState) (c : Option Bytes) (cs : List (Option Bytes)) :
    foldCells canonAppendNil canonAppendString σ (c :: cs) =
      match codeStep σ c with
      | some (σ', code) => foldCells canonAppendNil canonAppendString (σ'.pushCode code) cs
      | none => .err := by
  cases c with
  | none => rfl
  | some s =>
    show (match canonAppendString.run { arg := some s } σ with
      | .ok σ' => foldCells canonAppendNil canonAppendString σ' cs
      | .code _ _ => .stuck | .err => .err | .stuck => .stuck) = _
    rw [canon_appendString_run]
    cases codeStep σ (some s) <;> rfl

/-- **The loop of today's `New` keeps the factory equal to `mkEnum` of the cells done**: from any state whose value list and
strict flag are `mkEnum` of the cells `pre`, whose map is right and whose codes decode to `pre`, it fails exactly when `mkEnum`
of all the cells does, and otherwise ends with the value list and strict flag of `mkEnum` of all the cells and one code per
cell appended, each decoding to its cell. -/
theorem fold_refines (declared : List Bytes) (cells : List (Option Bytes)) :
    ∀ (σ : FState) (pre : List (Option Bytes)), mkEnum declared (pre.map cellOf) = some (σ.values, σ.strict) →
      MapOk σ.values σ.map → Forall2 (CodeOk σ.values) pre σ.data →
      (foldCells canonAppendNil canonAppendString σ cells = .err ∧ mkEnum declared ((pre ++ cells).map cellOf) = none) ∨
      ∃ σ', foldCells canonAppendNil canonAppendString σ cells = .ok σ' ∧
        mkEnum declared ((pre ++ cells).map cellOf) = some (σ'.values, σ'.strict) ∧
        Forall2 (CodeOk σ'.values) (pre ++ cells) σ'.data := by
  induction cells with
  | nil => intro σ pre h _ hd; rw [List.append_nil]; exact .inr ⟨σ, rfl, h, hd⟩
  | cons c cs ih =>
    intro σ pre h hm hd
    rw [foldCells_cons, List.append_cons]
    rcases codeStep_refines h hm c with ⟨h1, h2⟩ | ⟨V, m, code, h1, h2, hm1, hc, e, rfl⟩
    · rw [h1, List.map_append]; exact .inl ⟨rfl, mkEnum_append_none h2 _⟩
    · rw [h1]
      exact ih ⟨σ.values ++ e, σ.strict, σ.data ++ [code], m⟩ (pre ++ [c]) h2 hm1 ((forall₂_mono hd e).snoc hc)

/-! ## `New` -/

theorem canonNew_run (declared : List Bytes) (cells : List (Option Bytes)) :
    canonNew.run canonInit { declared := declared, cells := cells } none none =
      if declared.length > 255 then .err
      else match foldCells canonAppendNil canonAppendString (initState declared) cells with
        | .ok σ => .ok σ
        | .code _ _ => .stuck
        | .err => .err
        | .stuck => .stuck := by
  simp only [canonNew, FL.run, canon_init]
  by_cases h : declared.length > 255
  · simp [h]
  · simp only [h, if_false]
    cases foldCells canonAppendNil canonAppendString (initState declared) cells <;> rfl

/-- the codes are the ranks -/
def RankOk (vals : List Bytes) (cell : Option Bytes) (code : Nat) : Prop :=
  match cell with
  | none => code = 255
  | some s => enumRank vals s = some code

theorem CodeOk.rank {vals : List Bytes} (hnd : vals.Nodup) {cell : Option Bytes} {code : Nat} (h : CodeOk vals cell code) :
    RankOk vals cell code := by
  cases cell with
  | none => exact h
  | some s =>
    obtain ⟨hc, he⟩ := List.getElem?_eq_some_iff.1 h.2
    exact he ▸ enumRank_nodup hnd code hc

theorem rankOk_of_codeOk {vals : List Bytes} (hnd : vals.Nodup) {cells : List (Option Bytes)} {codes : List Nat}
    (h : Forall2 (CodeOk vals) cells codes) : Forall2 (RankOk vals) cells codes := by
  induction h with
  | nil => exact .nil
  | cons h _ ih => exact .cons (h.rank hnd) ih

/-- what today's `New` does, read from either side: it fails and `mkEnum` fails, or it returns the column of `mkEnum` -/
theorem genNew_cases (declared : List Bytes) (cells : List (Option Bytes)) :
    (genNew declared cells = .err ∧ mkEnum declared (cells.map cellOf) = none) ∨
    ∃ σ, genNew declared cells = .ok σ ∧ mkEnum declared (cells.map cellOf) = some (σ.values, σ.strict) ∧
      Forall2 (CodeOk σ.values) cells σ.data := by
  unfold genNew
  rw [gen_factory_canon.1, gen_factory_canon.2.1, canonNew_run]
  by_cases hlen : declared.length > 255
  · exact .inl ⟨if_pos hlen, (mkEnum_eq_none_iff _ _).2 (.inl hlen)⟩
  · have hl : declared.length ≤ 255 := by omega
    rw [if_neg hlen]
    rcases fold_refines declared cells (initState declared) [] (initState_spec declared hl) (initState_ok declared hl) .nil with
      ⟨h1, h2⟩ | ⟨σ, h1, h2, h3⟩
    · exact .inl ⟨by rw [h1], h2⟩
    · exact .inr ⟨σ, by rw [h1], h2, h3⟩

/-- **The enum factory of today's source builds exactly what `mkEnum` specifies.** For every declaration and ANY list of
cells (`none`: a nil pointer), `ecolumn.New(cells, declared)` as extracted from the source — `NewFactory`, then the step
folded over the cells — fails iff `mkEnum declared cells` is `none` (more than 255 declared values; an undeclared value
under a declaration; a 256th distinct value without one), and otherwise returns the column whose value list and strict
flag are `mkEnum`'s, with one code per cell that decodes to the cell (`CodeOk`: 255 ↔ null; otherwise a position below
255 of the value list holding the string). For a duplicate-free declaration (and always without a declaration) the codes
are the ranks: `enumRank vals s = some code`. -/
theorem gen_factory_semantics (declared : List Bytes) (cells : List (Option Bytes)) :
    (mkEnum declared (cells.map cellOf) = none → genNew declared cells = .err) ∧
    (∀ vals strict, mkEnum declared (cells.map cellOf) = some (vals, strict) →
      ∃ σ, genNew declared cells = .ok σ ∧ σ.values = vals ∧ σ.strict = strict ∧
        Forall2 (CodeOk vals) cells σ.data ∧ (declared.Nodup → Forall2 (RankOk vals) cells σ.data)) := by
  rcases genNew_cases declared cells with ⟨he, hn⟩ | ⟨σ, ho, hs, hc⟩
  · exact ⟨fun _ => he, fun _ _ h => by rw [hn] at h; cases h⟩
  · refine ⟨fun h => (by rw [hs] at h; cases h), fun vals strict h => ?_⟩
    rw [hs] at h; cases h
    exact ⟨σ, ho, rfl, rfl, hc, fun hnd => rankOk_of_codeOk (mkEnum_nodup hs hnd) hc⟩

/-- … read from the side of the code: the outcome of `New` determines `mkEnum`. -/
theorem gen_factory_reject_iff (declared : List Bytes) (cells : List (Option Bytes)) :
    (genNew declared cells = .err ↔ mkEnum declared (cells.map cellOf) = none) ∧
    (∀ σ, genNew declared cells = .ok σ → mkEnum declared (cells.map cellOf) = some (σ.values, σ.strict)) ∧
    genNew declared cells ≠ .stuck := by
  rcases genNew_cases declared cells with ⟨he, hn⟩ | ⟨σ, ho, hs, _⟩
  · rw [he, hn]
    exact ⟨⟨fun _ => rfl, fun _ => rfl⟩, fun σ h => (nomatch h), fun h => (nomatch h)⟩
  · rw [ho, hs]
    exact ⟨⟨fun h => (nomatch h), fun h => (nomatch h)⟩, fun σ' e => by cases e; rfl, fun h => (nomatch h)⟩

/-! ## `NewConst` -/

theorem repeat_push (c : Nat) (n : Nat) (σ : FState) :
    repeatRun canonAppendEnum c n σ = .ok { σ with data := σ.data ++ List.replicate n c } := by
  induction n generalizing σ with
  | zero => simp [repeatRun]
  | succ n ih =>
    simp only [repeatRun, canon_appendEnum_run, ih, FState.pushCode]
    simp [List.replicate_succ]

theorem canonNewConst_run (declared : List Bytes) (val : Option Bytes) (count : Nat) :
    canonNewConst.run canonInit { declared := declared, val := val, count := count } none none =
      if declared.length > 255 then .err
      else match codeStep (initState declared) val with
        | some (σ, code) => .ok { σ with data := σ.data ++ List.replicate count code }
        | none => .err := by
  simp only [canonNewConst, FL.run, canon_init]
  by_cases h : declared.length > 255
  · simp [h]
  · simp only [h, if_false, canon_enumVal_run]
    cases codeStep (initState declared) val with
    | none => rfl
    | some p => simp only [repeat_push]

/-- repetitions of a cell change nothing: the table is a set, and acceptance is per cell -/
theorem mkEnum_cons_replicate (declared : List Bytes) (c : Cell) (n : Nat) :
    mkEnum declared (c :: List.replicate n c) = mkEnum declared [c] := by
  induction n with
  | zero => rfl
  | succ n ih =>
    rw [List.replicate_succ', ← List.cons_append]
    cases h : mkEnum declared [c] with
    | none => exact mkEnum_append_none (ih.trans h) _
    | some p => exact mkEnum_snoc_old (ih.trans h) fun s e => mkEnum_mem h s (by simp [e])

/-- **`NewConst` of today's source** against `mkEnum declared (val :: count × val)` (the constant registers its value even
when the column has no rows): the same error cases, value list and strictness; every cell gets the one code of the
value, which decodes to it. -/
theorem gen_factory_const_semantics (declared : List Bytes) (val : Option Bytes) (count : Nat) :
    (mkEnum declared (cellOf val :: List.replicate count (cellOf val)) = none → genNewConst declared val count = .err) ∧
    (∀ vals strict, mkEnum declared (cellOf val :: List.replicate count (cellOf val)) = some (vals, strict) →
      ∃ σ code, genNewConst declared val count = .ok σ ∧ σ.values = vals ∧ σ.strict = strict ∧
        σ.data = List.replicate count code ∧ CodeOk vals val code ∧ (declared.Nodup → RankOk vals val code)) := by
  unfold genNewConst
  rw [gen_factory_canon.1, gen_factory_canon.2.2.1, mkEnum_cons_replicate, canonNewConst_run]
  by_cases hlen : declared.length > 255
  · rw [if_pos hlen, (mkEnum_eq_none_iff _ _).2 (.inl hlen)]
    exact ⟨fun _ => rfl, fun _ _ h => nomatch h⟩
  · have hl : declared.length ≤ 255 := by omega
    rw [if_neg hlen]
    -- the constant is the first cell of an empty column
    rcases codeStep_refines (pre := []) (initState_spec declared hl) (initState_ok declared hl) val with
      ⟨h1, h2⟩ | ⟨V, m, code, h1, h2, _, hc, _⟩ <;> rw [List.nil_append, List.map_singleton] at h2 <;> rw [h1, h2]
    · exact ⟨fun _ => rfl, fun _ _ h => nomatch h⟩
    · refine ⟨fun h => (nomatch h), fun vals strict h => ?_⟩
      cases h
      exact ⟨_, code, rfl, rfl, rfl, List.nil_append _, hc, fun hnd => hc.rank (mkEnum_nodup h2 hnd)⟩

/-! ## The factory as the enum constructor `New` (qframe.go) is parametrised by -/

/-- what a code of a column with value list `vals` is observed as: null for 255, else the string at that position -/
def decode (vals : List Bytes) (code : Nat) : Cell := if code = 255 then .str none else .str vals[code]?

theorem CodeOk.decode_eq {vals : List Bytes} {cell : Option Bytes} {code : Nat} (h : CodeOk vals cell code) :
    decode vals code = cellOf cell := by
  cases cell with
  | none => rw [show code = 255 from h]; rfl
  | some s => rw [decode, if_neg (by have := h.1; omega), h.2]; rfl

theorem decode_codes {vals : List Bytes} {cells : List (Option Bytes)} {codes : List Nat}
    (h : Forall2 (CodeOk vals) cells codes) : codes.map (decode vals) = cells.map cellOf := by
  induction h with
  | nil => rfl
  | cons h _ ih => rw [List.map_cons, List.map_cons, ih, h.decode_eq]

/-- `ecolumn.New(cells, declared)` of today's source as (value table, strict flag, observed cells) -/
def factoryEnumCells (declared : List Bytes) (cells : List (Option Bytes)) : Option (List Bytes × Bool × Array Cell) :=
  match genNew declared cells with
  | .ok σ => some (σ.values, σ.strict, (σ.data.map (decode σ.values)).toArray)
  | _ => none

/-- `ecolumn.NewConst(val, count, declared)` of today's source, likewise -/
def factoryEnumConst (declared : List Bytes) (val : Option Bytes) (count : Nat) : Option (List Bytes × Bool × Array Cell) :=
  match genNewConst declared val count with
  | .ok σ => some (σ.values, σ.strict, (σ.data.map (decode σ.values)).toArray)
  | _ => none

/-- **Today's enum constructors satisfy the equations `enumCells`, `enumConst` of the assumption `Ctors.Spec` that
`C08Construct.gen_new_semantics_partial` makes** (on string cells, `cellOf`): value table and strictness are `mkEnum`'s, and the
cells are observed as they were given. -/
theorem gen_factory_is_ctor (declared : List Bytes) :
    (∀ cells : List (Option Bytes), factoryEnumCells declared cells =
      (mkEnum declared (cells.map cellOf)).map (fun p => (p.1, p.2, (cells.map cellOf).toArray))) ∧
    (∀ (val : Option Bytes) (count : Nat), factoryEnumConst declared val count =
      (mkEnum declared (cellOf val :: List.replicate count (cellOf val))).map
        (fun p => (p.1, p.2, (List.replicate count (cellOf val)).toArray))) := by
  constructor
  · intro cells
    unfold factoryEnumCells
    rcases genNew_cases declared cells with ⟨he, hn⟩ | ⟨σ, ho, hs, hc⟩
    · rw [he, hn]; rfl
    · rw [ho, hs]; simp only [Option.map_some, decode_codes hc]
  · intro val count
    obtain ⟨h1, h2⟩ := gen_factory_const_semantics declared val count
    unfold factoryEnumConst
    cases hm : mkEnum declared (cellOf val :: List.replicate count (cellOf val)) with
    | none => rw [h1 hm]; rfl
    | some p =>
      obtain ⟨vals, strict⟩ := p
      obtain ⟨σ, code, h, rfl, rfl, hd, hc, _⟩ := h2 _ _ hm
      rw [h]
      simp only [Option.map_some, hd, List.map_replicate, hc.decode_eq]

/-! ## Witnesses: the statement tells wrong factories apart -/

section Witnesses

/-- the step with the cardinality guard weakened to `>` -/
def appendStringGt : FT :=
  .ifSeen (.push .seen .retNil)
    (.ifStrict .retErr (.ifCard .gt 255 .retErr (.letLen 256 (.appendValue (.mapPut .fresh (.push .fresh .retNil))))))

private def bytesOf (i : Nat) : Bytes := [UInt8.ofNat (i / 16), UInt8.ofNat (i % 16)]
private def full : FState :=
  { values := (List.range 255).map bytesOf, strict := false, data := [],
    map := ((List.range 255).map fun i => (bytesOf i, i)).reverse }

set_option maxRecDepth 20000 in
/-- … accepts a 256th value and gives it the code 255 — the code of null: -/
example : (match appendStringGt.run { arg := some [255, 255] } full with | .ok σ => σ.data | _ => []) = [255] ∧
    (match canonAppendString.run { arg := some [255, 255] } full with | .err => true | _ => false) = true := by
  decide +kernel

/-- OBSERVATION (outside the property's quantifier): a declaration with a duplicate. The cell "a" gets the code 1 (the last position of "a"), the rank of "a" is 0. -/
theorem dup_declared_witness :
    (match genNew [[97], [97], [98]] [some [97]] with | .ok σ => σ.data | _ => []) = [1] ∧
    enumRank [[97], [97], [98]] [97] = some 0 := by
  rw [show genNew [[97], [97], [98]] [some [97]] =
      canonNew.run canonInit { declared := [[97], [97], [98]], cells := [some [97]] } none none from by
    unfold genNew; rw [gen_factory_canon.1, gen_factory_canon.2.1]]
  decide

end Witnesses

#print axioms gen_factory_canon
#print axioms gen_factory_no_opaque
#print axioms gen_factory_init
#print axioms gen_factory_step
#print axioms gen_factory_bytes_step
#print axioms gen_factory_semantics
#print axioms gen_factory_reject_iff
#print axioms gen_factory_const_semantics
#print axioms gen_factory_is_ctor
#print axioms dup_declared_witness

end QF.Props.C17Factory
