import QF.Props.C08EndToEnd
import QF.Core.ListFacts
/-!
# C08 — `New` of today's source rejects exactly the inputs C08's text says it rejects (tie T1, composition)

`C08EndToEnd.gen_new_end_to_end_partial` says: the regenerated `New` = `newS`. This file reads the equality in the other
direction — WHICH inputs are rejected — in the words of C08's text, not in terms of `newS`:

* `NewViolation cols order enums` — the rules: illegal name; `ColumnOrder` of the wrong length / naming an unknown column;
  unsupported data (unknown type); a constant with a negative count; columns of unequal length (compared with the first column
  of the order); an `Enums` entry for a column that is missing or does not hold strings; more than 255 enum values (declared,
  or distinct in the data when nothing is declared); a value in the data that is not in a declared list.
* `newS_err_iff`            — spec level, NO hypothesis: `newS cols order enums = .err ↔ NewViolation cols order enums`
                              (from `C08Construct.newS_ok_iff`, which says when `newS` returns which frame, and
                              `colS_none_iff` / `mkEnum_none_iff`: when a column, an enum cannot be made).
* `gen_new_rejects_prefix`  — the three rules of the guard prefix make the regenerated `New` return an error with NO
                              hypothesis (any constructors, ill-typed data, any sizes, orders with repetitions).
* `gen_new_rejects_partial` — every violation makes the regenerated `New` (regenerated constructors, enum factory,
                              `NewPointer`) return an error.
* `gen_new_iff_partial`     — together: the regenerated `New` has an outcome; it is an error exactly when a rule is violated
                              (exactly when `newS` is `.err`); otherwise it is `newS`'s frame, whose cells read back through
                              the regenerated typed views.
The two `_partial` theorems have the hypotheses of `gen_new_end_to_end_partial` and nothing else: columns that are well-typed
Go values with `count < 2^32`, pointer limits for the string columns WITHOUT enum declaration, an order without repetition
(necessary: `C08EndToEnd.nodup_necessary`). There is no separate well-typedness hypothesis on the frame or on the
declarations; `GoData` only says which `NewCol` values stand for Go values (`genCtors` has no cells for a string under the
kind `[]int`, which no Go value is).

The rules 4–9 speak of `orderedCols cols order`, the columns taken in the requested order; when the prefix has passed, for an
order without repetition over distinct names, these are exactly the columns of the map (`mem_orderedCols_iff`).
-/
namespace QF.Props.C08NewIff
open QF QF.Props.C08Guards QF.Props.C08Construct QF.Props.C08EndToEnd

theorem declaredEnum_eq (enums : List (Bytes × List Bytes)) (c : NewCol) :
    declaredEnum enums c = (isStrCol c && (enums.find? (·.1 == c.name)).isSome) := rfl

/-- **When an enum cannot be built**: more than 255 declared values; nothing declared and more than 255 distinct values in
the data; or a declared list and a value in the data that is not in it. -/
theorem mkEnum_none_iff (decl : List Bytes) (cells : List Cell) :
    mkEnum decl cells = none ↔
      decl.length > 255 ∨ (decl = [] ∧ C17Enum.MoreDistinctThan 255 cells) ∨
      (decl ≠ [] ∧ ∃ s, Cell.str (some s) ∈ cells ∧ s ∉ decl) :=
  C17Enum.mkEnum_eq_none_iff decl cells

/-! ## The rules of C08's text -/

/-- **The rules by which `New` rejects its input**, as C08's text lists them (`orderedCols`: the columns taken in the
requested order, sorted by name by default; `firstLen`: the length of the first of them):
an illegal column name; a `ColumnOrder` of the wrong length or naming a column that is not in the data; unsupported data
(unknown type); a constant with a negative count; columns of unequal length; an `Enums` entry for a column that is not there
or does not hold strings; an enum with more than 255 values (declared, or — nothing declared — distinct in the data); a
value in the data that is not in the declared list. -/
inductive NewViolation (cols : List NewCol) (order : List Bytes) (enums : List (Bytes × List Bytes)) : Prop
  | illegalName (c : NewCol) (hc : c ∈ cols) (h : legalName c.name = false)
  | orderLength (h : (specOrder cols order).length ≠ cols.length)
  | orderUnknown (n : Bytes) (hn : n ∈ specOrder cols order) (h : ∀ c ∈ cols, c.name ≠ n)
  | unsupported (c : NewCol) (hc : c ∈ orderedCols cols order) (h : c.kind = .unsupported)
  | negativeCount (c : NewCol) (hc : c ∈ orderedCols cols order) (h : c.count < 0)
  | unequalLength (c : NewCol) (hc : c ∈ orderedCols cols order) (h : c.count ≠ firstLen cols order)
  | enumUnknown (e : Bytes × List Bytes) (he : e ∈ enums)
      (h : ∀ c ∈ orderedCols cols order, c.name = e.1 → isStrCol c = false)
  | enumTooMany (c : NewCol) (hc : c ∈ orderedCols cols order) (hs : isStrCol c = true) (k : Bytes) (decl : List Bytes)
      (hf : enums.find? (·.1 == c.name) = some (k, decl))
      (h : decl.length > 255 ∨ (decl = [] ∧ C17Enum.MoreDistinctThan 255 (enumSrc c)))
  | enumUndeclared (c : NewCol) (hc : c ∈ orderedCols cols order) (hs : isStrCol c = true) (k : Bytes) (decl : List Bytes)
      (hf : enums.find? (·.1 == c.name) = some (k, decl)) (hne : decl ≠ [])
      (s : Bytes) (hv : Cell.str (some s) ∈ enumSrc c) (h : s ∉ decl)

theorem prefix_violation (cols : List NewCol) (order : List Bytes) (enums : List (Bytes × List Bytes))
    (h : newPrefixRejects cols order) : NewViolation cols order enums := by
  rcases h with h | h | h
  · obtain ⟨c, hc, hl⟩ := List.all_eq_false.1 h
    exact .illegalName c hc (by simpa using hl)
  · exact .orderLength h
  · obtain ⟨n, hn, hl⟩ := List.all_eq_false.1 h
    refine .orderUnknown n hn (fun c hc e => hl ?_)
    exact List.any_eq_true.2 ⟨c, hc, by simp [e]⟩

/-- **`newS` rejects exactly the inputs that violate a rule of C08's text** — ALL column maps, orders and declaration
lists, no hypothesis. -/
theorem newS_err_iff (cols : List NewCol) (order : List Bytes) (enums : List (Bytes × List Bytes)) :
    newS cols order enums = .err ↔ NewViolation cols order enums := by
  -- a column that cannot be made violates a rule
  have bad : ∀ c ∈ orderedCols cols order, colS enums c = none → NewViolation cols order enums := by
    intro c hc h
    rcases (colS_none_iff enums c).1 h with h | ⟨hs, k, decl, hf, hm⟩
    · exact .unsupported c hc h
    · rcases (mkEnum_none_iff decl _).1 hm with h | h | ⟨hne, s, hv, h⟩
      · exact .enumTooMany c hc hs k decl hf (.inl h)
      · exact .enumTooMany c hc hs k decl hf (.inr h)
      · exact .enumUndeclared c hc hs k decl hf hne s hv h
  constructor
  · intro h
    apply Classical.byContradiction
    intro hv
    have hp : ¬ newPrefixRejects cols order := fun hp => hv (prefix_violation cols order enums hp)
    have hl : ∀ c ∈ orderedCols cols order, 0 ≤ c.count ∧ c.count = firstLen cols order := fun c hc =>
      ⟨Int.not_lt.1 fun h => hv (.negativeCount c hc h), Classical.byContradiction fun h => hv (.unequalLength c hc h)⟩
    have hd : ∀ e ∈ enums, ∃ c ∈ orderedCols cols order, c.name = e.1 ∧ declaredEnum enums c = true := by
      intro e he
      apply Classical.byContradiction
      intro hno
      refine hv (.enumUnknown e he fun c hc hn => ?_)
      cases hs : isStrCol c
      · rfl
      · refine absurd ⟨c, hc, hn, ?_⟩ hno
        rw [declaredEnum_eq, hs, Bool.true_and, List.find?_isSome]
        exact ⟨e, he, by simp [hn]⟩
    cases hm : (orderedCols cols order).mapM (colS enums) with
    | none =>
      obtain ⟨c, hc, e⟩ := (ListFacts.mapM_eq_none_iff ..).1 hm
      exact hv (bad c hc e)
    | some l =>
      rw [(newS_ok_iff cols order enums ⟨l, _⟩).2 ⟨hp, hl, hm, rfl, hd⟩] at h
      cases h
  · intro hv
    cases hres : newS cols order enums with
    | err => rfl
    | ok f =>
      exfalso
      obtain ⟨hp, hl, hm, _, hd⟩ := (newS_ok_iff ..).1 hres
      have made : ∀ c ∈ orderedCols cols order, colS enums c ≠ none := fun c hc e => by
        rw [(ListFacts.mapM_eq_none_iff ..).2 ⟨c, hc, e⟩] at hm; cases hm
      cases hv with
      | illegalName c hc h => exact hp (.inl (List.all_eq_false.2 ⟨c, hc, by simp [h]⟩))
      | orderLength h => exact hp (.inr (.inl h))
      | orderUnknown n hn h =>
        refine hp (.inr (.inr (List.all_eq_false.2 ⟨n, hn, fun ha => ?_⟩)))
        obtain ⟨c, hc, he⟩ := List.any_eq_true.1 ha
        exact h c hc (eq_of_beq he)
      | unsupported c hc h => exact made c hc ((colS_none_iff enums c).2 (.inl h))
      | negativeCount c hc h => have := (hl c hc).1; omega
      | unequalLength c hc h => exact h (hl c hc).2
      | enumUnknown e he h =>
        obtain ⟨c, hc, hn, hde⟩ := hd e he
        rw [declaredEnum_eq, h c hc hn] at hde
        cases hde
      | enumTooMany c hc hs k decl hf h =>
        refine made c hc ((colS_none_iff enums c).2 (.inr ⟨hs, k, decl, hf, (mkEnum_none_iff decl _).2 ?_⟩))
        exact h.elim .inl (.inr ∘ .inl)
      | enumUndeclared c hc hs k decl hf hne s hv h =>
        exact made c hc ((colS_none_iff enums c).2
          (.inr ⟨hs, k, decl, hf, (mkEnum_none_iff decl _).2 (.inr (.inr ⟨hne, s, hv, h⟩))⟩))


/-! ## The regenerated `New` rejects exactly these inputs -/

/-- **The rules of the guard prefix, with no hypothesis at all**: an illegal name, a `ColumnOrder` of the wrong length or
naming a column that is not in the data make the regenerated `New` return an error — for ALL column maps (ill-typed `NewCol`s,
any sizes, orders with repetitions) and whatever the column constructors do. -/
theorem gen_new_rejects_prefix (K : Ctors) (plain : Bytes → Bool) (cols : List NewCol) (order : List Bytes)
    (enums : List (Bytes × List Bytes)) (h : newPrefixRejects cols order) :
    genNew K plain cols order enums = some .err ∧ newS cols order enums = .err := by
  have hg := (gen_new_guards_partial cols order enums).1.2 h
  refine ⟨?_, newS_prefix cols order enums h⟩
  unfold genNew
  rw [hg]

/-- **The regenerated `New` returns an error for every input that violates a rule of C08's text** (`NewViolation`: illegal
name, `ColumnOrder` of the wrong length / with an unknown column, unsupported data, negative count, unequal lengths, an
`Enums` entry for a missing or non-string column, more than 255 enum values, an undeclared value under a declared list).

FULL STATEMENT: for every column map, order and declaration list, `NewViolation cols order enums →
genNew genCtors plain cols order enums = some .err`.
PROVED (`_partial`) under the hypotheses of `C08EndToEnd.gen_new_end_to_end_partial`; EXCLUDED, exactly: a column order
naming a column twice; a column of 2^32 rows or more; a string column WITHOUT enum declaration beyond the limits of the
packed string pointer (a string of 2^28 bytes or more, 2^35 bytes or more in the column) — there a violation that is found
only after that column was built (unequal lengths, a later bad column, an unused declaration) is not covered. The three rules
of the prefix are covered without any hypothesis (`gen_new_rejects_prefix`). `GoData` (which `NewCol`s stand for Go values)
does not restrict the Go inputs beyond `count < 2^32`. -/
theorem gen_new_rejects_partial (plain : Bytes → Bool) (cols : List NewCol) (order : List Bytes)
    (enums : List (Bytes × List Bytes)) (ht : ∀ c ∈ cols, TypedFor enums c) (hnd : (specOrder cols order).Nodup)
    (hv : NewViolation cols order enums) :
    genNew genCtors plain cols order enums = some .err := by
  rw [(gen_new_end_to_end_partial plain cols order enums ht hnd).1, (newS_err_iff cols order enums).2 hv]

/-- **The regenerated `New` succeeds iff `newS` does, iff no rule of C08's text is violated.** For every column map of
well-typed Go values within the size limits (`TypedFor`: `count < 2^32`; the pointer limits for the string columns that are
not declared enums), every order without repetition and every declaration list:
1. `New` as regenerated (guards, `createColumn`, loop and tail, the regenerated constructors, enum factory and
   `NewPointer`) has an outcome and it is `newS cols order enums`;
2. it is an error EXACTLY when a rule of C08's text is violated (`NewViolation`) — equivalently exactly when `newS` is `.err`;
3. otherwise it is the frame of `newS`, and every cell of it reads back through the regenerated typed views over the
   ascending index: the cells that were passed in.

FULL STATEMENT: the same for every column map, order and declaration list. EXCLUDED (`_partial`), exactly as in
`gen_new_end_to_end_partial`: an order naming a column twice (necessary: `C08EndToEnd.nodup_necessary`), 2^32 rows or more,
string columns without enum declaration beyond the pointer limits. -/
theorem gen_new_iff_partial (plain : Bytes → Bool) (cols : List NewCol) (order : List Bytes)
    (enums : List (Bytes × List Bytes)) (ht : ∀ c ∈ cols, TypedFor enums c) (hnd : (specOrder cols order).Nodup) :
    genNew genCtors plain cols order enums = some (newS cols order enums) ∧
    (genNew genCtors plain cols order enums = some .err ↔ NewViolation cols order enums) ∧
    (newS cols order enums = .err ↔ NewViolation cols order enums) ∧
    (¬ NewViolation cols order enums →
      ∃ f, genNew genCtors plain cols order enums = some (.ok f) ∧ newS cols order enums = .ok f ∧
        ∀ col ∈ f.cols,
          C09ViewsGen.genLen (vcolOf col) (List.range f.n) = some f.n ∧
          C09ViewsGen.genSlice (vcolOf col) (List.range f.n) = some col.cells.toList ∧
          ∀ i, C09ViewsGen.genItemAt (vcolOf col) (List.range f.n) i = col.cells[i]?) := by
  obtain ⟨h1, h2⟩ := gen_new_end_to_end_partial plain cols order enums ht hnd
  have h3 := newS_err_iff cols order enums
  refine ⟨h1, ?_, h3, fun hv => ?_⟩
  · rw [h1, ← h3]
    exact ⟨fun h => Option.some.inj h, fun h => by rw [h]⟩
  · cases hn : newS cols order enums with
    | err => exact absurd (h3.1 hn) hv
    | ok f => exact ⟨f, by rw [h1, hn], rfl, h2 f hn⟩

/-! ## Reading the rules: the columns in the requested order are the columns of the map -/

/-- **The columns taken in the requested order are the columns of the map** — once the guard prefix has passed, for an
order without repetition over a map (pairwise different names): the rules of `NewViolation` that speak of `orderedCols` speak
of the columns of the map. -/
theorem mem_orderedCols_iff (cols : List NewCol) (order : List Bytes) (hp : ¬ newPrefixRejects cols order)
    (hnd : (specOrder cols order).Nodup) (hnames : (cols.map (·.name)).Nodup) (c : NewCol) :
    c ∈ orderedCols cols order ↔ c ∈ cols := by
  constructor
  · intro h
    obtain ⟨n, _, hn⟩ := List.mem_filterMap.1 h
    exact List.mem_of_find?_eq_some hn
  · intro hc
    have hlen : (specOrder cols order).length = (cols.map (·.name)).length := by
      rw [List.length_map]
      apply Classical.byContradiction; intro hh; exact hp (.inr (.inl hh))
    have hsub : ∀ n ∈ specOrder cols order, n ∈ cols.map (·.name) := by
      intro n hn
      have h3 : (specOrder cols order).all (fun n => cols.any (·.name == n)) = true := by
        cases hh : (specOrder cols order).all (fun n => cols.any (·.name == n))
        · exact absurd (.inr (.inr hh)) hp
        · rfl
      obtain ⟨d, hd, he⟩ := List.any_eq_true.1 (List.all_eq_true.1 h3 n hn)
      exact List.mem_map.2 ⟨d, hd, eq_of_beq he⟩
    have hmem : c.name ∈ specOrder cols order := by
      apply Classical.byContradiction
      intro hno
      have hin : c.name ∈ cols.map (·.name) := List.mem_map.2 ⟨c, hc, rfl⟩
      have hsub' : ∀ n ∈ specOrder cols order, n ∈ (cols.map (·.name)).erase c.name := by
        intro n hn
        have hne : n ≠ c.name := fun e => hno (by rw [← e]; exact hn)
        exact (List.mem_erase_of_ne hne).2 (hsub n hn)
      have h1 := hnd.length_le_of_subset hsub'
      rw [List.length_erase_of_mem hin] at h1
      have : 0 < (cols.map (·.name)).length := List.length_pos_of_mem hin
      omega
    exact List.mem_filterMap.2 ⟨c.name, hmem, ListFacts.find?_key_of_mem NewCol.name cols hnames c hc⟩

/-! ## Concrete inputs -/

section Examples

private def isErrR : Res → Bool
  | .err => true
  | .ok _ => false

theorem exCols_ordered : orderedCols exCols [] = [exCols[2], exCols[1], exCols[0], exCols[3]] := rfl

/-- the map of `C08EndToEnd.exCols` (`i: []int`, `f: ConstFloat`, `e, s: []*string`, two rows each) with `e` declared an
enum meets the hypotheses and violates no rule … -/
example : (∀ c ∈ exCols, TypedFor [([101], [[121], [120]])] c) ∧ (specOrder exCols []).Nodup ∧
    ¬ NewViolation exCols [] [([101], [[121], [120]])] :=
  ⟨fun c hc => (exCols_typed c hc).for _, by decide,
   fun hv => by
     have h := (newS_err_iff _ _ _).2 hv
     have h' : isErrR (newS exCols [] [([101], [[121], [120]])]) = false := by decide
     rw [h] at h'; cases h'⟩

/-- … a declaration for the int column `i` is a violation (`Enums` entry for a non-string column) … -/
example : (∀ c ∈ exCols, TypedFor [([105], [])] c) ∧ NewViolation exCols [] [([105], [])] :=
  ⟨fun c hc => (exCols_typed c hc).for _, .enumUnknown ([105], []) (by simp) (by decide)⟩

/-- … a declared list that lacks the value `"x"` of column `e` (`enumUndeclared`) … -/
example : NewViolation exCols [] [([101], [[121]])] :=
  .enumUndeclared exCols[2] (by rw [exCols_ordered]; simp) rfl [101] [[121]] rfl (by simp) [120]
    (by simp [enumSrc, exCols]) (by decide)

/-- … an order that names a column that is not there, and one that is too short … -/
example : NewViolation exCols [[105], [102], [101], [122]] [] ∧ NewViolation exCols [[105]] [] :=
  ⟨.orderUnknown [122] (by decide) (by decide), .orderLength (by decide)⟩

/-- … and columns of unequal length (`a: []int{1, 2}`, `b: []int{1}`), typed and within every limit: -/
def uneq : List NewCol :=
  [{ name := [97], kind := .cells .int, count := 2, cells := [.int 1, .int 2] },
   { name := [98], kind := .cells .int, count := 1, cells := [.int 1] }]

example : (∀ c ∈ uneq, TypedFor [] c) ∧ (specOrder uneq []).Nodup ∧ NewViolation uneq [] [] := by
  have ho : orderedCols uneq [] = [uneq[0], uneq[1]] := rfl
  refine ⟨?_, by decide, .unequalLength uneq[1] (by rw [ho]; simp) (by decide)⟩
  intro c hc
  simp only [uneq, List.mem_cons, List.not_mem_nil, or_false] at hc
  rcases hc with rfl | rfl
  · exact ⟨⟨⟨by decide, ⟨Or.inl rfl, rfl⟩⟩, by decide⟩, fun _ => trivial⟩
  · exact ⟨⟨⟨by decide, ⟨Or.inl rfl, rfl⟩⟩, by decide⟩, fun _ => trivial⟩

end Examples

end QF.Props.C08NewIff

#print axioms QF.Props.C08NewIff.mkEnum_none_iff
#print axioms QF.Props.C08NewIff.newS_err_iff
#print axioms QF.Props.C08NewIff.mem_orderedCols_iff
#print axioms QF.Props.C08NewIff.gen_new_rejects_prefix
#print axioms QF.Props.C08NewIff.gen_new_rejects_partial
#print axioms QF.Props.C08NewIff.gen_new_iff_partial
