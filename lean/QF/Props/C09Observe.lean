import QF.Props.C10Guards
import QF.Props.C03Compare
import QF.Props.C13Write
import QF.Props.C14ToJson
import QF.Gen.Observe
/-!
# C09 (C13, C14) — the per-cell observation functions of today's source say what the spec says (tie T1, by semantics)

`QF.Gen.equalsAst`, `QF.Gen.stringAtAst`, `QF.Gen.appendAst` (regenerated on every run by go/cmd/extract/oast.go) hold, for
each of the five column packages, `Column.Equals` as a term of `QF.EQ` (type assertion, loop, per-cell predicate `QF.OP`)
and `Column.StringAt` / `Column.AppendByteStringAt` as terms of `QF.RE`; `QF.Gen.observeHelpers` the helpers `stringAt` /
`bytesAt` of scolumn. `EQ.eval`, `OP.eval`, `RE.eval` (QF/Core/OExpr.lean) are their Go meaning. This file proves, for the
terms generated TODAY:

* `gen_observe_no_opaque`      — all seventeen functions were found and translated completely
* `gen_cell_equals_semantics`  — for every column type and ALL pairs of cells of the type (enums: over two possibly
                                 different value tables) the per-cell predicate of `Equals` is the spec's `cellEq`
                                 (NaN = NaN, null = null, −0.0 = +0.0, null ≠ "")
* `gen_equals_column`          — `Column.Equals` is: other column of the same type ∧ ∀ position, the predicate; that is
                                 `¬ C10Guards.colDiffers`, the behaviour `C10Guards.gen_equals_vs_spec` ASSUMED
* `gen_equals_eq_spec`         — so: the extracted prefix of `QFrame.Equals` (C10Guards) with the extracted column
                                 comparisons answers exactly `equalsS`, on ALL pairs of frames whose cells are of their
                                 column's type
* `gen_stringAt_semantics`     — `StringAt(i, "")` is `C13Write.cellString fmt` (`fmt` = `strconv.FormatFloat(·,'f',-1,64)`);
                                 `gen_stringAt_naRep`: with any `naRep`, a null cell gives `naRep` (what `String()` relies on)
* `gen_append_semantics`       — `AppendByteStringAt(buf, i)` returns `buf ++ C14ToJson.cellBytes fmt cell` for ANY `buf`
                                 (`fmt` = what `ryu.AppendFloat64f` appends; quoting = `C14.appendQuoted`, the mirror of
                                 `AppendQuotedString` that `C14Quote` is about)
* `gen_helpers_sem`            — `stringAt(i)` / `bytesAt(i)` return `("", true)` for a null cell, `(bytes, false)` otherwise
                                 (the reading of `OP.bytesEq`, `OP.xNull`, `RE.strAt` in OExpr.lean);
                                 `gen_enum_null_code`: `enumVal.isNull()` is `v == 255`

Method (as in C03Compare): `decide` shows that each generated term IS the canonical term of its type (`gen_*_canon`);
lemmas proved once and for all give the meaning of the canonical terms on every cell.

Trusted (the reading of the leaves in OExpr.lean): `strconv.Itoa/FormatInt/AppendInt(·, 10)` write the decimal text
`intStr`, `FormatBool/AppendBool` write `true` / `false`, Go's `==` on float64 is IEEE equality, `c.data[index[i]]` is the
logical cell `i` (the index indirection — the extractor checks that each column is read at ITS OWN row).
-/
namespace QF.Props.C09Observe
open QF
open QF.Props.C03Compare (pkgOf tys)
open QF.Props.C10Guards (genGuards2 equalsReq colDiffers gen_equals_semantics)

/-! ## Today's functions -/

/-- the per-cell predicate of `Equals` of the package of `ty`, on the cells `x` (receiver) and `y` (other) -/
def cellEqIn (asts : List (String × EQ)) (ty : CType) (xv yv : List Bytes) (x y : Cell) : Option Bool :=
  ((asts.lookup (pkgOf ty)).bind EQ.pred?).bind (fun p => p.eval ty xv yv x y)

/-- … for today's source -/
def genCellEq (ty : CType) (xv yv : List Bytes) (x y : Cell) : Option Bool := cellEqIn Gen.equalsAst ty xv yv x y

/-- `a.Equals(index, b, otherIndex)` on the column code of `a`'s package: `other.(Column)` succeeds iff `b` is of the same
type; the cells are the logical ones (`c.data[index[i]]`), `n` = `len(index)` -/
def colEqualsIn (asts : List (String × EQ)) (a b : LCol) (n : Nat) : Option Bool :=
  (asts.lookup (pkgOf a.ty)).bind (fun e =>
    e.eval a.ty (a.ty == b.ty) a.vals b.vals (fun i => a.cells[i]!) (fun i => b.cells[i]!) n)

def genColEquals (a b : LCol) (n : Nat) : Option Bool := colEqualsIn Gen.equalsAst a b n

def renderIn (asts : List (String × RE)) (F : Fmt) (ty : CType) (vals : List Bytes) (naRep buf : Bytes) (x : Cell) : Option RV :=
  (asts.lookup (pkgOf ty)).bind (fun e => e.eval F ty vals naRep buf x)

/-- `c.StringAt(i, naRep)` of today's source on the cell `x` at `i` -/
def genStringAt (F : Fmt) (ty : CType) (vals : List Bytes) (naRep buf : Bytes) (x : Cell) : Option RV :=
  renderIn Gen.stringAtAst F ty vals naRep buf x

/-- `c.AppendByteStringAt(buf, i)` of today's source on the cell `x` at `i` -/
def genAppend (F : Fmt) (ty : CType) (vals : List Bytes) (naRep buf : Bytes) (x : Cell) : Option RV :=
  renderIn Gen.appendAst F ty vals naRep buf x

/-! ## Canonical terms -/

/-- `if x != y { return false }` -/
def plainPred : OP := .ite (.not .xEqY) .ff .tt

def canonPred : CType → OP
  | .int => plainPred
  | .float => .ite (.not .xEqY) (.ite (.not (.and .xNaN .yNaN)) .ff .tt) .tt
  | .bool => plainPred
  | .string => .ite (.or .xNull .yNull) (.ite (.and .xNull .yNull) .tt .ff) (.ite (.not .bytesEq) .ff .tt)
  | .enum => .ite (.or .xNull .yNull) (.ite .xEqY .tt .ff) (.ite (.not .enumStrEq) .ff .tt)
  | .undef => .opaque ""

def canonEquals (ty : CType) : EQ := .assertType false (.loopAll (canonPred ty) (.ret true))

def nullLit : Bytes := [110, 117, 108, 108]

def canonStringAt : CType → RE
  | .int => .itoa
  | .float => .ite .isNaN .naRep .formatFloatF
  | .bool => .formatBool
  | .string => .ite (.not .isNull) .strAt .naRep
  | .enum => .ite .isNull .naRep .enumValue
  | .undef => .opaque ""

def canonAppend : CType → RE
  | .int => .appendInt
  | .float => .ite .isNaN (.appendLit nullLit) .ryuF
  | .bool => .appendBool
  | .string => .ite .isNull (.appendLit nullLit) (.quoted .rawBytes)
  | .enum => .ite .isNull (.appendLit nullLit) (.quoted .enumValue)
  | .undef => .opaque ""

/-- `p := c.pointers[i]; if p.IsNull() { return "", true }; return c.data[p.Offset() : p.Offset()+p.Len()], false` -/
def canonHelper : RE := .ite .isNull (.pair (.lit []) true) (.pair .rawBytes false)

/-! ## Today's terms are the canonical ones (finite checks over `QF.Gen`, redone on every run) -/

theorem gen_equals_canon : ∀ ty ∈ tys, Gen.equalsAst.lookup (pkgOf ty) = some (canonEquals ty) := by decide +kernel

theorem gen_stringAt_canon : ∀ ty ∈ tys, Gen.stringAtAst.lookup (pkgOf ty) = some (canonStringAt ty) := by decide +kernel

theorem gen_append_canon : ∀ ty ∈ tys, Gen.appendAst.lookup (pkgOf ty) = some (canonAppend ty) := by decide +kernel

theorem gen_helpers_canon : ∀ h ∈ ["scolumn.stringAt", "scolumn.bytesAt"], Gen.observeHelpers.lookup h = some canonHelper := by
  decide +kernel

/-- ecolumn's `enumVal.isNull()` is `v == 255` (`nullValue` resolved): the reading of `xNull` / `isNull` on enum columns
(`nullOf`: the code is `enumNull`). -/
theorem gen_enum_null_code : Gen.enumNullCode = some enumNull := by decide +kernel

/-- `Equals`, `StringAt`, `AppendByteStringAt` of each of the five packages and the two helpers of scolumn were found, and
none of them translates to (a term containing) `.opaque`. -/
theorem gen_observe_no_opaque :
    Gen.equalsAst.map (·.1) = tys.map pkgOf ∧ Gen.stringAtAst.map (·.1) = tys.map pkgOf ∧
    Gen.appendAst.map (·.1) = tys.map pkgOf ∧ Gen.observeHelpers.map (·.1) = ["scolumn.stringAt", "scolumn.bytesAt"] ∧
    (∀ p ∈ Gen.equalsAst, p.2.hasOpaque = false) ∧ (∀ p ∈ Gen.stringAtAst, p.2.hasOpaque = false) ∧
    (∀ p ∈ Gen.appendAst, p.2.hasOpaque = false) ∧ (∀ p ∈ Gen.observeHelpers, p.2.hasOpaque = false) := by
  decide +kernel

/-! ## The meaning of the canonical predicates, once and for all -/

theorem canonPred_int (xv yv : List Bytes) (a b : Int) :
    (canonPred .int).eval .int xv yv (.int a) (.int b) = some (cellEq (.int a) (.int b)) := by
  by_cases h : a = b <;>
  simp [canonPred, plainPred, OP.eval, rawEq, cellVal, cmpV, cmpInt, cellEq, h]

theorem canonPred_bool (xv yv : List Bytes) (a b : Bool) :
    (canonPred .bool).eval .bool xv yv (.bool a) (.bool b) = some (cellEq (.bool a) (.bool b)) := by
  cases a <;> cases b <;> rfl

theorem canonPred_float (xv yv : List Bytes) (a b : UInt64) :
    (canonPred .float).eval .float xv yv (.float a) (.float b) = some (cellEq (.float a) (.float b)) := by
  cases hx : F64.isNaN a <;> cases hy : F64.isNaN b <;> cases hk : (F64.key a == F64.key b) <;>
  simp [canonPred, OP.eval, rawEq, cellVal, cmpV, cmpFlt, nanOf, F64.eq, cellEq, hx, hy, hk]

theorem canonPred_string (xv yv : List Bytes) (s t : Option Bytes) :
    (canonPred .string).eval .string xv yv (.str s) (.str t) = some (cellEq (.str s) (.str t)) := by
  rcases s with _ | u <;> rcases t with _ | v
  · simp [canonPred, OP.eval, nullOf, cellEq]
  · simp [canonPred, OP.eval, nullOf, cellEq]
  · simp [canonPred, OP.eval, nullOf, cellEq]
  · by_cases h : u = v <;> simp [canonPred, OP.eval, nullOf, strOf, cellEq, h]

/-- What the column code sees of a non-null cell of an enum column: it is not null, `values[code]` is its string, and its
code is the rank of the string. -/
theorem enum_some {vals : List Bytes} {u : Bytes} (h : wtCell .enum vals (.str (some u)) = true) :
    nullOf .enum vals (.str (some u)) = some false ∧ enumStrOf .enum vals (.str (some u)) = some u ∧
    ∃ i, enumRank vals u = some i ∧ i < 255 ∧ cellVal .enum vals (.str (some u)) = some (.enum i) := by
  obtain ⟨i, hi, hil⟩ := enum_ok h
  have hin : (i == 255) = false := by simp; omega
  exact ⟨by simp [nullOf, cellVal, enumNull, hi, hil, hin], enumStrOf_some hi hil, i, hi, hil,
    by simp [cellVal, enumNull, hi, hil]⟩

/-- … and of a null cell: the null code -/
theorem enum_none (vals : List Bytes) :
    nullOf .enum vals (.str none) = some true ∧ cellVal .enum vals (.str none) = some (.enum 255) := ⟨rfl, rfl⟩

theorem canonPred_enum (xv yv : List Bytes) (s t : Option Bytes)
    (hx : wtCell .enum xv (.str s) = true) (hy : wtCell .enum yv (.str t) = true) :
    (canonPred .enum).eval .enum xv yv (.str s) (.str t) = some (cellEq (.str s) (.str t)) := by
  rcases s with _ | u <;> rcases t with _ | v
  · rfl
  · obtain ⟨_, _, j, _, hjl, hj⟩ := enum_some hy
    have hjn : ¬ (255 = j) := by omega
    simp [canonPred, OP.eval, enum_none, rawEq, hj, cmpV, cmpNat, cellEq, hjn]
  · obtain ⟨h1, _, i, _, hil, hi⟩ := enum_some hx
    have hin : ¬ (i = 255) := by omega
    simp [canonPred, OP.eval, enum_none, h1, rawEq, hi, cmpV, cmpNat, cellEq, hin]
  · obtain ⟨h1, e1, _⟩ := enum_some hx
    obtain ⟨h2, e2, _⟩ := enum_some hy
    by_cases h : u = v
    · subst h
      simp [canonPred, OP.eval, h1, h2, e1, e2, cellEq]
    · simp [canonPred, OP.eval, h1, h2, e1, e2, cellEq, h]

/-- a cell of one of the five column types, type by type -/
@[elab_as_elim]
theorem wtCell_elim {ty : CType} {vals : List Bytes} {x : Cell} (hx : wtCell ty vals x = true)
    {P : CType → Cell → Prop} (int : ∀ v, P .int (.int v)) (float : ∀ b, P .float (.float b))
    (bool : ∀ b, P .bool (.bool b)) (string : ∀ s, P .string (.str s))
    (enum : ∀ s, wtCell .enum vals (.str s) = true → P .enum (.str s)) : P ty x := by
  have sx := wtCell_shape hx
  cases ty
  case undef => exact sx.elim
  all_goals obtain ⟨a, rfl⟩ := sx
  · exact int a
  · exact float a
  · exact bool a
  · exact string a
  · exact enum a hx

/-- The canonical predicate of a type is `cellEq` on every pair of cells of the type (for enums: each cell a member of its
own column's value table). -/
theorem canonPred_sem {ty : CType} (xv yv : List Bytes) (x y : Cell)
    (hx : wtCell ty xv x = true) (hy : wtCell ty yv y = true) :
    (canonPred ty).eval ty xv yv x y = some (cellEq x y) := by
  revert hy
  refine wtCell_elim hx ?_ ?_ ?_ ?_ ?_
  · intro a hy
    obtain ⟨b, rfl⟩ := wtCell_shape hy
    exact canonPred_int ..
  · intro a hy
    obtain ⟨b, rfl⟩ := wtCell_shape hy
    exact canonPred_float ..
  · intro a hy
    obtain ⟨b, rfl⟩ := wtCell_shape hy
    exact canonPred_bool ..
  · intro a hy
    obtain ⟨b, rfl⟩ := wtCell_shape hy
    exact canonPred_string ..
  · intro a hx hy
    obtain ⟨b, rfl⟩ := wtCell_shape hy
    exact canonPred_enum xv yv a b hx hy

/-! ## `Equals`, cell by cell -/

/-- **The per-cell predicate of today's `Equals` is the spec's `cellEq`.** For every column type and ALL cells `x`, `y` of
the type — for enum columns: `x` a member (or null) of the receiver's value table `xv`, `y` of the other column's table
`yv`, which may be different tables — the loop body of `Column.Equals` goes on to the next position iff `cellEq x y`:
equal ints / bools; floats equal as IEEE values (−0.0 = +0.0) or both NaN; strings both null or both non-null with the same
bytes (null ≠ ""); enums both null or both non-null with the same STRING. -/
theorem gen_cell_equals_semantics {ty : CType} (hty : ty ∈ tys) (xv yv : List Bytes) (x y : Cell)
    (hx : wtCell ty xv x = true) (hy : wtCell ty yv y = true) :
    genCellEq ty xv yv x y = some (cellEq x y) := by
  rw [genCellEq, cellEqIn, gen_equals_canon ty hty]
  exact canonPred_sem xv yv x y hx hy

/-! ## `Equals`, the column -/

theorem allOpt_total (p : Nat → Option Bool) (q : Nat → Bool) (l : List Nat) (h : ∀ i ∈ l, p i = some (q i)) :
    allOpt p l = some (l.all q) := by
  induction l with
  | nil => rfl
  | cons i is ih =>
    have hi := h i (by simp)
    have ih' := ih (fun j hj => h j (by simp [hj]))
    simp only [allOpt, hi, List.all_cons]
    cases q i
    · rfl
    · simpa using ih'

/-- the canonical `Equals`: a column of another type is unequal; otherwise all positions must satisfy the predicate -/
theorem canonEquals_eval (ty : CType) (same : Bool) (xv yv : List Bytes) (xs ys : Nat → Cell) (n : Nat) (q : Nat → Bool)
    (h : same = true → ∀ i < n, (canonPred ty).eval ty xv yv (xs i) (ys i) = some (q i)) :
    (canonEquals ty).eval ty same xv yv xs ys n = some (same && (List.range n).all q) := by
  cases same
  · rfl
  · have := allOpt_total (fun i => (canonPred ty).eval ty xv yv (xs i) (ys i)) q (List.range n)
      (fun i hi => h rfl i (List.mem_range.1 hi))
    simp only [canonEquals, EQ.eval, if_true, this, Bool.true_and]
    cases (List.range n).all q <;> rfl

/-- the cells of the first `n` rows of the column are of its type -/
def ColTyped (n : Nat) (c : LCol) : Prop := c.ty ∈ tys ∧ ∀ r, r < n → wtCell c.ty c.vals c.cells[r]! = true

/-- `Column.Equals` of today's source on two columns whose cells are of their types, for any way `q` of writing `cellEq`
at the positions of two columns of the same type -/
theorem genColEquals_eq (a b : LCol) (n : Nat) (ha : ColTyped n a) (hb : ColTyped n b) (q : Nat → Bool)
    (hq : ∀ r, wtCell a.ty a.vals a.cells[r]! = true → wtCell a.ty b.vals b.cells[r]! = true →
      q r = cellEq a.cells[r]! b.cells[r]!) :
    genColEquals a b n = some (a.ty == b.ty && (List.range n).all q) := by
  rw [genColEquals, colEqualsIn, gen_equals_canon a.ty ha.1]
  apply canonEquals_eval
  intro hs i hi
  have hbi := hb.2 i hi
  rw [← eq_of_beq hs] at hbi
  rw [hq i (ha.2 i hi) hbi]
  exact canonPred_sem a.vals b.vals _ _ (ha.2 i hi) hbi

/-- **`Column.Equals` of today's source.** On two columns whose cells are of their types: the answer is `true` iff `other`
is a column of the same type (`other.(Column)` succeeds) and at EVERY position the per-cell predicate holds
(`gen_equals_loop`), i.e. iff all cells are `cellEq` — exactly `¬ C10Guards.colDiffers`. -/
theorem gen_equals_column (a b : LCol) (n : Nat) (ha : ColTyped n a) (hb : ColTyped n b) :
    genColEquals a b n = some (a.ty == b.ty && (List.range n).all (fun r => cellEq a.cells[r]! b.cells[r]!)) :=
  genColEquals_eq a b n ha hb _ fun _ _ _ => rfl

/-- … the loop is `∀ i` of the extracted predicate; a column of another type is unequal whatever its cells are. -/
theorem gen_equals_loop (a b : LCol) (n : Nat) (ha : ColTyped n a) (hb : ColTyped n b) :
    genColEquals a b n = some (a.ty == b.ty &&
      (List.range n).all (fun r => genCellEq a.ty a.vals b.vals a.cells[r]! b.cells[r]! == some true)) ∧
    (a.ty ≠ b.ty → genColEquals a b n = some false) := by
  refine ⟨genColEquals_eq a b n ha hb _ fun r hx hy => ?_, fun hty => ?_⟩
  · rw [gen_cell_equals_semantics ha.1 _ _ _ _ hx hy]
    cases cellEq a.cells[r]! b.cells[r]! <;> rfl
  · rw [gen_equals_column a b n ha hb, beq_false_of_ne hty]
    rfl

/-! ## `QFrame.Equals` = `equalsS` -/

/-- every column's cells (the first `f.n` rows) are of the column's type -/
def FrameTyped (f : LFrame) : Prop := ∀ c ∈ f.cols, ColTyped f.n c

/-- what today's column code says about the columns at position `i`: `!a.cols[i].Equals(a.index, b.cols[i], b.index)` -/
def genDiffers (a b : LFrame) (i : Nat) : Bool := !((genColEquals (a.cols[i]!) (b.cols[i]!) a.n).getD false)

theorem getElem!_mem {α : Type} [Inhabited α] (l : List α) (i : Nat) (h : i < l.length) : l[i]! ∈ l := by
  rw [getElem!_pos l i h]
  exact List.getElem_mem h

/-- On frames of the same shape the extracted column comparison at every column position is the comparison
`C10Guards.gen_equals_vs_spec` assumed. -/
theorem gen_differs_eq (a b : LFrame) (ha : FrameTyped a) (hb : FrameTyped b) (hn : a.n = b.n) (i : Nat)
    (hia : i < a.cols.length) (hib : i < b.cols.length) :
    genColEquals (a.cols[i]!) (b.cols[i]!) a.n = some (!colDiffers a b i) ∧ genDiffers a b i = colDiffers a b i := by
  have h1 := ha _ (getElem!_mem a.cols i hia)
  have h2 := hb _ (getElem!_mem b.cols i hib)
  rw [← hn] at h2
  have := gen_equals_column _ _ a.n h1 h2
  unfold genDiffers colDiffers
  rw [this]
  simp

/-- **Today's `QFrame.Equals` is `equalsS`.** The extracted shape checks of `QFrame.Equals` (C10Guards: row counts, column
counts, names) followed, per column position, by the extracted `Column.Equals` of the column's package answer `true` iff
the spec's `equalsS` does — on ALL pairs of frames whose cells are of their column's type. This discharges the assumption
of `C10Guards.gen_equals_vs_spec` (`colDiffers` is what today's column code computes: `gen_differs_eq`). -/
theorem gen_equals_eq_spec (a b : LFrame) (ha : FrameTyped a) (hb : FrameTyped b) :
    genGuards2 "Equals" (equalsReq a b (genDiffers a b)) = some (if equalsS a b then .retTrue else .retFalse) := by
  by_cases hshape : a.n = b.n ∧ a.names = b.names
  · obtain ⟨hn, hnames⟩ := hshape
    have hl := C09.names_length hnames
    rw [C10Guards.gen_equals_congr a b _ (colDiffers a b) fun i hi => (gen_differs_eq a b ha hb hn i hi (hl ▸ hi)).2]
    exact C10Guards.gen_equals_vs_spec a b
  · obtain ⟨h1, h2⟩ := (gen_equals_semantics a b (genDiffers a b)).2.1 (Decidable.not_and_iff_not_or_not.mp hshape)
    rw [h1, h2]
    rfl

/-! ## `StringAt` -/

theorem canonStringAt_sem {ty : CType} (F : Fmt) (vals : List Bytes) (naRep buf : Bytes) (x : Cell)
    (hx : wtCell ty vals x = true) :
    (canonStringAt ty).eval F ty vals naRep buf x =
      some (.str (if x.isNull then naRep else C13Write.cellString F.fmtF x)) := by
  refine wtCell_elim hx ?_ ?_ ?_ ?_ ?_
  · intro v
    rfl
  · intro b
    cases hn : F64.isNaN b <;>
    simp [canonStringAt, RE.eval, RTest.eval, nanOf, floatOf, Cell.isNull, C13Write.cellString, hn]
  · intro b
    cases b <;> rfl
  · intro s
    cases s <;> rfl
  · intro s hs
    rcases s with _ | u
    · rfl
    · obtain ⟨h1, h2, _⟩ := enum_some hs
      simp [canonStringAt, RE.eval, RTest.eval, h1, h2, Cell.isNull, C13Write.cellString]

/-- `StringAt(i, naRep)` of today's source, any `naRep` (`String()` passes "null"): `naRep` for a null cell (NaN, null
string, null enum), else the string `ToCSV` writes. -/
theorem gen_stringAt_naRep {ty : CType} (hty : ty ∈ tys) (F : Fmt) (vals : List Bytes) (naRep buf : Bytes) (x : Cell)
    (hx : wtCell ty vals x = true) :
    genStringAt F ty vals naRep buf x = some (.str (if x.isNull then naRep else C13Write.cellString F.fmtF x)) := by
  rw [genStringAt, renderIn, gen_stringAt_canon ty hty]
  exact canonStringAt_sem F vals naRep buf x hx

/-- **`StringAt(i, "")` of today's source is `C13Write.cellString fmt`** — the strings `C13Write.tocsv` puts into the
records of `ToCSV` — for every column type and ALL cells of the type; `fmt` is `strconv.FormatFloat(·, 'f', -1, 64)`.
(The other formatters and the buffer are not used.) -/
theorem gen_stringAt_semantics {ty : CType} (hty : ty ∈ tys) (fmt : UInt64 → Bytes) (vals : List Bytes) (x : Cell)
    (hx : wtCell ty vals x = true) (ryu : UInt64 → Bytes) (quote : Bytes → Bytes) (buf : Bytes) :
    genStringAt ⟨fmt, ryu, quote⟩ ty vals [] buf x = some (.str (C13Write.cellString fmt x)) := by
  rw [gen_stringAt_naRep hty _ vals [] buf x hx]
  cases h : x.isNull
  · rfl
  · simp [C13Write.cellString_null fmt x h]

/-! ## `AppendByteStringAt` -/

theorem canonAppend_sem {ty : CType} (F : Fmt) (vals : List Bytes) (naRep buf : Bytes) (x : Cell)
    (hx : wtCell ty vals x = true) (hq : F.quote = C14.appendQuoted) :
    (canonAppend ty).eval F ty vals naRep buf x = some (.buf (buf ++ C14ToJson.cellBytes F.ryu x)) := by
  refine wtCell_elim hx ?_ ?_ ?_ ?_ ?_
  · intro v
    simp [canonAppend, RE.eval, intOf, C14ToJson.cellBytes, C14ToJson.intText, intStr, strBytes]
  · intro b
    cases hn : F64.isNaN b <;>
    simp [canonAppend, RE.eval, RTest.eval, nanOf, floatOf, C14ToJson.cellBytes, nullLit, hn]
  · intro b
    cases b <;> rfl
  · intro s
    cases s <;> simp [canonAppend, RE.eval, RTest.eval, nullOf, rawOf, RV.str?, C14ToJson.cellBytes, nullLit, hq]
  · intro s hs
    rcases s with _ | u
    · rfl
    · obtain ⟨h1, h2, _⟩ := enum_some hs
      simp [canonAppend, RE.eval, RTest.eval, h1, h2, RV.str?, C14ToJson.cellBytes, hq]

/-- **`AppendByteStringAt(buf, i)` of today's source appends exactly `C14ToJson.cellBytes fmt cell` to ANY buffer** — the
bytes `C14ToJson.toJSON` writes per cell — for every column type and ALL cells of the type; `fmt` is what
`ryu.AppendFloat64f` appends for a non-NaN float, `AppendQuotedString` is its mirror `C14.appendQuoted`. -/
theorem gen_append_semantics {ty : CType} (hty : ty ∈ tys) (fmt : UInt64 → Bytes) (vals : List Bytes) (x : Cell)
    (hx : wtCell ty vals x = true) (fmtF : UInt64 → Bytes) (naRep buf : Bytes) :
    genAppend ⟨fmtF, fmt, C14.appendQuoted⟩ ty vals naRep buf x = some (.buf (buf ++ C14ToJson.cellBytes fmt x)) := by
  rw [genAppend, renderIn, gen_append_canon ty hty]
  exact canonAppend_sem _ vals naRep buf x hx rfl

/-! ## The helpers of scolumn -/

/-- `stringAt(i)` / `bytesAt(i)` of today's scolumn return `("", true)` for a null cell and `(bytes, false)` for a non-null
one: the reading of `OP.bytesEq` / `OP.xNull` / `RE.strAt` / `RTest.isNull` on string columns. -/
theorem gen_helpers_sem (F : Fmt) (vals : List Bytes) (naRep buf : Bytes) (s : Option Bytes) :
    ∀ h ∈ ["scolumn.stringAt", "scolumn.bytesAt"],
      (Gen.observeHelpers.lookup h).bind (fun e => e.eval F .string vals naRep buf (.str s)) =
        some (.pair (s.getD []) s.isNone) := by
  intro h hh
  rw [gen_helpers_canon h hh]
  cases s <;> simp [canonHelper, RE.eval, RTest.eval, nullOf, rawOf, RV.str?]

/-! ## Witnesses: the statements tell wrong observation functions apart -/

/-- ecolumn's `Equals` comparing the CODES of two non-null cells instead of their strings … -/
def enumByCode : OP := .ite (.or .xNull .yNull) (.ite .xEqY .tt .ff) (.ite (.not .xEqY) .ff .tt)

/-- … calls the cell "a" of a column with values [a, b] different from the cell "a" of a column with values [b, a]
(and equal to its cell "b"): not `cellEq`. -/
example :
    enumByCode.eval .enum [[97], [98]] [[98], [97]] (.str (some [97])) (.str (some [97])) = some false ∧
    cellEq (.str (some [97])) (.str (some [97])) = true ∧
    wtCell .enum [[97], [98]] (.str (some [97])) = true ∧ wtCell .enum [[98], [97]] (.str (some [97])) = true := by
  decide

/-- fcolumn's `Equals` without the NaN test says NaN ≠ NaN; the spec (and today's code) say they are the same. -/
example : plainPred.eval .float [] [] (.float F64.canonNaN) (.float F64.canonNaN) = some false ∧
    cellEq (.float F64.canonNaN) (.float F64.canonNaN) = true := by
  decide

/-- scolumn's `Equals` ignoring the null flags says null = "". -/
example : (OP.ite (.not .bytesEq) .ff .tt).eval .string [] [] (.str none) (.str (some [])) = some true ∧
    cellEq (.str none) (.str (some [])) = false := by
  decide

/-- fcolumn's `AppendByteStringAt` with an integer fast path `if value == 0 { return append(buf, '0') }` … -/
def zeroFastPath : RE := .ite .isZero (.appendLit [48]) (.ite .isNaN (.appendLit nullLit) .ryuF)

def negZero : UInt64 := 0x8000000000000000

/-- … writes `0` for −0.0, whatever the formatter writes for it (`-0`): it does not append `cellBytes fmt`. -/
example :
    let fmt : UInt64 → Bytes := fun b => if b = negZero then [45, 48] else [48]
    zeroFastPath.eval ⟨fmt, fmt, C14.appendQuoted⟩ .float [] [] [91] (.float negZero) = some (.buf [91, 48]) ∧
    [91] ++ C14ToJson.cellBytes fmt (.float negZero) = [91, 45, 48] := by
  decide

/-- fcolumn's `AppendByteStringAt` without the NaN test hands NaN to the formatter instead of writing `null`. -/
example :
    let fmt : UInt64 → Bytes := fun _ => [78, 97, 78]
    RE.ryuF.eval ⟨fmt, fmt, C14.appendQuoted⟩ .float [] [] [] (.float F64.canonNaN) = some (.buf [78, 97, 78]) ∧
    C14ToJson.cellBytes fmt (.float F64.canonNaN) = [110, 117, 108, 108] := by
  decide

#print axioms gen_observe_no_opaque
#print axioms gen_cell_equals_semantics
#print axioms gen_equals_column
#print axioms gen_equals_loop
#print axioms gen_equals_eq_spec
#print axioms gen_stringAt_semantics
#print axioms gen_stringAt_naRep
#print axioms gen_append_semantics
#print axioms gen_helpers_sem
#print axioms gen_enum_null_code

end QF.Props.C09Observe
