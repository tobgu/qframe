import QF.Gen.EnumRest
import QF.Core.Small
import QF.Core.KExpr
import QF.Core.ListFacts
import QF.Props.C17Factory
/-!
# C17 — the rest of internal/ecolumn of today's source: bitset, `isNull`, `compVal`, `subset`, and `New` / `NewConst` (tie T1)

`QF.Gen.bitsetSet`, `bitsetIsSet`, `enumIsNull`, `enumCompVal`, `enumSubset`, `enumSubsetExported`, `enumCodeBits`,
`bitsetWords`, `bitsetWordBits` (regenerated on every run by go/cmd/extract/ecast.go) hold `bitset.set`, `bitset.isSet`
(bitset.go), `enumVal.isNull`, `enumVal.compVal`, `Column.subset`, `Column.Subset` (column.go) as terms of `QF.ER`
(QF/Core/EnumRest.lean), the constants `maxCardinality` / `nullValue` replaced by their values and the widths of the types
`enumVal` (`uint8`) and `bitset` (`[4]uint64`) read from their declarations.

* `gen_enumrest_no_opaque`, `gen_enumrest_canon` — today's extraction is complete and equal to the canonical terms (`decide`).
* `gen_enum_widths`          — a code has 8 bits, the bitset has 4 × 64 = 2^8 bits: one for every code; the null code 255 fits.
* `gen_bitset_semantics`     — for every bitset and every code below 256, the regenerated `set` / `isSet`, run with Go's
                               arithmetic, are the hand mirror `Small.bsSet` / `Small.bsIsSet`, and never index outside the array.
* `gen_bitset_spec`          — hence `isSet (set s v) w ⇔ w = v ∨ isSet s w` for the regenerated methods (`C17.bitset_spec`).
* `gen_isnull_semantics`, `gen_compval_semantics` — `isNull` tests for 255; `compVal` is -1 for the null code and the code
                               itself otherwise (the meaning `KE.eval` gives `compVal()` in the filter kernels).
* `gen_enum_subset_semantics`— `subset(index)` / `Subset(index)` return a column whose cells are a NEW array holding exactly
                               the codes at the rows of the index, in the order of the index (a row outside the column is a
                               panic), with the receiver's value table and strict flag.
* `gen_enum_new_semantics`   — `New` / `NewConst` run through the regenerated factory are `mkEnum` (C17Factory), and the code
                               the factory appends for a null cell is the one `isNull` and `compVal` test for.
* witnesses: `>> 5` for `>> 6`, a 32-bit shift, the mask `0x1F` in `isSet`, `<` for `==` in `compVal`, the position instead of
  the row in `subset`, the receiver's array returned, the strict flag dropped.
-/
namespace QF.Props.C17EnumRestGen
open QF QF.ER

/-! ## Canonical terms -/

/-- `val>>6` -/
def wIx : W := .shr .code (.lit 6)
/-- `1 << (val & 0x3F)` in `uint64` -/
def wBit : W := .shl 64 (.lit 1) (.band .code (.lit 63))

/-- `s[val>>6] |= 1 << (val & 0x3F)` -/
def canonSet : List BS := [.store wIx (.bor (.word wIx) wBit)]
/-- `return s[val>>6]&(1<<(val&0x3F)) > 0` -/
def canonIsSet : List BS := [.retCmp .gt (.band (.word wIx) wBit) (.lit 0)]
/-- `return v == nullValue` -/
def canonIsNull : List BS := [.retCmp .eq .code (.lit 255)]
/-- `if v == nullValue { return -1 }; return int(v)` -/
def canonCompVal : CV := .ifCode .eq 255 (.retInt (-1)) .retCode
/-- `data := make([]enumVal, 0, len(index)); for _, ix := range index { data = append(data, c.data[ix]) };
return Column{data: data, values: c.values, strict: c.strict}` -/
def canonSubset : List SS := [.makeCells .zero, .rangeAppend .cellAtVal, .ret .fresh .recvValues .recvStrict]
/-- `return c.subset(index)` -/
def canonSubsetExported : List SS := [.retSubset]

theorem gen_enumrest_canon :
    Gen.bitsetSet = canonSet ∧ Gen.bitsetIsSet = canonIsSet ∧ Gen.enumIsNull = canonIsNull ∧
    Gen.enumCompVal = canonCompVal ∧ Gen.enumSubset = canonSubset ∧ Gen.enumSubsetExported = canonSubsetExported ∧
    Gen.enumCodeBits = 8 ∧ Gen.bitsetWords = 4 ∧ Gen.bitsetWordBits = 64 := by decide

theorem gen_enumrest_no_opaque :
    (∀ s ∈ Gen.bitsetSet, s.hasOpaque = false) ∧ (∀ s ∈ Gen.bitsetIsSet, s.hasOpaque = false) ∧
    (∀ s ∈ Gen.enumIsNull, s.hasOpaque = false) ∧ Gen.enumCompVal.hasOpaque = false ∧
    (∀ s ∈ Gen.enumSubset, s.hasOpaque = false) ∧ (∀ s ∈ Gen.enumSubsetExported, s.hasOpaque = false) := by decide

/-- **The widths of today's types**: the bitset has exactly one bit per code (`bitsetWords × bitsetWordBits = 2^enumCodeBits`),
and the null code the terms test for is a code. -/
theorem gen_enum_widths :
    Gen.bitsetWords * Gen.bitsetWordBits = 2 ^ Gen.enumCodeBits ∧ 255 < 2 ^ Gen.enumCodeBits := by decide

/-! ## Today's methods, run -/

/-- the array of a bitset of the hand mirror -/
def toWords (s : Small.BitSet) : List Nat := [s.1, s.2.1, s.2.2.1, s.2.2.2]

/-- `s.set(v)` of today's source: the array afterwards -/
def genSet (words : List Nat) (v : Nat) : Option (List Nat) := (BS.run v Gen.bitsetSet words).map (·.1)
/-- `s.isSet(v)` of today's source -/
def genIsSet (words : List Nat) (v : Nat) : Option Bool := (BS.run v Gen.bitsetIsSet words).bind (·.2)
/-- `v.isNull()` of today's source -/
def genIsNull (v : Nat) : Option Bool := (BS.run v Gen.enumIsNull []).bind (·.2)
/-- `v.compVal()` of today's source -/
def genCompVal (v : Nat) : Option Int := Gen.enumCompVal.run v
/-- `c.subset(index)` of today's source -/
def genSubset (c : Col) (index : List Nat) : Option SubOut := SS.run c index Gen.enumSubset none
/-- `c.Subset(index)` of today's source -/
def genSubsetExported (c : Col) (index : List Nat) : Option SubOut :=
  SS.runExported c index Gen.enumSubset Gen.enumSubsetExported

/-! ## The bitset -/

theorem toWords_get (s : Small.BitSet) (k : Nat) (hk : k < 4) : (toWords s)[k]? = some (Small.word s k) := by
  have : k = 0 ∨ k = 1 ∨ k = 2 ∨ k = 3 := by omega
  rcases this with rfl | rfl | rfl | rfl <;> rfl

theorem toWords_set (s : Small.BitSet) (k w : Nat) (hk : k < 4) : (toWords s).set k w = toWords (Small.setWord s k w) := by
  have : k = 0 ∨ k = 1 ∨ k = 2 ∨ k = 3 := by omega
  rcases this with rfl | rfl | rfl | rfl <;> rfl

theorem shr6_lt (v : Nat) (hv : v < 256) : v >>> 6 < 4 := by rw [Nat.shiftRight_eq_div_pow]; omega

theorem bit_mod (v : Nat) : (1 <<< (v &&& 63)) % 2 ^ 64 = 1 <<< (v &&& 63) := by
  have h : v &&& 63 ≤ 63 := Nat.and_le_right
  rw [Nat.one_shiftLeft]
  exact Nat.mod_eq_of_lt (Nat.pow_lt_pow_right (by omega) (by omega))

theorem wIx_eval (words : List Nat) (v : Nat) : wIx.eval words v = some (v >>> 6) := rfl

theorem wBit_eval (words : List Nat) (v : Nat) : wBit.eval words v = some (1 <<< (v &&& 63)) := by
  simp only [wBit, W.eval, bit_mod]

theorem canon_set_run (s : Small.BitSet) (v : Nat) (hv : v < 256) :
    BS.run v canonSet (toWords s) = some (toWords (Small.bsSet s v), none) := by
  have hk := shr6_lt v hv
  have hlen : v >>> 6 < (toWords s).length := hk
  simp only [canonSet, BS.run, W.eval, wIx_eval, wBit_eval, toWords_get s _ hk, hlen, if_true, toWords_set s _ _ hk]
  rfl

theorem canon_isSet_run (s : Small.BitSet) (v : Nat) (hv : v < 256) :
    BS.run v canonIsSet (toWords s) = some (toWords s, some (Small.bsIsSet s v)) := by
  have hk := shr6_lt v hv
  simp only [canonIsSet, BS.run, W.eval, wIx_eval, wBit_eval, toWords_get s _ hk, Cmp.eval, Small.bsIsSet]
  congr 2
  by_cases h : Small.word s (v >>> 6) &&& 1 <<< (v &&& 63) = 0
  · simp [h]
  · have : Small.word s (v >>> 6) &&& 1 <<< (v &&& 63) > 0 := by omega
    simp [h, this]

/-- **The bitset of today's source is the hand mirror.** For every bitset `s` and every code `v < 256` (every `enumVal`),
`s.set(v)` as regenerated and run with Go's arithmetic — the index `v>>6` (always inside the 4-word array), the bit
`1 << (v & 0x3F)` taken in `uint64` — leaves the array of `Small.bsSet s v`, and `s.isSet(v)` returns `Small.bsIsSet s v`
and leaves the array alone. -/
theorem gen_bitset_semantics (s : Small.BitSet) (v : Nat) (hv : v < 256) :
    genSet (toWords s) v = some (toWords (Small.bsSet s v)) ∧
    genIsSet (toWords s) v = some (Small.bsIsSet s v) ∧
    (BS.run v Gen.bitsetIsSet (toWords s)).map (·.1) = some (toWords s) := by
  unfold genSet genIsSet
  rw [gen_enumrest_canon.1, gen_enumrest_canon.2.1, canon_set_run s v hv, canon_isSet_run s v hv]
  exact ⟨rfl, rfl, rfl⟩

/-- **C17 for today's code**: `isSet (set s v) w ⇔ w = v ∨ isSet s w` for the regenerated methods, all codes `v`, `w`. -/
theorem gen_bitset_spec (s : Small.BitSet) (v w : Nat) (hv : v < 256) (hw : w < 256) :
    ∃ words', genSet (toWords s) v = some words' ∧
      genIsSet words' w = (genIsSet (toWords s) w).map (fun b => decide (w = v) || b) := by
  refine ⟨_, (gen_bitset_semantics s v hv).1, ?_⟩
  rw [(gen_bitset_semantics (Small.bsSet s v) w hw).2.1, (gen_bitset_semantics s w hw).2.1,
    Small.bitset_spec s v w hv hw]
  rfl

/-! ## `isNull`, `compVal` -/

theorem gen_isnull_semantics (v : Nat) : genIsNull v = some (v == 255) := by
  unfold genIsNull
  rw [gen_enumrest_canon.2.2.1]
  rfl

/-- **`compVal` of today's source**: -1 for the null code 255, the code itself otherwise — what `KE.eval` takes `compVal()`
to mean in the enum kernels (QF/Core/KExpr.lean). -/
theorem gen_compval_semantics (v : Nat) :
    genCompVal v = some (if v = QF.enumNull then -1 else (v : Int)) := by
  unfold genCompVal
  rw [gen_enumrest_canon.2.2.2.1]
  simp only [canonCompVal, CV.run, Cmp.eval, QF.enumNull]
  by_cases h : v = 255 <;> simp [h]

/-- … so null is below every value, and the order of two values is the order of their codes. -/
theorem gen_compval_order (v w : Nat) (hv : v < 255) (hw : w < 255) :
    ∃ a b n : Int, genCompVal v = some a ∧ genCompVal w = some b ∧ genCompVal 255 = some n ∧
      n < a ∧ (a < b ↔ v < w) ∧ (a = b ↔ v = w) := by
  refine ⟨_, _, _, gen_compval_semantics v, gen_compval_semantics w, gen_compval_semantics 255, ?_⟩
  have h1 : ¬ v = 255 := by omega
  have h2 : ¬ w = 255 := by omega
  simp only [QF.enumNull, h1, h2, if_false, if_true]
  omega

/-! ## `subset` -/

/-- the loop gathers the codes at the rows of the index; `none` when a row is outside the column (a Go panic) -/
theorem appendLoop_mapM (c : Col) (index : List Nat) :
    ∀ (i : Nat) (data : List Nat), appendLoop c .cellAtVal i index data = (index.mapM (c.cells[·]?)).map (data ++ ·) := by
  induction index with
  | nil => intro i data; simp [appendLoop]
  | cons ix rest ih =>
    intro i data
    rw [ListFacts.mapM_cons_opt]
    simp only [appendLoop, SE.eval]
    cases hx : c.cells[ix]? with
    | none => rfl
    | some x =>
      simp only [ih, Option.bind_some]
      cases rest.mapM (c.cells[·]?) <;> simp

theorem canon_subset_run (c : Col) (index : List Nat) :
    SS.run c index canonSubset none =
      (index.mapM (c.cells[·]?)).map fun d => { col := { cells := d, values := c.values, strict := c.strict }, freshCells := true } := by
  simp only [canonSubset, SS.run, appendLoop_mapM]
  cases index.mapM (c.cells[·]?) with
  | none => rfl
  | some d => simp

/-- **`subset` / `Subset` of today's source.** For every enum column and every index: the call panics exactly when a row of
the index is outside the column; otherwise it returns a column whose cells are the slice made inside the function (not the
receiver's array: `freshCells`), of the length of the index, holding at position `i` exactly the code of row `index[i]`, and
whose value table and strict flag are the receiver's. The exported `Subset` is the same function. -/
theorem gen_enum_subset_semantics (c : Col) (index : List Nat) :
    genSubsetExported c index = genSubset c index ∧
    (genSubset c index = none ↔ ∃ ix ∈ index, c.cells.length ≤ ix) ∧
    (∀ out, genSubset c index = some out →
      out.freshCells = true ∧ out.col.values = c.values ∧ out.col.strict = c.strict ∧
      out.col.cells.length = index.length ∧ ∀ i (hi : i < index.length), out.col.cells[i]? = c.cells[index[i]]?) := by
  obtain ⟨_, _, _, _, c5, c6, _⟩ := gen_enumrest_canon
  unfold genSubsetExported genSubset
  rw [c5, c6]
  refine ⟨rfl, ?_, ?_⟩
  · rw [canon_subset_run, Option.map_eq_none_iff, ListFacts.mapM_eq_none_iff]
    simp only [List.getElem?_eq_none_iff]
  · intro out h
    rw [canon_subset_run] at h
    obtain ⟨d, hd, rfl⟩ := Option.map_eq_some_iff.1 h
    have hl := ListFacts.mapM_length hd
    refine ⟨rfl, rfl, rfl, hl, fun i hi => ?_⟩
    have := congrArg (·[i]?) ((ListFacts.mapM_eq_some_iff _ _ _).1 hd)
    simp only [List.getElem?_map, List.getElem?_eq_getElem hi, List.getElem?_eq_getElem (hl ▸ hi : i < d.length),
      Option.map_some, Option.some.injEq] at this
    rw [this, List.getElem?_eq_getElem]

/-! ## `New` / `NewConst` -/

open QF.Props.C17Enum QF.Props.C17Factory in
/-- **`ecolumn.New` / `ecolumn.NewConst` of today's source, through the regenerated factory, are `mkEnum`** (the statements
of `C17Factory.gen_factory_semantics` / `gen_factory_const_semantics`, whose terms east.go regenerates on every run):
`New(cells, declared)` fails iff `mkEnum` does — more than 255 declared values, an undeclared value under a declaration
(strict), a 256th distinct value without one — and otherwise the value list is the declaration in its order, or the
distinct values in order of first appearance (`mkEnum`, `C17Enum.mkEnum_derived`), every cell's code decodes to the cell
and for a duplicate-free declaration is its rank; `NewConst(val, n, declared)` gives `n` cells of the one code of `val`
(the null code for a nil `val`). And the code the factory appends for a null cell is the code the regenerated `isNull`
answers true for and `compVal` maps to -1; no other code below it is null. -/
theorem gen_enum_new_semantics (declared : List Bytes) :
    (∀ cells : List (Option Bytes),
      (mkEnum declared (cells.map cellOf) = none → genNew declared cells = .err) ∧
      (∀ vals strict, mkEnum declared (cells.map cellOf) = some (vals, strict) →
        ∃ σ, genNew declared cells = .ok σ ∧ σ.values = vals ∧ σ.strict = strict ∧
          Forall2 (CodeOk vals) cells σ.data ∧ (declared.Nodup → Forall2 (RankOk vals) cells σ.data))) ∧
    (∀ (val : Option Bytes) (count : Nat),
      (mkEnum declared (cellOf val :: List.replicate count (cellOf val)) = none → genNewConst declared val count = .err) ∧
      (∀ vals strict, mkEnum declared (cellOf val :: List.replicate count (cellOf val)) = some (vals, strict) →
        ∃ σ code, genNewConst declared val count = .ok σ ∧ σ.values = vals ∧ σ.strict = strict ∧
          σ.data = List.replicate count code ∧ CodeOk vals val code ∧ (declared.Nodup → RankOk vals val code))) ∧
    (∀ σ : FState, ∃ nullCode, genStepNil.run {} σ = .ok (σ.pushCode nullCode) ∧
      genIsNull nullCode = some true ∧ genCompVal nullCode = some (-1) ∧
      ∀ code, code < nullCode → genIsNull code = some false ∧ genCompVal code = some (code : Int)) := by
  refine ⟨fun cells => gen_factory_semantics declared cells, fun val count => gen_factory_const_semantics declared val count, ?_⟩
  intro σ
  refine ⟨255, (gen_factory_step σ).1, by rw [gen_isnull_semantics]; rfl, by rw [gen_compval_semantics]; rfl, ?_⟩
  intro code hc
  rw [gen_isnull_semantics, gen_compval_semantics]
  have h : ¬ code = QF.enumNull := by unfold QF.enumNull; omega
  have h' : (code == 255) = false := by simp; omega
  simp [h, h']

/-! ## Witnesses: plausible mutations are different terms and violate the statements -/

section Witnesses

def runSet (body : List BS) (s : Small.BitSet) (v : Nat) : Option (List Nat) := (BS.run v body (toWords s)).map (·.1)
def runIsSet (body : List BS) (words : List Nat) (v : Nat) : Option Bool := (BS.run v body words).bind (·.2)

/-- `s[val>>5] |= …`: the word index `>> 5` for `>> 6` -/
def setShr5 : List BS :=
  [.store (.shr .code (.lit 5)) (.bor (.word (.shr .code (.lit 5))) wBit)]
example : setShr5 ≠ canonSet := by decide
/-- … the code 64 lands in word 2 instead of word 1, so `isSet` does not find it, -/
example : runSet setShr5 (0, 0, 0, 0) 64 = some [0, 0, 1, 0] ∧ runSet canonSet (0, 0, 0, 0) 64 = some [0, 1, 0, 0] ∧
    runIsSet canonIsSet [0, 0, 1, 0] 64 = some false := by decide +kernel
/-- … and the code 128 indexes word 4 of a 4-word array: a panic. -/
example : runSet setShr5 (0, 0, 0, 0) 128 = none := by decide

/-- the bit taken in a 32-bit type: `uint32(1) << (val & 0x3F)` widened -/
def setBit32 : List BS := [.store wIx (.bor (.word wIx) (.shl 32 (.lit 1) (.band .code (.lit 63))))]
example : setBit32 ≠ canonSet := by decide
/-- … the code 40 sets no bit at all -/
example : runSet setBit32 (0, 0, 0, 0) 40 = some [0, 0, 0, 0] ∧ runSet canonSet (0, 0, 0, 0) 40 = some [2 ^ 40, 0, 0, 0] := by
  decide +kernel

/-- `&` with `0x1F`: codes 32 apart share a bit -/
def isSetMask1F : List BS :=
  [.retCmp .gt (.band (.word wIx) (.shl 64 (.lit 1) (.band .code (.lit 31)))) (.lit 0)]
example : isSetMask1F ≠ canonIsSet := by decide
example : runIsSet isSetMask1F [1, 0, 0, 0] 32 = some true ∧ runIsSet canonIsSet [1, 0, 0, 0] 32 = some false := by decide +kernel

/-- `if v < nullValue { return -1 }`: the null code compared with `<` instead of `==` -/
def compValLt : CV := .ifCode .lt 255 (.retInt (-1)) .retCode
example : compValLt ≠ canonCompVal := by decide
/-- … every value becomes -1 and null becomes 255: above every value -/
example : compValLt.run 3 = some (-1) ∧ compValLt.run 255 = some 255 ∧
    canonCompVal.run 3 = some 3 ∧ canonCompVal.run 255 = some (-1) := by decide +kernel

/-- `data = append(data, c.data[i])`: the position in the index instead of the row -/
def subsetByKey : List SS := [.makeCells .zero, .rangeAppend .cellAtKey, .ret .fresh .recvValues .recvStrict]
example : subsetByKey ≠ canonSubset := by decide
example : (SS.run { cells := [7, 8, 9], values := [], strict := false } [2, 0] subsetByKey none).map (·.col.cells) = some [7, 8] ∧
    (SS.run { cells := [7, 8, 9], values := [], strict := false } [2, 0] canonSubset none).map (·.col.cells) = some [9, 7] := by
  decide +kernel

/-- `return Column{data: c.data, …}`: the receiver's array handed out -/
def subsetAlias : List SS := [.makeCells .zero, .rangeAppend .cellAtVal, .ret .recvCells .recvValues .recvStrict]
example : subsetAlias ≠ canonSubset := by decide
example : (SS.run { cells := [7, 8, 9], values := [], strict := false } [2, 0] subsetAlias none).map (fun o => (o.col.cells, o.freshCells))
    = some ([7, 8, 9], false) := by decide +kernel

/-- the strict flag dropped: `Column{data: data, values: c.values}` -/
def subsetNoStrict : List SS := [.makeCells .zero, .rangeAppend .cellAtVal, .ret .fresh .recvValues .zero]
example : subsetNoStrict ≠ canonSubset := by decide
example : (SS.run { cells := [1], values := [[97]], strict := true } [0] subsetNoStrict none).map (·.col.strict) = some false := by
  decide +kernel

end Witnesses

end QF.Props.C17EnumRestGen

#print axioms QF.Props.C17EnumRestGen.gen_enumrest_canon
#print axioms QF.Props.C17EnumRestGen.gen_enumrest_no_opaque
#print axioms QF.Props.C17EnumRestGen.gen_enum_widths
#print axioms QF.Props.C17EnumRestGen.gen_bitset_semantics
#print axioms QF.Props.C17EnumRestGen.gen_bitset_spec
#print axioms QF.Props.C17EnumRestGen.gen_isnull_semantics
#print axioms QF.Props.C17EnumRestGen.gen_compval_semantics
#print axioms QF.Props.C17EnumRestGen.gen_compval_order
#print axioms QF.Props.C17EnumRestGen.gen_enum_subset_semantics
#print axioms QF.Props.C17EnumRestGen.gen_enum_new_semantics
