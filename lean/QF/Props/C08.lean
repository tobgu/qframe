import QF.Props.Tie
import QF.Core.Small
/-!
# C08 — New reproduces its input; string storage

`pointer_roundtrip`: the packed string pointer (offset 35 bits, length 28 bits, null bit)
returns exactly the offset, length and null flag it was built from.
-/
namespace QF.Props.C08

theorem pointer_roundtrip (offset length : Nat) (isNull : Bool) (ho : offset < 2 ^ 35) (hl : length < 2 ^ 28) :
    Small.pOffset (Small.newPointer offset length isNull) = offset ∧
      Small.pLen (Small.newPointer offset length isNull) = length ∧
        Small.pIsNull (Small.newPointer offset length isNull) = isNull :=
  Small.pointer_roundtrip offset length isNull ho hl

-- No function of this property is tied by its source text (the list below is empty). Each is regenerated on every run and a
-- behaviour-changing edit makes a `gen_*_canon` theorem fail (checked by bin/selftest-ties); renaming locals or reformatting changes nothing.
-- `CheckName`, `isQuoted`: `Gen.checkNameAst`, `C08Guards.gen_checkname_canon` + `gen_checkname_semantics`. `New`: `Gen.guardAst` + `Gen.newTailAst`, `C08Guards.gen_guards_canon` +
-- `gen_new_outcome`, `C08Construct.gen_construct_canon` + `gen_new_semantics_partial`. `QFrame.Slice`, `Select`, `Drop`, `Copy`: `Gen.guardAst` + `Gen.projectAst`,
-- `C08Guards.gen_guards_canon` + `gen_guards_semantics`, `C08ProjectGen.gen_project_canon` + `gen_project_semantics`.
-- The string pointer functions: `Gen.stringsFns` (`C08PointerGen.gen_pointer_semantics` / `gen_pointer_roundtrip`).
-- The constructors `createColumn` calls: `Gen.scolNew` / `scolNewConst` / `numCtors` (C08CtorsGen).
-- `createColumn`: `Gen.createColumnAst` (nast.go: `C08Construct.gen_construct_canon` + `gen_new_semantics_partial`); HOW it returns its errors — `ecolumn.New`'s
-- error wrapped by `qerrors.Propagate("New columns <name>", err)`, the two `qerrors.New` — in `Gen.createColumnErrs` (sortgast.go): `C03SortGlueGen.gen_sortglue_canon` + `gen_createcolumn_errors`.
theorem tie : Tie.sameAll [] = true := by decide

/-- The null marker of packed string pointers is bit 63. -/
theorem gen_null_bit : Gen.consts.lookup "strings.nullBit" = some "0x8000000000000000" := by decide

end QF.Props.C08
