import QF.Spec.Json
import QF.Core.Utf8Facts
/-!
# C14: `strings.AppendQuotedString` writes a JSON string token that decodes to `sanitize s`

`appendQuoted` is a byte-level mirror of `AppendQuotedString` in /repo/internal/strings/serialize.go
(the pending-run/flush mechanism is modelled as emitting bytes in scan order, which is equivalent).
`quoted_parses` shows that, for EVERY byte string (valid UTF-8 or not), the RFC 8259 string parser
`Json.parseStr` consumes exactly the emitted token and decodes it to `Json.sanitize s`.
-/
namespace QF.Props.C14
open QF

/-- `chars[n]` for `chars = "0123456789abcdef"`. -/
def hexDigit (n : Nat) : UInt8 := if n < 10 then UInt8.ofNat (48 + n) else UInt8.ofNat (87 + n)

/-- The `switch c` for a byte `< 0x80` that needs escaping: `\t \r \n \\ \"`, otherwise `\u00XY`
with `X = chars[c>>4]`, `Y = chars[c&0xf]`. -/
def escapeAscii (c : UInt8) : List UInt8 :=
  if c == 9 then [92, 116]
  else if c == 13 then [92, 114]
  else if c == 10 then [92, 110]
  else if c == 92 then [92, 92]
  else if c == 34 then [92, 34]
  else [92, 117, 48, 48, hexDigit (c.toNat / 16), hexDigit (c.toNat % 16)]

/-- The scanning loop, from index `i` (the remaining input `s = str[i:]`) to the end; returns the bytes
appended to `buf` from here on, except the closing quote. One unit of fuel per loop iteration;
`s.length + 1` always suffices. -/
def scan (fuel : Nat) (s : List UInt8) : List UInt8 :=
  match fuel with
  | 0 => []
  | fuel + 1 =>
    match s with
    | [] => []
    | c :: rest =>
      if c != 92 && c != 34 && c ≥ 0x20 && c < 0x80 then c :: scan fuel rest
      else if c < 0x80 then escapeAscii c ++ scan fuel rest
      else
        let (r, w) := Json.decodeRune (c :: rest)
        if r == 0xFFFD && w == 1 then [92, 117, 102, 102, 102, 100] ++ scan fuel rest
        else if r == 0x2028 || r == 0x2029 then
          [92, 117, 50, 48, 50, hexDigit (r % 16)] ++ scan fuel ((c :: rest).drop w)
        else (c :: rest).take w ++ scan fuel ((c :: rest).drop w)

/-- The bytes `AppendQuotedString(buf, s)` appends to `buf` (both quotes included). -/
def appendQuoted (s : List UInt8) : List UInt8 := 34 :: (scan (s.length + 1) s ++ [34])

/-! ## One round of each of the three loops -/

private theorem parse_plain (f : Nat) (c : UInt8) (rest acc : List UInt8)
    (h1 : c ≠ 92) (h2 : c ≠ 34) (h3 : ¬ c < 0x20) (h4 : c < 0x80) :
    Json.parseStr (f + 1) (c :: rest) acc = Json.parseStr f rest (acc ++ [c]) := by
  rw [Json.parseStr]
  · rw [if_neg h3, if_pos h4]
  · exact h2
  · exact fun _ _ h _ => h1 h

private theorem hex4_cons4 (a b c d : UInt8) (rest : List UInt8) :
    Json.hex4 (a :: b :: c :: d :: rest) = Json.hex4 [a, b, c, d] := by
  have h1 : ¬ (a :: b :: c :: d :: rest).length < 4 := by simp only [List.length_cons]; omega
  have h2 : ¬ [a, b, c, d].length < 4 := Nat.lt_irrefl 4
  unfold Json.hex4
  rw [if_neg h1, if_neg h2]
  rfl

private theorem parse_u (f : Nat) (a b c d : UInt8) (rest acc : List UInt8) (u : Nat)
    (h : Json.hex4 [a, b, c, d] = some u) (hu : u < 0xD800 ∨ 0xE000 ≤ u) :
    Json.parseStr (f + 1) (92 :: 117 :: a :: b :: c :: d :: rest) acc
      = Json.parseStr f rest (acc ++ Json.encodeRune u) := by
  rw [Json.parseStr, hex4_cons4, h]
  have h1 : ¬ (0xD800 ≤ u ∧ u < 0xDC00) := by omega
  have h2 : ¬ (0xDC00 ≤ u ∧ u < 0xE000) := by omega
  simp [h1, h2]

private theorem hex4_00 : ∀ n, n < 32 → Json.hex4 [48, 48, hexDigit (n / 16), hexDigit (n % 16)] = some n := by
  decide

private theorem hex4_fffd : Json.hex4 [102, 102, 102, 100] = some 0xFFFD := by decide
private theorem hex4_202x : ∀ n, n < 16 → Json.hex4 [50, 48, 50, hexDigit n] = some (0x2020 + n) := by decide

/-- The parser undoes the writer's escape table. -/
private theorem parse_escape (f : Nat) (c : UInt8) (rest acc : List UInt8)
    (h : c = 92 ∨ c = 34 ∨ c < 0x20) :
    Json.parseStr (f + 1) (escapeAscii c ++ rest) acc = Json.parseStr f rest (acc ++ [c]) := by
  by_cases h1 : c = 9
  · subst h1; rfl
  by_cases h2 : c = 13
  · subst h2; rfl
  by_cases h3 : c = 10
  · subst h3; rfl
  by_cases h4 : c = 92
  · subst h4; rfl
  by_cases h5 : c = 34
  · subst h5; rfl
  have hc : c.toNat < 32 := by
    rcases h with h | h | h
    · exact absurd h h4
    · exact absurd h h5
    · exact UInt8.lt_iff_toNat_lt.mp h
  have he : Json.encodeRune c.toNat = [c] := by
    rw [Json.encodeRune, if_pos (by omega), UInt8.ofNat_toNat]
  have hesc : escapeAscii c = [92, 117, 48, 48, hexDigit (c.toNat / 16), hexDigit (c.toNat % 16)] := by
    simp only [escapeAscii, beq_iff_eq, h1, h2, h3, h4, h5, if_false]
  rw [← he, hesc]
  exact parse_u f _ _ _ _ rest acc c.toNat (hex4_00 _ hc) (by omega)

/-- A byte `≥ 0x80` either does not start a well-formed rune, or `decodeRune` reads `w ≥ 2` bytes `c :: pre` and does
not look beyond them; U+2028 and U+2029 have only their shortest encoding. -/
theorem decodeRune_spec (c : UInt8) (rest : List UInt8) (hc : ¬ c < 0x80) :
    Json.decodeRune (c :: rest) = (0xFFFD, 1) ∨
    ∃ r w pre t, rest = pre ++ t ∧ pre.length + 1 = w ∧ 2 ≤ w ∧
      (∀ X, Json.decodeRune (c :: (pre ++ X)) = (r, w)) ∧
      ((r = 0x2028 ∨ r = 0x2029) → c :: pre = Json.encodeRune r) :=
  -- the bytes read are the encoding `c :: mid` of a scalar value, which the decoder reads back whatever follows
  (Utf8.decodeRune_high c rest fun h => hc (UInt8.lt_iff_toNat_lt.2 h)).imp id
    fun ⟨v, mid, tl, e, he, _, _, hne, _, hd⟩ =>
      ⟨v, _, mid, tl, e, rfl, Nat.succ_le_succ (List.length_pos_iff.2 hne), hd, fun _ => he⟩

private theorem ge80_ne (c : UInt8) (hc : ¬ c < 0x80) : c ≠ 34 ∧ c ≠ 92 ∧ ¬ c < 0x20 := by
  refine ⟨?_, ?_, ?_⟩
  · intro h; subst h; exact hc (by decide)
  · intro h; subst h; exact hc (by decide)
  · intro h; apply hc; simp only [UInt8.lt_iff_toNat_lt] at *; simp at *; omega

private theorem parse_good (f : Nat) (c : UInt8) (Y acc : List UInt8) (r w : Nat) (hc : ¬ c < 0x80)
    (hd : Json.decodeRune (c :: Y) = (r, w)) (hw : 2 ≤ w) :
    Json.parseStr (f + 1) (c :: Y) acc
      = Json.parseStr f ((c :: Y).drop w) (acc ++ (c :: Y).take w) := by
  obtain ⟨h1, h2, h3⟩ := ge80_ne c hc
  rw [Json.parseStr]
  · have hw1 : w ≠ 1 := by omega
    simp [h3, hc, hd, hw1]
  · exact h1
  · exact fun _ _ h _ => h2 h

private theorem san_step (f : Nat) (c : UInt8) (rest acc : List UInt8) (r w : Nat)
    (hd : Json.decodeRune (c :: rest) = (r, w)) :
    Json.sanitize.go (f + 1) (c :: rest) acc =
      if (r == 0xFFFD && w == 1) = true then Json.sanitize.go f rest (acc ++ [0xEF, 0xBF, 0xBD])
      else Json.sanitize.go f ((c :: rest).drop w) (acc ++ (c :: rest).take w) := by
  simp only [Json.sanitize.go, hd, List.drop_succ_cons, List.drop_zero]

private theorem san_ascii (f : Nat) (c : UInt8) (rest acc : List UInt8) (hc : c < 0x80) :
    Json.sanitize.go (f + 1) (c :: rest) acc = Json.sanitize.go f rest (acc ++ [c]) := by
  have hd := Utf8.decodeRune_ascii c rest (UInt8.lt_iff_toNat_lt.1 hc)
  have h : (c.toNat == 0xFFFD) = false := by
    have := UInt8.lt_iff_toNat_lt.mp hc
    rw [beq_eq_false_iff_ne]; simp at this; omega
  rw [san_step f c rest acc _ _ hd, h]
  rfl

private theorem san_good (f : Nat) (c : UInt8) (rest acc : List UInt8) (r w : Nat)
    (hd : Json.decodeRune (c :: rest) = (r, w)) (hw : 2 ≤ w) :
    Json.sanitize.go (f + 1) (c :: rest) acc
      = Json.sanitize.go f ((c :: rest).drop w) (acc ++ (c :: rest).take w) := by
  have hw1 : (w == 1) = false := by rw [beq_eq_false_iff_ne]; omega
  rw [san_step f c rest acc r w hd, hw1, Bool.and_false]
  rfl

theorem scan_nil (f : Nat) : scan f [] = [] := by
  cases f <;> simp [scan]

theorem scan_plain (f : Nat) (c : UInt8) (rest : List UInt8) (h : (c != 92 && c != 34 && c ≥ 0x20 && c < 0x80) = true) :
    scan (f + 1) (c :: rest) = c :: scan f rest := by
  simp only [scan, h, if_true]

theorem scan_esc (f : Nat) (c : UInt8) (rest : List UInt8) (h : (c != 92 && c != 34 && c ≥ 0x20 && c < 0x80) = false)
    (h4 : c < 0x80) : scan (f + 1) (c :: rest) = escapeAscii c ++ scan f rest := by
  simp only [scan, h, Bool.false_eq_true, if_false, if_pos h4]

theorem scan_bad (f : Nat) (c : UInt8) (rest : List UInt8) (hc : ¬ c < 0x80)
    (hd : Json.decodeRune (c :: rest) = (0xFFFD, 1)) :
    scan (f + 1) (c :: rest) = [92, 117, 102, 102, 102, 100] ++ scan f rest := by
  simp [scan, hc, hd]

theorem scan_ls (f : Nat) (c : UInt8) (rest : List UInt8) (r w : Nat) (hc : ¬ c < 0x80)
    (hd : Json.decodeRune (c :: rest) = (r, w)) (hw : 2 ≤ w) (hr : r = 0x2028 ∨ r = 0x2029) :
    scan (f + 1) (c :: rest) = [92, 117, 50, 48, 50, hexDigit (r % 16)] ++ scan f ((c :: rest).drop w) := by
  have hw1 : w ≠ 1 := by omega
  simp [scan, hc, hd, hw1, hr]

theorem scan_good (f : Nat) (c : UInt8) (rest : List UInt8) (r w : Nat) (hc : ¬ c < 0x80)
    (hd : Json.decodeRune (c :: rest) = (r, w)) (hw : 2 ≤ w) (hr : ¬ (r = 0x2028 ∨ r = 0x2029)) :
    scan (f + 1) (c :: rest) = (c :: rest).take w ++ scan f ((c :: rest).drop w) := by
  have hw1 : w ≠ 1 := by omega
  simp [scan, hc, hd, hw1, hr]

/-! ## The round, and the whole string -/

/-- **One round.** On `c :: rest` the writer emits a chunk `e` and goes on with `s'`; `sanitize` appends `d` and
goes on with the same `s'`; and a parser that meets `e` appends the same `d`. -/
private theorem round (c : UInt8) (rest : List UInt8) :
    ∃ e d s', s'.length ≤ rest.length ∧
      (∀ f, scan (f + 1) (c :: rest) = e ++ scan f s') ∧
      (∀ f acc, Json.sanitize.go (f + 1) (c :: rest) acc = Json.sanitize.go f s' (acc ++ d)) ∧
      (∀ f tl acc, Json.parseStr (f + 1) (e ++ tl) acc = Json.parseStr f tl (acc ++ d)) := by
  by_cases hc : c < 0x80
  · -- the Boolean test of `scan` against the three reasons to escape
    have htest : (c != 92 && c != 34 && c ≥ 0x20 && c < 0x80) = true ↔ ¬ (c = 92 ∨ c = 34 ∨ c < 0x20) := by
      simp only [Bool.and_eq_true, bne_iff_ne, decide_eq_true_eq, ge_iff_le, hc, and_true, not_or, UInt8.not_lt, and_assoc]
    by_cases he : c = 92 ∨ c = 34 ∨ c < 0x20
    · exact ⟨escapeAscii c, [c], rest, Nat.le_refl _,
        fun f => scan_esc f c rest (Bool.eq_false_iff.2 fun h => htest.1 h he) hc,
        fun f acc => san_ascii f c rest acc hc, fun f tl acc => parse_escape f c tl acc he⟩
    · have h1 : c ≠ 92 := fun h => he (Or.inl h)
      have h2 : c ≠ 34 := fun h => he (Or.inr (Or.inl h))
      have h3 : ¬ c < 0x20 := fun h => he (Or.inr (Or.inr h))
      exact ⟨[c], [c], rest, Nat.le_refl _, fun f => scan_plain f c rest (htest.2 he),
        fun f acc => san_ascii f c rest acc hc, fun f tl acc => parse_plain f c tl acc h1 h2 h3 hc⟩
  · rcases decodeRune_spec c rest hc with hd | ⟨r, w, pre, t, rfl, rfl, hw, hX, hls⟩
    · refine ⟨[92, 117, 102, 102, 102, 100], [0xEF, 0xBF, 0xBD], rest, Nat.le_refl _,
        fun f => scan_bad f c rest hc hd, fun f acc => ?_, fun f tl acc => ?_⟩
      · rw [san_step f c rest acc _ _ hd]; rfl
      · exact parse_u f _ _ _ _ tl acc 0xFFFD hex4_fffd (by omega)
    · have htd : ∀ Z : List UInt8, (c :: (pre ++ Z)).take (pre.length + 1) = c :: pre ∧
          (c :: (pre ++ Z)).drop (pre.length + 1) = Z := fun Z => by
        rw [List.take_succ_cons, List.take_left' rfl, List.drop_succ_cons, List.drop_left' rfl]
        exact ⟨rfl, rfl⟩
      have hsan : ∀ f acc, Json.sanitize.go (f + 1) (c :: (pre ++ t)) acc = Json.sanitize.go f t (acc ++ c :: pre) :=
        fun f acc => by rw [san_good f c _ acc r _ (hX t) hw, (htd t).1, (htd t).2]
      have hlen : t.length ≤ (pre ++ t).length := by rw [List.length_append]; omega
      by_cases hr : r = 0x2028 ∨ r = 0x2029
      · refine ⟨[92, 117, 50, 48, 50, hexDigit (r % 16)], c :: pre, t, hlen, fun f => ?_, hsan,
          fun f tl acc => ?_⟩
        · rw [scan_ls f c _ r _ hc (hX t) hw hr, (htd t).2]
        · have hh : Json.hex4 [50, 48, 50, hexDigit (r % 16)] = some r := by
            rcases hr with rfl | rfl
            · exact hex4_202x 8 (by decide)
            · exact hex4_202x 9 (by decide)
          rw [hls hr]
          exact parse_u f _ _ _ _ tl acc r hh (by omega)
      · refine ⟨c :: pre, c :: pre, t, hlen, fun f => ?_, hsan, fun f tl acc => ?_⟩
        · rw [scan_good f c _ r _ hc (hX t) hw hr, (htd t).1, (htd t).2]
        · rw [List.cons_append, parse_good f c _ acc r _ hc (hX _) hw, (htd _).1, (htd _).2]

/-- The token the writer emits for `s`, closed by a quote, parses to what `sanitize` makes of `s`, whatever follows;
by induction on the fuel of `scan` and `sanitize.go` (it is the same), one `round` per step. -/
theorem scan_parses : ∀ (f : Nat) (s acc tl : List UInt8) (fp : Nat), s.length < f → (scan f s).length < fp →
    Json.parseStr fp (scan f s ++ 34 :: tl) acc = some (Json.sanitize.go f s acc, tl) := by
  intro f
  induction f with
  | zero => intro s _ _ _ h; exact absurd h (Nat.not_lt_zero _)
  | succ f ih =>
    intro s acc tl fp hs hfp
    obtain ⟨fp, rfl⟩ : ∃ k, fp = k + 1 := ⟨fp - 1, by omega⟩
    match s with
    | [] => rfl
    | c :: rest =>
      obtain ⟨e, d, s', hlen, hscan, hsan, hparse⟩ := round c rest
      rw [hscan] at hfp ⊢
      rw [hsan, List.append_assoc, hparse]
      -- a chunk the parser gets through with one unit of fuel is not empty
      have : 0 < e.length := List.length_pos_iff.mpr fun h => by subst h; exact nomatch hparse 0 [34] []
      rw [List.length_append] at hfp
      rw [List.length_cons] at hs
      exact ih s' _ tl fp (by omega) (by omega)

theorem quoted_parses (s : List UInt8) :
    ∃ fuel, Json.parseStr fuel ((appendQuoted s).drop 1) [] = some (Json.sanitize s, []) :=
  ⟨_, scan_parses _ s [] [] _ (Nat.lt_succ_self _) (Nat.lt_succ_self _)⟩

theorem quoted_starts_with_quote (s : List UInt8) : (appendQuoted s).head? = some 34 := rfl

/-- Same statement in the shape used by `Json.parseVal` / `Json.parseMembers`: any trailing text `tl`
is left untouched, and the fuel those parsers pass (`length + 1`) suffices. -/
theorem quoted_parses_tail (s tl : List UInt8) :
    Json.parseStr (((appendQuoted s).drop 1 ++ tl).length + 1) ((appendQuoted s).drop 1 ++ tl) []
      = some (Json.sanitize s, tl) := by
  have e : (appendQuoted s).drop 1 ++ tl = scan (s.length + 1) s ++ 34 :: tl := List.append_assoc ..
  rw [e]
  exact scan_parses _ s [] tl _ (Nat.lt_succ_self _) (by rw [List.length_append]; omega)

/-! ## Sanity examples -/

-- "a\"b\\c"  ↦  "a\\\"b\\\\c" (with quotes)
example : appendQuoted [97, 34, 98, 92, 99] = [34, 97, 92, 34, 98, 92, 92, 99, 34] := by decide
-- control byte 0x01 ↦ \u0001
example : appendQuoted [97, 1, 98] = [34, 97, 92, 117, 48, 48, 48, 49, 98, 34] := by decide
-- 0x1f ↦ \u001f (lower-case hex), 0x7f stays raw
example : appendQuoted [0x1f, 0x7f] = [34, 92, 117, 48, 48, 49, 102, 0x7f, 34] := by decide
-- tab ↦ \t
example : appendQuoted [9] = [34, 92, 116, 34] := by decide
-- E2 80 A8 (U+2028) ↦ \u2028 ; E2 80 A9 ↦ \u2029
example : appendQuoted [0xE2, 0x80, 0xA8] = [34, 92, 117, 50, 48, 50, 56, 34] := by decide
example : appendQuoted [0xE2, 0x80, 0xA9] = [34, 92, 117, 50, 48, 50, 57, 34] := by decide
-- invalid byte FF ↦ \ufffd
example : appendQuoted [0xFF] = [34, 92, 117, 102, 102, 102, 100, 34] := by decide
-- a well-formed U+FFFD (EF BF BD) stays as is
example : appendQuoted [0xEF, 0xBF, 0xBD] = [34, 0xEF, 0xBF, 0xBD, 34] := by decide
-- truncated 3-byte sequence: each byte is replaced separately
example : appendQuoted [0xE2, 0x80] =
    [34, 92, 117, 102, 102, 102, 100, 92, 117, 102, 102, 102, 100, 34] := by decide
-- a valid 2-byte and a valid 4-byte rune stay raw
example : appendQuoted [0xC3, 0xA9, 0xF0, 0x9F, 0x98, 0x80] = [34, 0xC3, 0xA9, 0xF0, 0x9F, 0x98, 0x80, 34] := by
  decide

/-- A concrete non-trivial instance of `quoted_parses` (the theorem has no hypotheses): a mix of plain,
escaped, U+2028, invalid and well-formed-U+FFFD bytes, checked by evaluation. -/
example :
    let s : List UInt8 := [97, 34, 1, 9, 0xE2, 0x80, 0xA8, 0xFF, 0xEF, 0xBF, 0xBD, 0xC3]
    Json.parseStr 40 ((appendQuoted s).drop 1) [] = some (Json.sanitize s, []) ∧
    Json.sanitize s = [97, 34, 1, 9, 0xE2, 0x80, 0xA8, 0xEF, 0xBF, 0xBD, 0xEF, 0xBF, 0xBD, 0xEF, 0xBF, 0xBD] := by
  decide

example : ∃ fuel, Json.parseStr fuel ((appendQuoted [0xFF, 92]).drop 1) [] = some ([0xEF, 0xBF, 0xBD, 92], []) :=
  quoted_parses [0xFF, 92]

end QF.Props.C14

#print axioms QF.Props.C14.decodeRune_spec
#print axioms QF.Props.C14.scan_parses
#print axioms QF.Props.C14.quoted_parses
#print axioms QF.Props.C14.quoted_parses_tail
#print axioms QF.Props.C14.quoted_starts_with_quote
