import QF.Props.C12Read
/-!
# C12 — rows that end with CR LF (reader model and specification on documents with mixed LF / CR LF row ends)

C12Read / C13Render render every row with LF. RFC 4180 ends rows with CR LF; the property allows both. This file extends
the two chains to documents in which every row chooses its terminator (`renderRowT`, `renderDocT`):

* reader model `Full` (§1–§2): the field and row level of C12Read is stated for either line break (`C13.LineBreak`,
  `fnext_field_break`, `readerNext_break`: the last field of a CR LF row — unquoted: the scanner returns the field WITH the
  CR — `rawLast` / `rawRow` say what the row loop collects — and `Reader.Next` trims it; quoted: the CR after the closing quote is skipped); here `readerNext_rowT`,
  and `renderDocT` is a document of the grammar `C13.Doc` (`Doc.ofRowsT`), hence `readAll_loadedT`, `readAll_loaded_nfnT`
* specification `rfcParse` (§3): C13Render proves it on every document of the grammar (`Doc.parse`, either line break), hence
  `parse_renderT`, `parse_render_nfnT`

For rows that end with LF everything is taken from C12Read / C13Render.
-/
namespace QF.Props.C12CrLf
open Full QF.Props.C12Read
open QF.Props.C13 (renderField renderFields renderRow renderDoc mustQuote RowOkCore)
set_option linter.unusedSimpArgs false

/-- the row terminator: CR LF or LF -/
def term (crlf : Bool) : List Byte := if crlf then [CR, LF] else [LF]

/-- one row with its terminator -/
def renderRowT (delim : Byte) (r : List (Bool × List Byte) × Bool) : List Byte := renderFields delim r.1 ++ term r.2

/-- a document in which every row chooses its terminator -/
def renderDocT (delim : Byte) (rows : List (List (Bool × List Byte) × Bool)) : List Byte := rows.flatMap (renderRowT delim)

theorem renderRowT_lf (delim : Byte) (r : List (Bool × List Byte)) : renderRowT delim (r, false) = renderRow delim r := rfl

theorem renderDocT_lf (delim : Byte) (rows : List (List (Bool × List Byte))) :
    renderDocT delim (rows.map (fun r => (r, false))) = renderDoc delim rows := by
  simp [renderDocT, renderDoc, List.flatMap_map, renderRowT_lf]

theorem renderDocT_cons (delim : Byte) (r : List (Bool × List Byte) × Bool) (rs : List (List (Bool × List Byte) × Bool)) :
    renderDocT delim (r :: rs) = renderRowT delim r ++ renderDocT delim rs := by
  simp [renderDocT]

/-! ## §1 one row with either terminator through `readerNext` -/

/-- what the row loop collects for the last field of a CR LF row -/
def rawLast (p : Bool × List Byte) : List Byte := if p.1 then p.2 else p.2 ++ [CR]

/-- the fields the row loop collects for a CR LF row: the last one raw -/
def rawRow : List (Bool × List Byte) → List (List Byte)
  | [] => []
  | [p] => [rawLast p]
  | p :: q :: xs => p.2 :: rawRow (q :: xs)

theorem rawRow_length : ∀ r : List (Bool × List Byte), (rawRow r).length = r.length
  | [] => rfl
  | [_] => rfl
  | _ :: q :: xs => by simp [rawRow, rawRow_length (q :: xs)]

/-- `rawRow` is what `rowLoop_last` gives for a row followed by CR LF (`fnext_field_break`) -/
theorem rawRow_eq : ∀ (r : List (Bool × List Byte)) (p : Bool × List Byte), r.getLast? = some p →
    rawRow r = (r.map (·.2)).dropLast ++ [rawLast p]
  | [], p, h => by simp at h
  | [x], p, h => by
    simp only [List.getLast?_singleton, Option.some.injEq] at h
    subst h; simp [rawRow]
  | x :: y :: ys, p, h => by
    have h' : (y :: ys).getLast? = some p := by simpa [List.getLast?_cons_cons] using h
    rw [rawRow, rawRow_eq (y :: ys) p h']
    simp [List.dropLast]

theorem lineBreak_term {delim : Byte} (hd3 : delim ≠ 13) : ∀ c : Bool, C13.LineBreak delim (term c)
  | false => Or.inl rfl
  | true => Or.inr ⟨hd3, rfl⟩

/-- one rendered row, with either terminator, through `readerNext` -/
theorem readerNext_rowT (delim : Byte) (hd1 : delim ≠ 34) (hd2 : delim ≠ 10) (hd3 : delim ≠ 13) (fuel : Nat)
    (r : List (Bool × List Byte) × Bool) (fs : FS) (rest : List Byte)
    (hok : RowOk' delim r.1)
    (he : fs.err = none) (hf : fs.st.future = []) (hdr : fs.st.data.drop fs.st.cursor = renderRowT delim r ++ rest)
    (hfu : (renderRowT delim r ++ rest).length < fuel) :
    ∃ fs', readerNext delim fuel fs = some (fs', r.1.map (·.2), true) ∧ AtRow fs' rest := by
  have e : renderRowT delim r ++ rest = renderFields delim r.1 ++ (term r.2 ++ rest) := List.append_assoc ..
  rw [e] at hdr hfu
  exact readerNext_break delim hd1 hd2 fuel (lineBreak_term hd3 r.2) r.1 fs rest hok.nonempty hok.quoted hok.lastNoCR he hf hdr hfu

/-! ## §2 the whole document on the loaded buffer -/
theorem renderRowT_ne_nil (delim : Byte) (r : List (Bool × List Byte) × Bool) : renderRowT delim r ≠ [] := by
  obtain ⟨r, c⟩ := r
  cases c <;> simp [renderRowT, term]

theorem rowsT_length_le (delim : Byte) : ∀ rows : List (List (Bool × List Byte) × Bool), rows.length ≤ (renderDocT delim rows).length
  | [] => Nat.zero_le _
  | r :: rs => by
    rw [renderDocT_cons, List.length_append, List.length_cons]
    have := rowsT_length_le delim rs
    have : 1 ≤ (renderRowT delim r).length := List.length_pos_iff.mpr (renderRowT_ne_nil delim r)
    omega

/-- rows with either terminator in front of a document -/
theorem _root_.QF.Props.C13.Doc.ofRowsT {delim : Byte} (hd3 : delim ≠ 13) {ok : List (Bool × List Byte) → Prop}
    {k : Nat} {tl : List Byte} {tb : List (List (List Byte))} (d : C13.Doc delim ok k tl tb) :
    ∀ rows : List (List (Bool × List Byte) × Bool), (∀ r ∈ rows, ok r.1) →
    C13.Doc delim ok k (renderDocT delim rows ++ tl) (rows.map (·.1.map (·.2)) ++ tb)
  | [], _ => d
  | r :: rs, h => by
    rw [renderDocT_cons, renderRowT, List.append_assoc, List.append_assoc]
    exact .row r.1 (h r (List.mem_cons_self ..)) (lineBreak_term hd3 r.2)
      (d.ofRowsT hd3 rs fun x hx => h x (List.mem_cons_of_mem _ hx))

/-- a table rendered with either terminator per row, from the loaded buffer -/
theorem readAll_loadedT (delim : Byte) (hd1 : delim ≠ 34) (hd2 : delim ≠ 10) (hd3 : delim ≠ 13)
    (rows : List (List (Bool × List Byte) × Bool)) (hok : ∀ r ∈ rows, RowOk' delim r.1)
    (fuel n : Nat) (hfu : (renderDocT delim rows).length < fuel) (hn : rows.length < n) :
    readAll delim fuel n (loadedFS (renderDocT delim rows)) [] = some (rows.map (·.1.map (·.2)), some .eof) := by
  have d := C13.Doc.nil.ofRowsT (delim := delim) hd3 rows hok
  rw [List.append_nil, List.append_nil] at d
  exact d.read hd1 hd2 (loadedFS _) [] n (Or.inl ⟨rfl, rfl, rfl, Nat.zero_le _⟩) hfu (by simpa using hn)

/-- … followed by a last row without line break -/
theorem readAll_loaded_nfnT (delim : Byte) (hd1 : delim ≠ 34) (hd2 : delim ≠ 10) (hd3 : delim ≠ 13)
    (rows : List (List (Bool × List Byte) × Bool)) (last : List (Bool × List Byte))
    (hok : ∀ r ∈ rows, RowOk' delim r.1) (hlast : RowOk' delim last) (hl : last ≠ [(false, [])])
    (fuel n : Nat) (hfu : (renderDocT delim rows ++ renderFields delim last).length + 1 < fuel)
    (hn : rows.length + 1 < n) :
    readAll delim fuel n (loadedFS (renderDocT delim rows ++ renderFields delim last)) []
      = some (rows.map (·.1.map (·.2)) ++ [last.map (·.2)], some .eof) :=
  ((C13.Doc.last (delim := delim) last hlast hl).ofRowsT hd3 rows hok).read hd1 hd2 (loadedFS _) [] n (Or.inl ⟨rfl, rfl, rfl, Nat.zero_le _⟩) hfu
    (by simpa using hn)

/-! ## §3 the specification on documents with either terminator -/

/-- **`rfcParse` inverts rendering with either terminator per row.** -/
theorem parse_renderT (delim : UInt8) (hd : delim ≠ 34 ∧ delim ≠ 10 ∧ delim ≠ 13)
    (rows : List (List (Bool × Bytes) × Bool)) (h : ∀ r ∈ rows, RowOkCore delim r.1) :
    rfcParse delim (renderDocT delim rows) = rows.map (·.1.map (·.2)) := by
  have d := C13.Doc.nil.ofRowsT (delim := delim) hd.2.2 rows h
  rw [List.append_nil, List.append_nil] at d
  exact d.parse hd

/-- … and with a last row without line break -/
theorem parse_render_nfnT (delim : UInt8) (hd : delim ≠ 34 ∧ delim ≠ 10 ∧ delim ≠ 13)
    (rows : List (List (Bool × Bytes) × Bool)) (last : List (Bool × Bytes))
    (h : ∀ r ∈ rows, RowOkCore delim r.1) (hlast : RowOkCore delim last) (hl : last ≠ [(false, [])]) :
    rfcParse delim (renderDocT delim rows ++ renderFields delim last)
      = rows.map (·.1.map (·.2)) ++ [last.map (·.2)] :=
  ((C13.Doc.last (delim := delim) last hlast hl).ofRowsT hd.2.2 rows h).parse hd

/-! ## Sanity -/

/-- `a,"b␍⏎b"␍⏎` `"c",d␍⏎` `,⏎` `"x"␍⏎`: CR LF after unquoted and quoted fields, an LF row in between -/
def demoT : List (List (Bool × List Byte) × Bool) :=
  [ ([(false, [97]), (true, [98, 13, 10, 98])], true), ([(true, [99]), (false, [100])], true),
    ([(false, []), (false, [])], false), ([(true, [120])], true) ]

theorem demoT_ok : ∀ r ∈ demoT, RowOk' 44 r.1 := by
  intro r hr
  simp only [demoT, List.mem_cons, List.not_mem_nil, or_false] at hr
  rcases hr with rfl | rfl | rfl | rfl <;> exact ⟨by decide, by decide, by decide⟩

example : renderDocT 44 demoT = [97, 44, 34, 98, 13, 10, 98, 34, 13, 10, 34, 99, 34, 44, 100, 13, 10, 44, 10, 34, 120, 34, 13, 10] := by decide

example : rfcParse 44 (renderDocT 44 demoT) = demoT.map (·.1.map (·.2)) :=
  parse_renderT 44 (by decide) demoT (fun r hr => (demoT_ok r hr).core)

example : readAll 44 40 10 (loadedFS (renderDocT 44 demoT)) [] = some (demoT.map (·.1.map (·.2)), some .eof) :=
  readAll_loadedT 44 (by decide) (by decide) (by decide) demoT demoT_ok 40 10 (by decide) (by decide)

#print axioms readerNext_rowT
#print axioms readAll_loadedT
#print axioms readAll_loaded_nfnT
#print axioms parse_renderT
#print axioms parse_render_nfnT

end QF.Props.C12CrLf
