import QF.Props.C10Guards
import QF.Props.C08Guards
import QF.Props.C06EndToEnd
import QF.Props.C02ClausesLink
import QF.Props.C07EvalGen
import QF.Props.C07Decode
import QF.Props.C04GlueGen
import QF.Props.C08NewIff
/-!
# C10 end to end — invalid use yields Err, never a panic; a failed receiver comes back unchanged (one table)

`gen_invalid_use_yields_err : InvalidUse` collects, per public operation (the operations of `Gen.guardAst` —
C08Guards.gen_guards_complete — and of `Gen.guardAst2` — C10Guards.gen_guards2_complete) and per invalid-argument class of
C10's text, what the code REGENERATED from today's source returns. Every field is a statement about regenerated code; an
interpreter result `some …` is "no panic, nothing untranslated" (the interpreters return `none` for a Go panic).

| class of invalid use                         | operations (field)                                                                  |
|----------------------------------------------|-------------------------------------------------------------------------------------|
| unknown column                               | Select, Drop, Copy src (`project`) · Sort, Distinct, GroupBy, Aggregate, ToCSV       |
|                                              | (`keyed`, `groupby`) · Apply / FilteredApply sources (`apply`, `applyClasses`,      |
|                                              | `fapply`) · Filter leaf (`filter`) · Eval reference (`evalUnknown`) · New order      |
|                                              | (`new`)                                                                             |
| illegal column name                          | Copy dst (`project`) · Apply / WithRowNums destination (`applyClasses`, `rownums`)  |
|                                              | · New (`new`)                                                                       |
| bad slice bounds                             | Slice (`project`)                                                                   |
| unsupported comparator / function / arg type | Filter (`filter`: `wellFormed` = constructOk ∧ typed) · Apply function value         |
|                                              | (`applyClasses`) · Aggregate function (`keyed`: `aggsLate`) · New data type (`new`) |
| empty And / Or                               | Filter (`filter`, `filterEmpty`)                                                    |
| malformed expression                         | Eval decoder (`evalMalformed`)                                                      |
| mismatched column types                      | Apply two-source function (`applyClasses`) · Filter column-column (`filter`)         |
| failed receiver (sticky, no callback)        | every operation (`sticky`, `stickyProject`, `stickyApply`, `stickyFilter`,          |
|                                              | `stickyEval`)                                                                       |

Per-family theorems cited: C08Guards.gen_guards_reject_iff / gen_guards_sticky; C10Guards.gen_reject_semantics /
gen_sticky_all / gen_apply_unknown_source; C04GlueGen.gen_groupby_err_iff; C06EndToEnd.gen_apply_end_to_end /
gen_fapply_end_to_end / gen_rownums_end_to_end (over C06LoopsGen, C06FApplyGen); C02ClausesGen.gen_clause_filter_semantics
with C02Mirror.filter_err / mirror_wellTyped; C07Decode.gen_expr_decode_semantics; C07EvalGen.gen_eval_guard /
gen_eval_error_propagates; C08NewIff.gen_new_iff_partial (newS_err_iff).

NOT in the table (left open): the writers' and readers' I/O errors are C15 (`C15EndToEnd.gen_io_failures_reported`);
`Equals` returns a verdict, not a frame (C09EndToEnd); the later error returns of `Aggregate` inside its loop are stated on
the spec side only (`aggsLate`, `C10Sticky.groupAggS_err_iff`); a malformed `like` pattern is C18Matcher.
`New` is `_partial` exactly as `C08NewIff.gen_new_iff_partial` is.
-/
set_option linter.unusedVariables false
namespace QF.Props.C10EndToEnd
open QF
open QF.Props.C08Guards (genGuards sliceReq namesReq copyReq)
open QF.Props.C10Guards (genGuards2 sortReq keysReq aggReq csvReq withSub toInstr)
open QF.Props.C06FApplyGen (Reps PFr applyX InScope resFr FilterOK physEnv)
open QF.Props.C06EndToEnd (PhysOK logical allRows)

/-- a regenerated frame operation returned a frame with `Err` set, read through the index `ix` -/
def isErr (ix : List Nat) (X : PFr) : Prop := resFr ix X = .err

theorem resFr_err_iff (ix : List Nat) (X : PFr) : resFr ix X = .err ↔ X.err = true := by
  unfold resFr; cases X.err <;> simp

/-- **The table.** -/
structure InvalidUse : Prop where
  /-- Slice / Select / Drop / Copy: the regenerated guard chain has an outcome for EVERY request, and it is `err` exactly
  for bad bounds / an unknown column / an unknown source or an illegal destination name -/
  project : ∀ f : LFrame,
    (∀ a b, genGuards "Slice" (sliceReq f a b) = some .err ↔ a < 0 ∨ a > b ∨ b > f.n) ∧
    (∀ names, genGuards "Select" (namesReq f names) = some .err ↔ ∃ n ∈ names, f.has n = false) ∧
    (∀ names, genGuards "Drop" (namesReq f names) = some .err ↔ ∃ n ∈ names, f.has n = false) ∧
    (∀ dst src, genGuards "Copy" (copyReq f dst src) = some .err ↔
      f.has src = false ∨ (dst ≠ src ∧ legalName dst = false))
  /-- Sort / Distinct / GroupBy + Aggregate / ToCSV: rejected exactly when a named column is unknown (Aggregate also, later:
  result name taken, function not defined for the column type — `aggsLate`) -/
  keyed : ∀ f : LFrame,
    (∀ os, genGuards2 "Sort" (sortReq f os) = some .err ↔ sortKeys f os = none) ∧
    (∀ keys, genGuards2 "Distinct" (keysReq f keys) = some .err ↔ C10Sticky.distinctKeys f keys = none) ∧
    (∀ gbNull keys aggs, groupAggS f gbNull keys aggs = .err ↔
      genGuards2 "GroupBy" (keysReq f keys) = some .err ∨ genGuards2 "Aggregate" (aggReq f aggs) = some .err ∨
      C10Sticky.aggsLate f keys aggs = true) ∧
    (∀ cols, genGuards2 "ToCSV" (csvReq f cols) = some .err ↔ csvColumns f cols = none)
  /-- GroupBy, the whole regenerated function for every meaning of its callees: an error exactly on a failed frame or an
  unknown column, and then nothing is carried -/
  groupby : ∀ {κ σ : Type} (P : GG.Prims κ σ) (F : GG.Frame) (C : GG.Cfg),
    (F.err = true ∨ ∃ n ∈ C.columns, F.find? n = none) ↔ C04GlueGen.genGroupBy P F C = some { err := true }
  /-- Apply: never stuck, and `Err` is set exactly when the spec says so (first failing instruction) -/
  apply : ∀ (R : Reps) (hR : R.OK) (up : UpperOracle) (gs : List GoInstr), (∀ g ∈ gs, InScope g) →
    ∀ X : PFr, PhysOK X → X.err = false →
      ∃ X', applyX R up X (gs.map XInstr.of) = some X' ∧
        (X'.err = true ↔ applyS up (logical X) allRows false (gs.map toInstr) = .err)
  /-- … and the spec says so for: an unknown first / second source column, an illegal destination name, a two-source
  function on columns of different types, a function value of an unsupported type -/
  applyClasses : ∀ (up : UpperOracle) (m : Nat → Bool) (b : Bool) (f : LFrame),
    (∀ g : GoInstr, g.src1 ≠ [] → f.has g.src1 = false → applyInstr up f m (toInstr g) b = .err) ∧
    (∀ g : GoInstr, g.src1 ≠ [] → g.src2 ≠ [] → f.has g.src2 = false → applyInstr up f m (toInstr g) b = .err) ∧
    (∀ dst k, legalName dst = false → applyInstr up f m ⟨dst, none, none, .const k⟩ b = .err) ∧
    (∀ dst s1 s2 id c1 c2, f.find? s1 = some c1 → f.find? s2 = some c2 → c1.ty ≠ c2.ty →
      applyInstr up f m ⟨dst, some s1, some s2, .f2 id⟩ b = .err) ∧
    (∀ dst s1 s2, applyInstr up f m ⟨dst, s1, s2, .bad⟩ b = .err)
  /-- FilteredApply: never stuck; `Err` exactly when the spec's `filteredApplyS` fails (malformed clause, or a failing
  instruction) -/
  fapply : ∀ (R : Reps) (hR : R.OK) (lo : LikeOracle) (up : UpperOracle) (c : Clause) (gs : List GoInstr),
    (∀ g ∈ gs, InScope g) → ∀ (X : PFr) (filt : PFr → Option PFr), FilterOK lo c filt X → PhysOK X → X.err = false →
      ∃ Y, runFA (physEnv R up X [] filt gs) Gen.fapplyAst [] = some Y ∧
        (Y.err = true ↔ filteredApplyS lo up (logical X) c (gs.map toInstr) true = .err)
  /-- WithRowNums: never stuck; `Err` exactly for an illegal column name -/
  rownums : ∀ (R : Reps) (up : UpperOracle) (X : PFr) (name : Bytes), PhysOK X → X.err = false →
    ∃ Y, runFA (physEnv R up X name (fun _ => none) []) Gen.rowNumsFnAst [] = some Y ∧
      (Y.err = true ↔ legalName name = false)
  /-- Filter: for every clause the spec calls not well formed on the frame — a leaf on an unknown column, with an unknown
  comparator, an argument of the wrong type, two columns of different types; an empty And / Or anywhere — the regenerated
  clause evaluation returns (no panic) a frame with `Err` set, whatever the index is -/
  filter : ∀ (O : F.Leaf → CL.LeafCalls), (∀ l, (O l).Abstracts l) → ∀ (lo : LikeOracle) (f : LFrame) (c : Clause),
    c.wellFormed lo f = false → ∀ Fr : F.Frame,
      ∃ g, CL.interp Gen.clauseFns O (Drv.mirrorClause lo f c) Fr = some g ∧ g.err = true
  /-- … an empty And / Or is not well formed, on every frame, also below a Not -/
  filterEmpty : ∀ (lo : LikeOracle) (f : LFrame),
    (Clause.and []).wellFormed lo f = false ∧ (Clause.or []).wellFormed lo f = false ∧
    (Clause.not (.and [])).wellFormed lo f = false
  /-- Eval: a reference to a column the frame does not have gives the receiver with an error; nothing is executed -/
  evalUnknown : ∀ (ctx : Fr.Ctx) (f : Fr.Frame) (dst : String) (e : C07Eval.Ex'), f.err = none →
    ∀ c, (C07Eval.refs e).find? (fun n => !Fr.contains f n) = some c →
      C07EvalGen.genEval ctx f dst e = some (C08.withErr f .other)
  /-- Eval: the regenerated decoder terminates on every raw expression tree and reports an error exactly when the tree has
  a malformed part -/
  evalMalformed : ∀ (nm : Bytes → String) (x : RawExpr), C07Decode.wf x = true →
    ∃ d, Gen.newExprAst.decode x = some d ∧ d.isErr = C07Decode.hasBad (C07Decode.read nm x)
  /-- New (partial, as C08NewIff.gen_new_iff_partial): an error exactly when a rule of the text is violated -/
  new : ∀ (plain : Bytes → Bool) (cols : List NewCol) (order : List Bytes) (enums : List (Bytes × List Bytes)),
    (∀ c ∈ cols, C08EndToEnd.TypedFor enums c) → (C08Guards.specOrder cols order).Nodup →
      (C08Construct.genNew C08EndToEnd.genCtors plain cols order enums = some Res.err ↔ C08NewIff.NewViolation cols order enums)
  /-- sticky: every guard chain of `guardAst2` ends at its first step on a failed receiver, for ALL requests -/
  sticky : ∀ q : GReq,
    (q.hasErr = true → ∀ op ∈ ["Sort", "Distinct", "apply0", "apply1", "apply2", "Eval", "Filter", "filterLeaf"],
      genGuards2 op q = some .returnSelf) ∧
    (q.hasErr = true → genGuards2 "FilteredApply" (withSub q) = some .returnSelf) ∧
    (q.hasErr = true → genGuards2 "GroupBy" q = some .carryErr) ∧
    (q.grouperErr = true → ∀ op ∈ ["Aggregate", "QFrames"], genGuards2 op q = some .carryErr) ∧
    (q.hasErr = true → ∀ op ∈ ["ToCSV", "ToJSON", "ToSQL"], genGuards2 op q = some .err)
  /-- … and of `guardAst` -/
  stickyProject : ∀ q : GReq, q.hasErr = true →
    ∀ op ∈ ["Slice", "Select", "Drop", "Copy"], genGuards op q = some .returnSelf
  /-- Apply / FilteredApply / WithRowNums as whole regenerated operations: a failed receiver comes back AS IT IS (same
  columns, same index, same error); no helper loop runs, so no user function is called -/
  stickyApply : ∀ (R : Reps) (up : UpperOracle) (X : PFr), X.err = true →
    (∀ gs : List GoInstr, applyX R up X (gs.map XInstr.of) = some X) ∧
    (∀ (hR : R.OK) (lo : LikeOracle) (c : Clause) (gs : List GoInstr) (filt : PFr → Option PFr), (∀ g ∈ gs, InScope g) →
      FilterOK lo c filt X → PhysOK X → runFA (physEnv R up X [] filt gs) Gen.fapplyAst [] = some X) ∧
    (∀ name : Bytes, PhysOK X → runFA (physEnv R up X name (fun _ => none) []) Gen.rowNumsFnAst [] = some X)
  /-- Filter: a failed frame comes back as it is, whatever the clause is (no leaf is evaluated) -/
  stickyFilter : ∀ (O : F.Leaf → CL.LeafCalls), (∀ l, (O l).Abstracts l) → ∀ (c : F.Clause) (Fr : F.Frame), Fr.err = true →
    CL.interp Gen.clauseFns O c Fr = some Fr
  /-- Eval: every `execute` returns a failed frame as it is -/
  stickyEval : ∀ (ctx : Fr.Ctx) (e : C07Eval.Ex') (f : Fr.Frame), f.err.isSome = true →
    ∃ n, C07EvalGen.genExecute ctx e f = some (f, n)

/-- **Invalid use yields Err — the table holds of the code regenerated from today's source.** -/
theorem gen_invalid_use_yields_err : InvalidUse where
  project := C08Guards.gen_guards_reject_iff
  keyed := fun f => by
    obtain ⟨h1, h2, h3, _, h5⟩ := C10Guards.gen_reject_semantics f
    exact ⟨h1, h2, h3, h5⟩
  groupby := fun P F C => C04GlueGen.gen_groupby_err_iff P F C
  apply := fun R hR up gs hs X hX he => by
    obtain ⟨X', a, _, b⟩ := C06EndToEnd.gen_apply_end_to_end R hR up gs hs X hX
    obtain ⟨_, hres, _⟩ := b he
    exact ⟨X', a, by rw [← hres, resFr_err_iff]⟩
  applyClasses := fun up m b f => by
    refine ⟨fun g h1 hu => (C10Guards.gen_apply_unknown_source up m b f g).2.2.2.1 h1 hu,
      fun g h1 h2 hu => (C10Guards.gen_apply_unknown_source up m b f g).2.2.2.2 h1 h2 hu, ?_, ?_, ?_⟩
    · intro dst k hl; simp [applyInstr, hl]
    · intro dst s1 s2 id c1 c2 h1 h2 hne
      have : (c1.ty == c2.ty) = false := by simpa using hne
      simp only [applyInstr, h1, h2]
      cases fn2 id with
      | none => rfl
      | some p => obtain ⟨src, g⟩ := p; simp [this]
    · intro dst s1 s2
      cases s1 <;> cases s2 <;> simp only [applyInstr] <;> repeat' split <;> rfl
  fapply := fun R hR lo up c gs hs X filt hF hX he => by
    obtain ⟨Y, a, _, b⟩ := C06EndToEnd.gen_fapply_end_to_end R hR lo up c gs hs X filt hF hX
    obtain ⟨hres, _⟩ := b he
    exact ⟨Y, a, by rw [← hres, resFr_err_iff]⟩
  rownums := fun R up X name hX he => by
    obtain ⟨Y, a, _, b⟩ := C06EndToEnd.gen_rownums_end_to_end R up X name hX
    obtain ⟨_, hres⟩ := b he
    refine ⟨Y, a, ?_⟩
    rw [← resFr_err_iff X.index Y, hres]
    unfold rowNumsS
    cases legalName name <;> simp
  filter := fun O hO lo f c hw Fr => by
    refine ⟨_, C02ClausesGen.gen_clause_filter_semantics O hO _ Fr, ?_⟩
    exact C02Mirror.filter_err _ (by rw [C02Mirror.mirror_wellTyped]; exact hw) Fr
  filterEmpty := fun lo f => by
    refine ⟨?_, ?_, ?_⟩ <;> simp [Clause.wellFormed, Clause.constructOk]
  evalUnknown := fun ctx f dst e he c hc => (C07EvalGen.gen_eval_guard ctx f dst e he).1 c hc
  evalMalformed := fun nm x h => by
    obtain ⟨d, h1, h2, _, _⟩ := C07Decode.gen_expr_decode_semantics nm x h
    exact ⟨d, h1, h2⟩
  new := fun plain cols order enums ht hnd => (C08NewIff.gen_new_iff_partial plain cols order enums ht hnd).2.1
  sticky := C10Guards.gen_sticky_all
  stickyProject := C08Guards.gen_guards_sticky
  stickyApply := fun R up X he => by
    refine ⟨fun gs => C06FApplyGen.applyX_err R up X he gs, ?_, ?_⟩
    · intro hR lo c gs filt hs hF hX
      obtain ⟨Y, a, b, _⟩ := C06EndToEnd.gen_fapply_end_to_end R hR lo up c gs hs X filt hF hX
      rw [a, b he]
    · intro name hX
      obtain ⟨Y, a, b, _⟩ := C06EndToEnd.gen_rownums_end_to_end R up X name hX
      rw [a, b he]
  stickyFilter := fun O hO c Fr he => by
    rw [C02ClausesGen.gen_clause_filter_semantics O hO, F.filter_of_err c Fr he]
  stickyEval := fun ctx e f h => (C07EvalGen.gen_eval_error_propagates ctx).1 e f h

/-! ## Examples: concrete invalid requests meet the hypotheses -/

def exA : LCol := { name := [97], ty := .int, cells := #[.int 1, .int 2] }
def exB : LCol := { name := [98], ty := .string, cells := #[.str (some [120]), .str none] }
def exF : LFrame := { cols := [exA, exB], n := 2 }

/-- unknown column (Select, Sort), bad bounds (Slice), illegal name (Copy to `""`), on the example frame -/
example :
    genGuards "Select" (namesReq exF [[122]]) = some .err ∧
    genGuards "Slice" (sliceReq exF 1 3) = some .err ∧
    genGuards "Copy" (copyReq exF [] [97]) = some .err ∧
    genGuards2 "Sort" (sortReq exF [{ col := [122], reverse := false, nullLast := false }]) = some .err := by
  have t := gen_invalid_use_yields_err
  refine ⟨((t.project exF).2.1 _).2 ⟨[122], by simp, by decide⟩, ((t.project exF).1 1 3).2 (by decide),
    ((t.project exF).2.2.2 [] [97]).2 (.inr ⟨by decide, by decide⟩), ((t.keyed exF).1 _).2 (by decide)⟩

/-- a two-source function on an int and a string column: mismatched column types -/
example (up : UpperOracle) (id : String) :
    applyInstr up exF allRows ⟨[99], some [97], some [98], .f2 id⟩ false = .err :=
  (gen_invalid_use_yields_err.applyClasses up allRows false exF).2.2.2.1 [99] [97] [98] id exA exB rfl rfl
    (by decide)

#print axioms gen_invalid_use_yields_err

end QF.Props.C10EndToEnd
