import QF.Props.C02Spec
import QF.Props.C02Kernels
import QF.Gen.Dispatch
import QF.Props.C17Enum
/-!
# C02 / C17 — the filter DISPATCH of today's source decides what the spec decides (tie T1, by semantics)

`QF.Gen.dispatchAst` (regenerated on every run by go/cmd/extract/dast.go) holds, for each of the five column packages,
the body of `func (c Column) filterBuiltIn(index, comparator string, comparatee interface{}, bIndex) error` as a term of
`QF.DE` (QF/Core/DExpr.lean): the decision on the dynamic type of the comparatee, the table look-ups with their "unknown
operator" errors, the "invalid comparison type" error, the NaN test, and for enums the search of the constant in the
value table, the `strict` error, the non-strict shortcut and `equalTypes`; `Gen.entryAst` holds `Column.Filter`,
`filterCustom1`, `filterCustom2`; `Gen.equalTypesAst` ecolumn's `equalTypes`. `DE.run` is the Go meaning of such a term,
given the comparator tables (`Gen.tables`) and the kernel terms (`Gen.kernelAst`, C02Kernels). Proved here, over the
data generated TODAY:

* `gen_dispatch_no_opaque`     — every dispatcher, every entry point and `equalTypes` were translated completely
* `gen_dispatch_canon`         — each dispatcher IS the canonical tree of its package (`canon`; finite `decide`, modulo
                                 the error messages), `gen_entries_canon` the same for the entry points (by `rfl`, one
                                 column type at a time)
* `gen_equalTypes_sem`         — `equalTypes` = same value table and same number of cells
* `gen_leaf_semantics_partial` — for every frame, every column type, every comparator STRING (known or not), every kind
                                 of argument and every constant, the request being well typed (`LeafWT`: an enum table of
                                 at most 255 values, an int constant that is a Go `int`, an argument column of the
                                 receiver's length): the extracted dispatcher followed by the extracted kernel reports an
                                 error iff `leafPred` (QF/Spec/Filter.lean) is `none` for the leaf, and otherwise turns a
                                 mask entry `b` into `b || p r`, `p` the predicate of `leafPred`, on every row `r` whose
                                 two cells are cells of the columns' types (`C02Kernels.cellOk`).
                                 Excluded: a `float64` constant for an int column —
* `float_const_on_int_column_is_truncated` — there the code does NOT fail (it truncates the constant), the spec does
* `gen_enum_undeclared`, `gen_enum_undeclared_spec`, `gen_enum_declared`, `gen_enum_sets_no_error`,
  `gen_enum_col_needs_equal_types` — the rules of C17 read off the extracted dispatcher: strict + undeclared constant is an
                                 error for the six comparison operators, non-strict selects every row for `!=` and none
                                 otherwise; like / ilike / in are never errors; column against column needs equal tables
* `gen_filter_builtin`, `gen_leaf_semantics_filter_partial`, `gen_custom1_semantics`, `gen_custom2_semantics_partial` — `Column.Filter` adds no decision for a
                                 comparator string; custom predicates: error iff the parameter type is not the column's
                                 (iff the comparatee of a two-argument predicate is not a column of that type)

Method as in C02Kernels: `decide` shows that each generated term is the canonical one; `canon`'s meaning is compared with
`C02Spec.route`, the spec of a leaf on two cells, kind of argument by kind of argument (`dispatch_route`: no frame, no
rows), a table look-up with its kernel call being what `C02Kernels.tab*_sem` say the table is; `C02Spec.leafPred_builtin`
and `prep_eq` (the preamble `prep` is the spec's `resolve`) carry that to `leafPred`.

`prep` is a hand-written model of the preamble of `QFrame.filter` (look-up of the argument column, promotion of an int
column compared with a float column); `C02EndToEnd.prepGen_eq` shows that it is `prepWith` with the promotion rules
read from the generated `Gen.clauseFns`.
-/
namespace QF.Props.C02Dispatch
open QF QF.Props.C02Kernels

theorem mem_tys {ty : CType} (h : ty ∈ tys) : ty = .int ∨ ty = .float ∨ ty = .bool ∨ ty = .string ∨ ty = .enum := by
  simpa [tys] using h

theorem pkgOf_eq : DE.pkgOf = pkgOf := by funext t; cases t <;> rfl

def dispatchOf (ty : CType) : DE := (Gen.dispatchAst.lookup (DE.pkgOf ty)).getD (.opaque "missing")

theorem gen_dispatch_no_opaque :
    (∀ d ∈ Gen.dispatchAst, d.2.hasOpaque = false) ∧ (∀ d ∈ Gen.entryAst, d.2.2.hasOpaque = false) ∧
    (∀ s ∈ Gen.equalTypesAst, s.hasOpaque = false) := by decide +kernel

/-- an error, its message erased (`DE.untag`) -/
def E0 : DE := .err ""
def look (tab : String) (role : DRole) (ret : Bool) : DE := .lookup tab (.callKernel role ret) E0

/-- ecolumn, string constant: the six comparators search the constant in the value table; found: the kernel with the
position; not found: error if strict, else every row for `!=`, no row otherwise. like / ilike build a bitset. -/
def onStrEnum : DE :=
  .lookup "filterFuncs1"
    (.enumSearch (.callKernel .const false) (.ifStrict E0 (.ifOpIs "!=" .fillAllTrue .nothing)))
    (.lookup "multiFilterFuncs" (.callBitset "Column.filterWithBitset" .const true) E0)

/-- ecolumn's dispatcher with `d` for a string constant -/
def canonEnumWith (d : DE) : DE :=
  .typeSwitch E0 E0 E0 d E0 (.lookup "multiInputFilterFuncs" (.callBitset "Column.filterWithBitset" .set false) E0)
    (.ifEqualTypes (look "filterFuncs2" .col2 false) E0) (look "filterFuncs0" .none false) E0

/-- The branches of `typeSwitch` are, in this order: int, float64, bool, string, []int, []string, Column, nil, anything
else (QF/Core/DExpr.lean). `ret = true` only in scolumn, the one package that writes `return filterFn(…)`. -/
def canon : CType → DE
  | .int => .typeSwitch (look "filterFuncs" .const false) (.lookup "filterFuncs" (.convert .floatToInt (.callKernel .const false)) E0)
      E0 E0 (look "multiInputFilterFuncs" .set false) E0 (look "filterFuncs2" .col2 false) (look "filterFuncs0" .none false) E0
  | .float => .typeSwitch E0 (.ifNaN E0 (look "filterFuncs1" .const false)) E0 E0 E0 E0 (look "filterFuncs2" .col2 false)
      (look "filterFuncs0" .none false) E0
  | .bool => .typeSwitch E0 E0 (look "filterFuncs" .const false) E0 E0 E0 (look "filterFuncs2" .col2 false) E0 E0
  | .string => .typeSwitch E0 E0 E0 (look "filterFuncs1" .const true) E0 (look "multiInputFilterFuncs" .set true)
      (look "filterFuncs2" .col2 true) (look "filterFuncs0" .none true) E0
  | .enum => canonEnumWith onStrEnum
  | .undef => .opaque "missing"

theorem gen_dispatch_canon : ∀ ty ∈ tys, (dispatchOf ty).untag = canon ty := by decide +kernel

theorem run_untag (E : DEnv) (sub : String → DSt → DRes) (d : DE) : ∀ σ, d.untag.run E sub σ = d.run E sub σ := by
  induction d with
  | typeSwitch a b c d e f g h i iha ihb ihc ihd ihe ihf ihg ihh ihi =>
    intro σ; simp only [DE.untag, DE.run]; split <;> simp [*]
  | lookup t a b iha ihb => intro σ; simp only [DE.untag, DE.run, iha, ihb]
  | ifNaN a b iha ihb => intro σ; simp only [DE.untag, DE.run, iha, ihb]
  | enumSearch a b iha ihb => intro σ; simp only [DE.untag, DE.run, iha, ihb]
  | ifStrict a b iha ihb => intro σ; simp only [DE.untag, DE.run, iha, ihb]
  | ifOpIs o a b iha ihb => intro σ; simp only [DE.untag, DE.run, iha, ihb]
  | ifEqualTypes a b iha ihb => intro σ; simp only [DE.untag, DE.run, iha, ihb]
  | cmpSwitch a b c d iha ihb ihc ihd => intro σ; simp only [DE.untag, DE.run, iha, ihb, ihc, ihd]
  | convert c k ih => intro σ; simp only [DE.untag, DE.run, ih]
  | err t => intro σ; simp only [DE.untag, DE.run]
  | _ => intro σ; rfl

theorem run_dispatchOf (E : DEnv) {ty : CType} (h : ty ∈ tys) : E.runBuiltIn (dispatchOf ty) = E.runBuiltIn (canon ty) := by
  unfold DEnv.runBuiltIn
  rw [← run_untag, gen_dispatch_canon ty h]

def allOps : List String := ["<", "<=", ">", ">=", "=", "!=", "isnull", "isnotnull", "in", "like", "ilike", "any_bits", "all_bits"]

/-- The environment of a call on today's source. `P.lo` is overwritten by `lo`: the kernels (`KParams.lo`) and `preOk`
(`DEnv.lo`) must consult the same oracle. `i2f` is carried for `DConv.intToFloat`, a conversion no dispatcher of
today's source makes. -/
def today (lo : LikeOracle) (f2i : UInt64 → Int) (i2f : Int → UInt64) (P : KParams) (c : LCol) (cmp : DCmp) (arg : DArg) : DEnv :=
  { tables := Gen.tables, kernels := Gen.kernelAst, entries := Gen.entryAst, eqTypes := Gen.equalTypesAst, lo := lo, f2i := f2i, i2f := i2f,
    P := { P with lo := lo }, ty := c.ty, vals := c.vals, strict := c.strict, n := c.cells.size, cmp := cmp, arg := arg }

theorem tableFn_today {lo f2i i2f P c cmp arg} (tab op : String) :
    (today lo f2i i2f P c cmp arg).tableFn tab op = tableFn (pkgOf c.ty) tab op := by
  simp only [DEnv.tableFn, today, pkgOf_eq]; rfl

theorem kernel_today {lo f2i i2f P c cmp arg} (fn : String) :
    (today lo f2i i2f P c cmp arg).kernel fn = kernelOf (pkgOf c.ty) fn := by
  simp only [DEnv.kernel, today, pkgOf_eq]; rfl

/-- What `QFrame.filter` hands to `Column.Filter` for the argument of a leaf on column `c`: the receiver (an int column
compared with a float column is replaced by its float image), the comparatee as a Go value, and the column whose cells
the kernel sees as second operand. `none`: `QFrame.filter` itself rejects the leaf (unknown argument column). -/
def prep (f : LFrame) (c : LCol) : Arg → Option (LCol × DArg × LCol)
  | .col an =>
    match f.find? an with
    | none => none
    | some ac =>
      let c' := if c.ty == .int && ac.ty == .float then promote c else c
      let ac' := if c.ty == .float && ac.ty == .int then promote ac else ac
      some (c', .col ac'.ty ac'.vals ac'.cells.size, ac')
  | .cell (.int v) => some (c, .int v, c)
  | .cell (.float b) => some (c, .float b, c)
  | .cell (.bool b) => some (c, .bool b, c)
  | .cell (.str (some s)) => some (c, .str s, c)
  | .cell (.str none) => some (c, .other, c)
  | .nil => some (c, .nil, c)
  | .ints l => some (c, .ints l, c)
  | .strs l => some (c, .strs l, c)
  | .bad => some (c, .other, c)

/-- the comparatee `Column.Filter` is handed for an argument, `ac` the resolved argument column -/
def dargOf : Arg → LCol → DArg
  | .col _, ac => .col ac.ty ac.vals ac.cells.size
  | .cell (.int v), _ => .int v
  | .cell (.float b), _ => .float b
  | .cell (.bool b), _ => .bool b
  | .cell (.str (some s)), _ => .str s
  | .cell (.str none), _ => .other
  | .nil, _ => .nil
  | .ints l, _ => .ints l
  | .strs l, _ => .strs l
  | .bad, _ => .other

/-- `prep` is the spec's `resolve` plus the Go value of the argument. -/
theorem prep_eq (f : LFrame) (c : LCol) (a : Arg) : prep f c a = (C02Spec.resolve f c a).map fun p => (p.1, dargOf a p.2, p.2) := by
  cases a with
  | col an =>
    simp only [prep, C02Spec.resolve]
    cases f.find? an with
    | none => rfl
    | some ac =>
      simp only [Option.map_some, dargOf]
      by_cases hA : (c.ty == .int && ac.ty == .float) = true
      · have hB : (c.ty == .float && ac.ty == .int) = false := by simp at hA; simp [hA.1]
        simp only [hA, hB, if_true, Bool.false_eq_true, if_false]
      · by_cases hB : (c.ty == .float && ac.ty == .int) = true <;> simp only [hA, hB, if_true, Bool.false_eq_true, if_false]
  | cell k => rcases k with _ | _ | _ | (_ | _) <;> rfl
  | _ => rfl

/-- The result of a call against the spec's verdict `p?` for the leaf: an error iff `none`; otherwise, on every row whose
two cells are cells of the types of `c'` / `ac'`, the update leaves `b || p r` in an entry that held `b`. `r` ranges over
all of `Nat` (`cells[r]!`). -/
def Agrees (r : DRes) (c' ac' : LCol) (p? : Option (Nat → Bool)) : Prop :=
  match r, p? with
  | .err, none => True
  | .upd u, some p => ∀ (r : Nat) (b : Bool), cellOk c'.ty c'.vals c'.cells[r]! = true → cellOk ac'.ty ac'.vals ac'.cells[r]! = true →
      u c'.cells[r]! ac'.cells[r]! b = some (b || p r)
  | _, _ => False

theorem agrees_err {c' ac' : LCol} : Agrees .err c' ac' none := trivial

theorem agrees_none {r : DRes} {c ac : LCol} (h : Agrees r c ac none) : r = .err := by
  cases r <;> simp [Agrees] at h ⊢

theorem agrees_some {r : DRes} {c ac : LCol} {p : Nat → Bool} (h : Agrees r c ac (some p)) :
    ∃ u, r = .upd u ∧ ∀ (r : Nat) (b : Bool), cellOk c.ty c.vals c.cells[r]! = true → cellOk ac.ty ac.vals ac.cells[r]! = true →
      u c.cells[r]! ac.cells[r]! b = some (b || p r) := by
  cases r with
  | upd u => exact ⟨u, rfl, h⟩
  | err => simp [Agrees] at h
  | stuck => simp [Agrees] at h

section
variable {lo : LikeOracle} {f2i : UInt64 → Int} {i2f : Int → UInt64} {P : KParams} {c : LCol} {cmp : DCmp} {arg : DArg}
@[simp] theorem today_ty : (today lo f2i i2f P c cmp arg).ty = c.ty := rfl
@[simp] theorem today_vals : (today lo f2i i2f P c cmp arg).vals = c.vals := rfl
@[simp] theorem today_strict : (today lo f2i i2f P c cmp arg).strict = c.strict := rfl
@[simp] theorem today_n : (today lo f2i i2f P c cmp arg).n = c.cells.size := rfl
@[simp] theorem today_cmp : (today lo f2i i2f P c cmp arg).cmp = cmp := rfl
@[simp] theorem today_arg : (today lo f2i i2f P c cmp arg).arg = arg := rfl
@[simp] theorem today_lo : (today lo f2i i2f P c cmp arg).lo = lo := rfl
@[simp] theorem today_P : (today lo f2i i2f P c cmp arg).P = { P with lo := lo } := rfl
@[simp] theorem today_f2i : (today lo f2i i2f P c cmp arg).f2i = f2i := rfl
@[simp] theorem today_eq : (today lo f2i i2f P c cmp arg).eqTypes = Gen.equalTypesAst := rfl
@[simp] theorem today_op {op : String} : (today lo f2i i2f P c (.str op) arg).op = some op := rfl
@[simp] theorem today_start : (today lo f2i i2f P c cmp arg).start = { const := arg.const } := rfl
end

theorem not_mem_allOps {op : String} (h : op ∉ allOps) :
    isOrd6 op = false ∧ op ≠ "isnull" ∧ op ≠ "isnotnull" ∧ op ≠ "in" ∧ op ≠ "like" ∧ op ≠ "ilike" ∧ op ≠ "any_bits" ∧ op ≠ "all_bits" := by
  simp only [allOps, List.mem_cons, List.not_mem_nil, or_false, not_or] at h
  simp [isOrd6, h]

theorem tableOps_sub : ∀ t ∈ Gen.tables, ∀ e ∈ t.2.2, e.1 ∈ allOps := by decide +kernel

/-! ## One call of `filterBuiltIn` against `route`, on cells

`C02Spec.leafPred_builtin`: the spec of a leaf is `resolve` (the frame) followed by `route` (cells). The Go side has the
same shape: `prep` is `resolve` plus the Go value of the argument (`prep_eq`), and what `filterBuiltIn` then does is
compared with `route` without a frame or rows (`dispatch_route`). A look-up in a comparator table followed by the kernel
call agrees with `route` because the table does (`C02Kernels.TabSem`, `agrees_look`). -/

open C02Spec (route resolve onRows leafPred_builtin)

/-- `Agrees` on cells: the call fails where the spec rejects, and accumulates the spec's function of the two cells; `Y`:
the cells of the second column. -/
def AgreesC (r : DRes) (c : LCol) (Y : Cell → Prop) : Option (Cell → Cell → Bool) → Prop
  | none => r = .err
  | some q => ∃ u, r = .upd u ∧ ∀ x y b, cellOk c.ty c.vals x = true → Y y → u x y b = some (b || q x y)

theorem agrees_onRows {r : DRes} {c ac : LCol} {q? : Option (Cell → Cell → Bool)}
    (h : AgreesC r c (fun y => cellOk ac.ty ac.vals y = true) q?) : Agrees r c ac (q?.map (onRows c ac)) := by
  cases q? with
  | none => rw [show r = .err from h]; trivial
  | some q => obtain ⟨u, rfl, hu⟩ := h; exact fun r b hx hy => hu _ _ b hx hy

/-- every entry of a comparator table names a translated kernel (`gen_no_opaque`) -/
theorem tableFn_kernel {pkg tab op fn : String} (h : tableFn pkg tab op = some fn) : ∃ k, kernelOf pkg fn = some k := by
  unfold tableFn at h
  obtain ⟨t, ht, hl⟩ := Option.bind_eq_some_iff.1 h
  have hp : t.1 = pkg := by have := List.find?_some ht; simp only [Bool.and_eq_true, beq_iff_eq] at this; exact this.1
  have hm : (op, fn) ∈ t.2.2 := by
    obtain ⟨l1, l2, e, _⟩ := List.lookup_eq_some_iff.1 hl
    rw [e]; simp
  have := gen_no_opaque t (List.mem_of_find?_eq_some ht) (op, fn) hm
  rw [hp] at this
  cases hk : kernelOf pkg fn with
  | none => rw [hk] at this; cases this
  | some k => exact ⟨k, rfl⟩

section
variable {lo : LikeOracle} {f2i : UInt64 → Int} {i2f : Int → UInt64} {P : KParams} {c : LCol} {op : String} {arg : DArg}
  {sub : String → DSt → DRes} {σ : DSt}

/-- the call of the kernel a look-up found, in a table that is the spec `q?` of its comparators: the kernel runs where the spec
accepts, and a failing `NewMatcher` in front of its loop is the spec's rejection -/
theorem agrees_callKernel {tab fn role ret P' k Y q?} (hfn : tableFn (pkgOf c.ty) tab op = some fn) (hσ : σ.fn = some fn)
    (hr : roleArgs (today lo f2i i2f P c (.str op) arg) σ true role = some (P', k))
    (h : TabSem lo ret c.ty c.vals P' k Y (genKernel (pkgOf c.ty) tab op) q?) :
    AgreesC ((DE.callKernel role ret).run (today lo f2i i2f P c (.str op) arg) sub σ) c Y q? := by
  obtain ⟨⟨sh, ke⟩, hp⟩ := tableFn_kernel hfn
  rw [show genKernel (pkgOf c.ty) tab op = some (sh, ke) by unfold genKernel genKernelIn; rw [hfn]; exact hp] at h
  unfold DE.run
  simp only [hσ, Option.bind_some, kernel_today, hp, hr, today_lo]
  cases q? with
  | none => obtain ⟨rfl, hpre⟩ := h; simp only [hpre, if_true]; rfl
  | some q => obtain ⟨hpre, hq⟩ := h; simp only [hpre]; exact ⟨_, rfl, hq⟩

/-- **A look-up in a table that is the spec `q?` of its comparators, followed by the kernel call**: hit, miss and failing
`NewMatcher` alike. -/
theorem agrees_look {tab role ret P' k Y q?}
    (hr : ∀ fn, roleArgs (today lo f2i i2f P c (.str op) arg) { σ with fn := fn } true role = some (P', k))
    (h : TabSem lo ret c.ty c.vals P' k Y (genKernel (pkgOf c.ty) tab op) q?) :
    AgreesC ((look tab role ret).run (today lo f2i i2f P c (.str op) arg) sub σ) c Y q? := by
  unfold look DE.run
  simp only [today_op, tableFn_today]
  cases hf : tableFn (pkgOf c.ty) tab op with
  | some fn => exact agrees_callKernel hf rfl (hr _) h
  | none =>
    rw [show genKernel (pkgOf c.ty) tab op = none by unfold genKernel genKernelIn; rw [hf]; rfl] at h
    cases q? with
    | none => rfl
    | some q => exact h.elim
end

/-! ### column against column -/

theorem gen_equalTypes_canon :
    Gen.equalTypesAst = [.rejectIf (.or .lenValuesNe .lenDataNe), .rejectIfValueDiffers, .accept] := by decide

/-- `equalTypes` of today's source: same value table and same number of cells. -/
theorem gen_equalTypes_sem (v1 v2 : List Bytes) (n1 n2 : Nat) :
    runEqualTypes v1 n1 v2 n2 Gen.equalTypesAst = some (decide (v1 = v2 ∧ n1 = n2)) := by
  rw [gen_equalTypes_canon]
  simp only [runEqualTypes, QCond.eval]
  by_cases hl : v1.length = v2.length
  · by_cases hn : n1 = n2
    · subst hn
      simp only [hl, bne_self_eq_false, Bool.or_self, Nat.lt_irrefl, if_false, and_true]
      by_cases he : v1 = v2
      · subst he
        simp
      · have : (List.range v2.length).any (fun i => v1[i]! != v2[i]!) = true := by
          rw [List.any_eq_true]
          apply Classical.byContradiction
          intro hne
          apply he
          apply List.ext_getElem hl
          intro i h1 h2
          apply Classical.byContradiction
          intro hd
          apply hne
          refine ⟨i, by simpa using h2, ?_⟩
          simp [h1, h2, hd]
        simp only [this, if_true]
        simp [he]
    · have : (n1 != n2) = true := by simpa using hn
      simp [this, hn]
  · have : (v1.length != v2.length) = true := by simpa using hl
    have hne : ¬ v1 = v2 := fun h => hl (by rw [h])
    simp [this, hne]

theorem dispatch_col (lo f2i i2f P) (c : LCol) (op : String) (hdef : c.ty ∈ tys) (ac : LCol) (an : Bytes) (hn : c.cells.size = ac.cells.size) :
    AgreesC ((today lo f2i i2f P c (.str op) (.col ac.ty ac.vals ac.cells.size)).runBuiltIn (canon c.ty)) c
      (fun y => cellOk ac.ty ac.vals y = true) (route lo c op ac (.col an)) := by
  by_cases hty : c.ty = ac.ty
  · have hr : ∀ fn, roleArgs (today lo f2i i2f P c (.str op) (.col ac.ty ac.vals ac.cells.size)) { const := none, fn := fn } true .col2 =
        some ({ P with lo := lo }, .int 0) := by intro fn; simp [roleArgs, hty]
    have hlook := fun ret hv => agrees_look (sub := fun _ _ => .stuck) (σ := { const := none }) (ret := ret) hr
      (tab2_sem lo ret hdef op { P with lo := lo } (.int 0) an hty hv)
    rcases mem_tys hdef with h | h | h | h | h
    -- int, float, bool, string: the type switch goes straight to the look-up
    iterate 3
      simpa [DEnv.runBuiltIn, canon, DE.run, DArg.const, ← hty, h, tab2] using hlook false (by simp [h])
    · simpa [DEnv.runBuiltIn, canon, DE.run, DArg.const, ← hty, h, tab2] using hlook true (by simp [h])
    · -- enum: `equalTypes` first
      by_cases hv : c.vals = ac.vals
      · simpa [DEnv.runBuiltIn, canon, canonEnumWith, DE.run, DArg.const, ← hty, h, gen_equalTypes_sem, hv, hn, tab2] using hlook false (fun _ => hv)
      · simp [DEnv.runBuiltIn, canon, canonEnumWith, DE.run, DArg.const, ← hty, h, gen_equalTypes_sem, hv, E0, AgreesC, route]
  · have hty' : ¬ ac.ty = c.ty := fun h => hty h.symm
    simp only [route, show (c.ty != ac.ty) = true by simpa using hty, if_true]
    rcases mem_tys hdef with h | h | h | h | h <;> simp [DEnv.runBuiltIn, canon, canonEnumWith, DE.run, h, E0, AgreesC] <;>
      rw [h] at hty' <;> simp [hty']

/-! ### nil, a constant, a list -/

theorem dispatch_nil (lo f2i i2f P) (c : LCol) (op : String) (hdef : c.ty ∈ tys) (Y : Cell → Prop) :
    AgreesC ((today lo f2i i2f P c (.str op) .nil).runBuiltIn (canon c.ty)) c Y (route lo c op c .nil) := by
  have hlook := fun ret (hty : c.ty ∈ nullTys) => agrees_look (lo := lo) (f2i := f2i) (i2f := i2f) (P := P) (c := c) (op := op) (arg := .nil)
    (sub := fun _ _ => .stuck) (σ := { const := none }) (role := .none) (ret := ret) (fun fn => rfl)
    (tab0_sem lo ret hty op { P with lo := lo } (.int 0) Y)
  rcases mem_tys hdef with h | h | h | h | h
  iterate 2
    simpa [DEnv.runBuiltIn, canon, DE.run, DArg.const, h, tab0] using hlook false (by rw [h]; decide)
  · simp [DEnv.runBuiltIn, canon, DE.run, h, E0, route, AgreesC]
  · simpa [DEnv.runBuiltIn, canon, DE.run, DArg.const, h, tab0] using hlook true (by rw [h]; decide)
  · simpa [DEnv.runBuiltIn, canon, canonEnumWith, DE.run, DArg.const, h, tab0] using hlook false (by rw [h]; decide)

/-- a constant of the column's type on an int / float / bool / string column: the type switch goes to the look-up in the
constant-argument table (a NaN is an error before it) -/
theorem dispatch_const (lo f2i i2f P) (c : LCol) (op : String) (hdef : c.ty ∈ tys) (hne : c.ty ≠ .enum) (k : Cell)
    (hk : constOk c.ty c.vals k = true) (hint : ∀ v, k = .int v → int64 v) (Y : Cell → Prop) :
    AgreesC ((today lo f2i i2f P c (.str op) (dargOf (.cell k) c)).runBuiltIn (canon c.ty)) c Y (route lo c op c (.cell k)) := by
  rw [route_const lo op c hk]
  have hlook := fun d (hr : ∀ fn, roleArgs (today lo f2i i2f P c (.str op) d) { const := some k, fn := fn } true .const = some ({ P with lo := lo }, k)) =>
    agrees_look (sub := fun _ _ => .stuck) (σ := { const := some k }) (ret := c.ty == .string) hr (tab1_sem hdef op { P with lo := lo } hk hint Y)
  simp only [hne, if_false] at hlook
  rcases mem_tys hdef with h | h | h | h | h <;> rw [h] at hk <;> obtain ⟨v, rfl⟩ := constOk_cases hk
  · simpa [DEnv.runBuiltIn, canon, DE.run, DArg.const, dargOf, h, tab1, Cell.isNull, show (CType.int == CType.string) = false from rfl]
      using hlook (.int v) (by intro fn; simp [roleArgs, h])
  · by_cases hn : F64.isNaN v = true
    · simp [DEnv.runBuiltIn, canon, DE.run, DArg.const, dargOf, h, hn, E0, Cell.isNull, AgreesC]
    · simpa [DEnv.runBuiltIn, canon, DE.run, DArg.const, dargOf, h, tab1, hn, Cell.isNull, show (CType.float == CType.string) = false from rfl]
        using hlook (.float v) (by intro fn; simp [roleArgs, h])
  · simpa [DEnv.runBuiltIn, canon, DE.run, DArg.const, dargOf, h, tab1, Cell.isNull, show (CType.bool == CType.string) = false from rfl]
      using hlook (.bool v) (by intro fn; simp [roleArgs, h])
  · simpa [DEnv.runBuiltIn, canon, DE.run, DArg.const, dargOf, h, tab1, Cell.isNull] using hlook (.str v) (by intro fn; simp [roleArgs, h])
  · exact absurd h hne

theorem dispatch_ints (lo f2i i2f P) (c : LCol) (op : String) (hty : c.ty = .int) (vs : List Int) (Y : Cell → Prop) :
    AgreesC ((today lo f2i i2f P c (.str op) (.ints vs)).runBuiltIn (canon c.ty)) c Y (route lo c op c (.ints vs)) := by
  have := agrees_look (lo := lo) (f2i := f2i) (i2f := i2f) (P := P) (c := c) (op := op) (arg := .ints vs) (sub := fun _ _ => .stuck)
    (σ := { const := none }) (tab := tabIn) (role := .set) (ret := false) (fun fn => rfl)
    (by rw [hty]; exact tabIn_int lo false hty op { ({ P with lo := lo } : KParams) with ints := vs } (.int 0) Y)
  simpa [DEnv.runBuiltIn, canon, DE.run, DArg.const, hty, tabIn] using this

theorem dispatch_strs_string (lo f2i i2f P) (c : LCol) (op : String) (hty : c.ty = .string) (vs : List Bytes) (Y : Cell → Prop) :
    AgreesC ((today lo f2i i2f P c (.str op) (.strs vs)).runBuiltIn (canon c.ty)) c Y (route lo c op c (.strs vs)) := by
  have := agrees_look (lo := lo) (f2i := f2i) (i2f := i2f) (P := P) (c := c) (op := op) (arg := .strs vs) (sub := fun _ _ => .stuck)
    (σ := { const := none }) (tab := tabIn) (role := .set) (ret := true) (fun fn => rfl)
    (by rw [hty]; exact tabIn_string lo true hty op { ({ P with lo := lo } : KParams) with strs := vs } (.int 0) Y)
  simpa [DEnv.runBuiltIn, canon, DE.run, DArg.const, hty, tabIn] using this

/-! ### enum columns: the search in the value table, bitsets over it -/

theorem bsetOf_eq : @DE.bsetOf = @bsetOf := rfl

/-- An entry of an enum table that builds a bitset over the value table, read by `filterWithBitset` (`in`, like, ilike):
what the call does, given whether the statements in front of the builder's loop let it run. -/
theorem run_bitset {lo f2i i2f P} {c : LCol} {op arg sub} {σ : DSt} {tab role checked bsh B P' k ok}
    (hty : c.ty = .enum) (hB : genKernel "ecolumn" tab op = some (bsh, B)) (hsh : bsh = "bitset" ∨ bsh = "bitset+pre")
    (hr : ∀ fn, roleArgs (today lo f2i i2f P c (.str op) arg) { σ with fn := fn } false role = some (P', k))
    (hpre : preOk lo bsh B k = some ok) :
    (DE.lookup tab (.callBitset "Column.filterWithBitset" role checked) E0).run (today lo f2i i2f P c (.str op) arg) sub σ =
      if ok then .upd (fun x y b => kstep "guarded"
        ((KE.bitset .cell).eval .enum c.vals { P' with bset := bsetOf c.vals P' k B } x y k) b)
      else if checked then .err else .stuck := by
  obtain ⟨fn, hfn, hk⟩ := Option.bind_eq_some_iff.1 hB
  have hfn' : (today lo f2i i2f P c (.str op) arg).tableFn tab op = some fn := by rw [tableFn_today, hty]; exact hfn
  have hk' : (today lo f2i i2f P c (.str op) arg).kernel fn = some (bsh, B) := by rw [kernel_today, hty]; exact hk
  have hrd : (today lo f2i i2f P c (.str op) arg).kernel "Column.filterWithBitset" = some ("guarded", .bitset .cell) := by
    rw [kernel_today, hty]; exact gen_in_canon.2.2.2
  simp only [DE.run, today_op, hfn', Option.bind_some, hk', hrd, hsh, if_true, hr, today_lo, hpre, today_ty, today_vals, hty, bsetOf_eq]
  cases ok <;> rfl

theorem agreesC_bitset {lo f2i i2f P} {c : LCol} {op arg sub} {σ : DSt} {tab role checked bsh B P' k Y} {q : Cell → Cell → Bool}
    (hty : c.ty = .enum) (hB : genKernel "ecolumn" tab op = some (bsh, B)) (hsh : bsh = "bitset" ∨ bsh = "bitset+pre")
    (hr : ∀ fn, roleArgs (today lo f2i i2f P c (.str op) arg) { σ with fn := fn } false role = some (P', k))
    (hpre : preOk lo bsh B k = some true)
    (hsem : ∀ s y, cellOk .enum c.vals (.str s) = true →
      Computes (kernelOf "ecolumn" "Column.filterWithBitset") .enum c.vals { P' with bset := bsetOf c.vals P' k B }
        (.str s) y k (q (.str s) y)) :
    AgreesC ((DE.lookup tab (.callBitset "Column.filterWithBitset" role checked) E0).run
      (today lo f2i i2f P c (.str op) arg) sub σ) c Y (some q) := by
  rw [run_bitset hty hB hsh hr hpre, if_pos rfl]
  refine ⟨_, rfl, fun x y b hx _ => ?_⟩
  rw [hty] at hx
  obtain ⟨s, rfl⟩ := wtCell_shape hx
  obtain ⟨sh', ke', he, hb⟩ := hsem s y hx
  rw [gen_in_canon.2.2.2, Option.some.injEq, Prod.mk.injEq] at he
  obtain ⟨rfl, rfl⟩ := he
  exact hb b

/-- C17 on today's `ecolumn.filterBuiltIn`: a constant that is not in the value table, under one of the six comparison
operators — an error if the column is strict; otherwise every row for `!=` and no row for the others (whatever the
cells are). -/
theorem gen_enum_undeclared (lo : LikeOracle) (f2i : UInt64 → Int) (i2f : Int → UInt64) (P : KParams) (c : LCol) (op : String) (v : Bytes)
    (hty : c.ty = .enum) (hop : isOrd6 op = true) (hv : v ∉ c.vals) :
    (today lo f2i i2f P c (.str op) (.str v)).runBuiltIn (dispatchOf c.ty) =
      if c.strict then .err else .upd (fun _ _ b => some (b || (op == "!="))) := by
  rw [run_dispatchOf _ (by rw [hty]; decide)]
  have hr : enumRank c.vals v = none := enumRank_eq_none_iff.2 hv
  obtain ⟨fn, hfn, _⟩ := Option.bind_eq_some_iff.1 (gen_cmp1_canon .enum (by decide) op (isOrd6_mem hop))
  have hfn' : (today lo f2i i2f P c (.str op) (.str v)).tableFn "filterFuncs1" op = some fn := by rw [tableFn_today, hty]; exact hfn
  by_cases hs : c.strict = true
  · simp [DEnv.runBuiltIn, canon, canonEnumWith, onStrEnum, DE.run, DArg.const, hfn', hty, hr, hs, E0]
  · by_cases hne : op = "!="
    · subst hne
      simp [DEnv.runBuiltIn, canon, canonEnumWith, onStrEnum, DE.run, DArg.const, hfn', hty, hr, hs]
    · have : (op == "!=") = false := by simpa using hne
      simp [DEnv.runBuiltIn, canon, canonEnumWith, onStrEnum, DE.run, DArg.const, hfn', hty, hr, hs, hne, this]

/-- a string constant on an enum column: the search in the value table, the strict flag, the `!=` shortcut (C17); like /
ilike through a bitset -/
theorem dispatch_enum_str (lo f2i i2f P) (c : LCol) (op : String) (hty : c.ty = .enum) (hlen : c.vals.length ≤ 255) (v : Bytes)
    (Y : Cell → Prop) :
    AgreesC ((today lo f2i i2f P c (.str op) (.str v)).runBuiltIn (canon c.ty)) c Y (route lo c op c (.cell (.str (some v)))) := by
  simp only [route, hty]
  by_cases h6 : isOrd6 op = true
  · have hm := isOrd6_mem h6
    have hcan := gen_cmp1_canon .enum (by decide) op hm
    obtain ⟨fn, hfn, hk⟩ := Option.bind_eq_some_iff.1 hcan
    have hfn' : (today lo f2i i2f P c (.str op) (.str v)).tableFn "filterFuncs1" op = some fn := by rw [tableFn_today, hty]; exact hfn
    have hk' : (today lo f2i i2f P c (.str op) (.str v)).kernel fn = some ("guarded", canon1 .enum op) := by rw [kernel_today, hty]; exact hk
    simp only [h6, if_true]
    cases hr : enumRank c.vals v with
    | some i =>
      have hrun : (today lo f2i i2f P c (.str op) (.str v)).runBuiltIn (canon .enum) =
          .upd (fun x y b => kstep "guarded" ((canon1 .enum op).eval .enum c.vals { P with lo := lo } x y (.str (some v))) b) := by
        simp [DEnv.runBuiltIn, canon, canonEnumWith, onStrEnum, DE.run, DArg.const, hfn', hk', hty, hr, roleArgs, preOk, hasPre]
      rw [hrun]
      simp only [Option.isSome_some, if_true]
      have hil : i < 255 := by
        obtain ⟨hlt, _⟩ := enumRank_eq_some_iff.1 hr
        omega
      have hc1 := fun x y hx => canon1_sem c op (by rw [hty]; exact hm) x (.str (some v)) hx
        (by simp [hty, constOk, constVal, hr, enumNull, hil]) { P with lo := lo } y
      rw [hty] at hc1
      exact ⟨_, rfl, fun x y b hx hy =>
        (tabSem_guarded (lo := lo) (ret := false) (Y := Y) fun x y hx _ => hc1 x y hx).2 x y b (by rw [← hty]; exact hx) hy⟩
    | none =>
      have hrun := gen_enum_undeclared lo f2i i2f P c op v hty h6 (enumRank_eq_none_iff.1 hr)
      rw [run_dispatchOf _ (by rw [hty]; decide), hty] at hrun
      rw [hrun]
      cases c.strict <;> simp [AgreesC]
  · simp only [h6, Bool.false_eq_true, if_false]
    have hmiss : (today lo f2i i2f P c (.str op) (.str v)).tableFn "filterFuncs1" op = none := by
      rw [tableFn_today, hty]
      exact tableFn_none (miss_tab1 (ty := .enum) (by decide) (fun m => h6 (by simpa [isOrd6, cmpOps, ops6] using m)) (by simp))
    have hrun : (today lo f2i i2f P c (.str op) (.str v)).runBuiltIn (canon .enum) =
        (DE.lookup "multiFilterFuncs" (.callBitset "Column.filterWithBitset" .const true) E0).run
          (today lo f2i i2f P c (.str op) (.str v)) (fun _ _ => .stuck) { const := some (.str (some v)) } := by
      simp only [DEnv.runBuiltIn, canon, canonEnumWith, onStrEnum, DE.run, today_arg, today_op, today_start, DArg.const, hmiss]
    rw [hrun]
    by_cases hl : op = "like" ∨ op = "ilike"
    · have hlb : (op == "like" || op == "ilike") = true := by simpa using hl
      simp only [hlb, if_true]
      -- the bitset builder of like / ilike: `m, err := NewMatcher(comp, caseSensitive)` in front of the loop
      obtain ⟨cs, hcs, _, hcan⟩ := like_canon hl
      have hpre : preOk lo "bitset+pre" (.matches .const (.lit cs) .cell) (.str (some v)) = some (lo.valid v (op == "ilike")) := by
        simp [preOk, hasPre, KE.matcher, hcs]
      have hr : ∀ fn, roleArgs (today lo f2i i2f P c (.str op) (.str v)) { const := some (.str (some v)), fn := fn } false .const =
          some ({ P with lo := lo }, .str (some v)) := by
        intro fn; simp [roleArgs, hty]
      by_cases hv : lo.valid v (op == "ilike") = true
      · simp only [hv, if_true]
        refine agreesC_bitset hty hcan (Or.inr rfl) hr (by rw [hpre, hv]) fun s y hx => ?_
        obtain ⟨B, hB, hcomp⟩ := gen_kernel_semantics_like_enum c.vals hlen op (by simpa using hl) s hx v { P with lo := lo } y
        rw [hcan] at hB
        cases hB
        cases s <;> exact hcomp
      · simp only [hv, Bool.false_eq_true, if_false]
        rw [run_bitset hty hcan (Or.inr rfl) hr hpre]
        simp only [hv, Bool.false_eq_true, if_false, if_true]
        rfl
    · have hlb : (op == "like" || op == "ilike") = false := by simpa using hl
      simp only [hlb, Bool.false_eq_true, if_false]
      have : (today lo f2i i2f P c (.str op) (.str v)).tableFn "multiFilterFuncs" op = none := by
        rw [tableFn_today, hty]
        exact tableFn_none fun hm => hl (by simpa using gen_tables_covered.2.2.2.2.1 op hm)
      simp only [DE.run, today_op, this]
      rfl

theorem dispatch_strs_enum (lo f2i i2f P) (c : LCol) (op : String) (hty : c.ty = .enum) (hlen : c.vals.length ≤ 255) (vs : List Bytes)
    (Y : Cell → Prop) :
    AgreesC ((today lo f2i i2f P c (.str op) (.strs vs)).runBuiltIn (canon c.ty)) c Y (route lo c op c (.strs vs)) := by
  simp only [route, hty]
  show AgreesC ((DE.lookup "multiInputFilterFuncs" (.callBitset "Column.filterWithBitset" .set false) E0).run
    (today lo f2i i2f P c (.str op) (.strs vs)) (fun _ _ => .stuck) { const := none }) c Y _
  by_cases hin : op = "in"
  · subst hin
    refine agreesC_bitset hty gen_in_canon.2.2.1 (Or.inl rfl) (P' := { ({ P with lo := lo } : KParams) with strs := vs })
      (k := .int 0) (fun fn => rfl) rfl fun s y hx => ?_
    obtain ⟨B, hB, hcomp⟩ := gen_kernel_semantics_in_enum c.vals hlen s hx { ({ P with lo := lo } : KParams) with strs := vs } y (.int 0)
    rw [gen_in_canon.2.2.1] at hB
    cases hB
    cases s <;> exact hcomp
  · rw [if_neg (by simpa using hin)]
    have : (today lo f2i i2f P c (.str op) (.strs vs)).tableFn "multiInputFilterFuncs" op = none := by
      rw [tableFn_today, hty]
      exact tableFn_none fun hm => hin (gen_tables_covered.2.2.2.1 .enum (by decide) _ hm)
    simp only [DE.run, today_op, this]
    rfl

/-! ## The statement -/

/-- The outcome of `QFrame.filter` for one leaf with the built-in comparator `op` on column `c` of frame `f`: the
result of the extracted dispatcher of the receiver's package (run with the extracted tables and kernels), the receiver
and the column that supplies the second operand. -/
def goLeaf (lo : LikeOracle) (f2i : UInt64 → Int) (i2f : Int → UInt64) (P : KParams) (f : LFrame) (c : LCol) (op : String) (a : Arg) :
    DRes × LCol × LCol :=
  match prep f c a with
  | none => (.err, c, c)
  | some (c', arg, ac') => ((today lo f2i i2f P c' (.str op) arg).runBuiltIn (dispatchOf c'.ty), c', ac')

/-- Well-typedness of the request: the column has one of the five types, an enum column has at most 255 values (the
representation invariant of `ecolumn.Column`, C17 `mkEnum_rank_lt_255`), an int constant is a Go `int`, and the columns
of the frame have the same number of cells (`equalTypes` compares `len(data)`; no kernel needs it). -/
structure LeafWT (f : LFrame) (l : Leaf) (c : LCol) : Prop where
  ty : c.ty ∈ tys
  enumLen : c.ty = .enum → c.vals.length ≤ 255
  goInt : ∀ v, l.arg = .cell (.int v) → int64 v
  sameLen : ∀ an ac, l.arg = .col an → f.find? an = some ac → ac.cells.size = c.cells.size

theorem promote_size (c : LCol) : (promote c).cells.size = c.cells.size := by
  unfold promote; split <;> simp

/-- the scope of `gen_leaf_semantics_partial` for a receiver `c` and a second-operand column `ac` as `resolve` returns them -/
structure CallWT (c ac : LCol) (a : Arg) : Prop where
  ty : c.ty ∈ tys
  enumLen : c.ty = .enum → c.vals.length ≤ 255
  goInt : ∀ v, a = .cell (.int v) → int64 v
  sameLen : ac.cells.size = c.cells.size
  noFloatOnInt : ¬ (c.ty = .int ∧ ∃ b, a = .cell (.float b))
  same : (∀ an, a ≠ .col an) → ac = c

theorem resolve_ty {f : LFrame} {c : LCol} {a : Arg} {p : LCol × LCol} (h : resolve f c a = some p) (hdef : c.ty ∈ tys) :
    p.1.ty ∈ tys := by
  cases a with
  | col an =>
    simp only [resolve, Option.map_eq_some_iff] at h
    obtain ⟨ac, _, rfl⟩ := h
    split
    · rename_i hA; simp at hA; simp [promote, hA.1, tys]
    · split <;> exact hdef
  | _ => cases h; exact hdef

/-- the promotion keeps the request well typed -/
theorem resolve_wt {f : LFrame} {l : Leaf} {c : LCol} {p : LCol × LCol} (hwt : LeafWT f l c)
    (hex : ¬ (c.ty = .int ∧ ∃ b, l.arg = .cell (.float b))) (h : resolve f c l.arg = some p) : CallWT p.1 p.2 l.arg := by
  cases harg : l.arg with
  | col an =>
    have h0 := h
    rw [harg] at h
    simp only [resolve, Option.map_eq_some_iff] at h
    obtain ⟨ac, hac, rfl⟩ := h
    have hsz := hwt.sameLen an ac harg hac
    refine ⟨resolve_ty (harg ▸ h0) hwt.ty, ?_, fun v h => (by cases h), ?_, fun ⟨_, b, h⟩ => (by cases h), fun h => absurd rfl (h an)⟩
    · split
      · rename_i hA; simp at hA; simp [promote, hA.1]
      · split <;> exact hwt.enumLen
    · split
      · rw [promote_size]; exact hsz
      · split
        · rw [promote_size]; exact hsz
        · exact hsz
  | _ =>
    rw [harg] at h hex
    cases h
    exact ⟨hwt.ty, hwt.enumLen, fun v hv => hwt.goInt v (harg ▸ hv), rfl, hex, fun _ => rfl⟩

/-- A comparatee of a kind the type switch of the package's `filterBuiltIn` has no case for is an error (a `float64`
for an int column apart: `intComp` converts it). -/
theorem run_argMisfit (lo f2i i2f P) (c ac : LCol) (op : String) (a : Arg) (hdef : c.ty ∈ tys)
    (h : C02Spec.argFits c.ty a = false) (hex : ¬ (c.ty = .int ∧ ∃ b, a = .cell (.float b))) :
    (today lo f2i i2f P c (.str op) (dargOf a ac)).runBuiltIn (canon c.ty) = .err := by
  rcases mem_tys hdef with hty | hty | hty | hty | hty <;> rw [hty] at h ⊢
  -- every (type, kind) pair: `argFits` holds, or the branch of the type switch is an error, or it is the excluded pair
  all_goals
    rcases a with (_ | b | _ | (_ | _)) | _ | _ | _ | _ | _ <;>
    first | contradiction | rfl | exact absurd ⟨hty, b, rfl⟩ hex

/-- **The call of `filterBuiltIn` against `route`**, on cells: every column type, every comparator string, every kind of
argument (a `float64` constant for an int column apart). -/
theorem dispatch_route (lo f2i i2f P) (c ac : LCol) (op : String) (a : Arg) (hwt : CallWT c ac a) :
    AgreesC ((today lo f2i i2f P c (.str op) (dargOf a ac)).runBuiltIn (canon c.ty)) c (fun y => cellOk ac.ty ac.vals y = true)
      (route lo c op ac a) := by
  cases hfit : C02Spec.argFits c.ty a
  · rw [run_argMisfit lo f2i i2f P c ac op a hwt.ty hfit hwt.noFloatOnInt, C02Spec.route_argMisfit hfit]; rfl
  cases a with
  | col an => exact dispatch_col lo f2i i2f P c op hwt.ty ac an hwt.sameLen.symm
  | bad => generalize c.ty = t at hfit; cases t <;> cases hfit
  | nil => have hs : c = ac := (hwt.same (fun an h => by cases h)).symm; subst hs; exact dispatch_nil lo f2i i2f P c op hwt.ty _
  | ints vs =>
    have hs : c = ac := (hwt.same (fun an h => by cases h)).symm
    subst hs
    have hty : c.ty = .int := by generalize c.ty = t at hfit; cases t <;> first | rfl | cases hfit
    exact dispatch_ints lo f2i i2f P c op hty vs _
  | strs vs =>
    have hs : c = ac := (hwt.same (fun an h => by cases h)).symm
    subst hs
    have hty : c.ty = .string ∨ c.ty = .enum := by generalize c.ty = t at hfit; cases t <;> first | exact Or.inl rfl | exact Or.inr rfl | cases hfit
    rcases hty with hty | hty
    · exact dispatch_strs_string lo f2i i2f P c op hty vs _
    · exact dispatch_strs_enum lo f2i i2f P c op hty (hwt.enumLen hty) vs _
  | cell k =>
    have hs : c = ac := (hwt.same (fun an h => by cases h)).symm
    subst hs
    by_cases he : c.ty = .enum
    · rw [he] at hfit
      rcases k with _ | _ | _ | (_ | v) <;> first | exact dispatch_enum_str lo f2i i2f P c op he (hwt.enumLen he) _ _ | cases hfit
    · have hk : constOk c.ty c.vals k = true := by
        generalize c.ty = t at hfit he
        cases t <;> rcases k with _ | _ | _ | (_ | _) <;> first | rfl | exact absurd rfl he | cases hfit
      exact dispatch_const lo f2i i2f P c op hwt.ty he k hk (fun v hv => hwt.goInt v (hv ▸ rfl)) _

/-- a leaf whose argument is not a column, as a call of `filterBuiltIn` on its column -/
theorem agrees_noncol (lo f2i i2f P) {f : LFrame} {l : Leaf} {c : LCol} {op : String} (hc : f.find? l.col = some c)
    (hcmp : l.cmp = .builtin op) (hwt : CallWT c c l.arg) (harg : ∀ an, l.arg ≠ .col an) :
    Agrees ((today lo f2i i2f P c (.str op) (dargOf l.arg c)).runBuiltIn (canon c.ty)) c c (leafPred lo f l) := by
  rw [leafPred_builtin hc hcmp, C02Spec.resolve_noncol harg]
  exact agrees_onRows (dispatch_route lo f2i i2f P c c op l.arg hwt)

theorem leaf_cell_enum (lo f2i i2f P) (f : LFrame) (l : Leaf) (c : LCol) (op : String) (v : Bytes)
    (hc : f.find? l.col = some c) (hcmp : l.cmp = .builtin op) (harg : l.arg = .cell (.str (some v))) (hty : c.ty = .enum)
    (hlen : c.vals.length ≤ 255) :
    Agrees ((today lo f2i i2f P c (.str op) (.str v)).runBuiltIn (canon c.ty)) c c (leafPred lo f l) := by
  have := agrees_noncol lo f2i i2f P hc hcmp
    ⟨by rw [hty]; decide, fun _ => hlen, fun _ h => (by rw [harg] at h; cases h), rfl,
      fun ⟨h, _⟩ => (by rw [hty] at h; cases h), fun _ => rfl⟩ (by rw [harg]; intro an h; cases h)
  rwa [harg] at this

/-- **The dispatch of today's source decides what the spec decides.** For every frame, every leaf with a built-in
comparator STRING `op` (known or not) on a column of any of the five types and every kind of argument — a constant of any
type, nil, a list of ints or strings, a column name, anything else — the extracted `filterBuiltIn` of the receiver's
package, run with the extracted comparator tables and the extracted kernels, returns an error exactly when `leafPred`
rejects the leaf, and otherwise leaves `b || p r` in the mask entry of every row `r` that held `b`, `p` being the row
predicate of `leafPred`.

Excluded (hence `_partial`): a `float64` constant for an int column, where code and spec disagree — see
`float_const_on_int_column_is_truncated`. -/
theorem gen_leaf_semantics_partial (lo : LikeOracle) (f2i : UInt64 → Int) (i2f : Int → UInt64) (P : KParams)
    (f : LFrame) (l : Leaf) (c : LCol) (op : String)
    (hc : f.find? l.col = some c) (hcmp : l.cmp = .builtin op) (hwt : LeafWT f l c)
    (hex : ¬ (c.ty = .int ∧ ∃ b, l.arg = .cell (.float b))) :
    Agrees (goLeaf lo f2i i2f P f c op l.arg).1 (goLeaf lo f2i i2f P f c op l.arg).2.1 (goLeaf lo f2i i2f P f c op l.arg).2.2
      (leafPred lo f l) := by
  rw [leafPred_builtin hc hcmp]
  unfold goLeaf
  rw [prep_eq]
  cases hr : resolve f c l.arg with
  | none => exact agrees_err
  | some p =>
    have hw := resolve_wt hwt hex hr
    simp only [Option.map_some, Option.bind_some]
    rw [run_dispatchOf _ hw.ty]
    exact agrees_onRows (dispatch_route lo f2i i2f P p.1 p.2 op l.arg hw)

/-! ## Observation: a `float64` constant for an int column

`intComp` accepts a `float64` comparatee for an int column and truncates it (`int(compFloat)`), for every comparator of
`filterFuncs`; the spec rejects such a leaf (`leafPred` has no case `.int, .float`). -/

theorem run_float_on_int (lo : LikeOracle) (f2i : UInt64 → Int) (i2f : Int → UInt64) (P : KParams) (c : LCol) (op : String) (b : UInt64)
    (hty : c.ty = .int) :
    (today lo f2i i2f P c (.str op) (.float b)).runBuiltIn (canon c.ty) =
      (today lo f2i i2f P c (.str op) (.int (f2i b))).runBuiltIn (canon c.ty) := by
  rw [hty]
  simp only [DEnv.runBuiltIn, canon, look, DE.run, today_arg, today_op, today_start, DArg.const]
  have h1 : (today lo f2i i2f P c (.str op) (.float b)).tableFn "filterFuncs" op = (today lo f2i i2f P c (.str op) (.int (f2i b))).tableFn "filterFuncs" op := rfl
  have h2 : (today lo f2i i2f P c (.str op) (.float b)).kernel = (today lo f2i i2f P c (.str op) (.int (f2i b))).kernel := rfl
  rw [h1, h2]
  cases (today lo f2i i2f P c (.str op) (.int (f2i b))).tableFn "filterFuncs" op with
  | none => rfl
  | some fn => simp [DConv.apply, roleArgs, hty]

/-- **Observation.** Input: an int column `c`, a leaf `c op x` with a `float64` constant `x` (bit pattern `b`), `op` any
comparator. The spec rejects the leaf (`leafPred = none`: `Filter` must return an error); today's code treats it exactly
like the leaf with the int constant `int(x)`: for `op` one of `< <= > >= = != any_bits all_bits` it returns no error and
selects the rows `c op int(x)` (e.g. `c = 1.5` selects the rows with `c = 1`; observed on the real code:
`Filter{x < 1e30}` on x = [0,1,2,3] returns no rows, `int(1e30)` being the smallest `int`). `f2i` stands for Go's
`int(x)` (`DEnv.f2i`); the statement uses nothing of it but that `f2i b` is a Go `int`. -/
theorem float_const_on_int_column_is_truncated (lo : LikeOracle) (f2i : UInt64 → Int) (i2f : Int → UInt64) (P : KParams)
    (f : LFrame) (l : Leaf) (c : LCol) (op : String) (b : UInt64)
    (hc : f.find? l.col = some c) (hcmp : l.cmp = .builtin op) (harg : l.arg = .cell (.float b)) (hty : c.ty = .int)
    (hi : int64 (f2i b)) :
    leafPred lo f l = none ∧
    Agrees (goLeaf lo f2i i2f P f c op l.arg).1 c c (leafPred lo f { l with arg := .cell (.int (f2i b)) }) := by
  constructor
  · exact C02Spec.leafPred_argMisfit hc hcmp (by rw [harg, hty]; rfl)
  · simp only [goLeaf, harg, prep, run_dispatchOf _ (show c.ty ∈ tys by rw [hty]; decide)]
    rw [run_float_on_int lo f2i i2f P c op b hty]
    exact agrees_noncol lo f2i i2f P (l := { l with arg := .cell (.int (f2i b)) }) hc hcmp
      ⟨by rw [hty]; decide, fun h => (by rw [hty] at h; cases h), fun _ h => (by cases h; exact hi), rfl,
        fun ⟨_, _, h⟩ => (by cases h), fun _ => rfl⟩ (fun an h => by cases h)

/-! ## The enum rules of C17, on the extracted dispatcher -/

/-- The outcome `gen_enum_undeclared` computes for an undeclared constant is what C17's `enum_filter_undeclared` says the
spec does for such a leaf. -/
theorem gen_enum_undeclared_spec (lo : LikeOracle) (f2i : UInt64 → Int) (i2f : Int → UInt64) (P : KParams)
    (f : LFrame) (l : Leaf) (c : LCol) (op : String) (v : Bytes)
    (hc : f.find? l.col = some c) (hcmp : l.cmp = .builtin op) (harg : l.arg = .cell (.str (some v))) (hty : c.ty = .enum)
    (hlen : c.vals.length ≤ 255) (hop : isOrd6 op = true) (hv : v ∉ c.vals) :
    Agrees ((today lo f2i i2f P c (.str op) (.str v)).runBuiltIn (dispatchOf c.ty)) c c
      (if c.strict then none else some (fun _ => op == "!=")) := by
  rw [← C17Enum.enum_filter_undeclared lo f l c op v hc hty hcmp harg hop hv, run_dispatchOf _ (by rw [hty]; decide)]
  exact leaf_cell_enum lo f2i i2f P f l c op v hc hcmp harg hty hlen

/-- A declared constant is compared row by row (C17 `enum_filter_declared`), strict or not. -/
theorem gen_enum_declared (lo : LikeOracle) (f2i : UInt64 → Int) (i2f : Int → UInt64) (P : KParams)
    (f : LFrame) (l : Leaf) (c : LCol) (op : String) (v : Bytes)
    (hc : f.find? l.col = some c) (hcmp : l.cmp = .builtin op) (harg : l.arg = .cell (.str (some v))) (hty : c.ty = .enum)
    (hlen : c.vals.length ≤ 255) (hop : isOrd6 op = true) (hv : v ∈ c.vals) :
    Agrees ((today lo f2i i2f P c (.str op) (.str v)).runBuiltIn (dispatchOf c.ty)) c c
      (some (fun r => cmp6 c op c.cells[r]! (.str (some v)))) := by
  rw [← C17Enum.enum_filter_declared lo f l c op v hc hty hcmp harg hop hv, run_dispatchOf _ (by rw [hty]; decide)]
  exact leaf_cell_enum lo f2i i2f P f l c op v hc hcmp harg hty hlen

/-- like / ilike with a valid pattern and `in` are never errors on an enum column, whether or not the values are
declared, strict or not. -/
theorem gen_enum_sets_no_error (lo : LikeOracle) (f2i : UInt64 → Int) (i2f : Int → UInt64) (P : KParams)
    (f : LFrame) (l : Leaf) (c : LCol) (hc : f.find? l.col = some c) (hty : c.ty = .enum) (hlen : c.vals.length ≤ 255) :
    (∀ op v, l.cmp = .builtin op → l.arg = .cell (.str (some v)) → (op = "like" ∨ op = "ilike") → lo.valid v (op == "ilike") = true →
      ∃ u, (today lo f2i i2f P c (.str op) (.str v)).runBuiltIn (dispatchOf c.ty) = .upd u) ∧
    (∀ vs, l.cmp = .builtin "in" → l.arg = .strs vs →
      ∃ u, (today lo f2i i2f P c (.str "in") (.strs vs)).runBuiltIn (dispatchOf c.ty) = .upd u) := by
  have hdef : c.ty ∈ tys := by rw [hty]; decide
  constructor
  · intro op v _ _ hl hv
    have h := dispatch_enum_str lo f2i i2f P c op hty hlen v (fun _ => True)
    obtain ⟨q, hq⟩ : ∃ q, route lo c op c (.cell (.str (some v))) = some q := by
      rcases hl with rfl | rfl <;> simp [route, hty, isOrd6] at hv ⊢ <;> simp [hv]
    rw [hq] at h
    obtain ⟨u, hu, _⟩ := h
    exact ⟨u, by rw [run_dispatchOf _ hdef]; exact hu⟩
  · intro vs _ _
    have h := dispatch_strs_enum lo f2i i2f P c "in" hty hlen vs (fun _ => True)
    simp only [route, hty] at h
    obtain ⟨u, hu, _⟩ := h
    exact ⟨u, by rw [run_dispatchOf _ hdef, hty]; exact hu⟩

/-- Column against column on enums needs equal value tables (`equalTypes`), for every comparator. -/
theorem gen_enum_col_needs_equal_types (lo : LikeOracle) (f2i : UInt64 → Int) (i2f : Int → UInt64) (P : KParams) (c ac : LCol) (op : String)
    (hty : c.ty = .enum) (hty2 : ac.ty = .enum) (hv : c.vals ≠ ac.vals) :
    (today lo f2i i2f P c (.str op) (.col ac.ty ac.vals ac.cells.size)).runBuiltIn (dispatchOf c.ty) = .err := by
  rw [run_dispatchOf _ (by rw [hty]; decide)]
  simp [DEnv.runBuiltIn, canon, canonEnumWith, onStrEnum, DE.run, hty, hty2, gen_equalTypes_sem, hv, E0]

/-! ## `Column.Filter`, `filterCustom1`, `filterCustom2` -/

def entryOf (ty : CType) (role : String) : Option DE :=
  (Gen.entryAst.find? (fun k => k.1 == DE.pkgOf ty && k.2.1 == role)).map (fun k => k.2.2)

/-- `Column.Filter`: a string goes to `filterBuiltIn`, a predicate on the package's element type to `filterCustom1` /
`filterCustom2`, anything else is an error; errors of the callees are returned. -/
def canonFilter : DE := .cmpSwitch (.callEntry "builtIn" true) (.callEntry "custom1" false) (.callEntry "custom2" true) E0
def canonCustom1 : DE := .ownLoop "Column.filterCustom1" .none
/-- `filterCustom2`: the comparatee must be a column of the package -/
def canonCustom2 : DE := .typeSwitch E0 E0 E0 E0 E0 E0 (.ownLoop "Column.filterCustom2" .col2) E0 E0

theorem gen_entries_canon : ∀ ty ∈ tys,
    (entryOf ty "filter").map DE.untag = some canonFilter ∧ entryOf ty "builtIn" = some (dispatchOf ty) ∧
    (entryOf ty "custom1").map DE.untag = some canonCustom1 ∧ (entryOf ty "custom2").map DE.untag = some canonCustom2 := by
  -- `rfl` compares the long error messages of the generated terms as literals; `DecidableEq DE` would do so character by character
  intro ty hty
  simp only [tys, List.mem_cons, List.not_mem_nil, or_false] at hty
  rcases hty with rfl | rfl | rfl | rfl | rfl <;> exact ⟨rfl, rfl, rfl, rfl⟩

theorem entry_today {lo f2i i2f P c cmp arg} (role : String) : (today lo f2i i2f P c cmp arg).entry role = entryOf c.ty role := rfl

theorem ownLoop_not_err (E : DEnv) (sub : String → DSt → DRes) (σ : DSt) (fn : String) (role : DRole) :
    (DE.ownLoop fn role).run E sub σ ≠ .err := by
  simp only [DE.run]
  split
  · simp
  · split
    · split <;> simp
    · simp

/-- **`Column.Filter` of today's source** is `canonFilter`, read by the dynamic type of the comparator. -/
theorem runFilter_today {lo f2i i2f P} {c : LCol} {cmp : DCmp} {arg : DArg} (hdef : c.ty ∈ tys) :
    (today lo f2i i2f P c cmp arg).runFilter =
      match cmp with
      | .str _ => (today lo f2i i2f P c cmp arg).runBuiltIn (dispatchOf c.ty)
      | .fn1 tyF => if tyF = fnTy c.ty then
          canonCustom1.run (today lo f2i i2f P c cmp arg) (fun _ _ => .stuck) { const := arg.const } else .err
      | .fn2 tyF => if tyF = fnTy c.ty then
          canonCustom2.run (today lo f2i i2f P c cmp arg) (fun _ _ => .stuck) { const := arg.const } else .err
      | .other => .err := by
  obtain ⟨h1, h2, h3, h4⟩ := gen_entries_canon c.ty hdef
  obtain ⟨d, hd, h1⟩ := Option.map_eq_some_iff.1 h1
  obtain ⟨d1, hd1, h3⟩ := Option.map_eq_some_iff.1 h3
  obtain ⟨d2, hd2, h4⟩ := Option.map_eq_some_iff.1 h4
  unfold DEnv.runFilter
  simp only [entry_today, hd]
  rw [← run_untag, h1]
  cases cmp with
  | str op =>
    simp only [canonFilter, DE.run, today_cmp, h2, DEnv.runBuiltIn]
    split <;> simp_all
  | fn1 tyF =>
    by_cases ht : tyF = fnTy c.ty
    · simp only [canonFilter, DE.run, today_cmp, today_ty, ht, if_true, hd1, today_start]
      rw [← run_untag, h3]
      -- the error of `filterCustom1` would be dropped: its loop has none
      have hne := ownLoop_not_err (today lo f2i i2f P c (.fn1 (fnTy c.ty)) arg) (fun _ _ => .stuck) { const := arg.const } "Column.filterCustom1" .none
      simp only [canonCustom1] at hne ⊢
    · simp [canonFilter, DE.run, ht, E0]
  | fn2 tyF =>
    by_cases ht : tyF = fnTy c.ty
    · simp only [canonFilter, DE.run, today_cmp, today_ty, ht, if_true, hd2, today_start]
      rw [← run_untag, h4]
      split <;> simp_all
    · simp [canonFilter, DE.run, ht, E0]
  | other => simp [canonFilter, DE.run, E0]

/-- `Column.Filter` adds no decision for a comparator string: it is `filterBuiltIn`. -/
theorem gen_filter_builtin (lo : LikeOracle) (f2i : UInt64 → Int) (i2f : Int → UInt64) (P : KParams) (c : LCol) (op : String) (arg : DArg)
    (hdef : c.ty ∈ tys) :
    (today lo f2i i2f P c (.str op) arg).runFilter = (today lo f2i i2f P c (.str op) arg).runBuiltIn (dispatchOf c.ty) :=
  runFilter_today hdef

/-- the parameter type of the harness's one-argument predicates (QF/Spec/Filter.lean `userP1`): `*string` is `.string` -/
def p1Ty : String → Option CType
  | "odd" => some .int | "neg" => some .float | "id" => some .bool | "isnil" => some .string | "len2" => some .string | _ => none

theorem custom_kernels (ty : CType) (hty : ty ∈ tys) :
    kernelOf (pkgOf ty) "Column.filterCustom1" = some ("guarded", c1ke ty) ∧ (c1ke ty).matcher = none ∧
    kernelOf (pkgOf ty) "Column.filterCustom2" = some ("guarded+pre", c2ke ty) ∧ (c2ke ty).matcher = none :=
  ⟨(gen_custom_canon ty hty).1, by cases ty <;> rfl, (gen_custom_canon ty hty).2, by cases ty <;> rfl⟩

/-- `leafPred`'s test of the parameter type, as `Column.Filter` makes it -/
theorem p1Fits_eq {id : String} {tyF ty : CType} (hdef : ty ∈ tys) (hid : p1Ty id = some tyF) :
    C02Spec.p1Fits id ty = decide (tyF = fnTy ty) := by
  unfold p1Ty at hid
  split at hid <;> simp at hid <;> subst hid <;> cases ty <;> simp [tys] at hdef <;> rfl

theorem spec_p1 (lo : LikeOracle) (f : LFrame) (l : Leaf) (c : LCol) (id : String) (tyF : CType)
    (hc : f.find? l.col = some c) (hcmp : l.cmp = .p1 id) (hdef : c.ty ∈ tys) (hid : p1Ty id = some tyF) :
    leafPred lo f l = if tyF = fnTy c.ty then some (fun r => (userP1 id c.cells[r]!).getD false) else none := by
  rw [C02Spec.leafPred_p1 hc hcmp, p1Fits_eq hdef hid]
  simp only [decide_eq_true_eq]

/-- the mask loop of `filterCustom1` / `filterCustom2`, given what its kernel computes on the rows -/
theorem agrees_ownLoop {lo f2i i2f P} {c ac : LCol} {cmp : DCmp} {arg : DArg} {sub : String → DSt → DRes} {σ : DSt}
    {fn sh : String} {role : DRole} {ke : KE} {P' : KParams} {k : Cell} {p : Nat → Bool}
    (hk : kernelOf (pkgOf c.ty) fn = some (sh, ke)) (hsh : sh = "guarded" ∨ sh = "guarded+pre") (hm : ke.matcher = none)
    (hr : roleArgs (today lo f2i i2f P c cmp arg) σ true role = some (P', k))
    (h : ∀ r : Nat, cellOk c.ty c.vals c.cells[r]! = true → cellOk ac.ty ac.vals ac.cells[r]! = true →
      Computes (kernelOf (pkgOf c.ty) fn) c.ty c.vals P' c.cells[r]! ac.cells[r]! k (p r)) :
    Agrees ((DE.ownLoop fn role).run (today lo f2i i2f P c cmp arg) sub σ) c ac (some p) := by
  unfold DE.run
  simp only [kernel_today, hk, hsh, hm, hr, and_self, if_true]
  intro r b hx hy
  obtain ⟨sh', ke', he, hb⟩ := h r hx hy
  rw [hk, Option.some.injEq, Prod.mk.injEq] at he
  obtain ⟨rfl, rfl⟩ := he
  exact hb b

/-- **Custom one-argument predicates.** `Column.Filter` with a `func(T) bool`: an error exactly when `T` is not the
element type of the column (`leafPred`'s `okTy` = `C02Spec.p1Fits`), otherwise `filterCustom1`'s loop applies the predicate to every cell;
the comparatee is ignored. -/
theorem gen_custom1_semantics (lo : LikeOracle) (f2i : UInt64 → Int) (i2f : Int → UInt64) (f : LFrame) (l : Leaf) (c : LCol)
    (id : String) (tyF : CType) (arg : DArg)
    (hc : f.find? l.col = some c) (hcmp : l.cmp = .p1 id) (hdef : c.ty ∈ tys) (hid : p1Ty id = some tyF) :
    Agrees ((today lo f2i i2f { fn1 := fun x => (userP1 id x).getD false } c (.fn1 tyF) arg).runFilter) c c (leafPred lo f l) := by
  rw [spec_p1 lo f l c id tyF hc hcmp hdef hid, runFilter_today hdef]
  obtain ⟨hk, hm, _, _⟩ := custom_kernels c.ty hdef
  by_cases ht : tyF = fnTy c.ty
  · simp only [ht, if_true]
    exact agrees_ownLoop hk (Or.inl rfl) hm rfl fun r hx _ => gen_kernel_semantics_custom1 c.ty hdef c.vals _ hx _ _ _
  · simp only [ht, if_false]
    exact agrees_err

/-- `filterCustom2` for a receiver `c` (after the promotion of `QFrame.filter`) and a comparatee column `ac`, the
predicate having the parameter type of the column type `tyO` the leaf's column had before the promotion. -/
theorem custom2_core (lo : LikeOracle) (f2i : UInt64 → Int) (i2f : Int → UInt64) (c ac : LCol) (tyO : CType) (hdef : c.ty ∈ tys)
    (hO : tyO = c.ty ∨ (tyO = .int ∧ c.ty = .float))
    (henum : c.ty = .enum → ac.ty = .enum → ac.vals = c.vals) :
    Agrees ((today lo f2i i2f { fn2 := fun x y => (userP2 x y).getD false } c (.fn2 (fnTy tyO)) (.col ac.ty ac.vals ac.cells.size)).runFilter) c ac
      (if (c.ty == ac.ty && tyO == c.ty) = true then some (fun r => (userP2 c.cells[r]! ac.cells[r]!).getD false) else none) := by
  rw [runFilter_today hdef]
  simp only []
  obtain ⟨_, _, hk, hm⟩ := custom_kernels c.ty hdef
  rcases hO with rfl | ⟨rfl, hf⟩
  · simp only [beq_self_eq_true, Bool.and_true, if_true]
    by_cases hty : c.ty = ac.ty
    · rw [canonCustom2, DE.run]
      simp only [today_arg, today_ty, hty.symm, if_true, beq_self_eq_true]
      refine agrees_ownLoop (k := .int 0) hk (Or.inr rfl) hm (by simp [roleArgs, hty]; rfl) fun r hx hy => ?_
      refine gen_kernel_semantics_custom2 c.ty hdef c.vals _ _ hx ?_ _ _
      rw [← hty] at hy
      by_cases he : c.ty = .enum
      · rw [← henum he (by rw [← hty]; exact he)]; exact hy
      · rw [cellOk_vals he c.vals ac.vals]; exact hy
    · have hty' : ¬ ac.ty = c.ty := fun h => hty h.symm
      simp [canonCustom2, DE.run, hty, hty', E0, Agrees]
  · have h1 : ¬ fnTy CType.int = fnTy c.ty := by rw [hf]; decide
    have h2 : (CType.int == c.ty) = false := by rw [hf]; decide
    simp only [h1, if_false, h2, Bool.and_false, Bool.false_eq_true]
    exact agrees_err

/-- the Go call for a leaf with a custom two-argument predicate: the harness passes the predicate for the type of the
leaf's column -/
def goCustom2 (lo : LikeOracle) (f2i : UInt64 → Int) (i2f : Int → UInt64) (f : LFrame) (c : LCol) (a : Arg) : DRes × LCol × LCol :=
  match prep f c a with
  | none => (.err, c, c)
  | some (c', arg, ac') =>
    ((today lo f2i i2f { fn2 := fun x y => (userP2 x y).getD false } c' (.fn2 (fnTy c.ty)) arg).runFilter, c', ac')

/-- **Custom two-argument predicates.** `Column.Filter` with a `func(T, T) bool` for the column's element type: an
error unless the argument names a column of the same type (after `QFrame.filter`'s promotion: int receiver against float
column is an error, float receiver against int column is not), otherwise `filterCustom2`'s loop applies the predicate to
the two cells of every row.

Excluded (hence `_partial`): two enum columns with different value tables — `KE` evaluates both `stringPtrAt` against
the receiver's table; this is a limit of the kernel model, not a disagreement. -/
theorem gen_custom2_semantics_partial (lo : LikeOracle) (f2i : UInt64 → Int) (i2f : Int → UInt64) (f : LFrame) (l : Leaf) (c : LCol)
    (hc : f.find? l.col = some c) (hcmp : l.cmp = .p2) (hdef : c.ty ∈ tys)
    (henum : ∀ an ac, l.arg = .col an → f.find? an = some ac → c.ty = .enum → ac.ty = .enum → ac.vals = c.vals) :
    Agrees (goCustom2 lo f2i i2f f c l.arg).1 (goCustom2 lo f2i i2f f c l.arg).2.1 (goCustom2 lo f2i i2f f c l.arg).2.2 (leafPred lo f l) := by
  have hnoncol : ∀ (d : DArg), (∀ t v n, d ≠ .col t v n) →
      (today lo f2i i2f { fn2 := fun x y => (userP2 x y).getD false } c (.fn2 (fnTy c.ty)) d).runFilter = .err := by
    intro d hd
    rw [runFilter_today hdef]
    simp only [if_true]
    cases d <;> simp [canonCustom2, DE.run, E0] at hd ⊢
  rw [C02Spec.leafPred_p2 hc hcmp]
  cases harg : l.arg with
  | col an =>
    cases hac : f.find? an with
    | none => simp [goCustom2, prep, resolve, hac, Agrees]
    | some ac =>
      have he := henum an ac harg hac
      by_cases hA : (c.ty == .int && ac.ty == .float) = true
      · have h1 : c.ty = .int := by simp at hA; exact hA.1
        have hB : (c.ty == .float && ac.ty == .int) = false := by simp [h1]
        have hpt : (promote c).ty = .float := by simp [promote, h1]
        have := custom2_core lo f2i i2f (promote c) ac c.ty (by rw [hpt]; decide) (Or.inr ⟨h1, hpt⟩) (by rw [hpt]; intro h; cases h)
        simp only [goCustom2, prep, resolve, hac, hA, hB, if_true, Bool.false_eq_true, if_false, Option.map_some, Option.bind_some]
        exact this
      · by_cases hB : (c.ty == .float && ac.ty == .int) = true
        · have h1 : c.ty = .float := by simp at hB; exact hB.1
          have hpv : (promote ac).ty = .float := by simp at hB; simp [promote, hB.2]
          have := custom2_core lo f2i i2f c (promote ac) c.ty hdef (Or.inl rfl) (by rw [h1]; intro h; cases h)
          simp only [goCustom2, prep, resolve, hac, hA, hB, if_true, Bool.false_eq_true, if_false, Option.map_some, Option.bind_some]
          exact this
        · have := custom2_core lo f2i i2f c ac c.ty hdef (Or.inl rfl) he
          simp only [goCustom2, prep, resolve, hac, hA, hB, Bool.false_eq_true, if_false, Option.map_some, Option.bind_some]
          exact this
  | cell k =>
    rcases k with v | b | b | (_ | s)
    all_goals
      simp only [goCustom2, prep]
      rw [hnoncol _ (by intro t v n h; cases h)]
      exact agrees_err
  | nil | bad | ints vs | strs vs =>
    simp only [goCustom2, prep]
    rw [hnoncol _ (by intro t v n h; cases h)]
    exact agrees_err

/-- the same call through the entry point `Column.Filter` (what `QFrame.filter` really calls) -/
def goLeafFilter (lo : LikeOracle) (f2i : UInt64 → Int) (i2f : Int → UInt64) (P : KParams) (f : LFrame) (c : LCol) (op : String) (a : Arg) :
    DRes × LCol × LCol :=
  match prep f c a with
  | none => (.err, c, c)
  | some (c', arg, ac') => ((today lo f2i i2f P c' (.str op) arg).runFilter, c', ac')

theorem prep_ty {f : LFrame} {c c' ac' : LCol} {a : Arg} {d : DArg} (h : prep f c a = some (c', d, ac')) (hdef : c.ty ∈ tys) : c'.ty ∈ tys := by
  rw [prep_eq] at h
  obtain ⟨p, hp, e⟩ := Option.map_eq_some_iff.1 h
  cases e
  exact resolve_ty hp hdef

theorem goLeafFilter_eq (lo : LikeOracle) (f2i : UInt64 → Int) (i2f : Int → UInt64) (P : KParams) (f : LFrame) (c : LCol) (op : String) (a : Arg)
    (hdef : c.ty ∈ tys) : goLeafFilter lo f2i i2f P f c op a = goLeaf lo f2i i2f P f c op a := by
  unfold goLeafFilter goLeaf
  cases h : prep f c a with
  | none => rfl
  | some x =>
    obtain ⟨c', d, ac'⟩ := x
    simp only [gen_filter_builtin lo f2i i2f P c' op d (prep_ty h hdef)]

/-- `gen_leaf_semantics_partial` for the call `QFrame.filter` makes: `Column.Filter` with the comparator string. -/
theorem gen_leaf_semantics_filter_partial (lo : LikeOracle) (f2i : UInt64 → Int) (i2f : Int → UInt64) (P : KParams)
    (f : LFrame) (l : Leaf) (c : LCol) (op : String)
    (hc : f.find? l.col = some c) (hcmp : l.cmp = .builtin op) (hwt : LeafWT f l c)
    (hex : ¬ (c.ty = .int ∧ ∃ b, l.arg = .cell (.float b))) :
    Agrees (goLeafFilter lo f2i i2f P f c op l.arg).1 (goLeafFilter lo f2i i2f P f c op l.arg).2.1
      (goLeafFilter lo f2i i2f P f c op l.arg).2.2 (leafPred lo f l) := by
  rw [goLeafFilter_eq lo f2i i2f P f c op l.arg hwt.ty]
  exact gen_leaf_semantics_partial lo f2i i2f P f l c op hc hcmp hwt hex

/-! ## The statement is not vacuous, and it notices the changes it should notice -/

section Witnesses

def lo0 : LikeOracle := ⟨fun _ _ => true, fun _ _ _ => false⟩
/-- a strict enum column with the value table [a] -/
def colS : LCol := { name := [120], ty := .enum, vals := [[97]], strict := true, cells := #[.str (some [97]), .str none] }
def frS : LFrame := { cols := [colS], n := 2 }
/-- x != "c" -/
def leafNeqC : Leaf := { inv := false, col := [120], cmp := .builtin "!=", arg := .cell (.str (some [99])) }
def envS (c : LCol) (op : String) (arg : DArg) : DEnv := today lo0 (fun _ => 0) (fun _ => 0) {} c (.str op) arg

example : LeafWT frS leafNeqC colS :=
  { ty := (by decide), enumLen := (fun _ => by decide), goInt := (fun _ h => by cases h), sameLen := (fun _ _ h _ => by cases h) }
example : leafPred lo0 frS leafNeqC = none :=
  C17Enum.enum_filter_undeclared lo0 frS leafNeqC colS "!=" [99] rfl rfl rfl rfl (by decide) (by decide)

/-- today's dispatcher rejects `x != "c"` on the strict column … -/
example : ((envS colS "!=" (.str [99])).runBuiltIn (dispatchOf .enum)).isErr = true := by decide
/-- … selects every row on the non-strict one, and none for `=` -/
example : ∃ u, (envS { colS with strict := false } "!=" (.str [99])).runBuiltIn (dispatchOf .enum) = .upd u ∧
    u (.str (some [97])) (.int 0) false = some true :=
  ⟨_, gen_enum_undeclared lo0 _ _ {} { colS with strict := false } "!=" [99] rfl (by decide) (by decide), by decide⟩
example : ∃ u, (envS { colS with strict := false } "=" (.str [99])).runBuiltIn (dispatchOf .enum) = .upd u ∧
    u (.str (some [97])) (.int 0) false = some false :=
  ⟨_, gen_enum_undeclared lo0 _ _ {} { colS with strict := false } "=" [99] rfl (by decide) (by decide), by decide⟩
/-- the declared constant reaches the kernel: row "a" is selected by `x = "a"`, the null row is not -/
example : ∃ u, (envS colS "=" (.str [97])).runBuiltIn (dispatchOf .enum) = .upd u ∧
    u (.str (some [97])) (.int 0) false = some true ∧ u (.str none) (.int 0) false = some false := by
  refine ⟨fun x y b => kstep "guarded" ((canon1 .enum "=").eval .enum [[97]] {} x y (.str (some [97]))) b, ?_, by decide, by decide⟩
  rw [run_dispatchOf _ (by decide)]
  rfl

/-- Witness 1: the `strict` test dropped (`if c.strict { return … }` removed). -/
def onStrNoStrict : DE :=
  .lookup "filterFuncs1" (.enumSearch (.callKernel .const false) (.ifOpIs "!=" .fillAllTrue .nothing))
    (.lookup "multiFilterFuncs" (.callBitset "Column.filterWithBitset" .const true) E0)

/-- Witness 2: the `!=` shortcut moved in front of the `strict` test (the term the extractor produces for that change). -/
def onStrNeqFirst : DE :=
  .lookup "filterFuncs1" (.enumSearch (.callKernel .const false) (.ifOpIs "!=" .fillAllTrue (.ifStrict E0 .nothing)))
    (.lookup "multiFilterFuncs" (.callBitset "Column.filterWithBitset" .const true) E0)

/-- neither is today's term … -/
example : (dispatchOf .enum).untag ≠ canonEnumWith onStrNoStrict ∧ (dispatchOf .enum).untag ≠ canonEnumWith onStrNeqFirst := by decide

/-- … and neither satisfies the statement: on the strict column, `x != "c"` is accepted (and selects every row). -/
example : ¬ Agrees ((envS colS "!=" (.str [99])).runBuiltIn (canonEnumWith onStrNoStrict)) colS colS (leafPred lo0 frS leafNeqC) := by
  rw [C17Enum.enum_filter_undeclared lo0 frS leafNeqC colS "!=" [99] rfl rfl rfl rfl (by decide) (by decide)]
  intro h
  have := congrArg DRes.isErr (agrees_none h)
  revert this; decide
example : ¬ Agrees ((envS colS "!=" (.str [99])).runBuiltIn (canonEnumWith onStrNeqFirst)) colS colS (leafPred lo0 frS leafNeqC) := by
  rw [C17Enum.enum_filter_undeclared lo0 frS leafNeqC colS "!=" [99] rfl rfl rfl rfl (by decide) (by decide)]
  intro h
  have := congrArg DRes.isErr (agrees_none h)
  revert this; decide
/-- without the `strict` test `x < "c"` is accepted as well (it selects nothing) -/
example : ((envS colS "<" (.str [99])).runBuiltIn (canonEnumWith onStrNoStrict)).isErr = false := by decide

/-- a kernel called without the search (the raw string handed to an `enumVal` kernel) has no meaning -/
example : (match (envS colS "=" (.str [97])).runBuiltIn (canonEnumWith (look "filterFuncs1" .const false)) with
    | .stuck => true | _ => false) = true := by decide

/-- an untranslated branch has no meaning either -/
example : (match (envS colS "=" (.str [97])).runBuiltIn (canonEnumWith (.opaque "…")) with | .stuck => true | _ => false) = true := by decide

/-- dropping the error of a failing like kernel (`filterFn(…)` instead of `return filterFn(…)` in scolumn) is noticed:
with an oracle that rejects the pattern the call must fail -/
example : ((today ⟨fun _ _ => false, fun _ _ _ => false⟩ (fun _ => 0) (fun _ => 0) {} { colS with ty := .string } (.str "like") (.str [37])).runBuiltIn
      (dispatchOf .string)).isErr = true ∧
    ((today ⟨fun _ _ => false, fun _ _ _ => false⟩ (fun _ => 0) (fun _ => 0) {} { colS with ty := .string } (.str "like") (.str [37])).runBuiltIn
      (.typeSwitch E0 E0 E0 (look "filterFuncs1" .const false) E0 E0 E0 E0 E0)).isErr = false := by decide

end Witnesses

#print axioms gen_dispatch_no_opaque
#print axioms gen_dispatch_canon
#print axioms gen_equalTypes_sem
#print axioms gen_leaf_semantics_partial
#print axioms float_const_on_int_column_is_truncated
#print axioms gen_enum_undeclared
#print axioms gen_enum_undeclared_spec
#print axioms gen_enum_declared
#print axioms gen_enum_sets_no_error
#print axioms gen_enum_col_needs_equal_types
#print axioms gen_filter_builtin
#print axioms gen_leaf_semantics_filter_partial
#print axioms gen_custom1_semantics
#print axioms gen_custom2_semantics_partial

end QF.Props.C02Dispatch
