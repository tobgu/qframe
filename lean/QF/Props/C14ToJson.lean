import QF.Core.SpecFacts
import QF.Spec.Json
import QF.Spec.Num
import QF.Core.ListFacts
import QF.Props.C14Quote
/-!
# C14: `QFrame.ToJSON` writes a JSON text that denotes the frame

`toJSON` is a byte-level mirror of `QFrame.ToJSON` (/repo/qframe.go) with the per-column
`AppendByteStringAt` writers (icolumn: `strconv.AppendInt`, bcolumn: `strconv.AppendBool`, fcolumn: `null` for NaN
else the float formatter, scolumn/ecolumn: `null` or `AppendQuotedString`).  The float formatter is the parameter
`fmt`.  `tojson_parses` shows that the RFC 8259 parser `Json.parse` accepts the whole output and returns the
array of records one expects; `tojson_denotes` adds that every value denotes (`Json.denotes`) its cell.

The only assumption on `fmt` is `NumTok (fmt b)`: the text is a JSON number token (`parseNum` consumes exactly
it when the next byte cannot continue a number).  `numTok_digits` / `numTok_frac` prove this for every text of the shape
`[-]d+` / `[-]d+.d+` without superfluous leading zeros, `intText_numTok` for the decimal text of any `Int`.
The hypothesis is needed for the floats that actually occur in the frame only (`tojson_parses_local`); this
matters because Go's formatter writes `+Inf`/`-Inf` for the infinities, which is not a JSON number:
`inf_not_json` is the witness that such a frame is written as an invalid JSON text.

No well-formedness hypothesis on the frame is needed: both sides read cells with `cells[r]!`, and a frame with
rows but no columns is written as `[{},{},…]`, which parses to empty records.
-/
namespace QF.Props.C14ToJson
open QF QF.Json QF.Props.C14

/-! ## 1. The mirror -/

/-- `strconv.AppendInt(buf, x, 10)`: the decimal text of an integer (the text `Json.denotes` compares with). -/
def intText (x : Int) : List UInt8 := (toString x).toUTF8.toList

/-- `col.AppendByteStringAt(buf, ix)` for the cell as the user sees it. -/
def cellBytes (fmt : UInt64 → List UInt8) : Cell → List UInt8
  | .int x => intText x
  | .float b => if F64.isNaN b then [110, 117, 108, 108] else fmt b
  | .bool true => [116, 114, 117, 101]
  | .bool false => [102, 97, 108, 115, 101]
  | .str none => [110, 117, 108, 108]
  | .str (some s) => appendQuoted s

/-- One iteration of the inner loop: `name`, `:`, cell, `,`. -/
def memberBytes (fmt : UInt64 → List UInt8) (r : Nat) (c : LCol) : List UInt8 :=
  appendQuoted c.name ++ [58] ++ cellBytes fmt c.cells[r]! ++ [44]

/-- `if jsonBuf[len(jsonBuf)-1] == ',' { jsonBuf = jsonBuf[:len(jsonBuf)-1] }` -/
def dropTrailingComma (buf : List UInt8) : List UInt8 :=
  if buf.getLast? = some 44 then buf.dropLast else buf

/-- The buffer written for row number `i` (logical row `i`; the index indirection is not observable). -/
def rowBytes (fmt : UInt64 → List UInt8) (f : LFrame) (i : Nat) : List UInt8 :=
  let buf : List UInt8 := if i > 0 then [44] else []
  let buf := buf ++ [123]
  let buf := f.cols.foldl (fun buf c => buf ++ memberBytes fmt i c) buf
  let buf := dropTrailingComma buf
  buf ++ [125]

/-- Everything `ToJSON` writes to the writer. -/
def toJSON (fmt : UInt64 → List UInt8) (f : LFrame) : List UInt8 :=
  [91] ++ (List.range f.n).flatMap (rowBytes fmt f) ++ [93]

/-! ## 2. What the text should denote -/

def cellVal (fmt : UInt64 → List UInt8) : Cell → JVal
  | .int x => .num (intText x)
  | .float b => if F64.isNaN b then .null else .num (fmt b)
  | .bool b => .bool b
  | .str none => .null
  | .str (some s) => .str (sanitize s)

def kv (fmt : UInt64 → List UInt8) (r : Nat) (c : LCol) : List UInt8 × JVal :=
  (sanitize c.name, cellVal fmt c.cells[r]!)

def rowVal (fmt : UInt64 → List UInt8) (f : LFrame) (r : Nat) : JVal := .obj (f.cols.map (kv fmt r))

def expected (fmt : UInt64 → List UInt8) (f : LFrame) : JVal := .arr ((List.range f.n).map (rowVal fmt f))

/-- The byte after a number token: anything that cannot continue the number. -/
def numEnd (tl : List UInt8) : Bool :=
  match tl with
  | [] => true
  | c :: _ => !(isDigit c || c == 46 || c == 101 || c == 69 || c == 43 || c == 45)

/-- `t` is a JSON number token: followed by a byte that cannot continue a number, `parseNum` consumes exactly `t`. -/
def NumTok (t : List UInt8) : Prop :=
  ∀ tl, numEnd tl = true → parseNum (t ++ tl) = some (t, tl)

/-- The float in this cell (if it is a non-NaN float) is written as a number token. -/
def CellOK (fmt : UInt64 → List UInt8) (c : Cell) : Prop :=
  ∀ b, c = .float b → F64.isNaN b = false → NumTok (fmt b)

def FrameOK (fmt : UInt64 → List UInt8) (f : LFrame) : Prop :=
  ∀ c ∈ f.cols, ∀ r, r < f.n → CellOK fmt c.cells[r]!

/-- The float in this cell (if it is a non-NaN float) is written as a decimal that rounds back to the same bits. -/
def CellRound (fmt : UInt64 → List UInt8) (c : Cell) : Prop :=
  ∀ b, c = .float b → F64.isNaN b = false →
    ∃ neg m d, Num.parseNumber (fmt b) = some (neg, m, d) ∧ Num.ofDecimal neg m d = b

/-! ## 3. The decimal text of an integer -/

def digitByte (d : Nat) : UInt8 := UInt8.ofNat (48 + d)

/-- Decimal digits of a natural number as bytes, most significant first. -/
def natDigits (n : Nat) : List UInt8 := (Nat.toDigits 10 n).flatMap String.utf8EncodeChar

theorem natDigits_lt (n : Nat) (h : n < 10) : natDigits n = [digitByte n] := by
  simp [natDigits, Nat.toDigits_of_lt_base h, digitByte, ListFacts.utf8EncodeChar_digitChar n h]

theorem natDigits_ge (n : Nat) (h : 10 ≤ n) :
    natDigits n = natDigits (n / 10) ++ [digitByte (n % 10)] := by
  simp [natDigits, Nat.toDigits_of_base_le (by omega : 1 < 10) h, digitByte, ListFacts.utf8EncodeChar_digitChar (n % 10) (by omega)]

theorem natDigits_eq (n : Nat) : natDigits n = strBytes (toString n) :=
  (strBytes_ofList (Nat.toDigits 10 n)).symm

theorem intText_eq (x : Int) :
    intText x = if 0 ≤ x then natDigits x.toNat else 45 :: natDigits (-x).toNat := by
  rw [natDigits_eq, natDigits_eq]; exact intStr_eq x

theorem digitByte_isDigit : ∀ d, d < 10 → isDigit (digitByte d) = true := by decide
theorem digitByte_ne48 : ∀ d, d < 10 → d ≠ 0 → digitByte d ≠ 48 := by decide

theorem natDigits_spec (n : Nat) : natDigits n ≠ [] ∧ (natDigits n).all isDigit = true ∧
    (0 < n → (natDigits n).head? ≠ some 48) := by
  induction n using Nat.strongRecOn with
  | _ n ih =>
    by_cases h : n < 10
    · rw [natDigits_lt n h]
      refine ⟨by simp, by simp [digitByte_isDigit n h], ?_⟩
      intro hn; simp; exact digitByte_ne48 n h (by omega)
    · have h10 : 10 ≤ n := by omega
      obtain ⟨a, b, c⟩ := ih (n / 10) (by omega)
      rw [natDigits_ge n h10]
      refine ⟨by simp, ?_, ?_⟩
      · simp [List.all_append, b, digitByte_isDigit (n % 10) (by omega)]
      · intro _
        have c' := c (by omega)
        obtain ⟨d, ds, e⟩ := List.exists_cons_of_ne_nil a
        rw [e] at c' ⊢
        simpa using c'

theorem natDigits_no_leading_zero (n : Nat) :
    (natDigits n).length > 1 → (natDigits n).head? ≠ some 48 := by
  intro h
  by_cases hn : n = 0
  · subst hn; rw [natDigits_lt 0 (by omega)] at h; simp at h
  · exact (natDigits_spec n).2.2 (by omega)

/-! ## 4. `parseNum` on positional decimal texts -/

theorem numEnd_false_digit (c : UInt8) (t : List UInt8) (h : numEnd (c :: t) = true) :
    isDigit c = false ∧ c ≠ 46 ∧ (c == 101) = false ∧ (c == 69) = false := by
  simp only [numEnd, Bool.not_eq_true', Bool.or_eq_false_iff] at h
  obtain ⟨⟨⟨⟨⟨h1, h46⟩, h101⟩, h69⟩, _⟩, _⟩ := h
  exact ⟨h1, by simpa using h46, h101, h69⟩

theorem takeWhile_digits (ds tl : List UInt8) (hd : ds.all isDigit = true)
    (hend : tl = [] ∨ ∃ c t, tl = c :: t ∧ isDigit c = false) :
    (ds ++ tl).takeWhile isDigit = ds ∧ (ds ++ tl).dropWhile isDigit = tl := by
  rw [List.takeWhile_append_of_pos (List.all_eq_true.1 hd), List.dropWhile_append_of_pos (List.all_eq_true.1 hd)]
  rcases hend with rfl | ⟨c, t, rfl, h⟩
  · simp
  · simp [h]

theorem numEnd_nondigit (tl : List UInt8) (h : numEnd tl = true) :
    tl = [] ∨ ∃ c t, tl = c :: t ∧ isDigit c = false := by
  cases tl with
  | nil => exact Or.inl rfl
  | cons c t => exact Or.inr ⟨c, t, rfl, (numEnd_false_digit c t h).1⟩

/-- `parseNum` after the sign and the integer part have been split off (same text as in `Json.parseNum`). -/
def numTail (sign ip r1 : List UInt8) : Option (List UInt8 × List UInt8) :=
  if ip.isEmpty || (ip.length > 1 && ip.head? == some 48) then none else
  let (fp, r2) : List UInt8 × List UInt8 := match r1 with
    | 46 :: t => let d := t.takeWhile isDigit; (46 :: d, t.dropWhile isDigit)
    | _ => ([], r1)
  if fp == [46] then none else
  let (ep, r3) : List UInt8 × List UInt8 := match r2 with
    | e :: t =>
      if e == 101 || e == 69 then
        let (sg, t2) : List UInt8 × List UInt8 := match t with | 43 :: u => ([43], u) | 45 :: u => ([45], u) | u => ([], u)
        let d := t2.takeWhile isDigit
        (e :: sg ++ d, t2.dropWhile isDigit)
      else ([], r2)
    | _ => ([], r2)
  if !ep.isEmpty && !(ep.getLast?.map isDigit).getD false then none else
  some (sign ++ ip ++ fp ++ ep, r3)

theorem parseNum_neg (r : List UInt8) :
    parseNum (45 :: r) = numTail [45] (r.takeWhile isDigit) (r.dropWhile isDigit) := rfl

theorem parseNum_pos (c : UInt8) (r : List UInt8) (h : c ≠ 45) :
    parseNum (c :: r) = numTail [] ((c :: r).takeWhile isDigit) ((c :: r).dropWhile isDigit) := by
  unfold parseNum
  split
  rename_i heq
  split at heq
  · rename_i h2; simp at h2; exact absurd h2.1 h
  · cases heq; rfl

theorem parseNum_nil : parseNum [] = none := by decide

theorem numTail_ip_ok (ip : List UInt8) (hne : ip ≠ [])
    (hz : ip.length > 1 → ip.head? ≠ some 48) :
    (ip.isEmpty || (decide (ip.length > 1) && ip.head? == some 48)) = false := by
  cases ip with
  | nil => exact absurd rfl hne
  | cons a l =>
    simp
    intro hl h48
    apply hz
    · simp; omega
    · simp [h48]

theorem numTail_int (sign ip tl : List UInt8) (hne : ip ≠ [])
    (hz : ip.length > 1 → ip.head? ≠ some 48) (hend : numEnd tl = true) :
    numTail sign ip tl = some (sign ++ ip, tl) := by
  unfold numTail
  rw [numTail_ip_ok ip hne hz]
  cases tl with
  | nil => simp
  | cons c t =>
    obtain ⟨_, h46, h101, h69⟩ := numEnd_false_digit c t hend
    simp [h101, h69, h46]

theorem numTail_frac (sign ip fp tl : List UInt8) (hne : ip ≠ [])
    (hz : ip.length > 1 → ip.head? ≠ some 48) (hfp : fp ≠ []) (hfd : fp.all isDigit = true)
    (hend : numEnd tl = true) :
    numTail sign ip (46 :: (fp ++ tl)) = some (sign ++ ip ++ 46 :: fp, tl) := by
  unfold numTail
  rw [numTail_ip_ok ip hne hz]
  obtain ⟨a, b⟩ := takeWhile_digits fp tl hfd (numEnd_nondigit tl hend)
  simp only [a, b]
  cases tl with
  | nil => simp [hfp]
  | cons c t =>
    obtain ⟨_, h46, h101, h69⟩ := numEnd_false_digit c t hend
    simp [h101, h69, hfp]

theorem isDigit_ne45 (c : UInt8) (h : isDigit c = true) : c ≠ 45 := by
  intro e; subst e; revert h; decide

theorem isDigit_ne46 (c : UInt8) (h : isDigit c = true) : c ≠ 46 := by
  intro e; subst e; revert h; decide

/-- the integer digits, with or without a minus sign in front, are split off as `parseNum` does it -/
theorem parseNum_split (ds r : List UInt8) (hne : ds ≠ []) (hd : ds.all isDigit = true)
    (hr : r = [] ∨ ∃ c t, r = c :: t ∧ isDigit c = false) :
    parseNum (ds ++ r) = numTail [] ds r ∧ parseNum (45 :: (ds ++ r)) = numTail [45] ds r := by
  obtain ⟨a, b⟩ := takeWhile_digits ds r hd hr
  refine ⟨?_, by rw [parseNum_neg, a, b]⟩
  obtain ⟨d, ds', rfl⟩ := List.exists_cons_of_ne_nil hne
  rw [List.all_cons, Bool.and_eq_true] at hd
  rw [List.cons_append, parseNum_pos d _ (isDigit_ne45 d hd.1), ← List.cons_append, a, b]

/-- `[-]d+` without superfluous leading zeros is a number token. -/
theorem numTok_digits (ds : List UInt8) (hne : ds ≠ []) (hd : ds.all isDigit = true)
    (hz : ds.length > 1 → ds.head? ≠ some 48) : NumTok ds ∧ NumTok (45 :: ds) := by
  have key := fun tl hend => parseNum_split ds tl hne hd (numEnd_nondigit tl hend)
  exact ⟨fun tl hend => (key tl hend).1.trans (numTail_int [] ds tl hne hz hend),
    fun tl hend => (key tl hend).2.trans (numTail_int [45] ds tl hne hz hend)⟩

/-- `[-]d+.d+` without superfluous leading zeros is a number token (the shape of Go's `'f'` format). -/
theorem numTok_frac (ip fp : List UInt8) (hne : ip ≠ []) (hd : ip.all isDigit = true)
    (hz : ip.length > 1 → ip.head? ≠ some 48) (hfp : fp ≠ []) (hfd : fp.all isDigit = true) :
    NumTok (ip ++ 46 :: fp) ∧ NumTok (45 :: (ip ++ 46 :: fp)) := by
  have key := fun tl : List UInt8 => parseNum_split ip (46 :: (fp ++ tl)) hne hd (.inr ⟨46, fp ++ tl, rfl, by decide⟩)
  have e : ∀ tl : List UInt8, (ip ++ 46 :: fp) ++ tl = ip ++ 46 :: (fp ++ tl) := fun tl => by simp
  exact ⟨fun tl hend => by rw [e]; exact (key tl).1.trans (numTail_frac [] ip fp tl hne hz hfp hfd hend),
    fun tl hend => by rw [List.cons_append, e]; exact (key tl).2.trans (numTail_frac [45] ip fp tl hne hz hfp hfd hend)⟩
/-- The decimal text of any integer is a number token. -/
theorem intText_numTok (x : Int) : NumTok (intText x) := by
  rw [intText_eq]
  split
  · obtain ⟨a, b, _⟩ := natDigits_spec x.toNat
    exact (numTok_digits _ a b (natDigits_no_leading_zero _)).1
  · obtain ⟨a, b, _⟩ := natDigits_spec (-x).toNat
    exact (numTok_digits _ a b (natDigits_no_leading_zero _)).2

theorem parseNum_head (s t r : List UInt8) (h : parseNum s = some (t, r)) :
    ∃ c rest, s = c :: rest ∧ (c = 45 ∨ isDigit c = true) := by
  cases s with
  | nil => rw [parseNum_nil] at h; cases h
  | cons c rest =>
    refine ⟨c, rest, rfl, ?_⟩
    by_cases h45 : c = 45
    · exact Or.inl h45
    · right
      rw [parseNum_pos c rest h45] at h
      cases hd : isDigit c with
      | true => rfl
      | false => simp [numTail, hd] at h

/-! ## 5. One step of each parser loop -/

theorem val_null (fuel : Nat) (r : List UInt8) :
    parseVal (fuel + 1) (110 :: 117 :: 108 :: 108 :: r) = some (.null, r) := rfl
theorem val_true (fuel : Nat) (r : List UInt8) :
    parseVal (fuel + 1) (116 :: 114 :: 117 :: 101 :: r) = some (.bool true, r) := rfl
theorem val_false (fuel : Nat) (r : List UInt8) :
    parseVal (fuel + 1) (102 :: 97 :: 108 :: 115 :: 101 :: r) = some (.bool false, r) := rfl
theorem val_str (fuel : Nat) (r : List UInt8) :
    parseVal (fuel + 1) (34 :: r)
      = (parseStr (r.length + 1) r []).map (fun (b, rest) => (.str b, rest)) := rfl
theorem val_obj_empty (fuel : Nat) (r : List UInt8) :
    parseVal (fuel + 1) (123 :: 125 :: r) = some (.obj [], r) := rfl
theorem val_obj (fuel : Nat) (r : List UInt8) :
    parseVal (fuel + 1) (123 :: 34 :: r) = parseMembers fuel (34 :: r) [] := rfl
theorem val_arr_empty (fuel : Nat) (r : List UInt8) :
    parseVal (fuel + 1) (91 :: 93 :: r) = some (.arr [], r) := rfl
theorem val_arr (fuel : Nat) (r : List UInt8) :
    parseVal (fuel + 1) (91 :: 123 :: r) = parseElems fuel (123 :: r) [] := rfl

theorem digit_not_ws (c : UInt8) (h : isDigit c = true) : isWs c = false := by
  have n1 : c ≠ 32 := by rintro rfl; revert h; decide
  have n2 : c ≠ 9 := by rintro rfl; revert h; decide
  have n3 : c ≠ 10 := by rintro rfl; revert h; decide
  have n4 : c ≠ 13 := by rintro rfl; revert h; decide
  simp [isWs, n1, n2, n3, n4]

theorem skipWs_num (c : UInt8) (r : List UInt8) (h : c = 45 ∨ isDigit c = true) :
    skipWs (c :: r) = c :: r := by
  have : isWs c = false := by
    rcases h with h | h
    · subst h; decide
    · exact digit_not_ws c h
  simp [skipWs, this]

theorem val_num (fuel : Nat) (c : UInt8) (r : List UInt8) (h : c = 45 ∨ isDigit c = true) :
    parseVal (fuel + 1) (c :: r) = (parseNum (c :: r)).map (fun (t, rest) => (.num t, rest)) := by
  have n1 : c ≠ 110 := by rintro rfl; revert h; decide
  have n2 : c ≠ 116 := by rintro rfl; revert h; decide
  have n3 : c ≠ 102 := by rintro rfl; revert h; decide
  have n4 : c ≠ 34 := by rintro rfl; revert h; decide
  have n5 : c ≠ 91 := by rintro rfl; revert h; decide
  have n6 : c ≠ 123 := by rintro rfl; revert h; decide
  rw [parseVal, skipWs_num c r h]
  split <;> simp_all
  intro a b
  rcases h with h | h
  · exact absurd h a
  · rw [h] at b; cases b

theorem elems_comma (fuel : Nat) (s r2 : List UInt8) (v : JVal) (acc : List JVal)
    (h : parseVal fuel s = some (v, 44 :: r2)) :
    parseElems (fuel + 1) s acc = parseElems fuel r2 (v :: acc) := by
  simp [parseElems, h, skipWs, isWs]
theorem elems_close (fuel : Nat) (s r2 : List UInt8) (v : JVal) (acc : List JVal)
    (h : parseVal fuel s = some (v, 93 :: r2)) :
    parseElems (fuel + 1) s acc = some (.arr (v :: acc).reverse, r2) := by
  simp [parseElems, h, skipWs, isWs]

theorem members_comma (fuel : Nat) (r k r2 r4 : List UInt8) (v : JVal)
    (acc : List (List UInt8 × JVal))
    (h1 : parseStr (r.length + 1) r [] = some (k, 58 :: r2))
    (h2 : parseVal fuel r2 = some (v, 44 :: r4)) :
    parseMembers (fuel + 1) (34 :: r) acc = parseMembers fuel r4 ((k, v) :: acc) := by
  simp [parseMembers, h1, h2, skipWs, isWs]
theorem members_close (fuel : Nat) (r k r2 r4 : List UInt8) (v : JVal)
    (acc : List (List UInt8 × JVal))
    (h1 : parseStr (r.length + 1) r [] = some (k, 58 :: r2))
    (h2 : parseVal fuel r2 = some (v, 125 :: r4)) :
    parseMembers (fuel + 1) (34 :: r) acc = some (.obj ((k, v) :: acc).reverse, r4) := by
  simp [parseMembers, h1, h2, skipWs, isWs]

/-! ## 6. Cells -/

theorem parseVal_numtok (fuel : Nat) (t tl : List UInt8) (ht : NumTok t) (hend : numEnd tl = true) :
    parseVal (fuel + 1) (t ++ tl) = some (.num t, tl) := by
  have h := ht tl hend
  obtain ⟨c, rest, e, hc⟩ := parseNum_head _ _ _ h
  rw [e] at h ⊢
  rw [val_num fuel c rest hc, h]; rfl

theorem appendQuoted_cons (s : List UInt8) : appendQuoted s = 34 :: (appendQuoted s).drop 1 := rfl

/-- Per-cell theorem: the text written for a cell, followed by anything that cannot continue a number, is parsed
as one JSON value, namely `cellVal`. One unit of fuel suffices (cells are not nested). -/
theorem parseVal_cell (fmt : UInt64 → List UInt8) (fuel : Nat) (c : Cell) (tl : List UInt8)
    (hok : CellOK fmt c) (hend : numEnd tl = true) :
    parseVal (fuel + 1) (cellBytes fmt c ++ tl) = some (cellVal fmt c, tl) := by
  match c with
  | .int x => exact parseVal_numtok fuel _ tl (intText_numTok x) hend
  | .float b =>
    cases hn : F64.isNaN b with
    | true => simp only [cellBytes, cellVal, hn, if_true]; exact val_null fuel tl
    | false =>
      simp only [cellBytes, cellVal, hn, Bool.false_eq_true, if_false]
      exact parseVal_numtok fuel _ tl (hok b rfl hn) hend
  | .bool true => exact val_true fuel tl
  | .bool false => exact val_false fuel tl
  | .str none => exact val_null fuel tl
  | .str (some s) =>
    simp only [cellBytes, cellVal]
    rw [appendQuoted_cons, List.cons_append, val_str, quoted_parses_tail]
    rfl

/-! ## 7. Records -/

def memberBody (fmt : UInt64 → List UInt8) (r : Nat) (c : LCol) : List UInt8 :=
  appendQuoted c.name ++ 58 :: cellBytes fmt c.cells[r]!

/-- The members of a record after the first, each led by its comma, then `}`. -/
def membersRest (fmt : UInt64 → List UInt8) (r : Nat) (cs : List LCol) : List UInt8 :=
  cs.flatMap (fun c => 44 :: memberBody fmt r c) ++ [125]

def rowObj (fmt : UInt64 → List UInt8) (f : LFrame) (r : Nat) : List UInt8 :=
  123 :: match f.cols with
    | [] => [125]
    | c :: cs => memberBody fmt r c ++ membersRest fmt r cs

theorem foldl_append_eq {α : Type} (g : α → List UInt8) :
    ∀ (cs : List α) (buf : List UInt8), cs.foldl (fun buf c => buf ++ g c) buf = buf ++ cs.flatMap g := by
  intro cs
  induction cs with
  | nil => intro buf; simp
  | cons c cs ih => intro buf; simp [ih]

/-- The buffer of row `i` in normal form. -/
theorem rowBytes_eq (fmt : UInt64 → List UInt8) (f : LFrame) (i : Nat) :
    rowBytes fmt f i = (if i > 0 then [44] else []) ++ rowObj fmt f i := by
  have hm : memberBytes fmt i = fun c => memberBody fmt i c ++ [44] := by funext c; simp [memberBytes, memberBody]
  unfold rowBytes rowObj dropTrailingComma
  simp only [foldl_append_eq, hm]
  cases f.cols with
  | nil => rw [if_neg] <;> simp
  | cons c cs =>
    rw [ListFacts.flatMap_shift, ← List.append_assoc, if_pos List.getLast?_concat, List.dropLast_concat]
    simp [membersRest]

theorem memberBody_append (fmt : UInt64 → List UInt8) (r : Nat) (c : LCol) (X : List UInt8) :
    memberBody fmt r c ++ X
      = 34 :: ((appendQuoted c.name).drop 1 ++ 58 :: (cellBytes fmt c.cells[r]! ++ X)) := by
  simp [memberBody, appendQuoted]

theorem numEnd_comma (t : List UInt8) : numEnd (44 :: t) = true := by simp [numEnd]; decide
theorem numEnd_brace (t : List UInt8) : numEnd (125 :: t) = true := by simp [numEnd]; decide

/-- The fuel asked for, here and at the levels above, is the length of the text read: that is what `Json.parse` supplies. -/
theorem parseMembers_text (fmt : UInt64 → List UInt8) (r : Nat) :
    ∀ (cs : List LCol) (c : LCol) (fuel : Nat) (acc : List (List UInt8 × JVal)) (tl : List UInt8),
      (∀ c' ∈ c :: cs, CellOK fmt c'.cells[r]!) → (memberBody fmt r c ++ membersRest fmt r cs).length ≤ fuel →
      parseMembers fuel (memberBody fmt r c ++ (membersRest fmt r cs ++ tl)) acc
        = some (.obj (acc.reverse ++ (c :: cs).map (kv fmt r)), tl) := by
  intro cs
  induction cs with
  | nil =>
    intro c fuel acc tl hok hf
    obtain ⟨f', rfl⟩ : ∃ k, fuel = k + 1 + 1 := ⟨fuel - 2, by simp [membersRest, memberBody, appendQuoted] at hf; omega⟩
    rw [memberBody_append, show membersRest fmt r [] ++ tl = 125 :: tl from rfl]
    rw [members_close (f' + 1) _ (sanitize c.name) _ tl (cellVal fmt c.cells[r]!) acc
      (quoted_parses_tail c.name _)
      (parseVal_cell fmt f' _ _ (hok c (by simp)) (numEnd_brace tl))]
    simp [kv]
  | cons c' cs ih =>
    intro c fuel acc tl hok hf
    have e : ∀ X, membersRest fmt r (c' :: cs) ++ X = 44 :: (memberBody fmt r c' ++ (membersRest fmt r cs ++ X)) := by
      simp [membersRest]
    rw [← List.append_nil (membersRest fmt r (c' :: cs)), e, List.append_nil, List.length_append, List.length_cons] at hf
    obtain ⟨f', rfl⟩ : ∃ k, fuel = k + 1 + 1 := ⟨fuel - 2, by simp [memberBody, appendQuoted] at hf; omega⟩
    rw [e, memberBody_append]
    rw [members_comma (f' + 1) _ (sanitize c.name) _ _ (cellVal fmt c.cells[r]!) acc
      (quoted_parses_tail c.name _)
      (parseVal_cell fmt f' _ _ (hok c (by simp)) (numEnd_comma _))]
    rw [ih c' (f' + 1) _ tl (fun x hx => hok x (List.mem_cons_of_mem _ hx)) (by omega)]
    simp [kv]

/-- Per-record theorem: the text of one row is parsed as the object of (sanitized name, cell value) pairs. -/
theorem parseVal_row (fmt : UInt64 → List UInt8) (f : LFrame) (r : Nat) (fuel : Nat) (tl : List UInt8)
    (hok : ∀ c ∈ f.cols, CellOK fmt c.cells[r]!) (hf : (rowObj fmt f r).length ≤ fuel) :
    parseVal fuel (rowObj fmt f r ++ tl) = some (rowVal fmt f r, tl) := by
  obtain ⟨f', rfl⟩ : ∃ k, fuel = k + 1 := ⟨fuel - 1, by simp [rowObj] at hf; omega⟩
  unfold rowObj rowVal at *
  cases hc : f.cols with
  | nil => exact val_obj_empty f' tl
  | cons c cs =>
    rw [hc] at hok hf
    simp only [List.cons_append, List.append_assoc]
    rw [memberBody_append, val_obj, ← memberBody_append,
      parseMembers_text fmt r cs c f' [] tl hok (by simpa using hf)]
    simp

/-! ## 8. The array of records -/

def rowsRest (fmt : UInt64 → List UInt8) (f : LFrame) (rs : List Nat) : List UInt8 :=
  rs.flatMap (fun i => 44 :: rowObj fmt f i)

theorem parseElems_rows (fmt : UInt64 → List UInt8) (f : LFrame) :
    ∀ (rs : List Nat) (r0 : Nat) (fuel : Nat) (acc : List JVal) (tl : List UInt8),
      (∀ i ∈ r0 :: rs, ∀ c ∈ f.cols, CellOK fmt c.cells[i]!) →
      (rowObj fmt f r0 ++ rowsRest fmt f rs).length < fuel →
      parseElems fuel (rowObj fmt f r0 ++ (rowsRest fmt f rs ++ 93 :: tl)) acc
        = some (.arr (acc.reverse ++ (r0 :: rs).map (rowVal fmt f)), tl) := by
  intro rs
  induction rs with
  | nil =>
    intro r0 fuel acc tl hok hf
    obtain ⟨f', rfl⟩ : ∃ k, fuel = k + 1 := ⟨fuel - 1, by omega⟩
    simp only [rowsRest, List.flatMap_nil, List.nil_append, List.append_nil] at hf ⊢
    rw [elems_close f' _ tl (rowVal fmt f r0) acc (parseVal_row fmt f r0 f' _ (hok r0 (by simp)) (by omega))]
    simp
  | cons r1 rs ih =>
    intro r0 fuel acc tl hok hf
    obtain ⟨f', rfl⟩ : ∃ k, fuel = k + 1 := ⟨fuel - 1, by omega⟩
    have e : ∀ X, rowsRest fmt f (r1 :: rs) ++ X = 44 :: (rowObj fmt f r1 ++ (rowsRest fmt f rs ++ X)) := by
      simp [rowsRest]
    rw [← List.append_nil (rowsRest fmt f (r1 :: rs)), e, List.append_nil, List.length_append, List.length_cons] at hf
    rw [e, elems_comma f' _ _ (rowVal fmt f r0) acc (parseVal_row fmt f r0 f' _ (hok r0 (by simp)) (by omega))]
    rw [ih r1 f' _ tl (fun i hi => hok i (List.mem_cons_of_mem _ hi)) (by omega)]
    simp

theorem rows_flatMap (fmt : UInt64 → List UInt8) (f : LFrame) :
    ∀ rs : List Nat, (∀ i ∈ rs, 0 < i) → rs.flatMap (rowBytes fmt f) = rowsRest fmt f rs := by
  intro rs
  induction rs with
  | nil => intro _; rfl
  | cons i rs ih =>
    intro h
    have hi : i > 0 := h i (by simp)
    rw [List.flatMap_cons, ih (fun j hj => h j (List.mem_cons_of_mem _ hj)), rowBytes_eq, if_pos hi]
    simp [rowsRest]

/-- The whole text for a frame with at least one row. -/
theorem toJSON_succ (fmt : UInt64 → List UInt8) (f : LFrame) (m : Nat) (h : f.n = m + 1) :
    toJSON fmt f
      = 91 :: (rowObj fmt f 0 ++ (rowsRest fmt f ((List.range m).map (· + 1)) ++ 93 :: [])) := by
  unfold toJSON
  rw [h, List.range_succ_eq_map, List.flatMap_cons, rowBytes_eq,
    rows_flatMap fmt f _ (by intro i hi; simp at hi; obtain ⟨a, _, rfl⟩ := hi; omega)]
  simp

theorem parse_of_parseVal (s : List UInt8) (v : JVal)
    (h : parseVal (s.length + 2) s = some (v, [])) : parse s = some v := by
  simp [parse, h, skipWs]

/-! ## 9. Main theorems -/

/-- **Whole document, hypotheses local to the frame.**  If every non-NaN float that occurs in the frame is
written as a JSON number token, the text written by `ToJSON` is a valid JSON text and denotes the array of the
frame's records. -/
theorem tojson_parses_local (fmt : UInt64 → List UInt8) (f : LFrame) (hok : FrameOK fmt f) :
    Json.parse (toJSON fmt f) = some (expected fmt f) := by
  cases hn : f.n with
  | zero =>
    have e : toJSON fmt f = [91, 93] := by simp [toJSON, hn]
    have e2 : expected fmt f = .arr [] := by simp [expected, hn]
    rw [e, e2]
    exact parse_of_parseVal _ _ (val_arr_empty 3 [])
  | succ m =>
    apply parse_of_parseVal
    rw [toJSON_succ fmt f m hn]
    obtain ⟨Y, e⟩ : ∃ Y, rowObj fmt f 0 = 123 :: Y := ⟨_, rfl⟩
    rw [e, List.cons_append, List.length_cons, val_arr, ← List.cons_append, ← e]
    rw [parseElems_rows fmt f _ 0 _ [] [] ?_ (by simp; omega)]
    · simp [expected, hn, List.range_succ_eq_map]
    · intro i hi c hc
      apply hok c hc i
      rw [hn]
      simp at hi
      rcases hi with rfl | ⟨a, ha, rfl⟩ <;> omega

/-- **Whole document**, as specified: the formatter writes a number token for every non-NaN float. -/
theorem tojson_parses (fmt : UInt64 → List UInt8)
    (hfmt : ∀ b, F64.isNaN b = false → ∀ tl, numEnd tl = true → Json.parseNum (fmt b ++ tl) = some (fmt b, tl))
    (f : LFrame) :
    Json.parse (toJSON fmt f)
      = some (.arr ((List.range f.n).map (fun r =>
          .obj (f.cols.map (fun c => (sanitize c.name, cellVal fmt c.cells[r]!)))))) :=
  tojson_parses_local fmt f (fun _ _ _ _ b _ hb => hfmt b hb)

/-- The same value, in terms of `LFrame.rows`. -/
theorem expected_eq_rows (fmt : UInt64 → List UInt8) (f : LFrame) :
    expected fmt f = .arr (f.rows.map (fun row =>
      .obj (List.zipWith (fun c cell => (sanitize c.name, cellVal fmt cell)) f.cols row))) := by
  simp only [expected, LFrame.rows, List.map_map]
  congr 1
  apply List.map_congr_left
  intro r _
  simp only [Function.comp, rowVal, LFrame.row]
  congr 1
  generalize f.cols = cs
  induction cs with
  | nil => rfl
  | cons c cs ih => simp [kv, ih]

theorem cellVal_denotes (fmt : UInt64 → List UInt8) (c : Cell) (h : CellRound fmt c) :
    Json.denotes (cellVal fmt c) c = true := by
  match c with
  | .int x => simp [cellVal, denotes, intText]
  | .float b =>
    cases hn : F64.isNaN b with
    | true => simp [cellVal, denotes, hn]
    | false =>
      obtain ⟨neg, m, d, h1, h2⟩ := h b rfl hn
      simp [cellVal, denotes, hn, h1, h2]
  | .bool b => simp [cellVal, denotes]
  | .str none => simp [cellVal, denotes]
  | .str (some s) => simp [cellVal, denotes]

/-- **Corollary (local form)**: the document parses to the records, and every value denotes its cell. -/
theorem tojson_denotes_local (fmt : UInt64 → List UInt8) (f : LFrame) (hok : FrameOK fmt f)
    (hround : ∀ c ∈ f.cols, ∀ r, r < f.n → CellRound fmt c.cells[r]!) :
    Json.parse (toJSON fmt f)
      = some (.arr ((List.range f.n).map (fun r =>
          .obj (f.cols.map (fun c => (sanitize c.name, cellVal fmt c.cells[r]!)))))) ∧
    ∀ c ∈ f.cols, ∀ r, r < f.n → Json.denotes (cellVal fmt c.cells[r]!) c.cells[r]! = true :=
  ⟨tojson_parses_local fmt f hok, fun c hc r hr => cellVal_denotes fmt _ (hround c hc r hr)⟩

/-- **Corollary**, as specified: with a formatter that writes number tokens which round back to the float. -/
theorem tojson_denotes (fmt : UInt64 → List UInt8)
    (hfmt : ∀ b, F64.isNaN b = false → ∀ tl, numEnd tl = true → Json.parseNum (fmt b ++ tl) = some (fmt b, tl))
    (hround : ∀ b, F64.isNaN b = false →
      ∃ neg m d, Num.parseNumber (fmt b) = some (neg, m, d) ∧ Num.ofDecimal neg m d = b)
    (f : LFrame) :
    Json.parse (toJSON fmt f)
      = some (.arr ((List.range f.n).map (fun r =>
          .obj (f.cols.map (fun c => (sanitize c.name, cellVal fmt c.cells[r]!)))))) ∧
    ∀ c ∈ f.cols, ∀ r, r < f.n → Json.denotes (cellVal fmt c.cells[r]!) c.cells[r]! = true :=
  tojson_denotes_local fmt f (fun _ _ _ _ b _ hb => hfmt b hb) (fun _ _ _ _ b _ hb => hround b hb)

/-! ## 10. Examples, and the infinities -/

example : intText (-12) = [45, 49, 50] := by rw [intText_eq]; decide
example : intText 0 = [48] := by rw [intText_eq]; decide
example : intText 9223372036854775807 = "9223372036854775807".toUTF8.toList := rfl

/-- A toy formatter: `1.5` for the float 1.5, `0` otherwise.  It writes a number token for every float. -/
def exFmt (b : UInt64) : List UInt8 := if b == 0x3FF8000000000000 then [49, 46, 53] else [48]

theorem exFmt_numTok (b : UInt64) : NumTok (exFmt b) := by
  unfold exFmt
  split
  · exact (numTok_frac [49] [53] (by simp) (by decide) (by simp) (by simp) (by decide)).1
  · exact (numTok_digits [48] (by simp) (by decide) (by simp)).1

/-- Four columns of all kinds, two rows; a column name with a quote, one that is invalid UTF-8. -/
def exFrame : LFrame :=
  { cols := [
      { name := [105], ty := .int, cells := #[.int (-12), .int 0] },
      { name := [120, 34], ty := .float, cells := #[.float 0x3FF8000000000000, .float F64.canonNaN] },
      { name := [98], ty := .bool, cells := #[.bool true, .bool false] },
      { name := [0xFF], ty := .string, cells := #[.str (some [97, 10]), .str none] }],
    n := 2 }

/-- The hypotheses of `tojson_parses` are satisfiable (non-trivial frame, all cell kinds). -/
example : Json.parse (toJSON exFmt exFrame)
    = some (.arr ((List.range exFrame.n).map (fun r =>
        .obj (exFrame.cols.map (fun c => (sanitize c.name, cellVal exFmt c.cells[r]!)))))) :=
  tojson_parses exFmt (fun b _ => exFmt_numTok b) exFrame

/-- The text written for `exFrame`:
`[{"i":-12,"x\"":1.5,"b":true,"\ufffd":"a\n"},{"i":0,"x\"":null,"b":false,"\ufffd":null}]`. -/
example : toJSON exFmt exFrame =
    [91, 123, 34, 105, 34, 58, 45, 49, 50, 44, 34, 120, 92, 34, 34, 58, 49, 46, 53, 44, 34, 98, 34, 58, 116, 114,
     117, 101, 44, 34, 92, 117, 102, 102, 102, 100, 34, 58, 34, 97, 92, 110, 34, 125, 44, 123, 34, 105, 34, 58, 48, 44,
     34, 120, 92, 34, 34, 58, 110, 117, 108, 108, 44, 34, 98, 34, 58, 102, 97, 108, 115, 101, 44, 34, 92, 117, 102, 102,
     102, 100, 34, 58, 110, 117, 108, 108, 125, 93] := by
  have a : intText (-12) = [45, 49, 50] := by rw [intText_eq]; decide
  have b : intText 0 = [48] := by rw [intText_eq]; decide
  have r : List.range 2 = [0, 1] := rfl
  simp only [toJSON, exFrame, r, List.flatMap_cons, List.flatMap_nil, rowBytes, List.foldl, memberBytes]
  simp [cellBytes, a, b]
  decide

/-- Rows but no columns: `[{},{}]` (covered by the theorems, no hypothesis needed). -/
example : toJSON exFmt { cols := [], n := 2 } = [91, 123, 125, 44, 123, 125, 93] := by decide

theorem exFrame_round : ∀ c ∈ exFrame.cols, ∀ r, r < exFrame.n → CellRound exFmt c.cells[r]! := by
  intro c hc r hr b hb hn
  have hr' : r = 0 ∨ r = 1 := by simp [exFrame] at hr; omega
  simp [exFrame] at hc
  rcases hc with rfl | rfl | rfl | rfl <;> rcases hr' with rfl | rfl <;> simp at hb
  · subst hb
    exact ⟨false, 15, -1, by decide, by decide⟩
  · subst hb
    exact absurd hn (by decide)

/-- The hypotheses of `tojson_denotes_local` are satisfiable on the same frame. -/
example : ∀ c ∈ exFrame.cols, ∀ r, r < exFrame.n →
    Json.denotes (cellVal exFmt c.cells[r]!) c.cells[r]! = true :=
  (tojson_denotes_local exFmt exFrame (fun _ _ _ _ b _ _ => exFmt_numTok b) exFrame_round).2

/-- Go's formatter on the infinities: `+Inf` / `-Inf` (internal/ryu/ryu.go). -/
def infFmt (b : UInt64) : List UInt8 :=
  if b == 0x7FF0000000000000 then [43, 73, 110, 102]
  else if b == 0xFFF0000000000000 then [45, 73, 110, 102] else [48]

def infFrame : LFrame :=
  { cols := [{ name := [120], ty := .float, cells := #[.float 0x7FF0000000000000] }], n := 1 }

/-- **Finding.** `+Inf` is not NaN, so `ToJSON` writes the formatter's text; the result `[{"x":+Inf}]` is not a
JSON text.  This is why `tojson_parses_local` asks for `NumTok` on the floats of the frame only. -/
theorem inf_not_json :
    F64.isNaN 0x7FF0000000000000 = false ∧
    toJSON infFmt infFrame = [91, 123, 34, 120, 34, 58, 43, 73, 110, 102, 125, 93] ∧
    (Json.parse (toJSON infFmt infFrame)).isNone = true := by
  refine ⟨by decide, by decide, by decide⟩

end QF.Props.C14ToJson

#print axioms QF.Props.C14ToJson.intText_numTok
#print axioms QF.Props.C14ToJson.numTok_frac
#print axioms QF.Props.C14ToJson.parseVal_cell
#print axioms QF.Props.C14ToJson.parseVal_row
#print axioms QF.Props.C14ToJson.tojson_parses_local
#print axioms QF.Props.C14ToJson.tojson_parses
#print axioms QF.Props.C14ToJson.expected_eq_rows
#print axioms QF.Props.C14ToJson.cellVal_denotes
#print axioms QF.Props.C14ToJson.tojson_denotes_local
#print axioms QF.Props.C14ToJson.tojson_denotes
#print axioms QF.Props.C14ToJson.inf_not_json
