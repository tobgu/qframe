import QF.Props.C08Construct
import QF.Props.C08CtorsGen
import QF.Props.C17Factory
import QF.Props.C09ViewsGen
import QF.Props.C04Aggregations
/-!
# C08 — `New` of today's source with the constructors of today's source, end to end (tie T1, composition)

`C08Construct.gen_new_semantics_partial` proves `New` (guards `C08Guards`, construction `C08Construct`) equal to `newS` for
ANY column constructors that implement the spec's cell lists (`Ctors.Spec`). Here the constructors are the REGENERATED ones:

* `<pkg>.New(data)` / `<pkg>.NewConst(v, n)` of icolumn / fcolumn / bcolumn : `C08CtorsGen.genNumNew` / `genNumConst` (`Gen.numCtors`),
* `scolumn.New(data)` / `scolumn.NewConst(v, n)`                              : `C08CtorsGen.genScolNew` / `genScolNewConst`
  (`Gen.scolNew`, `Gen.scolNewConst`, with `qfstrings.NewPointer` as regenerated: `C08PointerGen`), READ BACK through the
  pointers (`readBack`),
* `ecolumn.New(data, values)` / `ecolumn.NewConst(v, n, values)`             : the enum factory `C17Factory.factoryEnumCells` /
  `factoryEnumConst` (`Gen.factoryNew`, `Gen.factoryNewConst`), the codes decoded through the value table

(`genCtors`). They are partial functions of typed Go data; on cells that are not of the constructor's element type — which
Go's type checker rules out — `genCtors` has no cells (`#[]`), so `genCtors` does NOT satisfy `Ctors.Spec` as such. The
composition goes through `C08Construct.gen_new_semantics_of`: `New` calls a constructor only on the data of a column of
the map, with the constructor `createColumn` selects for the kind of that data (`C08Construct.createOut`), and that is
where `genCtors` does what the spec's constructors do (`typedFor_acts`).

* `gen_new_end_to_end_partial` — for every column map whose columns are well-typed Go values (`GoData`: `WF` of C08Construct —
  a Go cell type, a slice of `count` cells or one constant, `count < 2^32` — and every cell of the declared type), where
  every string column that has NO declaration in `Enums` is within the documented limits of `qfstrings.Pointer`
  (`TypedFor`: each string < 2^28 bytes, all strings of the column together < 2^35 bytes; string data that is declared an
  enum is not packed into pointers and may have any size), every column order without duplicates and every list of enum
  declarations: `New` as regenerated = `newS`, and every cell of the frame reads back through the regenerated typed views
  (`C09ViewsGen.genItemAt` / `genLen` / `genSlice`) over the ascending index.
* `typedFor_acts` — the composition step behind it: on a string column with a declaration `createColumn` calls the enum
  constructor only, so the pointer limits are asked of the other string columns only (with an order without repetitions the
  declaration is still there when the column's turn comes: `C08Construct.loop_sim`).
* `new_congr` — `New` depends on the constructors only through what they build of the data of the map's columns.

Hypotheses that remain (`_partial`), stated precisely:
1. `(specOrder cols order).Nodup` — a column order naming a column twice is outside the property's quantifier. The
   hypothesis is NECESSARY: `nodup_necessary` (the second occurrence of a declared enum column is built as a string
   column; with every other hypothesis met the conclusion is false).
2. `count < 2^32` (`WF.small`): the index is made with `uint32(len)` — `rows_2_32_outside`.
3. the pointer limits, for the string columns WITHOUT enum declaration (the ones `scolumn.New` / `scolumn.NewConst` is
   called on): beyond them `NewPointer` packs offset and length into overlapping bits (`C08PointerGen`).
   `enum_beyond_limits`: a declared enum column with a string of 2^28 bytes meets the hypotheses.
The complementary reading — `New` returns an error exactly for the inputs C08's text says it rejects — is
`C08NewIff.gen_new_rejects_partial` / `gen_new_iff_partial` (QF/Props/C08NewIff.lean).
-/
namespace QF.Props.C08EndToEnd
open QF QF.Props.C08Construct QF.Props.C08CtorsGen QF.Props.C08Guards
open QF.Props.C17Factory (factoryEnumCells factoryEnumConst gen_factory_is_ctor cellOf)

/-! ## Typed Go data from cells -/

def toInts : List Cell → Option (List Int)
  | [] => some []
  | .int v :: r => (toInts r).map (v :: ·)
  | _ :: _ => none

def toFloats : List Cell → Option (List UInt64)
  | [] => some []
  | .float v :: r => (toFloats r).map (v :: ·)
  | _ :: _ => none

def toBools : List Cell → Option (List Bool)
  | [] => some []
  | .bool v :: r => (toBools r).map (v :: ·)
  | _ :: _ => none

def toStrs : List Cell → Option (List (Option Bytes))
  | [] => some []
  | .str s :: r => (toStrs r).map (s :: ·)
  | _ :: _ => none

/-- the `[]*string` of a list of string cells -/
def strsOf (l : List Cell) : List (Option Bytes) := l.map fun c => match c with | .str s => s | _ => none

theorem toInts_map (xs : List Int) : toInts (xs.map Cell.int) = some xs := by
  induction xs with
  | nil => rfl
  | cons x xs ih => simp [toInts, ih]

theorem toFloats_map (xs : List UInt64) : toFloats (xs.map Cell.float) = some xs := by
  induction xs with
  | nil => rfl
  | cons x xs ih => simp [toFloats, ih]

theorem toBools_map (xs : List Bool) : toBools (xs.map Cell.bool) = some xs := by
  induction xs with
  | nil => rfl
  | cons x xs ih => simp [toBools, ih]

theorem toStrs_map (xs : List (Option Bytes)) : toStrs (xs.map Cell.str) = some xs := by
  induction xs with
  | nil => rfl
  | cons x xs ih => simp [toStrs, ih]

theorem cells_str {l : List Cell} (h : ∀ x ∈ l, cellType x = .string) : (strsOf l).map Cell.str = l := by
  induction l with
  | nil => rfl
  | cons x xs ih =>
    have hx := h x (by simp)
    cases x <;> simp [cellType] at hx
    simp only [strsOf, List.map_cons, List.cons.injEq, true_and]
    exact ih (fun y hy => h y (by simp [hy]))

/-! ## The constructors of today's source, as `createColumn` sees them -/

/-- the cells of `<pkg>.New(data)`; no cells for data that is not of the package's element type -/
def genCells (ty : CType) (l : List Cell) : Array Cell :=
  match ty with
  | .int => match toInts l with | some xs => (((genNumNew .int 0 xs).getD []).map Cell.int).toArray | none => #[]
  | .float => match toFloats l with | some xs => (((genNumNew .float 0 xs).getD []).map Cell.float).toArray | none => #[]
  | .bool => match toBools l with | some xs => (((genNumNew .bool false xs).getD []).map Cell.bool).toArray | none => #[]
  | .string => match toStrs l with | some ss => ((((genScolNew ss).map readBack).getD []).map Cell.str).toArray | none => #[]
  | _ => #[]

/-- the cells of `<pkg>.NewConst(v, n)` -/
def genConst (ty : CType) (v : Cell) (n : Nat) : Array Cell :=
  match ty, v with
  | .int, .int x => (((genNumConst .int 0 x n).getD []).map Cell.int).toArray
  | .float, .float x => (((genNumConst .float 0 x n).getD []).map Cell.float).toArray
  | .bool, .bool x => (((genNumConst .bool false x n).getD []).map Cell.bool).toArray
  | .string, .str s => ((((genScolNewConst s n).map readBack).getD []).map Cell.str).toArray
  | _, _ => #[]

def genEnumCells (d : List Bytes) (l : List Cell) : Option (List Bytes × Bool × Array Cell) :=
  match toStrs l with
  | some ss => factoryEnumCells d ss
  | none => none

def genEnumConst (d : List Bytes) (v : Cell) (n : Nat) : Option (List Bytes × Bool × Array Cell) :=
  match v with
  | .str s => factoryEnumConst d s n
  | _ => none

/-- **the column constructors of today's source** -/
def genCtors : Ctors := { cells := genCells, const := genConst, enumCells := genEnumCells, enumConst := genEnumConst }

/-! ## On typed data within the pointer's limits they build the spec's cell lists -/

theorem cells_agree (ty : CType) (l : List Cell) (hty : goType ty) (ht : ∀ x ∈ l, cellType x = ty)
    (hlim : ty = .string → Within (strsOf l)) : genCells ty l = l.toArray := by
  rcases hty with rfl | rfl | rfl | rfl
  · obtain ⟨xs, rfl⟩ := C04Aggregations.cells_int ht
    simp only [genCells, toInts_map, (gen_const_semantics .int (Or.inl rfl) 0 0 0 xs).2, Option.getD_some]
  · obtain ⟨xs, rfl⟩ := C04Aggregations.cells_float ht
    simp only [genCells, toFloats_map, (gen_const_semantics .float (Or.inr (Or.inl rfl)) 0 0 0 xs).2, Option.getD_some]
  · obtain ⟨xs, rfl⟩ := C04Aggregations.cells_bool ht
    simp only [genCells, toBools_map, (gen_const_semantics .bool (Or.inr (Or.inr rfl)) false false 0 xs).2, Option.getD_some]
  · have hl := cells_str ht
    obtain ⟨c, hc, _, _, _, _, _, _, hr⟩ := gen_scolumn_new_semantics (strsOf l) (hlim rfl)
    have : toStrs l = some (strsOf l) := by
      have := toStrs_map (strsOf l); rw [hl] at this; exact this
    simp only [genCells, this, hc, Option.map_some, Option.getD_some, hr, hl]

theorem const_agree (ty : CType) (v : Cell) (n : Nat) (hty : goType ty) (ht : cellType v = ty)
    (hlim : ∀ s, v = .str (some s) → s.length < 2 ^ 28) : genConst ty v n = (List.replicate n v).toArray := by
  rcases hty with rfl | rfl | rfl | rfl
  · cases v <;> simp [cellType] at ht
    rename_i x
    simp only [genConst, (gen_const_semantics .int (Or.inl rfl) (0 : Int) x n []).1, Option.getD_some, List.map_replicate]
  · cases v <;> simp [cellType] at ht
    rename_i x
    simp only [genConst, (gen_const_semantics .float (Or.inr (Or.inl rfl)) (0 : UInt64) x n []).1, Option.getD_some, List.map_replicate]
  · cases v <;> simp [cellType] at ht
    rename_i x
    simp only [genConst, (gen_const_semantics .bool (Or.inr (Or.inr rfl)) false x n []).1, Option.getD_some, List.map_replicate]
  · cases v <;> simp [cellType] at ht
    rename_i s
    obtain ⟨c, hc, _, _, _, hr⟩ := gen_scolumn_const_semantics s n (fun t e => hlim t (by rw [e]))
    simp only [genConst, hc, Option.map_some, Option.getD_some, hr, List.map_replicate]

theorem enumCells_agree (d : List Bytes) (l : List Cell) (ht : ∀ x ∈ l, cellType x = .string) :
    genEnumCells d l = (mkEnum d l).map (fun p => (p.1, p.2, l.toArray)) := by
  have hl := cells_str ht
  have : toStrs l = some (strsOf l) := by
    have := toStrs_map (strsOf l); rw [hl] at this; exact this
  have hc := (gen_factory_is_ctor d).1 (strsOf l)
  have hm : (strsOf l).map cellOf = l := hl
  rw [hm] at hc
  simp only [genEnumCells, this, hc]

theorem enumConst_agree (d : List Bytes) (v : Cell) (n : Nat) (ht : cellType v = .string) :
    genEnumConst d v n = (mkEnum d (v :: List.replicate n v)).map (fun p => (p.1, p.2, (List.replicate n v).toArray)) := by
  cases v <;> simp [cellType] at ht
  rename_i s
  exact (gen_factory_is_ctor d).2 s n

/-! ## Well-typed column maps -/

/-- A column of the map handed to `New` that is a well-typed Go value within the pointer's limits: `WF` (a Go cell type;
a slice with `count` cells or one constant; `count < 2^32`), every cell of the declared type, and for string data the
documented limits of `qfstrings.Pointer` (each string shorter than 2^28 bytes, all strings of a slice together shorter than
2^35 bytes). -/
structure Typed (c : NewCol) : Prop where
  wf : WF c
  cells : match c.kind with
    | .cells ty => ∀ x ∈ c.cells, cellType x = ty
    | .const ty => ∀ x ∈ c.cells, cellType x = ty
    | .unsupported => True
  limits : match c.kind with
    | .cells .string => Within (strsOf c.cells)
    | .const .string => ∀ s, Cell.str (some s) ∈ c.cells → s.length < 2 ^ 28
    | _ => True

/-- A column of the map handed to `New` that is a well-typed Go value — `WF` (a Go cell type; a slice with `count` cells
or one constant; `count < 2^32`) and every cell of the declared type — with strings of ANY length. This is what Go's type
checker guarantees of a `[]int` / `[]float64` / `[]bool` / `[]string` / `[]*string` / `Const…` value (a `NewCol` can also
hold, say, a string cell under the kind `[]int`, which no Go value does); only `count < 2^32` restricts the inputs. -/
structure GoData (c : NewCol) : Prop where
  wf : WF c
  cells : match c.kind with
    | .cells ty => ∀ x ∈ c.cells, cellType x = ty
    | .const ty => ∀ x ∈ c.cells, cellType x = ty
    | .unsupported => True

/-- the documented limits of `qfstrings.Pointer` for the data of a string column: each string shorter than 2^28 bytes, all
strings of a slice together shorter than 2^35 bytes -/
def PtrLimits (c : NewCol) : Prop :=
  match c.kind with
  | .cells .string => Within (strsOf c.cells)
  | .const .string => ∀ s, Cell.str (some s) ∈ c.cells → s.length < 2 ^ 28
  | _ => True

theorem Typed.data {c : NewCol} (h : Typed c) : GoData c := ⟨h.wf, h.cells⟩

theorem Typed.ptrLimits {c : NewCol} (h : Typed c) : PtrLimits c := h.limits

/-- two families of constructors do the same on the data of the column `c`, each with the constructor of the kind -/
def Agree (K K' : Ctors) (c : NewCol) : Prop :=
  match c.kind with
  | .cells ty => K.cells ty c.cells = K'.cells ty c.cells ∧ (ty = .string → ∀ d, K.enumCells d c.cells = K'.enumCells d c.cells)
  | .const ty => ∀ v rest, c.cells = v :: rest →
      K.const ty v c.count.toNat = K'.const ty v c.count.toNat ∧
      (ty = .string → ∀ d, K.enumConst d v c.count.toNat = K'.enumConst d v c.count.toNat)
  | .unsupported => True

/-- on a typed column today's constructors are the spec's -/
theorem typed_agree (c : NewCol) (h : Typed c) : Agree genCtors specCtors c := by
  obtain ⟨hwf, hcells, hlim⟩ := h
  unfold Agree
  cases hk : c.kind with
  | unsupported => trivial
  | cells ty =>
    rw [hk] at hcells hlim
    exact ⟨cells_agree ty c.cells (hwf.cells hk).1 hcells (fun e => by subst e; exact hlim),
      fun e d => by subst e; exact enumCells_agree d c.cells hcells⟩
  | const ty =>
    rw [hk] at hcells hlim
    intro v rest hv
    have hvm : v ∈ c.cells := by rw [hv]; exact List.mem_cons_self
    refine ⟨const_agree ty v _ (hwf.const hk).1 (hcells v hvm) (fun s e => ?_),
      fun e d => by subst e; exact enumConst_agree d v _ (hcells v hvm)⟩
    subst e
    obtain rfl : CType.string = ty := hcells _ hvm
    exact hlim s hvm

/-! ## `New` calls a constructor only on the data of a column, with the constructor of its kind -/

theorem create_congr (K K' : Ctors) (plain : Bool) (c : NewCol) (h : Agree K K' c) (E : List (Bytes × List Bytes)) :
    runCreate K canonCreate plain c E = runCreate K' canonCreate plain c E := by
  rw [runCreate_canon, runCreate_canon]
  cases dkindOf plain c.kind with
  | none => rfl
  | some _ =>
    unfold Agree at h
    dsimp only
    unfold createOut
    cases hk : c.kind with
    | unsupported => rfl
    | cells ty =>
      rw [hk] at h
      exact finishCol_congr (fun _ d hs _ => h.2 hs d) (fun _ => h.1)
    | const ty =>
      rw [hk] at h
      dsimp only
      cases hc : c.cells with
      | nil => rfl
      | cons v rest =>
        obtain ⟨h1, h2⟩ := h v rest hc
        congr 1
        exact finishCol_congr (fun _ d hs _ => h2 hs d) (fun _ => h1)

/-- **`New` depends on the constructors only through what they build of the data of the map's columns.** -/
theorem new_congr (K K' : Ctors) (plain : Bytes → Bool) (cols : List NewCol) (h : ∀ c ∈ cols, Agree K K' c)
    (order : List Bytes) (enums : List (Bytes × List Bytes)) :
    genNew K plain cols order enums = genNew K' plain cols order enums := by
  have hc : createIn K canonCreate plain cols = createIn K' canonCreate plain cols := by
    funext name E
    unfold createIn
    cases hf : cols.find? (·.name == name) with
    | some c => exact create_congr K K' _ c (h c (List.mem_of_find?_eq_some hf)) E
    | none => exact create_congr K K' false _ (by unfold Agree; trivial) E
  unfold genNew constructIn
  rw [gen_construct_canon.1, hc]

/-! ## The pointer limits only where `scolumn.New` / `scolumn.NewConst` is called -/

/-- **What `gen_new_end_to_end_partial` asks of a column of the map, given the enum declarations**: a well-typed Go value
(`GoData`), and the limits of the packed string pointer ONLY IF `createColumn` hands the data to `scolumn.New` /
`scolumn.NewConst` — a string column WITHOUT a declaration in `Enums`. String data that is declared an enum is never
packed into pointers (`ecolumn.New` stores one byte per row and the distinct values as Go strings): any length. -/
structure TypedFor (enums : List (Bytes × List Bytes)) (c : NewCol) : Prop where
  data : GoData c
  limits : declaredEnum enums c = false → PtrLimits c

theorem Typed.for {c : NewCol} (h : Typed c) (enums : List (Bytes × List Bytes)) : TypedFor enums c :=
  ⟨h.data, fun _ => h.limits⟩

/-- On such a column today's constructors do what the spec's do while the column's declaration is there: with a
declaration `createColumn` calls the enum constructor only, without one the data is within the pointer's limits. -/
theorem typedFor_acts (enums : List (Bytes × List Bytes)) (c : NewCol) (h : TypedFor enums c) :
    ActsAsSpec genCtors enums c := by
  intro E hE
  obtain ⟨⟨hwf, hcells⟩, hlim⟩ := h
  unfold declaredEnum PtrLimits at hlim
  unfold createOut
  cases hk : c.kind with
  | unsupported => rfl
  | cells ty =>
    rw [hk] at hcells hlim
    refine finishCol_congr (fun _ d hs _ => ?_) (fun hn => ?_)
    · subst hs; exact enumCells_agree d c.cells hcells
    · refine cells_agree ty c.cells (hwf.cells hk).1 hcells (fun hs => ?_)
      subst hs
      exact hlim (by rw [← hE, hn rfl]; rfl)
  | const ty =>
    rw [hk] at hcells hlim
    dsimp only
    cases hc : c.cells with
    | nil => rfl
    | cons v rest =>
      have hvm : v ∈ c.cells := by rw [hc]; exact List.mem_cons_self
      have hv : cellType v = ty := hcells v hvm
      congr 1
      refine finishCol_congr (fun _ d hs _ => ?_) (fun hn => ?_)
      · subst hs; exact enumConst_agree d v _ hv
      · refine const_agree ty v _ (hwf.const hk).1 hv (fun s e => ?_)
        subst e
        obtain rfl : CType.string = ty := hv
        exact hlim (by rw [← hE, hn rfl]; rfl) s hvm

/-! ## The frame `newS` builds is well-typed -/

/-- the column as stored -/
def vcolOf (c : LCol) : VCol := { name := c.name, ty := c.ty, vals := c.vals, data := c.cells }

/-- a column of `n` cells of its type -/
def ColProp (n : Int) (col : LCol) : Prop :=
  col.ty ∈ C03Compare.tys ∧ col.cells.size = n.toNat ∧ ∀ x ∈ col.cells.toList, wtCell col.ty col.vals x = true

theorem wt_of_cellType {ty : CType} (hty : goType ty) (vals : List Bytes) {x : Cell} (h : cellType x = ty) :
    wtCell ty vals x = true := by
  rcases hty with rfl | rfl | rfl | rfl <;> cases x <;> simp [cellType] at h <;> rfl

theorem wt_enum {decl : List Bytes} {src : List Cell} {vals : List Bytes} {strict : Bool}
    (h : mkEnum decl src = some (vals, strict)) {x : Cell} (hx : x ∈ src) (ht : cellType x = .string) :
    wtCell .enum vals x = true := by
  cases x <;> simp [cellType] at ht
  rename_i o
  cases o with
  | none => rfl
  | some s => exact wtCell_enum_of_mem (C17Enum.mkEnum_mem h s hx) (C17Enum.mkEnum_eq_some_iff.1 h).1

/-- the column made of a typed column is well-typed -/
theorem colS_ok (enums : List (Bytes × List Bytes)) (c : NewCol) (ht : GoData c) (col : LCol)
    (h : colS enums c = some col) : ColProp c.count col := by
  obtain ⟨hwf, hcells⟩ := ht
  have key : ∀ (ty : CType) (cl : List Cell), kindCells c = some (ty, cl) → C08NewIff.isStrCol c = (ty == .string) →
      goType ty → (∀ x ∈ cl, cellType x = ty) → (∀ x ∈ cl, x ∈ C08NewIff.enumSrc c) → cl.length = c.count.toNat →
      ColProp c.count col := by
    intro ty cl hk hstr hty hcl hsub hlen
    unfold colS at h
    rw [hk] at h
    dsimp only at h
    cases hd : declFor enums c with
    | none =>
      rw [hd] at h
      cases h
      refine ⟨?_, by simpa using hlen, fun x hx => wt_of_cellType hty [] (hcl x (by simpa using hx))⟩
      rcases hty with rfl | rfl | rfl | rfl <;> simp [C03Compare.tys]
    | some p =>
      rw [hd] at h
      obtain ⟨q, hm, e⟩ := Option.map_eq_some_iff.1 h
      have hs : ty = .string := by
        unfold declFor at hd
        cases hb : C08NewIff.isStrCol c
        · rw [hb] at hd; cases hd
        · exact eq_of_beq (hstr.symm.trans hb)
      subst e hs
      refine ⟨by simp [C03Compare.tys], by simpa using hlen, fun x hx => ?_⟩
      have hx' : x ∈ cl := by simpa using hx
      exact wt_enum (strict := q.2) hm (hsub x hx') (hcl x hx')
  cases hk : c.kind with
  | unsupported => rw [(colS_none_iff enums c).2 (.inl hk)] at h; cases h
  | cells ty =>
    rw [hk] at hcells
    obtain ⟨hty, hcnt⟩ := hwf.cells hk
    exact key ty c.cells (by unfold kindCells; rw [hk]) (isStrCol_cells hk) hty hcells
      (fun x hx => by unfold C08NewIff.enumSrc; rw [hk]; exact hx) (by rw [hcnt]; rfl)
  | const ty =>
    rw [hk] at hcells
    obtain ⟨hty, v, hv⟩ := hwf.const hk
    refine key ty _ (by unfold kindCells; rw [hk]) (isStrCol_const hk) hty (fun x hx => ?_)
      (fun x hx => by unfold C08NewIff.enumSrc; rw [hk]; exact List.mem_append_right _ hx) List.length_replicate
    rw [(List.mem_replicate.mp hx).2, hv]
    exact hcells v (by rw [hv]; exact List.mem_cons_self)

/-- the frame `newS` builds of typed columns: every column of one of the five column types, with `n` cells of its type
(an enum cell null or a member of the value table with rank < 255) -/
theorem newS_ok (cols : List NewCol) (order : List Bytes) (enums : List (Bytes × List Bytes)) (ht : ∀ c ∈ cols, GoData c)
    (f : LFrame) (h : newS cols order enums = .ok f) : ∀ col ∈ f.cols, ColProp f.n col := by
  obtain ⟨_, hlen, hm, hn, _⟩ := (newS_ok_iff ..).1 h
  intro col hc
  obtain ⟨c, hcm, e⟩ := List.mem_map.1 ((ListFacts.mapM_eq_some_iff _ _ _).1 hm ▸ List.mem_map_of_mem (f := some) hc)
  obtain ⟨n, _, hf⟩ := List.mem_filterMap.mp hcm
  have := colS_ok enums c (ht c (List.mem_of_find?_eq_some hf)) col e
  rw [(hlen c hcm).2] at this
  exact ⟨this.1, by rw [this.2.1, hn, Int.toNat_natCast], this.2.2⟩

theorem pick_range (c : VCol) (n : Nat) (h : c.data.size = n) : c.pick (List.range n) = c.data.toList := by
  unfold VCol.pick
  apply List.ext_getElem
  · simp [h]
  · intro i h1 h2
    simp only [List.length_map, List.length_range] at h1
    have h3 : i < c.data.size := by omega
    simp [h3]

theorem colOK_of_prop (n : Nat) (col : LCol) (h : ColProp n col) : C09ViewsGen.ColOK (vcolOf col) (List.range n) := by
  obtain ⟨h1, h2, h3⟩ := h
  have hsize : col.cells.size = n := by rw [h2]; exact Int.toNat_natCast n
  refine ⟨h1, ?_, ?_⟩
  · intro j hj
    have hj' : j < col.cells.size := hj
    have e : (vcolOf col).data[j]! = col.cells[j] := by simp [vcolOf, hj']
    rw [e]
    exact h3 _ (by simp)
  · intro j hj
    have := List.mem_range.mp hj
    show j < col.cells.size
    omega

/-! ## `New`, end to end -/

/-- **`New` of today's source with the constructors of today's source builds `newS`, and every cell reads back.**
For every map of columns that are well-typed Go values (`GoData`), with the string columns that have NO enum declaration
within the limits of the packed string pointer (`TypedFor`), every requested column order (empty: the default, sorted by
name) without duplicates, every list of enum declarations and either way of passing string slices (`plain`: `[]string` /
`[]*string`): `New` as regenerated — the guard prefix (`C08Guards`), `createColumn` and the loop and tail of `New`
(`C08Construct`), the column constructors of icolumn / fcolumn / bcolumn / scolumn (`C08CtorsGen`, `NewPointer` of
`C08PointerGen` included) and the enum factory (`C17Factory`) — returns exactly `newS cols order enums`: `Err` where the spec
rejects, else the spec's frame; and in that frame, stored with the ascending index `0 … n-1` `New` gives it, every column
read through the regenerated typed views (`C09ViewsGen`: `View(ix).Len()`, `.Slice()`, `.ItemAt(i)`) shows `n` rows and
exactly the spec's cells, which are the cells that were passed in (`newS`: `cells := cl.toArray`).

FULL STATEMENT (what C08 says of `New`): the same conclusion for EVERY column map, order and declaration list.
EXCLUDED here (`_partial`), exactly:
1. a column order that names a column twice (`hnd`); NECESSARY — `nodup_necessary` below: for `ColumnOrder("e","e")`
   over `{e, a}` with `Enums{e: …}` the conclusion is false (code `[enum, string]`, spec `[enum, enum]`);
2. a column with 2^32 rows or more (`GoData.wf.small`): the index is made with `uint32(len)` (`rows_2_32_outside`);
3. a string column WITHOUT enum declaration holding a string of 2^28 bytes or more, or 2^35 bytes or more in all
   (`TypedFor.limits`): `NewPointer` packs offset and length into overlapping bits (`C08PointerGen`). String data that is
   declared an enum is NOT restricted (`enum_beyond_limits`).
The remaining content of `GoData` (a Go cell type, a slice of `count` cells or one constant, cells of the declared type) is
no restriction of the Go inputs: it says which `NewCol` values stand for Go values. -/
theorem gen_new_end_to_end_partial (plain : Bytes → Bool) (cols : List NewCol) (order : List Bytes)
    (enums : List (Bytes × List Bytes)) (ht : ∀ c ∈ cols, TypedFor enums c) (hnd : (specOrder cols order).Nodup) :
    C08Construct.genNew genCtors plain cols order enums = some (newS cols order enums) ∧
    ∀ f, newS cols order enums = .ok f → ∀ col ∈ f.cols,
      C09ViewsGen.genLen (vcolOf col) (List.range f.n) = some f.n ∧
      C09ViewsGen.genSlice (vcolOf col) (List.range f.n) = some col.cells.toList ∧
      ∀ i, C09ViewsGen.genItemAt (vcolOf col) (List.range f.n) i = col.cells[i]? := by
  refine ⟨?_, ?_⟩
  · exact gen_new_semantics_of genCtors plain cols order enums (fun c hc => (ht c hc).data.wf)
      (fun c hc => typedFor_acts enums c (ht c hc)) hnd
  · intro f hf col hc
    have hprop := newS_ok cols order enums (fun c hc => (ht c hc).data) f hf col hc
    have hsize : (vcolOf col).data.size = f.n := by
      show col.cells.size = f.n
      rw [hprop.2.1]; exact Int.toNat_natCast f.n
    obtain ⟨h1, h2, h3⟩ := C09ViewsGen.gen_view_semantics (vcolOf col) (List.range f.n) (colOK_of_prop f.n col hprop)
    rw [pick_range _ _ hsize] at h1 h3
    refine ⟨by simpa using h2, h3, fun i => ?_⟩
    rw [h1 i]
    simp [vcolOf]

/-! ## A concrete input that meets the hypotheses -/

section Example

/-- `{"i": []int{1, 2}, "f": ConstFloat(0.0, 2), "e": []*string{"x", nil}, "s": []string{"", "ab"}}` -/
def exCols : List NewCol :=
  [{ name := [105], kind := .cells .int, count := 2, cells := [.int 1, .int 2] },
   { name := [102], kind := .const .float, count := 2, cells := [.float 0] },
   { name := [101], kind := .cells .string, count := 2, cells := [.str (some [120]), .str none] },
   { name := [115], kind := .cells .string, count := 2, cells := [.str (some []), .str (some [97, 98])] }]

theorem exCols_typed : ∀ c ∈ exCols, Typed c := by
  intro c hc
  simp only [exCols, List.mem_cons, List.not_mem_nil, or_false] at hc
  rcases hc with rfl | rfl | rfl | rfl
  · exact ⟨⟨by decide, ⟨Or.inl rfl, rfl⟩⟩, by decide, trivial⟩
  · exact ⟨⟨by decide, ⟨Or.inr (Or.inl rfl), _, rfl⟩⟩, by decide, trivial⟩
  · refine ⟨⟨by decide, ⟨Or.inr (Or.inr (Or.inr rfl)), rfl⟩⟩, by decide, ⟨by decide, ?_⟩⟩
    intro s hs
    simp [strsOf] at hs
    subst hs; decide
  · refine ⟨⟨by decide, ⟨Or.inr (Or.inr (Or.inr rfl)), rfl⟩⟩, by decide, ⟨by decide, ?_⟩⟩
    intro s hs
    simp [strsOf] at hs
    rcases hs with rfl | rfl <;> decide

/-- the hypotheses of `gen_new_end_to_end_partial` hold for it, in the order `s, e, i, f` with `e` declared an enum -/
example : (∀ c ∈ exCols, TypedFor [([101], [[121], [120]])] c) ∧ (specOrder exCols [[115], [101], [105], [102]]).Nodup ∧
    (specOrder exCols []).Nodup :=
  ⟨fun c hc => (exCols_typed c hc).for _, by decide, by decide⟩

/-- … and the spec is not trivial on it -/
example : (match newS exCols [[115], [101], [105], [102]] [([101], [[121], [120]])] with
    | .ok f => some (f.names, f.cols.map (·.ty), f.cols.map (·.vals), f.rows)
    | .err => none) =
    some ([[115], [101], [105], [102]], [.string, .enum, .int, .float], [[], [[121], [120]], [], []],
      [[.str (some []), .str (some [120]), .int 1, .float 0], [.str (some [97, 98]), .str none, .int 2, .float 0]]) := by
  rfl

/-- a string of 2^28 bytes -/
def bigStr : Bytes := List.replicate (2 ^ 28) 97

theorem bigStr_length : bigStr.length = 2 ^ 28 := List.length_replicate

/-- `{"e": []*string{<a string of 2^28 bytes>}}`: beyond the limit of the string pointer -/
def bigCol : NewCol := { name := [101], kind := .cells .string, count := 1, cells := [.str (some bigStr)] }

/-- **String data declared an enum is not restricted**: with `Enums{"e": …}` the column meets the hypothesis of
`gen_new_end_to_end_partial` (`TypedFor`), although it is outside the pointer's limits (the stronger hypothesis `Typed`
fails; so does `TypedFor` without the declaration). -/
theorem enum_beyond_limits : TypedFor [([101], [])] bigCol ∧ ¬ Typed bigCol ∧ ¬ TypedFor [] bigCol := by
  have hd : GoData bigCol := by
    refine ⟨⟨by decide, ⟨Or.inr (Or.inr (Or.inr rfl)), rfl⟩⟩, ?_⟩
    intro x hx
    have hx' : x = .str (some bigStr) := by simpa only [bigCol, List.mem_cons, List.not_mem_nil, or_false] using hx
    subst hx'; rfl
  have hno : ¬ PtrLimits bigCol := by
    intro h
    have h2 : bigStr.length < 2 ^ 28 := h.2 bigStr (List.mem_cons_self ..)
    rw [bigStr_length] at h2
    exact Nat.lt_irrefl _ h2
  have e1 : declaredEnum [([101], [])] bigCol = true := rfl
  have e2 : declaredEnum [] bigCol = false := rfl
  exact ⟨⟨hd, fun h => by rw [e1] at h; cases h⟩, fun h => hno h.limits, fun h => hno (h.limits e2)⟩

/-! ### The hypothesis on the order is necessary -/

private def nE : Bytes := [101]
private def nA : Bytes := [97]
/-- `{"e": []*string{"a"}, "a": []int{1}}` -/
def dupCols : List NewCol :=
  [{ name := nE, kind := .cells .string, count := 1, cells := [.str (some nA)] },
   { name := nA, kind := .cells .int, count := 1, cells := [.int 1] }]

def typesOf : Option Res → List CType
  | some (.ok f) => f.cols.map (·.ty)
  | _ => []

theorem dupCols_typed : ∀ c ∈ dupCols, Typed c := by
  intro c hc
  simp only [dupCols, List.mem_cons, List.not_mem_nil, or_false] at hc
  rcases hc with rfl | rfl
  · refine ⟨⟨by decide, ⟨Or.inr (Or.inr (Or.inr rfl)), rfl⟩⟩, by decide, ⟨by decide, ?_⟩⟩
    intro s hs
    simp [strsOf] at hs
    subst hs; decide
  · exact ⟨⟨by decide, ⟨Or.inl rfl, rfl⟩⟩, by decide, trivial⟩

/-- **The `Nodup` hypothesis cannot be dropped**: `New({e, a}, ColumnOrder("e", "e"), Enums{"e": {}})` meets every other
hypothesis (even the stronger `Typed`), the guard prefix lets it pass (right length, only known names), and the conclusion
is FALSE: the regenerated `New` (with the regenerated constructors) builds `[enum, string]` — the declaration is consumed
by the first occurrence —, `newS` builds `[enum, enum]`. (Outside the property's quantifier: a column order naming a
column twice; cf. `C08Construct.dup_order_witness`.) -/
theorem nodup_necessary :
    (∀ c ∈ dupCols, TypedFor [(nE, [])] c) ∧ ¬ (specOrder dupCols [nE, nE]).Nodup ∧
    typesOf (C08Construct.genNew genCtors (fun _ => false) dupCols [nE, nE] [(nE, [])]) = [.enum, .string] ∧
    typesOf (some (newS dupCols [nE, nE] [(nE, [])])) = [.enum, .enum] ∧
    C08Construct.genNew genCtors (fun _ => false) dupCols [nE, nE] [(nE, [])] ≠ some (newS dupCols [nE, nE] [(nE, [])]) := by
  have h1 : typesOf (C08Construct.genNew genCtors (fun _ => false) dupCols [nE, nE] [(nE, [])]) = [.enum, .string] := by
    rw [new_congr genCtors specCtors _ dupCols (fun c hc => typed_agree c (dupCols_typed c hc))]
    unfold C08Construct.genNew
    rw [gen_new_outcome, gen_construct_canon.1, gen_construct_canon.2.1]
    have : newOutcome (newReq dupCols [nE, nE]) = .ok := by decide
    rw [this]
    decide
  have h2 : typesOf (some (newS dupCols [nE, nE] [(nE, [])])) = [.enum, .enum] := by decide
  refine ⟨fun c hc => (dupCols_typed c hc).for _, by decide, h1, h2, fun h => ?_⟩
  rw [h] at h1
  rw [h1] at h2
  cases h2

/-! ### 2^32 rows or more are outside the statement -/

/-- **Counts of 2^32 or more are outside the statement**: a column of 4294967296 rows (`ConstBool{Val: false, Count: 1 << 32}`,
4 GiB) does not meet `GoData` (`WF.small`), and the hypothesis is not idle: the tail of `New` returns
`index.NewAscending(uint32(currentLen))` (`canonTail`: `.retFrame (.u32 .current)`), which for `currentLen = 2^32` is an
index of 0 rows, while `newS` says `n = 2^32`. -/
theorem rows_2_32_outside :
    ¬ GoData { name := [98], kind := .const .bool, count := 4294967296, cells := [.bool false] } ∧
    canonTail.getLast? = some (.retFrame (.u32 .current)) ∧
    (LInt.u32 .current).eval 0 { enums := [], current := 4294967296 } = 0 := by
  refine ⟨fun h => ?_, by decide, by decide⟩
  have := h.wf.small
  simp at this

end Example

end QF.Props.C08EndToEnd

#print axioms QF.Props.C08EndToEnd.new_congr
#print axioms QF.Props.C08EndToEnd.typed_agree
#print axioms QF.Props.C08EndToEnd.newS_ok
#print axioms QF.Props.C08EndToEnd.enum_beyond_limits
#print axioms QF.Props.C08EndToEnd.nodup_necessary
#print axioms QF.Props.C08EndToEnd.rows_2_32_outside
#print axioms QF.Props.C08EndToEnd.gen_new_end_to_end_partial
