import QF.Core.SpecFacts
import QF.Spec.Ops
import QF.Props.C02Spec
/-!
# C17 — enum columns, on the specification

Statements of property C17 about the spec functions `mkEnum` (Ops.lean), `enumRank`, `cellCmp`
(Basic.lean), `cmp6` and `leafPred` (Filter.lean).

* `mkEnum_declared`   declared values: strict, table = declaration, fails on any undeclared value.
* `mkEnum_derived`    nothing declared: the distinct non-null cells in order of first appearance
                      (`FirstAppearance`, which determines the table: `firstAppearance_unique`),
                      `none` exactly beyond 255 distinct values, never strict.
* `mkEnum_eq_some_iff`, `mkEnum_eq_none_iff`  what `mkEnum` returns and when it fails, without unfolding it: at most 255
                      values; the non-empty declaration, strict, every cell declared, or the derived table, not strict.
* `mkEnum_rank_lt_255` every rank is < 255 (255 is the null code); a rank is a position holding the
                      value asked for, is injective, and in a duplicate-free table every position is a rank.
* `enum_order_declared` comparisons follow the position in the table, not the alphabet.
* `enum_null_distinct` a null cell is incomparable with every cell.
* `enum_filter_undeclared` constant outside the table: error if strict, else all-false (all-true for `!=`).

`mkEnum` itself does not require the declaration to be duplicate-free; the statements that need it carry
`Nodup` as a hypothesis (a derived table always is: `FirstAppearance.nodup`).  With duplicates `enumRank`
answers the first position (`enumRank_eq_idxOf`).
-/

namespace QF.Props.C17Enum
open QF

/-! ## value tables derived from the data -/

/-- One step of the derivation of a value table: a new non-null string is appended. -/
def step (acc : List Bytes) (c : Cell) : List Bytes :=
  match c with
  | .str (some s) => if acc.contains s then acc else acc ++ [s]
  | _ => acc

def deriveFrom (acc : List Bytes) (cells : List Cell) : List Bytes := cells.foldl step acc

/-- The value table `mkEnum` derives when nothing is declared. -/
def derive (cells : List Cell) : List Bytes := deriveFrom [] cells

/-- A cell is acceptable for a declared value set: null, or one of the declared values. -/
def declOk (declared : List Bytes) (c : Cell) : Bool :=
  match c with
  | .str (some s) => declared.contains s
  | _ => true

theorem mkEnum_eq (declared : List Bytes) (cells : List Cell) :
    mkEnum declared cells =
      if declared.length > 255 then none
      else if !declared.isEmpty then
        (if cells.all (declOk declared) then some (declared, true) else none)
      else if (derive cells).length > 255 then none else some (derive cells, false) := rfl

@[simp] theorem deriveFrom_nil (acc : List Bytes) : deriveFrom acc [] = acc := rfl
@[simp] theorem deriveFrom_cons (acc : List Bytes) (c : Cell) (t : List Cell) :
    deriveFrom acc (c :: t) = deriveFrom (step acc c) t := rfl

theorem step_str_mem {acc : List Bytes} {s : Bytes} (h : s ∈ acc) : step acc (.str (some s)) = acc := by
  simp [step, h]

theorem step_str_not_mem {acc : List Bytes} {s : Bytes} (h : s ∉ acc) :
    step acc (.str (some s)) = acc ++ [s] := by
  simp [step, h]

theorem step_other {acc : List Bytes} {c : Cell} (h : ∀ s, c ≠ .str (some s)) : step acc c = acc := by
  unfold step
  split
  · next s => exact absurd rfl (h s)
  · rfl

/-- Case analysis on a step. -/
theorem step_cases (acc : List Bytes) (c : Cell) :
    (step acc c = acc ∧ ∀ s, c = .str (some s) → s ∈ acc) ∨
    (∃ s, c = .str (some s) ∧ s ∉ acc ∧ step acc c = acc ++ [s]) := by
  by_cases h : ∃ s, c = .str (some s)
  · obtain ⟨s, rfl⟩ := h
    by_cases hs : s ∈ acc
    · left; refine ⟨step_str_mem hs, ?_⟩
      intro s' h'; cases h'; exact hs
    · right; exact ⟨s, rfl, hs, step_str_not_mem hs⟩
  · left
    refine ⟨step_other (fun s hs => h ⟨s, hs⟩), ?_⟩
    intro s hs; exact absurd ⟨s, hs⟩ h

/-- a value is entered once -/
theorem step_idem (acc : List Bytes) (c : Cell) : step (step acc c) c = step acc c := by
  rcases step_cases acc c with ⟨h, _⟩ | ⟨s, rfl, _, h⟩
  · rw [h, h]
  · rw [h, step_str_mem (by simp)]

/-! ## `enumRank` -/

/-- The rank is a position in the table and the value stored there is the value asked for. -/
theorem enumRank_getElem {vals : List Bytes} {s : Bytes} {i : Nat} (h : enumRank vals s = some i) :
    i < vals.length ∧ vals[i]? = some s := by
  obtain ⟨hi, he, _⟩ := enumRank_eq_some_iff.1 h
  exact ⟨hi, by simp [hi, he]⟩

/-- Two values never share a rank: no value is ever reported as a different string. -/
theorem enumRank_injective {vals : List Bytes} {x y : Bytes} {i : Nat}
    (hx : enumRank vals x = some i) (hy : enumRank vals y = some i) : x = y := by
  obtain ⟨_, hx', _⟩ := enumRank_eq_some_iff.1 hx
  obtain ⟨_, hy', _⟩ := enumRank_eq_some_iff.1 hy
  rw [← hx', ← hy']

/-- In a table without duplicates every position is the rank of the value stored there. -/
theorem enumRank_nodup {vals : List Bytes} (hnd : vals.Nodup) (i : Nat) (hi : i < vals.length) :
    enumRank vals vals[i] = some i := by
  rw [enumRank_eq_some_iff]
  refine ⟨hi, rfl, ?_⟩
  intro j hj e
  have := (List.pairwise_iff_getElem.1 hnd) j i (by omega) hi hj
  exact this e

theorem enumRank_eq_idxOf {vals : List Bytes} {s : Bytes} (h : s ∈ vals) :
    enumRank vals s = some (vals.idxOf s) :=
  List.findIdx?_eq_some_of_exists ⟨s, h, beq_self_eq_true s⟩

/-! ## C17: construction -/

theorem all_declOk {declared : List Bytes} {cells : List Cell} :
    cells.all (declOk declared) = true ↔ ∀ s, Cell.str (some s) ∈ cells → s ∈ declared := by
  rw [List.all_eq_true]
  constructor
  · intro h s hs
    have := h _ hs
    simpa [declOk] using this
  · intro h c hc
    unfold declOk
    split
    · next s => simpa using h s hc
    · rfl

/-- `vals` lists exactly the distinct non-null cells, in the order of their first appearance. -/
structure FirstAppearance (vals : List Bytes) (cells : List Cell) : Prop where
  nodup : vals.Nodup
  mem : ∀ s, s ∈ vals ↔ Cell.str (some s) ∈ cells
  order : ∀ x y, x ∈ vals → y ∈ vals →
    (vals.idxOf x < vals.idxOf y ↔ cells.idxOf (Cell.str (some x)) < cells.idxOf (Cell.str (some y)))

theorem idxOf_snoc_of_mem {α} [BEq α] [LawfulBEq α] {l : List α} {x : α} (a : α) (h : x ∈ l) :
    (l ++ [a]).idxOf x = l.idxOf x := by
  rw [List.idxOf_append, if_pos h]

theorem idxOf_snoc_self {α} [BEq α] [LawfulBEq α] {l : List α} {a : α} (h : a ∉ l) :
    (l ++ [a]).idxOf a = l.length := by
  rw [List.idxOf_append, if_neg h]; simp

/-- one more cell keeps the description: `FirstAppearance` is the invariant of the derivation -/
theorem FirstAppearance.snoc {vals : List Bytes} {cells : List Cell} (h : FirstAppearance vals cells) (c : Cell) :
    FirstAppearance (step vals c) (cells ++ [c]) := by
  rcases step_cases vals c with ⟨e, hm⟩ | ⟨s, rfl, hs, e⟩
  · -- nothing new: every value keeps its first position
    rw [e]
    have hc : ∀ {x}, x ∈ vals → Cell.str (some x) ∈ cells := fun hx => (h.mem _).1 hx
    refine ⟨h.nodup, fun s => ?_, fun x y hx hy => ?_⟩
    · rw [h.mem, List.mem_append, List.mem_singleton]
      exact ⟨.inl, fun h' => h'.elim id fun e' => (h.mem s).1 (hm s e'.symm)⟩
    · rw [idxOf_snoc_of_mem c (hc hx), idxOf_snoc_of_mem c (hc hy)]
      exact h.order x y hx hy
  · -- a new value: last in the table, and its cell is the last
    rw [e]
    have hsc : Cell.str (some s) ∉ cells := fun h' => hs ((h.mem s).2 h')
    have hlt : ∀ {x}, x ∈ vals → vals.idxOf x < vals.length ∧ cells.idxOf (Cell.str (some x)) < cells.length :=
      fun hx => ⟨List.idxOf_lt_length_of_mem hx, List.idxOf_lt_length_of_mem ((h.mem _).1 hx)⟩
    have hidx : ∀ {x}, x ∈ vals ++ [s] → (x ∈ vals ∧ (vals ++ [s]).idxOf x = vals.idxOf x ∧
          (cells ++ [Cell.str (some s)]).idxOf (Cell.str (some x)) = cells.idxOf (Cell.str (some x))) ∨
        (x = s ∧ (vals ++ [s]).idxOf x = vals.length ∧
          (cells ++ [Cell.str (some s)]).idxOf (Cell.str (some x)) = cells.length) := by
      intro x hx
      rcases List.mem_append.1 hx with hx | hx
      · exact .inl ⟨hx, idxOf_snoc_of_mem s hx, idxOf_snoc_of_mem _ ((h.mem _).1 hx)⟩
      · rw [List.mem_singleton] at hx; subst hx
        exact .inr ⟨rfl, idxOf_snoc_self hs, idxOf_snoc_self hsc⟩
    refine ⟨?_, fun x => ?_, fun x y hx hy => ?_⟩
    · rw [List.nodup_append]
      exact ⟨h.nodup, by simp, fun a ha b hb => by rw [List.mem_singleton.1 hb]; rintro rfl; exact hs ha⟩
    · simp only [List.mem_append, List.mem_singleton, h.mem, Cell.str.injEq, Option.some.injEq]
    · rcases hidx hx with ⟨hx', e1, e2⟩ | ⟨_, e1, e2⟩ <;> rcases hidx hy with ⟨hy', e3, e4⟩ | ⟨_, e3, e4⟩ <;>
        rw [e1, e2, e3, e4]
      · exact h.order x y hx' hy'
      · have := hlt hx'; omega
      · have := hlt hy'; omega
      · omega

theorem deriveFrom_firstAppearance (cells : List Cell) : ∀ (acc : List Bytes) (pre : List Cell),
    FirstAppearance acc pre → FirstAppearance (deriveFrom acc cells) (pre ++ cells) := by
  induction cells with
  | nil => intro acc pre h; simpa using h
  | cons c t ih =>
    intro acc pre h
    have := ih (step acc c) (pre ++ [c]) (h.snoc c)
    simpa using this

theorem derive_firstAppearance (cells : List Cell) : FirstAppearance (derive cells) cells :=
  deriveFrom_firstAppearance cells [] [] ⟨.nil, by simp, by simp⟩

/-- the table is sorted by the position of the first appearance -/
theorem FirstAppearance.sorted {vals : List Bytes} {cells : List Cell} (h : FirstAppearance vals cells) :
    vals.Pairwise fun x y => cells.idxOf (Cell.str (some x)) < cells.idxOf (Cell.str (some y)) := by
  rw [List.pairwise_iff_getElem]
  intro i j hi hj hij
  have := (h.order vals[i] vals[j] (List.getElem_mem hi) (List.getElem_mem hj)).1
  rw [h.nodup.idxOf_getElem, h.nodup.idxOf_getElem] at this
  exact this hij

/-- The three conditions determine the table: "the distinct values in order of first appearance" is a
complete description. -/
theorem firstAppearance_unique {v1 v2 : List Bytes} {cells : List Cell}
    (h1 : FirstAppearance v1 cells) (h2 : FirstAppearance v2 cells) : v1 = v2 :=
  -- two duplicate-free lists with the same members, sorted by the same strict order
  List.Perm.eq_of_pairwise (fun _ _ _ _ hab hba => absurd hab (Nat.lt_asymm hba)) h1.sorted h2.sorted
    ((List.perm_ext_iff_of_nodup h1.nodup h2.nodup).2 fun s => by rw [h1.mem, h2.mem])

/-- More than `n` distinct non-null values occur in `cells`. -/
def MoreDistinctThan (n : Nat) (cells : List Cell) : Prop :=
  ∃ l : List Bytes, l.Nodup ∧ (∀ s ∈ l, Cell.str (some s) ∈ cells) ∧ l.length > n

theorem moreDistinctThan_iff {vals : List Bytes} {cells : List Cell} (h : FirstAppearance vals cells) (n : Nat) :
    MoreDistinctThan n cells ↔ vals.length > n := by
  constructor
  · rintro ⟨l, hl, hm, hn⟩
    have : l.length ≤ vals.length :=
      hl.length_le_of_subset (fun s hs => (h.mem s).2 (hm s hs))
    omega
  · intro hn
    exact ⟨vals, h.nodup, fun s hs => (h.mem s).1 hs, hn⟩

/-- **What `mkEnum` returns.** It succeeds with a table of at most 255 values that is either the non-empty declaration,
strict, every non-null cell being declared, or (nothing declared) the derived table, not strict. -/
theorem mkEnum_eq_some_iff {declared : List Bytes} {cells : List Cell} {vals : List Bytes} {strict : Bool} :
    mkEnum declared cells = some (vals, strict) ↔
      vals.length ≤ 255 ∧
      (declared ≠ [] ∧ vals = declared ∧ strict = true ∧ (∀ s, Cell.str (some s) ∈ cells → s ∈ declared) ∨
       declared = [] ∧ vals = derive cells ∧ strict = false) := by
  rw [mkEnum_eq, ← all_declOk]
  cases declared with
  | nil =>
    rw [if_neg (show ¬ ([] : List Bytes).length > 255 from Nat.not_lt_zero _), List.isEmpty_nil, Bool.not_true,
      if_neg Bool.false_ne_true]
    constructor
    · intro h
      split at h
      · cases h
      · cases h; exact ⟨by omega, .inr ⟨rfl, rfl, rfl⟩⟩
    · rintro ⟨hl, ⟨h, _⟩ | ⟨_, rfl, rfl⟩⟩
      · exact absurd rfl h
      · rw [if_neg (by omega)]
  | cons a t =>
    rw [List.isEmpty_cons, Bool.not_false, if_pos rfl]
    constructor
    · intro h
      split at h
      · cases h
      · split at h
        · cases h; exact ⟨by omega, .inl ⟨List.cons_ne_nil _ _, rfl, rfl, ‹_›⟩⟩
        · cases h
    · rintro ⟨hl, ⟨_, rfl, rfl, h⟩ | ⟨h, _⟩⟩
      · rw [if_neg (by omega), if_pos h]
      · cases h

/-- **When `mkEnum` fails**: more than 255 declared values; a declaration and a cell outside it; nothing declared and
more than 255 distinct values. -/
theorem mkEnum_eq_none_iff (declared : List Bytes) (cells : List Cell) :
    mkEnum declared cells = none ↔
      declared.length > 255 ∨ (declared = [] ∧ MoreDistinctThan 255 cells) ∨
      (declared ≠ [] ∧ ∃ s, Cell.str (some s) ∈ cells ∧ s ∉ declared) := by
  rw [moreDistinctThan_iff (derive_firstAppearance cells), mkEnum_eq]
  by_cases hl : declared.length > 255
  · rw [if_pos hl]; exact ⟨fun _ => .inl hl, fun _ => rfl⟩
  · rw [if_neg hl]
    cases declared with
    | nil =>
      rw [List.isEmpty_nil, Bool.not_true, if_neg Bool.false_ne_true]
      constructor
      · intro h
        split at h
        · exact .inr (.inl ⟨rfl, ‹_›⟩)
        · cases h
      · rintro (h | ⟨_, h⟩ | ⟨h, _⟩)
        · exact absurd h hl
        · rw [if_pos h]
        · exact absurd rfl h
    | cons a t =>
      rw [List.isEmpty_cons, Bool.not_false, if_pos rfl]
      constructor
      · intro h
        split at h
        · cases h
        · next hn =>
          refine .inr (.inr ⟨List.cons_ne_nil _ _, Classical.byContradiction fun hc => hn (all_declOk.2 fun s hs => ?_)⟩)
          exact Classical.byContradiction fun hm => hc ⟨s, hs, hm⟩
      · rintro (h | ⟨h, _⟩ | ⟨_, s, hs, hm⟩)
        · exact absurd h hl
        · cases h
        · rw [if_neg fun h => hm (all_declOk.1 h s hs)]

/-- every non-null cell is in the table -/
theorem mkEnum_mem {decl : List Bytes} {src : List Cell} {vals : List Bytes} {strict : Bool}
    (h : mkEnum decl src = some (vals, strict)) (s : Bytes) (hs : Cell.str (some s) ∈ src) : s ∈ vals := by
  obtain ⟨_, ⟨_, rfl, _, hd⟩ | ⟨_, rfl, _⟩⟩ := mkEnum_eq_some_iff.1 h
  · exact hd s hs
  · exact ((derive_firstAppearance src).mem s).2 hs

/-! ### one more cell -/

theorem derive_snoc (pre : List Cell) (c : Cell) : derive (pre ++ [c]) = step (derive pre) c := by
  simp [derive, deriveFrom]

/-- a cell that brings nothing new (null, or a value of the table) changes nothing -/
theorem mkEnum_snoc_old {declared : List Bytes} {pre : List Cell} {vals : List Bytes} {strict : Bool}
    (h : mkEnum declared pre = some (vals, strict)) {c : Cell} (hc : ∀ s, c = .str (some s) → s ∈ vals) :
    mkEnum declared (pre ++ [c]) = some (vals, strict) := by
  obtain ⟨hl, ⟨hne, rfl, rfl, hd⟩ | ⟨rfl, rfl, rfl⟩⟩ := mkEnum_eq_some_iff.1 h
  · refine mkEnum_eq_some_iff.2 ⟨hl, .inl ⟨hne, rfl, rfl, fun s hs => ?_⟩⟩
    rcases List.mem_append.1 hs with hs | hs
    · exact hd s hs
    · exact hc s (List.mem_singleton.1 hs).symm
  · refine mkEnum_eq_some_iff.2 ⟨hl, .inr ⟨rfl, ?_, rfl⟩⟩
    rcases step_cases (derive pre) c with ⟨e, _⟩ | ⟨s, rfl, hs, _⟩
    · rw [derive_snoc, e]
    · exact absurd (hc s rfl) hs

/-- a new value: refused by a declaration and by a full table, else appended -/
theorem mkEnum_snoc_new {declared : List Bytes} {pre : List Cell} {vals : List Bytes} {strict : Bool}
    (h : mkEnum declared pre = some (vals, strict)) {s : Bytes} (hs : s ∉ vals) :
    mkEnum declared (pre ++ [.str (some s)]) =
      if strict then none else if vals.length ≥ 255 then none else some (vals ++ [s], false) := by
  obtain ⟨hl, ⟨hne, rfl, rfl, hd⟩ | ⟨rfl, rfl, rfl⟩⟩ := mkEnum_eq_some_iff.1 h
  · exact (mkEnum_eq_none_iff _ _).2 (.inr (.inr ⟨hne, s, by simp, hs⟩))
  · rw [if_neg Bool.false_ne_true]
    by_cases hfull : (derive pre).length ≥ 255
    · rw [if_pos hfull, mkEnum_eq_none_iff, moreDistinctThan_iff (derive_firstAppearance _), derive_snoc,
        step_str_not_mem hs]
      exact .inr (.inl ⟨rfl, by simp; omega⟩)
    · rw [if_neg hfull]
      exact mkEnum_eq_some_iff.2 ⟨by simp; omega, .inr ⟨rfl, by rw [derive_snoc, step_str_not_mem hs], rfl⟩⟩

/-- a failure is final -/
theorem mkEnum_append_none {declared : List Bytes} {pre : List Cell} (h : mkEnum declared pre = none) (rest : List Cell) :
    mkEnum declared (pre ++ rest) = none := by
  rw [mkEnum_eq_none_iff] at h ⊢
  rcases h with h | ⟨h, l, h1, h2, h3⟩ | ⟨h, s, h1, h2⟩
  · exact .inl h
  · exact .inr (.inl ⟨h, l, h1, fun s hs => List.mem_append_left _ (h2 s hs), h3⟩)
  · exact .inr (.inr ⟨h, s, List.mem_append_left _ h1, h2⟩)

/-- Declared values: the column is strict, the table is the declaration, and construction fails on any
undeclared value. -/
theorem mkEnum_declared (declared : List Bytes) (cells : List Cell)
    (hne : declared ≠ []) (hlen : declared.length ≤ 255) :
    (mkEnum declared cells = some (declared, true) ↔
        ∀ s, Cell.str (some s) ∈ cells → s ∈ declared) ∧
    (mkEnum declared cells = none ↔ ∃ s, Cell.str (some s) ∈ cells ∧ s ∉ declared) ∧
    (mkEnum declared cells = some (declared, true) ∨ mkEnum declared cells = none) := by
  have h1 : mkEnum declared cells = some (declared, true) ↔ ∀ s, Cell.str (some s) ∈ cells → s ∈ declared := by
    rw [mkEnum_eq_some_iff]
    exact ⟨fun h => h.2.elim (·.2.2.2) fun h => absurd h.1 hne, fun h => ⟨hlen, .inl ⟨hne, rfl, rfl, h⟩⟩⟩
  have h2 : mkEnum declared cells = none ↔ ∃ s, Cell.str (some s) ∈ cells ∧ s ∉ declared := by
    rw [mkEnum_eq_none_iff]
    exact ⟨fun h => h.elim (fun h => absurd h (by omega)) fun h => h.elim (fun h => absurd h.1 hne) (·.2), fun h => .inr (.inr ⟨hne, h⟩)⟩
  refine ⟨h1, h2, ?_⟩
  cases h : mkEnum declared cells with
  | none => exact .inr rfl
  | some p =>
    obtain ⟨v, s⟩ := p
    obtain ⟨_, ⟨_, rfl, rfl, _⟩ | ⟨he, _⟩⟩ := mkEnum_eq_some_iff.1 h
    · exact .inl rfl
    · exact absurd he hne

/-- Nothing declared: the values are the distinct non-null cells in order of first appearance; the
construction fails exactly when there are more than 255 of them; the column is never strict. -/
theorem mkEnum_derived (cells : List Cell) :
    (mkEnum [] cells = none ↔ MoreDistinctThan 255 cells) ∧
    (∀ vals strict, mkEnum [] cells = some (vals, strict) →
        strict = false ∧ FirstAppearance vals cells ∧ vals.length ≤ 255) ∧
    (¬ MoreDistinctThan 255 cells → ∃ vals, mkEnum [] cells = some (vals, false)) := by
  have h1 : mkEnum [] cells = none ↔ MoreDistinctThan 255 cells := by
    rw [mkEnum_eq_none_iff]
    exact ⟨fun h => h.elim (fun h => nomatch h) fun h => h.elim (·.2) fun h => absurd rfl h.1, fun h => .inr (.inl ⟨rfl, h⟩)⟩
  have h2 : ∀ vals strict, mkEnum [] cells = some (vals, strict) →
      strict = false ∧ FirstAppearance vals cells ∧ vals.length ≤ 255 := fun vals strict h => by
    obtain ⟨hl, ⟨hne, _⟩ | ⟨_, rfl, rfl⟩⟩ := mkEnum_eq_some_iff.1 h
    · exact absurd rfl hne
    · exact ⟨rfl, derive_firstAppearance cells, hl⟩
  refine ⟨h1, h2, fun h => ?_⟩
  cases hm : mkEnum [] cells with
  | none => exact absurd (h1.1 hm) h
  | some p => exact ⟨p.1, by rw [← (h2 p.1 p.2 hm).1]⟩

theorem mkEnum_nodup {declared : List Bytes} {cells : List Cell} {vals : List Bytes} {strict : Bool}
    (h : mkEnum declared cells = some (vals, strict)) (hnd : declared.Nodup) : vals.Nodup := by
  rcases (mkEnum_eq_some_iff.1 h).2 with ⟨_, rfl, _⟩ | ⟨_, rfl, _⟩
  · exact hnd
  · exact (derive_firstAppearance cells).nodup

/-- Every table that `mkEnum` produces has at most 255 entries: every rank is below 255, the code of the
null marker. Ranks are positions, they identify the value, and in a duplicate-free table every position
is a rank. -/
theorem mkEnum_rank_lt_255 (declared : List Bytes) (cells : List Cell) (vals : List Bytes) (strict : Bool)
    (h : mkEnum declared cells = some (vals, strict)) :
    vals.length ≤ 255 ∧
    (∀ s i, enumRank vals s = some i → i < 255 ∧ vals[i]? = some s) ∧
    (∀ x y i, enumRank vals x = some i → enumRank vals y = some i → x = y) ∧
    (vals.Nodup → ∀ i (hi : i < vals.length), enumRank vals vals[i] = some i) := by
  have hlen := (mkEnum_eq_some_iff.1 h).1
  refine ⟨hlen, fun s i hr => ?_, fun x y i => enumRank_injective, enumRank_nodup⟩
  have := enumRank_getElem hr
  exact ⟨by omega, this.2⟩


/-! ## C17: order, null, filters -/

/-- Ordering comparisons on an enum column follow the position in the value table, not the alphabet. -/
theorem enum_order_declared (c : LCol) (hty : c.ty = .enum) (hnd : c.vals.Nodup)
    (i j : Nat) (hi : i < c.vals.length) (hj : j < c.vals.length) :
    cellCmp c (.str (some c.vals[i])) (.str (some c.vals[j])) = some (compare i j) := by
  unfold cellCmp
  simp only [hty, beq_self_eq_true, if_true, enumRank_nodup hnd i hi, enumRank_nodup hnd j hj]

/-- The same statement with the values named: `x` and `y` are compared by their positions. -/
theorem enum_order_declared' (c : LCol) (hty : c.ty = .enum) (x y : Bytes)
    (hx : x ∈ c.vals) (hy : y ∈ c.vals) :
    cellCmp c (.str (some x)) (.str (some y)) = some (compare (c.vals.idxOf x) (c.vals.idxOf y)) := by
  unfold cellCmp
  simp only [hty, beq_self_eq_true, if_true, enumRank_eq_idxOf hx, enumRank_eq_idxOf hy]

/-- The six comparators on two values of the table answer by position. -/
theorem enum_cmp6_declared (c : LCol) (hty : c.ty = .enum) (hnd : c.vals.Nodup)
    (i j : Nat) (hi : i < c.vals.length) (hj : j < c.vals.length) (op : String) :
    cmp6 c op (.str (some c.vals[i])) (.str (some c.vals[j])) =
      (if op == "!=" then compare i j != .eq else ordOp op (compare i j)) := by
  unfold cmp6
  rw [enum_order_declared c hty hnd i j hi hj]

/-- Null stays distinct from every value (and from null): a null cell is incomparable with every cell,
so the six comparators are all false except `!=`, which is true. -/
theorem enum_null_distinct (c : LCol) (n a : Cell) (hn : n.isNull = true) :
    cellCmp c n a = none ∧ cellCmp c a n = none ∧
    (∀ op, cmp6 c op n a = (op == "!=")) ∧ (∀ op, cmp6 c op a n = (op == "!=")) :=
  ⟨C02Spec.cellCmp_null_left c n a hn, C02Spec.cellCmp_null_right c a n hn,
    fun op => C02Spec.cmp6_null_left c op n a hn, fun op => C02Spec.cmp6_null_right c op a n hn⟩

/-- The null cell of an enum column against any value of the column. -/
theorem enum_null_distinct_str (c : LCol) (x : Bytes) (op : String) :
    cmp6 c op (.str none) (.str (some x)) = (op == "!=") ∧
    cmp6 c op (.str (some x)) (.str none) = (op == "!=") :=
  ⟨(enum_null_distinct c (.str none) _ rfl).2.2.1 op, (enum_null_distinct c (.str none) _ rfl).2.2.2 op⟩

/-- A filter constant outside the value table: an error on a strict column, otherwise no row matches
(every row for `!=`). -/
theorem enum_filter_undeclared (lo : LikeOracle) (f : LFrame) (l : Leaf) (c : LCol) (op : String) (v : Bytes)
    (hf : f.find? l.col = some c) (hty : c.ty = .enum)
    (hcmp : l.cmp = .builtin op) (harg : l.arg = .cell (.str (some v)))
    (hop : isOrd6 op = true) (hv : v ∉ c.vals) :
    leafPred lo f l = if c.strict then none else some (fun _ => op == "!=") := by
  have hr : (enumRank c.vals v).isSome = false := by
    rw [enumRank_eq_none_iff.2 hv]; rfl
  unfold leafPred
  simp only [hf, hcmp, harg, hty, hop, hr, if_true]
  simp

/-- The counterpart: a constant of the table is compared row by row. -/
theorem enum_filter_declared (lo : LikeOracle) (f : LFrame) (l : Leaf) (c : LCol) (op : String) (v : Bytes)
    (hf : f.find? l.col = some c) (hty : c.ty = .enum)
    (hcmp : l.cmp = .builtin op) (harg : l.arg = .cell (.str (some v)))
    (hop : isOrd6 op = true) (hv : v ∈ c.vals) :
    leafPred lo f l = some (fun r => cmp6 c op c.cells[r]! (.str (some v))) := by
  have hr : (enumRank c.vals v).isSome = true := enumRank_isSome_iff.2 hv
  unfold leafPred
  simp only [hf, hcmp, harg, hty, hop, hr, if_true]


/-! ## Concrete instances: the hypotheses are satisfiable -/

section Examples

/-- "b" < "a" is declared; the data use both values and null. -/
private def declBA : List Bytes := [[98], [97]]
private def dataAB : List Cell := [.str (some [97]), .str none, .str (some [98]), .str (some [97])]

example : declBA ≠ [] ∧ declBA.length ≤ 255 ∧ mkEnum declBA dataAB = some (declBA, true) := by decide
-- an undeclared value ("c") makes the construction fail
example : mkEnum declBA (dataAB ++ [.str (some [99])]) = none := by decide
example : (∀ s, Cell.str (some s) ∈ dataAB → s ∈ declBA) :=
  ((mkEnum_declared declBA dataAB (by decide) (by decide)).1).1 (by decide)

-- derived: order of first appearance is a, b
example : mkEnum [] dataAB = some ([[97], [98]], false) := by decide
example : FirstAppearance [[97], [98]] dataAB :=
  ((mkEnum_derived dataAB).2.1 [[97], [98]] false (by decide)).2.1

/-- 256 distinct one-byte strings: beyond the limit. -/
private def many : List Cell := (List.range 256).map (fun i => Cell.str (some [UInt8.ofNat i]))

/-- distinct bytes make distinct one-byte strings -/
theorem nodup_bytes (n : Nat) (hn : n ≤ 256) : ((List.range n).map (fun i => ([UInt8.ofNat i] : Bytes))).Nodup := by
  unfold List.Nodup
  rw [List.pairwise_map]
  refine List.Pairwise.imp_of_mem ?_ (List.nodup_range (n := n))
  intro a b ha hb hab e
  simp only [List.mem_range] at ha hb
  simp only [List.cons.injEq, and_true] at e
  have := congrArg UInt8.toNat e
  simp only [UInt8.toNat_ofNat'] at this
  omega

private theorem nodup_bytes256 : ((List.range 256).map (fun i => ([UInt8.ofNat i] : Bytes))).Nodup :=
  nodup_bytes 256 (Nat.le_refl _)

private theorem many_distinct : MoreDistinctThan 255 many :=
  ⟨_, nodup_bytes256, by
    intro s hs
    obtain ⟨i, hi, rfl⟩ := List.mem_map.1 hs
    exact List.mem_map.2 ⟨i, hi, rfl⟩, by simp⟩
example : MoreDistinctThan 255 many := many_distinct
example : mkEnum [] many = none := (mkEnum_derived many).1.2 many_distinct

private def colBA : LCol := { name := [120], ty := .enum, vals := declBA, strict := true, cells := dataAB.toArray }

-- the declared order is the reverse of the alphabetical one, and "<" follows the declaration
example : bytesCmp [98] [97] = .gt := by decide
example : colBA.ty = .enum ∧ colBA.vals.Nodup := by decide
example : cellCmp colBA (.str (some [98])) (.str (some [97])) = some .lt :=
  enum_order_declared colBA rfl (by decide) 0 1 (by decide) (by decide)
example : cmp6 colBA "<" (.str (some [98])) (.str (some [97])) = true := by decide
example : cmp6 colBA "<" (.str (some [97])) (.str (some [98])) = false := by decide
example : cmp6 colBA "=" (.str none) (.str (some [97])) = false ∧
    cmp6 colBA "!=" (.str none) (.str (some [97])) = true := by decide

private def frBA : LFrame := { cols := [colBA], n := 4 }
private def leafC (op : String) : Leaf := { inv := false, col := [120], cmp := .builtin op, arg := .cell (.str (some [99])) }

example (lo : LikeOracle) : leafPred lo frBA (leafC "<") = none :=
  enum_filter_undeclared lo frBA (leafC "<") colBA "<" [99] rfl rfl rfl rfl (by decide) (by decide)
example (lo : LikeOracle) :
    leafPred lo { frBA with cols := [{ colBA with strict := false }] } (leafC "!=") = some (fun _ => true) :=
  enum_filter_undeclared lo _ (leafC "!=") { colBA with strict := false } "!=" [99] rfl rfl rfl rfl (by decide) (by decide)

end Examples

#print axioms mkEnum_declared
#print axioms mkEnum_derived
#print axioms firstAppearance_unique
#print axioms mkEnum_rank_lt_255
#print axioms enum_order_declared
#print axioms enum_order_declared'
#print axioms enum_null_distinct
#print axioms enum_filter_undeclared
#print axioms enum_filter_declared

end QF.Props.C17Enum
