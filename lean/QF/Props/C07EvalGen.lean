import QF.Gen.EvalFns
import QF.Gen.ExprDecode
import QF.Props.C07Eval
import QF.Core.ExecAttr
/-!
# C07 — the expression EXECUTION of today's expression.go and `QFrame.Eval` are the mirror's (tie T1, by semantics)

`QF.Gen.evalFns` (regenerated on every run by go/cmd/extract/evalast.go) holds the `execute` methods of the eight expression
structs of /repo/expression.go (`getFunc` and the constructors they call on the spot inlined) and `QFrame.Eval` as decision
trees of the language `QF.EV` (QF/Core/EVExpr.lean); `QF.Gen.tempColNameAst` is `tempColName`. `EV.interp` / `EV.interpEval`
are the Go meaning of such terms: calls on frames (`Apply(Instruction{…})`, `Drop`, `Copy`, `Contains`, `functionType`,
`withErr`), `ctx.GetFunc` and the temp-name function are primitives whose meaning is the frame mirror's (`Fr.applyConst` /
`apply1` / `apply2`, `C08.drop`, `C08.copy`, `Fr.contains`, the name map, `Fr.Ctx`). Proved here, over the terms generated TODAY:

* `gen_missingcol_semantics` — today's `missingCol` (regenerated as `Gen.missingColAst`, language `EV.EMiss`: the type switch
  by struct role, the column fields by type and declaration order, the recursion into the `Expression` fields, the final
  loop) returns, for every expression tree and frame, the FIRST column reference of the tree, in left-to-right order, that is
  not a column of the frame, and `("", false)` when every reference is a column. `Eval` calls it right after the `qf.Err`
  guard and answers with an error when a column is missing: column references are resolved against the frame `Eval` is
  called on, never against temporaries (the library's repair of the temp-name capture; witness `witCapture` in section 6, against the
  spec in C07EndToEnd).
* `gen_eval_no_opaque` — everything was understood.
* `gen_eval_canon` — finite `decide`: today's terms are the canonical terms `canonFns` / `canonTemp` written out below.
  Insensitive to names of locals, fields, methods and helper functions and to how the helpers are split; sensitive to
  every test, to the order of the calls, to every argument of `Instruction`, `Drop`, `Copy`, `GetFunc`, to the prefixes, the
  bounds and the pieces of the temp name.
* `gen_temp_semantics` / `gen_temp_no_panic` — `tempColName` tries `prefix-temp-0 … prefix-temp-9999` in order and returns
  the first that is not a column; it panics only if all 10000 are columns, which a well-formed frame with fewer than 10000
  columns excludes. (`ETmp.name` writes "PANIC" for the panic, as the hand mirror `Fr.tempColName` does.)
* `gen_eval_semantics` — for EVERY expression tree, frame and context the interpretation of today's `execute` methods
  returns exactly what the hand mirror `C07Eval.execute'` returns: the frame (columns, order, cells, index, error) and the
  column name; `gen_eval_semantics_eval`: the same for `QFrame.Eval` and `C07Eval.eval'`; `gen_eval_semantics_decoded`: in
  particular for every tree the regenerated decoder `Gen.newExprAst` returns.
* `gen_eval_bookkeeping` — `C07Eval.eval'_bookkeeping` for the regenerated code: what a successful `Eval(dst, e)` leaves of
  the frame (the old columns in place, `dst`, no temporary, the same row index). `gen_eval_error_propagates`: a failed frame is returned as it is by every method, and the
  error of a sub-expression's result is the error of the enclosing expression's result and of `Eval`'s.
* witnesses: seven mutations of the code (the `Drop` of the constant's temp column removed; `result.Contains` for
  `qf.Contains` in `exprExpr2`; the operands of the `colColExpr` built by `exprExpr2` swapped; `constFirst` ignored; `Eval`
  without its check of the column references; `missingCol` searching the right operand first; `missingCol` without the clause
  for `colConstExpr`) as terms: each differs from the canonical term and returns a different result on a concrete expression
  and frame.

Modelling notes. (1) `Apply` of one instruction chooses the mirror's form by the kind of `Fn` (`EV.applyI`), the Go code by
the emptiness of `SrcCol1` / `SrcCol2`; the two coincide unless a column is named `""`, which `CheckName` excludes.
(2) The panic of `tempColName` is the string "PANIC", as in the mirror. (3) errors are `Fr.Err` kinds: `functionType`'s is
`.unknownCol` (kept by `Propagate`), errors built with `qerrors.New` and the error field of `errorExpr` are `.other`.
-/
namespace QF.Props.C07EvalGen
open QF.EV Fr QF.Props.C08 QF.Props.C07Eval

/-! ## 1. canonical terms -/

/-- `if f.Err != nil { return f, "" }; k` -/
def failedElse (f : ET) (k : EP) : EP := EP.ite (EC.notNil (ET.errOf f)) (EP.ret f (ET.str "")) k

/-- `colName := tempColName(f, pre); return f.Apply(Instruction{Fn: fn, DstCol: colName, SrcCol1: s1, SrcCol2: s2}), colName` -/
def applyTemp (f fn : ET) (pre : String) (s1 s2 : ET) : EP :=
  EP.ret (ET.apply f fn (ET.temp f (ET.str pre)) s1 s2) (ET.temp f (ET.str pre))

/-- `qf.withErr(qerrors.Propagate(…, err))` for the error of `qf.functionType(<first column field>)` -/
def noCol : ET := ET.withErr ET.qf (ET.propagate (ET.fnTypeErr ET.qf (ET.srcF 0)))
/-- `qf.withErr(qerrors.New(…))` -/
def noFn : ET := ET.withErr ET.qf ET.newErr

/-- `qf, fn := getFunc(ctx, ar, qf, <first column field>, <operation>)` inlined, `if qf.Err != nil { return qf, "" }`, then the
temp column and `Apply` -/
def funcLeaf (ar : Arity) (pre : String) (s2 : ET) : EP :=
  failedElse ET.qf
    (EP.ite (EC.notNil (ET.fnTypeErr ET.qf (ET.srcF 0)))
      (failedElse noCol (applyTemp noCol ET.nilV pre (ET.srcF 0) s2))
      (EP.ite (EC.gotFn ar ET.qf (ET.srcF 0) ET.opF)
        (applyTemp ET.qf (ET.getFn ar ET.qf (ET.srcF 0) ET.opF) pre (ET.srcF 0) s2)
        (failedElse noFn (applyTemp noFn ET.nilV pre (ET.srcF 0) s2))))

def canonCol : EP := EP.ret ET.qf (ET.srcF 0)
def canonConst : EP := failedElse ET.qf (applyTemp ET.qf ET.valueF "const" (ET.str "") (ET.str ""))
def canonUnary : EP := funcLeaf .one "unary" (ET.str "")
def canonColCol : EP := funcLeaf .two "colcol" (ET.srcF 1)

/-- `ccE, _ := newColColExpr([]interface{}{op, a, b}); result, colName := ccE.execute(result, ctx);
result = result.Drop(constColName); return result, colName` -/
def colColThenDrop (a b : ET) : EP :=
  EP.exec (ET.mkColCol ET.opF a b) (ET.outF 0) (EP.ret (ET.drop1 (ET.outF 1) (ET.outN 0)) (ET.outN 1))

def canonColConst : EP :=
  failedElse ET.qf
    (EP.exec (ET.mkConst (ET.orNull ET.valueF)) ET.qf
      (EP.ite (EC.flag ET.flagF) (colColThenDrop (ET.outN 0) (ET.srcF 0)) (colColThenDrop (ET.srcF 0) (ET.outN 0))))

def canonEx1 : EP :=
  EP.exec (ET.subF 0) ET.qf
    (EP.exec (ET.mkUnary ET.opF (ET.outN 0)) (ET.outF 0)
      (EP.ite (EC.contains ET.qf (ET.outN 0)) (EP.ret (ET.outF 1) (ET.outN 1))
        (EP.ret (ET.drop1 (ET.outF 1) (ET.outN 0)) (ET.outN 1))))

def canonEx2 : EP :=
  EP.exec (ET.subF 0) ET.qf
    (EP.exec (ET.subF 1) (ET.outF 0)
      (EP.exec (ET.mkColCol ET.opF (ET.outN 0) (ET.outN 1)) (ET.outF 1)
        (EP.ite (EC.contains ET.qf (ET.outN 0))
          (EP.ite (EC.contains ET.qf (ET.outN 1)) (EP.ret (ET.drop0 (ET.outF 2)) (ET.outN 2))
            (EP.ret (ET.drop1 (ET.outF 2) (ET.outN 1)) (ET.outN 2)))
          (EP.ite (EC.contains ET.qf (ET.outN 1)) (EP.ret (ET.drop1 (ET.outF 2) (ET.outN 0)) (ET.outN 2))
            (EP.ret (ET.drop2 (ET.outF 2) (ET.outN 0) (ET.outN 1)) (ET.outN 2))))))

def canonError : EP := failedElse ET.qf (EP.ret (ET.withErr ET.qf ET.errF) (ET.str ""))

/-- `result, col := expr.execute(qf, conf.Ctx); result = result.Copy(dstCol, colName);
if !qf.Contains(colName) && colName != dstCol { result = result.Drop(colName) }; return result` -/
def evalTail : EP :=
  EP.exec ET.exprP ET.qf
    (EP.ite (EC.and (EC.not (EC.contains ET.qf (ET.outN 0))) (EC.not (EC.strEq (ET.outN 0) ET.dstP)))
      (EP.retF (ET.drop1 (ET.copy (ET.outF 0) ET.dstP (ET.outN 0)) (ET.outN 0)))
      (EP.retF (ET.copy (ET.outF 0) ET.dstP (ET.outN 0))))

/-- `if qf.Err != nil { return qf }; if col, missing := missingCol(expr, qf); missing { return qf.withErr(qerrors.New(…)) }; …` -/
def canonEval : EP :=
  EP.ite (EC.notNil (ET.errOf ET.qf)) (EP.retF ET.qf)
    (EP.ite (EC.missing ET.exprP ET.qf) (EP.retF (ET.withErr ET.qf ET.newErr)) evalTail)

/-- `Eval` as it was before the repair: no check of the column references -/
def oldEval : EP := EP.ite (EC.notNil (ET.errOf ET.qf)) (EP.retF ET.qf) evalTail

def canonFns : Progs := [
  (.exec .col, canonCol), (.exec .const, canonConst), (.exec .unary, canonUnary), (.exec .colConst, canonColConst),
  (.exec .colCol, canonColCol), (.exec .ex1, canonEx1), (.exec .ex2, canonEx2), (.exec .error, canonError),
  (.eval, canonEval)]

def canonTemp : ETmp := .search 0 10000 [.pre, .lit "-temp-", .itoa]

/-- `missingCol`: the column fields of `colExpr`, `unaryExpr`, `colConstExpr`, `colColExpr` (both, in declaration order);
`exprExpr1` / `exprExpr2` recurse into their operands, left before right; `constExpr`, `errorExpr`: no clause -/
def canonClauses : List (Role × EMClause) :=
  [(.col, .cols [0]), (.unary, .cols [0]), (.colConst, .cols [0]), (.colCol, .cols [0, 1]),
   (.ex1, .recur [0]), (.ex2, .recur [0, 1])]
def canonMiss : EMiss := .scan canonClauses

theorem gen_eval_no_opaque :
    (Gen.evalFns.all (fun p => !p.2.hasOpaque) && !Gen.tempColNameAst.hasOpaque && !Gen.missingColAst.hasOpaque) = true := by
  decide +kernel

theorem gen_eval_canon : Gen.evalFns = canonFns ∧ Gen.tempColNameAst = canonTemp ∧ Gen.missingColAst = canonMiss := by
  decide +kernel

/-! ## 2. the temp-name function -/

theorem joinPieces_canon (pre : String) (i : Nat) :
    joinPieces pre i [.pre, .lit "-temp-", .itoa] = tempName pre i := rfl

theorem canonTemp_run (f : Frame) (pre : String) :
    canonTemp.run f pre =
      ((List.range 10000).find? (fun i => (f.byName (tempName pre i)).isNone)).map (tempName pre) := by
  simp only [canonTemp, ETmp.run, joinPieces_canon, Nat.sub_zero, Nat.zero_add, Fr.contains, Option.not_isSome]

theorem canonTemp_name (f : Frame) (pre : String) : canonTemp.name f pre = Fr.tempColName f pre := by
  rw [ETmp.name, canonTemp_run, tempColName_eq]

/-- Today's `tempColName(f, pre)` returns `pre-temp-k` for the first `k` in `0 … 9999` that is not a
column of `f`, and panics (`none`) exactly when there is no such `k`. -/
theorem gen_temp_semantics (f : Frame) (pre : String) :
    Gen.tempColNameAst.run f pre =
      ((List.range 10000).find? (fun i => (f.byName (tempName pre i)).isNone)).map (tempName pre) := by
  rw [gen_eval_canon.2.1]; exact canonTemp_run f pre

/-- On a well-formed frame with fewer than 10000 columns today's `tempColName` returns a name that is
not a column. -/
theorem gen_temp_no_panic (f : Frame) (L : Nat) (wf : WF f L) (pre : String) (hlt : f.cols.length < 10000) :
    ∃ k, k < 10000 ∧ Gen.tempColNameAst.run f pre = some (tempName pre k) ∧ f.byName (tempName pre k) = none ∧
      (∀ j, j < k → (f.byName (tempName pre j)).isSome = true) := by
  obtain ⟨k, hk, hf, _, hn, hj, _⟩ := tempColName_fresh f L wf pre hlt
  refine ⟨k, hk, ?_, ?_, hj⟩
  · rw [gen_temp_semantics, hf]; rfl
  · have := tempColName_of_find f pre k hf
    rw [← this]; exact hn

/-! ## 3. the meaning of the canonical terms -/

def prims : Prims := { drop := C08.drop, copy := C08.copy }

def toNode : Ex' → Node
  | .col n => .col n
  | .const v => .const v
  | .unary op s => .unary op s
  | .colConst op s v cf => .colConst op s v cf
  | .colCol op a b => .colCol op a b
  | .ex1 op e => .ex1 op (toNode e)
  | .ex2 op l r => .ex2 op (toNode l) (toNode r)
  | .error => .error

abbrev call (ctx : Ctx) (subs : List (Frame → Option EV.Res)) : Nat → Node → Frame → Option EV.Res :=
  callAt prims canonFns Fr.tempColName ctx subs

theorem callAt_succ (pr : Prims) (P : Progs) (tmp : Frame → String → String) (ctx : Ctx)
    (subs : List (Frame → Option EV.Res)) (n : Nat) (node : Node) (f : Frame) :
    callAt pr P tmp ctx subs (n + 1) node f =
      match P.lookup (.exec node.role) with
      | some p =>
        p.run { prims := pr, ctx := ctx, temp := tmp, recv := node, qf := f, dst := "",
                exec := callAt pr P tmp ctx subs n, subs := subs } []
      | none => none := rfl

theorem prims_drop : prims.drop = drop := rfl
theorem prims_copy : prims.copy = copy := rfl

theorem lookup_const : canonFns.lookup (.exec .const) = some canonConst := rfl
theorem lookup_unary : canonFns.lookup (.exec .unary) = some canonUnary := rfl
theorem lookup_colConst : canonFns.lookup (.exec .colConst) = some canonColConst := rfl
theorem lookup_colCol : canonFns.lookup (.exec .colCol) = some canonColCol := rfl
theorem lookup_ex1 : canonFns.lookup (.exec .ex1) = some canonEx1 := rfl
theorem lookup_ex2 : canonFns.lookup (.exec .ex2) = some canonEx2 := rfl
theorem lookup_eval : canonFns.lookup .eval = some canonEval := rfl

/- The equations of the interpreter, generated here once: a proof elaborated on its own thread that unfolds an imported function
generates (and has the kernel check) that function's equations for itself. `callAt` is not in the set: `call_colConst`, `call_ex1`,
`call_ex2` take one step with `callAt_succ` and rewrite the calls inside the body with `call_const` … at the depth they have there. -/
attribute [ev_exec] Node.role EP.run EC.eval ET.eval applyI

theorem call_col (ctx : Ctx) (subs) (n : Nat) (c : String) (f : Frame) :
    call ctx subs (n + 1) (.col c) f = some (f, c) := rfl

theorem call_const (ctx : Ctx) (subs) (n : Nat) (v : Fr.Val) (f : Frame) :
    call ctx subs (n + 1) (.const v) f = some (execConst v f) := by
  simp only [call, callAt, lookup_const, canonConst, failedElse, applyTemp, ev_exec,
    execConst]
  cases f.err.isSome <;> simp

theorem call_error (ctx : Ctx) (subs) (n : Nat) (f : Frame) :
    call ctx subs (n + 1) .error f = some (execute' ctx .error f) := by
  obtain ⟨cols, byName, index, err⟩ := f
  cases err <;> rfl

theorem call_unary (ctx : Ctx) (subs) (n : Nat) (op src : String) (f : Frame) :
    call ctx subs (n + 1) (.unary op src) f = some (execUnary ctx op src f) := by
  simp only [call, callAt, lookup_unary, canonUnary, funcLeaf, failedElse, applyTemp, noCol, noFn, ev_exec, execUnary]
  cases f.err.isSome
  · cases hs : f.byName src with
    | none => simp
    | some s =>
      cases hf : ctx.fn1 s.col.ty op with
      | none => simp [hf]
      | some p => obtain ⟨rty, fn⟩ := p; simp [hf]
  · simp

theorem call_colCol (ctx : Ctx) (subs) (n : Nat) (op a b : String) (f : Frame) :
    call ctx subs (n + 1) (.colCol op a b) f = some (execColCol ctx op a b f) := by
  simp only [call, callAt, lookup_colCol, canonColCol, funcLeaf, failedElse, applyTemp, noCol, noFn, ev_exec, execColCol]
  cases f.err.isSome
  · cases hs : f.byName a with
    | none => simp
    | some s =>
      cases hf : ctx.fn2 s.col.ty op with
      | none => simp [hf]
      | some fn => simp [hf]
  · simp

theorem call_colConst (ctx : Ctx) (subs) (n : Nat) (op src : String) (v : Fr.Val) (cf : Bool) (f : Frame) :
    call ctx subs (n + 2) (.colConst op src v cf) f = some (execColConst ctx op src v cf f) := by
  have hc := call_const ctx subs n
  have hcc := call_colCol ctx subs n
  simp only [call] at hc hcc
  simp only [call]
  rw [callAt_succ]
  simp only [lookup_colConst, canonColConst, colColThenDrop, failedElse, ev_exec, execColConst, prims_drop]
  cases f.err.isSome
  · cases cf <;> simp [hc, hcc]
  · simp

theorem call_ex1 (ctx : Ctx) (n : Nat) (op : String) (e : Node) (h : Frame → Option EV.Res) (E : Frame → EV.Res)
    (hh : ∀ g, h g = some (E g)) (f : Frame) :
    call ctx [h] (n + 2) (.ex1 op e) f =
      some (drop (execUnary ctx op (E f).2 (E f).1).1 (dropList f [(E f).2]), (execUnary ctx op (E f).2 (E f).1).2) := by
  have hu := call_unary ctx [h] n
  simp only [call] at hu
  simp only [call]
  rw [callAt_succ]
  simp only [lookup_ex1, canonEx1, ev_exec, prims_drop]
  simp only [List.getElem?_cons_zero, List.nil_append, List.cons_append, hu, List.getElem?_cons_succ, Option.map_some, hh]
  rw [drop_dropList_single]
  cases hc : contains f (E f).2 <;> simp

theorem call_ex2 (ctx : Ctx) (n : Nat) (op : String) (l r : Node) (h1 h2 : Frame → Option EV.Res) (E1 E2 : Frame → EV.Res)
    (hh1 : ∀ g, h1 g = some (E1 g)) (hh2 : ∀ g, h2 g = some (E2 g)) (f : Frame) :
    call ctx [h1, h2] (n + 2) (.ex2 op l r) f =
      some (drop (execColCol ctx op (E1 f).2 (E2 (E1 f).1).2 (E2 (E1 f).1).1).1
              (dropList f [(E1 f).2, (E2 (E1 f).1).2]),
            (execColCol ctx op (E1 f).2 (E2 (E1 f).1).2 (E2 (E1 f).1).1).2) := by
  have hcc := call_colCol ctx [h1, h2] n
  simp only [call] at hcc
  simp only [call]
  rw [callAt_succ]
  simp only [lookup_ex2, canonEx2, ev_exec, prims_drop]
  simp only [List.getElem?_cons_zero, List.nil_append, List.cons_append, hcc, List.getElem?_cons_succ, Option.map_some,
    hh1, hh2]
  cases h1c : contains f (E1 f).2 <;> cases h2c : contains f (E2 (E1 f).1).2 <;> simp [dropList, h1c, h2c, drop_nil]

theorem canon_execute (ctx : Ctx) (e : Ex') :
    ∀ f : Frame, interp prims canonFns Fr.tempColName ctx (toNode e) f = some (execute' ctx e f) := by
  induction e with
  | col n => intro f; exact call_col ctx [] 2 n f
  | const v => intro f; exact call_const ctx [] 2 v f
  | unary op s => intro f; exact call_unary ctx [] 2 op s f
  | colConst op s v cf => intro f; exact call_colConst ctx [] 1 op s v cf f
  | colCol op a b => intro f; exact call_colCol ctx [] 2 op a b f
  | error => intro f; exact call_error ctx [] 2 f
  | ex1 op e ih =>
    intro f
    exact call_ex1 ctx 1 op (toNode e) _ (fun g => execute' ctx e g) ih f
  | ex2 op l r ihl ihr =>
    intro f
    exact call_ex2 ctx 1 op (toNode l) (toNode r) _ _ (fun g => execute' ctx l g) (fun g => execute' ctx r g) ihl ihr f

theorem step_ex1 (op : String) (n : Node) (h : Frame → Option (Option String)) (f : Frame) :
    EMiss.step canonClauses (.ex1 op n) [h] f = h f := by
  have hl : canonClauses.lookup Role.ex1 = some (.recur [0]) := by decide
  simp [EMiss.step, Node.role, hl, Node.subCount, firstFound]

theorem step_ex2 (op : String) (l r : Node) (h1 h2 : Frame → Option (Option String)) (f : Frame) :
    EMiss.step canonClauses (.ex2 op l r) [h1, h2] f =
      (match h1 f with
       | none => none
       | some (some c) => some (some c)
       | some none => h2 f) := by
  have hl : canonClauses.lookup Role.ex2 = some (.recur [0, 1]) := by decide
  simp [EMiss.step, Node.role, hl, Node.subCount, firstFound]
  cases h1 f with
  | none => rfl
  | some o => cases o <;> rfl

theorem canon_miss (e : Ex') : ∀ f : Frame, canonMiss.run (toNode e) f = some (missing e f) := by
  induction e with
  | ex1 op e ih =>
    intro f
    simp only [toNode, canonMiss, EMiss.run, EMiss.scanRun] at ih ⊢
    rw [step_ex1, ih]; rfl
  | ex2 op l r ihl ihr =>
    intro f
    simp only [toNode, canonMiss, EMiss.run, EMiss.scanRun] at ihl ihr ⊢
    rw [step_ex2, ihl, ihr]
    simp only [missing]
    cases missing l f <;> rfl
  | col n => intro f; rfl
  | const v => intro f; rfl
  | unary op s => intro f; rfl
  | colConst op s v cf => intro f; rfl
  | colCol op a b => intro f; rfl
  | error => intro f; rfl

theorem canon_eval (ctx : Ctx) (f : Frame) (dst : String) (e : Ex') :
    interpEval prims canonFns Fr.tempColName canonMiss.run ctx f dst (toNode e) = some (eval' ctx f dst e) := by
  simp only [interpEval, lookup_eval, canonEval, evalTail, ev_exec, prims_drop, prims_copy, eval',
    evalEpilogue, List.getElem?_cons_zero, Option.bind_some, canon_miss, Option.map_some]
  cases f.err.isSome
  · cases (missing e f).isSome
    · simp only [canon_execute, List.nil_append, Option.map_some, Bool.false_eq_true, ↓reduceIte, List.getElem?_cons_zero]
      cases contains f (execute' ctx e f).2 <;> cases h : ((execute' ctx e f).2 == dst) <;> simp [bne, h]
    · simp [withErr]
  · simp

theorem temp_eq : Gen.tempColNameAst.name = Fr.tempColName := by
  funext f pre; rw [gen_eval_canon.2.1]; exact canonTemp_name f pre

/-- for evaluation (see `C07Eval.tempColName_eq_firstFree`) -/
theorem temp_eq_firstFree : Gen.tempColNameAst.name = firstFree :=
  temp_eq.trans tempColName_eq_firstFree

/-- for evaluation: the mirror's `Eval` run through the canonical terms, where the name search is a parameter -/
theorem eval'_run (ctx : Ctx) (f : Frame) (dst : String) (e : Ex') :
    eval' ctx f dst e =
      (interpEval prims canonFns firstFree canonMiss.run ctx f dst (toNode e)).getD f := by
  rw [← tempColName_eq_firstFree, canon_eval]; rfl

/-! ## 4. today's code -/

/-- `e.execute(f, ctx)` by today's regenerated methods -/
def genExecute (ctx : Ctx) (e : Ex') (f : Frame) : Option EV.Res :=
  interp prims Gen.evalFns Gen.tempColNameAst.name ctx (toNode e) f

/-- `f.Eval(dst, e)` with the context `ctx`, by today's regenerated code -/
def genEval (ctx : Ctx) (f : Frame) (dst : String) (e : Ex') : Option Frame :=
  interpEval prims Gen.evalFns Gen.tempColNameAst.name Gen.missingColAst.run ctx f dst (toNode e)

/-- For every expression tree, frame and evaluation context, interpreting today's `execute`
methods (with today's `getFunc`, `tempColName` and constructors) yields exactly the hand mirror's result: the result frame
(columns, order, cells, row index, error) and the returned column name. -/
theorem gen_eval_semantics (ctx : Ctx) (e : Ex') (f : Frame) : genExecute ctx e f = some (execute' ctx e f) := by
  unfold genExecute
  rw [gen_eval_canon.1, temp_eq]
  exact canon_execute ctx e f

/-- The same for `QFrame.Eval`: today's code returns exactly the mirror's `eval'`. -/
theorem gen_eval_semantics_eval (ctx : Ctx) (f : Frame) (dst : String) (e : Ex') :
    genEval ctx f dst e = some (eval' ctx f dst e) := by
  unfold genEval
  rw [gen_eval_canon.1, temp_eq, gen_eval_canon.2.2]
  exact canon_eval ctx f dst e

/-- Today's regenerated `missingCol`, on every expression tree and frame, returns the first
column reference of the tree, in left-to-right order (`refs`), that is not a column of the frame — `(c, true)` — and
`("", false)` when every reference is a column (`none`). It always has a meaning: nothing untranslated, no panic. -/
theorem gen_missingcol_semantics (e : Ex') (f : Frame) :
    Gen.missingColAst.run (toNode e) f = some ((refs e).find? fun n => !Fr.contains f n) := by
  rw [gen_eval_canon.2.2, canon_miss, missing_eq_find]

/-- what `Eval` does with the answer: a missing column reference is an error of the frame `Eval` was called on, and nothing
is executed; otherwise (every reference is a column of the frame) `Eval` executes the expression and renames the result -/
theorem gen_eval_guard (ctx : Ctx) (f : Frame) (dst : String) (e : Ex') (he : f.err = none) :
    (∀ c, (refs e).find? (fun n => !Fr.contains f n) = some c → genEval ctx f dst e = some (withErr f .other)) ∧
    ((refs e).find? (fun n => !Fr.contains f n) = none →
      genEval ctx f dst e = some (evalEpilogue f dst (execute' ctx e f).1 (execute' ctx e f).2)) := by
  rw [gen_eval_semantics_eval, ← missing_eq_find]
  constructor
  · intro c hc; simp [eval', he, hc]
  · intro hc; simp [eval', he, hc]

def cellVal : QF.Cell → Fr.Val
  | .int v => .int v
  | .float b => .float b
  | .bool b => .bool b
  | .str s => .str s

/-- a decoded struct (QF/Core/XExpr.lean) as the mirror's expression; `nm`: byte strings as the mirror's `String`s -/
def ofXDec (nm : QF.Bytes → String) : QF.XDec → Ex'
  | .col n => .col (nm n)
  | .const c => .const (cellVal c)
  | .unary op s => .unary (nm op) (nm s)
  | .colConst op s c cf => .colConst (nm op) (nm s) (cellVal c) cf
  | .colCol op a b => .colCol (nm op) (nm a) (nm b)
  | .ex1 op e => .ex1 (nm op) (ofXDec nm e)
  | .ex2 op l r => .ex2 (nm op) (ofXDec nm l) (ofXDec nm r)
  | .error => .error

/-- `gen_eval_semantics` and `gen_eval_semantics_eval` at the mirror's expression `ofXDec nm d` of a struct `d` that today's
decoder (`Gen.newExprAst`, see C07Decode) returns. The two hold of every tree, so the decoder hypothesis is not used; the
composition with what the decoder says of `d` is `C07EndToEnd.gen_eval_end_to_end_partial`. -/
theorem gen_eval_semantics_decoded (nm : QF.Bytes → String) (x : QF.RawExpr) (d : QF.XDec)
    (_hd : Gen.newExprAst.decode x = some d) (ctx : Ctx) (f : Frame) (dst : String) :
    genExecute ctx (ofXDec nm d) f = some (execute' ctx (ofXDec nm d) f) ∧
    genEval ctx f dst (ofXDec nm d) = some (eval' ctx f dst (ofXDec nm d)) :=
  ⟨gen_eval_semantics ctx _ f, gen_eval_semantics_eval ctx f dst _⟩

/-! ## 5. bookkeeping of the regenerated code -/

/-- `Eval(dst, e)` by today's code, on a well-formed frame with unique names and room for the
temporaries: the call has a result `g` (no panic), and if `g` carries no error then

* `g`'s logical content is `f`'s with one entry `(dst, x)` written at `dst`'s old position, or appended last if `dst` is new;
* hence (`absSet_other`, `absSet_dst`) every other column of `f` is where it was with its name, type and cells, and `dst` holds `x`;
* hence (`absSet_no_trace`) a name that was not a column of `f` can only be `dst`: every temp column created on the way is gone;
* the row index is unchanged, `g` is well-formed with unique names.

Which `x` is not said here: that is `C07EndToEnd.eval'_eq_evalS_partial`. -/
theorem gen_eval_bookkeeping (ctx : Ctx) (f : Frame) (L : Nat) (wf : WF f L) (u : UniqueNames f) (hL : physLen f = L)
    (dst : String) (e : Ex') (hlt : f.cols.length + need e ≤ 10000) (hn : checkName dst = true) :
    ∃ g, genEval ctx f dst e = some g ∧
      (g.err = none →
        ∃ x, g.abs = absSet f.abs (f.abs.findIdx? (·.1 == dst)) (dst, x) ∧
          (∀ (i : Nat) (y : Entry), f.abs[i]? = some y → y.1 ≠ dst → g.abs[i]? = some y) ∧
          absLookup g.abs dst = some (dst, x) ∧
          (∀ t, t ∈ g.abs.map (·.1) → t ∉ f.abs.map (·.1) → t = dst) ∧
          g.index = f.index ∧ WF g L ∧ UniqueNames g) := by
  refine ⟨eval' ctx f dst e, gen_eval_semantics_eval ctx f dst e, ?_⟩
  intro h
  obtain ⟨x, ha, hi, hw, hu⟩ := eval'_bookkeeping ctx f L wf u hL dst e hlt hn h
  refine ⟨x, ha, ?_, ?_, ?_, hi, hw, hu⟩
  · intro i y hy hne; rw [ha]; exact absSet_other f.abs dst x i y hy hne
  · rw [ha]; exact absSet_dst f.abs dst x
  · intro t ht hnt; rw [ha] at ht; exact absSet_no_trace f.abs dst t x hnt ht

/-- Errors in today's code: (1) every `execute` returns a failed frame as it is;
(2), (3) the error of the result of an operand of a nested expression is the error of the nested expression's result
(for the right operand: of its result on the frame the left operand returned); (4) when the expression's result carries an
error, so does `Eval`'s — the same error when every column reference is a column of the frame, the error of the
missing-column check otherwise (`Eval` does not execute the expression then). -/
theorem gen_eval_error_propagates (ctx : Ctx) :
    (∀ e f, f.err.isSome = true → ∃ n, genExecute ctx e f = some (f, n)) ∧
    (∀ op e f r x, genExecute ctx e f = some r → r.1.err = some x →
      ∃ r', genExecute ctx (.ex1 op e) f = some r' ∧ r'.1.err = some x) ∧
    (∀ op l r f rl rr x, genExecute ctx l f = some rl → genExecute ctx r rl.1 = some rr →
      (rl.1.err = some x ∨ rr.1.err = some x) →
      ∃ r', genExecute ctx (.ex2 op l r) f = some r' ∧ r'.1.err = some x) ∧
    (∀ e f dst r x, f.err = none → genExecute ctx e f = some r → r.1.err = some x →
      ∃ g, genEval ctx f dst e = some g ∧ g.err.isSome = true ∧ (missing e f = none → g.err = some x)) := by
  refine ⟨?_, ?_, ?_, ?_⟩
  · intro e f h
    refine ⟨(execute' ctx e f).2, ?_⟩
    rw [gen_eval_semantics]
    have := execute'_of_err ctx e f h
    exact congrArg some (Prod.ext this rfl)
  · intro op e f r x hr hx
    rw [gen_eval_semantics] at hr
    cases hr
    refine ⟨_, gen_eval_semantics ctx _ f, ?_⟩
    have hs := Option.isSome_of_eq_some hx
    simp only [execute']
    rw [execUnary_of_err ctx op _ _ hs, drop_of_err _ _ hs]
    exact hx
  · intro op l r f rl rr x hl hr hx
    rw [gen_eval_semantics] at hl hr
    cases hl
    cases hr
    refine ⟨_, gen_eval_semantics ctx _ f, ?_⟩
    have hx' : (execute' ctx r (execute' ctx l f).1).1.err = some x := by
      rcases hx with h | h
      · rw [execute'_of_err ctx r _ (Option.isSome_of_eq_some h)]; exact h
      · exact h
    have hs := Option.isSome_of_eq_some hx'
    simp only [execute']
    rw [execColCol_of_err ctx op _ _ _ hs, drop_of_err _ _ hs]
    exact hx'
  · intro e f dst r x hf hr hx
    rw [gen_eval_semantics] at hr
    cases hr
    refine ⟨_, gen_eval_semantics_eval ctx f dst e, ?_⟩
    have hs := Option.isSome_of_eq_some hx
    have hep : (evalEpilogue f dst (execute' ctx e f).1 (execute' ctx e f).2).err = some x := by
      rw [evalEpilogue_err f _ dst _ hs]; exact hx
    cases hm : missing e f with
    | some c => simp [eval', hf, hm, withErr]
    | none => simp [eval', hf, hm, hep]

/-! ## 6. witnesses: seven mutations of the code, as the terms the extractor writes for them

Each mutated table (a)–(e), and each mutated `missingCol` (f), (g), differs from the canonical one (so `gen_eval_canon` fails
on it) and its interpretation differs from the canonical one on a concrete expression over `C08.exF` (columns `a` = 10, 11, 12
and `b`, rows in the order 2, 0, 1) with the context `Fr.intCtx` (`+`, `-` on int columns). -/

def setFn (P : Progs) (id : FnId) (p : EP) : Progs := P.map fun q => if q.1 = id then (id, p) else q

/-- the result of `execute` by the table `P`: the column names of the frame and the returned name -/
def observe (P : Progs) (e : Ex') : Option (List String × String) :=
  (interp prims P Gen.tempColNameAst.name intCtx (toNode e) exF).map fun r => (r.1.abs.map (·.1), r.2)

/-- … and the returned column: name, type, cells in row order -/
def observeCol (P : Progs) (e : Ex') : Option (Option Entry) :=
  (interp prims P Gen.tempColNameAst.name intCtx (toNode e) exF).map fun r => absLookup r.1.abs r.2

/-- (a) `result = result.Drop(string(constColName))` removed from `colConstExpr.execute` -/
def colColNoDrop (a b : ET) : EP :=
  EP.exec (ET.mkColCol ET.opF a b) (ET.outF 0) (EP.ret (ET.outF 1) (ET.outN 1))
def mutNoDrop : Progs := setFn canonFns (.exec .colConst)
  (failedElse ET.qf (EP.exec (ET.mkConst (ET.orNull ET.valueF)) ET.qf
    (EP.ite (EC.flag ET.flagF) (colColNoDrop (ET.outN 0) (ET.srcF 0)) (colColNoDrop (ET.srcF 0) (ET.outN 0)))))

example : mutNoDrop ≠ canonFns := by decide +kernel
example : observe canonFns (.colConst "-" "a" (.int 10) true) = some (["a", "b", "colcol-temp-0"], "colcol-temp-0") := by
  unfold observe; rw [temp_eq_firstFree]; decide +kernel
example : observeCol canonFns (.colConst "-" "a" (.int 10) true) =
    some (some ("colcol-temp-0", .int, [some (.int (-2)), some (.int 0), some (.int (-1))])) := by
  unfold observeCol; rw [temp_eq_firstFree]; decide +kernel
/-- the constant's temp column stays in the frame -/
example : observe mutNoDrop (.colConst "-" "a" (.int 10) true) =
    some (["a", "b", "const-temp-0", "colcol-temp-0"], "colcol-temp-0") := by
  unfold observe; rw [temp_eq_firstFree]; decide +kernel

/-- (b) `result.Contains(s)` instead of `qf.Contains(s)` in `exprExpr2.execute` -/
def mutResultContains : Progs := setFn canonFns (.exec .ex2)
  (EP.exec (ET.subF 0) ET.qf
    (EP.exec (ET.subF 1) (ET.outF 0)
      (EP.exec (ET.mkColCol ET.opF (ET.outN 0) (ET.outN 1)) (ET.outF 1)
        (EP.ite (EC.contains (ET.outF 2) (ET.outN 0))
          (EP.ite (EC.contains (ET.outF 2) (ET.outN 1)) (EP.ret (ET.drop0 (ET.outF 2)) (ET.outN 2))
            (EP.ret (ET.drop1 (ET.outF 2) (ET.outN 1)) (ET.outN 2)))
          (EP.ite (EC.contains (ET.outF 2) (ET.outN 1)) (EP.ret (ET.drop1 (ET.outF 2) (ET.outN 0)) (ET.outN 2))
            (EP.ret (ET.drop2 (ET.outF 2) (ET.outN 0) (ET.outN 1)) (ET.outN 2)))))))

/-- `(a + 10) + (a - a)` -/
def witNested : Ex' := .ex2 "+" (.colConst "+" "a" (.int 10) false) (.colCol "-" "a" "a")

example : mutResultContains ≠ canonFns := by decide +kernel
example : (observe canonFns witNested).map (·.1) = some ["a", "b", "colcol-temp-2"] := by
  unfold observe; rw [temp_eq_firstFree]; decide +kernel
/-- both intermediate results stay in the frame -/
example : (observe mutResultContains witNested).map (·.1) =
    some ["a", "b", "colcol-temp-0", "colcol-temp-1", "colcol-temp-2"] := by
  unfold observe; rw [temp_eq_firstFree]; decide +kernel

/-- (c) the operands swapped in the `colColExpr` that `exprExpr2.execute` builds -/
def mutSwapped : Progs := setFn canonFns (.exec .ex2)
  (EP.exec (ET.subF 0) ET.qf
    (EP.exec (ET.subF 1) (ET.outF 0)
      (EP.exec (ET.mkColCol ET.opF (ET.outN 1) (ET.outN 0)) (ET.outF 1)
        (EP.ite (EC.contains ET.qf (ET.outN 0))
          (EP.ite (EC.contains ET.qf (ET.outN 1)) (EP.ret (ET.drop0 (ET.outF 2)) (ET.outN 2))
            (EP.ret (ET.drop1 (ET.outF 2) (ET.outN 1)) (ET.outN 2)))
          (EP.ite (EC.contains ET.qf (ET.outN 1)) (EP.ret (ET.drop1 (ET.outF 2) (ET.outN 0)) (ET.outN 2))
            (EP.ret (ET.drop2 (ET.outF 2) (ET.outN 0) (ET.outN 1)) (ET.outN 2)))))))

/-- `a - (a + a)` -/
def witMinus : Ex' := .ex2 "-" (.col "a") (.colCol "+" "a" "a")

example : mutSwapped ≠ canonFns := by decide +kernel
example : observeCol canonFns witMinus =
    some (some ("colcol-temp-1", .int, [some (.int (-12)), some (.int (-10)), some (.int (-11))])) := by
  unfold observeCol; rw [temp_eq_firstFree]; decide +kernel
/-- `(a + a) - a` instead -/
example : observeCol mutSwapped witMinus =
    some (some ("colcol-temp-1", .int, [some (.int 12), some (.int 10), some (.int 11)])) := by
  unfold observeCol; rw [temp_eq_firstFree]; decide +kernel

/-- (d) `constFirst` ignored: `colConstExpr.execute` always passes (column, constant) -/
def mutNoFlip : Progs := setFn canonFns (.exec .colConst)
  (failedElse ET.qf (EP.exec (ET.mkConst (ET.orNull ET.valueF)) ET.qf (colColThenDrop (ET.srcF 0) (ET.outN 0))))

example : mutNoFlip ≠ canonFns := by decide +kernel
/-- `a - 10` where `10 - a` was asked for -/
example : observeCol mutNoFlip (.colConst "-" "a" (.int 10) true) =
    some (some ("colcol-temp-0", .int, [some (.int 2), some (.int 0), some (.int 1)])) := by
  unfold observeCol; rw [temp_eq_firstFree]; decide +kernel

/-- (e) `Eval` without its check of the column references — the code as it was before the repair -/
def mutNoCheck : Progs := setFn canonFns .eval oldEval

/-- `(a + a) + Col("colcol-temp-0")` on a frame without such a column -/
def witCapture : Ex' := .ex2 "+" (.colCol "+" "a" "a") (.col "colcol-temp-0")

/-- `Eval` by the table `P`: error and column names of the result -/
def observeEval (P : Progs) (M : EMiss) (dst : String) (e : Ex') : Option (Option Err × List String) :=
  (interpEval prims P Gen.tempColNameAst.name M.run intCtx exF dst (toNode e)).map fun g => (g.err, g.abs.map (·.1))

example : mutNoCheck ≠ canonFns := by decide +kernel
/-- the term without the check accepts the expression: the reference is satisfied by the temp column of the left operand … -/
example : observeEval mutNoCheck canonMiss "y" witCapture = some (none, ["a", "b", "y"]) := by
  unfold observeEval; rw [temp_eq_firstFree]; decide +kernel
/-- … today's term rejects it, and leaves the frame as it was -/
example : observeEval canonFns canonMiss "y" witCapture = some (some .other, ["a", "b"]) := by
  unfold observeEval; rw [temp_eq_firstFree]; decide +kernel
example : Gen.missingColAst.run (toNode witCapture) exF = some (some "colcol-temp-0") := by decide +kernel

/-- (f) `missingCol` searching the right operand of `exprExpr2` first: another column is reported -/
def mutMissOrder : EMiss :=
  .scan [(.col, .cols [0]), (.unary, .cols [0]), (.colConst, .cols [0]), (.colCol, .cols [0, 1]),
         (.ex1, .recur [0]), (.ex2, .recur [1, 0])]
example : mutMissOrder ≠ canonMiss := by decide +kernel
example : canonMiss.run (toNode (.ex2 "+" (.col "x") (.col "y"))) exF = some (some "x") ∧
    mutMissOrder.run (toNode (.ex2 "+" (.col "x") (.col "y"))) exF = some (some "y") := by decide +kernel
/-- (g) `missingCol` without the clause for `colConstExpr`: `zz + 1` passes the check -/
def mutMissNoColConst : EMiss :=
  .scan [(.col, .cols [0]), (.unary, .cols [0]), (.colCol, .cols [0, 1]), (.ex1, .recur [0]), (.ex2, .recur [0, 1])]
example : canonMiss.run (toNode (.colConst "+" "zz" (.int 1) false)) exF = some (some "zz") ∧
    mutMissNoColConst.run (toNode (.colConst "+" "zz" (.int 1) false)) exF = some none := by decide +kernel

/-- and the hypotheses of `gen_eval_bookkeeping` are satisfiable; today's code computes what it says -/
example : WF exF 3 ∧ UniqueNames exF ∧ physLen exF = 3 ∧ exF.cols.length + need witNested ≤ 10000 ∧ checkName "y" = true :=
  ⟨exF_wf, exF_unique, by decide +kernel, by decide +kernel, by decide +kernel⟩
example : (genEval intCtx exF "y" witNested).map (fun g => (g.err, g.abs.map (·.1))) = some (none, ["a", "b", "y"]) := by
  unfold genEval; rw [temp_eq_firstFree]; decide +kernel
example : (genEval intCtx exF "a" (.colConst "-" "a" (.int 10) true)).map (fun g => g.abs) =
    some [("a", .int, [some (.int (-2)), some (.int 0), some (.int (-1))]),
          ("b", .bool, [some (.bool true), some (.bool true), some (.bool false)])] := by
  unfold genEval; rw [temp_eq_firstFree]; decide +kernel

#print axioms gen_eval_no_opaque
#print axioms gen_eval_canon
#print axioms gen_temp_semantics
#print axioms gen_temp_no_panic
#print axioms gen_eval_semantics
#print axioms gen_eval_semantics_eval
#print axioms gen_missingcol_semantics
#print axioms gen_eval_guard
#print axioms gen_eval_semantics_decoded
#print axioms gen_eval_bookkeeping
#print axioms gen_eval_error_propagates

end QF.Props.C07EvalGen
