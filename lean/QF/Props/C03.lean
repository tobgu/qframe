import QF.Props.Tie
import QF.Core.Compare
/-!
# C03 — Sort returns a sorted permutation

Mirror: `Sorter.sort` follows internal/sort/sorter.go line by line (insertion sort,
shell pass, median of three / ninther, duplicate-protection pass, quicksort with depth
limit, heapsort fallback), `swap` being the only mutation. `Cmp.mkTbl`/`Cmp.compare`
follow `Comparable(reverse, equalNull, nullLast)` and `Compare` of the column packages,
`Cmp.lessKeys` the lexicographic `Sorter.Less`.

* `sort_perm`: for every comparison function and every index the result is a permutation
  of the input — every row exactly once, for every size and regime.
* `sort_sorted`: for every strict weak order the result has no descent.
* `compare_spec`: the result table orders a nullable key exactly as the property says
  (null least, greatest with NullLast, Reverse inverting the whole order incl. nulls); `equalNull = false`, as `Sort` passes it.
* `sort_by_orders`: both together for any list of `Order`s. Keys here are abstract (`Cmp.Key = Nat → Option Int`);
  the statement against the frame and the spec's `rowLess` is `C03EndToEnd.gen_sort_end_to_end`.
* `QF.Props.C03SorterGen.gen_sorter_semantics` (C03SorterGen.lean): the sorter regenerated from today's source, interpreted,
  returns exactly `Sorter.sort`.
-/
namespace QF.Props.C03

theorem sort_perm (less : Nat → Nat → Bool) (ix : Sorter.Ix) : Array.Perm (Sorter.sort less ix) ix :=
  Sorter.sort_perm less ix

theorem sort_sorted (less : Nat → Nat → Bool) (h : Sorter.SWO less) (ix : Sorter.Ix) :
    Sorter.Sorted less (Sorter.sort less ix) 0 (Array.size ix) :=
  Sorter.sort_sorted_full less h ix

theorem compare_spec (reverse nullLast : Bool) (k : Cmp.Key) (i j : Nat) :
    (Cmp.compare (Cmp.mkTbl reverse false nullLast) k i j == Cmp.Res.lt) = Cmp.specLt reverse nullLast k i j :=
  Cmp.compare_spec reverse nullLast k i j

theorem lessKeys_swo (ks : List (Bool × Bool × Cmp.Key)) : Sorter.SWO (Cmp.lessKeys (Cmp.mkKeys ks)) :=
  Cmp.lessKeys_swo ks

theorem sort_by_orders (ks : List (Bool × Bool × Cmp.Key)) (ix : Sorter.Ix) :
    Sorter.Sorted (Cmp.lessKeys (Cmp.mkKeys ks)) (Sorter.sort (Cmp.lessKeys (Cmp.mkKeys ks)) ix) 0 (Array.size ix) ∧
      Array.Perm (Sorter.sort (Cmp.lessKeys (Cmp.mkKeys ks)) ix) ix :=
  Cmp.sort_by_orders ks ix

/-- No function of this property is compared as source text: the list is empty (the functions are regenerated as terms, see below). -/
-- The comparators (`Comparable.Compare`, `Column.Comparable` of the five column packages) are not compared as text:
-- their meaning is regenerated on every run (`Gen.compareAst`, `Gen.comparableFields`) and proved equal to the
-- spec's `keyCmp` / key equality in `QF.Props.C03Compare` (`gen_compare_semantics`, `sorter_less_eq_rowLess`).
-- The functions of internal/sort (`Less`, `Sort`, `quickSort`, `doPivot`, `heapSort`, `siftDown`, `insertionSort`,
-- `medianOfThree`, `maxDepth`, `Swap`, `Len`) are regenerated statement by
-- statement on every run (`Gen.sorterFns`, go/cmd/extract/sortast.go), interpreted, and proved equal to the mirror
-- `Sorter.sort` for every index and comparison function in `QF.Props.C03SorterGen` (`gen_sorter_canon`,
-- `gen_sorter_semantics`); a rename raises no alarm, a changed operator, bound or statement does.
-- `QFrame.Sort` itself is regenerated statement by statement in `Gen.sortAst` (go/cmd/extract/sortgast.go; the loop over the
-- orders, the unknown-column return, `s.Comparable(o.Reverse, false, o.NullLast)`, `qf.index.Copy()`, `qfsort.New` — `Gen.sorterNewAst` —, `sorter.Sort()`):
-- `C03SortGlueGen.gen_sortglue_canon` + `gen_sort_glue_semantics` / `gen_sort_cmps_semantics`, and `C03EndToEnd.gen_sort_end_to_end` goes from these pieces, the
-- regenerated sorter and the regenerated comparators to the spec's `isSortedResult`. Tie audit (bin/selftest-ties): every behaviour-changing edit of `Sort` and of
-- `qfsort.New` makes `gen_sortglue_canon` fail, renaming their locals or reformatting them changes nothing.
theorem tie : Tie.sameAll [] = true := by decide

end QF.Props.C03
