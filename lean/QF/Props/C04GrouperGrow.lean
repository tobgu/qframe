import QF.Props.C04GrouperFns
/-!
# C04 / C05 — the meaning of the canonical grouper terms (2: `table.grow`)

`call_grow`: the translated `grow` run on the Go table of a mirror table `t` (size a power of two, twice the size still a
`uint32`) yields the Go table of `G.grow {} t`: the doubled slice, every old entry — the EMPTY ones as well, which is what
`RelocationCollisions` shows (`G.skipFrom`) — re-placed from `hash & (newLen-1)` by linear probing in slot order
(`reloc_loop` = the probe that no key stops, `G.growStep_probe`; `grow_outer` = the fold over the old slots),
`RelocationCount + 1`, the load factor halved.
-/
namespace QF.Props.C04GrouperGen
open QF QF.GL
set_option linter.unusedSimpArgs false

/-! ## the encoding of slot arrays -/

theorem encSlots_length (ns : Array (Option G.Entry)) : (encSlots ns).length = ns.size := by simp [encSlots]

theorem encSlots_getElem? (ns : Array (Option G.Entry)) (p : Nat) : (encSlots ns)[p]? = (ns[p]?).map encEntry := by
  simp [encSlots]

theorem encSlots_set (ns : Array (Option G.Entry)) (p : Nat) (x : Option G.Entry) :
    (encSlots ns).set p (encEntry x) = encSlots (ns.setIfInBounds p x) := by
  simp [encSlots, List.map_set]

theorem encSlots_set_none (ns : Array (Option G.Entry)) (p : Nat) (h : ns[p]? = some none) :
    (encSlots ns).set p (encEntry none) = encSlots ns := by
  apply List.ext_getElem?
  intro i
  rw [List.getElem?_set]
  by_cases hi : p = i
  · subst hi
    have hp : p < ns.size := G.lt_of_get h
    rw [encSlots_getElem?, h]; simp [encSlots_length, hp]
  · simp [hi]

theorem encSlots_replicate (N : Nat) : encSlots (Array.replicate N none) = List.replicate N ({} : Entry) := by
  simp [encSlots, encEntry]

/-! ## one old entry: the probe loop of `grow` -/

theorem encEntry_hash (x : Option G.Entry) : (encEntry x).hash = x.elim 0 G.Entry.hash := by cases x <;> rfl

/-- the table with another value of `RelocationCollisions` -/
def withRC (T : Table) (c : Int) : Table := { T with stats := { T.stats with relocationCollisions := c } }

theorem mask_mod (x N k : Nat) (hN : N = 2 ^ k) : x &&& (N - 1) = x % N := by
  subst hN; exact Nat.and_two_pow_sub_one_eq_mod x k

/-- `for pos := e.hash & bitMask; ; pos = (pos + 1) & bitMask { … }` after its init statement is the probe that no key stops:
the old entry `x` (the zero entry for a free old slot) is written at the slot where it ends -/
theorem reloc_loop (Γ : Env) (T : Table) (x : Option G.Entry) (N k : Nat) (hN : N = 2 ^ k) (hlt : N < M32) (p c' : Nat) :
    ∀ (f F : Nat) (ns : Array (Option G.Entry)) (pos c : Nat) (σ : Store), f ≤ F → ns.size = N → pos < N →
      σ 0 = some (.tbl (withRC T c)) → σ 2 = some (.entries (encSlots ns)) → σ 3 = some (.u32 (N - 1)) →
      σ 4 = some (.entry (encEntry x)) → σ 5 = some (.u32 pos) →
      G.probe (fun _ _ => false) ns 0 0 f pos c = some (p, c') →
      ∃ σ', forLoop (condOf Γ (E.bool true)) (execOf Γ relocBody) (execOf Γ relocPost) F σ = .next σ' ∧
        σ' 0 = some (.tbl (withRC T c')) ∧ σ' 2 = some (.entries (encSlots (G.setX ns p x))) ∧ σ' 3 = some (.u32 (N - 1)) := by
  intro f
  induction f with
  | zero => intro F ns pos c σ _ _ _ _ _ _ _ _ h; cases h
  | succ f ih =>
    intro F ns pos c σ hF hsz hp h0 h2 h3 h4 h5 hpl
    cases F with
    | zero => omega
    | succ F =>
      have hpn : pos < ns.size := by omega
      have hget : ns[pos]? = some ns[pos] := by simp [hpn]
      have hnn : ¬ ((pos : Int) < 0) := by omega
      have hlen : ¬ (((encSlots ns).length : Int) ≤ (pos : Int)) := by rw [encSlots_length]; omega
      have hat : (encSlots ns)[pos]? = some (encEntry ns[pos]) := by rw [encSlots_getElem?, hget]; rfl
      rw [G.probe_succ, hget] at hpl
      cases hv : ns[pos] with
      | none =>
        rw [hv] at hpl hat
        cases hpl
        have hres : (encSlots ns).set p (encEntry x) = encSlots (G.setX ns p x) := by
          cases x with
          | none => exact encSlots_set_none ns p (by rw [hget, hv])
          | some e => exact encSlots_set ns p (some e)
        refine ⟨σ.set 2 (.entries ((encSlots ns).set p (encEntry x))), ?_, ?_, ?_, ?_⟩
        · unfold forLoop
          simp only [condOf, execOf]
          exec_simp [h0, h2, h3, h4, h5, hat, encEntry, hnn, hlen]
        · simp [set_apply, h0]
        · simp [set_apply, hres]
        · simp [set_apply, h3]
      | some e' =>
        rw [hv] at hpl hat
        simp only [Bool.and_false, Bool.false_eq_true, ↓reduceIte] at hpl
        have hn : 0 < ns.size := by omega
        have hnext : ((pos + 1) % M32) &&& (N - 1) = (pos + 1) % ns.size := by
          rw [Nat.mod_eq_of_lt (by omega), mask_mod _ N k hN, hsz]
        let σ1 := (σ.set 0 (.tbl (withRC T ((c + 1 : Nat) : Int)))).set 5 (.u32 ((pos + 1) % ns.size))
        obtain ⟨σ', g1, g2, g3, g4⟩ := ih F ns ((pos + 1) % ns.size) (c + 1) σ1 (by omega) hsz (by rw [← hsz]; exact Nat.mod_lt _ hn)
          (by simp [σ1, set_apply]) (by simp [σ1, set_apply, h2]) (by simp [σ1, set_apply, h3]) (by simp [σ1, set_apply, h4])
          (by simp [σ1, set_apply]) hpl
        refine ⟨σ', ?_, g2, g3, g4⟩
        unfold forLoop
        simp only [condOf, execOf]
        simp only [σ1] at g1
        exec_simp [h0, h2, h3, h4, h5, hat, encEntry, hnn, hlen, withRC, hnext]
        simpa [withRC, Int.natCast_add] using g1

/-! ## all old slots -/

theorem grow_outer (F n : Nat) (T : Table) (N k : Nat) (hN : N = 2 ^ k) (h0 : 0 < N) (hlt : N < M32) (hF : N + 1 ≤ F)
    (ns' : Array (Option G.Entry)) (c' : Nat) :
    ∀ (l : List (Option G.Entry)) (j : Nat) (ns : Array (Option G.Entry)) (c : Nat) (σ : Store), ns.size = N →
      σ 0 = some (.tbl (withRC T c)) → σ 2 = some (.entries (encSlots ns)) → σ 3 = some (.u32 (N - 1)) →
      l.foldl (G.growStep N) (some (ns, c)) = some (ns', c') →
      ∃ σ', loop (stepOf (env F n) none (some 4) growBody) (l.map fun x => Val.entry (encEntry x)) j σ = .next σ' ∧
        σ' 0 = some (.tbl (withRC T c')) ∧ σ' 2 = some (.entries (encSlots ns')) := by
  intro l
  induction l with
  | nil =>
    intro j ns c σ _ h0 h2 _ h
    simp at h
    exact ⟨σ, rfl, by rw [h0, h.2], by rw [h2, h.1]⟩
  | cons x l ih =>
    intro j ns c σ hsz hs0 hs2 hs3 hfold
    obtain ⟨ns1, c1, hstep, hfold⟩ := G.growFold_cons hfold
    rw [G.growStep_probe, ← encEntry_hash] at hstep
    cases hpr : G.probe (fun _ _ => false) ns 0 0 (N + 1) ((encEntry x).hash % N) c with
    | none => rw [hpr] at hstep; cases hstep
    | some r =>
      obtain ⟨p, c2⟩ := r
      rw [hpr] at hstep
      cases hstep
      have hpos : (encEntry x).hash % N < N := Nat.mod_lt _ h0
      have hmask : (encEntry x).hash &&& (N - 1) = (encEntry x).hash % N := mask_mod _ N k hN
      let σ1 := (σ.set 4 (.entry (encEntry x))).set 5 (.u32 ((encEntry x).hash % N))
      obtain ⟨σ2, g1, g2, g3, g4⟩ := reloc_loop (env F n) T x N k hN hlt p c2 (N + 1) F ns ((encEntry x).hash % N) c σ1 hF hsz hpos
        (by simp [σ1, set_apply, hs0]) (by simp [σ1, set_apply, hs2]) (by simp [σ1, set_apply, hs3]) (by simp [σ1, set_apply])
        (by simp [σ1, set_apply]) hpr
      obtain ⟨σ', g5, g6, g7⟩ := ih (j + 1) _ c2 σ2 (by cases x <;> simp [G.setX, hsz]) g2 g3 g4 hfold
      refine ⟨σ', ?_, g6, g7⟩
      simp only [σ1] at g1
      simp only [List.map_cons, loop, stepOf]
      exec_simp [hs3, hmask, g1]
      exact g5

/-! ## `grow` -/

/-- `t.grow()` on the Go table of the mirror table `t` yields the Go table of `G.grow {} t` -/
theorem call_grow (F n : Nat) (cs : List Cmp) (collect : Bool) (t t' : G.Tbl) (k : Nat) (hk : t.slots.size = 2 ^ k)
    (hsz : 2 * t.slots.size < M32) (hden : 0 < t.lfDen) (hF : 2 * t.slots.size + 1 ≤ F) (hg : G.grow {} t = some t') :
    callAt canonFns F (n+1) .grow [.tbl (encTbl cs collect t)] = some (.unit, some (.tbl (encTbl cs collect t'))) := by
  rw [callAt_succ F n _ _ look_grow]
  have hpos : 0 < t.slots.size := by rw [hk]; exact Nat.two_pow_pos k
  rw [G.grow_eq] at hg
  cases hfold : t.slots.toList.foldl (G.growStep (2 * t.slots.size)) (some (Array.replicate (2 * t.slots.size) none, t.relocCollisions)) with
  | none => rw [hfold] at hg; cases hg
  | some r =>
    obtain ⟨ns', c'⟩ := r
    rw [hfold] at hg
    cases hg
    -- the Go table is a variable from here on: only its entries, collision count and load factor matter
    obtain ⟨T, hT⟩ : ∃ T, T = encTbl cs collect t := ⟨_, rfl⟩
    have hE : T.entries = encSlots t.slots := by rw [hT]; rfl
    have hD : T.lfDen = t.lfDen := by rw [hT]; rfl
    have hRC : T = withRC T t.relocCollisions := by rw [hT]; rfl
    rw [← hT]
    let σ1 : Store := (((Store.empty.set 0 (.tbl T)).set 1 (.u32 (2 * t.slots.size))).set 2 (.entries (List.replicate (2 * t.slots.size) {}))).set 3
      (.u32 (2 * t.slots.size - 1))
    obtain ⟨σ', g1, g2, g3⟩ := grow_outer F n T (2 * t.slots.size) (k + 1) (by rw [hk, Nat.pow_succ]; omega) (by omega) hsz hF ns' c'
      t.slots.toList 0 (Array.replicate (2 * t.slots.size) none) t.relocCollisions σ1 (by simp)
      (by simp only [σ1, set_apply]; simp; exact hRC) (by simp [σ1, set_apply, encSlots_replicate]) (by simp [σ1, set_apply]) hfold
    have hlen : (((2 * ((encSlots t.slots).length : Int)) % (M32 : Int)).toNat) = 2 * t.slots.size := by
      rw [encSlots_length]; exact toU_ofNat hsz
    have hsub : (2 * t.slots.size + M32 - 1 % M32) % M32 = 2 * t.slots.size - 1 := by
      rw [Nat.mod_eq_of_lt (show 1 < M32 by decide), show 2 * t.slots.size + M32 - 1 = 2 * t.slots.size - 1 + M32 by omega,
        Nat.add_mod_right, Nat.mod_eq_of_lt (by omega)]
    have hnn : ¬ (2 * (t.slots.size : Int) < 0) := by omega
    have htn : (2 * (t.slots.size : Int)).toNat = 2 * t.slots.size := by omega
    have hel : (encSlots t.slots).map Val.entry = t.slots.toList.map (fun x => Val.entry (encEntry x)) := by simp [encSlots]
    have hd0 : ¬ (T.lfDen = 0) := by omega
    simp only [σ1] at g1
    exec_simp [runFn, fnGrow, hE, hlen, hsub, hnn, htn, hel, g1, g2, g3, withRC, hd0]
    simp [hT, encTbl, encStats]

end QF.Props.C04GrouperGen
