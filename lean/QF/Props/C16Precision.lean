import QF.Props.C16CoreTable
/-!
# C16 — Ryu's precision lemma for the 121/122-bit tables, and `ryu_shortest` without hypotheses

`ryu_shortest_partial` assumes that the three `mulShift64` results of step 3 are the exact floors `⌊m·N/D⌋` of the scaled
quantities; `mulShift64_table` reduces this to `⌊m·μ/2^s⌋ = ⌊m·N/D⌋` for the table multiplier `μ = mulVal exp` and the shift
`s = shiftOf exp`.

**Result 1 (`precision`).** For every exponent field `exp < 2047` and EVERY `m < 2^55` the two floors agree — with exactly
two exceptions, `(exp, m) = (472, 28933731341339864)` and `(1797, 33542060588139028)`, where they differ by one
(`precision_exceptions`). Both exceptional `m` are multiples of 4 with `m/4 ∈ [2^52, 2^53)`: they are the `mv = 4·m2` of two
real float64 values (bits `0x1D89B2C4D2A82336` = 2.1789991853451517e-166 and `0x705DCA94E3990085` = 1.85006342392073e+233;
`excMant472`, `excMant1797`), so for these two floats the hypothesis `Hvr`
of `ryu_shortest_partial` is FALSE (`hypothesis_fails`: `vr` is off by one). The 121/122-bit tables of this port are therefore
not precise enough for the literal statement of the precision lemma; the final result is nevertheless right, because at least
two digits are removed and the off-by-one does not reach the kept digits.

**How.** A certificate `(m1, k1, m2, k2)` — neighbours of `N/D` in the Stern–Brocot tree with `m1 + m2 ≥ 2^55`,
found by an untrusted Euclid-like walk (`fareyWalk`) — is checked by `certOk` (`C16Farey`: `certOk_sound`), which bounds
`m·N mod D` from below and above for all `m < 2^55` (the minimum/maximum computation of the Ryu paper) and, where the bound
alone is too weak (4 exponents), pins the possible violations down to three explicit multipliers that are tested directly.
`prec_check_neg` and `prec_check_pos` run the check in the kernel for the largest of the exponent fields that read one table
entry (and for the field below each exceptional one); to the other fields the identity is handed down (`Prec.down`).

**Result 2 (`ryu_shortest`).** The conclusion of `ryu_shortest_partial` for every finite non-zero float64, no hypotheses: for
the two exceptional floats by evaluating the mirror and checking the premises of `finish_correct` / `none_shorter` on the
exact quantities (`SpecCert`), for all others through `precision`.
-/
namespace QF.Props.C16Core
open QF.Ryu64 QF.Num

/-! ## the final theorem -/

/-- the three factors of a float other than the two exceptional ones are not exceptions of `precision` -/
theorem not_exc (mant exp : Nat) (hm : mant < 2 ^ 52) (hnz : mant ≠ 0 ∨ exp ≠ 0)
    (h1 : ¬ (exp = 472 ∧ mant = excMant472)) (h2 : ¬ (exp = 1797 ∧ mant = excMant1797)) (m : Nat)
    (hmm : m = mvOf (decodeM2 mant exp) ∨ m = mpOf (decodeM2 mant exp) ∨
      m = mmOf (decodeM2 mant exp) (mmShiftOf mant exp)) : m < 2 ^ 55 ∧ isExc exp m = false := by
  obtain ⟨hm1, hm2, hs, emv, emp, emm⟩ := factors mant exp hm hnz
  have hdm := decodeM2_eq mant exp hm
  rw [emv, emp, emm] at hmm
  unfold excMant472 at h1
  unfold excMant1797 at h2
  refine ⟨by omega, isExc_false (fun ⟨he, hv⟩ => h1 ⟨he, ?_⟩) (fun ⟨he, hv⟩ => h2 ⟨he, ?_⟩)⟩ <;>
    (subst he; rw [if_neg (by decide)] at hdm; omega)

/-- **`ryu_shortest`: the mirror of `float64ToDecimal` yields the shortest, correctly rounded decimal for every finite non-zero
float64, without hypotheses.**

For the fields `mant < 2^52`, `exp < 2047` (not both 0) of a float, with `m2`, `e2`, `mv = 4·m2`, `mp = 4·m2 + 2`,
`mm = 4·m2 − 1 − mmShift` and the scale `N/D = 2^e2 / 10^e10` as in `ryu_shortest_partial`: with
`d = float64ToDecimal mant exp` and `k = d.e − e10` digits removed, `d.m · 10^k` in units of `10^e10` lies in the rounding
interval `[mm, mp]·2^e2` (closed iff the significand is even), no decimal with fewer digits lies in it, and no decimal with
the same number of digits in the interval is closer to the exact value (`Spec`). -/
theorem ryu_shortest (mant exp : Nat) (hm : mant < 2 ^ 52) (he : exp < 2047) (hnz : mant ≠ 0 ∨ exp ≠ 0) :
    ∃ k : Nat, (float64ToDecimal mant exp).e = e10Of exp + (k : Int) ∧
      Spec (mmOf (decodeM2 mant exp) (mmShiftOf mant exp) * scaleNum exp) (mvOf (decodeM2 mant exp) * scaleNum exp)
        (mpOf (decodeM2 mant exp) * scaleNum exp) (scaleDen exp) (acceptBoundsOf mant exp)
        (float64ToDecimal mant exp).m k := by
  by_cases h1 : exp = 472 ∧ mant = excMant472
  · obtain ⟨rfl, rfl⟩ := h1; exact ryu_shortest_exc472
  by_cases h2 : exp = 1797 ∧ mant = excMant1797
  · obtain ⟨rfl, rfl⟩ := h2; exact ryu_shortest_exc1797
  apply ryu_shortest_of_table_precision mant exp hm he hnz
  intro m hmm
  obtain ⟨a, b⟩ := not_exc mant exp hm hnz h1 h2 m hmm
  exact precision exp m (by omega) a b

/-- the hypotheses of `ryu_shortest_partial` hold for every finite non-zero float except the two exceptional ones: `floorsHold`
can only answer `false` there -/
theorem floorsHold_all (mant exp : Nat) (hm : mant < 2 ^ 52) (he : exp < 2047) (hnz : mant ≠ 0 ∨ exp ≠ 0)
    (h1 : ¬ (exp = 472 ∧ mant = excMant472)) (h2 : ¬ (exp = 1797 ∧ mant = excMant1797)) :
    floorsHold mant exp = true := by
  obtain ⟨hm1, hm2, hs, emv, emp, emm⟩ := factors mant exp hm hnz
  have he' : exp < 2048 := by omega
  have P : ∀ m, (m = mvOf (decodeM2 mant exp) ∨ m = mpOf (decodeM2 mant exp) ∨
      m = mmOf (decodeM2 mant exp) (mmShiftOf mant exp)) →
      mulShift64 m (mulOf exp) (shiftOf exp) = m * scaleNum exp / scaleDen exp := by
    intro m hmm
    obtain ⟨a, b⟩ := not_exc mant exp hm hnz h1 h2 m hmm
    rw [mulShift64_table exp m he' (by omega)]
    exact precision exp m he' a b
  unfold floorsHold
  dsimp only
  simp only [Bool.and_eq_true, beq_iff_eq]
  exact ⟨⟨P _ (Or.inl rfl), P _ (Or.inr (Or.inl rfl))⟩, P _ (Or.inr (Or.inr rfl))⟩

/-- **Corollary, in terms of the bit pattern.** For every finite non-zero float64 `b` (`Num.decode b = some dy`, not ±0) the mirror
of `float64ToDecimal`, applied to the fields `mantOf b`, `expOf b` as `AppendFloat64f` extracts them, returns the shortest
correctly rounded decimal of the rounding interval of `b` (whose ends are identified by `interval_value`, `interval_upper`,
`interval_lower`, and whose unit by `scale_meaning`). -/
theorem ryu_shortest_bits (b : UInt64) (dy : Num.Dyadic) (h : decode b = some dy)
    (hnz : mantOf b ≠ 0 ∨ expOf b ≠ 0) :
    ∃ k : Nat, (float64ToDecimal (mantOf b) (expOf b)).e = e10Of (expOf b) + (k : Int) ∧
      Spec (mmOf (decodeM2 (mantOf b) (expOf b)) (mmShiftOf (mantOf b) (expOf b)) * scaleNum (expOf b))
        (mvOf (decodeM2 (mantOf b) (expOf b)) * scaleNum (expOf b))
        (mpOf (decodeM2 (mantOf b) (expOf b)) * scaleNum (expOf b)) (scaleDen (expOf b))
        (acceptBoundsOf (mantOf b) (expOf b)) (float64ToDecimal (mantOf b) (expOf b)).m k := by
  have hm : mantOf b < 2 ^ 52 := Nat.mod_lt _ (Nat.two_pow_pos 52)
  have he : expOf b < 2048 := Nat.mod_lt _ (by decide)
  have hne := (bridge b dy h).1
  exact ryu_shortest _ _ hm (by omega) hnz

/-- **Corollary for the hook `decimal`** (what `AppendFloat64f` formats: fast path, else the general algorithm), every finite
non-zero float64: either the fast path answered and the float is exactly the integer `m · 10^e` with `m` not divisible by 10,
or the general algorithm ran and `(m, e)` is the shortest correctly rounded decimal of the rounding interval. -/
theorem decimal_correct (mant exp : Nat) (hm : mant < 2 ^ 52) (he : exp < 2047) (hnz : mant ≠ 0 ∨ exp ≠ 0) :
    ((decimal mant exp).2.2 = true ∧ 1023 ≤ exp ∧ exp ≤ 1075 ∧ 0 ≤ (decimal mant exp).2.1 ∧ (decimal mant exp).1 % 10 ≠ 0 ∧
      2 ^ 52 + mant = (decimal mant exp).1 * 10 ^ (decimal mant exp).2.1.toNat * 2 ^ (1075 - exp)) ∨
    ((decimal mant exp).2.2 = false ∧
      ∃ k : Nat, (decimal mant exp).2.1 = e10Of exp + (k : Int) ∧
        Spec (mmOf (decodeM2 mant exp) (mmShiftOf mant exp) * scaleNum exp) (mvOf (decodeM2 mant exp) * scaleNum exp)
          (mpOf (decodeM2 mant exp) * scaleNum exp) (scaleDen exp) (acceptBoundsOf mant exp) (decimal mant exp).1 k) := by
  cases hx : float64ToDecimalExactInt mant exp with
  | mk d ok =>
    have h1 : (decimal mant exp).2.2 = ok := by unfold decimal; rw [hx]
    have h2 : (decimal mant exp).1 = (if ok = true then d else float64ToDecimal mant exp).m := by unfold decimal; rw [hx]
    have h3 : (decimal mant exp).2.1 = (if ok = true then d else float64ToDecimal mant exp).e := by unfold decimal; rw [hx]
    cases ok with
    | true =>
      left
      rw [if_pos rfl] at h2 h3
      rw [h1, h2, h3]
      exact ⟨rfl, exactInt_spec mant exp d hm (by omega) hx⟩
    | false =>
      right
      rw [if_neg (by decide)] at h2 h3
      rw [h1, h2, h3]
      exact ⟨rfl, ryu_shortest mant exp hm he hnz⟩

end QF.Props.C16Core
