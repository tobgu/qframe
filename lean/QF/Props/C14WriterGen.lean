import QF.Props.C09Observe
import QF.Gen.Writers
/-!
# C14 (C15) — the assembly loop of today's `QFrame.ToJSON` writes `C14ToJson.toJSON` (tie T1, by semantics)

`QF.Gen.toJsonAst` (regenerated on every run by go/cmd/extract/wast.go) is the body of `QFrame.ToJSON` after its guard as a
byte template program `QF.JS` (QF/Core/WExpr.lean): the table of quoted column names prepared before the loop, `[`, per row
a `,` (not before the first) and `{`, per column the prepared name, `:`, the cell (`AppendByteStringAt`), `,`; the removal
of the last comma, `}`, one `Write` per record; finally `]`. `JS.run` is its Go meaning. This file proves, for the term
generated TODAY:

* `gen_tojson_no_opaque`  — the function was found and translated completely
* `gen_tojson_canon`      — the term is the canonical one (finite check, redone on every run)
* `gen_tojson_writes`     — on EVERY frame (cells of their column's type) and for every fault pattern of the writer: the
                            `Write` calls are `[` · one call per row with `C14ToJson.rowBytes` · `]`, cut after the first
                            failing call, and the error returned is non-nil iff a call failed (what C15 relies on);
                            the per-cell bytes are those of today's `AppendByteStringAt` (`C09Observe.genAppend`)
* `gen_tojson_semantics`  — with a writer that does not fail: `n + 2` calls, and their concatenation is
                            `C14ToJson.toJSON fmt f`, the hand-written mirror; so
* `gen_tojson_fault`      — a failing `Write` number `k` ends `ToJSON` after exactly `k + 1` calls
* `gen_tojson_parses`     — `C14ToJson.tojson_parses` is a statement about what today's code writes.

The lemmas about the canonical term (`canon_*`) are proved once and for all, for any cell writer that appends
`C14ToJson.cellBytes` and any fault pattern.
-/
namespace QF.Props.C14WriterGen
open QF QF.Props.C14 QF.Props.C14ToJson

/-! ## The canonical program -/

def canonColBody : JS :=
  .emit .prepared (.emit (.lit [58]) (.emitCell (.emit (.lit [44]) .done)))

def canonRowBody : JS :=
  .reset (.ifRowPos (.emit (.lit [44]) .done) (.emit (.lit [123]) (.forCols canonColBody
    (.stripIfLast 44 (.emit (.lit [125]) (.write .done))))))

def canonToJSON : JS :=
  .prep .quotedName (.setBuf [91] (.write (.forRows canonRowBody (.writeLitRet [93]))))

theorem gen_tojson_no_opaque : Gen.toJsonAst.hasOpaque = false := by decide

theorem gen_tojson_canon : Gen.toJsonAst = canonToJSON := by decide

/-! ## The `Write` calls of the mirror -/

/-- the chunks `ToJSON` hands to `Write`, one call each: `[`, one record per row, `]` -/
def chunks (fmt : UInt64 → Bytes) (f : LFrame) : List Bytes :=
  [[91]] ++ (List.range f.n).map (rowBytes fmt f) ++ [[93]]

theorem chunks_length (fmt : UInt64 → Bytes) (f : LFrame) : (chunks fmt f).length = f.n + 2 := by
  simp [chunks]

/-- the concatenation of the chunks is the mirror's text -/
theorem chunks_flatten (fmt : UInt64 → Bytes) (f : LFrame) : (chunks fmt f).flatten = toJSON fmt f := by
  simp [chunks, toJSON, List.flatMap_def]

/-! ## The meaning of the canonical program, once and for all -/

/-- the environment does what the mirror assumes: the quoting is `appendQuoted`, the cell writer appends `cellBytes` -/
structure EnvOK (fmt : UInt64 → Bytes) (E : JEnv) : Prop where
  quote : E.quote = appendQuoted
  app : ∀ c ∈ E.f.cols, ∀ i, i < E.f.n → ∀ buf, E.app c buf c.cells[i]! = some (buf ++ cellBytes fmt c.cells[i]!)

def namesTbl (f : LFrame) : List Bytes := f.cols.map (fun c => appendQuoted c.name)

theorem canon_cols (fmt : UInt64 → Bytes) (E : JEnv) (hE : EnvOK fmt E) (i : Nat) (hi : i < E.f.n) :
    ∀ (cs pre : List LCol) (b : Bytes) (w : List Bytes), E.f.cols = pre ++ cs →
      loopIdx (fun j col σ => canonColBody.run E { row := some i, col := some (j, col) } σ) (fun σ => σ.ret.isSome)
          pre.length cs { tbl := namesTbl E.f, buf := b, writes := w, ret := none }
        = some { tbl := namesTbl E.f, buf := b ++ cs.flatMap (memberBytes fmt i), writes := w, ret := none } := by
  intro cs
  induction cs with
  | nil => intro pre b w _; simp [loopIdx]
  | cons c cs ih =>
    intro pre b w hsplit
    have hmem : c ∈ E.f.cols := by rw [hsplit]; simp
    have hget : (namesTbl E.f)[pre.length]? = some (appendQuoted c.name) := by
      rw [namesTbl, hsplit]; simp
    have happ := hE.app c hmem i hi
    have hstep : canonColBody.run E { row := some i, col := some (pre.length, c) }
          { tbl := namesTbl E.f, buf := b, writes := w, ret := none }
        = some { tbl := namesTbl E.f, buf := b ++ memberBytes fmt i c, writes := w, ret := none } := by
      simp [canonColBody, JS.run, JSrc.eval, hget, happ, memberBytes]
    rw [loopIdx]
    simp only [Option.isSome_none, Bool.false_eq_true, if_false, hstep, Option.bind_some]
    have := ih (pre ++ [c]) (b ++ memberBytes fmt i c) w (by simp [hsplit])
    simp only [List.length_append, List.length_cons, List.length_nil, Nat.zero_add] at this
    rw [this]
    simp

/-- the end of a record: the last comma goes, `}`, `Write` -/
def canonRowTail : JS := .stripIfLast 44 (.emit (.lit [125]) (.write .done))

theorem canon_tail (E : JEnv) (c : JCtx) (t : List Bytes) (b : Bytes) (w : List Bytes) (hne : b ≠ []) :
    canonRowTail.run E c { tbl := t, buf := b, writes := w, ret := none } =
      some { tbl := t, buf := dropTrailingComma b ++ [125], writes := w ++ [dropTrailingComma b ++ [125]],
             ret := if E.fail w.length then some true else none } := by
  cases hl : b.getLast? with
  | none => rw [List.getLast?_eq_none_iff] at hl; exact absurd hl hne
  | some y =>
    by_cases hy : y = 44
    · subst hy
      by_cases hf : E.fail w.length = true <;>
        simp [canonRowTail, JS.run, JSrc.eval, hl, dropTrailingComma, hf]
    · by_cases hf : E.fail w.length = true <;>
        simp [canonRowTail, JS.run, JSrc.eval, hl, dropTrailingComma, hf, hy]

/-- `{`, the members, the end of the record -/
theorem canon_record (fmt : UInt64 → Bytes) (E : JEnv) (hE : EnvOK fmt E) (i : Nat) (hi : i < E.f.n)
    (b : Bytes) (w : List Bytes) :
    (JS.emit (.lit [123]) (.forCols canonColBody canonRowTail)).run E { row := some i }
        { tbl := namesTbl E.f, buf := b, writes := w, ret := none } =
      some { tbl := namesTbl E.f,
             buf := dropTrailingComma (b ++ [123] ++ E.f.cols.flatMap (memberBytes fmt i)) ++ [125],
             writes := w ++ [dropTrailingComma (b ++ [123] ++ E.f.cols.flatMap (memberBytes fmt i)) ++ [125]],
             ret := if E.fail w.length then some true else none } := by
  have hcols := canon_cols fmt E hE i hi E.f.cols [] (b ++ [123]) w rfl
  simp only [List.length_nil] at hcols
  simp only [JS.run, JSrc.eval]
  rw [hcols]
  simp only [Option.isSome_none, Bool.false_eq_true, if_false]
  rw [canon_tail E _ _ _ _ (by simp)]

/-- one round of the row loop: the record of row `i` is assembled in the buffer and handed to `Write` -/
theorem canon_row (fmt : UInt64 → Bytes) (E : JEnv) (hE : EnvOK fmt E) (i : Nat) (hi : i < E.f.n)
    (b : Bytes) (w : List Bytes) :
    canonRowBody.run E { row := some i } { tbl := namesTbl E.f, buf := b, writes := w, ret := none } =
      some { tbl := namesTbl E.f, buf := rowBytes fmt E.f i, writes := w ++ [rowBytes fmt E.f i],
             ret := if E.fail w.length then some true else none } := by
  have hB : ∀ pre : Bytes, pre = (if i > 0 then [44] else []) →
      rowBytes fmt E.f i = dropTrailingComma (pre ++ [123] ++ E.f.cols.flatMap (memberBytes fmt i)) ++ [125] := by
    intro pre hp
    simp only [rowBytes, foldl_append_eq, hp]
  have hbody : canonRowBody = .reset (.ifRowPos (.emit (.lit [44]) .done)
      (.emit (.lit [123]) (.forCols canonColBody canonRowTail))) := rfl
  rw [hbody]
  by_cases hpos : i > 0
  · have := canon_record fmt E hE i hi ([] ++ [44]) w
    simp only [JS.run, JSrc.eval] at this
    simp only [JS.run, JSrc.eval, hpos, if_true, Option.isSome_none, Bool.false_eq_true, if_false]
    rw [this, hB ([] ++ [44]) (by simp [hpos])]
  · have := canon_record fmt E hE i hi [] w
    simp only [JS.run, JSrc.eval] at this
    simp only [JS.run, JSrc.eval, hpos, if_false]
    rw [this, hB [] (by simp [hpos])]

/-- **The canonical program, all frames, all fault patterns.** -/
theorem canon_output (fmt : UInt64 → Bytes) (E : JEnv) (hE : EnvOK fmt E) :
    canonToJSON.output E = some (cutWrites E.fail 0 (chunks fmt E.f)) := by
  have hprep : optMap (fun col => JSrc.quotedName.ofNil E col) E.f.cols = some (namesTbl E.f) := by
    simp only [JSrc.ofNil, hE.quote]
    exact optMap_some _ _
  unfold JS.output canonToJSON
  simp only [JS.run, hprep, List.length_nil, List.nil_append]
  simp only [chunks, List.cons_append, List.nil_append, cutWrites]
  by_cases h0 : E.fail 0 = true
  · simp [h0]
  · simp only [h0, Bool.false_eq_true, if_false]
    -- the row loop: one `Write` per row, until one of them fails
    obtain ⟨b', h1⟩ := loopIdx_writes _ JSt.ret E.fail (fun b w r => { tbl := namesTbl E.f, buf := b, writes := w, ret := r })
      true (rowBytes fmt E.f) (fun _ _ _ => rfl) (List.range E.f.n)
      (fun i hi _ b w => ⟨_, canon_row fmt E hE i (List.mem_range.1 hi) b w⟩) 0 [91] [[91]]
    rw [h1]
    simp only [List.length_cons, List.length_nil, Nat.zero_add]
    rw [cutWrites_snoc]
    by_cases hc : (cutWrites E.fail 1 ((List.range E.f.n).map (rowBytes fmt E.f))).2 = true
    · simp [hc]
    · rw [Bool.not_eq_true] at hc
      have hl := cutWrites_ok E.fail _ 1 hc
      have e : 1 + E.f.n = E.f.n + 1 := by omega
      simp [hc, hl, e]

/-! ## Today's `ToJSON` -/

/-- the environment of today's source: `AppendQuotedString` is its mirror `C14.appendQuoted` (C14Quote), a cell is written
by today's extracted `AppendByteStringAt` of its column's package (`fmt` = what `ryu.AppendFloat64f` appends) -/
def genEnv (fmt : UInt64 → Bytes) (f : LFrame) (fail : Nat → Bool) : JEnv where
  f := f
  quote := appendQuoted
  app := fun c buf x =>
    match C09Observe.genAppend ⟨fmt, fmt, appendQuoted⟩ c.ty c.vals [] buf x with
    | some (.buf b) => some b
    | _ => none
  fail := fail

/-- what a caller of today's `ToJSON` sees on the frame `f`: the `Write` calls and whether an error is returned -/
def genToJSON (fmt : UInt64 → Bytes) (f : LFrame) (fail : Nat → Bool) : Option (List Bytes × Bool) :=
  Gen.toJsonAst.output (genEnv fmt f fail)

theorem genEnv_ok (fmt : UInt64 → Bytes) (f : LFrame) (fail : Nat → Bool) (hf : C09Observe.FrameTyped f) :
    EnvOK fmt (genEnv fmt f fail) := by
  refine ⟨rfl, ?_⟩
  intro c hc i hi buf
  have ht := hf c hc
  simp only [genEnv]
  rw [C09Observe.gen_append_semantics ht.1 fmt c.vals _ (ht.2 i hi) fmt [] buf]

/-- **The `Write` calls of today's `ToJSON`** on every frame whose cells are of their column's type, for every fault
pattern of the writer (`fail k`: call number `k` returns an error): `[`, then ONE call per row with the record
`C14ToJson.rowBytes` (`,` in front of all but the first, the last comma of the members removed, also for a frame without
columns), then `]` — cut after the first failing call; the error returned is non-nil iff a call failed. -/
theorem gen_tojson_writes (fmt : UInt64 → Bytes) (f : LFrame) (hf : C09Observe.FrameTyped f) (fail : Nat → Bool) :
    genToJSON fmt f fail =
      some (cutWrites fail 0 ([[91]] ++ (List.range f.n).map (rowBytes fmt f) ++ [[93]])) := by
  rw [genToJSON, gen_tojson_canon]
  exact canon_output fmt _ (genEnv_ok fmt f fail hf)

/-- **Today's `ToJSON` writes `C14ToJson.toJSON`.** With a writer that does not fail: `nil` is returned after `n + 2`
`Write` calls (`[`, one per record, `]`), and the bytes written — the concatenation of the calls — are exactly the
hand-written mirror `toJSON fmt f`, for every frame whose cells are of their column's type. -/
theorem gen_tojson_semantics (fmt : UInt64 → Bytes) (f : LFrame) (hf : C09Observe.FrameTyped f) :
    ∃ ws, genToJSON fmt f (fun _ => false) = some (ws, false) ∧ ws.length = f.n + 2 ∧
      ws.flatten = toJSON fmt f ∧ ws = [[91]] ++ (List.range f.n).map (rowBytes fmt f) ++ [[93]] := by
  refine ⟨chunks fmt f, ?_, chunks_length fmt f, chunks_flatten fmt f, rfl⟩
  rw [gen_tojson_writes fmt f hf, cutWrites_nofail _ (fun _ => rfl)]
  rfl

/-- A failing `Write` number `k` (of the `n + 2`) ends `ToJSON` at once: exactly `k + 1` calls were made — the first `k`
complete chunks went through — and the error is returned. (The frame's text is cut at a chunk boundary: after `[`, or
after a complete record.) -/
theorem gen_tojson_fault (fmt : UInt64 → Bytes) (f : LFrame) (hf : C09Observe.FrameTyped f) (k : Nat) (hk : k < f.n + 2) :
    genToJSON fmt f (fun j => j == k) = some ((chunks fmt f).take (k + 1), true) := by
  rw [gen_tojson_writes fmt f hf]
  have := cutWrites_at (chunks fmt f) 0 k (Nat.zero_le _) (by rw [chunks_length]; omega)
  simpa [chunks] using this

/-- **`tojson_parses` applies to what today's code writes**: with a float formatter that writes JSON number tokens, the
concatenation of the `Write` calls of today's `ToJSON` is a JSON text that denotes the array of the frame's records. -/
theorem gen_tojson_parses (fmt : UInt64 → Bytes)
    (hfmt : ∀ b, F64.isNaN b = false → ∀ tl, numEnd tl = true → Json.parseNum (fmt b ++ tl) = some (fmt b, tl))
    (f : LFrame) (hf : C09Observe.FrameTyped f) :
    ∃ ws, genToJSON fmt f (fun _ => false) = some (ws, false) ∧
      Json.parse ws.flatten
        = some (.arr ((List.range f.n).map (fun r =>
            .obj (f.cols.map (fun c => (Json.sanitize c.name, C14ToJson.cellVal fmt c.cells[r]!)))))) := by
  obtain ⟨ws, h1, _, h3, _⟩ := gen_tojson_semantics fmt f hf
  exact ⟨ws, h1, by rw [h3]; exact tojson_parses fmt hfmt f⟩

/-! ## Witnesses: the statements tell wrong assembly loops apart -/

def wFmt : UInt64 → Bytes := fun _ => [48]

/-- the cell writer of the witnesses: appends `cellBytes` -/
def wEnv (f : LFrame) : JEnv :=
  { f := f, quote := appendQuoted, app := fun _ buf x => some (buf ++ cellBytes wFmt x), fail := fun _ => false }

def wFrame : LFrame :=
  { cols := [{ name := [97], ty := .bool, cells := #[.bool true, .bool false] },
             { name := [98], ty := .string, cells := #[.str none, .str (some [120])] }],
    n := 2 }

/-- the canonical program on the witness frame: `[` `{"a":true,"b":null}` `,{"a":false,"b":"x"}` `]` -/
example : (canonToJSON.output (wEnv wFrame)).map (·.1) =
      some [[91], [123, 34, 97, 34, 58, 116, 114, 117, 101, 44, 34, 98, 34, 58, 110, 117, 108, 108, 125],
        [44, 123, 34, 97, 34, 58, 102, 97, 108, 115, 101, 44, 34, 98, 34, 58, 34, 120, 34, 125], [93]] ∧
    (canonToJSON.output (wEnv wFrame)).map (·.1.flatten) = some (toJSON wFmt wFrame) := by
  decide

/-- Without the removal of the last comma the records end in `,}`: not the mirror's text (and not JSON). -/
def noStrip : JS :=
  .prep .quotedName (.setBuf [91] (.write (.forRows
    (.reset (.ifRowPos (.emit (.lit [44]) .done) (.emit (.lit [123]) (.forCols canonColBody (.emit (.lit [125]) (.write .done))))))
    (.writeLitRet [93]))))

example : (noStrip.output (wEnv { cols := [{ name := [97], ty := .bool, cells := #[.bool true] }], n := 1 })).map (·.1.flatten)
      = some [91, 123, 34, 97, 34, 58, 116, 114, 117, 101, 44, 125, 93] ∧
    toJSON wFmt { cols := [{ name := [97], ty := .bool, cells := #[.bool true] }], n := 1 }
      = [91, 123, 34, 97, 34, 58, 116, 114, 117, 101, 125, 93] := by
  decide

/-- A comma in front of EVERY record (the test `i > 0` dropped) writes `[,{…}]`. -/
def commaAlways : JS :=
  .prep .quotedName (.setBuf [91] (.write (.forRows
    (.reset (.emit (.lit [44]) (.emit (.lit [123]) (.forCols canonColBody (.stripIfLast 44 (.emit (.lit [125]) (.write .done)))))))
    (.writeLitRet [93]))))

example : (commaAlways.output (wEnv { cols := [], n := 1 })).map (·.1.flatten) = some [91, 44, 123, 125, 93] ∧
    toJSON wFmt { cols := [], n := 1 } = [91, 123, 125, 93] := by
  decide

/-- The unquoted column name instead of the prepared (quoted) one: `{a:true}`. -/
def rawName : JS :=
  .prep (.lit [97]) (.setBuf [91] (.write (.forRows canonRowBody (.writeLitRet [93]))))

example : (rawName.output (wEnv { cols := [{ name := [97], ty := .bool, cells := #[.bool true] }], n := 1 })).map (·.1.flatten)
      = some [91, 123, 97, 58, 116, 114, 117, 101, 125, 93] := by
  decide

/-- One `Write` for the whole document instead of one per record gives the same bytes but other call boundaries: a failing
`Write` then concerns the whole document and not one record. -/
def oneWrite : JS :=
  .prep .quotedName (.setBuf [91] (.forRows
    (.ifRowPos (.emit (.lit [44]) .done) (.emit (.lit [123]) (.forCols canonColBody (.stripIfLast 44 (.emit (.lit [125]) .done)))))
    (.emit (.lit [93]) (.write (.writeLitRet [])))))

example : (oneWrite.output (wEnv { cols := [], n := 2 })).map (·.1) = some [[91, 123, 125, 44, 123, 125, 93], []] ∧
    (canonToJSON.output (wEnv { cols := [], n := 2 })).map (·.1) = some [[91], [123, 125], [44, 123, 125], [93]] := by
  decide

#print axioms gen_tojson_no_opaque
#print axioms gen_tojson_canon
#print axioms canon_output
#print axioms gen_tojson_writes
#print axioms gen_tojson_semantics
#print axioms gen_tojson_fault
#print axioms gen_tojson_parses

end QF.Props.C14WriterGen
