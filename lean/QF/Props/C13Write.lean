import QF.Core.SpecFacts
import QF.Props.C12Read
import QF.Core.ListFacts
/-!
# C13 (writer side): what `QFrame.ToCSV` writes is read back

`QFrame.ToCSV` (/repo/qframe.go) hands each row of strings to Go's `encoding/csv.Writer`
(`Writer.Write`, `Writer.fieldNeedsQuotes` of `$GOROOT/src/encoding/csv/writer.go`, go1.23.5), with
`Comma = ','` and `UseCRLF = false`.

* §1  `csvWrite`: byte-exact mirror of `Writer.Write` applied to each record
* §2  `csvWrite_eq_render`: the writer is `renderDoc 44` of C13Render for the quoting choice `needsQuotes`;
      `needsQuotes_admissible`: the choice is admissible (every field that must be quoted is quoted)
* §3  `parse_write` (`rfcParse` inverts the writer), `read_write` (so does qframe's own reader, the mirror
      `Full.readAll`, for every read schedule), the counterexamples that show the hypotheses are needed
* §4  `tocsvRows`: the records `ToCSV` hands to the writer for a logical frame, and the corollaries

## What is modelled of `fieldNeedsQuotes`

`Comma = ','` (44), so the branch `w.Comma < utf8.RuneSelf` is the one taken. `unicode.IsSpace(r1)` for the
first rune `r1 = utf8.DecodeRuneInString(field)` is modelled completely (`firstRuneIsSpace`): the Latin-1
cases `\t \n \v \f \r`, space, U+0085, U+00A0 and the rest of Unicode's `White_Space` (U+1680,
U+2000‥U+200A, U+2028, U+2029, U+202F, U+205F, U+3000), each recognised by its (unique, shortest-form)
UTF-8 encoding at the head of the field. Invalid or truncated UTF-8 decodes to U+FFFD, which is not a space;
no other rune is a space. None of this matters for the round trip: quoting more than necessary is always
admissible (`parse_render` / `read_render'` hold for EVERY admissible quoting choice).
-/
namespace QF.Props.C13Write
open QF.Props.C13 (mustQuote renderField renderFields renderRow renderDoc RowOkCore parse_render_core)
open QF.Props.C12Read (LastNoCR RowOk' read_render_fuel')

/-! ## §1 the mirror of `encoding/csv.Writer` -/

/-- `unicode.IsSpace(r1)` where `r1, _ := utf8.DecodeRuneInString(field)`. -/
def firstRuneIsSpace (f : Bytes) : Bool :=
  match f with
  | [] => false           -- (not reached: the empty field is handled first)
  | b0 :: t =>
    -- '\t', '\n', '\v', '\f', '\r', ' '
    if b0 == 9 || b0 == 10 || b0 == 11 || b0 == 12 || b0 == 13 || b0 == 32 then true
    else match t with
      | [] => false
      | b1 :: t' =>
        -- U+0085 (NEL) = C2 85, U+00A0 (NBSP) = C2 A0
        if b0 == 0xC2 then b1 == 0x85 || b1 == 0xA0
        else match t' with
          | [] => false
          | b2 :: _ =>
            -- U+1680 = E1 9A 80
            (b0 == 0xE1 && b1 == 0x9A && b2 == 0x80) ||
            -- U+2000‥U+200A = E2 80 80‥8A, U+2028 = E2 80 A8, U+2029 = E2 80 A9, U+202F = E2 80 AF
            (b0 == 0xE2 && b1 == 0x80 &&
              ((decide (0x80 ≤ b2) && decide (b2 ≤ 0x8A)) || b2 == 0xA8 || b2 == 0xA9 || b2 == 0xAF)) ||
            -- U+205F = E2 81 9F
            (b0 == 0xE2 && b1 == 0x81 && b2 == 0x9F) ||
            -- U+3000 = E3 80 80
            (b0 == 0xE3 && b1 == 0x80 && b2 == 0x80)

/-- `Writer.fieldNeedsQuotes` with `Comma = ','`. -/
def needsQuotes (f : Bytes) : Bool :=
  if f = [] then false                      -- if field == "" { return false }
  else if f = [92, 46] then true            -- if field == `\.` { return true }
  else if f.any (fun c => c == 10 || c == 13 || c == 34 || c == 44) then true
  else firstRuneIsSpace f

/-- the bytes `strings.IndexAny(field, "\"\r\n")` looks for -/
def isSpecial (c : UInt8) : Bool := c == 34 || c == 13 || c == 10

/-- The loop `for len(field) > 0 { … }` of `Writer.Write` between the two quotes, `UseCRLF = false`;
one iteration per unit of `fuel` (the loop consumes at least one byte per iteration unless it ends). -/
def quoteLoop : Nat → Bytes → Bytes
  | 0, _ => []
  | fuel + 1, field =>
    if field = [] then [] else
    -- i := strings.IndexAny(field, "\"\r\n"); if i < 0 { i = len(field) }
    let pre := field.takeWhile (fun c => !isSpecial c)     -- field[:i], copied verbatim
    let rest := field.dropWhile (fun c => !isSpecial c)    -- field = field[i:]
    pre ++
      match rest with
      | [] => []
      | c :: rest' =>
        -- switch field[0]
        (if c == 34 then [34, 34]              -- case '"':  `""`
         else if c == 13 then [13]             -- case '\r': if !w.UseCRLF { WriteByte('\r') }
         else if c == 10 then [10]             -- case '\n': WriteByte('\n')
         else []) ++
        quoteLoop fuel rest'                   -- field = field[1:]

/-- one field as `Writer.Write` writes it -/
def writeField (f : Bytes) : Bytes :=
  if !needsQuotes f then f
  else [34] ++ quoteLoop (f.length + 1) f ++ [34]

/-- `for n, field := range record`: a comma before every field but the first -/
def writeFields : Nat → List Bytes → Bytes
  | _, [] => []
  | n, f :: fs => (if n > 0 then [44] else []) ++ writeField f ++ writeFields (n + 1) fs

/-- `Writer.Write(record)`: the fields, then `\n` -/
def writeRecord (r : List Bytes) : Bytes := writeFields 0 r ++ [10]

/-- `Writer.Write` applied to each record in turn (what `WriteAll`, or ToCSV's loop, emits) -/
def csvWrite (rows : List (List Bytes)) : Bytes := rows.flatMap writeRecord

/-! ## §2 the writer is a rendering with an admissible quoting choice -/

/-- the quoting choice of the writer -/
def tag (f : Bytes) : Bool × Bytes := (needsQuotes f, f)

theorem dropWhile_head {α} (p : α → Bool) (l : List α) (c : α) (r : List α) (h : l.dropWhile p = c :: r) :
    p c = false ∧ r.length < l.length := by
  have h1 := List.head?_dropWhile_not p l
  have h2 := (List.dropWhile_suffix p (l := l)).length_le
  rw [h] at h1 h2
  exact ⟨by simpa using h1, h2⟩

/-- escaping leaves bytes other than the quote alone -/
theorem esc_id (l : Bytes) (h : ∀ c ∈ l, c ≠ 34) :
    l.flatMap (fun c => if c == 34 then [34, 34] else [c]) = l := by
  induction l with
  | nil => rfl
  | cons x xs ih =>
    have hx : (x == 34) = false := by simpa using h x (by simp)
    simp only [List.flatMap_cons, hx, Bool.false_eq_true, ↓reduceIte, List.singleton_append, List.cons.injEq, true_and]
    exact ih (fun c hc => h c (by simp [hc]))

/-- The loop of `Writer.Write` doubles every quote and copies everything else (CR and LF included). -/
theorem quoteLoop_eq (fuel : Nat) : ∀ (f : Bytes), f.length < fuel →
    quoteLoop fuel f = f.flatMap (fun c => if c == 34 then [34, 34] else [c]) := by
  induction fuel with
  | zero => intro f h; omega
  | succ n ih =>
    intro f hf
    unfold quoteLoop
    by_cases he : f = []
    · subst he; rfl
    · simp only [he, ↓reduceIte]
      have hsplit := List.takeWhile_append_dropWhile (p := fun c => !isSpecial c) (l := f)
      have hpre : ∀ c ∈ f.takeWhile (fun c => !isSpecial c), c ≠ 34 := by
        intro c hc h34
        have := List.all_eq_true.1 List.all_takeWhile c hc
        subst h34
        simp [isSpecial] at this
      conv => rhs; rw [← hsplit]
      rw [List.flatMap_append, esc_id _ hpre]
      congr 1
      cases hd : f.dropWhile (fun c => !isSpecial c) with
      | nil => rfl
      | cons c r =>
        obtain ⟨hc, hlen⟩ := dropWhile_head _ f c r hd
        have hr := ih r (by omega)
        simp only [List.flatMap_cons, hr]
        congr 1
        have hsp : isSpecial c = true := by simpa using hc
        simp only [isSpecial, Bool.or_eq_true, beq_iff_eq] at hsp
        rcases hsp with (h | h) | h <;> subst h <;> decide

theorem writeField_eq (f : Bytes) : writeField f = renderField (needsQuotes f) f := by
  unfold writeField renderField
  cases needsQuotes f with
  | false => rfl
  | true =>
    simp only [Bool.not_true, Bool.false_eq_true, ↓reduceIte]
    rw [quoteLoop_eq _ f (by omega)]

/-- fields after the first: each is preceded by a comma -/
theorem writeFields_succ (n : Nat) (fs : List Bytes) :
    writeFields (n + 1) fs = fs.flatMap (fun f => 44 :: writeField f) := by
  induction fs generalizing n with
  | nil => rfl
  | cons f fs ih =>
    simp only [writeFields, Nat.zero_lt_succ, ↓reduceIte, List.flatMap_cons, ih (n + 1)]
    simp

theorem renderFields_cons (delim : UInt8) (p : Bool × Bytes) (rest : List (Bool × Bytes)) :
    renderFields delim (p :: rest) = renderField p.1 p.2 ++ rest.flatMap (fun q => delim :: renderField q.1 q.2) := by
  induction rest generalizing p with
  | nil => simp [renderFields]
  | cons q qs ih =>
    simp only [renderFields, ih q, List.flatMap_cons]
    simp

theorem writeFields_eq (r : List Bytes) : writeFields 0 r = renderFields 44 (r.map tag) := by
  cases r with
  | nil => rfl
  | cons f fs =>
    simp only [writeFields, Nat.lt_irrefl, ↓reduceIte, List.nil_append, List.map_cons, renderFields_cons,
      writeFields_succ, writeField_eq, tag, List.flatMap_map]

theorem writeRecord_eq (r : List Bytes) : writeRecord r = renderRow 44 (r.map tag) := by
  simp only [writeRecord, renderRow, writeFields_eq]

/-- **The writer is a rendering**: `Writer.Write` on each record = `renderDoc` with the quoting choice
`needsQuotes`. -/
theorem csvWrite_eq_render (rows : List (List Bytes)) :
    csvWrite rows = renderDoc 44 (rows.map (·.map (fun f => (needsQuotes f, f)))) := by
  simp only [csvWrite, renderDoc, List.flatMap_map]
  congr 1
  funext r
  exact writeRecord_eq r

/-- The writer quotes exactly: what must be quoted, the field `\.`, and fields whose first rune is a space. -/
theorem needsQuotes_iff (f : Bytes) :
    needsQuotes f = (mustQuote 44 f || f == [92, 46] || (f != [] && firstRuneIsSpace f)) := by
  have hany : f.any (fun c => c == 10 || c == 13 || c == 34 || c == 44) = mustQuote 44 f := by
    unfold mustQuote
    congr 1
    funext c
    ac_rfl
  unfold needsQuotes
  rw [hany]
  by_cases h1 : f = []
  · subst h1; rfl
  · by_cases h2 : f = [92, 46]
    · subst h2; rfl
    · have h2' : (f == [92, 46]) = false := by simpa using h2
      have h1' : (f != []) = true := by simpa using h1
      simp only [h1, h2, ↓reduceIte, h2', h1', Bool.or_false, Bool.true_and]
      cases mustQuote 44 f <;> simp

/-- **The choice is admissible**: every field that must be quoted (contains the comma, a quote, LF or CR)
is quoted by the writer. -/
theorem needsQuotes_admissible {f : Bytes} : mustQuote 44 f = true → needsQuotes f = true := by
  intro h
  rw [needsQuotes_iff, h]
  rfl

theorem map_tag_snd (r : List Bytes) : (r.map tag).map (·.2) = r := by
  simp [tag, Function.comp_def]

theorem rows_tag_snd (rows : List (List Bytes)) :
    (rows.map (·.map (fun f => (needsQuotes f, f)))).map (·.map (·.2)) = rows := by
  simp [Function.comp_def]

/-! ## §3 main theorems -/

/-- `Reader.Next` of qframe's reader trims one trailing CR of the last field of a row: the last field of the
record must not end with CR. -/
def LastFieldNoCR (r : List Bytes) : Prop := ∀ f, r.getLast? = some f → f.getLast? ≠ some 13

instance (r : List Bytes) : Decidable (LastFieldNoCR r) :=
  match h : r.getLast? with
  | none => isTrue (fun f hf => by rw [h] at hf; cases hf)
  | some g =>
    if hg : g.getLast? = some 13 then isFalse (fun hh => hh g h hg)
    else isTrue (fun f hf => by rw [h] at hf; cases hf; exact hg)

theorem rowOkCore_tag {r : List Bytes} (h : r ≠ []) : RowOkCore 44 (r.map (fun f => (needsQuotes f, f))) := by
  refine ⟨by simpa using h, ?_⟩
  intro p hp
  simp only [List.mem_map] at hp
  obtain ⟨f, _, rfl⟩ := hp
  exact needsQuotes_admissible

theorem lastNoCR_tag {r : List Bytes} (h : LastFieldNoCR r) : LastNoCR (r.map (fun f => (needsQuotes f, f))) := by
  intro p hp
  obtain ⟨g, hl, rfl⟩ := Option.map_eq_some_iff.1 (List.getLast?_map ▸ hp)
  exact h g hl

theorem rowOk'_tag {r : List Bytes} (h : r ≠ []) (hcr : LastFieldNoCR r) :
    RowOk' 44 (r.map (fun f => (needsQuotes f, f))) :=
  ⟨(rowOkCore_tag h).nonempty, (rowOkCore_tag h).quoted, lastNoCR_tag hcr⟩

/-- **ToCSV → RFC 4180.** The RFC 4180 scanner inverts Go's CSV writer on every list of non-empty
records. Nothing else is needed: `RowOk`'s further clauses (`single`, `noLeadQuote`, `noCR`) are not used by
`parse_render_core`; in particular the record `[""]`, which the writer emits as an empty line, denotes the
row of one empty field for `rfcParse`. -/
theorem parse_write (rows : List (List Bytes)) (h : ∀ r ∈ rows, r ≠ []) :
    rfcParse 44 (csvWrite rows) = rows := by
  rw [csvWrite_eq_render, parse_render_core 44 (by decide)]
  · exact rows_tag_snd rows
  · intro r hr
    simp only [List.mem_map] at hr
    obtain ⟨r0, hr0, rfl⟩ := hr
    exact rowOkCore_tag (h r0 hr0)

/-- `read_write` with the bounds spelled out: any `fuel` above the document's size and any `n` above its
size plus the number of records will do. -/
theorem read_write_fuel (rows : List (List Bytes)) (h : ∀ r ∈ rows, r ≠ []) (hcr : ∀ r ∈ rows, LastFieldNoCR r)
    (sched : List Nat) (fuel n : Nat)
    (hfu : (csvWrite rows).length < fuel) (hn : (csvWrite rows).length + rows.length < n) :
    Full.readAll 44 fuel n (Full.initFS (csvWrite rows) sched) [] = some (rows, some .eof) := by
  have hok : ∀ r ∈ rows.map (·.map (fun f => (needsQuotes f, f))), RowOk' 44 r := by
    intro r hr
    simp only [List.mem_map] at hr
    obtain ⟨r0, hr0, rfl⟩ := hr
    exact rowOk'_tag (h r0 hr0) (hcr r0 hr0)
  have := read_render_fuel' 44 (by decide) _ hok sched fuel n
    (by rw [← csvWrite_eq_render]; exact hfu) (by rw [← csvWrite_eq_render]; simpa using hn)
  rw [← csvWrite_eq_render, rows_tag_snd] at this
  exact this

/-- **ToCSV → qframe's reader.** What Go's CSV writer writes for a list of non-empty records whose last
fields do not end with CR is read back by the mirror of qframe's CSV reader field for field, and then
`eof` — for EVERY read schedule (whatever the fragmentation of the input). -/
theorem read_write (rows : List (List Bytes)) (h : ∀ r ∈ rows, r ≠ []) (hcr : ∀ r ∈ rows, LastFieldNoCR r)
    (sched : List Nat) :
    ∃ fuel n, Full.readAll 44 fuel n (Full.initFS (csvWrite rows) sched) [] = some (rows, some .eof) :=
  ⟨(csvWrite rows).length + 1, (csvWrite rows).length + rows.length + 1,
    read_write_fuel rows h hcr sched _ _ (by omega) (by omega)⟩

/-- the reader mirror agrees with the RFC 4180 scanner on everything the writer writes -/
theorem read_write_eq_spec (rows : List (List Bytes)) (h : ∀ r ∈ rows, r ≠ []) (hcr : ∀ r ∈ rows, LastFieldNoCR r)
    (sched : List Nat) :
    ∃ fuel n, Full.readAll 44 fuel n (Full.initFS (csvWrite rows) sched) []
      = some (rfcParse 44 (csvWrite rows), some .eof) := by
  rw [parse_write rows h]
  exact read_write rows h hcr sched

/-! ### The hypotheses are satisfiable, and needed -/

/-- `ab`, `c,"d⏎`, empty │ `""`-less empty single field │ leading space, `\.`, NBSP + `x`, CR inside │ `é` -/
def demo : List (List Bytes) :=
  [ [[97, 98], [99, 44, 34, 100, 10], []],
    [[]],
    [[32, 120], [92, 46], [0xC2, 0xA0, 120], [97, 13, 98]],
    [[0xC3, 0xA9]] ]

/-- What is written: `ab,"c,""d⏎",⏎` `⏎` `" x","\.","␣x","a␍b"⏎` `é⏎`. -/
example : csvWrite demo =
    [97, 98, 44, 34, 99, 44, 34, 34, 100, 10, 34, 44, 10,
     10,
     34, 32, 120, 34, 44, 34, 92, 46, 34, 44, 34, 0xC2, 0xA0, 120, 34, 44, 34, 97, 13, 98, 34, 10,
     0xC3, 0xA9, 10] := by decide +kernel

example : rfcParse 44 (csvWrite demo) = demo := parse_write demo (by decide)

example : ∃ fuel n, Full.readAll 44 fuel n (Full.initFS (csvWrite demo) [1, 2, 3, 1, 1, 5]) [] = some (demo, some .eof) :=
  read_write demo (by decide) (by decide) _

/-- Needed (non-empty records): the record without fields is written as an empty line, which denotes the
record of one empty field. -/
example : rfcParse 44 (csvWrite [[]]) = [[[]]] := by decide

/-- NOT needed: a one-column frame with an empty string cell. The record `[""]` is written as an empty line
(Go's writer has no special case for it) and the empty line denotes `[""]` — for `rfcParse` and for the
reader mirror. (It is `ReadCSV`'s option `ignoreEmpty` — `isEmptyLine` in `readCsvS` — that drops it.) -/
example : csvWrite [[[97]], [[]], [[98]]] = [97, 10, 10, 98, 10] := by decide
example : rfcParse 44 (csvWrite [[[97]], [[]], [[98]]]) = [[[97]], [[]], [[98]]] := parse_write _ (by decide)
example : isEmptyLine [[]] = true := by decide

/-- Needed (`LastFieldNoCR`): the record `["a\r"]` is written as `"a␍"⏎`; `rfcParse` gives it back, but
qframe's reader trims the CR of the last field of the row and returns `["a"]` — whatever the read schedule. -/
theorem read_write_cr_counterexample (sched : List Nat) :
    Full.readAll 44 20 8 (Full.initFS (csvWrite [[[97, 13]]]) sched) [] = some ([[[97]]], some .eof) := by
  rw [Full.readAll_initFS]
  decide

example : csvWrite [[[97, 13]]] = [34, 97, 13, 34, 10] := by decide
example : rfcParse 44 (csvWrite [[[97, 13]]]) = [[[97, 13]]] := parse_write _ (by decide)
example : ¬ LastFieldNoCR [[97, 13]] := by decide

/-- a CR at the end of a field that is not the last of its record is kept -/
example : ∃ fuel n, Full.readAll 44 fuel n (Full.initFS (csvWrite [[[97, 13], [98]]]) [2, 2, 2]) []
    = some ([[[97, 13], [98]]], some .eof) :=
  read_write _ (by decide) (by decide) _

/-! ## §4 the records `ToCSV` writes for a logical frame -/

/-- `Column.StringAt(i, "")` of /repo/internal/{i,f,b,s,e}column: ints in decimal (`strconv.FormatInt`),
floats by `strconv.FormatFloat(v, 'f', -1, 64)` — the parameter `fmt`, on the bits of the float — with NaN as
the empty string, bools `true` / `false`, strings and enum values as they are, null as the empty string. -/
def cellString (fmt : UInt64 → Bytes) : Cell → Bytes
  | .int v => intStr v
  | .float b => if F64.isNaN b then [] else fmt b
  | .bool b => if b then [116, 114, 117, 101] else [102, 97, 108, 115, 101]
  | .str none => []
  | .str (some s) => s

/-- The records `QFrame.ToCSV` hands to `csv.Writer.Write`: the column names if `hdr` (`csv.Header`), then
one record per row with the cells' strings in column order. -/
def tocsvRows (fmt : UInt64 → Bytes) (hdr : Bool) (f : LFrame) : List (List Bytes) :=
  (if hdr then [f.names] else []) ++ f.rows.map (·.map (cellString fmt))

/-- the bytes `QFrame.ToCSV` writes -/
def tocsv (fmt : UInt64 → Bytes) (hdr : Bool) (f : LFrame) : Bytes := csvWrite (tocsvRows fmt hdr f)

theorem tocsvRows_eq (fmt : UInt64 → Bytes) (hdr : Bool) (f : LFrame) :
    tocsvRows fmt hdr f = (if hdr then [f.cols.map (·.name)] else []) ++
      (List.range f.n).map fun i => f.cols.map fun c => cellString fmt c.cells[i]! := by
  simp [tocsvRows, LFrame.names, LFrame.rows, LFrame.row, Function.comp_def]

/-- a record of `tocsvRows` has one field per column: the names, or the cell texts of a row -/
theorem mem_tocsvRows {fmt : UInt64 → Bytes} {hdr : Bool} {f : LFrame} {r : List Bytes} (h : r ∈ tocsvRows fmt hdr f) :
    (hdr = true ∧ r = f.cols.map (·.name)) ∨ ∃ i, i < f.n ∧ r = f.cols.map fun c => cellString fmt c.cells[i]! := by
  rw [tocsvRows_eq, List.mem_append] at h
  rcases h with h | h
  · cases hdr
    · cases h
    · exact .inl ⟨rfl, List.mem_singleton.1 h⟩
  · obtain ⟨i, hi, rfl⟩ := List.mem_map.1 h
    exact .inr ⟨i, List.mem_range.1 hi, rfl⟩

theorem tocsvRows_nonempty (fmt : UInt64 → Bytes) (hdr : Bool) (f : LFrame) (hc : f.cols ≠ []) :
    ∀ r ∈ tocsvRows fmt hdr f, r ≠ [] := by
  intro r hr
  rcases mem_tocsvRows hr with ⟨_, rfl⟩ | ⟨i, _, rfl⟩ <;> simpa using hc

/-- **ToCSV, RFC 4180 reading.** For a frame with at least one column, the RFC 4180 scanner returns from
the bytes `ToCSV` writes exactly the records handed to the writer. -/
theorem tocsv_rows (fmt : UInt64 → Bytes) (hdr : Bool) (f : LFrame) (hc : f.cols ≠ []) :
    rfcParse 44 (tocsv fmt hdr f) = tocsvRows fmt hdr f :=
  parse_write _ (tocsvRows_nonempty fmt hdr f hc)

/-- **ToCSV, qframe's reader**: for a frame with at least one column, if no record handed to the writer ends
with a field that ends with CR, the reader mirror returns these records, for every read schedule. -/
theorem tocsv_read (fmt : UInt64 → Bytes) (hdr : Bool) (f : LFrame) (hc : f.cols ≠ [])
    (hcr : ∀ r ∈ tocsvRows fmt hdr f, LastFieldNoCR r) (sched : List Nat) :
    ∃ fuel n, Full.readAll 44 fuel n (Full.initFS (tocsv fmt hdr f) sched) []
      = some (tocsvRows fmt hdr f, some .eof) :=
  read_write _ (tocsvRows_nonempty fmt hdr f hc) hcr sched

/-- The hypothesis of `tocsv_read` in terms of the frame: it only concerns the LAST column — its name (when
the header is written) and its cells' strings must not end with CR. -/
theorem tocsvRows_lastNoCR (fmt : UInt64 → Bytes) (hdr : Bool) (f : LFrame)
    (hname : hdr = true → ∀ c, f.cols.getLast? = some c → c.name.getLast? ≠ some 13)
    (hcells : ∀ c, f.cols.getLast? = some c → ∀ i, i < f.n → (cellString fmt (c.cells[i]!)).getLast? ≠ some 13) :
    ∀ r ∈ tocsvRows fmt hdr f, LastFieldNoCR r := by
  intro r hr g hg
  rcases mem_tocsvRows hr with ⟨h, rfl⟩ | ⟨i, hi, rfl⟩ <;>
    obtain ⟨c, hl, rfl⟩ := Option.map_eq_some_iff.1 (List.getLast?_map ▸ hg)
  · exact hname h c hl
  · exact hcells c hl i hi

/-- **ToCSV → ReadCSV's reader, in terms of the frame.** -/
theorem tocsv_read' (fmt : UInt64 → Bytes) (hdr : Bool) (f : LFrame) (hc : f.cols ≠ [])
    (hname : hdr = true → ∀ c, f.cols.getLast? = some c → c.name.getLast? ≠ some 13)
    (hcells : ∀ c, f.cols.getLast? = some c → ∀ i, i < f.n → (cellString fmt (c.cells[i]!)).getLast? ≠ some 13)
    (sched : List Nat) :
    ∃ fuel n, Full.readAll 44 fuel n (Full.initFS (tocsv fmt hdr f) sched) []
      = some (tocsvRows fmt hdr f, some .eof) :=
  tocsv_read fmt hdr f hc (tocsvRows_lastNoCR fmt hdr f hname hcells) sched

theorem cellString_bool_noCR (fmt : UInt64 → Bytes) (b : Bool) : (cellString fmt (.bool b)).getLast? ≠ some 13 := by
  cases b <;> simp [cellString]

/-- null cells (null string / enum, NaN) are written as the empty string -/
theorem cellString_null (fmt : UInt64 → Bytes) (c : Cell) (h : c.isNull = true) : cellString fmt c = [] := by
  cases c with
  | int v => simp [Cell.isNull] at h
  | float b => simp only [Cell.isNull] at h; simp [cellString, h]
  | bool b => simp [Cell.isNull] at h
  | str s =>
    cases s with
    | none => rfl
    | some s => simp [Cell.isNull] at h

/-! ### int and bool cells are written bare and never end with CR

`intStr v = strBytes (toString v)` is `strconv.FormatInt(v, 10)`: an optional `-` and decimal digits. -/

def isDigitB (c : UInt8) : Prop := 48 ≤ c.toNat ∧ c.toNat ≤ 57

/-- `strconv.FormatInt(v, 10)`: an optional minus sign and decimal digits -/
theorem intStr_bytes (v : Int) : ∀ b ∈ intStr v, b = 45 ∨ isDigitB b := by
  intro b hb
  rw [intStr_eq] at hb
  split at hb
  · exact Or.inr ((strBytes_nat _).2 b hb)
  · rcases List.mem_cons.1 hb with rfl | hb
    · exact Or.inl rfl
    · exact Or.inr ((strBytes_nat _).2 b hb)

/-- a field made of `-` and decimal digits only is written bare -/
theorem needsQuotes_plain (f : Bytes) (h : ∀ b ∈ f, b = 45 ∨ isDigitB b) : needsQuotes f = false := by
  have hr : ∀ b ∈ f, 45 ≤ b.toNat ∧ b.toNat ≤ 57 := by
    intro b hb
    rcases h b hb with rfl | h
    · decide
    · unfold isDigitB at h; omega
  have key : ∀ b ∈ f, ∀ k : UInt8, (k.toNat < 45 ∨ 57 < k.toNat) → (b == k) = false := by
    intro b hb k hk
    have := hr b hb
    simp only [beq_eq_false_iff_ne, ne_eq]
    intro h; subst h; omega
  have hany : f.any (fun c => c == 10 || c == 13 || c == 34 || c == 44) = false := by
    rw [List.any_eq_false]
    intro c hc
    simp [key c hc 10 (by decide), key c hc 13 (by decide), key c hc 34 (by decide), key c hc 44 (by decide)]
  have h2 : f ≠ [92, 46] := by
    intro h; subst h
    have := hr 92 (by simp)
    revert this; decide
  unfold needsQuotes
  simp only [h2, ↓reduceIte, hany, Bool.false_eq_true]
  split
  · rfl
  · cases f with
    | nil => rfl
    | cons b0 t =>
      have k := key b0 (by simp)
      unfold firstRuneIsSpace
      simp only [k 9 (by decide), k 10 (by decide), k 11 (by decide), k 12 (by decide), k 13 (by decide),
        k 32 (by decide), k 0xC2 (by decide), k 0xE1 (by decide), k 0xE2 (by decide), k 0xE3 (by decide),
        Bool.or_self, Bool.false_eq_true, ↓reduceIte, Bool.false_and]
      cases t with
      | nil => rfl
      | cons b1 t' => cases t' <;> rfl

theorem getLast?_plain (f : Bytes) (h : ∀ b ∈ f, b = 45 ∨ isDigitB b) : f.getLast? ≠ some 13 := by
  intro hl
  rcases h 13 (List.mem_of_getLast? hl) with h | h
  · revert h; decide
  · exact absurd h.1 (by decide)

theorem needsQuotes_intStr (v : Int) : needsQuotes (intStr v) = false := needsQuotes_plain _ (intStr_bytes v)
theorem intStr_noCR (v : Int) : (intStr v).getLast? ≠ some 13 := getLast?_plain _ (intStr_bytes v)

theorem writeField_int (fmt : UInt64 → Bytes) (v : Int) : writeField (cellString fmt (.int v)) = intStr v := by
  rw [writeField_eq]
  show renderField (needsQuotes (intStr v)) (intStr v) = intStr v
  rw [needsQuotes_intStr]; rfl

theorem writeField_bool (fmt : UInt64 → Bytes) (b : Bool) :
    writeField (cellString fmt (.bool b)) = cellString fmt (.bool b) := by
  cases b
  · show writeField [102, 97, 108, 115, 101] = [102, 97, 108, 115, 101]; decide
  · show writeField [116, 114, 117, 101] = [116, 114, 117, 101]; decide

theorem cellString_int_noCR (fmt : UInt64 → Bytes) (v : Int) : (cellString fmt (.int v)).getLast? ≠ some 13 :=
  intStr_noCR v

/-- So the CR hypothesis of `tocsv_read'` is void when the last column is an int or bool column: it can
only fail for a string / enum cell (or a header name) ending with CR — the float formatter never writes CR
either, but it is a parameter here. -/
theorem cellString_noCR (fmt : UInt64 → Bytes) (c : Cell)
    (h : match c with
      | .int _ | .bool _ | .str none => True
      | .float b => F64.isNaN b = false → (fmt b).getLast? ≠ some 13
      | .str (some s) => s.getLast? ≠ some 13) :
    (cellString fmt c).getLast? ≠ some 13 := by
  cases c with
  | int v => exact cellString_int_noCR fmt v
  | bool b => exact cellString_bool_noCR fmt b
  | float b =>
    simp only [cellString]
    cases hn : F64.isNaN b with
    | true => simp
    | false => simpa using h hn
  | str s =>
    cases s with
    | none => simp [cellString]
    | some s => exact h

/-! ### A concrete frame -/

/-- a frame with a bool, a float (one NaN) and a string column (a null, a cell with comma, quote and line
break); the float formatter of the example writes `1.5` for every float -/
def demoFrame : LFrame :=
  { cols := [ { name := [98], ty := .bool, cells := #[.bool true, .bool false, .bool true] },
              { name := [120, 44, 121], ty := .float, cells := #[.float 0x3ff8000000000000, .float F64.canonNaN, .float 0] },
              { name := [115], ty := .string, cells := #[.str (some [97, 44, 34, 10, 98]), .str none, .str (some [32])] } ],
    n := 3 }

def demoFmt : UInt64 → Bytes := fun _ => [49, 46, 53]

example : tocsvRows demoFmt true demoFrame =
    [ [[98], [120, 44, 121], [115]],
      [[116, 114, 117, 101], [49, 46, 53], [97, 44, 34, 10, 98]],
      [[102, 97, 108, 115, 101], [], []],
      [[116, 114, 117, 101], [49, 46, 53], [32]] ] := by decide +kernel

/-- `b,"x,y",s⏎` `true,1.5,"a,""⏎b"⏎` `false,,⏎` `true,1.5," "⏎` -/
example : tocsv demoFmt true demoFrame =
    [98, 44, 34, 120, 44, 121, 34, 44, 115, 10,
     116, 114, 117, 101, 44, 49, 46, 53, 44, 34, 97, 44, 34, 34, 10, 98, 34, 10,
     102, 97, 108, 115, 101, 44, 44, 10,
     116, 114, 117, 101, 44, 49, 46, 53, 44, 34, 32, 34, 10] := by decide +kernel

example : rfcParse 44 (tocsv demoFmt true demoFrame) = tocsvRows demoFmt true demoFrame :=
  tocsv_rows demoFmt true demoFrame (by decide)

example : ∃ fuel n, Full.readAll 44 fuel n (Full.initFS (tocsv demoFmt true demoFrame) [3, 1, 4, 1, 5]) []
    = some (tocsvRows demoFmt true demoFrame, some .eof) :=
  tocsv_read demoFmt true demoFrame (by decide) (by decide) _

/-- a frame whose last column is an int column: no CR condition left on the cells -/
def demoFrame2 : LFrame :=
  { cols := [ { name := [115], ty := .string, cells := #[.str (some [97, 13]), .str (some [13])] },
              { name := [105], ty := .int, cells := #[.int (-12), .int 7] } ],
    n := 2 }

example (sched : List Nat) : ∃ fuel n, Full.readAll 44 fuel n (Full.initFS (tocsv demoFmt true demoFrame2) sched) []
    = some (tocsvRows demoFmt true demoFrame2, some .eof) := by
  apply tocsv_read' demoFmt true demoFrame2 (by decide) (by decide)
  intro c hc i hi
  simp only [demoFrame2, List.getLast?_cons_cons, List.getLast?_singleton, Option.some.injEq] at hc
  subst hc
  have hi : i < 2 := hi
  match i, hi with
  | 0, _ => exact cellString_int_noCR _ _
  | 1, _ => exact cellString_int_noCR _ _

#print axioms csvWrite_eq_render
#print axioms needsQuotes_admissible
#print axioms needsQuotes_iff
#print axioms parse_write
#print axioms read_write_fuel
#print axioms read_write
#print axioms read_write_eq_spec
#print axioms read_write_cr_counterexample
#print axioms tocsv_rows
#print axioms tocsv_read
#print axioms tocsv_read'
#print axioms needsQuotes_intStr
#print axioms intStr_noCR
#print axioms writeField_int
#print axioms cellString_noCR

end QF.Props.C13Write
