import QF.Props.C16RyuFns
import QF.Props.C16Core
/-!
# C16 — the meaning of the canonical Ryu terms (2): `float64ToDecimalExactInt` and steps 1–3 of `float64ToDecimal`

* `call_exactInt`   — function 0 returns `Ryu64.float64ToDecimalExactInt mant exp` (for `mant < 2^52`)
* `Pre`, `s3Store`  — the store of steps 1–3 as a function of the values of steps 1 and 2 and of the mirror's `Ryu64.Step3`
* `exec_step12`     — steps 1 and 2 of `float64ToDecimal` leave `decodeE2`, `decodeM2`, `acceptBoundsOf`, `mvOf`, `mmShiftOf` in the store
* `EnvOk`, `envOk`  — what the body of `float64ToDecimal` needs from its callees, and that the interpretation provides it
* `Step3Ok`        — step 3 stays inside `int32`, the assertions and the tables for an exponent field: a hypothesis here, proved in
  C16RyuGen (`step3Ok`)
* `exec_posPart_core`, `exec_negPart_core`, `exec_step3` — step 3 (either branch, with the trailing-zero flags) leaves the
  fields of `Ryu64.step3Pos` / `step3Neg` / `step3`

Of the mathematics only facts about the mirror alone are used: `or_two_pow_52`, `decodeM2_range`, `decodeE2_pos`, `decodeE2_neg`,
`mmShiftOf_le` of C16Core.lean and the table sizes `C16.tables_sizes`; the two halves meet in C16RyuGen.
-/
namespace QF.Props.C16RyuGen
open QF QF.RY

/-! ## `float64ToDecimalExactInt` -/

theorem exact_loop (Γ : Env) (a b ok e sh : Val) : ∀ (fuel : Nat) (d : Ryu64.Dec64) (F : Nat), d.m ≠ 0 → d.m < 10 ^ fuel →
    -2147483648 ≤ d.e → d.e + fuel < 2147483648 → fuel < F →
    forLoop (condOf Γ exactLoopCond) (execOf Γ exactLoopBody) (execOf Γ (S.block [])) F
        [a, b, .pair (.u 64 d.m) (.i 32 d.e), ok, e, sh] =
      .next [a, b, .pair (.u 64 (Ryu64.exactIntLoop fuel d).m) (.i 32 (Ryu64.exactIntLoop fuel d).e), ok, e, sh] := by
  intro fuel d F h0 h he1 he2 hF
  refine forLoop_sim _ _ _ (fun d : Ryu64.Dec64 => [a, b, .pair (.u 64 d.m) (.i 32 d.e), ok, e, sh])
    (fun d => ¬ (d.m % 10 == 0) = true)
    (fun d => { m := d.m / 10, e := d.e + 1 })
    (fun n d => d.m ≠ 0 ∧ d.m < 10 ^ n ∧ -2147483648 ≤ d.e ∧ d.e + n < 2147483648)
    Ryu64.exactIntLoop (fun _ => rfl) (fun _ _ => by rw [Ryu64.exactIntLoop, ite_not]) ?_ ?_ ?_ ?_ fuel d F ⟨h0, h, he1, he2⟩ hF
  · intro s F hs
    exact forLoop_exit _ _ _ _ _ _ (cond_false (Bool.eq_false_iff.mpr hs) rfl)
  · intro n s F hk hs
    have hb : exactLoopBody.exec Γ [a, b, .pair (.u 64 s.m) (.i 32 s.e), ok, e, sh] =
        .next [a, b, .pair (.u 64 (s.m / 10)) (.i 32 (s.e + 1)), ok, e, sh] := by
      rw [← wrapS32 (s.e + 1) (by omega) (by omega)]
      apply scope_next
      xstep
      xstep
      rfl
      rfl
    exact forLoop_next _ _ _ _ _ _ (cond_true (Decidable.not_not.mp hs) rfl) hb rfl
  · intro n s hk hs
    have hz : s.m % 10 = 0 := eq_of_beq (Decidable.not_not.mp hs)
    have := hk.2.1
    rw [Nat.pow_succ] at this
    exact ⟨by dsimp only; omega, by dsimp only; omega, by dsimp only; omega, by dsimp only; omega⟩
  · intro s hk
    have := hk.2.1
    omega

theorem exactInt_cases (mant exp : Nat) (hm : mant < 2 ^ 52) :
    Ryu64.float64ToDecimalExactInt mant exp =
      (if Ryu64.subU64 exp 1023 > 52 then (({} : Ryu64.Dec64), false) else
       if Ryu64.shl64 (Ryu64.shr64 (4503599627370496 + mant) (52 - Ryu64.subU64 exp 1023)) (52 - Ryu64.subU64 exp 1023)
            != 4503599627370496 + mant then
         ({ m := Ryu64.shr64 (4503599627370496 + mant) (52 - Ryu64.subU64 exp 1023), e := 0 }, false)
       else (Ryu64.exactIntLoop 20 { m := Ryu64.shr64 (4503599627370496 + mant) (52 - Ryu64.subU64 exp 1023), e := 0 }, true)) := by
  have hor := C16Core.or_two_pow_52 mant hm
  have hM : (2 : Nat) ^ 52 + mant = 4503599627370496 + mant := rfl
  rw [hM] at hor
  unfold Ryu64.float64ToDecimalExactInt
  dsimp only
  simp only [hor]
  rfl
theorem call_exactInt (F : Nat) (fr : Nat → List UInt8) (n : Nat) (hF : 20 < F) (mant exp : Nat) (hm : mant < 2 ^ 52) :
    callAt canonFns T F fr (n+1) fExactInt [.u 64 mant, .u 64 exp] =
      some (.pair (.pair (.u 64 (Ryu64.float64ToDecimalExactInt mant exp).1.m) (.i 32 (Ryu64.float64ToDecimalExactInt mant exp).1.e))
        (.bool (Ryu64.float64ToDecimalExactInt mant exp).2)) := by
  simp only [exactInt_cases mant exp hm]
  have hor := C16Core.or_two_pow_52 mant hm
  have h1 : Ryu64.shl64 1 Ryu64.mantBits64 = 4503599627370496 := by decide
  have hM : (2 : Nat) ^ 52 + mant = 4503599627370496 + mant := rfl
  simp only [h1, hM] at hor
  have hE : Ryu64.subU64 exp 1023 < 2 ^ 64 := Nat.mod_lt _ (by decide)
  generalize he'' : Ryu64.subU64 exp 1023 = e at hE
  have hmt : 4503599627370496 + mant < 2 ^ 53 := by omega
  have hmt0 : 4503599627370496 ≤ 4503599627370496 + mant := by omega
  generalize 4503599627370496 + mant = mt at hor hmt hmt0
  refine call_of look_exactInt rfl ?_
  simp only [fnExactInt]
  xstep
  xstep
  xstep (define_of rfl (bin_of rfl rfl ((sub64_of exp 1023 (by decide)).trans (congrArg (fun z => some (Val.u 64 z)) he''))))
  by_cases hgt : e > 52
  · rw [if_pos hgt]
    exact block_ret ((if_enter (decide_eq_true hgt) rfl).trans (scope_ret (block_ret rfl)))
  · have hsh : Ryu64.subU64 52 e = 52 - e := by unfold Ryu64.subU64; omega
    have hlt : 52 - e < 64 := by omega
    rw [if_neg hgt]
    refine block_step (if_skip (decide_eq_false hgt) rfl) ?_
    xstep (define_of rfl (bin_of rfl rfl ((sub64_of 52 e hE).trans (congrArg (fun z => some (Val.u 64 z)) hsh))))
    xstep (assign_of rfl (bin_of rfl rfl (congrArg (fun z => some (Val.u 64 z)) hor)))
    xstep
    by_cases hne : Ryu64.shl64 (Ryu64.shr64 mt (52 - e)) (52 - e) != mt
    · rw [if_pos hne]
      exact block_ret ((if_enter hne rfl).trans (scope_ret (block_ret rfl)))
    · have hs : Ryu64.shr64 mt (52 - e) = mt >>> (52 - e) := if_pos hlt
      have hd0 : Ryu64.shr64 mt (52 - e) ≠ 0 := by
        intro h0
        rw [h0] at hne
        simp [Ryu64.shl64] at hne
        omega
      have hd1 : Ryu64.shr64 mt (52 - e) < 10 ^ 20 := by
        rw [hs, Nat.shiftRight_eq_div_pow]
        exact Nat.lt_of_le_of_lt (Nat.div_le_self _ _) (by omega)
      have hl := exact_loop (env F fr n) (.u 64 mt) (.u 64 exp) (.bool false) (.u 64 e) (.u 64 (52 - e)) 20
        { m := Ryu64.shr64 mt (52 - e), e := 0 } F hd0 hd1 (by simp) (by simp) hF
      rw [if_neg hne]
      refine block_step (if_skip (Bool.eq_false_iff.mpr hne) rfl) ?_
      xstep (for_next rfl hl rfl)
      exact block_ret rfl


/-! ## `float64ToDecimal`: steps 1 and 2 -/

/-- variables 0 … 7 of `float64ToDecimal` after steps 1 and 2, read only from then on: 0 `mant`, 1 `exp` (not read again: any
values), 2 `e2`, 3 `m2`, 4 `even` and 5 `acceptBounds` (the same Boolean), 6 `mv = 4 * m2`, 7 `mmShift` -/
structure Pre where
  (mant exp : Val) (e2 : Int) (m2 : Nat) (ab : Bool) (mmS : Nat)
def Pre.vals (p : Pre) : Store :=
  [p.mant, p.exp, .i 32 p.e2, .u 64 p.m2, .bool p.ab, .bool p.ab, .u 64 (Ryu64.mvOf p.m2), .u 64 p.mmS]
/-- the store of step 3: variables 8 … 13 are the fields of `Ryu64.Step3` -/
def s3Store (p : Pre) (s : Ryu64.Step3) : Store :=
  p.vals ++ [.u 64 s.vr, .u 64 s.vp, .u 64 s.vm, .i 32 s.e10, .bool s.vmIsTrailingZeros, .bool s.vrIsTrailingZeros]

theorem exec_step12_tail (Γ : Env) (hb64 : ∀ b, Γ.call fBoolToUint64 [.bool b] = some (.u 64 (Ryu64.boolToNat b)))
    (mant exp m2 : Nat) (e2 : Int) :
    (S.block (step12.drop 3)).exec Γ [.u 64 mant, .u 64 exp, .i 32 e2, .u 64 m2] =
      .next (s3Store ⟨.u 64 mant, .u 64 exp, e2, m2, m2 &&& 1 == 0, Ryu64.mmShiftOf mant exp⟩ ⟨0, 0, 0, 0, false, false⟩) := by
  simp only [step12, List.drop_succ_cons, List.drop_zero]
  xstep
  xstep
  xstep
  xstep (define_of rfl (call1_of (or_of rfl rfl) (hb64 _)))
  xstep
  xstep
  xstep
  xstep
  xstep
  xstep
  rfl

theorem exec_step12 (Γ : Env) (hb64 : ∀ b, Γ.call fBoolToUint64 [.bool b] = some (.u 64 (Ryu64.boolToNat b)))
    (mant exp : Nat) (he : exp < 2047) :
    (S.block step12).exec Γ [.u 64 mant, .u 64 exp] =
      .next (s3Store ⟨.u 64 mant, .u 64 exp, Ryu64.decodeE2 exp, Ryu64.decodeM2 mant exp, Ryu64.acceptBoundsOf mant exp,
        Ryu64.mmShiftOf mant exp⟩ ⟨0, 0, 0, 0, false, false⟩) := by
  simp only [step12]
  unfold Ryu64.acceptBoundsOf
  xstep
  xstep
  by_cases h0 : (exp == 0) = true
  · have hE : Ryu64.decodeE2 exp = -1076 := if_pos h0
    have hM : Ryu64.decodeM2 mant exp = mant := if_pos h0
    rw [hE, hM]
    xstep ((if_enter h0 rfl).trans (scope_same (block_step rfl rfl) rfl))
    exact exec_step12_tail Γ hb64 mant exp mant _
  · have hE : Ryu64.decodeE2 exp = wrapS 32 (wrapS 32 (wrapS 32 (wrapS 32 (exp : Int) - 1023) - 52) - 2) := by
      rw [wrapS32 (exp : Int) (by omega) (by omega), wrapS32 ((exp : Int) - 1023) (by omega) (by omega),
        wrapS32 ((exp : Int) - 1023 - 52) (by omega) (by omega), wrapS32 ((exp : Int) - 1023 - 52 - 2) (by omega) (by omega)]
      exact if_neg h0
    have hM : Ryu64.decodeM2 mant exp = Ryu64.shl64 1 Ryu64.mantBits64 ||| mant := if_neg h0
    rw [hE, hM]
    xstep ((if_else (Bool.eq_false_iff.mpr h0) rfl).trans (scope_same (block_step rfl rfl) rfl))
    exact exec_step12_tail Γ hb64 mant exp (Ryu64.shl64 1 Ryu64.mantBits64 ||| mant) _

/-! ## `float64ToDecimal`: step 3 -/

/-- the `q` of the branch `e2 >= 0` and the shift it passes to `mulShift64` -/
def posQ (e2 : Int) : Nat := Ryu64.subU32 (Ryu64.log10Pow2 e2) (Ryu64.boolToNat (e2 > 3))
def posShift (e2 : Int) : Int := -e2 + (posQ e2 : Int) + ((122 : Int) + Ryu64.pow5Bits (posQ e2 : Int) - 1)

/-- the `q` of the branch `e2 < 0` (for `n = -e2`), the table index and the shift -/
def negQ (n : Int) : Nat := Ryu64.subU32 (Ryu64.log10Pow5 n) (Ryu64.boolToNat (n > 1))
def negShift (n : Int) : Int := (negQ n : Int) - (Ryu64.pow5Bits (n - (negQ n : Int)) - 121)
/-- 326: the size of `pow5Split64` -/
theorem pow5Bits_bounds (z : Nat) (h : z < 326) : 0 ≤ Ryu64.pow5Bits (z : Int) ∧ Ryu64.pow5Bits (z : Int) ≤ 1000 := by
  unfold Ryu64.pow5Bits Ryu64.u32 Ryu64.toU32
  have h1 : ((z : Int) % 2 ^ 32).toNat = z := by omega
  have h2 : z * 1217359 % 2 ^ 32 = z * 1217359 := Nat.mod_eq_of_lt (by omega)
  rw [h1, h2, Nat.shiftRight_eq_div_pow]
  omega

/-- Step 3 stays inside `int32`, the assertions of the helpers and the tables for this exponent field: the table index and
the shift passed to `mulShift64`, on either branch (`n` is `-e2`; it comes with its equation so that the caller can
`generalize` the `if`), and the decimal exponent it returns (to which step 4 adds the number of digits removed). A hypothesis
of everything below; C16RyuGen proves it for every exponent field from the mathematics (`step3Ok`). -/
structure Step3Ok (exp : Nat) : Prop where
  pos : 1077 ≤ exp → posQ ((exp - 1077 : Nat) : Int) < 292 ∧
    64 ≤ posShift ((exp - 1077 : Nat) : Int) ∧ posShift ((exp - 1077 : Nat) : Int) < 128
  neg : ∀ n : Nat, exp < 1077 → n = (if exp = 0 then 1076 else 1077 - exp) →
    negQ n < n ∧ n - negQ n < 326 ∧ 64 ≤ negShift n ∧ negShift n < 128
  e10 : ∀ mant, -2000 ≤ (Ryu64.step3 mant exp).e10 ∧ (Ryu64.step3 mant exp).e10 ≤ 2000

theorem T_inv (q : Nat) (h : q < 292) :
    T Tbl.pow5InvSplit q = some (.pair (.u 64 (Gen.pow5InvSplit64.getD q (0, 0)).1) (.u 64 (Gen.pow5InvSplit64.getD q (0, 0)).2)) := by
  have hs : q < Gen.pow5InvSplit64.size := by rw [QF.Props.C16.tables_sizes.2]; exact h
  simp [T, tables, hs]

theorem T_split (i : Nat) (h : i < 326) :
    T Tbl.pow5Split i = some (.pair (.u 64 (Gen.pow5Split64.getD i (0, 0)).1) (.u 64 (Gen.pow5Split64.getD i (0, 0)).2)) := by
  have hs : i < Gen.pow5Split64.size := by rw [QF.Props.C16.tables_sizes.1]; exact h
  simp [T, tables, hs]

/-- what the body of `float64ToDecimal` needs from its environment: the helpers return what the mirror computes -/
structure EnvOk (Γ : Env) : Prop where
  b64 : ∀ b, Γ.call fBoolToUint64 [.bool b] = some (.u 64 (Ryu64.boolToNat b))
  b32 : ∀ b, Γ.call fBoolToUint32 [.bool b] = some (.u 32 (Ryu64.boolToNat b))
  l2 : ∀ e : Int, 0 ≤ e → e ≤ 1650 → Γ.call fLog10Pow2 [.i 32 e] = some (.u 32 (Ryu64.log10Pow2 e))
  l5 : ∀ e : Int, 0 ≤ e → e ≤ 2620 → Γ.call fLog10Pow5 [.i 32 e] = some (.u 32 (Ryu64.log10Pow5 e))
  p5 : ∀ e : Int, 0 ≤ e → e ≤ 3528 → Γ.call fPow5Bits [.i 32 e] = some (.i 32 (Ryu64.pow5Bits e))
  ms : ∀ (m lo hi : Nat) (s : Int), 64 ≤ s → s < 128 →
    Γ.call fMulShift [.u 64 m, .pair (.u 64 lo) (.u 64 hi), .i 32 s] = some (.u 64 (Ryu64.mulShift64 m (lo, hi) s))
  m5 : ∀ v p : Nat, v ≠ 0 → v < 2 ^ 64 → Γ.call fMultipleOf5 [.u 64 v, .u 32 p] = some (.bool (Ryu64.multipleOfPowerOfFive64 v p))
  m2 : ∀ v p : Nat, Γ.call fMultipleOf2 [.u 64 v, .u 32 p] = some (.bool (Ryu64.multipleOfPowerOfTwo64 v p))
  tInv : ∀ q, q < 292 → Γ.tbl Tbl.pow5InvSplit q =
    some (.pair (.u 64 (Gen.pow5InvSplit64.getD q (0, 0)).1) (.u 64 (Gen.pow5InvSplit64.getD q (0, 0)).2))
  tSplit : ∀ i, i < 326 → Γ.tbl Tbl.pow5Split i =
    some (.pair (.u 64 (Gen.pow5Split64.getD i (0, 0)).1) (.u 64 (Gen.pow5Split64.getD i (0, 0)).2))

theorem envOk (F : Nat) (fr : Nat → List UInt8) (n : Nat) (hF : 28 ≤ F) : EnvOk (env F fr (n+2)) := by
  refine ⟨?_, ?_, ?_, ?_, ?_, ?_, ?_, ?_, fun q h => by rw [env_tbl]; exact T_inv q h,
    fun i h => by rw [env_tbl]; exact T_split i h⟩
  all_goals rw [env_call]
  · exact call_boolToUint64 F fr (n+1)
  · exact call_boolToUint32 F fr (n+1)
  · exact call_log10Pow2 F fr (n+1)
  · exact call_log10Pow5 F fr (n+1)
  · exact call_pow5Bits F fr (n+1)
  · exact call_mulShift64 F fr n
  · exact call_multipleOf5 F fr n hF
  · exact call_multipleOf2 F fr (n+1)

theorem xite_true (Γ : Env) (σ : Store) (c : E) (t e : S) (h : c.eval Γ σ = some (.bool true)) :
    (S.ite c t e).exec Γ σ = t.exec Γ σ := if_enter rfl h
theorem xite_false (Γ : Env) (σ : Store) (c : E) (t e : S) (h : c.eval Γ σ = some (.bool false)) :
    (S.ite c t e).exec Γ σ = e.exec Γ σ := if_else rfl h

theorem mvOf_eq (m2 : Nat) : 4 * m2 % 18446744073709551616 = Ryu64.mvOf m2 := rfl

/-- the three numbers `pow5Factor64` is called with are not zero -/
theorem mv_facts (m2 mmS : Nat) (hm0 : m2 ≠ 0) (hm1 : m2 < 2 ^ 53) (hs : mmS ≤ 1) :
    Ryu64.mvOf m2 ≠ 0 ∧ Ryu64.mvOf m2 < 2 ^ 64 ∧
    Ryu64.subU64 (Ryu64.subU64 (Ryu64.mvOf m2) 1) mmS ≠ 0 ∧ Ryu64.subU64 (Ryu64.subU64 (Ryu64.mvOf m2) 1) mmS < 2 ^ 64 ∧
    Ryu64.u64 (Ryu64.mvOf m2 + 2) ≠ 0 ∧ Ryu64.u64 (Ryu64.mvOf m2 + 2) < 2 ^ 64 := by
  have h : Ryu64.mvOf m2 = 4 * m2 := by unfold Ryu64.mvOf Ryu64.u64; omega
  rw [h]
  unfold Ryu64.subU64 Ryu64.u64
  omega

theorem u64_add2 (x : Nat) : (x + 2) % 18446744073709551616 = Ryu64.u64 (x + 2) := rfl
/-- `q - boolToUint32(c)` -/
theorem sub32_bool (a : Nat) (c : Bool) :
    (Val.u 32 a).arith .sub (.u 32 (Ryu64.boolToNat c)) = some (.u 32 (Ryu64.subU32 a (Ryu64.boolToNat c))) :=
  sub32_of a _ (by cases c <;> decide)

theorem exec_posPart_core (Γ : Env) (ok : EnvOk Γ) (a b : Val) (e m2 mmS : Nat) (ab : Bool) (h1 : e ≤ 969)
    (k : posQ e < 292 ∧ 64 ≤ posShift e ∧ posShift e < 128) (hm0 : m2 ≠ 0) (hm1 : m2 < 2 ^ 53) (hs : mmS ≤ 1) :
    posPart.exec Γ (s3Store ⟨a, b, e, m2, ab, mmS⟩ ⟨0, 0, 0, 0, false, false⟩) =
      .next (s3Store ⟨a, b, e, m2, ab, mmS⟩ (Ryu64.step3Pos e m2 mmS ab)) := by
  obtain ⟨k1, k2, k3⟩ := k
  unfold posShift at k2 k3
  unfold Ryu64.step3Pos
  change posPart.exec Γ _ = .next (s3Store _ (Ryu64.step3PosQ (posQ e) e m2 mmS ab))
  generalize hq : posQ e = q at k1 k2 k3 ⊢
  obtain ⟨k5, k4⟩ := pow5Bits_bounds q (by omega)
  have c3 := ok.p5 q (by omega) (by omega)
  have hT := ok.tInv q k1
  generalize hr : Ryu64.step3PosQ q e m2 mmS ab = r
  unfold Ryu64.step3PosQ at hr
  dsimp only at hr
  rw [Ryu64.pow5InvNumBits64, Int.cast_ofNat_Int] at hr
  generalize Ryu64.pow5Bits (q : Int) = P at k2 k3 k4 k5 c3 hr
  generalize Gen.pow5InvSplit64.getD q (0, 0) = mul at hT hr
  obtain ⟨lo, hi⟩ := mul
  have cm := ok.ms (Ryu64.mmOf m2 mmS) lo hi _ k2 k3
  have f := mv_facts m2 mmS hm0 hm1 hs
  simp only [posPart, posFlags, s3Store, Pre.vals]
  xlit
  -- the store at the end is fixed before the steps: left to `apply scope_next` it is a metavariable shared by the cases below
  refine scope_next (σ'' := ?r) (σ' := ?r ++ [.u 32 q, .i 32 (122 + P - 1), .i 32 (-(e : Int) + (q : Int) + (122 + P - 1)),
    .pair (.u 64 lo) (.u 64 hi)]) ?_ ?take
  case take => rfl
  xstep (define_of rfl (bin_of (call1_of rfl (ok.l2 e (by omega) (by omega))) (call1_of rfl (ok.b32 _))
    ((sub32_bool _ _).trans (congrArg (fun z => some (Val.u 32 z)) hq))))
  xstep (assign_of rfl (wrap32_of rfl (by omega) (by omega)))
  xstep (define_of rfl (wrap32_of (bin_of (wrap32_of (bin_of rfl
    (call1_of (wrap32_of rfl (by omega) (by omega)) c3) rfl) (by omega) (by omega)) rfl rfl) (by omega) (by omega)))
  xstep (define_of rfl (wrap32_of (bin_of (wrap32_of (bin_of (wrap32_of rfl (by omega) (by omega))
    (wrap32_of rfl (by omega) (by omega)) rfl) (by omega) (by omega)) rfl rfl) (by omega) (by omega)))
  xstep (define_of rfl (tbl_of rfl hT))
  xstep (assign_of rfl (call3_of rfl rfl rfl (ok.ms (Ryu64.mvOf m2) lo hi _ k2 k3)))
  xstep (assign_of rfl (call3_of rfl rfl rfl (ok.ms (Ryu64.mpOf m2) lo hi _ k2 k3)))
  xstep (assign_of rfl (call3_of (bin_of (bin_of rfl rfl (sub64_of _ 1 (by decide))) rfl
    (sub64_of _ mmS (by omega))) rfl rfl cm))
  refine block_step ?_ rfl
  by_cases hq21 : q ≤ 21
  · rw [if_pos hq21] at hr
    -- the lengths by `Nat.eq_of_beq_eq_true rfl`: for a plain `rfl` the unifier first compares the two stores element by element
    refine (if_enter (decide_eq_true hq21) rfl).trans (scope_same (block_step ?_ rfl) (Nat.eq_of_beq_eq_true rfl))
    by_cases h5 : (Ryu64.mvOf m2 % 5 == 0) = true
    · rw [if_pos h5] at hr
      subst hr
      exact (if_enter h5 rfl).trans (scope_assign rfl (call2_of rfl rfl (ok.m5 _ q f.1 f.2.1)))
    · rw [if_neg h5] at hr
      refine (if_else (Bool.eq_false_iff.mpr h5) rfl).trans (scope_same (block_step ?_ rfl) (Nat.eq_of_beq_eq_true rfl))
      cases ab
      · rw [if_neg Bool.false_ne_true] at hr
        refine (if_else rfl rfl).trans (scope_same (block_step ?_ rfl) (Nat.eq_of_beq_eq_true rfl))
        have c5 := ok.m5 _ q f.2.2.2.2.1 f.2.2.2.2.2
        by_cases h3 : Ryu64.multipleOfPowerOfFive64 (Ryu64.u64 (Ryu64.mvOf m2 + 2)) q = true
        · rw [if_pos h3] at hr
          subst hr
          exact (if_enter h3 (call2_of rfl rfl c5)).trans (scope_assign rfl (bin_of rfl rfl (sub64_of _ 1 (by decide))))
        · rw [if_neg h3] at hr
          subst hr
          exact if_skip (Bool.eq_false_iff.mpr h3) (call2_of rfl rfl c5)
      · rw [if_pos rfl] at hr
        subst hr
        exact (if_enter rfl rfl).trans (scope_assign rfl (call2_of (bin_of (bin_of rfl rfl (sub64_of _ 1 (by decide))) rfl
          (sub64_of _ mmS (by omega))) rfl (ok.m5 _ q f.2.2.1 f.2.2.2.1)))
  · rw [if_neg hq21] at hr
    subst hr
    exact if_skip (decide_eq_false hq21) rfl

theorem exec_negPart_core (Γ : Env) (ok : EnvOk Γ) (a b : Val) (n m2 mmS : Nat) (ab : Bool) (h1 : n ≤ 1076)
    (k : negQ n < n ∧ n - negQ n < 326 ∧ 64 ≤ negShift n ∧ negShift n < 128) (hs : mmS ≤ 1) :
    negPart.exec Γ (s3Store ⟨a, b, -(n : Int), m2, ab, mmS⟩ ⟨0, 0, 0, 0, false, false⟩) =
      .next (s3Store ⟨a, b, -(n : Int), m2, ab, mmS⟩ (Ryu64.step3Neg (-(n : Int)) m2 mmS ab)) := by
  obtain ⟨k0, k1, k2, k3⟩ := k
  unfold negShift at k2 k3
  unfold Ryu64.step3Neg
  rw [Int.neg_neg]
  change negPart.exec Γ _ = .next (s3Store _ (Ryu64.step3NegQ (negQ n) (-(n : Int)) m2 mmS ab))
  generalize hq : negQ n = q at k0 k1 k2 k3 ⊢
  obtain ⟨ix, hix⟩ : ∃ ix : Nat, (n : Int) - (q : Int) = ix := ⟨n - q, by omega⟩
  rw [hix] at k2 k3
  obtain ⟨k5, k4⟩ := pow5Bits_bounds ix (by omega)
  have c3 := ok.p5 ix (by omega) (by omega)
  have hT := ok.tSplit ix (by omega)
  have hwn : wrapS 32 (-(-(n : Int))) = n := by rw [Int.neg_neg]; exact wrapS32 _ (by omega) (by omega)
  have hwi : wrapS 32 ((n : Int) - (q : Int)) = ix := by rw [hix]; exact wrapS32 _ (by omega) (by omega)
  generalize hr : Ryu64.step3NegQ q (-(n : Int)) m2 mmS ab = r
  obtain ⟨rvr, rvp, rvm, re10, rfm, rfr⟩ := r
  unfold Ryu64.step3NegQ at hr
  dsimp only at hr
  rw [Int.neg_neg, hix, Int.toNat_natCast, Ryu64.pow5NumBits64, Int.cast_ofNat_Int] at hr
  generalize Ryu64.pow5Bits (ix : Int) = P at k2 k3 k4 k5 c3 hr
  generalize Gen.pow5Split64.getD ix (0, 0) = mul at hT hr
  obtain ⟨lo, hi⟩ := mul
  simp only [negPart, negFlags, s3Store, Pre.vals]
  xlit
  refine scope_next (σ'' := ?r) (σ' := ?r ++ [.u 32 q, .i 32 ix, .i 32 (P - 121), .i 32 ((q : Int) - (P - 121)),
    .pair (.u 64 lo) (.u 64 hi)]) ?_ ?take
  case take => rfl
  xstep (define_of rfl (bin_of
    (call1_of (x := .i 32 n) (congrArg (fun z => some (Val.i 32 z)) hwn) (ok.l5 n (by omega) (by omega)))
    (call1_of (x := .bool (decide ((n : Int) > 1))) (congrArg (fun z => some (Val.bool (decide (z > 1)))) hwn) (ok.b32 _))
    ((sub32_bool _ _).trans (congrArg (fun z => some (Val.u 32 z)) hq))))
  xstep (assign_of rfl (wrap32_of (bin_of (wrap32_of rfl (by omega) (by omega)) rfl rfl) (by omega) (by omega)))
  xstep (define_of rfl (bin_of (x := .i 32 n) (congrArg (fun z => some (Val.i 32 z)) hwn)
    (wrap32_of rfl (by omega) (by omega)) (congrArg (fun z => some (Val.i 32 z)) hwi)))
  xstep (define_of rfl (wrap32_of (bin_of (call1_of rfl c3) rfl rfl) (by omega) (by omega)))
  xstep (define_of rfl (wrap32_of (bin_of (wrap32_of rfl (by omega) (by omega)) rfl rfl) (by omega) (by omega)))
  xstep (define_of rfl (tblZ_of rfl rfl (Int.natCast_nonneg ix) hT))
  xstep (assign_of rfl (call3_of rfl rfl rfl (ok.ms (Ryu64.mvOf m2) lo hi _ k2 k3)))
  xstep (assign_of rfl (call3_of rfl rfl rfl (ok.ms (Ryu64.mpOf m2) lo hi _ k2 k3)))
  xstep (assign_of rfl (call3_of (bin_of (bin_of rfl rfl (sub64_of _ 1 (by decide))) rfl
    (sub64_of _ mmS (by omega))) rfl rfl (ok.ms (Ryu64.mmOf m2 mmS) lo hi _ k2 k3)))
  refine block_step ?_ rfl
  by_cases hq1 : q ≤ 1
  · rw [if_pos hq1] at hr
    refine (if_enter (decide_eq_true hq1) rfl).trans (scope_same ?_ (Nat.eq_of_beq_eq_true rfl))
    xstep
    refine block_step ?_ rfl
    cases ab
    · rw [if_neg Bool.false_ne_true] at hr
      cases hr
      exact (if_else rfl rfl).trans (scope_assign rfl (bin_of rfl rfl (sub64_of _ 1 (by decide))))
    · rw [if_pos rfl] at hr
      cases hr
      exact (if_enter rfl rfl).trans (scope_assign rfl rfl)
  · rw [if_neg hq1] at hr
    refine (if_else (decide_eq_false hq1) rfl).trans (scope_same (block_step ?_ rfl) (Nat.eq_of_beq_eq_true rfl))
    by_cases hq63 : q < 63
    · rw [if_pos hq63] at hr
      cases hr
      exact (if_enter (decide_eq_true hq63) rfl).trans (scope_assign rfl
        (call2_of rfl (bin_of rfl rfl (sub32_of q 1 (by decide))) (ok.m2 _ _)))
    · rw [if_neg hq63] at hr
      cases hr
      exact if_skip (decide_eq_false hq63) rfl

theorem exec_step3 (Γ : Env) (ok : EnvOk Γ) (a b : Val) (mant exp : Nat) (hm : mant < 2 ^ 52) (he : exp < 2047)
    (hnz : mant ≠ 0 ∨ exp ≠ 0) (ok3 : Step3Ok exp) :
    step3Stmt.exec Γ (s3Store ⟨a, b, Ryu64.decodeE2 exp, Ryu64.decodeM2 mant exp, Ryu64.acceptBoundsOf mant exp,
        Ryu64.mmShiftOf mant exp⟩ ⟨0, 0, 0, 0, false, false⟩) =
      .next (s3Store ⟨a, b, Ryu64.decodeE2 exp, Ryu64.decodeM2 mant exp, Ryu64.acceptBoundsOf mant exp,
        Ryu64.mmShiftOf mant exp⟩ (Ryu64.step3 mant exp)) := by
  obtain ⟨hm1, hm2⟩ := C16Core.decodeM2_range mant exp hm hnz
  have hm0 : Ryu64.decodeM2 mant exp ≠ 0 := by omega
  have hs := C16Core.mmShiftOf_le mant exp
  unfold Ryu64.step3 step3Stmt
  dsimp only
  by_cases h : 1077 ≤ exp
  · rw [C16Core.decodeE2_pos exp h, if_pos (Int.natCast_nonneg _)]
    exact (if_enter (decide_eq_true (Int.natCast_nonneg (exp - 1077))) rfl).trans
      (exec_posPart_core Γ ok a b (exp - 1077) _ _ _ (by omega) (ok3.pos h) hm0 hm2 hs)
  · rw [C16Core.decodeE2_neg exp (by omega)]
    generalize hn : (if exp = 0 then 1076 else 1077 - exp) = n
    have hn1 : 1 ≤ n ∧ n ≤ 1076 := by rw [← hn]; split <;> omega
    have hneg : ¬ (0 ≤ -(n : Int)) := by omega
    rw [if_neg hneg]
    exact (if_else (decide_eq_false hneg) rfl).trans
      (exec_negPart_core Γ ok a b n _ _ _ hn1.2 (ok3.neg n (by omega) hn.symm) hs)

end QF.Props.C16RyuGen
