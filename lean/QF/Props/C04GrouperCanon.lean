import QF.Gen.GrouperFns
import QF.Core.GLExpr
/-!
# C04 / C05 — the grouper hash table in today's source: canonical terms (tie T1)

`QF.Gen.grouperFns` (regenerated on every run by go/cmd/extract/grpast.go) holds the bodies of `table.grow`, `table.hash`,
`table.insertEntry`, `newTable`, `equals`, `calculateInitialSizeExp`, `groupIndex`, `GroupBy`, `Distinct` of
/repo/internal/grouper/grouper.go and of `integer.Max`, `integer.Pow2` as terms of the imperative language `QF.GL`
(QF/Core/GLExpr.lean). This file fixes the canonical terms (`canonFns`: today's translation, variables numbered by
declaration order; the loop bodies have names so that the lemmas about them can be stated) and proves by evaluation
that today's extraction is complete (`gen_grouper_no_opaque`) and equal to them (`gen_grouper_canon`: the two closed terms
are compared as they stand). The meaning of
the canonical terms is computed in C04GrouperFns / C04GrouperGrow / C04GrouperInsert / C04GrouperGen.
-/
namespace QF.Props.C04GrouperGen
open QF QF.GL

/-! ## `grow` — variables: 0 `t`, 1 `newLen`, 2 `newEntries`, 3 `bitMask`, 4 `e`, 5 `pos` -/

/-- `if !newEntries[pos].occupied { newEntries[pos] = e; break }; t.stats.RelocationCollisions++` -/
abbrev relocBody : S := S.block [
  S.ite (E.not (E.field (E.at (E.var 2) (E.var 5)) Fld.occupied)) (S.block [S.setAt 2 (E.var 5) (E.var 4), S.brk]) (S.block []),
  S.incrField 0 [Fld.stats, Fld.sRelocationCollisions]]

/-- `pos := e.hash & bitMask` -/
abbrev relocInit : S := S.block [S.define 5 (E.bin AOp.band (E.field (E.var 4) Fld.hash) (E.var 3))]

/-- `pos = (pos + 1) & bitMask` -/
abbrev relocPost : S := S.block [S.assign 5 (E.bin AOp.band (E.bin AOp.add (E.var 5) (E.u32 1)) (E.var 3))]

/-- the body of `for _, e := range t.entries`: the probe loop `for pos := e.hash & bitMask; ; pos = (pos + 1) & bitMask` -/
abbrev growBody : S := S.block [S.for relocInit (E.bool true) relocPost relocBody]

def fnGrow : Fn := { params := 1, body := S.block [
  S.define 1 (E.toU32 (E.bin AOp.mul (E.int 2) (E.len (E.field (E.var 0) Fld.entries)))),
  S.define 2 (E.makeEntries (E.var 1)),
  S.define 3 (E.bin AOp.sub (E.var 1) (E.u32 1)),
  S.range (E.field (E.var 0) Fld.entries) none (some 4) growBody,
  S.incrField 0 [Fld.stats, Fld.sRelocationCount],
  S.setField 0 [Fld.entries] (E.var 2),
  S.setField 0 [Fld.loadFactor] (E.bin AOp.div (E.field (E.var 0) Fld.loadFactor) (E.flt 2 1))] }

/-! ## `hash` — 0 `t`, 1 `i`, 2 `hashVal`, 3 `c` -/

/-- `hashVal = c.Hash(i, hashVal)` -/
abbrev hashBody : S := S.block [S.assign 2 (E.cmpHash (E.var 3) (E.var 1) (E.var 2))]

def fnHash : Fn := { params := 2, body := S.block [
  S.define 2 (E.u64 0),
  S.range (E.field (E.var 0) Fld.comparables) none (some 3) hashBody,
  S.ret (E.toU32 (E.var 2))] }

/-! ## `insertEntry` — 0 `t`, 1 `i`, 2 `hashSum`, 3 `bitMask`, 4 `startPos`, 5 `dstEntry`, 6 `pos`, 7 `e` -/

/-- `!e.occupied || e.hash == hashSum && equals(t.comparables, i, e.firstPos)` -/
def probeCond : E :=
  E.or (E.not (E.field (E.deref (E.var 7)) Fld.occupied))
    (E.and (E.cmp COp.eq (E.field (E.deref (E.var 7)) Fld.hash) (E.var 2))
      (E.call3 FnId.equals (E.field (E.var 0) Fld.comparables) (E.var 1) (E.field (E.deref (E.var 7)) Fld.firstPos)))

/-- `e := &t.entries[pos]; if <probeCond> { dstEntry = e } else { t.stats.InsertCollisions++ }` -/
abbrev probeBody : S := S.block [
  S.define 7 (E.addrEntry 0 (E.var 6)),
  S.ite probeCond (S.block [S.assign 5 (E.var 7)]) (S.block [S.incrField 0 [Fld.stats, Fld.sInsertCollisions]])]

abbrev probeInit : S := S.block [S.define 6 (E.var 4)]

/-- `pos = (pos + 1) & bitMask` -/
abbrev probePost : S := S.block [S.assign 6 (E.bin AOp.band (E.bin AOp.add (E.var 6) (E.u64 1)) (E.var 3))]

/-- `for pos := startPos; dstEntry == nil; pos = (pos + 1) & bitMask { … }` -/
def probeLoop : S := S.for probeInit (E.isNil (E.var 5)) probePost probeBody

/-- the new entry: `dstEntry.hash = hashSum; dstEntry.firstPos = i; dstEntry.occupied = true; t.groupCount++;
t.loadFactor = float64(t.groupCount) / float64(len(t.entries))` -/
def edenPart : S := S.block [
  S.setPtrField 5 Fld.hash (E.var 2),
  S.setPtrField 5 Fld.firstPos (E.var 1),
  S.setPtrField 5 Fld.occupied (E.bool true),
  S.incrField 0 [Fld.groupCount],
  S.setField 0 [Fld.loadFactor] (E.bin AOp.div (E.toFloat (E.field (E.var 0) Fld.groupCount)) (E.toFloat (E.len (E.field (E.var 0) Fld.entries))))]

/-- the existing entry: `if t.collectIx { if dstEntry.ix == nil { dstEntry.ix = index.Int{dstEntry.firstPos, i} } else
{ dstEntry.ix = append(dstEntry.ix, i) } }` -/
def existingPart : S := S.block [
  S.ite (E.field (E.var 0) Fld.collectIx)
    (S.block [S.ite (E.isNil (E.field (E.deref (E.var 5)) Fld.ix))
      (S.block [S.setPtrField 5 Fld.ix (E.rows2 (E.field (E.deref (E.var 5)) Fld.firstPos) (E.var 1))])
      (S.block [S.setPtrField 5 Fld.ix (E.snoc (E.field (E.deref (E.var 5)) Fld.ix) (E.var 1))])])
    (S.block [])]

/-- `if !dstEntry.occupied { <new entry> } else { <existing entry> }` -/
def updatePart : S := S.ite (E.not (E.field (E.deref (E.var 5)) Fld.occupied)) edenPart existingPart

/-- `if t.loadFactor > maxLoadFactor { t.grow() }` -/
def growCheckPart : S :=
  S.ite (E.cmp COp.gt (E.field (E.var 0) Fld.loadFactor) (E.flt 1 2)) (S.block [S.callMut FnId.grow 0 []]) (S.block [])

def fnInsertEntry : Fn := { params := 2, body := S.block [
  growCheckPart,
  S.define 2 (E.call2 FnId.hash (E.var 0) (E.var 1)),
  S.define 3 (E.toU64 (E.bin AOp.sub (E.len (E.field (E.var 0) Fld.entries)) (E.int 1))),
  S.define 4 (E.bin AOp.band (E.toU64 (E.var 2)) (E.var 3)),
  S.define 5 E.nilPtr,
  probeLoop,
  updatePart] }

/-! ## `newTable`, `equals`, `calculateInitialSizeExp` -/

def fnNewTable : Fn := { params := 3, body := S.block [
  S.ret (E.mkTable (E.makeEntries (E.call1 FnId.pow2 (E.var 0))) (E.var 1) (E.var 2))] }

/-- `if c.Compare(i, j) != column.Equal { return false }` -/
abbrev equalsBody : S := S.block [
  S.ite (E.cmp COp.ne (E.cmpCompare (E.var 3) (E.var 1) (E.var 2)) (E.cres CRes.equal)) (S.block [S.ret (E.bool false)]) (S.block [])]

def fnEquals : Fn := { params := 3, body := S.block [S.range (E.var 0) none (some 3) equalsBody, S.ret (E.bool true)] }

def fnInitialSizeExp : Fn := { params := 1, body := S.block [
  S.define 1 (E.bin AOp.div (E.toU64 (E.var 0)) (E.u64 4)),
  S.ret (E.call2 FnId.max (E.bitLen64 (E.var 1)) (E.int 3))] }

/-! ## `groupIndex` — 0 `ix`, 1 `comparables`, 2 `collectIx`, 3 `initialSizeExp`, 4 `table`, 5 `i`, 6 `stats` -/

/-- `table.insertEntry(i)` -/
abbrev insertBody : S := S.block [S.callMut FnId.insertEntry 4 [E.var 5]]

def fnGroupIndex : Fn := { params := 3, body := S.block [
  S.define 3 (E.call1 FnId.initialSizeExp (E.len (E.var 0))),
  S.define 4 (E.call3 FnId.newTable (E.var 3) (E.var 1) (E.var 2)),
  S.range (E.var 0) none (some 5) insertBody,
  S.define 6 (E.field (E.var 4) Fld.stats),
  S.setField 6 [Fld.sLoadFactor] (E.field (E.var 4) Fld.loadFactor),
  S.setField 6 [Fld.sGroupCount] (E.toInt (E.field (E.var 4) Fld.groupCount)),
  S.ret (E.pair (E.field (E.var 4) Fld.entries) (E.var 6))] }

/-! ## `GroupBy`, `Distinct` — 0 `ix`, 1 `comparables`, 2 `entries`, 3 `stats`, 4 `result`, 5 `e` -/

/-- `if e.occupied { if e.ix == nil { result = append(result, index.Int{e.firstPos}) } else { result = append(result, e.ix) } }` -/
abbrev collectGroupsBody : S := S.block [
  S.ite (E.field (E.var 5) Fld.occupied)
    (S.block [S.ite (E.isNil (E.field (E.var 5) Fld.ix))
      (S.block [S.assign 4 (E.snoc (E.var 4) (E.rows1 (E.field (E.var 5) Fld.firstPos)))])
      (S.block [S.assign 4 (E.snoc (E.var 4) (E.field (E.var 5) Fld.ix))])])
    (S.block [])]

def fnGroupBy : Fn := { params := 2, body := S.block [
  S.define2 2 3 (E.call3 FnId.groupIndex (E.var 0) (E.var 1) (E.bool true)),
  S.define 4 (E.makeGroups (E.field (E.var 3) Fld.sGroupCount)),
  S.range (E.var 2) none (some 5) collectGroupsBody,
  S.ret (E.pair (E.var 4) (E.var 3))] }

/-- `if e.occupied { result = append(result, e.firstPos) }` -/
abbrev collectFirstBody : S := S.block [
  S.ite (E.field (E.var 5) Fld.occupied) (S.block [S.assign 4 (E.snoc (E.var 4) (E.field (E.var 5) Fld.firstPos))]) (S.block [])]

def fnDistinct : Fn := { params := 2, body := S.block [
  S.define2 2 3 (E.call3 FnId.groupIndex (E.var 0) (E.var 1) (E.bool false)),
  S.define 4 (E.makeRows (E.field (E.var 3) Fld.sGroupCount)),
  S.range (E.var 2) none (some 5) collectFirstBody,
  S.ret (E.var 4)] }

/-! ## internal/math/integer -/

def fnMax : Fn := { params := 2, body := S.block [
  S.ite (E.cmp COp.gt (E.var 0) (E.var 1)) (S.block [S.ret (E.var 0)]) (S.block []),
  S.ret (E.var 1)] }

def fnPow2 : Fn := { params := 1, body := S.block [S.ret (E.pow2 (E.var 0))] }

def canonFns : List (FnId × Fn) := [
  (FnId.grow, fnGrow),
  (FnId.hash, fnHash),
  (FnId.insertEntry, fnInsertEntry),
  (FnId.newTable, fnNewTable),
  (FnId.equals, fnEquals),
  (FnId.initialSizeExp, fnInitialSizeExp),
  (FnId.groupIndex, fnGroupIndex),
  (FnId.groupBy, fnGroupBy),
  (FnId.distinct, fnDistinct),
  (FnId.max, fnMax),
  (FnId.pow2, fnPow2)]

/-- nothing in today's grouper was left untranslated -/
theorem gen_grouper_no_opaque : ∀ p ∈ Gen.grouperFns, p.2.body.hasOpaque = false := by decide +kernel

/-- today's extraction is the canonical translation -/
theorem gen_grouper_canon : Gen.grouperFns = canonFns := rfl

end QF.Props.C04GrouperGen
