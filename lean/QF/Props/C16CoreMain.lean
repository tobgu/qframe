import QF.Props.C16CoreStep4
/-!
# C16 — the Ryu core: from the float to the hypotheses of step 4

From the fields of a float to the hypotheses of step 4: the scale `N/D = 2^e2 / 10^e10` chosen by the code satisfies
`D ≤ N < 100·D` (`posScale`, `negScale`, from `log10Pow2_exact` / `log10Pow5_exact`; `scale_pos`, `scale_neg`: what `qOf`, `e10Of`,
`scaleNum`, `scaleDen`, `mulOf`, `shiftOf` are on each branch, in natural numbers — every proof that depends on the branch starts
from these two; `scale_bounds`, `scale_facts`), hence the arithmetic
hypotheses of `Sem` hold for every finite non-zero float (`sem_arith`); what step 3 returns (`step3PosQ_spec`,
`step3NegQ_spec`, with the conditions for the flags named `PosFlags`, `NegFlags`; `step3_fields`); how the exact floor of the upper end and a sound `vp--` give the `vp` that `Sem` asks for
(`vp_last_digit`). The flags are discharged and everything is put together in `C16CoreFlags`.
-/
namespace QF.Props.C16Core
open QF.Ryu64

/-! ## from the float to the hypotheses of step 4 -/

theorem log10_lt (c s : Nat) (e : Int) (hs : 18 ≤ s) : u32 (toU32 e * c) >>> s < 2 ^ 14 := by
  unfold u32
  rw [Nat.shiftRight_eq_div_pow, Nat.div_lt_iff_lt_mul (Nat.two_pow_pos s)]
  calc toU32 e * c % 2 ^ 32 < 2 ^ 32 := Nat.mod_lt _ (by decide)
    _ = 2 ^ 14 * 2 ^ 18 := by decide
    _ ≤ 2 ^ 14 * 2 ^ s := Nat.mul_le_mul_left _ (Nat.pow_le_pow_right (by decide) hs)

/-- the code's `q = L − [e > c]` for `L = ⌊log10 b^e⌋`, where `e > c` iff `b^e ≥ 10`: `q = max(0, L − 1)`, so
`10^q ≤ b^e < 100·10^q`, and `10·10^q ≤ b^e` unless `q = 0` -/
theorem scale_q (b e L c : Nat) (hL : L < 2 ^ 14) (h1 : 10 ^ L ≤ b ^ e) (h2 : b ^ e < 10 ^ (L + 1))
    (hc : c < e → 10 ≤ b ^ e) (hc' : e ≤ c → b ^ e < 10) :
    10 ^ subU32 L (boolToNat (decide ((e : Int) > c))) ≤ b ^ e ∧
    b ^ e < 100 * 10 ^ subU32 L (boolToNat (decide ((e : Int) > c))) ∧
    (1 ≤ subU32 L (boolToNat (decide ((e : Int) > c))) → 10 * 10 ^ subU32 L (boolToNat (decide ((e : Int) > c))) ≤ b ^ e) := by
  by_cases h3 : c < e
  · have hd : decide ((e : Int) > c) = true := by simpa using h3
    have := hc h3
    obtain ⟨L', rfl⟩ : ∃ L', L = L' + 1 := by
      cases L with
      | zero => omega
      | succ L' => exact ⟨L', rfl⟩
    have hq : subU32 (L' + 1) (boolToNat true) = L' := by
      unfold subU32 boolToNat; simp only [if_true]; omega
    rw [hd, hq]
    rw [Nat.pow_succ] at h1
    rw [Nat.pow_succ, Nat.pow_succ] at h2
    exact ⟨by omega, by omega, fun _ => by omega⟩
  · have hd : decide ((e : Int) > c) = false := by simpa using h3
    have := hc' (by omega)
    have hL0 : L = 0 := by
      cases L with
      | zero => rfl
      | succ L' => rw [Nat.pow_succ] at h1; have := Nat.pow_pos (n := L') (by decide : 0 < 10); omega
    subst hL0
    rw [hd]
    exact ⟨h1, by rw [show subU32 0 (boolToNat false) = 0 from rfl]; omega, fun h => absurd h (by decide)⟩

/-- the decimal exponent chosen for `e2 ≥ 0`: `q = max(0, ⌊log10 2^e2⌋ − 1)`, so `10^q ≤ 2^e2 < 100·10^q` -/
theorem posScale (e2 : Nat) (h : e2 ≤ 1650) :
    10 ^ subU32 (log10Pow2 (e2 : Int)) (boolToNat (decide ((e2 : Int) > 3))) ≤ 2 ^ e2 ∧
    2 ^ e2 < 100 * 10 ^ subU32 (log10Pow2 (e2 : Int)) (boolToNat (decide ((e2 : Int) > 3))) ∧
    (1 ≤ subU32 (log10Pow2 (e2 : Int)) (boolToNat (decide ((e2 : Int) > 3))) →
      10 * 10 ^ subU32 (log10Pow2 (e2 : Int)) (boolToNat (decide ((e2 : Int) > 3))) ≤ 2 ^ e2) := by
  obtain ⟨h1, h2⟩ := log10Pow2_exact e2 h
  refine scale_q 2 e2 (log10Pow2 (e2 : Int)) 3 (log10_lt _ _ _ (by decide)) h1 h2 (fun hc => ?_) (fun hc => ?_)
  · exact Nat.le_trans (by decide : 10 ≤ 2 ^ 4) (Nat.pow_le_pow_right (by decide) hc)
  · exact Nat.lt_of_le_of_lt (Nat.pow_le_pow_right (by decide) hc) (by decide)

/-- the decimal exponent chosen for `e2 < 0` (`n = −e2`): `q = max(0, ⌊log10 5^n⌋ − 1) < n`, and with `i = n − q`:
`2^q ≤ 5^i < 100·2^q` -/
theorem negScale (n : Nat) (h0 : 1 ≤ n) (h : n ≤ 2620) :
    subU32 (log10Pow5 (n : Int)) (boolToNat (decide ((n : Int) > 1))) < n ∧
    2 ^ subU32 (log10Pow5 (n : Int)) (boolToNat (decide ((n : Int) > 1))) ≤
      5 ^ (n - subU32 (log10Pow5 (n : Int)) (boolToNat (decide ((n : Int) > 1)))) ∧
    5 ^ (n - subU32 (log10Pow5 (n : Int)) (boolToNat (decide ((n : Int) > 1)))) <
      100 * 2 ^ subU32 (log10Pow5 (n : Int)) (boolToNat (decide ((n : Int) > 1))) ∧
    (1 ≤ subU32 (log10Pow5 (n : Int)) (boolToNat (decide ((n : Int) > 1))) →
      10 * 2 ^ subU32 (log10Pow5 (n : Int)) (boolToNat (decide ((n : Int) > 1))) ≤
        5 ^ (n - subU32 (log10Pow5 (n : Int)) (boolToNat (decide ((n : Int) > 1))))) := by
  obtain ⟨h1, h2⟩ := log10Pow5_exact n h
  obtain ⟨a, b, c⟩ := scale_q 5 n (log10Pow5 (n : Int)) 1 (log10_lt _ _ _ (by decide)) h1 h2
    (fun hc => Nat.le_trans (by decide : 10 ≤ 5 ^ 2) (Nat.pow_le_pow_right (by decide) hc))
    (fun hc => Nat.lt_of_le_of_lt (Nat.pow_le_pow_right (by decide) hc) (by decide))
  generalize subU32 (log10Pow5 (n : Int)) (boolToNat (decide ((n : Int) > 1))) = q at *
  have hqn : q < n := by
    apply Nat.lt_of_not_le; intro hnq
    have h5 : 5 ^ n < 10 ^ n := Nat.pow_lt_pow_left (by decide) (by omega)
    have : 10 ^ n ≤ 10 ^ q := Nat.pow_le_pow_right (by decide) hnq
    omega
  -- `10^q = 2^q·5^q` and `5^n = 5^(n−q)·5^q`: cancel `5^q`
  have e5 : 5 ^ n = 5 ^ (n - q) * 5 ^ q := by rw [← Nat.pow_add]; congr 1; omega
  have e10 : 10 ^ q = 2 ^ q * 5 ^ q := Nat.mul_pow 2 5 q
  have hpos : 0 < 5 ^ q := Nat.pow_pos (by decide)
  rw [e5, e10] at a b c
  refine ⟨hqn, Nat.le_of_mul_le_mul_right a hpos, ?_, ?_⟩
  · apply Nat.lt_of_mul_lt_mul_right (a := 5 ^ q)
    rw [Nat.mul_assoc]; exact b
  · intro hq
    apply Nat.le_of_mul_le_mul_right _ hpos
    rw [Nat.mul_assoc]; exact c hq


/-- the arithmetic hypotheses of step 4 for an interval `(4·m2 − 1 − s, 4·m2, 4·m2 + 2) · N / D` with `D ≤ N < 100·D` -/
theorem sem_arith (m2 s N D : Nat) (incl : Bool) (hm0 : 1 ≤ m2) (hm : m2 < 2 ^ 53) (hs : s ≤ 1)
    (hD : 0 < D) (hDN : D ≤ N) (hN : N < 100 * D) (hq : D = 1 ∨ 10 * D ≤ N) :
    D ≤ (4 * m2 - 1 - s) * N ∧ (4 * m2 - 1 - s) * N + D ≤ 4 * m2 * N ∧ 4 * m2 * N + D ≤ (4 * m2 + 2) * N ∧
    4 * m2 * N - (4 * m2 - 1 - s) * N ≤ (4 * m2 + 2) * N - 4 * m2 * N ∧
    (D ∣ 4 * m2 * N ∨ (4 * m2 - 1 - s) * N + 10 * D + 1 ≤ (4 * m2 + 2) * N) ∧
    hiEnd ((4 * m2 + 2) * N) incl / D < 2 ^ 64 := by
  obtain ⟨m, rfl⟩ : ∃ m, m2 = m + 1 := ⟨m2 - 1, by omega⟩
  have e1 : 4 * (m + 1) * N = 4 * (m * N) + 4 * N := by
    rw [Nat.mul_assoc, Nat.add_mul, Nat.one_mul, Nat.mul_add]
  have e2 : (4 * (m + 1) + 2) * N = 4 * (m * N) + 6 * N := by
    rw [Nat.add_mul, e1]; omega
  have e3 : (4 * (m + 1) - 1 - s) * N = 4 * (m * N) + (3 - s) * N := by
    rw [show 4 * (m + 1) - 1 - s = 4 * m + (3 - s) by omega, Nat.add_mul, Nat.mul_assoc]
  -- `mm` is two or three units `N` above `4·m·N`
  have e4 : 2 * N ≤ (3 - s) * N ∧ (3 - s) * N ≤ 3 * N :=
    ⟨Nat.mul_le_mul_right N (by omega), Nat.mul_le_mul_right N (by omega)⟩
  rw [e1, e2, e3]
  have hlt : hiEnd (4 * (m * N) + 6 * N) incl / D < 2 ^ 64 := by
    apply Nat.lt_of_le_of_lt (Nat.div_le_div_right (hiEnd_facts _ incl).1)
    rw [Nat.div_lt_iff_lt_mul hD]
    -- `(4m + 6)·N < (4m + 6)·100·D ≤ 2^53·2048·D`
    have h1 : m * N ≤ m * (100 * D) := Nat.mul_le_mul_left m (Nat.le_of_lt hN)
    have h2 : m * (100 * D) = 100 * (m * D) := Nat.mul_left_comm _ _ _
    have h3 : m * D ≤ 2 ^ 53 * D := Nat.mul_le_mul_right D (by omega)
    have h4 : 2 ^ 64 * D = 2048 * (2 ^ 53 * D) := by rw [← Nat.mul_assoc]
    have h7 : D ≤ 2 ^ 53 * D := Nat.le_mul_of_pos_left D (by decide)
    generalize 2 ^ 53 * D = Z at *
    omega
  generalize m * N = X at *
  generalize (3 - s) * N = T at *
  refine ⟨by omega, by omega, by omega, by omega, ?_, hlt⟩
  rcases hq with h | h
  · left; subst h; exact Nat.one_dvd _
  · right; omega


theorem decodeE2_nonneg_iff (exp : Nat) : decodeE2 exp ≥ 0 ↔ 1077 ≤ exp := by
  constructor
  · intro h
    apply Nat.le_of_not_lt; intro hlt
    rw [decodeE2_neg exp hlt] at h; split at h <;> omega
  · intro h; rw [decodeE2_pos exp h]; omega

theorem decodeE2_le_succ (exp : Nat) : decodeE2 exp ≤ decodeE2 (exp + 1) := by
  unfold decodeE2 bias64 mantBits64
  simp only [beq_iff_eq]
  split <;> split <;> omega

/-- the code's `e10`: the interval is expressed in units of `10^e10` -/
def e10Of (exp : Nat) : Int := if decodeE2 exp ≥ 0 then (qOf exp : Int) else (qOf exp : Int) + decodeE2 exp
/-- `2^e2 / 10^e10 = scaleNum / scaleDen`: for `e2 ≥ 0` it is `2^e2 / 10^q`, for `e2 < 0` it is `5^(−e2−q) / 2^q` -/
def scaleNum (exp : Nat) : Nat :=
  if decodeE2 exp ≥ 0 then 2 ^ (decodeE2 exp).toNat else 5 ^ (-decodeE2 exp - (qOf exp : Int)).toNat
def scaleDen (exp : Nat) : Nat := if decodeE2 exp ≥ 0 then 10 ^ qOf exp else 2 ^ qOf exp
/-- the multiplier read from the tables and the shift passed to `mulShift64` -/
def mulOf (exp : Nat) : Nat × Nat :=
  if decodeE2 exp ≥ 0 then QF.Gen.pow5InvSplit64.getD (qOf exp) (0, 0)
  else QF.Gen.pow5Split64.getD (-decodeE2 exp - (qOf exp : Int)).toNat (0, 0)
def shiftOf (exp : Nat) : Int :=
  if decodeE2 exp ≥ 0 then -decodeE2 exp + (qOf exp : Int) + ((pow5InvNumBits64 : Int) + pow5Bits (qOf exp : Int) - 1)
  else (qOf exp : Int) - (pow5Bits (-decodeE2 exp - (qOf exp : Int)) - (pow5NumBits64 : Int))

/-- the 128-bit multiplier as a number -/
def mulVal (exp : Nat) : Nat := (mulOf exp).2 * 2 ^ 64 + (mulOf exp).1

/-- the branch `e2 ≥ 0` (exponent fields from 1077 on) in natural numbers: `e2 = exp − 1077`, scale `2^e2 / 10^q` with
`10^q ≤ 2^e2 < 100·10^q` (`posScale`), multiplier `pow5InvSplit64[q]`, shift `q + 121 + pow5Bits q − e2` -/
theorem scale_pos (exp : Nat) (h : 1077 ≤ exp) (he : exp < 2048) :
    decodeE2 exp = ((exp - 1077 : Nat) : Int) ∧ e10Of exp = (qOf exp : Int) ∧
    scaleNum exp = 2 ^ (exp - 1077) ∧ scaleDen exp = 10 ^ qOf exp ∧
    mulOf exp = QF.Gen.pow5InvSplit64.getD (qOf exp) (0, 0) ∧
    shiftOf exp = (qOf exp : Int) + 121 + pow5Bits (qOf exp : Int) - ((exp - 1077 : Nat) : Int) ∧
    10 ^ qOf exp ≤ 2 ^ (exp - 1077) ∧ 2 ^ (exp - 1077) < 100 * 10 ^ qOf exp ∧
    (qOf exp = 0 ∨ 10 * 10 ^ qOf exp ≤ 2 ^ (exp - 1077)) := by
  have he2 := decodeE2_pos exp h
  have hge : decodeE2 exp ≥ 0 := by omega
  obtain ⟨a, b, c⟩ := posScale (exp - 1077) (by omega)
  have hq : qOf exp = subU32 (log10Pow2 ((exp - 1077 : Nat) : Int)) (boolToNat (decide (((exp - 1077 : Nat) : Int) > 3))) := by
    unfold qOf; rw [if_pos hge, he2]
  rw [← hq] at a b c
  unfold e10Of scaleNum scaleDen mulOf shiftOf
  rw [if_pos hge, if_pos hge, if_pos hge, if_pos hge, if_pos hge, he2, Int.toNat_natCast]
  refine ⟨rfl, rfl, rfl, rfl, rfl, ?_, a, b, ?_⟩
  · have : (pow5InvNumBits64 : Int) = 122 := rfl
    omega
  · by_cases h0 : qOf exp = 0
    · exact Or.inl h0
    · exact Or.inr (c (by omega))

/-- the branch `e2 < 0` (exponent fields below 1077) in natural numbers: `e2 = −(i + q)` with the table index `i ≥ 1`, scale
`5^i / 2^q` with `2^q ≤ 5^i < 100·2^q` (`negScale`), multiplier `pow5Split64[i]`, shift `q + 121 − pow5Bits i` -/
theorem scale_neg (exp : Nat) (h : exp < 1077) : ∃ i : Nat, 1 ≤ i ∧ i + qOf exp = (if exp = 0 then 1076 else 1077 - exp) ∧
    decodeE2 exp = -((i + qOf exp : Nat) : Int) ∧ e10Of exp = -(i : Int) ∧
    scaleNum exp = 5 ^ i ∧ scaleDen exp = 2 ^ qOf exp ∧
    mulOf exp = QF.Gen.pow5Split64.getD i (0, 0) ∧
    shiftOf exp = (qOf exp : Int) + 121 - pow5Bits (i : Int) ∧
    2 ^ qOf exp ≤ 5 ^ i ∧ 5 ^ i < 100 * 2 ^ qOf exp ∧ (qOf exp = 0 ∨ 10 * 2 ^ qOf exp ≤ 5 ^ i) := by
  have he2 := decodeE2_neg exp h
  have hn1 : 1 ≤ (if exp = 0 then 1076 else 1077 - exp) := by split <;> omega
  have hn2 : (if exp = 0 then 1076 else 1077 - exp) ≤ 2620 := by split <;> omega
  generalize (if exp = 0 then 1076 else 1077 - exp) = n at *
  have hlt : ¬ decodeE2 exp ≥ 0 := by omega
  obtain ⟨a, b, c, d⟩ := negScale n hn1 hn2
  have hq : qOf exp = subU32 (log10Pow5 (n : Int)) (boolToNat (decide ((n : Int) > 1))) := by
    unfold qOf; rw [if_neg hlt, he2, Int.neg_neg]
  rw [← hq] at a b c d
  have hi : -decodeE2 exp - (qOf exp : Int) = ((n - qOf exp : Nat) : Int) := by omega
  unfold e10Of scaleNum scaleDen mulOf shiftOf
  rw [if_neg hlt, if_neg hlt, if_neg hlt, if_neg hlt, if_neg hlt, hi, Int.toNat_natCast]
  refine ⟨n - qOf exp, by omega, by omega, by omega, by omega, rfl, rfl, rfl, ?_, b, c, ?_⟩
  · have : (pow5NumBits64 : Int) = 121 := rfl
    omega
  · by_cases h0 : qOf exp = 0
    · exact Or.inl h0
    · exact Or.inr (d (by omega))

/-- when the branch `e2 ≥ 0` of step 3 sets `vmIsTrailingZeros`, `vrIsTrailingZeros` and decrements `vp` (`raw` is the
`mulShift64` result for `mp`) -/
def PosFlags (q mv mm mp vp raw : Nat) (acc vmTZ vrTZ : Bool) : Prop :=
  (vmTZ = true ↔ (q ≤ 21 ∧ mv % 5 ≠ 0 ∧ acc = true ∧ multipleOfPowerOfFive64 mm q = true)) ∧
  (vrTZ = true ↔ (q ≤ 21 ∧ mv % 5 = 0 ∧ multipleOfPowerOfFive64 mv q = true)) ∧
  (vp ≠ raw → (q ≤ 21 ∧ mv % 5 ≠ 0 ∧ acc = false ∧ multipleOfPowerOfFive64 mp q = true)) ∧
  ((q ≤ 21 ∧ mv % 5 ≠ 0 ∧ acc = false ∧ multipleOfPowerOfFive64 mp q = true) → vp = subU64 raw 1)

/-- the same for the branch `e2 < 0` -/
def NegFlags (q s mv vp raw : Nat) (acc vmTZ vrTZ : Bool) : Prop :=
  (vmTZ = true ↔ (q ≤ 1 ∧ acc = true ∧ s = 1)) ∧
  (vrTZ = true ↔ (q ≤ 1 ∨ (1 < q ∧ q < 63 ∧ multipleOfPowerOfTwo64 mv (subU32 q 1) = true))) ∧
  (vp ≠ raw → (q ≤ 1 ∧ acc = false)) ∧
  ((q ≤ 1 ∧ acc = false) → vp = subU64 raw 1)

/-- what the branch `e2 ≥ 0` of step 3 returns: the three products, and the flags and the `vp--` adjustment case by case -/
theorem step3PosQ_spec (q : Nat) (e2 : Int) (m2 s : Nat) (acc : Bool) :
    (step3PosQ q e2 m2 s acc).vr = mulShift64 (mvOf m2) (QF.Gen.pow5InvSplit64.getD q (0, 0))
      (-e2 + (q : Int) + ((pow5InvNumBits64 : Int) + pow5Bits (q : Int) - 1)) ∧
    (step3PosQ q e2 m2 s acc).vm = mulShift64 (mmOf m2 s) (QF.Gen.pow5InvSplit64.getD q (0, 0))
      (-e2 + (q : Int) + ((pow5InvNumBits64 : Int) + pow5Bits (q : Int) - 1)) ∧
    (step3PosQ q e2 m2 s acc).e10 = (q : Int) ∧
    PosFlags q (mvOf m2) (mmOf m2 s) (mpOf m2) (step3PosQ q e2 m2 s acc).vp
      (mulShift64 (mpOf m2) (QF.Gen.pow5InvSplit64.getD q (0, 0))
        (-e2 + (q : Int) + ((pow5InvNumBits64 : Int) + pow5Bits (q : Int) - 1)))
      acc (step3PosQ q e2 m2 s acc).vmIsTrailingZeros (step3PosQ q e2 m2 s acc).vrIsTrailingZeros := by
  unfold PosFlags
  unfold step3PosQ
  dsimp only
  by_cases h1 : q ≤ 21
  · rw [if_pos h1]
    by_cases h2 : (mvOf m2 % 5 == 0) = true
    · rw [if_pos h2]
      have h2' : mvOf m2 % 5 = 0 := by simpa using h2
      simp [h1, h2']
    · rw [if_neg h2]
      have h2' : mvOf m2 % 5 ≠ 0 := by simpa using h2
      cases acc with
      | true => simp [h1, h2']; rfl
      | false =>
        simp only [Bool.false_eq_true, if_false]
        by_cases h3 : multipleOfPowerOfFive64 (u64 (mvOf m2 + 2)) q = true
        · rw [if_pos h3]
          have h3' : multipleOfPowerOfFive64 (mpOf m2) q = true := h3
          simp [h1, h2', h3']
        · rw [if_neg h3]
          have h3' : ¬ multipleOfPowerOfFive64 (mpOf m2) q = true := h3
          simp [h1, h2', h3']
  · rw [if_neg h1]
    simp [h1]

/-- what the branch `e2 < 0` of step 3 returns -/
theorem step3NegQ_spec (q : Nat) (e2 : Int) (m2 s : Nat) (acc : Bool) :
    (step3NegQ q e2 m2 s acc).vr = mulShift64 (mvOf m2) (QF.Gen.pow5Split64.getD (-e2 - (q : Int)).toNat (0, 0))
      ((q : Int) - (pow5Bits (-e2 - (q : Int)) - (pow5NumBits64 : Int))) ∧
    (step3NegQ q e2 m2 s acc).vm = mulShift64 (mmOf m2 s) (QF.Gen.pow5Split64.getD (-e2 - (q : Int)).toNat (0, 0))
      ((q : Int) - (pow5Bits (-e2 - (q : Int)) - (pow5NumBits64 : Int))) ∧
    (step3NegQ q e2 m2 s acc).e10 = (q : Int) + e2 ∧
    NegFlags q s (mvOf m2) (step3NegQ q e2 m2 s acc).vp
      (mulShift64 (mpOf m2) (QF.Gen.pow5Split64.getD (-e2 - (q : Int)).toNat (0, 0))
        ((q : Int) - (pow5Bits (-e2 - (q : Int)) - (pow5NumBits64 : Int))))
      acc (step3NegQ q e2 m2 s acc).vmIsTrailingZeros (step3NegQ q e2 m2 s acc).vrIsTrailingZeros := by
  unfold NegFlags
  unfold step3NegQ
  dsimp only
  by_cases h1 : q ≤ 1
  · rw [if_pos h1]
    cases acc with
    | true => simp [h1]
    | false => simp [h1]
  · rw [if_neg h1]
    have h1' : 1 < q := by omega
    by_cases h2 : q < 63
    · rw [if_pos h2]; simp [h1, h1', h2]
    · rw [if_neg h2]; simp [h1, h2]

/-- `step3PosQ_spec` about `step3 mant exp`, with the multiplier and the shift as `mulOf exp`, `shiftOf exp` -/
theorem step3_pos (mant exp : Nat) (h : decodeE2 exp ≥ 0) :
    (step3 mant exp).vr = mulShift64 (mvOf (decodeM2 mant exp)) (mulOf exp) (shiftOf exp) ∧
    (step3 mant exp).vm = mulShift64 (mmOf (decodeM2 mant exp) (mmShiftOf mant exp)) (mulOf exp) (shiftOf exp) ∧
    (step3 mant exp).e10 = e10Of exp ∧
    PosFlags (qOf exp) (mvOf (decodeM2 mant exp)) (mmOf (decodeM2 mant exp) (mmShiftOf mant exp)) (mpOf (decodeM2 mant exp))
      (step3 mant exp).vp (mulShift64 (mpOf (decodeM2 mant exp)) (mulOf exp) (shiftOf exp))
      (acceptBoundsOf mant exp) (step3 mant exp).vmIsTrailingZeros (step3 mant exp).vrIsTrailingZeros := by
  unfold mulOf shiftOf e10Of
  rw [step3_pos_eq mant exp h, if_pos h, if_pos h, if_pos h]
  exact step3PosQ_spec _ _ _ _ _

theorem step3_neg (mant exp : Nat) (h : ¬ decodeE2 exp ≥ 0) :
    (step3 mant exp).vr = mulShift64 (mvOf (decodeM2 mant exp)) (mulOf exp) (shiftOf exp) ∧
    (step3 mant exp).vm = mulShift64 (mmOf (decodeM2 mant exp) (mmShiftOf mant exp)) (mulOf exp) (shiftOf exp) ∧
    (step3 mant exp).e10 = e10Of exp ∧
    NegFlags (qOf exp) (mmShiftOf mant exp) (mvOf (decodeM2 mant exp))
      (step3 mant exp).vp (mulShift64 (mpOf (decodeM2 mant exp)) (mulOf exp) (shiftOf exp))
      (acceptBoundsOf mant exp) (step3 mant exp).vmIsTrailingZeros (step3 mant exp).vrIsTrailingZeros := by
  unfold mulOf shiftOf e10Of
  rw [step3_neg_eq mant exp h, if_neg h, if_neg h, if_neg h]
  exact step3NegQ_spec _ _ _ _ _

/-- what step 3 returns: `vr` and `vm` are the `mulShift64` results, `vp` is the `mulShift64` result or one less -/
theorem step3_fields (mant exp : Nat) :
    (step3 mant exp).vr = mulShift64 (mvOf (decodeM2 mant exp)) (mulOf exp) (shiftOf exp) ∧
    (step3 mant exp).vm = mulShift64 (mmOf (decodeM2 mant exp) (mmShiftOf mant exp)) (mulOf exp) (shiftOf exp) ∧
    ((step3 mant exp).vp = mulShift64 (mpOf (decodeM2 mant exp)) (mulOf exp) (shiftOf exp) ∨
     (step3 mant exp).vp = subU64 (mulShift64 (mpOf (decodeM2 mant exp)) (mulOf exp) (shiftOf exp)) 1) ∧
    (step3 mant exp).e10 = e10Of exp := by
  by_cases h : decodeE2 exp ≥ 0
  · obtain ⟨f1, f2, f3, -, -, f6, f7⟩ := step3_pos mant exp h
    exact ⟨f1, f2, Classical.or_iff_not_imp_left.mpr fun hne => f7 (f6 hne), f3⟩
  · obtain ⟨f1, f2, f3, -, -, f6, f7⟩ := step3_neg mant exp h
    exact ⟨f1, f2, Classical.or_iff_not_imp_left.mpr fun hne => f7 (f6 hne), f3⟩

/-- `D ≤ N < 100·D`, and `10·D ≤ N` unless `q = 0` (`D = 1`): at least one and fewer than three digits are to be removed -/
theorem scale_bounds (exp : Nat) (he : exp < 2048) :
    0 < scaleDen exp ∧ scaleDen exp ≤ scaleNum exp ∧ scaleNum exp < 100 * scaleDen exp ∧
    (scaleDen exp = 1 ∨ 10 * scaleDen exp ≤ scaleNum exp) := by
  by_cases h : 1077 ≤ exp
  · obtain ⟨-, -, hN, hD, -, -, a, b, c⟩ := scale_pos exp h he
    rw [hN, hD]
    exact ⟨Nat.pow_pos (by decide), a, b, c.imp (fun h0 => by rw [h0]) id⟩
  · obtain ⟨i, -, -, -, -, hN, hD, -, -, a, b, c⟩ := scale_neg exp (by omega)
    rw [hN, hD]
    exact ⟨Nat.pow_pos (by decide), a, b, c.imp (fun h0 => by rw [h0]) id⟩

theorem scale_facts (exp : Nat) (he : exp < 2047) :
    0 < scaleDen exp ∧ scaleDen exp ≤ scaleNum exp ∧ scaleNum exp < 100 * scaleDen exp ∧
    (scaleDen exp = 1 ∨ 10 * scaleDen exp ≤ scaleNum exp) :=
  scale_bounds exp (by omega)


/-- `⌊(C−1)/D⌋` is `⌊C/D⌋ − 1` if `D ∣ C` and `⌊C/D⌋` otherwise -/
theorem pred_div (C D : Nat) (hC : 0 < C) :
    (D ∣ C → (C - 1) / D = C / D - 1) ∧ (¬ D ∣ C → (C - 1) / D = C / D) := by
  obtain ⟨c, rfl⟩ : ∃ c, C = c + 1 := ⟨C - 1, by omega⟩
  exact ⟨fun h => by rw [Nat.succ_div_of_dvd h]; rfl, fun h => by rw [Nat.succ_div_of_not_dvd h]; rfl⟩

/-- the last-digit form of "`vp` is the floor of the upper end" from the raw floor and a sound decrement -/
theorem vp_last_digit (C D vp raw : Nat) (incl : Bool) (hD : 0 < D) (hC : 0 < C) (hraw : raw = C / D)
    (hraw64 : raw < 2 ^ 64)
    (hvp : vp = raw ∨ vp = subU64 raw 1)
    (hkeep : vp = raw → incl = false → D ∣ C → ¬ 10 ∣ C / D)
    (hdec : vp = subU64 raw 1 → vp ≠ raw → incl = false ∧ D ∣ C) :
    vp / 10 = hiEnd C incl / D / 10 := by
  obtain ⟨p1, p2⟩ := pred_div C D hC
  by_cases hvr : vp = raw
  · cases hi : incl with
    | true => rw [hvr, hraw]; unfold hiEnd; simp
    | false =>
      have hE : hiEnd C false = C - 1 := by unfold hiEnd; simp
      rw [hE, hvr, hraw]
      by_cases hd : D ∣ C
      · have h10 := hkeep hvr hi hd
        rw [p1 hd]
        rw [Nat.dvd_iff_mod_eq_zero] at h10
        omega
      · rw [p2 hd]
  · have hv2 : vp = subU64 raw 1 := by
      rcases hvp with h | h
      · exact (hvr h).elim
      · exact h
    obtain ⟨hi, hd⟩ := hdec hv2 hvr
    have hE : hiEnd C incl = C - 1 := by unfold hiEnd; rw [hi]; simp
    have hc1 : 1 ≤ C / D := Nat.div_pos (Nat.le_of_dvd hC hd) hD
    rw [hE, p1 hd, hv2, hraw]
    have : subU64 (C / D) 1 = C / D - 1 := by
      unfold subU64; rw [← hraw] at hc1 ⊢; omega
    rw [this]


/-- what the scale means: `scaleNum / scaleDen = 2^e2 / 10^e10`, an integer power `B^e` written as the fraction
`B^e.toNat / B^(-e).toNat` (for `e2 ≥ 0`: `2^e2 / 10^q`; for `e2 < 0`: `5^i / 2^q` with `e2 = −(i + q)`, `e10 = −i`) -/
theorem scale_meaning (exp : Nat) (he : exp < 2047) :
    scaleNum exp * 2 ^ (-decodeE2 exp).toNat * 10 ^ (e10Of exp).toNat =
      scaleDen exp * 2 ^ (decodeE2 exp).toNat * 10 ^ (-e10Of exp).toNat := by
  by_cases h : 1077 ≤ exp
  · obtain ⟨he2, he10, hN, hD, -⟩ := scale_pos exp h (by omega)
    rw [he2, he10, hN, hD, Int.toNat_natCast, Int.toNat_natCast, Int.toNat_neg_natCast, Int.toNat_neg_natCast,
      Nat.mul_one, Nat.mul_one, Nat.mul_comm]
  · obtain ⟨i, -, -, he2, he10, hN, hD, -⟩ := scale_neg exp (by omega)
    rw [he2, he10, hN, hD, Int.neg_neg, Int.neg_neg, Int.toNat_natCast, Int.toNat_natCast, Int.toNat_neg_natCast,
      Int.toNat_neg_natCast, Nat.mul_one, Nat.mul_one, Nat.pow_add, show (10 : Nat) = 5 * 2 from rfl, Nat.mul_pow,
      Nat.mul_comm (2 ^ qOf exp), Nat.mul_assoc]

/-- the significand and the three factors `mv`, `mp`, `mm` of a finite non-zero float, without machine arithmetic -/
theorem factors (mant exp : Nat) (hm : mant < 2 ^ 52) (hnz : mant ≠ 0 ∨ exp ≠ 0) :
    1 ≤ decodeM2 mant exp ∧ decodeM2 mant exp < 2 ^ 53 ∧ mmShiftOf mant exp ≤ 1 ∧
    mvOf (decodeM2 mant exp) = 4 * decodeM2 mant exp ∧ mpOf (decodeM2 mant exp) = 4 * decodeM2 mant exp + 2 ∧
    mmOf (decodeM2 mant exp) (mmShiftOf mant exp) = 4 * decodeM2 mant exp - 1 - mmShiftOf mant exp := by
  obtain ⟨hm1, hm2⟩ := decodeM2_range mant exp hm hnz
  have hs := mmShiftOf_le mant exp
  exact ⟨hm1, hm2, hs, (mv_mp_eq _ hm2).1, (mv_mp_eq _ hm2).2, mm_eq _ _ (by omega) hm2 hs⟩

/-- the exact upper product `⌊mp·N/D⌋` is a positive 64-bit number -/
theorem mp_scaled_bounds (mant exp : Nat) (hm : mant < 2 ^ 52) (he : exp < 2047) (hnz : mant ≠ 0 ∨ exp ≠ 0) :
    1 ≤ mpOf (decodeM2 mant exp) * scaleNum exp / scaleDen exp ∧
    mpOf (decodeM2 mant exp) * scaleNum exp / scaleDen exp < 2 ^ 64 := by
  obtain ⟨-, hm2, -, -, emp, -⟩ := factors mant exp hm hnz
  obtain ⟨hD, hDN, hN, -⟩ := scale_facts exp he
  have hmp : 0 < mpOf (decodeM2 mant exp) := by omega
  constructor
  · exact Nat.div_pos (Nat.le_trans hDN (Nat.le_mul_of_pos_left _ hmp)) hD
  · have h3 : mpOf (decodeM2 mant exp) * scaleNum exp / scaleDen exp < mpOf (decodeM2 mant exp) * 100 := by
      rw [Nat.div_lt_iff_lt_mul hD, Nat.mul_assoc]
      exact (Nat.mul_lt_mul_left hmp).mpr hN
    omega

end QF.Props.C16Core
