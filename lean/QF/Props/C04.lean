import QF.Props.Tie
import QF.Core.GrouperMain
/-!
# C04 — GroupBy partitions the rows by key

Mirror: `G.groupBy` follows internal/grouper/grouper.go (open addressing, probe from
`hash & mask`, match on stored hash ∧ key equality, growth by stored hash when the load
factor is exceeded, groups collected in slot order).

`groupBy_partition`: for **every** hash function and every key relation that is an
equivalence respected by the hash (`KeyRel`), and every duplicate-free index: the probe
never runs out of fuel (no hang), every group is exactly one key class in frame order,
every row is in some group, and different groups are disjoint and key-different. Holds
for every table size, growth step and collision pattern.
-/
namespace QF.Props.C04

theorem groupBy_partition (hash : Nat → Nat) (eqv : Nat → Nat → Bool) (kr : G.KeyRel hash eqv)
    (ix : List Nat) (hnd : ix.Nodup) :
    ∃ gs, G.groupBy { } hash eqv ix = some gs ∧
      (∀ g, g ∈ gs → ∃ f, f ∈ ix ∧ g = List.filter (G.cls eqv f) ix) ∧
      (∀ j, j ∈ ix → ∃ g, g ∈ gs ∧ j ∈ g) ∧
      ∀ g1 g2, g1 ∈ gs → g2 ∈ gs → g1 ≠ g2 → ∀ a, a ∈ g1 → ∀ b, b ∈ g2 → a ≠ b ∧ eqv a b = false :=
  G.groupBy_partition hash eqv kr ix hnd

-- No function of this property is tied by its source text (the list below is empty). Each is regenerated on every run and a
-- behaviour-changing edit makes a `gen_*_canon` theorem fail (checked by bin/selftest-ties); renaming locals or reformatting changes nothing.
-- `maxLoadFactor`, `growthFactor`, `calculateInitialSizeExp`, `newTable`, `table.grow`, `table.hash`, `table.insertEntry`, `equals`, `groupIndex`, `GroupBy`, `Distinct`:
-- `Gen.grouperFns` (grpast.go, the constants are folded into the terms), programs of `QF.GL` proved equal to the mirror `G` for all inputs:
-- `C04GrouperGen.gen_grouper_canon` (module C04GrouperCanon) + `C04GrouperGen.gen_grouper_semantics` (corollary `gen_groupBy_partition`: the theorem above for the regenerated code).
-- The `Hash` functions of the column packages and the built-in aggregations: `C04Hash` (equal keys hash equal) and `C04Aggregations` (= the spec's functions).
-- `QFrame.GroupBy`, `Grouper.QFrames` and the glue of `Aggregate`: `Gen.groupByAst` / `qframesAst` / `aggregateGlueAst` (C04GlueGen, `C04GlueLink.gen_groupby_partition`).
-- The helpers `QFrame.comparables` / `QFrame.orders` that build the key comparables: `Gen.comparablesAst` / `Gen.ordersAst` (sortgast.go), statement by statement,
-- `C03SortGlueGen.gen_comparables_semantics` / `gen_comparables_of_names` (one comparable per named column, in order, the SAME Null flag for all).
theorem tie : Tie.sameAll [] = true := by decide

/-- The load factor and growth factor of the table in today's source: the probe terminates because the table is
never full (`maxLoadFactor < 1`) and growth doubles the size. -/
theorem gen_table_constants :
    Gen.consts.lookup "grouper.maxLoadFactor" = some "0.5" ∧ Gen.consts.lookup "grouper.growthFactor" = some "2" := by decide

end QF.Props.C04
