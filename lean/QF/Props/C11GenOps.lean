import QF.Props.C11
import QF.Props.C01GenOps
/-!
# C11 — concurrent use of the REGENERATED operations

`QF.Props.C11.ops_interleaving_deterministic` is about the nine hand models of C01Ops. Here the threads are the programs of
RUNS OF TODAY'S REGENERATED CODE (`QF.Props.C01GenOps.GRun.prog`: the effect summary of the run of the regenerated term —
which existing arrays it reads, which arrays it allocates, every write of its log / write counter), all started together on
the same shared store:

* `gen_ops_interleaving_deterministic` — any number of regenerated runs (`Slice`, `Select`, `Drop`, `Copy` with their guard
  chains, the work of `setColumn`, `Sort`, `Distinct`, the functions of internal/index and `grouper.Distinct`, the built-in
  `ToUpper` of string and enum columns, `ecolumn.Subset`, the loops of `Apply1` / `Apply2` / `apply0`, and — through the
  static check `writesOnlyFresh` of their terms (C01FreshCL, C01FreshGL: their programs are DEFINED from its verdict) —
  `Filter`, `GroupBy`, the table of `Distinct`, `Aggregate`, `FilteredApply` / `WithRowNums`: ALL public operations), under EVERY schedule: the shared store is never written, every
  write event targets an array the writing thread allocated itself (no thread writes an array another thread can reach: the
  others reach only the shared arrays and their own), and each thread is where it is after the same number of its own steps
  run alone.
* `ops_interleaving_deterministic_partial` — the same when some threads are hand models of C01Ops (`AnyOp.hand`); every
  operation also has a constructor of `GRun`, so the statement above is the one about the code.
* `witness_*_thread`: a thread running `setColumn` with `append` onto the shared column list, `Sort` sorting the receiver's
  index in place, or the enum `toUpper` with `newData := s.data[:0]` is not admitted (its program is not `OwnWrites`), and
  under a schedule it writes the shared store.

Not exhibited by the model (observed only: race detector, section `conc`): the Go memory model (visibility and atomicity of
the individual loads and stores), the `unsafe` string views over the byte blobs, the lock inside math/rand, the runtime's map.
-/
set_option linter.unusedVariables false
namespace QF.Props.C11GenOps
open H QF QF.Props.C01 QF.Props.C01GenOps QF.Props.C08ProjectGen

/-- **C11 from the regenerated code — FULL: every public operation is a constructor of `GRun`.** Threads = runs of today's
regenerated operations, each with its own heap, directory, receiver and arguments; `sh` the shared store (`base` arrays);
`σ` any schedule. -/
theorem gen_ops_interleaving_deterministic (C : Enc) (base : Nat) (σ : List Nat) (sh : Store) (runs : List GRun) :
    let ts : List (Thread Unit) := runs.map (fun r => { prog := r.prog C })
    (runSched base σ sh ts).fst = sh ∧
      (∀ (i : Nat) (t : Thread Unit), ts[i]? = some t →
          (runSched base σ sh ts).snd.fst[i]? = some (alone base sh (count i σ) t)) ∧
        ∀ (i : Nat) (id : Id), (i, Ev.write id) ∈ (runSched base σ sh ts).snd.snd → base ≤ id :=
  H.interleaving_deterministic base σ sh _ (own_threads (gen_run_own_writes C) base runs)

/-- Threads are regenerated runs (`AnyOp.gen`) or hand models of C01Ops (`AnyOp.hand`). The full statement — the threads are runs
of the regenerated code of ALL public operations — is `gen_ops_interleaving_deterministic` above. -/
theorem ops_interleaving_deterministic_partial (C : Enc) (base : Nat) (σ : List Nat) (sh : Store) (ops : List AnyOp) :
    let ts : List (Thread Unit) := ops.map (fun o => { prog := o.prog C })
    (runSched base σ sh ts).fst = sh ∧
      (∀ (i : Nat) (t : Thread Unit), ts[i]? = some t →
          (runSched base σ sh ts).snd.fst[i]? = some (alone base sh (count i σ) t)) ∧
        ∀ (i : Nat) (id : Id), (i, Ev.write id) ∈ (runSched base σ sh ts).snd.snd → base ≤ id :=
  H.interleaving_deterministic base σ sh _ (own_threads (any_op_own_writes C) base ops)

/-! ## A concrete instance -/

/-- today's `Sort`, `Copy("c", "a")` and `Select("b", "a")` on the same receiver, the enum `ToUpper` -/
def exThreads : List GRun :=
  [.op exSort exH exDir, .op exCopy exH exDir, .op exSelect exH exDir, .eupper upW enumW (by decide) 0 1]

def exSched : List Nat := [0, 1, 2, 0, 1, 3, 0, 0, 2, 1, 0, 3, 0, 1, 2, 0, 2, 1, 3, 3, 1, 2, 1, 2, 1, 2, 2, 1, 2, 1, 2, 1, 2, 2, 2, 1, 1]

/-- instance of the theorem -/
example : (runSched 3 exSched exStore (exThreads.map fun r => ({ prog := r.prog exEnc } : Thread Unit))).fst = exStore :=
  (gen_ops_interleaving_deterministic exEnc 3 exSched exStore exThreads).1

/-- by evaluation (the three projection threads): they really run interleaved, allocate and write — `Sort` (thread 0) its copy
of the index, twice; `Copy` (thread 1) and `Select` (thread 2) their column lists and maps — all in private arrays (ids ≥ 3) -/
example : ((runSched 3 exSched exStore ((exThreads.take 3).map fun r => ({ prog := r.prog exEnc } : Thread Unit))).snd.snd.filter
      fun e => match e.2 with | .write _ => true | _ => false) =
    [(0, .write 3), (0, .write 3), (1, .write 3), (1, .write 4), (2, .write 4), (2, .write 3), (1, .write 4), (2, .write 4),
     (1, .write 3), (2, .write 3)] := by
  decide +kernel

/-- `Filter`, `GroupBy` and the table of `Distinct` of today's source as threads on the same receiver, next to `Sort` -/
def exThreads2 : List GRun :=
  [.filter CL.LeafCalls.ofLeaf exLeafClause { index := [2, 0, 1] } 0 1, .groupBy 64 [C01FreshGL.exCmp] [2, 0, 1] 0 1,
   .op exSort exH exDir, .distinctTable 64 [C01FreshGL.exCmp] [2, 0, 1] 0 1]

example : (runSched 3 exSched exStore (exThreads2.map fun r => ({ prog := r.prog exEnc } : Thread Unit))).fst = exStore :=
  (gen_ops_interleaving_deterministic exEnc 3 exSched exStore exThreads2).1

/-- by evaluation: `Filter` (thread 0) writes its mask and its result index, `GroupBy` (thread 1) its two groups and the group
list, all private (ids ≥ 3) -/
example : ((runSched 3 [0, 1, 0, 1, 0, 1, 0, 1, 0, 1, 0, 1, 1, 1, 1] exStore ((exThreads2.take 2).map fun r => ({ prog := r.prog exEnc } : Thread Unit))).snd.snd.filter
      fun e => match e.2 with | .write _ => true | _ => false) =
    [(0, .write 3), (1, .write 3), (0, .write 4), (1, .write 4), (1, .write 5)] := by
  -- the two static checks by their theorems; left to evaluate: the two runs and the schedule
  simp only [exThreads2, List.take, List.map, GRun.prog, C01GenOps.filterProg, filterEff, C01GenOps.groupByProg, groupByEff, freshEff,
    clausesOK_today, grouperOK_today]
  decide +kernel

/-! ## Witnesses: the mutated operations as threads -/

/-- the events of a schedule that write the shared region -/
def sharedWrites (base : Nat) (evs : List (Nat × Ev)) : List (Nat × Ev) :=
  evs.filter fun e => match e.2 with | .write id => decide (id < base) | _ => false

/-- under `exDir`, a heap with one array of each kind (`exH`, `exHcap`) has all of them below store id 3 -/
theorem exDir_lt (h : Heap) (hl : ∀ k, oldLen h k = 1) : ∀ k id, id < oldLen h k → exDir k id < 3 := by
  intro k id hid
  obtain rfl : id = 0 := by rw [hl k] at hid; omega
  cases k <;> decide

/-- a Filter that compacts into the receiver's index, as a thread: not admitted, and it writes the shared index (store id 0) -/
theorem witness_filter_in_place_thread :
    ¬ (filterEff ((CL.FnId.leaves, C01FreshCL.leavesInPlace) :: Gen.clauseFns) CL.LeafCalls.ofLeaf exLeafClause { index := [2, 0, 1] } 0 1).prog.OwnWrites 3 ∧
    sharedWrites 3 (runSched 3 [0, 1, 0, 1, 0, 1, 0, 1, 0, 1, 0, 1, 1, 1] exStore
      [{ prog := (filterEff ((CL.FnId.leaves, C01FreshCL.leavesInPlace) :: Gen.clauseFns) CL.LeafCalls.ofLeaf exLeafClause { index := [2, 0, 1] } 0 1).prog },
       { prog := exSort.prog exEnc exDir exH }]).snd.snd = [(0, .write 0)] :=
  ⟨(witness_filter_in_place _ _ _ 0 1 3 (by decide)).2, by decide +kernel⟩

/-- `setColumn` with `append(qf.columns, …)` next to today's `Select`, on a column list with spare capacity: not admitted,
and thread 0 writes the shared column list (store id 1) -/
theorem witness_setColumn_append_thread :
    ¬ (pfEff exEnc exDir capEnv exHcap (setColumnAppendShared.run capEnv exHcap)).prog.OwnWrites 3 ∧
    sharedWrites 3 (runSched 3 [0, 1, 0, 1, 0, 1, 0, 1, 0, 1, 0, 1, 0, 0, 0] [[2, 0, 1], [0, 1, 0], [2]]
      [{ prog := (pfEff exEnc exDir capEnv exHcap (setColumnAppendShared.run capEnv exHcap)).prog },
       { prog := exSelect.prog exEnc exDir exH }]).snd.snd = [(0, .write 1)] :=
  ⟨(witness_setColumn_append exEnc exDir 3 (exDir_lt exHcap fun k => by cases k <;> rfl)).2, by decide +kernel⟩

/-- `Sort` sorting the receiver's index in place next to today's `Sort`: thread 0 writes the shared index (store id 0) -/
theorem witness_sort_in_place_thread :
    ¬ (pfEff exEnc exDir (genEnv exX exF) exH (sortInPlace.run (genEnv exX exF) exH)).prog.OwnWrites 3 ∧
    sharedWrites 3 (runSched 3 [0, 1, 0, 1, 0, 1, 0, 1, 0, 1, 0, 1, 1, 1] exStore
      [{ prog := (pfEff exEnc exDir (genEnv exX exF) exH (sortInPlace.run (genEnv exX exF) exH)).prog },
       { prog := exSort.prog exEnc exDir exH }]).snd.snd = [(0, .write 0)] :=
  ⟨(witness_sort_in_place exEnc exDir 3 (exDir_lt exH fun k => by cases k <;> rfl)).2, by decide +kernel⟩

/-- the enum `toUpper` with `newData := s.data[:0]` as a thread over the column's `data` (store id 0) -/
theorem witness_eupper_reuse_data_thread :
    ¬ (eupperEff exEnc 0 1 (QF.Props.C06FApplyGen.eupperReuseData.run upW enumW)).prog.OwnWrites 2 ∧
    sharedWrites 2 (runSched 2 [0, 0, 0, 0, 0, 0, 0] [[0, 1, 255, 2], [1, 1, 1]]
      [{ prog := (eupperEff exEnc 0 1 (QF.Props.C06FApplyGen.eupperReuseData.run upW enumW)).prog }]).snd.snd =
      [(0, .write 0)] :=
  ⟨witness_eupper_reuse_data exEnc 0 1 2 (by decide), by decide +kernel⟩

#print axioms gen_ops_interleaving_deterministic
#print axioms ops_interleaving_deterministic_partial
#print axioms witness_filter_in_place_thread
#print axioms witness_setColumn_append_thread
#print axioms witness_sort_in_place_thread
#print axioms witness_eupper_reuse_data_thread

end QF.Props.C11GenOps
