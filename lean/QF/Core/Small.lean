/-! Three small mirrors with their algebraic lemmas: string pointer packing (C08), the enum bitset (C17; the regenerated methods
    are proved equal to it in C17EnumRestGen), a `Column.Scan` state machine on text values (C19.lean `scan_text` only).
    Kernel-only bit reasoning, no `bv_decide`: the pointer as the sum of its fields (`newPointer_eq`), the bitset by extensionality over
    `Nat.testBit`. -/
namespace Small

/-! ### internal/strings/pointer.go (on Nat; `C08PointerGen.gen_pointer_semantics` links the regenerated Go terms to these) -/
def newPointer (offset length : Nat) (isNull : Bool) : Nat :=
  (offset <<< 28 ||| length) ||| (if isNull then 2 ^ 63 else 0)
def pOffset (p : Nat) : Nat := (p >>> 28) &&& (2 ^ 35 - 1)
def pLen (p : Nat) : Nat := p &&& (2 ^ 28 - 1)
def pIsNull (p : Nat) : Bool := p.testBit 63          -- `p & nullBit > 0`

/-- the packed word as a sum: on arguments of the widths the masks give, the three fields do not overlap -/
theorem newPointer_eq {offset length : Nat} (isNull : Bool) (ho : offset < 2 ^ 35) (hl : length < 2 ^ 28) :
    newPointer offset length isNull = offset * 2 ^ 28 + length + (if isNull then 2 ^ 63 else 0) := by
  have h : offset <<< 28 ||| length = offset * 2 ^ 28 + length := by
    rw [← Nat.shiftLeft_add_eq_or_of_lt hl, Nat.shiftLeft_eq]
  unfold newPointer
  rw [h]
  cases isNull
  · simp
  · exact Nat.or_two_pow_eq_add_of_lt (by omega)

theorem pointer_roundtrip (offset length : Nat) (isNull : Bool) (ho : offset < 2 ^ 35) (hl : length < 2 ^ 28) :
    pOffset (newPointer offset length isNull) = offset ∧
    pLen (newPointer offset length isNull) = length ∧
    pIsNull (newPointer offset length isNull) = isNull := by
  -- shift, masks and the bit test as `/`, `%` on the sum
  rw [newPointer_eq isNull ho hl, pOffset, pLen, pIsNull, Nat.shiftRight_eq_div_pow, Nat.and_two_pow_sub_one_eq_mod,
    Nat.and_two_pow_sub_one_eq_mod, Nat.testBit_eq_decide_div_mod_eq]
  cases isNull <;> simp only [Bool.false_eq_true, if_false, if_true, decide_eq_false_iff_not, decide_eq_true_eq] <;> omega

/-! ### internal/ecolumn/bitset.go: [4]uint64 -/
abbrev BitSet := Nat × Nat × Nat × Nat
def word (s : BitSet) (k : Nat) : Nat := match k with | 0 => s.1 | 1 => s.2.1 | 2 => s.2.2.1 | _ => s.2.2.2
def setWord (s : BitSet) (k : Nat) (w : Nat) : BitSet :=
  match k with | 0 => (w, s.2) | 1 => (s.1, w, s.2.2) | 2 => (s.1, s.2.1, w, s.2.2.2) | _ => (s.1, s.2.1, s.2.2.1, w)
def bsSet (s : BitSet) (v : Nat) : BitSet := setWord s (v >>> 6) (word s (v >>> 6) ||| (1 <<< (v &&& 0x3F)))
def bsIsSet (s : BitSet) (v : Nat) : Bool := (word s (v >>> 6) &&& (1 <<< (v &&& 0x3F))) != 0

theorem and_two_pow (x k : Nat) : x &&& 2 ^ k = if x.testBit k then 2 ^ k else 0 := by
  apply Nat.eq_of_testBit_eq
  intro j
  rw [Nat.testBit_and, Nat.testBit_two_pow]
  by_cases hj : k = j
  · subst hj; cases x.testBit k <;> simp
  · cases x.testBit k <;> simp [hj]

theorem and_one_shift (x k : Nat) : (x &&& (1 <<< k) != 0) = x.testBit k := by
  rw [Nat.one_shiftLeft, and_two_pow]
  cases x.testBit k <;> simp

theorem word_setWord (s : BitSet) (k k' w : Nat) (hk : k < 4) (hk' : k' < 4) :
    word (setWord s k w) k' = if k' = k then w else word s k' := by
  have : k = 0 ∨ k = 1 ∨ k = 2 ∨ k = 3 := by omega
  have : k' = 0 ∨ k' = 1 ∨ k' = 2 ∨ k' = 3 := by omega
  rcases ‹k = 0 ∨ k = 1 ∨ k = 2 ∨ k = 3› with rfl | rfl | rfl | rfl <;>
    rcases ‹k' = 0 ∨ k' = 1 ∨ k' = 2 ∨ k' = 3› with rfl | rfl | rfl | rfl <;> rfl

/-- C17: set/isSet behave like a set of ranks below 256 -/
theorem bitset_spec (s : BitSet) (v w : Nat) (hv : v < 256) (hw : w < 256) :
    bsIsSet (bsSet s v) w = (decide (w = v) || bsIsSet s w) := by
  unfold bsIsSet bsSet
  have h6 : v >>> 6 < 4 := by rw [Nat.shiftRight_eq_div_pow]; omega
  have h6' : w >>> 6 < 4 := by rw [Nat.shiftRight_eq_div_pow]; omega
  rw [word_setWord s _ _ _ h6 h6', and_one_shift, and_one_shift]
  have hvm : v &&& 0x3F = v % 64 := by
    have := Nat.and_two_pow_sub_one_eq_mod v 6; simpa using this
  have hwm : w &&& 0x3F = w % 64 := by
    have := Nat.and_two_pow_sub_one_eq_mod w 6; simpa using this
  rw [hvm, hwm]
  by_cases hk : w >>> 6 = v >>> 6
  · simp only [hk, ↓reduceIte, Nat.testBit_or]
    rw [Nat.one_shiftLeft, Nat.testBit_two_pow]
    rw [Nat.shiftRight_eq_div_pow, Nat.shiftRight_eq_div_pow] at hk
    by_cases e : w = v
    · subst e; simp
    · have : ¬ v % 64 = w % 64 := by omega
      simp [e, this]
  · simp only [hk, ↓reduceIte]
    have : ¬ w = v := by intro e; subst e; exact hk rfl
    simp [this]

#print axioms pointer_roundtrip
#print axioms bitset_spec

namespace Sql
/-! ### internal/io/sql/column.go: Scan state machine -/
inductive V | int (i : Int) | float (f : Nat) | bool (b : Bool) | str (s : String) | null
deriving DecidableEq, Repr
inductive Kind | invalid | int | float | bool | str deriving DecidableEq, Repr
/-- cells as stored: NaN / nil pointer are `none` -/
structure Col where
  kind : Kind := .invalid
  nulls : Nat := 0
  ints : List Int := []
  floats : List (Option Nat) := []
  bools : List Bool := []
  strs : List (Option String) := []
deriving Repr

def scan (c : Col) (v : V) : Option Col :=
  match v with
  | .int i => some (if c.kind = .invalid then { c with kind := .int, ints := c.ints ++ [i] } else { c with ints := c.ints ++ [i] })
  | .bool b => some (if c.kind = .invalid then { c with kind := .bool, bools := c.bools ++ [b] } else { c with bools := c.bools ++ [b] })
  | .float f =>
    some (if c.kind = .invalid then
        { c with kind := .float, floats := c.floats ++ List.replicate c.nulls none ++ [some f], nulls := 0 }
      else { c with floats := c.floats ++ [some f] })
  | .str s =>
    some (if c.kind = .invalid then
        { c with kind := .str, strs := c.strs ++ List.replicate c.nulls none ++ [some s], nulls := 0 }
      else { c with strs := c.strs ++ [some s] })
  | .null =>
    match c.kind with
    | .invalid => some { c with nulls := c.nulls + 1 }
    | .float => some { c with floats := c.floats ++ [none] }
    | .str => some { c with strs := c.strs ++ [none] }
    | _ => none            -- "non-nullable type"

def scanAll (vs : List V) : Option Col := vs.foldlM scan {}

/-- a text column: every value is a string or NULL -/
def isStrOrNull : V → Bool | .str _ => true | .null => true | _ => false
def toStrCell : V → Option String | .str s => some s | _ => none

/-- what the column holds after the values `pre`: only a count while all of them were NULL (they are back-filled at the first
string), then the text cells -/
def Reads (c : Col) (pre : List V) : Prop :=
  (c.kind = .invalid ∧ c.strs = [] ∧ pre = List.replicate c.nulls .null) ∨ (c.kind = .str ∧ c.strs = pre.map toStrCell)

theorem Reads.scan {c : Col} {pre : List V} (h : Reads c pre) {v : V} (hv : isStrOrNull v = true) :
    ∃ c', scan c v = some c' ∧ Reads c' (pre ++ [v]) := by
  rcases h with ⟨hk, hs, rfl⟩ | ⟨hk, hs⟩ <;> cases v <;> simp [isStrOrNull] at hv <;>
    simp only [Sql.scan, hk, reduceCtorEq, if_true, if_false] <;> refine ⟨_, rfl, ?_⟩
  · exact .inr ⟨rfl, by simp [hs, toStrCell]⟩
  · exact .inl ⟨rfl, hs, List.replicate_succ'.symm⟩
  · exact .inr ⟨rfl, by simp [hs, toStrCell]⟩
  · exact .inr ⟨rfl, by simp [hs, toStrCell]⟩

theorem Reads.foldlM : ∀ (vs : List V) {c : Col} {pre : List V}, Reads c pre → (∀ v ∈ vs, isStrOrNull v = true) →
    ∃ c', vs.foldlM Sql.scan c = some c' ∧ Reads c' (pre ++ vs)
  | [], c, pre, h, _ => ⟨c, rfl, by simpa using h⟩
  | v :: vs, c, pre, h, hall => by
    obtain ⟨c1, h1, hr⟩ := h.scan (hall v (by simp))
    obtain ⟨c', h2, hr'⟩ := Reads.foldlM vs hr fun w hw => hall w (by simp [hw])
    exact ⟨c', by rw [List.foldlM_cons, h1]; exact h2, by simpa using hr'⟩

/-- C19: scanning a text column with NULLs anywhere (also leading) reproduces the sequence -/
theorem scan_text (vs : List V) (hall : ∀ v ∈ vs, isStrOrNull v = true) (hsome : ∃ v ∈ vs, v ≠ .null) :
    ∃ c, scanAll vs = some c ∧ c.kind = .str ∧ c.strs = vs.map toStrCell := by
  obtain ⟨c, hc, ⟨_, _, e⟩ | ⟨hk, hs⟩⟩ := Reads.foldlM vs (c := {}) (pre := []) (.inl ⟨rfl, rfl, rfl⟩) hall
  · -- still counting: every value was NULL
    obtain ⟨v, hv, hne⟩ := hsome
    rw [List.nil_append] at e
    rw [e] at hv
    exact absurd (List.eq_of_mem_replicate hv) hne
  · exact ⟨c, hc, hk, by simpa using hs⟩

#print axioms scan_text
end Sql
end Small
