import QF.Core.LExpr
/-!
# FA / SU / EU — the languages of the REST of Apply: `FilteredApply`, `WithRowNums` and the two built-in `toUpper`

    func (qf QFrame) FilteredApply(clause FilterClause, instructions ...Instruction) QFrame      -- /repo/qframe.go
    func (qf QFrame) WithRowNums(colName string) QFrame
    func toUpper(ix index.Int, source Column) interface{}                                        -- /repo/internal/scolumn
    func toUpper(_ index.Int, s Column) interface{}                                              -- /repo/internal/ecolumn
    "ToUpper": toUpper  in the package-level maps `Column.Apply1` consults for a `string` function value

go/cmd/extract/faast.go translates these bodies, statement by statement, into terms of the three small languages below
and writes them to `QF/Gen/FApply.lean` on every run. Terms name things by ROLE, never by identifier.

## Part A — frames as VALUES (`FAFr`, `FAStm`)

`FilteredApply` and `WithRowNums` do no work on cells: they call `Filter` and `Apply` on frame values, copy a frame value
(`newQf := qf`: Go copies the struct — three slice / map headers and the error) and assign ONE field of the copy
(`newQf.index = filteredQf.index`). Roles: `recv` the receiver, `loc n` the `n`-th local of type `QFrame` in order of
declaration; the index field is found by its TYPE in `type QFrame struct` (`index.Int`), `Err` by the type `error`; the
clause and instruction parameters by their types; the `string` parameter is `FAName.param`. A function literal whose
only free variable is ONE local `int` declared in front of it with a constant value and used nowhere else is a
`FAFnLit.counter` (the variable becomes the state of the closure).

`runFA` is the meaning on frame values `XFr γ` (`γ`: whatever the column list and the name map are — the plumbing never
looks inside), with `Filter` and `Apply` as parameters of the environment: what THEY do is regenerated elsewhere
(clast.go / C02ClausesGen; gast.go + last.go / C10Guards, C06LoopsGen).

## Part B — `toUpper` of the string column (`SUFn`)

A string column is a pointer array into a byte blob (`BCol`, QF/Core/LExpr.lean). The term records how the two arrays of
the result come into being (`SUPtrInit`, `SUDataInit`: a FRESH allocation, or the source's own array / a prefix of it),
which cell is read per round of `for _, row := range ix` and the statements of the body. `SUFn.run` executes it on a
state that holds the SOURCE's two arrays as they are NOW: a store through a slice that aliases them changes them and
is counted (`writes`) — so "the source column is not written" (C01) is a statement about the run of today's term, and a
body that builds its data with `source.data[:0]` + `append` visibly breaks it. `ToUpper` of internal/strings is the
parameter `up` (C18UpperGen: the regenerated function = `encode ∘ map unicode.ToUpper` on valid UTF-8); its scratch buffer
must be a local allocation (`SUBuf.fresh`). Capacities of fresh allocations are not modelled (`make([]byte, 0, n)`: the
estimate `n` is a product of non-negative floats). A pointer IS the triple (offset, length, null) — exact below 2^35 /
2^28 (C08PointerGen `gen_pointer_roundtrip`).

## Part C — `toUpper` of the enum column (`EUFn`)

Works on the VALUE TABLE: one loop over `s.values` (upper-case, look up in a map, new code = number of values so far,
remember the mapping), a fast path that returns the source's `data` when no two values merged, else a second loop over
`s.data` that remaps every non-null code into a new array. Roles: the `[]string` local (`vals`), the `map[string]enumVal`
local, the first `[]enumVal` local (`mapping`), the second (`nd`), the string local, the `enumVal` local / range
variable (`reg`), `ok`. As in part B the source's `data` array is part of the state, so `newData := s.data[:0]` followed
by `append` is seen to overwrite it. The index parameter plays no role (`ixUsed`).
-/
namespace QF

/-! # Part A -/

/-- a name field of an instruction literal -/
inductive FAName where
  /-- the `string` parameter of the method -/
  | param
  | lit (s : String)
  /-- the field is left out (`""`) -/
  | unset
  deriving DecidableEq, Repr, Inhabited

/-- statements of a function literal over its one captured `int` variable `v` -/
inductive FACStm where
  /-- `v++` -/
  | inc
  /-- `v--` -/
  | dec
  /-- `return v` -/
  | ret
  | opaque (txt : String)
  deriving DecidableEq, Repr, Inhabited

inductive FAFnLit where
  /-- `v := init` in front of the call, used nowhere else; `func() res { body }` -/
  | counter (init : Int) (res : CType) (body : List FACStm)
  | opaque (txt : String)
  deriving DecidableEq, Repr, Inhabited

/-- `Instruction{Fn: …, DstCol: …, SrcCol1: …, SrcCol2: …}`, fields by name of the struct's fields' ROLES: the three
`string` fields in the order Apply's dispatch reads them (`QF.Gen.applyAst`), the function field -/
structure FAInstr where
  dst : FAName
  src1 : FAName
  src2 : FAName
  fn : FAFnLit
  deriving DecidableEq, Repr, Inhabited

/-- frame-valued expressions -/
inductive FAFr where
  | recv
  | loc (n : Nat)
  /-- `x.Filter(<the clause parameter>)` -/
  | filter (x : FAFr)
  /-- `x.Apply(<the instruction parameter>...)` -/
  | applyParam (x : FAFr)
  /-- `x.Apply(Instruction{…}, …)` -/
  | applyLits (x : FAFr) (is : List FAInstr)
  | opaque (txt : String)
  deriving DecidableEq, Repr, Inhabited

inductive FAStm where
  /-- `<a new local> := e` -/
  | decl (e : FAFr)
  /-- `<loc n> = e` -/
  | assign (n : Nat) (e : FAFr)
  /-- `<loc n>.index = src.index` -/
  | setIndex (n : Nat) (src : FAFr)
  /-- `if x.Err != nil { return r }` -/
  | retIfErr (x r : FAFr)
  | ret (e : FAFr)
  | opaque (txt : String)
  deriving DecidableEq, Repr, Inhabited

/-- A frame VALUE: the column list and name map (`cols`, never inspected here), the row index, `Err != nil`. -/
structure XFr (γ : Type) where
  cols : γ
  index : List Nat
  err : Bool

/-- An instruction VALUE: the three names as Go sees them (`[]` = `""`), the function value and the initial state of a
closure. -/
structure XInstr where
  dst : Bytes
  src1 : Bytes := []
  src2 : Bytes := []
  fn : LVal Int
  s0 : Int := 0

structure FAEnv (γ : Type) where
  recv : XFr γ
  /-- the `string` parameter -/
  colName : Bytes := []
  /-- `x.Filter(clause)` for the clause parameter -/
  filter : XFr γ → Option (XFr γ)
  /-- `x.Apply(instructions...)` for the instruction parameter -/
  applyParam : XFr γ → Option (XFr γ)
  /-- `x.Apply(i₁, …)` for instruction values -/
  applyLits : XFr γ → List XInstr → Option (XFr γ)

/-- the body of a counter closure on the value `v` of its variable: (what it returns, the variable afterwards) -/
def FACStm.run : List FACStm → Int → Option (Int × Int)
  | [], _ => none
  | .inc :: r, v => FACStm.run r (v + 1)
  | .dec :: r, v => FACStm.run r (v - 1)
  | .ret :: _, v => some (v, v)
  | .opaque _ :: _, _ => none

/-- the function value of a literal and the initial state of its variable -/
def FAFnLit.val : FAFnLit → Option (LVal Int × Int)
  | .counter init .int body =>
    if (FACStm.run body 0).isSome then
      some (.fn0 .int (fun v => match FACStm.run body v with | some (x, v') => (.int x, v') | none => (.int 0, v)), init)
    else none
  | _ => none

def FAName.val (colName : Bytes) : FAName → Bytes
  | .param => colName
  | .lit s => s.toUTF8.toList
  | .unset => []

def FAInstr.val (colName : Bytes) (i : FAInstr) : Option XInstr :=
  (i.fn.val).map (fun f => { dst := i.dst.val colName, src1 := i.src1.val colName, src2 := i.src2.val colName, fn := f.1, s0 := f.2 })

def FAFr.eval {γ : Type} (E : FAEnv γ) (locs : List (XFr γ)) : FAFr → Option (XFr γ)
  | .recv => some E.recv
  | .loc n => locs[n]?
  | .filter x => (x.eval E locs).bind E.filter
  | .applyParam x => (x.eval E locs).bind E.applyParam
  | .applyLits x is =>
    match x.eval E locs, is.mapM (FAInstr.val E.colName) with
    | some v, some l => E.applyLits v l
    | _, _ => none
  | .opaque _ => none

/-- a statement list that ends in a `return`; falling off the end has no value -/
def runFA {γ : Type} (E : FAEnv γ) : List FAStm → List (XFr γ) → Option (XFr γ)
  | [], _ => none
  | .decl e :: r, locs =>
    match e.eval E locs with
    | some v => runFA E r (locs ++ [v])
    | none => none
  | .assign n e :: r, locs =>
    match e.eval E locs with
    | some v => if n < locs.length then runFA E r (locs.set n v) else none
    | none => none
  | .setIndex n src :: r, locs =>
    match src.eval E locs, locs[n]? with
    | some s, some l => runFA E r (locs.set n { l with index := s.index })
    | _, _ => none
  | .retIfErr x res :: r, locs =>
    match x.eval E locs with
    | some v => if v.err then res.eval E locs else runFA E r locs
    | none => none
  | .ret e :: _, locs => e.eval E locs
  | .opaque _ :: _, _ => none

def FAInstr.hasOpaque (i : FAInstr) : Bool :=
  match i.fn with
  | .counter _ _ body => body.any (fun s => match s with | .opaque _ => true | _ => false)
  | .opaque _ => true

def FAFr.hasOpaque : FAFr → Bool
  | .opaque _ => true
  | .filter x | .applyParam x => x.hasOpaque
  | .applyLits x is => x.hasOpaque || is.any FAInstr.hasOpaque
  | _ => false

def FAStm.hasOpaque : FAStm → Bool
  | .opaque _ => true
  | .decl e | .assign _ e | .setIndex _ e | .ret e => e.hasOpaque
  | .retIfErr x r => x.hasOpaque || r.hasOpaque

/-! # Part B — the string column -/

inductive SULen where
  /-- `len(source.pointers)` -/
  | srcPtrs
  /-- `len(ix)` -/
  | ixLen
  | lit (n : Nat)
  | opaque (txt : String)
  deriving DecidableEq, Repr, Inhabited

/-- the scratch buffer handed to `ToUpper` -/
inductive SUBuf where
  /-- the address of a local `[]byte` the function allocated itself -/
  | fresh
  | opaque (txt : String)
  deriving DecidableEq, Repr, Inhabited

inductive SUStr where
  /-- the string `source.stringAt(<cellAt>)` returned at the top of the round (empty for a null cell) -/
  | cell
  /-- `ToUpper(&buf, s)` of internal/strings -/
  | upper (buf : SUBuf) (s : SUStr)
  | opaque (txt : String)
  deriving DecidableEq, Repr, Inhabited

inductive SUInt where
  /-- `len(<the new data>)` -/
  | dataLen
  | strLen (s : SUStr)
  | lit (n : Nat)
  | opaque (txt : String)
  deriving DecidableEq, Repr, Inhabited

inductive SUFlag where
  /-- the null flag `source.stringAt(<cellAt>)` returned -/
  | cellNull
  | lit (b : Bool)
  | opaque (txt : String)
  deriving DecidableEq, Repr, Inhabited

inductive SUAct where
  /-- `<pointers>[slot] = NewPointer(off, len, null)` -/
  | setPtr (slot : LIdx) (off len : SUInt) (null : SUFlag)
  /-- `<data> = append(<data>, s...)` -/
  | appendStr (s : SUStr)
  | opaque (txt : String)
  deriving DecidableEq, Repr, Inhabited

inductive SUPtrInit where
  /-- `make([]Pointer, len)` -/
  | fresh (len : SULen)
  /-- `source.pointers` itself -/
  | source
  | opaque (txt : String)
  deriving DecidableEq, Repr, Inhabited

inductive SUDataInit where
  /-- `make([]byte, 0, _)` -/
  | empty
  /-- `source.data[:n]` -/
  | sourcePrefix (n : Nat)
  /-- `source.data` itself -/
  | source
  | opaque (txt : String)
  deriving DecidableEq, Repr, Inhabited

/-- which array a field of the returned column is -/
inductive SURef where
  /-- the local the function built -/
  | new
  /-- the source's field -/
  | source
  deriving DecidableEq, Repr, Inhabited

inductive SURet where
  /-- `Column{pointers: p, data: d}` (the constructor `NewBytes` inlined) -/
  | col (ptrs data : SURef)
  | opaque (txt : String)
  deriving DecidableEq, Repr, Inhabited

structure SUFn where
  /-- `if len(source.pointers) == 0 { return source }` in front -/
  emptyReturnsSource : Bool
  ptrInit : SUPtrInit
  dataInit : SUDataInit
  /-- `str, isNull := source.stringAt(<cellAt>)` is the first statement of `for pos, row := range ix` -/
  cellAt : LIdx
  body : List SUAct
  ret : SURet
  deriving DecidableEq, Repr, Inhabited

/-- the new data: bytes of its own, or the first `len` bytes of the SOURCE's data array -/
inductive SUData where
  | own (d : Bytes)
  | alias (len : Nat)
  deriving DecidableEq, Repr, Inhabited

structure SUSt where
  /-- the source column's two arrays as they are now -/
  src : BCol
  /-- the new pointer array; `none`: the variable IS the source's array -/
  ptrs : Option (List BPtr)
  data : SUData
  /-- stores into the source's arrays so far -/
  writes : Nat := 0
  deriving Repr, Inhabited

structure SUOut where
  /-- the column returned, as a reader sees it after the run -/
  res : BCol
  /-- the source column itself was returned -/
  shared : Bool
  /-- the result's pointer / data array is one the function allocated -/
  ptrsFresh : Bool
  dataFresh : Bool
  /-- the source's arrays after the run -/
  src : BCol
  writes : Nat
  deriving Repr, Inhabited

/-- `storeAt l off bs`: the bytes `bs` stored from position `off` on (caller checks the range) -/
def storeAt {α : Type} (l : List α) (off : Nat) (bs : List α) : List α := l.take off ++ bs ++ l.drop (off + bs.length)

/-- `source.stringAt(i)` on the current arrays: (string, null flag) -/
def BCol.stringAt (B : BCol) (i : Nat) : LR (Bytes × Bool) :=
  match B.ptrs[i]? with
  | none => .panic
  | some p =>
    if p.null then .ok ([], true)
    else if p.off + p.len ≤ B.data.length then .ok ((B.data.drop p.off).take p.len, false) else .panic

def SUStr.eval (up : Bytes → Bytes) (s : Bytes) : SUStr → Option Bytes
  | .cell => some s
  | .upper .fresh x => (x.eval up s).map up
  | .upper (.opaque _) _ => none
  | .opaque _ => none

def SUData.len : SUData → Nat
  | .own d => d.length
  | .alias n => n

def SUInt.eval (up : Bytes → Bytes) (s : Bytes) (st : SUSt) : SUInt → Option Nat
  | .dataLen => some st.data.len
  | .strLen x => (x.eval up s).map (·.length)
  | .lit n => some n
  | .opaque _ => none

def SUFlag.eval (isNull : Bool) : SUFlag → Option Bool
  | .cellNull => some isNull
  | .lit b => some b
  | .opaque _ => none

def SUAct.run (up : Bytes → Bytes) (pos row : Nat) (s : Bytes) (isNull : Bool) (st : SUSt) : SUAct → LR SUSt
  | .setPtr slot o l n =>
    match o.eval up s st, l.eval up s st, n.eval isNull with
    | some o', some l', some n' =>
      match st.ptrs with
      | some ps => if slot.of pos row < ps.length then .ok { st with ptrs := some (ps.set (slot.of pos row) ⟨o', l', n'⟩) } else .panic
      | none =>
        if slot.of pos row < st.src.ptrs.length then
          .ok { st with src := { st.src with ptrs := st.src.ptrs.set (slot.of pos row) ⟨o', l', n'⟩ }, writes := st.writes + 1 }
        else .panic
    | _, _, _ => .stuck
  | .appendStr x =>
    match x.eval up s with
    | some bs =>
      match st.data with
      | .own d => .ok { st with data := .own (d ++ bs) }
      | .alias n =>
        -- within the capacity: the bytes go into the source's array
        if n + bs.length ≤ st.src.data.length then
          .ok { st with src := { st.src with data := storeAt st.src.data n bs }, data := .alias (n + bs.length), writes := st.writes + bs.length }
        else .ok { st with data := .own (st.src.data.take n ++ bs) }
    | none => .stuck
  | .opaque _ => .stuck

def suRunBody (up : Bytes → Bytes) (pos row : Nat) (s : Bytes) (isNull : Bool) : List SUAct → SUSt → LR SUSt
  | [], st => .ok st
  | a :: rest, st =>
    match a.run up pos row s isNull st with
    | .ok st' => suRunBody up pos row s isNull rest st'
    | .panic => .panic
    | .stuck => .stuck

/-- `for pos, row := range ix { str, isNull := source.stringAt(<cellAt>); body }` -/
def suRunLoop (up : Bytes → Bytes) (F : SUFn) : Nat → List Nat → SUSt → LR SUSt
  | _, [], st => .ok st
  | pos, row :: rows, st =>
    match st.src.stringAt (F.cellAt.of pos row) with
    | .ok (s, isNull) =>
      match suRunBody up pos row s isNull F.body st with
      | .ok st' => suRunLoop up F (pos + 1) rows st'
      | .panic => .panic
      | .stuck => .stuck
    | .panic => .panic
    | .stuck => .stuck

def SULen.eval (B : BCol) (ix : List Nat) : SULen → Option Nat
  | .srcPtrs => some B.ptrs.length
  | .ixLen => some ix.length
  | .lit n => some n
  | .opaque _ => none

def SUFn.run (up : Bytes → Bytes) (F : SUFn) (B : BCol) (ix : List Nat) : LR SUOut :=
  if F.emptyReturnsSource && B.ptrs.isEmpty then
    .ok { res := B, shared := true, ptrsFresh := false, dataFresh := false, src := B, writes := 0 }
  else
    let ptrs0 : Option (Option (List BPtr)) :=
      match F.ptrInit with
      | .fresh len => (len.eval B ix).map (fun n => some (List.replicate n ⟨0, 0, false⟩))
      | .source => some none
      | .opaque _ => none
    let data0 : Option (LR SUData) :=
      match F.dataInit with
      | .empty => some (.ok (.own []))
      | .sourcePrefix n => some (if n ≤ B.data.length then .ok (.alias n) else .panic)
      | .source => some (.ok (.alias B.data.length))
      | .opaque _ => none
    match ptrs0, data0, F.ret with
    | some ps, some (.ok d), .col rp rd =>
      match suRunLoop up F 0 ix { src := B, ptrs := ps, data := d } with
      | .ok st =>
        let rptrs : List BPtr × Bool := match rp, st.ptrs with
          | .new, some l => (l, true)
          | _, _ => (st.src.ptrs, false)
        let rdata : Bytes × Bool := match rd, st.data with
          | .new, .own dd => (dd, true)
          | .new, .alias n => (st.src.data.take n, false)
          | .source, _ => (st.src.data, false)
        .ok { res := ⟨rptrs.1, rdata.1⟩, shared := false, ptrsFresh := rptrs.2, dataFresh := rdata.2, src := st.src, writes := st.writes }
      | .panic => .panic
      | .stuck => .stuck
    | some _, some .panic, .col _ _ => .panic
    | _, _, _ => .stuck

def SUStr.hasOpaque : SUStr → Bool
  | .opaque _ => true
  | .upper (.opaque _) _ => true
  | .upper .fresh x => x.hasOpaque
  | .cell => false

def SUInt.hasOpaque : SUInt → Bool
  | .opaque _ => true
  | .strLen x => x.hasOpaque
  | _ => false

def SUAct.hasOpaque : SUAct → Bool
  | .opaque _ => true
  | .setPtr _ o l n => o.hasOpaque || l.hasOpaque || (match n with | .opaque _ => true | _ => false)
  | .appendStr x => x.hasOpaque

def SUFn.hasOpaque (F : SUFn) : Bool :=
  (match F.ptrInit with | .opaque _ => true | .fresh (.opaque _) => true | _ => false) ||
  (match F.dataInit with | .opaque _ => true | _ => false) || F.body.any SUAct.hasOpaque ||
  (match F.ret with | .opaque _ => true | _ => false)

/-! # Part C — the enum column -/

/-- An enum column as stored: a code per physical row (`255` = null) into the value table. -/
structure ECol where
  data : List Nat
  values : List Bytes
  strict : Bool := false
  deriving DecidableEq, Repr, Inhabited

/-- the null code (`ecolumn.maxCardinality` in `QF.Gen.consts`; the same number as `enumNull` of QF/Core/KExpr.lean) -/
def euNull : Nat := 255

inductive EULen where
  /-- `len(s.values)` -/
  | srcVals
  /-- `len(s.data)` -/
  | srcData
  | lit (n : Nat)
  | opaque (txt : String)
  deriving DecidableEq, Repr, Inhabited

inductive EUStr where
  /-- the range value of the loop over `s.values` -/
  | elem
  /-- the string local of the loop body -/
  | loc
  /-- `strings.ToUpper(s)` -/
  | upper (s : EUStr)
  | opaque (txt : String)
  deriving DecidableEq, Repr, Inhabited

inductive EUCode where
  /-- the `enumVal` local: bound by the map look-up (first loop), the range value (second loop) -/
  | reg
  /-- `enumVal(len(<vals>))` -/
  | valsLen
  /-- `<mapping>[c]` -/
  | mappingAt (c : EUCode)
  | lit (n : Nat)
  | opaque (txt : String)
  deriving DecidableEq, Repr, Inhabited

inductive EUCond where
  /-- `!ok` of the map look-up -/
  | notFound
  | found
  /-- `!<reg>.isNull()` -/
  | regNotNull
  | regIsNull
  | opaque (txt : String)
  deriving DecidableEq, Repr, Inhabited

inductive EUAct where
  /-- `<string local> := s` -/
  | bindStr (s : EUStr)
  /-- `<reg>, ok := <map>[k]` -/
  | lookup (k : EUStr)
  /-- `<reg> = c` -/
  | setReg (c : EUCode)
  /-- `<map>[k] = c` -/
  | mapPut (k : EUStr) (c : EUCode)
  /-- `<vals> = append(<vals>, s)` -/
  | pushVal (s : EUStr)
  /-- `<mapping>[<range key>] = c` -/
  | storeMapping (c : EUCode)
  /-- `<nd>[<range key>] = c` -/
  | storeData (c : EUCode)
  /-- `<nd> = append(<nd>, c)` -/
  | appendData (c : EUCode)
  | opaque (txt : String)
  deriving DecidableEq, Repr, Inhabited

inductive EUStm where
  | do (a : EUAct)
  /-- `if c { as }` -/
  | when (c : EUCond) (as : List EUAct)
  deriving DecidableEq, Repr, Inhabited

inductive EUDataInit where
  /-- `make([]enumVal, len)` -/
  | fresh (len : EULen)
  /-- `s.data[:n]` -/
  | sourcePrefix (n : Nat)
  /-- `s.data` itself -/
  | source
  | opaque (txt : String)
  deriving DecidableEq, Repr, Inhabited

/-- the `strict` field of the returned column -/
inductive EUStrict where
  /-- left out: `false` -/
  | unset
  /-- `s.strict` -/
  | source
  | lit (b : Bool)
  deriving DecidableEq, Repr, Inhabited

inductive EURet where
  /-- `Column{data: d, values: v, strict: …}`; `d`, `v`: the new local or the source's field -/
  | col (data values : SURef) (strict : EUStrict)
  | opaque (txt : String)
  deriving DecidableEq, Repr, Inhabited

inductive EUFast where
  | none
  /-- `if len(<vals>) == len(s.values) { return r }` between the two loops -/
  | ifSameLen (r : EURet)
  | opaque (txt : String)
  deriving DecidableEq, Repr, Inhabited

structure EUFn where
  /-- the index parameter is referred to somewhere -/
  ixUsed : Bool
  /-- `<vals> := make([]string, 0, _)` -/
  valsInit : LGInit
  /-- `<map> := make(map[string]enumVal, _)`: a new, empty map -/
  mapFresh : Bool
  /-- `<mapping> := make([]enumVal, len)` -/
  mappingLen : EULen
  /-- `for key, elem := range s.values { … }` -/
  loop1 : List EUStm
  fast : EUFast
  dataInit : EUDataInit
  /-- `for key, <reg> := range s.data { … }` -/
  loop2 : List EUStm
  ret : EURet
  deriving DecidableEq, Repr, Inhabited

/-- the new data: codes of its own, or the first `len` entries of the SOURCE's data array -/
inductive EUData where
  | own (d : List Nat)
  | alias (len : Nat)
  deriving DecidableEq, Repr, Inhabited

structure EUSt where
  /-- the source column as it is now (its `data` may be written through an alias) -/
  src : ECol
  vals : List Bytes := []
  /-- the map: first binding wins, an assignment puts a binding in front -/
  map : List (Bytes × Nat) := []
  mapping : List Nat := []
  nd : EUData := .own []
  str : Bytes := []
  reg : Nat := 0
  ok : Bool := false
  writes : Nat := 0
  deriving Repr, Inhabited

structure EUOut where
  data : List Nat
  values : List Bytes
  strict : Bool
  /-- the result's `data` is the source's array (or a slice of it) -/
  dataShared : Bool
  /-- the source column after the run -/
  src : ECol
  writes : Nat
  deriving Repr, Inhabited

def EUStr.eval (up : Bytes → Bytes) (elem : Bytes) (st : EUSt) : EUStr → Option Bytes
  | .elem => some elem
  | .loc => some st.str
  | .upper s => (s.eval up elem st).map up
  | .opaque _ => none

/-- `none`: no meaning; `some none`: index out of range (Go panics) -/
def EUCode.eval (st : EUSt) : EUCode → Option (Option Nat)
  | .reg => some (some st.reg)
  | .valsLen => some (some st.vals.length)
  | .mappingAt c =>
    match c.eval st with
    | some (some i) => some st.mapping[i]?
    | r => r
  | .lit n => some (some n)
  | .opaque _ => none

def EUCond.eval (st : EUSt) : EUCond → Option Bool
  | .notFound => some (!st.ok)
  | .found => some st.ok
  | .regNotNull => some (st.reg != euNull)
  | .regIsNull => some (st.reg == euNull)
  | .opaque _ => none

def EUData.len : EUData → Nat
  | .own d => d.length
  | .alias n => n

def EUAct.run (up : Bytes → Bytes) (key : Nat) (elem : Bytes) (st : EUSt) : EUAct → LR EUSt
  | .bindStr s =>
    match s.eval up elem st with
    | some b => .ok { st with str := b }
    | none => .stuck
  | .lookup k =>
    match k.eval up elem st with
    | some b =>
      match st.map.lookup b with
      | some c => .ok { st with reg := c, ok := true }
      | none => .ok { st with reg := 0, ok := false }
    | none => .stuck
  | .setReg c =>
    match c.eval st with
    | some (some v) => .ok { st with reg := v }
    | some none => .panic
    | none => .stuck
  | .mapPut k c =>
    match k.eval up elem st, c.eval st with
    | some b, some (some v) => .ok { st with map := (b, v) :: st.map }
    | some _, some none => .panic
    | _, _ => .stuck
  | .pushVal s =>
    match s.eval up elem st with
    | some b => .ok { st with vals := st.vals ++ [b] }
    | none => .stuck
  | .storeMapping c =>
    match c.eval st with
    | some (some v) => if key < st.mapping.length then .ok { st with mapping := st.mapping.set key v } else .panic
    | some none => .panic
    | none => .stuck
  | .storeData c =>
    match c.eval st with
    | some (some v) =>
      match st.nd with
      | .own d => if key < d.length then .ok { st with nd := .own (d.set key v) } else .panic
      | .alias n =>
        if key < n then .ok { st with src := { st.src with data := st.src.data.set key v }, writes := st.writes + 1 } else .panic
    | some none => .panic
    | none => .stuck
  | .appendData c =>
    match c.eval st with
    | some (some v) =>
      match st.nd with
      | .own d => .ok { st with nd := .own (d ++ [v]) }
      | .alias n =>
        if n < st.src.data.length then
          .ok { st with src := { st.src with data := st.src.data.set n v }, nd := .alias (n + 1), writes := st.writes + 1 }
        else .ok { st with nd := .own (st.src.data.take n ++ [v]) }
    | some none => .panic
    | none => .stuck
  | .opaque _ => .stuck

def euRunActs (up : Bytes → Bytes) (key : Nat) (elem : Bytes) : List EUAct → EUSt → LR EUSt
  | [], st => .ok st
  | a :: rest, st =>
    match a.run up key elem st with
    | .ok st' => euRunActs up key elem rest st'
    | .panic => .panic
    | .stuck => .stuck

def euRunBody (up : Bytes → Bytes) (key : Nat) (elem : Bytes) : List EUStm → EUSt → LR EUSt
  | [], st => .ok st
  | .do a :: rest, st =>
    match a.run up key elem st with
    | .ok st' => euRunBody up key elem rest st'
    | .panic => .panic
    | .stuck => .stuck
  | .when c as :: rest, st =>
    match c.eval st with
    | some true =>
      match euRunActs up key elem as st with
      | .ok st' => euRunBody up key elem rest st'
      | .panic => .panic
      | .stuck => .stuck
    | some false => euRunBody up key elem rest st
    | none => .stuck

/-- `for key, elem := range s.values { body }` -/
def euLoop1 (up : Bytes → Bytes) (body : List EUStm) : Nat → List Bytes → EUSt → LR EUSt
  | _, [], st => .ok st
  | key, v :: vs, st =>
    match euRunBody up key v body st with
    | .ok st' => euLoop1 up body (key + 1) vs st'
    | .panic => .panic
    | .stuck => .stuck

/-- `for key, <reg> := range s.data { body }`: `n` rounds (the length at the start), each reads the CURRENT element -/
def euLoop2 (up : Bytes → Bytes) (body : List EUStm) : Nat → Nat → EUSt → LR EUSt
  | _, 0, st => .ok st
  | key, n + 1, st =>
    match st.src.data[key]? with
    | none => .panic
    | some c =>
      match euRunBody up key [] body { st with reg := c } with
      | .ok st' => euLoop2 up body (key + 1) n st'
      | .panic => .panic
      | .stuck => .stuck

def EULen.eval (E : ECol) : EULen → Option Nat
  | .srcVals => some E.values.length
  | .srcData => some E.data.length
  | .lit n => some n
  | .opaque _ => none

def EURet.eval (st : EUSt) : EURet → Option EUOut
  | .col rd rv strict =>
    let d : List Nat × Bool := match rd, st.nd with
      | .new, .own dd => (dd, false)
      | .new, .alias n => (st.src.data.take n, true)
      | .source, _ => (st.src.data, true)
    let v : List Bytes := match rv with | .new => st.vals | .source => st.src.values
    let s : Bool := match strict with | .unset => false | .source => st.src.strict | .lit b => b
    some { data := d.1, values := v, strict := s, dataShared := d.2, src := st.src, writes := st.writes }
  | .opaque _ => none

def EUFn.run (up : Bytes → Bytes) (F : EUFn) (E : ECol) : LR EUOut :=
  match F.valsInit, F.mapFresh, F.mappingLen.eval E with
  | .empty, true, some ml =>
    match euLoop1 up F.loop1 0 E.values { src := E, mapping := List.replicate ml 0 } with
    | .ok st =>
      -- the fast path
      let early : Option (Option EURet) :=
        match F.fast with
        | .none => some none
        | .ifSameLen r => some (if st.vals.length == E.values.length then some r else none)
        | .opaque _ => none
      match early with
      | none => .stuck
      | some (some r) => match r.eval st with | some o => .ok o | none => .stuck
      | some none =>
        let nd0 : Option (LR EUData) :=
          match F.dataInit with
          | .fresh len => (len.eval E).map (fun n => .ok (.own (List.replicate n 0)))
          | .sourcePrefix n => some (if n ≤ E.data.length then .ok (.alias n) else .panic)
          | .source => some (.ok (.alias E.data.length))
          | .opaque _ => none
        match nd0 with
        | some (.ok nd) =>
          match euLoop2 up F.loop2 0 E.data.length { st with nd := nd } with
          | .ok st' => match F.ret.eval st' with | some o => .ok o | none => .stuck
          | .panic => .panic
          | .stuck => .stuck
        | some .panic => .panic
        | _ => .stuck
    | .panic => .panic
    | .stuck => .stuck
  | _, _, _ => .stuck

def EUStr.hasOpaque : EUStr → Bool
  | .opaque _ => true
  | .upper s => s.hasOpaque
  | _ => false

def EUCode.hasOpaque : EUCode → Bool
  | .opaque _ => true
  | .mappingAt c => c.hasOpaque
  | _ => false

def EUAct.hasOpaque : EUAct → Bool
  | .opaque _ => true
  | .bindStr s | .lookup s | .pushVal s => s.hasOpaque
  | .setReg c | .storeMapping c | .storeData c | .appendData c => c.hasOpaque
  | .mapPut k c => k.hasOpaque || c.hasOpaque

def EUStm.hasOpaque : EUStm → Bool
  | .do a => a.hasOpaque
  | .when c as => (match c with | .opaque _ => true | _ => false) || as.any EUAct.hasOpaque

def EURet.hasOpaque : EURet → Bool
  | .opaque _ => true
  | _ => false

def EUFn.hasOpaque (F : EUFn) : Bool :=
  (match F.valsInit with | .opaque _ => true | _ => false) || (match F.mappingLen with | .opaque _ => true | _ => false) ||
  F.loop1.any EUStm.hasOpaque ||
  (match F.fast with | .opaque _ => true | .ifSameLen r => r.hasOpaque | .none => false) ||
  (match F.dataInit with | .opaque _ => true | .fresh (.opaque _) => true | _ => false) ||
  F.loop2.any EUStm.hasOpaque || F.ret.hasOpaque

end QF
