/-! Mirror of internal/strings/convert.go ToUpper on code points with a byte output buffer (after the `< utf8.RuneSelf` repair). -/
namespace U
abbrev Byte := UInt8

def enc (c : Char) : List Byte := String.utf8EncodeChar c

/-- second loop of ToUpper: for each remaining rune write `up c` into the buffer;
    `cap` is len(b) (grows by doubling), output bytes accumulate in `out` (= b[:nbytes]). -/
def loop2 (up : Char → Char) (cap : Nat) (out : List Byte) : List Char → List Byte
  | [] => out
  | c :: cs =>
    let r := up c
    if r.val < 0x80 ∧ out.length < cap then loop2 up cap (out ++ [r.val.toUInt8]) cs   -- `r < utf8.RuneSelf`
    else
      let cap := if out.length + 4 ≥ cap then 2 * cap else cap
      loop2 up cap (out ++ enc r) cs

/-- ToUpper(bP, s): returns the bytes of the result string -/
def toUpper (up : Char → Char) (bufLen : Nat) (s : List Char) : List Byte :=
  -- first loop: up to the first rune that changes
  let rec go (pre : List Char) : List Char → List Byte
    | [] => (pre.flatMap enc)            -- nothing changed: return s itself
    | c :: cs =>
      let r := up c
      if r == c then go (pre ++ [c]) cs
      else
        let sLen := ((pre ++ c :: cs).flatMap enc).length
        let cap := if bufLen ≥ sLen + 4 then bufLen else sLen + 4
        let out := pre.flatMap enc
        let out := if r.val < 0x80 then out ++ [r.val.toUInt8] else out ++ enc r
        loop2 up cap out cs
  go [] s

def upAscii (c : Char) : Char := if 'a' ≤ c ∧ c ≤ 'z' then Char.ofNat (c.toNat - 32) else c
#eval toUpper upAscii 10 "a\u0080".toList        -- [65, 0xC2, 0x80]
#eval ("A\u0080".toList.flatMap enc)             -- spec: [65, 0xC2, 0x80]
#eval toUpper upAscii 10 "\u0080a".toList        -- first loop passes U+0080 unchanged, then 'a' → prefix copied verbatim: ok
#eval toUpper upAscii 10 "abc".toList

/-- the specification -/
def spec (up : Char → Char) (s : List Char) : List Byte := (s.map up).flatMap enc

end U

namespace U
theorem u32_lt_of_le_ne (x : UInt32) (h1 : x ≤ 0x80) (h2 : x ≠ 0x80) : x < 0x80 := by
  have a := UInt32.le_iff_toNat_le.mp h1
  have b : x.toNat ≠ 0x80 := by
    intro e; apply h2; apply UInt32.toNat_inj.mp; simpa using e
  apply UInt32.lt_iff_toNat_lt.mpr
  simp at a ⊢; omega

/-- `enc` by the four lengths, as Lean's `String.utf8EncodeChar` computes it -/
theorem enc_eq (c : Char) : enc c =
    if c.toNat ≤ 0x7f then [UInt8.ofNat c.toNat]
    else if c.toNat ≤ 0x7ff then [UInt8.ofNat (c.toNat / 64 % 0x20 + 0xc0), UInt8.ofNat (c.toNat % 0x40 + 0x80)]
    else if c.toNat ≤ 0xffff then [UInt8.ofNat (c.toNat / 4096 % 0x10 + 0xe0), UInt8.ofNat (c.toNat / 64 % 0x40 + 0x80),
      UInt8.ofNat (c.toNat % 0x40 + 0x80)]
    else [UInt8.ofNat (c.toNat / 262144 % 0x08 + 0xf0), UInt8.ofNat (c.toNat / 4096 % 0x40 + 0x80),
      UInt8.ofNat (c.toNat / 64 % 0x40 + 0x80), UInt8.ofNat (c.toNat % 0x40 + 0x80)] := rfl

/-- a code point below 0x80 is encoded as the single byte holding its value -/
theorem enc_ascii (c : Char) (h : c.val < 0x80) : enc c = [c.val.toUInt8] := by
  unfold enc
  have h1 : c.utf8Size = 1 := by
    rw [Char.utf8Size_eq_one_iff]
    have := UInt32.lt_iff_toNat_lt.mp h
    apply UInt32.le_iff_toNat_le.mpr
    simp at this ⊢; omega
  exact String.utf8EncodeChar_eq_singleton h1

/-- second loop: every remaining rune is written correctly -/
theorem loop2_spec (up : Char → Char) : ∀ (cs : List Char) (cap : Nat) (out : List Byte),
    loop2 up cap out cs = out ++ (cs.map up).flatMap enc := by
  intro cs
  induction cs with
  | nil => intro cap out; simp [loop2]
  | cons c cs ih =>
    intro cap out
    unfold loop2
    simp only []
    split
    · rename_i hcond
      rw [ih]
      simp [enc_ascii _ hcond.1, List.append_assoc]
    · rw [ih]
      simp [List.append_assoc]

/-- C18: the custom ToUpper equals encode ∘ map up on every list of code points, for every case mapping `up` and every
    buffer size. (Before the repair of `r <= utf8.RuneSelf` this needed the hypothesis that no upper case is U+0080.) -/
theorem toUpper_spec' (up : Char → Char) (bufLen : Nat) (s : List Char) :
    toUpper up bufLen s = spec up s := by
  unfold toUpper spec
  suffices H : ∀ (rest pre : List Char), (∀ c ∈ pre, up c = c) →
      toUpper.go up bufLen pre rest = ((pre ++ rest).map up).flatMap enc by
    simpa using H s [] (by simp)
  intro rest
  induction rest with
  | nil =>
    intro pre hp
    have hpre : pre.map up = pre := (List.map_congr_left (fun c hc => hp c hc)).trans (by simp)
    simp [toUpper.go, hpre]
  | cons c cs ih =>
    intro pre hp
    have hpre : pre.map up = pre := (List.map_congr_left (fun c hc => hp c hc)).trans (by simp)
    unfold toUpper.go
    simp only []
    by_cases heq : (up c == c) = true
    · simp only [heq, ↓reduceIte]
      have e : up c = c := by simpa using heq
      have := ih (pre ++ [c]) (by intro x hx; rcases List.mem_append.mp hx with h | h; exact hp x h; simp at h; subst h; exact e)
      simpa [List.append_assoc] using this
    · simp only [heq, Bool.false_eq_true, ↓reduceIte]
      rw [loop2_spec up cs _ _]
      by_cases hlt : (up c).val < 0x80
      · simp [hlt, List.map_append, List.flatMap_append, hpre, enc_ascii _ hlt, List.append_assoc]
      · simp [hlt, List.map_append, List.flatMap_append, hpre, List.append_assoc]

#print axioms toUpper_spec'
end U
