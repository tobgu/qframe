import QF.Core.SorterPivot
import QF.Core.OrderFacts
/-!
Comparators (Reverse/NullLast tables) and the lexicographic `Less` over them.

* `swo_of_tp`: `cmp · · == .lt` of a total preorder (`QF.Props.C03RowOrder.TP`, QF/Core/OrderFacts.lean) is a strict weak order
  in the sorter's sense (`Sorter.SWO`).
* `Cmp`: the result tables `Comparable(reverse, equalNull, nullLast)` builds, `compare` over a nullable key, the sorter's
  `lessKeys`; `compare_spec` (the table orders a key as the property says), `lessKeys_swo`, `sort_by_orders`.
-/

namespace QF.Props.C03RowOrder

/-- `cmp · · == .lt` of a total preorder is a strict weak order -/
theorem swo_of_tp {cmp : Nat → Nat → Ordering} (h : TP cmp) : Sorter.SWO (fun a b => cmp a b == .lt) where
  asymm := fun a b hab => tp_lt_asymm h a b hab
  le_trans := fun a b c h1 h2 => tp_lt_le_trans h a b c h1 h2

end QF.Props.C03RowOrder

namespace Cmp

inductive Res | lt | gt | eq | neq deriving DecidableEq, Repr

/-- Comparable(reverse, equalNull, nullLast) as in internal/template/column.go, scolumn, ecolumn -/
structure Tbl where
  ltV : Res
  nullLtV : Res
  gtV : Res
  nullGtV : Res
  eqNullV : Res
deriving DecidableEq, Repr

def mkTbl (reverse equalNull nullLast : Bool) : Tbl :=
  let t : Tbl := ⟨.lt, .lt, .gt, .gt, .neq⟩
  let t := if reverse then ⟨t.gtV, t.nullGtV, t.ltV, t.nullLtV, t.eqNullV⟩ else t
  let t := if nullLast then { t with nullLtV := t.nullGtV, nullGtV := t.nullLtV } else t
  if equalNull then { t with eqNullV := .eq } else t

/-- a key column abstractly: each row has either no value (null/NaN) or a rank in a linear order (Int) -/
abbrev Key := Nat → Option Int

/-- Compare(i, j) for a nullable column (float / string / enum pattern) -/
def compare (t : Tbl) (k : Key) (i j : Nat) : Res :=
  match k i, k j with
  | some x, some y => if x < y then t.ltV else if x > y then t.gtV else .eq
  | some _, none => t.nullGtV
  | none, some _ => t.nullLtV
  | none, none => t.eqNullV

/-- the order the property describes: null smallest (largest with NullLast); Reverse inverts everything -/
def specLt (reverse nullLast : Bool) (k : Key) (i j : Nat) : Bool :=
  let base (a b : Option Int) : Bool :=
    match a, b with
    | some x, some y => decide (x < y)
    | none, some _ => !nullLast
    | some _, none => nullLast
    | none, none => false
  if reverse then base (k j) (k i) else base (k i) (k j)

/-- Sorter.Less over a list of keys: first key that says lt/gt decides; eq/neq fall through -/
def lessKeys : List (Tbl × Key) → Nat → Nat → Bool
  | [], _, _ => false
  | (t, k) :: ks, i, j =>
    match compare t k i j with
    | .lt => true
    | .gt => false
    | _ => lessKeys ks i j

/-- keys as produced by QFrame.Sort: (reverse, nullLast, column); `equalNull` is `false` there (`s.Comparable(o.Reverse, false, o.NullLast)`), and only that case is treated below -/
def mkKeys (ks : List (Bool × Bool × Key)) : List (Tbl × Key) := ks.map fun (r, n, k) => (mkTbl r false n, k)

def pairLt (a b : Int × Int) : Bool := decide (a.1 < b.1 ∨ (a.1 = b.1 ∧ a.2 < b.2))

theorem pairLt_trans (a b c : Int × Int) (h1 : pairLt a b = true) (h2 : pairLt b c = true) : pairLt a c = true := by
  unfold pairLt at *; simp at *; omega

/-! ## `lessKeys` is a strict weak order -/

open QF.Props.C03RowOrder (TP lexCmp lexCmp_one lexCmp_tp swo_of_tp tp_int tp_sw tp_comap sw)

/-- what `Less` sees of a result: `eq` and `neq` both mean "tie" -/
def Res.ord : Res → Ordering
  | .lt => .lt
  | .gt => .gt
  | _ => .eq

theorem lessKeys_eq_lex (kts : List (Tbl × Key)) (i j : Nat) :
    lessKeys kts i j = (lexCmp (kts.map fun p a b => (compare p.1 p.2 a b).ord) i j == .lt) := by
  induction kts with
  | nil => rfl
  | cons p kts ih =>
    simp only [lessKeys, List.map_cons, lexCmp]
    cases compare p.1 p.2 i j <;> simp only [Res.ord, ih] <;> rfl

/-- the two ranks of an entry of a key column: the null class (before or after every value), the value -/
def entryComps (nullLast : Bool) : List (Option Int → Option Int → Ordering) :=
  [fun a b => Ord.compare (if a.isSome then (0 : Int) else if nullLast then 1 else -1) (if b.isSome then (0 : Int) else if nullLast then 1 else -1),
   fun a b => Ord.compare (a.getD 0) (b.getD 0)]

theorem ite_ord (x y : Int) (a b : Res) :
    (if x < y then a else if x > y then b else Res.eq).ord = match Ord.compare x y with | .lt => a.ord | .gt => b.ord | .eq => .eq := by
  rw [Int.compare_eq_ite_lt]
  split
  · rfl
  · split <;> rfl

theorem entryComps_some (nullLast : Bool) (x y : Int) : lexCmp (entryComps nullLast) (some x) (some y) = Ord.compare x y :=
  lexCmp_one (fun a b : Option Int => Ord.compare (a.getD 0) (b.getD 0)) (some x) (some y)

/-- the table built for `(reverse, nullLast)` compares two entries by their ranks, the whole order reversed with `reverse`.
This is the one statement about the TABLE; `compare_spec` here and `C03.compare_eq_keyOrd` follow from it, because the
property's `specLt` and the sentence's `keyOrd` are this comparison of ranks too (`specLt_eq_lex`, `C03.keyOrd_eq_lex`). -/
theorem compare_ord_eq_lex (reverse nullLast : Bool) (k : Key) (i j : Nat) :
    (compare (mkTbl reverse false nullLast) k i j).ord = sw reverse (lexCmp (entryComps nullLast) (k i) (k j)) := by
  unfold compare
  cases k i <;> cases k j
  case some.some x y =>
    rw [ite_ord, entryComps_some]
    cases reverse <;> cases nullLast <;> cases Ord.compare x y <;> rfl
  all_goals cases reverse <;> cases nullLast <;> rfl

theorem Res.ord_lt (r : Res) : (r == .lt) = (r.ord == .lt) := by cases r <;> rfl

theorem int_lt_cmp (a b : Int) : decide (a < b) = (Ord.compare a b == .lt) := by
  rw [Bool.eq_iff_iff]; simp [Int.compare_eq_lt]

theorem specLt_eq_lex (reverse nullLast : Bool) (k : Key) (i j : Nat) :
    specLt reverse nullLast k i j = (sw reverse (lexCmp (entryComps nullLast) (k i) (k j)) == .lt) := by
  unfold specLt sw
  cases k i <;> cases k j
  case some.some x y =>
    rw [entryComps_some]
    cases reverse
    · exact int_lt_cmp x y
    · exact (int_lt_cmp y x).trans (by rw [Int.compare_swap]; rfl)
  all_goals cases reverse <;> cases nullLast <;> rfl

theorem compare_spec (reverse nullLast : Bool) (k : Key) (i j : Nat) :
    (compare (mkTbl reverse false nullLast) k i j == .lt) = specLt reverse nullLast k i j := by
  rw [Res.ord_lt, compare_ord_eq_lex, specLt_eq_lex]

theorem compare_ord_tp (reverse nullLast : Bool) (k : Key) :
    TP fun i j => (compare (mkTbl reverse false nullLast) k i j).ord := by
  have e : (fun i j => (compare (mkTbl reverse false nullLast) k i j).ord) =
      fun i j => sw reverse (lexCmp (entryComps nullLast) (k i) (k j)) := by
    funext i j; exact compare_ord_eq_lex reverse nullLast k i j
  rw [e]
  refine tp_sw reverse (tp_comap (lexCmp_tp fun c hc => ?_) k)
  simp only [entryComps, List.mem_cons, List.mem_nil_iff, or_false] at hc
  rcases hc with rfl | rfl <;> exact tp_int _

/-- C03 glue: the Less function QFrame.Sort builds from any list of orders is a strict weak order -/
theorem lessKeys_swo (ks : List (Bool × Bool × Key)) : Sorter.SWO (lessKeys (mkKeys ks)) := by
  have e : lessKeys (mkKeys ks) = fun i j => lexCmp ((mkKeys ks).map fun p a b => (compare p.1 p.2 a b).ord) i j == .lt := by
    funext i j; exact lessKeys_eq_lex _ i j
  rw [e]
  refine swo_of_tp (lexCmp_tp fun c hc => ?_)
  simp only [mkKeys, List.map_map, List.mem_map] at hc
  obtain ⟨⟨r, n, k⟩, _, rfl⟩ := hc
  exact compare_ord_tp r n k

/-- sorting an index with the model's sorter and the Less built from the orders yields a sorted permutation.
    Keys are abstract (`Key = Nat → Option Int`); the statement about frames and the spec's `rowLess` is `C03EndToEnd.gen_sort_end_to_end`. -/
theorem sort_by_orders (ks : List (Bool × Bool × Key)) (ix : Sorter.Ix) :
    Sorter.Sorted (lessKeys (mkKeys ks)) (Sorter.sort (lessKeys (mkKeys ks)) ix) 0 ix.size ∧
    (Sorter.sort (lessKeys (mkKeys ks)) ix).Perm ix :=
  ⟨Sorter.sort_sorted_full _ (lessKeys_swo ks) ix, Sorter.sort_perm _ ix⟩

#print axioms sort_by_orders
end Cmp
