/-! Mirror of Filter on a frame reduced to its index (shared mask, OR batches, `orFrames`, Not), its row-wise spec
    `Clause.sem`, the refinement `refines_of` (for every property of clauses that is `Refinable`: its leaves add their rows to
    the mask; `filter_refines` is the case `Clause.sound`) and the error flag `filter_err_eq`.
    Cells are abstracted: a leaf is a predicate on physical positions together with the kernel "shape"
    (guarded accumulate / overwrite); `Drv.mirrorLeaf` (QF/Drv/FilterMirror.lean) takes the shape per (type, comparator) from `QF.Gen`
    and the predicate from the spec's `leafPred`. -/
namespace F

abbrev Pos := Nat

/-- What a leaf kernel does to the mask, as extracted from the source. -/
inductive KShape
  | guarded            -- for i, x := range bIndex { if !x { bIndex[i] = p(index[i]) } }
  | setAll (b : Bool)  -- for i := range bIndex { bIndex[i] = b }   (today int isnotnull only, `C02Mirror.checkShapes`; int isnull before /repo f88559f)
deriving DecidableEq, Repr

structure Leaf where
  shape : KShape
  pred  : Pos → Bool       -- the comparison on the cell at a physical position
  /-- inverse shortcut available? then its kernel -/
  inv   : Option (KShape × (Pos → Bool)) := none
  inverse : Bool := false  -- Filter.Inverse flag
  err   : Bool := false    -- argument/comparator decoding fails

inductive Clause
  | leaf (l : Leaf)
  | and (cs : List Clause)
  | or  (cs : List Clause)
  | not (c : Clause)
  | null

structure Frame where
  index : List Pos
  err   : Bool := false
deriving Repr, DecidableEq

def runKernel (sh : KShape) (p : Pos → Bool) : List Pos → List Bool → List Bool
  | i :: ix, b :: bs =>
      (match sh with
       | .guarded => if !b then p i else b
       | .setAll v => v) :: runKernel sh p ix bs
  | _, _ => []

def idxFilter : List Pos → List Bool → List Pos
  | i :: ix, b :: bs => if b then i :: idxFilter ix bs else idxFilter ix bs
  | _, _ => []

/-- one leaf inside QFrame.filter, including the inverse shortcut and the fallback -/
def leafStep (ix : List Pos) (mask : List Bool) (l : Leaf) : Option (List Bool) :=
  if l.err then none else
  if l.inverse then
    match l.inv with
    | some (sh, p) => some (runKernel sh p ix mask)
    | none =>
      let invMask := runKernel l.shape l.pred ix (List.replicate mask.length false)
      some (List.zipWith (fun x y => if !x then !y else x) mask invMask)
  else some (runKernel l.shape l.pred ix mask)

/-- QFrame.filter(filters...) -/
def filterLeaves (f : Frame) (ls : List Leaf) : Frame :=
  if f.err then f else
  match ls.foldlM (leafStep f.index) (List.replicate f.index.length false) with
  | none => { f with err := true }
  | some mask => { f with index := idxFilter f.index mask }

/-- The loop of `orFrames`: one pass over the parent index with a cursor into each operand; a position is kept if
    either cursor stands on it. Positions are compared by value, so this is the order-preserving union of two
    subsequences only if the parent index has no duplicates (hence `Nodup` in `Ref`). -/
def orMerge : List Pos → List Pos → List Pos → List Pos
  | [], _, _ => []
  | x :: orig, l, r =>
    let hitL := l.head? == some x
    let hitR := r.head? == some x
    let l' := if hitL then l.tail else l
    let r' := if hitR then r.tail else r
    if hitL || hitR then x :: orMerge orig l' r' else orMerge orig l' r'

def orFrames (orig : Frame) (lhs : Option Frame) (rhs : Frame) : Frame :=
  match lhs with
  | none => rhs
  | some lhs => if lhs.err then lhs else if rhs.err then rhs else
      { orig with index := orMerge orig.index lhs.index rhs.index }

/-- The loop of `NotClause.filter`: the parent's positions that the cursor into the subclause's result does not stand on. -/
def notMerge : List Pos → List Pos → List Pos
  | [], _ => []
  | x :: orig, s => if s.head? == some x then notMerge orig s.tail else x :: notMerge orig s

def Clause.hasErr : Clause → Bool   -- c.Err(): constructors record "zero subclauses" / child errors
  | .leaf _ => false
  | .and cs => cs.isEmpty || cs.attach.any (fun ⟨c, _⟩ => c.hasErr)
  | .or cs => cs.isEmpty || cs.attach.any (fun ⟨c, _⟩ => c.hasErr)
  | .not c => c.hasErr
  | .null => false

mutual
def Clause.filter (c : Clause) (f : Frame) : Frame :=
  match c with
  | .leaf l => filterLeaves f [l]
  | .null => f
  | .and cs => if f.err then f else if (Clause.and cs).hasErr then { f with err := true } else andLoop cs f
  | .or cs => if f.err then f else if (Clause.or cs).hasErr then { f with err := true } else
      orLoop cs f [] none
  | .not c => if f.err then f else if c.hasErr then { f with err := true } else
      match c with
      | .leaf l => filterLeaves f [{ l with inverse := !l.inverse }]
      | c => let g := c.filter f
             if g.err then g else { f with index := notMerge f.index g.index }
def andLoop (cs : List Clause) (f : Frame) : Frame :=
  match cs with
  | [] => f
  | c :: cs => andLoop cs (c.filter f)
def orLoop (cs : List Clause) (f : Frame) (pending : List Leaf) (acc : Option Frame) : Frame :=
  match cs with
  | [] =>
    let acc := if pending.isEmpty then acc else some (orFrames f acc (filterLeaves f pending))
    acc.getD f
  | .leaf l :: cs => orLoop cs f (pending ++ [l]) acc
  | c :: cs =>
    let acc := if pending.isEmpty then acc else some (orFrames f acc (filterLeaves f pending))
    orLoop cs f [] (some (orFrames f acc (c.filter f)))
end

/-! ## Spec -/
def Leaf.sem (l : Leaf) (p : Pos) : Bool := if l.inverse then !l.pred p else l.pred p

def Clause.sem : Clause → Pos → Bool
  | .leaf l, p => l.sem p
  | .and cs, p => cs.attach.all (fun ⟨c, _⟩ => c.sem p)
  | .or cs, p => cs.attach.any (fun ⟨c, _⟩ => c.sem p)
  | .not c, p => !c.sem p
  | .null, _ => true

def Clause.wellTyped : Clause → Bool
  | .leaf l => !l.err
  | .and cs => !cs.isEmpty && cs.attach.all (fun ⟨c, _⟩ => c.wellTyped)
  | .or cs => !cs.isEmpty && cs.attach.all (fun ⟨c, _⟩ => c.wellTyped)
  | .not c => c.wellTyped
  | .null => true

/-- kernels are sound: what Gen-level lemmas establish per (type, comparator) -/
def Leaf.sound (l : Leaf) : Prop :=
  l.shape = .guarded ∧ (∀ sh p, l.inv = some (sh, p) → sh = .guarded ∧ ∀ x, p x = !l.pred x)

def Clause.sound : Clause → Prop
  | .leaf l => l.sound
  | .and cs => ∀ c ∈ cs, c.sound
  | .or cs => ∀ c ∈ cs, c.sound
  | .not c => c.sound
  | .null => True

-- smoke test incl. the shape int isnull had before /repo f88559f (`setAll false`)
def xs : List Nat := [10, 20, 30]   -- physical values by position 0,1,2 ↦ x = 1,2,3
def eq1 : Leaf := { shape := .guarded, pred := fun p => p == 0 }
def isnullInt : Leaf := { shape := .setAll false, pred := fun _ => false }
#eval ((Clause.or [.leaf eq1, .leaf isnullInt]).filter { index := [0,1,2] }).index   -- [] (the match of `eq1` is cleared)
#eval ((Clause.or [.leaf isnullInt, .leaf eq1]).filter { index := [0,1,2] }).index   -- [0]
#eval ((Clause.not (.and [.leaf eq1])).filter { index := [2,0,1] }).index            -- [2,1]

/-! ### mask algebra -/
theorem runKernel_guarded_map (p q : Pos → Bool) (ix : List Pos) :
    runKernel .guarded p ix (ix.map q) = ix.map (fun i => q i || p i) := by
  induction ix with
  | nil => simp [runKernel]
  | cons i ix ih => cases h : q i <;> simp [runKernel, ih, h]

theorem replicate_eq_map (ix : List Pos) : List.replicate ix.length false = ix.map (fun _ => false) := by
  induction ix with
  | nil => rfl
  | cons i ix ih => simp [List.replicate_succ, ih]

theorem idxFilter_map (q : Pos → Bool) (ix : List Pos) : idxFilter ix (ix.map q) = ix.filter q := by
  induction ix with
  | nil => simp [idxFilter]
  | cons i ix ih => cases h : q i <;> simp [idxFilter, ih, h]

theorem zipWith_fallback (q r : Pos → Bool) (ix : List Pos) :
    List.zipWith (fun x y => if !x then !y else x) (ix.map q) (ix.map r) = ix.map (fun i => q i || !r i) := by
  rw [List.zipWith_map, List.zipWith_self]
  apply List.map_congr_left
  intro i _
  cases q i
  · rfl
  · rfl

/-- all the refinement needs of a leaf: a step of `QFrame.filter` adds the leaf's rows to the mask -/
def Leaf.Adds (l : Leaf) : Prop :=
  ∀ (ix : List Pos) (q : Pos → Bool), leafStep ix (ix.map q) l = some (ix.map (fun i => q i || l.sem i))

/-- a leaf adds its rows when its kernels act on every mask as guarded accumulates and the shortcut kernel negates the predicate -/
theorem leafStep_adds (l : Leaf) (he : l.err = false)
    (h1 : ∀ ix m, runKernel l.shape l.pred ix m = runKernel .guarded l.pred ix m)
    (h2 : ∀ sh p, l.inv = some (sh, p) → (∀ ix m, runKernel sh p ix m = runKernel .guarded p ix m) ∧ ∀ x, p x = !l.pred x) :
    l.Adds := by
  intro ix q
  unfold leafStep Leaf.sem
  simp only [he, Bool.false_eq_true, ↓reduceIte]
  cases hI : l.inverse
  · simp [h1, runKernel_guarded_map]
  · simp only [↓reduceIte]
    cases hv : l.inv with
    | none =>
      simp only [List.length_map, h1, replicate_eq_map, runKernel_guarded_map, Bool.false_or]
      rw [zipWith_fallback]
    | some sp =>
      obtain ⟨sh, p⟩ := sp
      obtain ⟨k, hneg⟩ := h2 sh p hv
      simp only [k, runKernel_guarded_map]
      congr 2; funext i; rw [hneg]

theorem foldlM_adds (ix : List Pos) (ls : List Leaf) (q : Pos → Bool) (h : ∀ l ∈ ls, l.Adds) :
    ls.foldlM (leafStep ix) (ix.map q) = some (ix.map (fun i => q i || ls.any (·.sem i))) := by
  induction ls generalizing q with
  | nil => simp
  | cons l ls ih =>
    simp only [List.foldlM_cons]
    rw [h l (by simp)]
    simp only [Option.bind_eq_bind, Option.bind_some]
    rw [ih _ (fun l hl => h l (by simp [hl]))]
    congr 2; funext i; simp [Bool.or_assoc]

theorem filterLeaves_adds (f : Frame) (ls : List Leaf) (hf : f.err = false) (h : ∀ l ∈ ls, l.Adds) :
    filterLeaves f ls = { f with index := f.index.filter (fun i => ls.any (·.sem i)) } := by
  unfold filterLeaves
  simp only [hf, Bool.false_eq_true, ↓reduceIte, replicate_eq_map]
  rw [foldlM_adds f.index ls _ h]
  simp [idxFilter_map]

/-! ### merges -/
/-- in the form `simp` brings `(orig.filter a).head? = some x` to -/
theorem head?_filter_ne {x : Pos} {orig : List Pos} (a : Pos → Bool) (hx : x ∉ orig) :
    orig.find? a ≠ some x := by
  intro h
  exact hx (List.mem_of_find?_eq_some h)

theorem orMerge_filter (orig : List Pos) (a b : Pos → Bool) (hn : orig.Nodup) :
    orMerge orig (orig.filter a) (orig.filter b) = orig.filter (fun x => a x || b x) := by
  induction orig with
  | nil => simp [orMerge]
  | cons x orig ih =>
    have hx : x ∉ orig := (List.nodup_cons.mp hn).1
    have hn' := (List.nodup_cons.mp hn).2
    have na := head?_filter_ne a hx
    have nb := head?_filter_ne b hx
    cases ha : a x <;> cases hb : b x <;>
      simp [orMerge, List.filter_cons, ha, hb, na, nb, ih hn']

theorem notMerge_filter (orig : List Pos) (a : Pos → Bool) (hn : orig.Nodup) :
    notMerge orig (orig.filter a) = orig.filter (fun x => !a x) := by
  induction orig with
  | nil => simp [notMerge]
  | cons x orig ih =>
    have hx : x ∉ orig := (List.nodup_cons.mp hn).1
    have hn' := (List.nodup_cons.mp hn).2
    have na := head?_filter_ne a hx
    cases ha : a x <;> simp [notMerge, List.filter_cons, ha, na, ih hn']

@[simp] theorem sem_leaf (l : Leaf) : (Clause.leaf l).sem = l.sem := by funext p; simp [Clause.sem]
@[simp] theorem sem_null : Clause.null.sem = fun _ => true := by funext p; simp [Clause.sem]
@[simp] theorem sem_not (c : Clause) : (Clause.not c).sem = fun p => !c.sem p := by funext p; simp [Clause.sem]
@[simp] theorem sem_and (cs : List Clause) : (Clause.and cs).sem = fun p => cs.all (·.sem p) := by
  funext p; simp [Clause.sem]
@[simp] theorem sem_or (cs : List Clause) : (Clause.or cs).sem = fun p => cs.any (·.sem p) := by
  funext p; simp [Clause.sem]
@[simp] theorem sound_leaf (l : Leaf) : (Clause.leaf l).sound = l.sound := by simp [Clause.sound]
@[simp] theorem sound_and (cs : List Clause) : (Clause.and cs).sound = ∀ c ∈ cs, c.sound := by simp [Clause.sound]
@[simp] theorem sound_or (cs : List Clause) : (Clause.or cs).sound = ∀ c ∈ cs, c.sound := by simp [Clause.sound]
@[simp] theorem sound_not (c : Clause) : (Clause.not c).sound = c.sound := by simp [Clause.sound]
@[simp] theorem wt_leaf (l : Leaf) : (Clause.leaf l).wellTyped = !l.err := by simp [Clause.wellTyped]
@[simp] theorem wt_and (cs : List Clause) : (Clause.and cs).wellTyped = (!cs.isEmpty && cs.all (·.wellTyped)) := by
  simp [Clause.wellTyped]
@[simp] theorem wt_or (cs : List Clause) : (Clause.or cs).wellTyped = (!cs.isEmpty && cs.all (·.wellTyped)) := by
  simp [Clause.wellTyped]
@[simp] theorem wt_not (c : Clause) : (Clause.not c).wellTyped = c.wellTyped := by simp [Clause.wellTyped]
@[simp] theorem he_and (cs : List Clause) : (Clause.and cs).hasErr = (cs.isEmpty || cs.any (·.hasErr)) := by
  simp [Clause.hasErr]
@[simp] theorem he_or (cs : List Clause) : (Clause.or cs).hasErr = (cs.isEmpty || cs.any (·.hasErr)) := by
  simp [Clause.hasErr]
@[simp] theorem he_not (c : Clause) : (Clause.not c).hasErr = c.hasErr := by simp [Clause.hasErr]
@[simp] theorem he_leaf (l : Leaf) : (Clause.leaf l).hasErr = false := by simp [Clause.hasErr]
@[simp] theorem he_null : Clause.null.hasErr = false := by simp [Clause.hasErr]

/-- the statement, as a predicate on a clause -/
def Ref (c : Clause) : Prop :=
  ∀ f : Frame, f.index.Nodup → f.err = false →
    (c.filter f).err = false ∧ (c.filter f).index = f.index.filter c.sem

/-- The accumulator of an `Or` holds the rows of `f` that satisfy `a` (before the first merge: no row does). -/
def Holds (f : Frame) (acc : Option Frame) (a : Pos → Bool) : Prop :=
  match acc with
  | none => a = fun _ => false
  | some g => g.err = false ∧ g.index = f.index.filter a

theorem orFrames_spec (f : Frame) (hn : f.index.Nodup) (he : f.err = false) {acc : Option Frame} {a : Pos → Bool}
    (hacc : Holds f acc a) {r : Frame} {b : Pos → Bool} (hr : r.err = false ∧ r.index = f.index.filter b) :
    Holds f (some (orFrames f acc r)) (fun p => a p || b p) := by
  cases acc with
  | none => subst hacc; simpa [Holds, orFrames] using hr
  | some g =>
    obtain ⟨ge, gi⟩ := hacc
    simp only [Holds, orFrames, ge, hr.1, Bool.false_eq_true, ↓reduceIte, he, gi, hr.2, orMerge_filter _ _ _ hn]
    trivial

/-- What `OrClause.filter` does before a nested clause and at the end: the batch of pending leaves, if there is one,
is run against `f` and merged into the accumulator. -/
def flush (f : Frame) (pending : List Leaf) (acc : Option Frame) : Option Frame :=
  if pending.isEmpty then acc else some (orFrames f acc (filterLeaves f pending))

theorem filter_not_nonleaf (c : Clause) (hc : ∀ l, c ≠ .leaf l) (f : Frame) :
    (Clause.not c).filter f =
      if f.err then f else if c.hasErr then { f with err := true } else
        if (c.filter f).err then c.filter f else { f with index := notMerge f.index (c.filter f).index } := by
  cases c with
  | leaf l => exact absurd rfl (hc l)
  | null | and cs | or cs | not c => simp only [Clause.filter]

theorem orLoop_nil (f : Frame) (pending : List Leaf) (acc : Option Frame) :
    orLoop [] f pending acc = (flush f pending acc).getD f := by
  simp only [orLoop, flush]

theorem orLoop_leaf (l : Leaf) (cs : List Clause) (f : Frame) (pending : List Leaf) (acc : Option Frame) :
    orLoop (.leaf l :: cs) f pending acc = orLoop cs f (pending ++ [l]) acc := by
  simp only [orLoop]

theorem orLoop_nonleaf {c : Clause} (hc : ∀ l, c ≠ .leaf l) (cs : List Clause) (f : Frame) (pending : List Leaf)
    (acc : Option Frame) :
    orLoop (c :: cs) f pending acc = orLoop cs f [] (some (orFrames f (flush f pending acc) (c.filter f))) := by
  cases c with
  | leaf l => exact absurd rfl (hc l)
  | and _ | or _ | not _ | null => simp only [orLoop, flush]

theorem flush_adds (f : Frame) (hn : f.index.Nodup) (he : f.err = false) {pending : List Leaf}
    (hp : ∀ l ∈ pending, l.Adds) {acc : Option Frame} {a : Pos → Bool} (hacc : Holds f acc a) :
    Holds f (flush f pending acc) (fun p => a p || pending.any (·.sem p)) := by
  unfold flush
  cases pending with
  | nil => simpa using hacc
  | cons l ls =>
    have := filterLeaves_adds f (l :: ls) he hp
    exact orFrames_spec f hn he hacc (by rw [this]; exact ⟨he, rfl⟩)

theorem hasErr_of_wt (c : Clause) (h : c.wellTyped = true) : c.hasErr = false := by
  match c with
  | .leaf l => simp
  | .null => simp
  | .not c => simpa using hasErr_of_wt c (by simpa using h)
  | .and cs | .or cs =>
    simp only [wt_and, wt_or, Bool.and_eq_true, Bool.not_eq_eq_eq_not, Bool.not_true, List.all_eq_true] at h
    simp only [he_and, he_or, h.1, Bool.false_or, List.any_eq_false]
    intro c hc; simpa using hasErr_of_wt c (h.2 c hc)
termination_by sizeOf c
decreasing_by
  all_goals simp_wf
  all_goals first | omega | (have := List.sizeOf_lt_of_mem hc; omega)

/-- a property of clauses under which `filter` refines `sem`: it passes to the sub-clauses, and a leaf that has it and does
not fail adds its rows whichever way `Inverse` is set (`Not` flips the flag of a leaf) -/
structure Refinable (P : Clause → Prop) : Prop where
  leaf : ∀ l, P (.leaf l) → l.err = false → ∀ b, ({ l with inverse := b } : Leaf).Adds
  and : ∀ cs, P (.and cs) → ∀ c ∈ cs, P c
  or : ∀ cs, P (.or cs) → ∀ c ∈ cs, P c
  not : ∀ c, P (.not c) → P c

mutual
theorem refines_of {P : Clause → Prop} (hP : Refinable P) (c : Clause) (hs : P c) (hw : c.wellTyped = true) : Ref c := by
  intro f hn he
  match c with
  | .leaf l =>
    simp only [Clause.filter]
    rw [filterLeaves_adds f [l] he (by simpa using hP.leaf l hs (by simpa using hw) l.inverse)]
    simp [he]
  | .null => simp [Clause.filter, he]; exact (List.filter_eq_self.mpr (by simp)).symm
  | .and cs =>
    have hE := hasErr_of_wt _ hw
    simp only [wt_and, Bool.and_eq_true, List.all_eq_true] at hw
    simp only [Clause.filter, he, hE, Bool.false_eq_true, ↓reduceIte]
    simpa using andLoop_refines hP cs (hP.and cs hs) hw.2 f hn he
  | .or cs =>
    have hE := hasErr_of_wt _ hw
    simp only [wt_or, Bool.and_eq_true, List.all_eq_true] at hw
    simp only [Clause.filter, he, hE, Bool.false_eq_true, ↓reduceIte]
    have hne : cs ≠ [] := by intro h; simp [h] at hw
    simpa using orLoop_refines hP cs (hP.or cs hs) hw.2 f hn he [] (by simp) none (fun _ => false) rfl (fun _ _ => hne)
  | .not c =>
    have hE := hasErr_of_wt _ hw
    simp only [wt_not] at hw
    simp only [he_not] at hE
    by_cases hl : ∃ l, c = .leaf l
    · obtain ⟨l, rfl⟩ := hl
      simp only [Clause.filter, he, hE, Bool.false_eq_true, ↓reduceIte]
      rw [filterLeaves_adds f _ he (by simpa using hP.leaf l (hP.not _ hs) (by simpa using hw) (!l.inverse))]
      refine ⟨he, ?_⟩
      simp only [sem_not, sem_leaf]
      congr 1
      funext p
      simp [Leaf.sem]
      cases l.inverse <;> simp
    · obtain ⟨ge, gi⟩ := refines_of hP c (hP.not c hs) hw f hn he
      rw [filter_not_nonleaf c (not_exists.1 hl)]
      simp only [he, hE, Bool.false_eq_true, ↓reduceIte, ge, gi, notMerge_filter _ _ hn, sem_not]
      trivial
theorem andLoop_refines {P : Clause → Prop} (hP : Refinable P) (cs : List Clause) (hs : ∀ c ∈ cs, P c)
    (hw : ∀ c ∈ cs, c.wellTyped = true) (f : Frame) (hn : f.index.Nodup) (he : f.err = false) :
    (andLoop cs f).err = false ∧ (andLoop cs f).index = f.index.filter (fun p => cs.all (·.sem p)) := by
  match cs with
  | [] => simp [andLoop, he]; exact (List.filter_eq_self.mpr (by simp)).symm
  | c :: cs =>
    obtain ⟨e1, i1⟩ := refines_of hP c (hs c (by simp)) (hw c (by simp)) f hn he
    have hn1 : (c.filter f).index.Nodup := by rw [i1]; exact hn.filter _
    obtain ⟨e2, i2⟩ := andLoop_refines hP cs (fun c h => hs c (by simp [h])) (fun c h => hw c (by simp [h])) (c.filter f) hn1 e1
    simp only [andLoop]
    refine ⟨e2, ?_⟩
    rw [i2, i1, List.filter_filter]
    simp [Bool.and_comm]
theorem orLoop_refines {P : Clause → Prop} (hP : Refinable P) (cs : List Clause) (hs : ∀ c ∈ cs, P c)
    (hw : ∀ c ∈ cs, c.wellTyped = true) (f : Frame) (hn : f.index.Nodup) (he : f.err = false)
    (pending : List Leaf) (hp : ∀ l ∈ pending, l.Adds)
    (acc : Option Frame) (a : Pos → Bool) (hacc : Holds f acc a)
    (hne : acc = none → pending = [] → cs ≠ []) :
    (orLoop cs f pending acc).err = false ∧
    (orLoop cs f pending acc).index = f.index.filter (fun p => a p || pending.any (·.sem p) || cs.any (·.sem p)) := by
  match cs with
  | [] =>
    have h := flush_adds f hn he hp hacc
    rw [orLoop_nil]
    cases hfl : flush f pending acc with
    | some g => rw [hfl] at h; simpa [Holds] using h
    | none =>
      -- nothing was ever merged: excluded, an `Or` has at least one sub-clause
      unfold flush at hfl
      split at hfl
      · exact absurd rfl (hne hfl (List.isEmpty_iff.1 ‹_›))
      · cases hfl
  | c :: cs =>
    have hs' : ∀ c ∈ cs, P c := fun c h => hs c (by simp [h])
    have hw' : ∀ c ∈ cs, c.wellTyped = true := fun c h => hw c (by simp [h])
    by_cases hc : ∃ l, c = .leaf l
    · obtain ⟨l, rfl⟩ := hc
      have hl : l.Adds := hP.leaf l (hs _ (by simp)) (by simpa using hw _ List.mem_cons_self) l.inverse
      have := orLoop_refines hP cs hs' hw' f hn he (pending ++ [l]) (by
        intro l' h; rcases List.mem_append.mp h with h | h
        · exact hp l' h
        · simp at h; subst h; exact hl) acc a hacc (by intro _ h; simp at h)
      rw [orLoop_leaf]
      refine ⟨this.1, ?_⟩
      rw [this.2]; congr 1; funext p; simp [Bool.or_assoc]
    · have h2 := orFrames_spec f hn he (flush_adds f hn he hp hacc) (refines_of hP c (hs c (by simp)) (hw c (by simp)) f hn he)
      have := orLoop_refines hP cs hs' hw' f hn he [] (by simp) _ _ h2 (by intro h; cases h)
      rw [orLoop_nonleaf (not_exists.1 hc)]
      refine ⟨this.1, ?_⟩
      rw [this.2]; congr 1; funext p; simp [Bool.or_assoc]
end

theorem sound_refinable : Refinable Clause.sound where
  leaf l h he b := by
    have h' : ({ l with inverse := b } : Leaf).sound := by simpa [Leaf.sound] using h
    exact leafStep_adds _ he (fun _ _ => by rw [h'.1]) (fun sh p hv => ⟨fun _ _ => by rw [(h'.2 sh p hv).1], (h'.2 sh p hv).2⟩)
  and cs h := by simpa using h
  or cs h := by simpa using h
  not c h := by simpa using h

theorem filter_refines (c : Clause) (hs : c.sound) (hw : c.wellTyped = true) : Ref c :=
  refines_of sound_refinable c hs hw

/-! ### the error flag -/

theorem filter_of_err (c : Clause) (f : Frame) (h : f.err = true) : c.filter f = f := by
  cases c with
  | leaf l => simp [Clause.filter, filterLeaves, h]
  | null => simp [Clause.filter]
  | and cs => simp [Clause.filter, h]
  | or cs => simp [Clause.filter, h]
  | not c => cases c <;> simp [Clause.filter, h]

theorem leafStep_isNone (ix : List Pos) (m : List Bool) (l : Leaf) : (leafStep ix m l).isNone = l.err := by
  unfold leafStep
  cases he : l.err <;> cases hi : l.inverse <;> cases hv : l.inv <;> simp

theorem foldlM_isNone (ix : List Pos) (ls : List Leaf) (m : List Bool) :
    (ls.foldlM (leafStep ix) m).isNone = ls.any (·.err) := by
  induction ls generalizing m with
  | nil => rfl
  | cons l ls ih =>
    have h := leafStep_isNone ix m l
    simp only [List.foldlM_cons, List.any_cons]
    cases hs : leafStep ix m l with
    | none => rw [hs] at h; simp [← h]
    | some m' => rw [hs] at h; simp [← h, ih m']

theorem filterLeaves_err (f : Frame) (ls : List Leaf) : (filterLeaves f ls).err = (f.err || ls.any (·.err)) := by
  unfold filterLeaves
  cases hf : f.err
  · have h := foldlM_isNone f.index ls (List.replicate f.index.length false)
    cases hs : ls.foldlM (leafStep f.index) (List.replicate f.index.length false) <;> rw [hs] at h <;> simp [← h]
  · simp [hf]

theorem orFrames_err (f : Frame) (hf : f.err = false) (acc : Option Frame) (r : Frame) :
    (orFrames f acc r).err = (acc.any (·.err) || r.err) := by
  cases acc with
  | none => simp [orFrames]
  | some g => cases hg : g.err <;> cases hr : r.err <;> simp [orFrames, hg, hr, hf]

theorem flush_err (f : Frame) (hf : f.err = false) (pending : List Leaf) (acc : Option Frame) :
    (flush f pending acc).any (·.err) = (acc.any (·.err) || pending.any (·.err)) := by
  unfold flush
  cases pending with
  | nil => simp
  | cons l ls => simp [orFrames_err f hf, filterLeaves_err, hf]

theorem not_wt_of_hasErr (c : Clause) (h : c.hasErr = true) : (!c.wellTyped) = true := by
  cases hw : c.wellTyped
  · rfl
  · rw [hasErr_of_wt c hw] at h; cases h

mutual
/-- the mirror fails exactly on a failed frame and on a clause that is not well typed (a leaf that fails, an empty
`And`/`Or`, anywhere); the kernels have no say in it -/
theorem filter_err_eq (c : Clause) (f : Frame) : (c.filter f).err = (f.err || !c.wellTyped) := by
  cases hf : f.err with
  | true => rw [filter_of_err c f hf]; simp [hf]
  | false =>
  match c with
  | .leaf l => simp [Clause.filter, filterLeaves_err, hf]
  | .null => simp [Clause.filter, hf, Clause.wellTyped]
  | .and cs =>
    simp only [Clause.filter, hf, Bool.false_eq_true, ↓reduceIte, Bool.false_or]
    cases hE : (Clause.and cs).hasErr with
    | true => rw [not_wt_of_hasErr _ hE]; rfl
    | false =>
      simp only [Bool.false_eq_true, ↓reduceIte]
      rw [andLoop_err cs]
      simp only [he_and, Bool.or_eq_false_iff] at hE
      simp [hf, hE.1, List.all_eq_not_any_not]
  | .or cs =>
    simp only [Clause.filter, hf, Bool.false_eq_true, ↓reduceIte, Bool.false_or]
    cases hE : (Clause.or cs).hasErr with
    | true => rw [not_wt_of_hasErr _ hE]; rfl
    | false =>
      simp only [Bool.false_eq_true, ↓reduceIte]
      rw [orLoop_err cs f hf]
      simp only [he_or, Bool.or_eq_false_iff] at hE
      simp [hE.1, List.all_eq_not_any_not]
  | .not c =>
    by_cases hl : ∃ l, c = .leaf l
    · obtain ⟨l, rfl⟩ := hl
      simp [Clause.filter, hf, filterLeaves_err]
    · have h1 := filter_err_eq c f
      rw [hf, Bool.false_or] at h1
      rw [filter_not_nonleaf c (not_exists.1 hl)]
      simp only [hf, Bool.false_eq_true, ↓reduceIte, Bool.false_or, wt_not]
      cases hE : c.hasErr with
      | true => rw [not_wt_of_hasErr _ hE]; rfl
      | false =>
        simp only [Bool.false_eq_true, ↓reduceIte]
        cases hg : (c.filter f).err <;> simp only [hg, Bool.false_eq_true, ↓reduceIte] <;> rw [← h1, hg]
theorem andLoop_err (cs : List Clause) (f : Frame) : (andLoop cs f).err = (f.err || cs.any (fun c => !c.wellTyped)) := by
  match cs with
  | [] => simp [andLoop]
  | c :: cs =>
    simp only [andLoop]
    rw [andLoop_err cs, filter_err_eq c]
    simp [Bool.or_assoc]
theorem orLoop_err (cs : List Clause) (f : Frame) (hf : f.err = false) (pending : List Leaf) (acc : Option Frame) :
    (orLoop cs f pending acc).err = (acc.any (·.err) || pending.any (·.err) || cs.any (fun c => !c.wellTyped)) := by
  match cs with
  | [] =>
    have h := flush_err f hf pending acc
    rw [orLoop_nil]
    cases hs : flush f pending acc <;> rw [hs] at h <;> simp [← h, hf]
  | c :: cs =>
    by_cases hl : ∃ l, c = .leaf l
    · obtain ⟨l, rfl⟩ := hl
      rw [orLoop_leaf, orLoop_err cs f hf]
      simp [Bool.or_assoc]
    · rw [orLoop_nonleaf (not_exists.1 hl), orLoop_err cs f hf]
      simp [orFrames_err f hf, flush_err f hf, filter_err_eq c f, hf, Bool.or_assoc]
end

end F
#print axioms F.filter_refines
