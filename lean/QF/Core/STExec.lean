import QF.Core.STExpr
/-!
# ST — symbolic execution of terms of `QF.ST`

One equation per statement form (`exec_*`; loops keep their step function folded so that the loop lemmas can be stated by
induction) and the rules by which a program is run on a store variable, each from what its parts give: an expression from the
values of its operands (`bind1`, `bind2` for any operator, `eval_var`, `eval_cmp`, … by name, `slice_str`, `slice_bytes`), a statement
from the value of its expression (`exec_assign_ok`, `exec_ite_pos`, `exec_copy_ok`, `exec_newMatcher_ok`, `exec_rangeStr_ok`,
`exec_ret_ok`, …), a block from the outcome of its first statement (`exec_cons_next`, `exec_cons_cont`, `exec_cons_ret`), a call from
the outcome of the body (`run_ret`, `run_vals`). Used by the Props files about `QF.Gen.stringsFns` (C08PointerGen, C14QuoteGen,
C18UpperGen, C18FilterGen).
-/
namespace QF.ST

theorem set_apply (σ : Store) (v w : Var) (x : Val) : σ.set v x w = if w = v then some x else σ w := rfl

/-- `Store.set_ne` with the variables as numbers, so that `omega` proves the side condition -/
theorem set_of_ne {σ : Store} {v w : Nat} {x : Val} (h : w ≠ v) : σ.set v x w = σ w := Store.set_ne σ v w x h

theorem set_set (σ : Store) (v : Var) (x y : Val) : (σ.set v x).set v y = σ.set v y := by
  funext w; simp only [Store.set]; split <;> rfl

/-- the step function of a loop with body `body` -/
def stepOf (Γ : Env) (body : S) (σ : Store) : Out := body.exec Γ σ

section exec
variable (Γ : Env) (σ : Store)
theorem exec_skip : S.skip.exec Γ σ = .next σ := rfl
theorem exec_block_nil : (S.block []).exec Γ σ = .next σ := rfl
theorem exec_block_cons (s : S) (ss : List S) :
    (S.block (s :: ss)).exec Γ σ = (match s.exec Γ σ with | .next σ' => (S.block ss).exec Γ σ' | r => r) := rfl
theorem exec_seq (a b : S) : (S.seq a b).exec Γ σ = (match a.exec Γ σ with | .next σ' => b.exec Γ σ' | r => r) := rfl
theorem exec_assign (l : L) (e : E) : (S.assign l e).exec Γ σ = Out.ofRes (e.eval Γ σ) fun x => .next (assignL σ l x) := rfl
theorem exec_setAt (v : Var) (i e : E) : (S.setAt v i e).exec Γ σ =
    Out.ofRes (i.eval Γ σ) fun iv => Out.ofRes (asIndex iv) fun n => Out.ofRes (e.eval Γ σ) fun x =>
      match σ v, x with
      | some (.bytes (some b)), .byte c =>
        if 0 ≤ n ∧ n < b.length then .next (σ.set v (.bytes (some (b.set n.toNat c)))) else .panic .index
      | some (.bytes none), .byte _ => .panic .index
      | some (.bools l), .bool c =>
        if 0 ≤ n ∧ n < l.length then .next (σ.set v (.bools (l.set n.toNat c))) else .panic .index
      | _, _ => .stuck := rfl
theorem exec_copy (n : L) (v : Var) (src : E) : (S.copy n v src).exec Γ σ =
    Out.ofRes (src.eval Γ σ) fun s =>
      match σ v, s.bytesOf with
      | some (.bytes o), some t =>
        let k := min (o.getD []).length t.length
        .next (assignL (σ.set v (.bytes (o.map fun b => overwrite b 0 (t.take k)))) n (.int k))
      | _, _ => .stuck := rfl
theorem exec_encodeRune (n : L) (v : Var) (off r : E) : (S.encodeRune n v off r).exec Γ σ =
    Out.ofRes (off.eval Γ σ) fun ov => Out.ofRes (asInt ov) fun o => Out.ofRes (r.eval Γ σ) fun rv =>
      match σ v, rv with
      | some (.bytes (some b)), .rune x =>
        if 0 ≤ o ∧ o ≤ b.length then
          (if o.toNat + (Γ.encode x).length ≤ b.length then
            .next (assignL (σ.set v (.bytes (some (overwrite b o.toNat (Γ.encode x))))) n (.int (Γ.encode x).length))
           else .panic .index)
        else .panic .slice
      | _, _ => .stuck := rfl
theorem exec_decodeRune (r w : L) (s : E) : (S.decodeRune r w s).exec Γ σ =
    Out.ofRes (s.eval Γ σ) fun x =>
      match x with
      | .str t => .next (assignL (assignL σ r (.rune (Γ.decode t).1)) w (.int (Γ.decode t).2))
      | _ => .stuck := rfl
theorem exec_newMatcher (m er : L) (pat cs : E) : (S.newMatcher m er pat cs).exec Γ σ =
    Out.ofRes (pat.eval Γ σ) fun p => Out.ofRes (cs.eval Γ σ) fun c =>
      match p, c with
      | .str t, .bool b =>
        (match Γ.newMatcher t b with
         | .ok f => .next (assignL (assignL σ m (.matcher f)) er (.err none))
         | .error e => .next (assignL (assignL σ m (.matcher fun _ => false)) er (.err (some e))))
      | _, _ => .stuck := rfl
theorem exec_stringAt (s isNull : L) (col i : E) : (S.stringAt s isNull col i).exec Γ σ =
    Out.ofRes (col.eval Γ σ) fun c => Out.ofRes (i.eval Γ σ) fun iv => Out.ofRes (asIndex iv) fun n =>
      match c with
      | .col cells =>
        if 0 ≤ n ∧ n < cells.length then
          (match cells[n.toNat]! with
           | some t => .next (assignL (assignL σ s (.str t)) isNull (.bool false))
           | none => .next (assignL (assignL σ s (.str [])) isNull (.bool true)))
        else .panic .index
      | _ => .stuck := rfl
theorem exec_bsSet (v : Var) (e : E) : (S.bsSet v e).exec Γ σ =
    Out.ofRes (e.eval Γ σ) fun x =>
      match σ v, x with
      | some (.bitset (some b)), .byte c => .next (σ.set v (.bitset (some (Small.bsSet b c.toNat))))
      | _, _ => .stuck := rfl
theorem exec_ite (c : E) (t e : S) : (S.ite c t e).exec Γ σ =
    Out.ofRes (c.eval Γ σ) fun x =>
      match x with
      | .bool true => t.exec Γ σ
      | .bool false => e.exec Γ σ
      | _ => .stuck := rfl
theorem exec_loop (body : S) : (S.loop body).exec Γ σ = iter (stepOf Γ body) Γ.fuel σ := rfl
theorem exec_rangeStr (i c : L) (s : E) (body : S) : (S.rangeStr i c s body).exec Γ σ =
    Out.ofRes (s.eval Γ σ) fun x =>
      match x with
      | .str t => iterStr Γ.decode i c (stepOf Γ body) t (t.length + 1) 0 σ
      | _ => .stuck := rfl
theorem exec_rangeVar (i x : L) (v : Var) (body : S) : (S.rangeVar i x v body).exec Γ σ =
    (match σ v with
     | some s => (match s.len with
                  | some n => iterVar i x v (stepOf Γ body) n n 0 σ
                  | none => .stuck)
     | none => .stuck) := rfl
theorem exec_brk : S.brk.exec Γ σ = .brk σ := rfl
theorem exec_cont : S.cont.exec Γ σ = .cont σ := rfl
theorem exec_ret (es : List E) : (S.ret es).exec Γ σ = Out.ofRes (evalList Γ σ es) fun vs => .ret σ vs := rfl
end exec

/-! Evaluation and execution from what the parts give: an expression from the values of its operands, a statement from the value
of its expression, a block from the outcome of its first statement. A proof about a program quotes these for the statement at
hand and never unfolds the statements that follow it. -/
section steps
variable {Γ : Env} {σ σ' : Store} {e : E} {x : Val}

/-- An operator of `E.eval` evaluates its operands from left to right and then works on the values: one operand … -/
theorem bind1 {α β : Type} {ra : Res α} {x : α} {f : α → Res β} {z : Res β} (ha : ra = .ok x) (hz : f x = z) : ra.bind f = z := by
  rw [ha]; exact hz

/-- … two operands. With the expected type `(E.bor a b).eval Γ σ = .ok z` (any operator), `bind2 ha hb hz` asks for the values of `a` and `b`
and for what the operation makes of them. -/
theorem bind2 {α β γ : Type} {ra : Res α} {rb : Res β} {x : α} {y : β} {f : α → β → Res γ} {z : Res γ} (ha : ra = .ok x) (hb : rb = .ok y)
    (hz : f x y = z) : (ra.bind fun x => rb.bind fun y => f x y) = z := by
  rw [ha, hb]; exact hz

theorem eval_cmp {op : COp} {a b : E} {x y : Val} {r : Bool} (ha : a.eval Γ σ = .ok x) (hb : b.eval Γ σ = .ok y)
    (hr : compare op x y = .ok (.bool r)) : (E.cmp op a b).eval Γ σ = .ok (.bool r) := by
  rw [E.eval, ha, hb]; exact hr

/-- `&&` when the right operand has a value whether or not it is evaluated -/
theorem eval_and {a b : E} {x y : Bool} (ha : a.eval Γ σ = .ok (.bool x)) (hb : b.eval Γ σ = .ok (.bool y)) :
    (E.and a b).eval Γ σ = .ok (.bool (x && y)) := by
  rw [E.eval, ha, hb]; cases x <;> rfl

theorem eval_or {a b : E} {x y : Bool} (ha : a.eval Γ σ = .ok (.bool x)) (hb : b.eval Γ σ = .ok (.bool y)) :
    (E.or a b).eval Γ σ = .ok (.bool (x || y)) := by
  rw [E.eval, ha, hb]; cases x <;> rfl

theorem eval_not {e : E} {b : Bool} (he : e.eval Γ σ = .ok (.bool b)) : (E.not e).eval Γ σ = .ok (.bool (!b)) := by
  rw [E.eval, he]; rfl

theorem eval_add {a b : E} {x y z : Val} (ha : a.eval Γ σ = .ok x) (hb : b.eval Γ σ = .ok y) (hz : arith (· + ·) x y = .ok z) :
    (E.add a b).eval Γ σ = .ok z := by
  rw [E.eval, ha, hb]; exact hz

theorem eval_at {a i : E} {x y : Val} {n : Int} (ha : a.eval Γ σ = .ok x) (hi : i.eval Γ σ = .ok y) (hn : asIndex y = .ok n) :
    (E.at a i).eval Γ σ = x.index n := by
  rw [E.eval, ha, hi, Res.bind_ok, Res.bind_ok, hn]; rfl

theorem eval_len {e : E} {x : Val} {n : Nat} (he : e.eval Γ σ = .ok x) (hn : x.len = some n) : (E.len e).eval Γ σ = .ok (.int n) := by
  rw [E.eval, he, Res.bind_ok, lenOf, hn]; rfl

theorem eval_sliceFrom_str {e lo : E} {s : Bytes} {m : Nat} (he : e.eval Γ σ = .ok (.str s)) (hlo : lo.eval Γ σ = .ok (.int m))
    (hm : m ≤ s.length) : (E.sliceFrom e lo).eval Γ σ = .ok (.str (s.drop m)) := by
  rw [E.eval, he, hlo]
  simp only [Res.bind_ok, asInt, lenOf, Val.len, Val.slice]
  rw [if_pos (by omega), Int.toNat_natCast, Int.toNat_natCast, List.take_length]

theorem eval_make {e : E} {n : Nat} (he : e.eval Γ σ = .ok (.int n)) : (E.make e).eval Γ σ = .ok (.bytes (some (List.replicate n 0))) := by
  rw [E.eval, he]
  simp only [Res.bind_ok, asInt]
  rw [if_pos (Int.natCast_nonneg n), Int.toNat_natCast]

theorem slice_str {s : Bytes} {m n : Nat} (hm : m ≤ n) (hn : n ≤ s.length) : (Val.str s).slice m n = .ok (.str ((s.take n).drop m)) := by
  rw [Val.slice, if_pos (by omega), Int.toNat_natCast, Int.toNat_natCast]

theorem slice_bytes {b : Bytes} {m n : Nat} (hm : m ≤ n) (hn : n ≤ b.length) :
    (Val.bytes (some b)).slice m n = .ok (.bytes (some ((b.take n).drop m))) := by
  rw [Val.slice, if_pos (by omega), if_pos (by omega), Int.toNat_natCast, Int.toNat_natCast]

theorem exec_assign_ok {l : L} {e : E} {x : Val} (h : e.eval Γ σ = .ok x) : (S.assign l e).exec Γ σ = .next (assignL σ l x) := by
  rw [exec_assign, h]; rfl

theorem exec_ite_pos {c : E} {t e : S} {b : Bool} (h : c.eval Γ σ = .ok (.bool b)) (hb : b = true) :
    (S.ite c t e).exec Γ σ = t.exec Γ σ := by
  rw [exec_ite, h, hb]; rfl

theorem exec_ite_neg {c : E} {t e : S} {b : Bool} (h : c.eval Γ σ = .ok (.bool b)) (hb : b = false) :
    (S.ite c t e).exec Γ σ = e.exec Γ σ := by
  rw [exec_ite, h, hb]; rfl

/-- `n = copy(v, src)`: as many bytes as fit -/
theorem exec_copy_ok {n : L} {v : Var} {src : E} {s : Val} {b t : Bytes} (hs : src.eval Γ σ = .ok s) (ht : s.bytesOf = some t)
    (hv : σ v = some (.bytes (some b))) : (S.copy n v src).exec Γ σ =
      .next (assignL (σ.set v (.bytes (some (overwrite b 0 (t.take (min b.length t.length)))))) n (.int (min b.length t.length : Nat))) := by
  rw [exec_copy, hs, hv, Out.ofRes_ok, ht]; rfl

theorem exec_bsSet_ok {v : Var} {c : Byte} {b : Small.BitSet} (he : e.eval Γ σ = .ok (.byte c))
    (hv : σ v = some (.bitset (some b))) : (S.bsSet v e).exec Γ σ = .next (σ.set v (.bitset (some (Small.bsSet b c.toNat)))) := by
  rw [exec_bsSet, he, hv]; rfl

/-- `m, err = NewMatcher(pat, cs)`: the matcher and a nil error, or a matcher that is never asked and the error -/
theorem exec_newMatcher_ok {m er : L} {pat cs : E} {t : Bytes} {c : Bool} {f : Bytes → Bool} (hp : pat.eval Γ σ = .ok (.str t))
    (hc : cs.eval Γ σ = .ok (.bool c)) (hm : Γ.newMatcher t c = .ok f) :
    (S.newMatcher m er pat cs).exec Γ σ = .next (assignL (assignL σ m (.matcher f)) er (.err none)) := by
  rw [exec_newMatcher, hp, hc]; simp only [Out.ofRes_ok, hm]

theorem exec_newMatcher_error {m er : L} {pat cs : E} {t : Bytes} {c : Bool} {err : Err} (hp : pat.eval Γ σ = .ok (.str t))
    (hc : cs.eval Γ σ = .ok (.bool c)) (hm : Γ.newMatcher t c = .error err) :
    (S.newMatcher m er pat cs).exec Γ σ = .next (assignL (assignL σ m (.matcher fun _ => false)) er (.err (some err))) := by
  rw [exec_newMatcher, hp, hc]; simp only [Out.ofRes_ok, hm]

theorem exec_rangeStr_ok {i c : L} {body : S} {t : Bytes} (h : e.eval Γ σ = .ok (.str t)) :
    (S.rangeStr i c e body).exec Γ σ = iterStr Γ.decode i c (stepOf Γ body) t (t.length + 1) 0 σ := by
  rw [exec_rangeStr, h]; rfl

theorem exec_rangeVar_ok {i c : L} {v : Var} {body : S} {n : Nat} (hv : σ v = some x) (hn : x.len = some n) :
    (S.rangeVar i c v body).exec Γ σ = iterVar i c v (stepOf Γ body) n n 0 σ := by
  rw [exec_rangeVar, hv]; simp only [hn]

theorem evalList_cons {es : List E} {xs : List Val} (he : e.eval Γ σ = .ok x) (hes : evalList Γ σ es = .ok xs) :
    evalList Γ σ (e :: es) = .ok (x :: xs) := by
  rw [evalList, he, hes]; rfl

theorem exec_ret_ok {es : List E} {vs : List Val} (h : evalList Γ σ es = .ok vs) : (S.ret es).exec Γ σ = .ret σ vs := by
  rw [exec_ret, h]; rfl

/-- the first statement of a block goes on to the rest (`hk := rfl` leaves the rest to be run) -/
theorem exec_cons_next {s : S} {ss : List S} {o : Out} (h : s.exec Γ σ = .next σ') (hk : (S.block ss).exec Γ σ' = o) :
    (S.block (s :: ss)).exec Γ σ = o := by
  rw [exec_block_cons, h]; exact hk

theorem exec_cons_cont {s : S} {ss : List S} (h : s.exec Γ σ = .cont σ') : (S.block (s :: ss)).exec Γ σ = .cont σ' := by
  rw [exec_block_cons, h]
theorem exec_cons_ret {s : S} {ss : List S} {vs : List Val} (h : s.exec Γ σ = .ret σ' vs) : (S.block (s :: ss)).exec Γ σ = .ret σ' vs := by
  rw [exec_block_cons, h]

/-- a call: the body is run on the store that holds the arguments -/
theorem run_ret {P : List (FnId × Fn)} {f : FnId} {fn : Fn} {args vs : List Val} (hf : P.lookup f = some fn) (hn : args.length = fn.params)
    (h : fn.body.exec Γ (bindArgs args 0 Store.empty) = .ret σ' vs) : run Γ P f args = .ret σ' vs := by
  simp only [run, hf, runFn, hn, h, if_true]

theorem run_vals {P : List (FnId × Fn)} {f : FnId} {fn : Fn} {args vs : List Val} (hf : P.lookup f = some fn) (hn : args.length = fn.params)
    (h : fn.body.exec Γ (bindArgs args 0 Store.empty) = .ret σ' vs) : (run Γ P f args).vals = some vs :=
  congrArg Run.vals (run_ret hf hn h)
end steps

/-- what a round of a loop leaves to the following rounds -/
def contK (step : Store → Out) (k : Nat) : Out → Out
  | .next σ => iter step k σ
  | .cont σ => iter step k σ
  | .brk σ => .next σ
  | r => r

theorem iter_succ (step : Store → Out) (k : Nat) (σ : Store) : iter step (k + 1) σ = contK step k (step σ) := by
  rw [iter]; cases step σ <;> rfl

/-- a round that goes on to the next one -/
def GoesOn (o : Out) (σ' : Store) : Prop := o = .cont σ' ∨ o = .next σ'

theorem contK_goesOn (step : Store → Out) (k : Nat) (o : Out) (σ' : Store) (h : GoesOn o σ') : contK step k o = iter step k σ' := by
  rcases h with h | h <;> rw [h] <;> rfl

end QF.ST
