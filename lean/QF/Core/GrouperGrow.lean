import QF.Core.GrouperInv
/-! Counting occupied slots; growth as a fold of probes that re-places every entry (`RI`), succeeds on every
    table (`grow_total`) and preserves the table invariant (`grow_preserves`). -/
namespace G

variable (hash : Nat → Nat) (eqv : Nat → Nat → Bool)

/-- number of occupied slots -/
def countOcc (slots : Array (Option Entry)) : Nat := (slots.toList.filter Option.isSome).length

theorem exists_empty_of_count (slots : Array (Option Entry)) (h : countOcc slots < slots.size) :
    ∃ s : Nat, slots[s]? = some none := by
  unfold countOcc at h
  have : ∃ x ∈ slots.toList, x.isSome = false := by
    apply Classical.byContradiction
    intro hne
    have hall : ∀ x ∈ slots.toList, x.isSome = true := by
      intro x hx
      cases hv : x.isSome with
      | true => rfl
      | false => exact absurd ⟨x, hx, hv⟩ hne
    rw [List.filter_eq_self.mpr hall] at h
    simp at h
  obtain ⟨x, hx, hxn⟩ := this
  cases x with
  | some _ => cases hxn
  | none => exact Array.mem_iff_getElem?.mp (Array.mem_toList_iff.mp hx)

/-- writing an entry into slot `p` adds one to the count exactly when the slot was free -/
theorem countOcc_set (slots : Array (Option Entry)) (p : Nat) (x : Entry) (o : Option Entry) (h : slots[p]? = some o) :
    countOcc (slots.setIfInBounds p (some x)) + o.isSome.toNat = countOcc slots + 1 := by
  unfold countOcc
  have hp := lt_of_get h
  have hl : slots.toList[p]? = some o := by simpa using h
  cases slots with
  | mk l =>
    simp only [Array.setIfInBounds, List.size_toArray] at *
    simp only [hp, ↓reduceDIte, Array.set, List.set_toArray]
    have hlp : l[p] = o := by
      rw [List.getElem?_eq_getElem hp] at hl; simpa using hl
    rw [List.set_eq_take_append_cons_drop]
    simp only [hp, ↓reduceIte]
    conv => rhs; rw [← List.take_append_drop p l, List.drop_eq_getElem_cons hp, hlp]
    cases o <;> simp [List.filter_append, List.filter_cons] <;> omega

theorem countOcc_set_empty (slots : Array (Option Entry)) (p : Nat) (x : Entry) (h : slots[p]? = some none) :
    countOcc (slots.setIfInBounds p (some x)) = countOcc slots + 1 := by
  simpa using countOcc_set slots p x none h

theorem countOcc_set_occ (slots : Array (Option Entry)) (p : Nat) (e x : Entry) (h : slots[p]? = some (some e)) :
    countOcc (slots.setIfInBounds p (some x)) = countOcc slots := by
  simpa using countOcc_set slots p x (some e) h

theorem placeFrom_eq (slots : Array (Option Entry)) (e : Entry) (fuel pos coll : Nat) :
    placeFrom slots e fuel pos coll =
      (probe (fun _ _ => false) slots 0 0 fuel pos coll).map (fun pc => (slots.setIfInBounds pc.1 (some e), pc.2)) := by
  induction fuel generalizing pos coll with
  | zero => simp [placeFrom, probe]
  | succ f ih =>
    unfold placeFrom probe
    cases hv : slots[pos]? with
    | none => simp
    | some o =>
      cases o with
      | none => simp
      | some e' => simp [ih]

theorem skipFrom_eq (slots : Array (Option Entry)) (fuel pos coll : Nat) :
    skipFrom slots fuel pos coll = (probe (fun _ _ => false) slots 0 0 fuel pos coll).map (fun pc => pc.2) := by
  induction fuel generalizing pos coll with
  | zero => simp [skipFrom, probe]
  | succ f ih =>
    unfold skipFrom probe
    cases hv : slots[pos]? with
    | none => simp
    | some o =>
      cases o with
      | none => simp
      | some e' => simp [ih]

/-- Relocation is the probe that no key stops: in a table with a free slot it ends at the first free slot of the path. -/
theorem probe_free (ns : Array (Option Entry)) (h c0 : Nat) (hn : 0 < ns.size) (hEmpty : ∃ s : Nat, ns[s]? = some none) :
    ∃ p c, probe (fun _ _ => false) ns 0 0 (ns.size + 1) (h % ns.size) c0 = some (p, c0 + c) ∧
      p < ns.size ∧ ns[p]? = some none ∧ c < ns.size ∧ p = walk ns.size c (h % ns.size) ∧
      ∀ j, j < c → ∃ e', occ ns (walk ns.size j (h % ns.size)) e' := by
  have hhome : h % ns.size < ns.size := Nat.mod_lt _ hn
  obtain ⟨m, hm, hpr, hsm, hbefore⟩ := probe_stops (fun _ _ => false) ns 0 0 _ hhome hEmpty
  refine ⟨_, m, hpr c0, walk_lt _ _ _ hhome, ?_, hm, rfl, fun j hj => (hbefore j hj).2⟩
  rcases stopAt_true _ ns 0 0 _ hsm with hemp | ⟨_, _, _, he⟩
  · exact hemp
  · cases he

/-- the step function of grow's fold -/
def growStep (newLen : Nat) (acc : Option (Array (Option Entry) × Nat)) (s : Option Entry) :
    Option (Array (Option Entry) × Nat) :=
  match acc, s with
  | some (ns, c), some e => placeFrom ns e (newLen + 1) (e.hash % newLen) c
  | some (ns, c), none => (skipFrom ns (newLen + 1) (0 % newLen) c).map fun c' => (ns, c')
  | none, _ => none

/-- what a step of the rehash leaves in the new slots when the walk for the old slot `x` has ended at `p` -/
def setX (ns : Array (Option Entry)) (p : Nat) : Option Entry → Array (Option Entry)
  | some e => ns.setIfInBounds p (some e)
  | none => ns

/-- a step of the rehash is the probe that no key stops, from the home slot of the old entry (slot 0 for a free old slot) -/
theorem growStep_probe (N : Nat) (ns : Array (Option Entry)) (c : Nat) (x : Option Entry) :
    growStep N (some (ns, c)) x =
      (probe (fun _ _ => false) ns 0 0 (N + 1) (x.elim 0 Entry.hash % N) c).map fun pc => (setX ns pc.1 x, pc.2) := by
  cases x with
  | none => simp only [growStep, skipFrom_eq, Option.map_map]; rfl
  | some e => simp only [growStep, placeFrom_eq]; rfl

theorem grow_eq (t : Tbl) : grow {} t =
    (t.slots.toList.foldl (growStep (2 * t.slots.size)) (some (Array.replicate (2 * t.slots.size) none, t.relocCollisions))).map
      fun p => { t with slots := p.1, relocCollisions := p.2, relocCount := t.relocCount + 1, lfDen := t.lfDen * 2 } := by
  unfold grow; simp only []; rw [← Array.foldl_toList]; rfl

theorem growStep_none (N : Nat) (l : List (Option Entry)) : l.foldl (growStep N) none = none := by
  induction l with
  | nil => rfl
  | cons x l ih => simpa [growStep] using ih

/-- a fold of `growStep` that succeeds has succeeded at its first step -/
theorem growFold_cons {N : Nat} {x : Option Entry} {l : List (Option Entry)} {ns ns' : Array (Option Entry)} {c c' : Nat}
    (h : (x :: l).foldl (growStep N) (some (ns, c)) = some (ns', c')) :
    ∃ ns1 c1, growStep N (some (ns, c)) x = some (ns1, c1) ∧ l.foldl (growStep N) (some (ns1, c1)) = some (ns', c') := by
  rw [List.foldl_cons] at h
  cases hstep : growStep N (some (ns, c)) x with
  | none => rw [hstep, growStep_none] at h; cases h
  | some r => exact ⟨r.1, r.2, rfl, hstep ▸ h⟩

/-- Invariant of the rehash fold after the prefix `l₁` of the old slots has been processed. It holds for any old slots; that
no entry is placed twice (`inj`) is claimed for a prefix without repeated entries only. -/
structure RI (N : Nat) (ns : Array (Option Entry)) (l₁ : List (Option Entry)) : Prop where
  size : ns.size = N
  reach : ∀ s e, occ ns s e → ∃ d, d < ns.size ∧ walk ns.size d (e.hash % ns.size) = s ∧
            ∀ j, j < d → ∃ e', occ ns (walk ns.size j (e.hash % ns.size)) e'
  sub : ∀ s e, occ ns s e → some e ∈ l₁
  sup : ∀ e, some e ∈ l₁ → ∃ s, occ ns s e
  inj : l₁.Pairwise (fun a b => a.isSome = true → a ≠ b) → ∀ s1 s2 e, occ ns s1 e → occ ns s2 e → s1 = s2
  cnt : countOcc ns = (l₁.filter Option.isSome).length

theorem RI_step (N : Nat) (ns : Array (Option Entry)) (l₁ : List (Option Entry)) (x : Option Entry) (c : Nat)
    (ri : RI N ns l₁) (hlen : l₁.length < N) :
    ∃ ns' c', growStep N (some (ns, c)) x = some (ns', c') ∧ RI N ns' (l₁ ++ [x]) := by
  have hsz := ri.size
  have hEmpty : ∃ s : Nat, ns[s]? = some none := by
    apply exists_empty_of_count
    rw [ri.cnt, hsz]
    exact Nat.lt_of_le_of_lt (List.length_filter_le _ _) hlen
  obtain ⟨p, k, hpr, hp, hemp, hk, hpw, hpath⟩ := probe_free ns (x.elim 0 Entry.hash) c (by omega) hEmpty
  refine ⟨setX ns p x, c + k, by rw [growStep_probe, ← hsz, hpr]; rfl, ?_⟩
  cases x with
  | none =>
    show RI N ns _
    refine ⟨hsz, ri.reach, fun s e h => List.mem_append_left _ (ri.sub s e h), ?_, fun hpw => ri.inj (List.pairwise_append.mp hpw).1, ?_⟩
    · intro e he
      rcases List.mem_append.mp he with h | h
      · exact ri.sup e h
      · simp at h
    · rw [ri.cnt]; simp [List.filter_append]
  | some e =>
    show RI N (ns.setIfInBounds p (some e)) _
    have occ_old : ∀ s e', occ (ns.setIfInBounds p (some e)) s e' → (s = p ∧ e' = e) ∨ (s ≠ p ∧ occ ns s e') :=
      fun s e' h => (occ_set ns p hp e s e').mp h
    have occ_keep : ∀ s e0, occ ns s e0 → occ (ns.setIfInBounds p (some e)) s e0 := by
      intro s e0 h0
      have : s ≠ p := by intro h; subst h; rw [occ, hemp] at h0; cases h0
      exact (occ_set ns p hp e s e0).mpr (Or.inr ⟨this, h0⟩)
    have occ_mono : ∀ s e0, occ ns s e0 → ∃ e', occ (ns.setIfInBounds p (some e)) s e' := fun s e0 h => ⟨e0, occ_keep s e0 h⟩
    have hsz' : (ns.setIfInBounds p (some e)).size = ns.size := by simp
    constructor
    · rw [hsz', hsz]
    · intro s e' h
      rcases occ_old s e' h with ⟨rfl, rfl⟩ | ⟨hne, h0⟩
      · exact reach_mono hsz' occ_mono ⟨k, hk, hpw.symm, hpath⟩
      · exact reach_mono hsz' occ_mono (ri.reach s e' h0)
    · intro s e' h
      rcases occ_old s e' h with ⟨rfl, rfl⟩ | ⟨hne, h0⟩
      · simp
      · exact List.mem_append_left _ (ri.sub s e' h0)
    · intro e' he
      rcases List.mem_append.mp he with h | h
      · obtain ⟨s, hs⟩ := ri.sup e' h; exact ⟨s, occ_keep s e' hs⟩
      · simp at h; subst h; exact ⟨p, (occ_set ns p hp e' p e').mpr (Or.inl ⟨rfl, rfl⟩)⟩
    · intro hpw' s1 s2 e' h1 h2
      obtain ⟨hpw1, _, hnew⟩ := List.pairwise_append.mp hpw'
      have hnew : ∀ s, occ ns s e → False := fun s h => hnew _ (ri.sub s e h) _ (List.mem_singleton_self _) rfl rfl
      rcases occ_old s1 e' h1 with ⟨rfl, rfl⟩ | ⟨hne1, a1⟩
      · rcases occ_old s2 e' h2 with ⟨rfl, hh⟩ | ⟨hne2, a2⟩
        · rfl
        · exact (hnew s2 a2).elim
      · rcases occ_old s2 e' h2 with ⟨rfl, hh⟩ | ⟨hne2, a2⟩
        · subst hh
          exact (hnew s1 a1).elim
        · exact ri.inj hpw1 s1 s2 e' a1 a2
    · rw [countOcc_set_empty ns p e hemp, ri.cnt]; simp [List.filter_append]

theorem RI_init (N : Nat) : RI N (Array.replicate N none) [] :=
  ⟨by simp, fun s e h => absurd h (not_occ_replicate N s e), fun s e h => absurd h (not_occ_replicate N s e), by simp,
    fun _ s1 s2 e h => absurd h (not_occ_replicate N s1 e), by simp [countOcc]⟩

theorem RI_fold (N : Nat) (l : List (Option Entry)) (hlen : l.length ≤ N) :
    ∀ (l₂ l₁ : List (Option Entry)) (ns : Array (Option Entry)) (c : Nat), l = l₁ ++ l₂ → RI N ns l₁ →
      ∃ ns' c', l₂.foldl (growStep N) (some (ns, c)) = some (ns', c') ∧ RI N ns' l := by
  intro l₂
  induction l₂ with
  | nil => intro l₁ ns c h ri; simp at h; subst h; exact ⟨ns, c, rfl, ri⟩
  | cons x l₂ ih =>
    intro l₁ ns c h ri
    have hl1 : l₁.length < N := by rw [h] at hlen; simp at hlen; omega
    obtain ⟨ns', c', hs, ri'⟩ := RI_step N ns l₁ x c ri hl1
    obtain ⟨ns'', c'', hf, ri''⟩ := ih (l₁ ++ [x]) ns' c' (by rw [h]; simp) ri'
    exact ⟨ns'', c'', by simp only [List.foldl_cons, hs]; exact hf, ri''⟩

/-- Growth succeeds on every table (nothing is assumed of the entries), and re-places its entries. -/
theorem grow_RI (t : Tbl) :
    ∃ ns' c', grow {} t = some { t with slots := ns', relocCollisions := c', relocCount := t.relocCount + 1, lfDen := t.lfDen * 2 } ∧
      RI (2 * t.slots.size) ns' t.slots.toList := by
  obtain ⟨ns', c', hf, ri⟩ := RI_fold (2 * t.slots.size) t.slots.toList (by simp; omega)
    t.slots.toList [] (Array.replicate (2 * t.slots.size) none) t.relocCollisions (by simp) (RI_init _)
  exact ⟨ns', c', by rw [grow_eq, hf]; rfl, ri⟩

theorem grow_total (t : Tbl) :
    ∃ t', grow {} t = some t' ∧ t'.slots.size = 2 * t.slots.size ∧ countOcc t'.slots = countOcc t.slots ∧
      t'.groupCount = t.groupCount ∧ t'.lfNum = t.lfNum ∧ t'.lfDen = t.lfDen * 2 := by
  obtain ⟨ns', c', hg, ri⟩ := grow_RI t
  exact ⟨_, hg, ri.size, ri.cnt, rfl, rfl, rfl⟩

/-- growth preserves the table invariant (default growth factor 2) -/
theorem grow_preserves (t : Tbl) (done : List Nat) (inv : SInv hash eqv t.slots done) (hn : 0 < t.slots.size) :
    ∃ t', grow {} t = some t' ∧ SInv hash eqv t'.slots done ∧ t'.slots.size = 2 * t.slots.size ∧
      countOcc t'.slots = countOcc t.slots ∧ t'.groupCount = t.groupCount ∧ t'.lfNum = t.lfNum ∧ t'.lfDen = t.lfDen * 2 := by
  obtain ⟨ns', c', hg, ri⟩ := grow_RI t
  refine ⟨_, hg, ?_, ri.size, ri.cnt, rfl, rfl, rfl⟩
  -- different slots of the old table hold entries with different first rows
  have hpw : t.slots.toList.Pairwise (fun a b => a.isSome = true → a ≠ b) := by
    rw [List.pairwise_iff_getElem]
    intro i j hi hj hij hs heq
    cases hv : t.slots.toList[i] with
    | none => rw [hv] at hs; cases hs
    | some e =>
      have h1 : occ t.slots i e := by unfold occ; simpa [hv] using (List.getElem?_eq_getElem hi)
      have h2 : occ t.slots j e := by unfold occ; rw [heq] at hv; simpa [hv] using (List.getElem?_eq_getElem hj)
      exact (inv.distinct i j e e h1 h2 (by omega)).2 rfl
  have of_new : ∀ s e, occ ns' s e → ∃ s0, occ t.slots s0 e :=
    fun s e h => (mem_toList_iff_occ _ e).mp (ri.sub s e h)
  constructor
  · exact ri.reach
  · intro s e h; obtain ⟨s0, h0⟩ := of_new s e h; exact inv.hashF s0 e h0
  · intro s1 s2 e1 e2 h1 h2 hne
    obtain ⟨a1, b1⟩ := of_new s1 e1 h1
    obtain ⟨a2, b2⟩ := of_new s2 e2 h2
    by_cases ha : a1 = a2
    · subst ha
      have := occ_inj b1 b2
      subst this
      exact absurd (ri.inj hpw s1 s2 e1 h1 h2) hne
    · exact inv.distinct a1 a2 e1 e2 b1 b2 ha
  · intro s e h; obtain ⟨s0, h0⟩ := of_new s e h; exact inv.mem s0 e h0
  · intro j hj
    obtain ⟨s0, e, h0, hc⟩ := inv.cover j hj
    obtain ⟨s, hs⟩ := ri.sup e ((mem_toList_iff_occ _ e).mpr ⟨s0, h0⟩)
    exact ⟨s, e, hs, hc⟩

#print axioms grow_preserves
end G
