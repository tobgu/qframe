/-! Mirror of the pieces of `dec64.appendF` (/repo/internal/ryu) on a buffer with arbitrary stale spare capacity: `sizeSlice`, the
digit loop, the zero loop and the integer layout (`layoutInt_spec`). The other two layouts (QF/Props/C16Layouts.lean) and the
C16 link theorems (C16Link*.lean, C16RyuLayout.lean) are stated over these definitions. That the stale bytes never show is said once:
each loop `Overwrites` a segment, adjacent segments compose (`Overwrites.before`), and a layout's writes cover all that `sizeSlice`
exposed (`sizeSlice_overwrite`). -/
namespace AF
abbrev Byte := UInt8

/-- a Go byte slice: visible content + whatever lies in the spare capacity behind it -/
structure Buf where
  content : List Byte
  spare : List Byte

/-- sizeSlice(b, n): reslice into the spare capacity if it is large enough (exposing stale bytes),
    else append n zero bytes (fresh array; spare afterwards unspecified — modelled as given `extra`) -/
def sizeSlice (b : Buf) (n : Nat) (extra : List Byte) : Buf :=
  if b.spare.length ≥ n then ⟨b.content ++ b.spare.take n, b.spare.drop n⟩
  else ⟨b.content ++ List.replicate n 0, extra⟩

def digit (d : Nat) : Byte := (48 + d % 10).toUInt8

/-- the k low decimal digits of m, most significant first -/
def digitsN : Nat → Nat → List Byte
  | 0, _ => []
  | k + 1, m => digitsN k (m / 10) ++ [digit m]

/-- `for i := pos+k-1; i >= pos; i-- { b[i] = '0' + out%10; out /= 10 }` -/
def writeDigits (l : List Byte) (pos : Nat) : Nat → Nat → List Byte
  | 0, _ => l
  | k + 1, out => writeDigits (l.set (pos + k) (digit out)) pos k (out / 10)

theorem writeDigits_length (l : List Byte) (pos k out : Nat) : (writeDigits l pos k out).length = l.length := by
  induction k generalizing l out with
  | zero => rfl
  | succ k ih => simp [writeDigits, ih]

/-- one step of the right-to-left loops: with `seg` already standing at `[pos, pos+k)` of the result, the byte set at `pos + k`
joins it on the right -/
theorem take_set_drop (l : List Byte) (pos k : Nat) (v : Byte) (seg : List Byte) (h : pos + k < l.length) :
    (l.set (pos + k) v).take pos ++ seg ++ (l.set (pos + k) v).drop (pos + k)
      = l.take pos ++ (seg ++ [v]) ++ l.drop (pos + (k + 1)) := by
  rw [List.take_set_of_le (Nat.le_add_right pos k), List.drop_set, if_neg (Nat.lt_irrefl _), Nat.sub_self,
    List.drop_eq_getElem_cons h, List.set_cons_zero, List.append_assoc, List.append_assoc, List.append_assoc]
  rfl

/-- writing k digits over positions [pos, pos+k) replaces exactly that segment, whatever was there -/
theorem writeDigits_spec (pos : Nat) : ∀ (k : Nat) (l : List Byte) (out : Nat), pos + k ≤ l.length →
    writeDigits l pos k out = l.take pos ++ digitsN k out ++ l.drop (pos + k) := by
  intro k
  induction k with
  | zero => intro l out _; simp [writeDigits, digitsN]
  | succ k ih =>
    intro l out h
    rw [writeDigits, digitsN, ih _ _ (by rw [List.length_set]; omega), take_set_drop _ _ _ _ _ h]

def zeros (n : Nat) : List Byte := List.replicate n 48

/-- `for i := n; i < dE+n; i++ { b[outLen+i] = '0' }` as one segment write -/
def writeZeros (l : List Byte) (pos : Nat) : Nat → List Byte
  | 0 => l
  | k + 1 => writeZeros (l.set (pos + k) 48) pos k

theorem writeZeros_spec (pos : Nat) : ∀ (k : Nat) (l : List Byte), pos + k ≤ l.length →
    writeZeros l pos k = l.take pos ++ zeros k ++ l.drop (pos + k) := by
  intro k
  induction k with
  | zero => intro l _; simp [writeZeros, zeros]
  | succ k ih =>
    intro l h
    rw [writeZeros, ih _ (by rw [List.length_set]; omega), take_set_drop _ _ _ _ _ h, zeros, zeros,
      List.replicate_succ']

/-- layout 1 (dE ≥ 0): digits then dE zeros -/
def layoutInt (b : Buf) (m outLen dE : Nat) (extra : List Byte) : Buf :=
  let n := b.content.length
  let b1 := sizeSlice b (dE + outLen) extra
  let c := writeZeros b1.content (n + outLen) dE     -- positions outLen+i for i in [n, n+dE)
  ⟨writeDigits c n outLen m, b1.spare⟩

theorem sizeSlice_content (b : Buf) (n : Nat) (extra : List Byte) :
    ∃ junk : List Byte, junk.length = n ∧ (sizeSlice b n extra).content = b.content ++ junk := by
  unfold sizeSlice
  split
  · rename_i h; exact ⟨b.spare.take n, by simp; omega, rfl⟩
  · exact ⟨List.replicate n 0, by simp, rfl⟩

/-- the region `[pre.length, pre.length + mid.length)` of `pre ++ mid ++ post`, replaced by `seg` -/
theorem take_seg_drop (pre mid post seg : List Byte) :
    (pre ++ mid ++ post).take pre.length ++ seg ++ (pre ++ mid ++ post).drop (pre.length + mid.length)
      = pre ++ seg ++ post := by
  simp [List.append_assoc, List.drop_append]

/-- `f` replaces the `k` bytes from position `n` on by `seg`, whatever they were, and leaves the rest: what each loop of `appendF` does to
the bytes `sizeSlice` has exposed -/
def Overwrites (f : List Byte → List Byte) (n k : Nat) (seg : List Byte) : Prop :=
  ∀ pre mid post, pre.length = n → mid.length = k → f (pre ++ mid ++ post) = pre ++ seg ++ post

/-- two adjacent segments, the right-hand one written first (every loop of `appendF` runs right to left) -/
theorem Overwrites.before {f g : List Byte → List Byte} {n k k' : Nat} {s s' : List Byte} (hg : Overwrites g n k s)
    (hf : Overwrites f (n + k) k' s') : Overwrites (fun l => g (f l)) n (k + k') (s ++ s') := by
  intro pre mid post hpre hmid
  have e : pre ++ mid ++ post = pre ++ mid.take k ++ mid.drop k ++ post := by
    rw [List.append_assoc pre (mid.take k), List.take_append_drop]
  have h1 : (mid.take k).length = k := by rw [List.length_take, hmid]; omega
  show g (f _) = _
  rw [e, hf _ _ _ (by rw [List.length_append, hpre, h1]) (by rw [List.length_drop, hmid]; omega), List.append_assoc,
    hg _ _ _ hpre h1, List.append_assoc, List.append_assoc, List.append_assoc]

theorem writeDigits_overwrites (pos k out : Nat) : Overwrites (writeDigits · pos k out) pos k (digitsN k out) := by
  intro pre mid post hpos hk
  subst hpos hk
  exact (writeDigits_spec _ _ _ _ (by simp)).trans (take_seg_drop pre mid post _)

theorem writeZeros_overwrites (pos k : Nat) : Overwrites (writeZeros · pos k) pos k (zeros k) := by
  intro pre mid post hpos hk
  subst hpos hk
  exact (writeZeros_spec _ _ _ (by simp)).trans (take_seg_drop pre mid post _)

/-- a write over all `n` bytes that `sizeSlice` exposes: the stale bytes do not show in the result -/
theorem sizeSlice_overwrite {f : List Byte → List Byte} {b : Buf} {n : Nat} {seg : List Byte} (extra : List Byte)
    (h : Overwrites f b.content.length n seg) : f (sizeSlice b n extra).content = b.content ++ seg := by
  obtain ⟨junk, hj, hc⟩ := sizeSlice_content b n extra
  have := h b.content junk [] rfl hj
  rwa [List.append_nil, List.append_nil, ← hc] at this

/-- C16 (formatter, integer layout): the output is the old content followed by the digits and the zeros,
    for every buffer state — stale spare capacity is completely overwritten -/
theorem layoutInt_spec (b : Buf) (m outLen dE : Nat) (extra : List Byte) :
    (layoutInt b m outLen dE extra).content = b.content ++ digitsN outLen m ++ zeros dE := by
  rw [List.append_assoc, ← sizeSlice_overwrite extra ((writeDigits_overwrites _ outLen m).before (writeZeros_overwrites _ dE)),
    Nat.add_comm outLen]
  rfl

#print axioms layoutInt_spec
end AF
