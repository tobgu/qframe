import QF.Spec.Ops
import QF.Spec.Num
import QF.Core.ListFacts
/-!
Facts about the definitions of `QF/Spec/Basic.lean` and `QF/Spec/Ops.lean` that the proof files of several properties use:
enum ranks, the UTF-8 bytes `strBytes` of a `String` and of the decimal text of a number, and `Num.parsesTo` (QF/Spec/Num.lean).
-/
namespace QF
open ListFacts

/-! ## `enumRank` -/

theorem enumRank_eq_some_iff {vals : List Bytes} {s : Bytes} {i : Nat} :
    enumRank vals s = some i ↔ ∃ h : i < vals.length, vals[i] = s ∧ ∀ j (hj : j < i), vals[j] ≠ s := by
  unfold enumRank
  rw [List.findIdx?_eq_some_iff_getElem]
  simp

theorem enumRank_isSome_iff {vals : List Bytes} {s : Bytes} : (enumRank vals s).isSome ↔ s ∈ vals := by
  unfold enumRank
  rw [List.findIdx?_isSome]
  simp

theorem enumRank_eq_none_iff {vals : List Bytes} {s : Bytes} : enumRank vals s = none ↔ s ∉ vals := by
  rw [← enumRank_isSome_iff]; cases enumRank vals s <;> simp

/-! ## `strBytes`, `intStr` -/

theorem strBytes_append (s t : String) : strBytes (s ++ t) = strBytes s ++ strBytes t :=
  toUTF8_toList_append s t

theorem strBytes_ofList (l : List Char) : strBytes (String.ofList l) = l.flatMap String.utf8EncodeChar :=
  toUTF8_toList_ofList l

theorem strBytes_eq (n : String) : strBytes n = n.toList.flatMap String.utf8EncodeChar := by
  rw [← strBytes_ofList, String.ofList_toList]

/-- the text of a natural number (`strconv.Itoa`): one byte per decimal digit -/
theorem strBytes_nat (k : Nat) :
    strBytes (toString k) = (Nat.toDigits 10 k).map (fun c => UInt8.ofNat c.toNat) ∧
    ∀ b ∈ strBytes (toString k), 48 ≤ b.toNat ∧ b.toNat ≤ 57 :=
  toString_nat_bytes k

/-- `strconv.FormatInt(v, 10)`: the digits of `|v|`, after a minus sign when `v < 0` -/
theorem intStr_eq (v : Int) : intStr v = if 0 ≤ v then strBytes (toString v.toNat) else 45 :: strBytes (toString (-v).toNat) := by
  cases v with
  | ofNat n => simp [intStr]; rfl
  | negSucc n =>
    have e : toString (Int.negSucc n) = "-" ++ toString (n + 1) := rfl
    have h1 : strBytes "-" = [45] := by decide +kernel
    have h2 : ¬ (0 : Int) ≤ Int.negSucc n := by omega
    rw [intStr, e, strBytes_append, h1, if_neg h2]
    rfl

/-! ## `Num.parsesTo` -/

/-- the text is a positional decimal, and that decimal rounds to the float -/
theorem parsesTo_iff {b : UInt64} {text : List UInt8} :
    Num.parsesTo b text = true ↔ ∃ neg m d, Num.parsePositional text = some (neg, m, d) ∧ Num.ofDecimal neg m d = b := by
  unfold Num.parsesTo
  cases Num.parsePositional text with
  | none => simp
  | some p =>
    obtain ⟨neg, m, d⟩ := p
    exact ⟨fun h => ⟨neg, m, d, rfl, eq_of_beq h⟩, fun ⟨_, _, _, e, h⟩ => by cases e; exact beq_iff_eq.2 h⟩

end QF
