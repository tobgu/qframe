import QF.Core.ListFacts
/-! Store with allocation ids; programs over alloc/read/write; the frame condition for programs that write only
    what they allocated, and persistence over histories (C01), both from `Prog.run_keeps` (`QF.ListFacts.Keeps` relative to the
    store whose arrays are to be kept). Interleavings (C11) are in Conc.lean. -/
namespace H
open QF.ListFacts (Keeps getD_keeps)

abbrev Id := Nat
abbrev Arr := List Nat
abbrev Store := List Arr          -- id = position; allocation appends

/-- programs: the Go operations are written in this language in the mirror model -/
inductive Prog (α : Type) : Type
  | ret (a : α)
  | alloc (init : Arr) (k : Id → Prog α)
  | read (id : Id) (k : Arr → Prog α)
  | write (id : Id) (v : Arr) (k : Prog α)

inductive Ev | alloc (id : Id) | read (id : Id) | write (id : Id) deriving Repr, DecidableEq

def Prog.run {α} : Prog α → Store → (α × Store × List Ev)
  | .ret a, s => (a, s, [])
  | .alloc init k, s =>
      let r := (k s.length).run (s ++ [init]); (r.1, r.2.1, .alloc s.length :: r.2.2)
  | .read id k, s =>
      let r := (k (s.getD id [])).run s; (r.1, r.2.1, .read id :: r.2.2)
  | .write id v k, s =>
      let r := k.run (s.set id v); (r.1, r.2.1, .write id :: r.2.2)

/-- discipline: every write targets an id allocated earlier by this program (ids ≥ `base`) -/
def Prog.OwnWrites {α} : Prog α → Nat → Prop
  | .ret _, _ => True
  | .alloc _ k, base => ∀ id, base ≤ id → (k id).OwnWrites base
  | .read _ k, base => ∀ v, k v |>.OwnWrites base
  | .write id _ k, base => base ≤ id ∧ k.OwnWrites base

theorem take_keeps {α : Type} (l : List α) (n : Nat) : Keeps (l.take n) l :=
  fun id hid => by rw [List.getElem?_take_of_lt (by simpa using Nat.lt_of_lt_of_le hid (List.length_take_le _ _))]

/-- The invariant behind the frame condition and persistence: a program that owns its writes above the size of `s0`, run on
any store that still holds `s0`, leaves a store that still holds `s0`. -/
theorem Prog.run_keeps {α} (p : Prog α) {s0 s : Store} (h : p.OwnWrites s0.length) (k : Keeps s0 s) :
    Keeps s0 (p.run s).2.1 := by
  induction p generalizing s with
  | ret a => exact k
  | alloc init f ih => exact ih _ (h _ k.len) (k.append _)
  | read id f ih => exact ih _ (h _) k
  | write id v f ih => exact ih h.2 (k.set h.1 v)

/-- no program shrinks the store, whatever it writes -/
theorem Prog.run_length {α} (p : Prog α) (s : Store) : s.length ≤ (p.run s).2.1.length := by
  induction p generalizing s with
  | ret a => exact Nat.le_refl _
  | alloc init f ih => exact Nat.le_trans (by simp) (ih _ (s ++ [init]))
  | read id f ih => exact ih _ s
  | write id v f ih => simpa [Prog.run] using ih (s.set id v)

/-- frame condition: a program with own writes started on a store of size ≥ base leaves every
    array below `base` untouched and only extends the store. -/
theorem frame_condition {α} (p : Prog α) (base : Nat) (h : p.OwnWrites base) (s : Store) (hs : base ≤ s.length) :
    (∀ id, id < base → (p.run s).2.1.getD id [] = s.getD id []) ∧ s.length ≤ (p.run s).2.1.length := by
  -- `run_keeps` for the first `base` arrays of `s`
  have hl : (s.take base).length = base := by rw [List.length_take]; omega
  have k := take_keeps s base
  rw [← hl] at h
  refine ⟨fun id hid => ?_, p.run_length s⟩
  rw [← hl] at hid
  rw [getD_keeps (p.run_keeps h k) hid, getD_keeps k hid]

/-- C01: a history is a list of programs each run on the store left by the previous one.
    Every array that exists at some point keeps its contents forever. -/
def runAll {α} : List (Prog α) → Store → Store
  | [], s => s
  | p :: ps, s => runAll ps (p.run s).2.1

/-- Persistence over a history, in its strongest form: the programs need own their writes only relative to the size of the
store whose arrays are to be kept. -/
theorem runAll_keeps {α} (ps : List (Prog α)) {s0 s : Store} (h : ∀ p ∈ ps, p.OwnWrites s0.length) (k : Keeps s0 s) :
    Keeps s0 (runAll ps s) := by
  induction ps generalizing s with
  | nil => exact k
  | cons p ps ih => exact ih (fun q hq => h q (List.mem_cons_of_mem _ hq)) (p.run_keeps (h p List.mem_cons_self) k)

theorem history_persistent {α} (ps : List (Prog α)) (s : Store)
    (h : ∀ p ∈ ps, ∀ base, p.OwnWrites base) :   -- more than is needed: `OwnWrites s.length` suffices (`runAll_keeps`); the operations of C01Ops / C01GenOps own their writes for every base
    ∀ id, id < s.length → (runAll ps s).getD id [] = s.getD id [] :=
  fun _ hid => getD_keeps (runAll_keeps ps (fun p hp => h p hp _) (Keeps.refl s)) hid []

theorem runAll_append {α : Type} (ps qs : List (Prog α)) (s : Store) :
    runAll (ps ++ qs) s = runAll qs (runAll ps s) := by
  induction ps generalizing s with
  | nil => rfl
  | cons p ps ih => exact ih _

/-- persistence from any point of a history: what exists after `ps` is never changed by `qs` -/
theorem history_persistent_from {α} (ps qs : List (Prog α)) (s : Store) (h : ∀ p ∈ qs, ∀ base, p.OwnWrites base) :
    ∀ id, id < (runAll ps s).length → (runAll (ps ++ qs) s).getD id [] = (runAll ps s).getD id [] := by
  rw [runAll_append]; exact history_persistent qs _ h

/-- the hypothesis of `history_persistent` for a family of programs each of which owns its writes -/
theorem own_map.{u} {ι : Type u} {α : Type} {f : ι → Prog α} (hf : ∀ x base, (f x).OwnWrites base) (l : List ι) :
    ∀ p ∈ l.map f, ∀ base, p.OwnWrites base := by
  intro p hp
  obtain ⟨x, _, rfl⟩ := List.mem_map.1 hp
  exact hf x

/-- example program: Sort = copy the index, sort the copy in place (here: reverse), return its id -/
def sortProg (ixId : Id) : Prog Id :=
  .read ixId fun ix => .alloc ix fun c => .read c fun v => .write c v.reverse (.ret c)
/-- the buggy variant sorts the shared index in place -/
def sortProgBug (ixId : Id) : Prog Id :=
  .read ixId fun ix => .write ixId ix.reverse (.ret ixId)

example (ixId base : Nat) : (sortProg ixId).OwnWrites base := by
  intro ix c hc v; exact ⟨hc, trivial⟩
example : ¬ (sortProgBug 0).OwnWrites 1 := by
  intro h; have := (h []).1; omega
#eval (sortProg 0).run [[3,1,2]]
#eval (sortProgBug 0).run [[3,1,2]]
#print axioms history_persistent
end H
