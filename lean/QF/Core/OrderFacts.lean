import QF.Spec.Basic
/-!
# Total preorders as three-valued comparisons, and their lexicographic lifts

A comparison `cmp : α → α → Ordering` is a total preorder (`TP`) when `cmp b a = (cmp a b).swap` and `≠ .gt` is transitive.
Two lifts keep that: a chain of comparisons applied to one pair (`lexCmp`, `lexCmp_tp`) and one comparison applied along two
lists, a proper prefix first (`listCmp`, `listCmp_tp`; `listCmp_eq`: equal exactly on equal lists when `cmp` is). Both rest on
`TP.lex_step`. `bytesCmp` of the spec is `listCmp` of the bytes' numbers (`bytesCmp_eq_listCmp`), hence a total preorder
(`tp_bytes`) that is `.eq` only on equal strings (`bytesCmp_eq_iff`). Every order fact about a row comparison (`Cmp.lessKeys_swo`
in QF/Core/Compare.lean, `physLess_swo` in QF/Props/C03RowOrder.lean, `rowCmp_tp` in QF/Props/C03SortRows.lean) comes from these.
-/

namespace QF.Props.C03RowOrder

/-! ## Lexicographic chains of total preorders -/

/-- a three-valued comparison that is a total preorder -/
structure TP {α : Type} (cmp : α → α → Ordering) : Prop where
  swap : ∀ a b, cmp b a = (cmp a b).swap
  trans : ∀ a b c, cmp a b ≠ .gt → cmp b c ≠ .gt → cmp a c ≠ .gt

def lexCmp {α : Type} : List (α → α → Ordering) → α → α → Ordering
  | [], _, _ => .eq
  | c :: cs, a, b =>
    match c a b with
    | .lt => .lt
    | .gt => .gt
    | .eq => lexCmp cs a b

section Generic
variable {α : Type}

/-- rows that compare equal compare alike with every third row -/
theorem TP.eq_congr {cmp : α → α → Ordering} (h : TP cmp) {a b : α} (hab : cmp a b = .eq) (c : α) : cmp a c = cmp b c := by
  have hba : cmp b a = .eq := by rw [h.swap a b, hab]; rfl
  have s1 := h.swap a c
  have s2 := h.swap b c
  have t1 := h.trans b a c
  have t2 := h.trans a b c
  have t3 := h.trans c a b
  have t4 := h.trans c b a
  rw [hba] at t1 t4
  rw [hab] at t2 t3
  rw [s1] at t3 t4
  rw [s2] at t3 t4
  revert t1 t2 t3 t4
  cases cmp a c <;> cases cmp b c <;> simp [Ordering.swap]

theorem TP.eq_congr_right {cmp : α → α → Ordering} (h : TP cmp) {a b : α} (hab : cmp a b = .eq) (c : α) : cmp c a = cmp c b := by
  rw [h.swap a c, h.swap b c, h.eq_congr hab c]

theorem TP.refl {cmp : α → α → Ordering} (h : TP cmp) (a : α) : cmp a a = .eq := by
  have := h.swap a a
  revert this
  cases cmp a a <;> simp [Ordering.swap]

/-- One step of a lexicographic comparison: the heads under a total preorder `c`, the tails under anything transitive. -/
theorem TP.lex_step {c : α → α → Ordering} (hc : TP c) {a b d : α} {t1 t2 t3 : Prop}
    (h1 : c a b = .lt ∨ (c a b = .eq ∧ t1)) (h2 : c b d = .lt ∨ (c b d = .eq ∧ t2)) (ht : t1 → t2 → t3) :
    c a d = .lt ∨ (c a d = .eq ∧ t3) := by
  rcases h1 with h1 | ⟨h1, h1'⟩ <;> rcases h2 with h2 | ⟨h2, h2'⟩
  · -- a < b < d
    left
    have hle : c a d ≠ .gt := hc.trans a b d (by rw [h1]; simp) (by rw [h2]; simp)
    cases had : c a d with
    | lt => rfl
    | gt => exact absurd had hle
    | eq =>
      -- then d ≤ a ≤ b, against b < d
      have hda : c d a = .eq := by rw [hc.swap a d, had]; rfl
      have : c d b ≠ .gt := hc.trans d a b (by rw [hda]; simp) (by rw [h1]; simp)
      rw [hc.swap b d, h2] at this
      exact absurd rfl this
  · left; rw [← hc.eq_congr_right h2 a]; exact h1
  · left; rw [hc.eq_congr h1 d]; exact h2
  · exact .inr ⟨by rw [hc.eq_congr h1 d]; exact h2, ht h1' h2'⟩

theorem lexCmp_swap {cs : List (α → α → Ordering)} (h : ∀ c ∈ cs, TP c) (a b : α) : lexCmp cs b a = (lexCmp cs a b).swap := by
  induction cs with
  | nil => rfl
  | cons c cs ih =>
    have hc := (h c (by simp)).swap a b
    simp only [lexCmp, hc]
    cases c a b with
    | lt => rfl
    | gt => rfl
    | eq => exact ih (fun c' hc' => h c' (by simp [hc']))

theorem lexCmp_cons_le (c : α → α → Ordering) (cs : List (α → α → Ordering)) (a b : α) :
    lexCmp (c :: cs) a b ≠ .gt ↔ (c a b = .lt ∨ (c a b = .eq ∧ lexCmp cs a b ≠ .gt)) := by
  simp only [lexCmp]
  cases c a b <;> simp

theorem lexCmp_one (c : α → α → Ordering) (a b : α) : lexCmp [c] a b = c a b := by
  simp only [lexCmp]
  cases c a b <;> rfl

theorem lexCmp_append {α : Type} (cs ds : List (α → α → Ordering)) (a b : α) :
    lexCmp (cs ++ ds) a b = match lexCmp cs a b with | .lt => .lt | .gt => .gt | .eq => lexCmp ds a b := by
  induction cs with
  | nil => simp [lexCmp]
  | cons c cs ih =>
    simp only [List.cons_append, lexCmp]
    cases c a b with
    | lt => rfl
    | gt => rfl
    | eq => exact ih

theorem lexCmp_trans {cs : List (α → α → Ordering)} (h : ∀ c ∈ cs, TP c) (a b d : α) :
    lexCmp cs a b ≠ .gt → lexCmp cs b d ≠ .gt → lexCmp cs a d ≠ .gt := by
  induction cs with
  | nil => intro _ _; simp [lexCmp]
  | cons c cs ih =>
    rw [lexCmp_cons_le, lexCmp_cons_le, lexCmp_cons_le]
    exact fun h1 h2 => (h c (by simp)).lex_step h1 h2 (ih fun c' hc' => h c' (by simp [hc']))

theorem lexCmp_tp {cs : List (α → α → Ordering)} (h : ∀ c ∈ cs, TP c) : TP (lexCmp cs) :=
  ⟨lexCmp_swap h, lexCmp_trans h⟩

/-! ## One comparison along two lists -/

/-- lists compared element by element under `c`; a proper prefix comes first -/
def listCmp (c : α → α → Ordering) : List α → List α → Ordering
  | [], [] => .eq
  | [], _ :: _ => .lt
  | _ :: _, [] => .gt
  | a :: as, b :: bs =>
    match c a b with
    | .lt => .lt
    | .gt => .gt
    | .eq => listCmp c as bs

theorem listCmp_swap {c : α → α → Ordering} (h : TP c) : ∀ a b : List α, listCmp c b a = (listCmp c a b).swap
  | [], [] => rfl
  | [], _ :: _ => rfl
  | _ :: _, [] => rfl
  | x :: xs, y :: ys => by
    simp only [listCmp, h.swap x y]
    cases c x y with
    | lt => rfl
    | gt => rfl
    | eq => exact listCmp_swap h xs ys

theorem listCmp_cons_le (c : α → α → Ordering) (x y : α) (xs ys : List α) :
    listCmp c (x :: xs) (y :: ys) ≠ .gt ↔ (c x y = .lt ∨ (c x y = .eq ∧ listCmp c xs ys ≠ .gt)) := by
  simp only [listCmp]
  cases c x y <;> simp

theorem listCmp_trans {c : α → α → Ordering} (h : TP c) :
    ∀ a b d : List α, listCmp c a b ≠ .gt → listCmp c b d ≠ .gt → listCmp c a d ≠ .gt
  | [], _, [] => by intros; simp [listCmp]
  | [], _, _ :: _ => by intros; simp [listCmp]
  | _ :: _, [], _ => by intro h; simp [listCmp] at h
  | _ :: _, _ :: _, [] => by intro _ h; simp [listCmp] at h
  | x :: xs, y :: ys, z :: zs => by
    rw [listCmp_cons_le, listCmp_cons_le, listCmp_cons_le]
    exact fun h1 h2 => h.lex_step h1 h2 (listCmp_trans h xs ys zs)

theorem listCmp_tp {c : α → α → Ordering} (h : TP c) : TP (listCmp c) := ⟨listCmp_swap h, listCmp_trans h⟩

theorem listCmp_eq {c : α → α → Ordering} (h : ∀ a b, c a b = .eq → a = b) : ∀ a b : List α, listCmp c a b = .eq → a = b
  | [], [], _ => rfl
  | [], _ :: _, e => by simp [listCmp] at e
  | _ :: _, [], e => by simp [listCmp] at e
  | x :: xs, y :: ys, e => by
    simp only [listCmp] at e
    cases hc : c x y with
    | lt => rw [hc] at e; cases e
    | gt => rw [hc] at e; cases e
    | eq =>
      rw [hc] at e
      rw [h x y hc, listCmp_eq h xs ys e]

/-! ## `cmp · · == .lt` of a total preorder -/

/-- `cmp · · == .lt` of a total preorder: asymmetric, and "not less" is transitive -/
theorem tp_lt_asymm {cmp : α → α → Ordering} (h : TP cmp) (a b : α) (hab : (cmp a b == .lt) = true) : (cmp b a == .lt) = false := by
  have : cmp a b = .lt := by simpa using hab
  simp [h.swap a b, this, Ordering.swap]

theorem tp_lt_le_trans {cmp : α → α → Ordering} (h : TP cmp) (a b c : α) (h1 : (cmp b a == .lt) = false) (h2 : (cmp c b == .lt) = false) :
    (cmp c a == .lt) = false := by
  have e1 : cmp a b ≠ .gt := by
    intro e; rw [h.swap a b, e] at h1; simp [Ordering.swap] at h1
  have e2 : cmp b c ≠ .gt := by
    intro e; rw [h.swap b c, e] at h2; simp [Ordering.swap] at h2
  have e3 := h.trans a b c e1 e2
  rw [h.swap a c]
  revert e3
  cases cmp a c <;> simp [Ordering.swap]

/-- the pull-back of a total preorder along any function -/
theorem tp_comap {β : Type} {cmp : β → β → Ordering} (h : TP cmp) (f : α → β) : TP (fun a b => cmp (f a) (f b)) :=
  ⟨fun a b => h.swap (f a) (f b), fun a b c => h.trans (f a) (f b) (f c)⟩

end Generic

theorem tp_int {α : Type} (f : α → Int) : TP (fun a b => compare (f a) (f b)) where
  swap a b := (Int.compare_swap (f a) (f b)).symm
  trans a b c h1 h2 := Int.compare_ne_gt.mpr (Int.le_trans (Int.compare_ne_gt.mp h1) (Int.compare_ne_gt.mp h2))

theorem tp_rev {α : Type} {cmp : α → α → Ordering} (h : TP cmp) : TP (fun a b => (cmp a b).swap) where
  swap := by intro a b; simp only [h.swap a b]
  trans := by
    intro a b c h1 h2
    have e1 : cmp b a ≠ .gt := by rw [h.swap a b]; revert h1; cases cmp a b <;> simp [Ordering.swap]
    have e2 : cmp c b ≠ .gt := by rw [h.swap b c]; revert h2; cases cmp b c <;> simp [Ordering.swap]
    have := h.trans c b a e2 e1
    rw [h.swap a c] at this
    exact this

/-- `Reverse` -/
def sw (rev : Bool) (o : Ordering) : Ordering := if rev then o.swap else o

theorem tp_sw {α : Type} (rev : Bool) {cmp : α → α → Ordering} (h : TP cmp) : TP (fun a b => sw rev (cmp a b)) := by
  cases rev
  · exact h
  · exact tp_rev h

/-! ## `bytesCmp` -/

/-- the bytes of a string compare as their numbers -/
def u8Cmp (a b : UInt8) : Ordering := compare (a.toNat : Int) (b.toNat : Int)

theorem bytesCmp_eq_listCmp : ∀ a b : Bytes, bytesCmp a b = listCmp u8Cmp a b
  | [], [] => rfl
  | [], _ :: _ => rfl
  | _ :: _, [] => rfl
  | x :: xs, y :: ys => by
    simp only [bytesCmp, listCmp, u8Cmp, Int.compare_eq_ite_lt, Int.ofNat_lt, gt_iff_lt, UInt8.lt_iff_toNat_lt,
      bytesCmp_eq_listCmp xs ys]
    split
    · rfl
    · split <;> rfl

theorem bytesCmp_tp : TP bytesCmp := by
  have e : bytesCmp = listCmp u8Cmp := by funext a b; exact bytesCmp_eq_listCmp a b
  rw [e]
  exact listCmp_tp (tp_int _)

theorem tp_bytes {α : Type} (f : α → Bytes) : TP (fun a b => bytesCmp (f a) (f b)) := tp_comap bytesCmp_tp f

theorem u8Cmp_eq (a b : UInt8) (h : u8Cmp a b = .eq) : a = b :=
  UInt8.toNat_inj.mp (Int.ofNat_inj.mp (Int.compare_eq_eq.mp h))

end QF.Props.C03RowOrder

theorem QF.bytesCmp_eq_iff (a b : QF.Bytes) : QF.bytesCmp a b = .eq ↔ a = b :=
  ⟨fun h => QF.Props.C03RowOrder.listCmp_eq QF.Props.C03RowOrder.u8Cmp_eq a b (QF.Props.C03RowOrder.bytesCmp_eq_listCmp a b ▸ h),
   fun h => h ▸ QF.Props.C03RowOrder.bytesCmp_tp.refl a⟩
