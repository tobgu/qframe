import QF.Core.Frame
/-! Mirror of expression.go (newExpr decoding, temp columns, execute) and QFrame.Eval.  `Ex`, `newExpr`, `execute`, `eval` and
`dropCols` follow the Go code as it was before the library's repairs of `colConstExpr` (operand order), `Eval` (`colName != dstCol`)
and `Drop` (unknown columns); the mirror of the current code is `Ex'` … `eval'` in QF/Props/C07Eval.lean, which uses the rest
(`Dyn`, `Ctx`, `tempColName`, `applyConst` / `apply1` / `apply2`, `execConst` / `execUnary` / `execColCol`) as it stands here. -/
namespace Fr

/-- dynamic argument tree accepted by Expr/Val -/
inductive Dyn
  | col (n : String)          -- types.ColumnName
  | const (v : Val)
  | str (s : String)          -- plain string: an operation name in head position, a string constant elsewhere
  | list (l : List Dyn)
  | bad

inductive Ex
  | col (n : String)
  | const (v : Val)
  | unary (op : String) (src : String)
  | colConst (op : String) (src : String) (v : Val)     -- NB: which side the constant was on is not recorded (Go before the repair)
  | colCol (op : String) (a b : String)
  | ex1 (op : String) (e : Ex)
  | ex2 (op : String) (l r : Ex)
  | error

def constOf : Dyn → Option Val
  | .const v => some v
  | .str s => some (.str (some s.toUTF8.toList))
  | _ => none
def colOf : Dyn → Option String
  | .col n => some n
  | _ => none
def opOf : Dyn → Option String
  | .str s => some s
  | _ => none

/-- newExpr: decoding order col, const, unary, col-const (with flip), col-col, nested -/
def newExpr (fuel : Nat) (d : Dyn) : Ex :=
  match fuel with
  | 0 => .error
  | fuel + 1 =>
  match colOf d with
  | some n => .col n
  | none =>
  match constOf d with
  | some v => .const v
  | none =>
  match d with
  | .list [o, a] =>
    (match opOf o, colOf a with
     | some op, some c => .unary op c
     | some op, none => (match newExpr fuel a with | .error => .error | e => .ex1 op e)
     | none, _ => .error)
  | .list [o, a, b] =>
    match opOf o with
    | none => .error
    | some op =>
      match colOf a, constOf b, colOf b, constOf a with
      | some c, some v, _, _ => .colConst op c v
      | _, _, some c, some v => .colConst op c v          -- flipped order: same node
      | some c1, _, some c2, _ => .colCol op c1 c2
      | _, _, _, _ =>
        match newExpr fuel a, newExpr fuel b with
        | .error, _ => .error
        | _, .error => .error
        | l, r => .ex2 op l r
  | _ => .error

/-- evaluation context: (operand type, arity, name) ↦ function -/
structure Ctx where
  fn1 : Ty → String → Option (Ty × (Val → Val))
  fn2 : Ty → String → Option (Val → Val → Val)

def natStr (n : Nat) : String := toString n
def tempColName (f : Frame) (pre : String) : String :=
  match (List.range 10000).find? (fun i => (f.byName (pre ++ "-temp-" ++ natStr i)).isNone) with
  | some i => pre ++ "-temp-" ++ natStr i
  | none => "PANIC"

def physLen (f : Frame) : Nat := match f.cols with | [] => 0 | c :: _ => c.col.data.length

def tyOf : Val → Ty
  | .int _ => .int | .float _ => .float | .bool _ => .bool | .str _ => .str | .enum _ => .enum

def applyConst (f : Frame) (dst : String) (v : Val) : Frame :=
  if f.err.isSome then f else setColumn f dst { ty := tyOf v, data := List.replicate (physLen f) v }

def apply1 (f : Frame) (dst src : String) (rty : Ty) (fn : Val → Val) : Frame :=
  if f.err.isSome then f else
  match f.byName src with
  | none => { f with err := some .unknownCol }
  | some s => setColumn f dst (applyFn1 f (physLen f) fn rty s.col)

def apply2 (f : Frame) (dst a b : String) (fn : Val → Val → Val) : Frame :=
  if f.err.isSome then f else
  match f.byName a, f.byName b with
  | some x, some y =>
    if x.col.ty != y.col.ty then { f with err := some .typeErr } else
    setColumn f dst { ty := x.col.ty, data := (List.range (physLen f)).map fun p =>
      if p ∈ f.index then (match x.col.data[p]?, y.col.data[p]? with | some u, some v => fn u v | _, _ => x.col.ty.zero) else x.col.ty.zero }
  | _, _ => { f with err := some .unknownCol }

def copyCol (f : Frame) (dst src : String) : Frame :=
  if f.err.isSome then f else
  match f.byName src with
  | none => { f with err := some .unknownCol }
  | some s => if dst = src then f else setColumn f dst s.col

def selectCols (f : Frame) (names : List String) : Frame :=
  let cols := (List.range names.length).zip names |>.filterMap fun (i, n) => (f.byName n).map fun c => { c with pos := i }
  { f with cols := cols, byName := fun n => if n ∈ names then (cols.reverse.find? (·.name == n)) else none }

def dropCols (f : Frame) (names : List String) : Frame :=
  if f.err.isSome || names.isEmpty then f else
  selectCols f ((f.cols.map (·.name)).filter fun n => !(names.contains n))

def contains (f : Frame) (n : String) : Bool := (f.byName n).isSome

def execConst (v : Val) (f : Frame) : Frame × String :=
  if f.err.isSome then (f, "") else
  let t := tempColName f "const"; (applyConst f t v, t)

def execUnary (ctx : Ctx) (op src : String) (f : Frame) : Frame × String :=
  if f.err.isSome then (f, "") else
  match f.byName src with
  | none => ({ f with err := some .unknownCol }, "")
  | some s => match ctx.fn1 s.col.ty op with
    | none => ({ f with err := some .other }, "")
    | some (rty, fn) => let t := tempColName f "unary"; (apply1 f t src rty fn, t)

def execColCol (ctx : Ctx) (op a b : String) (f : Frame) : Frame × String :=
  if f.err.isSome then (f, "") else
  match f.byName a with
  | none => ({ f with err := some .unknownCol }, "")
  | some s => match ctx.fn2 s.col.ty op with
    | none => ({ f with err := some .other }, "")
    | some fn => let t := tempColName f "colcol"; (apply2 f t a b fn, t)

/-- execute: returns the frame and the name of the column holding the result -/
def execute (ctx : Ctx) : Ex → Frame → Frame × String
  | .col n, f => (f, n)
  | .const v, f => execConst v f
  | .unary op src, f => execUnary ctx op src f
  | .colCol op a b, f => execColCol ctx op a b f
  | .colConst op src v, f =>
      if f.err.isSome then (f, "") else
      let rc := execConst v f
      let rn := execColCol ctx op src rc.2 rc.1      -- always (column, constant): the flip
      (dropCols rn.1 [rc.2], rn.2)
  | .ex1 op e, f =>
      let rt := execute ctx e f
      let rn := execUnary ctx op rt.2 rt.1
      (if !contains f rt.2 then dropCols rn.1 [rt.2] else rn.1, rn.2)
  | .ex2 op l r, f =>
      let x := execute ctx l f
      let y := execute ctx r x.1
      let z := execColCol ctx op x.2 y.2 y.1
      (dropCols z.1 ([x.2, y.2].filter fun s => !contains f s), z.2)
  | .error, f => if f.err.isSome then (f, "") else ({ f with err := some .other }, "")

/-- QFrame.Eval -/
def eval (ctx : Ctx) (f : Frame) (dst : String) (e : Ex) : Frame :=
  if f.err.isSome then f else
  let (r, c) := execute ctx e f
  let r := copyCol r dst c
  if !contains f c then dropCols r [c] else r

-- tests
def intCtx : Ctx :=
  { fn1 := fun _ _ => none,
    fn2 := fun t op => if t == .int && op == "-" then some (fun a b => match a, b with | .int x, .int y => .int (x - y) | _, _ => .int 0) else
                      if t == .int && op == "+" then some (fun a b => match a, b with | .int x, .int y => .int (x + y) | _, _ => .int 0) else none }
def xcol : Col := { ty := .int, data := [.int 1, .int 2, .int 3] }
def fx : Frame := { cols := [⟨"x", 0, xcol⟩], byName := fun n => if n = "x" then some ⟨"x", 0, xcol⟩ else none, index := [0, 1, 2] }
def showF (f : Frame) : Option Err × List (String × List Int) :=
  (f.err, f.abs.map fun (n, _, vs) => (n, vs.map fun (v : Option Val) => match v with | some (Val.int i) => i | _ => -999))
#eval showF (eval intCtx fx "y" (newExpr 10 (.list [.str "-", .const (.int 10), .col "x"])))   -- Go before the repair: x-10 = [-9,-8,-7]
#eval showF (eval intCtx fx "y" (newExpr 10 (.list [.str "-", .col "x", .const (.int 10)])))
#eval showF (eval intCtx fx "colcol-temp-0" (newExpr 10 (.list [.str "+", .col "x", .col "x"])))  -- Go before the repair: dst dropped → [x]
#eval showF (eval intCtx fx "y" (newExpr 10 (.list [.str "+", .list [.str "+", .col "x", .const (.int 10)], .list [.str "-", .col "x", .col "x"]])))
end Fr
