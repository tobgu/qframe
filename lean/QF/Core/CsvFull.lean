/-! The whole fastcsv reader is independent of the read schedule. The model follows the
    repaired internal/fastcsv/csv.go: look-ahead loop in `nextQuotedField`; CR skipped only after a
    closing quote; a last record ending with a delimiter and no line break yields a final empty field
    (`fields.next` at EOF with `fieldStart > 0`, `nextQuotedField` at EOF with the delimiter as last byte).
    The underlying reader never fails here (failures: QF/Core/Csv.lean, C15Faults): `more` delivers the next scheduled
    chunk, a scheduled size 0 counting as 1 (`max k 1`), and answers `eof` exactly when nothing is left. -/
namespace Full
abbrev Byte := UInt8

structure St where
  data : List Byte       -- loaded bytes
  future : List Byte     -- not yet delivered
  sched : List Nat       -- chunk sizes (each treated as ≥ 1)
  cursor : Nat
deriving Repr

inductive RErr | eof deriving Repr, DecidableEq

def St.more (s : St) : St × Option RErr :=
  if s.future.isEmpty then (s, some .eof) else
  let k := match s.sched with | [] => s.future.length | k :: _ => max k 1
  ({ s with data := s.data ++ s.future.take k, future := s.future.drop k, sched := s.sched.drop 1 }, none)

def St.loaded (s : St) : St := { s with data := s.data ++ s.future, future := [], sched := [] }
def St.slice (s : St) (i j : Nat) : List Byte := (s.data.take j).drop i
/-- reset(): drop the consumed prefix -/
def St.reset (s : St) : St := { s with data := s.data.drop s.cursor, cursor := 0 }

/-- simulation relation: t is the fully loaded twin of s -/
structure Rel (s t : St) : Prop where
  data : t.data = s.data ++ s.future
  fut : t.future = []
  cur : t.cursor = s.cursor

def QUOTE : Byte := 34
def LF : Byte := 10
def CR : Byte := 13

/-- what `more` does: nothing is left and nothing changes, or a state with the same bytes and cursor that has loaded more -/
theorem more_cases (s : St) :
    (s.future = [] ∧ s.more = (s, some .eof)) ∨
    (∃ s', s.more = (s', none) ∧ s'.data ++ s'.future = s.data ++ s.future ∧ s'.cursor = s.cursor ∧
      s'.future.length < s.future.length ∧ s.data.length < s'.data.length) := by
  unfold St.more
  split
  · rename_i h; exact .inl ⟨by simpa using h, rfl⟩
  · rename_i h
    have hpos : 0 < s.future.length := List.length_pos_iff.mpr (by simpa using h)
    refine .inr ⟨_, rfl, by simp [List.append_assoc], rfl, ?_, ?_⟩ <;>
      simp only [List.length_drop, List.length_append, List.length_take] <;> split <;> omega

theorem more_loaded (t : St) (hf : t.future = []) : t.more = (t, some .eof) := by
  simp [St.more, hf]

/-! ### look-ahead for the quoted loop (repaired: loop until two bytes or EOF) -/
/-- Every round that goes on has taken at least one byte from `future`, so the callers' budget `future.length + 1` is
never used up (`Rel.ensure2`); the `eof` at budget 0 is not reached with it. -/
def ensure2 (fuel : Nat) (s : St) : St × Option RErr :=
  match fuel with
  | 0 => (s, some .eof)
  | fuel + 1 =>
    if s.cursor + 1 ≥ s.data.length then
      match s.more with
      | (s', some e) => (s', some e)
      | (s', none) => ensure2 fuel s'
    else (s, none)

/-- The look-ahead of a state with loaded twin `t`: a state with the same twin that has loaded some more. It reports `eof`
exactly when the twin has at most one byte unread, and then everything is loaded. -/
theorem Rel.ensure2 {t : St} (fuel : Nat) : ∀ {s : St}, Rel s t → s.future.length < fuel →
    ∃ s1, Rel s1 t ∧ s.data.length ≤ s1.data.length ∧
      ((Full.ensure2 fuel s = (s1, some .eof) ∧ s1.data = t.data ∧ t.cursor + 1 ≥ t.data.length) ∨
       (Full.ensure2 fuel s = (s1, none) ∧ s1.cursor + 1 < s1.data.length ∧ ¬ t.cursor + 1 ≥ t.data.length)) := by
  induction fuel with
  | zero => intro s _ h; omega
  | succ n ih =>
    intro s rel hf
    have hlen : t.data.length = s.data.length + s.future.length := by rw [rel.data, List.length_append]
    unfold Full.ensure2
    split
    · rename_i hc
      rcases more_cases s with ⟨h0, he⟩ | ⟨s', he, m1, m2, m4, m6⟩
      · rw [he]
        exact ⟨s, rel, Nat.le_refl _, .inl ⟨rfl, by rw [rel.data, h0, List.append_nil], by rw [rel.cur, hlen, h0]; exact hc⟩⟩
      · rw [he]
        obtain ⟨s1, a, c, d⟩ := ih (s := s') ⟨by rw [rel.data, m1], rel.fut, by rw [rel.cur, m2]⟩ (by omega)
        exact ⟨s1, a, by omega, d⟩
    · exact ⟨s, rel, Nat.le_refl _, .inr ⟨rfl, by omega, by rw [rel.cur, hlen]; omega⟩⟩

theorem ensure2_loaded (fuel : Nat) (t : St) (hf : t.future = []) (h0 : 0 < fuel) :
    ensure2 fuel t = (t, if t.cursor + 1 ≥ t.data.length then some .eof else none) := by
  cases fuel with
  | zero => omega
  | succ n =>
    unfold ensure2
    split
    · simp [St.more, hf]
    · rfl

structure Res where
  field : List Byte
  hitEOL : Bool
  err : Option RErr
deriving Repr, DecidableEq

/-- nextQuotedField; returns the result and the final buffer state -/
def quoted (delim : Byte) (fuel : Nat) (s : St) (start w qc : Nat) : Option (Res × St) :=
  match fuel with
  | 0 => none
  | fuel + 1 =>
    match ensure2 (s.future.length + 1) s with
    | (s, some e) =>
      -- `err == io.EOF` (the only error of this model) `&& quoteCount%2 != 0 && cursor < len(data) &&
      -- data[cursor] == delimiter`: the input ends with a delimiter right after the closing quote;
      -- the delimiter is consumed, the row continues (with the empty last field of `fnext`)
      if qc % 2 != 0 && decide (s.cursor < s.data.length) && s.data[s.cursor]? == some delim then
        some (⟨s.slice start w, false, none⟩, { s with cursor := s.cursor + 1 })
      else some (⟨s.slice start w, true, some e⟩, s)
    | (s, none) =>
      match s.data[s.cursor]? with
      | none => none
      | some ch =>
        let s := { s with cursor := s.cursor + 1 }
        -- `keep` is a function, so that (compiled, strict evaluation) its recursive call runs only in the
        -- branch that takes it
        let keep : Unit → Option (Res × St) := fun _ =>
          if w + 1 != s.cursor then
            match s.data[s.cursor]? with
            | none => none
            | some nb => quoted delim fuel { s with data := s.data.set (w + 1) nb } start (w + 1) 0
          else quoted delim fuel s start (w + 1) 0
        if ch == delim then (if qc % 2 != 0 then some (⟨s.slice start w, false, none⟩, s) else keep ())
        else if ch == LF then (if qc % 2 != 0 then some (⟨s.slice start w, true, none⟩, s) else keep ())
        else if ch == CR then (if qc % 2 != 0 then quoted delim fuel s start w qc else keep ())
        else if ch == QUOTE then (if (qc + 1) % 2 == 1 then quoted delim fuel s start w (qc + 1) else keep ())
        else keep ()

/-- The byte switch of the quoted loop. On the byte `ch`, with `qc` quotes seen since the last kept byte: the field ends
(`ret hitEOL`), the byte is dropped and the count becomes `qc'` (`rec qc'`), or the pending byte is kept (`keep`). -/
def switch {α : Type} (delim ch : Byte) (qc : Nat) (ret : Bool → α) (rec : Nat → α) (keep : α) : α :=
  if ch == delim then (if qc % 2 != 0 then ret false else keep)
  else if ch == LF then (if qc % 2 != 0 then ret true else keep)
  else if ch == CR then (if qc % 2 != 0 then rec qc else keep)
  else if ch == QUOTE then (if (qc + 1) % 2 == 1 then rec (qc + 1) else keep)
  else keep

theorem ite_rel {α β : Type} (R : α → β → Prop) (c : Prop) [Decidable c] {a a' : α} {b b' : β}
    (h1 : c → R a b) (h2 : ¬c → R a' b') : R (if c then a else a') (if c then b else b') := by
  split
  · exact h1 ‹_›
  · exact h2 ‹_›

/-- two runs of the switch on the same byte and count take the same branch -/
theorem switch_rel {α β : Type} (R : α → β → Prop) (delim ch : Byte) (qc : Nat) {ret : Bool → α} {rec : Nat → α} {keep : α}
    {ret' : Bool → β} {rec' : Nat → β} {keep' : β}
    (hret : ∀ eol, (eol = false → ch = delim) → R (ret eol) (ret' eol)) (hrec : ∀ qc', R (rec qc') (rec' qc'))
    (hkeep : R keep keep') : R (switch delim ch qc ret rec keep) (switch delim ch qc ret' rec' keep') :=
  ite_rel R _ (fun c => ite_rel R _ (fun _ => hret false (fun _ => eq_of_beq c)) (fun _ => hkeep))
    (fun _ => ite_rel R _ (fun _ => ite_rel R _ (fun _ => hret true (fun h => nomatch h)) (fun _ => hkeep))
      (fun _ => ite_rel R _ (fun _ => ite_rel R _ (fun _ => hrec qc) (fun _ => hkeep))
        (fun _ => ite_rel R _ (fun _ => ite_rel R _ (fun _ => hrec (qc + 1)) (fun _ => hkeep)) (fun _ => hkeep))))

/-- with no quote pending, a byte other than the quote is kept -/
theorem switch_zero {α : Type} (delim ch : Byte) (ret : Bool → α) (rec : Nat → α) (keep : α) (h : (ch == QUOTE) = false) :
    switch delim ch 0 ret rec keep = keep := by
  unfold switch
  simp [h]

/-- a first quote is counted, the second of a pair is kept -/
theorem switch_quote {α : Type} (delim : Byte) (hd : delim ≠ QUOTE) (ret : Bool → α) (rec : Nat → α) (keep : α) :
    switch delim QUOTE 0 ret rec keep = rec 1 ∧ switch delim QUOTE 1 ret rec keep = keep := by
  have hd' : ¬ (34 : UInt8) = delim := fun h => hd h.symm
  unfold switch
  simp [hd', QUOTE, LF, CR]

/-- the `keep` branch of the quoted loop: the byte under the cursor moves down to `w + 1` -/
def keep (delim : Byte) (fuel : Nat) (s : St) (start w : Nat) : Option (Res × St) :=
  if w + 1 != s.cursor then
    match s.data[s.cursor]? with
    | none => none
    | some nb => quoted delim fuel { s with data := s.data.set (w + 1) nb } start (w + 1) 0
  else quoted delim fuel s start (w + 1) 0

/-- one round of the quoted loop once two bytes are there -/
def body (delim : Byte) (fuel : Nat) (s : St) (start w qc : Nat) : Option (Res × St) :=
  match s.data[s.cursor]? with
  | none => none
  | some ch =>
    switch delim ch qc (fun eol => some (⟨s.slice start w, eol, none⟩, { s with cursor := s.cursor + 1 }))
      (fun qc' => quoted delim fuel { s with cursor := s.cursor + 1 } start w qc')
      (keep delim fuel { s with cursor := s.cursor + 1 } start w)

/-- what the quoted loop returns when the input ends -/
def atEof (delim : Byte) (s : St) (start w qc : Nat) : Res × St :=
  if qc % 2 != 0 && decide (s.cursor < s.data.length) && s.data[s.cursor]? == some delim then
    (⟨s.slice start w, false, none⟩, { s with cursor := s.cursor + 1 })
  else (⟨s.slice start w, true, some .eof⟩, s)

theorem quoted_succ (delim : Byte) (fuel : Nat) (s : St) (start w qc : Nat) :
    quoted delim (fuel + 1) s start w qc =
      match ensure2 (s.future.length + 1) s with
      | (s, some _) => some (atEof delim s start w qc)
      | (s, none) => body delim fuel s start w qc := by
  unfold quoted atEof
  split
  · split <;> rfl
  · rfl

theorem quoted_loaded (delim : Byte) (fuel : Nat) (t : St) (start w qc : Nat) (hf : t.future = []) :
    quoted delim (fuel + 1) t start w qc =
      if t.cursor + 1 ≥ t.data.length then some (atEof delim t start w qc) else body delim fuel t start w qc := by
  rw [quoted_succ, ensure2_loaded _ t hf (by omega)]
  by_cases hc : t.cursor + 1 ≥ t.data.length
  · simp only [hc, ↓reduceIte]
  · simp only [hc, ↓reduceIte]


theorem Rel.cursor {s t : St} (r : Rel s t) (c : Nat) : Rel { s with cursor := c } { t with cursor := c } :=
  ⟨r.data, r.fut, rfl⟩

theorem Rel.slice {s t : St} (r : Rel s t) (i j : Nat) (h : j ≤ s.data.length) : t.slice i j = s.slice i j := by
  unfold St.slice
  rw [r.data, List.take_append_of_le_length h]

theorem Rel.get {s t : St} (r : Rel s t) (i : Nat) (h : i < s.data.length) : t.data[i]? = s.data[i]? := by
  rw [r.data]; exact List.getElem?_append_left h

/-- two runs agree: both return nothing, or both return and the results are related -/
def Both {α β : Type} (R : α → β → Prop) : Option α → Option β → Prop
  | none, none => True
  | some a, some b => R a b
  | _, _ => False

theorem Both.some_left {α β : Type} {R : α → β → Prop} {x : Option α} {y : Option β} {a : α} (h : Both R x y)
    (hx : x = some a) : ∃ b, y = some b ∧ R a b := by
  subst hx
  cases y with
  | none => exact h.elim
  | some b => exact ⟨b, rfl, h⟩

theorem Both.mono {α β : Type} {R R' : α → β → Prop} {x : Option α} {y : Option β} (h : Both R x y)
    (hR : ∀ a b, R a b → R' a b) : Both R' x y := by
  cases x <;> cases y <;> first | exact h | exact hR _ _ h

theorem Both.cases {α β : Type} {R : α → β → Prop} {x : Option α} {y : Option β} (h : Both R x y) :
    (x = none ∧ y = none) ∨ ∃ a b, x = some a ∧ y = some b ∧ R a b :=
  match x, y, h with
  | none, none, _ => .inl ⟨rfl, rfl⟩
  | some a, some b, h => .inr ⟨a, b, rfl, rfl, h⟩
  | none, some _, h => h.elim
  | some _, none, h => h.elim

/-- two results of the quoted loop started from `s`: the same field, twin states, the cursor has moved on and stays inside
the loaded bytes -/
def QRel (s : St) (w : Nat) (x : Res × St) (y : Res × St) : Prop :=
  y.1 = x.1 ∧ Rel x.2 y.2 ∧ w ≤ x.2.cursor ∧ s.cursor ≤ x.2.cursor ∧ (s.cursor ≤ s.data.length → x.2.cursor ≤ x.2.data.length)

/-- The quoted loop on any state and on its loaded twin: with the same budget both give up, or both return the same field
from twin states. -/
theorem quoted_both (delim : Byte) (fuel : Nat) : ∀ (s t : St) (start w qc : Nat), Rel s t → w ≤ s.cursor →
    Both (QRel s w) (quoted delim fuel s start w qc) (quoted delim fuel t start w qc) := by
  induction fuel with
  | zero => intro s t start w qc _ _; exact trivial
  | succ n ih =>
    intro s t start w qc rel hw
    rw [quoted_succ, quoted_loaded _ _ _ _ _ _ rel.fut]
    obtain ⟨s1, rel1, a3, ⟨he, htd, hE⟩ | ⟨he, g1, hE⟩⟩ := rel.ensure2 (s.future.length + 1) (by omega)
    all_goals
      rw [he]
      dsimp only
      have a2 : s1.cursor = s.cursor := rel1.cur.symm.trans rel.cur
    · rw [if_pos hE]
      unfold atEof St.slice
      rw [rel1.cur, ← htd]
      split
      · rename_i hcd
        simp only [Bool.and_eq_true, decide_eq_true_eq] at hcd
        exact ⟨rfl, ⟨htd.trans rel1.data, rel.fut, rfl⟩,
          by show w ≤ s1.cursor + 1; omega, by show s.cursor ≤ s1.cursor + 1; omega,
          fun _ => by show s1.cursor + 1 ≤ s1.data.length; omega⟩
      · exact ⟨rfl, rel1, by dsimp only; omega, by dsimp only; omega, fun _ => by dsimp only; omega⟩
    · rw [if_neg hE]
      unfold body
      rw [rel1.cur, rel1.get _ (by omega), rel1.slice _ _ (by omega), List.getElem?_eq_getElem (by omega)]
      have rel2 : Rel { s1 with cursor := s1.cursor + 1 } { t with cursor := s1.cursor + 1 } := rel1.cursor _
      -- a recursive call from twin states with the cursor one further
      have hrec : ∀ (s2 t2 : St) (w' qc' : Nat), Rel s2 t2 → s2.cursor = s1.cursor + 1 → s2.data.length = s1.data.length →
          w ≤ w' → w' ≤ s1.cursor + 1 →
          Both (QRel s w) (quoted delim n s2 start w' qc') (quoted delim n t2 start w' qc') :=
        fun s2 t2 w' qc' r2 hc hl hww hw' => (ih s2 t2 start w' qc' r2 (by omega)).mono
          fun _ _ ⟨q1, q2, q3, q4, q5⟩ => ⟨q1, q2, by omega, by omega, fun _ => q5 (by omega)⟩
      refine switch_rel (Both (QRel s w)) delim _ qc ?_ ?_ ?_
      · intro eol _
        exact ⟨rfl, rel2, by show w ≤ s1.cursor + 1; omega, by show s.cursor ≤ s1.cursor + 1; omega,
          fun _ => by show s1.cursor + 1 ≤ s1.data.length; omega⟩
      · intro qc'
        exact hrec _ _ w qc' rel2 rfl rfl (Nat.le_refl _) (by omega)
      · unfold keep
        dsimp only
        split
        · rename_i hne
          have hne' : w + 1 ≠ s1.cursor + 1 := by simpa using hne
          rw [rel1.get _ g1, List.getElem?_eq_getElem g1]
          exact hrec _ _ (w + 1) 0
            ⟨by show t.data.set (w + 1) _ = s1.data.set (w + 1) _ ++ s1.future
                rw [rel1.data]; exact List.set_append_left _ _ (by omega), rel.fut, rfl⟩
            rfl (List.length_set ..) (by omega) (by omega)
        · exact hrec _ _ (w + 1) 0 rel2 rfl rfl (by omega) (by omega)

theorem quoted_sim (delim : Byte) (fuel : Nat) : ∀ (s t : St) (start w qc : Nat), Rel s t → w ≤ s.cursor →
    ∀ r s', quoted delim fuel s start w qc = some (r, s') →
      ∃ t', quoted delim fuel t start w qc = some (r, t') ∧ Rel s' t' ∧ w ≤ s'.cursor ∧ s.cursor ≤ s'.cursor := by
  intro s t start w qc rel hw r s' h
  obtain ⟨⟨r', t'⟩, e, q1, q2, q3, q4, _⟩ := (quoted_both delim fuel s t start w qc rel hw).some_left h
  obtain rfl : r' = r := q1
  exact ⟨t', e, q2, q3, q4⟩


/-! ### one-byte availability check used by the unquoted loop and by `fields.next` -/
def ens1 (s : St) : St × Option RErr := if s.cursor ≥ s.data.length then s.more else (s, none)

/-- the same for the one-byte check -/
theorem Rel.ens1 {s t : St} (rel : Rel s t) (hcl : s.cursor ≤ s.data.length) :
    ∃ s1, Rel s1 t ∧ s.data.length ≤ s1.data.length ∧
      ((Full.ens1 s = (s1, some .eof) ∧ s1.data = t.data ∧ t.cursor ≥ t.data.length) ∨
       (Full.ens1 s = (s1, none) ∧ s1.cursor < s1.data.length ∧ ¬ t.cursor ≥ t.data.length)) := by
  have hlen : t.data.length = s.data.length + s.future.length := by rw [rel.data, List.length_append]
  unfold Full.ens1
  split
  · rename_i hc
    rcases more_cases s with ⟨h0, he⟩ | ⟨s', he, m1, m2, m4, m6⟩
    · rw [he]
      exact ⟨s, rel, Nat.le_refl _, .inl ⟨rfl, by rw [rel.data, h0, List.append_nil], by rw [rel.cur, hlen, h0]; exact hc⟩⟩
    · have rel' : Rel s' t := ⟨by rw [rel.data, m1], rel.fut, by rw [rel.cur, m2]⟩
      have hlen' : t.data.length = s'.data.length + s'.future.length := by rw [rel'.data, List.length_append]
      rw [he]
      exact ⟨s', rel', by omega, .inr ⟨rfl, by omega, by rw [rel.cur]; omega⟩⟩
  · exact ⟨s, rel, Nat.le_refl _, .inr ⟨rfl, by omega, by rw [rel.cur, hlen]; omega⟩⟩

theorem ens1_loaded (t : St) (hf : t.future = []) :
    ens1 t = (t, if t.cursor ≥ t.data.length then some .eof else none) := by
  unfold ens1
  split
  · simp [St.more, hf]
  · rfl

structure FS where
  st : St
  fieldStart : Nat
  hitEOL : Bool
  field : List Byte
  err : Option RErr

structure RelF (a b : FS) : Prop where
  st : Rel a.st b.st
  fs : b.fieldStart = a.fieldStart
  eol : b.hitEOL = a.hitEOL
  fld : b.field = a.field
  err : b.err = a.err

/-- nextUnquotedField -/
def unq (delim : Byte) (fuel : Nat) (fs : FS) : Option (FS × Bool) :=
  match fuel with
  | 0 => none
  | fuel + 1 =>
    match ens1 fs.st with
    | (st, some e) => some ({ fs with st := st, field := st.slice fs.fieldStart st.cursor, hitEOL := true, err := some e }, true)
    | (st, none) =>
      match st.data[st.cursor]? with
      | none => none
      | some ch =>
        if ch == delim then
          some ({ fs with st := { st with cursor := st.cursor + 1 }, field := st.slice fs.fieldStart st.cursor, fieldStart := st.cursor + 1 }, true)
        else if ch == LF then
          some ({ fs with st := { st with cursor := st.cursor + 1 }, field := st.slice fs.fieldStart st.cursor, hitEOL := true }, true)
        else unq delim fuel { fs with st := { st with cursor := st.cursor + 1 } }

theorem unq_loaded (delim : Byte) (fuel : Nat) (fs : FS) (hf : fs.st.future = []) :
    unq delim (fuel + 1) fs =
      if fs.st.cursor ≥ fs.st.data.length then
        some ({ fs with field := fs.st.slice fs.fieldStart fs.st.cursor, hitEOL := true, err := some .eof }, true)
      else match fs.st.data[fs.st.cursor]? with
        | none => none
        | some ch =>
          if ch == delim then
            some ({ fs with st := { fs.st with cursor := fs.st.cursor + 1 }, field := fs.st.slice fs.fieldStart fs.st.cursor,
                            fieldStart := fs.st.cursor + 1 }, true)
          else if ch == LF then
            some ({ fs with st := { fs.st with cursor := fs.st.cursor + 1 }, field := fs.st.slice fs.fieldStart fs.st.cursor,
                            hitEOL := true }, true)
          else unq delim fuel { fs with st := { fs.st with cursor := fs.st.cursor + 1 } } := by
  conv => lhs; unfold unq
  rw [ens1_loaded _ hf]
  by_cases hc : fs.st.cursor ≥ fs.st.data.length
  · simp only [hc, ↓reduceIte]
  · simp only [hc, ↓reduceIte]

/-- two results of the unquoted loop started from `a`: the same flag, twin states, the cursor has moved on and stays inside
the loaded bytes -/
def URel (a : FS) (x y : FS × Bool) : Prop :=
  y.2 = x.2 ∧ RelF x.1 y.1 ∧ a.st.cursor ≤ x.1.st.cursor ∧ x.1.st.cursor ≤ x.1.st.data.length ∧ x.1.fieldStart ≤ x.1.st.cursor

theorem unq_both (delim : Byte) (fuel : Nat) : ∀ (a b : FS), RelF a b → a.fieldStart ≤ a.st.cursor → a.st.cursor ≤ a.st.data.length →
    Both (URel a) (unq delim fuel a) (unq delim fuel b) := by
  induction fuel with
  | zero => intro a b _ _ _; exact trivial
  | succ n ih =>
    intro a b rel hfs hcl
    obtain ⟨rst, r2, r3, r4, r5⟩ := rel
    rw [unq_loaded _ _ b rst.fut]
    conv => arg 2; unfold unq
    obtain ⟨s1, rel1, a3, ⟨he, htd, hE⟩ | ⟨he, g1, hE⟩⟩ := rst.ens1 hcl
    all_goals
      rw [he]
      dsimp only
      have a2 : s1.cursor = a.st.cursor := rel1.cur.symm.trans rst.cur
    · rw [if_pos hE]
      refine ⟨rfl, ⟨rel1, r2, rfl, ?_, rfl⟩, by show a.st.cursor ≤ s1.cursor; omega,
        by show s1.cursor ≤ s1.data.length; omega, by show a.fieldStart ≤ s1.cursor; omega⟩
      show b.st.slice b.fieldStart b.st.cursor = s1.slice a.fieldStart s1.cursor
      unfold St.slice
      rw [r2, rel1.cur, htd]
    · have hsl : b.st.slice b.fieldStart s1.cursor = s1.slice a.fieldStart s1.cursor := by
        rw [r2]; exact rel1.slice _ _ (by omega)
      rw [if_neg hE, rel1.cur, rel1.get _ g1, hsl, List.getElem?_eq_getElem g1]
      dsimp only
      have rel2 : Rel { s1 with cursor := s1.cursor + 1 } { b.st with cursor := s1.cursor + 1 } := rel1.cursor _
      refine ite_rel _ _ (fun _ => ?_) fun _ => ite_rel _ _ (fun _ => ?_) fun _ => ?_
      · exact ⟨rfl, ⟨rel2, rfl, r3, rfl, r5⟩, by show a.st.cursor ≤ s1.cursor + 1; omega,
          by show s1.cursor + 1 ≤ s1.data.length; omega, Nat.le_refl _⟩
      · exact ⟨rfl, ⟨rel2, r2, rfl, rfl, r5⟩, by show a.st.cursor ≤ s1.cursor + 1; omega,
          by show s1.cursor + 1 ≤ s1.data.length; omega, by show a.fieldStart ≤ s1.cursor + 1; omega⟩
      · refine (ih { a with st := { s1 with cursor := s1.cursor + 1 } } { b with st := { b.st with cursor := s1.cursor + 1 } }
          ⟨rel2, r2, r3, r4, r5⟩ (by show a.fieldStart ≤ s1.cursor + 1; omega)
          (by show s1.cursor + 1 ≤ s1.data.length; omega)).mono fun x y ⟨q1, q2, q3, q4⟩ => ⟨q1, q2, ?_, q4⟩
        simp only at q3; omega


theorem unq_sim (delim : Byte) (fuel : Nat) : ∀ (a b : FS), RelF a b → a.fieldStart ≤ a.st.cursor → a.st.cursor ≤ a.st.data.length →
    ∀ a' ok, unq delim fuel a = some (a', ok) →
      ∃ b', unq delim fuel b = some (b', ok) ∧ RelF a' b' ∧ a.st.cursor ≤ a'.st.cursor ∧ a'.st.cursor ≤ a'.st.data.length ∧
        a'.fieldStart ≤ a'.st.cursor := by
  intro a b rel hfs hcl a' ok h
  obtain ⟨⟨b', ok'⟩, e, rfl, q⟩ := (unq_both delim fuel a b rel hfs hcl).some_left h
  exact ⟨b', e, q⟩

/-- fields.next -/
def fnext (delim : Byte) (fuel : Nat) (fs : FS) : Option (FS × Bool) :=
  if fs.hitEOL then some (fs, false) else
  match ens1 fs.st with
  | (st, some e) =>
    -- `err == io.EOF` (the only error of this model) `&& fs.fieldStart > 0`: the input ends right after a
    -- delimiter, the last field of the row is empty
    if fs.fieldStart > 0 then
      some ({ fs with st := st, err := some e, field := st.slice fs.fieldStart fs.fieldStart, hitEOL := true }, true)
    else some ({ fs with st := st, err := some e }, false)
  | (st, none) =>
    match st.data[st.cursor]? with
    | none => none
    | some first =>
      if first == QUOTE then
        match quoted delim fuel { st with cursor := st.cursor + 1 } (st.cursor + 1) (st.cursor + 1) 0 with
        | none => none
        | some (r, st') => some ({ fs with st := st', field := r.field, hitEOL := r.hitEOL, err := r.err, fieldStart := st'.cursor }, true)
      else unq delim fuel { fs with st := st }

theorem fnext_loaded (delim : Byte) (fuel : Nat) (fs : FS) (hf : fs.st.future = []) :
    fnext delim fuel fs =
      if fs.hitEOL then some (fs, false) else
      if fs.st.cursor ≥ fs.st.data.length then
        (if fs.fieldStart > 0 then
          some ({ fs with err := some .eof, field := fs.st.slice fs.fieldStart fs.fieldStart, hitEOL := true }, true)
        else some ({ fs with err := some .eof }, false))
      else match fs.st.data[fs.st.cursor]? with
        | none => none
        | some first =>
          if first == QUOTE then
            match quoted delim fuel { fs.st with cursor := fs.st.cursor + 1 } (fs.st.cursor + 1) (fs.st.cursor + 1) 0 with
            | none => none
            | some (r, st') =>
              some ({ fs with st := st', field := r.field, hitEOL := r.hitEOL, err := r.err, fieldStart := st'.cursor }, true)
          else unq delim fuel fs := by
  unfold fnext
  rw [ens1_loaded _ hf]
  by_cases he : fs.hitEOL = true
  · rw [if_pos he, if_pos he]
  · rw [if_neg he, if_neg he]
    by_cases hc : fs.st.cursor ≥ fs.st.data.length
    · rw [if_pos hc, if_pos hc]
    · rw [if_neg hc, if_neg hc]

/-- two results of `fnext`: the same flag, twin states in which the reader's invariants hold -/
def FRel (x y : FS × Bool) : Prop :=
  y.2 = x.2 ∧ RelF x.1 y.1 ∧ x.1.fieldStart ≤ x.1.st.cursor ∧ x.1.st.cursor ≤ x.1.st.data.length

theorem fnext_both (delim : Byte) (fuel : Nat) (a b : FS) (rel : RelF a b) (hfs : a.fieldStart ≤ a.st.cursor)
    (hcl : a.st.cursor ≤ a.st.data.length) : Both FRel (fnext delim fuel a) (fnext delim fuel b) := by
  obtain ⟨rst, r2, r3, r4, r5⟩ := rel
  rw [fnext_loaded _ _ b rst.fut, r3, r2]
  unfold fnext
  refine ite_rel _ _ (fun _ => ⟨rfl, ⟨rst, r2, r3, r4, r5⟩, hfs, hcl⟩) fun _ => ?_
  obtain ⟨s1, rel1, a3, ⟨hens, _, hE⟩ | ⟨hens, g1, hE⟩⟩ := rst.ens1 hcl
  all_goals
    rw [hens]
    dsimp only
    have a2 : s1.cursor = a.st.cursor := rel1.cur.symm.trans rst.cur
  · rw [if_pos hE]
    have hin : s1.cursor ≤ s1.data.length := by omega
    refine ite_rel _ _ (fun _ => ⟨rfl, ⟨rel1, rfl, rfl, ?_, rfl⟩, by show a.fieldStart ≤ s1.cursor; omega, hin⟩)
      fun _ => ⟨rfl, ⟨rel1, rfl, rfl, r4, rfl⟩, by show a.fieldStart ≤ s1.cursor; omega, hin⟩
    show b.st.slice a.fieldStart a.fieldStart = s1.slice a.fieldStart a.fieldStart
    simp [St.slice]
  · rw [if_neg hE, rel1.cur, rel1.get _ g1, List.getElem?_eq_getElem g1]
    dsimp only
    refine ite_rel _ _ (fun _ => ?_) fun _ => ?_
    · rcases (quoted_both delim fuel { s1 with cursor := s1.cursor + 1 } { b.st with cursor := s1.cursor + 1 } (s1.cursor + 1)
        (s1.cursor + 1) 0 (rel1.cursor _) (Nat.le_refl _)).cases with
        ⟨hx, hy⟩ | ⟨⟨r, st'⟩, ⟨r', t'⟩, hx, hy, h1, q2, _, _, q5⟩ <;> rw [hx, hy]
      · exact trivial
      obtain rfl : r' = r := h1
      exact ⟨rfl, ⟨q2, q2.cur, rfl, rfl, rfl⟩, Nat.le_refl _, q5 (by show s1.cursor + 1 ≤ s1.data.length; omega)⟩
    · exact (unq_both delim fuel { a with st := s1 } b ⟨rel1, r2, r3, r4, r5⟩ (by show a.fieldStart ≤ s1.cursor; omega)
        (by show s1.cursor ≤ s1.data.length; omega)).mono fun x y ⟨q1, q2, _, q4, q5⟩ => ⟨q1, q2, q5, q4⟩

theorem fnext_sim (delim : Byte) (fuel : Nat) (a b : FS) (rel : RelF a b) (hfs : a.fieldStart ≤ a.st.cursor)
    (hcl : a.st.cursor ≤ a.st.data.length) :
    ∀ a' ok, fnext delim fuel a = some (a', ok) →
      ∃ b', fnext delim fuel b = some (b', ok) ∧ RelF a' b' ∧ a'.fieldStart ≤ a'.st.cursor ∧ a'.st.cursor ≤ a'.st.data.length := by
  intro a' ok h
  obtain ⟨⟨b', ok'⟩, e, rfl, q⟩ := (fnext_both delim fuel a b rel hfs hcl).some_left h
  exact ⟨b', e, q⟩


/-- Reader.Next's inner loop: collect fields until `next` says stop -/
def rowLoop (delim : Byte) (fuel : Nat) : Nat → FS → List (List Byte) → Option (FS × List (List Byte))
  | 0, _, _ => none
  | n + 1, fs, acc =>
    match fnext delim fuel fs with
    | none => none
    | some (fs', true) => rowLoop delim fuel n fs' (acc ++ [fs'.field])
    | some (fs', false) => some (fs', acc)

/-- two results of the row loop or of `readerNext`: the same output, twin states -/
def RRel {γ : Type} (x y : FS × γ) : Prop := y.2 = x.2 ∧ RelF x.1 y.1 ∧ x.1.st.cursor ≤ x.1.st.data.length

theorem rowLoop_both (delim : Byte) (fuel : Nat) : ∀ (n : Nat) (a b : FS) (acc : List (List Byte)), RelF a b →
    a.fieldStart ≤ a.st.cursor → a.st.cursor ≤ a.st.data.length →
    Both RRel (rowLoop delim fuel n a acc) (rowLoop delim fuel n b acc) := by
  intro n
  induction n with
  | zero => intro a b acc _ _ _; exact trivial
  | succ n ih =>
    intro a b acc rel hfs hcl
    unfold rowLoop
    rcases (fnext_both delim fuel a b rel hfs hcl).cases with
      ⟨hx, hy⟩ | ⟨⟨a1, ok⟩, ⟨b1, ok'⟩, hx, hy, h1, q2, q3, q4⟩ <;> rw [hx, hy]
    · exact trivial
    obtain rfl : ok' = ok := h1
    cases ok' with
    | true => dsimp only; rw [q2.fld]; exact ih a1 b1 _ q2 q3 q4
    | false => exact ⟨rfl, q2, q4⟩

theorem rowLoop_sim (delim : Byte) (fuel : Nat) : ∀ (n : Nat) (a b : FS) (acc : List (List Byte)), RelF a b →
    a.fieldStart ≤ a.st.cursor → a.st.cursor ≤ a.st.data.length →
    ∀ a' row, rowLoop delim fuel n a acc = some (a', row) →
      ∃ b', rowLoop delim fuel n b acc = some (b', row) ∧ RelF a' b' ∧ a'.st.cursor ≤ a'.st.data.length := by
  intro n a b acc rel hfs hcl a' row h
  obtain ⟨⟨b', row'⟩, e, rfl, q⟩ := (rowLoop_both delim fuel n a b acc rel hfs hcl).some_left h
  exact ⟨b', e, q⟩

def trimCR (row : List (List Byte)) : List (List Byte) :=
  match row.getLast? with
  | some last => if last.getLast? == some CR then row.dropLast ++ [last.dropLast] else row
  | none => row

/-- Reader.Next -/
def readerNext (delim : Byte) (fuel : Nat) (fs : FS) : Option (FS × List (List Byte) × Bool) :=
  if fs.err.isSome then some (fs, [], false) else
  match rowLoop delim fuel fuel { fs with st := fs.st.reset, field := [], fieldStart := 0, hitEOL := false } [] with
  | none => none
  | some (fs1, row) =>
    if (trimCR row).isEmpty then some ({ fs1 with err := if fs1.err.isNone then some .eof else fs1.err }, [], false)
    else some (fs1, trimCR row, true)

theorem reset_rel (s t : St) (rel : Rel s t) (hcl : s.cursor ≤ s.data.length) : Rel s.reset t.reset := by
  obtain ⟨hd, hf, hc⟩ := rel
  refine ⟨?_, hf, rfl⟩
  show t.data.drop t.cursor = s.data.drop s.cursor ++ s.future
  rw [hd, hc, List.drop_append_of_le_length hcl]

theorem readerNext_both (delim : Byte) (fuel : Nat) (a b : FS) (rel : RelF a b) (hcl : a.st.cursor ≤ a.st.data.length) :
    Both RRel (readerNext delim fuel a) (readerNext delim fuel b) := by
  unfold readerNext
  rw [show b.err.isSome = a.err.isSome from congrArg _ rel.err]
  refine ite_rel _ _ (fun _ => ⟨rfl, rel, hcl⟩) fun _ => ?_
  rcases (rowLoop_both delim fuel fuel
    { a with st := a.st.reset, field := [], fieldStart := 0, hitEOL := false }
    { b with st := b.st.reset, field := [], fieldStart := 0, hitEOL := false } []
    ⟨reset_rel _ _ rel.st hcl, rfl, rfl, rfl, rel.err⟩ (Nat.zero_le _)
    (by show 0 ≤ (a.st.data.drop a.st.cursor).length; omega)).cases with
    ⟨hx, hy⟩ | ⟨⟨a1, row⟩, ⟨b1, row'⟩, hx, hy, h1, q2, q3⟩ <;> rw [hx, hy]
  · exact trivial
  obtain rfl : row' = row := h1
  dsimp only
  refine ite_rel _ _ (fun _ => ⟨rfl, ⟨q2.st, q2.fs, q2.eol, q2.fld, ?_⟩, q3⟩) fun _ => ⟨rfl, q2, q3⟩
  show (if b1.err.isNone = true then some RErr.eof else b1.err) = (if a1.err.isNone = true then some RErr.eof else a1.err)
  rw [q2.err]

theorem readerNext_sim (delim : Byte) (fuel : Nat) (a b : FS) (rel : RelF a b) (hcl : a.st.cursor ≤ a.st.data.length) :
    ∀ a' row ok, readerNext delim fuel a = some (a', row, ok) →
      ∃ b', readerNext delim fuel b = some (b', row, ok) ∧ RelF a' b' ∧ a'.st.cursor ≤ a'.st.data.length := by
  intro a' row ok h
  obtain ⟨⟨b', ro⟩, e, rfl, q⟩ := (readerNext_both delim fuel a b rel hcl).some_left h
  exact ⟨b', e, q⟩

/-- read every row -/
def readAll (delim : Byte) (fuel : Nat) : Nat → FS → List (List (List Byte)) → Option (List (List (List Byte)) × Option RErr)
  | 0, _, _ => none
  | n + 1, fs, acc =>
    match readerNext delim fuel fs with
    | none => none
    | some (fs', row, true) => readAll delim fuel n fs' (acc ++ [row])
    | some (fs', _, false) => some (acc, fs'.err)

/-- The reader on any state and on its loaded twin: the same result, or none from either. -/
theorem readAll_twin (delim : Byte) (fuel : Nat) : ∀ (n : Nat) (a b : FS) (acc : List (List (List Byte))), RelF a b →
    a.st.cursor ≤ a.st.data.length → readAll delim fuel n a acc = readAll delim fuel n b acc := by
  intro n
  induction n with
  | zero => intro a b acc _ _; rfl
  | succ n ih =>
    intro a b acc rel hcl
    unfold readAll
    rcases (readerNext_both delim fuel a b rel hcl).cases with
      ⟨hx, hy⟩ | ⟨⟨a1, row, ok⟩, ⟨b1, rowok⟩, hx, hy, h1, q2, q3⟩ <;> rw [hx, hy]
    obtain rfl : rowok = (row, ok) := h1
    cases ok with
    | true => exact ih a1 b1 _ q2 q3
    | false => dsimp only; rw [q2.err]

theorem readAll_sim (delim : Byte) (fuel : Nat) : ∀ (n : Nat) (a b : FS) (acc : List (List (List Byte))), RelF a b →
    a.st.cursor ≤ a.st.data.length →
    ∀ res, readAll delim fuel n a acc = some res → readAll delim fuel n b acc = some res := by
  intro n a b acc rel hcl res h
  rw [← readAll_twin delim fuel n a b acc rel hcl]
  exact h

def initFS (doc : List Byte) (sched : List Nat) : FS :=
  { st := { data := [], future := doc, sched := sched, cursor := 0 }, fieldStart := 0, hitEOL := false, field := [], err := none }
def loadedFS (doc : List Byte) : FS :=
  { st := { data := doc, future := [], sched := [], cursor := 0 }, fieldStart := 0, hitEOL := false, field := [], err := none }

/-- Whatever the sizes of the reads, the reader does what it does with the whole document in the buffer from the start. -/
theorem readAll_initFS (delim : Byte) (fuel n : Nat) (doc : List Byte) (sched : List Nat) :
    readAll delim fuel n (initFS doc sched) [] = readAll delim fuel n (loadedFS doc) [] :=
  readAll_twin delim fuel n (initFS doc sched) (loadedFS doc) [] ⟨⟨by simp [initFS, loadedFS], rfl, rfl⟩, rfl, rfl, rfl, rfl⟩
    (by simp [initFS])

/-- C12 (fragmentation): whatever the sizes of the reads, the reader returns what it returns when the
    whole document is in the buffer from the start — rows, fields and final error alike. -/
theorem read_schedule_independent (delim : Byte) (fuel n : Nat) (doc : List Byte) (sched : List Nat)
    (res : List (List (List Byte)) × Option RErr)
    (h : readAll delim fuel n (initFS doc sched) [] = some res) :
    readAll delim fuel n (loadedFS doc) [] = some res :=
  readAll_initFS delim fuel n doc sched ▸ h

theorem any_two_schedules_agree (delim : Byte) (fuel n : Nat) (doc : List Byte) (s1 s2 : List Nat)
    (r1 r2 : List (List (List Byte)) × Option RErr)
    (h1 : readAll delim fuel n (initFS doc s1) [] = some r1) (h2 : readAll delim fuel n (initFS doc s2) [] = some r2) :
    r1 = r2 := by
  have a := read_schedule_independent delim fuel n doc s1 r1 h1
  have b := read_schedule_independent delim fuel n doc s2 r2 h2
  rw [a] at b; exact Option.some.inj b

#print axioms any_two_schedules_agree

-- the executable model on the document that showed the short-read defect of the look-ahead (/repo ef0d8c3)
def str (l : List (List (List Byte))) := l.map (·.map fun f => String.fromUTF8! (ByteArray.mk f.toArray))
#eval (readAll 44 200 50 (initFS "h,k\n\"a\"\"bc\",x\n\"d\"\"ef\",y\n".toUTF8.toList (List.replicate 100 1)) []).map (fun r => str r.1)
#eval (readAll 44 200 50 (loadedFS "h,k\n\"a\"\"bc\",x\n\"d\"\"ef\",y\n".toUTF8.toList) []).map (fun r => str r.1)
-- CR LF inside quotes is content; a trailing delimiter yields a final empty field
#eval (readAll 44 200 50 (initFS "a,b\n\"x\r\ny\",z\r\n".toUTF8.toList [3, 1, 1, 2]) []).map (fun r => str r.1)
#eval (readAll 44 200 50 (initFS "a,b\nx,".toUTF8.toList [1, 1, 1, 1, 1, 1]) []).map (fun r => str r.1)
#eval (readAll 44 200 50 (initFS "a,b\n\"x\",".toUTF8.toList [2, 2, 2, 1, 1]) []).map (fun r => str r.1)
#print axioms read_schedule_independent
#print axioms quoted_sim
#print axioms fnext_sim
end Full
