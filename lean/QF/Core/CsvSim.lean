import QF.Core.CsvFull
/-! Schedule-independence of the (fixed) quoted-field loop: the refilling buffer machine (L0) against the same loop on a
    fully loaded buffer (L1). The loop is the repaired `nextQuotedField`: look-ahead until two bytes or EOF; a delimiter as the
    very last byte after the closing quote is consumed (the row goes on); a carriage return is skipped
    only after a closing quote and is content inside the quotes.
    The loop is that of QF/Core/CsvFull.lean returning less (`quoted_toFull`); the lock-step simulation is done there
    (`Full.quoted_both`), and `quoted_sim` here is read off `Full.quoted_sim`. -/
namespace Sim
abbrev Byte := UInt8

/-- machine state: `data` loaded bytes (logical view: positions < data.length are valid),
    `future` = bytes the reader has not delivered yet, `sched` = chunk sizes (each ≥ 1). -/
structure St where
  data : List Byte
  future : List Byte
  sched : List Nat
  cursor : Nat
deriving Repr

inductive RErr | eof deriving Repr, DecidableEq

/-- more(): append next chunk (≥ 1 byte if any left) -/
def St.more (s : St) : St × Option RErr :=
  if s.future.isEmpty then (s, some .eof) else
  let k := match s.sched with | [] => s.future.length | k :: _ => max k 1
  ({ s with data := s.data ++ s.future.take k, future := s.future.drop k, sched := s.sched.drop 1 }, none)

/-- the *fixed* lookahead: loop until two bytes are available or EOF -/
def ensure2 (fuel : Nat) (s : St) : St × Option RErr :=
  match fuel with
  | 0 => (s, some .eof)
  | fuel + 1 =>
    if s.cursor + 1 ≥ s.data.length then
      match s.more with
      | (s', some e) => (s', some e)
      | (s', none) => ensure2 fuel s'
    else (s, none)

def QUOTE : Byte := 34
def LF : Byte := 10
def CR : Byte := 13

structure Res where
  field : List Byte
  hitEOL : Bool
  err : Option RErr
  cursor : Nat
deriving Repr, DecidableEq

def St.slice (s : St) (i j : Nat) : List Byte := (s.data.take j).drop i

def quoted (delim : Byte) (fuel : Nat) (s : St) (start w qc : Nat) : Option (Res × List Byte) :=
  match fuel with
  | 0 => none
  | fuel + 1 =>
    match ensure2 (s.future.length + 1) s with
    | (s, some e) =>
      -- `err == io.EOF` (the only error of this model) `&& quoteCount%2 != 0 && cursor < len(data) &&
      -- data[cursor] == delimiter`: the input ends with a delimiter right after the closing quote
      if qc % 2 != 0 && decide (s.cursor < s.data.length) && s.data[s.cursor]? == some delim then
        some (⟨s.slice start w, false, none, s.cursor + 1⟩, s.data)
      else some (⟨s.slice start w, true, some e, s.cursor⟩, s.data)
    | (s, none) =>
      match s.data[s.cursor]? with
      | none => none
      | some ch =>
        let s := { s with cursor := s.cursor + 1 }
        -- a function (as in `Full.quoted`), so that under strict evaluation its recursive call runs only in
        -- the branch that takes it
        let keep : Unit → Option (Res × List Byte) := fun _ =>
          let w' := w + 1
          if w' != s.cursor then
            match s.data[s.cursor]? with
            | none => none     -- would read stale memory: excluded by ensure2
            | some nb => quoted delim fuel { s with data := s.data.set w' nb } start w' 0
          else quoted delim fuel s start w' 0
        if ch == delim then (if qc % 2 != 0 then some (⟨s.slice start w, false, none, s.cursor⟩, s.data) else keep ())
        else if ch == LF then (if qc % 2 != 0 then some (⟨s.slice start w, true, none, s.cursor⟩, s.data) else keep ())
        else if ch == CR then (if qc % 2 != 0 then quoted delim fuel s start w qc else keep ())
        else if ch == QUOTE then (if (qc + 1) % 2 == 1 then quoted delim fuel s start w (qc + 1) else keep ())
        else keep ()

/-- fully loaded twin of a state -/
def St.loaded (s : St) : St := { s with data := s.data ++ s.future, future := [], sched := [] }

#eval (quoted 44 100 { data := "\"a\"\"b".toUTF8.toList, future := "c\",x\n".toUTF8.toList, sched := List.replicate 20 1, cursor := 1 } 1 1 0).map (·.1)
#eval (quoted 44 100 (St.loaded { data := "\"a\"\"b".toUTF8.toList, future := "c\",x\n".toUTF8.toList, sched := [], cursor := 1 }) 1 1 0).map (·.1)

/-- simulation relation: same cursor, loaded machine's data extends ours by our future -/
def Rel (s t : St) : Prop := t.data = s.data ++ s.future ∧ t.future = [] ∧ t.cursor = s.cursor

/-- the same state in `Full`'s type -/
def St.toFull (s : St) : Full.St := ⟨s.data, s.future, s.sched, s.cursor⟩

def ofErr (e : Option Full.RErr) : Option RErr := e.map fun _ => .eof

/-- what `Sim.quoted` keeps of the result of `Full.quoted`: the final cursor and bytes instead of the final state -/
def ofRes (p : Full.Res × Full.St) : Res × List Byte := (⟨p.1.field, p.1.hitEOL, ofErr p.1.err, p.2.cursor⟩, p.2.data)

theorem more_toFull (s : St) : s.toFull.more = (s.more.1.toFull, s.more.2.map fun _ => .eof) := by
  unfold St.more Full.St.more
  by_cases h : s.future.isEmpty = true
  · simp only [St.toFull, h, ↓reduceIte, Option.map_some]
  · simp only [St.toFull, h]; rfl

theorem ensure2_toFull (fuel : Nat) : ∀ s : St,
    Full.ensure2 fuel s.toFull = ((ensure2 fuel s).1.toFull, (ensure2 fuel s).2.map fun _ => .eof) := by
  induction fuel with
  | zero => intro s; rfl
  | succ n ih =>
    intro s
    rw [ensure2, Full.ensure2, more_toFull]
    by_cases h : s.cursor + 1 ≥ s.data.length
    · have h' : s.toFull.cursor + 1 ≥ s.toFull.data.length := h
      rw [if_pos h, if_pos h']
      generalize s.more = m
      obtain ⟨s', e⟩ := m
      cases e with
      | none => exact ih s'
      | some e => rfl
    · have h' : ¬ s.toFull.cursor + 1 ≥ s.toFull.data.length := h
      rw [if_neg h, if_neg h']; rfl

/-- The quoted loop of this file is `Full.quoted` on the same state, its final state cut down to cursor and bytes: the two
definitions are the same text up to the types, so the theorems about this one are read off those about `Full.quoted`. -/
theorem quoted_toFull (delim : Byte) (fuel : Nat) : ∀ (s : St) (start w qc : Nat),
    quoted delim fuel s start w qc = (Full.quoted delim fuel s.toFull start w qc).map ofRes := by
  induction fuel with
  | zero => intro s start w qc; rfl
  | succ n ih =>
    intro s start w qc
    rw [quoted, Full.quoted, show s.toFull.future = s.future from rfl, ensure2_toFull]
    generalize ensure2 (s.future.length + 1) s = m
    obtain ⟨s1, e⟩ := m
    cases e with
    | some e =>
      cases e
      dsimp only [Option.map_some, St.toFull]
      split <;> rfl
    | none =>
      simp only [Option.map_none]
      show _ = Option.map ofRes (match s1.data[s1.cursor]? with | none => none | some ch => _)
      cases s1.data[s1.cursor]? with
      | none => rfl
      | some ch =>
        simp only [ih]
        -- `+instances`: the conditions of the `if`s carry `s1.toFull.cursor` in their `Decidable` instances as well
        dsimp +instances only [St.toFull]
        cases s1.data[s1.cursor + 1]? <;>
          simp only [apply_ite (Option.map ofRes), Option.map_some, Option.map_none, ofRes, ofErr,
            St.slice, Full.St.slice] <;> rfl

theorem quoted_sim (delim : Byte) (fuel : Nat) : ∀ (s t : St) (start w qc : Nat),
    t.data = s.data ++ s.future → t.future = [] → t.cursor = s.cursor → w ≤ s.cursor →
    ∀ r d, quoted delim fuel s start w qc = some (r, d) → ∃ d', quoted delim fuel t start w qc = some (r, d') := by
  intro s t start w qc hd hf hc hw r d h
  rw [quoted_toFull] at h ⊢
  obtain ⟨⟨r0, s'⟩, h0, hr⟩ := Option.map_eq_some_iff.mp h
  obtain ⟨t', q1, q2, _⟩ := Full.quoted_sim delim fuel s.toFull t.toFull start w qc ⟨hd, hf, hc⟩ hw r0 s' h0
  rw [q1, ← (Prod.mk.inj hr).1]
  exact ⟨t'.data, congrArg (fun c => some ((⟨r0.field, r0.hitEOL, ofErr r0.err, c⟩ : Res), t'.data)) q2.cur⟩

/-- Schedule independence of the quoted-field loop: whatever the chunk sizes, the result equals
    the result on the fully loaded buffer (hence any two schedules agree). -/
theorem schedule_irrelevant (delim : Byte) (fuel : Nat) (s : St) (start w qc : Nat) (r : Res) (d : List Byte)
    (h : quoted delim fuel s start w qc = some (r, d))
    (hw : w ≤ s.cursor) :
    ∃ d', quoted delim fuel s.loaded start w qc = some (r, d') :=
  quoted_sim delim fuel s s.loaded start w qc rfl rfl rfl hw r d h
#print axioms schedule_irrelevant
end Sim
