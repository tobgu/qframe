/-! Mirror of internal/sort/sorter.go on an index array; `swap` is the only mutation. -/
namespace Sorter

abbrev Ix := Array Nat

@[inline] def sw (a : Ix) (i j : Nat) : Ix :=
  if h : i < a.size ∧ j < a.size then a.swap i j h.1 h.2 else a

/-- data.Less(i,j) = less a[i] a[j] -/
@[inline] def lt (less : Nat → Nat → Bool) (a : Ix) (i j : Nat) : Bool := less a[i]! a[j]!

def insInner (less : Nat → Nat → Bool) (a : Ix) (lo : Nat) : Nat → Ix
  | 0 => a
  | j + 1 => if j + 1 > lo && lt less a (j + 1) j then insInner less (sw a (j + 1) j) lo j else a

def insertionSort (less : Nat → Nat → Bool) (a : Ix) (lo hi : Nat) : Ix :=
  (List.range' (lo + 1) (hi - (lo + 1))).foldl (fun a i => insInner less a lo i) a

def siftDown (less : Nat → Nat → Bool) (fuel : Nat) (a : Ix) (root hi first : Nat) : Ix :=
  match fuel with
  | 0 => a
  | fuel + 1 =>
    let child := 2 * root + 1
    if child ≥ hi then a else
    let child := if child + 1 < hi && lt less a (first + child) (first + child + 1) then child + 1 else child
    if !lt less a (first + root) (first + child) then a
    else siftDown less fuel (sw a (first + root) (first + child)) child hi first

def heapSort (less : Nat → Nat → Bool) (a : Ix) (lo hi : Nat) : Ix :=
  let first := lo
  let n := hi - lo
  -- for i := (n-1)/2; i >= 0; i--
  let a := (List.range ((n - 1) / 2 + 1)).reverse.foldl (fun a i => siftDown less (n + 1) a i n first) a
  -- for i := n-1; i >= 0; i--
  (List.range n).reverse.foldl (fun a i => siftDown less (n + 1) (sw a first (first + i)) 0 i first) a

def medianOfThree (less : Nat → Nat → Bool) (a : Ix) (m1 m0 m2 : Nat) : Ix :=
  let a := if lt less a m1 m0 then sw a m1 m0 else a
  if lt less a m2 m1 then
    let a := sw a m2 m1
    if lt less a m1 m0 then sw a m1 m0 else a
  else a

/-- `for ; a < c && P(a); a++ {}` -/
def scanUp (fuel : Nat) (p : Nat → Bool) (i c : Nat) : Nat :=
  match fuel with
  | 0 => i
  | fuel + 1 => if i < c && p i then scanUp fuel p (i + 1) c else i

/-- `for ; b < c && P(c-1); c-- {}` -/
def scanDown (fuel : Nat) (p : Nat → Bool) (b c : Nat) : Nat :=
  match fuel with
  | 0 => c
  | fuel + 1 => if b < c && p (c - 1) then scanDown fuel p b (c - 1) else c

def pivotLoop (less : Nat → Nat → Bool) (fuel : Nat) (a : Ix) (pivot b c : Nat) : Ix × Nat × Nat :=
  match fuel with
  | 0 => (a, b, c)
  | fuel + 1 =>
    let b := scanUp (a.size + 1) (fun i => !lt less a pivot i) b c
    let c := scanDown (a.size + 1) (fun i => lt less a pivot i) b c
    if b ≥ c then (a, b, c) else pivotLoop less fuel (sw a b (c - 1)) pivot (b + 1) (c - 1)

def protectLoop (less : Nat → Nat → Bool) (fuel : Nat) (a : Ix) (pivot x b : Nat) : Ix × Nat × Nat :=
  match fuel with
  | 0 => (a, x, b)
  | fuel + 1 =>
    let b := scanDown (a.size + 1) (fun i => !lt less a i pivot) x b
    let x := scanUp (a.size + 1) (fun i => lt less a i pivot) x b
    if x ≥ b then (a, x, b) else protectLoop less fuel (sw a x (b - 1)) pivot (x + 1) (b - 1)

/-- median selection: ninther for large ranges, then median of three into position lo -/
def choosePivot (less : Nat → Nat → Bool) (a : Ix) (lo hi : Nat) : Ix :=
  let m := (lo + hi) / 2
  let a := if hi - lo > 40 then
      let s := (hi - lo) / 8
      let a := medianOfThree less a lo (lo + s) (lo + 2 * s)
      let a := medianOfThree less a m (m - s) (m + s)
      medianOfThree less a (hi - 1) (hi - 1 - s) (hi - 1 - 2 * s)
    else a
  medianOfThree less a lo m (hi - 1)

structure PState where
  a : Ix
  b : Nat
  c : Nat
  protect : Bool

/-- "Lets test some points for equality to pivot" -/
def dups1 (less : Nat → Nat → Bool) (a : Ix) (lo hi c : Nat) : Ix × Nat × Nat :=
  if !lt less a lo (hi - 1) then (sw a c (hi - 1), c + 1, 1) else (a, c, 0)
def dups2 (less : Nat → Nat → Bool) (a : Ix) (lo b d : Nat) : Nat × Nat :=
  if !lt less a (b - 1) lo then (b - 1, d + 1) else (b, d)
def dups3 (less : Nat → Nat → Bool) (a : Ix) (lo m b d : Nat) : Ix × Nat × Nat :=
  if !lt less a m lo then (sw a m (b - 1), b - 1, d + 1) else (a, b, d)

def dupsBlock (less : Nat → Nat → Bool) (a : Ix) (lo hi m b c : Nat) : PState :=
  let r1 := dups1 less a lo hi c
  let r2 := dups2 less r1.1 lo b r1.2.2
  let r3 := dups3 less r1.1 lo m r2.1 r2.2
  ⟨r3.1, r3.2.1, r1.2.1, decide (r3.2.2 > 1)⟩

def doPivot (less : Nat → Nat → Bool) (a : Ix) (lo hi : Nat) : Ix × Nat × Nat :=
  let m := (lo + hi) / 2
  let a1 := choosePivot less a lo hi
  let x := scanUp (a1.size + 1) (fun i => lt less a1 i lo) (lo + 1) (hi - 1)
  let r := pivotLoop less (a1.size + 1) a1 lo x (hi - 1)
  let st : PState :=
    if !(decide (hi - r.2.2 < 5)) && decide (hi - r.2.2 < (hi - lo) / 4) then dupsBlock less r.1 lo hi m r.2.1 r.2.2
    else ⟨r.1, r.2.1, r.2.2, decide (hi - r.2.2 < 5)⟩
  let p : Ix × Nat :=
    if st.protect then (let q := protectLoop less (st.a.size + 1) st.a lo x st.b; (q.1, q.2.2)) else (st.a, st.b)
  (sw p.1 lo (p.2 - 1), p.2 - 1, st.c)

def maxDepth (n : Nat) : Nat := 2 * (if n = 0 then 0 else Nat.log2 n + 1)

def quickSort (less : Nat → Nat → Bool) (fuel : Nat) (a : Ix) (lo hi depth : Nat) : Ix :=
  match fuel with
  | 0 => a
  | fuel + 1 =>
    if hi - lo > 12 then
      if depth = 0 then heapSort less a lo hi else
      let depth := depth - 1
      let (a, mlo, mhi) := doPivot less a lo hi
      if mlo - lo < hi - mhi then
        let a := quickSort less fuel a lo mlo depth
        quickSort less fuel a mhi hi depth
      else
        let a := quickSort less fuel a mhi hi depth
        quickSort less fuel a lo mlo depth
    else if hi - lo > 1 then
      let a := (List.range' (lo + 6) (hi - (lo + 6))).foldl (fun a i => if lt less a i (i - 6) then sw a i (i - 6) else a) a
      insertionSort less a lo hi
    else a

def sort (less : Nat → Nat → Bool) (ix : Ix) : Ix :=
  quickSort less (ix.size + 2) ix 0 ix.size (maxDepth ix.size)

-- quick sanity
def vals : Array Nat := #[5, 3, 8, 3, 1, 9, 2, 8, 8, 0, 4, 7, 6, 6, 1, 5, 3, 2, 9, 0, 11, 15, 13, 3, 3, 3, 8, 1, 0, 7,
  5, 3, 8, 3, 1, 9, 2, 8, 8, 0, 4, 7, 6, 6, 1, 5, 3, 2, 9, 0, 11, 15, 13, 3, 3, 3, 8, 1, 0, 7]
#eval (sort (fun i j => vals[i]! < vals[j]!) (Array.range vals.size))
#eval (sort (fun i j => vals[i]! < vals[j]!) (Array.range vals.size)).map (vals[·]!)
end Sorter
