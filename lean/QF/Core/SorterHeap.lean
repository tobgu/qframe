import QF.Core.SorterSorted
/-! `heapSort` of the mirror sorts its range (`heapSort_spec : HeapSpec less`): `siftDown` restores the heap property. -/
namespace Sorter

variable (less : Nat → Nat → Bool)

/-- Heap positions are relative to `first`, the heap has `n` nodes: node `r` is not below either of its children. -/
def HeapAt (a : Ix) (first n r : Nat) : Prop :=
  ∀ c, (c = 2 * r + 1 ∨ c = 2 * r + 2) → c < n → less (at' a (first + r)) (at' a (first + c)) = false

/-- the heap property at every node from `k` on (`heapSort` builds it from the last parent down to 0) -/
def Heap (a : Ix) (first k n : Nat) : Prop := ∀ r, k ≤ r → r < n → HeapAt less a first n r

/-- What `siftDown` starts from and keeps while `root` moves down: the heap property everywhere but at `root`, and the
    parent of `root` is not below the children of `root`, so that whichever child is swapped up, the heap property
    holds at the parent again. -/
def AlmostHeap (a : Ix) (first k n root : Nat) : Prop :=
  (∀ r, k ≤ r → r < n → r ≠ root → HeapAt less a first n r) ∧
  (∀ p, k ≤ p → (root = 2 * p + 1 ∨ root = 2 * p + 2) →
     ∀ c, (c = 2 * root + 1 ∨ c = 2 * root + 2) → c < n → less (at' a (first + p)) (at' a (first + c)) = false)

theorem less_irrefl (sw0 : SWO less) (x : Nat) : less x x = false := by
  cases hv : less x x with
  | false => rfl
  | true => have := sw0.asymm _ _ hv; rw [hv] at this; cases this

/-! Positions of the heap: a child lies after its parent, and has one parent. -/
theorem child_gt {r c : Nat} (h : c = 2 * r + 1 ∨ c = 2 * r + 2) : r < c := by omega
theorem child_parent {r r' c : Nat} (h : c = 2 * r + 1 ∨ c = 2 * r + 2) (h' : c = 2 * r' + 1 ∨ c = 2 * r' + 2) : r = r' := by omega

/-- a swap, seen from a third position, all relative to `first` -/
theorem sw_at_rel (a : Ix) (first i j k : Nat) (hi : k ≠ i) (hj : k ≠ j) :
    at' (sw a (first + i) (first + j)) (first + k) = at' a (first + k) :=
  sw_at_ne _ _ _ _ (by omega) (by omega)

theorem siftDown_heap (sw0 : SWO less) (first k n : Nat) :
    ∀ (fuel : Nat) (a : Ix) (root : Nat), k ≤ root → n < fuel + root → first + n ≤ a.size →
      AlmostHeap less a first k n root →
      Heap less (siftDown less fuel a root n first) first k n ∧
      RangePres a (siftDown less fuel a root n first) first (first + n) := by
  intro fuel
  induction fuel with
  | zero =>
    intro a root hk hf hsz ⟨h1, _⟩
    exact ⟨fun r hr1 hr2 => h1 r hr1 hr2 (by omega), RangePres.refl _ _ _⟩
  | succ f ih =>
    intro a root hk hf hsz ⟨h1, h2⟩
    unfold siftDown
    simp only []
    -- without children, or not below the greater child `cs`: the heap property holds at `root` too
    have stop : (∀ c, (c = 2 * root + 1 ∨ c = 2 * root + 2) → c < n →
        less (at' a (first + root)) (at' a (first + c)) = false) → Heap less a first k n ∧ RangePres a a first (first + n) :=
      fun h => ⟨fun r hr1 hr2 => if e : r = root then e ▸ h else h1 r hr1 hr2 e, RangePres.refl _ _ _⟩
    by_cases c0 : 2 * root + 1 ≥ n
    · simp only [c0, ↓reduceIte]
      exact stop fun c hc hcn => by omega
    · simp only [c0, ↓reduceIte]
      -- the selected child is a child, and not below the other
      generalize hcs : (if (decide (2 * root + 1 + 1 < n) && lt less a (first + (2 * root + 1)) (first + (2 * root + 1) + 1)) = true
          then 2 * root + 1 + 1 else 2 * root + 1) = cs
      have ⟨hcsv, hcsn, hcsmax⟩ : (cs = 2 * root + 1 ∨ cs = 2 * root + 2) ∧ cs < n ∧
          ∀ c, (c = 2 * root + 1 ∨ c = 2 * root + 2) → c < n → less (at' a (first + cs)) (at' a (first + c)) = false := by
        subst hcs
        split
        · rename_i hc
          simp only [Bool.and_eq_true, decide_eq_true_eq, lt_eq] at hc
          refine ⟨Or.inr rfl, hc.1, ?_⟩
          rintro c (rfl | rfl) _
          · exact sw0.asymm _ _ hc.2
          · exact less_irrefl less sw0 _
        · rename_i hc
          refine ⟨Or.inl rfl, by omega, ?_⟩
          rintro c (rfl | rfl) hcn
          · exact less_irrefl less sw0 _
          · have h : lt less a (first + (2 * root + 1)) (first + (2 * root + 1) + 1) = false := by simpa [hcn] using hc
            exact h
      by_cases c1 : (!lt less a (first + root) (first + cs)) = true
      · simp only [c1, ↓reduceIte]
        have hge : less (at' a (first + root)) (at' a (first + cs)) = false := by simpa [lt_eq] using c1
        exact stop fun c hc hcn => sw0.le_trans _ _ _ (hcsmax c hc hcn) hge
      · simp only [c1, Bool.false_eq_true, ↓reduceIte]
        have hlt : less (at' a (first + root)) (at' a (first + cs)) = true := by simpa [lt_eq] using c1
        have hrc := child_gt hcsv
        have ⟨hra, hca, n1, n2, n3, n4, n5, n6⟩ : first + root < a.size ∧ first + cs < a.size ∧ first ≤ first + root ∧
            first + root < first + n ∧ first ≤ first + cs ∧ first + cs < first + n ∧ k ≤ cs ∧ n < f + cs := by omega
        obtain ⟨ihh, ihr⟩ := ih (sw a (first + root) (first + cs)) cs n5 n6 (by rw [sw_size]; exact hsz) (by
          constructor
          · intro r hr1 hr2 hne c hc hcn
            by_cases e1 : r = root
            · -- `root` now holds a[cs]
              subst e1
              rw [sw_at_fst _ _ _ hra hca]
              by_cases e2 : c = cs
              · rw [e2, sw_at_snd _ _ _ hra hca]; exact sw0.asymm _ _ hlt
              · rw [sw_at_rel _ _ _ _ _ (Nat.ne_of_gt (child_gt hc)) e2]; exact hcsmax c hc hcn
            · rw [sw_at_rel _ _ _ _ r e1 hne]
              by_cases e3 : c = root
              · -- r is the parent of root, which now holds a[cs]
                rw [e3, sw_at_fst _ _ _ hra hca]
                exact h2 r hr1 (e3 ▸ hc) cs hcsv hcsn
              · rw [sw_at_rel _ _ _ _ c e3 fun e => e1 (child_parent hc (e ▸ hcsv))]; exact h1 r hr1 hr2 e1 c hc hcn
          · intro p hp hpc c hc hcn
            -- the parent of cs is root
            have hcc := child_gt hc
            rw [child_parent hpc hcsv, sw_at_fst _ _ _ hra hca, sw_at_rel _ _ _ _ c (by omega) (by omega)]
            exact h1 cs n5 hcsn (Nat.ne_of_gt hrc) c hc hcn)
        exact ⟨ihh, (sw_rangePres a (first + root) (first + cs) first (first + n) n1 n2 n3 n4 hsz).trans ihr⟩

/-- in a heap the root is a maximum -/
theorem heap_root_max (sw0 : SWO less) (a : Ix) (first m : Nat) (h : Heap less a first 0 m) :
    ∀ r, r < m → less (at' a (first + 0)) (at' a (first + r)) = false := by
  intro r
  induction r using Nat.strongRecOn with
  | _ r ih =>
    intro hr
    cases r with
    | zero => exact less_irrefl less sw0 _
    | succ r =>
      have hp : r / 2 < r + 1 := by omega
      have h1 := ih (r / 2) hp (by omega)
      have h2 := h (r / 2) (Nat.zero_le _) (by omega) (r + 1) (by omega) hr
      exact sw0.le_trans _ _ _ h2 h1

/-- downward loop: `for i := m-1; i >= 0; i-- { a = step a i }` -/
theorem foldl_down_inv {α : Type} (step : α → Nat → α) (Inv : Nat → α → Prop) :
    ∀ (m : Nat) (a : α), Inv m a → (∀ i a, i < m → Inv (i + 1) a → Inv i (step a i)) →
      Inv 0 ((List.range m).reverse.foldl step a) := by
  intro m
  induction m with
  | zero => intro a h _; simpa using h
  | succ m ih =>
    intro a h hstep
    rw [List.range_succ, List.reverse_append]
    simp only [List.reverse_cons, List.reverse_nil, List.nil_append, List.cons_append, List.foldl_cons]
    exact ih (step a m) (hstep m a (by omega) h) (fun i a hi => hstep i a (by omega))

theorem heapSort_spec (sw0 : SWO less) : HeapSpec less := by
  intro a lo hi hlh hsz
  unfold heapSort
  simp only []
  generalize hn : hi - lo = n
  have hfn : lo + n = hi := by omega
  -- phase 1: build
  have ph1 := foldl_down_inv (fun a i => siftDown less (n + 1) a i n lo)
    (fun i b => Heap less b lo i n ∧ RangePres a b lo (lo + n)) ((n - 1) / 2 + 1) a
    ⟨by intro r hr1 hr2 c hc hcn; omega, RangePres.refl _ _ _⟩
    (by
      intro i b hi1 ⟨hh, hr⟩
      have hbsz : lo + n ≤ b.size := by rw [hr.size]; omega
      obtain ⟨x, y⟩ := siftDown_heap less sw0 lo i n (n + 1) b i (Nat.le_refl _) (by omega) hbsz
        ⟨fun r hr1 hr2 hne => hh r (by omega) hr2, fun p hp hpc => by omega⟩
      exact ⟨x, hr.trans y⟩)
  obtain ⟨hheap, hrp1⟩ := ph1
  generalize (List.range ((n - 1) / 2 + 1)).reverse.foldl (fun a i => siftDown less (n + 1) a i n lo) a = b at hheap hrp1
  -- phase 2: pop. `[lo, lo+i)` is a heap, `[lo+i, lo+n)` is sorted, and nothing above `lo+i` is below anything before it
  have ph2 := foldl_down_inv (fun a i => siftDown less (n + 1) (sw a lo (lo + i)) 0 i lo)
    (fun i c => Heap less c lo 0 i ∧ Sorted less c (lo + i) (lo + n) ∧ Parted less c lo (lo + i) (lo + i) (lo + n) ∧
      RangePres b c lo (lo + n)) n b
    ⟨hheap, by intro i j h1 h2 h3; omega, ⟨by intro p q h1 h2 h3 h4; omega, by intro p q h1 h2; omega⟩, RangePres.refl _ _ _⟩
    (by
      intro i c hin ⟨hh, hs, hb, hr⟩
      have ⟨hcsz, hla, hia, n1, n2, n3, n4⟩ : lo + n ≤ c.size ∧ lo < c.size ∧ lo + i < c.size ∧ lo < lo + i + 1 ∧ lo ≤ lo + i ∧
          lo + i < lo + i + 1 ∧ i < n + 1 + 0 := by rw [hr.size, hrp1.size]; omega
      -- the swap rearranges the left side `[lo, lo+i+1)`: the root, its maximum, comes to stand at its end
      have hsw := sw_rangePres c lo (lo + i) lo (lo + i + 1) (Nat.le_refl _) n1 n2 n3 hia
      have rootmax := heap_root_max less sw0 c lo (i + 1) hh
      obtain ⟨ps, ss⟩ := Parted.shift (m := lo + i) (hb.left hsw) (hs.congr fun k h1 _ => hsw.outside k (Or.inr h1)) n2 fun k h1 h2 => by
        rw [sw_at_snd _ _ _ hla hia]
        refine hsw.pres (fun x => less (at' c lo) x = false) (fun k h1 h2 => ?_) k h1 (by omega)
        have := rootmax (k - lo) (by omega)
        rwa [Nat.add_zero, Nat.add_sub_of_le h1] at this
      obtain ⟨x, y⟩ := siftDown_heap less sw0 lo 0 i (n + 1) (sw c lo (lo + i)) 0 (Nat.le_refl _) n4
        (by rw [sw_size]; exact Nat.le_of_lt hia)
        ⟨fun r _ hr2 hne cc hcc hccn => by
          have e1 := sw_at_rel c lo 0 i r hne (Nat.ne_of_lt hr2)
          have e2 := sw_at_rel c lo 0 i cc (Nat.ne_of_gt (Nat.zero_lt_of_lt (child_gt hcc))) (Nat.ne_of_lt hccn)
          rw [Nat.add_zero] at e1 e2
          rw [e1, e2]
          exact hh r (Nat.zero_le _) (by omega) cc hcc (by omega),
         fun p _ hpc => by omega⟩
      exact ⟨x, ss.congr fun k h1 _ => y.outside k (Or.inr h1), ps.left y,
        hr.trans ((hsw.mono (Nat.le_refl _) (by omega)).trans (y.mono (Nat.le_refl _) (by omega)))⟩)
  obtain ⟨_, hsorted, _, hrp2⟩ := ph2
  rw [← hfn]
  exact ⟨by simpa using hsorted, hrp1.trans hrp2⟩

#print axioms heapSort_spec
end Sorter
