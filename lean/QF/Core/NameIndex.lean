import QF.Core.ListFacts
/-!
# A column list and a name map that describe the same columns

`Fr.WF` (the frame mirror, QF/Core/Frame.lean) and `PWF` (frames on the heap model, QF/Props/C08ProjectGen.lean) share one
invariant: the `pos` of every element is its place in the list, the look-up by name finds the element at its place under
its name, and every element is found under its name. `Indexed` is that invariant over any element type (`name`, `pos` are
arguments). The code builds such a pair in two moves only — `push`: one more element at the end, entered under its name
(`Select`'s loop, `setColumn` of a new name); `replace`: an element takes the place and the entry of the one that carries
its name (`setColumn` of a known name) — and both keep it. The look-up after a move is given by its equation (`hl`), so a
function `String → Option _` and `List.lookup` in an association list are both instances. What the look-up IS: it knows a
name iff the list holds one (`isSome_find`), and with pairwise different names it is the search of the list by name
(`look_eq_find`). `find?_pos` needs the `pos` field alone: a search of the list returns the place with the element.
-/
namespace QF.NameIndex

/-- a list of named, placed elements and a look-up by name that describe the same elements -/
structure Indexed {κ ν : Type} (nm : ν → κ) (ps : ν → Nat) (cols : List ν) (look : κ → Option ν) : Prop where
  pos : ∀ (i : Nat) (c : ν), cols[i]? = some c → ps c = i
  mapOk : ∀ (n : κ) (c : ν), look n = some c → cols[ps c]? = some c ∧ nm c = n
  mapTotal : ∀ c : ν, c ∈ cols → (look (nm c)).isSome = true

variable {κ ν : Type} {name : ν → κ} {pos : ν → Nat} {cols : List ν} {look look' : κ → Option ν}

theorem Indexed.nil (hl : ∀ k, look k = none) : Indexed name pos ([] : List ν) look :=
  ⟨fun i c h => (by simp at h), fun n c h => (by rw [hl] at h; cases h), fun c h => (by cases h)⟩

/-- one more element at the end, entered under its name (an earlier entry of that name is shadowed) -/
theorem Indexed.push [DecidableEq κ] (w : Indexed name pos cols look) (c : ν) (hc : pos c = cols.length)
    (hl : ∀ k, look' k = if k = name c then some c else look k) : Indexed name pos (cols ++ [c]) look' := by
  refine ⟨fun i x hx => ?_, fun n x hx => ?_, fun x hx => ?_⟩
  · rw [List.getElem?_append] at hx
    split at hx
    · exact w.pos i x hx
    · have : i = cols.length := by
        rcases Nat.lt_or_ge (i - cols.length) 1 with h | h
        · omega
        · rw [List.getElem?_eq_none (by simpa using h)] at hx; cases hx
      subst this; simp at hx; subst hx; exact hc
  · rw [hl] at hx
    split at hx
    · rename_i hk; cases hx; exact ⟨by rw [hc]; simp, hk.symm⟩
    · obtain ⟨a, b⟩ := w.mapOk n x hx
      have hlt : pos x < cols.length := (List.getElem?_eq_some_iff.mp a).1
      rw [← List.getElem?_append_left hlt (l₂ := [c])] at a
      exact ⟨a, b⟩
  · rw [hl]
    split
    · rfl
    · rcases List.mem_append.mp hx with h | h
      · exact w.mapTotal x h
      · cases List.mem_singleton.mp h; exact absurd rfl ‹_›

/-- the element at the place of `e` carries the name of `e`: `e` takes its place and its entry -/
theorem Indexed.replace [DecidableEq κ] (w : Indexed name pos cols look) (e ex : ν) (hx : cols[pos e]? = some ex) (hn : name ex = name e)
    (hl : ∀ k, look' k = if k = name e then some e else look k) : Indexed name pos (cols.set (pos e) e) look' := by
  have hlt : pos e < cols.length := (List.getElem?_eq_some_iff.mp hx).1
  refine ⟨fun i x hi => ?_, fun n x hi => ?_, fun x hi => ?_⟩
  · by_cases h : pos e = i
    · subst h; rw [List.getElem?_set_self hlt] at hi; cases hi; rfl
    · rw [List.getElem?_set_ne h] at hi; exact w.pos i x hi
  · rw [hl] at hi
    split at hi
    · rename_i hk; cases hi; exact ⟨by rw [List.getElem?_set_self hlt], hk.symm⟩
    · obtain ⟨a, b⟩ := w.mapOk n x hi
      have : pos e ≠ pos x := fun hp => ‹¬n = name e› (by rw [← b, ← hn]; rw [hp, a] at hx; cases hx; rfl)
      exact ⟨by rw [List.getElem?_set_ne this]; exact a, b⟩
  · rw [hl]
    split
    · rfl
    · rcases List.mem_or_eq_of_mem_set hi with h | h
      · exact w.mapTotal x h
      · exact absurd (congrArg name h) ‹_›

theorem Indexed.replace_names (p : Nat) (e ex : ν) (hx : cols[p]? = some ex) (hn : name ex = name e) :
    (cols.set p e).map name = cols.map name := by
  rw [List.map_set, ListFacts.set_self]
  rw [List.getElem?_map, hx, ← hn]; rfl

/-- a name the look-up does not know is new to the list -/
theorem Indexed.push_nodup (w : Indexed name pos cols look) (u : (cols.map name).Nodup) (c : ν)
    (hn : look (name c) = none) : ((cols ++ [c]).map name).Nodup := by
  rw [List.map_append, List.nodup_append]
  refine ⟨u, by simp, fun a ha b hb => ?_⟩
  cases List.mem_singleton.mp hb
  obtain ⟨x, hx, rfl⟩ := List.mem_map.mp ha
  intro hxe
  have := w.mapTotal x hx
  rw [hxe, hn] at this; cases this

/-- the look-up knows a name iff the search of the list finds one (no uniqueness needed) -/
theorem Indexed.isSome_find [BEq κ] [LawfulBEq κ] (w : Indexed name pos cols look) (k : κ) :
    (cols.find? fun c => name c == k).isSome = (look k).isSome := by
  rw [Bool.eq_iff_iff, List.find?_isSome]
  constructor
  · rintro ⟨c, hc, hn⟩; rw [← eq_of_beq hn]; exact w.mapTotal c hc
  · intro h
    obtain ⟨c, hc⟩ := Option.isSome_iff_exists.mp h
    exact ⟨c, List.mem_of_getElem? (w.mapOk k c hc).1, beq_of_eq (w.mapOk k c hc).2⟩

/-- with pairwise different names the look-up IS the search of the list by name -/
theorem Indexed.look_eq_find [BEq κ] [LawfulBEq κ] (w : Indexed name pos cols look) (u : (cols.map name).Nodup) (k : κ) :
    look k = cols.find? fun c => name c == k := by
  cases hb : look k with
  | some c =>
    obtain ⟨h1, h2⟩ := w.mapOk k c hb
    rw [← h2, ListFacts.find?_key_of_mem name cols u c (List.mem_of_getElem? h1)]
  | none =>
    have := w.isSome_find k
    rw [hb] at this
    exact (Option.not_isSome_iff_eq_none.mp (by rw [this]; simp)).symm

/-- the place of the first element that satisfies `p`, in a list whose elements know their place -/
theorem find?_pos (hpos : ∀ (i : Nat) (c : ν), cols[i]? = some c → pos c = i) (p : ν → Bool) :
    (cols.find? p).map pos = cols.findIdx? p := by
  cases hf : cols.find? p with
  | none =>
    rw [List.find?_eq_none] at hf
    exact (List.findIdx?_eq_none_iff.2 fun x hx => by simpa using hf x hx).symm
  | some c =>
    obtain ⟨hp, i, hi, e, hlt⟩ := List.find?_eq_some_iff_getElem.1 hf
    have : pos c = i := hpos i c (by rw [List.getElem?_eq_getElem hi, e])
    rw [Option.map_some, this]
    exact (List.findIdx?_eq_some_iff_getElem.2 ⟨hi, by rw [e]; exact hp, fun j hj => by simpa using hlt j hj⟩).symm

end QF.NameIndex
