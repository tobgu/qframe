import QF.Core.CsvSim
/-! The functional scanner `qscan` that the in-place compacting quoted-field loop equals on a loaded buffer, and the RFC 4180
    escaping it reads back. The two theorems, `Sim.quoted_eq_qscan` and `Sim.qscan_content`, are in QF/Props/C12.lean (read off
    their twins over `Full`'s types in QF/Props/C12Read.lean). -/
namespace Sim

/-- functional scanner: `rest` = unread bytes, `acc` = field so far, `qc` = consecutive quotes,
    `p` = the byte that the next "keep" will append (= tape[writeCursor]). Returns field, hitEOL, err,
    number of unread bytes left. -/
def qscan (delim : Byte) : List Byte → List Byte → Nat → Byte → List Byte × Bool × Option RErr × Nat
  | [], acc, _, _ => (acc, true, some .eof, 0)
  | [b], acc, qc, _ =>          -- the last byte is examined only for "delimiter after the closing quote"
    if qc % 2 != 0 && b == delim then (acc, false, none, 0) else (acc, true, some .eof, 1)
  | b :: b' :: rest, acc, qc, p =>
    if b == delim then
      (if qc % 2 != 0 then (acc, false, none, (b' :: rest).length) else qscan delim (b' :: rest) (acc ++ [p]) 0 b')
    else if b == LF then
      (if qc % 2 != 0 then (acc, true, none, (b' :: rest).length) else qscan delim (b' :: rest) (acc ++ [p]) 0 b')
    else if b == CR then
      (if qc % 2 != 0 then qscan delim (b' :: rest) acc qc p else qscan delim (b' :: rest) (acc ++ [p]) 0 b')
    else if b == QUOTE then
      (if (qc + 1) % 2 == 1 then qscan delim (b' :: rest) acc (qc + 1) p else qscan delim (b' :: rest) (acc ++ [p]) 0 b')
    else qscan delim (b' :: rest) (acc ++ [p]) 0 b'

/-- RFC 4180 escaping of a field's content inside quotes -/
def escape : List Byte → List Byte
  | [] => []
  | b :: bs => if b == QUOTE then QUOTE :: QUOTE :: escape bs else b :: escape bs

def hd (l : List Byte) : Byte := l.headD 0

end Sim
