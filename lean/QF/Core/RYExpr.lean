/-!
# RY — the language of the RYU CORE (/repo/internal/ryu/ryu64.go, ryu.go), and its Go semantics

    func float64ToDecimalExactInt(mant, exp uint64) (d dec64, ok bool)
    func float64ToDecimal(mant, exp uint64) dec64          -- steps 1–4 of Ryu's d2d, four digit-removal loops
    func decimalLen64(u uint64) int
    func mulShift64, shiftRight128, pow5Factor64, multipleOfPowerOfFive64, multipleOfPowerOfTwo64
    func log10Pow2, log10Pow5, pow5Bits, boolToInt, boolToUint32, boolToUint64, assert
    func AppendFloat64f, appendSpecialf, (d dec64) appendF, sizeSlice      -- the digit layout (second stage)

go/cmd/extract/ryuast.go translates the bodies of these functions, statement by statement, to terms of the small imperative
language below and writes them to `QF/Gen/RyuFns.lean` on every run. The language is generic: variables, `:=`, `=`,
`x.f = e`, `if`, three-clause `for` with `break`, `return`, fixed-width unsigned and signed arithmetic, shifts, conversions,
structs of two fields, `bits.Mul64`, `bits.LeadingZeros64`, `bits.TrailingZeros64`, look-ups in the package-level tables,
calls of the other translated functions.

Terms name things by ROLE:
* a variable is the number of variables alive at its declaration (parameters first, then named results, then every `:=` /
  `var` in the order of the text; a block's variables end with the block, so that the store is a stack) — names do not reach
  the output;
* a function is its number in the order of discovery: 0, 1, 2, 3 are the roots (`(uint64, uint64) (dec, bool)` and
  `(uint64, uint64) dec` called by the public `AppendFloat64f`, `(uint64) int` called by the method the result is formatted
  with, and `AppendFloat64f` itself); every other function gets the next number when the translation first meets a call of it;
* a struct is a pair; its fields are numbered in the order of the declaration (`uint128`: 0 `lo`, 1 `hi` — the order the
  tables of `QF.Gen.Ryu` are read in; `dec64`: 0 `m`, 1 `e`);
* package-level constants are replaced by their values, typed by the context; constant expressions are folded exactly.

## What the semantics models, and how exactly

* `uint8` / `uint32` / `uint64` (`uint` is `uint64`): exactly, modulo 2^w (`Val.u w n` with `n < 2^w`).
* `int32` / `int` (64 bits): exactly, two's complement (`Val.i w z` with `-2^(w-1) ≤ z < 2^(w-1)`; every operation wraps).
* `/`, `%`: truncated division; a zero divisor has no meaning (Go panics).
* shifts: the count is any unsigned value, or a signed one that is not negative (Go panics otherwise); counts ≥ w give 0
  (for `>>` on a signed operand: the arithmetic shift).
* a conversion `T(e)` between integer types keeps the value modulo 2^w.
* `assert(c, msg)` (a function whose body is `if !c { panic(msg) }`) is `S.assert c`: no meaning if `c` is false.
* table look-ups outside the table have no meaning (Go panics).
* a `[]byte` is `Val.bytes content spare`: the visible content and whatever lies in the spare capacity behind it (the buffer
  model of QF/Core/AppendF.lean). `b[:hi]` may make stale bytes visible; `append` reuses (and overwrites) the spare capacity
  when it suffices, else it returns a new backing array whose spare capacity is unspecified: `Env.fresh site`, by the number
  of the `append` in the translation unit. A slice has one owner (the translated code never keeps two slices of one array).
* a `float64` parameter is its bit pattern (`Val.f64`, read by `math.Float64bits`).
* a `for` loop that runs `Env.fuel` rounds has no meaning (`stuck`).
Whatever has no meaning — a panic, a value of the wrong kind, something the translator did not understand (`opaque`) — is
`none` / `stuck`.
-/
namespace QF.RY

abbrev Var := Nat
abbrev FnId := Nat

/-- the package-level tables: `pow5Split64`, `pow5InvSplit64` (by name, as `QF.Gen.Ryu` reads them) and the array of
`uint64` that is indexed in the translation unit (today `powersOf10`) -/
inductive Tbl where
  | pow5Split | pow5InvSplit | pow10
  deriving DecidableEq, Repr, Inhabited

inductive COp where
  | lt | le | gt | ge | eq | ne
  deriving DecidableEq, Repr, Inhabited

inductive AOp where
  | add | sub | mul | div | mod | band | bor | bxor
  deriving DecidableEq, Repr, Inhabited

/-- Expressions. -/
inductive E where
  | var (v : Var)
  /-- a constant of type `uint<w>` -/
  | u (w n : Nat)
  /-- a constant of type `int<w>` (`int` is `int64`) -/
  | i (w : Nat) (z : Int)
  | bool (b : Bool)
  /-- `e.f` for the `k`-th field of a struct -/
  | field (e : E) (k : Nat)
  /-- `T{f₀: a, f₁: b}` (fields in the order of the declaration), also the values of `return a, b` -/
  | mk2 (a b : E)
  | not (e : E)
  /-- `-e` -/
  | neg (e : E)
  /-- `a && b` (b is not evaluated when a is false) -/
  | and (a b : E)
  /-- `a || b` (b is not evaluated when a is true) -/
  | or (a b : E)
  | cmp (op : COp) (a b : E)
  /-- `a + b`, `a - b`, `a * b`, `a / b`, `a % b`, `a & b`, `a | b`, `a ^ b` on two operands of the same integer type -/
  | bin (op : AOp) (a b : E)
  /-- `a << s` -/
  | shl (a s : E)
  /-- `a >> s` -/
  | shr (a s : E)
  /-- `uint<w>(e)` -/
  | toU (w : Nat) (e : E)
  /-- `int<w>(e)` -/
  | toI (w : Nat) (e : E)
  /-- `bits.Mul64(a, b)`: the pair `(hi, lo)` -/
  | mul64 (a b : E)
  /-- `bits.LeadingZeros64(e)` -/
  | lz64 (e : E)
  /-- `bits.TrailingZeros64(e)` -/
  | tz64 (e : E)
  /-- `table[i]` -/
  | tbl (t : Tbl) (i : E)
  /-- a string constant, as its bytes -/
  | str (bytes : List Nat)
  /-- the builtins `len` and `cap` of a byte slice (`len` also of a string) -/
  | len (e : E)
  | cap (e : E)
  /-- `b[i]` for a byte slice -/
  | index (b i : E)
  /-- `b[:hi]` -/
  | sliceTo (b hi : E)
  /-- `make([]byte, n)` -/
  | makeBytes (n : E)
  /-- `append(b, x)` for a byte `x`; `site` numbers the `append`s of the translation unit (the spare capacity of a new backing
  array is `Env.fresh site`) -/
  | append1 (site : Nat) (b x : E)
  /-- `append(b, s...)` for a string or a byte slice `s` -/
  | appendS (site : Nat) (b s : E)
  /-- `math.Float64bits(f)` -/
  | f64bits (e : E)
  /-- calls of translated functions -/
  | call1 (f : FnId) (a : E)
  | call2 (f : FnId) (a b : E)
  | call3 (f : FnId) (a b c : E)
  | call4 (f : FnId) (a b c d : E)
  | opaque (txt : String)
  deriving DecidableEq, Repr, Inhabited

/-- Statements. A block is `S.scope (S.block [s₁, …])`. -/
inductive S where
  | skip
  | seq (a b : S)
  /-- `{ … }`: the variables declared inside end here -/
  | scope (body : S)
  /-- `v := e`, `var v T = e`, `var v T` (e the zero value); `v` is the number of variables alive -/
  | define (v : Var) (e : E)
  /-- `v, w := e` for an expression with two values (`none`: the blank identifier) -/
  | define2 (v w : Option Var) (e : E)
  /-- `v = e` (also `v op= e`, `v++`, `v--`) -/
  | assign (v : Var) (e : E)
  /-- `v.f = e` for the `k`-th field of a struct variable (also `v.f op= e`, `v.f++`) -/
  | setField (v : Var) (k : Nat) (e : E)
  /-- `v[i] = e` for a byte slice variable -/
  | setIndex (v : Var) (i e : E)
  | ite (c : E) (t e : S)
  /-- `for init; cond; post { body }` (an absent condition is `true`) -/
  | for (init : S) (cond : E) (post : S) (body : S)
  | brk
  | ret (e : E)
  /-- `assert(c, msg)` -/
  | assert (c : E)
  | opaque (txt : String)
  deriving DecidableEq, Repr, Inhabited

def S.block : List S → S
  | [] => .skip
  | s :: ss => .seq s (S.block ss)

/-- A translated function: the parameters are the variables `0 … params-1`. -/
structure Fn where
  params : Nat
  body : S
  deriving DecidableEq, Repr, Inhabited

def E.hasOpaque : E → Bool
  | .opaque _ => true
  | .field e _ | .not e | .neg e | .toU _ e | .toI _ e | .lz64 e | .tz64 e | .tbl _ e | .call1 _ e | .len e | .cap e
  | .makeBytes e | .f64bits e => e.hasOpaque
  | .mk2 a b | .and a b | .or a b | .cmp _ a b | .bin _ a b | .shl a b | .shr a b | .mul64 a b | .call2 _ a b | .index a b
  | .sliceTo a b | .append1 _ a b | .appendS _ a b =>
    a.hasOpaque || b.hasOpaque
  | .call3 _ a b c => a.hasOpaque || b.hasOpaque || c.hasOpaque
  | .call4 _ a b c d => a.hasOpaque || b.hasOpaque || c.hasOpaque || d.hasOpaque
  | _ => false

def S.hasOpaque : S → Bool
  | .opaque _ => true
  | .seq a b => a.hasOpaque || b.hasOpaque
  | .scope b => b.hasOpaque
  | .define _ e | .define2 _ _ e | .assign _ e | .setField _ _ e | .ret e | .assert e => e.hasOpaque
  | .setIndex _ i e => i.hasOpaque || e.hasOpaque
  | .ite c t e => c.hasOpaque || t.hasOpaque || e.hasOpaque
  | .for i c p b => i.hasOpaque || c.hasOpaque || p.hasOpaque || b.hasOpaque
  | _ => false

/-! ## Values -/

inductive Val where
  /-- the result of a function without results -/
  | unit
  | bool (b : Bool)
  /-- `uint<w>` -/
  | u (w n : Nat)
  /-- `int<w>` -/
  | i (w : Nat) (z : Int)
  /-- a struct of two fields, two results -/
  | pair (a b : Val)
  /-- a `[]byte`: the visible content and whatever lies in the spare capacity behind it -/
  | bytes (content spare : List UInt8)
  /-- a string, as its bytes -/
  | str (l : List UInt8)
  /-- a `float64`, as its bit pattern -/
  | f64 (bits : Nat)
  deriving DecidableEq, Repr, Inhabited

/-- the variables alive, in the order of their declaration -/
abbrev Store := List Val

structure Env where
  call : FnId → List Val → Option Val
  tbl : Tbl → Nat → Option Val
  fuel : Nat
  /-- the spare capacity of the backing array the `append` numbered `site` allocates when the capacity does not suffice -/
  fresh : Nat → List UInt8

/-- two's complement: the representative of `z` modulo `2^w` in `[-2^(w-1), 2^(w-1))` (a value in range is returned as it is:
written with a test first so that evaluation with an unknown `z` stops at the test) -/
def wrapS (w : Nat) : Int → Int
  | .ofNat n => if n < 2 ^ (w - 1) then .ofNat n else (Int.ofNat n + 2 ^ (w - 1)) % 2 ^ w - 2 ^ (w - 1)
  | .negSucc n => if n < 2 ^ (w - 1) then .negSucc n else (Int.negSucc n + 2 ^ (w - 1)) % 2 ^ w - 2 ^ (w - 1)

def COp.nat : COp → Nat → Nat → Bool
  | .lt, a, b => a < b
  | .le, a, b => a ≤ b
  | .gt, a, b => a > b
  | .ge, a, b => a ≥ b
  | .eq, a, b => a == b
  | .ne, a, b => a != b

def COp.int : COp → Int → Int → Bool
  | .lt, a, b => a < b
  | .le, a, b => a ≤ b
  | .gt, a, b => a > b
  | .ge, a, b => a ≥ b
  | .eq, a, b => a == b
  | .ne, a, b => a != b

def Val.compare (op : COp) : Val → Val → Option Bool
  | .u w a, .u w' b => if w = w' then some (op.nat a b) else none
  | .i w a, .i w' b => if w = w' then some (op.int a b) else none
  | .bool a, .bool b => (match op with | .eq => some (a == b) | .ne => some (a != b) | _ => none)
  | _, _ => none

/-- on `uint<w>` (operands below `2^w`) -/
def AOp.nat (w : Nat) : AOp → Nat → Nat → Option Nat
  | .add, a, b => some ((a + b) % 2 ^ w)
  | .sub, a, b => some ((a + (2 ^ w - b % 2 ^ w)) % 2 ^ w)
  | .mul, a, b => some ((a * b) % 2 ^ w)
  | .div, a, b => if b = 0 then none else some (a / b)
  | .mod, a, b => if b = 0 then none else some (a % b)
  | .band, a, b => some (a &&& b)
  | .bor, a, b => some (a ||| b)
  | .bxor, a, b => some (a ^^^ b)

/-- on `int<w>`; the bit operations on signed operands do not occur -/
def AOp.int (w : Nat) : AOp → Int → Int → Option Int
  | .add, a, b => some (wrapS w (a + b))
  | .sub, a, b => some (wrapS w (a - b))
  | .mul, a, b => some (wrapS w (a * b))
  | .div, a, b => if b = 0 then none else some (wrapS w (Int.tdiv a b))
  | .mod, a, b => if b = 0 then none else some (Int.tmod a b)
  | _, _, _ => none

def Val.arith (op : AOp) : Val → Val → Option Val
  | .u w a, .u w' b => if w = w' then (op.nat w a b).map (.u w) else none
  | .i w a, .i w' b => if w = w' then (op.int w a b).map (.i w) else none
  | _, _ => none

/-- the integer a value of an integer type stands for -/
def Val.toZ : Val → Option Int
  | .u _ n => some n
  | .i _ z => some z
  | _ => none

/-- a shift count: not negative -/
def Val.count : Val → Option Nat
  | .u _ n => some n
  | .i _ z => if z < 0 then none else some z.toNat
  | _ => none

def Val.shl : Val → Nat → Option Val
  | .u w a, s => some (.u w (if s < w then (a <<< s) % 2 ^ w else 0))
  | .i w a, s => some (.i w (if s < w then wrapS w (a * 2 ^ s) else 0))
  | _, _ => none

def Val.shr : Val → Nat → Option Val
  | .u w a, s => some (.u w (if s < w then a >>> s else 0))
  | .i w a, s => some (.i w (a >>> s))
  | _, _ => none

/-- the bit length (`bits.Len64`) -/
def bitLen (n : Nat) : Nat := if n = 0 then 0 else Nat.log2 n + 1

/-- `bits.TrailingZeros64` (64 for 0) -/
def tzLoop : Nat → Nat → Nat → Nat
  | 0, _, n => n
  | fuel + 1, v, n => if v % 2 == 1 then n else tzLoop fuel (v / 2) (n + 1)
def tz64 (v : Nat) : Nat := tzLoop 64 v 0

/-- `append(b, bs...)`: the spare capacity is reused (and overwritten) when it suffices, else a new backing array with the
spare capacity `extra` -/
def appendTo (c sp bs extra : List UInt8) : Val :=
  if sp.length ≥ bs.length then .bytes (c ++ bs) (sp.drop bs.length) else .bytes (c ++ bs) extra

/-- the bytes of a string or of the visible part of a byte slice -/
def Val.bytesOf : Val → Option (List UInt8)
  | .str l => some l
  | .bytes c _ => some c
  | _ => none

/-! ## Expressions -/

def E.eval (Γ : Env) (σ : Store) : E → Option Val
  | .var v => σ[v]?
  | .u w n => some (.u w n)
  | .i w z => some (.i w z)
  | .bool b => some (.bool b)
  | .field e k =>
    match e.eval Γ σ with
    | some (.pair a b) => if k = 0 then some a else if k = 1 then some b else none
    | _ => none
  | .mk2 a b => match a.eval Γ σ, b.eval Γ σ with | some x, some y => some (.pair x y) | _, _ => none
  | .not e => match e.eval Γ σ with | some (.bool b) => some (.bool (!b)) | _ => none
  | .neg e =>
    match e.eval Γ σ with
    | some (.i w z) => some (.i w (wrapS w (-z)))
    | some (.u w n) => some (.u w ((2 ^ w - n) % 2 ^ w))
    | _ => none
  | .and a b =>
    match a.eval Γ σ with
    | some (.bool false) => some (.bool false)
    | some (.bool true) => (match b.eval Γ σ with | some (.bool x) => some (.bool x) | _ => none)
    | _ => none
  | .or a b =>
    match a.eval Γ σ with
    | some (.bool true) => some (.bool true)
    | some (.bool false) => (match b.eval Γ σ with | some (.bool x) => some (.bool x) | _ => none)
    | _ => none
  | .cmp op a b => match a.eval Γ σ, b.eval Γ σ with | some x, some y => (x.compare op y).map .bool | _, _ => none
  | .bin op a b => match a.eval Γ σ, b.eval Γ σ with | some x, some y => x.arith op y | _, _ => none
  | .shl a s =>
    match a.eval Γ σ, s.eval Γ σ with
    | some x, some y => (match y.count with | some n => x.shl n | none => none)
    | _, _ => none
  | .shr a s =>
    match a.eval Γ σ, s.eval Γ σ with
    | some x, some y => (match y.count with | some n => x.shr n | none => none)
    | _, _ => none
  | .toU w e => match e.eval Γ σ with | some x => x.toZ.map (fun z => .u w (z % 2 ^ w).toNat) | none => none
  | .toI w e => match e.eval Γ σ with | some x => x.toZ.map (fun z => .i w (wrapS w z)) | none => none
  | .mul64 a b =>
    match a.eval Γ σ, b.eval Γ σ with
    | some (.u w x), some (.u w' y) =>
      if w = 64 ∧ w' = 64 then some (.pair (.u 64 (x * y / 2 ^ 64 % 2 ^ 64)) (.u 64 (x * y % 2 ^ 64))) else none
    | _, _ => none
  | .lz64 e => match e.eval Γ σ with | some (.u w n) => if w = 64 then some (.i 64 (64 - (RY.bitLen n : Int))) else none | _ => none
  | .tz64 e => match e.eval Γ σ with | some (.u w n) => if w = 64 then some (.i 64 (RY.tz64 n : Nat)) else none | _ => none
  | .tbl t ix =>
    match ix.eval Γ σ with
    | some x => (match x.toZ with | some z => if z < 0 then none else Γ.tbl t z.toNat | none => none)
    | none => none
  | .str l => some (.str (l.map Nat.toUInt8))
  | .len e => match e.eval Γ σ with | some x => x.bytesOf.map (fun l => .i 64 (l.length : Nat)) | none => none
  | .cap e => match e.eval Γ σ with | some (.bytes c sp) => some (.i 64 ((c.length + sp.length : Nat) : Int)) | _ => none
  | .index b ix =>
    match b.eval Γ σ, ix.eval Γ σ with
    | some (.bytes c _), some y =>
      (match y.toZ with | some z => if z < 0 then none else (c[z.toNat]?).map (fun x => .u 8 x.toNat) | none => none)
    | _, _ => none
  | .sliceTo b hi =>
    match b.eval Γ σ, hi.eval Γ σ with
    | some (.bytes c sp), some y =>
      (match y.toZ with
       | some z => if z < 0 ∨ ((c.length + sp.length : Nat) : Int) < z then none
                   else some (.bytes ((c ++ sp).take z.toNat) ((c ++ sp).drop z.toNat))
       | none => none)
    | _, _ => none
  | .makeBytes n =>
    match n.eval Γ σ with
    | some y => (match y.toZ with | some z => if z < 0 then none else some (.bytes (List.replicate z.toNat 0) []) | none => none)
    | none => none
  | .append1 site b x =>
    match b.eval Γ σ, x.eval Γ σ with
    | some (.bytes c sp), some (.u w v) => if w = 8 then some (appendTo c sp [v.toUInt8] (Γ.fresh site)) else none
    | _, _ => none
  | .appendS site b s =>
    match b.eval Γ σ, s.eval Γ σ with
    | some (.bytes c sp), some y => (match y.bytesOf with | some bs => some (appendTo c sp bs (Γ.fresh site)) | none => none)
    | _, _ => none
  | .f64bits e => match e.eval Γ σ with | some (.f64 n) => some (.u 64 n) | _ => none
  | .call1 f a => match a.eval Γ σ with | some x => Γ.call f [x] | none => none
  | .call2 f a b => match a.eval Γ σ, b.eval Γ σ with | some x, some y => Γ.call f [x, y] | _, _ => none
  | .call3 f a b c =>
    match a.eval Γ σ, b.eval Γ σ, c.eval Γ σ with
    | some x, some y, some z => Γ.call f [x, y, z]
    | _, _, _ => none
  | .call4 f a b c d =>
    match a.eval Γ σ, b.eval Γ σ, c.eval Γ σ, d.eval Γ σ with
    | some x, some y, some z, some w => Γ.call f [x, y, z, w]
    | _, _, _, _ => none
  | .opaque _ => none

/-! ## Statements -/

inductive Out where
  | next (σ : Store)
  /-- `break` -/
  | brk (σ : Store)
  | ret (v : Val)
  /-- no meaning -/
  | stuck
  deriving DecidableEq, Repr, Inhabited

/-- the three-clause `for` after its init statement: at most `fuel` rounds -/
def forLoop (cond : Store → Option Bool) (body post : Store → Out) : Nat → Store → Out
  | 0, _ => .stuck
  | fuel + 1, σ =>
    match cond σ with
    | some true =>
      (match body σ with
       | .next σ' =>
         (match post σ' with
          | .next σ'' => forLoop cond body post fuel σ''
          | _ => .stuck)
       | .brk σ' => .next σ'
       | r => r)
    | some false => .next σ
    | none => .stuck

def asBool : Option Val → Option Bool
  | some (.bool b) => some b
  | _ => none

def pushOpt (σ : Store) (v : Option Var) (x : Val) : Option Store :=
  match v with
  | none => some σ
  | some v => if v = σ.length then some (σ ++ [x]) else none

def setFld (k : Nat) (x : Val) : Val → Option Val
  | .pair a b => if k = 0 then some (.pair x b) else if k = 1 then some (.pair a x) else none
  | _ => none

def S.exec (Γ : Env) : S → Store → Out
  | .skip, σ => .next σ
  | .seq a b, σ =>
    match a.exec Γ σ with
    | .next σ' => b.exec Γ σ'
    | r => r
  | .scope b, σ =>
    match b.exec Γ σ with
    | .next σ' => .next (σ'.take σ.length)
    | .brk σ' => .brk (σ'.take σ.length)
    | r => r
  | .define v e, σ =>
    if v = σ.length then (match e.eval Γ σ with | some x => .next (σ ++ [x]) | none => .stuck) else .stuck
  | .define2 v w e, σ =>
    match e.eval Γ σ with
    | some (.pair x y) =>
      (match pushOpt σ v x with
       | some σ' => (match pushOpt σ' w y with | some σ'' => .next σ'' | none => .stuck)
       | none => .stuck)
    | _ => .stuck
  | .assign v e, σ =>
    if v < σ.length then (match e.eval Γ σ with | some x => .next (σ.set v x) | none => .stuck) else .stuck
  | .setField v k e, σ =>
    match σ[v]?, e.eval Γ σ with
    | some s, some x => (match setFld k x s with | some s' => .next (σ.set v s') | none => .stuck)
    | _, _ => .stuck
  | .setIndex v ix e, σ =>
    match σ[v]?, ix.eval Γ σ, e.eval Γ σ with
    | some (.bytes c sp), some y, some (.u w x) =>
      (match y.toZ with
       | some z => if w = 8 ∧ 0 ≤ z ∧ z < (c.length : Nat) then .next (σ.set v (.bytes (c.set z.toNat x.toUInt8) sp)) else .stuck
       | none => .stuck)
    | _, _, _ => .stuck
  | .ite c t e, σ =>
    match c.eval Γ σ with
    | some (.bool true) => t.exec Γ σ
    | some (.bool false) => e.exec Γ σ
    | _ => .stuck
  | .for init cond post body, σ =>
    match init.exec Γ σ with
    | .next σ' =>
      (match forLoop (fun s => asBool (cond.eval Γ s)) (fun s => body.exec Γ s) (fun s => post.exec Γ s) Γ.fuel σ' with
       | .next σ'' => .next (σ''.take σ.length)
       | r => r)
    | _ => .stuck
  | .brk, σ => .brk σ
  | .ret e, σ => match e.eval Γ σ with | some x => .ret x | none => .stuck
  | .assert c, σ => match c.eval Γ σ with | some (.bool true) => .next σ | _ => .stuck
  | .opaque _, _ => .stuck

/-! ## The sequencing of statements as ordinary functions

What the `match` expressions of `S.exec`, `forLoop` and `runFn` do with the outcome of a statement, as functions of their own:
`(S.block (s :: ss)).exec Γ σ = (s.exec Γ σ).bind ((S.block ss).exec Γ)`, `(S.scope b).exec Γ σ = (b.exec Γ σ).scoped σ.length`
and so on hold by `rfl`. Their equations on each outcome (`Out.bind_next`, `Out.scoped_brk`, …) stand in
QF/Props/C16RyuFns.lean. -/

def Out.bind (r : Out) (k : Store → Out) : Out := match r with | .next σ => k σ | r => r
def Out.bindStrict (r : Out) (k : Store → Out) : Out := match r with | .next σ => k σ | _ => .stuck
def Out.scoped (n : Nat) (r : Out) : Out :=
  match r with | .next σ => .next (σ.take n) | .brk σ => .brk (σ.take n) | r => r
def Out.loopEnd (n : Nat) (r : Out) : Out := match r with | .next σ => .next (σ.take n) | r => r
def Out.res (r : Out) : Option Val := match r with | .ret v => some v | .next _ => some .unit | _ => none
def Out.branch (c : Option Val) (rt re : Out) : Out :=
  match c with | some (.bool true) => rt | some (.bool false) => re | _ => .stuck
/-- one round of `forLoop` -/
def stepOut (c : Option Bool) (rb : Out) (post rec : Store → Out) (σ : Store) : Out :=
  match c with
  | some true =>
    (match rb with
     | .next σ' => (match post σ' with | .next σ'' => rec σ'' | _ => .stuck)
     | .brk σ' => .next σ'
     | r => r)
  | some false => .next σ
  | none => .stuck

/-! ## Calls -/

/-- the result (unit when the body ends without `return`) -/
def runFn (Γ : Env) (fn : Fn) (args : List Val) : Option Val :=
  if args.length = fn.params then
    match fn.body.exec Γ args with
    | .ret v => some v
    | .next _ => some .unit
    | _ => none
  else none

/-- calls nested at most `n` deep (the translated functions do not call themselves) -/
def callAt (P : List (FnId × Fn)) (T : Tbl → Nat → Option Val) (fuel : Nat) (fresh : Nat → List UInt8) :
    Nat → FnId → List Val → Option Val
  | 0 => fun _ _ => none
  | n + 1 => fun f args =>
    match P.lookup f with
    | some fn => runFn { call := callAt P T fuel fresh n, tbl := T, fuel := fuel, fresh := fresh } fn args
    | none => none

/-- the call depth the interpretation allows (today: float64ToDecimal → multipleOfPowerOfFive64 → pow5Factor64;
float64ToDecimal → mulShift64 → shiftRight128) -/
def depth : Nat := 4

/-- the tables: two arrays of `(lo, hi)` pairs and an array of `uint64` -/
def tables (split inv : Array (Nat × Nat)) (p10 : List Nat) : Tbl → Nat → Option Val
  | .pow5Split, i => (split[i]?).map fun p => .pair (.u 64 p.1) (.u 64 p.2)
  | .pow5InvSplit, i => (inv[i]?).map fun p => .pair (.u 64 p.1) (.u 64 p.2)
  | .pow10, i => (p10[i]?).map fun n => .u 64 n

/-- the number / the truth value a result stands for -/
def Val.nat? : Val → Option Nat
  | .u _ n => some n
  | _ => none
def Val.int? : Val → Option Int
  | .i _ z => some z
  | _ => none
def Val.bool? : Val → Option Bool
  | .bool b => some b
  | _ => none

/-- function 0, `float64ToDecimalExactInt(mant, exp)`: `(m, e, ok)` -/
def interpExactInt (P : List (FnId × Fn)) (T : Tbl → Nat → Option Val) (fuel : Nat) (mant exp : Nat) : Option (Nat × Int × Bool) :=
  match callAt P T fuel (fun _ => []) depth 0 [.u 64 mant, .u 64 exp] with
  | some (.pair (.pair a b) c) =>
    (match a.nat?, b.int?, c.bool? with
     | some m, some e, some ok => some (m, e, ok)
     | _, _, _ => none)
  | _ => none

/-- function 1, `float64ToDecimal(mant, exp)`: `(m, e)` -/
def interpToDecimal (P : List (FnId × Fn)) (T : Tbl → Nat → Option Val) (fuel : Nat) (mant exp : Nat) : Option (Nat × Int) :=
  match callAt P T fuel (fun _ => []) depth 1 [.u 64 mant, .u 64 exp] with
  | some (.pair a b) => (match a.nat?, b.int? with | some m, some e => some (m, e) | _, _ => none)
  | _ => none

/-- function 2, `decimalLen64(u)` -/
def interpDecimalLen (P : List (FnId × Fn)) (T : Tbl → Nat → Option Val) (fuel : Nat) (u : Nat) : Option Int :=
  match callAt P T fuel (fun _ => []) depth 2 [.u 64 u] with
  | some x => x.int?
  | none => none

/-- function 3, the public `AppendFloat64f(b, f)` on a buffer (content, spare capacity) and the bit pattern of `f`; `fresh`
is what the `append`s that allocate leave in the new spare capacity: the buffer returned -/
def interpAppendFloat (P : List (FnId × Fn)) (T : Tbl → Nat → Option Val) (fuel : Nat) (fresh : Nat → List UInt8)
    (content spare : List UInt8) (bits : Nat) : Option (List UInt8 × List UInt8) :=
  match callAt P T fuel fresh 6 3 [.bytes content spare, .f64 bits] with
  | some (.bytes c sp) => some (c, sp)
  | _ => none

/-- what `AppendFloat64f` formats (`d, ok := f₀(mant, exp); if !ok { d = f₁(mant, exp) }`): `(m, e, ok)` -/
def interpDecimal (P : List (FnId × Fn)) (T : Tbl → Nat → Option Val) (fuel : Nat) (mant exp : Nat) : Option (Nat × Int × Bool) :=
  match interpExactInt P T fuel mant exp with
  | some (m, e, true) => some (m, e, true)
  | some (_, _, false) => (interpToDecimal P T fuel mant exp).map fun r => (r.1, r.2, false)
  | none => none

end QF.RY
