import QF.Core.Sorter
import QF.Core.CExpr
/-!
# SL — the language of the SORTER (/repo/internal/sort/sorter.go), and its Go semantics

    func (s Sorter) Sort() / Len() int / Swap(i, j int) / Less(i, j int) bool
    func insertionSort, siftDown, heapSort, medianOfThree, doPivot, quickSort, maxDepth

go/cmd/extract/sortast.go translates the bodies of these functions, statement by statement, to terms of the small
imperative language below and writes them to `QF/Gen/SorterFns.lean` on every run. The language is generic: integer
variables and arithmetic, `:=`, `=`, `++`, `--`, `if`, three-clause `for` loops with `break` / `continue`, `return` (none,
one or two results), calls of the other translated functions (also recursive ones), and for the `Sorter` value: the
element `s.<index field>[i]`, `len(s.<index field>)`, the parallel assignment `s.<index field>[i], s.<index field>[j] = x, y`,
the `range` over `s.<columns field>` and `c.Compare(x, y)` of an element of it.

Terms name things by ROLE: variables are numbered in the order of their declaration (receiver, parameters, then every
`:=` / `var` / range variable as it occurs in the text); functions are numbered in the order in which a walk of the
source that starts at `Sorter.Sort` meets their first call (`Sort` itself is 0); the two fields of `Sorter` by their
types.

What is NOT in the terms: the cells. `c.Compare(x, y)` is a primitive whose result is taken from a list of abstract
comparators `Cols` on row numbers, one per element of `s.columns` (their meaning is regenerated and proved in
QF/Props/C03Compare.lean).

Idealisation (as in QF.CL and in the hand mirror QF/Core/Sorter.lean): `int` is unbounded. Consequently `uint(x)` has a
meaning only for `x ≥ 0` (the identity) and `int(x)` is the identity. `/` truncates towards zero, `>>` is the
arithmetic shift (floor), an index out of range and a division by zero have no meaning (`stuck`: the Go code panics).

A call runs the body of the function on a fresh store: the arguments, then `.unit` for every variable the body declares
(`Fn.vars` of them in all); the index array is the one state that calls share.

Semantics: `exec n` is the interpreter with `n` levels of fuel (every nesting of statement, loop round or call takes
one); `.timeout` means that the fuel did not suffice, `.stuck` that the program has no meaning. `exec` is monotone in
the fuel (`exec_mono`); `execLim` is its limit and satisfies the unfolding equation `execLim = step execLim`
(`execLim_eq`) from which the equations of the statement forms follow without any fuel.
-/
namespace QF.SL

abbrev Var := Nat
abbrev Ix := Sorter.Ix

inductive COp where
  | lt | le | gt | ge | eq | ne
  deriving DecidableEq, Repr, Inhabited

inductive UOp where
  | not
  /-- `uint(x)` -/
  | toUint
  /-- `int(x)` -/
  | toInt
  /-- `len(<sorter>.<the field of type index.Int>)` -/
  | lenIx
  /-- `<compare result> == column.<constant>` -/
  | resIs (c : CRes)
  deriving DecidableEq, Repr, Inhabited

inductive BOp where
  | add | sub | mul
  /-- `/` on `int`: truncated -/
  | div
  /-- `>>` -/
  | shr
  | cmp (op : COp)
  /-- `<sorter>.<the field of type index.Int>[i]` -/
  | ixAt
  deriving DecidableEq, Repr, Inhabited

/-- Expressions. Functions are named by their number (see the header). A receiver is the first argument. -/
inductive E where
  | var (v : Var)
  | int (n : Int)
  | bool (b : Bool)
  | un (op : UOp) (x : E)
  | bin (op : BOp) (x y : E)
  /-- `a && b` (b is not evaluated when a is false) -/
  | and (x y : E)
  /-- `a || b` (b is not evaluated when a is true) -/
  | or (x y : E)
  /-- `c.Compare(x, y)` for an element `c` of `<sorter>.<the field of type []column.Comparable>` -/
  | compare (c x y : E)
  | call0 (f : Nat)
  | call1 (f : Nat) (a : E)
  | call2 (f : Nat) (a b : E)
  | call3 (f : Nat) (a b c : E)
  | call4 (f : Nat) (a b c d : E)
  | opaque (txt : String)
  deriving DecidableEq, Repr, Inhabited

/-- Statements. A block is `S.block [s₁, …]`. -/
inductive S where
  | skip
  | seq (a b : S)
  /-- `v := e`, `var v T = e`, `var v T` (e the zero value) -/
  | define (v : Var) (e : E)
  /-- `v = e`, `v op= e` -/
  | assign (v : Var) (e : E)
  | incr (v : Var)
  | decr (v : Var)
  /-- `v, w := f(…)` for a function with two results -/
  | define2 (v w : Var) (e : E)
  /-- `f(…)` as a statement -/
  | expr (e : E)
  /-- `s.<index field>[i], s.<index field>[j] = x, y` -/
  | setIx2 (recv i j x y : E)
  | ite (c : E) (t e : S)
  /-- `for ; c; post { body }` (an absent condition is `true`; the init statement stands in front of the loop) -/
  | loop (c : E) (post body : S)
  /-- `for _, v := range s.<the field of type []column.Comparable> { body }` -/
  | rangeCols (recv : E) (v : Var) (body : S)
  | brk
  | cont
  | ret0
  | ret (e : E)
  | ret2 (x y : E)
  | opaque (txt : String)
  deriving DecidableEq, Repr, Inhabited

def S.block : List S → S
  | [] => .skip
  | s :: ss => .seq s (S.block ss)

/-- A translated function: the receiver and the parameters are the variables `0 … params-1`, the variables declared in
the body `params … vars-1`. -/
structure Fn where
  params : Nat
  vars : Nat
  body : S
  deriving DecidableEq, Repr, Inhabited

/-- the functions, by number -/
abbrev Prog := List Fn

def E.hasOpaque : E → Bool
  | .opaque _ => true
  | .un _ x | .call1 _ x => x.hasOpaque
  | .bin _ x y | .and x y | .or x y | .call2 _ x y => x.hasOpaque || y.hasOpaque
  | .compare x y z | .call3 _ x y z => x.hasOpaque || y.hasOpaque || z.hasOpaque
  | .call4 _ x y z w => x.hasOpaque || y.hasOpaque || z.hasOpaque || w.hasOpaque
  | _ => false

def S.hasOpaque : S → Bool
  | .opaque _ => true
  | .seq a b => a.hasOpaque || b.hasOpaque
  | .define _ e | .assign _ e | .define2 _ _ e | .expr e | .ret e => e.hasOpaque
  | .setIx2 r i j x y => r.hasOpaque || i.hasOpaque || j.hasOpaque || x.hasOpaque || y.hasOpaque
  | .ite c t e => c.hasOpaque || t.hasOpaque || e.hasOpaque
  | .loop c p b => c.hasOpaque || p.hasOpaque || b.hasOpaque
  | .rangeCols r _ b => r.hasOpaque || b.hasOpaque
  | .ret2 x y => x.hasOpaque || y.hasOpaque
  | _ => false

/-! ## Values, stores, results -/

inductive Val where
  | int (n : Int)
  | bool (b : Bool)
  /-- the `Sorter` value: its index is THE array of the run, its columns the comparators of the environment -/
  | sorter
  /-- an element of the index: a row number -/
  | row (r : Nat)
  /-- the `k`-th element of `s.columns` -/
  | col (k : Nat)
  | res (r : CRes)
  /-- the two results of a call -/
  | pair (x y : Int)
  | unit
  deriving DecidableEq, Repr, Inhabited

/-- the variables of a function, by number -/
abbrev Store := List Val

def Store.set : Store → Var → Val → Store
  | [], 0, x => [x]
  | [], v + 1, x => .unit :: Store.set [] v x
  | _ :: t, 0, x => x :: t
  | h :: t, v + 1, x => h :: Store.set t v x

/-- the variables and the index array -/
abbrev St := Store × Ix

/-- `Compare(i, j)` of the elements of `s.columns` on row numbers (`none`: no meaning) -/
abbrev Cols := List (Nat → Nat → Option CRes)

inductive R (α : Type) where
  | ok (x : α)
  /-- no meaning: a run-time panic of the Go code (index out of range, division by zero), a value of the wrong kind, or
  a term that was not understood -/
  | stuck
  /-- the fuel did not suffice -/
  | timeout
  deriving DecidableEq, Repr

def R.bind {α β : Type} : R α → (α → R β) → R β
  | .ok x, k => k x
  | .stuck, _ => .stuck
  | .timeout, _ => .timeout

/-- how a statement ends -/
inductive Ctl where
  | next (st : St)
  | brk (st : St)
  | cont (st : St)
  | ret (v : Val) (a : Ix)
  deriving DecidableEq, Repr

def COp.holds : COp → Int → Int → Bool
  | .lt, a, b => a < b
  | .le, a, b => a ≤ b
  | .gt, a, b => a > b
  | .ge, a, b => a ≥ b
  | .eq, a, b => a == b
  | .ne, a, b => a != b

def UOp.apply (a : Ix) : UOp → Val → R Val
  | .not, .bool b => .ok (.bool (!b))
  | .toUint, .int n => if 0 ≤ n then .ok (.int n) else .stuck
  | .toInt, .int n => .ok (.int n)
  | .lenIx, .sorter => .ok (.int a.size)
  | .resIs c, .res r => .ok (.bool (r == c))
  | _, _ => .stuck

def BOp.apply (a : Ix) : BOp → Val → Val → R Val
  | .add, .int x, .int y => .ok (.int (x + y))
  | .sub, .int x, .int y => .ok (.int (x - y))
  | .mul, .int x, .int y => .ok (.int (x * y))
  | .div, .int x, .int y => if y = 0 then .stuck else .ok (.int (x.tdiv y))
  | .shr, .int x, .int k => if k < 0 then .stuck else .ok (.int (x / 2 ^ k.toNat))
  | .cmp op, .int x, .int y => .ok (.bool (op.holds x y))
  | .ixAt, .sorter, .int i => if i < 0 then .stuck else (match a[i.toNat]? with | some r => .ok (.row r) | none => .stuck)
  | _, _, _ => .stuck

/-- `f(args)` on the array: the result and the array afterwards -/
abbrev Call := Nat → List Val → Ix → R (Val × Ix)

/-! ## Expressions -/

def E.eval (call : Call) (cols : Cols) (σ : Store) : E → Ix → R (Val × Ix)
  | .var v, a => match σ[v]? with | some x => .ok (x, a) | none => .stuck
  | .int n, a => .ok (.int n, a)
  | .bool b, a => .ok (.bool b, a)
  | .un op x, a => (x.eval call cols σ a).bind fun r => (op.apply r.2 r.1).bind fun v => .ok (v, r.2)
  | .bin op x y, a =>
    (x.eval call cols σ a).bind fun r => (y.eval call cols σ r.2).bind fun s => (op.apply s.2 r.1 s.1).bind fun v => .ok (v, s.2)
  | .and x y, a =>
    (x.eval call cols σ a).bind fun r =>
      match r.1 with
      | .bool false => .ok (.bool false, r.2)
      | .bool true => (y.eval call cols σ r.2).bind fun s => (match s.1 with | .bool b => .ok (.bool b, s.2) | _ => .stuck)
      | _ => .stuck
  | .or x y, a =>
    (x.eval call cols σ a).bind fun r =>
      match r.1 with
      | .bool true => .ok (.bool true, r.2)
      | .bool false => (y.eval call cols σ r.2).bind fun s => (match s.1 with | .bool b => .ok (.bool b, s.2) | _ => .stuck)
      | _ => .stuck
  | .compare c x y, a =>
    (c.eval call cols σ a).bind fun rc => (x.eval call cols σ rc.2).bind fun rx => (y.eval call cols σ rx.2).bind fun ry =>
      match rc.1, rx.1, ry.1 with
      | .col k, .row i, .row j =>
        (match cols[k]? with
         | some f => (match f i j with | some r => .ok (.res r, ry.2) | none => .stuck)
         | none => .stuck)
      | _, _, _ => .stuck
  | .call0 f, a => call f [] a
  | .call1 f x, a => (x.eval call cols σ a).bind fun r => call f [r.1] r.2
  | .call2 f x y, a =>
    (x.eval call cols σ a).bind fun r => (y.eval call cols σ r.2).bind fun s => call f [r.1, s.1] s.2
  | .call3 f x y z, a =>
    (x.eval call cols σ a).bind fun r => (y.eval call cols σ r.2).bind fun s => (z.eval call cols σ s.2).bind fun t =>
      call f [r.1, s.1, t.1] t.2
  | .call4 f x y z w, a =>
    (x.eval call cols σ a).bind fun r => (y.eval call cols σ r.2).bind fun s => (z.eval call cols σ s.2).bind fun t =>
      (w.eval call cols σ t.2).bind fun u => call f [r.1, s.1, t.1, u.1] u.2
  | .opaque _, _ => .stuck

/-! ## Statements -/

/-- the rounds of `for _, v := range s.columns` -/
def colLoop (step : Nat → St → R Ctl) : List Nat → St → R Ctl
  | [], st => .ok (.next st)
  | k :: ks, st =>
    (step k st).bind fun
      | .next st' => colLoop step ks st'
      | .cont st' => colLoop step ks st'
      | .brk st' => .ok (.next st')
      | .ret v a => .ok (.ret v a)

/-- what a call makes of the way the body ends -/
def wrapRet : Ctl → R (Val × Ix)
  | .next st => .ok (.unit, st.2)
  | .ret v a => .ok (v, a)
  | _ => .stuck

/-- calls, given the meaning `rec` of statements -/
def callOf (P : Prog) (rec : S → St → R Ctl) : Call := fun f args a =>
  match P[f]? with
  | some fn =>
    if args.length = fn.params then (rec fn.body (args ++ List.replicate (fn.vars - fn.params) .unit, a)).bind wrapRet
    else .stuck
  | none => .stuck

/-- after the first statement of a sequence -/
def seqK (rec : S → St → R Ctl) (b : S) : Ctl → R Ctl
  | .next st => rec b st
  | c => .ok c

/-- after the post statement of a loop -/
def postK (rec : S → St → R Ctl) (l : S) : Ctl → R Ctl
  | .next st => rec l st
  | _ => .stuck

/-- after the body of a loop -/
def bodyK (rec : S → St → R Ctl) (l post : S) : Ctl → R Ctl
  | .next st => (rec post st).bind (postK rec l)
  | .cont st => (rec post st).bind (postK rec l)
  | .brk st => .ok (.next st)
  | .ret v a => .ok (.ret v a)

/-- one level of the interpreter, given the meaning `rec` of the statements below it -/
def step (P : Prog) (cols : Cols) (rec : S → St → R Ctl) : S → St → R Ctl
  | .skip, st => .ok (.next st)
  | .seq a b, st => (rec a st).bind (seqK rec b)
  | .define v e, st => (e.eval (callOf P rec) cols st.1 st.2).bind fun r => .ok (.next (st.1.set v r.1, r.2))
  | .assign v e, st => (e.eval (callOf P rec) cols st.1 st.2).bind fun r => .ok (.next (st.1.set v r.1, r.2))
  | .incr v, st => match st.1[v]? with | some (.int n) => .ok (.next (st.1.set v (.int (n + 1)), st.2)) | _ => .stuck
  | .decr v, st => match st.1[v]? with | some (.int n) => .ok (.next (st.1.set v (.int (n - 1)), st.2)) | _ => .stuck
  | .define2 v w e, st =>
    (e.eval (callOf P rec) cols st.1 st.2).bind fun r =>
      match r.1 with
      | .pair x y => .ok (.next ((st.1.set v (.int x)).set w (.int y), r.2))
      | _ => .stuck
  | .expr e, st => (e.eval (callOf P rec) cols st.1 st.2).bind fun r => .ok (.next (st.1, r.2))
  | .setIx2 recv i j x y, st =>
    (recv.eval (callOf P rec) cols st.1 st.2).bind fun r0 => (i.eval (callOf P rec) cols st.1 r0.2).bind fun r1 =>
    (j.eval (callOf P rec) cols st.1 r1.2).bind fun r2 => (x.eval (callOf P rec) cols st.1 r2.2).bind fun r3 =>
    (y.eval (callOf P rec) cols st.1 r3.2).bind fun r4 =>
      match r0.1, r1.1, r2.1, r3.1, r4.1 with
      | .sorter, .int i, .int j, .row x, .row y =>
        if 0 ≤ i ∧ i < (r4.2.size : Int) ∧ 0 ≤ j ∧ j < (r4.2.size : Int) then
          .ok (.next (st.1, (r4.2.setIfInBounds i.toNat x).setIfInBounds j.toNat y))
        else .stuck
      | _, _, _, _, _ => .stuck
  | .ite c t e, st =>
    (c.eval (callOf P rec) cols st.1 st.2).bind fun r =>
      match r.1 with
      | .bool true => rec t (st.1, r.2)
      | .bool false => rec e (st.1, r.2)
      | _ => .stuck
  | .loop c post body, st =>
    (c.eval (callOf P rec) cols st.1 st.2).bind fun r =>
      match r.1 with
      | .bool true => (rec body (st.1, r.2)).bind (bodyK rec (.loop c post body) post)
      | .bool false => .ok (.next (st.1, r.2))
      | _ => .stuck
  | .rangeCols recv v body, st =>
    (recv.eval (callOf P rec) cols st.1 st.2).bind fun r =>
      match r.1 with
      | .sorter => colLoop (fun k st' => rec body (st'.1.set v (.col k), st'.2)) (List.range cols.length) (st.1, r.2)
      | _ => .stuck
  | .brk, st => .ok (.brk st)
  | .cont, st => .ok (.cont st)
  | .ret0, st => .ok (.ret .unit st.2)
  | .ret e, st => (e.eval (callOf P rec) cols st.1 st.2).bind fun r => .ok (.ret r.1 r.2)
  | .ret2 x y, st =>
    (x.eval (callOf P rec) cols st.1 st.2).bind fun r => (y.eval (callOf P rec) cols st.1 r.2).bind fun s =>
      match r.1, s.1 with
      | .int p, .int q => .ok (.ret (.pair p q) s.2)
      | _, _ => .stuck
  | .opaque _, _ => .stuck

/-- the interpreter with `n` levels of fuel -/
def exec (P : Prog) (cols : Cols) : Nat → S → St → R Ctl
  | 0 => fun _ _ => .timeout
  | n + 1 => step P cols (exec P cols n)

/-- `f(args)` with `n` levels of fuel below the call -/
def callAt (P : Prog) (cols : Cols) (n : Nat) : Call := callOf P (exec P cols n)

/-! ## Limits -/

/-- `F n` is `L` for all sufficiently large `n` and `.timeout` before (never, if `L` is `.timeout`) -/
def Tends {α : Type} (F : Nat → R α) (L : R α) : Prop :=
  (∀ n, F n = .timeout ∨ F n = L) ∧ (L ≠ .timeout → ∃ N, ∀ n, N ≤ n → F n = L)

theorem tends_const {α : Type} (r : R α) : Tends (fun _ => r) r := ⟨fun _ => .inr rfl, fun _ => ⟨0, fun _ _ => rfl⟩⟩

theorem Tends.unique {α : Type} {F : Nat → R α} {L L' : R α} (h : Tends F L) (h' : Tends F L') : L = L' := by
  by_cases e : L = .timeout
  · by_cases e' : L' = .timeout
    · rw [e, e']
    · obtain ⟨N, hN⟩ := h'.2 e'
      rcases h.1 N with q | q
      · exact absurd ((hN N (Nat.le_refl _)).symm.trans q) e'
      · rw [← q, hN N (Nat.le_refl _)]
  · obtain ⟨N, hN⟩ := h.2 e
    rcases h'.1 N with q | q
    · exact absurd ((hN N (Nat.le_refl _)).symm.trans q) e
    · rw [← q, hN N (Nat.le_refl _)]

theorem Tends.shift {α : Type} {F : Nat → R α} {L : R α} (h : Tends F L) : Tends (fun n => F (n + 1)) L :=
  ⟨fun n => h.1 (n + 1), fun e => by
    obtain ⟨N, hN⟩ := h.2 e
    exact ⟨N, fun n hn => hN (n + 1) (by omega)⟩⟩

theorem tends_bind {α β : Type} {F : Nat → R α} {L : R α} {G : α → Nat → R β} {K : α → R β}
    (h : Tends F L) (hk : ∀ x, Tends (G x) (K x)) : Tends (fun n => (F n).bind (fun x => G x n)) (L.bind K) := by
  refine ⟨fun n => ?_, fun e => ?_⟩
  · rcases h.1 n with q | q
    · left; simp only [q, R.bind]
    · simp only [q]
      cases L with
      | ok x => exact (hk x).1 n
      | stuck => right; rfl
      | timeout => left; rfl
  · cases L with
    | ok x =>
      obtain ⟨N, hN⟩ := h.2 (by simp)
      obtain ⟨M, hM⟩ := (hk x).2 e
      refine ⟨max N M, fun n hn => ?_⟩
      simp only [hN n (by omega), R.bind]
      exact hM n (by omega)
    | stuck =>
      obtain ⟨N, hN⟩ := h.2 (by simp)
      exact ⟨N, fun n hn => by simp only [hN n hn, R.bind]⟩
    | timeout => exact absurd rfl e

/-- `Tends` of a pointwise equal sequence -/
theorem tends_congr {α : Type} {F G : Nat → R α} {L : R α} (h : Tends F L) (e : ∀ n, G n = F n) : Tends G L := by
  have : G = F := funext e
  rw [this]; exact h

section limits
variable (P : Prog) (cols : Cols)

theorem tends_callOf {rec : Nat → S → St → R Ctl} {L : S → St → R Ctl}
    (h : ∀ s st, Tends (fun n => rec n s st) (L s st)) (f : Nat) (args : List Val) (a : Ix) :
    Tends (fun n => callOf P (rec n) f args a) (callOf P L f args a) := by
  unfold callOf
  cases P[f]? with
  | none => exact tends_const _
  | some fn =>
    simp only
    by_cases e : args.length = fn.params
    · simp only [e, ↓reduceIte]
      exact tends_bind (h _ _) (fun x => tends_const _)
    · simp only [e, ↓reduceIte]
      exact tends_const _

theorem tends_eval {call : Nat → Call} {callL : Call}
    (h : ∀ f args a, Tends (fun n => call n f args a) (callL f args a)) (σ : Store) :
    ∀ (e : E) (a : Ix), Tends (fun n => e.eval (call n) cols σ a) (e.eval callL cols σ a) := by
  intro e
  induction e with
  | var v => intro a; exact tends_const _
  | int n => intro a; exact tends_const _
  | bool b => intro a; exact tends_const _
  | un op x ih => intro a; exact tends_bind (ih a) (fun r => tends_const _)
  | bin op x y ihx ihy => intro a; exact tends_bind (ihx a) (fun r => tends_bind (ihy r.2) (fun s => tends_const _))
  | and x y ihx ihy =>
    intro a
    refine tends_bind (ihx a) (fun r => ?_)
    cases r.1 with
    | bool b => cases b with
      | false => exact tends_const _
      | true => exact tends_bind (ihy r.2) (fun s => tends_const _)
    | _ => exact tends_const _
  | or x y ihx ihy =>
    intro a
    refine tends_bind (ihx a) (fun r => ?_)
    cases r.1 with
    | bool b => cases b with
      | true => exact tends_const _
      | false => exact tends_bind (ihy r.2) (fun s => tends_const _)
    | _ => exact tends_const _
  | compare c x y ihc ihx ihy =>
    intro a
    exact tends_bind (ihc a) (fun rc => tends_bind (ihx rc.2) (fun rx => tends_bind (ihy rx.2) (fun ry => tends_const _)))
  | call0 f => intro a; exact h f [] a
  | call1 f x ihx => intro a; exact tends_bind (ihx a) (fun r => h f _ _)
  | call2 f x y ihx ihy => intro a; exact tends_bind (ihx a) (fun r => tends_bind (ihy r.2) (fun s => h f _ _))
  | call3 f x y z ihx ihy ihz =>
    intro a
    exact tends_bind (ihx a) (fun r => tends_bind (ihy r.2) (fun s => tends_bind (ihz s.2) (fun t => h f _ _)))
  | call4 f x y z w ihx ihy ihz ihw =>
    intro a
    exact tends_bind (ihx a) (fun r => tends_bind (ihy r.2) (fun s => tends_bind (ihz s.2) (fun t =>
      tends_bind (ihw t.2) (fun u => h f _ _))))
  | «opaque» t => intro a; exact tends_const _

theorem tends_colLoop {stepN : Nat → Nat → St → R Ctl} {stepL : Nat → St → R Ctl}
    (h : ∀ k st, Tends (fun n => stepN n k st) (stepL k st)) :
    ∀ (ks : List Nat) (st : St), Tends (fun n => colLoop (stepN n) ks st) (colLoop stepL ks st) := by
  intro ks
  induction ks with
  | nil => intro st; exact tends_const _
  | cons k ks ih =>
    intro st
    refine tends_bind (h k st) (fun c => ?_)
    cases c with
    | next st' => exact ih st'
    | cont st' => exact ih st'
    | brk st' => exact tends_const _
    | ret v a => exact tends_const _

/-- `step` is continuous -/
theorem tends_step {rec : Nat → S → St → R Ctl} {L : S → St → R Ctl}
    (h : ∀ s st, Tends (fun n => rec n s st) (L s st)) (s : S) (st : St) :
    Tends (fun n => step P cols (rec n) s st) (step P cols L s st) := by
  have hc := tends_callOf P h
  have he := fun σ e a => tends_eval cols hc σ e a
  have hpost : ∀ (l : S) (c : Ctl), Tends (fun n => postK (rec n) l c) (postK L l c) := by
    intro l c; cases c <;> first | exact h _ _ | exact tends_const _
  have hbody : ∀ (l post : S) (c : Ctl), Tends (fun n => bodyK (rec n) l post c) (bodyK L l post c) := by
    intro l post c
    cases c with
    | next st' => exact tends_bind (h _ _) (hpost l)
    | cont st' => exact tends_bind (h _ _) (hpost l)
    | brk st' => exact tends_const _
    | ret v a => exact tends_const _
  cases s with
  | skip => exact tends_const _
  | seq a b =>
    refine tends_bind (h a st) (fun c => ?_)
    cases c <;> first | exact h _ _ | exact tends_const _
  | define v e => exact tends_bind (he _ _ _) (fun r => tends_const _)
  | assign v e => exact tends_bind (he _ _ _) (fun r => tends_const _)
  | incr v => exact tends_const _
  | decr v => exact tends_const _
  | define2 v w e => exact tends_bind (he _ _ _) (fun r => tends_const _)
  | expr e => exact tends_bind (he _ _ _) (fun r => tends_const _)
  | setIx2 recv i j x y =>
    exact tends_bind (he _ _ _) (fun r0 => tends_bind (he _ _ _) (fun r1 => tends_bind (he _ _ _) (fun r2 =>
      tends_bind (he _ _ _) (fun r3 => tends_bind (he _ _ _) (fun r4 => tends_const _)))))
  | ite c t e =>
    refine tends_bind (he _ _ _) (fun r => ?_)
    cases r.1 with
    | bool b => cases b <;> exact h _ _
    | _ => exact tends_const _
  | loop c post body =>
    refine tends_bind (he _ _ _) (fun r => ?_)
    cases r.1 with
    | bool b => cases b with
      | false => exact tends_const _
      | true => exact tends_bind (h _ _) (hbody _ _)
    | _ => exact tends_const _
  | rangeCols recv v body =>
    refine tends_bind (he _ _ _) (fun r => ?_)
    cases r.1 with
    | sorter => exact tends_colLoop (fun k st' => h _ _) _ _
    | _ => exact tends_const _
  | brk => exact tends_const _
  | cont => exact tends_const _
  | ret0 => exact tends_const _
  | ret e => exact tends_bind (he _ _ _) (fun r => tends_const _)
  | ret2 x y => exact tends_bind (he _ _ _) (fun r => tends_bind (he _ _ _) (fun s => tends_const _))
  | «opaque» t => exact tends_const _

/-- more fuel does not change a result -/
theorem exec_mono (n : Nat) : ∀ s st, exec P cols n s st = .timeout ∨ exec P cols n s st = exec P cols (n + 1) s st := by
  induction n with
  | zero => intro s st; left; rfl
  | succ n ih =>
    intro s st
    have key := tends_step P cols (rec := fun k => if k = 0 then exec P cols n else exec P cols (n + 1))
      (L := exec P cols (n + 1)) (fun s st => ⟨fun k => by
        by_cases e : k = 0
        · simp only [e, ↓reduceIte]; exact ih s st
        · simp only [e, ↓reduceIte]; right; trivial, fun _ => ⟨1, fun k hk => by
          have : k ≠ 0 := by omega
          simp only [this, ↓reduceIte]⟩⟩) s st
    exact key.1 0

theorem exec_mono_le {n m : Nat} (h : n ≤ m) (s : S) (st : St) :
    exec P cols n s st = .timeout ∨ exec P cols n s st = exec P cols m s st := by
  induction h with
  | refl => right; rfl
  | step _ ih =>
    rcases ih with q | q
    · left; exact q
    · rename_i k _
      rcases exec_mono P cols k s st with q' | q'
      · left; rw [q, q']
      · right; rw [q, q']

open Classical in
/-- the interpreter with all the fuel it asks for (`.timeout`: it never returns) -/
noncomputable def execLim (s : S) (st : St) : R Ctl :=
  if h : ∃ n, exec P cols n s st ≠ .timeout then exec P cols (Classical.choose h) s st else .timeout

theorem tends_exec (s : S) (st : St) : Tends (fun n => exec P cols n s st) (execLim P cols s st) := by
  unfold execLim
  by_cases h : ∃ n, exec P cols n s st ≠ .timeout
  · simp only [h, ↓reduceDIte]
    have hN := Classical.choose_spec h
    refine ⟨fun n => ?_, fun _ => ⟨Classical.choose h, fun n hn => ?_⟩⟩
    · rcases Nat.le_total n (Classical.choose h) with q | q
      · exact exec_mono_le P cols q s st
      · rcases exec_mono_le P cols q s st with q' | q'
        · exact absurd q' hN
        · right; exact q'.symm
    · rcases exec_mono_le P cols hn s st with q' | q'
      · exact absurd q' hN
      · exact q'.symm
  · simp only [h, ↓reduceDIte]
    refine ⟨fun n => ?_, fun e => absurd rfl e⟩
    left
    apply Classical.byContradiction
    intro q
    exact h ⟨n, q⟩

/-- THE unfolding equation: the limit interprets a statement by one `step` over itself -/
theorem execLim_eq (s : S) (st : St) : execLim P cols s st = step P cols (execLim P cols) s st :=
  (tends_exec P cols s st).shift.unique (tends_step P cols (tends_exec P cols) s st)

/-- calls in the limit -/
noncomputable def callLim : Call := callOf P (execLim P cols)

theorem tends_callAt (f : Nat) (args : List Val) (a : Ix) :
    Tends (fun n => callAt P cols n f args a) (callLim P cols f args a) :=
  tends_callOf P (tends_exec P cols) f args a

/-- a result of the limit is the result for all sufficiently large fuel … -/
theorem callLim_ok {f : Nat} {args : List Val} {a : Ix} {r : Val × Ix} (h : callLim P cols f args a = .ok r) :
    ∃ N, ∀ n, N ≤ n → callAt P cols n f args a = .ok r := by
  have := (tends_callAt P cols f args a).2 (by rw [h]; simp)
  rw [h] at this; exact this

/-- … and for no fuel there is another one -/
theorem callAt_cases {f : Nat} {args : List Val} {a : Ix} {r : Val × Ix} (h : callLim P cols f args a = .ok r) (n : Nat) :
    callAt P cols n f args a = .timeout ∨ callAt P cols n f args a = .ok r := by
  have := (tends_callAt P cols f args a).1 n
  rw [h] at this; exact this

end limits

end QF.SL
