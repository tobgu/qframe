import QF.Core.Filter
/-!
# CL — the language of the CLAUSE EVALUATION of Filter (/repo/filter.go, /repo/qframe.go, /repo/internal/index), and its Go semantics

    func (qf QFrame) Filter(clause FilterClause) QFrame
    func (qf QFrame) filter(filters ...filter.Filter) QFrame          -- the shared mask, one kernel call per filter, the Inverse handling
    func (c AndClause|OrClause|NotClause|NullClause|Filter) filter(qf QFrame) QFrame     and   Err() error
    func And|Or(clauses ...FilterClause), Not(c), Null(), anyFilterErr(clauses)
    func orFrames(original, lhs, rhs *QFrame) *QFrame
    func (qf QFrame) withErr(err) / withIndex(ix),  index.NewBool, Int.Len, Bool.Len, Int.Filter, integer.Max

go/cmd/extract/clast.go translates the bodies of these functions, statement by statement, to terms of the small
imperative language below and writes them to `QF/Gen/Clauses.lean` on every run. The language is generic where the code
is generic (variables, `:=`, `=`, `++`, `if`, `range`, `return`, slices, `len`, `append`, comparisons, pointers to frames,
calls of the other translated functions) and has one statement per thing that only this code does (the look-ups of
`QFrame.filter`'s preamble, the `filter.Inverse` look-up, the kernel call `s.Filter(qf.index, comparator, f.Arg, mask)`).

Terms name things by ROLE: variables are numbered in the order of their declaration (receiver, parameters, then every
`:=` / `var` / range variable / variable of an `if v, ok := …` as it occurs in the text), the functions called by the
role their signature gives them (`FnId`), the fields of `QFrame` and of the clause structs by their types.

What is NOT in the terms: the cells. A kernel call is a primitive whose effect on the mask is taken from the leaf, exactly
as the hand mirror `F.Leaf` (QF/Core/Filter.lean) abstracts it — see `LeafCalls` and `LeafCalls.Abstracts`.
-/
namespace QF.CL
open F (Frame Leaf Clause KShape Pos)

abbrev Var := Nat

/-- The dynamic type of a `FilterClause` value. -/
inductive DynTy where
  | filter | and | or | not | null
  deriving DecidableEq, Repr, Inhabited

/-- The functions of the translation unit, by role. -/
inductive FnId where
  /-- `QFrame.Filter(clause)`: the method of `QFrame` with the signature `(FilterClause) QFrame` -/
  | publicFilter
  /-- `QFrame.filter(filters...)`: `(...filter.Filter) QFrame` -/
  | leaves
  /-- the method `(QFrame) QFrame` of the interface `FilterClause`, per implementing type -/
  | filter (ty : DynTy)
  /-- the method `() error` of the interface, per implementing type -/
  | errM (ty : DynTy)
  /-- the constructors `And`, `Or`, `Not`, `Null` -/
  | ctor (ty : DynTy)
  /-- `anyFilterErr`: `([]FilterClause) error` -/
  | anyErr
  /-- `orFrames`: `(*QFrame, *QFrame, *QFrame) *QFrame` -/
  | orFrames
  /-- `QFrame.withErr`: `(error) QFrame` -/
  | withErr
  /-- `QFrame.withIndex`: `(index.Int) QFrame` -/
  | withIndex
  /-- `index.NewBool`: `(int) index.Bool` -/
  | newBool
  /-- `index.Int.Len` -/
  | ixLen
  /-- `index.Bool.Len` -/
  | maskLen
  /-- `index.Int.Filter`: `(index.Bool) index.Int` -/
  | ixFilter
  /-- the `(int, int) int` helper called for a capacity (`integer.Max`) -/
  | max
  deriving DecidableEq, Repr, Inhabited

inductive COp where
  | lt | le | gt | ge | eq | ne
  deriving DecidableEq, Repr, Inhabited

/-- Expressions. -/
inductive E where
  | var (v : Var)
  | int (n : Int)
  | bool (b : Bool)
  /-- `nil` as an `error` -/
  | nilErr
  /-- a call of a function of package qerrors that returns its (non-pointer) `Error` struct: never nil as an `error` -/
  | newErr
  /-- `nil` as a `*QFrame` -/
  | nilPtr
  /-- `&x` for a frame variable that is never assigned after its declaration -/
  | addr (e : E)
  /-- `*p`, also the implicit one of `p.Err`, `p.index`, `p.m(…)` -/
  | deref (e : E)
  /-- `<frame>.Err` -/
  | frameErr (e : E)
  /-- `<frame>.<the field of type index.Int>` -/
  | frameIndex (e : E)
  /-- `QFrame{Err: err, index: ix, <the other fields copied from the receiver>}` -/
  | mkFrame (err ix : E)
  /-- `e == nil` (error or pointer) -/
  | isNil (e : E)
  /-- `e != nil` -/
  | notNil (e : E)
  | not (e : E)
  /-- `a && b` (b is not evaluated when a is false) -/
  | and (a b : E)
  /-- `a || b` (b is not evaluated when a is true) -/
  | or (a b : E)
  | cmp (op : COp) (a b : E)
  | add (a b : E)
  | sub (a b : E)
  /-- the builtin `len` of a slice -/
  | len (e : E)
  /-- `a[i]` -/
  | at (a i : E)
  /-- `make(<[]bool>, n)` -/
  | makeMask (n : E)
  /-- `make(<[]uint32>, 0, cap)` -/
  | makeIx (cap : E)
  /-- `make([]filter.Filter, 0)` -/
  | emptyLeaves
  /-- `append(l, x)` -/
  | snoc (l x : E)
  /-- `l[:n]` -/
  | truncate (l n : E)
  /-- the variadic argument list of one element -/
  | single (e : E)
  /-- `<filter>.Inverse` -/
  | inverseFlag (e : E)
  /-- `<combo>.<the field of type []FilterClause>` -/
  | subClauses (e : E)
  /-- `<not clause>.<the field of type FilterClause>` -/
  | subClause (e : E)
  /-- `<combo>.<the field of type error>` -/
  | errField (e : E)
  /-- `AndClause{subClauses: subs, err: err}` / `OrClause{…}`; an absent field is its zero value (`noSubs`, `nilErr`) -/
  | mkCombo (ty : DynTy) (subs err : E)
  | noSubs
  /-- `NotClause{subClause: c}` -/
  | mkNot (e : E)
  /-- `NullClause{}` -/
  | mkNull
  /-- `c.<filter method>(f)` through the interface -/
  | callFilter (c f : E)
  /-- `c.Err()` through the interface -/
  | callErr (c : E)
  /-- calls of translated functions (a receiver is the first argument) -/
  | call1 (f : FnId) (a : E)
  | call2 (f : FnId) (a b : E)
  | call3 (f : FnId) (a b c : E)
  | opaque (txt : String)
  deriving DecidableEq, Repr, Inhabited

/-- column types of the promotion rules in `QFrame.filter`'s preamble -/
inductive PTy where
  | int | float | bool | string | enum | other
  deriving DecidableEq, Repr, Inhabited

inductive PSide where
  /-- the filtered column is replaced -/
  | column
  /-- the argument column is replaced -/
  | arg
  deriving DecidableEq, Repr, Inhabited

/-- `if the column is a <recv> column and the argument column a <arg> column: <side> = <to>.New(<side's cells>.FloatSlice())` -/
structure PRule where
  recv : PTy
  arg : PTy
  side : PSide
  to : PTy
  deriving DecidableEq, Repr, Inhabited

/-- the comparator handed to the kernel -/
inductive KCmp where
  /-- `f.Comparator` -/
  | own
  /-- the value found in `filter.Inverse`, held by the variable -/
  | inverseVia (v : Var)
  deriving DecidableEq, Repr, Inhabited

/-- Statements. A block is `S.block [s₁, …]`. -/
inductive S where
  | skip
  | seq (a b : S)
  /-- `v := e`, `var v T = e`, `var v T` (e the zero value) -/
  | define (v : Var) (e : E)
  /-- `v = e` -/
  | assign (v : Var) (e : E)
  /-- `v++` -/
  | incr (v : Var)
  /-- `m[i] = e` for a mask made in this function -/
  | setAt (m : Var) (i e : E)
  /-- `v.Inverse = e` -/
  | setInverse (v : Var) (e : E)
  | ite (c : E) (t e : S)
  /-- `if v, ok := x.(T); ok { t } else { e }` for an interface value x and one of the clause types T -/
  | ifIs (x : E) (ty : DynTy) (v : Var) (t e : S)
  /-- `for k, v := range xs { body }` over a slice that the body does not write -/
  | range (xs : E) (k v : Option Var) (body : S)
  /-- `for k, v := range m { body }` over a mask variable that the body writes: the element is read in every round -/
  | rangeLive (m : Var) (k v : Option Var) (body : S)
  | ret (e : E)
  /-- `s, ok := <frame>.<map of columns>[<filter>.Column]` -/
  | lookupColumn (s ok : Var) (frame leaf : E)
  /-- `if name, ok := f.Arg.(types.ColumnName); ok { t }` -/
  | ifArgIsColumn (leaf name : Var) (t : S)
  /-- `a, ok := <frame>.<map of columns>[string(name)]` -/
  | lookupArgColumn (a ok : Var) (frame : E) (name : Var)
  /-- the chain of type tests on (`s.Column`, `a.Column`) that replaces one of them by its float image -/
  | promote (rules : List PRule) (s a : Var)
  /-- `f.Arg = a.Column` -/
  | setArg (leaf a : Var)
  /-- `if sc, ok := f.Comparator.(string); ok { t }` -/
  | ifCmpIsString (leaf sc : Var) (t : S)
  /-- `if inv, ok := filter.Inverse[key]; ok { t }` -/
  | ifInverseEntry (key inv : Var) (t : S)
  /-- `err = s.Filter(ix, <cmp>, f.Arg, mask)` -/
  | kernel (err s : Var) (ix : E) (cmp : KCmp) (leaf mask : Var)
  | opaque (txt : String)
  deriving DecidableEq, Repr, Inhabited

def S.block : List S → S
  | [] => .skip
  | s :: ss => .seq s (S.block ss)

/-- A translated function: the receiver and the parameters are the variables `0 … params-1`. -/
structure Fn where
  params : Nat
  body : S
  deriving DecidableEq, Repr, Inhabited

def E.hasOpaque : E → Bool
  | .opaque _ => true
  | .addr e | .deref e | .frameErr e | .frameIndex e | .isNil e | .notNil e | .not e | .len e | .makeMask e | .makeIx e
  | .single e | .inverseFlag e | .subClauses e | .subClause e | .errField e | .mkNot e | .callErr e | .call1 _ e => e.hasOpaque
  | .mkFrame a b | .and a b | .or a b | .cmp _ a b | .add a b | .sub a b | .at a b | .snoc a b | .truncate a b
  | .mkCombo _ a b | .callFilter a b | .call2 _ a b => a.hasOpaque || b.hasOpaque
  | .call3 _ a b c => a.hasOpaque || b.hasOpaque || c.hasOpaque
  | _ => false

def S.hasOpaque : S → Bool
  | .opaque _ => true
  | .seq a b => a.hasOpaque || b.hasOpaque
  | .define _ e | .assign _ e | .setInverse _ e | .ret e => e.hasOpaque
  | .setAt _ i e => i.hasOpaque || e.hasOpaque
  | .ite c t e => c.hasOpaque || t.hasOpaque || e.hasOpaque
  | .ifIs x _ _ t e => x.hasOpaque || t.hasOpaque || e.hasOpaque
  | .range xs _ _ b => xs.hasOpaque || b.hasOpaque
  | .rangeLive _ _ _ b => b.hasOpaque
  | .lookupColumn _ _ f l => f.hasOpaque || l.hasOpaque
  | .ifArgIsColumn _ _ t | .ifCmpIsString _ _ t | .ifInverseEntry _ _ t => t.hasOpaque
  | .lookupArgColumn _ _ f _ => f.hasOpaque
  | .promote rules _ _ => rules.any (fun r => r.recv == .other || r.arg == .other || r.to == .other)
  | .kernel _ _ ix _ _ _ => ix.hasOpaque
  | _ => false

/-- the promotion rules a statement contains, in the order of the text -/
def S.promoteRules : S → List PRule
  | .promote rules _ _ => rules
  | .seq a b => a.promoteRules ++ b.promoteRules
  | .ite _ t e | .ifIs _ _ _ t e => t.promoteRules ++ e.promoteRules
  | .range _ _ _ b | .rangeLive _ _ _ b | .ifArgIsColumn _ _ b | .ifCmpIsString _ _ b | .ifInverseEntry _ _ b => b.promoteRules
  | _ => []

/-! ## Values -/

/-- What the calls made for one `filter.Filter` return. The hand mirror `F.Leaf` lumps them together. -/
structure LeafCalls where
  /-- `qf.columnsByName[f.Column]` finds the column -/
  colKnown : Bool
  /-- `f.Arg` is a `types.ColumnName` -/
  argIsCol : Bool
  /-- … and that column exists -/
  argColKnown : Bool
  /-- `f.Comparator` is a string -/
  cmpIsString : Bool
  /-- … with an entry in `filter.Inverse` -/
  hasInverse : Bool
  /-- `s.Filter(qf.index, f.Comparator, f.Arg, ·)`: `none` = an error (the mask is not touched), else the kernel that runs -/
  direct : Option (KShape × (Pos → Bool))
  /-- the same call with the comparator found in `filter.Inverse` -/
  inverse : Option (KShape × (Pos → Bool))

/-- `F.Leaf` as an abstraction of the calls: `err` says that the leaf cannot be evaluated — every kernel call for it
fails, and a failing look-up is such an error; `shape`/`pred` is the kernel of the comparator; `inv` the kernel of the
inverse comparator where the shortcut is available (string comparator, entry in the table, the call succeeds). -/
def LeafCalls.Abstracts (k : LeafCalls) (l : Leaf) : Prop :=
  (k.colKnown = false → l.err = true) ∧
  (k.argIsCol = true → k.argColKnown = false → l.err = true) ∧
  k.direct = (if l.err then none else some (l.shape, l.pred)) ∧
  (if k.cmpIsString && k.hasInverse then k.inverse else none) = (if l.err then none else l.inv)

/-- the simplest calls with this abstraction -/
def LeafCalls.ofLeaf (l : Leaf) : LeafCalls :=
  { colKnown := true, argIsCol := false, argColKnown := true, cmpIsString := true, hasInverse := !l.err && l.inv.isSome,
    direct := if l.err then none else some (l.shape, l.pred), inverse := if l.err then none else l.inv }

theorem LeafCalls.ofLeaf_abstracts (l : Leaf) : (LeafCalls.ofLeaf l).Abstracts l := by
  refine ⟨by simp [ofLeaf], by simp [ofLeaf], rfl, ?_⟩
  cases he : l.err <;> cases hi : l.inv <;> simp [ofLeaf, he, hi]

instance : Inhabited Leaf := ⟨{ shape := .guarded, pred := fun _ => false }⟩

/-- A `FilterClause` value: the struct behind the interface and its two methods. -/
inductive Obj where
  | mk (ty : DynTy) (leaf : Leaf) (subs : List Obj) (errField : Bool) (filterM : Frame → Option Frame) (errM : Option Bool)

def Obj.ty : Obj → DynTy | .mk t _ _ _ _ _ => t
def Obj.leaf : Obj → Leaf | .mk _ l _ _ _ _ => l
def Obj.subs : Obj → List Obj | .mk _ _ s _ _ _ => s
def Obj.errField : Obj → Bool | .mk _ _ _ e _ _ => e
def Obj.filterM : Obj → Frame → Option Frame | .mk _ _ _ _ f _ => f
def Obj.errM : Obj → Option Bool | .mk _ _ _ _ _ e => e

/-- the things `QFrame.filter` derives from one filter -/
inductive Tok where
  | col | argName | argCol | cmpStr | invCmp
  deriving DecidableEq, Repr

inductive Val where
  | frame (f : Frame)
  /-- `*QFrame`: frames are never written through a pointer, so a pointer is the frame it points to (or nil) -/
  | ptr (p : Option Frame)
  /-- an `error`: non-nil? -/
  | err (e : Bool)
  | bool (b : Bool)
  | int (n : Int)
  | ix (l : List Pos)
  | pos (p : Pos)
  | mask (m : List Bool)
  | leaf (l : Leaf)
  | leaves (ls : List Leaf)
  | obj (o : Obj)
  | objs (os : List Obj)
  /-- a value of one of the clause struct types other than `Filter` -/
  | struct (ty : DynTy) (subs : List Obj) (errField : Bool)
  | tok (k : Tok) (l : Leaf)

abbrev Store := Var → Option Val

def Store.empty : Store := fun _ => none
def Store.set (σ : Store) (v : Var) (x : Val) : Store := fun w => if w = v then some x else σ w
def Store.setOpt (σ : Store) (v : Option Var) (x : Val) : Store :=
  match v with
  | some v => σ.set v x
  | none => σ

@[simp] theorem Store.set_same (σ : Store) (v : Var) (x : Val) : σ.set v x v = some x := by simp [Store.set]
theorem Store.set_ne (σ : Store) (v w : Var) (x : Val) (h : w ≠ v) : σ.set v x w = σ w := by simp [Store.set, h]

structure Env where
  call : FnId → List Val → Option Val
  oracle : Leaf → LeafCalls

def COp.holds : COp → Int → Int → Bool
  | .lt, a, b => a < b
  | .le, a, b => a ≤ b
  | .gt, a, b => a > b
  | .ge, a, b => a ≥ b
  | .eq, a, b => a == b
  | .ne, a, b => a != b

def Val.isNil : Val → Option Bool
  | .err e => some (!e)
  | .ptr p => some p.isNone
  | _ => none

def Val.len : Val → Option Nat
  | .ix l => some l.length
  | .mask m => some m.length
  | .leaves l => some l.length
  | .objs l => some l.length
  | _ => none

def Val.elems : Val → Option (List Val)
  | .ix l => some (l.map .pos)
  | .mask m => some (m.map .bool)
  | .leaves l => some (l.map .leaf)
  | .objs l => some (l.map .obj)
  | _ => none

def Val.at : Val → Int → Option Val
  | .ix l, n => if n < 0 then none else (l[n.toNat]?).map .pos
  | .mask l, n => if n < 0 then none else (l[n.toNat]?).map .bool
  | _, _ => none

/-! ## Expressions -/

def E.eval (Γ : Env) (σ : Store) : E → Option Val
  | .var v => σ v
  | .int n => some (.int n)
  | .bool b => some (.bool b)
  | .nilErr => some (.err false)
  | .newErr => some (.err true)
  | .nilPtr => some (.ptr none)
  | .addr e => match e.eval Γ σ with | some (.frame f) => some (.ptr (some f)) | _ => none
  | .deref e => match e.eval Γ σ with | some (.ptr (some f)) => some (.frame f) | _ => none
  | .frameErr e => match e.eval Γ σ with | some (.frame f) => some (.err f.err) | _ => none
  | .frameIndex e => match e.eval Γ σ with | some (.frame f) => some (.ix f.index) | _ => none
  | .mkFrame er ix =>
    match er.eval Γ σ, ix.eval Γ σ with
    | some (.err b), some (.ix l) => some (.frame { index := l, err := b })
    | _, _ => none
  | .isNil e => match e.eval Γ σ with | some x => x.isNil.map .bool | none => none
  | .notNil e => match e.eval Γ σ with | some x => x.isNil.map (fun b => .bool (!b)) | none => none
  | .not e => match e.eval Γ σ with | some (.bool b) => some (.bool (!b)) | _ => none
  | .and a b =>
    match a.eval Γ σ with
    | some (.bool false) => some (.bool false)
    | some (.bool true) => (match b.eval Γ σ with | some (.bool x) => some (.bool x) | _ => none)
    | _ => none
  | .or a b =>
    match a.eval Γ σ with
    | some (.bool true) => some (.bool true)
    | some (.bool false) => (match b.eval Γ σ with | some (.bool x) => some (.bool x) | _ => none)
    | _ => none
  | .cmp op a b =>
    match a.eval Γ σ, b.eval Γ σ with
    | some (.int x), some (.int y) => some (.bool (op.holds x y))
    | some (.pos x), some (.pos y) => some (.bool (op.holds x y))
    | _, _ => none
  | .add a b => match a.eval Γ σ, b.eval Γ σ with | some (.int x), some (.int y) => some (.int (x + y)) | _, _ => none
  | .sub a b => match a.eval Γ σ, b.eval Γ σ with | some (.int x), some (.int y) => some (.int (x - y)) | _, _ => none
  | .len e => match e.eval Γ σ with | some x => x.len.map (fun n => .int n) | none => none
  | .at a i => match a.eval Γ σ, i.eval Γ σ with | some x, some (.int n) => x.at n | _, _ => none
  | .makeMask n => match n.eval Γ σ with | some (.int k) => if k < 0 then none else some (.mask (List.replicate k.toNat false)) | _ => none
  | .makeIx c => match c.eval Γ σ with | some (.int k) => if k < 0 then none else some (.ix []) | _ => none
  | .emptyLeaves => some (.leaves [])
  | .snoc l x =>
    match l.eval Γ σ, x.eval Γ σ with
    | some (.ix l), some (.pos p) => some (.ix (l ++ [p]))
    | some (.leaves l), some (.leaf p) => some (.leaves (l ++ [p]))
    | _, _ => none
  | .truncate l n =>
    match l.eval Γ σ, n.eval Γ σ with
    | some (.leaves l), some (.int k) => if k < 0 ∨ (l.length : Int) < k then none else some (.leaves (l.take k.toNat))
    | _, _ => none
  | .single e => match e.eval Γ σ with | some (.leaf l) => some (.leaves [l]) | _ => none
  | .inverseFlag e => match e.eval Γ σ with | some (.leaf l) => some (.bool l.inverse) | _ => none
  | .subClauses e =>
    match e.eval Γ σ with
    | some (.struct .and s _) => some (.objs s)
    | some (.struct .or s _) => some (.objs s)
    | _ => none
  | .subClause e => match e.eval Γ σ with | some (.struct .not [o] _) => some (.obj o) | _ => none
  | .errField e =>
    match e.eval Γ σ with
    | some (.struct .and _ b) => some (.err b)
    | some (.struct .or _ b) => some (.err b)
    | _ => none
  | .mkCombo ty s er =>
    match s.eval Γ σ, er.eval Γ σ with
    | some (.objs os), some (.err b) => some (.struct ty os b)
    | _, _ => none
  | .noSubs => some (.objs [])
  | .mkNot e => match e.eval Γ σ with | some (.obj o) => some (.struct .not [o] false) | _ => none
  | .mkNull => some (.struct .null [] false)
  | .callFilter c f =>
    match c.eval Γ σ, f.eval Γ σ with
    | some (.obj o), some (.frame g) => (o.filterM g).map .frame
    | _, _ => none
  | .callErr c => match c.eval Γ σ with | some (.obj o) => o.errM.map .err | _ => none
  | .call1 f a => match a.eval Γ σ with | some x => Γ.call f [x] | none => none
  | .call2 f a b => match a.eval Γ σ, b.eval Γ σ with | some x, some y => Γ.call f [x, y] | _, _ => none
  | .call3 f a b c => match a.eval Γ σ, b.eval Γ σ, c.eval Γ σ with | some x, some y, some z => Γ.call f [x, y, z] | _, _, _ => none
  | .opaque _ => none

/-! ## Statements -/

inductive Out where
  | next (σ : Store)
  | ret (v : Val)
  /-- no meaning: a run-time panic of the Go code (nil dereference, index out of range, negative capacity), a value of
  the wrong kind, or a term that was not understood -/
  | stuck

def loop (step : Val → Nat → Store → Out) : List Val → Nat → Store → Out
  | [], _, σ => .next σ
  | x :: xs, i, σ =>
    match step x i σ with
    | .next σ' => loop step xs (i + 1) σ'
    | r => r

/-- `n` more rounds from round `i` on, the element read from the variable in every round -/
def loopLive (step : Val → Nat → Store → Out) (m : Var) : Nat → Nat → Store → Out
  | 0, _, σ => .next σ
  | n + 1, i, σ =>
    match σ m with
    | some (.mask mm) =>
      (match mm[i]? with
       | some b =>
         (match step (.bool b) i σ with
          | .next σ' => loopLive step m n (i + 1) σ'
          | r => r)
       | none => .stuck)
    | _ => .stuck

def bindKV (k v : Option Var) (i : Nat) (x : Val) (σ : Store) : Store := (σ.setOpt k (.int i)).setOpt v x

def S.exec (Γ : Env) : S → Store → Out
  | .skip, σ => .next σ
  | .seq a b, σ =>
    match a.exec Γ σ with
    | .next σ' => b.exec Γ σ'
    | r => r
  | .define v e, σ => match e.eval Γ σ with | some x => .next (σ.set v x) | none => .stuck
  | .assign v e, σ => match e.eval Γ σ with | some x => .next (σ.set v x) | none => .stuck
  | .incr v, σ => match σ v with | some (.int n) => .next (σ.set v (.int (n + 1))) | _ => .stuck
  | .setAt m i e, σ =>
    match σ m, i.eval Γ σ, e.eval Γ σ with
    | some (.mask mm), some (.int n), some (.bool b) =>
      if n < 0 ∨ (mm.length : Int) ≤ n then .stuck else .next (σ.set m (.mask (mm.set n.toNat b)))
    | _, _, _ => .stuck
  | .setInverse v e, σ =>
    match σ v, e.eval Γ σ with
    | some (.leaf l), some (.bool b) => .next (σ.set v (.leaf { l with inverse := b }))
    | _, _ => .stuck
  | .ite c t e, σ =>
    match c.eval Γ σ with
    | some (.bool true) => t.exec Γ σ
    | some (.bool false) => e.exec Γ σ
    | _ => .stuck
  | .ifIs x ty v t e, σ =>
    match x.eval Γ σ with
    | some (.obj o) =>
      if o.ty = ty then
        t.exec Γ (σ.set v (match ty with | .filter => .leaf o.leaf | _ => .struct o.ty o.subs o.errField))
      else e.exec Γ σ
    | _ => .stuck
  | .range xs k v body, σ =>
    match xs.eval Γ σ with
    | some x =>
      (match x.elems with
       | some l => loop (fun y i σ' => body.exec Γ (bindKV k v i y σ')) l 0 σ
       | none => .stuck)
    | none => .stuck
  | .rangeLive m k v body, σ =>
    match σ m with
    | some (.mask mm) => loopLive (fun y i σ' => body.exec Γ (bindKV k v i y σ')) m mm.length 0 σ
    | _ => .stuck
  | .ret e, σ => match e.eval Γ σ with | some x => .ret x | none => .stuck
  | .lookupColumn s ok fr lf, σ =>
    match fr.eval Γ σ, lf.eval Γ σ with
    | some (.frame _), some (.leaf l) => .next ((σ.set s (.tok .col l)).set ok (.bool (Γ.oracle l).colKnown))
    | _, _ => .stuck
  | .ifArgIsColumn lf name t, σ =>
    match σ lf with
    | some (.leaf l) => if (Γ.oracle l).argIsCol then t.exec Γ (σ.set name (.tok .argName l)) else .next σ
    | _ => .stuck
  | .lookupArgColumn a ok fr name, σ =>
    match fr.eval Γ σ, σ name with
    | some (.frame _), some (.tok .argName l) => .next ((σ.set a (.tok .argCol l)).set ok (.bool (Γ.oracle l).argColKnown))
    | _, _ => .stuck
  -- `promote` and `setArg` change no variable: the columns live in the oracle (`LeafCalls`), the store holds tokens for them
  | .promote _ s a, σ =>
    match σ s, σ a with
    | some (.tok .col _), some (.tok .argCol _) => .next σ
    | _, _ => .stuck
  | .setArg lf a, σ =>
    match σ lf, σ a with
    | some (.leaf _), some (.tok .argCol _) => .next σ
    | _, _ => .stuck
  | .ifCmpIsString lf sc t, σ =>
    match σ lf with
    | some (.leaf l) => if (Γ.oracle l).cmpIsString then t.exec Γ (σ.set sc (.tok .cmpStr l)) else .next σ
    | _ => .stuck
  | .ifInverseEntry key inv t, σ =>
    match σ key with
    | some (.tok .cmpStr l) => if (Γ.oracle l).hasInverse then t.exec Γ (σ.set inv (.tok .invCmp l)) else .next σ
    | _ => .stuck
  | .kernel er s ix cmp lf m, σ =>
    match σ s, ix.eval Γ σ, σ lf, σ m with
    | some (.tok .col _), some (.ix I), some (.leaf l), some (.mask mm) =>
      let k : Option (Option (KShape × (Pos → Bool))) :=
        match cmp with
        | .own => some (Γ.oracle l).direct
        | .inverseVia v => (match σ v with | some (.tok .invCmp _) => some (Γ.oracle l).inverse | _ => none)
      (match k with
       | none => .stuck
       | some none => .next (σ.set er (.err true))
       | some (some (sh, p)) => .next ((σ.set m (.mask (F.runKernel sh p I mm))).set er (.err false)))
    | _, _, _, _ => .stuck
  | .opaque _, _ => .stuck

/-! ## Calls -/

def bindArgs : List Val → Nat → Store → Store
  | [], _, σ => σ
  | x :: xs, i, σ => bindArgs xs (i + 1) (σ.set i x)

def runFn (Γ : Env) (fn : Fn) (args : List Val) : Option Val :=
  if args.length = fn.params then
    match fn.body.exec Γ (bindArgs args 0 Store.empty) with
    | .ret v => some v
    | _ => none
  else none

/-- calls nested at most `n` deep (the translated functions do not call themselves; the recursion over the clause tree
goes through the interface values, see `objOf`) -/
def callAt (P : List (FnId × Fn)) (O : Leaf → LeafCalls) : Nat → FnId → List Val → Option Val
  | 0 => fun _ _ => none
  | n + 1 => fun f args =>
    match P.lookup f with
    | some fn => runFn { call := callAt P O n, oracle := O } fn args
    | none => none

/-! ## Clause values -/

/-- the receiver of a method of the clause type -/
def recvOf (ty : DynTy) (leaf : Leaf) (subs : List Obj) (e : Bool) : Val :=
  match ty with
  | .filter => .leaf leaf
  | _ => .struct ty subs e

/-- the struct the constructor of the type returns for the sub-clauses (`Filter` is a struct literal) -/
def construct (call : FnId → List Val → Option Val) (ty : DynTy) (subs : List Obj) : Option (List Obj × Bool) :=
  let args : Option (List Val) :=
    match ty, subs with
    | .filter, _ => none
    | .not, [o] => some [.obj o]
    | .not, _ => none
    | .null, _ => some []
    | _, _ => some [.objs subs]
  match ty, args with
  | .filter, _ => some ([], false)
  | _, none => none
  | _, some a =>
    match call (.ctor ty) a with
    | some (.struct ty' s e) => if ty' = ty then some (s, e) else none
    | _ => none

def asFrame : Option Val → Option Frame
  | some (.frame g) => some g
  | _ => none

def asErr : Option Val → Option Bool
  | some (.err b) => some b
  | _ => none

/-- the interface value: the constructed struct with the two methods of its type -/
def mkObj (call : FnId → List Val → Option Val) (ty : DynTy) (leaf : Leaf) (subs : List Obj) : Option Obj :=
  (construct call ty subs).map fun (s, e) =>
    Obj.mk ty leaf s e
      (fun f => asFrame (call (.filter ty) [recvOf ty leaf s e, .frame f]))
      (asErr (call (.errM ty) [recvOf ty leaf s e]))

mutual
/-- the Go value of a clause tree: `Filter{…}`, `And(…)`, `Or(…)`, `Not(…)`, `Null()` -/
def objOf (call : FnId → List Val → Option Val) : Clause → Option Obj
  | .leaf l => mkObj call .filter l []
  | .null => mkObj call .null default []
  | .not c => (objOf call c).bind fun o => mkObj call .not default [o]
  | .and cs => (objsOf call cs).bind fun os => mkObj call .and default os
  | .or cs => (objsOf call cs).bind fun os => mkObj call .or default os
def objsOf (call : FnId → List Val → Option Val) : List Clause → Option (List Obj)
  | [] => some []
  | c :: cs => (objOf call c).bind fun o => (objsOf call cs).map (o :: ·)
end

/-- the call depth the interpretation allows. A method reached through an interface value (`mkObj`) starts again at
this depth, so it bounds the direct calls below `Filter` and below one clause method (clause method → QFrame.filter →
Int.Filter), not the height of the clause tree. -/
def depth : Nat := 4

/-- `qf.Filter(<the clause>)` by the translated functions `P`: `none` = no meaning (a panic, or something not understood) -/
def interp (P : List (FnId × Fn)) (O : Leaf → LeafCalls) (c : Clause) (f : Frame) : Option Frame :=
  (objOf (callAt P O depth) c).bind fun o => asFrame (callAt P O depth .publicFilter [.frame f, .obj o])

end QF.CL
