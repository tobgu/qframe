import QF.Spec.Ops
/-!
# XE — the language of the expression DECODER of /repo/expression.go, and its Go semantics

    func newExpr(expr interface{}) Expression          -- the chain of attempts
    func newColExpr / newConstExpr / newUnaryExpr / newColConstExpr / newColColExpr (x interface{}) (T, bool)
    func newExprExpr(x interface{}) Expression
    func Val(value interface{}) Expression
    func Expr(name string, args ...interface{}) Expression

The extractor (go/cmd/extract/xast.go) executes the body of the decoder symbolically — the function `Val` delegates
to — inlining every constructor it calls, and writes what remains as ONE decision tree `XT` over the raw argument to
`QF/Gen/ExprDecode.lean` on every run: the conditions are the dynamic type tests on the argument `x` and on the elements
`l[i]` of `l := x.([]interface{})`, `len(l) == n`, and "the decoded sub-expression `newExpr(l[i])` has a non-nil `Err()`";
the leaves are the struct values returned. Everything is by ROLE:

* the struct types are identified by the types of their fields (`{ColumnName}` → `col`, `{interface{}}` → `const`,
  `{string, ColumnName}` → `unary`, `{string, ColumnName, interface{}, bool}` → `colConst`, `{string, ColumnName,
  ColumnName}` → `colCol`, `{string, Expression}` → `ex1`, `{string, Expression, Expression}` → `ex2`, `{error}` →
  `error`), and by their `Err()` method: `return nil` for all but the last, `return e.<error field>` for it;
* fields of equal type by declaration order; locals by what they were assigned; functions by being called.

`Expr` is translated separately to `XF`: the tests on `len(args)`, the lists handed to the decoder, and the step
"a fresh slice of length `len(args)-d` whose first element is the decoded `[name, args[0], args[1]]` and whose rest is
copied from `args[j:]`; tail call" (or the same step writing into `args` itself).

Whatever is not understood is `.opaque "<text>"`, which has no meaning (`stuck`).
-/
namespace QF

/-- dynamic types a raw argument is tested for -/
inductive XKind where
  /-- a value that implements `Expression` -/
  | expr
  /-- `types.ColumnName` -/
  | col
  /-- `string` -/
  | str
  | int | float | bool
  /-- `*string` -/
  | pstr
  /-- the nil interface -/
  | nil
  /-- `[]interface{}` -/
  | list
  /-- any other dynamic type -/
  | other
  deriving DecidableEq, Repr, Inhabited

/-- decoded expressions: the struct values of expression.go, by role -/
inductive XDec where
  | col (n : Bytes)
  | const (c : Cell)
  | unary (op : Bytes) (src : Bytes)
  | colConst (op : Bytes) (src : Bytes) (c : Cell) (constFirst : Bool)
  | colCol (op : Bytes) (a b : Bytes)
  | ex1 (op : Bytes) (e : XDec)
  | ex2 (op : Bytes) (l r : XDec)
  /-- the only one whose `Err()` is not nil -/
  | error
  deriving DecidableEq, Repr, Inhabited

/-- raw expression trees: the Go values handed to `Val` / `Expr` / `newExpr` -/
inductive RawExpr where
  /-- an `Expression` built earlier (the result of `Val` / `Expr`) -/
  | expr (d : XDec)
  | col (n : Bytes)
  | str (s : Bytes)
  | int (v : Int)
  | float (b : UInt64)
  | bool (b : Bool)
  | pstr (s : Option Bytes)
  | nil
  | list (l : List RawExpr)
  | other
  deriving Repr, Inhabited

def RawExpr.kind : RawExpr → XKind
  | .expr _ => .expr | .col _ => .col | .str _ => .str | .int _ => .int | .float _ => .float | .bool _ => .bool
  | .pstr _ => .pstr | .nil => .nil | .list _ => .list | .other => .other

def XDec.isErr : XDec → Bool
  | .error => true
  | _ => false

/-- a raw value of the call: the argument `x`, or `l[i]` for `l := x.([]interface{})` -/
inductive XV where
  | arg
  | elem (i : Nat)
  deriving DecidableEq, Repr, Inhabited

/-- the value of a constant expression -/
inductive XK where
  /-- the raw value itself (one of int, float64, bool, string, *string) -/
  | of (v : XV)
  /-- `(*string)(nil)`, what a nil argument is replaced with -/
  | null
  deriving DecidableEq, Repr, Inhabited

inductive XC where
  /-- `v.(T)` succeeds / `v == nil` / a type-switch case -/
  | is (v : XV) (k : XKind)
  /-- `len(l) == n` for `l, _ := x.([]interface{})` (the nil slice when the assertion fails) -/
  | lenIs (n : Nat)
  /-- `newExpr(v).Err() != nil` -/
  | subErr (v : XV)
  | not (c : XC)
  | and (a b : XC)
  | or (a b : XC)
  | tt
  | ff
  | opaque (txt : String)
  deriving DecidableEq, Repr, Inhabited

/-- the struct value returned -/
inductive XN where
  /-- the `Expression` `v` itself -/
  | same (v : XV)
  | col (v : XV)
  | const (k : XK)
  | unary (op src : XV)
  | colConst (op src : XV) (k : XK) (constFirst : Bool)
  | colCol (op a b : XV)
  /-- `{op, newExpr(l[i])}` -/
  | ex1 (op : XV) (i : Nat)
  | ex2 (op : XV) (i j : Nat)
  /-- the struct whose `Err()` returns its error field, built with a non-nil error -/
  | error
  deriving DecidableEq, Repr, Inhabited

inductive XT where
  | ite (c : XC) (t e : XT)
  | ret (n : XN)
  | opaque (txt : String)
  deriving DecidableEq, Repr, Inhabited

/-! ## Go semantics -/

def XV.get (x : RawExpr) : XV → Option RawExpr
  | .arg => some x
  | .elem i => match x with
    | .list l => l[i]?
    | _ => none

/-- `subs`: the decoded elements of the list `x` (`newExpr(l[i])`), `[]` for other arguments -/
def XC.eval (x : RawExpr) (subs : List XDec) : XC → Option Bool
  | .is v k => (v.get x).map (fun r => r.kind == k)
  | .lenIs n => some ((match x with | .list l => l.length | _ => 0) == n)
  | .subErr (.elem i) => (subs[i]?).map XDec.isErr
  | .subErr .arg => none
  | .not c => (c.eval x subs).map (!·)
  | .and a b =>
    match a.eval x subs with
    | some true => b.eval x subs
    | r => r
  | .or a b =>
    match a.eval x subs with
    | some false => b.eval x subs
    | r => r
  | .tt => some true
  | .ff => some false
  | .opaque _ => none

def XV.str (x : RawExpr) (v : XV) : Option Bytes :=
  match v.get x with
  | some (.str s) => some s
  | _ => none

def XV.col (x : RawExpr) (v : XV) : Option Bytes :=
  match v.get x with
  | some (.col s) => some s
  | _ => none

/-- the constant as the cell it denotes -/
def XK.cell (x : RawExpr) : XK → Option Cell
  | .null => some (.str none)
  | .of v =>
    match v.get x with
    | some (.int i) => some (.int i)
    | some (.float b) => some (.float b)
    | some (.bool b) => some (.bool b)
    | some (.str s) => some (.str (some s))
    | some (.pstr p) => some (.str p)
    | _ => none

/-- the struct value; `none`: a field whose type assertion did not hold (the code would have stored a zero value) -/
def XN.build (x : RawExpr) (subs : List XDec) : XN → Option XDec
  | .same v =>
    match v.get x with
    | some (.expr d) => some d
    | _ => none
  | .col v => (v.col x).map .col
  | .const k => (k.cell x).map .const
  | .unary op src =>
    match op.str x, src.col x with
    | some o, some s => some (.unary o s)
    | _, _ => none
  | .colConst op src k cf =>
    match op.str x, src.col x, k.cell x with
    | some o, some s, some c => some (.colConst o s c cf)
    | _, _, _ => none
  | .colCol op a b =>
    match op.str x, a.col x, b.col x with
    | some o, some s, some t => some (.colCol o s t)
    | _, _, _ => none
  | .ex1 op i =>
    match op.str x, subs[i]? with
    | some o, some d => some (.ex1 o d)
    | _, _ => none
  | .ex2 op i j =>
    match op.str x, subs[i]?, subs[j]? with
    | some o, some d, some e => some (.ex2 o d e)
    | _, _, _ => none
  | .error => some .error

/-- `none`: stuck (a panic, an untranslated part, a zero-valued field) -/
def XT.run (x : RawExpr) (subs : List XDec) : XT → Option XDec
  | .ite c t e =>
    match c.eval x subs with
    | some true => t.run x subs
    | some false => e.run x subs
    | none => none
  | .ret n => n.build x subs
  | .opaque _ => none

mutual
/-- `newExpr(x)` for the tree `t` of the decoder. The elements of a list are decoded first, whether or not the code
looks at them (they are only used through `subErr` and `ex1` / `ex2`). `none`: stuck (here or in an element). -/
def XT.decode (t : XT) : RawExpr → Option XDec
  | .list l =>
    match XT.decodeL t l with
    | some subs => t.run (.list l) subs
    | none => none
  | .expr d => t.run (.expr d) []
  | .col n => t.run (.col n) []
  | .str s => t.run (.str s) []
  | .int v => t.run (.int v) []
  | .float b => t.run (.float b) []
  | .bool b => t.run (.bool b) []
  | .pstr p => t.run (.pstr p) []
  | .nil => t.run .nil []
  | .other => t.run .other []
def XT.decodeL (t : XT) : List RawExpr → Option (List XDec)
  | [] => some []
  | a :: r =>
    match XT.decode t a, XT.decodeL t r with
    | some d, some ds => some (d :: ds)
    | _, _ => none
end

/-! ## Flattening: the leaf reached for an abstract SHAPE of the argument -/

/-- what the conditions can see of an argument: its kind; for a list its length and, per element, (kind, "the
decoded element has an error") -/
structure XShape where
  kind : XKind
  /-- length of a list, capped at 4 (0 for other arguments) -/
  len : Nat := 0
  elems : List (XKind × Bool) := []
  deriving DecidableEq, Repr, Inhabited

def XC.abs (s : XShape) : XC → Option Bool
  | .is .arg k => some (s.kind == k)
  | .is (.elem i) k => (s.elems[i]?).map (fun e => e.1 == k)
  | .lenIs n => if n < 4 then some (s.len == n) else none
  | .subErr (.elem i) => (s.elems[i]?).map (·.2)
  | .subErr .arg => none
  | .not c => (c.abs s).map (!·)
  | .and a b =>
    match a.abs s with
    | some true => b.abs s
    | r => r
  | .or a b =>
    match a.abs s with
    | some false => b.abs s
    | r => r
  | .tt => some true
  | .ff => some false
  | .opaque _ => none

def XT.flatten (s : XShape) : XT → Option XN
  | .ite c t e =>
    match c.abs s with
    | some true => t.flatten s
    | some false => e.flatten s
    | none => none
  | .ret n => some n
  | .opaque _ => none

/-- the shape of an actual argument; a list of a length other than 2 or 3 shows no elements -/
def shapeOf (x : RawExpr) (subs : List XDec) : XShape :=
  match x with
  | .list l =>
    { kind := .list, len := min l.length 4,
      elems := if l.length = 2 ∨ l.length = 3 then (l.zip subs).map (fun p => (p.1.kind, p.2.isErr)) else [] }
  | x => { kind := x.kind }

/-- what the shape shows of element `i`: the kind of the raw element and the error flag of its decoding -/
theorem shapeOf_elem {x : RawExpr} {subs : List XDec} {i : Nat} {e : XKind × Bool}
    (h : (shapeOf x subs).elems[i]? = some e) :
    ∃ a d, XV.get x (.elem i) = some a ∧ subs[i]? = some d ∧ (a.kind, d.isErr) = e := by
  cases x with
  | list l =>
    simp only [shapeOf] at h
    split at h
    · simp only [List.getElem?_map, Option.map_eq_some_iff, List.getElem?_zip_eq_some] at h
      obtain ⟨p, hp, rfl⟩ := h
      exact ⟨p.1, p.2, hp.1, hp.2, rfl⟩
    · simp at h
  | _ => simp [shapeOf] at h

/-- By the equations of `XC.abs`, in their order: the kind of the argument (1), of an element (2), the length (3; 4: not
below the cap), the error flag of an element (5), `not`, `and` / `or` with the first operand deciding (9, 11) or not (8, 10),
the constants (12, 13); 6 and 14 have no abstraction. -/
theorem XC.abs_sound (x : RawExpr) (subs : List XDec) (c : XC) :
    ∀ v, c.abs (shapeOf x subs) = some v → c.eval x subs = some v := by
  fun_induction XC.abs (shapeOf x subs) c with
  | case1 k => exact fun v h => by rw [← h]; cases x <;> rfl
  | case2 i k =>
    intro v h
    obtain ⟨e, he, rfl⟩ := Option.map_eq_some_iff.1 h
    obtain ⟨a, d, ha, _, rfl⟩ := shapeOf_elem he
    simp only [XC.eval, ha, Option.map_some]
  | case3 n hn =>
    intro v h
    rw [← h]
    cases x with
    | list l =>
      simp only [XC.eval, shapeOf, Option.some.injEq]
      rw [Bool.eq_iff_iff]
      simp only [beq_iff_eq]
      omega
    | _ => rfl
  | case5 i =>
    intro v h
    obtain ⟨e, he, rfl⟩ := Option.map_eq_some_iff.1 h
    obtain ⟨a, d, _, hd, rfl⟩ := shapeOf_elem he
    simp only [XC.eval, hd, Option.map_some]
  | case4 | case6 | case14 => exact fun v h => nomatch h
  | case7 c ih =>
    intro v h
    obtain ⟨w, hw, rfl⟩ := Option.map_eq_some_iff.1 h
    simp only [XC.eval, ih w hw, Option.map_some]
  | case8 a b ha iha ihb => exact fun v h => by simp only [XC.eval, iha _ ha]; exact ihb v h
  | case9 a b ha iha =>
    intro v h
    simp only [XC.eval, iha v h]
    cases v
    · rfl
    · exact absurd h ha
  | case10 a b ha iha ihb => exact fun v h => by simp only [XC.eval, iha _ ha]; exact ihb v h
  | case11 a b ha iha =>
    intro v h
    simp only [XC.eval, iha v h]
    cases v
    · exact absurd h ha
    · rfl
  | case12 | case13 => exact fun v h => h

/-- running the tree is building the leaf that `flatten` finds for the shape of the argument -/
theorem XT.run_flatten (x : RawExpr) (subs : List XDec) (t : XT) :
    ∀ n, t.flatten (shapeOf x subs) = some n → t.run x subs = n.build x subs := by
  fun_induction XT.flatten (shapeOf x subs) t with
  | case1 c t e hc ih => exact fun n h => by simp only [XT.run, XC.abs_sound x subs c _ hc]; exact ih n h
  | case2 c t e hc ih => exact fun n h => by simp only [XT.run, XC.abs_sound x subs c _ hc]; exact ih n h
  | case3 | case5 => exact fun n h => nomatch h
  | case4 => exact fun n h => by rw [← Option.some.inj h]; rfl

/-! ## `Expr(name, args...)` -/

inductive XFV where
  /-- the string parameter -/
  | name
  /-- `args[i]` -/
  | arg (i : Nat)
  deriving DecidableEq, Repr, Inhabited

/-- what is returned / stored -/
inductive XFR where
  /-- the error struct -/
  | error
  /-- `newExpr([]interface{}{…})` -/
  | decode (elems : List XFV)
  deriving DecidableEq, Repr, Inhabited

inductive XF where
  /-- `if len(args) == n { return r }; rest` -/
  | ifLen (n : Nat) (r : XFR) (rest : XF)
  /-- `newArgs := make([]interface{}, len(args)-d); newArgs[0] = first; copy(newArgs[1:], args[j:]);
  return <this function>(name, newArgs...)` -/
  | foldFresh (d j : Nat) (first : XFR)
  /-- `args[i] = first; return <this function>(name, args[i:]...)`: the caller's slice is written to -/
  | foldInPlace (i : Nat) (first : XFR)
  | opaque (txt : String)
  deriving DecidableEq, Repr, Inhabited

def XFV.get (name : Bytes) (args : List RawExpr) : XFV → Option RawExpr
  | .name => some (.str name)
  | .arg i => args[i]?

def XFV.getAll (name : Bytes) (args : List RawExpr) : List XFV → Option (List RawExpr)
  | [] => some []
  | v :: r =>
    match v.get name args, XFV.getAll name args r with
    | some x, some xs => some (x :: xs)
    | _, _ => none

def XFR.eval (t : XT) (name : Bytes) (args : List RawExpr) : XFR → Option XDec
  | .error => some .error
  | .decode elems =>
    match XFV.getAll name args elems with
    | some l => t.decode (.list l)
    | none => none

/-- one activation of `Expr(name, args...)`; `self`: the tail call -/
def XF.step (t : XT) (name : Bytes) (self : List RawExpr → Option (XDec × List RawExpr)) (args : List RawExpr) :
    XF → Option (XDec × List RawExpr)
  | .ifLen n r rest =>
    if args.length = n then (r.eval t name args).map (·, args) else XF.step t name self args rest
  | .foldFresh d j first =>
    if d = 0 ∨ args.length < d then none else
    match first.eval t name args with
    | none => none
    | some e =>
      let n := args.length - d
      if n = 0 then none else
      -- copy(dst, src) copies min(len(dst), len(src)) elements; the rest of the fresh slice stays nil
      let src := (args.drop j).take (n - 1)
      let newArgs := RawExpr.expr e :: (src ++ List.replicate (n - 1 - src.length) RawExpr.nil)
      (self newArgs).map (fun r => (r.1, args))
  | .foldInPlace i first =>
    if i = 0 ∨ args.length ≤ i then none else
    match first.eval t name args with
    | none => none
    | some e =>
      let args' := args.set i (.expr e)
      (self (args'.drop i)).map (fun r => (r.1, args'.take i ++ r.2))
  | .opaque _ => none

/-- `Expr(name, args...)`: the expression returned and the contents of the caller's slice afterwards; `none`: stuck
(index out of range, `make` with a negative length, no progress, an untranslated part). `fuel` bounds the tail calls. -/
def XF.run (t : XT) (f : XF) (name : Bytes) : Nat → List RawExpr → Option (XDec × List RawExpr)
  | 0, _ => none
  | fuel + 1, args => XF.step t name (XF.run t f name fuel) args f

end QF
