import QF.Core.Small
/-!
# ST — the language of the STRINGS package and of the like/ilike filter loops, and its Go semantics

    /repo/internal/strings/pointer.go    NewPointer, Pointer.Offset, Pointer.Len, Pointer.IsNull   (nullBit)
    /repo/internal/strings/serialize.go  AppendQuotedString                                        (chars)
    /repo/internal/strings/convert.go    ToUpper                                                   (UnsafeBytesToString)
    /repo/internal/scolumn/filters.go    the function `(index.Int, Column, string, index.Bool, bool) error`   (regexFilter)
    /repo/internal/ecolumn/filters.go    the function `(string, []string, bool) (*bitset, error)`             (filterLike)

go/cmd/extract/strast.go translates the bodies of these functions, statement by statement, to terms of the small
imperative language below and writes them to `QF/Gen/StringsFns.lean` on every run. The language is generic where the
code is generic (variables, assignments, fixed-width and `int` arithmetic, shifts, `&`, `|`, conversions, comparisons,
`if`, `switch` as a chain of `if`, `for` with `break` / `continue` / `return`, `range` over a string and over a slice,
strings and byte slices with `len`, indexing, slicing, `make`, `copy`, `append`) and has one construct for each thing it
takes from outside: `utf8.DecodeRuneInString`, `utf8.EncodeRune`, `utf8.RuneLen`, `unicode.ToUpper` (functions of the
environment `Env`), `NewMatcher` / `Matches`, the column's `stringAt`, `qerrors.Propagate`, the enum `bitset` with `set`.

Terms name things by ROLE: the variables of a function are numbered in the order of their declaration (receiver, then the
parameters, then every `:=` / `var` / range variable as it occurs in the text), the functions by their exported names or,
for the two private filter functions, by their signature (`FnId`); package-level constants (`nullBit`, `chars`) and the
constants of `unicode/utf8` (`RuneSelf`, `UTFMax`, `RuneError`) are replaced by their values, typed by the context.

## What the semantics models, and how exactly

* `uint64` (and `Pointer`): exactly, modulo 2^64 (`Val.u64 n`, `n < 2^64`). `byte` / `uint8` / `enumVal`: exactly (`UInt8`).
  `rune`: as ℤ; `&` on runes is taken on the 32-bit two's complement pattern.
* `int`: `+`, `-`, `*` as in ℤ (no wrap-around at 2^63: the `int`s that are added here are lengths and positions);
  `<<`, `&`, `|` and the conversions to and from `uint64` exactly as on the 64-bit two's complement pattern (`tc64`, `sx64`)
  — these are the operations of pointer.go.
* a `string` is the list of its bytes; a `[]byte` is the list of its bytes, `nil` told from empty (`Val.bytes none`); its
  capacity is not modelled: `append` returns a new value (exact for what the caller of `AppendQuotedString` can read from the
  result), `make([]byte, n)` is `n` zero bytes. Writes `b[i] = x`, `copy(b, …)`, `utf8.EncodeRune(b[i:], r)` go to the
  variable that holds `b`.
* a parameter of pointer type `*[]byte` is the variable that holds the slice it points to (`*bP` is that variable, read and
  written; the translator checks that the parameter is used in no other way). A slice parameter that is written through
  (`bIndex[i] = …`) is likewise a variable; what the caller sees afterwards is its final value (`run` returns the final
  store). Exact as long as the function does not keep two live names for one backing array and writes through both; the
  one place where the code does (`b = *bP` in `ToUpper`) ends with `*bP = b`.
* `for i, c := range s` over a string decodes with `Env.decode` from the byte offset `i`, which advances by the width;
  `for i, x := range v` over a slice variable runs `len(v)` rounds (the length at the start) and reads `v[i]` at the
  start of round `i`. Assignments to `i` in the body do not change the iteration (Go: a copy per round).
* every `for` without `range` has a budget of `Env.fuel` rounds (`panic .fuel` beyond it).
* run-time panics (index out of range, slice bounds out of range) are results (`Res.panic`); whatever has no meaning —
  a value of the wrong kind, a negative `make`, something the translator did not understand (`opaque`) — is `stuck`.
-/
namespace QF.ST

abbrev Var := Nat
abbrev Byte := UInt8
abbrev Bytes := List UInt8

/-- The functions of the translation unit, by role. -/
inductive FnId where
  /-- `strings.NewPointer` -/
  | newPointer
  /-- `strings.Pointer.Offset` -/
  | pOffset
  /-- `strings.Pointer.Len` -/
  | pLen
  /-- `strings.Pointer.IsNull` -/
  | pIsNull
  /-- `strings.AppendQuotedString` -/
  | appendQuoted
  /-- `strings.ToUpper` -/
  | toUpper
  /-- package scolumn: the function `(index.Int, Column, string, index.Bool, bool) error` -/
  | likeStrings
  /-- package ecolumn: the function `(string, []string, bool) (*bitset, error)` -/
  | likeEnum
  deriving DecidableEq, Repr, Inhabited

/-- the numeric types -/
inductive NK where
  | int | u64 | byte | rune
  deriving DecidableEq, Repr, Inhabited

inductive COp where
  | lt | le | gt | ge | eq | ne
  deriving DecidableEq, Repr, Inhabited

/-- Expressions (no side effects; an index or a slice expression may panic). -/
inductive E where
  | var (v : Var)
  /-- a constant of type `int` -/
  | int (n : Int)
  /-- a constant of type `uint64` (`Pointer`) -/
  | u64 (n : Nat)
  /-- a constant of type `byte` -/
  | byte (n : Nat)
  /-- a constant of type `rune` -/
  | rune (n : Int)
  | bool (b : Bool)
  /-- a string constant, by its bytes -/
  | str (bs : List Nat)
  /-- `nil` as a `[]byte` -/
  | nilBytes
  /-- `nil` as an `error` -/
  | nilErr
  /-- `nil` as a `*bitset` -/
  | nilBitset
  | len (e : E)
  /-- `s[i]` -/
  | at (s i : E)
  /-- `s[lo:hi]` -/
  | slice (s lo hi : E)
  /-- `s[lo:]` -/
  | sliceFrom (s lo : E)
  /-- `s[:hi]` -/
  | sliceTo (s hi : E)
  /-- `make([]byte, n)` -/
  | make (n : E)
  /-- `append(b, x)` on a `[]byte` -/
  | app1 (b x : E)
  /-- `append(b, s...)`, `s` a string or a `[]byte` -/
  | appAll (b s : E)
  /-- the string with the bytes of a `[]byte` (`unsafe.String(unsafe.SliceData(b), len(b))`) -/
  | toStr (e : E)
  /-- a conversion `T(e)` between numeric types -/
  | conv (k : NK) (e : E)
  | add (a b : E)
  | sub (a b : E)
  | mul (a b : E)
  /-- `a << b` -/
  | shl (a b : E)
  /-- `a >> b` -/
  | shr (a b : E)
  /-- `a & b` -/
  | band (a b : E)
  /-- `a | b` -/
  | bor (a b : E)
  | cmp (op : COp) (a b : E)
  /-- `e == nil` for a `[]byte` or an `error` -/
  | isNil (e : E)
  | not (e : E)
  /-- `a && b` (b is not evaluated when a is false) -/
  | and (a b : E)
  /-- `a || b` (b is not evaluated when a is true) -/
  | or (a b : E)
  /-- `utf8.RuneLen(e)` -/
  | runeLen (e : E)
  /-- `unicode.ToUpper(e)` -/
  | upper (e : E)
  /-- `m.Matches(s)` for a matcher returned by `NewMatcher` -/
  | matches (m s : E)
  /-- `qerrors.Propagate(msg, e)` -/
  | propagate (msg : String) (e : E)
  /-- `&bitset{}` -/
  | newBitset
  | opaque (txt : String)
  deriving DecidableEq, Repr, Inhabited

/-- What can be assigned. -/
inductive L where
  | var (v : Var)
  /-- `_` -/
  | blank
  deriving DecidableEq, Repr, Inhabited

/-- Statements. A block is `S.block [s₁, …]`. -/
inductive S where
  | skip
  | seq (a b : S)
  /-- `l = e`, `v := e`; `x op= e` is `x = x op e`, `x++` is `x = x + 1` -/
  | assign (l : L) (e : E)
  /-- `v[i] = e` for a variable holding a `[]byte` or a `[]bool` -/
  | setAt (v : Var) (i e : E)
  /-- `n = copy(v, src)` for a variable holding a `[]byte` (`n` blank: the count is dropped) -/
  | copy (n : L) (v : Var) (src : E)
  /-- `n = utf8.EncodeRune(v[off:], r)` for a variable holding a `[]byte` -/
  | encodeRune (n : L) (v : Var) (off r : E)
  /-- `r, w = utf8.DecodeRuneInString(s)` -/
  | decodeRune (r w : L) (s : E)
  /-- `m, err = NewMatcher(pattern, caseSensitive)` -/
  | newMatcher (m err : L) (pat cs : E)
  /-- `s, isNull = col.stringAt(i)` -/
  | stringAt (s isNull : L) (col i : E)
  /-- `v.set(e)` for a variable holding a `*bitset` -/
  | bsSet (v : Var) (e : E)
  | ite (c : E) (t e : S)
  /-- `for { body }`; `for c { body }` is `loop (block [ite c skip brk, body])` -/
  | loop (body : S)
  /-- `for i, c := range s { body }` over a string -/
  | rangeStr (i c : L) (s : E) (body : S)
  /-- `for i, x := range v { body }` over a variable holding a slice -/
  | rangeVar (i x : L) (v : Var) (body : S)
  | brk
  | cont
  | ret (es : List E)
  | opaque (txt : String)
  deriving DecidableEq, Repr, Inhabited

def S.block : List S → S
  | [] => .skip
  | s :: ss => .seq s (S.block ss)

/-- A translated function: the receiver and the parameters are the variables `0 … params-1`. -/
structure Fn where
  params : Nat
  body : S
  deriving DecidableEq, Repr, Inhabited

def E.hasOpaque : E → Bool
  | .opaque _ => true
  | .len e | .make e | .toStr e | .conv _ e | .isNil e | .not e | .runeLen e | .upper e | .propagate _ e => e.hasOpaque
  | .at a b | .sliceFrom a b | .sliceTo a b | .app1 a b | .appAll a b | .add a b | .sub a b | .mul a b | .shl a b | .shr a b
  | .band a b | .bor a b | .cmp _ a b | .and a b | .or a b | .matches a b => a.hasOpaque || b.hasOpaque
  | .slice a b c => a.hasOpaque || b.hasOpaque || c.hasOpaque
  | _ => false

def S.hasOpaque : S → Bool
  | .opaque _ => true
  | .seq a b => a.hasOpaque || b.hasOpaque
  | .assign _ e | .copy _ _ e | .decodeRune _ _ e | .bsSet _ e => e.hasOpaque
  | .setAt _ a b | .encodeRune _ _ a b | .newMatcher _ _ a b | .stringAt _ _ a b => a.hasOpaque || b.hasOpaque
  | .ite c t e => c.hasOpaque || t.hasOpaque || e.hasOpaque
  | .loop b | .rangeVar _ _ _ b => b.hasOpaque
  | .rangeStr _ _ s b => s.hasOpaque || b.hasOpaque
  | .ret es => es.any E.hasOpaque
  | _ => false

/-! ## Values -/

/-- the classes of run-time panics -/
inductive PCls where
  /-- index out of range -/
  | index
  /-- slice bounds out of range -/
  | slice
  /-- the budget of a loop is used up -/
  | fuel
  deriving DecidableEq, Repr, Inhabited

inductive Res (α : Type) where
  | ok (a : α)
  | panic (c : PCls)
  /-- no meaning -/
  | stuck
  deriving Repr

def Res.bind {α β : Type} (r : Res α) (f : α → Res β) : Res β :=
  match r with
  | .ok a => f a
  | .panic c => .panic c
  | .stuck => .stuck

@[simp] theorem Res.bind_ok {α β : Type} (a : α) (f : α → Res β) : (Res.ok a).bind f = f a := rfl
@[simp] theorem Res.bind_panic {α β : Type} (c : PCls) (f : α → Res β) : (Res.panic c : Res α).bind f = .panic c := rfl
@[simp] theorem Res.bind_stuck {α β : Type} (f : α → Res β) : (Res.stuck : Res α).bind f = .stuck := rfl

/-- an `error` that is not nil: what `NewMatcher` reports (the pattern is not a regular expression), possibly wrapped by
`qerrors.Propagate` with a message -/
inductive Err where
  | badPattern
  | propagated (msg : String) (e : Err)
  deriving DecidableEq, Repr, Inhabited

/-- a string column as `stringAt` sees it: the cells, `none` = null -/
abbrev Col := List (Option Bytes)

inductive Val where
  | int (n : Int)
  | u64 (n : Nat)
  | byte (b : Byte)
  | rune (r : Int)
  | bool (b : Bool)
  | str (s : Bytes)
  /-- a `[]byte`; `none`: nil -/
  | bytes (b : Option Bytes)
  /-- an `error`; `none`: nil -/
  | err (e : Option Err)
  /-- an `index.Bool` -/
  | bools (l : List Bool)
  /-- an `index.Int` (its elements, of type `uint32`, are numbers `Val.u64`) -/
  | rows (l : List Nat)
  /-- a `[]string` -/
  | strs (l : List Bytes)
  /-- a string column -/
  | col (c : Col)
  /-- a matcher: what its `Matches` answers -/
  | matcher (f : Bytes → Bool)
  /-- a `*bitset`; `none`: nil -/
  | bitset (s : Option Small.BitSet)

abbrev Store := Var → Option Val

def Store.empty : Store := fun _ => none
def Store.set (σ : Store) (v : Var) (x : Val) : Store := fun w => if w = v then some x else σ w

@[simp] theorem Store.set_same (σ : Store) (v : Var) (x : Val) : σ.set v x v = some x := by simp [Store.set]
theorem Store.set_ne (σ : Store) (v w : Var) (x : Val) (h : w ≠ v) : σ.set v x w = σ w := by simp [Store.set, h]

/-- what the code takes from outside -/
structure Env where
  /-- the budget of every `for` without `range` -/
  fuel : Nat
  /-- `utf8.DecodeRuneInString`: (rune, width) -/
  decode : Bytes → Int × Nat
  /-- the bytes `utf8.EncodeRune` writes -/
  encode : Int → Bytes
  /-- `utf8.RuneLen` -/
  runeLen : Int → Int
  /-- `unicode.ToUpper` -/
  toUpper : Int → Int
  /-- `NewMatcher(pattern, caseSensitive)`: an error, or what `Matches` of the matcher answers -/
  newMatcher : Bytes → Bool → Except Err (Bytes → Bool)

/-! ## Arithmetic -/

/-- the 64-bit two's complement pattern of an `int` -/
def tc64 (a : Int) : Nat := (a % 2 ^ 64).toNat
/-- the `int` with the 64-bit pattern `m` -/
def sx64 (m : Nat) : Int := if m % 2 ^ 64 < 2 ^ 63 then ((m % 2 ^ 64 : Nat) : Int) else ((m % 2 ^ 64 : Nat) : Int) - 2 ^ 64
/-- the 32-bit two's complement pattern of a `rune` -/
def tc32 (a : Int) : Nat := (a % 2 ^ 32).toNat
def sx32 (m : Nat) : Int := if m % 2 ^ 32 < 2 ^ 31 then ((m % 2 ^ 32 : Nat) : Int) else ((m % 2 ^ 32 : Nat) : Int) - 2 ^ 32

def COp.holds : COp → Int → Int → Bool
  | .lt, a, b => a < b
  | .le, a, b => a ≤ b
  | .gt, a, b => a > b
  | .ge, a, b => a ≥ b
  | .eq, a, b => decide (a = b)
  | .ne, a, b => !decide (a = b)

def COp.holdsN : COp → Nat → Nat → Bool
  | .lt, a, b => a < b
  | .le, a, b => a ≤ b
  | .gt, a, b => a > b
  | .ge, a, b => a ≥ b
  | .eq, a, b => decide (a = b)
  | .ne, a, b => !decide (a = b)

def COp.holdsB : COp → Byte → Byte → Bool
  | .lt, a, b => a < b
  | .le, a, b => a ≤ b
  | .gt, a, b => a > b
  | .ge, a, b => a ≥ b
  | .eq, a, b => a == b
  | .ne, a, b => a != b

/-- `==` / `!=` on booleans and errors -/
def COp.same {α : Type} [DecidableEq α] : COp → α → α → Option Bool
  | .eq, a, b => some (decide (a = b))
  | .ne, a, b => some (!decide (a = b))
  | _, _, _ => none

def compare (op : COp) (x y : Val) : Res Val :=
  match x, y with
  | .int m, .int n => .ok (.bool (op.holds m n))
  | .rune m, .rune n => .ok (.bool (op.holds m n))
  | .u64 m, .u64 n => .ok (.bool (op.holdsN m n))
  | .byte a, .byte b => .ok (.bool (op.holdsB a b))
  | .bool a, .bool b => (match op.same a b with | some r => .ok (.bool r) | none => .stuck)
  | .err a, .err b => (match op.same a b with | some r => .ok (.bool r) | none => .stuck)
  | .str a, .str b => (match op.same a b with | some r => .ok (.bool r) | none => .stuck)
  | _, _ => .stuck

/-- `+`, `-`, `*`: both operands of one type -/
def arith (fi : Int → Int → Int) (x y : Val) : Res Val :=
  match x, y with
  | .int m, .int n => .ok (.int (fi m n))
  | .u64 m, .u64 n => .ok (.u64 (tc64 (fi m n)))
  | _, _ => .stuck

/-- a shift count: a non-negative number of any integer type -/
def shiftCount : Val → Option Nat
  | .int n => if 0 ≤ n then some n.toNat else none
  | .u64 n => some n
  | .byte b => some b.toNat
  | _ => none

def shlV (x : Val) (k : Nat) : Res Val :=
  match x with
  | .int a => .ok (.int (sx64 (tc64 a <<< k)))
  | .u64 a => .ok (.u64 ((a <<< k) % 2 ^ 64))
  | .byte b => .ok (.byte (if k < 8 then b <<< UInt8.ofNat k else 0))
  | _ => .stuck

def shrV (x : Val) (k : Nat) : Res Val :=
  match x with
  | .int a => .ok (.int (a >>> k))
  | .u64 a => .ok (.u64 (a >>> k))
  | .byte b => .ok (.byte (if k < 8 then b >>> UInt8.ofNat k else 0))
  | _ => .stuck

def bandV (x y : Val) : Res Val :=
  match x, y with
  | .int a, .int b => .ok (.int (sx64 (tc64 a &&& tc64 b)))
  | .u64 a, .u64 b => .ok (.u64 (a &&& b))
  | .byte a, .byte b => .ok (.byte (a &&& b))
  | .rune a, .rune b => .ok (.rune (sx32 (tc32 a &&& tc32 b)))
  | _, _ => .stuck

def borV (x y : Val) : Res Val :=
  match x, y with
  | .int a, .int b => .ok (.int (sx64 (tc64 a ||| tc64 b)))
  | .u64 a, .u64 b => .ok (.u64 (a ||| b))
  | .byte a, .byte b => .ok (.byte (a ||| b))
  | .rune a, .rune b => .ok (.rune (sx32 (tc32 a ||| tc32 b)))
  | _, _ => .stuck

/-- `T(x)` -/
def convV (k : NK) (x : Val) : Res Val :=
  match k, x with
  | .int, .int a => .ok (.int a)
  | .int, .u64 a => .ok (.int (sx64 a))
  | .int, .byte b => .ok (.int b.toNat)
  | .int, .rune r => .ok (.int r)
  | .u64, .int a => .ok (.u64 (tc64 a))
  | .u64, .u64 a => .ok (.u64 a)
  | .u64, .byte b => .ok (.u64 b.toNat)
  | .u64, .rune r => .ok (.u64 (tc64 r))
  | .byte, .int a => .ok (.byte (UInt8.ofNat (a % 256).toNat))
  | .byte, .u64 a => .ok (.byte (UInt8.ofNat (a % 256)))
  | .byte, .byte b => .ok (.byte b)
  | .byte, .rune r => .ok (.byte (UInt8.ofNat (r % 256).toNat))
  | .rune, .int a => .ok (.rune (sx32 (tc64 a)))
  | .rune, .u64 a => .ok (.rune (sx32 a))
  | .rune, .byte b => .ok (.rune b.toNat)
  | .rune, .rune r => .ok (.rune r)
  | _, _ => .stuck

/-- the number an index expression stands for (Go: any integer type) -/
def asIndex : Val → Res Int
  | .int n => .ok n
  | .u64 n => .ok n
  | .byte b => .ok b.toNat
  | .rune r => .ok r
  | _ => .stuck

def asInt : Val → Res Int
  | .int n => .ok n
  | _ => .stuck

def asBool : Val → Res Bool
  | .bool b => .ok b
  | _ => .stuck

def Val.len : Val → Option Nat
  | .str s => some s.length
  | .bytes none => some 0
  | .bytes (some b) => some b.length
  | .bools l => some l.length
  | .rows l => some l.length
  | .strs l => some l.length
  | _ => none

def lenOf (v : Val) : Res Int :=
  match v.len with
  | some n => .ok n
  | none => .stuck

/-- `s[i]` -/
def Val.index : Val → Int → Res Val
  | .str s, i => if 0 ≤ i ∧ i < s.length then .ok (.byte s[i.toNat]!) else .panic .index
  | .bytes none, _ => .panic .index
  | .bytes (some s), i => if 0 ≤ i ∧ i < s.length then .ok (.byte s[i.toNat]!) else .panic .index
  | .bools l, i => if 0 ≤ i ∧ i < l.length then .ok (.bool l[i.toNat]!) else .panic .index
  | .rows l, i => if 0 ≤ i ∧ i < l.length then .ok (.u64 l[i.toNat]!) else .panic .index
  | .strs l, i => if 0 ≤ i ∧ i < l.length then .ok (.str l[i.toNat]!) else .panic .index
  | _, _ => .stuck

/-- `s[lo:hi]` of a string or of a `[]byte` (`hi ≤ len`: the capacity is not modelled) -/
def Val.slice : Val → Int → Int → Res Val
  | .str s, lo, hi =>
    if 0 ≤ lo ∧ lo ≤ hi ∧ hi ≤ s.length then .ok (.str ((s.take hi.toNat).drop lo.toNat)) else .panic .slice
  | .bytes (some s), lo, hi =>
    if 0 ≤ lo ∧ lo ≤ hi then (if hi ≤ s.length then .ok (.bytes (some ((s.take hi.toNat).drop lo.toNat))) else .stuck) else .panic .slice
  | _, _, _ => .stuck

/-- the bytes of a string or of a `[]byte` -/
def Val.bytesOf : Val → Option Bytes
  | .str s => some s
  | .bytes none => some []
  | .bytes (some b) => some b
  | _ => none

/-- the bytes `bs` written over `l` from position `off` on (all of them fit) -/
def overwrite (l : Bytes) (off : Nat) (bs : Bytes) : Bytes := l.take off ++ bs ++ l.drop (off + bs.length)

def E.eval (Γ : Env) (σ : Store) : E → Res Val
  | .var v => match σ v with | some x => .ok x | none => .stuck
  | .int n => .ok (.int n)
  | .u64 n => .ok (.u64 (n % 2 ^ 64))
  | .byte n => .ok (.byte (UInt8.ofNat n))
  | .rune n => .ok (.rune n)
  | .bool b => .ok (.bool b)
  | .str bs => .ok (.str (bs.map UInt8.ofNat))
  | .nilBytes => .ok (.bytes none)
  | .nilErr => .ok (.err none)
  | .nilBitset => .ok (.bitset none)
  | .len e => (e.eval Γ σ).bind fun x => (lenOf x).bind fun n => .ok (.int n)
  | .at s i => (s.eval Γ σ).bind fun x => (i.eval Γ σ).bind fun y => (asIndex y).bind fun n => x.index n
  | .slice s lo hi =>
    (s.eval Γ σ).bind fun x => (lo.eval Γ σ).bind fun a => (hi.eval Γ σ).bind fun b =>
      (asInt a).bind fun m => (asInt b).bind fun n => x.slice m n
  | .sliceFrom s lo =>
    (s.eval Γ σ).bind fun x => (lo.eval Γ σ).bind fun a => (asInt a).bind fun m => (lenOf x).bind fun n => x.slice m n
  | .sliceTo s hi => (s.eval Γ σ).bind fun x => (hi.eval Γ σ).bind fun b => (asInt b).bind fun n => x.slice 0 n
  | .make n => (n.eval Γ σ).bind fun a => (asInt a).bind fun m =>
      if 0 ≤ m then .ok (.bytes (some (List.replicate m.toNat 0))) else .stuck
  | .app1 b x => (b.eval Γ σ).bind fun u => (x.eval Γ σ).bind fun w =>
      match u, w with
      | .bytes o, .byte c => .ok (.bytes (some (o.getD [] ++ [c])))
      | _, _ => .stuck
  | .appAll b s => (b.eval Γ σ).bind fun u => (s.eval Γ σ).bind fun w =>
      match u, w.bytesOf with
      | .bytes o, some t => .ok (.bytes (if o.isNone && t.isEmpty then none else some (o.getD [] ++ t)))
      | _, _ => .stuck
  | .toStr e => (e.eval Γ σ).bind fun x => match x with | .bytes o => .ok (.str (o.getD [])) | _ => .stuck
  | .conv k e => (e.eval Γ σ).bind fun x => convV k x
  | .add a b => (a.eval Γ σ).bind fun x => (b.eval Γ σ).bind fun y => arith (· + ·) x y
  | .sub a b => (a.eval Γ σ).bind fun x => (b.eval Γ σ).bind fun y => arith (· - ·) x y
  | .mul a b => (a.eval Γ σ).bind fun x => (b.eval Γ σ).bind fun y => arith (· * ·) x y
  | .shl a b => (a.eval Γ σ).bind fun x => (b.eval Γ σ).bind fun y =>
      match shiftCount y with | some k => shlV x k | none => .stuck
  | .shr a b => (a.eval Γ σ).bind fun x => (b.eval Γ σ).bind fun y =>
      match shiftCount y with | some k => shrV x k | none => .stuck
  | .band a b => (a.eval Γ σ).bind fun x => (b.eval Γ σ).bind fun y => bandV x y
  | .bor a b => (a.eval Γ σ).bind fun x => (b.eval Γ σ).bind fun y => borV x y
  | .cmp op a b => (a.eval Γ σ).bind fun x => (b.eval Γ σ).bind fun y => compare op x y
  | .isNil e => (e.eval Γ σ).bind fun x =>
      match x with
      | .bytes o => .ok (.bool o.isNone)
      | .err o => .ok (.bool o.isNone)
      | .bitset o => .ok (.bool o.isNone)
      | _ => .stuck
  | .not e => (e.eval Γ σ).bind fun x => (asBool x).bind fun b => .ok (.bool (!b))
  | .and a b => (a.eval Γ σ).bind fun x => (asBool x).bind fun p =>
      if p then (b.eval Γ σ).bind fun y => (asBool y).bind fun q => .ok (.bool q) else .ok (.bool false)
  | .or a b => (a.eval Γ σ).bind fun x => (asBool x).bind fun p =>
      if p then .ok (.bool true) else (b.eval Γ σ).bind fun y => (asBool y).bind fun q => .ok (.bool q)
  | .runeLen e => (e.eval Γ σ).bind fun x => match x with | .rune r => .ok (.int (Γ.runeLen r)) | _ => .stuck
  | .upper e => (e.eval Γ σ).bind fun x => match x with | .rune r => .ok (.rune (Γ.toUpper r)) | _ => .stuck
  | .matches m s => (m.eval Γ σ).bind fun x => (s.eval Γ σ).bind fun y =>
      match x, y with
      | .matcher f, .str t => .ok (.bool (f t))
      | _, _ => .stuck
  | .propagate msg e => (e.eval Γ σ).bind fun x =>
      match x with
      | .err (some er) => .ok (.err (some (.propagated msg er)))
      | .err none => .ok (.err none)
      | _ => .stuck
  | .newBitset => .ok (.bitset (some (0, 0, 0, 0)))
  | .opaque _ => .stuck

theorem eval_var {Γ : Env} {σ : Store} {v : Var} {x : Val} (h : σ v = some x) : (E.var v).eval Γ σ = .ok x := by
  rw [E.eval, h]

def evalList (Γ : Env) (σ : Store) : List E → Res (List Val)
  | [] => .ok []
  | e :: es => (e.eval Γ σ).bind fun x => (evalList Γ σ es).bind fun xs => .ok (x :: xs)

/-! ## Statements -/

inductive Out where
  | next (σ : Store)
  | brk (σ : Store)
  | cont (σ : Store)
  /-- `return`: the results and the store at that moment (the final values of the variables the caller can see) -/
  | ret (σ : Store) (vs : List Val)
  | panic (c : PCls)
  | stuck

def Out.ofRes {α : Type} (r : Res α) (k : α → Out) : Out :=
  match r with
  | .ok a => k a
  | .panic c => .panic c
  | .stuck => .stuck

@[simp] theorem Out.ofRes_ok {α : Type} (a : α) (k : α → Out) : Out.ofRes (.ok a) k = k a := rfl
@[simp] theorem Out.ofRes_panic {α : Type} (c : PCls) (k : α → Out) : Out.ofRes (.panic c) k = .panic c := rfl
@[simp] theorem Out.ofRes_stuck {α : Type} (k : α → Out) : Out.ofRes (.stuck) k = .stuck := rfl

def assignL (σ : Store) : L → Val → Store
  | .var v, x => σ.set v x
  | .blank, _ => σ

/-- at most `n` rounds -/
def iter (step : Store → Out) : Nat → Store → Out
  | 0, _ => .panic .fuel
  | n + 1, σ =>
    match step σ with
    | .next σ' => iter step n σ'
    | .cont σ' => iter step n σ'
    | .brk σ' => .next σ'
    | r => r

/-- `range` over the string `s` from byte offset `off`; `n` bounds the rounds (`len(s) + 1` is enough when every width is
positive) -/
def iterStr (decode : Bytes → Int × Nat) (i c : L) (step : Store → Out) (s : Bytes) : Nat → Nat → Store → Out
  | 0, _, _ => .panic .fuel
  | n + 1, off, σ =>
    if off < s.length then
      let d := decode (s.drop off)
      match step (assignL (assignL σ i (.int off)) c (.rune d.1)) with
      | .next σ' => iterStr decode i c step s n (off + d.2) σ'
      | .cont σ' => iterStr decode i c step s n (off + d.2) σ'
      | .brk σ' => .next σ'
      | r => r
    else .next σ

/-- `range` over the slice in variable `v`: rounds `k, k+1, …, len-1` -/
def iterVar (i x : L) (v : Var) (step : Store → Out) (len : Nat) : Nat → Nat → Store → Out
  | 0, _, σ => .next σ
  | n + 1, k, σ =>
    match σ v with
    | some s =>
      (match s.index k with
       | .ok e =>
         (match step (assignL (assignL σ i (.int k)) x e) with
          | .next σ' => iterVar i x v step len n (k + 1) σ'
          | .cont σ' => iterVar i x v step len n (k + 1) σ'
          | .brk σ' => .next σ'
          | r => r)
       | .panic c => .panic c
       | .stuck => .stuck)
    | none => .stuck

def S.exec (Γ : Env) : S → Store → Out
  | .skip, σ => .next σ
  | .seq a b, σ =>
    match a.exec Γ σ with
    | .next σ' => b.exec Γ σ'
    | r => r
  | .assign l e, σ => Out.ofRes (e.eval Γ σ) fun x => .next (assignL σ l x)
  | .setAt v i e, σ =>
    Out.ofRes (i.eval Γ σ) fun iv => Out.ofRes (asIndex iv) fun n => Out.ofRes (e.eval Γ σ) fun x =>
      match σ v, x with
      | some (.bytes (some b)), .byte c =>
        if 0 ≤ n ∧ n < b.length then .next (σ.set v (.bytes (some (b.set n.toNat c)))) else .panic .index
      | some (.bytes none), .byte _ => .panic .index
      | some (.bools l), .bool c =>
        if 0 ≤ n ∧ n < l.length then .next (σ.set v (.bools (l.set n.toNat c))) else .panic .index
      | _, _ => .stuck
  | .copy n v src, σ =>
    Out.ofRes (src.eval Γ σ) fun s =>
      match σ v, s.bytesOf with
      | some (.bytes o), some t =>
        let k := min (o.getD []).length t.length
        .next (assignL (σ.set v (.bytes (o.map fun b => overwrite b 0 (t.take k)))) n (.int k))
      | _, _ => .stuck
  | .encodeRune n v off r, σ =>
    Out.ofRes (off.eval Γ σ) fun ov => Out.ofRes (asInt ov) fun o => Out.ofRes (r.eval Γ σ) fun rv =>
      match σ v, rv with
      | some (.bytes (some b)), .rune x =>
        if 0 ≤ o ∧ o ≤ b.length then
          (if o.toNat + (Γ.encode x).length ≤ b.length then
            .next (assignL (σ.set v (.bytes (some (overwrite b o.toNat (Γ.encode x))))) n (.int (Γ.encode x).length))
           else .panic .index)
        else .panic .slice
      | _, _ => .stuck
  | .decodeRune r w s, σ =>
    Out.ofRes (s.eval Γ σ) fun x =>
      match x with
      | .str t => .next (assignL (assignL σ r (.rune (Γ.decode t).1)) w (.int (Γ.decode t).2))
      | _ => .stuck
  | .newMatcher m er pat cs, σ =>
    Out.ofRes (pat.eval Γ σ) fun p => Out.ofRes (cs.eval Γ σ) fun c =>
      match p, c with
      | .str t, .bool b =>
        (match Γ.newMatcher t b with
         | .ok f => .next (assignL (assignL σ m (.matcher f)) er (.err none))
         | .error e => .next (assignL (assignL σ m (.matcher fun _ => false)) er (.err (some e))))
      | _, _ => .stuck
  | .stringAt s isNull col i, σ =>
    Out.ofRes (col.eval Γ σ) fun c => Out.ofRes (i.eval Γ σ) fun iv => Out.ofRes (asIndex iv) fun n =>
      match c with
      | .col cells =>
        if 0 ≤ n ∧ n < cells.length then
          (match cells[n.toNat]! with
           | some t => .next (assignL (assignL σ s (.str t)) isNull (.bool false))
           | none => .next (assignL (assignL σ s (.str [])) isNull (.bool true)))
        else .panic .index
      | _ => .stuck
  | .bsSet v e, σ =>
    Out.ofRes (e.eval Γ σ) fun x =>
      match σ v, x with
      | some (.bitset (some b)), .byte c => .next (σ.set v (.bitset (some (Small.bsSet b c.toNat))))
      | _, _ => .stuck
  | .ite c t e, σ =>
    Out.ofRes (c.eval Γ σ) fun x =>
      match x with
      | .bool true => t.exec Γ σ
      | .bool false => e.exec Γ σ
      | _ => .stuck
  | .loop body, σ => iter (fun σ' => body.exec Γ σ') Γ.fuel σ
  | .rangeStr i c s body, σ =>
    Out.ofRes (s.eval Γ σ) fun x =>
      match x with
      | .str t => iterStr Γ.decode i c (fun σ' => body.exec Γ σ') t (t.length + 1) 0 σ
      | _ => .stuck
  | .rangeVar i x v body, σ =>
    match σ v with
    | some s => (match s.len with
                 | some n => iterVar i x v (fun σ' => body.exec Γ σ') n n 0 σ
                 | none => .stuck)
    | none => .stuck
  | .brk, σ => .brk σ
  | .cont, σ => .cont σ
  | .ret es, σ => Out.ofRes (evalList Γ σ es) fun vs => .ret σ vs
  | .opaque _, _ => .stuck

/-! ## Calls -/

def bindArgs : List Val → Nat → Store → Store
  | [], _, σ => σ
  | x :: xs, i, σ => bindArgs xs (i + 1) (σ.set i x)

/-- the result of running a function: what it returns and the store at that moment -/
inductive Run where
  | ret (σ : Store) (vs : List Val)
  | panic (c : PCls)
  | stuck

/-- a body that ends without `return` returns nothing -/
def runFn (Γ : Env) (fn : Fn) (args : List Val) : Run :=
  if args.length = fn.params then
    match fn.body.exec Γ (bindArgs args 0 Store.empty) with
    | .ret σ vs => .ret σ vs
    | .next σ => .ret σ []
    | .panic c => .panic c
    | _ => .stuck
  else .stuck

def run (Γ : Env) (P : List (FnId × Fn)) (f : FnId) (args : List Val) : Run :=
  match P.lookup f with
  | some fn => runFn Γ fn args
  | none => .stuck

/-- what the caller gets back, without the store -/
def Run.vals : Run → Option (List Val)
  | .ret _ vs => some vs
  | _ => none

end QF.ST
