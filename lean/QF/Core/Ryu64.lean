import QF.Gen.Ryu
/-!
# Mirror of the Ryu core: `/repo/internal/ryu/ryu64.go` and the helpers of `ryu.go`

A statement-by-statement transcription of `float64ToDecimalExactInt`, `float64ToDecimal` and their helpers
(`mulShift64`, `shiftRight128`, `pow5Factor64`, `multipleOfPowerOfFive64`, `multipleOfPowerOfTwo64`,
`decimalLen64`, `log10Pow2`, `log10Pow5`, `pow5Bits`) as executable functions over `Nat` / `Int`.

Conventions.
* `uint64` / `uint32` values are naturals; every Go operation that can wrap is followed by an explicit
  reduction (`u64`, `u32`, `subU64`, `subU32`), so the functions compute what the machine computes also
  outside the ranges the algorithm stays in.
* `int32` values are integers. No `int32` operation of the code can overflow for `exp < 2^11`, `mant < 2^52`
  (all intermediate values are below 2^12 in magnitude); they are therefore not reduced.
* conversions `uint32(e)`, `uint64(x)`, `uint(x)` of a signed value are `toU32` / `toU64`.
* Go shifts by a count ≥ 64 give 0 (`shl64`, `shr64`).
* the multipliers are read from the tables regenerated from the source on every run
  (`QF.Gen.pow5Split64`, `QF.Gen.pow5InvSplit64`, pairs `(lo, hi)`).
* Go `assert`s and index-out-of-range panics are preconditions: the mirror returns a value there
  (table look-ups outside the table give `(0, 0)`); inside the preconditions nothing differs.
* The `for` loops run on fuel 20, which is never the reason a loop stops for 64-bit operands: every iteration divides
  a value `< 2^64 < 10^20` by at least 10 and the loop condition fails at the latest when that value is below 10. Proved in
  QF/Props/C16Core.lean and C16CoreLoops.lean (namespace `QF.Props.C16Core`): `cnt_spec` (base 10: first loop of the general case and the one-digit loop of the common case; base 100:
  the two-digit loop; the loop condition is false at the exit) and `factorCount_spec` (a loop that divides while the remainder
  is 0 stops at a non-zero remainder) for the second loop of the general case (`loopGeneral2_eq`, `vm ≠ 0`), `exactIntLoop`
  (`exactIntLoop_eq`, `d.m ≠ 0`), `pow5Factor64Loop` (`pow5Factor64Loop_eq`, fuel 28 for a non-zero value `< 2^64 < 5^28`) and
  `trailingZeros64Loop` (`trailingZeros64Loop_eq`, `bits.TrailingZeros64` looks at 64 bits).
* `step3Pos` / `step3Neg` pass `q` to `step3PosQ` / `step3NegQ` and `float64ToDecimal` is the composition of `step3`,
  `step4`: this only names intermediate values of the Go function (it keeps the kernel from re-evaluating `q` in proofs).

The replay driver (`QF/Drv/Ryu.lean`, line `FD`) compares this mirror with the implementation on every generated
float (`MIRROR-MISMATCH … op=ryudec kind=mirror`).
-/
namespace QF.Ryu64

def mantBits64 : Nat := 52
def bias64 : Nat := 1023
def pow5NumBits64 : Nat := 121
def pow5InvNumBits64 : Nat := 122

/-- the two bit-count constants are the ones of tables.go today -/
theorem numBits_tie : toString pow5NumBits64 = QF.Gen.pow5NumBits64 ∧ toString pow5InvNumBits64 = QF.Gen.pow5InvNumBits64 := by
  decide

/-! ## machine arithmetic -/

def u64 (x : Nat) : Nat := x % 2 ^ 64
def u32 (x : Nat) : Nat := x % 2 ^ 32
/-- `a - b` on `uint64` (operands `< 2^64`) -/
def subU64 (a b : Nat) : Nat := (a + 2 ^ 64 - b) % 2 ^ 64
/-- `a - b` on `uint32` (operands `< 2^32`) -/
def subU32 (a b : Nat) : Nat := (a + 2 ^ 32 - b) % 2 ^ 32
/-- `uint32(e)` of a signed value -/
def toU32 (e : Int) : Nat := (e % 2 ^ 32).toNat
/-- `uint64(e)` / `uint(e)` of a signed value -/
def toU64 (e : Int) : Nat := (e % 2 ^ 64).toNat
/-- `x << s` on `uint64` with an unsigned count -/
def shl64 (x s : Nat) : Nat := if s < 64 then (x <<< s) % 2 ^ 64 else 0
/-- `x >> s` on `uint64` with an unsigned count -/
def shr64 (x s : Nat) : Nat := if s < 64 then x >>> s else 0

def boolToNat (b : Bool) : Nat := if b then 1 else 0

/-- `bits.Mul64(x, y) = (hi, lo)` -/
def mul64 (x y : Nat) : Nat × Nat := (x * y / 2 ^ 64 % 2 ^ 64, x * y % 2 ^ 64)

/-- `bits.TrailingZeros64` (64 for 0) -/
def trailingZeros64Loop : Nat → Nat → Nat → Nat
  | 0, _, n => n
  | fuel + 1, v, n => if v % 2 == 1 then n else trailingZeros64Loop fuel (v / 2) (n + 1)
def trailingZeros64 (v : Nat) : Nat := trailingZeros64Loop 64 v 0

/-- `64 - bits.LeadingZeros64(u)`: the bit length (0 for 0) -/
def bitLen64 (u : Nat) : Nat := if u = 0 then 0 else Nat.log2 u + 1

/-- a decimal floating-point number `m · 10^e` (`dec64`) -/
structure Dec64 where
  m : Nat := 0
  e : Int := 0
  deriving Repr, DecidableEq, Inhabited

/-! ## ryu.go -/

/-- `func log10Pow2(e int32) uint32 { … return (uint32(e) * 78913) >> 18 }` (asserts `0 ≤ e ≤ 1650`) -/
def log10Pow2 (e : Int) : Nat := u32 (toU32 e * 78913) >>> 18

/-- `func log10Pow5(e int32) uint32 { … return (uint32(e) * 732923) >> 20 }` (asserts `0 ≤ e ≤ 2620`) -/
def log10Pow5 (e : Int) : Nat := u32 (toU32 e * 732923) >>> 20

/-- `func pow5Bits(e int32) int32 { … return int32((uint32(e)*1217359)>>19 + 1) }` (asserts `0 ≤ e ≤ 3528`) -/
def pow5Bits (e : Int) : Int := ((u32 (toU32 e * 1217359) >>> 19 + 1 : Nat) : Int)

/-! ## helpers of ryu64.go -/

/-- ```
func shiftRight128(v uint128, shift int32) uint64 {
	assert(shift < 64, "shift < 64")
	return (v.hi << uint64(64-shift)) | (v.lo >> uint(shift))
}
``` `v = (lo, hi)` -/
def shiftRight128 (v : Nat × Nat) (shift : Int) : Nat :=
  shl64 v.2 (toU64 (64 - shift)) ||| shr64 v.1 (toU64 shift)

/-- ```
func mulShift64(m uint64, mul uint128, shift int32) uint64 {
	hihi, hilo := bits.Mul64(m, mul.hi)
	lohi, _ := bits.Mul64(m, mul.lo)
	sum := uint128{hi: hihi, lo: lohi + hilo}
	if sum.lo < lohi {
		sum.hi++ // overflow
	}
	return shiftRight128(sum, shift-64)
}
``` `mul = (lo, hi)` -/
def mulShift64 (m : Nat) (mul : Nat × Nat) (shift : Int) : Nat :=
  let hihi := (mul64 m mul.2).1
  let hilo := (mul64 m mul.2).2
  let lohi := (mul64 m mul.1).1
  let sumlo := u64 (lohi + hilo)
  let sumhi := if sumlo < lohi then u64 (hihi + 1) else hihi
  shiftRight128 (sumlo, sumhi) (shift - 64)

/-- ```
func pow5Factor64(v uint64) uint32 {
	for n := uint32(0); ; n++ {
		q, r := v/5, v%5
		if r != 0 {
			return n
		}
		v = q
	}
}
``` (does not terminate for `v = 0`; the mirror then returns the fuel) -/
def pow5Factor64Loop : Nat → Nat → Nat → Nat
  | 0, _, n => n
  | fuel + 1, v, n => if v % 5 != 0 then n else pow5Factor64Loop fuel (v / 5) (n + 1)
def pow5Factor64 (v : Nat) : Nat := pow5Factor64Loop 28 v 0

/-- `func multipleOfPowerOfFive64(v uint64, p uint32) bool { return pow5Factor64(v) >= p }` -/
def multipleOfPowerOfFive64 (v p : Nat) : Bool := pow5Factor64 v ≥ p

/-- `func multipleOfPowerOfTwo64(v uint64, p uint32) bool { return uint32(bits.TrailingZeros64(v)) >= p }` -/
def multipleOfPowerOfTwo64 (v p : Nat) : Bool := trailingZeros64 v ≥ p

def powersOf10 : Array Nat := #[1, 10, 100, 1000, 10000, 100000, 1000000, 10000000, 100000000, 1000000000,
  10000000000, 100000000000, 1000000000000, 10000000000000, 100000000000000, 1000000000000000,
  10000000000000000, 100000000000000000]

/-- ```
func decimalLen64(u uint64) int {
	log2 := 64 - bits.LeadingZeros64(u) - 1
	t := (log2 + 1) * 1233 >> 12
	return t - boolToInt(u < powersOf10[t]) + 1
}
``` `log2 + 1` is the bit length; `t + 1 ≥ 1` so the result is computed as `t + 1 - b` in `Nat`
(the index `t` is inside the table for `u < 2^59`, outside Go panics). -/
def decimalLen64 (u : Nat) : Nat :=
  let t := (bitLen64 u * 1233) >>> 12
  t + 1 - boolToNat (u < powersOf10.getD t 0)

/-! ## float64ToDecimalExactInt -/

/-- `for d.m%10 == 0 { d.m /= 10; d.e++ }` -/
def exactIntLoop : Nat → Dec64 → Dec64
  | 0, d => d
  | fuel + 1, d => if d.m % 10 == 0 then exactIntLoop fuel { m := d.m / 10, e := d.e + 1 } else d

/-- ```
func float64ToDecimalExactInt(mant, exp uint64) (d dec64, ok bool) {
	e := exp - bias64
	if e > mantBits64 {
		return d, false
	}
	shift := mantBits64 - e
	mant |= 1 << mantBits64 // implicit 1
	d.m = mant >> shift
	if d.m<<shift != mant {
		return d, false
	}
	for d.m%10 == 0 {
		d.m /= 10
		d.e++
	}
	return d, true
}
``` -/
def float64ToDecimalExactInt (mant exp : Nat) : Dec64 × Bool :=
  let e := subU64 exp bias64
  if e > mantBits64 then (({} : Dec64), false) else
  let shift := mantBits64 - e
  let mant := mant ||| shl64 1 mantBits64
  let d : Dec64 := { m := shr64 mant shift, e := 0 }
  if shl64 d.m shift != mant then (d, false) else
  (exactIntLoop 20 d, true)

/-! ## float64ToDecimal -/

/-- Step 1 of `float64ToDecimal`: `(e2, m2)`
```
	if exp == 0 {
		e2 = 1 - bias64 - mantBits64 - 2
		m2 = mant
	} else {
		e2 = int32(exp) - bias64 - mantBits64 - 2
		m2 = uint64(1)<<mantBits64 | mant
	}
``` -/
def decodeE2 (exp : Nat) : Int :=
  if exp == 0 then 1 - (bias64 : Int) - (mantBits64 : Int) - 2 else (exp : Int) - (bias64 : Int) - (mantBits64 : Int) - 2
def decodeM2 (mant exp : Nat) : Nat :=
  if exp == 0 then mant else shl64 1 mantBits64 ||| mant

/-- `mmShift := boolToUint64(mant != 0 || exp <= 1)` -/
def mmShiftOf (mant exp : Nat) : Nat := boolToNat (mant != 0 || exp ≤ 1)
/-- `mv := 4 * m2` -/
def mvOf (m2 : Nat) : Nat := u64 (4 * m2)
/-- `4*m2 + 2` (the code's `mp`) -/
def mpOf (m2 : Nat) : Nat := u64 (u64 (4 * m2) + 2)
/-- `4*m2 - 1 - mmShift` (the code's `mm`) -/
def mmOf (m2 mmShift : Nat) : Nat := subU64 (subU64 (u64 (4 * m2)) 1) mmShift

/-- the variables alive after step 3 -/
structure Step3 where
  vr : Nat
  vp : Nat
  vm : Nat
  e10 : Int
  vmIsTrailingZeros : Bool := false
  vrIsTrailingZeros : Bool := false
  deriving Repr, DecidableEq, Inhabited

/-- Step 3, branch `e2 >= 0` (the first line, `q := …`, is in `step3Pos` below)
```
		q := log10Pow2(e2) - boolToUint32(e2 > 3)
		e10 = int32(q)
		k := pow5InvNumBits64 + pow5Bits(int32(q)) - 1
		i := -e2 + int32(q) + k
		mul := pow5InvSplit64[q]
		vr = mulShift64(4*m2, mul, i)
		vp = mulShift64(4*m2+2, mul, i)
		vm = mulShift64(4*m2-1-mmShift, mul, i)
		if q <= 21 {
			if mv%5 == 0 {
				vrIsTrailingZeros = multipleOfPowerOfFive64(mv, q)
			} else if acceptBounds {
				vmIsTrailingZeros = multipleOfPowerOfFive64(mv-1-mmShift, q)
			} else if multipleOfPowerOfFive64(mv+2, q) {
				vp--
			}
		}
``` -/
def step3PosQ (q : Nat) (e2 : Int) (m2 mmShift : Nat) (acceptBounds : Bool) : Step3 :=
  let mv := mvOf m2
  let e10 : Int := (q : Int)
  let k : Int := (pow5InvNumBits64 : Int) + pow5Bits (q : Int) - 1
  let i : Int := -e2 + (q : Int) + k
  let mul := QF.Gen.pow5InvSplit64.getD q (0, 0)
  let vr := mulShift64 (mvOf m2) mul i
  let vp := mulShift64 (mpOf m2) mul i
  let vm := mulShift64 (mmOf m2 mmShift) mul i
  if q ≤ 21 then
    if mv % 5 == 0 then
      { vr, vp, vm, e10, vrIsTrailingZeros := multipleOfPowerOfFive64 mv q }
    else if acceptBounds then
      { vr, vp, vm, e10, vmIsTrailingZeros := multipleOfPowerOfFive64 (subU64 (subU64 mv 1) mmShift) q }
    else if multipleOfPowerOfFive64 (u64 (mv + 2)) q then
      { vr, vp := subU64 vp 1, vm, e10 }
    else { vr, vp, vm, e10 }
  else { vr, vp, vm, e10 }

/-- `q := log10Pow2(e2) - boolToUint32(e2 > 3)`, then the rest of the branch (`step3PosQ`; the split into two functions
only names the `let q`) -/
def step3Pos (e2 : Int) (m2 mmShift : Nat) (acceptBounds : Bool) : Step3 :=
  step3PosQ (subU32 (log10Pow2 e2) (boolToNat (e2 > 3))) e2 m2 mmShift acceptBounds

/-- Step 3, branch `e2 < 0` (the first line, `q := …`, is in `step3Neg` below)
```
		q := log10Pow5(-e2) - boolToUint32(-e2 > 1)
		e10 = int32(q) + e2
		i := -e2 - int32(q)
		k := pow5Bits(i) - pow5NumBits64
		j := int32(q) - k
		mul := pow5Split64[i]
		vr = mulShift64(4*m2, mul, j)
		vp = mulShift64(4*m2+2, mul, j)
		vm = mulShift64(4*m2-1-mmShift, mul, j)
		if q <= 1 {
			vrIsTrailingZeros = true
			if acceptBounds {
				vmIsTrailingZeros = mmShift == 1
			} else {
				vp--
			}
		} else if q < 63 {
			vrIsTrailingZeros = multipleOfPowerOfTwo64(mv, q-1)
		}
``` -/
def step3NegQ (q : Nat) (e2 : Int) (m2 mmShift : Nat) (acceptBounds : Bool) : Step3 :=
  let mv := mvOf m2
  let e10 : Int := (q : Int) + e2
  let i : Int := -e2 - (q : Int)
  let k : Int := pow5Bits i - (pow5NumBits64 : Int)
  let j : Int := (q : Int) - k
  let mul := QF.Gen.pow5Split64.getD i.toNat (0, 0)
  let vr := mulShift64 (mvOf m2) mul j
  let vp := mulShift64 (mpOf m2) mul j
  let vm := mulShift64 (mmOf m2 mmShift) mul j
  if q ≤ 1 then
    if acceptBounds then
      { vr, vp, vm, e10, vrIsTrailingZeros := true, vmIsTrailingZeros := mmShift == 1 }
    else
      { vr, vp := subU64 vp 1, vm, e10, vrIsTrailingZeros := true }
  else if q < 63 then
    { vr, vp, vm, e10, vrIsTrailingZeros := multipleOfPowerOfTwo64 mv (subU32 q 1) }
  else { vr, vp, vm, e10 }

/-- `q := log10Pow5(-e2) - boolToUint32(-e2 > 1)`, then the rest of the branch (`step3NegQ`) -/
def step3Neg (e2 : Int) (m2 mmShift : Nat) (acceptBounds : Bool) : Step3 :=
  step3NegQ (subU32 (log10Pow5 (-e2)) (boolToNat (-e2 > 1))) e2 m2 mmShift acceptBounds

/-- the variables of step 4's general case -/
structure Gen where
  vr : Nat
  vp : Nat
  vm : Nat
  removed : Int := 0
  lastRemovedDigit : Nat := 0
  vmIsTrailingZeros : Bool
  vrIsTrailingZeros : Bool
  deriving Repr, DecidableEq, Inhabited

/-- ```
			for {
				vpDiv10 := vp / 10
				vmDiv10 := vm / 10
				if vpDiv10 <= vmDiv10 {
					break
				}
				vmMod10 := vm % 10
				vrDiv10 := vr / 10
				vrMod10 := vr % 10
				vmIsTrailingZeros = vmIsTrailingZeros && vmMod10 == 0
				vrIsTrailingZeros = vrIsTrailingZeros && lastRemovedDigit == 0
				lastRemovedDigit = uint8(vrMod10)
				vr = vrDiv10
				vp = vpDiv10
				vm = vmDiv10
				removed++
			}
``` -/
def loopGeneral1 : Nat → Gen → Gen
  | 0, s => s
  | fuel + 1, s =>
    let vpDiv10 := s.vp / 10
    let vmDiv10 := s.vm / 10
    if vpDiv10 ≤ vmDiv10 then s else
    let vmMod10 := s.vm % 10
    let vrDiv10 := s.vr / 10
    let vrMod10 := s.vr % 10
    loopGeneral1 fuel
      { vmIsTrailingZeros := s.vmIsTrailingZeros && vmMod10 == 0
        vrIsTrailingZeros := s.vrIsTrailingZeros && s.lastRemovedDigit == 0
        lastRemovedDigit := vrMod10
        vr := vrDiv10
        vp := vpDiv10
        vm := vmDiv10
        removed := s.removed + 1 }

/-- ```
				for {
					vmDiv10 := vm / 10
					vmMod10 := vm % 10
					if vmMod10 != 0 {
						break
					}
					vpDiv10 := vp / 10
					vrDiv10 := vr / 10
					vrMod10 := vr % 10
					vrIsTrailingZeros = vrIsTrailingZeros && lastRemovedDigit == 0
					lastRemovedDigit = uint8(vrMod10)
					vr = vrDiv10
					vp = vpDiv10
					vm = vmDiv10
					removed++
				}
``` (does not terminate for `vm = 0`; the mirror then stops when the fuel is used up) -/
def loopGeneral2 : Nat → Gen → Gen
  | 0, s => s
  | fuel + 1, s =>
    let vmDiv10 := s.vm / 10
    let vmMod10 := s.vm % 10
    if vmMod10 != 0 then s else
    let vpDiv10 := s.vp / 10
    let vrDiv10 := s.vr / 10
    let vrMod10 := s.vr % 10
    loopGeneral2 fuel
      { vmIsTrailingZeros := s.vmIsTrailingZeros
        vrIsTrailingZeros := s.vrIsTrailingZeros && s.lastRemovedDigit == 0
        lastRemovedDigit := vrMod10
        vr := vrDiv10
        vp := vpDiv10
        vm := vmDiv10
        removed := s.removed + 1 }

/-- Step 4, general case (`if vmIsTrailingZeros || vrIsTrailingZeros { … }`): `(out, removed)`
```
			if vmIsTrailingZeros { for { … } }
			if vrIsTrailingZeros && lastRemovedDigit == 5 && vr%2 == 0 {
				lastRemovedDigit = 4
			}
			out = vr
			if (vr == vm && (!acceptBounds || !vmIsTrailingZeros)) || lastRemovedDigit >= 5 {
				out++
			}
``` -/
def step4General (s3 : Step3) (acceptBounds : Bool) : Nat × Int :=
  let s : Gen := { vr := s3.vr, vp := s3.vp, vm := s3.vm,
                   vmIsTrailingZeros := s3.vmIsTrailingZeros, vrIsTrailingZeros := s3.vrIsTrailingZeros }
  let s := loopGeneral1 20 s
  let s := if s.vmIsTrailingZeros then loopGeneral2 20 s else s
  let lastRemovedDigit :=
    if s.vrIsTrailingZeros && s.lastRemovedDigit == 5 && s.vr % 2 == 0 then 4 else s.lastRemovedDigit
  let out := s.vr
  let out :=
    if (s.vr == s.vm && (!acceptBounds || !s.vmIsTrailingZeros)) || lastRemovedDigit ≥ 5 then u64 (out + 1) else out
  (out, s.removed)

/-- the variables of step 4's common case -/
structure Com where
  vr : Nat
  vp : Nat
  vm : Nat
  removed : Int := 0
  roundUp : Bool := false
  deriving Repr, DecidableEq, Inhabited

/-- ```
			for vp/100 > vm/100 {
				roundUp = vr%100 >= 50
				vr /= 100
				vp /= 100
				vm /= 100
				removed += 2
			}
``` -/
def loopCommon100 : Nat → Com → Com
  | 0, s => s
  | fuel + 1, s =>
    if s.vp / 100 > s.vm / 100 then
      loopCommon100 fuel { roundUp := s.vr % 100 ≥ 50, vr := s.vr / 100, vp := s.vp / 100, vm := s.vm / 100, removed := s.removed + 2 }
    else s

/-- ```
			for vp/10 > vm/10 {
				roundUp = vr%10 >= 5
				vr /= 10
				vp /= 10
				vm /= 10
				removed++
			}
``` -/
def loopCommon10 : Nat → Com → Com
  | 0, s => s
  | fuel + 1, s =>
    if s.vp / 10 > s.vm / 10 then
      loopCommon10 fuel { roundUp := s.vr % 10 ≥ 5, vr := s.vr / 10, vp := s.vp / 10, vm := s.vm / 10, removed := s.removed + 1 }
    else s

/-- Step 4, common case: `(out, removed)`; `out = vr + boolToUint64(vr == vm || roundUp)` -/
def step4Common (s3 : Step3) : Nat × Int :=
  let s : Com := { vr := s3.vr, vp := s3.vp, vm := s3.vm }
  let s := loopCommon100 20 s
  let s := loopCommon10 20 s
  (u64 (s.vr + boolToNat (s.vr == s.vm || s.roundUp)), s.removed)

/-- `even := m2&1 == 0; acceptBounds := even` -/
def acceptBoundsOf (mant exp : Nat) : Bool := decodeM2 mant exp &&& 1 == 0

/-- Step 3 (`if e2 >= 0 { … } else { … }`) on the values of steps 1 and 2 -/
def step3 (mant exp : Nat) : Step3 :=
  let e2 := decodeE2 exp
  let m2 := decodeM2 mant exp
  let acceptBounds := acceptBoundsOf mant exp
  let mmShift := mmShiftOf mant exp
  if e2 ≥ 0 then step3Pos e2 m2 mmShift acceptBounds else step3Neg e2 m2 mmShift acceptBounds

/-- Step 4 (`if vmIsTrailingZeros || vrIsTrailingZeros { general case } else { common case }`): `(out, removed)` -/
def step4 (s3 : Step3) (acceptBounds : Bool) : Nat × Int :=
  if s3.vmIsTrailingZeros || s3.vrIsTrailingZeros then step4General s3 acceptBounds else step4Common s3

/-- `func float64ToDecimal(mant, exp uint64) dec64`: steps 1–3, step 4, `return dec64{m: out, e: e10 + removed}` -/
def float64ToDecimal (mant exp : Nat) : Dec64 :=
  let s3 := step3 mant exp
  let r := step4 s3 (acceptBoundsOf mant exp)
  { m := r.1, e := s3.e10 + r.2 }

/-- what the hook `VerifDecimal` (and `AppendFloat64f`) computes: the fast path, else the general algorithm -/
def decimal (mant exp : Nat) : Nat × Int × Bool :=
  let r := float64ToDecimalExactInt mant exp
  let d := if r.2 then r.1 else float64ToDecimal mant exp
  (d.m, d.e, r.2)

end QF.Ryu64
