import QF.Spec.Basic
/-!
# Bit-level facts about `F64.key` and `F64.isNaN`

`F64.key` (QF/Spec/Basic.lean) orders the non-NaN floats; it identifies exactly +0.0 and -0.0. Used by the proofs about
the row hashes (C04Hash: cells that compare equal have the same canonical bits) and about `math.Max` / `math.Min`
(C04Aggregations: `x > y` and `key x ≥ key y` pick the same bits). `isNaN_iff` reads `F64.isNaN` on the exponent and
fraction fields as numbers (C14RoundTrip: a float that is neither NaN nor an infinity decodes).
-/
namespace QF.F64

theorem mag_toNat (a : UInt64) : (a &&& 0x7fffffffffffffff).toNat = a.toNat % 2 ^ 63 := by
  rw [UInt64.toNat_and]
  exact Nat.and_two_pow_sub_one_eq_mod a.toNat 63

/-- a bit field of width `w` at position `j`, masked in place -/
theorem and_field (n w j : Nat) : n &&& (2 ^ w - 1) * 2 ^ j = 2 ^ j * (n / 2 ^ j % 2 ^ w) := by
  have h1 : (n &&& (2 ^ w - 1) * 2 ^ j) / 2 ^ j = n / 2 ^ j % 2 ^ w := by
    rw [Nat.and_div_two_pow, Nat.mul_div_cancel _ (Nat.two_pow_pos j)]
    exact Nat.and_two_pow_sub_one_eq_mod _ w
  have h2 : (n &&& (2 ^ w - 1) * 2 ^ j) % 2 ^ j = 0 := by
    rw [Nat.and_mod_two_pow, Nat.mul_mod_left, Nat.and_zero]
  rw [← h1]
  have := Nat.div_add_mod (n &&& (2 ^ w - 1) * 2 ^ j) (2 ^ j)
  omega

theorem signAnd_toNat (a : UInt64) : (a &&& signBit).toNat = 2 ^ 63 * (a.toNat / 2 ^ 63 % 2) := by
  rw [UInt64.toNat_and]
  exact and_field a.toNat 1 63

theorem sign_iff (a : UInt64) : sign a = decide (2 ^ 63 ≤ a.toNat) := by
  have h := signAnd_toNat a
  have hl := UInt64.toNat_lt a
  unfold sign
  by_cases hz : (a &&& signBit) = 0
  · have : (a &&& signBit).toNat = 0 := by rw [hz]; rfl
    have : ¬ 2 ^ 63 ≤ a.toNat := by omega
    simp [hz, this]
  · have : (a &&& signBit).toNat ≠ 0 := fun h0 => hz (UInt64.toNat_inj.1 (by rw [h0]; rfl))
    have : 2 ^ 63 ≤ a.toNat := by omega
    simp [hz, this]

/-- the order key determines a float that is not a zero -/
theorem key_inj {a b : UInt64} (h : key a = key b) (h0 : key a ≠ 0) : a = b := by
  have ha := UInt64.toNat_lt a
  have hb := UInt64.toNat_lt b
  apply UInt64.toNat_inj.1
  unfold key at h h0
  simp only [mag_toNat, sign_iff] at h h0
  by_cases sa : 2 ^ 63 ≤ a.toNat <;> by_cases sb : 2 ^ 63 ≤ b.toNat <;> simp [sa, sb] at h h0 <;> omega

theorem key_zero : key 0 = 0 := by decide

theorem expAnd_toNat (a : UInt64) : (a &&& expMask).toNat = 2 ^ 52 * (a.toNat / 2 ^ 52 % 2048) := by
  rw [UInt64.toNat_and]
  exact and_field a.toNat 11 52

theorem manAnd_toNat (a : UInt64) : (a &&& manMask).toNat = a.toNat % 2 ^ 52 := by
  rw [UInt64.toNat_and]
  exact Nat.and_two_pow_sub_one_eq_mod a.toNat 52

/-- NaN, read on the number: exponent field all ones, fraction not zero -/
theorem isNaN_iff (b : UInt64) : isNaN b = true ↔ b.toNat / 2 ^ 52 % 2048 = 2047 ∧ b.toNat % 2 ^ 52 ≠ 0 := by
  unfold isNaN
  rw [Bool.and_eq_true, beq_iff_eq, bne_iff_ne, ← UInt64.toNat_inj, Ne, ← UInt64.toNat_inj, expAnd_toNat, manAnd_toNat,
    show expMask.toNat = 2 ^ 52 * 2047 from by decide, Nat.mul_left_cancel_iff (Nat.two_pow_pos 52)]
  rfl

end QF.F64
