import QF.Spec.Basic
/-!
# ME — the language of `NewMatcher` (internal/strings/match.go) and of the `Matches` methods, and its Go semantics

    func NewMatcher(comparatee string, caseSensitive bool) (Matcher, error)
    func (m *XMatcher) Matches(s string) bool

The extractor (go/cmd/extract/mast.go) executes the body of `NewMatcher` symbolically and writes it, on every run, as a
decision tree `MT` to `QF/Gen/Matcher.lean`:

* the string parameter is re-assigned on the way; every string local is a term `SE` over the ORIGINAL parameter
  (`"^" + comparatee` → `cat (lit "^") param`, `comparatee[1:]` → `dropFirst`, `comparatee[:len(comparatee)-1]` →
  `dropLast`, `strings.ToUpper` → `upper`, `strings.TrimPrefix / TrimSuffix` → `trimPrefix / trimSuffix`; helpers of the
  package that only compute a string — `trimPercent` — are executed on the symbolic value, not named);
* a bool local is the condition `MC` it was initialised with, i.e. over the value the string had AT THAT POINT
  (`fuzzyStart := strings.HasPrefix(comparatee, "%")` before any re-assignment → `hasPrefix param "%"`);
* a leaf is `return &T{…}, nil`: the matcher type `T` is not named — the leaf carries the translated body `MB` of
  `T`'s `Matches` method and the value of the field that `Matches` reads (by type: the `string` field is the match
  string, `[]byte` the scratch buffer of the package's `ToUpper(*[]byte, string)`, `*regexp.Regexp` the compiled
  expression) — or the regular-expression leaf `r, err := regexp.Compile(src); if err != nil { return nil, … };
  return &T{r}, nil`.

Everything is named by ROLE; whatever is not understood becomes `.opaque "<text>"`, which has no meaning (`stuck`).

`MEnv` holds the three library functions the code calls and this model does not define: `strings.ToUpper`, the package's
own `ToUpper(&buf, ·)` (mirrored and proved equal to the former in QF/Core/Upper.lean, for every buffer size — which is
why the size of the `make([]byte, n)` buffer is not part of a term) and `regexp.QuoteMeta(s) != s`.
Slicing out of range panics: `SE.eval` is `none`.
-/
namespace QF

/-- string terms over the original parameter of `NewMatcher` -/
inductive SE where
  | param
  | lit (b : Bytes)
  /-- `a + b` -/
  | cat (a b : SE)
  /-- `a[1:]` -/
  | dropFirst (a : SE)
  /-- `a[:len(a)-1]` -/
  | dropLast (a : SE)
  /-- `strings.ToUpper(a)` -/
  | upper (a : SE)
  /-- `strings.TrimPrefix(a, l)` -/
  | trimPrefix (a : SE) (l : Bytes)
  /-- `strings.TrimSuffix(a, l)` -/
  | trimSuffix (a : SE) (l : Bytes)
  | opaque (txt : String)
  deriving DecidableEq, Repr, Inhabited

/-- conditions of `NewMatcher` -/
inductive MC where
  /-- `strings.HasPrefix(a, l)` -/
  | hasPrefix (a : SE) (l : Bytes)
  /-- `strings.HasSuffix(a, l)` -/
  | hasSuffix (a : SE) (l : Bytes)
  /-- `regexp.QuoteMeta(a) != a` -/
  | quoteMetaNe (a : SE)
  /-- the bool parameter -/
  | caseSensitive
  | not (c : MC)
  | and (a b : MC)
  | or (a b : MC)
  | opaque (txt : String)
  deriving DecidableEq, Repr, Inhabited

/-- operands of a `Matches` body -/
inductive MO where
  /-- the parameter `s` -/
  | cell
  /-- the `string` field of the receiver -/
  | matchString
  /-- `ToUpper(&m.<[]byte field>, s)`: the package's own upper-casing of the cell -/
  | upperCell
  | opaque (txt : String)
  deriving DecidableEq, Repr, Inhabited

/-- bodies `return <e>` of the `Matches` methods -/
inductive MB where
  /-- `strings.HasPrefix(x, y)` -/
  | hasPrefix (x y : MO)
  /-- `strings.HasSuffix(x, y)` -/
  | hasSuffix (x y : MO)
  /-- `strings.Contains(x, y)` -/
  | contains (x y : MO)
  /-- `x == y` (the extractor puts the cell side first) -/
  | eq (x y : MO)
  /-- `m.<*regexp.Regexp field>.MatchString(x)` -/
  | regexpMatch (x : MO)
  | opaque (txt : String)
  deriving DecidableEq, Repr, Inhabited

/-- the decision tree of `NewMatcher` -/
inductive MT where
  | ite (c : MC) (t e : MT)
  /-- `r, err := regexp.Compile(src); if err != nil { return nil, <err> }; return &T{<regexp field>: r}, nil`; `body`:
  `T.Matches` -/
  | regexp (src : SE) (body : MB)
  /-- `return &T{<string field>: ms, [<[]byte field>: make([]byte, n)]}, nil`; `body`: `T.Matches` -/
  | mk (body : MB) (ms : SE)
  | opaque (txt : String)
  deriving DecidableEq, Repr, Inhabited

structure MEnv where
  /-- `strings.ToUpper` -/
  toUpperStd : Bytes → Bytes
  /-- the package's `ToUpper(&buf, ·)` -/
  toUpperBuf : Bytes → Bytes
  /-- `regexp.QuoteMeta(s) != s` -/
  quoteMetaNe : Bytes → Bool

/-- `strings.Contains(s, p)` -/
def infixB (p : Bytes) : Bytes → Bool
  | [] => p.isPrefixOf []
  | a :: t => p.isPrefixOf (a :: t) || infixB p t

/-- `strings.TrimPrefix(a, l)` -/
def trimPrefixB (a l : Bytes) : Bytes := if l.isPrefixOf a then a.drop l.length else a

/-- `strings.TrimSuffix(a, l)` -/
def trimSuffixB (a l : Bytes) : Bytes := if l.isSuffixOf a then a.take (a.length - l.length) else a

/-- the value of a string term; `none`: a slice out of range (panic) or an untranslated part -/
def SE.eval (E : MEnv) (pat : Bytes) : SE → Option Bytes
  | .param => some pat
  | .lit b => some b
  | .cat a b =>
    match a.eval E pat, b.eval E pat with
    | some x, some y => some (x ++ y)
    | _, _ => none
  | .dropFirst a =>
    match a.eval E pat with
    | some (_ :: t) => some t
    | _ => none
  | .dropLast a =>
    match a.eval E pat with
    | some [] => none
    | some x => some x.dropLast
    | none => none
  | .upper a => (a.eval E pat).map E.toUpperStd
  | .trimPrefix a l => (a.eval E pat).map (trimPrefixB · l)
  | .trimSuffix a l => (a.eval E pat).map (trimSuffixB · l)
  | .opaque _ => none

def MC.eval (E : MEnv) (pat : Bytes) (cs : Bool) : MC → Option Bool
  | .hasPrefix a l => (a.eval E pat).map (fun x => l.isPrefixOf x)
  | .hasSuffix a l => (a.eval E pat).map (fun x => l.isSuffixOf x)
  | .quoteMetaNe a => (a.eval E pat).map E.quoteMetaNe
  | .caseSensitive => some cs
  | .not c => (c.eval E pat cs).map (!·)
  | .and a b =>
    -- Go's && does not evaluate b when a is false
    match a.eval E pat cs with
    | some true => b.eval E pat cs
    | r => r
  | .or a b =>
    match a.eval E pat cs with
    | some false => b.eval E pat cs
    | r => r
  | .opaque _ => none

/-- what `NewMatcher` returns -/
inductive MOut where
  /-- the matcher of the compiled regular expression `src`, or the error of `regexp.Compile(src)` -/
  | regexp (src : Bytes) (body : MB)
  /-- a matcher with `Matches` body `body` and match string `ms` -/
  | mk (body : MB) (ms : Bytes)
  /-- a panic, or an untranslated part -/
  | stuck
  deriving DecidableEq, Repr, Inhabited

def MT.run (E : MEnv) (pat : Bytes) (cs : Bool) : MT → MOut
  | .ite c t e =>
    match c.eval E pat cs with
    | some true => t.run E pat cs
    | some false => e.run E pat cs
    | none => .stuck
  | .regexp src body =>
    match src.eval E pat with
    | some s => .regexp s body
    | none => .stuck
  | .mk body ms =>
    match ms.eval E pat with
    | some m => .mk body m
    | none => .stuck
  | .opaque _ => .stuck

def MO.eval (E : MEnv) (ms cell : Bytes) : MO → Option Bytes
  | .cell => some cell
  | .matchString => some ms
  | .upperCell => some (E.toUpperBuf cell)
  | .opaque _ => none

/-- `m.Matches(cell)` for a matcher with match string `ms`; `none`: no meaning in this model (regular expressions,
untranslated parts) -/
def MB.eval (E : MEnv) (ms cell : Bytes) : MB → Option Bool
  | .hasPrefix x y =>
    match x.eval E ms cell, y.eval E ms cell with
    | some a, some b => some (b.isPrefixOf a)
    | _, _ => none
  | .hasSuffix x y =>
    match x.eval E ms cell, y.eval E ms cell with
    | some a, some b => some (b.isSuffixOf a)
    | _, _ => none
  | .contains x y =>
    match x.eval E ms cell, y.eval E ms cell with
    | some a, some b => some (infixB b a)
    | _, _ => none
  | .eq x y =>
    match x.eval E ms cell, y.eval E ms cell with
    | some a, some b => some (a == b)
    | _, _ => none
  | .regexpMatch _ => none
  | .opaque _ => none

/-- `m, _ := NewMatcher(pat, cs); m.Matches(cell)` for the string matchers -/
def MT.matches (E : MEnv) (t : MT) (pat : Bytes) (cs : Bool) (cell : Bytes) : Option Bool :=
  match t.run E pat cs with
  | .mk body ms => body.eval E ms cell
  | _ => none

/-! ## Flattening: the leaf reached for given answers of the four tests `NewMatcher` may make on its parameters -/

/-- the answers: does the parameter start / end with "%", does it contain metacharacters, the bool parameter -/
structure MFlags where
  fs : Bool
  fe : Bool
  hasMeta : Bool
  cs : Bool
  deriving DecidableEq, Repr

def pct : Bytes := [37]

/-- a condition as a function of the flags; `none`: it is not one of the four tests on the ORIGINAL parameter -/
def MC.abs (F : MFlags) : MC → Option Bool
  | .hasPrefix .param l => if l = pct then some F.fs else none
  | .hasSuffix .param l => if l = pct then some F.fe else none
  | .quoteMetaNe .param => some F.hasMeta
  | .caseSensitive => some F.cs
  | .not c => (c.abs F).map (!·)
  | .and a b =>
    match a.abs F with
    | some true => b.abs F
    | r => r
  | .or a b =>
    match a.abs F with
    | some false => b.abs F
    | r => r
  | _ => none

/-- the leaf of the tree for these flags -/
def MT.flatten (F : MFlags) : MT → Option MT
  | .ite c t e =>
    match c.abs F with
    | some true => t.flatten F
    | some false => e.flatten F
    | none => none
  | .opaque _ => none
  | l => some l

def MFlags.all : List MFlags :=
  [true, false].flatMap fun a => [true, false].flatMap fun b => [true, false].flatMap fun c => [true, false].map fun d => ⟨a, b, c, d⟩

/-- the flags of an actual call -/
def MFlags.of (E : MEnv) (pat : Bytes) (cs : Bool) : MFlags :=
  ⟨pct.isPrefixOf pat, pct.isSuffixOf pat, E.quoteMetaNe pat, cs⟩

theorem MFlags.mem_all (F : MFlags) : F ∈ MFlags.all := by
  obtain ⟨a, b, c, d⟩ := F
  cases a <;> cases b <;> cases c <;> cases d <;> decide

/-- By the equations of `MC.abs`, in their order: the four tests on the parameter (1, 3, 5, 6: the flag is the value of the
condition; 2, 4: another literal, no abstraction), `not`, `and` / `or` with the first operand deciding (9, 11) or not (8, 10),
anything else (12). -/
theorem MC.abs_sound (E : MEnv) (pat : Bytes) (cs : Bool) (c : MC) :
    ∀ v, c.abs (MFlags.of E pat cs) = some v → c.eval E pat cs = some v := by
  fun_induction MC.abs (MFlags.of E pat cs) c with
  | case1 | case3 | case5 | case6 => exact fun v h => h
  | case2 | case4 | case12 => exact fun v h => nomatch h
  | case7 c ih =>
    intro v h
    obtain ⟨w, hw, rfl⟩ := Option.map_eq_some_iff.1 h
    simp only [MC.eval, ih w hw, Option.map_some]
  | case8 a b ha iha ihb => exact fun v h => by simp only [MC.eval, iha _ ha]; exact ihb v h
  | case9 a b ha iha =>
    intro v h
    simp only [MC.eval, iha v h]
    cases v
    · rfl
    · exact absurd h ha
  | case10 a b ha iha ihb => exact fun v h => by simp only [MC.eval, iha _ ha]; exact ihb v h
  | case11 a b ha iha =>
    intro v h
    simp only [MC.eval, iha v h]
    cases v
    · exact absurd h ha
    · rfl

/-- running the tree is running the leaf that `flatten` finds for the flags of the call -/
theorem MT.run_flatten (E : MEnv) (pat : Bytes) (cs : Bool) (t : MT) :
    ∀ l, t.flatten (MFlags.of E pat cs) = some l → t.run E pat cs = l.run E pat cs := by
  fun_induction MT.flatten (MFlags.of E pat cs) t with
  | case1 c t e hc ih => exact fun l h => by simp only [MT.run, MC.abs_sound E pat cs c _ hc]; exact ih l h
  | case2 c t e hc ih => exact fun l h => by simp only [MT.run, MC.abs_sound E pat cs c _ hc]; exact ih l h
  | case3 | case4 => exact fun l h => nomatch h
  | case5 => exact fun l h => by rw [← Option.some.inj h]

end QF
