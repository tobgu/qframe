import QF.Core.Heap
/-! C11: threads of `H.Prog` stepped under an arbitrary schedule, each with its private allocations above `base`. With own writes the shared store is never written and every thread is where it would be running alone. -/
namespace H

structure Thread (α : Type) where
  prog : Prog α
  priv : Store := []          -- arrays allocated by this thread; global id = base + position

def stepT {α} (base : Nat) (shared : Store) (t : Thread α) : Option (Thread α × Store × Ev) :=
  match t.prog with
  | .ret _ => none
  | .alloc init k => some ({ prog := k (base + t.priv.length), priv := t.priv ++ [init] }, shared, .alloc (base + t.priv.length))
  | .read id k =>
      let v := if id < base then shared.getD id [] else t.priv.getD (id - base) []
      some ({ t with prog := k v }, shared, .read id)
  | .write id v k =>
      if id < base then some ({ t with prog := k }, shared.set id v, .write id)
      else some ({ t with prog := k, priv := t.priv.set (id - base) v }, shared, .write id)

/-- run a schedule (list of thread indices); a step of a finished or missing thread is a no-op -/
def runSched {α} (base : Nat) : List Nat → Store → List (Thread α) → Store × List (Thread α) × List (Nat × Ev)
  | [], sh, ts => (sh, ts, [])
  | i :: σ, sh, ts =>
    match ts[i]? with
    | none => runSched base σ sh ts
    | some t =>
      match stepT base sh t with
      | none => runSched base σ sh ts
      | some (t', sh', ev) =>
        let r := runSched base σ sh' (ts.set i t')
        (r.1, r.2.1, (i, ev) :: r.2.2)

/-- thread run alone for n steps against a fixed shared store -/
def alone {α} (base : Nat) (sh : Store) : Nat → Thread α → Thread α
  | 0, t => t
  | n + 1, t => match stepT base sh t with
    | none => t
    | some (t', _, _) => alone base sh n t'

theorem step_own {α} (base : Nat) (sh : Store) (t t' : Thread α) (sh' : Store) (ev : Ev)
    (h : t.prog.OwnWrites base) (hs : stepT base sh t = some (t', sh', ev)) :
    sh' = sh ∧ t'.prog.OwnWrites base ∧ (∀ id, ev = .write id → base ≤ id) := by
  unfold stepT at hs
  cases hp : t.prog with
  | ret a => rw [hp] at hs; simp at hs
  | alloc init k =>
    rw [hp] at hs h; simp only [Option.some.injEq, Prod.mk.injEq] at hs
    obtain ⟨rfl, rfl, rfl⟩ := hs
    exact ⟨rfl, h _ (by omega), by intro id e; cases e⟩
  | read id k =>
    rw [hp] at hs h; simp only [Option.some.injEq, Prod.mk.injEq] at hs
    obtain ⟨rfl, rfl, rfl⟩ := hs
    exact ⟨rfl, h _, by intro id e; cases e⟩
  | write id v k =>
    rw [hp] at hs h
    obtain ⟨hb, hk⟩ := h
    have : ¬ id < base := Nat.not_lt.mpr hb
    simp only [this, ↓reduceIte, Option.some.injEq, Prod.mk.injEq] at hs
    obtain ⟨rfl, rfl, rfl⟩ := hs
    exact ⟨rfl, hk, by intro id' e; cases e; exact hb⟩

def count (i : Nat) (σ : List Nat) : Nat := (σ.filter (· == i)).length

theorem count_cons (i j : Nat) (σ : List Nat) : count i (j :: σ) = if j = i then count i σ + 1 else count i σ := by
  simp only [count, List.filter_cons, beq_iff_eq]
  split <;> rfl

/-- a finished thread stays where it is -/
theorem alone_done {α} (base : Nat) (sh : Store) (t : Thread α) (h : stepT base sh t = none) (n : Nat) :
    alone base sh n t = t := by
  cases n <;> simp [alone, h]

/-- C11: for every schedule, the shared region is never written (hence no write/any conflict on a shared
    array is possible), and every thread is exactly where it would be after the same number of its own
    steps run alone. -/
theorem interleaving_deterministic {α} (base : Nat) (σ : List Nat) (sh : Store) (ts : List (Thread α))
    (h : ∀ t ∈ ts, t.prog.OwnWrites base) :
    (runSched base σ sh ts).1 = sh ∧
    (∀ i t, ts[i]? = some t → (runSched base σ sh ts).2.1[i]? = some (alone base sh (count i σ) t)) ∧
    (∀ i id, (i, Ev.write id) ∈ (runSched base σ sh ts).2.2 → base ≤ id) := by
  induction σ generalizing ts with
  | nil => simp [runSched, count, alone]
  | cons j σ ih =>
    simp only [runSched]
    cases hj : ts[j]? with
    | none =>
      simp only
      obtain ⟨a, b, c⟩ := ih ts h
      refine ⟨a, fun i t hi => ?_, c⟩
      have e : j ≠ i := fun e => by rw [e, hi] at hj; cases hj
      rw [count_cons, if_neg e]; exact b i t hi
    | some tj =>
      simp only
      cases hst : stepT base sh tj with
      | none =>
        simp only
        obtain ⟨a, b, c⟩ := ih ts h
        refine ⟨a, fun i t hi => ?_, c⟩
        rw [b i t hi, count_cons]
        split
        · rename_i e; subst e
          rw [hj] at hi; cases hi
          rw [alone_done base sh tj hst, alone_done base sh tj hst]
        · rfl
      | some r =>
        obtain ⟨t', sh', ev⟩ := r
        simp only
        obtain ⟨e1, e2, e3⟩ := step_own base sh tj t' sh' ev (h tj (List.mem_of_getElem? hj)) hst
        subst e1
        have h' : ∀ t ∈ ts.set j t', t.prog.OwnWrites base := by
          intro t ht
          rcases List.mem_or_eq_of_mem_set ht with ht | rfl
          · exact h t ht
          · exact e2
        obtain ⟨a, b, c⟩ := ih (ts.set j t') h'
        refine ⟨a, fun i t hi => ?_, ?_⟩
        · rw [count_cons]
          split
          · rename_i e; subst e
            rw [hj] at hi; cases hi
            rw [b j t' (by rw [List.getElem?_set_self (List.getElem?_eq_some_iff.mp hj).1])]
            simp [alone, hst]
          · rename_i e
            exact b i t (by rw [List.getElem?_set_ne e]; exact hi)
        · intro i id hm
          simp only [List.mem_cons, Prod.mk.injEq] at hm
          rcases hm with ⟨_, rfl⟩ | hm
          · exact e3 id rfl
          · exact c i id hm

/-- the hypothesis of `interleaving_deterministic` for threads started from a family of programs each of which owns its writes -/
theorem own_threads.{u} {ι : Type u} {α : Type} {f : ι → Prog α} (hf : ∀ x base, (f x).OwnWrites base) (base : Nat) (l : List ι) :
    ∀ t ∈ l.map fun x => ({ prog := f x } : Thread α), t.prog.OwnWrites base := by
  intro t ht
  obtain ⟨x, _, rfl⟩ := List.mem_map.1 ht
  exact hf x base
#print axioms interleaving_deterministic
end H
