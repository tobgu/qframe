import QF.Core.SorterPerm
/-! Sortedness of the mirror QF/Core/Sorter.lean for a strict weak order (`SWO`): `Sorted`, `RangePres` (a rearrangement within a
range), insertion sort, the partition `Parted` that `doPivot` leaves, and `quickSort_spec` given the specifications of `doPivot`
(`PivotSpec`) and `heapSort` (`HeapSpec`), which SorterPivot and SorterHeap prove. -/
namespace Sorter

structure SWO (less : Nat → Nat → Bool) : Prop where
  asymm : ∀ a b, less a b = true → less b a = false
  le_trans : ∀ a b c, less b a = false → less c b = false → less c a = false

/-- value at position k (total) -/
@[inline] def at' (a : Ix) (k : Nat) : Nat := a[k]!

theorem sw_size (a : Ix) (i j : Nat) : (sw a i j).size = a.size := by
  unfold sw; split <;> simp

theorem at'_eq (a : Ix) (k : Nat) : at' a k = (a[k]?).getD 0 := by
  unfold at'
  rw [Array.getElem!_eq_getD, Array.getD_eq_getD_getElem?]
  rfl

theorem sw_at (a : Ix) (i j k : Nat) (hi : i < a.size) (hj : j < a.size) :
    at' (sw a i j) k = if k = j then at' a i else if k = i then at' a j else at' a k := by
  rw [at'_eq, at'_eq, at'_eq, at'_eq]
  unfold sw
  simp only [hi, hj, and_self, ↓reduceDIte]
  rw [Array.getElem?_swap]
  by_cases e1 : j = k
  · subst e1; simp [hi]
  · have e1' : k ≠ j := fun h => e1 h.symm
    by_cases e2 : i = k
    · subst e2; simp [e1, e1', hj]
    · have e2' : k ≠ i := fun h => e2 h.symm
      simp [e1, e2, e1', e2']

theorem sw_at_ne (a : Ix) (i j k : Nat) (hi : k ≠ i) (hj : k ≠ j) : at' (sw a i j) k = at' a k := by
  by_cases h : i < a.size ∧ j < a.size
  · rw [sw_at a i j k h.1 h.2, if_neg hj, if_neg hi]
  · rw [sw, dif_neg h]

theorem sw_at_fst (a : Ix) (i j : Nat) (hi : i < a.size) (hj : j < a.size) : at' (sw a i j) i = at' a j := by
  rw [sw_at a i j i hi hj, if_pos rfl]
  split
  · rename_i e; rw [e]
  · rfl

theorem sw_at_snd (a : Ix) (i j : Nat) (hi : i < a.size) (hj : j < a.size) : at' (sw a i j) j = at' a i := by
  rw [sw_at a i j j hi hj, if_pos rfl]

def Sorted (less : Nat → Nat → Bool) (a : Ix) (lo hi : Nat) : Prop :=
  ∀ i j, lo ≤ i → i < j → j < hi → less (at' a j) (at' a i) = false

theorem lt_eq (less : Nat → Nat → Bool) (a : Ix) (i j : Nat) : lt less a i j = less (at' a i) (at' a j) := rfl

/-- `[lo,i]` is sorted if position `j` is left out as the later element: what the inner loop of insertion sort keeps while
the element at `j` travels down -/
def Hole (less : Nat → Nat → Bool) (a : Ix) (lo j i : Nat) : Prop :=
  ∀ p q, lo ≤ p → p < q → q ≤ i → q ≠ j → less (at' a q) (at' a p) = false

theorem insInner_sorted (less : Nat → Nat → Bool) (sw0 : SWO less) (lo i : Nat) :
    ∀ (j : Nat) (a : Ix), lo ≤ j → j ≤ i → i < a.size → Hole less a lo j i →
      Sorted less (insInner less a lo j) lo (i + 1) := by
  intro j
  induction j with
  | zero =>
    intro a hlo _ _ h
    rw [insInner]
    intro p q hp hpq hq
    exact h p q hp hpq (by omega) (by omega)
  | succ j ih =>
    intro a hlo hji his h
    unfold insInner
    by_cases hc : (decide (j + 1 > lo) && lt less a (j + 1) j) = true
    · simp only [hc, ↓reduceIte]
      simp only [Bool.and_eq_true, decide_eq_true_eq] at hc
      obtain ⟨hgt, hlt⟩ := hc
      rw [lt_eq] at hlt
      have ⟨hj1, hj0⟩ : j + 1 < a.size ∧ j < a.size := by omega
      apply ih (sw a (j + 1) j) (by omega) (by omega) (by rw [sw_size]; exact his)
      intro p q hp hpq hq hqj
      by_cases eq1 : q = j + 1
      · rw [eq1, sw_at_fst _ _ _ hj1 hj0]
        by_cases ep : p = j
        · rw [ep, sw_at_snd _ _ _ hj1 hj0]; exact sw0.asymm _ _ hlt
        · rw [sw_at_ne _ _ _ _ (by omega) ep]; exact h p j hp (by omega) (by omega) (by omega)
      · rw [sw_at_ne _ _ _ q eq1 hqj]
        by_cases ep : p = j
        · rw [ep, sw_at_snd _ _ _ hj1 hj0]; exact h (j + 1) q (by omega) (by omega) hq eq1
        · by_cases ep1 : p = j + 1
          · rw [ep1, sw_at_fst _ _ _ hj1 hj0]; exact h j q (by omega) (by omega) hq eq1
          · rw [sw_at_ne _ _ _ _ ep1 ep]; exact h p q hp hpq hq eq1
    · simp only [hc, Bool.false_eq_true, ↓reduceIte]
      -- stop: either j+1 = lo, or a[j+1] is not less than a[j]
      intro p q hp hpq hq
      by_cases eq1 : q = j + 1
      · subst eq1
        have hgt : j + 1 > lo := by omega
        have hnl : less (at' a (j + 1)) (at' a j) = false := by
          have : lt less a (j + 1) j = false := by
            cases hv : lt less a (j + 1) j with
            | false => rfl
            | true => simp [hgt, hv] at hc
          simpa [lt_eq] using this
        by_cases hp2 : p = j
        · subst hp2; exact hnl
        · exact sw0.le_trans _ _ _ (h p j hp (by omega) (by omega) (by omega)) hnl
      · exact h p q hp hpq (by omega) eq1


/-- `a'` agrees with `a` outside [lo,hi), and whatever holds of every value in that range of `a` holds of every value
    in that range of `a'`. Multiplicities are not counted: that the sorter permutes is `sort_perm`, proved apart. -/
structure RangePres (a a' : Ix) (lo hi : Nat) : Prop where
  size : a'.size = a.size
  outside : ∀ k, (k < lo ∨ hi ≤ k) → at' a' k = at' a k
  pres : ∀ P : Nat → Prop, (∀ k, lo ≤ k → k < hi → P (at' a k)) → ∀ k, lo ≤ k → k < hi → P (at' a' k)

theorem RangePres.refl (a : Ix) (lo hi : Nat) : RangePres a a lo hi := ⟨rfl, fun _ _ => rfl, fun _ h => h⟩

theorem RangePres.trans {a b c : Ix} {lo hi : Nat} (h1 : RangePres a b lo hi) (h2 : RangePres b c lo hi) :
    RangePres a c lo hi :=
  ⟨h2.size.trans h1.size, fun k hk => (h2.outside k hk).trans (h1.outside k hk),
   fun P hP => h2.pres P (h1.pres P hP)⟩

theorem RangePres.mono {a b : Ix} {lo hi lo' hi' : Nat} (h : RangePres a b lo hi) (hl : lo' ≤ lo) (hh : hi ≤ hi') :
    RangePres a b lo' hi' := by
  refine ⟨h.size, fun k hk => h.outside k (by omega), fun P hP k hk1 hk2 => ?_⟩
  by_cases hin : lo ≤ k ∧ k < hi
  · exact h.pres P (fun k' a b => hP k' (by omega) (by omega)) k hin.1 hin.2
  · rw [h.outside k (by omega)]; exact hP k hk1 hk2

theorem sw_rangePres (a : Ix) (i j lo hi : Nat) (hi1 : lo ≤ i) (hi2 : i < hi) (hj1 : lo ≤ j) (hj2 : j < hi)
    (hsz : hi ≤ a.size) : RangePres a (sw a i j) lo hi := by
  have hia : i < a.size := by omega
  have hja : j < a.size := by omega
  refine ⟨sw_size a i j, fun k hk => ?_, fun P hP k hk1 hk2 => ?_⟩
  · rw [sw_at a i j k hia hja]
    have : k ≠ j ∧ k ≠ i := by omega
    simp [this.1, this.2]
  · rw [sw_at a i j k hia hja]
    split
    · exact hP i hi1 hi2
    · split
      · exact hP j hj1 hj2
      · exact hP k hk1 hk2

theorem insInner_rangePres (less : Nat → Nat → Bool) (lo hi : Nat) :
    ∀ (j : Nat) (a : Ix), lo ≤ j → j < hi → hi ≤ a.size → RangePres a (insInner less a lo j) lo hi := by
  intro j
  induction j with
  | zero => intro a _ _ _; simp [insInner]; exact RangePres.refl _ _ _
  | succ j ih =>
    intro a h1 h2 h3
    unfold insInner
    split
    · rename_i hc
      simp only [Bool.and_eq_true, decide_eq_true_eq] at hc
      have hs := sw_rangePres a (j + 1) j lo hi (by omega) h2 (by omega) (by omega) h3
      exact hs.trans (ih _ (by omega) (by omega) (by rw [sw_size]; exact h3))
    · exact RangePres.refl _ _ _

/-- generic fold lemma for loops `for i := s; i < s+n; i++ { a = step a i }` -/
theorem foldl_range'_inv {α : Type} (step : α → Nat → α) (Inv : Nat → α → Prop) :
    ∀ (n s : Nat) (a : α), Inv s a → (∀ i a, s ≤ i → i < s + n → Inv i a → Inv (i + 1) (step a i)) →
      Inv (s + n) ((List.range' s n).foldl step a) := by
  intro n
  induction n with
  | zero => intro s a h _; simpa using h
  | succ n ih =>
    intro s a h hstep
    simp only [List.range'_succ, List.foldl_cons]
    have := ih (s + 1) (step a s) (hstep s a (Nat.le_refl _) (by omega) h)
      (fun i a h1 h2 hi => hstep i a (by omega) (by omega) hi)
    rwa [show s + 1 + n = s + (n + 1) by omega] at this

theorem insertionSort_spec (less : Nat → Nat → Bool) (sw0 : SWO less) (a : Ix) (lo hi : Nat) (hlh : lo < hi)
    (hsz : hi ≤ a.size) :
    Sorted less (insertionSort less a lo hi) lo hi ∧ RangePres a (insertionSort less a lo hi) lo hi := by
  unfold insertionSort
  have key := foldl_range'_inv (fun a i => insInner less a lo i)
    (fun i b => Sorted less b lo i ∧ RangePres a b lo hi) (hi - (lo + 1)) (lo + 1) a
    ⟨by intro p q hp hpq hq; omega, RangePres.refl _ _ _⟩
    (by
      intro i b h1 h2 ⟨hs, hr⟩
      have hbsz : hi ≤ b.size := by rw [hr.size]; exact hsz
      refine ⟨?_, hr.trans (insInner_rangePres less lo hi i b (by omega) (by omega) hbsz)⟩
      apply insInner_sorted less sw0 lo i i b (by omega) (Nat.le_refl _) (by omega)
      exact fun p q hp hpq hq hqi => hs p q hp hpq (by omega))
  rw [show lo + 1 + (hi - (lo + 1)) = hi by omega] at key
  exact key


/-- what quickSort needs from doPivot -/
def PivotSpec (less : Nat → Nat → Bool) : Prop :=
  ∀ (a : Ix) (lo hi : Nat), lo + 12 < hi → hi ≤ a.size →
    RangePres a (doPivot less a lo hi).1 lo hi ∧
    lo ≤ (doPivot less a lo hi).2.1 ∧ (doPivot less a lo hi).2.1 < (doPivot less a lo hi).2.2 ∧
    (doPivot less a lo hi).2.2 ≤ hi ∧
    (∀ i j, lo ≤ i → i < (doPivot less a lo hi).2.1 → (doPivot less a lo hi).2.1 ≤ j → j < hi →
        less (at' (doPivot less a lo hi).1 j) (at' (doPivot less a lo hi).1 i) = false) ∧
    (∀ i j, (doPivot less a lo hi).2.1 ≤ i → i < (doPivot less a lo hi).2.2 → i < j → j < hi →
        less (at' (doPivot less a lo hi).1 j) (at' (doPivot less a lo hi).1 i) = false)

/-- what quickSort needs from heapSort -/
def HeapSpec (less : Nat → Nat → Bool) : Prop :=
  ∀ (a : Ix) (lo hi : Nat), lo ≤ hi → hi ≤ a.size →
    Sorted less (heapSort less a lo hi) lo hi ∧ RangePres a (heapSort less a lo hi) lo hi

theorem shellPass_rangePres (less : Nat → Nat → Bool) (a : Ix) (lo hi : Nat) (hsz : hi ≤ a.size) :
    RangePres a ((List.range' (lo + 6) (hi - (lo + 6))).foldl (fun a i => if lt less a i (i - 6) then sw a i (i - 6) else a) a) lo hi := by
  by_cases h : lo + 6 ≤ hi
  · have key := foldl_range'_inv (fun a i => if lt less a i (i - 6) then sw a i (i - 6) else a)
      (fun _ b => RangePres a b lo hi) (hi - (lo + 6)) (lo + 6) a (RangePres.refl _ _ _)
      (by
        intro i b h1 h2 hr
        have hbsz : hi ≤ b.size := by rw [hr.size]; exact hsz
        split
        · exact hr.trans (sw_rangePres b i (i - 6) lo hi (by omega) (by omega) (by omega) (by omega) hbsz)
        · exact hr)
    exact key
  · have : hi - (lo + 6) = 0 := by omega
    rw [this]; simp; exact RangePres.refl _ _ _

/-- what `doPivot` leaves: nothing in `[mlo,hi)` is below anything in `[lo,mlo)`, and nothing in `[mlo,hi)` is below
anything of `[mlo,mhi)` that stands before it. Rearranging either side keeps it; with both sides sorted the range is. -/
def Parted (less : Nat → Nat → Bool) (a : Ix) (lo mlo mhi hi : Nat) : Prop :=
  (∀ i j, lo ≤ i → i < mlo → mlo ≤ j → j < hi → less (at' a j) (at' a i) = false) ∧
  (∀ i j, mlo ≤ i → i < mhi → i < j → j < hi → less (at' a j) (at' a i) = false)

theorem Parted.left {less : Nat → Nat → Bool} {a a' : Ix} {lo mlo mhi hi : Nat} (p : Parted less a lo mlo mhi hi)
    (r : RangePres a a' lo mlo) : Parted less a' lo mlo mhi hi := by
  refine ⟨fun i j hi1 hi2 hj1 hj2 => ?_, fun i j hi1 hi2 hij hj2 => ?_⟩
  · rw [r.outside j (by omega)]
    exact r.pres (fun x => ∀ j, mlo ≤ j → j < hi → less (at' a j) x = false)
      (fun k hk1 hk2 j hj1 hj2 => p.1 k j hk1 hk2 hj1 hj2) i hi1 hi2 j hj1 hj2
  · rw [r.outside j (by omega), r.outside i (by omega)]
    exact p.2 i j hi1 hi2 hij hj2

theorem Parted.right {less : Nat → Nat → Bool} {a a' : Ix} {lo mlo mhi hi : Nat} (h : mlo < mhi)
    (p : Parted less a lo mlo mhi hi) (r : RangePres a a' mhi hi) : Parted less a' lo mlo mhi hi := by
  have lowEq : ∀ k, k < mhi → at' a' k = at' a k := fun k hk => r.outside k (by omega)
  refine ⟨fun i j hi1 hi2 hj1 hj2 => ?_, fun i j hi1 hi2 hij hj2 => ?_⟩
  · rw [lowEq i (by omega)]
    by_cases hjm : j < mhi
    · rw [lowEq j hjm]; exact p.1 i j hi1 hi2 hj1 hj2
    · exact r.pres (fun y => less y (at' a i) = false) (fun k hk1 hk2 => p.1 i k hi1 hi2 (by omega) hk2) j (by omega) hj2
  · rw [lowEq i hi2]
    by_cases hjm : j < mhi
    · rw [lowEq j hjm]; exact p.2 i j hi1 hi2 hij hj2
    · exact r.pres (fun y => less y (at' a i) = false) (fun k hk1 hk2 => p.2 i k hi1 hi2 (by omega) hk2) j (by omega) hj2

theorem Parted.sorted {less : Nat → Nat → Bool} {a : Ix} {lo mlo mhi hi : Nat} (p : Parted less a lo mlo mhi hi)
    (sl : Sorted less a lo mlo) (sr : Sorted less a mhi hi) : Sorted less a lo hi := by
  intro i j hi1 hij hj2
  by_cases c1 : i < mlo
  · by_cases c2 : j < mlo
    · exact sl i j hi1 hij c2
    · exact p.1 i j hi1 c1 (by omega) hj2
  · by_cases c3 : i < mhi
    · exact p.2 i j (by omega) c3 hij hj2
    · exact sr i j (by omega) hij hj2

theorem Sorted.congr {less : Nat → Nat → Bool} {a a' : Ix} {lo hi : Nat} (s : Sorted less a lo hi)
    (e : ∀ k, lo ≤ k → k < hi → at' a' k = at' a k) : Sorted less a' lo hi := fun i j h1 h2 h3 => by
  rw [e i h1 (by omega), e j (by omega) h3]
  exact s i j h1 h2 h3

/-- a greatest element of the left side, standing at its end, goes over to the sorted right side (a round of `heapSort`) -/
theorem Parted.shift {less : Nat → Nat → Bool} {a : Ix} {lo m hi : Nat} (p : Parted less a lo (m + 1) (m + 1) hi)
    (s : Sorted less a (m + 1) hi) (hm : lo ≤ m) (hmax : ∀ k, lo ≤ k → k < m → less (at' a m) (at' a k) = false) :
    Parted less a lo m m hi ∧ Sorted less a m hi := by
  refine ⟨⟨fun i j hi1 hi2 hj1 hj2 => ?_, fun i j h1 h2 => by omega⟩, fun i j hi1 hij hj2 => ?_⟩
  · by_cases e : j = m
    · exact e ▸ hmax i hi1 hi2
    · exact p.1 i j hi1 (by omega) (by omega) hj2
  · by_cases e : i = m
    · exact e ▸ p.1 m j hm (Nat.lt_succ_self m) (by omega) hj2
    · exact s i j (by omega) hij hj2

/-- combining a partition with sorted sides -/
theorem sorted_of_partition (less : Nat → Nat → Bool) (sw0 : SWO less) (a1 a2 a3 : Ix) (lo mlo mhi hi : Nat)
    (h1 : lo ≤ mlo) (h2 : mlo < mhi) (h3 : mhi ≤ hi)
    (pl : ∀ i j, lo ≤ i → i < mlo → mlo ≤ j → j < hi → less (at' a1 j) (at' a1 i) = false)
    (pm : ∀ i j, mlo ≤ i → i < mhi → i < j → j < hi → less (at' a1 j) (at' a1 i) = false)
    (r12 : RangePres a1 a2 lo mlo) (s2 : Sorted less a2 lo mlo)
    (r23 : RangePres a2 a3 mhi hi) (s3 : Sorted less a3 mhi hi) :
    Sorted less a3 lo hi :=
  ((Parted.left ⟨pl, pm⟩ r12).right h2 r23).sorted (s2.congr fun k _ hk => r23.outside k (by omega)) s3

/-- C03 (conditional on the two component specs): quickSort sorts its range and touches nothing else. -/
theorem quickSort_spec (less : Nat → Nat → Bool) (sw0 : SWO less) (hp : PivotSpec less) (hh : HeapSpec less) :
    ∀ (fuel : Nat) (a : Ix) (lo hi depth : Nat), lo ≤ hi → hi ≤ a.size → hi - lo < fuel →
      Sorted less (quickSort less fuel a lo hi depth) lo hi ∧ RangePres a (quickSort less fuel a lo hi depth) lo hi := by
  intro fuel
  induction fuel with
  | zero => intro a lo hi depth _ _ h; omega
  | succ n ih =>
    intro a lo hi depth hlh hsz hf
    unfold quickSort
    by_cases c12 : hi - lo > 12
    · simp only [c12, ↓reduceIte]
      by_cases cd : depth = 0
      · simp only [cd, ↓reduceIte]; exact hh a lo hi hlh hsz
      · simp only [cd, ↓reduceIte]
        obtain ⟨rp, b1, b2, b3, pl, pm⟩ := hp a lo hi (by omega) hsz
        generalize doPivot less a lo hi = r at rp b1 b2 b3 pl pm
        obtain ⟨a1, mlo, mhi⟩ := r
        simp only at rp b1 b2 b3 pl pm ⊢
        have hsz1 : hi ≤ a1.size := by rw [rp.size]; exact hsz
        -- both parts are shorter than the range: the fuel suffices
        have ⟨f1, f2, hszm⟩ : mlo - lo < n ∧ hi - mhi < n ∧ mlo ≤ a1.size := by omega
        by_cases cs : mlo - lo < hi - mhi
        · simp only [cs, ↓reduceIte]
          obtain ⟨sL, rL⟩ := ih a1 lo mlo (depth - 1) b1 hszm f1
          have hszL : hi ≤ (quickSort less n a1 lo mlo (depth - 1)).size := by rw [rL.size]; exact hsz1
          obtain ⟨sR, rR⟩ := ih (quickSort less n a1 lo mlo (depth - 1)) mhi hi (depth - 1) b3 hszL f2
          exact ⟨sorted_of_partition less sw0 a1 _ _ lo mlo mhi hi b1 b2 b3 pl pm rL sL rR sR,
            rp.trans ((rL.mono (Nat.le_refl _) (by omega)).trans (rR.mono (by omega) (Nat.le_refl _)))⟩
        · simp only [cs, ↓reduceIte]
          obtain ⟨sR, rR⟩ := ih a1 mhi hi (depth - 1) b3 hsz1 f2
          have hszR : mlo ≤ (quickSort less n a1 mhi hi (depth - 1)).size := by rw [rR.size]; exact hszm
          obtain ⟨sL, rL⟩ := ih (quickSort less n a1 mhi hi (depth - 1)) lo mlo (depth - 1) b1 hszR f1
          exact ⟨((Parted.right b2 ⟨pl, pm⟩ rR).left rL).sorted sL (sR.congr fun k hk _ => rL.outside k (by omega)),
            rp.trans ((rR.mono (by omega) (Nat.le_refl _)).trans (rL.mono (Nat.le_refl _) (by omega)))⟩
    · simp only [c12, ↓reduceIte]
      by_cases c1 : hi - lo > 1
      · simp only [c1, ↓reduceIte]
        have rs := shellPass_rangePres less a lo hi hsz
        have hsz' : hi ≤ ((List.range' (lo + 6) (hi - (lo + 6))).foldl (fun a i => if lt less a i (i - 6) then sw a i (i - 6) else a) a).size := by
          rw [rs.size]; exact hsz
        obtain ⟨si, ri⟩ := insertionSort_spec less sw0 _ lo hi (by omega) hsz'
        exact ⟨si, rs.trans ri⟩
      · simp only [c1, ↓reduceIte]
        exact ⟨by intro i j h1 h2 h3; omega, RangePres.refl _ _ _⟩

theorem sort_sorted (less : Nat → Nat → Bool) (sw0 : SWO less) (hp : PivotSpec less) (hh : HeapSpec less) (ix : Ix) :
    Sorted less (sort less ix) 0 ix.size :=
  (quickSort_spec less sw0 hp hh (ix.size + 2) ix 0 ix.size (maxDepth ix.size) (Nat.zero_le _) (Nat.le_refl _) (by omega)).1

#print axioms sort_sorted
end Sorter
