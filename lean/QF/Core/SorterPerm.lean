import QF.Core.Sorter
namespace Sorter

theorem sw_perm (a : Ix) (i j : Nat) : (sw a i j).Perm a := by
  unfold sw; split
  · exact Array.swap_perm _ _
  · exact Array.Perm.refl _

theorem foldl_perm {α} (f : Ix → α → Ix) (h : ∀ a x, (f a x).Perm a) (l : List α) (a : Ix) :
    (l.foldl f a).Perm a := by
  induction l generalizing a with
  | nil => exact Array.Perm.refl _
  | cons x l ih => exact (ih (f a x)).trans (h a x)

theorem insInner_perm (less) (a : Ix) (lo j : Nat) : (insInner less a lo j).Perm a := by
  induction j generalizing a with
  | zero => exact Array.Perm.refl _
  | succ j ih =>
    unfold insInner; split
    · exact (ih _).trans (sw_perm _ _ _)
    · exact Array.Perm.refl _

theorem insertionSort_perm (less) (a : Ix) (lo hi : Nat) : (insertionSort less a lo hi).Perm a :=
  foldl_perm _ (fun a i => insInner_perm less a lo i) _ _

theorem ite_perm {c : Prop} [Decidable c] {x y a : Ix} (hx : x.Perm a) (hy : y.Perm a) :
    (if c then x else y).Perm a := by split <;> assumption

theorem siftDown_perm (less) (fuel : Nat) (a : Ix) (root hi first : Nat) :
    (siftDown less fuel a root hi first).Perm a := by
  induction fuel generalizing a root with
  | zero => exact Array.Perm.refl _
  | succ n ih =>
    unfold siftDown
    simp only []
    refine ite_perm (Array.Perm.refl _) (ite_perm (Array.Perm.refl _) ((ih _ _).trans (sw_perm _ _ _)))

theorem heapSort_perm (less) (a : Ix) (lo hi : Nat) : (heapSort less a lo hi).Perm a := by
  unfold heapSort
  refine (foldl_perm _ (fun a i => ?_) _ _).trans (foldl_perm _ (fun a i => ?_) _ _)
  · exact (siftDown_perm ..).trans (sw_perm ..)
  · exact siftDown_perm ..

theorem medianOfThree_perm (less) (a : Ix) (m1 m0 m2 : Nat) : (medianOfThree less a m1 m0 m2).Perm a := by
  unfold medianOfThree
  have h1 : (if lt less a m1 m0 then sw a m1 m0 else a).Perm a := ite_perm (sw_perm ..) (Array.Perm.refl _)
  simp only []
  refine ite_perm (ite_perm (((sw_perm ..).trans (sw_perm ..)).trans h1) ((sw_perm ..).trans h1)) h1

theorem pivotLoop_perm (less) (fuel : Nat) (a : Ix) (p b c : Nat) : (pivotLoop less fuel a p b c).1.Perm a := by
  induction fuel generalizing a b c with
  | zero => exact Array.Perm.refl _
  | succ n ih =>
    unfold pivotLoop
    simp only []
    split
    · exact Array.Perm.refl _
    · exact (ih ..).trans (sw_perm ..)

theorem protectLoop_perm (less) (fuel : Nat) (a : Ix) (p x b : Nat) : (protectLoop less fuel a p x b).1.Perm a := by
  induction fuel generalizing a x b with
  | zero => exact Array.Perm.refl _
  | succ n ih =>
    unfold protectLoop
    simp only []
    split
    · exact Array.Perm.refl _
    · exact (ih ..).trans (sw_perm ..)

theorem choosePivot_perm (less) (a : Ix) (lo hi : Nat) : (choosePivot less a lo hi).Perm a := by
  unfold choosePivot
  exact (medianOfThree_perm ..).trans (ite_perm (((medianOfThree_perm ..).trans (medianOfThree_perm ..)).trans (medianOfThree_perm ..)) (Array.Perm.refl _))

theorem dupsBlock_perm (less) (a : Ix) (lo hi m b c : Nat) : (dupsBlock less a lo hi m b c).a.Perm a := by
  unfold dupsBlock dups3 dups1
  simp only []
  split
  · split
    · exact (sw_perm ..).trans (sw_perm ..)
    · exact sw_perm ..
  · split
    · exact sw_perm ..
    · exact Array.Perm.refl _

/-- `doPivot` by its phases: pivot selection, first scan, partition loop, the test for duplicates, the protection pass and
the final swap. Proofs about `doPivot` name the result of each phase and put them together with this equation. -/
theorem doPivot_eq (less) (a : Ix) (lo hi : Nat) {a1 : Ix} {x : Nat} {r : Ix × Nat × Nat} {st : PState} {p : Ix × Nat}
    (h1 : choosePivot less a lo hi = a1)
    (hx : scanUp (a1.size + 1) (fun i => lt less a1 i lo) (lo + 1) (hi - 1) = x)
    (hr : pivotLoop less (a1.size + 1) a1 lo x (hi - 1) = r)
    (hst : (if !(decide (hi - r.2.2 < 5)) && decide (hi - r.2.2 < (hi - lo) / 4) then
        dupsBlock less r.1 lo hi ((lo + hi) / 2) r.2.1 r.2.2 else ⟨r.1, r.2.1, r.2.2, decide (hi - r.2.2 < 5)⟩) = st)
    (hp : (if st.protect then
        ((protectLoop less (st.a.size + 1) st.a lo x st.b).1, (protectLoop less (st.a.size + 1) st.a lo x st.b).2.2)
      else (st.a, st.b)) = p) :
    doPivot less a lo hi = (sw p.1 lo (p.2 - 1), p.2 - 1, st.c) := by
  subst h1 hx hr hst hp
  rfl

theorem doPivot_perm (less) (a : Ix) (lo hi : Nat) : (doPivot less a lo hi).1.Perm a := by
  have h1 := choosePivot_perm less a lo hi
  generalize e1 : choosePivot less a lo hi = a1 at h1
  generalize ex : scanUp (a1.size + 1) (fun i => lt less a1 i lo) (lo + 1) (hi - 1) = x
  have h2 := pivotLoop_perm less (a1.size + 1) a1 lo x (hi - 1)
  generalize er : pivotLoop less (a1.size + 1) a1 lo x (hi - 1) = r at h2
  have h3 : (if !(decide (hi - r.2.2 < 5)) && decide (hi - r.2.2 < (hi - lo) / 4) then
      dupsBlock less r.1 lo hi ((lo + hi) / 2) r.2.1 r.2.2 else (⟨r.1, r.2.1, r.2.2, decide (hi - r.2.2 < 5)⟩ : PState)).a.Perm r.1 := by
    split
    · exact dupsBlock_perm ..
    · exact Array.Perm.refl _
  generalize est : (if !(decide (hi - r.2.2 < 5)) && decide (hi - r.2.2 < (hi - lo) / 4) then
      dupsBlock less r.1 lo hi ((lo + hi) / 2) r.2.1 r.2.2 else (⟨r.1, r.2.1, r.2.2, decide (hi - r.2.2 < 5)⟩ : PState)) = st at h3
  rw [doPivot_eq less a lo hi e1 ex er est rfl]
  have h := (h3.trans h2).trans h1
  refine (sw_perm ..).trans ?_
  split
  · exact (protectLoop_perm ..).trans h
  · exact h

theorem quickSort_perm (less) (fuel : Nat) (a : Ix) (lo hi depth : Nat) :
    (quickSort less fuel a lo hi depth).Perm a := by
  induction fuel generalizing a lo hi depth with
  | zero => exact Array.Perm.refl _
  | succ n ih =>
    unfold quickSort
    simp only []
    split
    · split
      · exact heapSort_perm ..
      · have hp := doPivot_perm less a lo hi
        generalize doPivot less a lo hi = r at hp
        obtain ⟨a', mlo, mhi⟩ := r
        simp only [] at hp ⊢
        split
        · exact ((ih ..).trans (ih ..)).trans hp
        · exact ((ih ..).trans (ih ..)).trans hp
    · split
      · exact (insertionSort_perm ..).trans (foldl_perm _ (fun a i => ite_perm (sw_perm ..) (Array.Perm.refl _)) _ _)
      · exact Array.Perm.refl _

theorem sort_perm (less) (ix : Ix) : (sort less ix).Perm ix := quickSort_perm ..

end Sorter
