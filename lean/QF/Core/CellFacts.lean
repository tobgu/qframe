import QF.Core.OExpr
import QF.Core.SpecFacts
/-!
Facts about the Go value of a cell (`cellVal`, QF/Core/KExpr.lean; `wtCell`, QF/Core/CExpr.lean; `enumStrOf`,
QF/Core/OExpr.lean) that the proof files of several properties use: the shape of a well-typed cell, and what a well-typed non-null enum cell is.
-/
namespace QF

/-- the cells a column of each type can hold (`C02Kernels.cellOk` is the same test as `wtCell`) -/
theorem wtCell_shape {ty : CType} {vals : List Bytes} {x : Cell} (h : wtCell ty vals x = true) :
    match ty with
    | .int => ∃ a, x = .int a | .float => ∃ a, x = .float a | .bool => ∃ a, x = .bool a
    | .string | .enum => ∃ s, x = .str s | .undef => False := by
  cases ty <;> cases x <;> simp [wtCell, cellVal] at h ⊢

/-- a non-null cell an enum column can hold is a string of the value table, at a rank below the null code -/
theorem enum_ok {vals : List Bytes} {s : Bytes} (h : wtCell .enum vals (.str (some s)) = true) :
    ∃ i, enumRank vals s = some i ∧ i < 255 := by
  simp only [wtCell, cellVal] at h
  split at h
  · rename_i i hi
    split at h
    · rename_i hl; exact ⟨i, hi, hl⟩
    · simp at h
  · simp at h

/-- `c.values[v]` of the code of a non-null cell of the column is the cell's string -/
theorem enumStrOf_some {vals : List Bytes} {s : Bytes} {i : Nat} (hi : enumRank vals s = some i) (hl : i < 255) :
    enumStrOf .enum vals (.str (some s)) = some s := by
  obtain ⟨hlen, hp, _⟩ := enumRank_eq_some_iff.1 hi
  have hlt : i < enumNull := hl
  have hn : ¬ (i = enumNull) := Nat.ne_of_lt hl
  simp [enumStrOf, cellVal, hi, hlt, hn, hlen, hp]

end QF

/-! ## The converse of `enum_ok` -/

namespace QF

/-- a string of a value table of at most 255 entries is a cell an enum column can hold -/
theorem wtCell_enum_of_mem {vals : List Bytes} {s : Bytes} (hm : s ∈ vals) (hl : vals.length ≤ 255) :
    wtCell .enum vals (.str (some s)) = true := by
  obtain ⟨i, hi⟩ := Option.isSome_iff_exists.1 (enumRank_isSome_iff.2 hm)
  obtain ⟨hlt, _⟩ := enumRank_eq_some_iff.1 hi
  have h255 : i < 255 := by omega
  simp [wtCell, cellVal, hi, enumNull, h255]

end QF
