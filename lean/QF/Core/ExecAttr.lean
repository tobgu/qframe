import Lean.Meta.Tactic.Simp.RegisterCommand
/-!
# The simp sets of the interpreters

One simp attribute per term language whose programs the proof files execute symbolically. The file that states the equations of
an interpreter (one per statement form and per expression form, and the operations on values) tags them once; `simp only [x_exec, h₁, …]`
then runs a statement or evaluates an expression on an explicit store, the `hᵢ` being the facts that decide the branches.
(An attribute cannot be used in the file that registers it: hence this module.)

* `cr_exec`: `QF.CR`, the CSV reader (QF/Core/CRExpr.lean), equations in QF/Props/C12CsvFns.lean
* `sl_exec`: `QF.SL`, the sorter (QF/Core/SLExpr.lean), equations in QF/Props/C03SorterExec.lean
* `cl_exec`: `QF.CL`, the filter clauses (QF/Core/CLExpr.lean), equations in QF/Props/C02ClausesFns.lean
* `gl_exec`: `QF.GL`, the grouper (QF/Core/GLExpr.lean, which has the scoped simp set `QF.GL.Sym` for expressions), equations in
  QF/Props/C04GrouperFns.lean
* `ev_exec`: `QF.EV`, the `execute` methods of the expressions and `QFrame.Eval` (QF/Core/EVExpr.lean), equations in
  QF/Props/C07EvalGen.lean
-/
register_simp_attr cr_exec
register_simp_attr sl_exec
register_simp_attr cl_exec
register_simp_attr gl_exec
register_simp_attr ev_exec
