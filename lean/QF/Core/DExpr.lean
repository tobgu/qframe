import QF.Core.KExpr
/-!
# DE — the language of the filter DISPATCH in front of the kernels, and its Go semantics

Every column package (`internal/{i,f,b,s,e}column`) has

    func (c Column) filterBuiltIn(index index.Int, comparator string, comparatee interface{}, bIndex index.Bool) error

which decides, from the dynamic type of the comparatee and the comparator string, which comparator table to consult,
which kernel to run with which argument, and when to return an error instead; `Column.Filter` decides between
`filterBuiltIn` and the custom predicates from the dynamic type of the comparator, `filterCustom2` checks that its
comparatee is a column; ecolumn's `equalTypes` (→ `QStep`) decides whether two enum columns may be compared.

The extractor (go/cmd/extract/dast.go) executes these bodies symbolically, once for every KIND of comparatee
(`int`, `float64`, `bool`, `string`, `[]int`, `[]string`, a `Column` of the package, `nil`, anything else), inlining the
helpers that only inspect and convert the comparatee (`intComp`, `newIntSet`, `qfstrings.InterfaceSliceToStringSlice`),
and writes what remains — the decisions that depend on the comparator string, the value table, the `strict` flag, the
constant — as a term of `DE` to `QF/Gen/Dispatch.lean` on every run.

Terms name things by ROLE: "the function found by the look-up", "the constant (after the conversion `int(·)`)", "the
set built from the elements of the comparatee", "the cells of the comparatee column", "the value-table field", "the bool
field of the column struct" — never by the Go identifier.

`DE.run` is the meaning of a term: given the column (package, value table, strict flag, number of cells), the
comparator string, the comparatee, the comparator tables and the kernel terms (`Gen.tables`, `Gen.kernelAst`) it
answers `err` (a non-nil error is returned), `upd u` (nil is returned; a mask entry that held `b` in a row with cells
`x`, `y` holds `u x y b` afterwards) or `stuck` (the term has no meaning: untranslated code, a call of a table entry
that was not checked, a role that is not available on this path).
-/
namespace QF

/-! ## `equalTypes` of ecolumn -/

/-- Conditions of `func equalTypes(s1, s2 Column) bool`, by role (`s1` first, `s2` second parameter). -/
inductive QCond where
  /-- `len(s1.values) != len(s2.values)` -/
  | lenValuesNe
  /-- `len(s1.data) != len(s2.data)` -/
  | lenDataNe
  | or (a b : QCond)
  | opaque (txt : String)
  deriving DecidableEq, Repr, Inhabited

inductive QStep where
  /-- `if c { return false }` -/
  | rejectIf (c : QCond)
  /-- `for i, val := range s1.values { if val != s2.values[i] { return false } }` -/
  | rejectIfValueDiffers
  /-- `return true` -/
  | accept
  | opaque (txt : String)
  deriving DecidableEq, Repr, Inhabited

def QCond.eval (v1 : List Bytes) (n1 : Nat) (v2 : List Bytes) (n2 : Nat) : QCond → Option Bool
  | .lenValuesNe => some (v1.length != v2.length)
  | .lenDataNe => some (n1 != n2)
  | .or a b =>
    match a.eval v1 n1 v2 n2, b.eval v1 n1 v2 n2 with
    | some x, some y => some (x || y)
    | _, _ => none
  | .opaque _ => none

/-- `equalTypes(s1, s2)`; `none`: no meaning (opaque, a path without `return`, or `s2.values[i]` out of range). -/
def runEqualTypes (v1 : List Bytes) (n1 : Nat) (v2 : List Bytes) (n2 : Nat) : List QStep → Option Bool
  | [] => none
  | .accept :: _ => some true
  | .opaque _ :: _ => none
  | .rejectIf c :: ss =>
    match c.eval v1 n1 v2 n2 with
    | some true => some false
    | some false => runEqualTypes v1 n1 v2 n2 ss
    | none => none
  | .rejectIfValueDiffers :: ss =>
    if v2.length < v1.length then none
    else if (List.range v1.length).any (fun i => v1[i]! != v2[i]!) then some false
    else runEqualTypes v1 n1 v2 n2 ss

/-! ## The dispatch language -/

/-- Conversions of the constant. -/
inductive DConv where
  /-- Go `int(x)` of a `float64` -/
  | floatToInt
  /-- Go `float64(x)` of an `int` -/
  | intToFloat
  deriving DecidableEq, Repr, Inhabited

/-- What a kernel is called with besides the index, the column and the mask. -/
inductive DRole where
  /-- the comparatee asserted to its dynamic type (after the conversions on the path; inside `enumSearch … found`: the
  `enumVal` of the position found) -/
  | const
  /-- the set built from all elements of the comparatee slice (`newIntSet`, `qfstrings.NewStringSet`) -/
  | set
  /-- the cells of the comparatee column -/
  | col2
  /-- nothing (zero-argument kernels) -/
  | none
  deriving DecidableEq, Repr, Inhabited

/-- Dispatch trees, by role. -/
inductive DE where
  /-- the decision on the dynamic type of the comparatee; one subtree per kind, produced by executing the body for that
  kind. `onCol`: a `Column` of the same package; a column of another package is `onOther`. -/
  | typeSwitch (onInt onFloat onBool onStr onInts onStrs onCol onNil onOther : DE)
  /-- `f, ok := table[comparator]`: `onHit` runs with `f` bound to the entry, `onMiss` when there is none -/
  | lookup (table : String) (onHit onMiss : DE)
  /-- `f(index, <column>, <arg>, bIndex)` for the entry found by the innermost look-up; `ret`: the call's error result
  is what the function returns (`return f(…)`), otherwise it has none or it is dropped -/
  | callKernel (arg : DRole) (ret : Bool)
  /-- `bset[, err] := f(<arg>, <value table>)` for the entry found, `if err != nil { return … }` when `checked`, then
  `c.<reader>(index, bset, bIndex)` -/
  | callBitset (reader : String) (arg : DRole) (checked : Bool)
  /-- `return <non-nil error>`; the tag is the message, for the reader only -/
  | err (tag : String)
  /-- `math.IsNaN(<const>)` -/
  | ifNaN (t e : DE)
  /-- `for i, v := range <value table> { if v == <const> { found[const := enumVal(i)]; return } }; notFound` -/
  | enumSearch (found notFound : DE)
  /-- the bool field of the column struct -/
  | ifStrict (t e : DE)
  /-- `comparator == op` -/
  | ifOpIs (op : String) (t e : DE)
  /-- `equalTypes(c, <comparatee column>)` -/
  | ifEqualTypes (t e : DE)
  /-- `for i := range bIndex { bIndex[i] = true }` -/
  | fillAllTrue
  /-- `return nil` without touching the mask -/
  | nothing
  /-- the constant is converted before `k` uses it -/
  | convert (c : DConv) (k : DE)
  /-- `Column.Filter`: the decision on the dynamic type of the comparator: a string, a one-argument predicate on the
  package's element type, a two-argument predicate, anything else -/
  | cmpSwitch (onStr onFn1 onFn2 onOther : DE)
  /-- `c.<entry>(index, <comparator asserted to its type>, [comparatee,] bIndex)` for another entry point of the package,
  named by the role its signature gives it (`builtIn`: comparator `string`; `custom1` / `custom2`: a predicate of one /
  two arguments); `ret`: its error is what the function returns -/
  | callEntry (role : String) (ret : Bool)
  /-- the mask loop of the function itself (its term is in `Gen.kernelAst` under the function's name) -/
  | ownLoop (fn : String) (arg : DRole)
  | opaque (txt : String)
  deriving DecidableEq, Repr, Inhabited

/-- The comparatee as a Go value, by kind. -/
inductive DArg where
  | int (v : Int)
  | float (b : UInt64)
  | bool (b : Bool)
  | str (s : Bytes)
  /-- `[]int` -/
  | ints (l : List Int)
  /-- `[]string` -/
  | strs (l : List Bytes)
  /-- a `Column` of the package of type `ty` with value table `vals` and `n` cells -/
  | col (ty : CType) (vals : List Bytes) (n : Nat)
  | nil
  /-- a value whose dynamic type none of the type tests of the package mentions (`struct{}{}`, a nil `*string`, a
  `Column` of another package, …). `[]float64` and `[]interface{}` comparatees, which `icolumn.newIntSet` and
  `qfstrings.InterfaceSliceToStringSlice` convert, are NOT covered by this model (the spec's `Arg` has no such argument). -/
  | other
  deriving Repr, Inhabited

/-- The comparator as a Go value, by kind. -/
inductive DCmp where
  | str (op : String)
  /-- `func(T) bool` where `T` is the element type of the package of column type `ty` (`*string` for string and enum) -/
  | fn1 (ty : CType)
  /-- `func(T, T) bool` -/
  | fn2 (ty : CType)
  | other
  deriving Repr, Inhabited

structure DEnv where
  tables : List (String × String × List (String × String))
  kernels : List (String × String × String × KE)
  /-- the entry points that take the mask: (package, role, term), role ∈ filter | builtIn | custom1 | custom2 -/
  entries : List (String × String × DE) := []
  eqTypes : List QStep := []
  /-- validity of like patterns, `Matches` -/
  lo : LikeOracle
  /-- Go's `int(x)` for a `float64` (truncation; implementation-defined outside the range of `int`) -/
  f2i : UInt64 → Int
  /-- Go's `float64(x)` for an `int` -/
  i2f : Int → UInt64
  /-- the user's predicates -/
  P : KParams := {}
  /-- the receiver: column type (= package), value table, strict flag, number of cells -/
  ty : CType
  vals : List Bytes := []
  strict : Bool := false
  n : Nat := 0
  cmp : DCmp
  arg : DArg

inductive DRes where
  | err
  | upd (u : Cell → Cell → Bool → Option Bool)
  | stuck

def DRes.isErr : DRes → Bool
  | .err => true
  | _ => false

def DE.pkgOf : CType → String
  | .int => "icolumn" | .float => "fcolumn" | .bool => "bcolumn" | .string => "scolumn" | .enum => "ecolumn" | .undef => ""

/-- the comparator string (`filterBuiltIn` is only reached with one) -/
def DEnv.op (E : DEnv) : Option String := match E.cmp with | .str op => some op | _ => none

/-- the entry of a comparator table -/
def DEnv.tableFn (E : DEnv) (tab op : String) : Option String :=
  (E.tables.find? (fun t => t.1 == DE.pkgOf E.ty && t.2.1 == tab)).bind (fun t => t.2.2.lookup op)

/-- (shape, term) of a function of the receiver's package -/
def DEnv.kernel (E : DEnv) (fn : String) : Option (String × KE) :=
  (E.kernels.find? (fun k => k.1 == DE.pkgOf E.ty && k.2.1 == fn)).map (fun k => k.2.2)

def DEnv.entry (E : DEnv) (role : String) : Option DE :=
  (E.entries.find? (fun k => k.1 == DE.pkgOf E.ty && k.2.1 == role)).map (fun k => k.2.2)

/-- What is known on a path. -/
structure DSt where
  /-- the constant as the kernel will see it -/
  const : Option Cell
  /-- inside `enumSearch … found`: the constant is the `enumVal` of a position of the value table -/
  searched : Bool := false
  /-- the entry found by the innermost look-up -/
  fn : Option String := none

def DArg.const : DArg → Option Cell
  | .int v => some (.int v)
  | .float b => some (.float b)
  | .bool b => some (.bool b)
  | .str s => some (.str (some s))
  | _ => none

/-- The bitset the builder `for i, v := range values { if e(v) { bset.set(enumVal(i)) } }` returns, read with `isSet`. -/
def DE.bsetOf (vals : List Bytes) (P : KParams) (c : Cell) (builder : KE) : Nat → Bool := fun i =>
  match vals[i]? with
  | some v => (builder.eval .string [] P (.str (some v)) (.str none) c).getD false
  | none => false

/-- `m, err := qfstrings.NewMatcher(pat, cs)` of a kernel's statements in front of the loop. -/
def KE.matcher : KE → Option (KE × KE)
  | .matches p c _ => some (p, c)
  | .and a b | .or a b =>
    match a.matcher with
    | some m => some m
    | none => b.matcher
  | .not a => a.matcher
  | _ => none

def hasPre (sh : String) : Bool := sh == "guarded+pre" || sh == "unguarded+pre" || sh == "bitset+pre"

/-- Do the statements in front of a kernel's loop let it run? The only ones a table kernel has today are
`m, err := NewMatcher(<const>, <literal>); if err != nil { return err }`. `none`: statements this model does not know. -/
def preOk (lo : LikeOracle) (sh : String) (ke : KE) (c : Cell) : Option Bool :=
  if hasPre sh then
    match ke.matcher with
    | some (.const, .lit cs) =>
      match c with
      | .str (some v) => some (lo.valid v (!cs))
      | _ => none
    | _ => none
  else some true

/-- The kernel parameters and the constant a role stands for on this path. `wantSearched`: the callee takes an `enumVal`. -/
def roleArgs (E : DEnv) (σ : DSt) (wantSearched : Bool) : DRole → Option (KParams × Cell)
  | .const =>
    match σ.const with
    | some k => if E.ty = .enum ∧ σ.searched ≠ wantSearched then none else some (E.P, k)
    | none => none
  | .set =>
    match E.arg with
    | .ints l => some ({ E.P with ints := l }, .int 0)
    | .strs l => some ({ E.P with strs := l }, .int 0)
    | _ => none
  | .col2 =>
    match E.arg with
    | .col ty _ _ => if ty = E.ty then some (E.P, .int 0) else none
    | _ => none
  | .none => some (E.P, .int 0)

def DConv.apply (E : DEnv) : DConv → Cell → Option Cell
  | .floatToInt, .float b => some (.int (E.f2i b))
  | .intToFloat, .int v => some (.float (E.i2f v))
  | _, _ => none

/-- the column type whose element type a predicate must take for `onFn1` / `onFn2` of the receiver's package (ecolumn
takes `*string` predicates, like scolumn) -/
def fnTy : CType → CType
  | .enum => .string
  | t => t

/-- The meaning of a dispatch term. `sub fn σ` is the meaning of a call of another entry point of the package
(`Column.Filter` → `filterBuiltIn`, `filterCustom2`), see `DEnv.runFilter`. -/
def DE.run (E : DEnv) (sub : String → DSt → DRes) : DE → DSt → DRes
  | .typeSwitch a b c d e f g h i, σ =>
    match E.arg with
    | .int _ => a.run E sub σ
    | .float _ => b.run E sub σ
    | .bool _ => c.run E sub σ
    | .str _ => d.run E sub σ
    | .ints _ => e.run E sub σ
    | .strs _ => f.run E sub σ
    | .col ty _ _ => if ty = E.ty then g.run E sub σ else i.run E sub σ
    | .nil => h.run E sub σ
    | .other => i.run E sub σ
  | .lookup tab hit miss, σ =>
    match E.op with
    | none => .stuck
    | some op =>
      match E.tableFn tab op with
      | some fn => hit.run E sub { σ with fn := some fn }
      | none => miss.run E sub σ
  | .callKernel role ret, σ =>
    match σ.fn.bind E.kernel with
    | none => .stuck
    | some (sh, ke) =>
      match roleArgs E σ true role with
      | none => .stuck
      | some (P, c) =>
        match preOk E.lo sh ke c with
        | none => .stuck
        | some false => if ret then .err else .upd (fun _ _ b => some b)
        | some true => .upd (fun x y b => kstep sh (ke.eval E.ty E.vals P x y c) b)
  | .callBitset reader role checked, σ =>
    match σ.fn.bind E.kernel, E.kernel reader with
    | some (bsh, B), some (rsh, R) =>
      if bsh = "bitset" ∨ bsh = "bitset+pre" then
        match roleArgs E σ false role with
        | none => .stuck
        | some (P, c) =>
          match preOk E.lo bsh B c with
          | none => .stuck
          | some false => if checked then .err else .stuck
          | some true => .upd (fun x y b => kstep rsh (R.eval E.ty E.vals { P with bset := DE.bsetOf E.vals P c B } x y c) b)
      else .stuck
    | _, _ => .stuck
  | .err _, _ => .err
  | .ifNaN t e, σ =>
    match σ.const with
    | some (.float b) => if F64.isNaN b then t.run E sub σ else e.run E sub σ
    | _ => .stuck
  | .enumSearch found notFound, σ =>
    match E.ty, σ.const, σ.searched with
    | .enum, some (.str (some s)), false =>
      match enumRank E.vals s with
      | some _ => found.run E sub { σ with searched := true }
      | none => notFound.run E sub σ
    | _, _, _ => .stuck
  | .ifStrict t e, σ => if E.strict then t.run E sub σ else e.run E sub σ
  | .ifOpIs op t e, σ =>
    match E.op with
    | none => .stuck
    | some o => if o = op then t.run E sub σ else e.run E sub σ
  | .ifEqualTypes t e, σ =>
    match E.arg with
    | .col ty vals n =>
      if ty = E.ty then
        match runEqualTypes E.vals E.n vals n E.eqTypes with
        | some true => t.run E sub σ
        | some false => e.run E sub σ
        | none => .stuck
      else .stuck
    | _ => .stuck
  | .fillAllTrue, _ => .upd (fun _ _ _ => some true)
  | .nothing, _ => .upd (fun _ _ b => some b)
  | .convert cv k, σ =>
    match σ.const.bind (cv.apply E) with
    | some c => k.run E sub { σ with const := some c }
    | none => .stuck
  | .cmpSwitch a b c d, σ =>
    match E.cmp with
    | .str _ => a.run E sub σ
    | .fn1 ty => if ty = fnTy E.ty then b.run E sub σ else d.run E sub σ
    | .fn2 ty => if ty = fnTy E.ty then c.run E sub σ else d.run E sub σ
    | .other => d.run E sub σ
  | .callEntry fn ret, σ =>
    match sub fn σ with
    | .err => if ret then .err else .upd (fun _ _ b => some b)
    | r => r
  | .ownLoop fn role, σ =>
    match E.kernel fn with
    | none => .stuck
    | some (sh, ke) =>
      if (sh = "guarded" ∨ sh = "guarded+pre") ∧ ke.matcher = none then
        match roleArgs E σ true role with
        | none => .stuck
        | some (P, c) => .upd (fun x y b => kstep sh (ke.eval E.ty E.vals P x y c) b)
      else .stuck
  | .opaque _, _ => .stuck

def DEnv.start (E : DEnv) : DSt := { const := E.arg.const }

/-- `c.filterBuiltIn(index, op, arg, bIndex)` for the term `d` of the package's `filterBuiltIn`. -/
def DEnv.runBuiltIn (E : DEnv) (d : DE) : DRes := d.run E (fun _ _ => .stuck) E.start

/-- `c.Filter(index, cmp, arg, bIndex)`: the term of `Column.Filter`, whose calls of other entry points of the package
are the terms of those (which call no further entry point). -/
def DEnv.runFilter (E : DEnv) : DRes :=
  match E.entry "filter" with
  | none => .stuck
  | some d => d.run E (fun fn σ => match E.entry fn with | some d' => d'.run E (fun _ _ => .stuck) σ | none => .stuck) E.start

/-- Does the term contain a part the translator did not understand? -/
def DE.hasOpaque : DE → Bool
  | .opaque _ => true
  | .typeSwitch a b c d e f g h i =>
    a.hasOpaque || b.hasOpaque || c.hasOpaque || d.hasOpaque || e.hasOpaque || f.hasOpaque || g.hasOpaque || h.hasOpaque || i.hasOpaque
  | .lookup _ a b | .ifNaN a b | .enumSearch a b | .ifStrict a b | .ifOpIs _ a b | .ifEqualTypes a b => a.hasOpaque || b.hasOpaque
  | .cmpSwitch a b c d => a.hasOpaque || b.hasOpaque || c.hasOpaque || d.hasOpaque
  | .convert _ k => k.hasOpaque
  | _ => false

/-- The term without the error messages (they are for the reader). -/
def DE.untag : DE → DE
  | .err _ => .err ""
  | .typeSwitch a b c d e f g h i => .typeSwitch a.untag b.untag c.untag d.untag e.untag f.untag g.untag h.untag i.untag
  | .lookup t a b => .lookup t a.untag b.untag
  | .ifNaN a b => .ifNaN a.untag b.untag
  | .enumSearch a b => .enumSearch a.untag b.untag
  | .ifStrict a b => .ifStrict a.untag b.untag
  | .ifOpIs o a b => .ifOpIs o a.untag b.untag
  | .ifEqualTypes a b => .ifEqualTypes a.untag b.untag
  | .cmpSwitch a b c d => .cmpSwitch a.untag b.untag c.untag d.untag
  | .convert c k => .convert c k.untag
  | d => d

def QCond.hasOpaque : QCond → Bool
  | .opaque _ => true
  | .or a b => a.hasOpaque || b.hasOpaque
  | _ => false

def QStep.hasOpaque : QStep → Bool
  | .opaque _ => true
  | .rejectIf c => c.hasOpaque
  | _ => false

end QF
