import QF.Spec.Ops
import QF.Core.ListFacts
/-!
# JS / CW / PS — the three WRITERS of /repo/qframe.go as small programs, and their Go semantics

    func (qf QFrame) ToJSON(writer io.Writer) error                                  → JS  (a byte template program)
    func (qf QFrame) ToCSV(writer io.Writer, confFuncs ...csv.ToConfigFunc) error    → CW  (a record program)
    func (qf QFrame) String() string                                                 → PS  (a layout program)
    func fixLengthString(s string, pad string, desiredLen int) string                → FX
    func Max / Min(x, y int) int   of internal/math/integer                          → IE

The extractor (go/cmd/extract/wast.go) walks the bodies of these functions of /repo's current source — after the guard
`if qf.Err != nil { return … }`, which is part of `QF.Gen.guardAst2` (QF/Gen/Guards.lean; its meaning: QF/Props/C10Guards.lean) — and writes what it finds
to `QF/Gen/Writers.lean` on every run.

Terms name things by ROLE, never by identifier: "the byte buffer" (the one local `[]byte` variable that is written),
"the table prepared per column" (a local slice that is filled in a loop over the frame's columns), "the record" (the
`[]string` that is handed to the csv writer), "the selection" (`[]namedColumn`), "the resolved columns"
(`[]column.Column`), "the key / the value of the loop over the frame's index", "the key / the value of the loop over the
frame's columns". A cell is only ever read by `<column>.AppendByteStringAt(buf, <row>)` / `<column>.StringAt(<row>, naRep)`
where `<row>` is the frame's index AT the position of the row loop (`ix` of `for i, ix := range qf.index`, or
`qf.index[i]`): that is the logical cell `c.cells[i]` of the spec's frame. Anything else is `.opaque`.

Programs are written in continuation style: every statement carries the statements that follow it (`k`); `done` ends a
block (the body of a loop or of an `if`).

The semantics follow Go: `none` is "no meaning" (opaque code, a role that is not available) or a run-time panic (index
out of range, a nil column, a negative slice bound). The formatters of the cells are parameters (QF/Props/C09Observe.lean
proves what today's per-cell functions return); so are the writers' faults.
-/
namespace QF

/-- `for j, a := range l { … }`: the body is run for every element with its position, and the loop is left as soon as
`stop` holds of the state (the body has executed a `return`). -/
def loopIdx {α σ : Type} (step : Nat → α → σ → Option σ) (stop : σ → Bool) : Nat → List α → σ → Option σ
  | _, [], s => some s
  | j, a :: as, s => if stop s then some s else (step j a s).bind (loopIdx step stop (j + 1) as)

/-- `f` on every element; `none` as soon as one of them has no value -/
def optMap {α β : Type} (f : α → Option β) : List α → Option (List β)
  | [] => some []
  | a :: as =>
    match f a, optMap f as with
    | some b, some bs => some (b :: bs)
    | _, _ => none

/-- The writer calls that happen when the chunks `l` are written one after the other to a writer whose call number `k`
(counted from `start`) fails iff `fail k`, by a program that returns at the first failure: the calls made (the failing one
included) and whether one failed. -/
def cutWrites {α : Type} (fail : Nat → Bool) : Nat → List α → List α × Bool
  | _, [] => ([], false)
  | k, b :: bs => if fail k then ([b], true) else ((cutWrites fail (k + 1) bs).1.cons b, (cutWrites fail (k + 1) bs).2)

/-! ## (A) `ToJSON`: a byte template program -/

/-- What is appended to the byte buffer. -/
inductive JSrc where
  /-- literal bytes: `append(buf, byte('{'))`, `append(buf, "…"...)` -/
  | lit (b : Bytes)
  /-- `append(buf, <table>[j]...)`: the entry of the prepared table at the position of the current column -/
  | prepared
  /-- `qfstrings.AppendQuotedString(buf, <column>.name)` for the current column -/
  | quotedName
  | opaque (txt : String)
  deriving DecidableEq, Repr, Inhabited

/-- The statements of `ToJSON` after its guard. -/
inductive JS where
  /-- `tbl := make([][]byte, len(qf.columns)); for i, col := range qf.columns { tbl[i] = <s applied to nil> }` -/
  | prep (s : JSrc) (k : JS)
  /-- `buf := []byte{…}` -/
  | setBuf (b : Bytes) (k : JS)
  /-- `buf = buf[:0]` -/
  | reset (k : JS)
  /-- `buf = append(buf, …)` -/
  | emit (s : JSrc) (k : JS)
  /-- `buf = <column>.AppendByteStringAt(buf, <row>)` for the current column and the current row -/
  | emitCell (k : JS)
  /-- `if i > 0 { t }` for the position `i` of the row loop -/
  | ifRowPos (t k : JS)
  /-- `if buf[len(buf)-1] == c { buf = buf[:len(buf)-1] }` -/
  | stripIfLast (c : UInt8) (k : JS)
  /-- `for i, ix := range qf.index { body }` -/
  | forRows (body k : JS)
  /-- `for j, col := range qf.columns { body }` -/
  | forCols (body k : JS)
  /-- `_, err = writer.Write(buf); if err != nil { return err }` -/
  | write (k : JS)
  /-- `_, err = writer.Write([]byte{…}); return err` -/
  | writeLitRet (b : Bytes)
  /-- the end of a block -/
  | done
  | opaque (txt : String)
  deriving DecidableEq, Repr, Inhabited

structure JEnv where
  f : LFrame
  /-- the bytes `AppendQuotedString(buf, ·)` appends to `buf` -/
  quote : Bytes → Bytes
  /-- `<column>.AppendByteStringAt(buf, ·)` on the cell: the buffer returned -/
  app : LCol → Bytes → Cell → Option Bytes
  /-- does the writer's `Write` call number `k` (from 0) return an error? -/
  fail : Nat → Bool

structure JCtx where
  row : Option Nat := none
  col : Option (Nat × LCol) := none

structure JSt where
  tbl : List Bytes := []
  buf : Bytes := []
  /-- the arguments of the `Write` calls so far, in order -/
  writes : List Bytes := []
  /-- `some e`: the function has returned, with a non-nil error iff `e` -/
  ret : Option Bool := none
  deriving Repr, DecidableEq

/-- what `s` makes of the nil buffer for the column `c` -/
def JSrc.ofNil (E : JEnv) (c : LCol) : JSrc → Option Bytes
  | .lit b => some b
  | .quotedName => some (E.quote c.name)
  | _ => none

/-- the bytes `s` appends -/
def JSrc.eval (E : JEnv) (c : JCtx) (σ : JSt) : JSrc → Option Bytes
  | .lit b => some b
  | .prepared => c.col.bind (fun p => σ.tbl[p.1]?)
  | .quotedName => c.col.map (fun p => E.quote p.2.name)
  | .opaque _ => none

def JS.run (E : JEnv) : JS → JCtx → JSt → Option JSt
  | .prep s k, c, σ =>
    match optMap (fun col => s.ofNil E col) E.f.cols with
    | some t => k.run E c { σ with tbl := t }
    | none => none
  | .setBuf b k, c, σ => k.run E c { σ with buf := b }
  | .reset k, c, σ => k.run E c { σ with buf := [] }
  | .emit s k, c, σ =>
    match s.eval E c σ with
    | some b => k.run E c { σ with buf := σ.buf ++ b }
    | none => none
  | .emitCell k, c, σ =>
    match c.row, c.col with
    | some i, some (_, col) =>
      match E.app col σ.buf col.cells[i]! with
      | some b => k.run E c { σ with buf := b }
      | none => none
    | _, _ => none
  | .ifRowPos t k, c, σ =>
    match c.row with
    | some i =>
      if i > 0 then
        match t.run E c σ with
        | some σ' => if σ'.ret.isSome then some σ' else k.run E c σ'
        | none => none
      else k.run E c σ
    | none => none
  | .stripIfLast x k, c, σ =>
    match σ.buf.getLast? with
    | some y => k.run E c (if y = x then { σ with buf := σ.buf.dropLast } else σ)
    | none => none          -- index out of range
  | .forRows body k, c, σ =>
    match loopIdx (fun _ i σ => body.run E { c with row := some i } σ) (fun σ => σ.ret.isSome) 0 (List.range E.f.n) σ with
    | some σ' => if σ'.ret.isSome then some σ' else k.run E c σ'
    | none => none
  | .forCols body k, c, σ =>
    match loopIdx (fun j col σ => body.run E { c with col := some (j, col) } σ) (fun σ => σ.ret.isSome) 0 E.f.cols σ with
    | some σ' => if σ'.ret.isSome then some σ' else k.run E c σ'
    | none => none
  | .write k, c, σ =>
    if E.fail σ.writes.length then some { σ with writes := σ.writes ++ [σ.buf], ret := some true }
    else k.run E c { σ with writes := σ.writes ++ [σ.buf] }
  | .writeLitRet b, _, σ => some { σ with writes := σ.writes ++ [b], ret := some (E.fail σ.writes.length) }
  | .done, _, σ => some σ
  | .opaque _, _, _ => none

/-- What a caller of `ToJSON` sees: the `Write` calls in order and whether a non-nil error was returned; `none` when the
program has no meaning, panics or falls off its end. -/
def JS.output (E : JEnv) (p : JS) : Option (List Bytes × Bool) :=
  match p.run E {} {} with
  | some σ => σ.ret.map (fun e => (σ.writes, e))
  | none => none

def JSrc.hasOpaque : JSrc → Bool
  | .opaque _ => true
  | _ => false

def JS.hasOpaque : JS → Bool
  | .opaque _ => true
  | .prep s k | .emit s k => s.hasOpaque || k.hasOpaque
  | .setBuf _ k | .reset k | .emitCell k | .stripIfLast _ k | .write k => k.hasOpaque
  | .ifRowPos t k | .forRows t k | .forCols t k => t.hasOpaque || k.hasOpaque
  | .writeLitRet _ | .done => false

/-! ## (B) `ToCSV`: a record program -/

/-- What is appended to the record / to the resolved columns. -/
inductive CWItem where
  /-- `<s>.name` for the current element of the loop over the selection -/
  | selName
  /-- `qf.columnsByName[<name>]` for the current element of the loop over the record -/
  | recLookup
  /-- `<col>.StringAt(<row>, naRep)` for the current element of the loop over the resolved columns and the current row -/
  | cellString (naRep : Bytes)
  | opaque (txt : String)
  deriving DecidableEq, Repr, Inhabited

/-- The statements of `ToCSV` after the configuration is fetched and the frame's error is checked. The three list variables
are named by role: the SELECTION (`[]namedColumn`), the RECORD (`[]string`, handed to the csv writer), the RESOLVED columns
(`[]column.Column`). -/
inductive CW where
  /-- `if conf.Columns != nil { t } else { e }` -/
  | ifGiven (t e k : CW)
  /-- `if len(conf.Columns) != len(qf.columns) { return <error> }` -/
  | rejectIfLenNe (k : CW)
  /-- `sel = make([]namedColumn, len(qf.columns))` -/
  | selAlloc (k : CW)
  /-- `sel = qf.columns` -/
  | selFrame (k : CW)
  /-- `for i := range conf.Columns { body }` (the name `conf.Columns[i]` is the current one) -/
  | forGiven (body k : CW)
  /-- `if col, ok := qf.columnsByName[<current given name>]; !ok { miss } else { hit }` -/
  | lookupGiven (miss hit k : CW)
  /-- `sel[i] = col` for the position of the loop over the given names and the column just found -/
  | selSet (k : CW)
  /-- `return <non-nil error>` (a call into qerrors) -/
  | retErr
  /-- `rec := make([]string, 0, …)` -/
  | recNew (k : CW)
  /-- `rec = rec[:0]` -/
  | recReset (k : CW)
  /-- `cols := make([]column.Column, 0, …)` -/
  | colsNew (k : CW)
  /-- `for _, s := range sel { body }` -/
  | forSel (body k : CW)
  /-- `for _, name := range rec { body }` -/
  | forRec (body k : CW)
  /-- `for _, col := range cols { body }` -/
  | forResolved (body k : CW)
  /-- `rec = append(rec, x)` -/
  | recPush (x : CWItem) (k : CW)
  /-- `cols = append(cols, x)` -/
  | colsPush (x : CWItem) (k : CW)
  /-- `w := csv.NewWriter(writer)` -/
  | newWriter (k : CW)
  /-- `if conf.Header { t }` -/
  | ifHeader (t k : CW)
  /-- `err := w.Write(rec); if err != nil { return err }` -/
  | writeRec (k : CW)
  /-- `for i := 0; i < qf.Len(); i++ { body }` -/
  | forRows (body k : CW)
  /-- `w.Flush()` -/
  | flush (k : CW)
  /-- `return w.Error()` -/
  | retWriterErr
  | done
  | opaque (txt : String)
  deriving DecidableEq, Repr, Inhabited

structure CWEnv where
  f : LFrame
  /-- `conf.Columns`: `none` is nil -/
  given : Option (List Bytes)
  /-- `conf.Header` -/
  hdr : Bool
  /-- `<column>.StringAt(·, naRep)` on the cell -/
  strAt : LCol → Bytes → Cell → Option Bytes
  /-- does `w.Write` number `k` (from 0) return an error? -/
  wfail : Nat → Bool
  /-- is `w.Error()` non-nil after `w.Flush()` (when no `Write` has returned an error)? -/
  ferr : Bool

/-- How `ToCSV` has returned. -/
inductive CWRet where
  | nil
  /-- an error of `ToCSV`'s own (column selection) -/
  | reject
  /-- the error a `w.Write` returned -/
  | writeErr
  /-- the non-nil `w.Error()` -/
  | writerErr
  deriving DecidableEq, Repr, Inhabited

structure CWCtx where
  row : Option Nat := none
  /-- position and name in the loop over the given names -/
  g : Option (Nat × Bytes) := none
  /-- the column found by the look-up (`ok` is true) -/
  found : Option LCol := none
  /-- the element of the loop over the selection (`none` inside: the zero value) -/
  s : Option (Option LCol) := none
  /-- the element of the loop over the record -/
  nm : Option Bytes := none
  /-- the element of the loop over the resolved columns (`none` inside: a nil column) -/
  col : Option (Option LCol) := none

structure CWSt where
  sel : List (Option LCol) := []
  recd : List Bytes := []
  cols : List (Option LCol) := []
  /-- a csv writer exists -/
  writer : Bool := false
  /-- the records handed to `w.Write`, in order -/
  recs : List (List Bytes) := []
  flushed : Bool := false
  ret : Option CWRet := none
  deriving Repr

def CW.run (E : CWEnv) : CW → CWCtx → CWSt → Option CWSt
  | .ifGiven t e k, c, σ =>
    match (if E.given.isSome then t.run E c σ else e.run E c σ) with
    | some σ' => if σ'.ret.isSome then some σ' else k.run E c σ'
    | none => none
  | .rejectIfLenNe k, c, σ =>
    match E.given with
    | some g => if g.length ≠ E.f.cols.length then some { σ with ret := some .reject } else k.run E c σ
    | none => none          -- len(nil) is 0, but the statement is only meaningful where the list is given
  | .selAlloc k, c, σ => k.run E c { σ with sel := List.replicate E.f.cols.length none }
  | .selFrame k, c, σ => k.run E c { σ with sel := E.f.cols.map some }
  | .forGiven body k, c, σ =>
    match loopIdx (fun i nm σ => body.run E { c with g := some (i, nm) } σ) (fun σ => σ.ret.isSome) 0 (E.given.getD []) σ with
    | some σ' => if σ'.ret.isSome then some σ' else k.run E c σ'
    | none => none
  | .lookupGiven miss hit k, c, σ =>
    match c.g with
    | some (_, nm) =>
      match (match E.f.find? nm with
             | some col => hit.run E { c with found := some col } σ
             | none => miss.run E c σ) with
      | some σ' => if σ'.ret.isSome then some σ' else k.run E c σ'
      | none => none
    | none => none
  | .selSet k, c, σ =>
    match c.g, c.found with
    | some (i, _), some col => if i < σ.sel.length then k.run E c { σ with sel := σ.sel.set i (some col) } else none
    | _, _ => none
  | .retErr, _, σ => some { σ with ret := some .reject }
  | .recNew k, c, σ => k.run E c { σ with recd := [] }
  | .recReset k, c, σ => k.run E c { σ with recd := [] }
  | .colsNew k, c, σ => k.run E c { σ with cols := [] }
  | .forSel body k, c, σ =>
    match loopIdx (fun _ s σ => body.run E { c with s := some s } σ) (fun σ => σ.ret.isSome) 0 σ.sel σ with
    | some σ' => if σ'.ret.isSome then some σ' else k.run E c σ'
    | none => none
  | .forRec body k, c, σ =>
    match loopIdx (fun _ nm σ => body.run E { c with nm := some nm } σ) (fun σ => σ.ret.isSome) 0 σ.recd σ with
    | some σ' => if σ'.ret.isSome then some σ' else k.run E c σ'
    | none => none
  | .forResolved body k, c, σ =>
    match loopIdx (fun _ col σ => body.run E { c with col := some col } σ) (fun σ => σ.ret.isSome) 0 σ.cols σ with
    | some σ' => if σ'.ret.isSome then some σ' else k.run E c σ'
    | none => none
  | .recPush x k, c, σ =>
    match x with
    | .selName =>
      match c.s with
      | some s => k.run E c { σ with recd := σ.recd ++ [(s.map (·.name)).getD []] }
      | none => none
    | .cellString naRep =>
      match c.col, c.row with
      | some (some col), some i =>
        match E.strAt col naRep col.cells[i]! with
        | some b => k.run E c { σ with recd := σ.recd ++ [b] }
        | none => none
      | _, _ => none          -- a nil column: Go panics
    | _ => none
  | .colsPush x k, c, σ =>
    match x with
    | .recLookup =>
      match c.nm with
      | some nm => k.run E c { σ with cols := σ.cols ++ [E.f.find? nm] }
      | none => none
    | _ => none
  | .newWriter k, c, σ => k.run E c { σ with writer := true }
  | .ifHeader t k, c, σ =>
    if E.hdr then
      match t.run E c σ with
      | some σ' => if σ'.ret.isSome then some σ' else k.run E c σ'
      | none => none
    else k.run E c σ
  | .writeRec k, c, σ =>
    if σ.writer then
      if E.wfail σ.recs.length then some { σ with recs := σ.recs ++ [σ.recd], ret := some .writeErr }
      else k.run E c { σ with recs := σ.recs ++ [σ.recd] }
    else none
  | .forRows body k, c, σ =>
    match loopIdx (fun _ i σ => body.run E { c with row := some i } σ) (fun σ => σ.ret.isSome) 0 (List.range E.f.n) σ with
    | some σ' => if σ'.ret.isSome then some σ' else k.run E c σ'
    | none => none
  | .flush k, c, σ => if σ.writer then k.run E c { σ with flushed := true } else none
  | .retWriterErr, _, σ => if σ.writer then some { σ with ret := some (if E.ferr then .writerErr else .nil) } else none
  | .done, _, σ => some σ
  | .opaque _, _, _ => none

/-- What a caller of `ToCSV` sees: the records handed to the csv writer, whether the writer was flushed, and the return. -/
def CW.output (E : CWEnv) (p : CW) : Option (List (List Bytes) × Bool × CWRet) :=
  match p.run E {} {} with
  | some σ => σ.ret.map (fun r => (σ.recs, σ.flushed, r))
  | none => none

def CWItem.hasOpaque : CWItem → Bool
  | .opaque _ => true
  | _ => false

def CW.hasOpaque : CW → Bool
  | .opaque _ => true
  | .ifGiven t e k | .lookupGiven t e k => t.hasOpaque || e.hasOpaque || k.hasOpaque
  | .forGiven t k | .forSel t k | .forRec t k | .forResolved t k | .ifHeader t k | .forRows t k => t.hasOpaque || k.hasOpaque
  | .recPush x k | .colsPush x k => x.hasOpaque || k.hasOpaque
  | .rejectIfLenNe k | .selAlloc k | .selFrame k | .selSet k | .recNew k | .recReset k | .colsNew k | .newWriter k
  | .writeRec k | .flush k => k.hasOpaque
  | .retErr | .retWriterErr | .done => false

/-! ## (C) `String()`: a layout program -/

inductive ICmp where
  | gt | lt | ge | le
  deriving DecidableEq, Repr, Inhabited

def ICmp.eval : ICmp → Int → Int → Bool
  | .gt, a, b => decide (a > b)
  | .lt, a, b => decide (a < b)
  | .ge, a, b => decide (a ≥ b)
  | .le, a, b => decide (a ≤ b)

/-- An int function of two int parameters (`integer.Max`, `integer.Min`): `x`, `y` are the first and second parameter. -/
inductive IE where
  | x | y
  /-- `if a <c> b { t }` followed by `e` -/
  | ite (c : ICmp) (a b t e : IE)
  | opaque (txt : String)
  deriving DecidableEq, Repr, Inhabited

def IE.eval (x y : Int) : IE → Option Int
  | .x => some x
  | .y => some y
  | .ite c a b t e =>
    match a.eval x y, b.eval x y with
    | some u, some v => if c.eval u v then t.eval x y else e.eval x y
    | _, _ => none
  | .opaque _ => none

def IE.hasOpaque : IE → Bool
  | .opaque _ => true
  | .ite _ a b t e => a.hasOpaque || b.hasOpaque || t.hasOpaque || e.hasOpaque
  | _ => false

/-- Ints of `fixLengthString(s, pad, desiredLen)`. -/
inductive FXI where
  /-- the third parameter -/
  | w
  /-- `len(s)` -/
  | lenS
  | lit (n : Int)
  | sub (a b : FXI)
  deriving DecidableEq, Repr, Inhabited

/-- Strings of `fixLengthString`. -/
inductive FXS where
  /-- the first parameter -/
  | s
  /-- the second parameter -/
  | pad
  | lit (b : Bytes)
  | cat (a b : FXS)
  /-- `x[:hi]` -/
  | sliceTo (x : FXS) (hi : FXI)
  /-- `strings.Repeat(x, n)` -/
  | rep (x : FXS) (n : FXI)
  deriving DecidableEq, Repr, Inhabited

/-- `fixLengthString` as a decision tree. -/
inductive FX where
  /-- `if a <c> b { t }` followed by `e` -/
  | ite (c : ICmp) (a b : FXI) (t e : FX)
  | ret (v : FXS)
  | opaque (txt : String)
  deriving DecidableEq, Repr, Inhabited

def FXI.eval (s : Bytes) (w : Int) : FXI → Int
  | .w => w
  | .lenS => s.length
  | .lit n => n
  | .sub a b => a.eval s w - b.eval s w

/-- `none`: Go panics (slice bounds out of range, negative `Repeat` count) -/
def FXS.eval (s pad : Bytes) (w : Int) : FXS → Option Bytes
  | .s => some s
  | .pad => some pad
  | .lit b => some b
  | .cat a b =>
    match a.eval s pad w, b.eval s pad w with
    | some u, some v => some (u ++ v)
    | _, _ => none
  | .sliceTo x hi =>
    match x.eval s pad w with
    | some u => if 0 ≤ hi.eval s w ∧ hi.eval s w ≤ u.length then some (u.take (hi.eval s w).toNat) else none
    | none => none
  | .rep x n =>
    match x.eval s pad w with
    | some u => if 0 ≤ n.eval s w then some (List.replicate (n.eval s w).toNat u).flatten else none
    | none => none

def FX.eval (s pad : Bytes) (w : Int) : FX → Option Bytes
  | .ite c a b t e => if c.eval (a.eval s w) (b.eval s w) then t.eval s pad w else e.eval s pad w
  | .ret v => v.eval s pad w
  | .opaque _ => none

def FX.hasOpaque : FX → Bool
  | .opaque _ => true
  | .ite _ _ _ t e => t.hasOpaque || e.hasOpaque
  | .ret _ => false

/-- Expressions of `String()`: strings and ints. -/
inductive PE where
  /-- a string literal -/
  | str (b : Bytes)
  /-- an int literal -/
  | num (n : Int)
  /-- `<column>.name` for the current column -/
  | colName
  /-- `string(<column>.DataType())` -/
  | typeName
  /-- `s[:n]` -/
  | sliceTo (n : Nat) (s : PE)
  /-- `a + b` on strings -/
  | cat (a b : PE)
  /-- `len(s)` -/
  | len (s : PE)
  /-- `integer.Max(a, b)` / `integer.Min(a, b)` -/
  | max (a b : PE)
  | min (a b : PE)
  /-- `qf.Len()` (the error is nil) -/
  | nrows
  /-- `len(qf.columns)` -/
  | ncols
  /-- `widths[j]` at the position of the current column -/
  | width
  /-- `<column>.StringAt(<row>, naRep)` for the current column and the current row -/
  | cellStr (naRep : Bytes)
  /-- `fixLengthString(s, pad, w)` -/
  | fix (s pad w : PE)
  /-- `%d` of `fmt.Sprintf` -/
  | itoa (n : PE)
  | opaque (txt : String)
  deriving DecidableEq, Repr, Inhabited

/-- The statements of `String()` after its guard. -/
inductive PS where
  /-- `result := make([]string, 0, …)` -/
  | allocResult (k : PS)
  /-- `row := make([]string, len(qf.columns))` -/
  | allocRow (k : PS)
  /-- `widths := make([]int, len(qf.columns))` -/
  | allocWidths (k : PS)
  /-- `for j, s := range qf.columns { body }` -/
  | forCols (body k : PS)
  /-- `widths[j] = e` -/
  | setWidth (e : PE) (k : PS)
  /-- `row[j] = e` -/
  | setRow (e : PE) (k : PS)
  /-- `result = append(result, strings.Join(row, sep))` -/
  | pushJoin (sep : Bytes) (k : PS)
  /-- `result = append(result, e)` -/
  | push (e : PE) (k : PS)
  /-- `for i := 0; i < bound; i++ { body }` -/
  | forRowsTo (bound : PE) (body k : PS)
  /-- `if a > b { t }` -/
  | ifGt (a b : PE) (t k : PS)
  /-- `return strings.Join(result, sep)` -/
  | retJoin (sep : Bytes)
  | done
  | opaque (txt : String)
  deriving DecidableEq, Repr, Inhabited

inductive PV where
  | s (b : Bytes)
  | i (n : Int)
  deriving DecidableEq, Repr, Inhabited

structure PEnv where
  f : LFrame
  /-- `string(<column>.DataType())` -/
  typeName : LCol → Option Bytes
  /-- `<column>.StringAt(·, naRep)` on the cell -/
  strAt : LCol → Bytes → Cell → Option Bytes
  /-- `fixLengthString` -/
  fix : Bytes → Bytes → Int → Option Bytes
  max : Int → Int → Option Int
  min : Int → Int → Option Int
  /-- `%d` -/
  itoa : Int → Bytes

structure PCtx where
  row : Option Nat := none
  col : Option (Nat × LCol) := none

structure PSt where
  result : List Bytes := []
  row : List Bytes := []
  widths : List Int := []
  ret : Option Bytes := none
  deriving Repr, DecidableEq

/-- `strings.Join(l, sep)` -/
def joinBytes (sep : Bytes) (l : List Bytes) : Bytes := (l.intersperse sep).flatten

def PE.eval (E : PEnv) (c : PCtx) (σ : PSt) : PE → Option PV
  | .str b => some (.s b)
  | .num n => some (.i n)
  | .colName => c.col.map (fun p => .s p.2.name)
  | .typeName => c.col.bind (fun p => (E.typeName p.2).map .s)
  | .sliceTo n s =>
    match s.eval E c σ with
    | some (.s b) => if n ≤ b.length then some (.s (b.take n)) else none
    | _ => none
  | .cat a b =>
    match a.eval E c σ, b.eval E c σ with
    | some (.s u), some (.s v) => some (.s (u ++ v))
    | _, _ => none
  | .len s =>
    match s.eval E c σ with
    | some (.s b) => some (.i b.length)
    | _ => none
  | .max a b =>
    match a.eval E c σ, b.eval E c σ with
    | some (.i u), some (.i v) => (E.max u v).map .i
    | _, _ => none
  | .min a b =>
    match a.eval E c σ, b.eval E c σ with
    | some (.i u), some (.i v) => (E.min u v).map .i
    | _, _ => none
  | .nrows => some (.i E.f.n)
  | .ncols => some (.i E.f.cols.length)
  | .width => c.col.bind (fun p => σ.widths[p.1]?.map .i)
  | .cellStr naRep =>
    match c.row, c.col with
    | some i, some (_, col) => if i < E.f.n then (E.strAt col naRep col.cells[i]!).map .s else none   -- `qf.index[i]`
    | _, _ => none
  | .fix s pad w =>
    match s.eval E c σ, pad.eval E c σ, w.eval E c σ with
    | some (.s u), some (.s p), some (.i n) => (E.fix u p n).map .s
    | _, _, _ => none
  | .itoa n =>
    match n.eval E c σ with
    | some (.i v) => some (.s (E.itoa v))
    | _ => none
  | .opaque _ => none

def PS.run (E : PEnv) : PS → PCtx → PSt → Option PSt
  | .allocResult k, c, σ => k.run E c { σ with result := [] }
  | .allocRow k, c, σ => k.run E c { σ with row := List.replicate E.f.cols.length [] }
  | .allocWidths k, c, σ => k.run E c { σ with widths := List.replicate E.f.cols.length 0 }
  | .forCols body k, c, σ =>
    match loopIdx (fun j col σ => body.run E { c with col := some (j, col) } σ) (fun σ => σ.ret.isSome) 0 E.f.cols σ with
    | some σ' => if σ'.ret.isSome then some σ' else k.run E c σ'
    | none => none
  | .setWidth e k, c, σ =>
    match c.col, e.eval E c σ with
    | some (j, _), some (.i n) => if j < σ.widths.length then k.run E c { σ with widths := σ.widths.set j n } else none
    | _, _ => none
  | .setRow e k, c, σ =>
    match c.col, e.eval E c σ with
    | some (j, _), some (.s b) => if j < σ.row.length then k.run E c { σ with row := σ.row.set j b } else none
    | _, _ => none
  | .pushJoin sep k, c, σ => k.run E c { σ with result := σ.result ++ [joinBytes sep σ.row] }
  | .push e k, c, σ =>
    match e.eval E c σ with
    | some (.s b) => k.run E c { σ with result := σ.result ++ [b] }
    | _ => none
  | .forRowsTo bound body k, c, σ =>
    match bound.eval E c σ with
    | some (.i n) =>
      match loopIdx (fun _ i σ => body.run E { c with row := some i } σ) (fun σ => σ.ret.isSome) 0 (List.range n.toNat) σ with
      | some σ' => if σ'.ret.isSome then some σ' else k.run E c σ'
      | none => none
    | _ => none
  | .ifGt a b t k, c, σ =>
    match a.eval E c σ, b.eval E c σ with
    | some (.i u), some (.i v) =>
      if u > v then
        match t.run E c σ with
        | some σ' => if σ'.ret.isSome then some σ' else k.run E c σ'
        | none => none
      else k.run E c σ
    | _, _ => none
  | .retJoin sep, _, σ => some { σ with ret := some (joinBytes sep σ.result) }
  | .done, _, σ => some σ
  | .opaque _, _, _ => none

/-- the string `String()` returns -/
def PS.output (E : PEnv) (p : PS) : Option Bytes := (p.run E {} {}).bind (·.ret)

def PE.hasOpaque : PE → Bool
  | .opaque _ => true
  | .sliceTo _ s | .len s | .itoa s => s.hasOpaque
  | .cat a b | .max a b | .min a b => a.hasOpaque || b.hasOpaque
  | .fix s p w => s.hasOpaque || p.hasOpaque || w.hasOpaque
  | _ => false

def PS.hasOpaque : PS → Bool
  | .opaque _ => true
  | .allocResult k | .allocRow k | .allocWidths k | .pushJoin _ k => k.hasOpaque
  | .forCols t k => t.hasOpaque || k.hasOpaque
  | .setWidth e k | .setRow e k | .push e k => e.hasOpaque || k.hasOpaque
  | .forRowsTo b t k => b.hasOpaque || t.hasOpaque || k.hasOpaque
  | .ifGt a b t k => a.hasOpaque || b.hasOpaque || t.hasOpaque || k.hasOpaque
  | .retJoin _ | .done => false

/-! ## The end of a block, a literal

Proved by unfolding, not by `rfl`: the equations of the interpreters are derived here, in the module that defines them, and
every later `simp [JS.run]` / `[CW.run]` / `[PS.run]` / `[PE.eval]` finds them instead of deriving them again. -/

theorem JS.run_done (E : JEnv) (c : JCtx) (σ : JSt) : JS.done.run E c σ = some σ := by simp only [JS.run]
theorem CW.run_done (E : CWEnv) (c : CWCtx) (σ : CWSt) : CW.done.run E c σ = some σ := by simp only [CW.run]
theorem PS.run_done (E : PEnv) (c : PCtx) (σ : PSt) : PS.done.run E c σ = some σ := by simp only [PS.run]
theorem PE.eval_str (E : PEnv) (c : PCtx) (σ : PSt) (b : Bytes) : (PE.str b).eval E c σ = some (.s b) := by
  simp only [PE.eval]

/-! ## Generic facts about `loopIdx`, `optMap`, `cutWrites` -/

theorem loopIdx_stop {α σ : Type} (step : Nat → α → σ → Option σ) (stop : σ → Bool) (j : Nat) (l : List α) (s : σ)
    (h : stop s = true) : loopIdx step stop j l s = some s := by
  cases l <;> simp [loopIdx, h]

theorem loopIdx_cons {α σ : Type} (step : Nat → α → σ → Option σ) (stop : σ → Bool) (j : Nat) (a : α) (as : List α) (s : σ)
    (h : stop s = false) : loopIdx step stop j (a :: as) s = (step j a s).bind (loopIdx step stop (j + 1) as) := by
  rw [loopIdx, h]; rfl

/-- **Slot filling.** `for i, x := range xs { slice[i] = f x }` on a slice with one slot per element (`mk pre l`: the state
whose slice is `l` when the elements `pre` are done; `g x`: what the loop ranges over for `x`): afterwards the slice is
`xs.map f`, whatever it held before. -/
theorem loopIdx_fill {α γ β σ : Type} (step : Nat → γ → σ → Option σ) (stop : σ → Bool) (mk : List α → List β → σ) (g : α → γ)
    (f : α → β) (hstop : ∀ p l, stop (mk p l) = false) (xs : List α)
    (hstep : ∀ pre x rest, xs = pre ++ x :: rest → ∀ (A : List β) d R, A.length = pre.length →
      step A.length (g x) (mk pre (A ++ d :: R)) = some (mk (pre ++ [x]) (A ++ f x :: R))) :
    ∀ (rest pre : List α) (old : List β), xs = pre ++ rest → old.length = rest.length →
      loopIdx step stop pre.length (rest.map g) (mk pre (pre.map f ++ old)) = some (mk xs (xs.map f))
  | [], pre, old, h, ho => by
    cases List.length_eq_zero_iff.mp ho
    simp [loopIdx, h]
  | x :: rest, pre, old, h, ho => by
    obtain ⟨d, R, rfl⟩ := List.exists_cons_of_length_eq_add_one ho
    have hx := hstep pre x rest h (pre.map f) d R (List.length_map _)
    rw [List.length_map] at hx
    rw [List.map_cons, loopIdx_cons _ _ _ _ _ _ (hstop _ _), hx]
    have := loopIdx_fill step stop mk g f hstop xs hstep rest (pre ++ [x]) R (by simp [h]) (by simpa using ho)
    simpa using this

theorem optMap_eq_mapM {α β : Type} (g : α → Option β) : ∀ l : List α, optMap g l = l.mapM g := by
  intro l
  induction l with
  | nil => rfl
  | cons a as ih =>
    rw [List.mapM_cons, optMap, ih]
    cases g a <;> cases as.mapM g <;> rfl

theorem optMap_mem {α β : Type} (g : α → Option β) (l : List α) (r : List β) (h : optMap g l = some r) :
    r.length = l.length ∧ ∀ b ∈ r, ∃ a ∈ l, g a = some b := by
  rw [optMap_eq_mapM] at h
  exact ⟨ListFacts.mapM_length h, ListFacts.mapM_mem h⟩

theorem cutWrites_nofail {α : Type} (fail : Nat → Bool) (h : ∀ k, fail k = false) :
    ∀ (l : List α) (s : Nat), cutWrites fail s l = (l, false) := by
  intro l
  induction l with
  | nil => intro s; rfl
  | cons b bs ih => intro s; simp [cutWrites, h, ih]

/-- only call number `k` fails: the calls up to and including it -/
theorem cutWrites_at {α : Type} : ∀ (l : List α) (s k : Nat), s ≤ k → k < s + l.length →
    cutWrites (fun j => j == k) s l = (l.take (k - s + 1), true) := by
  intro l
  induction l with
  | nil => intro s k h1 h2; simp at h2; omega
  | cons b bs ih =>
    intro s k h1 h2
    by_cases hs : s = k
    · subst hs; simp [cutWrites]
    · have hb : (s == k) = false := by simpa using hs
      have e : k - s + 1 = (k - (s + 1) + 1) + 1 := by omega
      simp only [cutWrites, hb, Bool.false_eq_true, if_false]
      rw [ih (s + 1) k (by omega) (by simp at h2; omega), e]
      simp

theorem optMap_some {α β : Type} (g : α → β) (l : List α) : optMap (fun a => some (g a)) l = some (l.map g) := by
  rw [optMap_eq_mapM]; exact ListFacts.mapM_eq_some_map g fun _ _ => rfl

theorem cutWrites_ok {α : Type} (fail : Nat → Bool) : ∀ (l : List α) (s : Nat), (cutWrites fail s l).2 = false →
    (cutWrites fail s l).1 = l := by
  intro l
  induction l with
  | nil => intro s _; rfl
  | cons b bs ih =>
    intro s h
    by_cases hs : fail s = true
    · simp [cutWrites, hs] at h
    · simp only [cutWrites, hs, Bool.false_eq_true, if_false] at h ⊢
      rw [List.cons_eq_cons]; exact ⟨rfl, ih (s + 1) h⟩

/-- one more chunk after `l` -/
theorem cutWrites_snoc {α : Type} (fail : Nat → Bool) (x : α) : ∀ (l : List α) (s : Nat),
    cutWrites fail s (l ++ [x]) =
      if (cutWrites fail s l).2 then cutWrites fail s l
      else ((cutWrites fail s l).1 ++ [x], fail (s + l.length)) := by
  intro l
  induction l with
  | nil => intro s; by_cases hs : fail s = true <;> simp [cutWrites, hs]
  | cons b bs ih =>
    intro s
    by_cases hs : fail s = true
    · simp [cutWrites, hs]
    · simp only [List.cons_append, cutWrites, hs, Bool.false_eq_true, if_false, ih (s + 1)]
      by_cases hc : (cutWrites fail (s + 1) bs).2 = true
      · simp [hc]
      · have e : s + 1 + bs.length = s + (bs.length + 1) := by omega
        simp [hc, e]

/-- **One call per round.** Every round hands one more item (`g a`) to a writer and returns with `err` iff that call fails
(`mk t w r`: the state with the calls `w` so far and the return `r`; `t`: whatever else a round changes): the calls made are
those of `cutWrites`. -/
theorem loopIdx_writes {α β τ ε σ : Type} (step : Nat → α → σ → Option σ) (ret : σ → Option ε) (fail : Nat → Bool)
    (mk : τ → List β → Option ε → σ) (err : ε) (g : α → β) (hret : ∀ t w r, ret (mk t w r) = r) :
    ∀ rs : List α, (∀ a ∈ rs, ∀ j t w, ∃ t', step j a (mk t w none) =
        some (mk t' (w ++ [g a]) (if fail w.length then some err else none))) →
      ∀ j t w, ∃ t', loopIdx step (fun s => (ret s).isSome) j rs (mk t w none) =
        some (mk t' (w ++ (cutWrites fail w.length (rs.map g)).1)
          (if (cutWrites fail w.length (rs.map g)).2 then some err else none))
  | [], _, j, t, w => ⟨t, by simp [loopIdx, cutWrites]⟩
  | a :: rs, h, j, t, w => by
    obtain ⟨t1, h1⟩ := h a (by simp) j t w
    rw [loopIdx_cons _ _ _ _ _ _ (by simp [hret]), h1, Option.bind_some, List.map_cons, cutWrites]
    by_cases hf : fail w.length = true
    · simp only [hf, if_true]
      exact ⟨t1, loopIdx_stop _ _ _ _ _ (by simp [hret])⟩
    · simp only [hf, Bool.false_eq_true, if_false]
      obtain ⟨t2, h2⟩ := loopIdx_writes step ret fail mk err g hret rs (fun x hx => h x (by simp [hx])) (j + 1) t1 (w ++ [g a])
      exact ⟨t2, h2.trans (by simp)⟩

end QF
