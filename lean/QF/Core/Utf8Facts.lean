import QF.Spec.Json
import QF.Core.Upper
/-!
# UTF-8: the project's decoder and encoder against one table

`Enc v bs`: `bs` is the well-formed UTF-8 sequence of the scalar value `v`, by the bit fields the bytes carry (the base-64 digits of
`v`, written in Horner form so that every arithmetic goal is linear). `Json.encodeRune` writes it (`Enc.sound`, `Enc.total`),
`Json.decodeRune` reads it back whatever follows (`Enc.decode`) and reads nothing else: on any input it returns the error U+FFFD of
width 1 or has found such a sequence (`decodeRune_wf`). What the users see is stated without `Enc`: `decodeRune_encodeRune`,
`decodeRune_high` (a first byte from 0x80 on), `encodeRune_1` / `decodeRune_ascii` (ASCII goes through both unchanged), `encodeRune_enc` (the
project's encoder writes Lean's `String.utf8EncodeChar`). `decodeRune_cons_eq` is the one place where the decoder is unfolded.
-/
namespace QF.Utf8
open QF

/-- Unicode scalar values (`Char.valid`) -/
abbrev Scalar (v : Nat) : Prop := v.isValidChar

theorem ofNat_eq {b : UInt8} {n : Nat} (h : b.toNat = n) : UInt8.ofNat n = b := by
  subst h; exact UInt8.ofNat_toNat
theorem div64 (q : Nat) {d : Nat} (h : d < 64) : (q * 64 + d) / 64 = q := by omega
theorem mod64 (q : Nat) {d : Nat} (h : d < 64) : (q * 64 + d) % 64 = d := by omega
theorem m80 {y : Nat} (hy : y < 64) : (0x80 + y) % 64 = y := by omega
theorem digits64 (v : Nat) : ∃ q d, d < 64 ∧ v = q * 64 + d :=
  ⟨v / 64, v % 64, Nat.mod_lt _ (by decide), (Nat.div_add_mod' v 64).symm⟩

/-! ## the decoder with its tests on numbers -/

theorem ite_le_iff {p : Prop} [Decidable p] {a b : Nat} (h : b ≤ a) (n : Nat) :
    (if p then a else b) ≤ n ↔ b ≤ n ∧ (p → a ≤ n) := by
  split <;> simp_all <;> omega

theorem le_ite_iff {p : Prop} [Decidable p] {a b : Nat} (h : a ≤ b) (n : Nat) :
    n ≤ (if p then a else b) ↔ n ≤ b ∧ (p → n ≤ a) := by
  split <;> simp_all <;> omega

/-- `Json.decodeRune` with every test made on the values of the bytes; the second byte's narrower window after the lead
bytes E0, ED, F0, F4 (no overlong form, no surrogate, nothing above U+10FFFF) is an implication, which `omega` reads. -/
theorem decodeRune_cons_eq (b0 : UInt8) (rest : Bytes) : Json.decodeRune (b0 :: rest) =
    if b0.toNat < 0x80 then (b0.toNat, 1)
    else if 0xC2 ≤ b0.toNat ∧ b0.toNat ≤ 0xDF then
      match rest with
      | b1 :: _ => if 0x80 ≤ b1.toNat ∧ b1.toNat ≤ 0xBF then (b0.toNat % 32 * 64 + b1.toNat % 64, 2) else (0xFFFD, 1)
      | _ => (0xFFFD, 1)
    else if 0xE0 ≤ b0.toNat ∧ b0.toNat ≤ 0xEF then
      match rest with
      | b1 :: b2 :: _ =>
        if ((0x80 ≤ b1.toNat ∧ (b0.toNat = 0xE0 → 0xA0 ≤ b1.toNat)) ∧ b1.toNat ≤ 0xBF ∧ (b0.toNat = 0xED → b1.toNat ≤ 0x9F)) ∧
            0x80 ≤ b2.toNat ∧ b2.toNat ≤ 0xBF then
          (b0.toNat % 16 * 4096 + b1.toNat % 64 * 64 + b2.toNat % 64, 3) else (0xFFFD, 1)
      | _ => (0xFFFD, 1)
    else if 0xF0 ≤ b0.toNat ∧ b0.toNat ≤ 0xF4 then
      match rest with
      | b1 :: b2 :: b3 :: _ =>
        if (((0x80 ≤ b1.toNat ∧ (b0.toNat = 0xF0 → 0x90 ≤ b1.toNat)) ∧ b1.toNat ≤ 0xBF ∧ (b0.toNat = 0xF4 → b1.toNat ≤ 0x8F)) ∧
            0x80 ≤ b2.toNat ∧ b2.toNat ≤ 0xBF) ∧ 0x80 ≤ b3.toNat ∧ b3.toNat ≤ 0xBF then
          (b0.toNat % 8 * 262144 + b1.toNat % 64 * 4096 + b2.toNat % 64 * 64 + b3.toNat % 64, 4) else (0xFFFD, 1)
      | _ => (0xFFFD, 1)
    else (0xFFFD, 1) := by
  unfold Json.decodeRune
  simp only [UInt8.lt_iff_toNat_lt, UInt8.le_iff_toNat_le, Bool.and_eq_true, decide_eq_true_eq, beq_iff_eq, ← UInt8.toNat_inj,
    apply_ite UInt8.toNat, UInt8.reduceToNat, ite_le_iff (by decide : 128 ≤ 160), ite_le_iff (by decide : 128 ≤ 144),
    le_ite_iff (by decide : 159 ≤ 191), le_ite_iff (by decide : 143 ≤ 191)]
  rfl

theorem decodeRune_ascii (b0 : UInt8) (rest : Bytes) (h : b0.toNat < 0x80) : Json.decodeRune (b0 :: rest) = (b0.toNat, 1) := by
  rw [decodeRune_cons_eq, if_pos h]

/-! ## the table -/

/-- UTF-8 (RFC 3629 table): the well-formed byte sequence of a scalar value, by the bit fields the bytes carry (base-64 digits of the value);
`hlo`: no overlong form, `hhi`: no surrogate / nothing above U+10FFFF -/
inductive Enc : Nat → Bytes → Prop
  | one {v : Nat} (h : v < 0x80) : Enc v [UInt8.ofNat v]
  | two {x y : Nat} (hx : 2 ≤ x ∧ x < 32) (hy : y < 64) : Enc (x * 64 + y) [UInt8.ofNat (0xC0 + x), UInt8.ofNat (0x80 + y)]
  | three {x y z : Nat} (hx : x < 16) (hy : y < 64) (hz : z < 64) (hlo : x = 0 → 32 ≤ y) (hhi : x = 13 → y < 32) :
      Enc ((x * 64 + y) * 64 + z) [UInt8.ofNat (0xE0 + x), UInt8.ofNat (0x80 + y), UInt8.ofNat (0x80 + z)]
  | four {x y z w : Nat} (hx : x ≤ 4) (hy : y < 64) (hz : z < 64) (hw : w < 64) (hlo : x = 0 → 16 ≤ y) (hhi : x = 4 → y < 16) :
      Enc (((x * 64 + y) * 64 + z) * 64 + w) [UInt8.ofNat (0xF0 + x), UInt8.ofNat (0x80 + y), UInt8.ofNat (0x80 + z), UInt8.ofNat (0x80 + w)]

theorem encodeRune_eq (r : Nat) : Json.encodeRune r =
    if r < 0x80 then [UInt8.ofNat r]
    else if r < 0x800 then [UInt8.ofNat (0xC0 + r / 64), UInt8.ofNat (0x80 + r % 64)]
    else if r < 0x10000 then [UInt8.ofNat (0xE0 + r / 64 / 64), UInt8.ofNat (0x80 + r / 64 % 64), UInt8.ofNat (0x80 + r % 64)]
    else [UInt8.ofNat (0xF0 + r / 64 / 64 / 64), UInt8.ofNat (0x80 + r / 64 / 64 % 64), UInt8.ofNat (0x80 + r / 64 % 64),
      UInt8.ofNat (0x80 + r % 64)] := by
  simp only [Nat.div_div_eq_div_mul]; rfl

/-- the encoder writes the well-formed sequence; the value is a scalar value -/
theorem Enc.sound {v : Nat} {bs : Bytes} (h : Enc v bs) : bs = Json.encodeRune v ∧ Scalar v := by
  cases h with
  | one h => exact ⟨by rw [encodeRune_eq, if_pos h], by omega⟩
  | two hx hy => exact ⟨by rw [encodeRune_eq, if_neg (by omega), if_pos (by omega), div64 _ hy, mod64 _ hy], by omega⟩
  | three hx hy hz hlo hhi =>
    exact ⟨by rw [encodeRune_eq, if_neg (by omega), if_neg (by omega), if_pos (by omega), div64 _ hz, mod64 _ hz, div64 _ hy, mod64 _ hy],
      by omega⟩
  | four hx hy hz hw hlo hhi =>
    exact ⟨by rw [encodeRune_eq, if_neg (by omega), if_neg (by omega), if_neg (by omega), div64 _ hw, mod64 _ hw, div64 _ hz, mod64 _ hz,
      div64 _ hy, mod64 _ hy], by omega⟩

/-- every scalar value has one -/
theorem Enc.total {v : Nat} (hv : Scalar v) : Enc v (Json.encodeRune v) := by
  suffices h : ∃ bs, Enc v bs by obtain ⟨bs, h⟩ := h; rw [← h.sound.1]; exact h
  by_cases h1 : v < 0x80
  · exact ⟨_, .one h1⟩
  obtain ⟨q1, w, hw, rfl⟩ := digits64 v
  by_cases h2 : q1 * 64 + w < 0x800
  · exact ⟨_, .two (by omega) hw⟩
  obtain ⟨q2, z, hz, rfl⟩ := digits64 q1
  by_cases h3 : (q2 * 64 + z) * 64 + w < 0x10000
  · exact ⟨_, .three (by omega) hz hw (by omega) (by omega)⟩
  obtain ⟨q3, y, hy, rfl⟩ := digits64 q2
  exact ⟨_, .four (by omega) hy hz hw (by omega) (by omega)⟩

/-- the decoder reads a well-formed sequence back, whatever follows -/
theorem Enc.decode {v : Nat} {bs : Bytes} (h : Enc v bs) (rest : Bytes) : Json.decodeRune (bs ++ rest) = (v, bs.length) := by
  cases h with
  | one h =>
    have e : (UInt8.ofNat v).toNat = v := UInt8.toNat_ofNat_of_lt' (show v < 256 by omega)
    exact (decodeRune_ascii _ rest (e.symm ▸ h)).trans (by rw [e]; rfl)
  | @two x y hx hy =>
    show Json.decodeRune (_ :: _ :: rest) = _
    rw [decodeRune_cons_eq, UInt8.toNat_ofNat_of_lt' (show 0xC0 + x < 256 by omega), if_neg (by omega), if_pos (by omega)]
    simp only [UInt8.toNat_ofNat_of_lt' (show 0x80 + y < 256 by omega)]
    rw [if_pos (by omega), m80 hy, show (0xC0 + x) % 32 = x by omega]; rfl
  | @three x y z hx hy hz hlo hhi =>
    show Json.decodeRune (_ :: _ :: _ :: rest) = _
    rw [decodeRune_cons_eq, UInt8.toNat_ofNat_of_lt' (show 0xE0 + x < 256 by omega), if_neg (by omega), if_neg (by omega), if_pos (by omega)]
    simp only [UInt8.toNat_ofNat_of_lt' (show 0x80 + y < 256 by omega), UInt8.toNat_ofNat_of_lt' (show 0x80 + z < 256 by omega)]
    rw [if_pos (by omega), m80 hy, m80 hz, show (0xE0 + x) % 16 = x by omega, Prod.mk.injEq]
    exact ⟨by omega, rfl⟩
  | @four x y z w hx hy hz hw hlo hhi =>
    show Json.decodeRune (_ :: _ :: _ :: _ :: rest) = _
    rw [decodeRune_cons_eq, UInt8.toNat_ofNat_of_lt' (show 0xF0 + x < 256 by omega), if_neg (by omega), if_neg (by omega), if_neg (by omega),
      if_pos (by omega)]
    simp only [UInt8.toNat_ofNat_of_lt' (show 0x80 + y < 256 by omega), UInt8.toNat_ofNat_of_lt' (show 0x80 + z < 256 by omega),
      UInt8.toNat_ofNat_of_lt' (show 0x80 + w < 256 by omega)]
    rw [if_pos (by omega), m80 hy, m80 hz, m80 hw, show (0xF0 + x) % 8 = x by omega, Prod.mk.injEq]
    exact ⟨by omega, rfl⟩

/-- from 0x80 on: at least two bytes, all of them at least 0x80 -/
theorem Enc.high {v : Nat} {bs : Bytes} (h : Enc v bs) (hv : 0x80 ≤ v) : 2 ≤ bs.length ∧ ∀ x ∈ bs, 0x80 ≤ x.toNat := by
  have hb : ∀ n, 0x80 ≤ n → n < 256 → 0x80 ≤ (UInt8.ofNat n).toNat := fun n h1 h2 => by rw [UInt8.toNat_ofNat_of_lt' h2]; exact h1
  cases h with
  | one h => omega
  | two hx hy =>
    refine ⟨by simp, ?_⟩
    simp only [List.forall_mem_cons, List.not_mem_nil, false_imp_iff, implies_true, and_true]
    exact ⟨hb _ (by omega) (by omega), hb _ (by omega) (by omega)⟩
  | three hx hy hz hlo hhi =>
    refine ⟨by simp, ?_⟩
    simp only [List.forall_mem_cons, List.not_mem_nil, false_imp_iff, implies_true, and_true]
    exact ⟨hb _ (by omega) (by omega), hb _ (by omega) (by omega), hb _ (by omega) (by omega)⟩
  | four hx hy hz hw hlo hhi =>
    refine ⟨by simp, ?_⟩
    simp only [List.forall_mem_cons, List.not_mem_nil, false_imp_iff, implies_true, and_true]
    exact ⟨hb _ (by omega) (by omega), hb _ (by omega) (by omega), hb _ (by omega) (by omega), hb _ (by omega) (by omega)⟩

theorem byte_field (b : UInt8) (base : Nat) (h : base ≤ b.toNat) : ∃ x, b = UInt8.ofNat (base + x) ∧ b.toNat = base + x :=
  ⟨b.toNat - base, (ofNat_eq (by omega)).symm, by omega⟩

/-- the decoder on ANY input: the error, or the input starts with a well-formed sequence -/
theorem decodeRune_wf (b : UInt8) (rest : Bytes) :
    Json.decodeRune (b :: rest) = (0xFFFD, 1) ∨ ∃ v bs tl, Enc v bs ∧ b :: rest = bs ++ tl := by
  rw [decodeRune_cons_eq]
  by_cases h1 : b.toNat < 0x80
  · exact .inr ⟨_, _, rest, .one h1, by rw [UInt8.ofNat_toNat]; rfl⟩
  rw [if_neg h1]
  split
  · rename_i h0
    split
    · split
      · rename_i b1 tl hc
        obtain ⟨x, rfl, ex⟩ := byte_field b 0xC0 (by omega)
        obtain ⟨y, rfl, ey⟩ := byte_field b1 0x80 hc.1
        exact .inr ⟨_, _, tl, .two (by omega) (by omega), rfl⟩
      · exact .inl rfl
    · exact .inl rfl
  · split
    · rename_i h0
      split
      · split
        · rename_i b1 b2 tl hc
          obtain ⟨x, rfl, ex⟩ := byte_field b 0xE0 h0.1
          obtain ⟨y, rfl, ey⟩ := byte_field b1 0x80 hc.1.1.1
          obtain ⟨z, rfl, ez⟩ := byte_field b2 0x80 hc.2.1
          exact .inr ⟨_, _, tl, .three (by omega) (by omega) (by omega) (by omega) (by omega), rfl⟩
        · exact .inl rfl
      · exact .inl rfl
    · split
      · rename_i h0
        split
        · split
          · rename_i b1 b2 b3 tl hc
            obtain ⟨x, rfl, ex⟩ := byte_field b 0xF0 h0.1
            obtain ⟨y, rfl, ey⟩ := byte_field b1 0x80 hc.1.1.1.1
            obtain ⟨z, rfl, ez⟩ := byte_field b2 0x80 hc.1.2.1
            obtain ⟨w, rfl, ew⟩ := byte_field b3 0x80 hc.2.1
            exact .inr ⟨_, _, tl, .four (by omega) (by omega) (by omega) (by omega) (by omega) (by omega), rfl⟩
          · exact .inl rfl
        · exact .inl rfl
      · exact .inl rfl

/-! ## what the users see -/

theorem decodeRune_encodeRune {v : Nat} (hv : Scalar v) (rest : Bytes) :
    Json.decodeRune (Json.encodeRune v ++ rest) = (v, (Json.encodeRune v).length) := (Enc.total hv).decode rest

theorem encodeRune_1 {v : Nat} (h : v < 0x80) : Json.encodeRune v = [UInt8.ofNat v] := (Enc.one h).sound.1.symm

/-- the decoder on a first byte from 0x80 on: the error, or it has read — and reads back whatever follows — the encoding `b :: mid` of a
scalar value from 0x80 on, all of whose bytes are from 0x80 on -/
theorem decodeRune_high (b : UInt8) (rest : Bytes) (hb : ¬ b.toNat < 0x80) :
    Json.decodeRune (b :: rest) = (0xFFFD, 1) ∨
    ∃ v mid tl, rest = mid ++ tl ∧ b :: mid = Json.encodeRune v ∧ Scalar v ∧ 0x80 ≤ v ∧ mid ≠ [] ∧ (∀ x ∈ b :: mid, 0x80 ≤ x.toNat) ∧
      ∀ X, Json.decodeRune (b :: (mid ++ X)) = (v, mid.length + 1) := by
  rcases decodeRune_wf b rest with h | ⟨v, bs, tl, h, e⟩
  · exact .inl h
  · have hv : 0x80 ≤ v := by
      apply Nat.le_of_not_lt; intro hlt
      rw [h.sound.1, encodeRune_1 hlt, List.cons_append, List.cons.injEq] at e
      rw [e.1, UInt8.toNat_ofNat_of_lt' (show v < 256 by omega)] at hb; exact hb hlt
    obtain ⟨hl, hx⟩ := h.high hv
    cases bs with
    | nil => simp at hl
    | cons b' mid =>
      rw [List.cons_append, List.cons.injEq] at e
      obtain ⟨rfl, rfl⟩ := e
      exact .inr ⟨v, mid, tl, rfl, h.sound.1, h.sound.2, hv, by rintro rfl; simp at hl, hx, fun X => h.decode X⟩

/-- the project's encoder writes `U.enc`: only the lead byte's field is written differently (`% 0x20` … is the identity there) -/
theorem encodeRune_enc (c : Char) : Json.encodeRune c.toNat = U.enc c := by
  rw [U.enc_eq]
  have hv : c.toNat < 0xd800 ∨ 0xdfff < c.toNat ∧ c.toNat < 0x110000 := c.valid
  generalize c.toNat = v at *
  unfold Json.encodeRune
  by_cases h1 : v ≤ 0x7f
  · rw [if_pos (by omega), if_pos h1]
  by_cases h2 : v ≤ 0x7ff
  · rw [if_neg (by omega), if_pos (by omega), if_neg h1, if_pos h2, show v / 64 % 0x20 = v / 64 by omega]
    simp only [Nat.add_comm]
  by_cases h3 : v ≤ 0xffff
  · rw [if_neg (by omega), if_neg (by omega), if_pos (by omega), if_neg h1, if_neg h2, if_pos h3,
      show v / 4096 % 0x10 = v / 4096 by omega]
    simp only [Nat.add_comm]
  · rw [if_neg (by omega), if_neg (by omega), if_neg (by omega), if_neg h1, if_neg h2, if_neg h3,
      show v / 262144 % 0x08 = v / 262144 by omega]
    simp only [Nat.add_comm]

end QF.Utf8

#print axioms QF.Utf8.decodeRune_encodeRune
#print axioms QF.Utf8.decodeRune_high
