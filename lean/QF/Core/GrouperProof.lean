import QF.Core.Grouper
/-! Probe correctness for the open-addressing table under the reachability invariant. -/
namespace G

/-- k-th position on the probe path from `p` in a table of size `n` -/
def walk (n : Nat) : Nat → Nat → Nat
  | 0, p => p
  | k + 1, p => walk n k ((p + 1) % n)

theorem walk_eq (n k p : Nat) (hp : p < n) : walk n k p = (p + k) % n := by
  induction k generalizing p with
  | zero => simp [walk, Nat.mod_eq_of_lt hp]
  | succ k ih =>
    have hn : 0 < n := by omega
    rw [walk, ih _ (Nat.mod_lt _ hn)]
    rw [Nat.mod_add_mod]; congr 1; omega

theorem walk_lt (n k p : Nat) (hp : p < n) : walk n k p < n := by
  rw [walk_eq n k p hp]; exact Nat.mod_lt _ (by omega)

/-- every slot is on the path within n steps -/
theorem walk_cover (n p s : Nat) (hp : p < n) (hs : s < n) : ∃ k, k < n ∧ walk n k p = s := by
  by_cases h : p ≤ s
  · refine ⟨s - p, by omega, ?_⟩
    rw [walk_eq n _ p hp, show p + (s - p) = s by omega, Nat.mod_eq_of_lt hs]
  · refine ⟨s + n - p, by omega, ?_⟩
    rw [walk_eq n _ p hp, show p + (s + n - p) = s + n by omega, Nat.add_mod_right, Nat.mod_eq_of_lt hs]

variable (eqv : Nat → Nat → Bool)

theorem probe_zero (slots : Array (Option Entry)) (i h pos coll : Nat) : probe eqv slots i h 0 pos coll = none := rfl

theorem probe_succ (slots : Array (Option Entry)) (i h fuel pos coll : Nat) :
    probe eqv slots i h (fuel + 1) pos coll =
      (match slots[pos]? with
       | some none => some (pos, coll)
       | some (some e) => if e.hash == h && eqv i e.firstPos then some (pos, coll)
                          else probe eqv slots i h fuel ((pos + 1) % slots.size) (coll + 1)
       | none => none) := rfl

/-- stop condition of the probe at a slot -/
def stopAt (slots : Array (Option Entry)) (i h pos : Nat) : Bool :=
  match slots[pos]? with
  | some none => true
  | some (some e) => e.hash == h && eqv i e.firstPos
  | none => false

/-- probe returns the first stopping position on the path, with the number of steps as collisions -/
theorem probe_spec (slots : Array (Option Entry)) (i h : Nat) (k : Nat) :
    ∀ (fuel pos coll : Nat), pos < slots.size → k < fuel →
    stopAt eqv slots i h (walk slots.size k pos) = true →
    (∀ j, j < k → stopAt eqv slots i h (walk slots.size j pos) = false) →
    probe eqv slots i h fuel pos coll = some (walk slots.size k pos, coll + k) := by
  induction k with
  | zero =>
    intro fuel pos coll hp hf hs _
    cases fuel with
    | zero => omega
    | succ f =>
      simp only [walk] at hs
      rw [probe_succ]
      unfold stopAt at hs
      have hlt : slots[pos]? = some slots[pos] := by simp [hp]
      cases hv : slots[pos] with
      | none => simp [hlt, hv, walk]
      | some e => rw [hlt, hv] at hs; simp only at hs; simp [hlt, hv, hs, walk]
  | succ k ih =>
    intro fuel pos coll hp hf hs hall
    cases fuel with
    | zero => omega
    | succ f =>
      have h0 := hall 0 (by omega)
      simp only [walk] at h0
      rw [probe_succ]
      unfold stopAt at h0
      have hlt : slots[pos]? = some slots[pos] := by simp [hp]
      have hn : 0 < slots.size := by omega
      cases hv : slots[pos] with
      | none => rw [hlt, hv] at h0; simp at h0
      | some e =>
        rw [hlt, hv] at h0
        simp only at h0
        simp only [hlt, hv, h0, Bool.false_eq_true, ↓reduceIte]
        have := ih f ((pos + 1) % slots.size) (coll + 1) (Nat.mod_lt _ hn) (by omega)
          (by simpa [walk] using hs) (fun j hj => by have := hall (j + 1) (by omega); simpa [walk] using this)
        rw [this]; simp [walk]; omega


/-- a Boolean predicate that holds at `k` has a least witness -/
theorem least_true (P : Nat → Bool) : ∀ k, P k = true → ∃ m, m ≤ k ∧ P m = true ∧ ∀ j, j < m → P j = false := by
  intro k
  induction k using Nat.strongRecOn with
  | _ k ih =>
    intro hk
    by_cases h : ∃ j, j < k ∧ P j = true
    · obtain ⟨j, hj, hpj⟩ := h
      obtain ⟨m, hm, a, b⟩ := ih j hj hpj
      exact ⟨m, by omega, a, b⟩
    · refine ⟨k, Nat.le_refl _, hk, fun j hj => ?_⟩
      cases hv : P j with
      | false => rfl
      | true => exact absurd ⟨j, hj, hv⟩ h

/-- the probe always succeeds when some slot on the path within `size` steps stops it -/
theorem probe_finds (slots : Array (Option Entry)) (i h pos k : Nat) (hp : pos < slots.size)
    (hk : k < slots.size) (hs : stopAt eqv slots i h (walk slots.size k pos) = true) :
    ∃ m, m ≤ k ∧ probe eqv slots i h (slots.size + 1) pos 0 = some (walk slots.size m pos, m) ∧
      stopAt eqv slots i h (walk slots.size m pos) = true ∧
      ∀ j, j < m → stopAt eqv slots i h (walk slots.size j pos) = false := by
  obtain ⟨m, b, c, d⟩ := least_true (fun j => stopAt eqv slots i h (walk slots.size j pos)) k hs
  refine ⟨m, b, ?_, c, d⟩
  have := probe_spec eqv slots i h m (slots.size + 1) pos 0 hp (by omega) c d
  simpa using this

#print axioms probe_finds
end G
