import QF.Core.SorterHeap
/-! `doPivot` of the mirror establishes the partition `quickSort` needs (`doPivot_spec : PivotSpec less`), phase by phase; with
it `sort_sorted_full`. -/
namespace Sorter

variable (less : Nat → Nat → Bool)

/-- `for ; i < c && p i; i++ {}` -/
theorem scanUp_spec (p : Nat → Bool) : ∀ (fuel i c : Nat), c < fuel + i →
    i ≤ scanUp fuel p i c ∧ (i ≤ c → scanUp fuel p i c ≤ c) ∧
    (∀ k, i ≤ k → k < scanUp fuel p i c → p k = true) ∧
    (scanUp fuel p i c < c → p (scanUp fuel p i c) = false) := by
  intro fuel
  induction fuel with
  | zero =>
    -- no fuel: `c < i`, the loop does not start
    intro i c h
    have e : scanUp 0 p i c = i := rfl
    rw [e]
    exact ⟨Nat.le_refl _, fun h => h, fun k a b => by omega, fun h' => by omega⟩
  | succ f ih =>
    intro i c h
    unfold scanUp
    by_cases hc : (decide (i < c) && p i) = true
    · simp only [hc, ↓reduceIte]
      simp only [Bool.and_eq_true, decide_eq_true_eq] at hc
      obtain ⟨a1, a2, a3, a4⟩ := ih (i + 1) c (by omega)
      refine ⟨by omega, fun _ => a2 (by omega), fun k hk1 hk2 => ?_, a4⟩
      by_cases e : k = i
      · subst e; exact hc.2
      · exact a3 k (by omega) hk2
    · simp only [hc, Bool.false_eq_true, ↓reduceIte]
      refine ⟨Nat.le_refl _, fun h => h, fun k a b => by omega, fun hlt => ?_⟩
      cases hv : p i with
      | false => rfl
      | true => exact absurd (by simp [hlt, hv]) hc

/-- `for ; b < c && p (c-1); c-- {}` -/
theorem scanDown_spec (p : Nat → Bool) : ∀ (fuel b c : Nat), c < fuel + b →
    scanDown fuel p b c ≤ c ∧ (b ≤ c → b ≤ scanDown fuel p b c) ∧
    (∀ k, scanDown fuel p b c ≤ k → k < c → p k = true) ∧
    (b < scanDown fuel p b c → p (scanDown fuel p b c - 1) = false) := by
  intro fuel
  induction fuel with
  | zero =>
    intro b c h
    have e : scanDown 0 p b c = c := rfl
    rw [e]
    exact ⟨Nat.le_refl _, fun h => h, fun k a b => by omega, fun h' => by omega⟩
  | succ f ih =>
    intro b c h
    unfold scanDown
    by_cases hc : (decide (b < c) && p (c - 1)) = true
    · simp only [hc, ↓reduceIte]
      simp only [Bool.and_eq_true, decide_eq_true_eq] at hc
      obtain ⟨a1, a2, a3, a4⟩ := ih b (c - 1) (by omega)
      refine ⟨by omega, fun _ => a2 (by omega), fun k hk1 hk2 => ?_, a4⟩
      by_cases e : k = c - 1
      · subst e; exact hc.2
      · exact a3 k hk1 (by omega)
    · simp only [hc, Bool.false_eq_true, ↓reduceIte]
      refine ⟨Nat.le_refl _, fun h => h, fun k a b => by omega, fun hlt => ?_⟩
      cases hv : p (c - 1) with
      | false => rfl
      | true => exact absurd (by simp [hlt, hv]) hc

/-- a scan whose range is empty stays where it is -/
theorem scanUp_ge (p : Nat → Bool) (fuel i c : Nat) (h : c ≤ i) : scanUp fuel p i c = i := by
  cases fuel with
  | zero => rfl
  | succ f =>
    have : ¬ i < c := by omega
    simp [scanUp, this]

theorem scanDown_ge (p : Nat → Bool) (fuel b c : Nat) (h : c ≤ b) : scanDown fuel p b c = c := by
  cases fuel with
  | zero => rfl
  | succ f =>
    have : ¬ b < c := by omega
    simp [scanDown, this]

theorem ite_sw_rangePres (a : Ix) (c : Prop) [Decidable c] (i j lo hi : Nat) (hi' : lo ≤ i ∧ i < hi) (hj : lo ≤ j ∧ j < hi)
    (hsz : hi ≤ a.size) : RangePres a (if c then sw a i j else a) lo hi := by
  split
  · exact sw_rangePres a i j lo hi hi'.1 hi'.2 hj.1 hj.2 hsz
  · exact RangePres.refl _ _ _

/-- `medianOfThree` on three positions of a range rearranges that range (they need not be distinct) -/
theorem medianOfThree_rangePres (a : Ix) (m1 m0 m2 lo hi : Nat) (h0 : lo ≤ m0 ∧ m0 < hi) (h1 : lo ≤ m1 ∧ m1 < hi)
    (h2 : lo ≤ m2 ∧ m2 < hi) (hsz : hi ≤ a.size) : RangePres a (medianOfThree less a m1 m0 m2) lo hi := by
  unfold medianOfThree
  have hb := ite_sw_rangePres a (lt less a m1 m0 = true) m1 m0 lo hi h1 h0 hsz
  generalize (if lt less a m1 m0 = true then sw a m1 m0 else a) = b at hb ⊢
  have hbsz : hi ≤ b.size := by rw [hb.size]; exact hsz
  simp only []
  split
  · exact hb.trans ((sw_rangePres b m2 m1 lo hi h2.1 h2.2 h1.1 h1.2 hbsz).trans
      (ite_sw_rangePres _ _ m1 m0 lo hi h1 h0 (by rw [sw_size]; exact hbsz)))
  · exact hb

/-- medianOfThree on three distinct in-range positions: result is a rearrangement of those positions with
    data[m0] ≤ data[m1] ≤ data[m2] -/
theorem medianOfThree_spec (sw0 : SWO less) (a : Ix) (m1 m0 m2 lo hi : Nat)
    (h0 : lo ≤ m0 ∧ m0 < hi) (h1 : lo ≤ m1 ∧ m1 < hi) (h2 : lo ≤ m2 ∧ m2 < hi)
    (d01 : m0 ≠ m1) (d12 : m1 ≠ m2) (d02 : m0 ≠ m2) (hsz : hi ≤ a.size) :
    RangePres a (medianOfThree less a m1 m0 m2) lo hi ∧
    less (at' (medianOfThree less a m1 m0 m2) m1) (at' (medianOfThree less a m1 m0 m2) m0) = false ∧
    less (at' (medianOfThree less a m1 m0 m2) m2) (at' (medianOfThree less a m1 m0 m2) m1) = false ∧
    (∀ k, k ≠ m0 → k ≠ m1 → k ≠ m2 → at' (medianOfThree less a m1 m0 m2) k = at' a k) := by
  refine ⟨medianOfThree_rangePres less a m1 m0 m2 lo hi h0 h1 h2 hsz, ?_⟩
  unfold medianOfThree
  generalize hb : (if lt less a m1 m0 = true then sw a m1 m0 else a) = b
  have hbr : b.size = a.size ∧ less (at' b m1) (at' b m0) = false ∧ (∀ k, k ≠ m0 → k ≠ m1 → at' b k = at' a k) := by
    subst hb
    split
    · rename_i hc
      rw [lt_eq] at hc
      have G := fun k => sw_at a m1 m0 k (by omega) (by omega)
      refine ⟨sw_size _ _ _, ?_, fun k k0 k1 => by rw [G k]; simp [k0, k1]⟩
      rw [G m1, G m0]; simp [d01, Ne.symm d01]; exact sw0.asymm _ _ hc
    · rename_i hc
      refine ⟨rfl, ?_, fun _ _ _ => rfl⟩
      cases hv : lt less a m1 m0 with
      | false => simpa [lt_eq] using hv
      | true => exact absurd hv hc
  obtain ⟨bs, b10, bo⟩ := hbr
  simp only []
  by_cases c2 : lt less b m2 m1 = true
  · simp only [c2, ↓reduceIte]
    rw [lt_eq] at c2
    have G := fun k => sw_at b m2 m1 k (by omega) (by omega)
    -- in c := sw b m2 m1: c[m1] = b[m2], c[m2] = b[m1], c[m0] = b[m0]
    have c1v : at' (sw b m2 m1) m1 = at' b m2 := by rw [G m1]; simp
    have c2v : at' (sw b m2 m1) m2 = at' b m1 := by rw [G m2]; simp [Ne.symm d12]
    have c0v : at' (sw b m2 m1) m0 = at' b m0 := by rw [G m0]; simp [d01, d02]
    by_cases c3 : lt less (sw b m2 m1) m1 m0 = true
    · simp only [c3, ↓reduceIte]
      rw [lt_eq, c1v, c0v] at c3
      have G2 := fun k => sw_at (sw b m2 m1) m1 m0 k (by rw [sw_size]; omega) (by rw [sw_size]; omega)
      refine ⟨?_, ?_, ?_⟩
      · rw [G2 m1, G2 m0]; simp [d01, Ne.symm d01]; rw [c1v, c0v]; exact sw0.asymm _ _ c3
      · rw [G2 m2, G2 m1]; simp [Ne.symm d02, Ne.symm d12, Ne.symm d01, d01]; rw [c2v, c0v]; exact b10
      · intro k k0 k1 k2; rw [G2 k]; simp [k0, k1]; rw [G k]; simp [k1, k2]; exact bo k k0 k1
    · simp only [c3, Bool.false_eq_true, ↓reduceIte]
      have c3' : less (at' b m2) (at' b m0) = false := by
        cases hv : lt less (sw b m2 m1) m1 m0 with
        | false => simpa [lt_eq, c1v, c0v] using hv
        | true => exact absurd hv c3
      refine ⟨by rw [c1v, c0v]; exact c3', by rw [c2v, c1v]; exact sw0.asymm _ _ c2, ?_⟩
      intro k k0 k1 k2; rw [G k]; simp [k1, k2]; exact bo k k0 k1
  · simp only [c2, Bool.false_eq_true, ↓reduceIte]
    have : less (at' b m2) (at' b m1) = false := by
      cases hv : lt less b m2 m1 with
      | false => simpa [lt_eq] using hv
      | true => exact absurd hv c2
    exact ⟨b10, this, fun k k0 k1 _ => bo k k0 k1⟩


/-- invariant of the main partition loop: [lo+1,b) ≤ pivot, [b,c) unexamined, [c,hi-1) > pivot, data[hi-1] ≥ pivot -/
structure PA (a : Ix) (lo hi b c pv : Nat) : Prop where
  piv : at' a lo = pv
  b1 : lo + 1 ≤ b
  bc : b ≤ c
  ch : c ≤ hi - 1
  le : ∀ k, lo + 1 ≤ k → k < b → less pv (at' a k) = false
  gt : ∀ k, c ≤ k → k < hi - 1 → less pv (at' a k) = true
  last : less (at' a (hi - 1)) pv = false

theorem pivotLoop_spec (sw0 : SWO less) (lo hi pv : Nat) (hlh : lo + 2 ≤ hi) :
    ∀ (fuel : Nat) (a : Ix) (b c : Nat), c < fuel + b → hi ≤ a.size → PA less a lo hi b c pv →
      PA less (pivotLoop less fuel a lo b c).1 lo hi (pivotLoop less fuel a lo b c).2.1 (pivotLoop less fuel a lo b c).2.2 pv ∧
      (pivotLoop less fuel a lo b c).2.1 = (pivotLoop less fuel a lo b c).2.2 ∧
      RangePres a (pivotLoop less fuel a lo b c).1 (lo + 1) (hi - 1) := by
  intro fuel
  induction fuel with
  | zero => intro a b c h _ pa; have := pa.bc; omega
  | succ f ih =>
    intro a b c hf hsz pa
    unfold pivotLoop
    simp only []
    obtain ⟨hpiv, hb1, hbc, hch, ple, pgt, hlast⟩ := pa
    obtain ⟨u1, u2, u3, u4⟩ := scanUp_spec (fun i => !lt less a lo i) (a.size + 1) b c (by omega)
    generalize scanUp (a.size + 1) (fun i => !lt less a lo i) b c = b' at u1 u2 u3 u4
    have hb'c := u2 hbc
    obtain ⟨d1, d2, d3, d4⟩ := scanDown_spec (fun i => lt less a lo i) (a.size + 1) b' c (by omega)
    generalize scanDown (a.size + 1) (fun i => lt less a lo i) b' c = c' at d1 d2 d3 d4
    have hb'c' := d2 hb'c
    have le' : ∀ k, lo + 1 ≤ k → k < b' → less pv (at' a k) = false := by
      intro k hk1 hk2
      by_cases e : k < b
      · exact ple k hk1 e
      · have := u3 k (Nat.le_of_not_lt e) hk2
        simpa [lt_eq, hpiv] using this
    have gt' : ∀ k, c' ≤ k → k < hi - 1 → less pv (at' a k) = true := by
      intro k hk1 hk2
      by_cases e : c ≤ k
      · exact pgt k e hk2
      · have := d3 k hk1 (Nat.lt_of_not_le e)
        simpa [lt_eq, hpiv] using this
    by_cases hx : b' ≥ c'
    · simp only [hx, ↓reduceIte]
      exact ⟨⟨hpiv, Nat.le_trans hb1 u1, hb'c', Nat.le_trans d1 hch, le', gt', hlast⟩, Nat.le_antisymm hb'c' hx,
        RangePres.refl _ _ _⟩
    · simp only [hx, ↓reduceIte]
      have hlt : b' < c' := Nat.lt_of_not_le hx
      have hgb : less pv (at' a b') = true := by
        have := u4 (Nat.lt_of_lt_of_le hlt d1); simpa [lt_eq, hpiv] using this
      have hlc : less pv (at' a (c' - 1)) = false := by
        have := d4 hlt; simpa [lt_eq, hpiv] using this
      have hne : b' ≠ c' - 1 := by intro e; rw [← e, hgb] at hlc; cases hlc
      -- where the two swapped positions lie
      have ⟨n1, n2, n3, n4, n5, n6, n7, n8, n9, m1, m2, m3, m4⟩ : lo + 1 ≤ b' ∧ b' < hi - 1 ∧ lo + 1 ≤ c' - 1 ∧ c' - 1 < hi - 1 ∧
          hi - 1 ≤ a.size ∧ b' < a.size ∧ c' - 1 < a.size ∧ c' - 1 < f + (b' + 1) ∧ b' + 1 ≤ c' - 1 ∧
          lo ≠ b' ∧ lo ≠ c' - 1 ∧ hi - 1 ≠ b' ∧ hi - 1 ≠ c' - 1 := by omega
      obtain ⟨r1, r2, r3⟩ := ih (sw a b' (c' - 1)) (b' + 1) (c' - 1) n8 (by rw [sw_size]; exact hsz) (by
        refine ⟨?_, Nat.le_succ_of_le n1, n9, Nat.le_of_lt n4, fun k hk1 hk2 => ?_, fun k hk1 hk2 => ?_, ?_⟩
        · rw [sw_at_ne _ _ _ _ m1 m2]; exact hpiv
        · by_cases e : k = b'
          · rw [e, sw_at_fst _ _ _ n6 n7]; exact hlc
          · have ⟨q1, q2⟩ : k ≠ c' - 1 ∧ k < b' := by omega
            rw [sw_at_ne _ _ _ _ e q1]; exact le' k hk1 q2
        · by_cases e : k = c' - 1
          · rw [e, sw_at_snd _ _ _ n6 n7]; exact hgb
          · have ⟨q1, q2⟩ : k ≠ b' ∧ c' ≤ k := by omega
            rw [sw_at_ne _ _ _ _ q1 e]; exact gt' k q2 hk2
        · rw [sw_at_ne _ _ _ _ m3 m4]; exact hlast)
      exact ⟨r1, r2, (sw_rangePres a b' (c' - 1) (lo + 1) (hi - 1) n1 n2 n3 n4 n5).trans r3⟩


/-- invariant after the main loop: [lo+1,b) ≤ pivot, [b,c) equivalent to the pivot, [c,hi) ≥ pivot -/
structure PB (a : Ix) (lo hi b c pv : Nat) : Prop where
  piv : at' a lo = pv
  b1 : lo + 1 ≤ b
  bc : b ≤ c
  ch : c ≤ hi
  le : ∀ k, lo + 1 ≤ k → k < b → less pv (at' a k) = false
  eq : ∀ k, b ≤ k → k < c → less pv (at' a k) = false ∧ less (at' a k) pv = false
  ge : ∀ k, c ≤ k → k < hi → less (at' a k) pv = false

theorem PB_of_PA (sw0 : SWO less) (a : Ix) (lo hi b pv : Nat) (pa : PA less a lo hi b b pv) (hlh : lo + 2 ≤ hi) :
    PB less a lo hi b b pv := by
  refine ⟨pa.piv, pa.b1, Nat.le_refl _, by have := pa.ch; omega, pa.le, fun k h1 h2 => by omega, fun k h1 h2 => ?_⟩
  by_cases e : k < hi - 1
  · exact sw0.asymm _ _ (pa.gt k h1 e)
  · have : k = hi - 1 := by omega
    subst this; exact pa.last

/-- an element `i` of `[lo+1,b)` that is not below the pivot is equivalent to it: swapped to `b-1` it joins the middle zone -/
theorem PB.shrink {a : Ix} {lo hi b c pv : Nat} (pb : PB less a lo hi b c pv) (i : Nat) (h1 : lo + 1 ≤ i) (h2 : i < b)
    (hsz : hi ≤ a.size) (hge : less (at' a i) pv = false) : PB less (sw a i (b - 1)) lo hi (b - 1) c pv := by
  have hbc := pb.bc
  have hch := pb.ch
  have G := fun k => sw_at a i (b - 1) k (by omega) (by omega)
  refine ⟨?_, by omega, by omega, hch, fun k k1 k2 => ?_, fun k k1 k2 => ?_, fun k k1 k2 => ?_⟩
  · rw [sw_at_ne a i (b - 1) lo (by omega) (by omega)]; exact pb.piv
  · rw [G k, if_neg (by omega)]
    split
    · exact pb.le (b - 1) (by omega) (by omega)
    · exact pb.le k k1 (by omega)
  · rw [G k]
    split
    · exact ⟨pb.le i h1 h2, hge⟩
    · rw [if_neg (by omega)]; exact pb.eq k (by omega) k2
  · rw [sw_at_ne a i (b - 1) k (by omega) (by omega)]; exact pb.ge k k1 k2

/-- the protection loop keeps `PB` and moves `b` down; if `x > b` it does nothing -/
theorem protectLoop_pb (lo hi c pv : Nat) :
    ∀ (fuel : Nat) (a : Ix) (x b : Nat), b < fuel + x → hi ≤ a.size → lo + 1 ≤ x → PB less a lo hi b c pv →
      PB less (protectLoop less fuel a lo x b).1 lo hi (protectLoop less fuel a lo x b).2.2 c pv ∧
      RangePres a (protectLoop less fuel a lo x b).1 (lo + 1) hi := by
  intro fuel
  induction fuel with
  | zero => intro a x b _ _ _ pb; exact ⟨pb, RangePres.refl _ _ _⟩
  | succ f ih =>
    intro a x b hf hsz hx pb
    unfold protectLoop
    simp only []
    obtain ⟨hpiv, hb1, hbc, hch, ple, peq, pge⟩ := pb
    obtain ⟨d1, d2, d3, -⟩ := scanDown_spec (fun i => !lt less a i lo) (a.size + 1) x b (by omega)
    have d5 := scanDown_ge (fun i => !lt less a i lo) (a.size + 1) x b
    generalize scanDown (a.size + 1) (fun i => !lt less a i lo) x b = b' at d1 d2 d3 d5
    obtain ⟨u1, u2, u3, u4⟩ := scanUp_spec (fun i => lt less a i lo) (a.size + 1) x b' (by omega)
    generalize scanUp (a.size + 1) (fun i => lt less a i lo) x b' = x' at u1 u2 u3 u4
    have hb1' : lo + 1 ≤ b' := by omega
    -- the PB invariant with the smaller b'
    have pb' : PB less a lo hi b' c pv := by
      refine ⟨hpiv, hb1', Nat.le_trans d1 hbc, hch, fun k h1 h2 => ple k h1 (Nat.lt_of_lt_of_le h2 d1),
        fun k h1 h2 => ?_, pge⟩
      by_cases e : b ≤ k
      · exact peq k e h2
      · refine ⟨ple k (Nat.le_trans hb1' h1) (Nat.lt_of_not_le e), ?_⟩
        have := d3 k h1 (Nat.lt_of_not_le e)
        simpa [lt_eq, hpiv] using this
    by_cases hxx : x' ≥ b'
    · simp only [hxx, ↓reduceIte]
      exact ⟨pb', RangePres.refl _ _ _⟩
    · simp only [hxx, ↓reduceIte]
      have hlt : x' < b' := Nat.lt_of_not_le hxx
      have hge : less (at' a x') pv = false := by
        have := u4 hlt; simpa [lt_eq, hpiv] using this
      have ⟨n1, n2, n3, n4, n7, n8⟩ : lo + 1 ≤ x' ∧ x' < hi ∧ lo + 1 ≤ b' - 1 ∧ b' - 1 < hi ∧
          b' - 1 < f + (x' + 1) ∧ lo + 1 ≤ x' + 1 := by omega
      obtain ⟨r1, r2⟩ := ih (sw a x' (b' - 1)) (x' + 1) (b' - 1) n7 (by rw [sw_size]; exact hsz) n8
        (pb'.shrink less x' n1 hlt hsz hge)
      exact ⟨r1, (sw_rangePres a x' (b' - 1) (lo + 1) hi n1 n2 n3 n4 hsz).trans r2⟩

theorem protectLoop_spec (sw0 : SWO less) (lo hi c pv : Nat) :
    ∀ (fuel : Nat) (a : Ix) (x b : Nat), b < fuel + x → hi ≤ a.size → lo + 1 ≤ x → x ≤ b → PB less a lo hi b c pv →
      PB less (protectLoop less fuel a lo x b).1 lo hi (protectLoop less fuel a lo x b).2.2 c pv ∧
      RangePres a (protectLoop less fuel a lo x b).1 (lo + 1) hi :=
  fun fuel a x b hf hsz hx _ => protectLoop_pb less lo hi c pv fuel a x b hf hsz hx

theorem dups1_spec (a : Ix) (lo hi b c pv : Nat) (hsz : hi ≤ a.size)
    (pb : PB less a lo hi b c pv) (hc : c + 1 ≤ hi) :
    PB less (dups1 less a lo hi c).1 lo hi b (dups1 less a lo hi c).2.1 pv ∧
    RangePres a (dups1 less a lo hi c).1 (lo + 1) hi ∧ hi ≤ (dups1 less a lo hi c).1.size := by
  have hpiv := pb.piv
  have hbc := pb.bc
  have hb1 := pb.b1
  unfold dups1
  split
  · rename_i hcnd
    have hle : less pv (at' a (hi - 1)) = false := by simpa [lt_eq, hpiv] using hcnd
    have hge := pb.ge (hi - 1) (by omega) (by omega)
    have G := fun k => sw_at a c (hi - 1) k (by omega) (by omega)
    refine ⟨⟨?_, hb1, by simp only; omega, by simp only; omega, ?_, ?_, ?_⟩,
      sw_rangePres a c (hi - 1) (lo + 1) hi (by omega) (by omega) (by omega) (by omega) hsz, by rw [sw_size]; exact hsz⟩
    · simp only; rw [G lo]; have : lo ≠ hi - 1 ∧ lo ≠ c := by omega
      simp [this.1, this.2]; exact hpiv
    · intro k h1 h2; simp only; rw [G k]; have : k ≠ hi - 1 ∧ k ≠ c := by omega
      simp [this.1, this.2]; exact pb.le k h1 h2
    · intro k h1 h2
      simp only at h2 ⊢
      rw [G k]
      by_cases e : k = c
      · by_cases e2 : k = hi - 1
        · rw [if_pos e2, ← e, e2]; exact ⟨hle, hge⟩
        · rw [if_neg e2, if_pos e]; exact ⟨hle, hge⟩
      · have : k ≠ hi - 1 := by omega
        rw [if_neg this, if_neg e]; exact pb.eq k h1 (by omega)
    · intro k h1 h2
      simp only at h1 ⊢
      rw [G k]
      by_cases e : k = hi - 1
      · rw [if_pos e]; exact pb.ge c (Nat.le_refl _) (by omega)
      · have : k ≠ c := by omega
        rw [if_neg e, if_neg this]; exact pb.ge k (by omega) h2
  · exact ⟨pb, RangePres.refl _ _ _, hsz⟩

theorem dups2_spec (a : Ix) (lo hi b c pv d : Nat) (pb : PB less a lo hi b c pv) (hb : lo + 2 ≤ b) :
    PB less a lo hi (dups2 less a lo b d).1 c pv ∧ b - 1 ≤ (dups2 less a lo b d).1 ∧ (dups2 less a lo b d).1 ≤ b := by
  unfold dups2
  split
  · rename_i hcnd
    have hge : less (at' a (b - 1)) pv = false := by simpa [lt_eq, pb.piv] using hcnd
    refine ⟨⟨pb.piv, by simp only; omega, by simp only; have := pb.bc; omega, pb.ch,
      fun k h1 h2 => pb.le k h1 (by simp only at h2; omega), fun k h1 h2 => ?_, pb.ge⟩, by simp, by simp⟩
    simp only at h1
    by_cases e : k = b - 1
    · subst e; exact ⟨pb.le (b - 1) (by omega) (by omega), hge⟩
    · exact pb.eq k (by omega) h2
  · exact ⟨pb, by simp, by simp⟩

theorem dups3_spec (a : Ix) (lo hi m b c pv d : Nat) (hsz : hi ≤ a.size)
    (pb : PB less a lo hi b c pv) (hm1 : lo + 1 ≤ m) (hm2 : m < b) :
    PB less (dups3 less a lo m b d).1 lo hi (dups3 less a lo m b d).2.1 c pv ∧
    RangePres a (dups3 less a lo m b d).1 (lo + 1) hi := by
  have hbc := pb.bc
  have hch := pb.ch
  unfold dups3
  split
  · rename_i hcnd
    exact ⟨pb.shrink less m hm1 hm2 hsz (by simpa [lt_eq, pb.piv] using hcnd),
      sw_rangePres a m (b - 1) (lo + 1) hi hm1 (by omega) (by omega) (by omega) hsz⟩
  · exact ⟨pb, RangePres.refl _ _ _⟩

theorem dupsBlock_spec (a : Ix) (lo hi m b c pv : Nat) (hsz : hi ≤ a.size)
    (pb : PB less a lo hi b c pv) (hc : c + 1 ≤ hi) (hm1 : lo + 1 ≤ m) (hm2 : m + 1 < b) :
    PB less (dupsBlock less a lo hi m b c).a lo hi (dupsBlock less a lo hi m b c).b (dupsBlock less a lo hi m b c).c pv ∧
    RangePres a (dupsBlock less a lo hi m b c).a (lo + 1) hi := by
  obtain ⟨pb1, rp1, hsz1⟩ := dups1_spec less a lo hi b c pv hsz pb hc
  obtain ⟨pb2, hb2a, hb2b⟩ := dups2_spec less (dups1 less a lo hi c).1 lo hi b (dups1 less a lo hi c).2.1 pv
    (dups1 less a lo hi c).2.2 pb1 (by omega)
  obtain ⟨pb3, rp3⟩ := dups3_spec less (dups1 less a lo hi c).1 lo hi m
    (dups2 less (dups1 less a lo hi c).1 lo b (dups1 less a lo hi c).2.2).1 (dups1 less a lo hi c).2.1 pv
    (dups2 less (dups1 less a lo hi c).1 lo b (dups1 less a lo hi c).2.2).2 hsz1 pb2 hm1 (by omega)
  unfold dupsBlock
  exact ⟨pb3, rp1.trans rp3⟩


theorem choosePivot_spec (sw0 : SWO less) (a : Ix) (lo hi : Nat) (h12 : lo + 12 < hi) (hsz : hi ≤ a.size) :
    RangePres a (choosePivot less a lo hi) lo hi ∧
    less (at' (choosePivot less a lo hi) (hi - 1)) (at' (choosePivot less a lo hi) lo) = false := by
  unfold choosePivot
  simp only []
  -- the positions are linear in the middle `m` and the step `s`
  have hm : lo < (lo + hi) / 2 ∧ (lo + hi) / 2 < hi - 1 := by omega
  have hs : hi - lo > 40 → 0 < (hi - lo) / 8 ∧ lo + 2 * ((hi - lo) / 8) < hi ∧ lo + (hi - lo) / 8 ≤ (lo + hi) / 2 ∧
      (lo + hi) / 2 + (hi - lo) / 8 < hi := by omega
  generalize (lo + hi) / 2 = m at hm hs ⊢
  generalize (hi - lo) / 8 = s at hs ⊢
  obtain ⟨b, hb⟩ : ∃ b, (if hi - lo > 40 then
      medianOfThree less (medianOfThree less (medianOfThree less a lo (lo + s) (lo + 2 * s)) m (m - s) (m + s))
        (hi - 1) (hi - 1 - s) (hi - 1 - 2 * s) else a) = b := ⟨_, rfl⟩
  rw [hb]
  have hbr : RangePres a b lo hi := by
    subst hb
    split
    · rename_i h40
      replace hs := hs h40
      have ⟨k1, k2, k3, k4, k5, k6, k7, k8, k9⟩ : (lo ≤ lo + s ∧ lo + s < hi) ∧ (lo ≤ lo ∧ lo < hi) ∧ (lo ≤ lo + 2 * s ∧ lo + 2 * s < hi) ∧
          (lo ≤ m - s ∧ m - s < hi) ∧ (lo ≤ m ∧ m < hi) ∧ (lo ≤ m + s ∧ m + s < hi) ∧
          (lo ≤ hi - 1 - s ∧ hi - 1 - s < hi) ∧ (lo ≤ hi - 1 ∧ hi - 1 < hi) ∧ (lo ≤ hi - 1 - 2 * s ∧ hi - 1 - 2 * s < hi) := by omega
      have e1 := medianOfThree_rangePres less a lo (lo + s) (lo + 2 * s) lo hi k1 k2 k3 hsz
      have e2 := medianOfThree_rangePres less _ m (m - s) (m + s) lo hi k4 k5 k6 (by rw [e1.size]; exact hsz)
      have e3 := medianOfThree_rangePres less _ (hi - 1) (hi - 1 - s) (hi - 1 - 2 * s) lo hi k7 k8 k9
        (by rw [e2.size, e1.size]; exact hsz)
      exact e1.trans (e2.trans e3)
    · exact RangePres.refl _ _ _
  have ⟨k0, k1, k2, d01, d12, d02⟩ : (lo ≤ m ∧ m < hi) ∧ (lo ≤ lo ∧ lo < hi) ∧ (lo ≤ hi - 1 ∧ hi - 1 < hi) ∧ m ≠ lo ∧ lo ≠ hi - 1 ∧
      m ≠ hi - 1 := by omega
  obtain ⟨r, _, h2, _⟩ := medianOfThree_spec less sw0 b lo m (hi - 1) lo hi k0 k1 k2 d01 d12 d02 (by rw [hbr.size]; exact hsz)
  exact ⟨hbr.trans r, h2⟩

/-- C03, last component: doPivot establishes the partition required by quickSort. -/
theorem doPivot_spec (sw0 : SWO less) : PivotSpec less := by
  intro a lo hi h12 hsz
  -- 1. pivot selection
  obtain ⟨rp1, hlast⟩ := choosePivot_spec less sw0 a lo hi h12 hsz
  generalize h1 : choosePivot less a lo hi = a1 at rp1 hlast
  have hsz1 : hi ≤ a1.size := by rw [rp1.size]; exact hsz
  generalize hpv : at' a1 lo = pv at hlast
  -- 2. first scan
  obtain ⟨u1, u2, u3, _⟩ := scanUp_spec (fun i => lt less a1 i lo) (a1.size + 1) (lo + 1) (hi - 1) (by omega)
  generalize hx : scanUp (a1.size + 1) (fun i => lt less a1 i lo) (lo + 1) (hi - 1) = x at u1 u2 u3
  have hx2 := u2 (by omega)
  have pa : PA less a1 lo hi x (hi - 1) pv := by
    refine ⟨hpv, u1, hx2, Nat.le_refl _, fun k h1 h2 => ?_, fun k h1 h2 => by omega, hlast⟩
    have := u3 k h1 h2
    rw [lt_eq, hpv] at this
    exact sw0.asymm _ _ this
  -- 3. main loop
  obtain ⟨pa2, hbc, rp2⟩ := pivotLoop_spec less sw0 lo hi pv (by omega) (a1.size + 1) a1 x (hi - 1) (by omega) hsz1 pa
  generalize hr : pivotLoop less (a1.size + 1) a1 lo x (hi - 1) = r at pa2 hbc rp2
  obtain ⟨a2, b, c⟩ := r
  simp only at pa2 hbc rp2
  subst hbc
  have hsz2 : hi ≤ a2.size := by rw [rp2.size]; exact hsz1
  have pb := PB_of_PA less sw0 a2 lo hi b pv pa2 (by omega)
  -- 4. dups block
  obtain ⟨st, hst⟩ : ∃ st : PState, (if (!decide (hi - b < 5) && decide (hi - b < (hi - lo) / 4)) = true
      then dupsBlock less a2 lo hi ((lo + hi) / 2) b b else ⟨a2, b, b, decide (hi - b < 5)⟩) = st := ⟨_, rfl⟩
  obtain ⟨pb3, rp3⟩ : PB less st.a lo hi st.b st.c pv ∧ RangePres a2 st.a (lo + 1) hi := by
    subst hst
    split
    · rename_i hcnd
      simp only [Bool.and_eq_true, Bool.not_eq_true', decide_eq_false_iff_not, decide_eq_true_eq] at hcnd
      exact dupsBlock_spec less a2 lo hi ((lo + hi) / 2) b b pv hsz2 pb (by omega) (by omega) (by omega)
    · exact ⟨pb, RangePres.refl _ _ _⟩
  have hsz3 : hi ≤ st.a.size := by rw [rp3.size]; exact hsz2
  -- 5. protect pass
  obtain ⟨p, hp⟩ : ∃ p : Ix × Nat, (if st.protect = true then
      ((protectLoop less (st.a.size + 1) st.a lo x st.b).1, (protectLoop less (st.a.size + 1) st.a lo x st.b).2.2)
    else (st.a, st.b)) = p := ⟨_, rfl⟩
  obtain ⟨pb4, rp4⟩ : PB less p.1 lo hi p.2 st.c pv ∧ RangePres st.a p.1 (lo + 1) hi := by
    subst hp
    split
    · exact protectLoop_pb less lo hi st.c pv (st.a.size + 1) st.a x st.b (by have := pb3.bc; have := pb3.ch; omega) hsz3 u1 pb3
    · exact ⟨pb3, RangePres.refl _ _ _⟩
  obtain ⟨a4, b4⟩ := p
  simp only at pb4 rp4
  have hsz4 : hi ≤ a4.size := by rw [rp4.size]; exact hsz3
  rw [doPivot_eq less a lo hi h1 hx hr hst hp]
  simp only []
  -- 6. final swap
  obtain ⟨hpiv4, hb1, hbc4, hch4, ple, peq, pge⟩ := pb4
  have ⟨n1, n2, n3, n4, n5, n6⟩ : lo < a4.size ∧ b4 - 1 < a4.size ∧ lo ≤ b4 - 1 ∧ b4 - 1 < hi ∧ lo < hi ∧ b4 - 1 < st.c := by omega
  have valLe : ∀ i, lo ≤ i → i < b4 - 1 → less pv (at' (sw a4 lo (b4 - 1)) i) = false := by
    intro i h1 h2
    by_cases e : i = lo
    · have ⟨q1, q2⟩ : lo + 1 ≤ b4 - 1 ∧ b4 - 1 < b4 := by omega
      rw [e, sw_at_fst _ _ _ n1 n2]; exact ple (b4 - 1) q1 q2
    · have ⟨q1, q2, q3⟩ : i ≠ b4 - 1 ∧ lo + 1 ≤ i ∧ i < b4 := by omega
      rw [sw_at_ne _ _ _ _ e q1]; exact ple i q2 q3
  have valMidLe : ∀ i, b4 - 1 ≤ i → i < st.c → less pv (at' (sw a4 lo (b4 - 1)) i) = false := by
    intro i h1 h2
    by_cases e : i = b4 - 1
    · rw [e, sw_at_snd _ _ _ n1 n2, hpiv4]; exact less_irrefl less sw0 _
    · have ⟨q1, q2⟩ : i ≠ lo ∧ b4 ≤ i := by omega
      rw [sw_at_ne _ _ _ _ q1 e]; exact (peq i q2 h2).1
  have valGe : ∀ j, b4 - 1 ≤ j → j < hi → less (at' (sw a4 lo (b4 - 1)) j) pv = false := by
    intro j h1 h2
    by_cases e : j = b4 - 1
    · rw [e, sw_at_snd _ _ _ n1 n2, hpiv4]; exact less_irrefl less sw0 _
    · have ⟨q1, q2⟩ : j ≠ lo ∧ b4 ≤ j := by omega
      rw [sw_at_ne _ _ _ _ q1 e]
      by_cases e2 : j < st.c
      · exact (peq j q2 e2).2
      · exact pge j (Nat.le_of_not_lt e2) h2
  refine ⟨?_, n3, n6, hch4, ?_, ?_⟩
  · exact rp1.trans ((rp2.mono (Nat.le_succ _) (Nat.sub_le _ _)).trans ((rp3.mono (Nat.le_succ _) (Nat.le_refl _)).trans
      ((rp4.mono (Nat.le_succ _) (Nat.le_refl _)).trans (sw_rangePres a4 lo (b4 - 1) lo hi (Nat.le_refl _) n5 n3 n4 hsz4))))
  · intro i j h1 h2 h3 h4
    exact sw0.le_trans _ _ _ (valLe i h1 h2) (valGe j h3 h4)
  · intro i j h1 h2 h3 h4
    exact sw0.le_trans _ _ _ (valMidLe i h1 h2) (valGe j (Nat.le_trans h1 (Nat.le_of_lt h3)) h4)

/-- C03: the mirror of `sorter.go` sorts — unconditional. -/
theorem sort_sorted_full (sw0 : SWO less) (ix : Ix) : Sorted less (sort less ix) 0 ix.size :=
  sort_sorted less sw0 (doPivot_spec less sw0) (heapSort_spec less sw0) ix

#print axioms sort_sorted_full
end Sorter
