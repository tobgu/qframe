import QF.Core.GrouperProof
/-! The table invariant `SInv` and its preservation by one insertion (no growth). -/
namespace G

variable (hash : Nat → Nat) (eqv : Nat → Nat → Bool)

/-- What `groupBy_partition` asks of the key comparison: a partial equivalence (reflexivity is supplied by `cls`) whose
classes the stored 32-bit hash respects. -/
structure KeyRel : Prop where
  symm : ∀ a b, eqv a b = true → eqv b a = true
  trans : ∀ a b c, eqv a b = true → eqv b c = true → eqv a c = true
  hashOk : ∀ a b, eqv a b = true → hash a % 2^32 = hash b % 2^32

def occ (slots : Array (Option Entry)) (s : Nat) (e : Entry) : Prop := slots[s]? = some (some e)
def members (e : Entry) : List Nat := if e.ix.isEmpty then [e.firstPos] else e.ix
def cls (f j : Nat) : Bool := j == f || eqv j f

/-- Invariant of the slot array after the rows `done` have been inserted.
`reach`: every entry is found from its home slot `hash % size` by walking over occupied slots only, so a probe for its key
cannot stop at an empty slot before it. `mem` is stated on `done.filter (cls …)` and not as a set so that it also gives the
order of a group: frame order. -/
structure SInv (slots : Array (Option Entry)) (done : List Nat) : Prop where
  reach : ∀ s e, occ slots s e → ∃ d, d < slots.size ∧ walk slots.size d (e.hash % slots.size) = s ∧
            ∀ j, j < d → ∃ e', occ slots (walk slots.size j (e.hash % slots.size)) e'
  hashF : ∀ s e, occ slots s e → e.hash = hash e.firstPos % 2^32
  distinct : ∀ s1 s2 e1 e2, occ slots s1 e1 → occ slots s2 e2 → s1 ≠ s2 →
            eqv e1.firstPos e2.firstPos = false ∧ e1.firstPos ≠ e2.firstPos
  mem : ∀ s e, occ slots s e → members e = done.filter (cls eqv e.firstPos) ∧ e.firstPos ∈ done
  cover : ∀ j, j ∈ done → ∃ s e, occ slots s e ∧ cls eqv e.firstPos j = true

/-- what `insertNoGrow` writes back for a row of an existing entry's key (`collectIx`) -/
theorem members_addRow (e : Entry) (i : Nat) :
    members (if e.ix.isEmpty then { e with ix := [e.firstPos, i] } else { e with ix := e.ix ++ [i] }) = members e ++ [i] := by
  unfold members
  cases hix : e.ix <;> simp

theorem firstPos_addRow (e : Entry) (i : Nat) :
    (if e.ix.isEmpty then { e with ix := [e.firstPos, i] } else { e with ix := e.ix ++ [i] } : Entry).firstPos = e.firstPos := by
  split <;> rfl

theorem lt_of_get {α : Type} {a : Array α} {p : Nat} {x : α} (h : a[p]? = some x) : p < a.size :=
  (Array.getElem?_eq_some_iff.mp h).1

theorem mem_toList_iff_occ (slots : Array (Option Entry)) (e : Entry) : some e ∈ slots.toList ↔ ∃ s, occ slots s e := by
  unfold occ
  rw [Array.mem_toList_iff, Array.mem_iff_getElem?]

theorem occ_inj {slots : Array (Option Entry)} {s : Nat} {e e' : Entry} (h : occ slots s e) (h' : occ slots s e') : e = e' := by
  unfold occ at h h'; rw [h] at h'; cases h'; rfl

theorem not_occ_replicate (N s : Nat) (e : Entry) : ¬ occ (Array.replicate N none) s e := by
  intro h; unfold occ at h
  rw [Array.getElem?_replicate] at h; split at h <;> simp at h

theorem stopAt_false_occ (slots : Array (Option Entry)) (i h pos : Nat) (hp : pos < slots.size)
    (hs : stopAt eqv slots i h pos = false) : ∃ e, occ slots pos e := by
  unfold stopAt at hs
  have hlt : slots[pos]? = some slots[pos] := by simp [hp]
  cases hv : slots[pos] with
  | none => rw [hlt, hv] at hs; simp at hs
  | some e => exact ⟨e, by unfold occ; rw [hlt, hv]⟩

/-- the probe stops at a free slot or at an entry with the hash and the key of the row -/
theorem stopAt_true (slots : Array (Option Entry)) (i h pos : Nat) (hs : stopAt eqv slots i h pos = true) :
    slots[pos]? = some none ∨ ∃ e, occ slots pos e ∧ e.hash = h ∧ eqv i e.firstPos = true := by
  unfold stopAt at hs
  split at hs
  · exact Or.inl ‹_›
  · exact Or.inr ⟨_, ‹_›, by simpa using hs⟩
  · cases hs

/-- In a table with a free slot every probe stops within `size` steps; the slots it has passed are occupied. -/
theorem probe_stops (slots : Array (Option Entry)) (i h pos : Nat) (hp : pos < slots.size)
    (hEmpty : ∃ s : Nat, slots[s]? = some none) :
    ∃ m, m < slots.size ∧ (∀ c0, probe eqv slots i h (slots.size + 1) pos c0 = some (walk slots.size m pos, c0 + m)) ∧
      stopAt eqv slots i h (walk slots.size m pos) = true ∧
      ∀ j, j < m → stopAt eqv slots i h (walk slots.size j pos) = false ∧ ∃ e, occ slots (walk slots.size j pos) e := by
  obtain ⟨s0, hs0⟩ := hEmpty
  obtain ⟨k, hk, hwk⟩ := walk_cover slots.size pos s0 hp (lt_of_get hs0)
  have hstop : stopAt eqv slots i h (walk slots.size k pos) = true := by unfold stopAt; rw [hwk, hs0]
  obtain ⟨m, hm, _, hsm, hbefore⟩ := probe_finds eqv slots i h pos k hp hk hstop
  exact ⟨m, by omega, fun c0 => probe_spec eqv slots i h m _ pos c0 hp (by omega) hsm hbefore, hsm,
    fun j hj => ⟨hbefore j hj, stopAt_false_occ eqv slots i h _ (walk_lt _ _ _ hp) (hbefore j hj)⟩⟩

/-- Outcome of the probe for a new row `i` under the invariant. -/
theorem probe_result (slots : Array (Option Entry)) (done : List Nat) (inv : SInv hash eqv slots done)
    (kr : KeyRel hash eqv) (hn : 0 < slots.size) (hEmpty : ∃ s : Nat, slots[s]? = some none) (i : Nat) :
    ∃ p c, probe eqv slots i (hash i % 2^32) (slots.size + 1) ((hash i % 2^32) % slots.size) 0 = some (p, c) ∧
      p < slots.size ∧
      ((∃ e, occ slots p e ∧ eqv i e.firstPos = true) ∨
       (slots[p]? = some none ∧ (∀ s e, occ slots s e → eqv i e.firstPos = false) ∧
         c < slots.size ∧ p = walk slots.size c ((hash i % 2^32) % slots.size) ∧
         ∀ j, j < c → ∃ e', occ slots (walk slots.size j ((hash i % 2^32) % slots.size)) e')) := by
  generalize hh : hash i % 2^32 = h
  have hhome : h % slots.size < slots.size := Nat.mod_lt _ hn
  obtain ⟨m, hm, hpr, hsm, hbefore⟩ := probe_stops eqv slots i h _ hhome hEmpty
  refine ⟨_, _, Nat.zero_add m ▸ hpr 0, walk_lt _ _ _ hhome, ?_⟩
  rcases stopAt_true eqv slots i h _ hsm with hemp | ⟨e, ho, _, he⟩
  · refine Or.inr ⟨hemp, fun s e ho => ?_, hm, rfl, fun j hj => (hbefore j hj).2⟩
    -- an entry with the row's key lies on the row's path, all slots before it occupied: it is met before a free slot
    cases he : eqv i e.firstPos with
    | false => rfl
    | true =>
      have hhash : e.hash = h := by rw [inv.hashF s e ho, ← hh]; exact (kr.hashOk _ _ he).symm
      obtain ⟨d, hd, hw, hpa⟩ := inv.reach s e ho
      rw [hhash] at hw hpa
      rcases Nat.lt_trichotomy d m with h1 | h1 | h1
      · have := (hbefore d h1).1
        unfold stopAt at this; rw [hw, ho] at this; simp [hhash, he] at this
      · rw [← h1, hw, ho] at hemp; cases hemp
      · obtain ⟨e', ho'⟩ := hpa m h1; rw [occ, hemp] at ho'; cases ho'
  · exact Or.inl ⟨e, ho, he⟩

theorem occ_set (slots : Array (Option Entry)) (p : Nat) (hp : p < slots.size) (x : Entry) (s : Nat) (e : Entry) :
    occ (slots.setIfInBounds p (some x)) s e ↔ (s = p ∧ e = x) ∨ (s ≠ p ∧ occ slots s e) := by
  unfold occ
  rw [Array.getElem?_setIfInBounds]
  by_cases h : p = s
  · subst h; simp [hp]; exact eq_comm
  · simp only [h, ↓reduceIte]
    constructor
    · intro a; exact Or.inr ⟨fun h' => h h'.symm, a⟩
    · rintro (⟨h', _⟩ | ⟨_, a⟩)
      · exact absurd h'.symm h
      · exact a

/-- a path of occupied slots stays one when no slot is freed -/
theorem reach_mono {slots slots' : Array (Option Entry)} (hsz : slots'.size = slots.size)
    (hocc : ∀ s e, occ slots s e → ∃ e', occ slots' s e') {h s : Nat}
    (hr : ∃ d, d < slots.size ∧ walk slots.size d (h % slots.size) = s ∧
      ∀ j, j < d → ∃ e', occ slots (walk slots.size j (h % slots.size)) e') :
    ∃ d, d < slots'.size ∧ walk slots'.size d (h % slots'.size) = s ∧
      ∀ j, j < d → ∃ e', occ slots' (walk slots'.size j (h % slots'.size)) e' := by
  rw [hsz]
  obtain ⟨d, hd, hw, hp⟩ := hr
  exact ⟨d, hd, hw, fun j hj => (hp j hj).elim fun e he => hocc _ e he⟩

theorem filter_append_one (l : List Nat) (q : Nat → Bool) (i : Nat) :
    (l ++ [i]).filter q = l.filter q ++ (if q i then [i] else []) := by
  cases h : q i <;> simp [List.filter_append, h]

/-- Writing at slot `p` an entry `x` that stands for the key class of the new row `i` (`hcls`), where no other entry does
(`hother`): the invariant holds for `done ++ [i]`. `x` replaces the entry of that class or fills a free slot on its path. -/
theorem SInv.set {slots : Array (Option Entry)} {done : List Nat} (inv : SInv hash eqv slots done) (i p : Nat) (x : Entry)
    (hp : p < slots.size) (hcls : cls eqv x.firstPos i = true)
    (hother : ∀ s e, occ slots s e → s ≠ p → cls eqv e.firstPos i = false ∧ eqv x.firstPos e.firstPos = false ∧
      eqv e.firstPos x.firstPos = false ∧ x.firstPos ≠ e.firstPos)
    (hhash : x.hash = hash x.firstPos % 2^32)
    (hreach : ∃ d, d < slots.size ∧ walk slots.size d (x.hash % slots.size) = p ∧
      ∀ j, j < d → ∃ e', occ slots (walk slots.size j (x.hash % slots.size)) e')
    (hmem : members x = done.filter (cls eqv x.firstPos) ++ [i]) (hfirst : x.firstPos ∈ done ++ [i])
    (hold : ∀ e j, occ slots p e → cls eqv e.firstPos j = true → cls eqv x.firstPos j = true) :
    SInv hash eqv (slots.setIfInBounds p (some x)) (done ++ [i]) := by
  have hsz : (slots.setIfInBounds p (some x)).size = slots.size := by simp
  have occ_old := fun s e' => (occ_set slots p hp x s e').mp
  have occ_x : occ (slots.setIfInBounds p (some x)) p x := (occ_set slots p hp x p x).mpr (Or.inl ⟨rfl, rfl⟩)
  have occ_mono : ∀ s e0, occ slots s e0 → ∃ e', occ (slots.setIfInBounds p (some x)) s e' := by
    intro s e0 h0
    by_cases h : s = p
    · exact ⟨x, h ▸ occ_x⟩
    · exact ⟨e0, (occ_set slots p hp x s e0).mpr (Or.inr ⟨h, h0⟩)⟩
  constructor
  · intro s e' h
    rcases occ_old s e' h with ⟨rfl, rfl⟩ | ⟨hne, h0⟩
    · exact reach_mono hsz occ_mono hreach
    · exact reach_mono hsz occ_mono (inv.reach s e' h0)
  · intro s e' h
    rcases occ_old s e' h with ⟨rfl, rfl⟩ | ⟨hne, h0⟩
    · exact hhash
    · exact inv.hashF s e' h0
  · intro s1 s2 e1 e2 h1 h2 hne
    rcases occ_old s1 e1 h1 with ⟨rfl, rfl⟩ | ⟨hne1, a1⟩ <;> rcases occ_old s2 e2 h2 with ⟨rfl, rfl⟩ | ⟨hne2, a2⟩
    · exact absurd rfl hne
    · exact ⟨(hother s2 e2 a2 hne2).2.1, (hother s2 e2 a2 hne2).2.2.2⟩
    · exact ⟨(hother s1 e1 a1 hne1).2.2.1, fun h => (hother s1 e1 a1 hne1).2.2.2 h.symm⟩
    · exact inv.distinct s1 s2 e1 e2 a1 a2 hne
  · intro s e' h
    rw [filter_append_one]
    rcases occ_old s e' h with ⟨rfl, rfl⟩ | ⟨hne, h0⟩
    · rw [hcls]; exact ⟨hmem, hfirst⟩
    · obtain ⟨m1, m2⟩ := inv.mem s e' h0
      rw [(hother s e' h0 hne).1, m1]; exact ⟨by simp, List.mem_append_left _ m2⟩
  · intro j hj
    rcases List.mem_append.mp hj with hj | hj
    · obtain ⟨s, e0, h0, hc⟩ := inv.cover j hj
      by_cases h : s = p
      · subst h; exact ⟨s, x, occ_x, hold e0 j h0 hc⟩
      · exact ⟨s, e0, (occ_set slots p hp x s e0).mpr (Or.inr ⟨h, h0⟩), hc⟩
    · simp at hj; subst hj
      exact ⟨p, x, occ_x, hcls⟩

/-- Case A: the probe found the entry of `i`'s class; appending `i` to it preserves the invariant. -/
theorem insert_found (slots : Array (Option Entry)) (done : List Nat) (inv : SInv hash eqv slots done)
    (kr : KeyRel hash eqv) (i p : Nat) (e : Entry) (hi : i ∉ done) (hp : p < slots.size)
    (ho : occ slots p e) (he : eqv i e.firstPos = true) :
    SInv hash eqv (slots.setIfInBounds p (some (if e.ix.isEmpty then { e with ix := [e.firstPos, i] } else { e with ix := e.ix ++ [i] })))
      (done ++ [i]) := by
  generalize hx : (if e.ix.isEmpty then { e with ix := [e.firstPos, i] } else { e with ix := e.ix ++ [i] } : Entry) = x
  have hxf : x.firstPos = e.firstPos := hx ▸ firstPos_addRow e i
  have hxh : x.hash = e.hash := by subst hx; split <;> rfl
  have hxm : members x = members e ++ [i] := hx ▸ members_addRow e i
  refine inv.set hash eqv i p x hp ?_ ?_ ?_ ?_ ?_ ?_ ?_
  · rw [hxf]; simp [cls, he]
  · intro s e0 h0 hne
    obtain ⟨d1, d2⟩ := inv.distinct p s e e0 ho h0 (Ne.symm hne)
    rw [hxf]
    refine ⟨?_, d1, (inv.distinct s p e0 e h0 ho hne).1, d2⟩
    -- a row of `e`'s class is not of another entry's class
    have h1 : (i == e0.firstPos) = false := by
      simp only [beq_eq_false_iff_ne]; intro h; subst h; exact hi (inv.mem s e0 h0).2
    have h2 : eqv i e0.firstPos = false := by
      cases hv : eqv i e0.firstPos with
      | false => rfl
      | true => rw [kr.trans _ _ _ (kr.symm _ _ he) hv] at d1; cases d1
    simp [cls, h1, h2]
  · rw [hxh, hxf]; exact inv.hashF p e ho
  · rw [hxh]; exact inv.reach p e ho
  · rw [hxm, hxf, (inv.mem p e ho).1]
  · rw [hxf]; exact List.mem_append_left _ (inv.mem p e ho).2
  · intro e1 j h1 hc; rw [hxf, occ_inj ho h1]; exact hc

/-- Case B: no entry of `i`'s class exists; a new entry goes into the first empty slot of the path. -/
theorem insert_new (slots : Array (Option Entry)) (done : List Nat) (inv : SInv hash eqv slots done)
    (kr : KeyRel hash eqv) (i p c : Nat) (hi : i ∉ done) (hp : p < slots.size)
    (hemp : slots[p]? = some none) (hno : ∀ s e, occ slots s e → eqv i e.firstPos = false)
    (hc : c < slots.size) (hpw : p = walk slots.size c ((hash i % 2^32) % slots.size))
    (hpath : ∀ j, j < c → ∃ e', occ slots (walk slots.size j ((hash i % 2^32) % slots.size)) e') :
    SInv hash eqv (slots.setIfInBounds p (some { hash := hash i % 2^32, firstPos := i, ix := [] })) (done ++ [i]) := by
  -- no row seen so far has the key of `i`: it would be in the class of an entry, which then had the key of `i`
  have cls_i_old : ∀ j, j ∈ done → cls eqv i j = false := by
    intro j hj
    have h1 : (j == i) = false := by
      simp only [beq_eq_false_iff_ne]; intro h; subst h; exact hi hj
    have h2 : eqv j i = false := by
      cases hv : eqv j i with
      | false => rfl
      | true =>
        obtain ⟨s, e0, h0, hc0⟩ := inv.cover j hj
        have hno0 := hno s e0 h0
        unfold cls at hc0
        rcases Bool.or_eq_true_iff.mp hc0 with h | h
        · have : j = e0.firstPos := by simpa using h
          subst this; rw [kr.symm _ _ hv] at hno0; cases hno0
        · rw [kr.trans _ _ _ (kr.symm _ _ hv) h] at hno0; cases hno0
    simp [cls, h1, h2]
  refine inv.set hash eqv i p _ hp (by simp [cls]) ?_ rfl ⟨c, hc, hpw.symm, hpath⟩ ?_ (by simp) ?_
  · intro s e0 h0 _
    have hin := (inv.mem s e0 h0).2
    have hne : i ≠ e0.firstPos := fun h => hi (h ▸ hin)
    refine ⟨by simp [cls, hne, hno s e0 h0], hno s e0 h0, ?_, hne⟩
    cases hv : eqv e0.firstPos i with
    | false => rfl
    | true => have := hno s e0 h0; rw [kr.symm _ _ hv] at this; cases this
  · have h1 : done.filter (cls eqv i) = [] := by
      rw [List.filter_eq_nil_iff]; intro j hj; simp [cls_i_old j hj]
    simp [members, h1]
  · intro e1 j h1; rw [occ, hemp] at h1; cases h1

#print axioms insert_new
end G
