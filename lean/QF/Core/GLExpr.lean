/-!
# GL — the language of the GROUPER hash table (/repo/internal/grouper/grouper.go), and its Go semantics

    func newTable(sizeExp int, comparables []column.Comparable, collectIx bool) *table
    func (t *table) grow()                    -- doubling, relocation of every old entry by its stored hash
    func (t *table) hash(i uint32) uint32     -- the comparables' hashes chained, truncated to 32 bits
    func (t *table) insertEntry(i uint32)     -- growth check, the probe loop with the bit mask, new entry / existing entry
    func equals(comparables, i, j) bool
    func calculateInitialSizeExp(ixLen int) int
    func groupIndex(ix, comparables, collectIx) ([]tableEntry, GroupStats)
    func GroupBy(ix, comparables) ([]index.Int, GroupStats),  func Distinct(ix, comparables) index.Int
    integer.Max, integer.Pow2

go/cmd/extract/grpast.go translates the bodies of these functions, statement by statement, to terms of the small
imperative language below and writes them to `QF/Gen/GrouperFns.lean` on every run. The language is generic (variables,
`:=`, `=`, fields of structs, `x.f = e`, `x.f++`, `a[i] = e`, `if`, `range`, three-clause `for` with `break`, `return`,
slices, `len`, `append`, `make`, fixed-width unsigned arithmetic, conversions, calls of the other translated functions).

Terms name things by ROLE: variables are numbered in the order of their declaration (receiver, parameters, then every
`:=` / `var` / range variable as it occurs in the text); the functions by the role their signature gives them (`FnId`);
the fields of `table` by their types (all different), the fields of `tableEntry` by their types and, for the two `uint32`
fields, by their order (`Fld.hash` is the first, `Fld.firstPos` the second: today `hash` and `firstPos`); the fields of
the exported `GroupStats` by their names. Package-level constants (`growthFactor`, `maxLoadFactor`) are replaced by their
values, typed by the context (`E.int 2`, `E.flt 2 1`, `E.flt 1 2`).

## What the semantics models, and how exactly

* `uint32` / `uint64`: exactly, modulo 2^32 / 2^64 (`Val.u32 n`, `Val.u64 n` with `n` below the modulus).
* `int`: as ℤ (no wrap-around at 2^63: the only `int`s here are lengths, `2 * len`, a size exponent and the counters of
  `GroupStats`; a conversion `uint32(e)` / `uint64(e)` of an `int` is exact, modulo the width).
* `float64`: as an exact fraction `num / den` (`Val.flt num den`). The only float operations in this code are
  `float64(<uint32>) / float64(len(t.entries))`, `t.loadFactor / growthFactor` and `t.loadFactor > maxLoadFactor`.
  On fractions with a numerator below 2^53 and a power of two as denominator (`len(t.entries)` is one, and `growthFactor`
  = 2 keeps it one) IEEE division is exact, so that the fraction IS the float, and `a/b > c/d` is the integer comparison
  `a * d > c * b`. With today's constants the growth test `t.loadFactor > maxLoadFactor` is `2 * num > den`.
  A division by zero has no meaning here (Go: ±Inf / NaN).
* a `*table` is the table itself: the pointer made by `&table{…}` in `newTable` is held by one variable at a time
  (the translator checks: it is only used as a receiver / for field access, never copied or passed on), so a method with
  a pointer receiver that writes through it is a call that hands the table back (`S.callMut`).
* a `*tableEntry` made by `&t.entries[pos]` is the position (`Val.ptr (some (t, pos))`: "element `pos` of the entries of
  the table in variable `t`"); reads and writes through it go to that element. This is exact as long as `t.entries` is
  not replaced while the pointer is alive (the translator checks: no assignment of that field and no mutating call on
  `t` after the address is taken).
* slices of rows (`index.Int`) are values (`append` returns a new value); `nil` is told from an empty slice
  (`Val.rows none`). Exact as long as no two live slices share a backing array one of them is appended to (here: an
  entry's `ix` has one owner — the old copies die with the old table in `grow`).
* `range xs` evaluates `xs` once; the translator checks that the body does not write it.
* a `for` loop that runs `Env.fuel` rounds has no meaning (`stuck`): the theorems hold for every fuel ≥ 2^32 (more than any
  table size that occurs).
* the comparables are values of the interface `column.Comparable`: `Cmp.compare`, `Cmp.hash` are what their two methods
  return (any functions; `Cmp.hash` is reduced modulo 2^64).
* `bits.Len64` and `int(math.Pow(2, float64(e)))` are primitives (`E.bitLen64`, `E.pow2`: 2^e for 0 ≤ e ≤ 62, no meaning
  otherwise).
Whatever has no meaning — a run-time panic (index out of range, nil dereference, negative `make`), a value of the wrong
kind, something the translator did not understand (`opaque`) — is `none` / `stuck`.
-/
namespace QF.GL

abbrev Var := Nat

/-- `column.CompareResult` -/
inductive CRes where
  | lessThan | greaterThan | equal | notEqual
  deriving DecidableEq, Repr, Inhabited

/-- The functions of the translation unit, by role (the signature; the two public entry points by their names). -/
inductive FnId where
  /-- the method `()` of `*table` -/
  | grow
  /-- the method `(uint32) uint32` of `*table` -/
  | hash
  /-- the method `(uint32)` of `*table` -/
  | insertEntry
  /-- `(int, []column.Comparable, bool) *table` -/
  | newTable
  /-- `([]column.Comparable, uint32, uint32) bool` -/
  | equals
  /-- `(int) int` in package grouper -/
  | initialSizeExp
  /-- `(index.Int, []column.Comparable, bool) ([]tableEntry, GroupStats)` -/
  | groupIndex
  /-- `GroupBy` -/
  | groupBy
  /-- `Distinct` -/
  | distinct
  /-- `(int, int) int` of internal/math/integer -/
  | max
  /-- `(int) int` of internal/math/integer -/
  | pow2
  deriving DecidableEq, Repr, Inhabited

/-- Struct fields, by role. -/
inductive Fld where
  /-- `table`: the field of type `[]tableEntry` -/
  | entries
  /-- `table`: the field of type `[]column.Comparable` -/
  | comparables
  /-- `table`: the field of type `GroupStats` -/
  | stats
  /-- `table`: the field of type `float64` -/
  | loadFactor
  /-- `table`: the field of type `uint32` -/
  | groupCount
  /-- `table`: the field of type `bool` -/
  | collectIx
  /-- `tableEntry`: the field of type `index.Int` -/
  | ix
  /-- `tableEntry`: the first field of type `uint32` -/
  | hash
  /-- `tableEntry`: the second field of type `uint32` -/
  | firstPos
  /-- `tableEntry`: the field of type `bool` -/
  | occupied
  /-- `GroupStats.RelocationCount` -/
  | sRelocationCount
  /-- `GroupStats.RelocationCollisions` -/
  | sRelocationCollisions
  /-- `GroupStats.InsertCollisions` -/
  | sInsertCollisions
  /-- `GroupStats.GroupCount` -/
  | sGroupCount
  /-- `GroupStats.LoadFactor` -/
  | sLoadFactor
  deriving DecidableEq, Repr, Inhabited

inductive COp where
  | lt | le | gt | ge | eq | ne
  deriving DecidableEq, Repr, Inhabited

inductive AOp where
  | add | sub | mul | div | band
  deriving DecidableEq, Repr, Inhabited

/-- Expressions. -/
inductive E where
  | var (v : Var)
  | int (n : Int)
  /-- a constant of type `uint32` -/
  | u32 (n : Nat)
  /-- a constant of type `uint64` -/
  | u64 (n : Nat)
  | bool (b : Bool)
  /-- a `float64` constant, as the fraction it is -/
  | flt (num den : Nat)
  /-- a constant of `column.CompareResult` -/
  | cres (r : CRes)
  /-- `nil` as a `*tableEntry` -/
  | nilPtr
  /-- `nil` as an `index.Int` -/
  | nilRows
  /-- `e.f` (through a pointer to the table as well) -/
  | field (e : E) (f : Fld)
  /-- `*p` for a `*tableEntry`, also the implicit one of `p.f` -/
  | deref (e : E)
  /-- `&t.<entries>[i]` for the table variable `t` -/
  | addrEntry (t : Var) (i : E)
  /-- `e == nil` (pointer to an entry, slice of rows) -/
  | isNil (e : E)
  | not (e : E)
  /-- `a && b` (b is not evaluated when a is false) -/
  | and (a b : E)
  /-- `a || b` (b is not evaluated when a is true) -/
  | or (a b : E)
  | cmp (op : COp) (a b : E)
  /-- `a + b`, `a - b`, `a * b`, `a / b`, `a & b` on two operands of the same numeric type -/
  | bin (op : AOp) (a b : E)
  /-- `uint32(e)` -/
  | toU32 (e : E)
  /-- `uint64(e)` -/
  | toU64 (e : E)
  /-- `int(e)` -/
  | toInt (e : E)
  /-- `float64(e)` -/
  | toFloat (e : E)
  /-- the builtin `len` of a slice -/
  | len (e : E)
  /-- `a[i]` -/
  | at (a i : E)
  /-- `make([]tableEntry, n)` -/
  | makeEntries (n : E)
  /-- `make(index.Int, 0, cap)` -/
  | makeRows (cap : E)
  /-- `make([]index.Int, 0, cap)` -/
  | makeGroups (cap : E)
  /-- `index.Int{a}` -/
  | rows1 (a : E)
  /-- `index.Int{a, b}` -/
  | rows2 (a b : E)
  /-- `append(l, x)` -/
  | snoc (l x : E)
  /-- `bits.Len64(e)` -/
  | bitLen64 (e : E)
  /-- `int(math.Pow(2, float64(e)))` -/
  | pow2 (e : E)
  /-- `c.Hash(i, seed)` through the interface `column.Comparable` -/
  | cmpHash (c i seed : E)
  /-- `c.Compare(i, j)` through the interface -/
  | cmpCompare (c i j : E)
  /-- `&table{<entries>: es, <comparables>: cs, <collectIx>: b}` (the other fields are zero) -/
  | mkTable (es cs b : E)
  /-- the values of `return a, b` -/
  | pair (a b : E)
  /-- calls of translated functions that do not write through a pointer receiver (a receiver is the first argument) -/
  | call1 (f : FnId) (a : E)
  | call2 (f : FnId) (a b : E)
  | call3 (f : FnId) (a b c : E)
  | opaque (txt : String)
  deriving DecidableEq, Repr, Inhabited

/-- Statements. A block is `S.block [s₁, …]`. -/
inductive S where
  | skip
  | seq (a b : S)
  /-- `v := e`, `var v T = e`, `var v T` (e the zero value) -/
  | define (v : Var) (e : E)
  /-- `v, w := e` for a call with two results -/
  | define2 (v w : Var) (e : E)
  /-- `v = e` -/
  | assign (v : Var) (e : E)
  /-- `v.f₁.….fₙ = e` for a struct variable (or the pointer to the table) -/
  | setField (v : Var) (path : List Fld) (e : E)
  /-- `v.f₁.….fₙ++` -/
  | incrField (v : Var) (path : List Fld)
  /-- `p.f = e` for a `*tableEntry` variable -/
  | setPtrField (p : Var) (f : Fld) (e : E)
  /-- `a[i] = e` for a slice of entries made in this function -/
  | setAt (a : Var) (i e : E)
  | ite (c : E) (t e : S)
  /-- `for k, v := range xs { body }` over a slice that the body does not write -/
  | range (xs : E) (k v : Option Var) (body : S)
  /-- `for init; cond; post { body }` (an absent condition is `true`) -/
  | for (init : S) (cond : E) (post : S) (body : S)
  | brk
  /-- `v.m(args)` as a statement, for a method that writes through its pointer receiver `v` -/
  | callMut (f : FnId) (recv : Var) (args : List E)
  | ret (e : E)
  | opaque (txt : String)
  deriving DecidableEq, Repr, Inhabited

def S.block : List S → S
  | [] => .skip
  | s :: ss => .seq s (S.block ss)

/-- A translated function: the receiver and the parameters are the variables `0 … params-1`. -/
structure Fn where
  params : Nat
  body : S
  deriving DecidableEq, Repr, Inhabited

def E.hasOpaque : E → Bool
  | .opaque _ => true
  | .field e _ | .deref e | .addrEntry _ e | .isNil e | .not e | .toU32 e | .toU64 e | .toInt e | .toFloat e | .len e
  | .makeEntries e | .makeRows e | .makeGroups e | .rows1 e | .bitLen64 e | .pow2 e | .call1 _ e => e.hasOpaque
  | .and a b | .or a b | .cmp _ a b | .bin _ a b | .at a b | .rows2 a b | .snoc a b | .pair a b | .call2 _ a b =>
    a.hasOpaque || b.hasOpaque
  | .cmpHash a b c | .cmpCompare a b c | .mkTable a b c | .call3 _ a b c => a.hasOpaque || b.hasOpaque || c.hasOpaque
  | _ => false

def S.hasOpaque : S → Bool
  | .opaque _ => true
  | .seq a b => a.hasOpaque || b.hasOpaque
  | .define _ e | .define2 _ _ e | .assign _ e | .setField _ _ e | .setPtrField _ _ e | .ret e => e.hasOpaque
  | .setAt _ i e => i.hasOpaque || e.hasOpaque
  | .ite c t e => c.hasOpaque || t.hasOpaque || e.hasOpaque
  | .range xs _ _ b => xs.hasOpaque || b.hasOpaque
  | .for i c p b => i.hasOpaque || c.hasOpaque || p.hasOpaque || b.hasOpaque
  | .callMut _ _ args => args.any E.hasOpaque
  | _ => false

/-! ## Values -/

/-- A value of the interface `column.Comparable`: what its two methods return. -/
structure Cmp where
  compare : Nat → Nat → CRes
  hash : Nat → Nat → Nat

/-- `tableEntry` -/
structure Entry where
  /-- `none` = nil -/
  ix : Option (List Nat) := none
  hash : Nat := 0
  firstPos : Nat := 0
  occupied : Bool := false
  deriving DecidableEq, Repr, Inhabited

/-- `GroupStats`; `LoadFactor` as a fraction -/
structure Stats where
  relocationCount : Int := 0
  relocationCollisions : Int := 0
  insertCollisions : Int := 0
  groupCount : Int := 0
  lfNum : Nat := 0
  lfDen : Nat := 1
  deriving DecidableEq, Repr, Inhabited

/-- `table`; `loadFactor` as a fraction -/
structure Table where
  entries : List Entry
  cmps : List Cmp
  stats : Stats := {}
  lfNum : Nat := 0
  lfDen : Nat := 1
  groupCount : Nat := 0
  collectIx : Bool

inductive Val where
  /-- the result of a function without results -/
  | unit
  | bool (b : Bool)
  | int (n : Int)
  | u32 (n : Nat)
  | u64 (n : Nat)
  | flt (num den : Nat)
  | cres (r : CRes)
  /-- `index.Int`; `none` = nil -/
  | rows (l : Option (List Nat))
  /-- `[]index.Int` -/
  | groups (l : List (List Nat))
  | entry (e : Entry)
  | entries (l : List Entry)
  | stats (s : Stats)
  /-- a `*table` (see the header) -/
  | tbl (t : Table)
  /-- a `*tableEntry`: nil, or element `i` of the entries of the table in variable `t` -/
  | ptr (p : Option (Var × Nat))
  | cmp (c : Cmp)
  | cmps (l : List Cmp)
  | pair (a b : Val)

abbrev Store := Var → Option Val

def Store.empty : Store := fun _ => none
def Store.set (σ : Store) (v : Var) (x : Val) : Store := fun w => if w = v then some x else σ w
def Store.setOpt (σ : Store) (v : Option Var) (x : Val) : Store :=
  match v with
  | some v => σ.set v x
  | none => σ

@[simp] theorem Store.set_same (σ : Store) (v : Var) (x : Val) : σ.set v x v = some x := by simp [Store.set]
theorem Store.set_ne (σ : Store) (v w : Var) (x : Val) (h : w ≠ v) : σ.set v x w = σ w := by simp [Store.set, h]

/-- what a call returns: the result, and the receiver (the first argument) as the callee leaves it -/
structure Env where
  call : FnId → List Val → Option (Val × Option Val)
  fuel : Nat

def M32 : Nat := 4294967296
def M64 : Nat := 18446744073709551616

def Val.field : Val → Fld → Option Val
  | .tbl t, .entries => some (.entries t.entries)
  | .tbl t, .comparables => some (.cmps t.cmps)
  | .tbl t, .stats => some (.stats t.stats)
  | .tbl t, .loadFactor => some (.flt t.lfNum t.lfDen)
  | .tbl t, .groupCount => some (.u32 t.groupCount)
  | .tbl t, .collectIx => some (.bool t.collectIx)
  | .entry e, .ix => some (.rows e.ix)
  | .entry e, .hash => some (.u32 e.hash)
  | .entry e, .firstPos => some (.u32 e.firstPos)
  | .entry e, .occupied => some (.bool e.occupied)
  | .stats s, .sRelocationCount => some (.int s.relocationCount)
  | .stats s, .sRelocationCollisions => some (.int s.relocationCollisions)
  | .stats s, .sInsertCollisions => some (.int s.insertCollisions)
  | .stats s, .sGroupCount => some (.int s.groupCount)
  | .stats s, .sLoadFactor => some (.flt s.lfNum s.lfDen)
  | _, _ => none

def Val.setField : Val → Fld → Val → Option Val
  | .tbl t, .entries, .entries l => some (.tbl { t with entries := l })
  | .tbl t, .stats, .stats s => some (.tbl { t with stats := s })
  | .tbl t, .loadFactor, .flt n d => some (.tbl { t with lfNum := n, lfDen := d })
  | .tbl t, .groupCount, .u32 n => some (.tbl { t with groupCount := n })
  | .tbl t, .collectIx, .bool b => some (.tbl { t with collectIx := b })
  | .entry e, .ix, .rows l => some (.entry { e with ix := l })
  | .entry e, .hash, .u32 n => some (.entry { e with hash := n })
  | .entry e, .firstPos, .u32 n => some (.entry { e with firstPos := n })
  | .entry e, .occupied, .bool b => some (.entry { e with occupied := b })
  | .stats s, .sRelocationCount, .int n => some (.stats { s with relocationCount := n })
  | .stats s, .sRelocationCollisions, .int n => some (.stats { s with relocationCollisions := n })
  | .stats s, .sInsertCollisions, .int n => some (.stats { s with insertCollisions := n })
  | .stats s, .sGroupCount, .int n => some (.stats { s with groupCount := n })
  | .stats s, .sLoadFactor, .flt n d => some (.stats { s with lfNum := n, lfDen := d })
  | _, _, _ => none

def Val.getPath : Val → List Fld → Option Val
  | v, [] => some v
  | v, f :: p => match v.field f with | some w => w.getPath p | none => none

/-- the value with the component at the path replaced by `upd <old component>` -/
def Val.updPath (upd : Val → Option Val) : Val → List Fld → Option Val
  | v, [] => upd v
  | v, f :: p =>
    match v.field f with
    | some w => (match Val.updPath upd w p with | some w' => v.setField f w' | none => none)
    | none => none

/-- `x++` -/
def Val.succ : Val → Option Val
  | .int n => some (.int (n + 1))
  | .u32 n => some (.u32 ((n + 1) % M32))
  | .u64 n => some (.u64 ((n + 1) % M64))
  | _ => none

/-- a new value for a component of the same kind -/
def Val.sameKind : Val → Val → Bool
  | .int _, .int _ | .u32 _, .u32 _ | .u64 _, .u64 _ | .bool _, .bool _ | .flt _ _, .flt _ _ | .rows _, .rows _
  | .entries _, .entries _ | .stats _, .stats _ | .entry _, .entry _ => true
  | _, _ => false

def COp.nat : COp → Nat → Nat → Bool
  | .lt, a, b => a < b
  | .le, a, b => a ≤ b
  | .gt, a, b => a > b
  | .ge, a, b => a ≥ b
  | .eq, a, b => a == b
  | .ne, a, b => a != b

def COp.int : COp → Int → Int → Bool
  | .lt, a, b => a < b
  | .le, a, b => a ≤ b
  | .gt, a, b => a > b
  | .ge, a, b => a ≥ b
  | .eq, a, b => a == b
  | .ne, a, b => a != b

def Val.compare (op : COp) : Val → Val → Option Bool
  | .int a, .int b => some (op.int a b)
  | .u32 a, .u32 b => some (op.nat a b)
  | .u64 a, .u64 b => some (op.nat a b)
  -- `a/b ⋈ c/d` is `a*d ⋈ c*b` (positive denominators)
  | .flt a b, .flt c d => if b = 0 ∨ d = 0 then none else some (op.nat (a * d) (c * b))
  | .cres a, .cres b => (match op with | .eq => some (a == b) | .ne => some (a != b) | _ => none)
  | .bool a, .bool b => (match op with | .eq => some (a == b) | .ne => some (a != b) | _ => none)
  | _, _ => none

/-- on `uintN`, modulo `m` -/
def AOp.nat (m : Nat) : AOp → Nat → Nat → Option Nat
  | .add, a, b => some ((a + b) % m)
  | .sub, a, b => some ((a + m - b % m) % m)
  | .mul, a, b => some ((a * b) % m)
  | .div, a, b => if b = 0 then none else some (a / b)
  | .band, a, b => some (a &&& b)

def AOp.int : AOp → Int → Int → Option Int
  | .add, a, b => some (a + b)
  | .sub, a, b => some (a - b)
  | .mul, a, b => some (a * b)
  | .div, a, b => if b = 0 then none else some (Int.tdiv a b)
  | .band, _, _ => none

def Val.arith (op : AOp) : Val → Val → Option Val
  | .int a, .int b => (op.int a b).map .int
  | .u32 a, .u32 b => (op.nat M32 a b).map .u32
  | .u64 a, .u64 b => (op.nat M64 a b).map .u64
  -- `(a/b) / (c/d)`; the other float operations do not occur
  | .flt a b, .flt c d => (match op with | .div => if b = 0 ∨ c = 0 ∨ d = 0 then none else some (.flt (a * d) (b * c)) | _ => none)
  | _, _ => none

/-- the integer a value of an integer type stands for -/
def Val.toZ : Val → Option Int
  | .int n => some n
  | .u32 n => some n
  | .u64 n => some n
  | _ => none

def Val.isNil : Val → Option Bool
  | .ptr p => some p.isNone
  | .rows l => some l.isNone
  | _ => none

def Val.len : Val → Option Nat
  | .rows l => some (l.getD []).length
  | .groups l => some l.length
  | .entries l => some l.length
  | .cmps l => some l.length
  | _ => none

def Val.elems : Val → Option (List Val)
  | .rows l => some ((l.getD []).map .u32)
  | .groups l => some (l.map fun g => .rows (some g))
  | .entries l => some (l.map .entry)
  | .cmps l => some (l.map .cmp)
  | _ => none

def Val.at : Val → Nat → Option Val
  | .rows l, n => ((l.getD [])[n]?).map .u32
  | .entries l, n => (l[n]?).map .entry
  | _, _ => none

/-- `bits.Len64` -/
def bitLen (n : Nat) : Nat := if n = 0 then 0 else Nat.log2 n + 1

/-! ## Expressions -/

def E.eval (Γ : Env) (σ : Store) : E → Option Val
  | .var v => σ v
  | .int n => some (.int n)
  | .u32 n => some (.u32 n)
  | .u64 n => some (.u64 n)
  | .bool b => some (.bool b)
  | .flt n d => some (.flt n d)
  | .cres r => some (.cres r)
  | .nilPtr => some (.ptr none)
  | .nilRows => some (.rows none)
  | .field e f => match e.eval Γ σ with | some x => x.field f | none => none
  | .deref e =>
    match e.eval Γ σ with
    | some (.ptr (some (t, i))) =>
      (match σ t with
       | some (.tbl T) => (T.entries[i]?).map .entry
       | _ => none)
    | _ => none
  | .addrEntry t i =>
    match σ t, i.eval Γ σ with
    | some (.tbl T), some x =>
      (match x.toZ with
       | some n => if n < 0 ∨ (T.entries.length : Int) ≤ n then none else some (.ptr (some (t, n.toNat)))
       | none => none)
    | _, _ => none
  | .isNil e => match e.eval Γ σ with | some x => x.isNil.map .bool | none => none
  | .not e => match e.eval Γ σ with | some (.bool b) => some (.bool (!b)) | _ => none
  | .and a b =>
    match a.eval Γ σ with
    | some (.bool false) => some (.bool false)
    | some (.bool true) => (match b.eval Γ σ with | some (.bool x) => some (.bool x) | _ => none)
    | _ => none
  | .or a b =>
    match a.eval Γ σ with
    | some (.bool true) => some (.bool true)
    | some (.bool false) => (match b.eval Γ σ with | some (.bool x) => some (.bool x) | _ => none)
    | _ => none
  | .cmp op a b => match a.eval Γ σ, b.eval Γ σ with | some x, some y => (x.compare op y).map .bool | _, _ => none
  | .bin op a b => match a.eval Γ σ, b.eval Γ σ with | some x, some y => x.arith op y | _, _ => none
  | .toU32 e => match e.eval Γ σ with | some x => x.toZ.map (fun n => .u32 (n % (M32 : Int)).toNat) | none => none
  | .toU64 e => match e.eval Γ σ with | some x => x.toZ.map (fun n => .u64 (n % (M64 : Int)).toNat) | none => none
  | .toInt e =>
    match e.eval Γ σ with
    | some (.int n) => some (.int n)
    | some (.u32 n) => some (.int n)
    | some (.u64 n) => some (.int (if n < M64 / 2 then (n : Int) else (n : Int) - M64))
    | _ => none
  | .toFloat e =>
    match e.eval Γ σ with
    | some (.flt n d) => some (.flt n d)
    | some x => (match x.toZ with | some n => if n < 0 then none else some (.flt n.toNat 1) | none => none)
    | none => none
  | .len e => match e.eval Γ σ with | some x => x.len.map (fun n => .int n) | none => none
  | .at a i =>
    match a.eval Γ σ, i.eval Γ σ with
    | some x, some y => (match y.toZ with | some n => if n < 0 then none else x.at n.toNat | none => none)
    | _, _ => none
  | .makeEntries n =>
    match n.eval Γ σ with
    | some x => (match x.toZ with | some k => if k < 0 then none else some (.entries (List.replicate k.toNat {})) | none => none)
    | none => none
  | .makeRows c =>
    match c.eval Γ σ with
    | some x => (match x.toZ with | some k => if k < 0 then none else some (.rows (some [])) | none => none)
    | none => none
  | .makeGroups c =>
    match c.eval Γ σ with
    | some x => (match x.toZ with | some k => if k < 0 then none else some (.groups []) | none => none)
    | none => none
  | .rows1 a => match a.eval Γ σ with | some (.u32 x) => some (.rows (some [x])) | _ => none
  | .rows2 a b => match a.eval Γ σ, b.eval Γ σ with | some (.u32 x), some (.u32 y) => some (.rows (some [x, y])) | _, _ => none
  | .snoc l x =>
    match l.eval Γ σ, x.eval Γ σ with
    | some (.rows l), some (.u32 p) => some (.rows (some (l.getD [] ++ [p])))
    | some (.groups l), some (.rows g) => some (.groups (l ++ [g.getD []]))
    | _, _ => none
  | .bitLen64 e => match e.eval Γ σ with | some (.u64 n) => some (.int (bitLen n)) | _ => none
  | .pow2 e => match e.eval Γ σ with | some (.int n) => if n < 0 ∨ 62 < n then none else some (.int (2 ^ n.toNat : Nat)) | _ => none
  | .cmpHash c i s =>
    match c.eval Γ σ, i.eval Γ σ, s.eval Γ σ with
    | some (.cmp k), some (.u32 r), some (.u64 seed) => some (.u64 (k.hash r seed % M64))
    | _, _, _ => none
  | .cmpCompare c i j =>
    match c.eval Γ σ, i.eval Γ σ, j.eval Γ σ with
    | some (.cmp k), some (.u32 a), some (.u32 b) => some (.cres (k.compare a b))
    | _, _, _ => none
  | .mkTable es cs b =>
    match es.eval Γ σ, cs.eval Γ σ, b.eval Γ σ with
    | some (.entries l), some (.cmps k), some (.bool c) => some (.tbl { entries := l, cmps := k, collectIx := c })
    | _, _, _ => none
  | .pair a b => match a.eval Γ σ, b.eval Γ σ with | some x, some y => some (.pair x y) | _, _ => none
  | .call1 f a => match a.eval Γ σ with | some x => (Γ.call f [x]).map (·.1) | none => none
  | .call2 f a b => match a.eval Γ σ, b.eval Γ σ with | some x, some y => (Γ.call f [x, y]).map (·.1) | _, _ => none
  | .call3 f a b c =>
    match a.eval Γ σ, b.eval Γ σ, c.eval Γ σ with
    | some x, some y, some z => (Γ.call f [x, y, z]).map (·.1)
    | _, _, _ => none
  | .opaque _ => none

def evalArgs (Γ : Env) (σ : Store) : List E → Option (List Val)
  | [] => some []
  | e :: es => match e.eval Γ σ, evalArgs Γ σ es with | some x, some xs => some (x :: xs) | _, _ => none

/-! ## Statements -/

inductive Out where
  | next (σ : Store)
  /-- `break` -/
  | brk (σ : Store)
  /-- `return`; the store as it is then (for the receiver) -/
  | ret (v : Val) (σ : Store)
  /-- no meaning -/
  | stuck

/-- `range`: one round per element -/
def loop (step : Val → Nat → Store → Out) : List Val → Nat → Store → Out
  | [], _, σ => .next σ
  | x :: xs, i, σ =>
    match step x i σ with
    | .next σ' => loop step xs (i + 1) σ'
    | .brk σ' => .next σ'
    | r => r

/-- the three-clause `for` after its init statement: at most `fuel` rounds -/
def forLoop (cond : Store → Option Bool) (body post : Store → Out) : Nat → Store → Out
  | 0, _ => .stuck
  | fuel + 1, σ =>
    match cond σ with
    | some true =>
      (match body σ with
       | .next σ' =>
         (match post σ' with
          | .next σ'' => forLoop cond body post fuel σ''
          | _ => .stuck)
       | .brk σ' => .next σ'
       | r => r)
    | some false => .next σ
    | none => .stuck

def bindKV (k v : Option Var) (i : Nat) (x : Val) (σ : Store) : Store := (σ.setOpt k (.int i)).setOpt v x

def asBool : Option Val → Option Bool
  | some (.bool b) => some b
  | _ => none

def S.exec (Γ : Env) : S → Store → Out
  | .skip, σ => .next σ
  | .seq a b, σ =>
    match a.exec Γ σ with
    | .next σ' => b.exec Γ σ'
    | r => r
  | .define v e, σ => match e.eval Γ σ with | some x => .next (σ.set v x) | none => .stuck
  | .define2 v w e, σ => match e.eval Γ σ with | some (.pair x y) => .next ((σ.set v x).set w y) | _ => .stuck
  | .assign v e, σ => match e.eval Γ σ with | some x => .next (σ.set v x) | none => .stuck
  | .setField v p e, σ =>
    match σ v, e.eval Γ σ with
    | some s, some x =>
      (match Val.updPath (fun old => if old.sameKind x then some x else none) s p with
       | some s' => .next (σ.set v s')
       | none => .stuck)
    | _, _ => .stuck
  | .incrField v p, σ =>
    match σ v with
    | some s => (match Val.updPath Val.succ s p with | some s' => .next (σ.set v s') | none => .stuck)
    | none => .stuck
  | .setPtrField p f e, σ =>
    match σ p, e.eval Γ σ with
    | some (.ptr (some (t, i))), some x =>
      (match σ t with
       | some (.tbl T) =>
         (match T.entries[i]? with
          | some en =>
            (match (Val.entry en).setField f x with
             | some (.entry en') => .next (σ.set t (.tbl { T with entries := T.entries.set i en' }))
             | _ => .stuck)
          | none => .stuck)
       | _ => .stuck)
    | _, _ => .stuck
  | .setAt a i e, σ =>
    match σ a, i.eval Γ σ, e.eval Γ σ with
    | some (.entries l), some y, some (.entry en) =>
      (match y.toZ with
       | some n => if n < 0 ∨ (l.length : Int) ≤ n then .stuck else .next (σ.set a (.entries (l.set n.toNat en)))
       | none => .stuck)
    | _, _, _ => .stuck
  | .ite c t e, σ =>
    match c.eval Γ σ with
    | some (.bool true) => t.exec Γ σ
    | some (.bool false) => e.exec Γ σ
    | _ => .stuck
  | .range xs k v body, σ =>
    match xs.eval Γ σ with
    | some x =>
      (match x.elems with
       | some l => loop (fun y i σ' => body.exec Γ (bindKV k v i y σ')) l 0 σ
       | none => .stuck)
    | none => .stuck
  | .for init cond post body, σ =>
    match init.exec Γ σ with
    | .next σ' => forLoop (fun s => asBool (cond.eval Γ s)) (fun s => body.exec Γ s) (fun s => post.exec Γ s) Γ.fuel σ'
    | _ => .stuck
  | .brk, σ => .brk σ
  | .callMut f r args, σ =>
    match σ r, evalArgs Γ σ args with
    | some x, some xs =>
      (match Γ.call f (x :: xs) with
       | some (_, some x') => .next (σ.set r x')
       | _ => .stuck)
    | _, _ => .stuck
  | .ret e, σ => match e.eval Γ σ with | some x => .ret x σ | none => .stuck
  | .opaque _, _ => .stuck

/-! ## Calls -/

def bindArgs : List Val → Nat → Store → Store
  | [], _, σ => σ
  | x :: xs, i, σ => bindArgs xs (i + 1) (σ.set i x)

/-- the result (unit when the body ends without `return`) and the first variable as the body leaves it -/
def runFn (Γ : Env) (fn : Fn) (args : List Val) : Option (Val × Option Val) :=
  if args.length = fn.params then
    match fn.body.exec Γ (bindArgs args 0 Store.empty) with
    | .ret v σ => some (v, σ 0)
    | .next σ => some (.unit, σ 0)
    | _ => none
  else none

/-- calls nested at most `n` deep (the translated functions do not call themselves) -/
def callAt (P : List (FnId × Fn)) (fuel : Nat) : Nat → FnId → List Val → Option (Val × Option Val)
  | 0 => fun _ _ => none
  | n + 1 => fun f args =>
    match P.lookup f with
    | some fn => runFn { call := callAt P fuel n, fuel := fuel } fn args
    | none => none

/-- the call depth the interpretation allows. The longest chains of today's functions have four calls (GroupBy → groupIndex →
insertEntry → grow / hash / equals; GroupBy → groupIndex → newTable → Pow2; … → initialSizeExp → max), so 5 leaves one to spare. -/
def depth : Nat := 5

/-- `groupIndex(ix, comparables, collectIx)` by the translated functions `P` -/
def interpGroupIndex (P : List (FnId × Fn)) (fuel : Nat) (cs : List Cmp) (ix : List Nat) (collect : Bool) : Option (List Entry × Stats) :=
  match callAt P fuel depth .groupIndex [.rows (some ix), .cmps cs, .bool collect] with
  | some (.pair (.entries es) (.stats s), _) => some (es, s)
  | _ => none

/-- `GroupBy(ix, comparables)` -/
def interpGroupBy (P : List (FnId × Fn)) (fuel : Nat) (cs : List Cmp) (ix : List Nat) : Option (List (List Nat) × Stats) :=
  match callAt P fuel depth .groupBy [.rows (some ix), .cmps cs] with
  | some (.pair (.groups gs) (.stats s), _) => some (gs, s)
  | _ => none

/-- `Distinct(ix, comparables)` -/
def interpDistinct (P : List (FnId × Fn)) (fuel : Nat) (cs : List Cmp) (ix : List Nat) : Option (List Nat) :=
  match callAt P fuel depth .distinct [.rows (some ix), .cmps cs] with
  | some (.rows (some l), _) => some l
  | _ => none

/-! ## Unfolding the semantics

`open QF.GL.Sym` adds the defining equations of the evaluation functions to the simp set: with them `simp` runs the
interpreter on a program term. The attribute is given here, next to the definitions, so that the equation lemmas
are generated in this module, once, and not by each proof of the first module downstream that unfolds them. -/
namespace Sym
attribute [scoped simp] E.eval evalArgs bindArgs bindKV Store.setOpt Val.isNil Val.len Val.elems Val.at Val.field Val.setField
  Val.updPath Val.succ Val.sameKind Val.compare Val.arith Val.toZ COp.nat COp.int AOp.nat AOp.int loop asBool
end Sym

end QF.GL
