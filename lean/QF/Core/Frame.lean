import QF.Core.NameIndex
/-! Frame core: columns with `pos`, name map, index; the invariant `WF` and the abstraction `abs`; `setColumn` keeps `WF` and acts on `abs` as `absSet`; Apply's one-column kernel is row-wise; Aggregate's `pos` bookkeeping. -/
namespace Fr

inductive Val
  | int (v : Int) | float (b : UInt64) | bool (b : Bool) | str (s : Option (List UInt8)) | enum (r : Option Nat)
deriving DecidableEq, Repr

inductive Ty | int | float | bool | str | enum deriving DecidableEq, Repr

def Ty.zero : Ty → Val
  | .int => .int 0 | .float => .float 0 | .bool => .bool false | .str => .str none | .enum => .enum none

structure Col where
  ty : Ty
  data : List Val            -- physical storage
deriving DecidableEq, Repr

structure NCol where
  name : String
  pos : Nat
  col : Col
deriving DecidableEq, Repr

inductive Err | unknownCol | badName | badSlice | typeErr | other deriving DecidableEq, Repr

structure Frame where
  cols : List NCol
  byName : String → Option NCol
  index : List Nat
  err : Option Err := none

/-- logical content: per column (name, type, values in row order) -/
def Frame.abs (f : Frame) : List (String × Ty × List (Option Val)) :=
  f.cols.map fun c => (c.name, c.col.ty, f.index.map fun p => c.col.data[p]?)

structure WF (f : Frame) (L : Nat) : Prop where
  pos : ∀ (i : Nat) (c : NCol), f.cols[i]? = some c → c.pos = i
  mapOk : ∀ (n : String) (c : NCol), f.byName n = some c → f.cols[c.pos]? = some c ∧ c.name = n
  mapTotal : ∀ c : NCol, c ∈ f.cols → (f.byName c.name).isSome
  len : ∀ c : NCol, c ∈ f.cols → c.col.data.length = L
  ixLt : ∀ p, p ∈ f.index → p < L
  ixNodup : f.index.Nodup

/-- internal/strings `CheckName` (not empty, not quoted, no leading `$`), stated on characters; that it is the spec's
    `legalName` on the bytes of the name is `checkName_eq_legalName` (C07EndToEndNames.lean). -/
def checkName (n : String) : Bool :=
  !n.isEmpty && !(n.startsWith "$") &&
  !(n.length > 2 && ((n.startsWith "'" && n.endsWith "'") || (n.startsWith "\"" && n.endsWith "\"")))

/-- qframe.go setColumn -/
def setColumn (f : Frame) (name : String) (c : Col) : Frame :=
  if !checkName name then { f with err := some .badName } else
  match f.byName name with
  | some existing =>
    let n : NCol := { name := name, pos := existing.pos, col := c }
    { f with cols := f.cols.set existing.pos n, byName := fun k => if k = name then some n else f.byName k }
  | none =>
    let n : NCol := { name := name, pos := f.cols.length, col := c }
    { f with cols := f.cols ++ [n], byName := fun k => if k = name then some n else f.byName k }

/-- logical effect of setting a column -/
def absSet (l : List (String × Ty × List (Option Val))) (pos? : Option Nat) (entry : String × Ty × List (Option Val)) :=
  match pos? with
  | some p => l.set p entry
  | none => l ++ [entry]

theorem WF.indexed {f : Frame} {L : Nat} (wf : WF f L) : QF.NameIndex.Indexed NCol.name NCol.pos f.cols f.byName :=
  ⟨wf.pos, wf.mapOk, wf.mapTotal⟩

theorem setColumn_wf (f : Frame) (L : Nat) (wf : WF f L) (name : String) (c : Col) (hc : c.data.length = L)
    (hn : checkName name = true) : WF (setColumn f name c) L := by
  unfold setColumn
  simp only [hn, Bool.not_true, Bool.false_eq_true, ↓reduceIte]
  cases hb : f.byName name with
  | some ex =>
    obtain ⟨h1, h2⟩ := wf.mapOk name ex hb
    have w := wf.indexed.replace (look' := fun k => if k = name then some ⟨name, ex.pos, c⟩ else f.byName k)
      (⟨name, ex.pos, c⟩ : NCol) ex h1 h2 fun _ => rfl
    refine ⟨w.pos, w.mapOk, w.mapTotal, fun x hx => ?_, wf.ixLt, wf.ixNodup⟩
    rcases List.mem_or_eq_of_mem_set hx with h | h
    · exact wf.len x h
    · rw [h]; exact hc
  | none =>
    have w := wf.indexed.push (look' := fun k => if k = name then some ⟨name, f.cols.length, c⟩ else f.byName k)
      (⟨name, f.cols.length, c⟩ : NCol) rfl fun _ => rfl
    refine ⟨w.pos, w.mapOk, w.mapTotal, fun x hx => ?_, wf.ixLt, wf.ixNodup⟩
    rcases List.mem_append.mp hx with h | h
    · exact wf.len x h
    · cases List.mem_singleton.mp h; exact hc


/-- logical effect of setColumn: replace in place or append last; everything else untouched -/
theorem setColumn_abs (f : Frame) (L : Nat) (wf : WF f L) (name : String) (c : Col) (hn : checkName name = true) :
    (setColumn f name c).abs =
      absSet f.abs ((f.byName name).map (·.pos)) (name, c.ty, f.index.map fun p => c.data[p]?) ∧
    (setColumn f name c).index = f.index ∧ (setColumn f name c).err = f.err := by
  unfold setColumn
  simp only [hn, Bool.not_true, Bool.false_eq_true, ↓reduceIte]
  cases hb : f.byName name with
  | none => simp [Frame.abs, absSet]
  | some ex => simp [Frame.abs, absSet, List.map_set]

/-- apply1 with a user function: result allocated at physical length, written at index positions -/
def applyFn1 (f : Frame) (L : Nat) (fn : Val → Val) (rty : Ty) (src : Col) : Col :=
  { ty := rty, data := (List.range L).map fun p => if p ∈ f.index then (match src.data[p]? with | some v => fn v | none => rty.zero) else rty.zero }

theorem applyFn1_rowwise (f : Frame) (L : Nat) (wf : WF f L) (fn : Val → Val) (rty : Ty) (src : Col) (hs : src.data.length = L) :
    (f.index.map fun p => (applyFn1 f L fn rty src).data[p]?) = f.index.map fun p => (src.data[p]?).map fn := by
  apply List.map_congr_left
  intro p hp
  have hlt := wf.ixLt p hp
  simp only [applyFn1]
  rw [List.getElem?_map, List.getElem?_range hlt]
  simp only [Option.map_some, hp, ↓reduceIte]
  have : p < src.data.length := by omega
  rw [List.getElem?_eq_getElem this]; rfl

/-- Grouper.Aggregate's schema bookkeeping: grouped columns get pos := i; aggregated columns get the next
    position (`fixPos = true`: grouper.go `col.pos = len(newColumns)`, since /repo fcfa375) or keep the source
    `pos` (`fixPos = false`: the code before that commit, kept as a mutant). -/
def aggCols (fixPos : Bool) (grouped : List NCol) (aggs : List NCol) : List NCol :=
  let g := (List.range grouped.length).zip grouped |>.map fun (i, c) => { c with pos := i }
  let a := (List.range aggs.length).zip aggs |>.map fun (i, c) => if fixPos then { c with pos := grouped.length + i } else c
  g ++ a

def mapOf (cols : List NCol) : String → Option NCol := fun n => (cols.reverse.find? (·.name == n))

def c0 : Col := { ty := .int, data := [.int 1, .int 2] }
/-- GroupBy(a).Aggregate(sum c) on a frame [a,b,c]: with `fixPos = false` the aggregated column keeps pos = 2 in a two-column frame -/
def aggFrame (fixPos : Bool) : Frame :=
  let cols := aggCols fixPos [⟨"a", 0, c0⟩] [⟨"c", 2, c0⟩]
  { cols := cols, byName := mapOf cols, index := [0, 1] }

-- the mutant violates WF.pos (witness); the code's bookkeeping satisfies it
example : (aggFrame false).cols.map (·.pos) = [0, 2] := by rfl
example : (aggFrame true).cols.map (·.pos) = [0, 1] := by rfl
-- setColumn on the mutant's frame targets slot 2 of a 2-element slice (Go: index out of range):
#eval (setColumn (aggFrame false) "c" c0).cols.map (fun c => (c.name, c.pos))
#eval (setColumn (aggFrame true) "c" c0).cols.map (fun c => (c.name, c.pos))

#print axioms applyFn1_rowwise
end Fr
