import QF.Core.AppendF
import QF.Core.Basic
import QF.Core.Compare
import QF.Core.Conc
import QF.Core.Csv
import QF.Core.CsvFull
import QF.Core.CsvL1
import QF.Core.CsvSim
import QF.Core.Eval
import QF.Core.Filter
import QF.Core.Frame
import QF.Core.Grouper
import QF.Core.GrouperGrow
import QF.Core.GrouperInv
import QF.Core.GrouperMain
import QF.Core.GrouperProof
import QF.Core.Heap
import QF.Core.KExpr
import QF.Core.ListFacts
import QF.Core.OrderFacts
import QF.Core.NameIndex
import QF.Core.Utf8Facts
import QF.Core.SpecFacts
import QF.Core.CellFacts
import QF.Core.ExecAttr
import QF.Core.CExpr
import QF.Core.FExpr
import QF.Core.HExpr
import QF.Core.AExpr
import QF.Core.F64Lemmas
import QF.Core.GExpr
import QF.Core.DExpr
import QF.Core.OExpr
import QF.Core.Ryu64
import QF.Core.MExpr
import QF.Core.XExpr
import QF.Core.WExpr
import QF.Core.IExpr
import QF.Core.SExpr
import QF.Core.CLExpr
import QF.Core.LExpr
import QF.Core.PExpr
import QF.Core.SLExpr
import QF.Core.GLExpr
import QF.Core.CRExpr
import QF.Core.EVExpr
import QF.Core.RYExpr
import QF.Core.SortGlue
import QF.Core.FAExpr
import QF.Core.GroupGlue
import QF.Core.Ctors
import QF.Core.EnumRest
import QF.Core.SqExpr
import QF.Core.VwExpr
import QF.Core.CGExpr
import QF.Core.SRExpr
import QF.Core.JRExpr
import QF.Core.STExec
import QF.Core.STExpr
import QF.Core.Factory
import QF.Core.Construct
import QF.Core.Small
import QF.Core.Sorter
import QF.Core.SorterHeap
import QF.Core.SorterPerm
import QF.Core.SorterPivot
import QF.Core.SorterSorted
import QF.Core.Upper
